import GrinVerif.Model.Basic
import GrinVerif.Model.Pow
import GrinVerif.Gen.FnsPrelude
/-! Helper lemmas for `Props/XlatePow.lean` and `Props/XlateSipnode.lean` (translated `core/src/pow/siphash.rs`,
`CuckooParams::sipnode` = `Model/Pow.lean`):
bridges between the `Nat`-with-wrapping helpers of the translation (`addW mulW shlW shrW subN idx`)
and the `UInt64` operations of the hand-written model. -/

namespace GV.Xlate
open GV GV.Gen.Fns GV.Pow

theorem toNat_toUInt64 (n : Nat) : n.toUInt64.toNat = n % 2^64 := UInt64.toNat_ofNat'

theorem toNat_toUInt64_of_lt {n : Nat} (h : n < 2^64) : n.toUInt64.toNat = n := by
  rw [toNat_toUInt64]; exact Nat.mod_eq_of_lt h

theorem toUInt64_toNat (x : UInt64) : x.toNat.toUInt64 = x := UInt64.ofNat_toNat

theorem addW_toNat (a b : UInt64) : addW a.toNat b.toNat = (a + b).toNat := by
  rw [UInt64.toNat_add]; rfl

/-- `nonce0 + i` of `siphash_block` (`i` any u64) -/
theorem addW_toNat_nat (a : UInt64) (i : Nat) (h : i < 2^64) :
    addW a.toNat i = (a + i.toUInt64).toNat := by
  rw [← addW_toNat, toNat_toUInt64_of_lt h]

theorem mul2_toNat (e : UInt64) : mulW 2 e.toNat = (2 * e).toNat := by
  unfold mulW; rw [UInt64.toNat_mul]; rfl

/-! ## rotation

The Rust macro `rotl!(x, s)` is `x = (x << s) | (x >> (64 - s))`.  For the literal amounts `64 - s` is
computed in `u32` (`subN 32 64 s`), for `rot_e : u8` in `u8` (`subN 8 64 rot_e`, wrapping for
`rot_e > 64`); both shift amounts are then masked `% 64` by the u64 shift.  The model's
`rotl x r = (x <<< r) ||| (x >>> (64 - r))` subtracts in `UInt64` and Lean's `UInt64` shifts mask the
amount `% 64` too.  Since `64 ∣ 2^8`, `64 ∣ 2^32`, `64 ∣ 2^64` all three subtractions agree `% 64`,
hence code = model for EVERY amount, not only `< 64`. -/

theorem rotl_toNat_gen (x r : UInt64) (n m : Nat) (hn : n % 64 = r.toNat % 64)
    (hm : m % 64 = (64 - r).toNat % 64) :
    shlW x.toNat n ||| shrW x.toNat m = (rotl x r).toNat := by
  unfold rotl shlW shrW
  rw [UInt64.toNat_or, UInt64.toNat_shiftLeft, UInt64.toNat_shiftRight, hn, hm,
    Nat.shiftLeft_eq, Nat.shiftRight_eq_div_pow]

theorem sub64_toNat_mod (r : UInt64) : (64 - r).toNat % 64 = (64 - r.toNat % 64) % 64 := by
  have h := r.toNat_lt
  rw [UInt64.toNat_sub]
  have h64 : (64 : UInt64).toNat = 64 := rfl
  rw [h64]; omega

/-- `nonce_hash[i]` of the translation (default 0 out of range) is the model's `hs[i]!` (default 0) -/
theorem idx_map_toNat (a : Array UInt64) (i : Nat) :
    idx (a.toList.map UInt64.toNat) i = (a[i]!).toNat := by
  unfold idx
  rw [Array.getElem!_eq_getD, List.getD_eq_getElem?_getD, List.getElem?_map, Array.getElem?_toList,
    Array.getD_eq_getD_getElem?]
  cases a[i]? <;> rfl

theorem and63_toNat (n : UInt64) : n.toNat &&& 63 = (n &&& 63).toNat := (UInt64.toNat_and n 63).symm

/-- the chained digests `i, i+1, …, i+n-1` of one block starting from state `s`
(list form of `sipBlockDigests.go`) -/
def digestsL (nonce0 rotE : UInt64) : Sip → Nat → Nat → List UInt64
  | _, _, 0 => []
  | s, i, n+1 =>
    (s.hash (nonce0 + i.toUInt64) rotE).digest ::
      digestsL nonce0 rotE (s.hash (nonce0 + i.toUInt64) rotE) (i+1) n

theorem digestsL_length (nonce0 rotE : UInt64) : ∀ (n : Nat) (s : Sip) (i : Nat),
    (digestsL nonce0 rotE s i n).length = n := by
  intro n
  induction n with
  | zero => intro s i; rfl
  | succ n ih => intro s i; rw [digestsL, List.length_cons, ih]

theorem go_toList (nonce0 rotE : UInt64) : ∀ (fuel i : Nat) (s : Sip) (acc : Array UInt64),
    (sipBlockDigests.go nonce0 rotE i fuel s acc).toList = acc.toList ++ digestsL nonce0 rotE s i fuel := by
  intro fuel
  induction fuel with
  | zero => intro i s acc; rw [sipBlockDigests.go, digestsL, List.append_nil]
  | succ f ih =>
    intro i s acc
    rw [sipBlockDigests.go, ih, Array.toList_push, digestsL, List.append_assoc, List.singleton_append]

theorem sipBlockDigests_toList (k : Keys) (nonce0 rotE : UInt64) :
    (sipBlockDigests k nonce0 rotE).toList = digestsL nonce0 rotE k.sip 0 64 := by
  rw [sipBlockDigests, go_toList]; rfl

end GV.Xlate
