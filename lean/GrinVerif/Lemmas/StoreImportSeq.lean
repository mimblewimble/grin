import GrinVerif.Lemmas.StoreImportLoop
/-! Whole import sequences (state sync / PIBD fills a backend through `push_pruned_subtree`,
`push` and `remove_from_leaf_set`, in position order): the in-unit reference invariant is
preserved by every step, so `sync` leaves a backend satisfying the reference invariant `Synced` –
the start of `history_from_synced_state`.  No Mathlib. -/
namespace GV.Store
open GV GV.Pmmr GV.Pmmr.Co

variable {H : Type}

/-- one step of an import -/
inductive IOp
  /-- `push_pruned_subtree(ref hash, pos0)` for the root at coordinates `(n, h)`, `pos0 = mmr n + h` -/
  | subtree (n h : Nat)
  /-- `push` of the next leaf of the history -/
  | leaf
  /-- `remove_from_leaf_set(pos0)`: the leaf arrived with its data but is spent -/
  | spend (pos0 : Nat)
deriving Repr, DecidableEq

/-- state of an import: the handle and the number of leaves the MMR stands for so far -/
def istep (hf : HashFn Bytes H) (f : Nat → Bytes) (s : PM H × Nat) : IOp → PM H × Nat
  | .subtree n h => ((PM.pushPrunedSubtree hf s.1 (refHash hf f (mmr n + h)) (mmr n + h)).1, n + 1)
  | .leaf => ((PM.push hf s.1 (f s.2)).getD s.1, s.2 + 1)
  | .spend pos0 => ({ s.1 with b := s.1.b.removeFromLeafSet pos0 }, s.2)

/-- what the importer has to respect: a subtree root has height `>= 1`, its leaves are the next
`2^h` leaves of the history, its sibling is not pruned (roots are neither siblings nor nested - the
sender's prune list is rolled up), sizes stay below `2^64 - 64` -/
def IOp.ok (s : PM H × Nat) : IOp → Prop
  | .subtree n h => 1 ≤ h ∧ h ≤ trailingOnes n ∧ s.2 + 2 ^ h = n + 1 ∧
      s.1.b.pruneList.isPruned (family (mmr n + h)).2 = false ∧ mmr (n + 1) + 64 < 2 ^ 64
  | .leaf => mmr (s.2 + 1) + 64 < 2 ^ 64
  | .spend _ => True

def IValid (hf : HashFn Bytes H) (f : Nat → Bytes) : PM H × Nat → List IOp → Prop
  | _, [] => True
  | s, op :: ops => op.ok s ∧ IValid hf f (istep hf f s op) ops

/-! `push` does not read the prune-list file -/

theorem Backend.append_fixPF (b : Backend H) (e : Bytes) (hashes : List H) :
    b.fixPF.append e hashes = (b.append e hashes).map Backend.fixPF := by
  unfold Backend.append Backend.fixPF
  dsimp only
  split <;> rfl

theorem PM.push_fixPF (hf : HashFn Bytes H) (p : PM H) (e : Bytes) :
    PM.push hf { p with b := p.b.fixPF } e =
      (PM.push hf p e).map fun p' => { p' with b := p'.b.fixPF } := by
  unfold PM.push
  simp only [show (Backend.fixPF p.b).getPeakFromFile = p.b.getPeakFromFile from rfl,
    Backend.append_fixPF]
  cases pushHashes hf p.b.getPeakFromFile p.size e with
  | none => rfl
  | some hashes => dsimp only; cases p.b.append e hashes <;> rfl

theorem Live.push_fixPF {hf : HashFn Bytes H} {f : Nat → Bytes} {p : PM H} {N : Nat} {df : AOF Bytes}
    (h : Live p.b.fixPF N (refHash hf f) (refData f) df) (hsz : p.size = mmr N)
    (hb : mmr (N + 1) + 64 < 2 ^ 64) :
    ∃ p', PM.push hf p (f N) = some p' ∧ p'.size = mmr (N + 1) ∧
      Live p'.b.fixPF (N + 1) (refHash hf f) (refData f) (df.append (f N)) := by
  obtain ⟨b', hp⟩ := Live.push (p := { p with b := p.b.fixPF }) h hsz hb
  have hp1 := hp.push
  have hp3 := hp.live
  rw [PM.push_fixPF] at hp1
  cases hq : PM.push hf p (f N) with
  | none => rw [hq] at hp1; exact absurd hp1 (by simp)
  | some q =>
    rw [hq, Option.map_some, Option.some.injEq] at hp1
    have hb' : q.b.fixPF = b' := congrArg PM.b hp1
    exact ⟨q, rfl, congrArg PM.size hp1, by rw [hb']; exact hp3⟩

theorem import_step_live (hf : HashFn Bytes H) (f : Nat → Bytes) (s : PM H × Nat) (df : AOF Bytes)
    (hl : Live s.1.b.fixPF s.2 (refHash hf f) (refData f) df) (hsz : s.1.size = mmr s.2)
    (op : IOp) (hok : op.ok s) :
    ∃ df', Live (istep hf f s op).1.b.fixPF (istep hf f s op).2 (refHash hf f) (refData f) df' ∧
      (istep hf f s op).1.size = mmr (istep hf f s op).2 := by
  obtain ⟨p, N⟩ := s
  simp only at hl hsz
  cases op with
  | subtree n h =>
    obtain ⟨h1, hh, hN, hsib, hbd⟩ := hok
    obtain ⟨p', hres, hsz', hl', _⟩ := pushPrunedSubtree_live hf f hl hh h1 hN hsib hbd
    refine ⟨df, ?_, ?_⟩
    · simp only [istep, hres]; exact hl'
    · simp only [istep, hres]; exact hsz'
  | leaf =>
    have hb : mmr (N + 1) + 64 < 2 ^ 64 := hok
    obtain ⟨q, hq, hqs, hl'⟩ := Live.push_fixPF hl hsz hb
    have hstep : istep hf f (p, N) .leaf = (q, N + 1) := by simp only [istep, hq]; rfl
    rw [hstep]
    exact ⟨_, hl', hqs⟩
  | spend pos0 =>
    exact ⟨df, hl.remove pos0, hsz⟩

theorem import_run_live (hf : HashFn Bytes H) (f : Nat → Bytes) : ∀ (ops : List IOp) (s : PM H × Nat)
    (df : AOF Bytes), Live s.1.b.fixPF s.2 (refHash hf f) (refData f) df → s.1.size = mmr s.2 →
    IValid hf f s ops →
    ∃ df', Live (ops.foldl (istep hf f) s).1.b.fixPF (ops.foldl (istep hf f) s).2 (refHash hf f)
        (refData f) df' ∧ (ops.foldl (istep hf f) s).1.size = mmr (ops.foldl (istep hf f) s).2 := by
  intro ops
  induction ops with
  | nil => intro s df hl hsz _; exact ⟨df, hl, hsz⟩
  | cons op ops ih =>
    intro s df hl hsz hv
    obtain ⟨df', hl', hsz'⟩ := import_step_live hf f s df hl hsz op hv.1
    exact ih _ df' hl' hsz' hv.2

end GV.Store
