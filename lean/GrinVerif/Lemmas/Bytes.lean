import GrinVerif.Model.Basic
/-! Byte strings as numbers. `ofLE` / `leBytes` and `ofBE` / `beBytes` (`Model/Basic.lean`) are inverse to each other on
`width` bytes of real bytes (`Ser.AllBytes`), and the big-endian pair is the little-endian pair read backwards (`beBytes_eq`,
`ofBE_eq_ofLE_reverse`), so every big-endian fact is the little-endian one reversed. At the end: one step of a lexicographic comparison. -/
namespace GV.Ser

/-- every element is a byte: the hypothesis of the converse (accepted ⇒ canonical) lemmas of the encodings -/
def AllBytes (bs : Bytes) : Prop := ∀ b ∈ bs, b < 256

theorem allBytes_cons {b : Nat} {r : Bytes} (h : AllBytes (b :: r)) : b < 256 ∧ AllBytes r :=
  ⟨h b (by simp), fun x hx => h x (by simp [hx])⟩

theorem allBytes_append {a b : Bytes} (h : AllBytes (a ++ b)) : AllBytes a ∧ AllBytes b :=
  ⟨fun x hx => h x (List.mem_append_left _ hx), fun x hx => h x (List.mem_append_right _ hx)⟩

theorem allBytes_append_right {a b : Bytes} (h : AllBytes (a ++ b)) : AllBytes b := (allBytes_append h).2

theorem allBytes_reverse {bs : Bytes} (h : AllBytes bs) : AllBytes bs.reverse :=
  fun b hb => h b (List.mem_reverse.mp hb)

theorem allBytes_take (bs : Bytes) (h : AllBytes bs) (n : Nat) : AllBytes (bs.take n) :=
  fun b hb => h b (List.mem_of_mem_take hb)
theorem allBytes_drop (bs : Bytes) (h : AllBytes bs) (n : Nat) : AllBytes (bs.drop n) :=
  fun b hb => h b (List.mem_of_mem_drop hb)

theorem ofLE_nil : ofLE [] = 0 := rfl

end GV.Ser

namespace GV
open Ser (AllBytes allBytes_cons allBytes_reverse allBytes_take)

theorem ofLE_cons (b : Nat) (r : Bytes) : ofLE (b :: r) = b + 256 * ofLE r := by
  simp [ofLE, List.foldr]; omega

theorem ofLE_append (a b : Bytes) : ofLE (a ++ b) = ofLE a + 256^a.length * ofLE b := by
  induction a with
  | nil => simp [ofLE]
  | cons x a ih =>
    simp only [List.cons_append, ofLE_cons, ih, List.length_cons, Nat.pow_succ]
    grind

theorem ofBE_eq_ofLE_reverse (bs : Bytes) : ofBE bs = ofLE bs.reverse := by
  simp [ofBE, ofLE, List.foldr_reverse]

theorem ofLE_lt (bs : Bytes) (h : AllBytes bs) : ofLE bs < 256^bs.length := by
  induction bs with
  | nil => simp [ofLE]
  | cons x r ih =>
    obtain ⟨hx, hr⟩ := allBytes_cons h
    have hr := ih hr
    simp only [ofLE_cons, List.length_cons, Nat.pow_succ]
    omega

theorem leBytes_length (k n : Nat) : (leBytes k n).length = k := by simp [leBytes]

theorem leBytes_zero (n : Nat) : leBytes 0 n = [] := by simp [leBytes]

theorem leBytes_succ (k n : Nat) : leBytes (k+1) n = (n % 256) :: leBytes k (n / 256) := by
  simp only [leBytes, List.range_succ_eq_map, List.map_cons, List.map_map, Nat.pow_zero, Nat.div_one]
  congr 1
  apply List.map_congr_left
  intro i _
  simp only [Function.comp, Nat.succ_eq_add_one, Nat.pow_succ]
  rw [Nat.mul_comm, Nat.div_div_eq_div_mul]

theorem leBytes_lt (k n : Nat) : AllBytes (leBytes k n) := by
  intro b hb
  simp only [leBytes, List.mem_map] at hb
  obtain ⟨i, _, rfl⟩ := hb
  omega

theorem ofLE_leBytes (k n : Nat) : ofLE (leBytes k n) = n % 256^k := by
  induction k generalizing n with
  | zero => simp [leBytes_zero, ofLE, Nat.mod_one]
  | succ k ih =>
    rw [leBytes_succ, ofLE_cons, ih, Nat.pow_succ, Nat.mul_comm (256^k) 256, Nat.mod_mul]

theorem leBytes_add (a b n : Nat) : leBytes (a + b) n = leBytes a n ++ leBytes b (n / 256^a) := by
  induction a generalizing n with
  | zero => simp [leBytes_zero]
  | succ a ih =>
    rw [Nat.add_right_comm, leBytes_succ, leBytes_succ, ih, List.cons_append, Nat.pow_succ,
      Nat.mul_comm (256^a) 256, Nat.div_div_eq_div_mul]

theorem leBytes_ofLE (bs : Bytes) (h : AllBytes bs) : leBytes bs.length (ofLE bs) = bs := by
  induction bs with
  | nil => simp [leBytes_zero]
  | cons x r ih =>
    obtain ⟨hx, hr⟩ := allBytes_cons h
    have hr := ih hr
    rw [List.length_cons, leBytes_succ, ofLE_cons]
    have e1 : (x + 256 * ofLE r) % 256 = x := by omega
    have e2 : (x + 256 * ofLE r) / 256 = ofLE r := by omega
    rw [e1, e2, hr]

theorem leBytes_of_zero (k : Nat) : leBytes k 0 = List.replicate k 0 := by
  induction k with
  | zero => simp [leBytes_zero]
  | succ k ih => rw [leBytes_succ]; simp [ih, List.replicate_succ]

theorem take_leBytes (a k n : Nat) (h : a ≤ k) : (leBytes k n).take a = leBytes a n := by
  obtain ⟨b, rfl⟩ := Nat.exists_eq_add_of_le h
  rw [leBytes_add, List.take_left' (leBytes_length a n)]

theorem leBytes_add_mul (k a b : Nat) : leBytes k (a + 256^k * b) = leBytes k a := by
  induction k generalizing a with
  | zero => rw [leBytes_zero, leBytes_zero]
  | succ k ih =>
    rw [leBytes_succ, leBytes_succ, Nat.pow_succ, Nat.mul_comm (256^k) 256, Nat.mul_assoc,
      Nat.add_mul_mod_self_left, Nat.add_mul_div_left _ _ (by omega : 0 < 256), ih]

theorem ofLE_take_drop (bs : Bytes) (h : AllBytes bs) (n : Nat) (hn : n ≤ bs.length) :
    ofLE bs = ofLE (bs.take n) + 256^n * ofLE (bs.drop n) ∧ ofLE (bs.take n) < 256^n := by
  have hsplit := ofLE_append (bs.take n) (bs.drop n)
  rw [List.take_append_drop, List.length_take, Nat.min_eq_left hn] at hsplit
  have hlt := ofLE_lt _ (allBytes_take bs h n)
  rw [List.length_take, Nat.min_eq_left hn] at hlt
  exact ⟨hsplit, hlt⟩

theorem ofLE_drop (bs : Bytes) (h : AllBytes bs) (n : Nat) (hn : n ≤ bs.length) :
    ofLE (bs.drop n) = ofLE bs / 256^n := by
  obtain ⟨hsplit, hlt⟩ := ofLE_take_drop bs h n hn
  rw [hsplit, Nat.add_mul_div_left _ _ (Nat.pow_pos (by omega)), Nat.div_eq_of_lt hlt, Nat.zero_add]

theorem ofLE_take (bs : Bytes) (h : AllBytes bs) (n : Nat) (hn : n ≤ bs.length) :
    ofLE (bs.take n) = ofLE bs % 256^n := by
  obtain ⟨hsplit, hlt⟩ := ofLE_take_drop bs h n hn
  rw [hsplit, Nat.add_mul_mod_self_left, Nat.mod_eq_of_lt hlt]

theorem pow256_eq_two_pow (k : Nat) : 256^k = 2^(8*k) := by
  rw [show (256 : Nat) = 2^8 by rfl, ← Nat.pow_mul]

/-! ## big-endian -/

theorem beBytes_eq (w n : Nat) : beBytes w n = (leBytes w n).reverse := by
  apply List.ext_getElem
  · simp [beBytes, leBytes]
  · intro i h1 h2
    simp only [beBytes, leBytes, List.getElem_map, List.getElem_range, List.getElem_reverse, List.length_map,
      List.length_range]

theorem beBytes_length (w n : Nat) : (beBytes w n).length = w := by simp [beBytes]

theorem ofBE_beBytes (w n : Nat) : ofBE (beBytes w n) = n % 256^w := by
  rw [beBytes_eq, ofBE_eq_ofLE_reverse, List.reverse_reverse, ofLE_leBytes]

theorem ofBE_append (a b : Bytes) : ofBE (a ++ b) = ofBE a * 256^b.length + ofBE b := by
  rw [ofBE_eq_ofLE_reverse, List.reverse_append, ofLE_append, List.length_reverse, ← ofBE_eq_ofLE_reverse,
    ← ofBE_eq_ofLE_reverse, Nat.mul_comm, Nat.add_comm]

theorem ofBE_replicate_zero (k : Nat) : ofBE (List.replicate k 0) = 0 := by
  rw [ofBE_eq_ofLE_reverse, List.reverse_replicate, ← leBytes_of_zero, ofLE_leBytes, Nat.zero_mod]

theorem beBytes_ofBE (bs : Bytes) (h : AllBytes bs) : beBytes bs.length (ofBE bs) = bs := by
  have := leBytes_ofLE bs.reverse (allBytes_reverse h)
  rw [List.length_reverse] at this
  rw [beBytes_eq, ofBE_eq_ofLE_reverse, this, List.reverse_reverse]

theorem ofBE_lt (bs : Bytes) (h : AllBytes bs) : ofBE bs < 256^bs.length := by
  have := ofLE_lt bs.reverse (allBytes_reverse h)
  rwa [List.length_reverse, ← ofBE_eq_ofLE_reverse] at this

theorem beBytes_lt (w n : Nat) : AllBytes (beBytes w n) :=
  beBytes_eq w n ▸ allBytes_reverse (leBytes_lt w n)

/-! ## one step of a lexicographic comparison

The byte and key orders of the models (`Kv.bytesLt`, `Kv.keyLt`, `Tx.bytesLe`, `DecSer.bytesLt`) compare the heads
(`Nat`s) and on a tie go on with `r`. -/

theorem lexStep_true {x y : Nat} {r : Bool} :
    (if x < y then true else if y < x then false else r) = true ↔ x < y ∨ (x = y ∧ r = true) := by
  rcases Nat.lt_trichotomy x y with h | rfl | h
  · simp [h]
  · simp
  · simp [h, Nat.lt_asymm h, Nat.ne_of_gt h]

theorem lexStep_false {x y : Nat} {r : Bool} :
    (if x < y then true else if y < x then false else r) = false ↔ y < x ∨ (x = y ∧ r = false) := by
  rcases Nat.lt_trichotomy x y with h | rfl | h
  · simp [h, Nat.lt_asymm h, Nat.ne_of_lt h]
  · simp
  · simp [h, Nat.lt_asymm h]

theorem lex_trans {x y z : Nat} {p q r : Prop} (hpqr : p → q → r) :
    (x < y ∨ x = y ∧ p) → (y < z ∨ y = z ∧ q) → (x < z ∨ x = z ∧ r)
  | .inl h1, .inl h2 => .inl (Nat.lt_trans h1 h2)
  | .inl h1, .inr ⟨e, _⟩ => .inl (e ▸ h1)
  | .inr ⟨e, _⟩, .inl h2 => .inl (e ▸ h2)
  | .inr ⟨e1, hp⟩, .inr ⟨e2, hq⟩ => .inr ⟨e1.trans e2, hpqr hp hq⟩

theorem lex_total {x y : Nat} {p q : Prop} : (y < x ∨ x = y ∧ p) → (x < y ∨ y = x ∧ q) → x = y ∧ p ∧ q
  | .inl h1, .inl h2 => absurd h1 (Nat.lt_asymm h2)
  | .inl h1, .inr ⟨e, _⟩ => absurd (e ▸ h1) (Nat.lt_irrefl _)
  | .inr ⟨e, _⟩, .inl h2 => absurd (e ▸ h2) (Nat.lt_irrefl _)
  | .inr ⟨e, hp⟩, .inr ⟨_, hq⟩ => ⟨e, hp, hq⟩

end GV
