import GrinVerif.Lemmas.Wire
import GrinVerif.Lemmas.SerTxRt
import GrinVerif.Model.SerSpec
/-! The transaction item types (`Model/SerTx.lean`, `Model/DecSer.lean`, `Model/SerSpec.lean`), each as one `Wire` statement about its
plain reader, instrumented reader, writer and `WF`; `RangeProof`, whose reader is not canonical, and `Output`: the plain round trip
and an `Instr` statement each. -/
namespace GV.Wire
open GV GV.Ser GV.Dec GV.DecSer

theorem wire_commit : Field False decCommit rCommit writeFixed (fun x => x.length = COMMIT_SIZE) 33 33 :=
  wire_fixedArr COMMIT_SIZE (by decide)
theorem wire_sig : Field False decSig rSig writeFixed (fun x => x.length = SIG_SIZE) 64 64 := wire_fixedArr SIG_SIZE (by decide)
theorem wire_shortId : Field False decShortId rShortId writeFixed (fun x => x.length = SHORT_ID_SIZE) 6 6 :=
  wire_fixedArr SHORT_ID_SIZE (by decide)
theorem wire_blind : Field False decBlind rBlind writeFixed (fun x => x.length = BLIND_SIZE) 32 32 := wire_fixed BLIND_SIZE (by decide)
theorem wire_hash : Field False decHash rHash writeFixed (fun x => x.length = HASH_SIZE) 32 32 := wire_fixed HASH_SIZE (by decide)

/-! ### `NRDRelativeHeight`: the range test after the read is the well-formedness condition; the `try_into().expect(..)` of the
instrumented reader cannot fail -/

theorem nrdMax_fits : ¬ (NRD_MAX > 65535) := by unfold NRD_MAX GV.Gen.WEEK_HEIGHT; decide

theorem wire_nrdHeight : Field True decNrdHeight (fun _ => rNrdHeight) writeU16 (fun n => 1 ≤ n ∧ n ≤ NRD_MAX) 0 2 := by
  have key := Wire.step (S := fun _ => True) (fun x : Nat => x) wire_u16 fun a =>
    Wire.ite (a = 0 ∨ a > NRD_MAX) (fun _ => Wire.fail .corrupted 0) fun _ => Wire.pure a (by intro x; simp [eq_comm])
  refine (key.of_eq decNrdHeight_eq fun _ bs => ?_).congr (by simp) ?_ ?_ (he := by decide) (hn := by decide)
  · show rNrdHeight bs = _
    unfold rNrdHeight; simp only [if_neg nrdMax_fits]
  · intro x _; simp
  · intro x; have := nrdMax_fits
    by_cases hx : x = 0 ∨ x > NRD_MAX <;> simp [hx] <;> omega

/-! ### `KernelFeatures`: the tag byte is the field `asU8`; `fee` and `aux` are the fields the variants share -/

def _root_.GV.Ser.KernelFeatures.fee : KernelFeatures → Nat
  | .plain f => f | .heightLocked f _ => f | .noRecentDuplicate f _ => f | .coinbase => 0
def _root_.GV.Ser.KernelFeatures.aux : KernelFeatures → Nat
  | .heightLocked _ l => l | .noRecentDuplicate _ r => r | _ => 0

/-! The left sides are what the nested `Wire.step`s on `asU8`, `fee`, `aux` leave as the index `S` in front of `Wire.pure`, in
their association. -/

theorem kf_plain (x : KernelFeatures) (a : Nat) : x.asU8 = 0 ∧ x.fee = a ↔ x = .plain a := by
  cases x <;> simp [KernelFeatures.asU8, KernelFeatures.fee]
theorem kf_coinbase (x : KernelFeatures) : x.asU8 = 1 ↔ x = .coinbase := by cases x <;> simp [KernelFeatures.asU8]
theorem kf_heightLocked (x : KernelFeatures) (a l : Nat) : (x.asU8 = 2 ∧ x.fee = a) ∧ x.aux = l ↔ x = .heightLocked a l := by
  cases x <;> simp [KernelFeatures.asU8, KernelFeatures.fee, KernelFeatures.aux]
theorem kf_nrd (x : KernelFeatures) (a r : Nat) : (x.asU8 = 3 ∧ x.fee = a) ∧ x.aux = r ↔ x = .noRecentDuplicate a r := by
  cases x <;> simp [KernelFeatures.asU8, KernelFeatures.fee, KernelFeatures.aux]

theorem wire_kernelFeaturesV1 (nrd : Bool) :
    Field True (decKernelFeaturesV1 nrd) (fun _ => rKernelFeaturesV1 nrd) encKernelFeaturesV1 (KernelFeatures.WF nrd) 0 17 := by
  have key := Wire.step (S := fun _ => True) KernelFeatures.asU8 wire_tag fun fb =>
    Wire.ite (fb = 0) (fun h => Wire.step KernelFeatures.fee wire_u64 fun x => Wire.step (fun _ => ()) (wire_empty 8) fun _ =>
      Wire.pure (KernelFeatures.plain x) (by subst h; simp [kf_plain])) fun _ =>
    Wire.ite (fb = 1) (fun h => Wire.step (fun _ => ()) (wire_empty 16) fun _ => Wire.pure KernelFeatures.coinbase
      (by subst h; simp [kf_coinbase])) fun _ =>
    Wire.ite (fb = 2) (fun h => Wire.step KernelFeatures.fee wire_u64 fun x => Wire.step KernelFeatures.aux wire_u64 fun l =>
      Wire.pure (KernelFeatures.heightLocked x l)
      (by subst h; simp [kf_heightLocked])) fun _ =>
    Wire.ite (fb = 3) (fun h => Wire.ite (nrd = false) (fun _ => Wire.fail .corrupted 17) fun _ =>
      Wire.step KernelFeatures.fee wire_u64 fun x => Wire.step (fun _ => ()) (wire_empty 6) fun _ =>
      Wire.step KernelFeatures.aux wire_nrdHeight fun r => Wire.pure (KernelFeatures.noRecentDuplicate x r)
      (by subst h; simp [kf_nrd])) fun _ =>
    Wire.fail .corrupted 17
  refine (key.of_eq (decKernelFeaturesV1_eq nrd) fun _ _ => rfl).congr (by simp) ?_ ?_ (he := by decide) (hn := by decide)
  · intro x; cases x <;> cases nrd <;> simp [encKernelFeaturesV1, KernelFeatures.asU8, KernelFeatures.fee, KernelFeatures.aux]
  · intro x; cases x <;> cases nrd <;> simp [KernelFeatures.WF, KernelFeatures.asU8, KernelFeatures.fee, KernelFeatures.aux]

theorem wire_kernelFeaturesV2 (nrd : Bool) :
    Field True (decKernelFeaturesV2 nrd) (fun _ => rKernelFeaturesV2 nrd) encKernelFeaturesV2 (KernelFeatures.WF nrd) 0 1 := by
  have key := Wire.step (S := fun _ => True) KernelFeatures.asU8 wire_tag fun fb =>
    Wire.ite (fb = 0) (fun h => Wire.step KernelFeatures.fee wire_u64 fun x => Wire.pure (KernelFeatures.plain x)
      (by subst h; simp [kf_plain])) fun _ =>
    Wire.ite (fb = 1) (fun h => Wire.pure KernelFeatures.coinbase
      (by subst h; simp [kf_coinbase])) fun _ =>
    Wire.ite (fb = 2) (fun h => Wire.step KernelFeatures.fee wire_u64 fun x => Wire.step KernelFeatures.aux wire_u64 fun l =>
      Wire.pure (KernelFeatures.heightLocked x l)
      (by subst h; simp [kf_heightLocked])) fun _ =>
    Wire.ite (fb = 3) (fun h => Wire.ite (nrd = false) (fun _ => Wire.fail .corrupted 1) fun _ =>
      Wire.step KernelFeatures.fee wire_u64 fun x => Wire.step KernelFeatures.aux wire_nrdHeight fun r =>
      Wire.pure (KernelFeatures.noRecentDuplicate x r)
      (by subst h; simp [kf_nrd])) fun _ =>
    Wire.fail .corrupted 1
  refine (key.of_eq (decKernelFeaturesV2_eq nrd) fun _ _ => rfl).congr (by simp) ?_ ?_ (he := by decide) (hn := by decide)
  · intro x; cases x <;> cases nrd <;> simp [encKernelFeaturesV2, KernelFeatures.asU8, KernelFeatures.fee, KernelFeatures.aux]
  · intro x; cases x <;> cases nrd <;> simp [KernelFeatures.WF, KernelFeatures.asU8, KernelFeatures.fee, KernelFeatures.aux]

theorem wire_kernelFeatures (c : Cfg) :
    Field True (decKernelFeatures c) (fun _ => rKernelFeatures c) (encKernelFeatures c.ver .full) (KernelFeatures.WF c.nrd) 0 1 := by
  unfold decKernelFeatures rKernelFeatures encKernelFeatures
  by_cases h : c.ver ≤ 1
  · simp only [if_pos h, if_neg (show ¬ Mode.full = .hash by decide)]
    exact (wire_kernelFeaturesV1 c.nrd).congr id (fun _ _ => rfl) (fun _ => Iff.rfl) (he := by decide) (hn := by decide)
  · simp only [if_neg h, if_neg (show ¬ Mode.full = .hash by decide)]
    exact wire_kernelFeaturesV2 c.nrd

theorem wire_txKernel (c : Cfg) :
    Field True (decTxKernel c) (fun rd => rTxKernel rd c) (encTxKernel c.ver .full) (TxKernel.WF c.nrd) 64 97 := by
  refine Wire.congr (Wire.step TxKernel.features (wire_kernelFeatures c) fun f =>
    Wire.step TxKernel.excess wire_commit fun ex => Wire.step TxKernel.excessSig wire_sig fun sg =>
    Wire.pure (TxKernel.mk f ex sg) (by rintro ⟨⟩; simp [and_assoc]))
    (by simp) (fun k _ => by simp [encTxKernel]) (fun k => by simp [TxKernel.WF]) (he := by decide) (hn := by decide)

theorem wire_outputFeatures : Field False decOutputFeatures (fun _ => rOutputFeatures) encOutputFeatures (fun _ => True) 0 1 := by
  have key := Wire.step (S := fun _ => True) OutputFeatures.asU8 wire_tag fun b =>
    Wire.ite (b = 0) (fun h => Wire.pure OutputFeatures.plain (by subst h; rintro (_|_) <;> simp [OutputFeatures.asU8])) fun _ =>
    Wire.ite (b = 1) (fun h => Wire.pure OutputFeatures.coinbase (by subst h; rintro (_|_) <;> simp [OutputFeatures.asU8]))
      fun _ => Wire.fail .corrupted 1
  refine (key.of_eq decOutputFeatures_eq fun _ _ => rfl).congr (by simp) ?_ ?_ (he := by decide) (hn := by decide)
  · intro x _; cases x <;> simp [encOutputFeatures, OutputFeatures.asU8]
  · intro x; cases x <;> simp [OutputFeatures.asU8]

theorem wire_input : Field False decInput rInput encInput Input.WF 33 34 := by
  refine Wire.congr (Wire.step Input.features wire_outputFeatures fun f => Wire.step Input.commit wire_commit fun cm =>
    Wire.pure (Input.mk f cm) (by rintro ⟨⟩; simp))
    (by simp) (fun o _ => by simp [encInput]) (fun o => by simp [Input.WF]) (he := by decide) (hn := by decide)

theorem wire_outputId : Field False decOutputId rOutputId encOutputId OutputId.WF 33 34 := by
  refine Wire.congr (Wire.step OutputId.features wire_outputFeatures fun f => Wire.step OutputId.commit wire_commit fun cm =>
    Wire.pure (OutputId.mk f cm) (by rintro ⟨⟩; simp))
    (by simp) (fun o _ => by simp [encOutputId]) (fun o => by simp [OutputId.WF]) (he := by decide) (hn := by decide)

end GV.Wire

namespace GV.Ser
open GV

theorem decRangeProof_enc (p : RangeProof) (h : p.WF) (rest : Bytes) :
    decRangeProof (encRangeProof p ++ rest) = .ok (p, rest) := by
  obtain ⟨plen, proof⟩ := p
  obtain ⟨h1, h2⟩ := h
  simp only at h1 h2
  subst h1
  have htake : proof.take MAX_PROOF_SIZE = proof := by rw [← h2]; exact List.take_length
  have hlen : proof.length < 2^64 := by rw [h2]; unfold MAX_PROOF_SIZE; omega
  have hmin : min proof.length MAX_PROOF_SIZE = MAX_PROOF_SIZE := by rw [h2]; exact Nat.min_self _
  have hcap : MAX_PROOF_SIZE ≤ MAX_FIXED_READ := by unfold MAX_PROOF_SIZE MAX_FIXED_READ; omega
  have hrf := readFixed_write proof MAX_PROOF_SIZE h2 hcap rest
  simp only [writeFixed] at hrf
  have hsub : MAX_PROOF_SIZE - proof.length = 0 := by omega
  simp only [decRangeProof, encRangeProof, writeBytes, htake, List.append_assoc,
    readU64_write _ hlen, andThen_ok, hmin, hrf, hsub, List.replicate_zero, List.append_nil]

theorem decOutput_enc (o : Output) (h : o.WF) (rest : Bytes) :
    decOutput (encOutput o ++ rest) = .ok (o, rest) := by
  -- (`rw`, not `simp`: unifying `andThen_ok` against a not-yet-rewritten decoder call makes `simp`
  -- evaluate the decoder symbolically)
  rw [decOutput, encOutput, List.append_assoc, GV.Wire.wire_outputId.rt _ h.1, andThen_ok,
    decRangeProof_enc _ h.2, andThen_ok]

end GV.Ser

namespace GV.DecSer
open GV GV.Ser GV.Dec GV.Wire

theorem erases_rBlind (rd : Rdr) : Erases (rBlind rd) decBlind := erases_rFixed rd _
theorem erases_rHash (rd : Rdr) : Erases (rHash rd) decHash := erases_rFixed rd _
theorem erases_rTxKernel (rd : Rdr) (c : Cfg) : Erases (rTxKernel rd c) (decTxKernel c) := (wire_txKernel c).erases rd
theorem erases_rInput (rd : Rdr) : Erases (rInput rd) decInput := wire_input.erases rd
theorem erases_rOutputId (rd : Rdr) : Erases (rOutputId rd) decOutputId := wire_outputId.erases rd

/-! ### `RangeProof` (the reader zero-extends to 675 bytes and forgets the announced length: not canonical) and `Output` -/

/-- at most 675 bytes are requested whatever length is announced, and the copy into `[0; 675]` cannot overrun:
`read_fixed_bytes(min(len, 675))` returns exactly that many bytes -/
theorem instr_rRangeProof (rd : Rdr) : Instr 675 8 decRangeProof (rRangeProof rd) :=
  (Instr.bind instr_rU64 fun len =>
    ((instr_rFixed rd (min len MAX_PROOF_SIZE)).bindQ
      (fun _ p r h => by rw [if_neg (by have := (readFixed_ok h).2; omega)]; rfl)
      (fun p => Bnd.ite _ (Bnd.panic0 1 .index) (Bnd.pure 1 _))
      (fun p => ProgW.ite _ (ProgW.panic 0 .index) (ProgW.pure _))).weaken (e' := 675) (n' := 0)
      (he := by have : MAX_PROOF_SIZE = 675 := rfl; omega) (hn := by omega)).weaken (he := by omega) (hn := by omega)

/-- an output takes at least 42 bytes on the wire (features, commitment, proof length) -/
theorem instr_rOutput (rd : Rdr) : Instr 675 42 decOutput (rOutput rd) :=
  (Instr.bind (wire_outputId.instr rd) fun i => Instr.bind (instr_rRangeProof rd) fun p => Instr.pure (Output.mk i p)).weaken
    (he := by omega) (hn := by omega)

theorem erases_rRangeProof (rd : Rdr) : Erases (rRangeProof rd) decRangeProof := (instr_rRangeProof rd).erases
theorem erases_rOutput (rd : Rdr) : Erases (rOutput rd) decOutput := (instr_rOutput rd).erases

end GV.DecSer
