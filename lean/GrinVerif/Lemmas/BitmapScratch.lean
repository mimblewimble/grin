import GrinVerif.Lemmas.BitmapBits
import GrinVerif.Lemmas.UtilList
/-! The from-scratch accumulator (C15).  `init` and `apply` expressed on chunk vectors: `init U` builds
`specData U`; `apply` on the from-scratch accumulator of `U₀` builds the chunks of `U` up to the
rebuilt chunk or the last chunk of `U`, whichever comes later, when `U` agrees with `U₀` before the
rebuilt chunk.  And `as_bitmap` of the from-scratch accumulator returns the unspent set it was built
from. -/
namespace GV.Bitmap
open GV GV.Pmmr

variable {H : Type}

theorem chunkOf_eq_zero_of_ge (U : List Nat) (c : Nat) (hs : U.Pairwise (· ≤ ·)) (hc : nChunks U ≤ c) :
    chunkOf U c = chunkNew := by
  have : U.filter (inChunk c) = [] := by
    rw [List.filter_eq_nil_iff]
    intro x hx
    have := div_lt_nChunks hs hx
    simp only [inChunk, beq_iff_eq]
    omega
  rw [chunkOf_eq, this]; rfl

theorem specData_length (U : List Nat) : (specData U).length = nChunks U := by
  simp [specData]

theorem init_ofData (hf : HashFn Nat H) (U : List Nat) (size : Nat)
    (hs : U.Pairwise (· ≤ ·)) (hlt : ∀ x ∈ U, x < size) :
    init hf new U size = ofData hf (specData U) := by
  unfold init
  rw [applyFrom_spec hf new U 0 size hs hlt (fun x _ => Nat.zero_le x),
    appendAll_ofData hf _ [] new (ofData_nil hf), specData, List.range_eq_range']
  rfl

/-- padding included: chunks past the last element are empty -/
theorem take_pad_specData (U0 : List Nat) (k : Nat) (hs : U0.Pairwise (· ≤ ·)) :
    (specData U0).take k ++ List.replicate (k - ((specData U0).take k).length) chunkNew =
      (List.range k).map (chunkOf U0) := by
  rw [specData, ← List.map_take, List.take_range, List.length_map, List.length_range]
  by_cases hk : k ≤ nChunks U0
  · rw [Nat.min_eq_left hk, Nat.sub_self]
    exact List.append_nil _
  · have hk' : nChunks U0 ≤ k := by omega
    have hpad : List.replicate (k - nChunks U0) chunkNew =
        (List.range' (nChunks U0) (k - nChunks U0)).map (chunkOf U0) := by
      symm
      rw [List.eq_replicate_iff]
      refine ⟨by simp, fun b hb => ?_⟩
      obtain ⟨c, hc, rfl⟩ := List.mem_map.1 hb
      exact chunkOf_eq_zero_of_ge U0 c hs (List.mem_range'_1.1 hc).1
    rw [Nat.min_eq_right hk', hpad, ← List.map_append, ← range_add', Nat.add_sub_cancel' hk']

theorem rewind_pad_ofData (hf : HashFn Nat H) (U0 : List Nat) (st0 : Acc H) (fromIdx : Nat)
    (hst0 : ofData hf (specData U0) = some st0)
    (hs0 : U0.Pairwise (· ≤ ·)) (hb0 : nChunks U0 ≤ 2 ^ 64) :
    padLeft hf (rewindPrior st0 fromIdx) fromIdx = ofData hf ((List.range (fromIdx / 1024)).map (chunkOf U0)) := by
  have hd0 : (specData U0).length ≤ 2 ^ 64 := by rw [specData_length]; exact hb0
  have hrw := rewindPrior_ofData hf (specData U0) st0 fromIdx hd0 hst0
  have hpad := padLeft_ofData hf _ (rewindPrior st0 fromIdx) fromIdx
    (by rw [List.length_take]; omega) hrw
  rw [take_pad_specData U0 (fromIdx / 1024) hs0] at hpad
  exact hpad

theorem nChunks_filter_ge (U : List Nat) (k : Nat) (hs : U.Pairwise (· ≤ ·)) :
    nChunks (U.filter fun x => decide (k * 1024 ≤ x)) - k = nChunks U - k := by
  have hle : nChunks (U.filter fun x => decide (k * 1024 ≤ x)) ≤ nChunks U :=
    nChunks_le_of _ _ fun x hx => div_lt_nChunks hs (List.mem_filter.1 hx).1
  cases hl : U.getLast? with
  | none => rw [List.getLast?_eq_none_iff] at hl; subst hl; rfl
  | some m =>
    rw [nChunks_eq hl] at hle ⊢
    by_cases hm : k * 1024 ≤ m
    · have hmV : m ∈ U.filter fun x => decide (k * 1024 ≤ x) :=
        List.mem_filter.2 ⟨List.mem_of_getLast? hl, decide_eq_true hm⟩
      rw [Nat.le_antisymm hle (div_lt_nChunks (hs.filter _) hmV)]
    · have : m / 1024 < k := (Nat.div_lt_iff_lt_mul (by decide)).2 (Nat.not_le.1 hm)
      rw [Nat.sub_eq_zero_of_le (Nat.le_trans hle this), Nat.sub_eq_zero_of_le this]

/-- the `max`: `pad_left` appends empty chunks unconditionally, `apply_from` only up to the last chunk of `U` -/
theorem apply_ofData (hf : HashFn Nat H) (U0 U : List Nat) (st0 : Acc H) (fromIdx : Nat) (inval : List Nat) (size : Nat)
    (hst0 : ofData hf (specData U0) = some st0)
    (hs0 : U0.Pairwise (· ≤ ·)) (hb0 : nChunks U0 ≤ 2 ^ 64)
    (hs : U.Pairwise (· ≤ ·)) (hlt : ∀ x ∈ U, x < size)
    (hagree : U.filter (fun x => decide (x < fromIdx / 1024 * 1024)) = U0.filter (fun x => decide (x < fromIdx / 1024 * 1024))) :
    apply hf st0 (fromIdx :: inval) (U.filter (fun x => decide (chunkStartIdx fromIdx ≤ x))) size =
      ofData hf ((List.range (max (fromIdx / 1024) (nChunks U))).map (chunkOf U)) := by
  have hpad := rewind_pad_ofData hf U0 st0 fromIdx hst0 hs0 hb0
  have hbelow : (List.range (fromIdx / 1024)).map (chunkOf U0) = (List.range (fromIdx / 1024)).map (chunkOf U) := by
    apply List.map_congr_left
    intro c hc
    have hp : ∀ x, x / 1024 = c → decide (x < fromIdx / 1024 * 1024) = true := fun x hx =>
      decide_eq_true ((Nat.div_lt_iff_lt_mul (by decide)).1 (by rw [hx]; exact List.mem_range.1 hc))
    rw [← chunkOf_filter U0 _ c hp, ← hagree, chunkOf_filter U _ c hp]
  rw [hbelow] at hpad
  have hmax : ∀ a b : Nat, max a b = a + (b - a) := by omega
  rw [hmax, ← nChunks_filter_ge U (fromIdx / 1024) hs, range_add', List.map_append,
    show chunkStartIdx fromIdx = fromIdx / 1024 * 1024 from rfl]
  unfold apply
  simp only [hpad]
  cases hst1 : ofData hf ((List.range (fromIdx / 1024)).map (chunkOf U)) with
  | none => exact (ofData_append_none hf _ _ hst1).symm
  | some st1 =>
    show applyFrom hf st1 _ fromIdx size = _
    rw [applyFrom_spec hf st1 _ fromIdx size (hs.filter _) (fun x hx => hlt x (List.mem_filter.1 hx).1)
      (fun x hx => of_decide_eq_true (List.mem_filter.1 hx).2), appendAll_ofData hf _ _ st1 hst1]
    congr 2
    apply List.map_congr_left
    intro c hc
    exact chunkOf_filter U _ c fun x hx =>
      decide_eq_true ((Nat.le_div_iff_mul_le (by decide)).1 (by rw [hx]; exact (List.mem_range'_1.1 hc).1))

theorem ofData_some (hf : HashFn Nat H) (d : List Nat) (hb : d.length ≤ 2 ^ 64) :
    ∃ hs, ofData hf d = some { data := d, hashes := hs } ∧ hs.length = mmr d.length := by
  exact ⟨_, by simp [ofData, Co.pushAll_hashes hf d (by omega)], Co.hashes_length hf d⟩

theorem nChunks_le_pow (U : List Nat) (size : Nat) (hlt : ∀ x ∈ U, x < size) (hsz : size ≤ 2 ^ 64) :
    nChunks U ≤ 2 ^ 64 :=
  nChunks_le_of U _ fun x hx => Nat.lt_of_le_of_lt (Nat.div_le_self x 1024) (Nat.lt_of_lt_of_le (hlt x hx) hsz)

theorem ofData_inj (hf : HashFn Nat H) (d1 d2 : List Nat) (st : Acc H)
    (h1 : ofData hf d1 = some st) (h2 : ofData hf d2 = some st) : d1 = d2 := by
  obtain ⟨_, _, e1⟩ := ofData_eq_some h1
  obtain ⟨_, _, e2⟩ := ofData_eq_some h2
  rw [e1] at e2
  injection e2

theorem fromScratch_eq (hf : HashFn Nat H) (U : List Nat) (size : Nat)
    (hs : U.Pairwise (· < ·)) (hlt : ∀ x ∈ U, x < size) (hsz : size ≤ 2 ^ 64) :
    ∃ hsh, fromScratch hf U size = some { data := specData U, hashes := hsh } ∧
      hsh.length = mmr (nChunks U) := by
  obtain ⟨hsh, h1, h2⟩ := ofData_some hf (specData U)
    (by rw [specData_length]; exact nChunks_le_pow U size hlt hsz)
  rw [specData_length] at h2
  exact ⟨hsh, by rw [fromScratch, init_ofData hf U size (hs.imp Nat.le_of_lt) hlt, h1], h2⟩

theorem filter_testBit_chunkOf (U : List Nat) (c : Nat) (R : List Nat) (hR : ∀ j ∈ R, j < 1024) :
    R.filter (fun i => (chunkOf U c).testBit i) = R.filter (fun j => decide (c * 1024 + j ∈ U)) :=
  List.filter_congr (fun j hj => chunkOf_testBit U c j (hR j hj))

theorem chunkSetIter_chunkOf (U : List Nat) (c : Nat) :
    chunkSetIter (chunkOf U c) (c * 1024) =
      ((List.range 1024).filter (fun j => decide (c * 1024 + j ∈ U))).map (fun j => j + c * 1024) := by
  rw [chunkSetIter, filter_testBit_chunkOf U c _ (fun j hj => List.mem_range.1 hj)]

theorem flatten_chunks (U : List Nat) : ∀ n : Nat,
    ((List.range n).map (fun c => ((List.range 1024).filter (fun j => decide (c * 1024 + j ∈ U))).map
      (fun j => j + c * 1024))).flatten = (List.range (n * 1024)).filter (fun x => decide (x ∈ U)) := by
  intro n
  induction n with
  | zero => simp
  | succ n ih =>
    have hsplit : List.range ((n + 1) * 1024) = List.range (n * 1024) ++ List.range' (n * 1024) 1024 := by
      rw [← range_add', Nat.succ_mul]
    rw [List.range_succ (n := n), List.map_append, List.flatten_append, ih, hsplit, List.filter_append]
    refine congrArg _ ?_
    rw [List.range'_eq_map_range, List.filter_map]
    simp only [List.map_cons, List.map_nil, List.flatten_cons, List.flatten_nil, List.append_nil]
    have : (fun j => j + n * 1024) = (fun j => n * 1024 + j) := by funext j; omega
    rw [this]
    -- with the range abstracted `rfl` compares two `filter`/`map` terms instead of evaluating 1024 entries
    generalize List.range 1024 = R
    rfl

theorem asBitmap_specData (U : List Nat) (hs : U.Pairwise (· < ·)) (hsh : List H)
    (hlen : hsh.length = mmr (nChunks U)) :
    asBitmap ({ data := specData U, hashes := hsh } : Acc H) = some U := by
  unfold asBitmap
  simp only [hlen, leafPosIter_mmr, zipIdx_map_range]
  rw [mapM_all_some _ (fun p => chunkSetIter (chunkOf U p.2) (p.2 * 1024)) _ (by
      intro p hp
      obtain ⟨i, hi, rfl⟩ := List.mem_map.1 hp
      have hi' : i < nChunks U := List.mem_range.1 hi
      simp only [Co.nLeaves_succ_mmr_sub]
      have : (specData U)[i]? = some (chunkOf U i) := by
        simp [specData, List.getElem?_map, List.getElem?_range hi']
      rw [this])]
  simp only [Option.map_some, List.map_map]
  have hcomp : ((fun p : Nat × Nat => chunkSetIter (chunkOf U p.2) (p.2 * 1024)) ∘ fun i => (mmr i, i)) =
      fun c => ((List.range 1024).filter (fun j => decide (c * 1024 + j ∈ U))).map (fun j => j + c * 1024) := by
    funext c
    simp only [Function.comp]
    exact chunkSetIter_chunkOf U c
  rw [hcomp, flatten_chunks]
  congr 1
  apply range_filter_mem U _ hs
  intro x hx
  exact (Nat.div_lt_iff_lt_mul (by decide)).1 (div_lt_nChunks (hs.imp Nat.le_of_lt) hx)

theorem HistoryOk.final : ∀ {steps : List Step} {U0 : List Nat} {size0 : Nat}, HistoryOk U0 steps →
    U0.Pairwise (· < ·) → (∀ x ∈ U0, x < size0) → size0 ≤ 2 ^ 64 →
    (finalU U0 steps).Pairwise (· < ·) ∧ (∀ x ∈ finalU U0 steps, x < finalSize size0 steps) ∧
      finalSize size0 steps ≤ 2 ^ 64
  | [], _, _, _, a, b, c => ⟨a, b, c⟩
  | _ :: _, _, _, ⟨⟨_, _, hsz, hs, hlt, _, _⟩, hrest⟩, _, _, _ => hrest.final hs hlt hsz

end GV.Bitmap
