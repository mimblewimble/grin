import GrinVerif.Lemmas.DesegApply
/-! `next_desired_segments` (`chain/src/txhashset/desegmenter.rs`) for EVERY `max_elements`; the request
loops are put in closed form (the first so-many wanted identifiers in index order).  After the bitmap phase
the list is built by three `while (next_idx as usize) < total` loops and three `maybe_add_to_request` steps:

* `max_elements ≥ 3`: the request list contains the next output, the next rangeproof and the next
  kernel segment (each unless cached).  The reason is a counting argument, not luck: a tree whose
  next segment is NOT taken by its own loop (its range ends at the local size: the final segment
  that adds a single leaf — the loops test `last > local`, not `>=`) contributes nothing to the
  round-robin part, so the "ensure" steps never find the list full and never pop.
* `max_elements ≤ 2`: the quota `max_elements / 3` is 0, the loops add nothing and the list is what
  the three "ensure" steps leave: with `max_elements = 2` the rangeproof tree is starved, with
  `max_elements ≤ 1` the output and the rangeproof tree (`desired_small*`). -/
namespace GV.Deseg
open GV GV.Pmmr GV.Seg

theorem filter_range'_first (p : Nat → Bool) (k : Nat) (hskip : ∀ i, i < k → p i = false) (htake : p k = true) :
    ∀ (n a : Nat), a ≤ k → k < a + n → ∃ t, (List.range' a n).filter p = k :: t
  | 0, a, h1, h2 => by omega
  | n + 1, a, h1, h2 => by
    rw [List.range'_succ, List.filter_cons]
    by_cases hak : a = k
    · subst hak; rw [if_pos htake]; exact ⟨_, rfl⟩
    · rw [if_neg (by rw [hskip a (by omega)]; exact Bool.noConfusion)]
      exact filter_range'_first p k hskip htake n (a + 1) (by omega) (by omega)

/-- the test of the bitmap request loop (`>=` since the repair d6b49984d) -/
def wantedB (s : St) (i : Nat) : Bool :=
  decide ((({ height := s.hB, idx := i } : Ident).posRange s.bmSize).2 ≥ s.bm.size) &&
    !hasId s.bm.cache { height := s.hB, idx := i }

/-- the length test comes after the push, so at least one identifier is taken -/
theorem wantBitmapLoop_eq (s : St) (mx : Nat) : ∀ (l : List Nat) (acc : List (Kind × Ident)),
    wantBitmapLoop s mx l acc =
      acc ++ ((l.filter (wantedB s)).take (mx - (acc.length + 1) + 1)).map (fun i => (Kind.bitmap, ⟨s.hB, i⟩))
  | [], acc => by rw [wantBitmapLoop, List.filter_nil, List.take_nil, List.map_nil, List.append_nil]
  | idx :: rest, acc => by
    rw [wantBitmapLoop, List.filter_cons]
    show (if wantedB s idx = true then _ else _) = _
    by_cases hw : wantedB s idx = true
    · rw [if_pos hw, if_pos hw, List.take_succ_cons, List.map_cons]
      dsimp only
      rw [List.length_append, List.length_singleton]
      by_cases hfull : acc.length + 1 ≥ mx
      · rw [if_pos hfull, Nat.sub_eq_zero_of_le hfull, List.take_zero]; rfl
      · rw [if_neg hfull, wantBitmapLoop_eq s mx rest, List.length_append, List.length_singleton,
          List.append_assoc, (Nat.succ_pred_eq_of_pos (Nat.sub_pos_of_lt (Nat.lt_of_not_le hfull))).symm]
        rfl
    · rw [if_neg hw, if_neg hw]
      exact wantBitmapLoop_eq s mx rest acc

theorem desired_bitmap_next (No Nk : Nat) (s : St) (hi : Inv No Nk s) (hbc : s.bitmapCache = false)
    (k : Nat) (p : Pos false s.hB (Dsg.expectedChunks No) s.bm.leaves (some k))
    (hnc : hasId s.bm.cache { height := s.hB, idx := k } = false) (max : Nat) :
    ∃ t, s.desired max = (Kind.bitmap, ⟨s.hB, k⟩) :: t := by
  have par := hi.par; have bm := hi.bm
  have hcs := chunks_small No par.NoS
  have hbs : s.bmSize = mmr (Dsg.expectedChunks No) := par.bms
  have hlt := p.lt_of_some
  have hn := p.eq_boundary
  have hsz : s.bm.size = mmr (k * 2 ^ s.hB) := by rw [bm.size_eq, hn]
  rw [hn] at hlt
  have hk : k < Dsg.segCount (Dsg.expectedChunks No) s.hB := (idx_lt_segCount_iff _ _ _).mpr hlt
  obtain ⟨t, ht⟩ := filter_range'_first (wantedB s) k
    (fun idx hidx => by
      have h1 : (idx + 1) * 2 ^ s.hB ≤ k * 2 ^ s.hB := Nat.mul_le_mul_right _ hidx
      have := posRange_last_lt ⟨s.hB, idx⟩ (Dsg.expectedChunks No) (k * 2 ^ s.hB) par.hB hcs h1 (Nat.le_of_lt hlt)
      rw [← hbs, ← hsz] at this
      rw [wantedB, decide_eq_false (Nat.not_le.2 this)]; rfl)
    (by
      have := posRange_last_ge ⟨s.hB, k⟩ (Dsg.expectedChunks No) par.hB hcs hlt
      rw [← hbs, ← hsz] at this
      rw [wantedB, decide_eq_true this, hnc]; rfl)
    (Dsg.segCount (Dsg.expectedChunks No) s.hB) 0 (Nat.zero_le _) (by rw [Nat.zero_add]; exact hk)
  unfold St.desired
  rw [hbc]
  simp only [Bool.not_false, if_true]
  rw [wantBitmapLoop_eq, hbs, csr_mmr _ _ par.hB hcs, List.range_eq_range', ht,
    List.take_succ_cons, List.map_cons, List.nil_append]
  exact ⟨_, rfl⟩

/-- the test of the three request loops -/
def wanted (h A L : Nat) (cache : List Cached) (i : Nat) : Bool :=
  decide ((({ height := h, idx := i } : Ident).posRange A).2 > L) && !hasId cache { height := h, idx := i }

theorem wantLoop_eq (h A L : Nat) (cache : List Cached) (quota total : Nat) :
    ∀ (fuel idx added r : Nat), fuel = total - idx → added + r = quota →
      wantLoop h A L cache quota total idx added fuel =
        (((List.range' idx fuel).filter (wanted h A L cache)).take r).map (Ident.mk h)
  | 0, _, _, _, _, _ => by rw [wantLoop, List.range'_zero, List.filter_nil, List.take_nil, List.map_nil]
  | fuel + 1, idx, added, r, hf, hq => by
    have hf' : fuel = total - (idx + 1) := congrArg Nat.pred hf
    rw [wantLoop, if_pos (Nat.lt_of_sub_eq_succ hf.symm), List.range'_succ, List.filter_cons]
    cases r with
    | zero => exact (if_pos hq).trans rfl
    | succ r =>
      rw [if_neg (fun e => Nat.succ_ne_zero r (Nat.add_left_cancel (hq.trans e.symm)))]
      show (if wanted h A L cache idx = true then _ else _) = _
      by_cases hw : wanted h A L cache idx = true
      · rw [if_pos hw, if_pos hw, List.take_succ_cons, List.map_cons,
          wantLoop_eq h A L cache quota total fuel (idx + 1) (added + 1) r hf' ((Nat.add_right_comm added 1 r).trans hq)]
      · rw [if_neg hw, if_neg hw, wantLoop_eq h A L cache quota total fuel (idx + 1) added (r + 1) hf' hq]

theorem wantTree_eq (h A : Nat) (t : Tree) (n q : Nat) :
    wantTree h A t (some n) q =
      (((List.range' n (Ident.countSegmentsRequired A h - n)).filter (wanted h A t.size t.cache)).take q).map
        (Ident.mk h) :=
  wantLoop_eq _ _ _ _ _ _ _ _ _ _ rfl (Nat.zero_add q)

/-- quota 0 (`max_elements < 3`): the loop breaks at once -/
theorem wantLoop_quota_zero (h A L : Nat) (cache : List Cached) (total idx fuel : Nat) :
    wantLoop h A L cache 0 total idx 0 fuel = [] := by
  cases fuel with
  | zero => rw [wantLoop]
  | succ f => rw [wantLoop, if_pos rfl]; exact ite_self _

theorem wantTree_last (h A : Nat) (t : Tree) (k q : Nat) (hk : ¬ k + 1 < Ident.countSegmentsRequired A h)
    (hc : wanted h A t.size t.cache k = false) : wantTree h A t (some k) q = [] := by
  rw [wantTree_eq]
  obtain h0 | h0 : Ident.countSegmentsRequired A h - k = 0 ∨ Ident.countSegmentsRequired A h - k = 1 := by omega
  · rw [h0, List.range'_zero, List.filter_nil, List.take_nil, List.map_nil]
  · rw [h0, List.range'_one, List.filter_cons, if_neg (by rw [hc]; exact Bool.noConfusion), List.filter_nil,
      List.take_nil, List.map_nil]

theorem wantTree_length (h A : Nat) (t : Tree) (next : Option Nat) (q : Nat) :
    (wantTree h A t next q).length ≤ q := by
  cases next with
  | none => exact Nat.zero_le q
  | some n => rw [wantTree_eq, List.length_map]; exact List.length_take_le _ _

theorem wantTree_quota_zero (h A : Nat) (t : Tree) (next : Option Nat) : wantTree h A t next 0 = [] :=
  List.eq_nil_of_length_eq_zero (Nat.le_zero.1 (wantTree_length h A t next 0))

/-- the part is empty only if the next segment is the final one and adds a single leaf: `last = local`,
the `>` test of the loop fails -/
theorem wantTree_next (h N n k q : Nat) (t : Tree) (hh : h ≤ 61) (h1 : 1 ≤ h) (hN : N < 2 ^ 62)
    (hsz : t.size = mmr n) (p : Pos true h N n (some k)) (hq : 1 ≤ q)
    (hnc : hasId t.cache { height := h, idx := k } = false) :
    (∃ r, wantTree h (mmr N) t (some k) q = ({ height := h, idx := k } : Ident) :: r) ∨
      wantTree h (mmr N) t (some k) q = [] := by
  obtain ⟨hlo, hhi, hlt⟩ := p.bounds (fun _ => h1)
  obtain ⟨q', rfl⟩ := Nat.exists_eq_add_one.2 hq
  have hk : k < Dsg.segCount N h := (idx_lt_segCount_iff _ _ _).mpr hlt
  obtain ⟨d, hd⟩ := Nat.exists_eq_add_one.2 (Nat.sub_pos_of_lt hk)
  rw [wantTree_eq, csr_mmr N h hh hN, hd, List.range'_succ, List.filter_cons]
  by_cases hgt : (({ height := h, idx := k } : Ident).posRange (mmr N)).2 > t.size
  · rw [if_pos (by rw [wanted, hnc, decide_eq_true hgt]; rfl)]
    exact Or.inl ⟨_, rfl⟩
  · rw [if_neg (by rw [wanted, decide_eq_false hgt]; exact Bool.noConfusion)]
    cases d with
    | zero => exact Or.inr rfl
    | succ d =>
      have hfull : (k + 1) * 2 ^ h < N := (idx_lt_segCount_iff _ _ _).mp (by omega)
      rw [hsz] at hgt
      exact absurd (posRange_last_gt_full ⟨h, k⟩ N n hh h1 hN (Nat.le_of_lt hfull) hhi) hgt

/-- also when `next_required_*_segment_index` keeps naming the last, not full segment of a complete tree -/
theorem wantTree_done_prunable (h N A q : Nat) (t : Tree) (hA : A = mmr N) (hh : h ≤ 61) (h1 : 1 ≤ h)
    (hN : N < 2 ^ 62) (hN1 : 1 ≤ N) (hsz : t.size = mmr N) :
    wantTree h A t (nextRequiredPrunable h A t.size) q = [] := by
  subst hA
  rw [hsz]
  rcases nextPrunable_done h N hh h1 hN hN1 with ⟨e, _⟩ | ⟨e, hlo, hhi⟩
  · rw [e]; rfl
  · rw [e]
    have hpos := segCount_pos N h (by omega)
    refine wantTree_last h (mmr N) t _ q (by rw [csr_mmr N h hh hN]; omega) ?_
    have hl := posRange_last_final ⟨h, Dsg.segCount N h - 1⟩ N hh hN hlo (by
      show N < (Dsg.segCount N h - 1 + 1) * 2 ^ h
      rw [Nat.sub_add_cancel hpos]; exact hhi)
    rw [wanted, hsz, hl, decide_eq_false (by omega)]; rfl

/-- the list names the segment that a tree needs next, unless that segment is cached -/
def Asks (l : List (Kind × Ident)) (K : Kind) (h : Nat) (next : Option Nat) (cache : List Cached) : Prop :=
  ∀ n, next = some n → hasId cache { height := h, idx := n } = false →
    (K, ({ height := h, idx := n } : Ident)) ∈ l

theorem Asks.mono {l l' : List (Kind × Ident)} {K : Kind} {h : Nat} {next : Option Nat} {cache : List Cached}
    (a : Asks l K h next cache) (hsub : ∀ y ∈ l, y ∈ l') : Asks l' K h next cache :=
  fun n hn hc => hsub _ (a n hn hc)

theorem maybeAdd_mem (max : Nat) (acc : List (Kind × Ident)) (x : Kind × Ident) : x ∈ maybeAdd max acc x := by
  unfold maybeAdd
  split
  · rename_i h
    exact List.contains_iff_mem.mp h
  · exact List.mem_append_right _ List.mem_cons_self

theorem ensureNext_mem (max : Nat) (acc : List (Kind × Ident)) (k : Kind) (h n : Nat) (cache : List Cached)
    (hnc : hasId cache { height := h, idx := n } = false) :
    (k, ({ height := h, idx := n } : Ident)) ∈ ensureNext max acc k h (some n) cache := by
  unfold ensureNext
  simp only [hnc, Bool.false_eq_true, if_false]
  exact maybeAdd_mem max acc _

/-- the last of the three "ensure" steps is the kernel tree's, nothing can push its entry out -/
theorem desired_kernel_next (No Nk : Nat) (s : St) (hi : Inv No Nk s) (hbc : s.bitmapCache = true)
    (k : Nat) (p : Pos true s.hK Nk s.ker.leaves (some k))
    (hnc : hasId s.ker.cache { height := s.hK, idx := k } = false) (max : Nat) :
    (Kind.kernel, ({ height := s.hK, idx := k } : Ident)) ∈ s.desired max := by
  unfold St.desired
  rw [hbc]
  simp only [Bool.not_true, Bool.false_eq_true, if_false]
  rw [(nextOk_real No Nk s hi).k _ p]
  exact ensureNext_mem max _ .kernel s.hK k s.ker.cache hnc

theorem maybeAdd_room (max : Nat) (acc : List (Kind × Ident)) (x : Kind × Ident) (hx : x ∉ acc)
    (hl : acc.length < max) : maybeAdd max acc x = acc ++ [x] := by
  unfold maybeAdd
  rw [if_neg (fun hc => hx (List.contains_iff_mem.mp hc)), if_neg (by omega)]

/-- one "ensure" step, seen together with the part its tree contributed to the list: the step pops
nothing and appends only when the part is empty, so part and appendix together still have at most `q` -/
theorem ensure_step (max q : Nat) (acc part : List (Kind × Ident)) (K : Kind) (h : Nat) (next : Option Nat)
    (cache : List Cached) (hq : 1 ≤ q) (hl : part.length ≤ q) (hsub : ∀ y ∈ part, y ∈ acc)
    (hp : part ≠ [] → Asks part K h next cache) (hlen : part.length = 0 → acc.length < max) :
    ∃ l, ensureNext max acc K h next cache = acc ++ l ∧ part.length + l.length ≤ q ∧
      Asks (acc ++ l) K h next cache := by
  cases next with
  | none => exact ⟨[], by simp [ensureNext], hl, fun n hn => by cases hn⟩
  | some n =>
    cases hc : hasId cache { height := h, idx := n } with
    | true =>
      refine ⟨[], by simp [ensureNext, hc], hl, fun m hm hnc => ?_⟩
      injection hm with hm; subst hm
      rw [hc] at hnc; cases hnc
    | false =>
      by_cases hmem : (K, ({ height := h, idx := n } : Ident)) ∈ acc
      · refine ⟨[], by simp [ensureNext, hc, maybeAdd, hmem], hl, fun m hm _ => ?_⟩
        injection hm with hm; subst hm
        rw [List.append_nil]; exact hmem
      · have hpart : part = [] := Classical.byContradiction fun hne => hmem (hsub _ (hp hne n rfl hc))
        subst hpart
        refine ⟨[(K, { height := h, idx := n })], ?_, hq, fun m hm _ => ?_⟩
        · simp only [ensureNext, hc, Bool.false_eq_true, if_false]
          exact maybeAdd_room max acc _ hmem (hlen rfl)
        · injection hm with hm; subst hm
          exact List.mem_append_right _ List.mem_cons_self

/-- the three "ensure" steps never pop: part and appendix of each tree have at most `q`, and `3·q ≤ max_elements` -/
theorem ensure_three (max q : Nat) (PO PR PK : List (Kind × Ident)) (hO hR hK : Nat)
    (no nr nk : Option Nat) (cO cR cK : List Cached) (hq : 1 ≤ q) (h3 : 3 * q ≤ max)
    (lO : PO.length ≤ q) (lR : PR.length ≤ q) (lK : PK.length ≤ q)
    (pO : PO ≠ [] → Asks PO .output hO no cO) (pR : PR ≠ [] → Asks PR .rangeproof hR nr cR)
    (pK : PK ≠ [] → Asks PK .kernel hK nk cK) :
    let l := ensureNext max (ensureNext max (ensureNext max (PO ++ PR ++ PK) .output hO no cO)
      .rangeproof hR nr cR) .kernel hK nk cK
    Asks l .output hO no cO ∧ Asks l .rangeproof hR nr cR ∧ Asks l .kernel hK nk cK := by
  have hlen0 : (PO ++ PR ++ PK).length = PO.length + PR.length + PK.length := by
    simp only [List.length_append]
  obtain ⟨l1, e1, b1, m1⟩ := ensure_step max q (PO ++ PR ++ PK) PO .output hO no cO hq lO
    (fun y hy => List.mem_append_left _ (List.mem_append_left _ hy)) pO (by intro h0; omega)
  obtain ⟨l2, e2, b2, m2⟩ := ensure_step max q ((PO ++ PR ++ PK) ++ l1) PR .rangeproof hR nr cR hq lR
    (fun y hy => List.mem_append_left _ (List.mem_append_left _ (List.mem_append_right _ hy))) pR
    (by intro h0; rw [List.length_append, hlen0]; omega)
  obtain ⟨l3, e3, _, m3⟩ := ensure_step max q (((PO ++ PR ++ PK) ++ l1) ++ l2) PK .kernel hK nk cK hq lK
    (fun y hy => List.mem_append_left _ (List.mem_append_left _ (List.mem_append_right _ hy))) pK
    (by intro h0; rw [List.length_append, List.length_append, hlen0]; omega)
  simp only [e1, e2, e3]
  exact ⟨(m1.mono fun y hy => List.mem_append_left _ hy).mono fun y hy => List.mem_append_left _ hy,
    m2.mono fun y hy => List.mem_append_left _ hy, m3⟩

theorem part_prop (K : Kind) (h N A q : Nat) (t : Tree) (next : Option Nat) (hA : A = mmr N) (hh : h ≤ 61)
    (h1 : 1 ≤ h) (hN : N < 2 ^ 62) (ok : TreeOk true h N t) (hq : 1 ≤ q)
    (hnext : ∀ k, Pos true h N t.leaves (some k) → next = some k)
    (hdone : Pos true h N t.leaves none → wantTree h A t next q = []) :
    (wantTree h A t next q).map (fun i => (K, i)) ≠ [] →
      Asks ((wantTree h A t next q).map (fun i => (K, i))) K h next t.cache := by
  subst hA
  intro hne n hn hnc
  obtain ⟨o, p⟩ := ok.pos'
  cases o with
  | none => rw [hdone p] at hne; exact absurd rfl hne
  | some k =>
    have hk := hnext k p
    rw [hn] at hk; injection hk with hk; subst hk
    rw [hn] at hne ⊢
    rcases wantTree_next h N t.leaves n q t hh h1 hN ok.size_eq p hq hnc with ⟨r, hr⟩ | he
    · rw [hr]; exact List.mem_cons_self
    · rw [he] at hne; exact absurd rfl hne

theorem part_prunable (K : Kind) (h N A q : Nat) (t : Tree) (hA : A = mmr N) (hh : h ≤ 61) (h1 : 1 ≤ h)
    (hN : N < 2 ^ 62) (hN1 : 1 ≤ N) (ok : TreeOk true h N t) (hq : 1 ≤ q) :
    (wantTree h A t (nextRequiredPrunable h A t.size) q).map (fun i => (K, i)) ≠ [] →
      Asks ((wantTree h A t (nextRequiredPrunable h A t.size) q).map (fun i => (K, i))) K h
        (nextRequiredPrunable h A t.size) t.cache :=
  part_prop K h N A q t _ hA hh h1 hN ok hq
    (fun k p => by rw [hA, ok.size_eq]; exact nextPrunable_pos h N _ k hh h1 hN p)
    (fun p => wantTree_done_prunable h N A q t hA hh h1 hN hN1 (by rw [ok.size_eq, p.eq_of_none]))

theorem desired_all_next (No Nk : Nat) (s : St) (hi : Inv No Nk s) (hbc : s.bitmapCache = true)
    (max : Nat) (hm : 3 ≤ max) :
    (∀ k, Pos true s.hO No s.out.leaves (some k) → hasId s.out.cache { height := s.hO, idx := k } = false →
      (Kind.output, ({ height := s.hO, idx := k } : Ident)) ∈ s.desired max) ∧
    (∀ k, Pos true s.hR No s.rp.leaves (some k) → hasId s.rp.cache { height := s.hR, idx := k } = false →
      (Kind.rangeproof, ({ height := s.hR, idx := k } : Ident)) ∈ s.desired max) ∧
    (∀ k, Pos true s.hK Nk s.ker.leaves (some k) → hasId s.ker.cache { height := s.hK, idx := k } = false →
      (Kind.kernel, ({ height := s.hK, idx := k } : Ident)) ∈ s.desired max) := by
  obtain ⟨_, nvo, nvr, nvk⟩ := nextOk_real No Nk s hi
  have par := hi.par; have out := hi.out; have rp := hi.rp; have ker := hi.ker
  have hq : 1 ≤ max / 3 := by omega
  obtain ⟨mo, mr, mk⟩ := ensure_three max (max / 3) _ _ _ s.hO s.hR s.hK
    (s.nextRequired .output) (s.nextRequired .rangeproof) (s.nextRequired .kernel)
    s.out.cache s.rp.cache s.ker.cache hq (by omega)
    (by rw [List.length_map]; exact wantTree_length _ _ _ _ _)
    (by rw [List.length_map]; exact wantTree_length _ _ _ _ _)
    (by rw [List.length_map]; exact wantTree_length _ _ _ _ _)
    (part_prunable .output s.hO No s.outSize (max / 3) s.out par.out par.hO par.hO1 par.NoS par.No1 out hq)
    (part_prunable .rangeproof s.hR No s.outSize (max / 3) s.rp par.out par.hR par.hR1 par.NoS par.No1 rp hq)
    (part_prop .kernel s.hK Nk s.kerSize (max / 3) s.ker (s.nextRequired .kernel) par.ker par.hK par.hK1 par.NkS
      ker hq (fun k p => nvk _ p) (fun p => by rw [nvk _ p]; rfl))
  unfold St.desired
  rw [hbc]
  simp only [Bool.not_true, Bool.false_eq_true, if_false]
  exact ⟨fun k p hc => mo k (nvo k p) hc, fun k p hc => mr k (nvr k p) hc, fun k p hc => mk k (nvk _ p) hc⟩

/-- the quota `max_elements / 3` is 0: the round-robin part is empty -/
theorem desired_small (s : St) (hbc : s.bitmapCache = true) (max : Nat) (hm : max ≤ 2) :
    s.desired max =
      ensureNext max (ensureNext max (ensureNext max [] .output s.hO (s.nextRequired .output) s.out.cache)
        .rangeproof s.hR (s.nextRequired .rangeproof) s.rp.cache) .kernel s.hK (s.nextRequired .kernel) s.ker.cache := by
  have hq : max / 3 = 0 := by omega
  unfold St.desired
  rw [hbc]
  simp only [Bool.not_true, Bool.false_eq_true, if_false]
  rw [hq, wantTree_quota_zero, wantTree_quota_zero, wantTree_quota_zero]
  rfl

theorem desired_small_all (s : St) (hbc : s.bitmapCache = true) (o r k : Nat)
    (ho : s.nextRequired .output = some o) (hr : s.nextRequired .rangeproof = some r)
    (hk : s.nextRequired .kernel = some k)
    (co : hasId s.out.cache { height := s.hO, idx := o } = false)
    (cr : hasId s.rp.cache { height := s.hR, idx := r } = false)
    (ck : hasId s.ker.cache { height := s.hK, idx := k } = false) :
    s.desired 2 = [(Kind.output, ⟨s.hO, o⟩), (Kind.kernel, ⟨s.hK, k⟩)] ∧
    s.desired 1 = [(Kind.kernel, ⟨s.hK, k⟩)] ∧ s.desired 0 = [(Kind.kernel, ⟨s.hK, k⟩)] := by
  -- evaluation of the three `maybe_add_to_request` steps: a step that finds the list full pops its last
  -- entry before it pushes
  refine ⟨?_, ?_, ?_⟩
  · -- `[o]`, `[o, r]`, then the kernel step finds 2 entries, pops `r`: `[o, k]`
    rw [desired_small s hbc 2 (by omega), ho, hr, hk]
    simp [ensureNext, maybeAdd, co, cr, ck]
  · -- `[o]`, the rangeproof step pops `o`: `[r]`, the kernel step pops `r`: `[k]`
    rw [desired_small s hbc 1 (by omega), ho, hr, hk]
    simp [ensureNext, maybeAdd, co, cr, ck]
  · -- as with 1: every step finds the list "full"
    rw [desired_small s hbc 0 (by omega), ho, hr, hk]
    simp [ensureNext, maybeAdd, co, cr, ck]

end GV.Deseg
