import GrinVerif.Model.ChainKnown
import GrinVerif.Lemmas.ChainInv
/-! What the coded steps of `Model/ChainKnown.lean` compute, beside the steps of `Model/Chain.lean`:
`checkKnown` against `KnownFull`, `processHeaderK` against `processHeader` (without a denylist the rules
are `validateHeader`'s).

The same functions of chain/src/pipe.rs are transliterated a second time, for C04, in `Model/Cons.lean`:
`check_known` (`Cons.checkKnown`), `process_block_header` (`nodeProcessBlockHeader`, `pbhApply`),
`process_block_headers` (`validateLoop`, `processBlockHeaders`), `rewind_and_apply_header_fork`
(`forkWalk`, `reapply`), `Options` (`Cons.Opts`). The two models abstract differently and no theorem ties
the two. Here a block is an id with work, fault tags and a body that is replayed, and the header MMR is
by definition the path to the header head (`forkHeaders`, `Node.headerAtHeight`); what justifies that
reading is proved on the other model, over every history:
`C04Forks.header_mmr_is_ancestors_of_header_head`. There a header is a proof-only hash (two headers may
collide), with `Tips`, the numeric header rules and the header MMR as a list. -/
namespace GV.Props.C03Known
open GV GV.Chain

theorem checkKnown_isSome_iff (n : Node) (b : Blk) :
    (checkKnown n b).isSome ↔ (b.work ≤ n.workOf n.head ∧ KnownFull n b) := by
  unfold checkKnown KnownFull
  by_cases hw : b.work ≤ n.workOf n.head
  · by_cases h1 : b.id = n.head
    · simp [hw, h1]
    · by_cases h2 : some b.id = n.parentOf n.head
      · simp [hw, h2]
      · by_cases h3 : b.id ∈ n.stored
        · simp [hw, h1, h2, h3]
        · simp [hw, h1, h2, h3]
  · simp [hw]

theorem checkKnown_congr {n m : Node} (hb : n.blks = m.blks) (hh : n.head = m.head)
    (hs : n.stored = m.stored) (b : Blk) : checkKnown n b = checkKnown m b := by
  unfold checkKnown
  rw [workOf_congr hb, parentOf_congr hb, heightOf_congr hb, hh, hs]

/-- while the head has the most work among stored blocks, a known full block never has more work
than the head: the condition the code puts in front of `check_known` is then always met -/
theorem knownFull_work_le (n : Node) (b : Blk) (hm : HeadMax n) (hc : StoredClosed n)
    (hb : n.blk b.id = some b) (hk : KnownFull n b) : b.work ≤ n.workOf n.head := by
  have hbw : n.workOf b.id = b.work := by simp only [Node.workOf, hb]
  exact hbw ▸ hm b.id (knownFull_stored hc hk)

theorem checkKnown_isSome_iff_knownFull (n : Node) (b : Blk) (hm : HeadMax n) (hc : StoredClosed n)
    (hb : n.blk b.id = some b) : (checkKnown n b).isSome ↔ KnownFull n b := by
  rw [checkKnown_isSome_iff]
  exact ⟨fun h => h.2, fun h => ⟨knownFull_work_le n b hm hc hb h, h⟩⟩

theorem validateHeader_split (p : Params) (n : Node) (b : Blk) :
    validateHeader p n b = (match validateHeaderPre p n b with
      | some e => some e
      | none => hasTag b "hdr:") := by
  -- the two are the same chain of rules; `validateHeader` goes on to the tag
  have hF : ∀ (c : Prop) [Decidable c] (a : Err) (r : Option Err),
      (match (if c then some a else r) with | some e => some e | none => hasTag b "hdr:") =
      if c then some a else (match r with | some e => some e | none => hasTag b "hdr:") := by
    intro c _ a r
    by_cases h : c
    · rw [if_pos h, if_pos h]
    · rw [if_neg h, if_neg h]
  unfold validateHeader validateHeaderPre
  cases b.parent with
  | none => rfl
  | some par =>
    simp only [hF]
    cases n.blk par with
    | none => rfl
    | some pb =>
      simp only [hF]
      cases hasTag b "hdr:" <;> rfl

theorem forkDenied_nil (n : Node) (x : Nat) : forkDenied [] n x = false := by
  simp [forkDenied]

theorem processHeaderK_def (p : Params) (deny : List Nat) (n : Node) (b : Blk) :
    processHeaderK p deny n b =
      if (checkKnown n b).isSome then .ok n else
      match b.parent with
      | none => .error "StoreErr"
      | some par =>
      if !n.headers.contains par then .error "StoreErr" else
      if n.headers.contains b.id ∧ ¬ (b.work > n.workOf n.hhead) then .ok n else
      if deny.contains b.id then .error "Block" else
      match validateHeaderPre p n b with
      | some e => .error e
      | none =>
      if forkDenied deny n par then .error "Block" else
      match hasTag b "hdr:" with
      | some e => .error e
      | none => .ok (hdrUpdate n b) := rfl

theorem processHeaderK_ok_cases (p : Params) (deny : List Nat) (n n' : Node) (b : Blk)
    (h : processHeaderK p deny n b = .ok n') :
    (n' = n ∧ ((checkKnown n b).isSome ∨ (b.id ∈ n.headers ∧ ¬ b.work > n.workOf n.hhead))) ∨
    (n' = hdrUpdate n b ∧ (checkKnown n b).isSome = false ∧ deny.contains b.id = false ∧
      ∃ par, b.parent = some par ∧ par ∈ n.headers ∧ forkDenied deny n par = false) := by
  rw [processHeaderK_def] at h
  by_cases hk : (checkKnown n b).isSome
  · rw [if_pos hk] at h
    exact .inl ⟨(Except.ok.inj h).symm, .inl hk⟩
  · rw [if_neg hk] at h
    cases hpar : b.parent with
    | none => rw [hpar] at h; cases h
    | some par =>
      rw [hpar] at h
      simp only [ite_eq_iff_of_ne, ne_eq, reduceCtorEq, not_false_eq_true] at h
      obtain ⟨hm, h⟩ := h
      by_cases hs : n.headers.contains b.id ∧ ¬ b.work > n.workOf n.hhead
      · rw [if_pos hs] at h
        exact .inl ⟨(Except.ok.inj h).symm, .inr ⟨by simpa using hs.1, hs.2⟩⟩
      · rw [if_neg hs] at h
        simp only [ite_eq_iff_of_ne, ne_eq, reduceCtorEq, not_false_eq_true] at h
        obtain ⟨hd, h⟩ := h
        cases hpre : validateHeaderPre p n b with
        | some e => rw [hpre] at h; cases h
        | none =>
          rw [hpre] at h
          simp only [ite_eq_iff_of_ne, ne_eq, reduceCtorEq, not_false_eq_true] at h
          cases ht : hasTag b "hdr:" with
          | some e => rw [ht] at h; cases h.2
          | none =>
            rw [ht] at h
            exact .inr ⟨(Except.ok.inj h.2).symm, by simpa using hk, by simpa using hd, par, rfl,
              by simpa using hm, by simpa using h.1⟩

theorem processHeaderK_nil (p : Params) (n : Node) (b : Blk) :
    processHeaderK p [] n b =
      if (checkKnown n b).isSome then .ok n else
      match b.parent with
      | none => .error "StoreErr"
      | some par =>
      if !n.headers.contains par then .error "StoreErr" else
      if n.headers.contains b.id ∧ ¬ (b.work > n.workOf n.hhead) then .ok n else
      match validateHeader p n b with
      | some e => .error e
      | none => .ok (hdrUpdate n b) := by
  rw [processHeaderK_def, validateHeader_split]
  cases b.parent with
  | none => rfl
  | some par =>
    simp only [forkDenied_nil, List.contains_nil, Bool.false_eq_true, if_false]
    cases validateHeaderPre p n b with
    | some e => rfl
    | none => cases hasTag b "hdr:" <;> rfl

theorem processHeaderK_frame (p : Params) (deny : List Nat) (n n' : Node) (b : Blk)
    (h : processHeaderK p deny n b = .ok n') :
    n'.head = n.head ∧ n'.stored = n.stored ∧ n'.blks = n.blks ∧ n'.orphans = n.orphans ∧ n'.outs = n.outs := by
  rcases processHeaderK_ok_cases p deny n n' b h with ⟨rfl, _⟩ | ⟨rfl, _⟩ <;> exact ⟨rfl, rfl, rfl, rfl, rfl⟩

theorem _root_.GV.Chain.CoreEq.of_headerK {p : Params} {deny : List Nat} {n n' : Node} {b : Blk}
    (h : processHeaderK p deny n b = .ok n') : CoreEq n' n := by
  rcases processHeaderK_ok_cases p deny n n' b h with ⟨rfl, _⟩ | ⟨rfl, _⟩ <;> exact ⟨rfl, rfl, rfl, rfl⟩

/-- a header that is not short-cut (not known as a full block; not in the header store, or above the
header head) and that is denied, or whose parent's fork headers hold a denied one, is refused: the
block step returns the node it was given -/
theorem denied_refused {p : Params} {deny : List Nat} {n : Node} {b : Blk} (hk : checkKnown n b = none)
    (hu : b.id ∉ n.headers ∨ b.work > n.workOf n.hhead)
    (hd : deny.contains b.id = true ∨ ∃ par, b.parent = some par ∧ forkDenied deny n par = true) :
    ∃ e, processBlockSingleK p deny n b = (n, .err e, none) := by
  cases hh : processHeaderK p deny n b with
  | error e => exact ⟨e, by unfold processBlockSingleK; rw [hh]⟩
  | ok n' =>
    exfalso
    rcases processHeaderK_ok_cases p deny n n' b hh with ⟨_, hs | hs⟩ | ⟨_, _, hd', par', hpar', _, hfd'⟩
    · rw [hk] at hs; cases hs
    · exact hu.elim (fun h => h hs.1) hs.2
    · rcases hd with hd | ⟨par, hpar, hfd⟩
      · rw [hd] at hd'; cases hd'
      · cases hpar.symm.trans hpar'
        rw [hfd] at hfd'; cases hfd'

theorem checkKnown_none_of_more_work (n : Node) (b : Blk) (h : b.work > n.workOf n.head) :
    checkKnown n b = none := by
  unfold checkKnown
  rw [if_neg (by omega)]

theorem processHeaderK_ok_of_valid (p : Params) (n : Node) (b : Blk)
    (hv : validateHeader p n b = none) : ∃ n1, processHeaderK p [] n b = .ok n1 := by
  obtain ⟨_, par, hpar, hph⟩ := (validateHeader_none_iff p n b).mp hv
  rw [processHeaderK_nil, hpar, hv]
  simp only [if_neg (show ¬ (!n.headers.contains par) = true by simpa using hph)]
  split
  · exact ⟨_, rfl⟩
  · split <;> exact ⟨_, rfl⟩

end GV.Props.C03Known
