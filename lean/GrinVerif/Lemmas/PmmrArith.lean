import GrinVerif.Model.Pmmr
/-! The binary digits behind `mmr n = 2n - popcount n` (C07; used by C08, C15, C16): `popcount` and
`trailingOnes` digit by digit and over a split `a·2^k + m`, `mmr` additive over such a split,
`mmr (n+1) = mmr n + 1 + trailingOnes n`, and what the greedy peak subtraction of `peak_map_height`
returns (`greedy_spec`).  Core Lean only.  The lemmas other domains use unqualified are in `GV.Pmmr`
(the second block), the rest in `GV.Pmmr.Co`; `Co.two_mul_eq_mmr_add`, `Co.mmr_split`,
`Co.mmr_mul_pow` stand in the second block because they need `popcount_le`. -/

namespace GV.Pmmr.Co
open GV GV.Pmmr

theorem two_pow_succ (h : Nat) : 2^(h+1) = 2 * 2^h := Nat.pow_succ'

theorem mul_two_pow_succ (a k : Nat) : a * 2^(k+1) = 2 * a * 2^k := by
  rw [two_pow_succ, ← Nat.mul_assoc, Nat.mul_comm a 2]

theorem binary_cases (n : Nat) : (∃ a, n = 2 * a) ∨ (∃ a, n = 2 * a + 1) := by
  rcases Nat.mod_two_eq_zero_or_one n with h | h
  · exact Or.inl ⟨n / 2, by omega⟩
  · exact Or.inr ⟨n / 2, by omega⟩

theorem binary_induction {motive : Nat → Prop} (zero : motive 0)
    (even : ∀ a, 0 < a → motive a → motive (2 * a)) (odd : ∀ a, motive a → motive (2 * a + 1))
    (n : Nat) : motive n := by
  induction n using Nat.strongRecOn with
  | _ n ih =>
    rcases binary_cases n with ⟨a, rfl⟩ | ⟨a, rfl⟩
    · cases a with
      | zero => exact zero
      | succ a => exact even _ (Nat.succ_pos a) (ih _ (by omega))
    · exact odd a (ih a (by omega))

theorem popcount_div_two (n : Nat) : popcount n = n % 2 + popcount (n / 2) := by
  cases n with
  | zero => simp [popcount]
  | succ n => rw [popcount]

theorem popcount_one : popcount 1 = 1 := by simp [popcount]

theorem popcount_two_mul (a : Nat) : popcount (2*a) = popcount a := by
  rw [popcount_div_two, Nat.mul_mod_right, Nat.mul_div_cancel_left a (by decide), Nat.zero_add]

theorem popcount_two_mul_add_one (a : Nat) : popcount (2*a+1) = popcount a + 1 := by
  rw [popcount_div_two, Nat.mul_add_mod, Nat.mul_add_div (by decide), Nat.add_comm]
  rfl

theorem trailingOnes_div_two (n : Nat) :
    trailingOnes n = if n % 2 = 1 then 1 + trailingOnes (n / 2) else 0 := by
  cases n with
  | zero => simp [trailingOnes]
  | succ n => rw [trailingOnes]

theorem trailingOnes_two_mul (a : Nat) : trailingOnes (2*a) = 0 := by
  rw [trailingOnes_div_two, Nat.mul_mod_right, if_neg (by decide)]

theorem trailingOnes_two_mul_add_one (a : Nat) : trailingOnes (2*a+1) = trailingOnes a + 1 := by
  rw [trailingOnes_div_two, Nat.mul_add_mod, if_pos (by decide), Nat.mul_add_div (by decide), Nat.add_comm]
  rfl

theorem popcount_split (k : Nat) : ∀ a m, m < 2^k → popcount (a * 2^k + m) = popcount a + popcount m := by
  induction k with
  | zero =>
    intro a m hm
    have : m = 0 := by simpa using hm
    subst this; simp [popcount]
  | succ k ih =>
    intro a m hm
    rw [two_pow_succ] at hm
    rw [mul_two_pow_succ, Nat.mul_assoc]
    rcases binary_cases m with ⟨m', rfl⟩ | ⟨m', rfl⟩
    · rw [← Nat.mul_add, popcount_two_mul, popcount_two_mul, ih a m' (by omega)]
    · rw [← Nat.add_assoc, ← Nat.mul_add, popcount_two_mul_add_one, popcount_two_mul_add_one,
        ih a m' (by omega)]
      rfl

theorem popcount_mul_pow (k a : Nat) : popcount (a * 2^k) = popcount a := by
  have := popcount_split k a 0 (Nat.two_pow_pos k)
  simpa [popcount] using this

end GV.Pmmr.Co

namespace GV.Pmmr
open GV GV.Pmmr.Co

theorem popcount_le (n : Nat) : popcount n ≤ n := by
  induction n using binary_induction with
  | zero => simp [popcount]
  | even a _ ih => rw [popcount_two_mul]; omega
  | odd a ih => rw [popcount_two_mul_add_one]; omega

theorem trailingOnes_le_popcount (n : Nat) : trailingOnes n ≤ popcount n := by
  induction n using binary_induction with
  | zero => simp [trailingOnes]
  | even a _ _ => rw [trailingOnes_two_mul]; exact Nat.zero_le _
  | odd a ih => rw [trailingOnes_two_mul_add_one, popcount_two_mul_add_one]; omega

theorem le_mmr (n : Nat) : n ≤ mmr n := by
  have := popcount_le n
  unfold mmr; omega

theorem Co.two_mul_eq_mmr_add (n : Nat) : 2 * n = mmr n + popcount n := by
  have := popcount_le n
  unfold mmr; omega

theorem Co.mmr_split (k a m : Nat) (h : m < 2^k) : mmr (a * 2^k + m) = mmr (a * 2^k) + mmr m := by
  have h1 := two_mul_eq_mmr_add (a * 2^k + m)
  have h2 := two_mul_eq_mmr_add (a * 2^k)
  have h3 := two_mul_eq_mmr_add m
  rw [popcount_split k a m h] at h1
  rw [popcount_mul_pow] at h2
  omega

theorem Co.mmr_mul_pow (a h : Nat) : mmr (a * 2^h) + popcount a = 2 * (a * 2^h) := by
  have h1 := two_mul_eq_mmr_add (a * 2^h)
  rw [popcount_mul_pow] at h1
  omega

theorem mmr_add_pow (k m : Nat) (h : m < 2^k) : mmr (2^k + m) = (2^(k+1) - 1) + mmr m := by
  have h1 := mmr_split k 1 m h
  have h2 := mmr_mul_pow 1 k
  rw [Nat.one_mul] at h1 h2
  have hp := two_pow_succ k
  have := popcount_one
  omega

theorem trailingOnes_add_mul (k a m : Nat) (h : m < 2^k) :
    trailingOnes (a * 2^(k+1) + m) = trailingOnes m := by
  induction k generalizing m with
  | zero =>
    have : m = 0 := by simpa using h
    subst this
    rw [Nat.add_zero, mul_two_pow_succ, Nat.mul_assoc, trailingOnes_two_mul]
    simp [trailingOnes]
  | succ k ih =>
    rw [two_pow_succ] at h
    rw [mul_two_pow_succ, Nat.mul_assoc]
    rcases binary_cases m with ⟨m', rfl⟩ | ⟨m', rfl⟩
    · rw [← Nat.mul_add, trailingOnes_two_mul, trailingOnes_two_mul]
    · rw [← Nat.add_assoc, ← Nat.mul_add, trailingOnes_two_mul_add_one, trailingOnes_two_mul_add_one,
        ih m' (by omega)]

/-- the greedy peak subtraction recovers the (leaf count, height) coordinates -/
theorem greedy_spec (k : Nat) : ∀ (m pm h : Nat), m < 2^k → h ≤ trailingOnes (pm * 2^k + m) →
    greedy k (mmr m + h) pm = (pm * 2^k + m, h) := by
  induction k with
  | zero =>
    intro m pm h hm _
    have : m = 0 := by simpa using hm
    subst this
    simp [greedy, mmr, popcount]
  | succ k ih =>
    intro m pm h hm hh
    have hp := two_pow_succ k
    rw [greedy]
    by_cases hb : 2^k ≤ m
    · obtain ⟨m', rfl⟩ := Nat.exists_eq_add_of_le hb
      have hm' : m' < 2^k := by omega
      have hn : (2*pm+1) * 2^k + m' = pm * 2^(k+1) + (2^k + m') := by
        rw [mul_two_pow_succ, Nat.add_one_mul, Nat.add_assoc]
      rw [mmr_add_pow k m' hm', Nat.add_assoc, if_pos (Nat.le_add_right _ _),
        Nat.add_sub_cancel_left, ← hn]
      rw [← hn] at hh
      exact ih m' (2*pm+1) h hm' hh
    · have hm' : m < 2^k := Nat.lt_of_not_le hb
      rw [mul_two_pow_succ] at hh ⊢
      have hle : h ≤ popcount m := by
        rw [← mul_two_pow_succ, trailingOnes_add_mul k pm m hm'] at hh
        exact Nat.le_trans hh (trailingOnes_le_popcount m)
      have h2 := two_mul_eq_mmr_add m
      rw [if_neg (by omega)]
      exact ih m (2*pm) h hm' hh

theorem lt_two_pow_bitLen (n : Nat) : n < 2^(bitLen n) := by
  induction n using Nat.strongRecOn with
  | _ n ih =>
    cases n with
    | zero => simp [bitLen]
    | succ m =>
      rw [bitLen, Nat.add_comm 1, two_pow_succ]
      have := ih ((m+1)/2) (by omega)
      omega

theorem popcount_succ (n : Nat) : popcount (n+1) + trailingOnes n = popcount n + 1 := by
  induction n using binary_induction with
  | zero => simp [popcount, trailingOnes]
  | even a _ _ => rw [popcount_two_mul_add_one, trailingOnes_two_mul, popcount_two_mul]
  | odd a ih =>
    rw [show 2 * a + 1 + 1 = 2 * (a + 1) from rfl, popcount_two_mul, trailingOnes_two_mul_add_one,
      popcount_two_mul_add_one]
    omega

theorem mmr_succ (n : Nat) : mmr (n+1) = mmr n + 1 + trailingOnes n := by
  have h1 := popcount_succ n
  have h2 := two_mul_eq_mmr_add n
  have h3 := two_mul_eq_mmr_add (n+1)
  omega

end GV.Pmmr
