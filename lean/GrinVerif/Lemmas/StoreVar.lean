import GrinVerif.Lemmas.StoreHistory
/-! The variable-size data file (`AppendOnlyFile<T>` with `SizeInfo::VariableSize(size_file)`,
`store/src/types.rs`; in the node: the kernel MMR's `pmmr_data.bin` + `pmmr_size.bin`) refines the
element-level file `AOF Bytes`.

`VarFile.Rep el v f`: the byte-level file `v` (data bytes, byte buffer, its size file with
`(offset, size)` entries, both `buffer_start_pos` / `_bak` pairs) represents the element-level file
`f` whose elements are byte strings.  Every operation of `types.rs` on `v` is the same operation on
`f`: `append`, `read_as_elmt`, `rewind`, `flush` (incl. the `set_len` truncation computed from the
size entry `buffer_start_pos - 1` of the ALREADY FLUSHED size file), `discard`, compaction
(`write_tmp_pruned` + `replace_with_tmp` + `rebuild_size_file`), and reopen (`open`, with or
without a usable size file).  Second part: along every protocol-respecting history the backend
with such a data file simulates the fixed-size one.  No Mathlib. -/
namespace GV.Store
open GV

namespace VarFile

/-- the reader `el` (bytes consumed by `T::read`) reads exactly `e` from any stream that starts
with `e`, and `e` is not empty: what `T::write` followed by `T::read` guarantees for a type whose
encoding is self-delimiting (every `Writeable` stored in a data file). -/
def Delim (el : Bytes → Option Nat) (e : Bytes) : Prop :=
  (e ≠ [] ∧ e.length < 65536) ∧ ∀ rest, el (e ++ rest) = some e.length

theorem sizeEntries_length : ∀ (l : List Bytes) (off : Nat), (sizeEntries off l).length = l.length
  | [], _ => rfl
  | e :: es, off => by simp [sizeEntries, sizeEntries_length es]

theorem sizeEntriesW_eq : ∀ (l : List Bytes) (off : Nat), (∀ e ∈ l, e.length < 65536) →
    sizeEntriesW off l = sizeEntries off l
  | [], _, _ => rfl
  | e :: es, off, h => by
    have he : u16 e.length = e.length := Nat.mod_eq_of_lt (h e (by simp))
    simp only [sizeEntriesW, sizeEntries, he, sizeEntriesW_eq es _ (fun x hx => h x (by simp [hx]))]

theorem sizeEntries_append : ∀ (a b : List Bytes) (off : Nat),
    sizeEntries off (a ++ b) = sizeEntries off a ++ sizeEntries (off + a.flatten.length) b
  | [], b, off => by simp [sizeEntries]
  | e :: es, b, off => by
    simp only [List.cons_append, sizeEntries, List.flatten_cons, List.length_append,
      sizeEntries_append es b, List.cons.injEq, true_and]
    rw [Nat.add_assoc]

theorem sizeEntries_take : ∀ (l : List Bytes) (off n : Nat),
    (sizeEntries off l).take n = sizeEntries off (l.take n)
  | [], _, n => by simp [sizeEntries]
  | e :: es, off, 0 => by simp [sizeEntries]
  | e :: es, off, n+1 => by simp [sizeEntries, sizeEntries_take es]

theorem sizeEntries_getElem? : ∀ (l : List Bytes) (off i : Nat),
    (sizeEntries off l)[i]? = l[i]?.map fun e => (off + (l.take i).flatten.length, e.length)
  | [], _, i => by simp [sizeEntries]
  | e :: es, off, 0 => by simp [sizeEntries]
  | e :: es, off, i+1 => by
    simp only [sizeEntries, List.getElem?_cons_succ, sizeEntries_getElem? es, List.take_succ_cons,
      List.flatten_cons, List.length_append]
    cases es[i]? with
    | none => rfl
    | some x => simp only [Option.map_some]; rw [Nat.add_assoc]

theorem slice_flatten (l : List Bytes) (i : Nat) (e : Bytes) (h : l[i]? = some e) :
    slice l.flatten (l.take i).flatten.length e.length = e := by
  have hi : i < l.length := by
    rcases Nat.lt_or_ge i l.length with h' | h'
    · exact h'
    · rw [List.getElem?_eq_none h'] at h; exact absurd h (by simp)
  have hl : l = l.take i ++ e :: l.drop (i + 1) := by
    have h1 : l.drop i = e :: l.drop (i + 1) := by
      rw [List.drop_eq_getElem_cons hi]
      rw [List.getElem?_eq_getElem hi] at h
      injection h with h; rw [h]
    calc l = l.take i ++ l.drop i := (List.take_append_drop i l).symm
      _ = _ := by rw [h1]
  have hf : l.flatten = (l.take i).flatten ++ (e ++ (l.drop (i + 1)).flatten) := by
    conv => lhs; rw [hl]
    simp
  unfold slice
  rw [hf]
  have hlen : ¬ ((l.take i).flatten ++ (e ++ (l.drop (i + 1)).flatten)).length <
      (l.take i).flatten.length + e.length := by
    simp only [List.length_append]; omega
  rw [if_neg hlen, List.drop_left, List.take_left]

theorem parseAll_flatten (el : Bytes → Option Nat) : ∀ (E : List Bytes) (fuel : Nat),
    (∀ e ∈ E, Delim el e) → E.length ≤ fuel → parseAll el fuel E.flatten = E
  | [], fuel, _, _ => by
    cases fuel with
    | zero => rfl
    | succ n =>
      simp only [List.flatten_nil, parseAll]
      cases el [] with
      | none => rfl
      | some k =>
        simp
  | e :: es, 0, _, hl => by simp at hl
  | e :: es, fuel+1, hd, hl => by
    obtain ⟨⟨hne, _⟩, hr⟩ := hd e (by simp)
    have hpos : 0 < e.length := List.length_pos_iff.2 hne
    simp only [List.flatten_cons, parseAll, hr]
    have h1 : ¬ (e.length = 0 ∨ (e ++ es.flatten).length < e.length) := by
      simp only [List.length_append]; omega
    rw [if_neg h1, List.take_left, List.drop_left,
      parseAll_flatten el es fuel (fun x hx => hd x (by simp [hx])) (by simpa using hl)]

theorem length_le_flatten : ∀ (E : List Bytes), (∀ e ∈ E, e ≠ []) → E.length ≤ E.flatten.length
  | [], _ => by simp
  | e :: es, h => by
    have hpos : 0 < e.length := List.length_pos_iff.2 (h e (by simp))
    have := length_le_flatten es (fun x hx => h x (by simp [hx]))
    simp only [List.length_cons, List.flatten_cons, List.length_append]; omega

theorem parseAll_disk (el : Bytes → Option Nat) (E : List Bytes) (hd : ∀ e ∈ E, Delim el e) :
    parseAll el (E.flatten.length + 1) E.flatten = E :=
  parseAll_flatten el E _ hd (by
    have := length_le_flatten E (fun e he => (hd e he).1.1); omega)

theorem flatten_eq_nil_of_delim {el : Bytes → Option Nat} {E : List Bytes}
    (hd : ∀ e ∈ E, Delim el e) (h : E.flatten.length = 0) : E = [] := by
  have := length_le_flatten E (fun e he => (hd e he).1.1)
  exact List.eq_nil_of_length_eq_zero (by omega)

/-- `v` (bytes + size file) represents the element-level file `f` -/
structure Rep (el : Bytes → Option Nat) (v : VarFile) (f : AOF Bytes) : Prop where
  delimDisk : ∀ e ∈ f.disk, Delim el e
  delimBuf : ∀ e ∈ f.buffer, Delim el e
  disk : v.disk = f.disk.flatten
  buffer : v.buffer = f.buffer.flatten
  bsp : v.bsp = f.bsp
  bak : v.bak = f.bak
  sfDisk : v.sizeFile.disk = sizeEntries 0 f.disk
  /-- the size entries of the buffered elements continue at the byte offset the file is (or will
  be, after the truncation of a rewound state) long -/
  sfBuffer : v.sizeFile.buffer = sizeEntries (f.disk.take f.bsp).flatten.length f.buffer
  sfBsp : v.sizeFile.bsp = f.bsp
  sfBak : v.sizeFile.bak = f.bak
  le : f.bsp ≤ f.disk.length
  bak0 : f.bak = 0 → f.bsp = f.disk.length
  bakPos : 0 < f.bak → f.bak = f.disk.length

theorem rep_empty (el : Bytes → Option Nat) : Rep el {} {} :=
  ⟨by simp, by simp, rfl, rfl, rfl, rfl, rfl, rfl, rfl, rfl, Nat.le_refl _, fun _ => rfl,
    fun h => absurd h (by simp)⟩

variable {el : Bytes → Option Nat} {v : VarFile} {f : AOF Bytes}

theorem Rep.wf (h : Rep el v f) : f.WF := ⟨h.le, h.bak0⟩

theorem Rep.inUnit (h : Rep el v f) : AOF.InUnit f.disk f := AOF.inUnit_iff.2 ⟨rfl, h.bak0, h.bakPos⟩

theorem Rep.sf_wf (h : Rep el v f) : v.sizeFile.WF :=
  ⟨by rw [h.sfBsp, h.sfDisk, sizeEntries_length]; exact h.le,
   fun h0 => by rw [h.sfBsp, h.sfDisk, sizeEntries_length]; exact h.bak0 (h.sfBak ▸ h0)⟩

theorem Rep.sf_view (h : Rep el v f) : v.sizeFile.view = sizeEntries 0 f.view := by
  unfold AOF.view
  rw [h.sfDisk, h.sfBuffer, h.sfBsp, sizeEntries_take, sizeEntries_append, Nat.zero_add]

theorem Rep.sf_read (h : Rep el v f) (pos : Nat) :
    v.sizeFile.read pos = f.view[pos]?.map fun e => ((f.view.take pos).flatten.length, e.length) := by
  rw [AOF.read_view h.sf_wf, h.sf_view, sizeEntries_getElem?, Nat.zero_add]

theorem Rep.sizeUnsync (h : Rep el v f) : sizeUnsyncInElmts v = f.sizeUnsyncInElmts := by
  unfold sizeUnsyncInElmts
  rw [← AOF.view_length h.sf_wf, h.sf_view, sizeEntries_length, AOF.view_length h.wf]

theorem Rep.size (h : Rep el v f) : sizeInElmts v = f.sizeInElmts := by
  unfold sizeInElmts AOF.sizeInElmts
  rw [h.sfDisk, sizeEntries_length]

theorem view_take_le (f : AOF Bytes) {pos : Nat} (hp : pos ≤ f.bsp) (hle : f.bsp ≤ f.disk.length) :
    f.view.take pos = f.disk.take pos := by
  unfold AOF.view
  rw [List.take_append_of_le_length (by rw [List.length_take]; omega), List.take_take,
    Nat.min_eq_left hp]

theorem Rep.sf_read_disk (h : Rep el v f) (pos : Nat) (hp : pos < f.bsp) :
    v.sizeFile.read pos = f.disk[pos]?.map fun e => ((f.disk.take pos).flatten.length, e.length) := by
  rw [h.sf_read, view_take_le f (Nat.le_of_lt hp) h.le]
  unfold AOF.view
  rw [List.getElem?_append_left (by rw [List.length_take]; have := h.le; omega),
    List.getElem?_take_of_lt hp]

theorem Rep.sf_read_buf (h : Rep el v f) (pos : Nat) (hp : f.bsp ≤ pos) :
    v.sizeFile.read pos = f.buffer[pos - f.bsp]?.map fun e =>
      ((f.disk.take f.bsp).flatten.length + (f.buffer.take (pos - f.bsp)).flatten.length, e.length) := by
  have hl : (f.disk.take f.bsp).length = f.bsp := by rw [List.length_take]; exact Nat.min_eq_left h.le
  rw [h.sf_read]
  unfold AOF.view
  rw [List.getElem?_append_right (by omega), List.take_append, hl, List.take_of_length_le (by omega),
    List.flatten_append, List.length_append]

theorem Delim.read_self {e : Bytes} (hd : Delim el e) :
    (match el e with
      | none => none
      | some n => if n = 0 ∨ e.length < n then none else some (e.take n)) = some e := by
  obtain ⟨⟨hne, _⟩, hr⟩ := hd
  have := hr []
  rw [List.append_nil] at this
  have hpos : 0 < e.length := List.length_pos_iff.2 hne
  rw [this]
  simp only [show ¬ (e.length = 0 ∨ e.length < e.length) by omega, if_false, List.take_length]

theorem Rep.read (h : Rep el v f) (pos : Nat) : VarFile.read el v pos = f.read pos := by
  unfold VarFile.read readBytes
  rw [h.sizeUnsync]
  unfold AOF.read
  by_cases hge : pos ≥ f.sizeUnsyncInElmts
  · rw [if_pos hge, if_pos hge]
    simp only
    cases hel : el [] with
    | none => rfl
    | some k =>
      simp
  · rw [if_neg hge, if_neg hge]
    have hlt : pos < f.bsp + f.buffer.length := by
      unfold AOF.sizeUnsyncInElmts at hge; omega
    unfold offsetAndSize
    by_cases hp : pos < f.bsp
    · rw [h.sf_read_disk pos hp, if_pos hp]
      have hpd : pos < f.disk.length := Nat.lt_of_lt_of_le hp h.le
      rw [List.getElem?_eq_getElem hpd]
      simp only [Option.map_some, h.bsp, if_pos hp, h.disk]
      have hs := slice_flatten f.disk pos f.disk[pos] (List.getElem?_eq_getElem hpd)
      rw [hs]
      exact (h.delimDisk f.disk[pos] (List.getElem_mem hpd)).read_self
    · have hp' : f.bsp ≤ pos := Nat.le_of_not_lt hp
      have hj : pos - f.bsp < f.buffer.length := by omega
      rw [h.sf_read_buf pos hp', if_neg hp, List.getElem?_eq_getElem hj]
      simp only [Option.map_some, h.bsp, if_neg hp]
      -- the buffer offset: the size entry at `buffer_start_pos`
      have hb0 := h.sf_read_buf f.bsp (Nat.le_refl _)
      rw [Nat.sub_self] at hb0
      have h00 : 0 < f.buffer.length := by omega
      rw [List.getElem?_eq_getElem h00] at hb0
      simp only [Option.map_some, List.take_zero, List.flatten_nil, List.length_nil,
        Nat.add_zero] at hb0
      rw [hb0]
      simp only [Nat.add_sub_cancel_left, h.buffer]
      have hs := slice_flatten f.buffer (pos - f.bsp) _ (List.getElem?_eq_getElem hj)
      rw [hs]
      exact (h.delimBuf _ (List.getElem_mem hj)).read_self

theorem Rep.read1 (h : Rep el v f) (position : Nat) : VarFile.read1 el v position = f.read1 position := by
  unfold VarFile.read1 AOF.read1
  split
  · rfl
  · exact h.read _

theorem flatten_take_last (l : List Bytes) (k : Nat) (hk : 0 < k) (hkl : k ≤ l.length) :
    (l.take (k - 1)).flatten.length + (l[k - 1]'(by omega)).length = (l.take k).flatten.length := by
  obtain ⟨i, rfl⟩ : ∃ i, k = i + 1 := ⟨k - 1, by omega⟩
  simp only [Nat.add_sub_cancel]
  rw [List.take_succ_eq_append_getElem (by omega)]
  simp only [List.flatten_append, List.length_append, List.flatten_cons, List.flatten_nil,
    List.append_nil]

theorem Rep.prev_entry (h : Rep el v f) (hnz : f.bsp + f.buffer.length ≠ 0) :
    ∃ o s, v.sizeFile.read (f.bsp + f.buffer.length - 1) = some (o, s) ∧
      o + s = (f.disk.take f.bsp).flatten.length + f.buffer.flatten.length := by
  have hl : f.view.length = f.bsp + f.buffer.length := AOF.view_length h.wf
  have hlt : f.bsp + f.buffer.length - 1 < f.view.length := by omega
  refine ⟨_, _, by rw [h.sf_read, List.getElem?_eq_getElem hlt]; rfl, ?_⟩
  have := flatten_take_last f.view (f.bsp + f.buffer.length) (by omega) (by omega)
  rw [this, ← hl, List.take_length]
  simp [AOF.view]

theorem Rep.append (h : Rep el v f) (e : Bytes) (he : Delim el e) :
    ∃ v', VarFile.append v e = some v' ∧ Rep el v' (f.append e) := by
  have hsu : v.sizeFile.sizeUnsyncInElmts = f.bsp + f.buffer.length := h.sizeUnsync
  have key : ∀ off, off = (f.disk.take f.bsp).flatten.length + f.buffer.flatten.length →
      Rep el { v with sizeFile := v.sizeFile.append (off, u16 e.length), buffer := v.buffer ++ e }
        (f.append e) := by
    have hu : u16 e.length = e.length := Nat.mod_eq_of_lt he.1.2
    intro off hoff
    refine ⟨h.delimDisk, ?_, h.disk, ?_, h.bsp, h.bak, h.sfDisk, ?_, h.sfBsp, h.sfBak, h.le, h.bak0,
      h.bakPos⟩
    · intro x hx
      simp only [AOF.append, List.mem_append, List.mem_singleton] at hx
      rcases hx with hx | hx
      · exact h.delimBuf x hx
      · rw [hx]; exact he
    · simp [AOF.append, h.buffer]
    · simp only [AOF.append, h.sfBuffer, sizeEntries_append, sizeEntries, hoff, hu]
  unfold VarFile.append
  dsimp only
  rw [hsu]
  by_cases hz : f.bsp + f.buffer.length = 0
  · rw [if_pos hz]
    refine ⟨_, rfl, key 0 ?_⟩
    have h1 : f.bsp = 0 := by omega
    have h2 : f.buffer = [] := List.eq_nil_of_length_eq_zero (by omega)
    simp [h1, h2]
  · rw [if_neg hz]
    obtain ⟨o, s, hr, hos⟩ := h.prev_entry hz
    rw [hr]
    exact ⟨_, rfl, key (o + s) hos⟩

theorem Rep.rewind (h : Rep el v f) (hb : f.buffer = []) (pos : Nat) (hp : pos ≤ f.disk.length) :
    Rep el (v.rewind pos) (f.rewind pos) := by
  have hvb : v.sizeFile.buffer = [] := by rw [h.sfBuffer, hb]; rfl
  have hu := AOF.inUnit_iff.1 (AOF.inUnit_apply h.inUnit (.rewind pos) hp)
  refine ⟨h.delimDisk, h.delimBuf, h.disk, h.buffer, rfl, ?_, h.sfDisk, ?_, rfl, ?_, hp,
    hu.2.1, hu.2.2⟩
  · simp only [VarFile.rewind, AOF.rewind, h.bak, h.bsp]
  · simp only [VarFile.rewind, AOF.rewind, hvb, hb]; rfl
  · simp only [VarFile.rewind, AOF.rewind, h.sfBak, h.sfBsp]

theorem Rep.discard (h : Rep el v f) : Rep el v.discard f.discard := by
  refine ⟨h.delimDisk, by simp [AOF.discard], h.disk, rfl, ?_, rfl, h.sfDisk, rfl, ?_, rfl, ?_, ?_, ?_⟩
  · simp only [VarFile.discard, AOF.discard, h.bak, h.bsp]
  · simp only [VarFile.discard, AOF.discard, h.sfBak, h.sfBsp]
  · simp only [AOF.discard]
    split
    · rw [h.bakPos (by assumption)]; exact Nat.le_refl _
    · exact h.le
  · intro _
    simp only [AOF.discard]
    split
    · exact h.bakPos (by assumption)
    · exact h.bak0 (by omega)
  · intro h0; simp [AOF.discard] at h0

theorem Rep.flush (h : Rep el v f) : Rep el v.flush f.flush := by
  have hfd : f.flush.disk = f.view := AOF.flush_of_wf h.wf
  have hsf : v.sizeFile.flush.disk = sizeEntries 0 f.flush.disk := by
    rw [AOF.flush_of_wf h.sf_wf, h.sf_view, hfd]
  have hdisk : v.flush.disk = f.flush.disk.flatten := by
    rw [hfd]
    unfold VarFile.flush AOF.view
    dsimp only
    rw [h.bak, h.bsp, h.buffer, List.flatten_append]
    congr 1
    by_cases hk : f.bak > 0
    · rw [if_pos hk]
      by_cases hz : f.bsp = 0
      · simp [hz]
      · rw [if_neg hz]
        -- entry `bsp - 1` of the flushed size file ends where the kept part of the data file ends
        have hlt : f.bsp - 1 < f.view.length := by
          rw [AOF.view_length h.wf]; unfold AOF.sizeUnsyncInElmts; omega
        rw [AOF.read_clean (AOF.flush_clean _), hsf, hfd, sizeEntries_getElem?,
          List.getElem?_eq_getElem hlt]
        simp only [Option.map_some, Nat.zero_add]
        rw [flatten_take_last f.view f.bsp (by omega) (by rw [AOF.view_length h.wf]; unfold AOF.sizeUnsyncInElmts; omega),
          view_take_le f (Nat.le_refl _) h.le, h.disk]
        have hd : f.disk.flatten = (f.disk.take f.bsp).flatten ++ (f.disk.drop f.bsp).flatten := by
          rw [← List.flatten_append, List.take_append_drop]
        rw [hd, List.take_left, List.length_append, Nat.sub_eq_zero_of_le (Nat.le_add_right _ _)]
        simp
    · rw [if_neg hk, h.disk, h.bak0 (by omega), List.take_length]
  refine ⟨?_, by simp [AOF.flush], hdisk, rfl, ?_, rfl, hsf, rfl, ?_, rfl, Nat.le_refl _, fun _ => rfl,
    fun h0 => absurd h0 (by simp [AOF.flush])⟩
  · intro e he
    simp only [AOF.flush, List.mem_append] at he
    rcases he with he | he
    · split at he
      · exact h.delimDisk e (List.mem_of_mem_take he)
      · exact h.delimDisk e he
    · exact h.delimBuf e he
  · show v.sizeFile.flush.sizeInElmts = f.flush.bsp
    unfold AOF.sizeInElmts
    rw [hsf, sizeEntries_length]; rfl
  · show v.sizeFile.flush.bsp = f.flush.bsp
    have : v.sizeFile.flush.bsp = v.sizeFile.flush.disk.length := rfl
    rw [this, hsf, sizeEntries_length]; rfl

theorem rep_init {E : List Bytes} (hd : ∀ e ∈ E, Delim el e) (v0 : VarFile)
    (h1 : v0.disk = E.flatten) (h2 : v0.sizeFile.disk = sizeEntries 0 E)
    (hb : v0.buffer = []) (hsb : v0.sizeFile.buffer = []) (hk : v0.bak = 0) (hsk : v0.sizeFile.bak = 0) :
    Rep el (init v0) (AOF.ofDisk E) := by
  have hlen : (init v0).bsp = E.length := by
    simp only [init, AOF.init, AOF.sizeInElmts, h1, h2, sizeEntries_length]
    split
    · rename_i h0
      rw [flatten_eq_nil_of_delim hd h0]; rfl
    · rfl
  refine ⟨hd, by simp [AOF.ofDisk], h1, by simp [init, hb, AOF.ofDisk], hlen, hk, h2, ?_, ?_, hsk,
    Nat.le_refl _, fun _ => rfl, fun h0 => absurd h0 (by simp [AOF.ofDisk])⟩
  · simp only [init, AOF.init, hsb, AOF.ofDisk]; rfl
  · simp only [init, AOF.init, h2, sizeEntries_length, AOF.ofDisk]

theorem rep_rebuild {E : List Bytes} (hd : ∀ e ∈ E, Delim el e) (v0 : VarFile)
    (h1 : v0.disk = E.flatten)
    (hb : v0.buffer = []) (hsb : v0.sizeFile.buffer = []) (hk : v0.bak = 0) (hsk : v0.sizeFile.bak = 0) :
    Rep el (init (rebuildSizeFile el v0)) (AOF.ofDisk E) := by
  apply rep_init hd
  · exact h1
  · simp only [rebuildSizeFile, h1, parseAll_disk el E hd, sizeEntriesW_eq E 0 (fun e he => (hd e he).1.2)]
  · exact hb
  · exact hsb
  · exact hk
  · exact hsk

/-- `open` with ANY size file: it is the one that belongs to `E`, or `open` notices the inconsistency
(`sum_sizes != file length`) and rebuilds it.  A size file with the right sum and wrong entries is
not noticed – the check is only the sum. -/
theorem rep_ofDisk {E : List Bytes} (hd : ∀ e ∈ E, Delim el e) (sizes : List SizeEntry)
    (hs : sizes = sizeEntries 0 E ∨
      sumSizes (init { disk := E.flatten, sizeFile := { disk := sizes } }).sizeFile ≠ E.flatten.length) :
    Rep el (ofDisk el E.flatten sizes) (AOF.ofDisk E) := by
  unfold ofDisk
  simp only
  split
  · have := rep_rebuild (el := el) hd (init { disk := E.flatten, sizeFile := { disk := sizes } })
      rfl rfl rfl rfl rfl
    exact this
  · rename_i hne
    rcases hs with hs | hs
    · exact rep_init hd _ rfl hs rfl rfl rfl rfl
    · exact absurd hs hne

theorem Rep.reopen (h : Rep el v f) : Rep el (ofDisk el v.disk v.sizeFile.disk) (AOF.ofDisk f.disk) := by
  rw [h.disk, h.sfDisk]
  exact rep_ofDisk h.delimDisk _ (Or.inl rfl)

/-- compaction (`write_tmp_pruned` over the parsed element stream, `replace_with_tmp`,
`rebuild_size_file`, `init`) of a synced file -/
theorem Rep.compact (h : Rep el v f) (hc : f.Clean) (idx : List Nat) :
    Rep el (replaceWith el v (writeTmpPruned el v idx)) (f.replaceWith (f.writeTmpPruned idx)) := by
  obtain ⟨c1, c2, c3⟩ := hc
  have hE : ∀ e ∈ AOF.writeTmpLoop f.disk 0 idx, Delim el e :=
    fun e he => h.delimDisk e (AOF.mem_writeTmpLoop _ _ _ e he)
  have hw : writeTmpPruned el v idx = (AOF.writeTmpLoop f.disk 0 idx).flatten := by
    simp only [writeTmpPruned, h.disk, parseAll_disk el f.disk h.delimDisk]
  have hR : f.replaceWith (f.writeTmpPruned idx) = AOF.ofDisk (AOF.writeTmpLoop f.disk 0 idx) := by
    simp only [AOF.replaceWith, AOF.init, AOF.writeTmpPruned, AOF.ofDisk, c1, c2]
  rw [hR, replaceWith, hw]
  apply rep_rebuild hE
  · rfl
  · show v.buffer = []
    rw [h.buffer, c1]; rfl
  · show v.sizeFile.buffer = []
    rw [h.sfBuffer, c1]; rfl
  · show v.bak = 0
    rw [h.bak, c2]
  · show v.sizeFile.bak = 0
    rw [h.sfBak, c2]

end VarFile

open GV.Pmmr GV.Pmmr.Co

/-- `pv` is `pf` with the element-level data file `f` replaced by a represented `VarFile` -/
def PSim {H : Type} (el : Bytes → Option Nat) (pv pf : PM H) : Prop :=
  ∃ v f, pf.b.dataFile = .fixed f ∧ VarFile.Rep el v f ∧
    pv = { b := { pf.b with dataFile := .var v }, size := pf.size }

namespace PSim
variable {H : Type} {el : Bytes → Option Nat} {hf : HashFn Bytes H} {pv pf : PM H}

theorem size (h : PSim el pv pf) : pv.size = pf.size := by
  obtain ⟨v, f, _, _, e⟩ := h; rw [e]

theorem hashFile (h : PSim el pv pf) : pv.b.hashFile = pf.b.hashFile := by
  obtain ⟨v, f, _, _, e⟩ := h; rw [e]

theorem leafSet (h : PSim el pv pf) : pv.b.leafSet = pf.b.leafSet := by
  obtain ⟨v, f, _, _, e⟩ := h; rw [e]

theorem pruneList (h : PSim el pv pf) : pv.b.pruneList = pf.b.pruneList := by
  obtain ⟨v, f, _, _, e⟩ := h; rw [e]

theorem pruneFile (h : PSim el pv pf) : pv.b.pruneFile = pf.b.pruneFile := by
  obtain ⟨v, f, _, _, e⟩ := h; rw [e]

theorem getFromFile (h : PSim el pv pf) : pv.b.getFromFile = pf.b.getFromFile := by
  obtain ⟨v, f, _, _, e⟩ := h; rw [e]; rfl

theorem getPeakFromFile (h : PSim el pv pf) : pv.b.getPeakFromFile = pf.b.getPeakFromFile := by
  obtain ⟨v, f, _, _, e⟩ := h; rw [e]; rfl

theorem unprunedSize (h : PSim el pv pf) : pv.b.unprunedSize = pf.b.unprunedSize := by
  obtain ⟨v, f, _, _, e⟩ := h; rw [e]; rfl

theorem getHash (h : PSim el pv pf) : PM.getHash pv = PM.getHash pf := by
  obtain ⟨v, f, _, _, e⟩ := h; rw [e]; rfl

theorem root (h : PSim el pv pf) : PM.root hf pv = PM.root hf pf := by
  obtain ⟨v, f, _, _, e⟩ := h; rw [e]; rfl

theorem merkleProof (h : PSim el pv pf) (q : Nat) : PM.merkleProof hf pv q = PM.merkleProof hf pf q := by
  obtain ⟨v, f, _, _, e⟩ := h; rw [e]; rfl

theorem getData (h : PSim el pv pf) (q : Nat) : PM.getData el pv q = PM.getData el pf q := by
  obtain ⟨v, f, hd, hr, e⟩ := h
  rw [e]
  unfold PM.getData Backend.getData Backend.getDataFromFile
  have h1 : ∀ pos, DFile.read1 el (.var v) pos = DFile.read1 el pf.b.dataFile pos := by
    intro pos
    rw [hd]
    exact hr.read1 pos
  simp only [h1]
  rfl

theorem push (h : PSim el pv pf) (e : Bytes) (he : VarFile.Delim el e) :
    PSim el (bstep el hf pv (.push e)) (bstep el hf pf (.push e)) := by
  obtain ⟨v, f, hd, hr, e0⟩ := h
  obtain ⟨v', ha, hr'⟩ := hr.append e he
  subst e0
  -- `push` reads the backend through `get_peak_from_file` (hash file, prune list) and appends
  show PSim el ((PM.push hf _ e).getD _) ((PM.push hf _ e).getD _)
  unfold PM.push
  simp only [show ({ pf.b with dataFile := DFile.var v } : Backend H).getPeakFromFile =
    pf.b.getPeakFromFile from rfl]
  cases pushHashes hf pf.b.getPeakFromFile pf.size e with
  | none => exact ⟨v, f, hd, hr, rfl⟩
  | some hashes =>
    have hsz : VarFile.sizeUnsyncInElmts v' = (f.append e).sizeUnsyncInElmts := hr'.sizeUnsync
    simp only [Backend.append, hd, DFile.append, ha, hsz, Option.getD_some]
    exact ⟨v', f.append e, rfl, hr', rfl⟩

theorem prune (h : PSim el pv pf) (pos : Nat) :
    PSim el (bstep el hf pv (.prune pos)) (bstep el hf pf (.prune pos)) := by
  obtain ⟨v, f, hd, hr, e0⟩ := h
  subst e0
  simp only [bstep, PM.prune]
  have hgh : ({ pf.b with dataFile := DFile.var v } : Backend H).getHash pos = pf.b.getHash pos := rfl
  rw [hgh]
  by_cases hl : isLeaf pos
  · simp only [hl, Bool.not_true, Bool.false_eq_true, if_false]
    cases pf.b.getHash pos with
    | none => exact ⟨v, f, hd, hr, rfl⟩
    | some _ => exact ⟨v, f, hd, hr, rfl⟩
  · simp only [hl, Bool.not_false, if_true]
    exact ⟨v, f, hd, hr, rfl⟩

theorem rewind (h : PSim el pv pf) (N' : Nat) (rm : Bitmap)
    (hbuf : ∀ f, pf.b.dataFile = .fixed f → f.buffer = [])
    (hpos : ∀ f, (bstep el hf pf (.rewind N' rm)).b.dataFile = .fixed f → f.bsp ≤ f.disk.length) :
    PSim el (bstep el hf pv (.rewind N' rm)) (bstep el hf pf (.rewind N' rm)) := by
  obtain ⟨v, f, hd, hr, e0⟩ := h
  subst e0
  have hb := hbuf f hd
  have hstep : (bstep el hf pf (.rewind N' rm)).b.dataFile =
      .fixed (f.rewind (nLeaves (roundUpToLeafPos (mmr N')) -
        (if roundUpToLeafPos (mmr N') = 0 then 0
         else pf.b.pruneList.getLeafShift (roundUpToLeafPos (mmr N'))))) := by
    simp only [bstep, PM.rewind, Backend.rewind, hd, DFile.rewind]
  have hp := hpos _ hstep
  refine ⟨_, _, hstep, hr.rewind hb _ hp, ?_⟩
  simp only [bstep, PM.rewind, Backend.rewind, DFile.rewind]

theorem sync (h : PSim el pv pf) : PSim el (bstep el hf pv .sync) (bstep el hf pf .sync) := by
  obtain ⟨v, f, hd, hr, e0⟩ := h
  subst e0
  refine ⟨v.flush, f.flush, ?_, hr.flush, ?_⟩
  · simp only [bstep, Backend.sync, hd, DFile.flush]
  · simp only [bstep, Backend.sync, DFile.flush]

theorem discard (h : PSim el pv pf) : PSim el (bstep el hf pv .discard) (bstep el hf pf .discard) := by
  obtain ⟨v, f, hd, hr, e0⟩ := h
  subst e0
  refine ⟨v.discard, f.discard, ?_, hr.discard, ?_⟩
  · simp only [bstep, Backend.discard, hd, DFile.discard]
  · simp only [bstep, Backend.discard, DFile.discard]
    rfl

theorem compact (h : PSim el pv pf) (K : Nat) (rm : Bitmap)
    (hclean : ∀ f, pf.b.dataFile = .fixed f → f.Clean) :
    PSim el (bstep el hf pv (.compact K rm)) (bstep el hf pf (.compact K rm)) := by
  obtain ⟨v, f, hd, hr, e0⟩ := h
  subst e0
  have hc := hclean f hd
  -- `pos_to_rm` reads leaf set and prune list only
  simp only [bstep, Backend.checkCompact,
    show ({ pf.b with dataFile := DFile.var v } : Backend H).posToRm (mmr K) rm =
      pf.b.posToRm (mmr K) rm from rfl, hd, DFile.compact]
  exact ⟨_, _, rfl, hr.compact hc _, rfl⟩

theorem reopen (h : PSim el pv pf) : PSim el (bstep el hf pv .reopen) (bstep el hf pf .reopen) := by
  obtain ⟨v, f, hd, hr, e0⟩ := h
  subst e0
  refine ⟨_, _, ?_, hr.reopen, ?_⟩
  · simp only [bstep, Backend.reopen, hd, DFile.reopen]
  · simp only [bstep, Backend.reopen, DFile.reopen]
    rfl

end PSim

/-- the side conditions of the file-level refinement (no rewind once the unit has buffered
something, rewind targets inside the file, compaction of synced files only) are consequences of
the history invariant of the fixed-size side -/
theorem psim_run {H : Type} (el : Bytes → Option Nat) (hf : HashFn Bytes H) :
    ∀ (ops : List HOp) (pv pf : PM H) (r : RefSt), HInv hf pf r → PSim el pv pf → RefSt.Proto r ops →
      (∀ e, HOp.push e ∈ ops → VarFile.Delim el e) →
      PSim el (ops.foldl (bstep el hf) pv) (ops.foldl (bstep el hf) pf) := by
  intro ops
  induction ops with
  | nil => intro pv pf r _ h _ _; exact h
  | cons op ops ih =>
    intro pv pf r hinv hsim hproto hdel
    have hinv' := hinv_step el hf pf r hinv op hproto.1
    refine ih _ _ _ hinv' ?_ hproto.2 (fun e he => hdel e (List.mem_cons_of_mem _ he))
    cases op with
    | push e => exact hsim.push e (hdel e List.mem_cons_self)
    | prune pos => exact hsim.prune pos
    | rewind N' rm =>
      have hok : r.app = false ∧ _ := hproto.1
      refine hsim.rewind N' rm (fun f hd => (hinv.nobuf hok.1).2 f hd) ?_
      intro f hd
      obtain ⟨df, hag⟩ := hinv'.cur
      rw [Backend.fixed_unique hd hag.live.data]
      exact hag.live.dataWF.le
    | sync => exact hsim.sync
    | discard => exact hsim.discard
    | compact K rm =>
      have hok : r.dirty = false ∧ _ := hproto.1
      refine hsim.compact K rm ?_
      intro f hd
      obtain ⟨b0, df0, hs0, _, _, hcl⟩ := hinv.saved
      have hb := (hcl hok.1).1
      rw [hb] at hd
      rw [Backend.fixed_unique hd hs0.data]; exact hs0.dataClean
    | reopen => exact hsim.reopen

theorem psim_init {H : Type} (el : Bytes → Option Nat) :
    PSim el ({ b := { dataFile := .var {} }, size := 0 } : PM H) ({} : PM H) :=
  ⟨{}, {}, rfl, VarFile.rep_empty el, rfl⟩

theorem psim_of_proto {H : Type} (el : Bytes → Option Nat) (hf : HashFn Bytes H) (ops : List HOp)
    (hproto : RefSt.Proto {} ops) (hd : ∀ e, HOp.push e ∈ ops → VarFile.Delim el e) :
    PSim el (ops.foldl (bstep el hf) ({ b := { dataFile := .var {} }, size := 0 } : PM H))
      (ops.foldl (bstep el hf) ({} : PM H)) :=
  psim_run el hf ops _ _ _ (hinv_init hf) (psim_init el) hproto hd

theorem Obs.of_psim {H : Type} {el : Bytes → Option Nat} {hf : HashFn Bytes H} {pv pf : PM H}
    {r : RefSt} (hs : PSim el pv pf) (o : Obs el hf pf r) : Obs el hf pv r where
  size := hs.size.trans o.size
  usize hd := hs.unprunedSize.trans (o.usize hd)
  root := hs.root.trans o.root
  unspent q := by rw [hs.leafSet]; exact o.unspent q
  leaf q hq := by
    obtain ⟨i, a1, a2, a3, a4, a5⟩ := o.leaf q hq
    exact ⟨i, a1, a2, by rw [hs.getHash]; exact a3, a4, by rw [hs.getData]; exact a5⟩
  path q hq a ha hlt := by rw [hs.getFromFile]; exact o.path q hq a ha hlt
  peak pk hpk := by rw [hs.getPeakFromFile]; exact o.peak pk hpk

end GV.Store
