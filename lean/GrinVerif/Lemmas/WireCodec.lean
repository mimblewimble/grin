import GrinVerif.Lemmas.SerPrim
/-! `Codec B S q w P`: round trip and "accepted ⇒ canonical" of a plain reader `q` with writer `w`, in one statement per wire type.
The model's readers are chains
`andThen (q₁ bs) fun a r => andThen (q₂ r) fun b r => … .ok (mk a b …, r)`; `Codec.step` has exactly this shape in its conclusion,
so a reader is taken apart by `Codec.step π₁ field₁ fun a => Codec.step π₂ field₂ fun b => … Codec.pure (mk a b …)` against the
unfolded definition, one step per read.

* `S` — the values the reader answers for: everything for a complete reader (`Whole`), `fun x => π₁ x = a ∧ π₂ x = b` for the
  rest of a chain after fields `π₁ π₂` were read as `a b` (so the rest of a record is a `Codec` like the record).
* `B` — whether "accepted ⇒ canonical" needs the input to consist of bytes (`< 256`): it does as soon as an integer is read
  (`B = True`); byte strings and tag bytes need nothing (`B = False`). `step` collects the fields' `B` by `∨`.
* a test between reads (`Codec.ite … Codec.fail …`) puts its negation into `P`. -/
namespace GV.Wire
open GV GV.Ser

variable {α ρ : Type}

structure Codec (B : Prop) (S : ρ → Prop) (q : Parser ρ) (w : ρ → Bytes) (P : ρ → Prop) : Prop where
  rt : ∀ x, S x → P x → ∀ rest, q (w x ++ rest) = .ok (x, rest)
  canon : ∀ {bs x r}, (B → AllBytes bs) → q bs = .ok (x, r) → bs = w x ++ r ∧ P x ∧ S x

abbrev Whole (B : Prop) (q : Parser α) (w : α → Bytes) (P : α → Prop) : Prop := Codec B (fun _ => True) q w P

theorem Whole.rt {B : Prop} {q : Parser α} {w : α → Bytes} {P : α → Prop} (h : Whole B q w P) (x : α) (hx : P x)
    (rest : Bytes) : q (w x ++ rest) = .ok (x, rest) := Codec.rt h x trivial hx rest

theorem Whole.inv {q : Parser α} {w : α → Bytes} {P : α → Prop} (h : Whole True q w P) {bs : Bytes} {x : α} {r : Bytes}
    (hb : AllBytes bs) (hq : q bs = .ok (x, r)) : bs = w x ++ r ∧ P x :=
  ⟨(h.canon (fun _ => hb) hq).1, (h.canon (fun _ => hb) hq).2.1⟩

theorem Whole.inv' {q : Parser α} {w : α → Bytes} {P : α → Prop} (h : Whole False q w P) {bs : Bytes} {x : α} {r : Bytes}
    (hq : q bs = .ok (x, r)) : bs = w x ++ r ∧ P x :=
  ⟨(h.canon False.elim hq).1, (h.canon False.elim hq).2.1⟩

theorem Codec.leafRt {B : Prop} {q : Parser α} {w : α → Bytes} {P : α → Prop} (h : Whole B q w P) {x : α} (hx : P x) : LeafRt q w x :=
  fun rest => h.rt x hx rest

namespace Codec

/-- the continuation also gets what the field's reader guarantees of `a` (a list read after its count has that length): the final
`pure` may need it to see that it answers for its record -/
theorem stepP {B1 B2 : Prop} {S : ρ → Prop} {q1 : Parser α} {w1 : α → Bytes} {P1 : α → Prop}
    {g : α → Parser ρ} {w2 : α → ρ → Bytes} {P2 : α → ρ → Prop}
    (π : ρ → α) (h1 : Whole B1 q1 w1 P1) (h2 : ∀ a, P1 a → Codec B2 (fun x => S x ∧ π x = a) (g a) (w2 a) (P2 a)) :
    Codec (B1 ∨ B2) S (fun bs => andThen (q1 bs) g) (fun x => w1 (π x) ++ w2 (π x) x)
      (fun x => P1 (π x) ∧ P2 (π x) x) where
  rt x hS hP rest := by
    show andThen (q1 ((w1 (π x) ++ w2 (π x) x) ++ rest)) g = _
    rw [List.append_assoc, Whole.rt h1 _ hP.1, andThen_ok]
    exact (h2 _ hP.1).rt x ⟨hS, rfl⟩ hP.2 rest
  canon hb h := by
    obtain ⟨a, r1, ha, hg⟩ := andThen_inv h
    obtain ⟨rfl, hPa, -⟩ := h1.canon (fun b => hb (.inl b)) ha
    obtain ⟨rfl, hP2, hS, rfl⟩ := (h2 a hPa).canon (fun b => allBytes_append_right (hb (.inr b))) hg
    exact ⟨(List.append_assoc ..).symm, ⟨hPa, hP2⟩, hS⟩

theorem step {B1 B2 : Prop} {S : ρ → Prop} {q1 : Parser α} {w1 : α → Bytes} {P1 : α → Prop}
    {g : α → Parser ρ} {w2 : α → ρ → Bytes} {P2 : α → ρ → Prop}
    (π : ρ → α) (h1 : Whole B1 q1 w1 P1) (h2 : ∀ a, Codec B2 (fun x => S x ∧ π x = a) (g a) (w2 a) (P2 a)) :
    Codec (B1 ∨ B2) S (fun bs => andThen (q1 bs) g) (fun x => w1 (π x) ++ w2 (π x) x)
      (fun x => P1 (π x) ∧ P2 (π x) x) := stepP π h1 fun a _ => h2 a

theorem ofWhole {B : Prop} {S : ρ → Prop} {q : Parser ρ} {w : ρ → Bytes} {P : ρ → Prop} (h : Whole B q w P)
    (hS : ∀ x, P x → S x) : Codec B S q w P :=
  ⟨fun x _ hx rest => Whole.rt h x hx rest, fun hb hq => ⟨(h.canon hb hq).1, (h.canon hb hq).2.1, hS _ (h.canon hb hq).2.1⟩⟩

theorem toWhole {B : Prop} {S : ρ → Prop} {q : Parser ρ} {w : ρ → Bytes} {P : ρ → Prop} (h : Codec B S q w P) :
    Whole B q w (fun x => P x ∧ S x) :=
  ⟨fun x _ hx rest => h.rt x hx.2 hx.1 rest, fun hb hq => ⟨(h.canon hb hq).1, (h.canon hb hq).2, trivial⟩⟩

theorem pure {S : ρ → Prop} (v : ρ) (hS : ∀ x, S x ↔ x = v) :
    Codec False S (fun r => .ok (v, r)) (fun _ => []) (fun _ => True) where
  rt x hx _ rest := by rw [(hS x).mp hx]; rfl
  canon _ h := by
    obtain ⟨rfl, rfl⟩ := Prod.mk.inj (Except.ok.inj h)
    exact ⟨rfl, trivial, (hS _).mpr rfl⟩

theorem ite {B1 B2 : Prop} {S : ρ → Prop} {q1 q2 : Parser ρ} {w1 w2 : ρ → Bytes} {P1 P2 : ρ → Prop}
    (c : Prop) [Decidable c] (h1 : c → Codec B1 S q1 w1 P1) (h2 : ¬ c → Codec B2 S q2 w2 P2) :
    Codec (B1 ∨ B2) S (fun bs => if c then q1 bs else q2 bs) (fun x => if c then w1 x else w2 x)
      (fun x => if c then P1 x else P2 x) := by
  by_cases h : c
  · simp only [if_pos h]; exact ⟨(h1 h).rt, fun hb => (h1 h).canon fun b => hb (.inl b)⟩
  · simp only [if_neg h]; exact ⟨(h2 h).rt, fun hb => (h2 h).canon fun b => hb (.inr b)⟩

theorem fail {S : ρ → Prop} (err : SerErr) : Codec False S (fun _ => .error err) (fun _ => []) (fun _ => False) where
  rt _ _ h := h.elim
  canon _ h := nomatch h

theorem of_eq {B : Prop} {S : ρ → Prop} {q q' : Parser ρ} {w : ρ → Bytes} {P : ρ → Prop}
    (h : Codec B S q w P) (hq : ∀ bs, q' bs = q bs) : Codec B S q' w P := by
  rw [show q' = q from funext hq]; exact h

/-- the last step of a walk: the `∨` of the steps' `B` becomes `True` (some integer was read: `Whole.inv`) or `False` (`Whole.inv'`);
writer and well-formedness need to agree with the model's on well-formed values only -/
theorem congr {B B' : Prop} {S : ρ → Prop} {q : Parser ρ} {w w' : ρ → Bytes} {P P' : ρ → Prop}
    (h : Codec B S q w P) (hB : B → B') (hw : ∀ x, P x → w' x = w x) (hP : ∀ x, P' x ↔ P x) : Codec B' S q w' P' where
  rt x hS hP' rest := by rw [hw x ((hP x).mp hP')]; exact h.rt x hS ((hP x).mp hP') rest
  canon hb hq := by
    obtain ⟨h1, h2, h3⟩ := h.canon (fun b => hb (hB b)) hq
    exact ⟨by rw [hw _ h2]; exact h1, (hP _).mpr h2, h3⟩

end Codec

theorem Whole.of_rt_inv {q : Parser α} {w : α → Bytes} {P : α → Prop}
    (rt : ∀ x, P x → ∀ rest, q (w x ++ rest) = .ok (x, rest))
    (inv : ∀ {bs x r}, AllBytes bs → q bs = .ok (x, r) → bs = w x ++ r ∧ P x) : Whole True q w P :=
  ⟨fun x _ hx rest => rt x hx rest, fun hb h => ⟨(inv (hb trivial) h).1, (inv (hb trivial) h).2, trivial⟩⟩

theorem codec_u8 : Whole True readU8 writeU8 (· < 256) :=
  .of_rt_inv (fun x _ rest => readU8_write x rest) readU8_inv

/-- a tag byte is compared with constants, so nothing needs to be known of it -/
theorem codec_tag : Whole False readU8 writeU8 (fun _ => True) where
  rt x _ _ rest := readU8_write x rest
  canon {bs x r} _ h := by
    cases bs with
    | nil => cases h
    | cons b t => obtain ⟨rfl, rfl⟩ := Prod.mk.inj (Except.ok.inj h); exact ⟨rfl, trivial, trivial⟩

theorem codec_u16 : Whole True readU16 writeU16 (· < 2^16) :=
  .of_rt_inv readU16_write readU16_inv

theorem codec_u32 : Whole True readU32 writeU32 (· < 2^32) :=
  .of_rt_inv readU32_write readU32_inv

theorem codec_u64 : Whole True readU64 writeU64 (· < 2^64) :=
  .of_rt_inv readU64_write readU64_inv

theorem codec_i64 : Whole True readI64 writeI64 (fun z => -(2^63 : Int) ≤ z ∧ z < (2^63 : Int)) :=
  .of_rt_inv (fun x hx rest => readI64_write x hx.1 hx.2 rest) readI64_inv

theorem codec_fixed (n : Nat) (hn : n ≤ MAX_FIXED_READ) : Whole False (readFixed n) writeFixed (fun x => x.length = n) where
  rt x _ hx rest := readFixed_write x n hx hn rest
  canon _ h := ⟨(readFixed_ok h).1, (readFixed_ok h).2, trivial⟩

theorem codec_empty (n : Nat) : Whole False (readEmpty n) (fun _ => writeEmpty n) (fun _ => True) where
  rt _ _ _ rest := readEmpty_write n rest
  canon _ h := ⟨readEmpty_inv h, trivial, trivial⟩

end GV.Wire
