import GrinVerif.Lemmas.TxSort
/-! Lemmas about the two-pointer merge `cutMerge` of `cut_through` (C12). -/
namespace GV.Tx
open List

theorem cutMerge_perm (ca cb : Nat → Nat) (xs ys : List Nat) :
    ((cutMerge ca cb xs ys).ins ++ (cutMerge ca cb xs ys).cutIns ~ xs) ∧
    ((cutMerge ca cb xs ys).outs ++ (cutMerge ca cb xs ys).cutOuts ~ ys) := by
  fun_induction cutMerge ca cb xs ys with
  | case1 ys => simp
  | case2 x xs => simp
  | case3 x xs y ys h r ih => exact ⟨by simpa using ih.1, ih.2⟩
  | case4 x xs y ys h1 h2 r ih => exact ⟨ih.1, by simpa using ih.2⟩
  | case5 x xs y ys h1 h2 r ih =>
    constructor
    · exact (perm_middle).trans (ih.1.cons x)
    · exact (perm_middle).trans (ih.2.cons y)

theorem cutMerge_cut_keys (ca cb : Nat → Nat) (xs ys : List Nat) :
    (cutMerge ca cb xs ys).cutIns.map ca = (cutMerge ca cb xs ys).cutOuts.map cb := by
  fun_induction cutMerge ca cb xs ys with
  | case1 ys => simp
  | case2 x xs => simp
  | case3 x xs y ys h r ih => exact ih
  | case4 x xs y ys h1 h2 r ih => exact ih
  | case5 x xs y ys h1 h2 r ih =>
    have : ca x = cb y := by omega
    simp only [map_cons, this]
    exact congrArg _ ih

theorem mem_of_mem_cutMerge_ins {ca cb xs ys a} (h : a ∈ (cutMerge ca cb xs ys).ins) : a ∈ xs :=
  (cutMerge_perm ca cb xs ys).1.mem_iff.1 (mem_append_left _ h)

theorem mem_of_mem_cutMerge_outs {ca cb xs ys a} (h : a ∈ (cutMerge ca cb xs ys).outs) : a ∈ ys :=
  (cutMerge_perm ca cb xs ys).2.mem_iff.1 (mem_append_left _ h)

theorem cutMerge_disjoint (ca cb : Nat → Nat) (xs ys : List Nat)
    (sx : xs.Pairwise (KeyLe ca)) (sy : ys.Pairwise (KeyLe cb)) :
    ∀ a ∈ (cutMerge ca cb xs ys).ins, ∀ b ∈ (cutMerge ca cb xs ys).outs, ca a ≠ cb b := by
  fun_induction cutMerge ca cb xs ys with
  | case1 ys => simp
  | case2 x xs => simp
  | case3 x xs y ys h r ih =>
    intro a ha b hb
    rcases mem_cons.1 ha with rfl | ha
    · exact Nat.ne_of_lt (Nat.lt_of_lt_of_le h (head_le_of_sorted sy (mem_of_mem_cutMerge_outs hb)))
    · exact ih (pairwise_cons.1 sx).2 sy a ha b hb
  | case4 x xs y ys h1 h2 r ih =>
    intro a ha b hb
    rcases mem_cons.1 hb with rfl | hb
    · exact Nat.ne_of_gt (Nat.lt_of_lt_of_le h2 (head_le_of_sorted sx (mem_of_mem_cutMerge_ins ha)))
    · exact ih sx (pairwise_cons.1 sy).2 a ha b hb
  | case5 x xs y ys h1 h2 r ih =>
    exact ih (pairwise_cons.1 sx).2 (pairwise_cons.1 sy).2

theorem tsub_of_split {i o m X Y : Nat} (e1 : i + m = X) (e2 : o + m = Y) (dis : i = 0 ∨ o = 0) :
    i = X - Y ∧ o = Y - X ∧ m = min X Y := by
  subst e1 e2
  rcases dis with rfl | rfl
  · simp
  · simp

def merged (ca cb : Nat → Nat) (ins outs : List Nat) : Cut :=
  cutMerge ca cb (sortBy ca ins) (sortBy cb outs)

theorem cutThrough_eq (ca cb ka kb : Nat → Nat) (ins outs : List Nat) :
    cutThrough ca cb ka kb ins outs =
      if adjDup (sortBy ka (merged ca cb ins outs).ins) then .error .cutThrough
      else if adjDup (sortBy kb (merged ca cb ins outs).outs) then .error .cutThrough
      else .ok ⟨sortBy ka (merged ca cb ins outs).ins, sortBy kb (merged ca cb ins outs).outs,
                sortBy ka (merged ca cb ins outs).cutIns, sortBy kb (merged ca cb ins outs).cutOuts⟩ := rfl

theorem cutThrough_cases (ca cb ka kb : Nat → Nat) (ins outs : List Nat) :
    (cutThrough ca cb ka kb ins outs = .error .cutThrough ∧
      (adjDup (sortBy ka (merged ca cb ins outs).ins) = true ∨
       adjDup (sortBy kb (merged ca cb ins outs).outs) = true)) ∨
    (cutThrough ca cb ka kb ins outs =
        .ok ⟨sortBy ka (merged ca cb ins outs).ins, sortBy kb (merged ca cb ins outs).outs,
             sortBy ka (merged ca cb ins outs).cutIns, sortBy kb (merged ca cb ins outs).cutOuts⟩ ∧
      adjDup (sortBy ka (merged ca cb ins outs).ins) = false ∧
      adjDup (sortBy kb (merged ca cb ins outs).outs) = false) := by
  rw [cutThrough_eq]
  cases adjDup (sortBy ka (merged ca cb ins outs).ins)
  · cases adjDup (sortBy kb (merged ca cb ins outs).outs) <;> simp
  · simp

theorem cutThrough_error {ca cb ka kb : Nat → Nat} {ins outs : List Nat} {e : Err}
    (h : cutThrough ca cb ka kb ins outs = .error e) : e = .cutThrough := by
  rcases cutThrough_cases ca cb ka kb ins outs with ⟨h', _⟩ | ⟨h', _⟩ <;> rw [h'] at h <;> cases h
  rfl

theorem cutThrough_ok {ca cb ka kb : Nat → Nat} {ins outs : List Nat} {r : Cut}
    (h : cutThrough ca cb ka kb ins outs = .ok r) :
    r = ⟨sortBy ka (merged ca cb ins outs).ins, sortBy kb (merged ca cb ins outs).outs,
         sortBy ka (merged ca cb ins outs).cutIns, sortBy kb (merged ca cb ins outs).cutOuts⟩ := by
  rcases cutThrough_cases ca cb ka kb ins outs with ⟨e, _⟩ | ⟨e, _⟩
  · rw [e] at h; cases h
  · exact (Except.ok.inj (h.symm.trans e))

theorem cutThrough_error_iff_dup (ca cb ka kb : Nat → Nat) (ins outs : List Nat) :
    (∃ e, cutThrough ca cb ka kb ins outs = .error e) ↔
      ¬ (adjDup (sortBy ka (merged ca cb ins outs).ins) = false ∧
         adjDup (sortBy kb (merged ca cb ins outs).outs) = false) := by
  rcases cutThrough_cases ca cb ka kb ins outs with ⟨e, d | d⟩ | ⟨e, d1, d2⟩ <;> simp [*]

theorem merged_perm (ca cb : Nat → Nat) (ins outs : List Nat) :
    ((merged ca cb ins outs).ins ++ (merged ca cb ins outs).cutIns ~ ins) ∧
    ((merged ca cb ins outs).outs ++ (merged ca cb ins outs).cutOuts ~ outs) :=
  ⟨(cutMerge_perm ca cb _ _).1.trans (sortBy_perm ca ins), (cutMerge_perm ca cb _ _).2.trans (sortBy_perm cb outs)⟩

theorem merged_cut_keys (ca cb : Nat → Nat) (ins outs : List Nat) :
    (merged ca cb ins outs).cutIns.map ca = (merged ca cb ins outs).cutOuts.map cb :=
  cutMerge_cut_keys ca cb _ _

theorem mem_merged_ins {ca cb ins outs a} (h : a ∈ (merged ca cb ins outs).ins) : a ∈ ins :=
  (merged_perm ca cb ins outs).1.mem_iff.1 (mem_append_left _ h)

theorem mem_merged_outs {ca cb ins outs a} (h : a ∈ (merged ca cb ins outs).outs) : a ∈ outs :=
  (merged_perm ca cb ins outs).2.mem_iff.1 (mem_append_left _ h)

theorem merged_split (ca cb : Nat → Nat) (ins outs : List Nat) (c : Nat) :
    ((merged ca cb ins outs).ins.map ca).count c + ((merged ca cb ins outs).cutIns.map ca).count c =
      (ins.map ca).count c ∧
    ((merged ca cb ins outs).outs.map cb).count c + ((merged ca cb ins outs).cutIns.map ca).count c =
      (outs.map cb).count c := by
  have p := merged_perm ca cb ins outs
  have e1 := (p.1.map ca).count_eq c
  have e2 := (p.2.map cb).count_eq c
  rw [map_append, count_append] at e1 e2
  rw [← merged_cut_keys] at e2
  exact ⟨e1, e2⟩

theorem merged_count (ca cb : Nat → Nat) (ins outs : List Nat) (c : Nat) :
    ((merged ca cb ins outs).ins.map ca).count c = (ins.map ca).count c - (outs.map cb).count c ∧
    ((merged ca cb ins outs).outs.map cb).count c = (outs.map cb).count c - (ins.map ca).count c ∧
    ((merged ca cb ins outs).cutIns.map ca).count c = min ((ins.map ca).count c) ((outs.map cb).count c) := by
  obtain ⟨e1, e2⟩ := merged_split ca cb ins outs c
  refine tsub_of_split e1 e2 ?_
  -- `c` is not kept on both sides
  by_cases h : c ∈ (merged ca cb ins outs).ins.map ca
  · right
    apply count_eq_zero.2
    intro h'
    obtain ⟨a, ha, rfl⟩ := mem_map.1 h
    obtain ⟨b, hb, e⟩ := mem_map.1 h'
    exact cutMerge_disjoint ca cb _ _ (sortBy_sorted ca ins) (sortBy_sorted cb outs) a ha b hb e.symm
  · exact Or.inl (count_eq_zero.2 h)

theorem merged_balance (ca cb : Nat → Nat) (ins outs : List Nat) (c : Nat) :
    ((merged ca cb ins outs).ins.map ca).count c + (outs.map cb).count c =
      ((merged ca cb ins outs).outs.map cb).count c + (ins.map ca).count c := by
  obtain ⟨e1, e2⟩ := merged_split ca cb ins outs c
  omega

theorem merged_ins_count (cb : Nat → Nat) (ins outs : List Nat) (x : Nat) :
    (merged id cb ins outs).ins.count x = ins.count x - (outs.map cb).count x := by
  have := (merged_count id cb ins outs x).1
  simpa using this

theorem merged_outs_count (cb : Nat → Nat) (ins outs : List Nat) (inj : InjOn cb outs) (o : Nat) :
    (merged id cb ins outs).outs.count o = outs.count o - ins.count (cb o) := by
  by_cases ho : o ∈ outs
  · have h := (merged_count id cb ins outs (cb o)).2.1
    rwa [map_id, count_map_of_injOn inj (fun _ => mem_merged_outs) ho,
      count_map_of_injOn inj (fun _ h => h) ho] at h
  · rw [count_eq_zero.2 ho, count_eq_zero.2 fun h => ho (mem_merged_outs h), Nat.zero_sub]

theorem mem_merged_outs_iff {cb : Nat → Nat} {ins outs : List Nat}
    (h : ∀ x ∈ ins, (outs.map cb).count x ≤ 1) (o : Nat) :
    o ∈ (merged id cb ins outs).outs ↔ o ∈ outs ∧ cb o ∉ ins := by
  have p := merged_perm id cb ins outs
  constructor
  · intro ho
    refine ⟨mem_merged_outs ho, fun hi => ?_⟩
    have c := (merged_count id cb ins outs (cb o)).2.1
    have := count_pos_iff.2 (mem_map_of_mem (f := cb) ho)
    have := h _ hi
    have := count_pos_iff.2 hi
    rw [map_id] at c
    omega
  · rintro ⟨ho, hi⟩
    rcases mem_append.1 (p.2.mem_iff.2 ho) with hk | hc
    · exact hk
    · have : cb o ∈ (merged id cb ins outs).cutIns.map id := merged_cut_keys id cb ins outs ▸ mem_map_of_mem hc
      rw [map_id] at this
      exact absurd (p.1.mem_iff.1 (mem_append_right _ this)) hi

theorem mem_merged_ins_iff {cb : Nat → Nat} {ins outs : List Nat}
    (h : ∀ x ∈ outs.map cb, ins.count x ≤ 1) (x : Nat) :
    x ∈ (merged id cb ins outs).ins ↔ x ∈ ins ∧ x ∉ outs.map cb := by
  have p := merged_perm id cb ins outs
  constructor
  · intro hx
    refine ⟨mem_merged_ins hx, fun ho => ?_⟩
    have c := merged_ins_count cb ins outs x
    have := count_pos_iff.2 hx
    have := h _ ho
    have := count_pos_iff.2 ho
    omega
  · rintro ⟨hx, ho⟩
    rcases mem_append.1 (p.1.mem_iff.2 hx) with hk | hc
    · exact hk
    · have : x ∈ (merged id cb ins outs).cutOuts.map cb := by
        rw [← merged_cut_keys, map_id]; exact hc
      obtain ⟨o, hoc, rfl⟩ := mem_map.1 this
      exact absurd (mem_map_of_mem (p.2.mem_iff.1 (mem_append_right _ hoc))) ho

theorem merged_no_cut (cb : Nat → Nat) {ins outs : List Nat} (ndI : ins.Nodup) (ndO : outs.Nodup)
    (h : ∀ x ∈ ins, x ∉ outs.map cb) :
    ((merged id cb ins outs).ins ~ ins) ∧ ((merged id cb ins outs).outs ~ outs) := by
  have p := merged_perm id cb ins outs
  refine ⟨(perm_ext_iff_of_nodup (nodup_append.1 (p.1.nodup_iff.2 ndI)).1 ndI).2 fun x => ?_,
    (perm_ext_iff_of_nodup (nodup_append.1 (p.2.nodup_iff.2 ndO)).1 ndO).2 fun o => ?_⟩
  · rw [mem_merged_ins_iff fun c _ => nodup_iff_count.1 ndI c]
    exact ⟨fun hx => hx.1, fun hx => ⟨hx, h x hx⟩⟩
  · rw [mem_merged_outs_iff fun x hx => by rw [count_eq_zero.2 (h x hx)]; exact Nat.zero_le 1]
    exact ⟨fun ho => ho.1, fun ho => ⟨ho, fun hi => h _ hi (mem_map_of_mem ho)⟩⟩

end GV.Tx
