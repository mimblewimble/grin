import GrinVerif.Lemmas.CodecReads
/-! Framing is faithful on the flat stream: chains of successful reads, one lemma per kind of sent
message, assembled over an arbitrary list of messages.  At the end, the `Attachment(left, ..)` state on its own, as the
sub-state machine `attStep`, and what the updates it delivers (`attEvents`) add up to. -/
namespace GV.Codec
open GV GV.Ser GV.Dec GV.Msg GV.Gen.Msg

variable {B H : Type}

/-- one successful `Codec::read` on the flat stream -/
def ReadsTo (env : Env B H) (c : Codec H) (s : Bytes) (m : Message B H) (c' : Codec H) (s' : Bytes) : Prop :=
  (read env flatOps c s).res = .msg m ∧ (read env flatOps c s).codec = c' ∧ (read env flatOps c s).sock = s'

theorem Reads.readsTo {env : Env B H} {c c' : Codec H} {s s' : Bytes} {m : Message B H} {n a : Nat}
    (h : Reads env flatOps c s (.msg m) c' s' n a) (hw : WFc c) : ReadsTo env c s m c' s' := by
  unfold ReadsTo
  rw [h.read hw]
  exact ⟨rfl, rfl, rfl⟩

/-- a sequence of successful reads, with the handler's `expect_attachment` in between -/
inductive Chain (env : Env B H) (attach : Message B H → Option Nat) :
    Codec H → Bytes → List (Message B H) → Codec H → Bytes → Prop
  | nil (c : Codec H) (s : Bytes) : Chain env attach c s [] c s
  | cons {c : Codec H} {s : Bytes} {m : Message B H} {c1 : Codec H} {s1 : Bytes} {c2 : Codec H}
      {ms : List (Message B H)} {c3 : Codec H} {s3 : Bytes} :
      ReadsTo env c s m c1 s1 → nextCodec attach c1 m = some c2 → Chain env attach c2 s1 ms c3 s3 →
      Chain env attach c s (m :: ms) c3 s3

theorem Chain.append {env : Env B H} {attach : Message B H → Option Nat} {c c1 c2 : Codec H} {s s1 s2 : Bytes}
    {ms ms' : List (Message B H)} (h1 : Chain env attach c s ms c1 s1) (h2 : Chain env attach c1 s1 ms' c2 s2) :
    Chain env attach c s (ms ++ ms') c2 s2 := by
  induction h1 with
  | nil c s => exact h2
  | cons hr hn _ ih => exact Chain.cons hr hn (ih h2)

theorem Chain.single {env : Env B H} {attach : Message B H → Option Nat} {c c1 c2 : Codec H} {s s1 : Bytes}
    {m : Message B H} (hr : ReadsTo env c s m c1 s1) (hn : nextCodec attach c1 m = some c2) :
    Chain env attach c s [m] c2 s1 :=
  Chain.cons hr hn (Chain.nil c2 s1)

/-- a chain of reads of ONE sent message, each with the derivation that produced it: every read after the first starts
in a body state (`state ≠ None`), so only the first fill of the chain runs under the header timeout
(`CodecTimed.runT_chain_local`) -/
inductive BChain (env : Env B H) (attach : Message B H → Option Nat) :
    Codec H → Bytes → List (Message B H) → Codec H → Bytes → Prop
  | nil (c : Codec H) (s : Bytes) : BChain env attach c s [] c s
  | cons {c : Codec H} {s : Bytes} {m : Message B H} {c1 : Codec H} {s1 : Bytes} {c2 : Codec H}
      {ms : List (Message B H)} {c3 : Codec H} {s3 : Bytes} {n a : Nat} :
      Reads env flatOps c s (.msg m) c1 s1 n a → WFc c → nextCodec attach c1 m = some c2 →
      (ms ≠ [] → c2.state ≠ .none) → BChain env attach c2 s1 ms c3 s3 → BChain env attach c s (m :: ms) c3 s3

theorem BChain.chain {env : Env B H} {attach : Message B H → Option Nat} {c c' : Codec H} {s s' : Bytes}
    {ms : List (Message B H)} (h : BChain env attach c s ms c' s') : Chain env attach c s ms c' s' := by
  induction h with
  | nil c s => exact .nil c s
  | cons hr hw hn _ _ ih => exact .cons (hr.readsTo hw) hn ih

theorem BChain.single {env : Env B H} {attach : Message B H → Option Nat} {c c1 c2 : Codec H} {s s1 : Bytes}
    {m : Message B H} {n a : Nat} (hr : Reads env flatOps c s (.msg m) c1 s1 n a) (hw : WFc c)
    (hn : nextCodec attach c1 m = some c2) : BChain env attach c s [m] c2 s1 :=
  .cons hr hw hn (fun h => absurd rfl h) (.nil c2 s1)

theorem BChain.length_le {env : Env B H} {attach : Message B H → Option Nat} {c c' : Codec H} {s s' : Bytes}
    {ms : List (Message B H)} (h : BChain env attach c s ms c' s') : s'.length ≤ s.length := by
  induction h with
  | nil c s => exact Nat.le_refl _
  | cons hr _ _ _ _ ih =>
    obtain ⟨_, rfl⟩ := hr.flat_sock nofun
    rw [List.length_drop] at ih
    omega

theorem run_chain {env : Env B H} {attach : Message B H → Option Nat} {c c' : Codec H} {s s' : Bytes}
    {ms : List (Message B H)} (h : Chain env attach c s ms c' s') (fuel : Nat) :
    run env flatOps attach (ms.length + fuel) c s =
      (ms ++ (run env flatOps attach fuel c' s').1, (run env flatOps attach fuel c' s').2) := by
  induction h with
  | nil c s => simp
  | @cons c s m c1 s1 c2 ms c3 s3 hr hn _ ih =>
    have e : (m :: ms).length + fuel = (ms.length + fuel) + 1 := by simp only [List.length_cons]; omega
    rw [e, run_msg env flatOps attach _ c s hr.1 (by rw [hr.2.1]; exact hn), hr.2.2, ih, List.cons_append]

theorem ATTACHMENT_CHUNK_pos : 0 < ATTACHMENT_CHUNK := by decide

theorem writeMessage_append (net : NetCfg) (t : Nat) (body att rest : Bytes) :
    writeMessage net t body att ++ rest = encHeader net t body.length ++ (body ++ (att ++ rest)) := by
  simp [writeMessage]

theorem encodeSent_length_ge (net : NetCfg) (m : Sent B H) : MSG_HEADER_LEN ≤ (encodeSent net m).length := by
  cases m <;> simp [encodeSent, writeMessage, encHeader_length, MSG_HEADER_LEN] <;> omega

theorem chain_attachment (env : Env B H) (attach : Message B H → Option Nat) (hat : AttachOK attach) (rest : Bytes) :
    ∀ (f : Nat) (data : Bytes), data.length < f →
      BChain env attach { buffer := [], state := .attachment data.length } (data ++ rest)
        (attEvents f data) idle rest := by
  intro f
  induction f with
  | zero => intro data h; omega
  | succ f ih =>
    intro data hlen
    obtain ⟨k, hk⟩ : ∃ k, k = min data.length ATTACHMENT_CHUNK := ⟨_, rfl⟩
    simp only [attEvents, ← hk]
    have hn : (data.take k).length = k := by rw [List.length_take]; omega
    have e := Reads.attachment env data.length (data.take k) (data.drop k ++ rest) (by rw [hn, hk])
    rw [hn, ← List.append_assoc, List.take_append_drop] at e
    have hnx := nextCodec_none (attach := attach)
      ({ buffer := [], state := if data.length - k = 0 then .none else .attachment (data.length - k) } : Codec H)
      _ (hat.attachment k (data.length - k) (data.take k))
    by_cases hz : data.length - k = 0
    · simp only [hz, if_true] at e hnx ⊢
      rw [List.drop_eq_nil_of_le (by omega), List.nil_append] at e
      exact BChain.single e trivial hnx
    · simp only [hz, if_false] at e hnx ⊢
      have hdl : (data.drop k).length = data.length - k := List.length_drop
      have := ih (data.drop k) (by have := ATTACHMENT_CHUNK_pos; rw [hdl]; omega)
      rw [hdl] at this
      exact BChain.cons e trivial hnx (fun _ => nofun) this

def itemBytes (its : List (H × Bytes)) : Bytes := (its.map (·.2)).flatten

theorem itemBytes_cons (it : H × Bytes) (its : List (H × Bytes)) : itemBytes (it :: its) = it.2 ++ itemBytes its := by
  simp [itemBytes]

theorem itemBytes_nil : itemBytes ([] : List (H × Bytes)) = [] := rfl

/-- codec in the middle of a `Headers` message: `its` still to come, `hs` collected in the current
batch, the first `p` bytes of the remaining items already buffered -/
def hdrState (its : List (H × Bytes)) (hs : List H) (p : Nat) : Codec H :=
  { buffer := (itemBytes its).take p, state := .blockHeaders (itemBytes its).length its.length hs }

def afterBatch (its : List (H × Bytes)) (p : Nat) : Codec H :=
  if its.isEmpty then idle else hdrState its [] p

theorem HEADER_BATCH_SIZE_eq : HEADER_BATCH_SIZE = 32 := rfl

theorem afterBatch_nil (p : Nat) : afterBatch ([] : List (H × Bytes)) p = idle := rfl

theorem afterBatch_ne_nil {its : List (H × Bytes)} (h : its ≠ []) (p : Nat) : afterBatch its p = hdrState its [] p := by
  cases its with
  | nil => exact absurd rfl h
  | cons _ _ => rfl

theorem stepState_decoded (env : Env B H) (buffer rest : Bytes) (h : H) (bl il : Nat) (hs : List H) (nl : Nat)
    (hdec : env.decItem buffer = .ok (h, rest)) (hbl : bl ≠ 0) (hil : il + 1 < 2^64) :
    stepState env ({ buffer := buffer, state := .blockHeaders bl (il + 1) hs } : Codec H) nl =
      if (hs ++ [h]).length = HEADER_BATCH_SIZE ∨ il = 0 then
        if il = 0 then
          if bl - (buffer.length - rest.length) > 0 then
            .inl (.err .badMessage, { buffer := rest, state := .none }, min HEADER_BATCH_SIZE il * env.hdrMem)
          else .inl (.msg (.headers (hs ++ [h]) il), { buffer := rest, state := .none }, min HEADER_BATCH_SIZE il * env.hdrMem)
        else .inl (.msg (.headers (hs ++ [h]) il),
          { buffer := rest, state := .blockHeaders (bl - (buffer.length - rest.length)) il [] },
          min HEADER_BATCH_SIZE il * env.hdrMem)
      else .inr ({ buffer := rest, state := .blockHeaders (bl - (buffer.length - rest.length)) il (hs ++ [h]) }, 0) := by
  have hw : (il + 1 + USIZE_MOD - 1) % USIZE_MOD = il := by unfold USIZE_MOD; omega
  simp only [stepState, hbl, Nat.succ_ne_zero, or_self, if_false, hdec, hw]

theorem items_iter (env : Env B H) (rest : Bytes) (it : H × Bytes) (its' : List (H × Bytes)) (hs : List H) (p : Nat)
    (hit : ItemWF env it) (hn : its'.length + 1 < 2^64)
    (hp1 : p ≤ (itemBytes (it :: its')).length) (hp2 : p ≤ env.hdrMax) {nl p' : Nat}
    (hnl : nl = min (itemBytes (it :: its')).length env.hdrMax) (hp' : p' = nl - it.2.length) :
    fill flatOps (hdrState (it :: its') hs p) ((itemBytes (it :: its')).drop p ++ rest) nl =
        some ({ buffer := (itemBytes (it :: its')).take nl,
                state := .blockHeaders (itemBytes (it :: its')).length (its'.length + 1) hs },
              (itemBytes its').drop p' ++ rest) ∧
    stepState env ({ buffer := (itemBytes (it :: its')).take nl,
                     state := .blockHeaders (itemBytes (it :: its')).length (its'.length + 1) hs } : Codec H) nl =
      (if (hs ++ [it.1]).length = 32 ∨ its'.length = 0 then
         .inl (.msg (.headers (hs ++ [it.1]) its'.length), afterBatch its' p', min 32 its'.length * env.hdrMem)
       else .inr (hdrState its' (hs ++ [it.1]) p', 0)) ∧
    p' ≤ (itemBytes its').length ∧ p' ≤ env.hdrMax := by
  obtain ⟨hb1, hb2, hdec⟩ := hit
  generalize hI' : itemBytes (it :: its') = I at *
  have hI : I = it.2 ++ itemBytes its' := hI' ▸ itemBytes_cons it its'
  have hIl : I.length = it.2.length + (itemBytes its').length := by rw [hI, List.length_append]
  have hbnl : it.2.length ≤ nl := by omega
  have htake : I.take nl = it.2 ++ (itemBytes its').take p' := by
    rw [hI, List.take_append, List.take_of_length_le hbnl, hp']
  have hdrop : I.drop nl = (itemBytes its').drop p' := by
    rw [hI, List.drop_append, List.drop_of_length_le hbnl, List.nil_append, hp']
  refine ⟨?_, ?_, by omega, by omega⟩
  · have := fill_flat_prefix (H := H) (.blockHeaders I.length (its'.length + 1) hs) I rest p nl (by omega) (by omega)
    rw [hdrop] at this
    simpa only [hdrState, hI', List.length_cons] using this
  · rw [htake, stepState_decoded env _ _ it.1 _ _ hs nl (hdec _) (by omega) hn,
      show (it.2 ++ (itemBytes its').take p').length - ((itemBytes its').take p').length = it.2.length by
        rw [List.length_append]; omega,
      HEADER_BATCH_SIZE_eq, show I.length - it.2.length = (itemBytes its').length by omega]
    cases its' with
    | nil => simp [afterBatch, itemBytes_nil, idle]
    | cons a t => simp [afterBatch, hdrState]

/-- `k` items complete the current batch: they fill it, or they are the last ones -/
theorem Reads.items (env : Env B H) (rest : Bytes) :
    ∀ (its : List (H × Bytes)) (k : Nat) (hs : List H) (p : Nat),
      (∀ it ∈ its, ItemWF env it) → its.length < 2^64 → 1 ≤ k → k ≤ its.length →
      (hs.length + k = 32 ∨ (hs.length + k < 32 ∧ k = its.length)) →
      p ≤ (itemBytes its).length → p ≤ env.hdrMax →
      ∃ p' n a, p' ≤ (itemBytes (its.drop k)).length ∧ p' ≤ env.hdrMax ∧
        Reads env flatOps (hdrState its hs p) ((itemBytes its).drop p ++ rest)
          (.msg (.headers (hs ++ (its.take k).map (·.1)) (its.length - k))) (afterBatch (its.drop k) p')
          ((itemBytes (its.drop k)).drop p' ++ rest) n a := by
  intro its
  induction its with
  | nil => intro k hs p _ _ h1 h2; simp at h2; omega
  | cons it its' ih =>
    intro k hs p hwf hlen hk1 hk2 hk hp1 hp2
    have hlen' : its'.length + 1 < 2^64 := by simpa using hlen
    obtain ⟨hfill, hstep, hp'1, hp'2⟩ := items_iter env rest it its' hs p (hwf it (by simp)) hlen' hp1 hp2 rfl rfl
    rw [List.length_cons] at hk hk2
    obtain ⟨k, rfl⟩ : ∃ j, k = j + 1 := ⟨k - 1, by omega⟩
    cases k with
    | zero =>
      rw [if_pos (by rw [List.length_append, List.length_singleton]; omega)] at hstep
      exact ⟨_, _, _, hp'1, hp'2, Reads.ret hfill hstep⟩
    | succ k =>
      rw [if_neg (by rw [List.length_append, List.length_singleton]; omega)] at hstep
      obtain ⟨p'', n, a, q1, q2, q3⟩ := ih (k + 1) (hs ++ [it.1]) _
        (fun x hx => hwf x (by simp [hx])) (by omega) (by omega) (by omega)
        (by rw [List.length_append, List.length_singleton]; omega) hp'1 hp'2
      have h2 := Reads.cont hfill hstep q3
      simp only [List.append_assoc, List.singleton_append] at h2
      exact ⟨p'', _, _, q1, q2, by
        simpa only [List.take_succ_cons, List.drop_succ_cons, List.map_cons, List.length_cons,
          Nat.add_sub_add_right] using h2⟩

/-- what the first read of the remaining items `its` of a `Headers` message returns, from codec `c` on socket `s`: the
batch of the first `HEADER_BATCH_SIZE`, the codec idle again or in the middle of the message with `p'` bytes of the
items after the batch read ahead, `rest` behind them -/
structure FirstBatch (env : Env B H) (c : Codec H) (s : Bytes) (its : List (H × Bytes)) (rest : Bytes) (p' : Nat) :
    Prop where
  le_len : p' ≤ (itemBytes (its.drop 32)).length
  le_max : p' ≤ env.hdrMax
  reads : ∃ n a, Reads env flatOps c s (.msg (.headers ((its.take 32).map (·.1)) (its.length - min 32 its.length)))
    (afterBatch (its.drop 32) p') ((itemBytes (its.drop 32)).drop p' ++ rest) n a

theorem Reads.batch (env : Env B H) (rest : Bytes) (its : List (H × Bytes)) (p : Nat)
    (hwf : ∀ it ∈ its, ItemWF env it) (hne : its ≠ []) (h64 : its.length < 2^64)
    (hp1 : p ≤ (itemBytes its).length) (hp2 : p ≤ env.hdrMax) :
    ∃ p', FirstBatch env (hdrState its [] p) ((itemBytes its).drop p ++ rest) its rest p' := by
  have hl : 1 ≤ its.length := List.length_pos_iff.2 hne
  obtain ⟨p', n, a, q1, q2, q3⟩ := Reads.items env rest its (min 32 its.length) [] p hwf h64 (by omega) (by omega)
    (by rw [List.length_nil]; omega) hp1 hp2
  simp only [List.nil_append, ← List.take_eq_take_min, ← List.drop_eq_drop_min] at q1 q3
  exact ⟨p', q1, q2, n, a, q3⟩

theorem chain_first_batch (env : Env B H) (attach : Message B H → Option Nat) (hat : AttachOK attach) (rest : Bytes)
    (f : Nat) {c : Codec H} {s : Bytes} {its : List (H × Bytes)} {p' : Nat} (hne : its ≠ []) (hw : WFc c)
    (fb : FirstBatch env c s its rest p')
    (htail : its.drop 32 ≠ [] → BChain env attach (hdrState (its.drop 32) [] p')
      ((itemBytes (its.drop 32)).drop p' ++ rest) (batches f ((its.drop 32).map (·.1))) idle rest) :
    BChain env attach c s (batches (f + 1) (its.map (·.1))) idle rest := by
  obtain ⟨n, a, hr⟩ := fb.reads
  have hnx := nextCodec_none (attach := attach) (afterBatch (its.drop 32) p') _
    (hat.headers ((its.take 32).map (·.1)) (its.length - min 32 its.length))
  have hl0 : 1 ≤ its.length := List.length_pos_iff.2 hne
  simp only [batches, List.isEmpty_eq_false_iff.2 (mt List.map_eq_nil_iff.1 hne), HEADER_BATCH_SIZE_eq,
    Bool.false_eq_true, if_false]
  rw [← List.map_take, ← List.map_drop, List.length_map,
    show its.length - 32 = its.length - min 32 its.length by omega]
  by_cases hd : its.drop 32 = []
  · have hb : batches f ((its.drop 32).map (·.1)) = ([] : List (Message B H)) := by
      rw [hd]; cases f <;> simp [batches]
    rw [hd, afterBatch_nil] at hr hnx
    rw [itemBytes_nil, List.drop_nil, List.nil_append] at hr
    rw [hb]
    exact BChain.single hr hw hnx
  · rw [afterBatch_ne_nil hd] at hr hnx
    exact BChain.cons hr hw hnx (fun _ => nofun) (htail hd)

theorem chain_batches (env : Env B H) (attach : Message B H → Option Nat) (hat : AttachOK attach) (rest : Bytes) :
    ∀ (f : Nat) (its : List (H × Bytes)) (p : Nat), its.length ≤ f → its ≠ [] →
      (∀ it ∈ its, ItemWF env it) → its.length < 2^64 → p ≤ (itemBytes its).length → p ≤ env.hdrMax →
      BChain env attach (hdrState its [] p) ((itemBytes its).drop p ++ rest) (batches f (its.map (·.1))) idle rest := by
  intro f
  induction f with
  | zero =>
    intro its p h hne
    exact absurd (List.eq_nil_of_length_eq_zero (Nat.le_zero.1 h)) hne
  | succ f ih =>
    intro its p hlen hne hwf h64 hp1 hp2
    obtain ⟨p', fb⟩ := Reads.batch env rest its p hwf hne h64 hp1 hp2
    exact chain_first_batch env attach hat rest f hne (Nat.zero_lt_succ 31) fb fun hd =>
      ih (its.drop 32) p' (by rw [List.length_drop]; omega) hd (fun it hit => hwf it (List.mem_of_mem_drop hit))
        (by rw [List.length_drop]; omega) fb.le_len fb.le_max

theorem stepState_count (env : Env B H) (L n : Nat) (hL : 2 ≤ L) (hn : n < 2^16) :
    stepState env ({ buffer := writeU16 n, state := .header (.known T_Headers L) } : Codec H) 2 =
      if n = 0 ∧ L - 2 = 0 then .inl (.msg (.headers [] 0), idle, 0)
      else .inr ({ buffer := [], state := .blockHeaders (L - 2) n [] }, min HEADER_BATCH_SIZE n * env.hdrMem) := by
  have hr : readU16 (writeU16 n) = .ok (n, []) := by
    have := readU16_write n hn []
    rwa [List.append_nil] at this
  have h2 : (writeU16 n).length = 2 := rfl
  have ht : (writeU16 n).take 2 = writeU16 n := by rw [← h2]; exact List.take_length
  have hd : (writeU16 n).drop 2 = [] := by rw [← h2]; exact List.drop_length
  simp only [stepState, h2, Nat.lt_irrefl, if_false, if_true, ht, hd, hr, show ¬ L < 2 by omega]
  rfl

theorem nextLen_count (env : Env B H) (L : Nat) (hL : 2 ≤ L) :
    nextLen env (State.header (.known T_Headers L) : State H) = 2 := by
  simp only [nextLen, if_true, HEADERS_COUNT_LEN]; omega

theorem Reads.count {env : Env B H} {L n : Nat} {rest s' : Bytes} {r : Res B H} {c' : Codec H} {k m : Nat}
    (hL : 2 ≤ L) (hn : n < 2^16) (hne : ¬ (n = 0 ∧ L - 2 = 0))
    (h : Reads env flatOps { buffer := [], state := .blockHeaders (L - 2) n [] } rest r c' s' k m) :
    Reads env flatOps { buffer := [], state := .header (.known T_Headers L) } (writeU16 n ++ rest) r c' s' (2 + k)
      (2 + min HEADER_BATCH_SIZE n * env.hdrMem + m) :=
  Reads.flat_cont (x := writeU16 n) (nl := 2) (nextLen_count env L hL) rfl
    (by rw [stepState_count env L n hL hn, if_neg hne]) h

theorem Reads.count_empty (env : Env B H) (rest : Bytes) :
    Reads env flatOps { buffer := [], state := .header (.known T_Headers 2) } (writeU16 0 ++ rest)
      (.msg (.headers [] 0)) idle rest 2 2 :=
  Reads.flat_ret (x := writeU16 0) (nl := 2) (nextLen_count env 2 (Nat.le_refl 2)) rfl
    (by rw [stepState_count env 2 0 (Nat.le_refl 2) (by decide)]; rfl)

theorem isKnown_headers : isKnownType T_Headers = true := by decide

theorem two_le_maxLen_headers (net : NetCfg) : 2 ≤ maxLen net T_Headers := by
  have : maxLen net T_Headers = (2 + 365 * GV.Gen.MAX_BLOCK_HEADERS) * 4 := by
    unfold maxLen
    rw [if_pos isKnown_headers]
    simp [maxMsgSize, T_Headers, KNOWN_LEN_FACTOR]
  rw [this]; decide

theorem Reads.empty_headers (env : Env B H) (rest : Bytes) :
    Reads env flatOps (idle : Codec H) (encodeSent env.net (Sent.headers (B := B) ([] : List (H × Bytes))) ++ rest)
      (.msg (.headers [] 0)) idle rest (11 + 2) (11 + 2) := by
  have h2 := two_le_maxLen_headers env.net
  have hs : encodeSent env.net (Sent.headers (B := B) ([] : List (H × Bytes))) ++ rest =
      encHeader env.net T_Headers 2 ++ (writeU16 0 ++ rest) := by
    simp [encodeSent, writeMessage, headersBody, writeU16]
  rw [hs]
  exact Reads.known_header isKnown_headers (by omega) (by decide) (Reads.count_empty env rest)

theorem chain_headers (env : Env B H) (attach : Message B H → Option Nat) (hat : AttachOK attach) (rest : Bytes)
    (items : List (H × Bytes)) (hwf : SentWF env attach (.headers items)) :
    BChain env attach idle (encodeSent env.net (Sent.headers (B := B) items) ++ rest)
      (expected (Sent.headers (B := B) items)) idle rest := by
  obtain ⟨hn16, hmax, h64, hit⟩ := hwf
  have hbl : (headersBody items).length = 2 + (itemBytes items).length := by
    simp [headersBody, itemBytes, writeU16]; omega
  by_cases hne : items = []
  · -- the empty list: one read returns the empty batch
    subst hne
    have := BChain.single (Reads.empty_headers (B := B) env rest) trivial
      (nextCodec_none (attach := attach) idle _ (hat.headers [] 0))
    simpa [expected] using this
  have hstream : encodeSent env.net (Sent.headers (B := B) items) ++ rest =
      encHeader env.net T_Headers (headersBody items).length ++ (writeU16 items.length ++ (itemBytes items ++ rest)) := by
    simp [encodeSent, writeMessage, headersBody, itemBytes]
  have hlen0 : items.length ≠ 0 := fun h => hne (List.eq_nil_of_length_eq_zero h)
  -- frame header, item count and first batch come out of ONE read
  obtain ⟨p', fb⟩ := Reads.batch env rest items 0 hit hne (by omega) (Nat.zero_le _) (Nat.zero_le _)
  obtain ⟨n, a, q3⟩ := fb.reads
  simp only [List.drop_zero, hdrState, List.take_zero,
    show (itemBytes items).length = (headersBody items).length - 2 by omega] at q3
  have fb' : FirstBatch env idle (encodeSent env.net (Sent.headers (B := B) items) ++ rest) items rest p' :=
    ⟨fb.le_len, fb.le_max, _, _, hstream ▸ Reads.known_header isKnown_headers hmax h64
      (Reads.count (by omega) hn16 (fun h => hlen0 h.1) q3)⟩
  obtain ⟨f, hf⟩ : ∃ f, items.length = f + 1 := ⟨items.length - 1, by omega⟩
  have := chain_first_batch env attach hat rest f hne (c := idle) trivial fb' fun hd =>
    chain_batches env attach hat rest f (items.drop 32) p' (by rw [List.length_drop]; omega) hd
      (fun it h => hit it (List.mem_of_mem_drop h)) (by rw [List.length_drop]; omega) fb.le_len fb.le_max
  simpa [expected, List.isEmpty_eq_false_iff.2 hne, hf] using this

theorem chain_sent (env : Env B H) (attach : Message B H → Option Nat) (hat : AttachOK attach) (rest : Bytes)
    (m : Sent B H) (hwf : SentWF env attach m) :
    BChain env attach idle (encodeSent env.net m ++ rest) (expected m) idle rest := by
  cases m with
  | plain t v raw =>
    obtain ⟨hd, hl, h64, hb, ha⟩ := hwf
    have hr := Reads.frame env t raw rest hd hl h64
    rw [hb] at hr
    rw [show encodeSent env.net (Sent.plain (H := H) t v raw) = writeMessage env.net t raw [] from rfl,
      writeMessage_append, List.nil_append]
    exact BChain.single hr trivial (nextCodec_none idle _ ha)
  | unknown t raw =>
    obtain ⟨hk, hl, h64⟩ := hwf
    rw [show encodeSent env.net (Sent.unknown (B := B) (H := H) t raw) = writeMessage env.net t raw [] from rfl,
      writeMessage_append, List.nil_append]
    exact BChain.single (Reads.unknown_frame env t raw rest hk hl h64) trivial (nextCodec_none idle _ (hat.unknown t))
  | headers items => exact chain_headers env attach hat rest items hwf
  | archive t v raw att =>
    obtain ⟨hd, hl, h64, hb, ha⟩ := hwf
    have hr := Reads.frame env t raw (att ++ rest) hd hl h64
    rw [hb] at hr
    rw [show encodeSent env.net (Sent.archive (H := H) t v raw att) = writeMessage env.net t raw att from rfl,
      writeMessage_append]
    have hn : nextCodec attach (idle : Codec H) (.body t v) = some { buffer := [], state := .attachment att.length } := by
      simp [nextCodec, ha, expectAttachment, idle]
    exact BChain.cons hr trivial hn (fun _ => nofun)
      (chain_attachment env attach hat rest (att.length + 1) att (Nat.lt_succ_self _))

theorem chain_all (env : Env B H) (attach : Message B H → Option Nat) (hat : AttachOK attach) :
    ∀ (msgs : List (Sent B H)), (∀ m ∈ msgs, SentWF env attach m) → ∀ rest : Bytes,
      Chain env attach idle ((msgs.map (encodeSent env.net)).flatten ++ rest) (msgs.map expected).flatten idle rest := by
  intro msgs
  induction msgs with
  | nil => intro _ rest; exact Chain.nil idle rest
  | cons m ms ih =>
    intro hwf rest
    have h1 := chain_sent env attach hat ((ms.map (encodeSent env.net)).flatten ++ rest) m (hwf m (by simp))
    have h2 := ih (fun x hx => hwf x (by simp [hx])) rest
    simp only [List.map_cons, List.flatten_cons, List.append_assoc]
    exact h1.chain.append h2

theorem framing_faithful_flat (env : Env B H) (attach : Message B H → Option Nat) (hat : AttachOK attach)
    (msgs : List (Sent B H)) (hwf : ∀ m ∈ msgs, SentWF env attach m) (extra : Nat) :
    run env flatOps attach ((msgs.map expected).flatten.length + (extra + 1)) idle
        (msgs.map (encodeSent env.net)).flatten =
      ((msgs.map expected).flatten, .err .conn, idle, []) := by
  have hc := chain_all env attach hat msgs hwf []
  rw [List.append_nil] at hc
  rw [run_chain hc (extra + 1)]
  have he := (Reads.idle_eof env ([] : Bytes) (by simp)).read trivial
  rw [run_leave env flatOps attach extra idle [] (by rw [he]; nofun), he]
  simp

theorem batches_no_attachment : ∀ (f : Nat) (hs : List H) (m : Message B H), m ∈ batches (B := B) f hs →
    ∀ a b c, m ≠ .attachment a b c := by
  intro f
  induction f with
  | zero => intro hs m hm; simp [batches] at hm
  | succ f ih =>
    intro hs m hm a b c
    unfold batches at hm
    by_cases he : hs.isEmpty = true
    · rw [if_pos he] at hm; cases hm
    · rw [if_neg he] at hm
      rcases List.mem_cons.mp hm with rfl | hm'
      · intro hx; cases hx
      · exact ih _ m hm' a b c

theorem expected_no_attachment (m : Sent B H) (hna : ∀ t v raw att, m ≠ .archive t v raw att) :
    ∀ x ∈ expected m, ∀ a b c, x ≠ .attachment a b c := by
  intro x hx a b c
  cases m with
  | plain t v raw =>
    simp only [expected, List.mem_cons, List.mem_nil_iff, or_false] at hx
    subst hx; intro h; cases h
  | unknown t raw =>
    simp only [expected, List.mem_cons, List.mem_nil_iff, or_false] at hx
    subst hx; intro h; cases h
  | headers items =>
    simp only [expected] at hx
    by_cases he : items.isEmpty = true
    · rw [if_pos he] at hx
      simp only [List.mem_cons, List.mem_nil_iff, or_false] at hx
      subst hx; intro h; cases h
    · rw [if_neg he] at hx
      exact batches_no_attachment _ _ x hx a b c
  | archive t v raw att => exact absurd rfl (hna t v raw att)

/-- `AttachmentUpdate.read` of an update -/
def attRead : Message B H → Nat
  | .attachment rd _ _ => rd
  | _ => 0

/-- the bytes handed over with an update -/
def attBytes : Message B H → Bytes
  | .attachment _ _ b => b
  | _ => []

theorem stepState_attStep (env : Env B H) (left : Nat) (chunk : Bytes)
    (hc : chunk.length = (attStep left).1) :
    stepState env ({ buffer := chunk, state := .attachment left } : Codec H) (nextLen env (State.attachment left : State H)) =
      .inl (.msg (.attachment (attStep left).1 (left - (attStep left).1) chunk),
            { buffer := [], state := match (attStep left).2 with
                | none => .none
                | some l => .attachment l }, 0) := by
  have hnl : nextLen env (State.attachment left : State H) = chunk.length := by rw [hc]; rfl
  have hle : chunk.length ≤ left := by rw [hc]; exact Nat.min_le_left _ _
  rw [hnl, stepState_attachment env left chunk hle, ← hc]
  simp only [attStep] at hc ⊢
  rw [← hc]
  by_cases hz : left - chunk.length = 0
  · simp [hz]
  · simp [hz]

theorem attEvents_spec : ∀ (f : Nat) (data : Bytes), data.length < f →
    ∃ (pre : List (Message B H)) (last : Bytes),
      (attEvents f data : List (Message B H)) = pre ++ [.attachment last.length 0 last] ∧
      last.length ≤ ATTACHMENT_CHUNK ∧
      (∀ e ∈ pre, ∃ left b, e = .attachment ATTACHMENT_CHUNK left b ∧ b.length = ATTACHMENT_CHUNK ∧ left ≠ 0) ∧
      (pre.map attBytes).flatten ++ last = data ∧
      (pre.map attRead).sum + last.length = data.length := by
  intro f
  induction f with
  | zero => intro data h; omega
  | succ f ih =>
    intro data hlen
    have hpos := ATTACHMENT_CHUNK_pos
    simp only [attEvents]
    by_cases hz : data.length - min data.length ATTACHMENT_CHUNK = 0
    · have hn : min data.length ATTACHMENT_CHUNK = data.length := by omega
      refine ⟨[], data, ?_, by omega, nofun, rfl, Nat.zero_add _⟩
      simp only [hn, List.take_length, List.nil_append, Nat.sub_self, if_true]
    · have hn : min data.length ATTACHMENT_CHUNK = ATTACHMENT_CHUNK := by omega
      have hdl : (data.drop ATTACHMENT_CHUNK).length = data.length - ATTACHMENT_CHUNK := by simp
      obtain ⟨pre, last, e1, e2, e3, e4, e5⟩ := ih (data.drop ATTACHMENT_CHUNK) (by rw [hdl]; omega)
      rw [hn] at hz
      refine ⟨.attachment ATTACHMENT_CHUNK (data.length - ATTACHMENT_CHUNK) (data.take ATTACHMENT_CHUNK) :: pre,
        last, ?_, e2, ?_, ?_, ?_⟩
      · simp only [hz, if_false, hn, e1, List.cons_append]
      · intro e he
        rcases List.mem_cons.mp he with rfl | he
        · exact ⟨_, _, rfl, by rw [List.length_take]; omega, by omega⟩
        · exact e3 e he
      · simp only [List.map_cons, List.flatten_cons, attBytes, List.append_assoc, e4, List.take_append_drop]
      · simp only [List.map_cons, List.sum_cons, attRead]
        rw [hdl] at e5
        omega

theorem attEvents_lens : ∀ (f : Nat) (data : Bytes),
    ((attEvents f data : List (Message B H)).map attRead) = attChunkLens f data.length := by
  intro f
  induction f with
  | zero => intro data; rfl
  | succ f ih =>
    intro data
    simp only [attEvents, attChunkLens, attStep, List.map_cons, attRead]
    by_cases hz : data.length - min data.length ATTACHMENT_CHUNK = 0
    · simp [hz]
    · simp only [hz, if_false]
      rw [ih]
      simp

end GV.Codec
