import GrinVerif.Model.PruneList
import GrinVerif.Lemmas.UtilList
/-! The roaring bitmap of the store model as a strictly ascending list (C08): membership in the
results of its operations, what keeps them ascending, `rank` as the length of a prefix.
No Mathlib. -/
namespace GV.Store
open GV

def Sorted (b : List Nat) : Prop := List.Pairwise (· < ·) b

theorem filter_eq_nil_of_all_gt {l : List Nat} {x : Nat} (h : ∀ b ∈ l, x < b) :
    l.filter (· ≤ x) = [] := by
  rw [List.filter_eq_nil_iff]; intro b hb; have := h b hb; simp; omega

theorem countP_eq_zero_of_all_gt {l : List Nat} {x : Nat} (h : ∀ b ∈ l, x < b) :
    l.countP (· ≤ x) = 0 := by
  rw [List.countP_eq_zero]; intro b hb; have := h b hb; simp; omega

theorem countP_eq_length_of_all_le {l : List Nat} {x : Nat} (h : ∀ b ∈ l, b ≤ x) :
    l.countP (· ≤ x) = l.length := by
  rw [List.countP_eq_length]; intro b hb; have := h b hb; simpa using this

theorem filter_le_eq_take {l : List Nat} (x : Nat) (h : Sorted l) :
    l.filter (· ≤ x) = l.take (l.countP (· ≤ x)) := by
  induction l with
  | nil => simp
  | cons a t ih =>
    have h' := List.pairwise_cons.1 h
    by_cases hax : a ≤ x
    · simp [hax, ih h'.2]
    · have hall : ∀ b ∈ t, x < b := fun b hb => by have := h'.1 b hb; omega
      have hf : (a :: t).filter (· ≤ x) = [] := by
        rw [List.filter_cons]; simp [hax, filter_eq_nil_of_all_gt hall]
      have hc : (a :: t).countP (· ≤ x) = 0 := by
        rw [List.countP_cons]; simp [hax, countP_eq_zero_of_all_gt hall]
      rw [hf, hc]; simp

theorem sorted_getElem_lt {l : List Nat} (hs : Sorted l) {i j : Nat} (hi : i < l.length)
    (hj : j < l.length) (h : l[i] < l[j]) : i < j := by
  rcases Nat.lt_trichotomy i j with hij | rfl | hji
  · exact hij
  · omega
  · have := List.pairwise_iff_getElem.1 hs j i hj hi hji; omega

theorem mem_take_of_lt {l : List Nat} (hs : Sorted l) {k : Nat} (hk : k < l.length) {x : Nat}
    (hx : x ∈ l) (hlt : x < l[k]) : x ∈ l.take k := by
  obtain ⟨i, hi, rfl⟩ := List.mem_iff_getElem.1 hx
  have hik := sorted_getElem_lt hs hi hk hlt
  exact List.mem_iff_getElem.2 ⟨i, by simp [List.length_take]; omega, by simp⟩

theorem rank_le_length (b : Bitmap) (x : Nat) : Bm.rank b x ≤ b.length := List.countP_le_length

theorem sorted_filter {l : List Nat} (p : Nat → Bool) (h : Sorted l) : Sorted (l.filter p) :=
  List.Pairwise.sublist List.filter_sublist h

theorem sorted_append_singleton {l : List Nat} {x : Nat} (h : Sorted l) (hx : ∀ b ∈ l, b < x) :
    Sorted (l ++ [x]) := by
  unfold Sorted
  rw [List.pairwise_append]
  exact ⟨h, List.pairwise_singleton _ _, fun a ha b hb => by
    have : b = x := by simpa using hb
    subst this; exact hx a ha⟩

theorem add_eq_append {b : Bitmap} {x : Nat} (h : ∀ y ∈ b, y < x) : Bm.add b x = b ++ [x] := by
  induction b with
  | nil => rfl
  | cons y ys ih =>
    have hy : y < x := h y (by simp)
    have h1 : ¬ x < y := by omega
    have h2 : ¬ x = y := by omega
    simp only [Bm.add, if_neg h1, if_neg h2, List.cons_append]
    rw [ih (fun z hz => h z (by simp [hz]))]

theorem mem_add {b : Bitmap} {x y : Nat} : y ∈ Bm.add b x ↔ y = x ∨ y ∈ b := by
  induction b with
  | nil => simp [Bm.add]
  | cons z zs ih =>
    simp only [Bm.add]
    split
    · simp
    · split
      · subst_vars; simp
      · simp [ih]; constructor <;> intro h <;> rcases h with h | h | h <;> simp [h]

theorem sorted_add {b : Bitmap} {x : Nat} (h : Sorted b) : Sorted (Bm.add b x) := by
  induction b with
  | nil => exact List.pairwise_singleton _ _
  | cons z zs ih =>
    have h' := List.pairwise_cons.1 h
    simp only [Bm.add]
    split
    · rename_i hxz
      exact List.pairwise_cons.2 ⟨fun a ha => by
        rcases List.mem_cons.1 ha with rfl | ha
        · exact hxz
        · have := h'.1 a ha; omega, h⟩
    · split
      · exact h
      · rename_i h1 h2
        exact List.pairwise_cons.2 ⟨fun a ha => by
          rcases mem_add.1 ha with rfl | ha
          · omega
          · exact h'.1 a ha, ih h'.2⟩

theorem mem_or {a b : Bitmap} {y : Nat} : y ∈ Bm.or a b ↔ y ∈ a ∨ y ∈ b := by
  unfold Bm.or
  induction b generalizing a with
  | nil => simp
  | cons z zs ih => rw [List.foldl_cons, ih, mem_add, List.mem_cons, or_assoc, or_left_comm]

theorem sorted_or {a b : Bitmap} (h : Sorted a) : Sorted (Bm.or a b) :=
  List.foldlRecOn b _ h fun _ hs _ _ => sorted_add hs

theorem contains_iff {b : Bitmap} {x : Nat} : Bm.contains b x = true ↔ x ∈ b := by
  simp [Bm.contains]

theorem mem_remove {b : Bitmap} {x y : Nat} : y ∈ Bm.remove b x ↔ y ∈ b ∧ y ≠ x := by
  simp [Bm.remove]

theorem mem_removeRange {b : Bitmap} {lo hi y : Nat} :
    y ∈ Bm.removeRange b lo hi ↔ y ∈ b ∧ ¬ (lo ≤ y ∧ y ≤ hi) := by
  simp only [Bm.removeRange, List.mem_filter, Bool.and_eq_false_iff,
    decide_eq_false_iff_not, Bool.not_eq_eq_eq_not, Bool.not_true]
  exact and_congr_right fun _ => by omega

theorem removeRange_to_max {b : Bitmap} (lo : Nat) (h : Sorted b)
    (hmax : ∀ y ∈ b, y ≤ (Bm.maximum b).getD 0) :
    Bm.removeRange b (lo + 1) ((Bm.maximum b).getD 0) = b.take (Bm.rank b lo) := by
  unfold Bm.rank
  rw [← filter_le_eq_take lo h]
  unfold Bm.removeRange
  apply List.filter_congr
  intro y hy
  have := hmax y hy
  by_cases hle : y ≤ lo <;> simp [hle] <;> omega

theorem le_maximum_of_sorted {b : Bitmap} (h : Sorted b) : ∀ y ∈ b, y ≤ (Bm.maximum b).getD 0 := by
  intro y hy
  cases hm : Bm.maximum b with
  | none => rw [Bm.maximum, List.getLast?_eq_none_iff] at hm; subst hm; simp at hy
  | some m => exact le_getLast b m (h.imp Nat.le_of_lt) hm y hy

theorem maximum_mem {b : Bitmap} {m : Nat} (h : Bm.maximum b = some m) : m ∈ b := by
  unfold Bm.maximum at h; exact List.mem_of_getLast? h

theorem mem_and {a b : Bitmap} {y : Nat} : y ∈ Bm.and a b ↔ y ∈ a ∧ y ∈ b := by
  simp [Bm.and, Bm.contains]

theorem mem_flip {b : Bitmap} {lo hi y : Nat} :
    y ∈ Bm.flip b lo hi ↔ (y ∈ b ∧ (y < lo ∨ hi ≤ y)) ∨ (lo ≤ y ∧ y < hi ∧ y ∉ b) := by
  simp only [Bm.flip, List.mem_append, List.mem_filter, List.mem_range', Bm.contains,
    decide_eq_true_eq, Bool.not_eq_true', List.elem_eq_mem, decide_eq_false_iff_not]
  constructor
  · rintro ((⟨h1, h2⟩ | ⟨⟨i, hi1, rfl⟩, h2⟩) | ⟨h1, h2⟩)
    · left; exact ⟨h1, Or.inl h2⟩
    · right; exact ⟨by omega, by omega, h2⟩
    · left; exact ⟨h1, Or.inr h2⟩
  · rintro (⟨h1, h2 | h2⟩ | ⟨h1, h2, h3⟩)
    · left; left; exact ⟨h1, h2⟩
    · right; exact ⟨h1, h2⟩
    · left; right; exact ⟨⟨y - lo, by omega, by omega⟩, h3⟩

theorem sorted_flip {b : Bitmap} (hs : Sorted b) (lo hi : Nat) (hlh : lo ≤ hi) : Sorted (Bm.flip b lo hi) := by
  unfold Bm.flip Sorted
  rw [List.pairwise_append, List.pairwise_append]
  refine ⟨⟨sorted_filter _ hs, ?_, ?_⟩, sorted_filter _ hs, ?_⟩
  · exact List.Pairwise.sublist List.filter_sublist (List.pairwise_lt_range')
  · intro a ha c hc
    simp only [List.mem_filter, decide_eq_true_eq, List.mem_range'] at ha hc
    obtain ⟨⟨i, _, rfl⟩, _⟩ := hc
    omega
  · intro a ha c hc
    simp only [List.mem_append, List.mem_filter, decide_eq_true_eq, List.mem_range', ge_iff_le] at ha hc
    rcases ha with ⟨_, ha⟩ | ⟨⟨i, hi1, rfl⟩, _⟩ <;> omega

theorem sorted_removeRange {a : Bitmap} (hs : Sorted a) (lo hi : Nat) : Sorted (Bm.removeRange a lo hi) :=
  sorted_filter _ hs

theorem remove_of_not_mem {b : Bitmap} {x : Nat} (h : x ∉ b) : Bm.remove b x = b := by
  unfold Bm.remove
  rw [List.filter_eq_self]
  intro y hy
  exact bne_iff_ne.2 fun e => h (e ▸ hy)

theorem drop_countP_gt {l : List Nat} (a : Nat) (h : Sorted l) :
    ∀ x ∈ l.drop (l.countP (· ≤ a)), a < x := by
  induction l with
  | nil => intro x hx; simp at hx
  | cons b t ih =>
    have h' := List.pairwise_cons.1 h
    by_cases hb : b ≤ a
    · intro x hx
      rw [List.countP_cons] at hx
      simp only [hb, decide_true, if_true, List.drop_succ_cons] at hx
      exact ih h'.2 x hx
    · have hall : ∀ y ∈ t, a < y := fun y hy => by have := h'.1 y hy; omega
      have hc : (b :: t).countP (· ≤ a) = 0 := by
        rw [List.countP_cons]; simp [hb, countP_eq_zero_of_all_gt hall]
      intro x hx
      rw [hc] at hx
      rcases List.mem_cons.1 hx with rfl | hx
      · omega
      · exact hall x hx

theorem mem_ofList {l : List Nat} {y : Nat} : y ∈ Bm.ofList l ↔ y ∈ l := by
  have : Bm.ofList l = Bm.or [] l := rfl
  rw [this, mem_or]; simp

theorem sorted_pred {l : List Nat} (hs : Sorted l) (h1 : ∀ y ∈ l, 1 ≤ y) : Sorted (l.map (· - 1)) := by
  unfold Sorted at *
  rw [List.pairwise_map]
  exact List.Pairwise.imp_of_mem (fun {a c} ha _ hac => by have := h1 a ha; omega) hs

end GV.Store
