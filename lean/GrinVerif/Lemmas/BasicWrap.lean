import GrinVerif.Model.Basic
/-! The wrapping `u64` helpers of `Model/Basic.lean` coincide with the mathematical operation whenever
that stays in range; sums, differences and products stay below `2^64`. -/
namespace GV

theorem addW_lt (a b : Nat) : addW a b < 2^64 := Nat.mod_lt _ (by decide)
theorem mulW_lt (a b : Nat) : mulW a b < 2^64 := Nat.mod_lt _ (by decide)
theorem subW_lt (a b : Nat) : subW a b < 2^64 := Nat.mod_lt _ (by decide)

theorem addW_eq {a b : Nat} (h : a + b < 2^64) : addW a b = a + b := Nat.mod_eq_of_lt h
theorem mulW_eq {a b : Nat} (h : a * b < 2^64) : mulW a b = a * b := Nat.mod_eq_of_lt h
theorem subW_eq {a b : Nat} (ha : a < 2^64) (hb : b ≤ a) : subW a b = a - b := by unfold subW; omega

theorem shlW_eq {a s : Nat} (hs : s < 64) (h : a * 2^s < 2^64) : shlW a s = a * 2^s := by
  unfold shlW; rw [Nat.mod_eq_of_lt hs]; exact Nat.mod_eq_of_lt h
theorem shrW_eq {a s : Nat} (hs : s < 64) : shrW a s = a / 2^s := by
  unfold shrW; rw [Nat.mod_eq_of_lt hs]
theorem shrW_eq_shiftRight {a s : Nat} (hs : s < 64) : shrW a s = a >>> s := by
  rw [shrW_eq hs, Nat.shiftRight_eq_div_pow]

/-- `1 << s` on a u64 uses the low six bits of `s` -/
theorem shlW_one_mod (s : Nat) : shlW 1 s = 2^(s % 64) := by
  unfold shlW
  rw [Nat.one_mul]
  exact Nat.mod_eq_of_lt (Nat.pow_lt_pow_right (by omega) (Nat.mod_lt _ (by omega)))
theorem shlW_one_left {s : Nat} (hs : s < 64) : shlW 1 s = 2^s := by
  rw [shlW_one_mod, Nat.mod_eq_of_lt hs]
theorem shlW_one {a : Nat} (h : a < 2^63) : shlW a 1 = 2 * a := by
  rw [shlW_eq (by decide) (by omega)]; omega
theorem shrW_one (a : Nat) : shrW a 1 = a / 2 := by rw [shrW_eq (by decide), Nat.pow_one]
theorem subW_one {a : Nat} (h0 : 0 < a) (h : a < 2^64) : subW a 1 = a - 1 := subW_eq h h0
theorem shrW_le (a s : Nat) : shrW a s ≤ a := Nat.div_le_self _ _

end GV
