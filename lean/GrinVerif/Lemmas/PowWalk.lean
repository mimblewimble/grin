import GrinVerif.Model.PowSpec
import Batteries.Data.List.Perm
import GrinVerif.Lemmas.UtilList
/-! Base of the C05 lemma files: the outer "follow the cycle" loop shared by the verifiers, read as a
*trace* of its step function (determinism of the step alone makes the trace duplicate-free, no
`visited` array needed; an injective step brings slot 0 back), and the arithmetic and list facts
every engine file needs. -/
namespace GV.Pow

/-- the list of slots at which the outer loop stood, when it ended by coming back to slot 0 -/
structure Trace (step : Nat → Except Err Nat) (i : Nat) (tr : List Nat) : Prop where
  pos : 0 < tr.length
  head : tr.getD 0 0 = i
  chain : ∀ t, t + 1 < tr.length →
    step (tr.getD t 0) = .ok (tr.getD (t+1) 0) ∧ tr.getD (t+1) 0 ≠ 0
  last : step (tr.getD (tr.length - 1) 0) = .ok 0

theorem Trace.single {step : Nat → Except Err Nat} {i : Nat} (h : step i = .ok 0) :
    Trace step i [i] :=
  ⟨Nat.zero_lt_one, rfl, fun _ ht => absurd (Nat.lt_of_succ_lt_succ ht) (Nat.not_lt_zero _), h⟩

theorem Trace.cons {step : Nat → Except Err Nat} {i i' : Nat} {tr : List Nat}
    (h : Trace step i' tr) (hs : step i = .ok i') (h0 : i' ≠ 0) : Trace step i (i :: tr) := by
  refine ⟨Nat.succ_pos _, rfl, fun t ht => ?_, ?_⟩
  · cases t with
    | zero => rw [List.getD_cons_zero, List.getD_cons_succ, h.head]; exact ⟨hs, h0⟩
    | succ t => exact h.chain t (Nat.lt_of_succ_lt_succ ht)
  · have hp := h.pos
    rw [show (i :: tr).length - 1 = (tr.length - 1) + 1 by simp only [List.length_cons]; omega]
    exact h.last

theorem Trace.tail {step : Nat → Except Err Nat} {i x : Nat} {tr : List Nat}
    (h : Trace step i (i :: x :: tr)) : step i = .ok x ∧ x ≠ 0 ∧ Trace step x (x :: tr) :=
  ⟨(h.chain 0 (by simp)).1, (h.chain 0 (by simp)).2, Nat.succ_pos _, rfl,
    fun t ht => h.chain (t + 1) (Nat.succ_lt_succ ht), h.last⟩

theorem Trace.cyc_chain {step : Nat → Except Err Nat} {tr : List Nat} {L : Nat}
    (htr : Trace step 0 tr) (hlen : tr.length = L) (t : Nat) (ht : t < L) :
    step (tr.getD t 0) = .ok (tr.getD ((t + 1) % L) 0) := by
  by_cases hl : t + 1 < L
  · rw [Nat.mod_eq_of_lt hl]; exact (htr.chain t (by omega)).1
  · have := htr.last
    rw [show tr.length - 1 = t by omega] at this
    rw [show t + 1 = L by omega, Nat.mod_self, htr.head]; exact this

theorem uWalk_trace (step : Nat → Except Err Nat) :
    ∀ f i n m, uWalk step f i n = .ok m → ∃ tr, Trace step i tr ∧ m = n + tr.length := by
  intro f
  induction f with
  | zero => intro i n m h; simp [uWalk] at h
  | succ f ih =>
    intro i n m h
    unfold uWalk at h
    cases hs : step i with
    | error e => simp [hs] at h
    | ok i' =>
      simp only [hs] at h
      by_cases h0 : i' = 0
      · rw [if_pos h0] at h
        injection h with h
        exact ⟨[i], .single (h0 ▸ hs), h.symm⟩
      · rw [if_neg h0] at h
        obtain ⟨tr, htr, hm⟩ := ih i' (n+1) m h
        exact ⟨i :: tr, htr.cons hs h0, by rw [hm, List.length_cons]; omega⟩

theorem uWalk_complete (step : Nat → Except Err Nat) : ∀ tr i f n, Trace step i tr → tr.length ≤ f →
    uWalk step f i n = .ok (n + tr.length) := by
  intro tr
  induction tr with
  | nil => intro i f n h; exact absurd h.pos (Nat.lt_irrefl 0)
  | cons x tr ih =>
    intro i f n h hf
    obtain rfl : x = i := h.head
    obtain ⟨f, rfl⟩ : ∃ f', f = f' + 1 := ⟨f - 1, by simp only [List.length_cons] at hf; omega⟩
    unfold uWalk
    cases tr with
    | nil => rw [show step x = .ok 0 from h.last]; rfl
    | cons y tr =>
      obtain ⟨hs, h0, ht⟩ := h.tail
      simp only [List.length_cons] at hf ih ⊢
      rw [hs]
      simp only [if_neg h0]
      rw [ih y f (n + 1) ht (by omega)]
      congr 1
      omega

theorem roodWalk_ok (step : Nat → Except Err Nat) (size : Nat) : ∀ f i n m,
    roodWalk step size f i n = .ok m → uWalk step f i n = .ok m := by
  intro f
  induction f with
  | zero => intro i n m h; cases h
  | succ f ih =>
    intro i n m h
    unfold roodWalk at h
    unfold uWalk
    cases hs : step i with
    | error e => rw [hs] at h; cases h
    | ok i' =>
      rw [hs] at h
      dsimp only at h ⊢
      split
      · next h0 => rwa [if_pos h0] at h
      · next h0 =>
        rw [if_neg h0] at h
        split at h
        · cases h
        · exact ih _ _ _ h

theorem roodWalk_of_uWalk (step : Nat → Except Err Nat) (size : Nat) : ∀ f i n m,
    uWalk step f i n = .ok m → m ≤ size → roodWalk step size f i n = .ok m := by
  intro f
  induction f with
  | zero => intro i n m h; cases h
  | succ f ih =>
    intro i n m h hm
    unfold uWalk at h
    unfold roodWalk
    cases hs : step i with
    | error e => rw [hs] at h; cases h
    | ok i' =>
      rw [hs] at h
      dsimp only at h ⊢
      split
      · next h0 => rwa [if_pos h0] at h
      · next h0 =>
        rw [if_neg h0] at h
        obtain ⟨tr, htr, e⟩ := uWalk_trace step _ _ _ _ h
        have := htr.pos
        rw [if_neg (by omega)]
        exact ih _ _ _ h hm

theorem roodWalk_no_hang (step : Nat → Except Err Nat) (size : Nat)
    (hstep : ∀ j, step j ≠ .error .hang) :
    ∀ f i n, size ≤ f + n → 1 ≤ f → roodWalk step size f i n ≠ .error .hang := by
  intro f
  induction f with
  | zero => intro i n _ h; omega
  | succ f ih =>
    intro i n hs _
    unfold roodWalk
    cases hst : step i with
    | error e =>
      simp only
      intro h
      injection h with h
      exact hstep i (by rw [hst, h])
    | ok i' =>
      simp only
      by_cases h0 : i' = 0
      · simp [h0]
      · simp only [h0, if_false]
        by_cases hc : n + 1 ≥ size
        · simp [hc]
        · simp only [hc, if_false]
          exact ih i' (n+1) (by omega) (by omega)

theorem Trace.shift {step i tr} (h : Trace step i tr) {a b : Nat}
    (e : tr.getD a 0 = tr.getD b 0) :
    ∀ j, a + j < tr.length → b + j < tr.length → tr.getD (a+j) 0 = tr.getD (b+j) 0 := by
  intro j
  induction j with
  | zero => intro _ _; simpa using e
  | succ j ih =>
    intro ha hb
    have e' := ih (by omega) (by omega)
    have ca := (h.chain (a+j) (by omega)).1
    have cb := (h.chain (b+j) (by omega)).1
    rw [e', cb] at ca
    injection ca with ca
    simpa [Nat.add_assoc] using ca.symm

theorem Trace.ne_of_lt {step i tr} (h : Trace step i tr) {a b : Nat} (hab : a < b)
    (hb : b < tr.length) : tr.getD a 0 ≠ tr.getD b 0 := by
  intro e
  have hs := h.shift e (tr.length - 1 - b) (by omega) (by omega)
  have hbl : b + (tr.length - 1 - b) = tr.length - 1 := by omega
  rw [hbl] at hs
  have c := h.chain (a + (tr.length - 1 - b)) (by omega)
  rw [hs, h.last] at c
  have := c.1
  injection this with this
  exact c.2 this.symm

theorem getD_mem {l : List Nat} {t : Nat} (ht : t < l.length) : l.getD t 0 ∈ l := by
  rw [List.getD_eq_getElem?_getD, List.getElem?_eq_getElem ht]; exact List.getElem_mem ht

theorem exists_getD_of_mem {l : List Nat} {x : Nat} (h : x ∈ l) : ∃ t, t < l.length ∧ l.getD t 0 = x := by
  obtain ⟨t, ht, rfl⟩ := List.getElem_of_mem h
  exact ⟨t, ht, by simp [List.getD_eq_getElem?_getD, ht]⟩

theorem nodup_of_getD_ne {l : List Nat}
    (h : ∀ a b, a < b → b < l.length → l.getD a 0 ≠ l.getD b 0) : l.Nodup := by
  rw [List.Nodup, List.pairwise_iff_getElem]
  intro a b ha hb hab e
  exact h a b hab hb (by simpa [List.getD_eq_getElem?_getD, ha, hb] using e)

theorem Trace.nodup {step i tr} (h : Trace step i tr) : tr.Nodup :=
  nodup_of_getD_ne fun _ _ hab hb => h.ne_of_lt hab hb

theorem Trace.inj {step i tr} (h : Trace step i tr) {a b : Nat} (ha : a < tr.length)
    (hb : b < tr.length) (e : tr.getD a 0 = tr.getD b 0) : a = b := by
  rcases Nat.lt_trichotomy a b with hlt | heq | hgt
  · exact absurd e (h.ne_of_lt hlt hb)
  · exact heq
  · exact absurd e.symm (h.ne_of_lt hgt ha)

theorem nodup_subset_length_le {l m : List Nat} (nd : l.Nodup) (hs : ∀ x ∈ l, x ∈ m) :
    l.length ≤ m.length :=
  nd.length_le_of_subset hs

theorem mem_of_nodup_sub_length {l m : List Nat} (ndl : l.Nodup) (hs : ∀ x ∈ l, x ∈ m)
    (hlen : m.length ≤ l.length) : ∀ x ∈ m, x ∈ l := by
  intro x hx
  have sp := List.subperm_of_subset ndl hs
  exact (sp.perm_of_length_le hlen).mem_iff.mpr hx

theorem perm_range_of_nodup {l : List Nat} {L : Nat} (nd : l.Nodup) (hlt : ∀ x ∈ l, x < L)
    (hl : l.length = L) : l.Perm (List.range L) := by
  have sp : l.Subperm (List.range L) :=
    List.subperm_of_subset nd (fun x hx => List.mem_range.mpr (hlt x hx))
  exact sp.perm_of_length_le (by simp [hl])

theorem uWalk_hang_list (step : Nat → Except Err Nat) (N : Nat)
    (hnh : ∀ j, j < N → step j ≠ .error .hang)
    (hcl : ∀ j x, j < N → step j = .ok x → x < N) :
    ∀ f i n, i < N → uWalk step f i n = .error .hang →
      ∃ l : List Nat, l.length = f ∧ (∀ x ∈ l, x < N) ∧ (0 < f → l.getD 0 0 = i) ∧
        (∀ t, t + 1 < f → step (l.getD t 0) = .ok (l.getD (t+1) 0) ∧ l.getD (t+1) 0 ≠ 0) := by
  intro f
  induction f with
  | zero => intro i n _ _; exact ⟨[], rfl, by simp, by omega, by omega⟩
  | succ f ih =>
    intro i n hi h
    unfold uWalk at h
    cases hs : step i with
    | error e =>
      rw [hs] at h
      simp only [] at h
      injection h with h
      exact absurd (by rw [hs, h]) (hnh i hi)
    | ok i' =>
      rw [hs] at h
      simp only [] at h
      by_cases h0 : i' = 0
      · simp [h0] at h
      · simp only [h0, if_false] at h
        obtain ⟨l, l1, l2, l3, l4⟩ := ih i' (n+1) (hcl i i' hi hs) h
        refine ⟨i :: l, by simp [l1], ?_, fun _ => by simp, ?_⟩
        · intro x hx
          rcases List.mem_cons.mp hx with rfl | hx
          · exact hi
          · exact l2 x hx
        · intro t ht
          cases t with
          | zero =>
            simp only [List.getD_cons_zero, List.getD_cons_succ]
            rw [l3 (by omega)]
            exact ⟨hs, h0⟩
          | succ t =>
            simp only [List.getD_cons_succ]
            exact l4 t (by omega)

theorem uWalk_no_hang (step : Nat → Except Err Nat) (N : Nat) (hN : 0 < N)
    (hnh : ∀ j, j < N → step j ≠ .error .hang)
    (hcl : ∀ j x, j < N → step j = .ok x → x < N)
    (hinj : ∀ x y z, x < N → y < N → step x = .ok z → step y = .ok z → x = y) (n : Nat) :
    uWalk step (N + 1) 0 n ≠ .error .hang := by
  intro h
  obtain ⟨l, l1, l2, l3, l4⟩ := uWalk_hang_list step N hnh hcl (N+1) 0 n hN h
  have hget : ∀ t, t < N + 1 → l.getD t 0 < N := by
    intro t ht
    exact l2 _ (getD_mem (by omega))
  -- injectivity carries an equality of two slots of the chain back to its start
  have hback : ∀ a c, a + c + 1 < N + 1 → l.getD a 0 = l.getD (a + c + 1) 0 →
      l.getD 0 0 = l.getD (c + 1) 0 := by
    intro a
    induction a with
    | zero => intro c _ e; rwa [Nat.zero_add] at e
    | succ a ih =>
      intro c hc e
      have c1 := (l4 a (by omega)).1
      have c2 := (l4 (a + c + 1) (by omega)).1
      rw [show a + 1 + c + 1 = a + c + 1 + 1 by omega] at e
      rw [← e] at c2
      exact ih c (by omega) (hinj _ _ _ (hget _ (by omega)) (hget _ (by omega)) c1 c2)
  have hnd : l.Nodup := by
    refine nodup_of_getD_ne fun a b hab hb e => ?_
    obtain ⟨c, rfl⟩ : ∃ c, b = a + c + 1 := ⟨b - a - 1, by omega⟩
    have := hback a c (by omega) e
    rw [l3 (by omega)] at this
    exact (l4 c (by omega)).2 this.symm
  have := nodup_subset_length_le hnd (m := List.range N) (fun x hx => List.mem_range.mpr (l2 x hx))
  simp [l1] at this
  omega

theorem uWalk_total (step : Nat → Except Err Nat) (hok : ∀ j, ∃ x, step j = .ok x) : ∀ f i n,
    uWalk step f i n = .error .hang ∨ ∃ m, uWalk step f i n = .ok m := by
  intro f
  induction f with
  | zero => intro i n; exact .inl rfl
  | succ f ih =>
    intro i n
    obtain ⟨x, hx⟩ := hok i
    unfold uWalk
    rw [hx]
    by_cases h0 : x = 0
    · exact .inr ⟨n + 1, by simp [h0]⟩
    · simp only [h0, if_false]; exact ih x (n + 1)

theorem walk_returns (step : Nat → Except Err Nat) (N : Nat) (hN : 0 < N)
    (hok : ∀ j, ∃ x, step j = .ok x) (hcl : ∀ j x, j < N → step j = .ok x → x < N)
    (hinj : ∀ x y z, x < N → y < N → step x = .ok z → step y = .ok z → x = y) :
    ∃ tr, Trace step 0 tr := by
  rcases uWalk_total step hok (N + 1) 0 0 with h | ⟨m, h⟩
  · exact absurd h (uWalk_no_hang step N hN (fun j _ e => by obtain ⟨x, hx⟩ := hok j; rw [hx] at e; cases e)
      hcl hinj 0)
  · obtain ⟨tr, htr, _⟩ := uWalk_trace step _ _ _ _ h
    exact ⟨tr, htr⟩

theorem two_mul_add_div (e d : Nat) (hd : d < 2) : (2 * e + d) / 2 = e := by omega
theorem two_mul_add_mod (e d : Nat) (hd : d < 2) : (2 * e + d) % 2 = d := by omega

theorem exists_slot (x : Nat) : ∃ e d, d < 2 ∧ x = 2 * e + d :=
  ⟨x / 2, x % 2, Nat.mod_lt _ (by decide), (Nat.div_add_mod x 2).symm⟩

theorem xor_one_div (x : Nat) : (x ^^^ 1) / 2 = x / 2 := by simp [Nat.xor_div_two]

theorem xor_one_mod (x : Nat) : (x ^^^ 1) % 2 = 1 - x % 2 := by
  have h := @Nat.xor_mod_two_eq_one x 1
  omega

theorem even_add_xor_one (a d : Nat) (ha : a % 2 = 0) (hd : d < 2) : (a + d) ^^^ 1 = a + (1 - d) := by
  have h1 := xor_one_div (a + d)
  have h2 := xor_one_mod (a + d)
  omega

theorem xor_one_xor_one (x : Nat) : (x ^^^ 1) ^^^ 1 = x := by
  rw [Nat.xor_assoc, Nat.xor_self, Nat.xor_zero]

theorem xor_one_cancel {a b : Nat} (h : a ^^^ 1 = b ^^^ 1) : a = b := by
  rw [← xor_one_xor_one a, h, xor_one_xor_one]

theorem ne_xor_one (x : Nat) : x ≠ x ^^^ 1 := by
  have := xor_one_mod x
  omega

theorem xor_one_lt (x L : Nat) (h : x < 2 * L) : x ^^^ 1 < 2 * L := by
  have := xor_one_div x
  omega

theorem eq_or_xor_of_half (x y : Nat) (h : x / 2 = y / 2) : x = y ∨ x = y ^^^ 1 := by
  have h1 := xor_one_div y
  have h2 := xor_one_mod y
  omega

theorem shr_one (a : Nat) : a >>> 1 = a / 2 := by simp [Nat.shiftRight_eq_div_pow]

theorem eq_of_xor_eq_zero {a b : Nat} (h : a ^^^ b = 0) : a = b := by
  have := congrArg (a ^^^ ·) h
  simpa [← Nat.xor_assoc] using this.symm

theorem modL_cases (x L : Nat) (hL : 0 < L) (hx : x < 2 * L) :
    x % L = if x < L then x else x - L := by
  by_cases h : x < L
  · rw [if_pos h, Nat.mod_eq_of_lt h]
  · rw [if_neg h, Nat.mod_eq_sub_mod (by omega), Nat.mod_eq_of_lt (by omega)]

theorem succ_mod_inj (L a b : Nat) (hL : 0 < L) (ha : a < L) (hb : b < L)
    (h : (a + 1) % L = (b + 1) % L) : a = b := by
  rw [modL_cases (a + 1) L hL (by omega), modL_cases (b + 1) L hL (by omega)] at h
  split at h <;> split at h <;> omega

theorem pred_succ_mod (a L : Nat) (hL : 0 < L) (ha : a < L) : ((a + L - 1) % L + 1) % L = a := by
  rw [modL_cases (a + L - 1) L hL (by omega)]
  by_cases h : a + L - 1 < L
  · rw [if_pos h, show a + L - 1 + 1 = L by omega, Nat.mod_self]; omega
  · rw [if_neg h, show a + L - 1 - L + 1 = a by omega, Nat.mod_eq_of_lt ha]

theorem perm_range_of_inj (g : Nat → Nat) (L : Nat) (hlt : ∀ t, t < L → g t < L)
    (hinj : ∀ a b, a < L → b < L → g a = g b → a = b) : ((List.range L).map g).Perm (List.range L) := by
  apply perm_range_of_nodup
  · exact nodup_map_range g L fun a b hab hb h => Nat.ne_of_lt hab (hinj a b (by omega) hb h)
  · intro x hx
    obtain ⟨t, ht, rfl⟩ := List.mem_map.mp hx
    exact hlt t (List.mem_range.mp ht)
  · simp

theorem exists_fun_lt {L : Nat} {Q : Nat → Nat → Prop} (h : ∀ t, t < L → ∃ e, Q t e) :
    ∃ f : Nat → Nat, ∀ t, t < L → Q t (f t) :=
  ⟨fun t => if ht : t < L then Classical.choose (h t ht) else 0, fun t ht => by
    simp only [dif_pos ht]; exact Classical.choose_spec (h t ht)⟩

/-- a permutation of `0 … L-1` read as a function on its index range -/
structure PermRange (c : List Nat) (L : Nat) : Prop where
  lt : ∀ t, t < L → c.getD t 0 < L
  inj : ∀ a b, a < L → b < L → c.getD a 0 = c.getD b 0 → a = b
  cover : ∀ k, k < L → ∃ a, a < L ∧ c.getD a 0 = k

theorem perm_range_index {c : List Nat} {L : Nat} (h : c.Perm (List.range L)) : PermRange c L := by
  have hcl : c.length = L := by rw [h.length_eq]; simp
  have hget : ∀ t (ht : t < L), c.getD t 0 = c[t]'(by omega) := by
    intro t ht
    rw [List.getD_eq_getElem?_getD, List.getElem?_eq_getElem (by omega)]; rfl
  refine ⟨fun t ht => ?_, fun a b ha hb e => ?_, fun k hk => ?_⟩
  · have : c.getD t 0 ∈ c := by rw [hget t ht]; simp
    exact List.mem_range.mp (h.mem_iff.mp this)
  · rw [hget a ha, hget b hb] at e
    have hpw := List.pairwise_iff_getElem.mp (h.nodup_iff.mpr List.nodup_range)
    rcases Nat.lt_trichotomy a b with hlt | heq | hgt
    · exact absurd e (hpw a b (by omega) (by omega) hlt)
    · exact heq
    · exact absurd e.symm (hpw b a (by omega) (by omega) hgt)
  · obtain ⟨a, ha, e⟩ := List.getElem_of_mem (h.mem_iff.mpr (List.mem_range.mpr hk))
    exact ⟨a, by omega, by rw [hget a (by omega)]; exact e⟩

theorem IsCycle.mono {L : Nat} {adj adj' sameV sameV' : Nat → Nat → Prop} {c : List Nat}
    (h : IsCycle L adj sameV c) (ha : ∀ a b, adj a b → adj' a b)
    (hs : ∀ a b, sameV' a b → sameV a b) : IsCycle L adj' sameV' c :=
  ⟨h.len, h.perm, fun t ht => ha _ _ (h.link t ht),
   fun a b hA hB hab hv => h.simple a b hA hB hab (hs _ _ hv)⟩

theorem IsCycle.link_pred {L : Nat} {adj sameV : Nat → Nat → Prop} {c : List Nat}
    (hG : IsCycle L adj sameV c) (hL : 0 < L) (a : Nat) (ha : a < L) :
    adj (c.getD ((a + L - 1) % L) 0) (c.getD a 0 ^^^ 1) := by
  have := hG.link ((a + L - 1) % L) (Nat.mod_lt _ hL)
  rwa [pred_succ_mod a L hL ha] at this

theorem IsCycle.edge_lt {L : Nat} {adj sameV : Nat → Nat → Prop} {c : List Nat}
    (hG : IsCycle L adj sameV c) (t : Nat) (ht : t < L) : c.getD t 0 / 2 < L := by
  have := (perm_range_index hG.perm).lt t ht
  rwa [map_getD _ c t (hG.len ▸ ht)] at this

theorem IsCycle.slot_lt {L : Nat} {adj sameV : Nat → Nat → Prop} {c : List Nat}
    (hG : IsCycle L adj sameV c) (t : Nat) (ht : t < L) : c.getD t 0 < 2 * L := by
  have := hG.edge_lt t ht
  omega

theorem IsCycle.edge_inj {L : Nat} {adj sameV : Nat → Nat → Prop} {c : List Nat}
    (hG : IsCycle L adj sameV c) (a b : Nat) (ha : a < L) (hb : b < L)
    (h : c.getD a 0 / 2 = c.getD b 0 / 2) : a = b :=
  (perm_range_index hG.perm).inj a b ha hb (by
    rw [map_getD _ c a (hG.len ▸ ha), map_getD _ c b (hG.len ▸ hb)]; exact h)

theorem IsCycle.edge_cover {L : Nat} {adj sameV : Nat → Nat → Prop} {c : List Nat}
    (hG : IsCycle L adj sameV c) (e : Nat) (he : e < L) : ∃ a, a < L ∧ c.getD a 0 / 2 = e := by
  obtain ⟨a, ha, h⟩ := (perm_range_index hG.perm).cover e he
  exact ⟨a, ha, by rwa [map_getD _ c a (hG.len ▸ ha)] at h⟩

theorem trace_of_seq (step : Nat → Except Err Nat) (g : Nat → Nat) (L : Nat) (hL : 0 < L)
    (h0 : g 0 = 0)
    (hch : ∀ t, t + 1 < L → step (g t) = .ok (g (t+1)) ∧ g (t+1) ≠ 0)
    (hlast : step (g (L - 1)) = .ok 0) :
    Trace step 0 ((List.range L).map g) := by
  refine ⟨by simpa using hL, by rw [range_map_getD g L 0 hL, h0], ?_, ?_⟩
  · intro t ht
    simp only [List.length_map, List.length_range] at ht
    rw [range_map_getD g L t (by omega), range_map_getD g L (t+1) ht]
    exact hch t ht
  · simp only [List.length_map, List.length_range]
    rw [range_map_getD g L (L-1) (by omega)]
    exact hlast

def xorAll (l : List Nat) : Nat := l.foldr (· ^^^ ·) 0

theorem xorAll_cons (x : Nat) (l : List Nat) : xorAll (x :: l) = x ^^^ xorAll l := rfl

theorem xorAll_perm {l1 l2 : List Nat} (h : l1.Perm l2) : xorAll l1 = xorAll l2 := by
  induction h with
  | nil => rfl
  | cons x _ ih => simp [xorAll_cons, ih]
  | swap x y l =>
    simp only [xorAll_cons]
    rw [← Nat.xor_assoc, ← Nat.xor_assoc, Nat.xor_comm y x]
  | trans _ _ ih1 ih2 => exact ih1.trans ih2

theorem xorAll_append (a b : List Nat) : xorAll (a ++ b) = xorAll a ^^^ xorAll b := by
  induction a with
  | nil => simp [xorAll]
  | cons x a ih => simp only [List.cons_append, xorAll_cons, ih, Nat.xor_assoc]

/-- a list closed under a fixed-point-free involution `π` stays closed when a pair `x`, `π x` is
taken out -/
theorem closed_erase_pair {Q : Nat → Prop} (π : Nat → Nat) (x : Nat) (l : List Nat) (nd : l.Nodup)
    (hxl : x ∉ l) (hx : π (π x) = x)
    (hπ : ∀ y ∈ x :: l, π y ∈ x :: l ∧ π y ≠ y ∧ π (π y) = y ∧ Q y) :
    ∀ y ∈ l.erase (π x), π y ∈ l.erase (π x) ∧ π y ≠ y ∧ π (π y) = y ∧ Q y := by
  intro y hy
  have hy' : y ∈ l := List.mem_of_mem_erase hy
  have hyne : y ≠ π x := fun h => by
    rw [h] at hy
    exact (List.Nodup.mem_erase_iff nd).mp hy |>.1 rfl
  obtain ⟨g1, g2, g3, g4⟩ := hπ y (List.mem_cons_of_mem _ hy')
  refine ⟨?_, g2, g3, g4⟩
  have hne1 : π y ≠ x := fun h => hyne (by rw [← g3, h])
  have hne2 : π y ≠ π x := fun h => hxl ((show y = x by rw [← g3, h, hx]) ▸ hy')
  exact (List.Nodup.mem_erase_iff nd).mpr ⟨hne2, (List.mem_cons.mp g1).resolve_left hne1⟩

theorem xorAll_pairs (val π : Nat → Nat) (δ : Nat) : ∀ n (l : List Nat), l.length = n → l.Nodup →
    (∀ x ∈ l, π x ∈ l ∧ π x ≠ x ∧ π (π x) = x ∧ val (π x) = val x ^^^ δ) →
    xorAll (l.map val) = if (n / 2) % 2 = 1 then δ else 0 := by
  intro n
  induction n using Nat.strongRecOn with
  | _ n ih =>
    intro l hl hnd hπ
    cases l with
    | nil => simp at hl; subst hl; simp [xorAll]
    | cons x l' =>
      obtain ⟨h1, h2, h3, h4⟩ := hπ x (by simp)
      obtain ⟨hxl, hnd'⟩ := List.nodup_cons.mp hnd
      have hpx : π x ∈ l' := (List.mem_cons.mp h1).resolve_left h2
      have hlen2 : (l'.erase (π x)).length = n - 2 := by
        rw [List.length_erase_of_mem hpx]; simp at hl; omega
      have hn2 : 2 ≤ n := by
        have := List.length_pos_of_mem hpx; simp at hl; omega
      have hrec := ih (n - 2) (by omega) (l'.erase (π x)) hlen2 (hnd'.erase _)
        (closed_erase_pair π x l' hnd' hxl h3 hπ)
      rw [List.map_cons, xorAll_cons, xorAll_perm ((List.perm_cons_erase hpx).map val), List.map_cons,
        xorAll_cons, hrec, h4]
      have hdiv : n / 2 = (n - 2) / 2 + 1 := by omega
      rw [← Nat.xor_assoc, ← Nat.xor_assoc, Nat.xor_self, Nat.zero_xor]
      by_cases hp : ((n - 2) / 2) % 2 = 1
      · have : ¬ ((n / 2) % 2 = 1) := by omega
        rw [if_pos hp, if_neg this, Nat.xor_self]
      · have : (n / 2) % 2 = 1 := by omega
        rw [if_neg hp, if_pos this, Nat.xor_zero]

theorem evens_odds_perm (L : Nat) :
    ((List.range L).map (fun e => 2 * e + 0) ++ (List.range L).map (fun e => 2 * e + 1)).Perm
      (List.range (2 * L)) := by
  apply perm_range_of_nodup
  · rw [List.nodup_append]
    refine ⟨?_, ?_, ?_⟩
    · exact nodup_map_range _ L fun a b hab _ => by omega
    · exact nodup_map_range _ L fun a b hab _ => by omega
    · intro x hx y hy
      obtain ⟨a, _, rfl⟩ := List.mem_map.mp hx
      obtain ⟨b, _, rfl⟩ := List.mem_map.mp hy
      omega
  · intro x hx
    rcases List.mem_append.mp hx with h | h
    · obtain ⟨a, ha, rfl⟩ := List.mem_map.mp h
      have := List.mem_range.mp ha; omega
    · obtain ⟨a, ha, rfl⟩ := List.mem_map.mp h
      have := List.mem_range.mp ha; omega
  · simp; omega

/-- the real bucket hash `x & mask`, `mask = u64::MAX >> leading_zeros(size)`, keeps the lowest
bit for every proof size `> 0` -/
theorem bucketMask_low_bit (size : Nat) (hs : 0 < size) (x : Nat) :
    (x &&& bucketMask size) % 2 = x % 2 := by
  unfold bucketMask
  rw [Nat.and_two_pow_sub_one_eq_mod]
  have hb : 1 ≤ bitLen size := by
    cases size with
    | zero => omega
    | succ n => rw [bitLen]; omega
  obtain ⟨k, hk⟩ : ∃ k, bitLen size = k + 1 := ⟨bitLen size - 1, by omega⟩
  rw [hk, Nat.pow_succ]
  exact Nat.mod_mul_left_mod x (2^k) 2

def frmF (ep : Nat → Nat × Nat) (ns : List Nat) (k : Nat) : Nat := (ep (ns.getD k 0)).1
def toF (ep : Nat → Nat × Nat) (ns : List Nat) (k : Nat) : Nat := (ep (ns.getD k 0)).2

theorem map_getD_fst (ep : Nat → Nat × Nat) (ns : List Nat) (k : Nat) (hk : k < ns.length) :
    ((ns.map ep).getD k (0, 0)).1 = frmF ep ns k :=
  congrArg Prod.fst (map_getD ep ns k hk)

theorem map_getD_snd (ep : Nat → Nat × Nat) (ns : List Nat) (k : Nat) (hk : k < ns.length) :
    ((ns.map ep).getD k (0, 0)).2 = toF ep ns k :=
  congrArg Prod.snd (map_getD ep ns k hk)

def uvF (ep : Nat → Nat × Nat) (ns : List Nat) (t : Nat) : Nat := slotNode (ns.map ep) t

theorem slotNode_even (es : List (Nat × Nat)) (e : Nat) : slotNode es (2 * e) = (es.getD e (0, 0)).1 := by
  unfold slotNode
  have h1 : (2 * e) % 2 = 0 := by omega
  have h2 : (2 * e) / 2 = e := by omega
  rw [if_pos h1, h2]

theorem slotNode_odd (es : List (Nat × Nat)) (e : Nat) : slotNode es (2 * e + 1) = (es.getD e (0, 0)).2 := by
  unfold slotNode
  have h1 : ¬ (2 * e + 1) % 2 = 0 := by omega
  have h2 : (2 * e + 1) / 2 = e := by omega
  rw [if_neg h1, h2]

theorem uvF_even (ep : Nat → Nat × Nat) (ns : List Nat) (n : Nat) (hn : n < ns.length) :
    uvF ep ns (2*n) = (ep (ns.getD n 0)).1 :=
  (slotNode_even _ n).trans (map_getD_fst ep ns n hn)

theorem uvF_odd (ep : Nat → Nat × Nat) (ns : List Nat) (n : Nat) (hn : n < ns.length) :
    uvF ep ns (2*n+1) = (ep (ns.getD n 0)).2 :=
  (slotNode_odd _ n).trans (map_getD_snd ep ns n hn)

/-- `ascChain last xs`: the ascending test of the build loops, `last = nonces[n-1]` -/
def ascChain : Option Nat → List Nat → Prop
  | _, [] => True
  | last, x :: xs => notAsc last x = false ∧ ascChain (some x) xs

theorem ascChain_spec : ∀ xs last, ascChain last xs →
    xs.Pairwise (· < ·) ∧ ∀ y, last = some y → ∀ x ∈ xs, y < x := by
  intro xs
  induction xs with
  | nil => intro last _; simp
  | cons x xs ih =>
    intro last h
    obtain ⟨h1, h2⟩ := h
    obtain ⟨p, q⟩ := ih (some x) h2
    refine ⟨List.pairwise_cons.mpr ⟨fun z hz => q x rfl z hz, p⟩, ?_⟩
    intro y hy z hz
    subst hy
    have hyx : y < x := by simpa [notAsc] using h1
    rcases List.mem_cons.mp hz with rfl | hz
    · exact hyx
    · exact Nat.lt_trans hyx (q x rfl z hz)

theorem ascChain_of_pairwise : ∀ xs last, xs.Pairwise (· < ·) →
    (∀ y, last = some y → ∀ x ∈ xs, y < x) → ascChain last xs := by
  intro xs
  induction xs with
  | nil => intro _ _ _; trivial
  | cons x xs ih =>
    intro last hp hl
    obtain ⟨h1, h2⟩ := List.pairwise_cons.mp hp
    refine ⟨?_, ih (some x) h2 ?_⟩
    · cases last with
      | none => rfl
      | some y =>
        have := hl y rfl x (by simp)
        simp [notAsc]; omega
    · intro y hy z hz
      injection hy with hy
      subst hy
      exact h1 z hz

/-- number of `e' < e` with `f e'` -/
def cntBelow (f : Nat → Bool) : Nat → Nat
  | 0 => 0
  | e+1 => cntBelow f e + (if f e then 1 else 0)

theorem cntBelow_mono (f : Nat → Bool) : ∀ a b, a ≤ b → cntBelow f a ≤ cntBelow f b := by
  intro a b h
  induction b with
  | zero => have : a = 0 := by omega
            subst this; exact Nat.le_refl _
  | succ b ih =>
    rcases Nat.lt_or_ge a (b+1) with h1 | h1
    · have := ih (by omega); simp only [cntBelow]; omega
    · have : a = b + 1 := by omega
      subst this; exact Nat.le_refl _

theorem cntBelow_lt (f : Nat → Bool) (a b : Nat) (h : a < b) (hf : f a = true) :
    cntBelow f a < cntBelow f b := by
  have h1 : cntBelow f (a+1) = cntBelow f a + 1 := by simp [cntBelow, hf]
  have h2 := cntBelow_mono f (a+1) b (by omega)
  omega

theorem cntBelow_le (f : Nat → Bool) : ∀ n, cntBelow f n ≤ n := by
  intro n
  induction n with
  | zero => simp [cntBelow]
  | succ n ih => simp only [cntBelow]; split <;> omega

theorem cntBelow_pos (f : Nat → Bool) : ∀ n, 0 < cntBelow f n →
    ∃ e, e < n ∧ f e = true ∧ cntBelow f e = 0 := by
  intro n
  induction n with
  | zero => intro h; simp [cntBelow] at h
  | succ n ih =>
    intro h
    by_cases hp : 0 < cntBelow f n
    · obtain ⟨e, a, b, c⟩ := ih hp; exact ⟨e, by omega, b, c⟩
    · have hz : cntBelow f n = 0 := by omega
      by_cases hf : f n = true
      · exact ⟨n, by omega, hf, hz⟩
      · simp [cntBelow, hz, hf] at h

theorem cntBelow_cons (q : Nat → Bool) (x : Nat) (l : List Nat) : ∀ n,
    cntBelow (fun e => q ((x :: l).getD e 0)) (n+1) =
      (if q x then 1 else 0) + cntBelow (fun e => q (l.getD e 0)) n := by
  intro n
  induction n with
  | zero => simp [cntBelow]
  | succ n ih =>
    rw [cntBelow, ih]
    simp only [cntBelow, List.getD_cons_succ]
    omega

theorem cntBelow_countP (q : Nat → Bool) : ∀ l : List Nat,
    cntBelow (fun e => q (l.getD e 0)) l.length = l.countP q := by
  intro l
  induction l with
  | nil => simp [cntBelow]
  | cons x l ih =>
    rw [List.length_cons, cntBelow_cons, ih, List.countP_cons]
    omega

end GV.Pow
