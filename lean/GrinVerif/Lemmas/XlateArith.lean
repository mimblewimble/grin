import GrinVerif.Gen.FnsPrelude
import GrinVerif.Lemmas.PmmrArith
/-! Helper lemmas for the equivalence theorems `Props/Xlate*.lean`, beside the wrapping helpers of
`Lemmas/BasicWrap`: bit tests, `bitLen`, `ALL_ONES >> leading_zeros`, the `w`-bit helpers of
`Gen/FnsPrelude.lean` in range. -/

namespace GV.Xlate
open GV GV.Gen.Fns

theorem two_mul_or_one (a : Nat) : (2 * a) ||| 1 = 2 * a + 1 := by
  have := Nat.two_pow_add_eq_or_of_lt (i := 1) (b := 1) (by decide) a
  simpa using this.symm

/-- `(x & (1 << h)) != 0` is the bit test -/
theorem and_two_pow_ne_zero (x h : Nat) : (x &&& 2^h != 0) = (x / 2^h % 2 == 1) := by
  have hb : (x / 2^h % 2 == 1) = x.testBit h := by
    rw [Nat.testBit_eq_decide_div_mod_eq]
    by_cases hc : x / 2^h % 2 = 1 <;> simp [hc]
  rw [hb]
  cases ht : x.testBit h
  · have : x &&& 2^h = 0 := by
      apply Nat.eq_of_testBit_eq
      intro j
      rw [Nat.testBit_and, Nat.testBit_two_pow, Nat.zero_testBit]
      by_cases hj : h = j
      · subst hj; simp [ht]
      · simp [hj]
    simp [this]
  · have : (x &&& 2^h).testBit h = true := by
      rw [Nat.testBit_and, Nat.testBit_two_pow, ht]; simp
    have hne : x &&& 2^h ≠ 0 := by
      intro h0; rw [h0, Nat.zero_testBit] at this; cases this
    simp [hne]

theorem and_two_pow_eq_zero (x h : Nat) : (x &&& 2^h == 0) = !(x / 2^h % 2 == 1) := by
  rw [← and_two_pow_ne_zero]; cases hx : (x &&& 2^h == 0) <;> simp_all [bne]

theorem bitLen_le : ∀ (k n : Nat), n < 2^k → bitLen n ≤ k := by
  intro k
  induction k with
  | zero => intro n h; have : n = 0 := by simpa using h
            subst this; simp [bitLen]
  | succ k ih =>
    intro n h
    cases n with
    | zero => simp [bitLen]
    | succ m =>
      rw [bitLen]
      have : (m+1)/2 < 2^k := by rw [Nat.pow_succ] at h; omega
      have := ih _ this
      omega

theorem bitLen_pos {n : Nat} (h : 0 < n) : 0 < bitLen n := by
  cases n with
  | zero => omega
  | succ m => rw [bitLen]; omega

theorem lt_two_pow_bitLen' (n : Nat) : n < 2^(bitLen n) := Pmmr.lt_two_pow_bitLen n

theorem all_ones_shr {size : Nat} (h0 : 0 < size) (h : size < 2^64) :
    shrW 18446744073709551615 (leadingZeros64 size) = 2^(bitLen size) - 1 := by
  have hb := bitLen_le 64 size h
  have hp := bitLen_pos h0
  unfold shrW leadingZeros64
  rw [Nat.mod_eq_of_lt h]
  have hs : (64 - bitLen size) % 64 = 64 - bitLen size := Nat.mod_eq_of_lt (by omega)
  rw [hs]
  have hsplit : 2^64 = 2^(bitLen size) * 2^(64 - bitLen size) := by
    rw [← Nat.pow_add]; congr 1; omega
  have hc : 0 < 2^(64 - bitLen size) := Nat.pow_pos (by omega)
  have hx : 0 < 2^(bitLen size) := Nat.pow_pos (by omega)
  apply Nat.div_eq_of_lt_le
  · have : (2^(bitLen size) - 1) * 2^(64 - bitLen size) + 2^(64 - bitLen size) = 2^64 := by
      rw [hsplit]
      have : 2^(bitLen size) = (2^(bitLen size) - 1) + 1 := by omega
      conv => rhs; rw [this, Nat.add_mul, Nat.one_mul]
    omega
  · have : (2^(bitLen size) - 1 + 1) = 2^(bitLen size) := by omega
    rw [this, ← hsplit]; omega

theorem addN_eq {w a b : Nat} (h : a + b < 2^w) : addN w a b = a + b := Nat.mod_eq_of_lt h

theorem subN_eq {w a b : Nat} (ha : a < 2^w) (h : b ≤ a) : subN w a b = a - b := by
  unfold subN
  rw [Nat.mod_eq_of_lt (Nat.lt_of_le_of_lt h ha), show a + 2^w - b = a - b + 2^w by omega, Nat.add_mod_right]
  exact Nat.mod_eq_of_lt (by omega)

theorem castN_eq {w a : Nat} (h : a < 2^w) : castN w a = a := Nat.mod_eq_of_lt h

theorem shlN_eq {w a s : Nat} (hs : s < w) (h : a * 2^s < 2^w) : shlN w a s = a * 2^s := by
  unfold shlN; rw [Nat.mod_eq_of_lt hs]; exact Nat.mod_eq_of_lt h

end GV.Xlate
