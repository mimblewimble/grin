import GrinVerif.Lemmas.PowUBuild
import GrinVerif.Lemmas.PowCirc
/-! Walk-level theory of the undirected engine: the step is "go to the unique partner slot, then
to the other end of its edge"; partner is an involution, so an accepted walk never retraces an
edge and its `L` entry slots belong to `L` different edges: one simple cycle through all. The cycle
notion of the engine (`adjG`, `sameVG`) is read in the words of the specification for the three
configurations; `verifyU_sound` holds for any configuration whose match test is an equivalence
relation. -/
namespace GV.Pow

/-- `mt` is an equivalence relation on node values (true for `==` and for `>>1 ==`) -/
structure MtEquiv (C : UCfg) : Prop where
  symm : ∀ a b, C.mt a b = C.mt b a
  trans : ∀ a b c, C.mt a b = true → C.mt b c = true → C.mt a c = true

/-- `j` is the slot the inner loop finds from `i` -/
def Partner (C : UCfg) (key uv : Nat → Nat) (N i j : Nat) : Prop :=
  Other key N i j ∧ C.mt (uv j) (uv i) = true ∧
  (∀ s, Other key N i s → C.mt (uv s) (uv i) = true → s = j) ∧
  (C.deadSame = true → uv j ≠ uv i)

section
variable {C : UCfg} {key uv : Nat → Nat} {N i j : Nat} (h : Partner C key uv N i j)
include h

theorem Partner.lt : j < N := h.1.1
theorem Partner.ne : j ≠ i := h.1.2.1
theorem Partner.sameKey : key j = key i := h.1.2.2
theorem Partner.mt : C.mt (uv j) (uv i) = true := h.2.1
theorem Partner.uniq (s : Nat) (hs : Other key N i s) (hm : C.mt (uv s) (uv i) = true) : s = j := h.2.2.1 s hs hm
theorem Partner.notSame : C.deadSame = true → uv j ≠ uv i := h.2.2.2

end

theorem partner_fun {C : UCfg} {key uv : Nat → Nat} {N i j j' : Nat}
    (h : Partner C key uv N i j) (h' : Partner C key uv N i j') : j = j' :=
  h'.uniq j h.1 h.mt

theorem uStep_iff (C : UCfg) (key : Nat → Nat) (size : Nat) (uvs prev : Nat → Nat) (i i' : Nat)
    (hi : i < 2 * size) (hprev : ∀ t, t < 2 * size → prev t = prevCirc key (2 * size) t) :
    uStep C size uvs prev i = .ok i' ↔ ∃ j, Partner C key uvs (2 * size) i j ∧ i' = j ^^^ 1 := by
  unfold uStep
  rcases uFind_spec C key (2 * size) uvs prev i hi hprev (2 * size + 1) (Nat.le_succ _) with
    ⟨r, hr, hres⟩ | ⟨hr, s1, s2, hne, o1, o2, m1, m2⟩
  · simp only [hr]
    rcases hres with ⟨r1, r2⟩ | ⟨r1, r2, r3⟩
    · simp only [r1, Bool.true_or, decide_true, if_true]
      refine ⟨fun h => (nomatch h), fun ⟨j, hp, _⟩ => ?_⟩
      exact absurd (hp.mt.symm.trans (r2 j hp.1)) (by decide)
    · by_cases hd : (C.deadSame && uvs r == uvs i) = true
      · simp only [hd, Bool.or_true, if_true]
        refine ⟨fun h => (nomatch h), fun ⟨j, hp, _⟩ => ?_⟩
        rw [Bool.and_eq_true, beq_iff_eq] at hd
        exact absurd (r3 j hp.1 hp.mt ▸ hd.2) (hp.notSame hd.1)
      · have hri : (decide (r = i) || (C.deadSame && uvs r == uvs i)) = false := by
          rw [Bool.not_eq_true] at hd
          rw [hd, Bool.or_false, decide_eq_false r1.2.1]
        simp only [hri, Bool.false_eq_true, if_false]
        have hp : Partner C key uvs (2 * size) i r :=
          ⟨r1, r2, r3, fun h1 h2 => hd (by rw [h1, h2]; simp)⟩
        exact ⟨fun h => ⟨r, hp, by injection h with h; exact h.symm⟩,
          fun ⟨j, hj, e⟩ => by rw [e, partner_fun hj hp]⟩
  · simp only [hr]
    refine ⟨fun h => (nomatch h), fun ⟨j, hp, _⟩ => ?_⟩
    exact absurd ((hp.uniq s1 o1 m1).trans (hp.uniq s2 o2 m2).symm) hne

theorem uStep_no_hang (C : UCfg) (key : Nat → Nat) (size : Nat) (uvs prev : Nat → Nat) (i : Nat)
    (hi : i < 2 * size) (hprev : ∀ t, t < 2 * size → prev t = prevCirc key (2 * size) t) :
    uStep C size uvs prev i ≠ .error .hang := by
  unfold uStep
  rw [uFind_eq C key (2 * size) uvs prev i hi hprev (2 * size + 1) (Nat.le_succ _)]
  split
  · next e he => exact fun h => scanJ_ne_hang _ _ _ _ (by rw [he]; injection h with h; rw [h])
  · split <;> exact fun h => nomatch h

theorem partner_symm {C : UCfg} (E : MtEquiv C) {key uv : Nat → Nat} {N i j : Nat}
    (hi : i < N) (h : Partner C key uv N i j) : Partner C key uv N j i := by
  obtain ⟨⟨h1, h2, h3⟩, h4, h5, h6⟩ := h
  refine ⟨⟨hi, fun e => h2 e.symm, h3.symm⟩, by rw [E.symm]; exact h4, ?_, fun hd e => h6 hd e.symm⟩
  intro s ⟨s1, s2, s3⟩ hm
  by_cases e : s = i
  · exact e
  · have := h5 s ⟨s1, e, by rw [s3, h3]⟩ (E.trans _ _ _ hm h4)
    exact absurd this s2

theorem partner_invol {C : UCfg} (E : MtEquiv C) {key uv : Nat → Nat} {N s j k : Nat} (hs : s < N)
    (h : Partner C key uv N s j) (h' : Partner C key uv N j k) : k = s :=
  partner_fun h' (partner_symm E hs h)

theorem partner_inj {C : UCfg} (E : MtEquiv C) {key uv : Nat → Nat} {N i i' j : Nat} (hi : i < N)
    (hi' : i' < N) (h : Partner C key uv N i j) (h' : Partner C key uv N i' j) : i = i' :=
  partner_fun (partner_symm E hi h) (partner_symm E hi' h')

/-- the interface between the arrays in closed form and the walk theory: a step goes to the other
end of the partner's edge -/
def StepsToPartner (C : UCfg) (key uv : Nat → Nat) (N : Nat) (step : Nat → Except Err Nat) : Prop :=
  ∀ i i', i < N → step i = .ok i' → ∃ j, Partner C key uv N i j ∧ i' = j ^^^ 1

theorem ustep_inj {C : UCfg} (E : MtEquiv C) {key uv : Nat → Nat} {N : Nat} {step : Nat → Except Err Nat}
    (hstep : StepsToPartner C key uv N step)
    (x y z : Nat) (hx : x < N) (hy : y < N) (h1 : step x = .ok z) (h2 : step y = .ok z) : x = y := by
  obtain ⟨j1, p1, e1⟩ := hstep x z hx h1
  obtain ⟨j2, p2, e2⟩ := hstep y z hy h2
  obtain rfl := xor_one_cancel (e1.symm.trans e2)
  exact partner_inj E hx hy p1 p2

theorem ustep_lt {C : UCfg} {key uv : Nat → Nat} {L : Nat} {step : Nat → Except Err Nat}
    (hstep : StepsToPartner C key uv (2 * L) step)
    (j x : Nat) (hj : j < 2 * L) (hs : step j = .ok x) : x < 2 * L := by
  obtain ⟨k, hk, rfl⟩ := hstep j x hj hs
  exact xor_one_lt _ _ hk.lt

/-- generic reading of "the vertex entered through slot `a` is left through slot `b`" -/
def adjG (C : UCfg) (key uv : Nat → Nat) (a b : Nat) : Prop :=
  key b = key a ∧ C.mt (uv b) (uv a) = true ∧ (C.deadSame = true → uv b ≠ uv a)
/-- generic "same vertex" -/
def sameVG (C : UCfg) (key uv : Nat → Nat) (a b : Nat) : Prop :=
  key a = key b ∧ C.mt (uv a) (uv b) = true

theorem IsCycle.congr {L : Nat} {adj adj' sameV sameV' : Nat → Nat → Prop} {c : List Nat}
    (ha : ∀ a b, adj a b ↔ adj' a b) (hs : ∀ a b, sameV a b ↔ sameV' a b) :
    IsCycle L adj sameV c ↔ IsCycle L adj' sameV' c :=
  ⟨fun h => h.mono (fun a b => (ha a b).mp) (fun a b => (hs a b).mpr),
   fun h => h.mono (fun a b => (ha a b).mpr) (fun a b => (hs a b).mp)⟩

theorem adjG_of_partner {C : UCfg} {key uv : Nat → Nat} {N a b : Nat} (h : Partner C key uv N a b) :
    adjG C key uv a b := ⟨h.sameKey, h.mt, h.notSame⟩

/-! The three configurations in the words of the specification (`Model/PowSpec.lean`).  The list key
enters only through the vertices it separates: the side for the bipartite graphs, nothing for
Cuckarooz (`hk`; true of `keyF` for every bucket hash, and of the key `fun s => s % 2` the oracle
theorems use). -/

section
variable {key uv : Nat → Nat}

theorem sameVG_cuckaroo (hk : ∀ a b, uv a = uv b → (key a = key b ↔ a % 2 = b % 2)) (a b : Nat) :
    sameVG cfgCuckaroo key uv a b ↔ sameSide a b ∧ uv a = uv b :=
  ⟨fun ⟨h1, h2⟩ => ⟨(hk a b (beq_iff_eq.mp h2)).mp h1, beq_iff_eq.mp h2⟩,
   fun ⟨h1, h2⟩ => ⟨(hk a b h2).mpr h1, beq_iff_eq.mpr h2⟩⟩

theorem adjG_cuckaroo (hk : ∀ a b, uv a = uv b → (key a = key b ↔ a % 2 = b % 2)) (a b : Nat) :
    adjG cfgCuckaroo key uv a b ↔ sameSide a b ∧ uv a = uv b :=
  ⟨fun ⟨h1, h2, _⟩ => ((sameVG_cuckaroo hk b a).mp ⟨h1, h2⟩).imp Eq.symm Eq.symm,
   fun ⟨h1, h2⟩ => ⟨((sameVG_cuckaroo hk b a).mpr ⟨h1.symm, h2.symm⟩).1,
     ((sameVG_cuckaroo hk b a).mpr ⟨h1.symm, h2.symm⟩).2, fun h => Bool.noConfusion h⟩⟩

theorem sameVG_cuckarooz (hk : ∀ a b, uv a = uv b → key a = key b) (a b : Nat) :
    sameVG cfgCuckarooz key uv a b ↔ uv a = uv b :=
  ⟨fun ⟨_, h2⟩ => beq_iff_eq.mp h2, fun h => ⟨hk a b h, beq_iff_eq.mpr h⟩⟩

theorem adjG_cuckarooz (hk : ∀ a b, uv a = uv b → key a = key b) (a b : Nat) :
    adjG cfgCuckarooz key uv a b ↔ uv a = uv b :=
  ⟨fun ⟨_, h2, _⟩ => (beq_iff_eq.mp h2).symm,
   fun h => ⟨hk b a h.symm, beq_iff_eq.mpr h.symm, fun h => Bool.noConfusion h⟩⟩

theorem sameVG_cuckatoo (hk : ∀ a b, uv a / 2 = uv b / 2 → (key a = key b ↔ a % 2 = b % 2)) (a b : Nat) :
    sameVG cfgCuckatoo key uv a b ↔ sameSide a b ∧ uv a >>> 1 = uv b >>> 1 := by
  have e : ∀ x y : Nat, x >>> 1 = y >>> 1 → x / 2 = y / 2 := fun x y h => by rwa [shr_one, shr_one] at h
  exact ⟨fun ⟨h1, h2⟩ => ⟨(hk a b (e _ _ (beq_iff_eq.mp h2))).mp h1, beq_iff_eq.mp h2⟩,
    fun ⟨h1, h2⟩ => ⟨(hk a b (e _ _ h2)).mpr h1, beq_iff_eq.mpr h2⟩⟩

theorem adjG_cuckatoo (hk : ∀ a b, uv a / 2 = uv b / 2 → (key a = key b ↔ a % 2 = b % 2)) (a b : Nat) :
    adjG cfgCuckatoo key uv a b ↔ sameSide a b ∧ uv a = uv b ^^^ 1 := by
  constructor
  · rintro ⟨h1, h2, h3⟩
    obtain ⟨s1, s2⟩ := (sameVG_cuckatoo hk b a).mp ⟨h1, h2⟩
    rw [shr_one, shr_one] at s2
    exact ⟨s1.symm, (eq_or_xor_of_half _ _ s2.symm).resolve_left (fun e => h3 rfl e.symm)⟩
  · rintro ⟨h1, h2⟩
    have hh : uv b >>> 1 = uv a >>> 1 := by rw [h2, shr_one, shr_one, xor_one_div]
    obtain ⟨s1, s2⟩ := (sameVG_cuckatoo hk b a).mpr ⟨h1.symm, hh⟩
    exact ⟨s1, s2, fun _ e => ne_xor_one _ (e.trans h2)⟩

theorem keyF_cuckaroo (P : Params) (ep : Nat → Nat × Nat) (ns : List Nat) (a b : Nat)
    (h : uvF ep ns a = uvF ep ns b) :
    keyF cfgCuckaroo P ep ns a = keyF cfgCuckaroo P ep ns b ↔ a % 2 = b % 2 := by
  simp only [keyF, cfgCuckaroo, h]
  omega

theorem keyF_cuckarooz (P : Params) (ep : Nat → Nat × Nat) (ns : List Nat) (a b : Nat)
    (h : uvF ep ns a = uvF ep ns b) : keyF cfgCuckarooz P ep ns a = keyF cfgCuckarooz P ep ns b := by
  simp only [keyF, cfgCuckarooz, h]

theorem keyF_cuckatoo (P : Params) (ep : Nat → Nat × Nat) (ns : List Nat) (a b : Nat)
    (h : uvF ep ns a / 2 = uvF ep ns b / 2) :
    keyF cfgCuckatoo P ep ns a = keyF cfgCuckatoo P ep ns b ↔ a % 2 = b % 2 := by
  simp only [keyF, cfgCuckatoo, shr_one, h]
  omega

/-- the cycle notion of the undirected engine at the proof's edges -/
def IsProofCycleU (C : UCfg) (P : Params) (ep : Nat → Nat × Nat) (ns : List Nat) : Prop :=
  ∃ c, IsCycle ns.length (adjG C (keyF C P ep ns) (uvF ep ns)) (sameVG C (keyF C P ep ns) (uvF ep ns)) c

theorem cycleG_cuckaroo {key : Nat → Nat} (es : List (Nat × Nat))
    (hk : ∀ a b, slotNode es a = slotNode es b → (key a = key b ↔ a % 2 = b % 2)) :
    (∃ c, IsCycle es.length (adjG cfgCuckaroo key (slotNode es)) (sameVG cfgCuckaroo key (slotNode es)) c) ↔
      IsProofCycleCuckaroo es :=
  exists_congr fun _ => IsCycle.congr (adjG_cuckaroo hk) (sameVG_cuckaroo hk)

theorem isProofCycleU_cuckaroo (P : Params) (ep : Nat → Nat × Nat) (ns : List Nat) :
    IsProofCycleU cfgCuckaroo P ep ns ↔ IsProofCycleCuckaroo (ns.map ep) := by
  have := cycleG_cuckaroo (key := keyF cfgCuckaroo P ep ns) (ns.map ep) (keyF_cuckaroo P ep ns)
  rwa [List.length_map] at this

theorem cycleG_cuckarooz {key : Nat → Nat} (es : List (Nat × Nat))
    (hk : ∀ a b, slotNode es a = slotNode es b → key a = key b) :
    (∃ c, IsCycle es.length (adjG cfgCuckarooz key (slotNode es)) (sameVG cfgCuckarooz key (slotNode es)) c) ↔
      IsProofCycleCuckarooz es :=
  exists_congr fun _ => IsCycle.congr (adjG_cuckarooz hk) (sameVG_cuckarooz hk)

theorem isProofCycleU_cuckarooz (P : Params) (ep : Nat → Nat × Nat) (ns : List Nat) :
    IsProofCycleU cfgCuckarooz P ep ns ↔ IsProofCycleCuckarooz (ns.map ep) := by
  have := cycleG_cuckarooz (key := keyF cfgCuckarooz P ep ns) (ns.map ep) (keyF_cuckarooz P ep ns)
  rwa [List.length_map] at this

theorem cycleG_cuckatoo {key : Nat → Nat} (es : List (Nat × Nat))
    (hk : ∀ a b, slotNode es a / 2 = slotNode es b / 2 → (key a = key b ↔ a % 2 = b % 2)) :
    (∃ c, IsCycle es.length (adjG cfgCuckatoo key (slotNode es)) (sameVG cfgCuckatoo key (slotNode es)) c) ↔
      IsProofCycleCuckatoo es :=
  exists_congr fun _ => IsCycle.congr (adjG_cuckatoo hk) (sameVG_cuckatoo hk)

theorem isProofCycleU_cuckatoo (P : Params) (ep : Nat → Nat × Nat) (ns : List Nat) :
    IsProofCycleU cfgCuckatoo P ep ns ↔ IsProofCycleCuckatoo (ns.map ep) := by
  have := cycleG_cuckatoo (key := keyF cfgCuckatoo P ep ns) (ns.map ep) (keyF_cuckatoo P ep ns)
  rwa [List.length_map] at this

/-- Cuckatoo's rule on node values that carry one more bit `dir` as their lowest bit (Cuckarood: the
direction of the edge; Cuckaroom: the end of the edge): the same vertex is the same `node`, and two
ends continue into each other when their `dir` differ -/
theorem sameVG_dirbit {node dir : Nat → Nat} (hd : ∀ x, dir x ≤ 1) (a b : Nat) :
    sameVG cfgCuckatoo key (fun x => 2 * node x + dir x) a b ↔ key a = key b ∧ node a = node b := by
  have := hd a
  have := hd b
  refine and_congr_right fun _ => ?_
  show ((2 * node a + dir a) >>> 1 == (2 * node b + dir b) >>> 1) = true ↔ _
  rw [beq_iff_eq, shr_one, shr_one]
  omega

theorem adjG_dirbit {node dir : Nat → Nat} (hd : ∀ x, dir x ≤ 1) (a b : Nat) :
    adjG cfgCuckatoo key (fun x => 2 * node x + dir x) a b ↔
      key a = key b ∧ node a = node b ∧ dir a ≠ dir b := by
  have := hd a
  have := hd b
  constructor
  · rintro ⟨h1, h2, h3⟩
    obtain ⟨_, hn⟩ := (sameVG_dirbit hd b a).mp ⟨h1, h2⟩
    exact ⟨h1.symm, hn.symm, fun e => h3 rfl (by show 2 * node b + dir b = 2 * node a + dir a; omega)⟩
  · rintro ⟨h1, h2, h3⟩
    obtain ⟨s1, s2⟩ := (sameVG_dirbit hd b a).mpr ⟨h1.symm, h2.symm⟩
    exact ⟨s1, s2, fun _ e => h3 (by
      have e : 2 * node b + dir b = 2 * node a + dir a := e
      omega)⟩

end

section
variable {C : UCfg} (E : MtEquiv C) {key uv : Nat → Nat} {L : Nat} {step : Nat → Except Err Nat}
  (hstep : StepsToPartner C key uv (2 * L) step)
  {tr : List Nat} (htr : Trace step 0 tr) (hL : 0 < L)
include E hstep htr hL

omit E in
theorem ucyc_lt (t : Nat) (ht : t < tr.length) : tr.getD t 0 < 2 * L := by
  induction t with
  | zero => rw [htr.head]; omega
  | succ t ih => exact ustep_lt hstep _ _ (ih (by omega)) (htr.chain t ht).1

omit E in
theorem ucyc_next (t : Nat) (ht : t + 1 < tr.length) :
    ∃ j, Partner C key uv (2 * L) (tr.getD t 0) j ∧ tr.getD (t + 1) 0 = j ^^^ 1 :=
  hstep _ _ (ucyc_lt hstep htr hL t (by omega)) (htr.chain t ht).1

/-- the walk never enters an edge it already left through (no retracing) -/
theorem ucyc_noretrace : ∀ d a, a + d < tr.length → tr.getD a 0 ≠ tr.getD (a + d) 0 ^^^ 1 := by
  intro d
  induction d using Nat.strongRecOn with
  | _ d ih =>
    intro a hb heq
    match d, ih with
    | 0, _ => exact ne_xor_one _ heq
    | 1, _ =>
      obtain ⟨j, hj, e⟩ := ucyc_next hstep htr hL a hb
      rw [e, xor_one_xor_one] at heq
      exact hj.ne heq.symm
    | d+2, ih =>
      obtain ⟨ja, hja, ea⟩ := ucyc_next hstep htr hL a (by omega)
      obtain ⟨jb, hjb, eb⟩ := ucyc_next hstep htr hL (a + d + 1) hb
      rw [show a + (d + 2) = a + d + 1 + 1 by omega, eb, xor_one_xor_one] at heq
      -- the partner of slot `a + d + 1` is slot `a`, so the partner of slot `a` is slot `a + d + 1`
      have hs := partner_symm E (ucyc_lt hstep htr hL (a + d + 1) (by omega)) hjb
      rw [← heq] at hs
      rw [partner_fun hja hs, show a + d + 1 = a + 1 + d by omega] at ea
      exact ih d (by omega) (a + 1) (by omega) ea

theorem ucyc_noretrace' (a b : Nat) (ha : a < tr.length) (hb : b < tr.length) :
    tr.getD a 0 ≠ tr.getD b 0 ^^^ 1 := by
  rcases Nat.le_total a b with h | h
  · have := ucyc_noretrace E hstep htr hL (b - a) a (by omega)
    rwa [show a + (b - a) = b by omega] at this
  · intro e
    have := ucyc_noretrace E hstep htr hL (a - b) b (by omega)
    rw [show b + (a - b) = a by omega] at this
    exact this (by rw [e, xor_one_xor_one])

theorem ucyc_edges_nodup : (tr.map (· / 2)).Nodup := by
  rw [List.Nodup, List.pairwise_map, List.pairwise_iff_getElem]
  intro a b ha hb hab e
  have e' : tr.getD a 0 / 2 = tr.getD b 0 / 2 := by
    simpa [List.getD_eq_getElem?_getD, ha, hb] using e
  rcases eq_or_xor_of_half _ _ e' with h | h
  · exact absurd h (htr.ne_of_lt hab hb)
  · exact ucyc_noretrace' E hstep htr hL a b ha hb h

end

section
variable {C : UCfg} (E : MtEquiv C) {key uv : Nat → Nat} {L : Nat} {step : Nat → Except Err Nat}
  (hstep : StepsToPartner C key uv (2 * L) step)
  {tr : List Nat} (htr : Trace step 0 tr) (hlen : tr.length = L)
include E hstep htr hlen

theorem ucyc_cycle : IsCycle L (Partner C key uv (2 * L)) (sameVG C key uv) tr := by
  have hL : 0 < L := hlen ▸ htr.pos
  have hlt : ∀ t, t < L → tr.getD t 0 < 2 * L := fun t ht => ucyc_lt hstep htr hL t (hlen ▸ ht)
  have hpart : ∀ t, t < L →
      ∃ j, Partner C key uv (2 * L) (tr.getD t 0) j ∧ tr.getD ((t + 1) % L) 0 = j ^^^ 1 :=
    fun t ht => hstep _ _ (hlt t ht) (htr.cyc_chain hlen t ht)
  have hnr : ∀ a b, a < L → b < L → tr.getD a 0 ≠ tr.getD b 0 ^^^ 1 :=
    fun a b ha hb => ucyc_noretrace' E hstep htr hL a b (hlen ▸ ha) (hlen ▸ hb)
  refine ⟨hlen, ?_, ?_, ?_⟩
  · apply perm_range_of_nodup
    · exact ucyc_edges_nodup E hstep htr hL
    · intro x hx
      obtain ⟨y, hy, rfl⟩ := List.mem_map.mp hx
      obtain ⟨a, ha, rfl⟩ := exists_getD_of_mem hy
      have := hlt a (hlen ▸ ha)
      omega
    · simp [hlen]
  · intro t ht
    obtain ⟨j, hj, e⟩ := hpart t ht
    rw [e, xor_one_xor_one]; exact hj
  · intro a b ha hb hab ⟨hk, hm⟩
    obtain ⟨j, hj, e⟩ := hpart a ha
    have hne : tr.getD b 0 ≠ tr.getD a 0 := fun h => hab (htr.inj (by omega) (by omega) h.symm)
    have hbj : tr.getD b 0 = j :=
      hj.uniq _ ⟨hlt b hb, hne, hk.symm⟩ (by rw [E.symm]; exact hm)
    rw [← hbj] at e
    exact hnr ((a+1) % L) b (Nat.mod_lt _ hL) hb e

end

theorem partner_congr {C : UCfg} {key uv uv' : Nat → Nat} {N i j : Nat}
    (huv : ∀ t, t < N → uv t = uv' t) (hi : i < N) (h : Partner C key uv N i j) :
    Partner C key uv' N i j := by
  obtain ⟨h1, h2, h3, h4⟩ := h
  have hj := h1.1
  refine ⟨h1, by rw [← huv j hj, ← huv i hi]; exact h2, ?_, ?_⟩
  · intro s hs hm
    apply h3 s hs
    rw [huv s hs.1, huv i hi]; exact hm
  · intro hd
    rw [← huv j hj, ← huv i hi]; exact h4 hd

theorem uBuild_arrays (C : UCfg) (P : Params) (ep : Nat → Nat × Nat) (ns : List Nat) (s : USt)
    (hb : uBuild C P ep ns 0 none (USt.init C ns.length) = .ok s) :
    (∀ t, t < 2 * ns.length → s.uvs t = uvF ep ns t) ∧
    ∀ t, t < 2 * ns.length →
      uCirc C P ns.length s ns.length s.prev t = prevCirc (keyF C P ep ns) (2 * ns.length) t := by
  have inv := (uBuild_spec C P ep ns s hb).1
  refine ⟨inv.uvs, fun t ht => ?_⟩
  rw [uCirc_spec C P ns.length s ns.length s.prev (Nat.le_refl _) t,
    show C.key P.bk (t % 2) (s.uvs t) = keyF C P ep ns t by rw [inv.uvs t ht]; rfl,
    inv.head, inv.prev t ht]
  unfold prevCirc
  simp only [show 2 * (ns.length - ns.length) ≤ t by omega, ht, true_and]

theorem uStep_final (C : UCfg) (P : Params) (ep : Nat → Nat × Nat) (ns : List Nat) (s : USt)
    (hb : uBuild C P ep ns 0 none (USt.init C ns.length) = .ok s) :
    StepsToPartner C (keyF C P ep ns) (uvF ep ns) (2 * ns.length)
      (uStep C ns.length s.uvs (uCirc C P ns.length s ns.length s.prev)) := by
  intro i i' hi hs
  obtain ⟨huv, hprev⟩ := uBuild_arrays C P ep ns s hb
  obtain ⟨j, hj, e⟩ := (uStep_iff C (keyF C P ep ns) ns.length s.uvs _ i i' hi hprev).mp hs
  exact ⟨j, partner_congr huv hi hj, e⟩

theorem verifyU_sound (C : UCfg) (E : MtEquiv C) (P : Params) (ep : Nat → Nat × Nat) (ns : List Nat)
    (hctx : C.useCtxSize = true → P.ctxProofSize = P.proofsize)
    (h : verifyU C P ep ns = .ok ()) :
    ns.length = P.proofsize ∧ Ascending ns ∧ (∀ x ∈ ns, x ≤ P.edgeMask) ∧ IsProofCycleU C P ep ns := by
  obtain ⟨hl, s, hb, _, hw⟩ := (verifyU_eq C P ep ns ▸ pipeline_ok_iff).mp h
  obtain ⟨_, hmask, hasc⟩ := uBuild_spec C P ep ns s hb
  obtain ⟨tr, htr, hm⟩ := uWalk_trace _ _ _ _ _ hw
  have hn : (if C.useCtxSize = true then P.ctxProofSize else ns.length) = ns.length := by
    split
    · next hc => rw [hctx hc, hl]
    · rfl
  exact ⟨hl, (ascChain_spec ns none hasc).1, hmask, tr,
    (ucyc_cycle E (uStep_final C P ep ns s hb) htr (by omega)).mono (fun _ _ => adjG_of_partner)
      fun _ _ h => h⟩

theorem mtEquiv_cuckaroo : MtEquiv cfgCuckaroo :=
  ⟨fun a b => by simp [cfgCuckaroo, BEq.comm],
   fun a b c h1 h2 => by simp [cfgCuckaroo] at *; omega⟩
theorem mtEquiv_cuckarooz : MtEquiv cfgCuckarooz :=
  ⟨fun a b => by simp [cfgCuckarooz, BEq.comm],
   fun a b c h1 h2 => by simp [cfgCuckarooz] at *; omega⟩
theorem mtEquiv_cuckatoo : MtEquiv cfgCuckatoo :=
  ⟨fun a b => by simp [cfgCuckatoo, BEq.comm],
   fun a b c h1 h2 => by simp [cfgCuckatoo] at *; omega⟩

end GV.Pow
