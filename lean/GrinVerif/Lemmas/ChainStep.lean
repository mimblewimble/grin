import GrinVerif.Lemmas.ChainBasic
import GrinVerif.Lemmas.UtilIte
/-! What the steps of `Model/Chain.lean` compute: `validateHeader`; the header stage `processHeader`
(three outcomes: `processHeader_outcome`); `precheck`; and `SingleStep`, everything one
`processBlockSingle` can do, with every decision after the header stage stated about the node the
block was offered to. -/
namespace GV.Chain

/-- header rules as a predicate on the definitions only (no node history) -/
def HdrOk (p : Params) (n : Node) (b : Blk) : Prop :=
  ∃ par pb, b.parent = some par ∧ n.blk par = some pb ∧ b.h = pb.h + 1 ∧
    b.ver = headerVersion p b.h ∧ pb.ts < b.ts ∧ hasTag b "hdr:" = none

theorem headerVersion_mono (p : Params) {h h' : Nat} (hle : h ≤ h') :
    headerVersion p h ≤ headerVersion p h' := by
  unfold headerVersion
  have := Nat.div_le_div_right (c := p.hfInterval) hle
  simp only []
  split <;> split <;> omega

theorem HdrOk_congr {n m : Node} (h : n.blks = m.blks) (p : Params) (b : Blk) :
    HdrOk p n b ↔ HdrOk p m b := by
  simp [HdrOk, blk_congr h]

theorem HdrOk.height {p : Params} {n : Node} {b pb : Blk} {par : Nat} (h : HdrOk p n b)
    (hp : b.parent = some par) (hb : n.blk par = some pb) : b.h = pb.h + 1 := by
  obtain ⟨par', pb', hp', hpb, hh, _⟩ := h
  cases hp.symm.trans hp'
  cases hb.symm.trans hpb
  exact hh

theorem HdrOk.tag {p : Params} {n : Node} {b : Blk} (h : HdrOk p n b) : hasTag b "hdr:" = none :=
  have ⟨_, _, _, _, _, _, _, ht⟩ := h
  ht

theorem validateHeader_none_iff (p : Params) (n : Node) (b : Blk) :
    validateHeader p n b = none ↔
      HdrOk p n b ∧ ∃ par, b.parent = some par ∧ par ∈ n.headers := by
  unfold validateHeader HdrOk
  cases b.parent with
  | none => simp only [reduceCtorEq, false_and, exists_false]
  | some par =>
    cases hpb : n.blk par with
    | none =>
      simp only [hpb, ite_eq_iff_of_ne, ne_eq, reduceCtorEq, not_false_eq_true, and_false]
      exact ⟨False.elim, fun ⟨⟨_, _, e, h, _⟩, _⟩ => by cases e; rw [hpb] at h; cases h⟩
    | some pb =>
      simp only [Node.heightOf, hpb, ite_eq_iff_of_ne, ne_eq, reduceCtorEq, not_false_eq_true,
        Bool.not_eq_true', Bool.not_eq_false, List.contains_eq_mem, decide_eq_true_eq, Decidable.not_not,
        Nat.not_le]
      constructor
      · rintro ⟨hm, hh, hv, ht, htag⟩
        refine ⟨⟨par, pb, rfl, hpb, hh, hv, ht, ?_⟩, par, rfl, hm⟩
        cases ht' : hasTag b "hdr:" with
        | none => rfl
        | some e => rw [ht'] at htag; cases htag
      · rintro ⟨⟨_, _, e, hpb', hh, hv, ht, htag⟩, _, e', hm⟩
        cases e; cases e'
        rw [hpb] at hpb'; cases hpb'
        rw [htag]
        exact ⟨hm, hh, hv, ht, rfl⟩

theorem processHeader_eq (p : Params) (n : Node) (b : Blk) :
    processHeader p n b =
      if b.id == n.head ∨ some b.id == n.parentOf n.head ∨ n.stored.contains b.id then .ok n else
      match b.parent with
      | none => .error "StoreErr"
      | some par =>
      if !n.headers.contains par then .error "StoreErr" else
      if n.headers.contains b.id ∧ ¬ (b.work > n.workOf n.hhead) then .ok n else
      match validateHeader p n b with
      | some e => .error e
      | none => .ok (hdrUpdate n b) := rfl

theorem processHeader_unknown (p : Params) (n : Node) (b : Blk) (hk : ¬ KnownFull n b) :
    processHeader p n b =
      match b.parent with
      | none => .error "StoreErr"
      | some par =>
      if !n.headers.contains par then .error "StoreErr" else
      if n.headers.contains b.id ∧ ¬ (b.work > n.workOf n.hhead) then .ok n else
      match validateHeader p n b with
      | some e => .error e
      | none => .ok (hdrUpdate n b) :=
  (processHeader_eq p n b).trans (if_neg (mt (knownFull_iff n b).mp hk))

theorem processHeader_known (p : Params) (n : Node) (b : Blk) (h : KnownFull n b) :
    processHeader p n b = .ok n :=
  (processHeader_eq p n b).trans (if_pos ((knownFull_iff n b).mpr h))

theorem validateHeader_no_parent {p : Params} {n : Node} {b : Blk}
    (h : ∀ par, b.parent = some par → par ∉ n.headers) : validateHeader p n b = some "StoreErr" := by
  unfold validateHeader
  cases hp : b.parent with
  | none => rfl
  | some par => simp only [List.contains_eq_mem, h par hp, decide_false, Bool.not_false, if_true]

/-- the header is saved, its parent's header is known, and it would not move the header head:
`process_block_header` returns without validating anything -/
def Resting (n : Node) (b : Blk) : Prop :=
  b.id ∈ n.headers ∧ ¬ b.work > n.workOf n.hhead ∧ ∃ par, b.parent = some par ∧ par ∈ n.headers

theorem processHeader_skip {p : Params} {n : Node} {b : Blk} (h : KnownFull n b ∨ Resting n b) :
    processHeader p n b = .ok n := by
  by_cases hk : KnownFull n b
  · exact processHeader_known p n b hk
  · obtain ⟨hm, hw, par, hp, hpm⟩ := h.resolve_left hk
    rw [processHeader_unknown p n b hk, hp]
    simp only [List.contains_eq_mem, hpm, hm, decide_true, Bool.not_true, Bool.false_eq_true,
      if_false, hw, not_false_eq_true, and_self, if_true]

/-- `validateHeader` repeats the two parent checks `processHeader` makes before it, so a block that is
neither known nor resting is simply validated -/
theorem processHeader_fresh {p : Params} {n : Node} {b : Blk} (h : ¬ (KnownFull n b ∨ Resting n b)) :
    processHeader p n b = match validateHeader p n b with
      | some e => .error e
      | none => .ok (hdrUpdate n b) := by
  rw [not_or] at h
  rw [processHeader_unknown p n b h.1]
  cases hp : b.parent with
  | none => rw [validateHeader_no_parent (by simp [hp])]
  | some par =>
    by_cases hpm : par ∈ n.headers
    · have hr : ¬ (decide (b.id ∈ n.headers) = true ∧ ¬ b.work > n.workOf n.hhead) :=
        fun hc => h.2 ⟨by simpa using hc.1, hc.2, par, hp, hpm⟩
      simp only [List.contains_eq_mem, hpm, decide_true, Bool.not_true, Bool.false_eq_true, if_false]
      rw [if_neg hr]
    · rw [validateHeader_no_parent (by simp [hp, hpm])]
      simp only [List.contains_eq_mem, hpm, decide_false, Bool.not_false, if_true]

theorem processHeader_outcome (p : Params) (n : Node) (b : Blk) :
    ((KnownFull n b ∨ Resting n b) ∧ processHeader p n b = .ok n) ∨
    (¬ (KnownFull n b ∨ Resting n b) ∧
      ((∃ e, validateHeader p n b = some e ∧ processHeader p n b = .error e) ∨
       (validateHeader p n b = none ∧ processHeader p n b = .ok (hdrUpdate n b)))) := by
  by_cases hs : KnownFull n b ∨ Resting n b
  · exact .inl ⟨hs, processHeader_skip hs⟩
  · refine .inr ⟨hs, ?_⟩
    rw [processHeader_fresh hs]
    cases validateHeader p n b with
    | some e => exact .inl ⟨e, rfl, rfl⟩
    | none => exact .inr ⟨rfl, rfl⟩

theorem processHeader_ok_cases (p : Params) (n n' : Node) (b : Blk) (h : processHeader p n b = .ok n') :
    (n' = n ∧ (KnownFull n b ∨ Resting n b)) ∨
    (¬ KnownFull n b ∧ validateHeader p n b = none ∧ n' = hdrUpdate n b) := by
  rcases processHeader_outcome p n b with ⟨hs, h'⟩ | ⟨hs, ⟨e, _, h'⟩ | ⟨hv, h'⟩⟩ <;> rw [h'] at h
  · exact .inl ⟨(Except.ok.inj h).symm, hs⟩
  · cases h
  · exact .inr ⟨(not_or.mp hs).1, hv, (Except.ok.inj h).symm⟩

theorem processHeader_ok_node (p : Params) (n n' : Node) (b : Blk) (h : processHeader p n b = .ok n') :
    n' = n ∨ n' = hdrUpdate n b :=
  (processHeader_ok_cases p n n' b h).imp And.left (·.2.2)

theorem processHeader_shape {p : Params} {n n' : Node} {b : Blk} (h : processHeader p n b = .ok n') :
    n' = { n with headers := n'.headers, hhead := n'.hhead } := by
  rcases processHeader_ok_node p n n' b h with rfl | rfl <;> rfl

theorem processHeader_orphans {p : Params} {n n' : Node} {b : Blk} (h : processHeader p n b = .ok n') :
    n'.orphans = n.orphans := (congrArg Node.orphans (processHeader_shape h) :)

theorem CoreEq.of_header {p : Params} {n n1 : Node} {b : Blk} (h : processHeader p n b = .ok n1) :
    CoreEq n1 n :=
  have e := processHeader_shape h
  ⟨(congrArg Node.outs e :), (congrArg Node.blks e :), (congrArg Node.head e :), (congrArg Node.stored e :)⟩

/-- of the three alternatives only the last occurs: `validateHeader` repeats the two parent checks -/
theorem processHeader_error_cases (p : Params) (n : Node) (b : Blk) (e : Err)
    (h : processHeader p n b = .error e) :
    ¬ KnownFull n b ∧ (b.parent = none ∨ (∃ par, b.parent = some par ∧ par ∉ n.headers) ∨
      validateHeader p n b = some e) := by
  rcases processHeader_outcome p n b with ⟨_, h'⟩ | ⟨hs, ⟨e', hv, h'⟩ | ⟨_, h'⟩⟩ <;> rw [h'] at h
  · cases h
  · exact ⟨(not_or.mp hs).1, .inr (.inr (Except.error.inj h ▸ hv))⟩
  · cases h

theorem processHeader_of_valid {p : Params} {n : Node} {b : Blk} (hv : validateHeader p n b = none) :
    ∃ n1, processHeader p n b = .ok n1 := by
  rcases processHeader_outcome p n b with ⟨_, h'⟩ | ⟨_, ⟨e, hv', _⟩ | ⟨_, h'⟩⟩
  · exact ⟨_, h'⟩
  · rw [hv] at hv'; cases hv'
  · exact ⟨_, h'⟩

theorem precheck_go_iff (n1 : Node) (b : Blk) (par : Nat) :
    precheck n1 b = .go par ↔
      b.parent = some par ∧ (par = n1.head ∨ par ∈ n1.stored) ∧ ¬ KnownFull n1 b := by
  unfold precheck KnownFull
  cases b.parent with
  | none => simp only [ite_eq_iff_of_ne, ne_eq, reduceCtorEq, not_false_eq_true, and_false, false_and]
  | some par' =>
    simp only [ite_eq_iff_of_ne, ne_eq, reduceCtorEq, not_false_eq_true, beq_iff_eq,
      List.contains_eq_mem, decide_eq_true_eq, Pre.go.injEq, Option.some.injEq, Decidable.not_not]
    constructor
    · rintro ⟨h1, _, hp, h4, h5, rfl⟩
      exact ⟨rfl, hp, fun h => h.elim h1 (fun h => h.elim (fun h => h4 (.inr h)) h5)⟩
    · rintro ⟨rfl, hp, hk⟩
      exact ⟨fun h => hk (.inl h), fun h => hk (.inr (.inr h.2)), hp,
        fun h => h.elim (fun h => hk (.inl h)) (fun h => hk (.inr (.inl h))),
        fun h => hk (.inr (.inr h)), rfl⟩

theorem precheck_orphan (n1 : Node) (b : Blk) (h : precheck n1 b = .orphan) :
    ∃ par, b.parent = some par ∧ par ≠ n1.head ∧ par ∉ n1.stored := by
  unfold precheck at h
  cases hp : b.parent with
  | none =>
    rw [hp] at h
    simp only [ite_eq_iff_of_ne, ne_eq, reduceCtorEq, not_false_eq_true, and_false] at h
  | some par =>
    rw [hp] at h
    simp only [ite_eq_iff_of_ne, ne_eq, reduceCtorEq, not_false_eq_true, and_false, ite_eq_left_iff,
      Decidable.not_not, imp_false, beq_iff_eq, List.contains_eq_mem, decide_eq_true_eq, not_or] at h
    exact ⟨par, rfl, h.2.2⟩

theorem precheck_orphan_of {n1 : Node} {b : Blk} {par : Nat} (hk : ¬ KnownFull n1 b)
    (hpar : b.parent = some par) (hne : par ≠ n1.head) (hps : par ∉ n1.stored) :
    precheck n1 b = .orphan := by
  unfold precheck
  rw [if_neg fun h => hk (.inl (by simpa using h)), if_neg fun h => hk (.inr (.inr (by simpa using h.2))),
    hpar]
  exact if_pos (by simpa using ⟨hne, hps⟩)

theorem precheck_stored (n1 : Node) (b : Blk) (h : b.id ∈ n1.stored) : ∀ par, precheck n1 b ≠ .go par := by
  intro par hg
  exact ((precheck_go_iff n1 b par).mp hg).2.2 (Or.inr (Or.inr h))


/-- Everything one `process_block_single` can do. `n1`, the node the header stage returns, differs
from `n` in `headers` / `hhead` only (`CoreEq.of_header`), and nothing after the header stage reads
those: every decision is stated about `n` itself. -/
inductive SingleStep (p : Params) (n : Node) (b : Blk) : Node × DRes → Prop
  | gate (e : Err) : processHeader p n b = .error e → SingleStep p n b (n, .err e)
  | refuse (n1 : Node) (e : Err) : processHeader p n b = .ok n1 →
      (precheck n b = .reject e ∨ ∃ par, precheck n b = .go par ∧ checkBlock p n b par = .error e) →
      SingleStep p n b (n1, .err e)
  | park (n1 : Node) : processHeader p n b = .ok n1 → precheck n b = .orphan →
      SingleStep p n b (addOrphan n1 b, .err "Orphan")
  | store (n1 : Node) (par : Nat) (s' : UState) : processHeader p n b = .ok n1 →
      precheck n b = .go par → checkBlock p n b par = .ok s' → SingleStep p n b (storeBlock n1 b)

theorem processBlockSingle_of_header {p : Params} {n n1 : Node} {b : Blk}
    (h1 : processHeader p n b = .ok n1) :
    processBlockSingle p n b =
      match precheck n b with
      | .reject e => (n1, .err e)
      | .orphan => (addOrphan n1 b, .err "Orphan")
      | .go par => match checkBlock p n b par with
        | .error e => (n1, .err e)
        | .ok _ => storeBlock n1 b := by
  have hc := CoreEq.of_header h1
  simp only [processBlockSingle, h1, precheck_congr hc b, hc.checkBlock]
  rfl

/-- to case on it, generalise `processBlockSingle p n b` in it and in the goal first -/
theorem processBlockSingle_step (p : Params) (n : Node) (b : Blk) :
    SingleStep p n b (processBlockSingle p n b) := by
  cases hh : processHeader p n b with
  | error e => simp only [processBlockSingle, hh]; exact .gate e hh
  | ok n1 =>
    rw [processBlockSingle_of_header hh]
    cases hp : precheck n b with
    | reject e => exact .refuse n1 e hh (.inl hp)
    | orphan => exact .park n1 hh hp
    | go par =>
      simp only
      cases hk : checkBlock p n b par with
      | error e => exact .refuse n1 e hh (.inr ⟨par, hp, hk⟩)
      | ok s' => exact .store n1 par s' hh hp hk

theorem processBlockSingle_node (p : Params) (n : Node) (b : Blk) :
    ∃ n1, (n1 = n ∨ n1 = hdrUpdate n b) ∧
      ((processBlockSingle p n b).1 = n1 ∨ (processBlockSingle p n b).1 = addOrphan n1 b ∨
       (processBlockSingle p n b).1 = (storeBlock n1 b).1) := by
  have hs := processBlockSingle_step p n b
  generalize processBlockSingle p n b = x at hs ⊢
  cases hs with
  | gate => exact ⟨n, .inl rfl, .inl rfl⟩
  | refuse n1 _ hh => exact ⟨n1, processHeader_ok_node p n n1 b hh, .inl rfl⟩
  | park n1 hh => exact ⟨n1, processHeader_ok_node p n n1 b hh, .inr (.inl rfl)⟩
  | store n1 _ _ hh => exact ⟨n1, processHeader_ok_node p n n1 b hh, .inr (.inr rfl)⟩

theorem processBlockSingle_defs (p : Params) (n : Node) (b : Blk) :
    (processBlockSingle p n b).1.blks = n.blks ∧ (processBlockSingle p n b).1.outs = n.outs := by
  obtain ⟨n1, h1, h2⟩ := processBlockSingle_node p n b
  have hn1 : n1.blks = n.blks ∧ n1.outs = n.outs := by rcases h1 with rfl | rfl <;> exact ⟨rfl, rfl⟩
  rcases h2 with h | h | h <;> rw [h]
  · exact hn1
  · exact hn1
  · exact ⟨(storeBlock_blks n1 b).trans hn1.1, (storeBlock_outs n1 b).trans hn1.2⟩

theorem pbs_headers_eq (p : Params) (n : Node) (b : Blk) :
    (processBlockSingle p n b).1.headers = n.headers ∨
    (processBlockSingle p n b).1.headers = (hdrUpdate n b).headers := by
  obtain ⟨n1, h1, h2⟩ := processBlockSingle_node p n b
  have : (processBlockSingle p n b).1.headers = n1.headers := by
    rcases h2 with h | h | h <;> rw [h]
    · rfl
    · exact storeBlock_headers n1 b
  rw [this]
  exact h1.imp (congrArg _) (congrArg _)

theorem pbs_headers_sub (p : Params) (n : Node) (b : Blk) (h : Nat)
    (hm : h ∈ (processBlockSingle p n b).1.headers) : h ∈ n.headers ∨ h = b.id := by
  rcases pbs_headers_eq p n b with e | e <;> rw [e] at hm
  · exact .inl hm
  · exact (hdrUpdate_headers_mem n b h).mp hm

theorem pbs_headers_mono (p : Params) (n : Node) (b : Blk) (h : Nat) (hm : h ∈ n.headers) :
    h ∈ (processBlockSingle p n b).1.headers := by
  rcases pbs_headers_eq p n b with e | e <;> rw [e]
  · exact hm
  · exact (hdrUpdate_headers_mem n b h).mpr (.inl hm)

theorem processHeader_headers_mono {p : Params} {n n' : Node} {b : Blk}
    (h1 : processHeader p n b = .ok n') (h : Nat) (hm : h ∈ n.headers) : h ∈ n'.headers := by
  rcases processHeader_ok_cases p n n' b h1 with ⟨e, _⟩ | ⟨_, _, e⟩
  · rw [e]; exact hm
  · rw [e]; exact (hdrUpdate_headers_mem n b h).mpr (Or.inl hm)

theorem pbs_orphans_eq (p : Params) (n : Node) (b : Blk) :
    (processBlockSingle p n b).1.orphans = n.orphans ∨
    (processBlockSingle p n b).1.orphans = (addOrphan n b).orphans := by
  obtain ⟨n1, h1, h2⟩ := processBlockSingle_node p n b
  have ho : n1.orphans = n.orphans := by rcases h1 with rfl | rfl <;> rfl
  rcases h2 with h | h | h <;> rw [h]
  · exact .inl ho
  · exact .inr (by unfold addOrphan; rw [ho])
  · exact .inl ((storeBlock_orphans n1 b).trans ho)

theorem pbs_orphans_sub (p : Params) (n : Node) (b : Blk) (o : Nat)
    (h : o ∈ (processBlockSingle p n b).1.orphans) : o ∈ n.orphans ∨ o = b.id := by
  rcases pbs_orphans_eq p n b with e | e <;> rw [e] at h
  · exact .inl h
  · exact (addOrphan_mem n b o).mp h

theorem pbs_pool_mono (p : Params) (n : Node) (b : Blk) (o : Nat) (hm : o ∈ n.orphans) :
    o ∈ (processBlockSingle p n b).1.orphans := by
  rcases pbs_orphans_eq p n b with e | e <;> rw [e]
  · exact hm
  · exact (addOrphan_mem n b o).mpr (.inl hm)

theorem deliverBlock_cases (p : Params) (n : Node) (b : Blk) :
    (∃ e, (processBlockSingle p n b).2 = .err e ∧ deliverBlock p n b = processBlockSingle p n b) ∨
    ((∀ e, (processBlockSingle p n b).2 ≠ .err e) ∧
      deliverBlock p n b =
        (checkOrphans p ((processBlockSingle p n b).1.blks.length + 2) (processBlockSingle p n b).1 (b.h + 1),
         (processBlockSingle p n b).2)) := by
  unfold deliverBlock
  obtain ⟨n1, r⟩ := processBlockSingle p n b
  cases r with
  | err e => exact .inl ⟨e, rfl, rfl⟩
  | okHead => exact .inr ⟨nofun, rfl⟩
  | okFork => exact .inr ⟨nofun, rfl⟩

theorem deliverBlock_of_err (p : Params) (n : Node) (b : Blk) (e : Err)
    (h : (processBlockSingle p n b).2 = .err e) :
    deliverBlock p n b = ((processBlockSingle p n b).1, .err e) := by
  rcases deliverBlock_cases p n b with ⟨_, _, hd⟩ | ⟨hne, _⟩
  · rw [hd, ← h]
  · exact absurd h (hne e)

theorem deliverBlock_err_inv (p : Params) (n : Node) (b : Blk) (e : Err)
    (h : (deliverBlock p n b).2 = .err e) : (processBlockSingle p n b).2 = .err e := by
  rcases deliverBlock_cases p n b with ⟨_, _, hd⟩ | ⟨_, hd⟩ <;> rw [hd] at h <;> exact h

theorem deliverHeader_cases (p : Params) (n : Node) (b : Blk) :
    (∃ e, processHeader p n b = .error e ∧ deliverHeader p n b = (n, s!"err:{e}")) ∨
    (∃ n', processHeader p n b = .ok n' ∧ deliverHeader p n b = (n', "ok")) := by
  unfold deliverHeader
  cases h : processHeader p n b with
  | error e => exact .inl ⟨e, rfl, rfl⟩
  | ok n' => exact .inr ⟨n', rfl, rfl⟩

theorem CoreEq.of_deliverHeader (p : Params) (n : Node) (b : Blk) : CoreEq (deliverHeader p n b).1 n := by
  rcases deliverHeader_cases p n b with ⟨_, _, hd⟩ | ⟨n', hn, hd⟩ <;> rw [hd]
  · exact .refl n
  · exact .of_header hn

theorem deliverHeader_orphans (p : Params) (n : Node) (b : Blk) :
    (deliverHeader p n b).1.orphans = n.orphans := by
  rcases deliverHeader_cases p n b with ⟨_, _, hd⟩ | ⟨n', hn, hd⟩ <;> rw [hd]
  exact processHeader_orphans hn

end GV.Chain
