import GrinVerif.Lemmas.StoreCompact
import GrinVerif.Lemmas.PmmrBranch
import GrinVerif.Lemmas.PmmrTree
/-! The invariant `Synced` tying a synced prunable backend to its unpruned reference (C08): the
files hold the reference values of the surviving positions laid out by the prune list, the leaf
set is the reference's unspent set and no unspent leaf is pruned; and the same invariant inside a
unit of work, `Live`: the files seen through their buffers.  Also here: the reference itself
(`refHash`, `refData`: hash and data as functions of the position) and what the handle's
accessors, `root` and `merkle_proof` read below `size`.  No Mathlib. -/
namespace GV.Store
open GV GV.Pmmr GV.Pmmr.Co

/-- **the reference invariant of a synced backend.**  `N` = number of leaves of the reference
MMR (size `mmr N`), `ref p` = reference hash of position `p`, `dref p` = reference data of leaf
position `p`, `df` = the (fixed-size) data file. -/
structure Synced {H : Type} (b : Backend H) (N : Nat) (ref : Nat → H) (dref : Nat → Bytes)
    (df : AOF Bytes) : Prop where
  inv : b.pruneList.Inv
  hashClean : b.hashFile.Clean
  hashLay : b.hashFile.disk = (layout b.pruneList.bitmap (mmr N)).map ref
  data : b.dataFile = .fixed df
  dataClean : df.Clean
  dataLay : df.disk = (dataLayout b.pruneList.bitmap (mmr N)).map dref
  lsSorted : Sorted b.leafSet.bitmap
  lsClean : b.leafSet.Clean
  lsLeaf : ∀ x ∈ b.leafSet.bitmap, 1 ≤ x ∧ x ≤ mmr N ∧ height (x - 1) = 0
  unpruned : ∀ x ∈ b.leafSet.bitmap, ¬ PrunedBy b.pruneList.bitmap (x - 1)
  roots : ∀ x ∈ b.pruneList.bitmap, x ≤ mmr N
  bound : mmr N + 64 < 2 ^ 64
  pruneFile : b.pruneFile = b.pruneList.bitmap

namespace Synced
variable {H : Type} {b : Backend H} {N : Nat} {ref : Nat → H} {dref : Nat → Bytes} {df : AOF Bytes}

theorem compactPre (h : Synced b N ref dref df) {cutoff : Nat} (hc : cutoff ≤ mmr N) :
    Backend.CompactPre b (mmr N) cutoff :=
  ⟨h.inv, h.lsSorted, h.roots, hc, h.bound⟩

theorem cleanFixed (h : Synced b N ref dref df) : Backend.CleanFixed b df :=
  ⟨h.hashClean, h.data, h.dataClean, h.lsClean⟩

theorem checkCompact (el : Bytes → Option Nat) (h : Synced b N ref dref df) {cutoff : Nat}
    (hc : cutoff ≤ mmr N) (rm : Bitmap) :
    ∃ df', Synced (b.checkCompact el cutoff rm) N ref dref df' := by
  have hp := h.compactPre hc
  obtain ⟨h1, h2⟩ := Backend.checkCompact_hash_layout el hp rm ref h.hashClean h.hashLay
  obtain ⟨df', d1, d2, d3⟩ := Backend.checkCompact_data_layout el hp rm dref h.data h.dataClean h.dataLay
  refine ⟨df', ⟨Backend.checkCompact_inv el b cutoff rm, h1, h2, d1, d2, d3, h.lsSorted,
    LeafSet.flush_clean _, h.lsLeaf, ?_, fun x hx => (Backend.newBm_roots hp rm x hx).2, h.bound, rfl⟩⟩
  intro x hx
  obtain ⟨x1, _, xl⟩ := h.lsLeaf x hx
  have e : x - 1 + 1 = x := by omega
  exact Backend.unspent_not_pruned hp rm h.unpruned (x - 1) (by rw [e]; exact hx) xl _ (sub_refl _)

end Synced

theorem PM.getPeak_of_lt {H : Type} {p : PM H} {q : Nat} (h : q < p.size) :
    p.getPeak q = p.b.getPeakFromFile q := by
  unfold PM.getPeak guard; rw [if_neg (by omega)]

theorem PM.getFromFile_of_lt {H : Type} {p : PM H} {q : Nat} (h : q < p.size) :
    p.getFromFile q = p.b.getFromFile q := by
  unfold PM.getFromFile guard; rw [if_neg (by omega)]

theorem PM.getHash_leaf {H : Type} {p : PM H} {q : Nat} (h : q < p.size) (hl : isLeaf q = true) :
    p.getHash q = p.b.getHash q := by
  unfold PM.getHash; rw [if_neg (by omega), if_pos hl]

theorem PM.getData_leaf {H : Type} (el : Bytes → Option Nat) {p : PM H} {q : Nat} (h : q < p.size)
    (hl : isLeaf q = true) : p.getData el q = p.b.getData el q := by
  unfold PM.getData; rw [if_neg (by omega), if_pos hl]

theorem PM.root_of_peaks {H : Type} (hf : HashFn Bytes H) {b : Backend H} {N : Nat} {ref : Nat → H}
    (h : ∀ p ∈ peaks (mmr N), b.getPeakFromFile p = some (ref p)) :
    PM.root hf { b := b, size := mmr N } = Pmmr.root hf ((List.range (mmr N)).map ref) := by
  unfold PM.root rootG Pmmr.root peakHashes
  simp only [List.length_map, List.length_range]
  have : (peaks (mmr N)).filterMap (PM.getPeak { b := b, size := mmr N }) =
      (peaks (mmr N)).filterMap (fun p => ((List.range (mmr N)).map ref)[p]?) := by
    apply filterMap_congr_mem
    intro p hp
    have hlt := peaks_lt_size hp
    rw [PM.getPeak_of_lt hlt, h p hp]
    simp [hlt]
  rw [this]
  split <;> rfl

theorem familyBranch_sib (n size : Nat) :
    ∀ x ∈ familyBranch (mmr n) size, Sub (family x.2).1 (mmr n) ∧ x.2 < size := by
  intro x hx
  unfold familyBranch at hx
  rw [peakMapHeight_leaf] at hx
  simp only at hx
  have e : mmr n = cpos (up n 0, 0) := by simp [cpos, up_zero]
  rw [e, familyBranchLoop_general] at hx
  obtain ⟨hmem, hin⟩ := mem_takeWhile_prop _ _ _ hx
  obtain ⟨j, _, rfl⟩ := List.mem_map.1 hin
  simp only [decide_eq_true_eq] at hmem
  have hf := family_up n j
  obtain ⟨_, hsf, _⟩ := family_sibling (cpos (up n j, j))
  rw [hf] at hsf
  simp only at hsf
  unfold ancestorStep at hmem ⊢
  simp only at hmem ⊢
  rw [hsf]
  simp only
  refine ⟨sub_up n (j + 1), ?_⟩
  have := Co.family_fst_gt (cpos (sibCo n j))
  rw [hsf] at this
  simp only at this
  omega

theorem merkleProofG_eq {H : Type} (hf : HashFn Bytes H) (getHash getFromFile getPeak : Nat → Option H)
    (rh : List H) (q : Nat) (v : H)
    (h1 : getHash q = some v) (h1' : rh[q]? = some v)
    (h2 : ∀ x ∈ familyBranch q rh.length, getFromFile x.2 = rh[x.2]?)
    (h3 : ∀ pk ∈ peaks rh.length, getPeak pk = rh[pk]? ∧ getFromFile pk = rh[pk]?) :
    merkleProofG hf rh.length getHash getFromFile getPeak q = Pmmr.merkleProof hf rh q := by
  unfold merkleProofG Pmmr.merkleProof
  simp only
  split
  · rfl
  · rw [h1, h1']
    simp only
    have hpath : (familyBranch q rh.length).filterMap (fun x => getFromFile x.2) =
        (familyBranch q rh.length).filterMap (fun x => rh[x.2]?) :=
      filterMap_congr_mem _ _ _ h2
    have hpp : ∀ pp, peakPathG hf rh.length getFromFile getPeak pp = peakPath hf rh pp := by
      intro pp
      unfold peakPathG peakPath bagTheRhsG bagTheRhs
      simp only
      rw [filterMap_congr_mem getPeak (fun p => rh[p]?) _ (fun pk hpk => (h3 pk (List.mem_filter.1 hpk).1).1),
        filterMap_congr_mem getFromFile (fun p => rh[p]?) _ (fun pk hpk => (h3 pk (List.mem_filter.1 hpk).1).2)]
      rfl
    rw [hpath, hpp]
    rfl

/-- reference hash of position `p` of the unpruned MMR whose leaf `i` holds `f i` -/
def refHash {H : Type} (hf : HashFn Bytes H) (f : Nat → Bytes) (p : Nat) : H :=
  nodeHash hf f (peakMapHeight p).1 (peakMapHeight p).2

/-- reference data of the leaf at position `p` -/
def refData (f : Nat → Bytes) (p : Nat) : Bytes := f (peakMapHeight p).1

theorem refHash_congr {H : Type} (hf : HashFn Bytes H) {f g : Nat → Bytes} {N : Nat}
    (hfg : ∀ i, i < N → f i = g i) (p : Nat) (hp : p < mmr N) : refHash hf f p = refHash hf g p :=
  hashAt_congr hf hfg hp

theorem refData_congr {f g : Nat → Bytes} {N : Nat}
    (hfg : ∀ i, i < N → f i = g i) (p : Nat) (hp : p < mmr N) : refData f p = refData g p :=
  dataAt_congr hfg hp

theorem allHashes_eq_ref {H : Type} (hf : HashFn Bytes H) (f : Nat → Bytes) (N : Nat) :
    allHashes hf f N = (List.range (mmr N)).map (refHash hf f) := allHashes_eq_map_hashAt hf f N

theorem allHashes_getElem?_ref {H : Type} (hf : HashFn Bytes H) (f : Nat → Bytes) {N s : Nat}
    (hs : s < mmr N) : (allHashes hf f N)[s]? = some (refHash hf f s) :=
  allHashes_getElem?_hashAt hf f N hs

/-- `Synced` inside a unit of work: the same clauses with the two files seen through their buffers
(`AOF.WF`, `AOF.view`) instead of clean on disk, and without the clause that the leaf set is synced -/
structure Live {H : Type} (b : Backend H) (N : Nat) (ref : Nat → H) (dref : Nat → Bytes)
    (df : AOF Bytes) : Prop where
  inv : b.pruneList.Inv
  hashWF : b.hashFile.WF
  hashLay : b.hashFile.view = (layout b.pruneList.bitmap (mmr N)).map ref
  data : b.dataFile = .fixed df
  dataWF : df.WF
  dataLay : df.view = (dataLayout b.pruneList.bitmap (mmr N)).map dref
  lsSorted : Sorted b.leafSet.bitmap
  lsLeaf : ∀ x ∈ b.leafSet.bitmap, 1 ≤ x ∧ x ≤ mmr N ∧ height (x - 1) = 0
  unpruned : ∀ x ∈ b.leafSet.bitmap, ¬ PrunedBy b.pruneList.bitmap (x - 1)
  roots : ∀ x ∈ b.pruneList.bitmap, x ≤ mmr N
  bound : mmr N + 64 < 2 ^ 64
  pruneFile : b.pruneFile = b.pruneList.bitmap

theorem Synced.live {H : Type} {b : Backend H} {N : Nat} {ref : Nat → H} {dref : Nat → Bytes}
    {df : AOF Bytes} (h : Synced b N ref dref df) : Live b N ref dref df := by
  obtain ⟨w1, v1⟩ := AOF.wf_of_clean h.hashClean
  obtain ⟨w2, v2⟩ := AOF.wf_of_clean h.dataClean
  exact { h with hashWF := w1, hashLay := v1 ▸ h.hashLay, dataWF := w2, dataLay := v2 ▸ h.dataLay }

namespace Live
variable {H : Type} {b : Backend H} {N : Nat} {ref : Nat → H} {dref : Nat → Bytes} {df : AOF Bytes}

theorem sync (h : Live b N ref dref df) : Synced b.sync N ref dref df.flush :=
  { h with
    hashClean := AOF.flush_clean _
    hashLay := (AOF.flush_of_wf h.hashWF).trans h.hashLay
    data := by simp [Backend.sync, h.data, DFile.flush]
    dataClean := AOF.flush_clean _
    dataLay := (AOF.flush_of_wf h.dataWF).trans h.dataLay
    lsClean := LeafSet.flush_clean _
    pruneFile := rfl }

theorem congr {hf : HashFn Bytes H} {f g : Nat → Bytes}
    (h : Live b N (refHash hf f) (refData f) df) (hfg : ∀ i, i < N → f i = g i) :
    Live b N (refHash hf g) (refData g) df :=
  { h with
    hashLay := h.hashLay.trans (List.map_congr_left fun p hp =>
      refHash_congr hf hfg p (by simpa using (List.mem_filter.1 hp).1))
    dataLay := h.dataLay.trans (List.map_congr_left fun p hp =>
      refData_congr hfg p (by simpa using (List.mem_filter.1 hp).1)) }

theorem read_hash (h : Live b N ref dref df) (q : Nat) (hq : q < mmr N)
    (hnc : compactedP b.pruneList.bitmap q = false) :
    b.getPeakFromFile q = some (ref q) ∧ b.getFromFile q = some (ref q) :=
  Backend.read_of_view ref (mmr N) h.inv h.hashWF h.hashLay q hq hnc

theorem needed_kept (h : Live b N ref dref df) (q : Nat) (hq : (q + 1) ∈ b.leafSet.bitmap)
    (a : Nat) (ha : Sub (family a).1 q) : compactedP b.pruneList.bitmap a = false :=
  not_compacted_of_unpruned_below (h.unpruned (q + 1) hq) ha

theorem read_unspent (el : Bytes → Option Nat) (h : Live b N ref dref df) (q : Nat)
    (hq : (q + 1) ∈ b.leafSet.bitmap) :
    b.getHash q = some (ref q) ∧ b.getData el q = some (dref q) := by
  obtain ⟨_, h2, h3⟩ := h.lsLeaf (q + 1) hq
  rw [Nat.add_sub_cancel] at h3
  have hlt : q < mmr N := by omega
  have hnc := h.needed_kept q hq q (sub_parent_self q)
  have hinc : b.leafSet.includes q = true := LeafSet.includes_iff.2 hq
  have hl : isLeaf q = true := (isLeaf_iff q).2 h3
  constructor
  · unfold Backend.getHash
    simp only [hl, hinc, Bool.not_true, Bool.and_false, Bool.false_eq_true, if_false]
    exact (h.read_hash q hlt hnc).2
  · unfold Backend.getData
    simp only [hl, hinc, Bool.not_true, Bool.false_eq_true, if_false]
    exact Backend.getDataFromFile_of_view el dref (mmr N) h.inv h.data h.dataWF h.dataLay q hlt h3 hnc

theorem read_path (h : Live b N ref dref df) (q : Nat) (hq : (q + 1) ∈ b.leafSet.bitmap)
    (a : Nat) (ha : Sub (family a).1 q) (hlt : a < mmr N) : b.getFromFile a = some (ref a) :=
  (h.read_hash a hlt (h.needed_kept q hq a ha)).2

theorem read_peak (h : Live b N ref dref df) (p : Nat) (hp : p ∈ peaks (mmr N)) :
    b.getPeakFromFile p = some (ref p) :=
  (h.read_hash p (peaks_lt_size hp) (peak_not_compacted h.roots p hp)).1

theorem root_eq (hf : HashFn Bytes H) (h : Live b N ref dref df) :
    PM.root hf { b := b, size := mmr N } = Pmmr.root hf ((List.range (mmr N)).map ref) :=
  PM.root_of_peaks hf h.read_peak

theorem remove (h : Live b N ref dref df) (p : Nat) : Live (b.remove p) N ref dref df :=
  { h with
    lsSorted := sorted_filter _ h.lsSorted
    lsLeaf := fun x hx => h.lsLeaf x (mem_remove.1 hx).1
    unpruned := fun x hx => h.unpruned x (mem_remove.1 hx).1 }

end Live

namespace Synced
variable {H : Type} {b : Backend H} {N : Nat} {ref : Nat → H} {dref : Nat → Bytes} {df : AOF Bytes}

theorem unprunedSize (h : Synced b N ref dref df) : b.unprunedSize = mmr N :=
  Backend.unprunedSize_of_layout (mmr N) h.inv (by rw [h.hashLay, List.length_map]) h.roots

theorem root_eq (hf : HashFn Bytes H) (h : Synced b N ref dref df) :
    PM.root hf { b := b, size := mmr N } = Pmmr.root hf ((List.range (mmr N)).map ref) :=
  h.live.root_eq hf

end Synced

theorem synced_empty {H : Type} (ref : Nat → H) (dref : Nat → Bytes) :
    Synced ({} : Backend H) 0 ref dref {} := by
  refine ⟨PruneList.inv_empty, ⟨rfl, rfl, rfl⟩, ?_, rfl, ⟨rfl, rfl, rfl⟩, ?_, List.Pairwise.nil, rfl,
    ?_, ?_, ?_, by rw [mmr_zero]; omega, rfl⟩
  · rw [mmr_zero]; rfl
  · rw [mmr_zero]; rfl
  · intro x hx; exact absurd hx (by simp)
  · intro x hx; exact absurd hx (by simp)
  · intro x hx; exact absurd hx (by simp)

theorem Synced.reopen {H : Type} (el : Bytes → Option Nat) {b : Backend H} {N : Nat} {ref : Nat → H}
    {dref : Nat → Bytes} {df : AOF Bytes} (h : Synced b N ref dref df) : b.reopen el = b := by
  have h1 := AOF.ofDisk_of_clean h.hashClean
  have h2 := AOF.ofDisk_of_clean h.dataClean
  have h3 := PruneList.openBm_of_inv h.inv
  have h4 : b.leafSet.bitmap = b.leafSet.bak := h.lsClean
  have h5 := h.pruneFile
  have h6 := h.data
  cases b with
  | mk hashFile dataFile leafSet pruneList pruneFile =>
    cases leafSet
    simp only at h1 h2 h3 h4 h5 h6
    subst h6
    simp only [Backend.reopen, DFile.reopen, LeafSet.reopen, h1, h2, h5, h3, h4]

theorem nobuf_of_data {H : Type} {b : Backend H} {df : AOF Bytes} (hd : b.dataFile = .fixed df)
    (hb : df.buffer = []) : ∀ df', b.dataFile = .fixed df' → df'.buffer = [] :=
  fun _ h => Backend.fixed_unique hd h ▸ hb

theorem Synced.nobuf {H : Type} {b : Backend H} {N : Nat} {ref : Nat → H} {dref : Nat → Bytes}
    {df : AOF Bytes} (h : Synced b N ref dref df) :
    b.hashFile.buffer = [] ∧ ∀ df', b.dataFile = .fixed df' → df'.buffer = [] :=
  ⟨h.hashClean.1, nobuf_of_data h.data h.dataClean.1⟩

end GV.Store
