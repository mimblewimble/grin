import GrinVerif.Model.ConcNode
/-! Lemmas for C17 (node level): the order graph of a set of programs, the rank discipline of
`checkFrom` as "every edge of the order graph goes upwards", the acyclicity certificate, and a scan of a whole
table over bit masks that decides bracketing and computes the order graph in one evaluation. -/
namespace GV.Conc
-- the section's `[DecidableEq L]` is not used by every lemma
set_option linter.unusedSectionVars false
variable {L : Type} [DecidableEq L]

/-- **The discipline is a property of the order graph.**  A program passes `checkFrom rank` iff it is
well bracketed and every edge it contributes to the order graph goes strictly upwards in `rank`. -/
theorem checkFrom_iff_edges (rank : L → Nat) (p : List (Ev L)) :
    ∀ held, checkFrom rank held p = true ↔
      (bracketedFrom held p = true ∧ ∀ e ∈ edgesFrom held p, rank e.1 < rank e.2) := by
  induction p with
  | nil => intro held; simp [checkFrom, bracketedFrom, edgesFrom]
  | cons ev p ih =>
    intro held
    cases ev with
    | acq l m =>
      -- the edges contributed now are `(h, l)` for the held `h`: "all held below `l`" says they go upwards
      simp only [checkFrom, bracketedFrom, edgesFrom, Bool.and_eq_true, List.all_eq_true, decide_eq_true_eq,
        List.mem_append, List.mem_map, ih, or_imp, forall_and, forall_exists_index, and_imp,
        forall_apply_eq_imp_iff₂]
      exact and_left_comm
    | rel l => simp only [checkFrom, bracketedFrom, edgesFrom, Bool.and_eq_true, ih, and_assoc]
    | mark k => simp only [checkFrom, bracketedFrom, edgesFrom, ih]

theorem mem_insertNew {α : Type} [DecidableEq α] (a x : α) (l : List α) :
    x ∈ insertNew a l ↔ x = a ∨ x ∈ l := by
  induction l with
  | nil => simp [insertNew]
  | cons b r ih =>
    simp only [insertNew]
    split
    · rename_i h; subst h; simp
    · simp only [List.mem_cons, ih]
      exact or_left_comm

theorem mem_dedup {α : Type} [DecidableEq α] (x : α) (l : List α) : x ∈ dedup l ↔ x ∈ l := by
  induction l with
  | nil => simp [dedup]
  | cons a r ih => simp only [dedup, mem_insertNew, ih, List.mem_cons]

theorem mem_foldl_insertNew {α : Type} [DecidableEq α] (x : α) (l : List α) :
    ∀ acc : List α, x ∈ l.foldl (fun a y => insertNew y a) acc ↔ x ∈ acc ∨ x ∈ l := by
  induction l with
  | nil => intro acc; simp
  | cons b r ih =>
    intro acc
    simp only [List.foldl_cons, ih, mem_insertNew, List.mem_cons]
    exact or_assoc.trans or_left_comm

theorem mem_orderGraph_foldl (tbl : List (String × List (Ev L))) (e : L × L) :
    ∀ acc : List (L × L),
      e ∈ tbl.foldl (fun acc t => (edgesFrom [] t.2).foldl (fun a x => insertNew x a) acc) acc ↔
        e ∈ acc ∨ ∃ t ∈ tbl, e ∈ edgesFrom [] t.2 := by
  induction tbl with
  | nil => intro acc; simp
  | cons t r ih =>
    intro acc
    simp only [List.foldl_cons, ih, mem_foldl_insertNew, List.mem_cons, exists_eq_or_imp]
    exact or_assoc

theorem mem_orderGraph (tbl : List (String × List (Ev L))) (e : L × L) :
    e ∈ orderGraph tbl ↔ ∃ t ∈ tbl, e ∈ edgesFrom [] t.2 := by
  simp [orderGraph, mem_orderGraph_foldl]

theorem edge_mem_orderGraph (tbl : List (String × List (Ev L))) (n : String) (p : List (Ev L))
    (hm : (n, p) ∈ tbl) (e : L × L) (he : e ∈ edgesFrom [] p) : e ∈ orderGraph tbl :=
  (mem_orderGraph tbl e).2 ⟨(n, p), hm, he⟩

theorem acyclicB_rank (es : List (L × L)) (h : acyclicB es = true) :
    ∀ e ∈ es, rankOf (computeRank es) e.1 < rankOf (computeRank es) e.2 := by
  simpa [acyclicB] using h

theorem path_rank_lt (es : List (L × L)) (rank : L → Nat) (h : ∀ e ∈ es, rank e.1 < rank e.2) :
    ∀ a b, Path es a b → rank a < rank b := by
  intro a b hp
  induction hp with
  | single hab => exact h _ hab
  | cons hab _ ih => exact Nat.lt_trans (h _ hab) ih

/-- a certified graph has no cycle (in particular no self-loop = no re-acquisition of a held lock, no
inversion = no 2-cycle, and no longer cycle through several ops) -/
theorem acyclicB_no_cycle (es : List (L × L)) (h : acyclicB es = true) : ∀ a, ¬ Path es a a := by
  intro a hp
  exact Nat.lt_irrefl _ (path_rank_lt es _ (acyclicB_rank es h) a a hp)

theorem Path.mono {es es' : List (L × L)} (h : ∀ e ∈ es, e ∈ es') {a b : L} (hp : Path es a b) : Path es' a b := by
  induction hp with
  | single hab => exact .single (h _ hab)
  | cons hab _ ih => exact .cons (h _ hab) ih

theorem iterN_succ_apply {α : Type} (f : α → α) (n : Nat) : ∀ x, iterN f (n + 1) x = f (iterN f n x) := by
  induction n with
  | zero => intro x; rfl
  | succ n ih => intro x; exact ih (f x)

theorem iterN_of_stable {α : Type} (f : α → α) (k : Nat) (x : α) (h : f (iterN f k x) = iterN f k x) (m : Nat) :
    iterN f (k + m) x = iterN f k x := by
  induction m with
  | zero => rfl
  | succ m ih => rw [← Nat.add_assoc, iterN_succ_apply, ih, h]

/-- ranks that no longer change after `k` relaxation rounds are the ranks `computeRank` ends with (the three
hypotheses are one conjunction under the `let` so that a caller with a concrete `es` closes them with one `decide`) -/
theorem acyclicB_of_stable (es : List (L × L)) (k : Nat) :
    let t := iterN (relaxStep es) k ((nodesOf es).map fun n => (n, 0))
    k ≤ (nodesOf es).length ∧ relaxStep es t = t ∧ es.all (fun e => decide (rankOf t e.1 < rankOf t e.2)) = true →
      acyclicB es = true := by
  intro t ⟨hk, hfix, hup⟩
  obtain ⟨m, hm⟩ := Nat.exists_eq_add_of_le hk
  have : computeRank es = t := by
    simp only [computeRank, hm]
    exact iterN_of_stable _ k _ hfix m
  simpa only [acyclicB, this] using hup

theorem checkFrom_of_graph (G : List (L × L)) (hG : acyclicB G = true) (p : List (Ev L))
    (hb : bracketedFrom [] p = true) (hsub : ∀ e ∈ edgesFrom [] p, e ∈ G) :
    checkFrom (rankOf (computeRank G)) [] p = true :=
  (checkFrom_iff_edges _ p []).2 ⟨hb, fun e he => acyclicB_rank G hG e (hsub e he)⟩

/-! ## One pass over a table: the guards held and the edges of the order graph as bit masks

`release` drops every guard on the lock, so the guards held matter only as a set, and `bracketedFrom` / `edgesFrom` look
at them only through membership.  With the locks numbered by an injective `idx < 32`, a set of held locks is a number
(bit `idx l`) and a set of edges is a number (bit `idx h + 32 * idx l` for the edge `(h, l)`): the edges from every held
lock to a newly acquired one are ONE shift of the held mask (32: any width above every `idx` would do; the node
alphabet has 25 locks).  The kernel evaluates `|||`, `<<<`, `testBit` on literals
with its built-in arithmetic, which is why the table is scanned this way and not with `edgesFrom` itself. -/

/-- `held`: mask of the locks held; `acc`: mask of the edges seen so far.  `none`: a release of a lock that is not
held, or a guard left at the end. -/
def scanFrom (idx : L → Nat) : Nat → Nat → List (Ev L) → Option Nat
  | held, acc, [] => if held = 0 then some acc else none
  | held, acc, .acq l _ :: rest => scanFrom idx (held ||| 1 <<< idx l) (acc ||| held <<< (32 * idx l)) rest
  | held, acc, .rel l :: rest => if held.testBit (idx l) then scanFrom idx (held ^^^ 1 <<< idx l) acc rest else none
  | held, acc, .mark _ :: rest => scanFrom idx held acc rest

def tableMask (idx : L → Nat) (tbl : List (String × List (Ev L))) : Option Nat :=
  tbl.foldr (fun e r => match scanFrom idx 0 0 e.2, r with | some m, some a => some (m ||| a) | _, _ => none) (some 0)

def graphMask (idx : L → Nat) (G : List (L × L)) : Nat :=
  G.foldr (fun e a => a ||| 1 <<< (idx e.1 + 32 * idx e.2)) 0

def HeldRep (idx : L → Nat) (held : List (L × Mode)) (H : Nat) : Prop :=
  ∀ i, H.testBit i = held.any fun h => decide (idx h.1 = i)

def EdgeRep (idx : L → Nat) (E : List (L × L)) (M : Nat) : Prop :=
  ∀ i, M.testBit i = E.any fun e => decide (idx e.1 + 32 * idx e.2 = i)

section
variable {idx : L → Nat}

theorem HeldRep.nil : HeldRep idx ([] : List (L × Mode)) 0 := fun i => Nat.zero_testBit i

theorem EdgeRep.nil : EdgeRep idx ([] : List (L × L)) 0 := fun i => Nat.zero_testBit i

theorem HeldRep.isEmpty {held : List (L × Mode)} {H : Nat} (h : HeldRep idx held H) : H = 0 ↔ held.isEmpty = true := by
  cases held with
  | nil => exact ⟨fun _ => rfl, fun _ => Nat.eq_of_testBit_eq fun i => (h i).trans (Nat.zero_testBit i).symm⟩
  | cons g r =>
    refine ⟨fun e => ?_, fun e => by simp at e⟩
    have := h (idx g.1)
    rw [e, Nat.zero_testBit, List.any_cons, decide_eq_true rfl, Bool.true_or] at this
    exact absurd this (by simp)

theorem HeldRep.acq {held : List (L × Mode)} {H : Nat} (h : HeldRep idx held H) (l : L) (m : Mode) :
    HeldRep idx ((l, m) :: held) (H ||| 1 <<< idx l) := fun i => by
  rw [Nat.testBit_or, h, Nat.one_shiftLeft, Nat.testBit_two_pow, List.any_cons, Bool.or_comm]

/-- the edges from every held lock to `l`, in one shift -/
theorem HeldRep.shift {held : List (L × Mode)} {H : Nat} (h : HeldRep idx held H) (l : L) :
    EdgeRep idx (held.map fun g => (g.1, l)) (H <<< (32 * idx l)) := by
  intro i
  rw [Nat.testBit_shiftLeft, h, List.any_map, Bool.eq_iff_iff]
  simp only [Bool.and_eq_true, List.any_eq_true, decide_eq_true_eq, Function.comp]
  exact ⟨fun ⟨h1, g, hg, h2⟩ => ⟨g, hg, h2 ▸ Nat.sub_add_cancel h1⟩,
    fun ⟨g, hg, h2⟩ => ⟨h2 ▸ Nat.le_add_left _ _, g, hg, h2 ▸ (Nat.add_sub_cancel ..).symm⟩⟩

theorem EdgeRep.or {E F : List (L × L)} {M N : Nat} (hE : EdgeRep idx E M) (hF : EdgeRep idx F N) :
    EdgeRep idx (E ++ F) (M ||| N) := fun i => by
  rw [Nat.testBit_or, hE, hF, List.any_append]

theorem graphMask_rep (G : List (L × L)) : EdgeRep idx G (graphMask idx G) := by
  induction G with
  | nil => exact EdgeRep.nil
  | cons e r ih =>
    intro i
    rw [graphMask, List.foldr_cons, Nat.testBit_or, Nat.one_shiftLeft, Nat.testBit_two_pow, List.any_cons, Bool.or_comm]
    congr 1; exact ih i

variable (hinj : ∀ a b, idx a = idx b → a = b)
include hinj

theorem HeldRep.testBit {held : List (L × Mode)} {H : Nat} (h : HeldRep idx held H) (l : L) :
    H.testBit (idx l) = held.any fun g => decide (g.1 = l) := by
  rw [h]; congr 1; funext g
  exact decide_eq_decide.2 ⟨hinj _ _, fun e => e ▸ rfl⟩

theorem HeldRep.rel {held : List (L × Mode)} {H : Nat} (h : HeldRep idx held H) (l : L)
    (hb : H.testBit (idx l) = true) : HeldRep idx (release l held) (H ^^^ 1 <<< idx l) := fun i => by
  rw [Nat.testBit_xor, Nat.one_shiftLeft, Nat.testBit_two_pow, release, List.any_filter]
  -- a guard other than on `l` sits at another bit
  have hg : ∀ g : L × Mode, (!decide (g.1 = l) && decide (idx g.1 = i)) =
      (decide (idx g.1 = i) && !decide (idx l = i)) := fun g => by
    by_cases e : g.1 = l
    · subst e; by_cases e' : idx g.1 = i <;> simp [e']
    · have : idx g.1 = i → idx l ≠ i := fun h1 h2 => e (hinj _ _ (h1.trans h2.symm))
      by_cases e' : idx g.1 = i <;> simp [e, e', this]
  simp only [hg]
  by_cases e : idx l = i
  · subst e; simp [hb]
  · rw [h]; simp [e]

/-- **The scan is right**: it succeeds exactly on the well-bracketed programs, and then returns the edges seen before
together with the program's own. -/
theorem scanFrom_spec (p : List (Ev L)) : ∀ (held : List (L × Mode)) (H : Nat) (E : List (L × L)) (acc : Nat),
    HeldRep idx held H → EdgeRep idx E acc →
    (bracketedFrom held p = false ∧ scanFrom idx H acc p = none) ∨
    (bracketedFrom held p = true ∧ ∃ m, scanFrom idx H acc p = some m ∧ EdgeRep idx (E ++ edgesFrom held p) m) := by
  induction p with
  | nil =>
    intro held H E acc hH hE
    simp only [bracketedFrom, scanFrom, edgesFrom, List.append_nil]
    by_cases e : H = 0
    · exact Or.inr ⟨hH.isEmpty.1 e, acc, if_pos e, hE⟩
    · exact Or.inl ⟨by simpa using mt hH.isEmpty.2 e, if_neg e⟩
  | cons ev rest ih =>
    intro held H E acc hH hE
    cases ev with
    | acq l m =>
      simp only [bracketedFrom, scanFrom, edgesFrom, ← List.append_assoc]
      exact ih _ _ _ _ (hH.acq l m) (hE.or (hH.shift l))
    | rel l =>
      simp only [bracketedFrom, scanFrom, edgesFrom, ← hH.testBit hinj l]
      cases hb : H.testBit (idx l) with
      | false => exact Or.inl ⟨rfl, rfl⟩
      | true => simpa only [Bool.true_and, if_true] using ih _ _ _ _ (hH.rel hinj l hb) hE
    | mark k => exact ih _ _ _ _ hH hE

theorem tableMask_spec (tbl : List (String × List (Ev L))) (m : Nat) (h : tableMask idx tbl = some m) :
    (∀ e ∈ tbl, bracketedFrom [] e.2 = true) ∧ EdgeRep idx (tbl.flatMap fun e => edgesFrom [] e.2) m := by
  induction tbl generalizing m with
  | nil => cases h; exact ⟨by simp, EdgeRep.nil⟩
  | cons e r ih =>
    simp only [tableMask, List.foldr_cons] at h ih
    rcases scanFrom_spec hinj e.2 [] 0 [] 0 HeldRep.nil EdgeRep.nil with ⟨_, hn⟩ | ⟨hb, m1, hs, hE⟩
    · rw [hn] at h; cases h
    · rw [hs] at h
      cases hr : List.foldr _ (some 0) r with
      | none => rw [hr] at h; cases h
      | some a =>
        rw [hr] at h; cases h
        obtain ⟨h1, h2⟩ := ih a hr
        exact ⟨by simpa [hb] using h1, by simpa using hE.or h2⟩

variable (hlt : ∀ a, idx a < 32)
include hlt

/-- two edge lists with the same mask have the same members: below 32 the code of an edge determines it -/
theorem EdgeRep.mem_iff {E F : List (L × L)} {M : Nat} (hE : EdgeRep idx E M) (hF : EdgeRep idx F M) (e : L × L) :
    e ∈ E ↔ e ∈ F := by
  have code : ∀ x : L × L, idx x.1 + 32 * idx x.2 = idx e.1 + 32 * idx e.2 → x = e := fun x hx => by
    have := hlt x.1; have := hlt e.1
    exact Prod.ext (hinj _ _ (by omega)) (hinj _ _ (by omega))
  have key : ∀ {E : List (L × L)}, EdgeRep idx E M → (e ∈ E ↔ M.testBit (idx e.1 + 32 * idx e.2) = true) := by
    intro E hE
    rw [hE, List.any_eq_true]
    exact ⟨fun h => ⟨e, h, by simp⟩, fun ⟨x, hx, hc⟩ => code x (by simpa using hc) ▸ hx⟩
  rw [key hE, key hF]

theorem tableMask_sound (tbl : List (String × List (Ev L))) (G : List (L × L))
    (h : tableMask idx tbl = some (graphMask idx G)) :
    (∀ e ∈ tbl, bracketedFrom [] e.2 = true) ∧ ∀ e, e ∈ orderGraph tbl ↔ e ∈ G := by
  obtain ⟨hb, hE⟩ := tableMask_spec hinj tbl _ h
  refine ⟨hb, fun e => ?_⟩
  rw [mem_orderGraph, ← hE.mem_iff hinj hlt (graphMask_rep G) e]
  simp [List.mem_flatMap]

end

end GV.Conc
