import GrinVerif.Lemmas.DesegState
/-! `apply_next_segments` keeps the invariant of `Lemmas/DesegState.lean`, never lets the measure
`remaining` grow and lowers it when the segment that comes next is cached; `check_progress` answers
"complete" exactly when the measure is 0; `next_desired_segments` keeps the invariant, deliveries
change neither. -/
namespace GV.Deseg
open GV GV.Pmmr GV.Seg

/-- what the proofs need to know about the four values `next_required_*_segment_index` return
(`next_values`): stated for variables, so that no term below contains the wrapped u64 arithmetic
of the real functions (a projection of `applyTree … (s.nextRequired …) …` makes `whnf` — of the
elaborator and of the kernel — unfold all of it) -/
structure NextOk (No Nk : Nat) (s : St) (vb vo vr vk : Option Nat) : Prop where
  b : ∀ o, Pos false s.hB (Dsg.expectedChunks No) s.bm.leaves o → vb = o
  o : ∀ k, Pos true s.hO No s.out.leaves (some k) → vo = some k
  r : ∀ k, Pos true s.hR No s.rp.leaves (some k) → vr = some k
  k : ∀ o, Pos true s.hK Nk s.ker.leaves o → vk = o

theorem nextOk_real (No Nk : Nat) (s : St) (hi : Inv No Nk s) :
    NextOk No Nk s (s.nextRequired .bitmap) (s.nextRequired .output) (s.nextRequired .rangeproof)
      (s.nextRequired .kernel) :=
  have ⟨b, o, r, k⟩ := next_values No Nk s hi
  ⟨b, o, r, k⟩

theorem applyBitmap_ok (No Nk : Nat) (s : St) (hi : Inv No Nk s) (k : Nat)
    (pb : Pos false s.hB (Dsg.expectedChunks No) s.bm.leaves (some k)) (c : Cached) (rest : List Cached)
    (hr : removeFirstIdx s.bm.cache k = some (c, rest)) :
    TreeOk false s.hB (Dsg.expectedChunks No) (applyBitmapSeg s.bmSize s.bm c rest) ∧
      s.bm.leaves < (applyBitmapSeg s.bmSize s.bm c rest).leaves ∧ ∀ x ∈ rest, x.extra = 0 := by
  obtain ⟨hc, hci, hrest⟩ := removeFirstIdx_mem _ _ _ _ hr
  rw [hi.par.bms]
  obtain ⟨a, b, _⟩ := applyBitmapSeg_ok s.hB (Dsg.expectedChunks No) k s.bm c rest hi.par.hB
    (chunks_small No hi.par.NoS) hi.bm pb (hi.bm.own c hc) hci (hi.clean c hc) hrest
  exact ⟨a, b, fun x hx => hi.clean x (hrest x hx)⟩

/-- no tree has lost a leaf and a finalised bitmap is still finalised -/
structure Grows (s s' : St) : Prop where
  bm : s.bm.leaves ≤ s'.bm.leaves
  out : s.out.leaves ≤ s'.out.leaves
  rp : s.rp.leaves ≤ s'.rp.leaves
  ker : s.ker.leaves ≤ s'.ker.leaves
  bc : s.bitmapCache = true → s'.bitmapCache = true

theorem Grows.refl (s : St) : Grows s s := ⟨Nat.le_refl _, Nat.le_refl _, Nat.le_refl _, Nat.le_refl _, id⟩

theorem applyWith_spec (No Nk : Nat) (s : St) (hi : Inv No Nk s) (vb vo vr vk : Option Nat)
    (hv : NextOk No Nk s vb vo vr vk) :
    Inv No Nk (s.applyNextWith vb vo vr vk) ∧ Grows s (s.applyNextWith vb vo vr vk) := by
  obtain ⟨ob, pb⟩ := hi.bm.pos'
  rw [hv.b ob pb]
  cases ob with
  | some k =>
    simp only [St.applyNextWith]
    cases hr : removeFirstIdx s.bm.cache k with
    | none => exact ⟨hi, Grows.refl s⟩
    | some pr =>
      obtain ⟨a, b, c⟩ := applyBitmap_ok No Nk s hi k pb pr.1 pr.2 hr
      refine ⟨⟨hi.par, a, c, hi.out, hi.rp, hi.ker, hi.noMis, fun hf => ?_⟩,
        { Grows.refl s with bm := Nat.le_of_lt b }⟩
      have := hi.fin hf
      have := pb.lt_of_some
      omega
  | none =>
    obtain ⟨par, bm, clean, out, rp, ker, noMis, fin⟩ := hi
    obtain ⟨a1, a2, a3⟩ := applyTree_ok' true true s.hO No s.outSize vo s.out par.out out (fun _ => par.hO1) hv.o
    obtain ⟨b1, b2, b3⟩ := applyTree_ok' true true s.hR No s.outSize vr s.rp par.out rp (fun _ => par.hR1) hv.r
    obtain ⟨c1, c2, c3⟩ := applyTree_ok' false true s.hK Nk s.kerSize vk s.ker par.ker ker (fun _ => par.hK1)
      (fun _ p => hv.k _ p)
    refine ⟨⟨par, bm, clean, a1, b1, c1, ?_, fun _ => pb.eq_of_none⟩, ⟨Nat.le_refl _, a3, b3, c3, fun _ => rfl⟩⟩
    show (s.misapplied || _ || _ || _) = false
    rw [noMis, a2, b2, c2]; rfl

theorem apply_inv (No Nk : Nat) (s : St) (hi : Inv No Nk s) : Inv No Nk s.applyNextSegments :=
  (applyWith_spec No Nk s hi _ _ _ _ (nextOk_real No Nk s hi)).1

/-- `next_desired_segments` only sets `all_segments_complete` -/
theorem want_inv (No Nk : Nat) (s : St) (max : Nat) (hi : Inv No Nk s) :
    Inv No Nk (s.nextDesiredSegments max).1 :=
  ⟨hi.par, hi.bm, hi.clean, hi.out, hi.rp, hi.ker, hi.noMis, hi.fin⟩

theorem remaining_add (No Nk : Nat) (s : St) (hi : Inv No Nk s) :
    s.remaining + (s.bm.leaves + (if s.bitmapCache then 1 else 0) + s.out.leaves + s.rp.leaves + s.ker.leaves) =
      Dsg.expectedChunks No + 1 + No + No + Nk := by
  have hb := hi.bm.leaves_le
  have ho := hi.out.leaves_le
  have hr := hi.rp.leaves_le
  have hk := hi.ker.leaves_le
  unfold St.remaining Tree.leaves at *
  rw [hi.par.bmc, hi.par.out, hi.par.ker, Co.nLeaves_mmr, Co.nLeaves_mmr]
  have hf : (if s.bitmapCache = true then 0 else 1) + (if s.bitmapCache = true then 1 else 0) = 1 := by
    cases s.bitmapCache <;> rfl
  omega

theorem checkProgress_iff (No Nk : Nat) (s : St) (hi : Inv No Nk s) :
    s.checkProgress = true ↔ s.remaining = 0 := by
  have e := remaining_add No Nk s hi
  have par := hi.par; have bm := hi.bm; have out := hi.out; have rp := hi.rp; have ker := hi.ker
  have fin := hi.fin
  have hb := bm.leaves_le
  have ho := out.leaves_le
  have hr := rp.leaves_le
  have hk := ker.leaves_le
  unfold St.checkProgress
  rw [par.out, par.ker, out.size_eq, rp.size_eq, ker.size_eq]
  simp only [Bool.and_eq_true, beq_iff_eq, Co.mmr_eq_iff]
  cases hc : s.bitmapCache
  · rw [hc] at e
    simp only [Bool.false_eq_true, if_false, and_false, false_iff] at e ⊢
    omega
  · have := fin hc
    rw [hc] at e
    simp only [if_true, and_true] at e ⊢
    omega

private theorem flag_mono : ∀ b b' : Bool, (b = true → b' = true) →
    (if b then 1 else 0) ≤ (if b' then 1 else 0) ∧
      (b = false ∧ b' = true → (if b then 1 else 0) < (if b' then 1 else 0)) := by
  decide

theorem remaining_mono (No Nk : Nat) (s s' : St) (hi : Inv No Nk s) (hi' : Inv No Nk s') (g : Grows s s') :
    s'.remaining ≤ s.remaining ∧
      (s.bm.leaves < s'.bm.leaves ∨ (s.bitmapCache = false ∧ s'.bitmapCache = true) ∨
        s.out.leaves < s'.out.leaves ∨ s.rp.leaves < s'.rp.leaves ∨ s.ker.leaves < s'.ker.leaves →
        s'.remaining < s.remaining) := by
  have e := (remaining_add No Nk s' hi').trans (remaining_add No Nk s hi).symm
  obtain ⟨hb, ho, hr, hk, hc⟩ := g
  have hf := flag_mono s.bitmapCache s'.bitmapCache hc
  generalize (if s.bitmapCache = true then 1 else 0) = f at hf e
  generalize (if s'.bitmapCache = true then 1 else 0) = f' at hf e
  refine ⟨by omega, fun hlt => ?_⟩
  have := Or.imp_right (Or.imp_left hf.2) hlt
  omega

theorem applyWith_remaining_le (No Nk : Nat) (s : St) (hi : Inv No Nk s) (vb vo vr vk : Option Nat)
    (hv : NextOk No Nk s vb vo vr vk) :
    (s.applyNextWith vb vo vr vk).remaining ≤ s.remaining := by
  obtain ⟨hi', g⟩ := applyWith_spec No Nk s hi vb vo vr vk hv
  exact (remaining_mono No Nk s _ hi hi' g).1

theorem apply_remaining_le (No Nk : Nat) (s : St) (hi : Inv No Nk s) :
    s.applyNextSegments.remaining ≤ s.remaining :=
  applyWith_remaining_le No Nk s hi _ _ _ _ (nextOk_real No Nk s hi)

/-- "the segment the current phase needs next is there": in the bitmap phase the next bitmap
segment is cached; after it, the bitmap still has to be finalised, or for one of the three trees
the segment that comes next is cached -/
def Needed (No Nk : Nat) (s : St) : Prop :=
  (∃ k, Pos false s.hB (Dsg.expectedChunks No) s.bm.leaves (some k) ∧ ∃ c ∈ s.bm.cache, c.id.idx = k) ∨
  (Pos false s.hB (Dsg.expectedChunks No) s.bm.leaves none ∧
    (s.bitmapCache = false ∨
     (∃ k, Pos true s.hO No s.out.leaves (some k) ∧ ∃ c ∈ s.out.cache, c.id.idx = k) ∨
     (∃ k, Pos true s.hR No s.rp.leaves (some k) ∧ ∃ c ∈ s.rp.cache, c.id.idx = k) ∨
     (∃ k, Pos true s.hK Nk s.ker.leaves (some k) ∧ ∃ c ∈ s.ker.cache, c.id.idx = k)))

theorem applyWith_progress (No Nk : Nat) (s : St) (hi : Inv No Nk s) (vb vo vr vk : Option Nat)
    (hv : NextOk No Nk s vb vo vr vk) (hn : Needed No Nk s) :
    (s.applyNextWith vb vo vr vk).remaining < s.remaining := by
  obtain ⟨hi', g⟩ := applyWith_spec No Nk s hi vb vo vr vk hv
  refine (remaining_mono No Nk s _ hi hi' g).2 ?_
  have par := hi.par
  rcases hn with ⟨k, pb, hc⟩ | ⟨pb, hrest⟩
  · left
    obtain ⟨c, rest, hr, _⟩ := removeFirstIdx_some s.bm.cache k hc
    rw [hv.b _ pb]
    simp only [St.applyNextWith, hr]
    exact (applyBitmap_ok No Nk s hi k pb c rest hr).2.1
  · right
    rw [hv.b _ pb]
    rcases hrest with hbc | ⟨k, p, hc⟩ | ⟨k, p, hc⟩ | ⟨k, p, hc⟩
    · exact Or.inl ⟨hbc, rfl⟩
    · rw [hv.o k p]
      exact Or.inr (Or.inl (applyTree_progress' true true s.hO No s.outSize k s.out par.out hi.out
        (fun _ => par.hO1) p hc))
    · rw [hv.r k p]
      exact Or.inr (Or.inr (Or.inl (applyTree_progress' true true s.hR No s.outSize k s.rp par.out hi.rp
        (fun _ => par.hR1) p hc)))
    · rw [hv.k _ p]
      exact Or.inr (Or.inr (Or.inr (applyTree_progress' false true s.hK Nk s.kerSize k s.ker par.ker hi.ker
        (fun _ => par.hK1) p hc)))

theorem apply_progress (No Nk : Nat) (s : St) (hi : Inv No Nk s) (hn : Needed No Nk s) :
    s.applyNextSegments.remaining < s.remaining :=
  applyWith_progress No Nk s hi _ _ _ _ (nextOk_real No Nk s hi) hn

theorem next_exists (No Nk : Nat) (s : St) (hi : Inv No Nk s) (hr : s.remaining ≠ 0) :
    (∃ k, Pos false s.hB (Dsg.expectedChunks No) s.bm.leaves (some k)) ∨
    (Pos false s.hB (Dsg.expectedChunks No) s.bm.leaves none ∧
      (s.bitmapCache = false ∨ (∃ k, Pos true s.hO No s.out.leaves (some k)) ∨
        (∃ k, Pos true s.hR No s.rp.leaves (some k)) ∨ (∃ k, Pos true s.hK Nk s.ker.leaves (some k)))) := by
  have e := remaining_add No Nk s hi
  obtain ⟨ob, pb⟩ := hi.bm.pos'
  obtain ⟨oo, po⟩ := hi.out.pos'
  obtain ⟨orr, pr⟩ := hi.rp.pos'
  obtain ⟨ok, pk⟩ := hi.ker.pos'
  cases ob with
  | some k => exact Or.inl ⟨k, pb⟩
  | none =>
    refine Or.inr ⟨pb, ?_⟩
    cases hc : s.bitmapCache with
    | false => exact Or.inl rfl
    | true =>
      right
      cases oo with
      | some k => exact Or.inl ⟨k, po⟩
      | none =>
        cases orr with
        | some k => exact Or.inr (Or.inl ⟨k, pr⟩)
        | none =>
          cases ok with
          | some k => exact Or.inr (Or.inr ⟨k, pk⟩)
          | none =>
            rw [hc, if_pos rfl, pb.eq_of_none, po.eq_of_none, pr.eq_of_none, pk.eq_of_none] at e
            omega

theorem deliverAll_inv (No Nk : Nat) : ∀ (ds : List Delivery) (s : St), Inv No Nk s →
    (∀ d ∈ ds, d.kind = .bitmap → d.seg.extra = 0) → Inv No Nk (s.deliverAll ds) :=
  fun ds _ hi hc => List.foldlRecOn (motive := Inv No Nk) ds St.deliver hi
    fun b hb d hd => add_inv No Nk b d.kind d.seg hb (hc d hd)

theorem deliverAll_frame (ds : List Delivery) (s : St) : Frame s (s.deliverAll ds) :=
  List.foldlRecOn (motive := Frame s) ds St.deliver (Frame.refl s)
    fun b hb d _ => hb.trans (add_frame b d.kind d.seg)

theorem Frame.remaining {s s' : St} (f : Frame s s') : s'.remaining = s.remaining := by
  unfold St.remaining
  rw [f.bmLeafCount, f.bm, f.bc, f.outSize, f.out, f.rp, f.kerSize, f.ker]

theorem deliverAll_remaining (ds : List Delivery) (s : St) : (s.deliverAll ds).remaining = s.remaining :=
  (deliverAll_frame ds s).remaining

end GV.Deseg
