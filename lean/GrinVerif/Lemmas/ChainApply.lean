import GrinVerif.Model.Chain
import GrinVerif.Lemmas.UtilIte
/-! What `validateBody` and `stateChecks` accept (each as one iff), what a successful `applyBlock` /
`checkBlock` guarantees, and the inversion lemmas of `replay`. -/
namespace GV.Chain


theorem validateBody_none_iff (p : Params) (outs : List OutDef) (b : Blk) (iv : Nat) :
    validateBody p outs b iv = none ↔
      (hasTag b "body:" = none ∧ dupInBody b = false ∧ cutThroughViolation b = false ∧
       lockViolation b = false ∧ nrdEraViolation b = false ∧ coinbaseMismatch p outs b = false ∧
       valueMismatch p outs b iv = false ∧ hasTag b "ksum:" = none) := by
  unfold validateBody
  cases hasTag b "body:" with
  | some e => simp only [reduceCtorEq, false_and]
  | none =>
    simp only [ite_eq_iff_of_ne, ne_eq, reduceCtorEq, not_false_eq_true, Bool.not_eq_true, true_and]

theorem stateChecks_none_iff (p : Params) (s : UState) (b : Blk) :
    stateChecks p s b = none ↔
      (b.ins.all s.has = true ∧ immature p s b = false ∧ dupOutput s b = false ∧
       hasTag b "sums:" = none ∧ nrdBad s b = false ∧ hasTag b "late:" = none) := by
  unfold stateChecks
  cases hasTag b "sums:" with
  | some e =>
    simp only [ite_eq_iff_of_ne, ne_eq, reduceCtorEq, not_false_eq_true, and_false, false_and]
  | none =>
    simp only [ite_eq_iff_of_ne, ne_eq, reduceCtorEq, not_false_eq_true, Bool.not_eq_true,
      Bool.not_eq_true', Bool.not_eq_false, true_and]

theorem validateBody_cutThrough {p : Params} {outs : List OutDef} {b : Blk} {iv : Nat}
    (h : validateBody p outs b iv = none) : cutThroughViolation b = false :=
  ((validateBody_none_iff p outs b iv).mp h).2.2.1

theorem validateBody_lock {p : Params} {outs : List OutDef} {b : Blk} {iv : Nat}
    (h : validateBody p outs b iv = none) : lockViolation b = false :=
  ((validateBody_none_iff p outs b iv).mp h).2.2.2.1

theorem validateBody_coinbase {p : Params} {outs : List OutDef} {b : Blk} {iv : Nat}
    (h : validateBody p outs b iv = none) : coinbaseMismatch p outs b = false :=
  ((validateBody_none_iff p outs b iv).mp h).2.2.2.2.2.1

theorem validateBody_value {p : Params} {outs : List OutDef} {b : Blk} {iv : Nat}
    (h : validateBody p outs b iv = none) : valueMismatch p outs b iv = false :=
  ((validateBody_none_iff p outs b iv).mp h).2.2.2.2.2.2.1

theorem stateChecks_sums {p : Params} {s : UState} {b : Blk} (h : stateChecks p s b = none) :
    hasTag b "sums:" = none :=
  ((stateChecks_none_iff p s b).mp h).2.2.2.1

/-- what `verify_sorted_and_unique` enforces on a body: no input and no output commitment occurs
twice (`dupInBody` in `validateBody`; see `sane_of_validateBody`). -/
def Blk.Sane (b : Blk) : Prop := b.ins.Nodup ∧ (b.outs.map (·.1)).Nodup

theorem sane_of_validateBody (p : Params) (outs : List OutDef) (b : Blk) (iv : Nat)
    (h : validateBody p outs b iv = none) : b.Sane := by
  have hd := ((validateBody_none_iff p outs b iv).mp h).2.1
  simpa only [Blk.Sane, dupInBody, Bool.or_eq_false_iff, Bool.not_eq_false', decide_eq_true_eq] using hd

theorem applyBlock_ok_iff {p : Params} {s s' : UState} {b : Blk} :
    applyBlock p s b = .ok s' ↔ stateChecks p s b = none ∧ s' = effects s b := by
  unfold applyBlock
  cases stateChecks p s b with
  | some e => exact ⟨nofun, fun h => nomatch h.1⟩
  | none => exact ⟨fun h => ⟨rfl, (Except.ok.inj h).symm⟩, fun h => by rw [h.2]⟩

theorem applyBlock_effects {p : Params} {s s' : UState} {b : Blk} (h : applyBlock p s b = .ok s') :
    s' = effects s b := (applyBlock_ok_iff.mp h).2

/-- what a block puts in front of the NRD index: its NRD excesses at its height -/
def nrdOf (b : Blk) : List (String × Nat) :=
  b.kers.filterMap fun k => match k with
    | .nrd _ _ ex => some (ex, b.h)
    | _ => none

theorem effects_nrd (s : UState) (b : Blk) : (effects s b).nrd = nrdOf b ++ s.nrd := rfl

theorem cutThrough_false_iff (b : Blk) :
    cutThroughViolation b = false ↔ ∀ c ∈ b.ins, c ∉ b.outs.map (·.1) := by
  unfold cutThroughViolation
  constructor
  · intro h c hc hm
    obtain ⟨o, ho, hoc⟩ := List.mem_map.mp hm
    have : (b.ins.any fun i => b.outs.any (·.1 == i)) = true :=
      List.any_eq_true.mpr ⟨c, hc, List.any_eq_true.mpr ⟨o, ho, by simp [hoc]⟩⟩
    rw [this] at h; cases h
  · intro h
    apply Bool.eq_false_iff.mpr
    intro ht
    obtain ⟨c, hc, hany⟩ := List.any_eq_true.mp ht
    obtain ⟨o, ho, hoc⟩ := List.any_eq_true.mp hany
    exact h c hc (List.mem_map.mpr ⟨o, ho, by simpa using hoc⟩)

theorem cutThrough_of_ins_nil {b : Blk} (h : b.ins = []) : cutThroughViolation b = false :=
  (cutThrough_false_iff b).mpr fun c hc => by rw [h] at hc; cases hc

theorem applyBlock_ok (p : Params) (s s' : UState) (b : Blk) (h : applyBlock p s b = .ok s') :
    (∀ i ∈ b.ins, s.has i = true) ∧
    (∀ o ∈ b.outs, s.has o.1 = false) ∧
    immature p s b = false ∧ nrdBad s b = false ∧
    s' = effects s b := by
  obtain ⟨hn, he⟩ := applyBlock_ok_iff.mp h
  obtain ⟨h1, h2, h3, _, h4, _⟩ := (stateChecks_none_iff p s b).mp hn
  refine ⟨?_, ?_, h2, h4, he⟩
  · intro i hi
    exact (List.all_eq_true.mp h1) i hi
  · intro o ho
    cases hs : s.has o.1 with
    | false => rfl
    | true =>
      have : dupOutput s b = true := List.any_eq_true.mpr ⟨o, ho, hs⟩
      simp [this] at h3

theorem find_fst {s : UState} {i : Nat} {x : Nat × Nat × Bool} (h : s.find i = some x) :
    x.1 = i := by
  unfold UState.find at h
  have := List.find?_some h
  simpa using this

theorem has_of_find {s : UState} {i : Nat} {x : Nat × Nat × Bool} (h : s.find i = some x) : s.has i = true := by
  unfold UState.has
  unfold UState.find at h
  exact List.any_eq_true.mpr ⟨x, List.mem_of_find?_eq_some h, by simpa using List.find?_some h⟩

theorem immature_iff {p : Params} {s : UState} {b : Blk} :
    immature p s b = true ↔ ∃ i ∈ b.ins, ∃ c, s.find i = some (i, c, true) ∧ b.h < c + p.maturity := by
  unfold immature
  rw [List.any_eq_true]
  refine exists_congr fun i => and_congr_right fun _ => ⟨fun hm => ?_, fun ⟨c, hc, hlt⟩ => by simp [hc, hlt]⟩
  cases hf : s.find i with
  | none => simp [hf] at hm
  | some x =>
    obtain ⟨j, c, cb⟩ := x
    obtain rfl : j = i := find_fst hf
    cases cb with
    | false => simp [hf] at hm
    | true => exact ⟨c, rfl, by simpa [hf] using hm⟩

theorem immature_eq_false_iff {p : Params} {s : UState} {b : Blk} :
    immature p s b = false ↔ ∀ i ∈ b.ins, ∀ c, s.find i = some (i, c, true) → c + p.maturity ≤ b.h := by
  rw [← Bool.not_eq_true, immature_iff]
  simp only [not_exists, not_and, Nat.not_lt]

theorem lockViolation_iff {b : Blk} : lockViolation b = true ↔ ∃ f l, Ker.hl f l ∈ b.kers ∧ b.h < l := by
  unfold lockViolation
  rw [List.any_eq_true]
  constructor
  · rintro ⟨k, hk, hm⟩
    cases k with
    | hl f l => exact ⟨f, l, hk, by simpa using hm⟩
    | _ => simp at hm
  · rintro ⟨f, l, hk, hlt⟩
    exact ⟨_, hk, by simpa using hlt⟩

theorem lockViolation_eq_false_iff {b : Blk} :
    lockViolation b = false ↔ ∀ f l, Ker.hl f l ∈ b.kers → l ≤ b.h := by
  rw [← Bool.not_eq_true, lockViolation_iff]
  simp only [not_exists, not_and, Nat.not_lt]

/-- NRD kernel `k` repeats an excess that the index `N` last saw fewer than its relative height blocks
before height `H`: the test `nrdBad`, `txValidate` and the pool's `nrdTooRecent` each run over their kernels -/
def Ker.tooRecent (N : List (String × Nat)) (H : Nat) : Ker → Bool
  | .nrd _ rel ex => match N.find? (·.1 == ex) with
    | some (_, hPrev) => decide (H < hPrev + rel)
    | none => false
  | _ => false

theorem nrdBad_eq_any (s : UState) (b : Blk) : nrdBad s b = b.kers.any (Ker.tooRecent s.nrd b.h) := rfl

theorem any_tooRecent_iff {N : List (String × Nat)} {H : Nat} {ks : List Ker} :
    ks.any (Ker.tooRecent N H) = true ↔ ∃ f rel ex hPrev, Ker.nrd f rel ex ∈ ks ∧
      N.find? (·.1 == ex) = some (ex, hPrev) ∧ H < hPrev + rel := by
  rw [List.any_eq_true]
  constructor
  · rintro ⟨k, hk, hm⟩
    cases k with
    | nrd f rel ex =>
      cases hf : N.find? (·.1 == ex) with
      | none => simp [Ker.tooRecent, hf] at hm
      | some x =>
        obtain ⟨ex', hp⟩ := x
        obtain rfl : ex' = ex := by simpa using List.find?_some hf
        exact ⟨f, rel, ex', hp, hk, hf, by simpa [Ker.tooRecent, hf] using hm⟩
    | _ => simp [Ker.tooRecent] at hm
  · rintro ⟨f, rel, ex, hPrev, hk, hf, hlt⟩
    exact ⟨_, hk, by simp [Ker.tooRecent, hf, hlt]⟩

theorem nrdBad_iff {s : UState} {b : Blk} :
    nrdBad s b = true ↔ ∃ f rel ex hPrev, Ker.nrd f rel ex ∈ b.kers ∧
      s.nrd.find? (·.1 == ex) = some (ex, hPrev) ∧ b.h < hPrev + rel :=
  any_tooRecent_iff

theorem nrdBad_eq_false_iff {s : UState} {b : Blk} :
    nrdBad s b = false ↔ ∀ f rel ex hPrev, Ker.nrd f rel ex ∈ b.kers →
      s.nrd.find? (·.1 == ex) = some (ex, hPrev) → hPrev + rel ≤ b.h := by
  rw [← Bool.not_eq_true, nrdBad_iff]
  simp only [not_exists, not_and, Nat.not_lt]

theorem checkBlock_ok (p : Params) (n : Node) (b : Blk) (par : Nat) (s' : UState)
    (h : checkBlock p n b par = .ok s') :
    ∃ sPar, n.stateAt p par = .ok sPar ∧
      validateBody p n.outs b (sumVals n.outs b.ins) = none ∧ applyBlock p sPar b = .ok s' := by
  unfold checkBlock at h
  split at h
  · cases h
  · rename_i sPar hst
    split at h
    · cases h
    · rename_i hvb
      exact ⟨sPar, hst, hvb, h⟩

theorem replay_nil_ok {p : Params} {s s' : UState} (h : replay p s [] = .ok s') : s' = s :=
  (Except.ok.inj h).symm

theorem replay_cons_ok {p : Params} {s s' : UState} {b : Blk} {bs : List Blk}
    (h : replay p s (b :: bs) = .ok s') : ∃ s1, applyBlock p s b = .ok s1 ∧ replay p s1 bs = .ok s' := by
  unfold replay at h
  cases h1 : applyBlock p s b with
  | error e => rw [h1] at h; cases h
  | ok s1 => rw [h1] at h; exact ⟨s1, rfl, h⟩

/-- a successful replay is the fold of `effects`: what only reads the replayed state is a fact about a
`foldl` (`List.foldlRecOn`, `List.foldl_rel`); what needs the checks each block passed inverts step by
step (`replay_cons_ok`) -/
theorem replay_ok_foldl (p : Params) (bs : List Blk) : ∀ {s s' : UState}, replay p s bs = .ok s' →
    s' = bs.foldl effects s := by
  induction bs with
  | nil => exact replay_nil_ok
  | cons b bs ih =>
    intro s s' h
    obtain ⟨s1, h1, h2⟩ := replay_cons_ok h
    rw [ih h2, applyBlock_effects h1]
    rfl

theorem replay_append (p : Params) (xs ys : List Blk) : ∀ (s : UState),
    replay p s (xs ++ ys) = match replay p s xs with
      | .error e => .error e
      | .ok s1 => replay p s1 ys := by
  induction xs with
  | nil => intro s; rfl
  | cons x xs ih =>
    intro s
    simp only [List.cons_append, replay]
    cases applyBlock p s x with
    | error e => rfl
    | ok s1 => exact ih s1

theorem replay_height (p : Params) (bs : List Blk) : ∀ (s s' : UState), replay p s bs = .ok s' →
    s'.height = ((bs.getLast?).map (·.h)).getD s.height := by
  induction bs with
  | nil =>
    intro s s' h
    obtain rfl := replay_nil_ok h
    rfl
  | cons b bs ih =>
    intro s s' h
    obtain ⟨s1, h1, h⟩ := replay_cons_ok h
    have he := applyBlock_effects h1
    rw [ih s1 s' h]
    cases bs with
    | nil => simp [he, effects]
    | cons c cs =>
      rw [List.getLast?_cons_cons]
      cases hl : (c :: cs).getLast? with
      | none => simp at hl
      | some x => rfl

theorem replay_split {p : Params} {pre post : List Blk} {a : Blk} {s s' : UState}
    (h : replay p s (pre ++ a :: post) = .ok s') :
    ∃ s1 s2, replay p s pre = .ok s1 ∧ applyBlock p s1 a = .ok s2 ∧ replay p s2 post = .ok s' := by
  rw [replay_append] at h
  cases h1 : replay p s pre with
  | error e => rw [h1] at h; cases h
  | ok s1 =>
    rw [h1] at h
    obtain ⟨s2, h2, h⟩ := replay_cons_ok h
    exact ⟨s1, s2, rfl, h2, h⟩

end GV.Chain
