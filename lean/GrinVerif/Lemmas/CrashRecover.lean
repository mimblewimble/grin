import GrinVerif.Model.Crash
import GrinVerif.Model.CrashRecov
import GrinVerif.Lemmas.CrashBasic
import GrinVerif.Lemmas.CrashPath
/-! Lemmas about `validAt`, `fallback` and `recover`: what `validAt` depends on; the common loop `fallbackWith` and
header check `recoverWith` (see the section below), one step of that loop, its whole walk over the candidates `Above` a
prefix; and the characterisation "a durable state that agrees with the consistent state of the old path where recovery
looks reopens on the old tip". -/
namespace GV.Crash

theorem bitmapOk_iff {α : Type} [BEq α] [LawfulBEq α] (U W : List α) :
    (U.all (fun l => W.contains l) && W.all (fun l => U.contains l)) = true ↔ ∀ l, l ∈ U ↔ l ∈ W := by
  simp only [Bool.and_eq_true, List.all_eq_true, List.contains_iff_mem]
  constructor
  · rintro ⟨h1, h2⟩ l; exact ⟨h1 l, h2 l⟩
  · intro h; exact ⟨fun l hl => (h l).1 hl, fun l hl => (h l).2 hl⟩

/-- the MMR files of `d` hold (at least) the entries of path `P` -/
structure FilesCover (P : List BlkInfo) (d : Durable) : Prop where
  outHash : leavesOf P <+: d.outHash
  outData : leavesOf P <+: d.outData
  kerHash : P.map (·.id) <+: d.kerHash
  kerData : P.map (·.id) <+: d.kerData

theorem FilesCover.mono {Q P : List BlkInfo} {d : Durable} (h : Q <+: P) (hc : FilesCover P d) : FilesCover Q d :=
  ⟨(leavesOf_mono h).trans hc.outHash, (leavesOf_mono h).trans hc.outData,
   (h.map _).trans hc.kerHash, (h.map _).trans hc.kerData⟩

theorem mem_leafAt (leaf readded : List Leaf) (P : List BlkInfo) (l : Leaf) :
    l ∈ leafAt leaf readded P ↔ l ∈ leavesOf P ∧ (l ∈ leaf ∨ l ∈ readded) := by
  simp only [leafAt, List.mem_append, List.mem_filter, Bool.not_eq_true',
    Bool.decide_and, Bool.and_eq_true, decide_eq_true_eq,
    List.contains_eq_mem, decide_eq_false_iff_not]
  constructor
  · rintro (⟨h1, h2⟩ | ⟨h1, h2, _⟩)
    · exact ⟨h2, Or.inl h1⟩
    · exact ⟨h2, Or.inr h1⟩
  · rintro ⟨h1, h2 | h2⟩
    · exact Or.inl ⟨h2, h1⟩
    · by_cases hl : l ∈ leaf
      · exact Or.inl ⟨hl, h1⟩
      · exact Or.inr ⟨h2, h1, hl⟩

theorem validAt_eq (bc : Nat → Bool) (d : Durable) (r : List Leaf) (P : List BlkInfo) :
    validAt bc d r P =
      (d.outHash.take (leavesOf P).length == leavesOf P && d.outData.take (leavesOf P).length == leavesOf P &&
       d.kerHash.take P.length == P.map (·.id) && d.kerData.take P.length == P.map (·.id) &&
       (!bc (P.length - 1) ||
         ((unspentOf P).all (fun l => (leafAt d.leaf r P).contains l) &&
          (leafAt d.leaf r P).all (fun l => (unspentOf P).contains l)))) := rfl

theorem validAt_of_files (bc : Nat → Bool) (d : Durable) (readded : List Leaf) (P : List BlkInfo)
    (h : FilesCover P d) :
    validAt bc d readded P =
      (!bc (P.length - 1) ||
        ((unspentOf P).all (fun l => (leafAt d.leaf readded P).contains l) &&
         (leafAt d.leaf readded P).all (fun l => (unspentOf P).contains l))) := by
  rw [validAt_eq]
  have e1 := take_of_prefix _ _ h.outHash
  have e2 := take_of_prefix _ _ h.outData
  have e3 := take_of_prefix _ _ h.kerHash
  have e4 := take_of_prefix _ _ h.kerData
  rw [List.length_map] at e3 e4
  simp only [e1, e2, e3, e4, Bool.true_and]

theorem validAt_true_of (bc : Nat → Bool) (d : Durable) (readded : List Leaf) (P : List BlkInfo)
    (h : FilesCover P d)
    (hb : ∀ l, l ∈ unspentOf P ↔ (l ∈ leavesOf P ∧ (l ∈ d.leaf ∨ l ∈ readded))) :
    validAt bc d readded P = true := by
  rw [validAt_of_files bc d readded P h]
  have : ((unspentOf P).all (fun l => (leafAt d.leaf readded P).contains l) &&
         (leafAt d.leaf readded P).all (fun l => (unspentOf P).contains l)) = true := by
    rw [bitmapOk_iff]
    intro l; rw [mem_leafAt]; exact hb l
  rw [this]; simp

theorem validAt_true_of_not_bc (bc : Nat → Bool) (d : Durable) (readded : List Leaf) (P : List BlkInfo)
    (h : FilesCover P d) (hbc : bc (P.length - 1) = false) : validAt bc d readded P = true := by
  rw [validAt_of_files bc d readded P h, hbc]; simp

theorem validAt_false_of (bc : Nat → Bool) (d : Durable) (readded : List Leaf) (P : List BlkInfo)
    (hbc : bc (P.length - 1) = true) (l : Leaf) (hl : l ∈ unspentOf P)
    (hn : ¬ (l ∈ d.leaf ∨ l ∈ readded)) :
    validAt bc d readded P = false := by
  rw [validAt_eq]
  have : (unspentOf P).all (fun l => (leafAt d.leaf readded P).contains l) = false := by
    rw [Bool.eq_false_iff]
    intro hall
    have := List.all_eq_true.1 hall l hl
    rw [List.contains_iff_mem] at this
    exact hn ((mem_leafAt d.leaf readded P l).1 this).2
  rw [hbc, this]
  simp

theorem validAt_false_of_outHash (bc : Nat → Bool) (d : Durable) (readded : List Leaf) (P : List BlkInfo)
    (h : d.outHash.take (leavesOf P).length ≠ leavesOf P) : validAt bc d readded P = false := by
  unfold validAt
  have : (d.outHash.take (leavesOf P).length == leavesOf P) = false := by
    rw [Bool.eq_false_iff]; intro e; exact h (by simpa using e)
  simp [this]

theorem validAt_false_of_short (bc : Nat → Bool) (d : Durable) (r : List Leaf) (P : List BlkInfo)
    (h : d.outHash.length < (leavesOf P).length) : validAt bc d r P = false := by
  apply validAt_false_of_outHash
  intro e
  have := congrArg List.length e
  rw [List.length_take] at this
  omega

/-- what the loop has re-added when it stands at `Q` having undone the blocks `R` above it
(in the order the loop appends them) -/
def undo : List BlkInfo → List BlkInfo → List Leaf
  | _, [] => []
  | Q, x :: R => undo (Q ++ [x]) R ++ spentLeaves (unspentOf Q) x

/-! ### One loop, one header check

The fallback loops of the model (`fallback`; `fallbackC` on a node that has deleted old blocks; `fallbackZ` on a node
without bodies) are one loop with a validity test `valid readded path` and one more exit `gone head path` ("the block
that would have to be undone is not in the database"); the `recover`s are that loop behind one header check. -/

def fallbackWith (valid : List Leaf → List BlkInfo → Bool) (gone : Nat → List BlkInfo → Bool) (tbl : List BlkInfo) :
    Nat → Nat → List Leaf → Rec
  | 0, h, _ => .ok h
  | fuel+1, h, readded =>
    match pathOf tbl (tbl.length + 1) h [] with
    | none => .openFail .storeErr
    | some path =>
      if path.length ≤ 1 then .ok h
      else if valid readded path then .ok h
      else if gone h path then .openFail .storeErr
      else fallbackWith valid gone tbl fuel (tipOf path.dropLast)
        (readded ++ spentLeaves (unspentOf path.dropLast) path.getLast!)

/-- the header part of `Chain::init`, then the loop -/
def recoverWith (valid : List Leaf → List BlkInfo → Bool) (gone : Nat → List BlkInfo → Bool) (tbl : List BlkInfo)
    (d : Durable) : Rec :=
  if d.hdrHash.length ≠ d.hdrData.length then .openFail .other else
  match pathOf tbl (tbl.length + 1) d.dbHHead [] with
  | none => .openFail .storeErr
  | some hp =>
    if d.hdrData.take hp.length ≠ hp.map (·.id) then .openFail .other
    else fallbackWith valid gone tbl (tbl.length + 1) d.dbHead []

theorem fallback_eq_with (bc : Nat → Bool) (tbl : List BlkInfo) (d : Durable) (fuel h : Nat) (r : List Leaf) :
    fallback bc tbl d fuel h r = fallbackWith (validAt bc d) (fun _ _ => false) tbl fuel h r := by
  induction fuel generalizing h r with
  | zero => rfl
  | succ f ih =>
    simp only [fallback, fallbackWith, ih, Bool.false_eq_true, if_false]
    cases pathOf tbl (tbl.length + 1) h [] <;> rfl

theorem recover_eq_with (bc : Nat → Bool) (tbl : List BlkInfo) (d : Durable) :
    recover bc tbl d = recoverWith (validAt bc d) (fun _ _ => false) tbl d := by
  simp only [recover, recoverWith, fallback_eq_with]
  split
  · rfl
  · cases pathOf tbl (tbl.length + 1) d.dbHHead [] <;> rfl

section
variable {valid : List Leaf → List BlkInfo → Bool} {gone : Nat → List BlkInfo → Bool} {tbl : List BlkInfo}

theorem fallbackWith_stop (fuel h : Nat) (r : List Leaf) (P : List BlkInfo)
    (hp : pathOf tbl (tbl.length + 1) h [] = some P) (hv : P.length ≤ 1 ∨ valid r P = true) :
    fallbackWith valid gone tbl fuel h r = .ok h := by
  cases fuel with
  | zero => rfl
  | succ f =>
    simp only [fallbackWith, hp]
    rcases hv with hv | hv <;> simp [hv]

theorem fallbackWith_gone (fuel h : Nat) (r : List Leaf) (P : List BlkInfo) (hf : 0 < fuel)
    (hp : pathOf tbl (tbl.length + 1) h [] = some P) (hlen : ¬ P.length ≤ 1) (hv : valid r P = false)
    (hg : gone h P = true) : fallbackWith valid gone tbl fuel h r = .openFail .storeErr := by
  obtain ⟨f, rfl⟩ : ∃ f, fuel = f + 1 := ⟨fuel - 1, by omega⟩
  simp only [fallbackWith, hp, hlen, if_false, hv, Bool.false_eq_true, hg, if_true]

theorem fallbackWith_step (fuel : Nat) (r : List Leaf) (Q : List BlkInfo) (x : BlkInfo) (hQ : Q ≠ [])
    (hp : pathOf tbl (tbl.length + 1) (tipOf (Q ++ [x])) [] = some (Q ++ [x]))
    (hv : valid r (Q ++ [x]) = false) (hg : gone (tipOf (Q ++ [x])) (Q ++ [x]) = false) :
    fallbackWith valid gone tbl (fuel + 1) (tipOf (Q ++ [x])) r =
      fallbackWith valid gone tbl fuel (tipOf Q) (r ++ spentLeaves (unspentOf Q) x) := by
  have hlen : ¬ (Q ++ [x]).length ≤ 1 := by
    have : Q.length ≠ 0 := fun h => hQ (List.length_eq_zero_iff.mp h)
    simp; omega
  simp only [fallbackWith, hp, hlen, if_false, hv, hg, Bool.false_eq_true, List.dropLast_concat]
  congr 3
  simp [List.getLast!_eq_getLast?_getD]

end

theorem fallbackWith_invalid {valid valid' : List Leaf → List BlkInfo → Bool} {gone : Nat → List BlkInfo → Bool}
    {tbl : List BlkInfo} (h : ∀ r P, valid r P = false) (h' : ∀ r P, valid' r P = false) :
    ∀ (fuel hd : Nat) (r r' : List Leaf),
      fallbackWith valid gone tbl fuel hd r = fallbackWith valid' gone tbl fuel hd r'
  | 0, _, _, _ => rfl
  | fuel + 1, hd, r, r' => by
    simp only [fallbackWith, h, h']
    cases pathOf tbl (tbl.length + 1) hd [] with
    | none => rfl
    | some path =>
      simp only [Bool.false_eq_true, if_false]
      rw [fallbackWith_invalid h h' fuel _ (r ++ _) (r' ++ spentLeaves (unspentOf path.dropLast) path.getLast!)]

/-- `P Q S` holds of every candidate `Q` strictly above `M` on the path `M ++ T`, `S` being the blocks above `Q` -/
def Above (M T : List BlkInfo) (P : List BlkInfo → List BlkInfo → Prop) : Prop :=
  ∀ T1 x T2, T = T1 ++ x :: T2 → P (M ++ T1 ++ [x]) T2

section
variable {M T : List BlkInfo} {P P' : List BlkInfo → List BlkInfo → Prop}

theorem Above.of_forall (h : ∀ Q S, Q ++ S = M ++ T → P Q S) : Above M T P :=
  fun _ _ _ e => h _ _ (by rw [e]; simp)

theorem Above.imp (h : Above M T P) (f : ∀ Q S, Q ++ S = M ++ T → P Q S → P' Q S) : Above M T P' :=
  fun T1 x T2 e => f _ _ (by rw [e]; simp) (h T1 x T2 e)

/-- the candidates above `M` on `M ++ T` are among those on `M ++ T ++ [x]` -/
theorem Above.init {x : BlkInfo} (h : Above M (T ++ [x]) P) : Above M T fun Q S => P Q (S ++ [x]) :=
  fun T1 y T2 e => h T1 y (T2 ++ [x]) (by rw [e]; simp)

end

theorem Above.of_cons {F O1 : List BlkInfo} {x : BlkInfo} {P : List BlkInfo → List BlkInfo → Prop}
    (h : ∀ Q1 S, P (F ++ x :: Q1) S) : Above F (x :: O1) P := by
  intro T1 z T2 e
  cases T1 with
  | nil => simp only [List.nil_append, List.cons.injEq] at e; rw [← e.1]; simpa using h [] T2
  | cons w T1' =>
    simp only [List.cons_append, List.cons.injEq] at e
    rw [← e.1]; simpa using h (T1' ++ [z]) T2

/-- the height of a candidate in the form the property theorems write it, `bc (M.length + T1.length)` -/
theorem Above.of_heights {M T : List BlkInfo} {bc : Nat → Bool} {R : List BlkInfo → Prop}
    (h : ∀ T1 y T2, T = T1 ++ y :: T2 → bc (M.length + T1.length) = true ∧ R (M ++ T1 ++ [y])) :
    Above M T fun Q _ => bc (Q.length - 1) = true ∧ R Q :=
  fun T1 y T2 e => by simpa using h T1 y T2 e

/-- **The walk of the loop** from `M ++ T` down to `M`: every candidate above `M` is invalid and can be undone -/
theorem fallbackWith_walk {valid : List Leaf → List BlkInfo → Bool} {gone : Nat → List BlkInfo → Bool}
    {tbl : List BlkInfo} (M : List BlkInfo) (hM : M ≠ []) :
    ∀ (T R : List BlkInfo) (fuel : Nat), T.length ≤ fuel →
      pathOf tbl (tbl.length + 1) (tipOf (M ++ T)) [] = some (M ++ T) →
      Above M T (fun Q S => valid (undo Q (S ++ R)) Q = false) → Above M T (fun Q _ => gone (tipOf Q) Q = false) →
      fallbackWith valid gone tbl fuel (tipOf (M ++ T)) (undo (M ++ T) R) =
        fallbackWith valid gone tbl (fuel - T.length) (tipOf M) (undo M (T ++ R)) := by
  intro T
  induction T using list_snoc_induction with
  | nil => intro R fuel _ _ _ _; simp
  | snoc T x ih =>
    intro R fuel hf hO hv hg
    obtain ⟨f, rfl⟩ : ∃ f, fuel = f + 1 := ⟨fuel - 1, by simp at hf; omega⟩
    have hvx : valid (undo (M ++ T ++ [x]) R) (M ++ T ++ [x]) = false := hv T x [] (by simp)
    rw [← List.append_assoc] at hO ⊢
    rw [fallbackWith_step f _ (M ++ T) x (by simp [hM]) hO hvx (hg T x [] (by simp))]
    exact (ih (x :: R) f (by simp at hf; omega) (pathOf_prefix tbl _ (M ++ T) (by simp [hM]) [x] _ hO)
      (by simpa using hv.init) hg.init).trans (by simp)

/-- a stored path fits the fuel: enough for the walk over `T`, and something is left at `M` -/
theorem walk_fuel_le {tbl M T : List BlkInfo}
    (hO : pathOf tbl (tbl.length + 1) (tipOf (M ++ T)) [] = some (M ++ T)) : T.length ≤ tbl.length + 1 :=
  Nat.le_trans (by rw [List.length_append]; exact Nat.le_add_left _ _) (pathOf_length_le tbl _ _ _ hO)

theorem walk_fuel_pos {tbl M T : List BlkInfo} (hM : M ≠ [])
    (hO : pathOf tbl (tbl.length + 1) (tipOf (M ++ T)) [] = some (M ++ T)) : 0 < tbl.length + 1 - T.length := by
  have := pathOf_length_le tbl _ _ _ hO
  rw [List.length_append] at this
  exact Nat.sub_pos_of_lt (Nat.lt_of_lt_of_le (Nat.lt_add_of_pos_left (List.length_pos_iff.2 hM)) this)

/-- whatever the test, a loop that never misses a block and is started on a stored path ends on the tip of one of its
non-empty prefixes -/
theorem fallbackWith_lands (valid : List Leaf → List BlkInfo → Bool) {tbl : List BlkInfo} :
    ∀ (fuel : Nat) (Q : List BlkInfo) (readded : List Leaf), Q ≠ [] →
      pathOf tbl (tbl.length + 1) (tipOf Q) [] = some Q →
      ∃ Q' S, Q' ++ S = Q ∧ Q' ≠ [] ∧
        fallbackWith valid (fun _ _ => false) tbl fuel (tipOf Q) readded = .ok (tipOf Q') := by
  intro fuel
  induction fuel with
  | zero => intro Q readded hQ _; exact ⟨Q, [], by simp, hQ, by simp [fallbackWith]⟩
  | succ f ih =>
    intro Q readded hQ hpath
    by_cases hstop : Q.length ≤ 1 ∨ valid readded Q = true
    · exact ⟨Q, [], by simp, hQ, fallbackWith_stop _ _ _ Q hpath hstop⟩
    · obtain ⟨Q0, x, rfl⟩ := (eq_nil_or_snoc Q).resolve_left hQ
      have hQ0 : Q0 ≠ [] := by
        intro h; subst h; exact hstop (Or.inl (by simp))
      have h2 : valid readded (Q0 ++ [x]) = false := by
        simpa using fun hv => hstop (Or.inr hv)
      rw [fallbackWith_step f readded Q0 x hQ0 hpath h2 rfl]
      obtain ⟨Q', S, e, hne, hr⟩ := ih Q0 (readded ++ spentLeaves (unspentOf Q0) x) hQ0
        (pathOf_prefix tbl _ Q0 hQ0 [x] _ hpath)
      exact ⟨Q', S ++ [x], by rw [← List.append_assoc, e], hne, hr⟩

/-- the header part of `Chain::init` passes: the two header files count the same number of
headers and the data file holds the path of `header_head` -/
structure HdrOk (tbl : List BlkInfo) (d : Durable) : Prop where
  len : d.hdrHash.length = d.hdrData.length
  path : ∃ hp, pathOf tbl (tbl.length + 1) d.dbHHead [] = some hp ∧ hp.map (·.id) <+: d.hdrData

/-- what the header check reads -/
def hdrView (d : Durable) : List Nat × List Nat × Nat := (d.hdrHash, d.hdrData, d.dbHHead)

theorem HdrOk.of_view {tbl : List BlkInfo} {d d' : Durable} (h : HdrOk tbl d) (e : hdrView d' = hdrView d) :
    HdrOk tbl d' := by
  obtain ⟨e1, e2, e3⟩ : d'.hdrHash = d.hdrHash ∧ d'.hdrData = d.hdrData ∧ d'.dbHHead = d.dbHHead := by
    simpa [hdrView] using e
  exact ⟨by rw [e1, e2]; exact h.len, by rw [e2, e3]; exact h.path⟩

section
variable {valid : List Leaf → List BlkInfo → Bool} {gone : Nat → List BlkInfo → Bool} {tbl : List BlkInfo}

theorem recoverWith_of_hdrOk (d : Durable) (h : HdrOk tbl d) :
    recoverWith valid gone tbl d = fallbackWith valid gone tbl (tbl.length + 1) d.dbHead [] := by
  obtain ⟨hp, hpath, hpre⟩ := h.path
  rw [recoverWith, if_neg (by simpa using h.len), hpath]
  refine if_neg ?_
  have := take_of_prefix _ _ hpre
  rw [List.length_map] at this
  simpa using this

end

/-- whenever the hash file and the data file of the header MMR disagree in length the node does not
open, whatever else the durable state holds -/
theorem header_len_mismatch_bricks (bc : Nat → Bool) (tbl : List BlkInfo) (d : Durable)
    (h : d.hdrHash.length ≠ d.hdrData.length) : recover bc tbl d = .openFail .other := by
  rw [recover, if_pos h]

theorem recover_hdr_mismatch (bc : Nat → Bool) (tbl : List BlkInfo) (d : Durable) (hp : List BlkInfo)
    (hl : d.hdrHash.length = d.hdrData.length)
    (hpath : pathOf tbl (tbl.length + 1) d.dbHHead [] = some hp)
    (hne : d.hdrData.take hp.length ≠ hp.map (·.id)) :
    recover bc tbl d = .openFail .other := by
  rw [recover, if_neg (by simpa using hl), hpath]; exact if_pos hne

theorem recover_ok_hdr {bc : Nat → Bool} {tbl : List BlkInfo} {d : Durable} {h : Nat} (hr : recover bc tbl d = .ok h) :
    ∃ hp, d.hdrHash.length = d.hdrData.length ∧ pathOf tbl (tbl.length + 1) d.dbHHead [] = some hp ∧
      d.hdrData.take hp.length = hp.map (·.id) := by
  by_cases hl : d.hdrHash.length ≠ d.hdrData.length
  · simp [recover, hl] at hr
  · cases hpath : pathOf tbl (tbl.length + 1) d.dbHHead [] with
    | none => simp [recover, hl, hpath] at hr
    | some hp =>
      by_cases hdata : d.hdrData.take hp.length ≠ hp.map (·.id)
      · simp [recover, hl, hpath, hdata] at hr
      · exact ⟨hp, by simpa using hl, rfl, by simpa using hdata⟩

theorem recover_of_hdrOk (bc : Nat → Bool) (tbl : List BlkInfo) (d : Durable) (h : HdrOk tbl d) :
    recover bc tbl d = fallbackWith (validAt bc d) (fun _ _ => false) tbl (tbl.length + 1) d.dbHead [] :=
  (recover_eq_with bc tbl d).trans (recoverWith_of_hdrOk d h)

/-- `d` agrees with the consistent state of `O` on everything the body part of recovery reads:
body head, leaf set, and the output / kernel files up to `O`'s sizes -/
structure AgreesOld (O : List BlkInfo) (d : Durable) : Prop where
  head : d.dbHead = tipOf O
  leaf : d.leaf = unspentOf O
  files : FilesCover O d

/-- what the body part reads -/
def bodyView (d : Durable) : Nat × List Leaf × List Leaf × List Leaf × List Nat × List Nat :=
  (d.dbHead, d.leaf, d.outHash, d.outData, d.kerHash, d.kerData)

theorem AgreesOld.of_view {O : List BlkInfo} {d d' : Durable} (h : AgreesOld O d) (e : bodyView d' = bodyView d) :
    AgreesOld O d' := by
  obtain ⟨e1, e2, e3, e4, e5, e6⟩ : d'.dbHead = d.dbHead ∧ d'.leaf = d.leaf ∧ d'.outHash = d.outHash ∧
      d'.outData = d.outData ∧ d'.kerHash = d.kerHash ∧ d'.kerData = d.kerData := by simpa [bodyView] using e
  exact ⟨e1 ▸ h.head, e2 ▸ h.leaf, e3 ▸ h.files.outHash, e4 ▸ h.files.outData, e5 ▸ h.files.kerHash, e6 ▸ h.files.kerData⟩

theorem validAt_of_agrees (bc : Nat → Bool) (O : List BlkInfo) (d : Durable) (h : AgreesOld O d) :
    validAt bc d [] O = true := by
  apply validAt_true_of bc d [] O h.files
  intro l
  rw [h.leaf]
  constructor
  · intro hl; exact ⟨unspentOf_subset_leaves O l hl, Or.inl hl⟩
  · rintro ⟨_, h | h⟩
    · exact h
    · simp at h

/-- **Characterisation (safe states).** A durable state whose header files are consistent with
its header head and which agrees with `consistent O` on body head, leaf set and the `O`-prefix of
the output and kernel files (anything may follow those prefixes) reopens on the tip of `O`. -/
theorem recover_of_agrees (bc : Nat → Bool) (tbl : List BlkInfo) (O : List BlkInfo) (d : Durable)
    (hO : pathOf tbl (tbl.length + 1) (tipOf O) [] = some O)
    (hh : HdrOk tbl d) (ha : AgreesOld O d) :
    recover bc tbl d = .ok (tipOf O) := by
  rw [recover_of_hdrOk bc tbl d hh, ha.head]
  exact fallbackWith_stop _ _ _ O hO (Or.inr (validAt_of_agrees bc O d ha))

theorem HdrOk.of_files {tbl : List BlkInfo} {d : Durable} {ids : List Nat} (hp : List BlkInfo)
    (e1 : d.hdrHash = ids) (e2 : d.hdrData = ids) (hpath : pathOf tbl (tbl.length + 1) d.dbHHead [] = some hp)
    (hpre : hp.map (·.id) <+: ids) : HdrOk tbl d :=
  ⟨by rw [e1, e2], hp, hpath, e2 ▸ hpre⟩

theorem consistent_hdrOk (tbl O : List BlkInfo) (hO : pathOf tbl (tbl.length + 1) (tipOf O) [] = some O) :
    HdrOk tbl (consistent O) :=
  .of_files O rfl rfl hO (List.prefix_refl _)

theorem consistent_agrees (O : List BlkInfo) : AgreesOld O (consistent O) :=
  ⟨rfl, rfl, List.prefix_refl _, List.prefix_refl _, List.prefix_refl _, List.prefix_refl _⟩

theorem recover_consistent_tipOf (bc : Nat → Bool) (tbl O : List BlkInfo)
    (hO : pathOf tbl (tbl.length + 1) (tipOf O) [] = some O) : recover bc tbl (consistent O) = .ok (tipOf O) :=
  recover_of_agrees bc tbl O _ hO (consistent_hdrOk tbl O hO) (consistent_agrees O)

end GV.Crash
