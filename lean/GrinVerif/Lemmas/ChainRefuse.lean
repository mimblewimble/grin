import GrinVerif.Lemmas.ChainInv
import GrinVerif.Lemmas.ChainValue
import GrinVerif.Model.ChainInputs
import GrinVerif.Model.ChainNrdDup
/-! Refusals at the level of whole deliveries (`deliverBlock`, i.e. `Chain::process_block`): `Refused`,
the fact that a header fault (on a node with the store invariant), a body fault or a state fault (the
classes are listed by `validateBody_none_iff` / `stateChecks_none_iff`, Lemmas/ChainApply.lean) makes
the delivery return an error with the best-chain observation unchanged, and the path-level facts that say when an output is (not) unspent
in the state a block is validated against (spent earlier on the same path, created only on another
fork, re-created, un-spent by a reorganisation); the tags of `Model/ChainInputs.lean` (an input that
claims the wrong features) and `Model/ChainNrdDup.lean` (two NRD kernels sharing an excess) are
faults. Used by C01, C02, C06, C13. -/
namespace GV.Chain

/-- the delivery was refused and the best-chain observation (head, stored blocks, reported unspent
set) is what it was; block and output definitions never change -/
def Refused (p : Params) (n : Node) (b : Blk) : Prop :=
  ∃ e, (deliverBlock p n b).2 = .err e ∧ (deliverBlock p n b).1.head = n.head ∧
    (deliverBlock p n b).1.stored = n.stored ∧
    (deliverBlock p n b).1.reportedUtxo p = n.reportedUtxo p

theorem Refused.obsBest {p : Params} {n : Node} {b : Blk} (h : Refused p n b) :
    obsBest p (deliverBlock p n b).1 = obsBest p n := by
  obtain ⟨_, _, h1, h2, h3⟩ := h
  simp only [GV.Chain.obsBest, h1, h2, h3]

theorem refused_of_err (p : Params) (n : Node) (b : Blk) (e : Err)
    (h : (deliverBlock p n b).2 = .err e) : Refused p n b := by
  have h1 := deliverBlock_err_inv p n b e h
  have hd := deliverBlock_of_err p n b e h1
  have hc := CoreEq.of_err h1
  refine ⟨e, h, ?_⟩
  rw [hd]
  exact ⟨hc.head, hc.stored, reportedUtxo_congr hc.blks hc.head p⟩

theorem refused_of_header_fault (p : Params) (n : Node) (b : Blk) (hb : n.blk b.id = some b)
    (hi : StoreInv p n) (hk : ¬ KnownFull n b) (h : validateHeader p n b ≠ none) :
    Refused p n b ∧ (deliverBlock p n b).1 = n := by
  obtain ⟨e, he⟩ : ∃ e, processHeader p n b = .error e := by
    rcases processHeader_outcome p n b with ⟨hs | hr, _⟩ | ⟨_, ⟨e, _, he⟩ | ⟨hv, _⟩⟩
    · exact absurd hs hk
    · exact absurd (hr.valid hi hb hk) h
    · exact ⟨e, he⟩
    · exact absurd hv h
  have hs : processBlockSingle p n b = (n, .err e) := by simp [processBlockSingle, he]
  have hd := deliverBlock_of_err p n b e (by rw [hs])
  refine ⟨refused_of_err p n b e (by rw [hd]), ?_⟩
  rw [hd, hs]

theorem refused_of_check_fails (p : Params) (n : Node) (b : Blk)
    (hfail : ∀ par s', b.parent = some par → checkBlock p n b par ≠ .ok s') : Refused p n b := by
  rcases processBlockSingle_core p n b with ⟨_, e, he⟩ | ⟨par, s', A⟩
  · exact refused_of_err p n b e (by rw [deliverBlock_of_err p n b e he])
  · exact absurd A.check (hfail par s' A.parent)

/-- **body faults**: a signature / range-proof / sorting fault (`body:` tag), a commitment twice
among the inputs or outputs, cut-through, a lock height above the block, an NRD kernel before its
era, a wrong coinbase claim, an unbalanced body, or a blinding-level sum fault (`ksum:` tag) -/
theorem refused_of_body_fault (p : Params) (n : Node) (b : Blk)
    (h : validateBody p n.outs b (sumVals n.outs b.ins) ≠ none) : Refused p n b := by
  apply refused_of_check_fails
  intro par s' _ hc
  obtain ⟨_, _, hv, _⟩ := checkBlock_ok p n b par s' hc
  exact h hv

/-- **state faults**: against the replayed state of the block's own parent — an input that is not
unspent there, an immature coinbase spend, a duplicate of an unspent commitment, a block-sums fault
(`sums:` tag), an NRD kernel too close, or a root / size mismatch found after the block was applied
to the working state (`late:` tag) -/
theorem refused_of_state_fault (p : Params) (n : Node) (b : Blk)
    (h : ∀ par sPar, b.parent = some par → n.stateAt p par = .ok sPar →
      stateChecks p sPar b ≠ none) : Refused p n b := by
  apply refused_of_check_fails
  intro par s' hpar hc
  obtain ⟨sPar, hst, _, hab⟩ := checkBlock_ok p n b par s' hc
  exact h par sPar hpar hst (applyBlock_ok_iff.mp hab).1

theorem refused_of_state_fault_at (p : Params) (n : Node) (b : Blk) (par : Nat) (sPar : UState)
    (hpar : b.parent = some par) (hst : n.stateAt p par = .ok sPar)
    (h : stateChecks p sPar b ≠ none) : Refused p n b := by
  apply refused_of_state_fault
  intro par' sPar' hpar' hst'
  rw [hpar] at hpar'
  cases hpar'
  rw [hst] at hst'
  cases hst'
  exact h

theorem any_fst_eq_false {o : Nat} {l : List (Nat × Bool)} (h : o ∉ l.map (·.1)) :
    l.any (·.1 == o) = false :=
  List.any_eq_false.mpr fun x hx hxo => h (List.mem_map.mpr ⟨x, hx, by simpa using hxo⟩)

theorem replay_has_of_never_created (p : Params) (bs : List Blk) (s s' : UState) (o : Nat)
    (h : replay p s bs = .ok s') (h0 : s.has o = false) (hn : ∀ b ∈ bs, o ∉ b.outs.map (·.1)) :
    s'.has o = false :=
  replay_ok_foldl p bs h ▸ bs.foldlRecOn (motive := fun s => s.has o = false) effects h0
    fun s h0 b hb => by rw [effects_has, h0, any_fst_eq_false (hn b hb)]; rfl

/-- *a spent output never reappears* -/
theorem replay_has_of_spent (p : Params) (pre post : List Blk) (a : Blk) (s s' : UState) (o : Nat)
    (h : replay p s (pre ++ a :: post) = .ok s') (ha : o ∈ a.ins)
    (hct : cutThroughViolation a = false) (hn : ∀ b ∈ post, o ∉ b.outs.map (·.1)) :
    s'.has o = false := by
  obtain ⟨_, s2, _, h2, h⟩ := replay_split h
  refine replay_has_of_never_created p post s2 s' o h (Bool.eq_false_iff.mpr fun ht => ?_) hn
  rcases (has_applyBlock_iff h2 o).mp ht with x | x
  · exact x.2 ha
  · -- created by the block that spends it: cut-through
    exact (cutThrough_false_iff a).mp hct o ha x

/-- *an unspent output never vanishes*, whatever blocks outside the path do -/
theorem replay_has_of_unspent_since (p : Params) (bs : List Blk) (s s' : UState) (o : Nat)
    (h : replay p s bs = .ok s') (h0 : s.has o = true) (hn : ∀ b ∈ bs, o ∉ b.ins) : s'.has o = true :=
  replay_ok_foldl p bs h ▸ bs.foldlRecOn (motive := fun s => s.has o = true) effects h0
    fun s h0 b hb => by
      have h4 : b.ins.contains o = false := by simpa using hn b hb
      rw [effects_has, h0, h4]; rfl

theorem replay_has_of_created (p : Params) (pre post : List Blk) (c : Blk) (s s' : UState) (o : Nat)
    (h : replay p s (pre ++ c :: post) = .ok s') (hc : o ∈ c.outs.map (·.1))
    (hn : ∀ b ∈ post, o ∉ b.ins) : s'.has o = true := by
  obtain ⟨_, s2, _, h2, h⟩ := replay_split h
  exact replay_has_of_unspent_since p post s2 s' o h ((has_applyBlock_iff h2 o).mpr (.inr hc)) hn

theorem genesisState_has_iff (g : Blk) (o : Nat) :
    (genesisState g).has o = true ↔ o ∈ g.outs.map (·.1) := by
  rw [has_iff_mem]
  simp [genesisState, List.map_map]

theorem hasTag_sums_of_mismatch (outs : List OutDef) (b : Blk) (inf : List (Nat × Bool))
    (h : featMismatch outs inf = true) : hasTag (b.withInputFeatures outs inf) "sums:" ≠ none := by
  unfold Blk.withInputFeatures
  rw [if_pos h]
  unfold hasTag
  intro hn
  simp only [Option.map_eq_none_iff, List.find?_eq_none, List.mem_append, List.mem_singleton] at hn
  have := hn "sums:Other" (Or.inr rfl)
  exact this (by simp)

/-- a block with two NRD kernels sharing an excess is refused by every node in every state — whatever
the relative heights, whether or not the excess occurred before, wherever the two kernels sit —
with head, stored blocks and reported unspent set unchanged -/
theorem refused_of_nrdDup (p : Params) (n : Node) (b : Blk) (h : nrdDupInBody b = true) :
    Refused p n b.withNrdDupCheck := by
  apply refused_of_body_fault
  intro hv
  have ht := ((validateBody_none_iff p n.outs _ _).mp hv).1
  unfold Blk.withNrdDupCheck at ht
  rw [if_pos h] at ht
  have hpfx : "body:Block:Transaction:InvalidNRDRelativeHeight".startsWith "body:" = true := by
    decide +kernel
  simp only [hasTag, List.find?_cons, hpfx, Option.map_some, reduceCtorEq] at ht

theorem nrdDupInBody_of_two (b : Blk) (pre mid post : List Ker) (f1 r1 f2 r2 : Nat) (ex : String)
    (hk : b.kers = pre ++ Ker.nrd f1 r1 ex :: mid ++ Ker.nrd f2 r2 ex :: post) :
    nrdDupInBody b = true := by
  unfold nrdDupInBody nrdExcesses
  rw [hk]
  simp only [List.filterMap_append, List.filterMap_cons, Bool.not_eq_eq_eq_not, Bool.not_true,
    decide_eq_false_iff_not]
  intro hnd
  rw [List.nodup_append] at hnd
  exact hnd.2.2 ex (by simp) ex (by simp) rfl

end GV.Chain
