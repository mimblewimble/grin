import GrinVerif.Lemmas.PmmrShape
/-! Tree structure of MMR positions as the prune list sees it (C08): children / parent / sibling
arithmetic of `family`, `bintree_leftmost`, `height`; subtrees are contiguous position ranges
`[leftmost r, r]` that are nested or disjoint: for positions given by their coordinates,
`Sub (mmr m + k) (mmr n + h) ↔ Co.Under m k n h` (`sub_co`, from `Co.range_iff` of `Lemmas/PmmrShape`).  Core Lean only. -/
namespace GV.Store
open GV GV.Pmmr GV.Pmmr.Co

/-- `q` lies in the subtree rooted at `r` (a contiguous range of positions ending at `r`) -/
def Sub (r q : Nat) : Prop := bintreeLeftmost r ≤ q ∧ q ≤ r

instance (r q : Nat) : Decidable (Sub r q) := by unfold Sub; exact inferInstance

theorem sub_refl (r : Nat) : Sub r r := ⟨Co.leftmost_le r, Nat.le_refl _⟩

theorem family_right_child {n g : Nat} (hg : g < trailingOnes n) :
    family (mmr n + g) = (mmr n + g + 1, mmr n + g + 1 - 2 * 2 ^ g) := by
  rw [family_co n g (Nat.le_of_lt hg), if_pos hg, ← left_child_pos hg]; rfl

theorem family_left_child {n g : Nat} (hg : g = trailingOnes n) :
    family (mmr n + g) = (mmr n + g + 2 * 2 ^ g, mmr n + g + 2 * 2 ^ g - 1) := by
  have := (right_sibling_coord hg).2
  rw [family_co n g (Nat.le_of_eq hg), if_neg (by omega)]
  exact Prod.ext (by simp only; omega) (by simp only; omega)

/-- the left sibling of a right child `(n, g)` is the node `(n − 2^g, g)`; their parent follows `(n, g)` -/
theorem left_sibling_geom {n g : Nat} (hg : g < trailingOnes n) :
    mmr n + g + 1 - 2 * 2 ^ g = mmr (n - 2 ^ g) + g ∧ g ≤ trailingOnes (n - 2 ^ g) ∧ 2 ^ g ≤ n ∧
    (family (mmr (n - 2 ^ g) + g)).1 = mmr n + g + 1 := by
  obtain ⟨l1, l2, l3, l4⟩ := left_sibling_coord hg
  refine ⟨left_child_pos hg, l1, l2, ?_⟩
  rw [family_left_child l4.symm]
  show mmr (n - 2 ^ g) + g + 2 * 2 ^ g = mmr n + g + 1
  omega

/-- children of a node of height `h+1`: right child `p-1`, left child `p - 2·2^h`, both of height
`h`, each the sibling of the other with parent `p` -/
theorem children (p h : Nat) (hp : height p = h + 1) :
    2 * 2 ^ h ≤ p ∧ height (p - 1) = h ∧ height (p - 2 * 2 ^ h) = h ∧
    family (p - 1) = (p, p - 2 * 2 ^ h) ∧ family (p - 2 * 2 ^ h) = (p, p - 1) := Co.children p h hp

theorem family_sibling (p : Nat) :
    height (family p).2 = height p ∧ family (family p).2 = ((family p).1, p) ∧
    (family p).2 ≠ p := by
  have hpar := Co.height_family_fst p
  have hpos := Nat.two_pow_pos (height p)
  obtain ⟨c0, c1, c2, c3, c4⟩ := children (family p).1 (height p) hpar
  rcases Co.family_children p with ⟨e1, e2⟩ | ⟨e1, e2⟩ <;> rw [e2]
  · exact ⟨c2, by rw [c4, ← e1], by omega⟩
  · exact ⟨c1, by rw [c3, ← e1], by omega⟩

theorem sub_co {m k n h : Nat} (hk : k ≤ trailingOnes m) (hh : h ≤ trailingOnes n) :
    Sub (mmr m + k) (mmr n + h) ↔ Under m k n h := range_iff hk hh

theorem sub_children_iff {p h : Nat} (hp : height p = h + 1) (q : Nat) :
    (Sub p q ∧ q ≠ p) ↔ (Sub (p - 2 * 2 ^ h) q ∨ Sub (p - 1) q) := by
  obtain ⟨P, hP, rfl, e1, e2, hl, _⟩ := inner_co hp
  obtain ⟨n, g, hg, rfl⟩ := coord_surj q
  rw [e1, e2, sub_co hP hg, sub_co (Nat.le_of_succ_le hP) hg, sub_co hl hg, (range_children hP hg).1]
  have hne : mmr n + g ≠ mmr P + (h + 1) ↔ ¬ (n = P ∧ g = h + 1) :=
    ⟨fun hne ⟨a, b⟩ => hne (by rw [a, b]), fun hne e => hne (coord_inj hg hP e)⟩
  rw [hne]
  constructor
  · rintro ⟨a | a | a, b⟩
    · exact absurd a b
    · exact Or.inr a
    · exact Or.inl a
  · rintro (a | a)
    · exact ⟨Or.inr (Or.inr a), fun ⟨_, c⟩ => by have := a.le; omega⟩
    · exact ⟨Or.inr (Or.inl a), fun ⟨_, c⟩ => by have := a.le; omega⟩

theorem children_disjoint {p h : Nat} (hp : height p = h + 1) (q : Nat)
    (h1 : Sub (p - 2 * 2 ^ h) q) (h2 : Sub (p - 1) q) : False := by
  obtain ⟨P, hP, rfl, e1, e2, hl, _⟩ := inner_co hp
  obtain ⟨n, g, hg, rfl⟩ := coord_surj q
  rw [e2, sub_co hl hg] at h1
  rw [e1, sub_co (Nat.le_of_succ_le hP) hg] at h2
  exact (range_children hP hg).2 ⟨h2, h1⟩

theorem sub_leaf {p q : Nat} (hp : height p = 0) (hs : Sub p q) : q = p := by
  unfold Sub bintreeLeftmost at hs
  rw [hp] at hs
  omega

theorem sub_trans {a b c : Nat} (h1 : Sub a b) (h2 : Sub b c) : Sub a c := by
  obtain ⟨l, j, hj, rfl⟩ := coord_surj a
  obtain ⟨m, k, hk, rfl⟩ := coord_surj b
  obtain ⟨n, h, hh, rfl⟩ := coord_surj c
  exact (sub_co hj hh).2 (((sub_co hj hk).1 h1).trans ((sub_co hk hh).1 h2))

theorem sub_up (n : Nat) : ∀ j, Sub (cpos (up n j, j)) (mmr n) :=
  fun j => (sub_co (up_valid n j) (Nat.zero_le _)).2 ⟨Nat.zero_le _, rfl⟩

/-- the last leaf below `p` sits `height p` positions before it -/
theorem rightmost_leaf (p : Nat) : height (p - height p) = 0 ∧ Sub p (p - height p) := by
  obtain ⟨n, k, hk, rfl⟩ := coord_surj p
  rw [height_co n k hk, Nat.add_sub_cancel]
  exact ⟨height_mmr n, (sub_co hk (Nat.zero_le _)).2 ⟨Nat.zero_le _, up_of_valid hk⟩⟩

theorem sub_of_common {a b q : Nat} (ha : Sub a q) (hb : Sub b q) (hab : a ≤ b) : Sub b a := by
  unfold Sub at *; omega

/-- **going up stays inside**: the parent of a position strictly inside a subtree is in the subtree -/
theorem sub_parent {r q : Nat} (hs : Sub r q) (hne : q ≠ r) : Sub r (family q).1 := by
  obtain ⟨m, k, hk, rfl⟩ := coord_surj r
  obtain ⟨n, h, hh, rfl⟩ := coord_surj q
  obtain ⟨h1, h2⟩ := (sub_co hk hh).1 hs
  have hlt : h < k := by
    apply Classical.byContradiction
    intro hc
    have : h = k := by omega
    subst this
    rw [up_of_valid hh] at h2
    exact hne (by rw [h2])
  have hpar := family_up n h
  rw [up_of_valid hh] at hpar
  rw [show mmr n + h = cpos (n, h) from rfl, hpar]
  exact (sub_co hk (up_valid n (h + 1))).2 ⟨hlt, by rw [up_up n hlt]; exact h2⟩

theorem sub_family (p q : Nat) :
    Sub (family p).1 q ↔ q = (family p).1 ∨ Sub p q ∨ Sub (family p).2 q := by
  have hpar := Co.height_family_fst p
  have hpos := Nat.two_pow_pos (height p)
  obtain ⟨c0, c1, c2, c3, c4⟩ := children (family p).1 (height p) hpar
  have hcases := Co.family_children p
  constructor
  · intro hs
    by_cases hq : q = (family p).1
    · exact Or.inl hq
    · right
      rcases (sub_children_iff hpar q).1 ⟨hs, hq⟩ with h1 | h1 <;> rcases hcases with ⟨e1, e2⟩ | ⟨e1, e2⟩
      · right; rw [e2]; exact h1
      · left; rw [e1]; exact h1
      · left; rw [e1]; exact h1
      · right; rw [e2]; exact h1
  · rintro (rfl | h1 | h1)
    · exact sub_refl _
    · rcases hcases with ⟨e1, e2⟩ | ⟨e1, e2⟩
      · rw [e1] at h1; exact ((sub_children_iff hpar _).2 (Or.inr h1)).1
      · rw [e1] at h1; exact ((sub_children_iff hpar _).2 (Or.inl h1)).1
    · rcases hcases with ⟨e1, e2⟩ | ⟨e1, e2⟩
      · rw [e2] at h1; exact ((sub_children_iff hpar _).2 (Or.inl h1)).1
      · rw [e2] at h1; exact ((sub_children_iff hpar _).2 (Or.inr h1)).1

theorem sub_parent_self (q : Nat) : Sub (family q).1 q :=
  (sub_family q q).2 (Or.inr (Or.inl (sub_refl q)))

theorem sub_sibling_disjoint (p q : Nat) (h1 : Sub p q) (h2 : Sub (family p).2 q) : False := by
  have hpar := Co.height_family_fst p
  rcases Co.family_children p with ⟨e1, e2⟩ | ⟨e1, e2⟩ <;> rw [e2] at h2 <;> rw [e1] at h1
  · exact children_disjoint hpar q h2 h1
  · exact children_disjoint hpar q h1 h2

theorem sub_parent_iff (r q : Nat) : (Sub r q ∧ q ≠ r) ↔ Sub r (family q).1 := by
  constructor
  · rintro ⟨hs, hne⟩; exact sub_parent hs hne
  · intro hs
    have h1 := sub_parent_self q
    have hgt := Co.family_fst_gt q
    refine ⟨sub_trans hs h1, ?_⟩
    unfold Sub at hs; omega

theorem child_of_parent {q par : Nat} (h : (family q).1 = par) :
    q = par - 1 ∨ q = par - 2 * 2 ^ height q := by
  subst h
  exact (Co.family_children q).imp (·.1) (·.1)

theorem same_parent {a b : Nat} (h : (family a).1 = (family b).1) : b = a ∨ b = (family a).2 := by
  have ha := Co.height_family_fst a
  have hb := Co.height_family_fst b
  rw [h] at ha
  have hh : height b = height a := by omega
  rcases Co.family_children a with ⟨e1, e2⟩ | ⟨e1, e2⟩ <;>
    rcases Co.family_children b with ⟨g1, _⟩ | ⟨g1, _⟩ <;> rw [← h] at g1
  · exact Or.inl (g1.trans e1.symm)
  · rw [hh] at g1; exact Or.inr (g1.trans e2.symm)
  · exact Or.inr (g1.trans e2.symm)
  · rw [hh] at g1; exact Or.inl (g1.trans e1.symm)

theorem isLeaf_iff (p : Nat) : isLeaf p = true ↔ height p = 0 := by simp [isLeaf]

theorem leftmost_isLeaf (p : Nat) : height (bintreeLeftmost p) = 0 := by
  obtain ⟨n, k, hk, rfl⟩ := coord_surj p
  rw [leftmost_co hk]; exact height_mmr _

end GV.Store
