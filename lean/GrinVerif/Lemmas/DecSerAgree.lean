import GrinVerif.Lemmas.MsgBound
import GrinVerif.Lemmas.DecSerBound
import GrinVerif.Lemmas.SerHeader
import GrinVerif.Lemmas.UtilIte
/-! Reader independence: the two `Reader` implementations that see untrusted bytes (`BinReader` =
`ser::deserialize`, `BufReader` = the codec) differ, in the instrumented models, only in *when*
`read_fixed_bytes` allocates.  `Agree p q` says two decoders have the same outcome once the allocation
ghost is forgotten (same value and rest, same error kind, or both panic); it is compositional, and every
decoder of `Model/DecSer.lean` — and every body of `decode_message` except `BanReason`, whose reader
swallows a failed `read_i32` and therefore leaves reader-dependent rests — agrees with itself across
readers, on every input (in particular on every prefix of a valid encoding). -/
namespace GV.DecSer
open GV GV.Ser GV.Dec GV.Msg

variable {α β : Type}

/-- same outcome up to the allocation ghost -/
def Agree (p q : Dec α) : Prop := ∀ bs, (p bs).toExcept = (q bs).toExcept

theorem Agree.refl (p : Dec α) : Agree p p := fun _ => rfl

theorem Agree.bind {p q : Dec α} {f g : α → Dec β} (hp : Agree p q) (hf : ∀ a, Agree (f a) (g a)) :
    Agree (fun bs => Dec.bind (p bs) f) (fun bs => Dec.bind (q bs) g) := by
  intro bs
  have := toExcept_bind_via id id (f := f) (f' := g) ((congrArg _ (Outcome.map_id _)).trans (hp bs)) fun a r _ _ =>
    (congrArg _ (Outcome.map_id _)).trans (hf a r)
  rwa [Outcome.map_id] at this

theorem Agree.ite {p q p' q' : Dec α} (b : Prop) [Decidable b] (hp : Agree p p') (hq : Agree q q') :
    Agree (fun bs => if b then p bs else q bs) (fun bs => if b then p' bs else q' bs) :=
  fun bs => rel_ite (fun (o o' : Outcome α) => o.toExcept = o'.toExcept) b (fun _ => hp bs) (fun _ => hq bs)

theorem Agree.withCapacity {p q : Dec α} (hp : Agree p q) (n sz : Nat) :
    Agree (fun bs => GV.Dec.withCapacity n sz (p bs)) (fun bs => GV.Dec.withCapacity n sz (q bs)) := by
  intro bs
  show (GV.Dec.withCapacity n sz (p bs)).toExcept = (GV.Dec.withCapacity n sz (q bs)).toExcept
  unfold GV.Dec.withCapacity
  split
  · rfl
  · rw [toExcept_addAlloc, toExcept_addAlloc]; exact hp bs

theorem Agree.charge {p q : Dec α} (hp : Agree p q) (n m : Nat) :
    Agree (fun bs => GV.DecSer.charge n (p bs)) (fun bs => GV.DecSer.charge m (q bs)) := by
  intro bs
  show (GV.DecSer.charge n (p bs)).toExcept = (GV.DecSer.charge m (q bs)).toExcept
  unfold GV.DecSer.charge
  rw [toExcept_addAlloc, toExcept_addAlloc]; exact hp bs

theorem Agree.map {p q : Dec α} (hp : Agree p q) (f : α → β) :
    Agree (fun bs => (p bs).map f) (fun bs => (q bs).map f) := by
  intro bs
  have := hp bs
  show ((p bs).map f).toExcept = ((q bs).map f).toExcept
  cases h1 : p bs <;> cases h2 : q bs <;> rw [h1, h2] at this <;>
    simp_all [Outcome.toExcept, Outcome.map]

theorem Agree.corrupt {p q : Dec α} (ch : Chk) (hp : Agree p q) :
    Agree (fun bs => ch.corrupt (p bs)) (fun bs => ch.corrupt (q bs)) := by
  intro bs
  show (ch.corrupt (p bs)).toExcept = (ch.corrupt (q bs)).toExcept
  cases ch
  · exact hp bs
  · rfl
  · rfl

theorem Agree.pass {p q : Dec α} (ch : Chk) (hp : Agree p q) :
    Agree (fun bs => ch.pass (p bs)) (fun bs => ch.pass (q bs)) := by
  intro bs
  show (ch.pass (p bs)).toExcept = (ch.pass (q bs)).toExcept
  cases ch
  · exact hp bs
  · rfl
  · rfl

theorem Agree.readN {p q : Dec α} (hp : Agree p q) (n : Nat) : Agree (GV.Dec.readN p n) (GV.Dec.readN q n) := by
  induction n with
  | zero => intro bs; rfl
  | succ n ih =>
    have h := Agree.bind hp (fun x => Agree.bind ih (fun xs => Agree.refl (fun r => (.ok (x :: xs) r 0 : Outcome (List α)))))
    intro bs
    simpa [GV.Dec.readN] using h bs

theorem Erases.agree {p p' : Dec α} {q : Parser α} (h : Erases p q) (h' : Erases p' q) : Agree p p' :=
  fun bs => (h bs).trans (h' bs).symm

/-- the one place where the readers differ: a failing `read_fixed_bytes` has allocated (`BinReader`)
or not (`BufReader`) — the outcome is the same -/
theorem agree_rFixed (a b : Rdr) (len : Nat) : Agree (rFixed a len) (rFixed b len) :=
  (erases_rFixed a len).agree (erases_rFixed b len)

theorem agree_rHash (a b : Rdr) : Agree (rHash a) (rHash b) := agree_rFixed a b 32

theorem agree_rTxKernel (a b : Rdr) (c : Cfg) : Agree (rTxKernel a c) (rTxKernel b c) :=
  (erases_rTxKernel a c).agree (erases_rTxKernel b c)

theorem agree_rOutputId (a b : Rdr) : Agree (rOutputId a) (rOutputId b) := (erases_rOutputId a).agree (erases_rOutputId b)

theorem agree_rRangeProof (a b : Rdr) : Agree (rRangeProof a) (rRangeProof b) :=
  (erases_rRangeProof a).agree (erases_rRangeProof b)

theorem agree_rTxBody (a b : Rdr) (c : Cfg) : Agree (rTxBody a c) (rTxBody b c) :=
  (erases_rTxBody a c).agree (erases_rTxBody b c)

theorem agree_rTransaction (a b : Rdr) (c : Cfg) : Agree (rTransaction a c) (rTransaction b c) :=
  (erases_rTransaction a c).agree (erases_rTransaction b c)

theorem agree_rProof (a b : Rdr) (c : Cfg) : Agree (rProof a c) (rProof b c) :=
  Agree.bind (Agree.refl _) fun _ =>
    Agree.ite _ (Agree.refl _)
      (Agree.withCapacity (Agree.ite _ (Agree.refl _) (Agree.bind (agree_rFixed a b _) fun _ => Agree.refl _)) _ _)

theorem agree_rProofOfWork (a b : Rdr) (c : Cfg) : Agree (rProofOfWork a c) (rProofOfWork b c) :=
  Agree.bind (Agree.refl _) fun _ => Agree.bind (Agree.refl _) fun _ => Agree.bind (Agree.refl _) fun _ =>
    Agree.bind (agree_rProof a b c) fun _ => Agree.refl _

theorem agree_rBlockHeader (a b : Rdr) (c : Cfg) : Agree (rBlockHeader a c) (rBlockHeader b c) := by
  rw [rBlockHeader_eq, rBlockHeader_eq]
  exact Agree.bind (((wire_prePow noPow).erases a).agree ((wire_prePow noPow).erases b)) fun _ =>
    Agree.bind (agree_rProofOfWork a b c) fun _ => Agree.refl _

theorem agree_rUntrustedHeader (a b : Rdr) (e : Env) : Agree (rUntrustedHeader a e) (rUntrustedHeader b e) :=
  Agree.bind (agree_rBlockHeader a b e.cfg) fun _ => Agree.refl _

theorem agree_rUntrustedBlock (a b : Rdr) (e : Env) : Agree (rUntrustedBlock a e) (rUntrustedBlock b e) :=
  Agree.bind (agree_rUntrustedHeader a b e) fun _ => Agree.bind (agree_rTxBody a b e.cfg) fun _ => Agree.refl _

theorem agree_rCompactBody (a b : Rdr) (c : Cfg) : Agree (rCompactBody a c) (rCompactBody b c) :=
  (erases_rCompactBody a c).agree (erases_rCompactBody b c)

theorem agree_rUntrustedCompactBlock (a b : Rdr) (e : Env) :
    Agree (rUntrustedCompactBlock a e) (rUntrustedCompactBlock b e) :=
  Agree.bind (agree_rUntrustedHeader a b e) fun _ => Agree.bind (Agree.refl _) fun _ =>
    Agree.bind (agree_rCompactBody a b e.cfg) fun _ => Agree.refl _

theorem agree_segItems {p q : Dec α} (hp : Agree p q) (sz count : Nat) :
    Agree (segItems p sz count) (segItems q sz count) :=
  Agree.withCapacity (Agree.readN hp count) _ _

theorem agree_segmentProof (a b : Rdr) : Agree (segmentProof a) (segmentProof b) :=
  (erases_segmentProof a).agree (erases_segmentProof b)

theorem agree_segment (a b : Rdr) {p q : Dec α} (hp : Agree p q) (sz : Nat) :
    Agree (segment a p sz) (segment b q sz) :=
  Agree.bind (Agree.refl _) fun _ => Agree.bind (Agree.refl _) fun nh => Agree.bind (Agree.refl _) fun _ =>
  Agree.bind (agree_segItems (agree_rHash a b) 32 nh) fun _ => Agree.bind (Agree.refl _) fun nl =>
  Agree.bind (Agree.refl _) fun _ => Agree.bind (agree_segItems hp sz nl) fun _ =>
  Agree.bind (agree_segmentProof a b) fun _ => Agree.refl _

theorem agree_rSegmentResponse (a b : Rdr) {p q : Dec α} (hp : Agree p q) (sz : Nat) :
    Agree (rSegmentResponse a p sz) (rSegmentResponse b q sz) :=
  Agree.bind (agree_rHash a b) fun _ => Agree.bind (agree_segment a b hp sz) fun _ => Agree.refl _

theorem agree_rOutputSegmentResponse (a b : Rdr) : Agree (rOutputSegmentResponse a) (rOutputSegmentResponse b) :=
  Agree.bind (agree_rSegmentResponse a b (agree_rOutputId a b) _) fun _ =>
    Agree.bind (agree_rHash a b) fun _ => Agree.refl _

theorem agree_rBitmapBlockBody (a b : Rdr) (nChunks mode : Nat) :
    Agree (rBitmapBlockBody a nChunks mode) (rBitmapBlockBody b nChunks mode) :=
  Agree.ite _ (Agree.bind (agree_rFixed a b _) fun _ => Agree.refl _) (Agree.refl _)

theorem agree_rBitmapBlock (a b : Rdr) : Agree (rBitmapBlock a) (rBitmapBlock b) :=
  Agree.bind (Agree.refl _) fun nChunks => Agree.ite _ (Agree.refl _)
    (Agree.bind (Agree.refl _) fun mode => agree_rBitmapBlockBody a b nChunks mode)

theorem agree_rBitmapBlocks (a b : Rdr) (id : SegmentId) (nBlocks : Nat) :
    Agree (rBitmapBlocks a id nBlocks) (rBitmapBlocks b id nBlocks) :=
  Agree.withCapacity
    (Agree.bind (Agree.readN (agree_rBitmapBlock a b) nBlocks) fun _ =>
      Agree.pass _ (Agree.bind (agree_segmentProof a b) fun _ => Agree.refl _)) _ _

theorem agree_rBitmapAfterCount (a b : Rdr) (id : SegmentId) (nBlocks : Nat) :
    Agree (rBitmapAfterCount a id nBlocks) (rBitmapAfterCount b id nBlocks) := by
  intro r
  rcases rBitmapAfterCount_cases id nBlocks r with ⟨e, h⟩ | ⟨_, h⟩
  · rw [h, h]
  · rw [h, h]; exact agree_rBitmapBlocks a b id nBlocks r

theorem agree_rBitmapSegment (a b : Rdr) : Agree (rBitmapSegment a) (rBitmapSegment b) :=
  Agree.bind (Agree.refl _) fun id => Agree.bind (Agree.refl _) fun nBlocks => agree_rBitmapAfterCount a b id nBlocks

theorem agree_rBitmapSegmentResponse (a b : Rdr) : Agree (rBitmapSegmentResponse a) (rBitmapSegmentResponse b) :=
  Agree.bind (agree_rHash a b) fun _ => Agree.bind (agree_rBitmapSegment a b) fun _ =>
    Agree.bind (agree_rHash a b) fun _ => Agree.refl _

theorem agree_payload (a b : Rdr) (e : Env) (t : Nat) : Agree (payload a e t) (payload b e t) :=
  payload_cases Agree a b e t
    (Agree.map (agree_rTransaction a b e.cfg) _)
    (Agree.map (agree_rUntrustedBlock a b e) _)
    (Agree.map (agree_rUntrustedCompactBlock a b e) _)
    (Agree.map (agree_rUntrustedHeader a b e) _)
    (Agree.map (agree_rBitmapSegmentResponse a b) _)
    (Agree.map (agree_rOutputSegmentResponse a b) _)
    (Agree.map (agree_rSegmentResponse a b (agree_rRangeProof a b) _) _)
    (Agree.map (agree_rSegmentResponse a b (agree_rTxKernel a b e.cfg) _) _)
    (Agree.refl _)

theorem agree_decPeerAddr (a b : Rdr) : Agree (decPeerAddr a) (decPeerAddr b) :=
  Agree.bind (Agree.refl _) fun _ =>
    Agree.ite _ (Agree.bind (agree_rFixed a b 4) fun _ => Agree.refl _) (Agree.refl _)

theorem agree_decBody {P : Type} {pl pl' : Payload P} (a b : Rdr) (hpl : ∀ t, Agree (pl t) (pl' t)) (t : Nat)
    (ht : t ≠ GV.Gen.Msg.T_BanReason) : Agree (decBody pl a t) (decBody pl' b t) :=
  decBody_cases Agree pl pl' a b t
    (Agree.refl _)
    (fun h => absurd h ht)
    (Agree.bind (agree_rHash a b) fun _ => Agree.refl _)
    (Agree.bind (Agree.refl _) fun len => Agree.ite _ (Agree.refl _)
      (Agree.withCapacity (Agree.bind (Agree.readN (agree_rHash a b) len) fun _ => Agree.refl _) _ _))
    (Agree.refl _)
    (Agree.bind (Agree.refl _) fun count => Agree.ite _ (Agree.refl _) (Agree.ite _ (Agree.refl _)
      (Agree.withCapacity (Agree.bind (Agree.readN (agree_decPeerAddr a b) count) fun _ => Agree.refl _) _ _)))
    (Agree.bind (agree_rHash a b) fun _ => Agree.refl _)
    (Agree.bind (agree_rHash a b) fun _ => Agree.refl _)
    (Agree.bind (agree_rHash a b) fun _ => Agree.refl _)
    (Agree.map (hpl t) Body.payload)

end GV.DecSer
