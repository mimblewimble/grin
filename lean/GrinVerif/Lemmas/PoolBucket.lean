import GrinVerif.Lemmas.PoolInv
import GrinVerif.Lemmas.UtilList
/-! `Pool::bucket_transactions` and the choice of the eviction victim.

Which branch of the loop a transaction takes (`stepKind`), and the invariant that holds as long
as every dependent transaction joins its parent's bucket (`fresh` / `merged` only): the output
index points at the bucket that really holds the creator, so children sit in their parent's bucket
behind it, and the last transaction of any bucket has no child in the pool. -/
namespace GV.Pool

/-- the branch of the loop body of `bucket_transactions` taken by one entry -/
inductive StepKind
  /-- no input is an output of a bucketed transaction: own bucket at the end -/
  | fresh
  /-- one parent bucket, aggregate fee rate not lower: joins the parent's bucket -/
  | merged
  /-- one parent bucket, but the aggregate (cut-through applied) would pay less per weight than the
  bucket does: own bucket at the end, outputs still indexed under the PARENT's position -/
  | own
  /-- two inputs found in the index, an input of a skipped transaction, or aggregation failed -/
  | rejected
  /-- index out of range (never happens) -/
  | stuck
deriving DecidableEq, Repr

def stepKind (c : Ctx) (w : Weighting) (st : BState) (t : Tx) : StepKind :=
  let scan := scanInputs st t.ins
  if scan.2 then .rejected
  else match scan.1 with
    | none => .fresh
    | some pos =>
      match st.buckets[pos]? with
      | none => .stuck
      | some b =>
        match b.aggregateWith c w t with
        | some nb => if nb.feeRate ≥ b.feeRate then .merged else .own
        | none => .rejected

/-- the branches taken by the entries of a pool, in order -/
def stepKinds (c : Ctx) (w : Weighting) : BState → List Tx → List StepKind
  | _, [] => []
  | st, t :: ts => stepKind c w st t :: stepKinds c w (bucketStep c w st t) ts

/-- **the fee condition**: every transaction that depends on a pooled one has exactly one input
created in the pool and joins its parent's bucket, i.e. the aggregate of the bucket with it (after
cut-through: `fee_rate = Σ fees / weight of the aggregate`, integer division) pays at least the
bucket's current rate — no child lowers its parent bucket's fee rate, none is skipped. -/
def calmB (c : Ctx) (w : Weighting) (st : BState) (txs : List Tx) : Bool :=
  (stepKinds c w st txs).all fun k => k == .fresh || k == .merged

/-- insertion order respects dependencies and no transaction spends its own output -/
def Ordered (txs : List Tx) : Prop :=
  ∀ pre t post, txs = pre ++ t :: post → ∀ u ∈ pre ++ [t], ∀ o ∈ t.outs, o ∉ u.ins

theorem aggregateWith_raw {c : Ctx} {w : Weighting} {b nb : Bucket} {t : Tx}
    (h : b.aggregateWith c w t = some nb) : nb.raw = b.raw ++ [t] := by
  unfold Bucket.aggregateWith at h
  split at h
  · simp at h
  · split at h
    · simp at h
    · simp only [Option.some.injEq] at h
      rw [← h]

theorem bucketStep_mem (c : Ctx) (w : Weighting) (L : List Tx) (st : BState) (t : Tx) (ht : t ∈ L)
    (h : ∀ b ∈ st.buckets, ∀ x ∈ b.raw, x ∈ L) :
    ∀ b ∈ (bucketStep c w st t).buckets, ∀ x ∈ b.raw, x ∈ L := by
  have hnew : ∀ n, ∀ b ∈ st.buckets ++ [Bucket.new t n], ∀ x ∈ b.raw, x ∈ L := by
    intro n b hb x hx
    rcases List.mem_append.mp hb with hb | hb
    · exact h b hb x hx
    · simp only [List.mem_singleton] at hb
      subst hb; simp [Bucket.new] at hx; subst hx; exact ht
  unfold bucketStep
  simp only []
  split
  · exact h
  · split
    · exact hnew _
    · rename_i pos _
      split
      · exact h
      · rename_i b0 hb0
        split
        · rename_i nb hnb
          split
          · intro b hb x hx
            rcases List.mem_or_eq_of_mem_set hb with hb | hb
            · exact h b hb x hx
            · subst hb
              rw [aggregateWith_raw hnb] at hx
              rcases List.mem_append.mp hx with hx | hx
              · exact h b0 (List.mem_of_getElem? hb0) x hx
              · simp at hx; subst hx; exact ht
          · exact hnew _
        · exact h

theorem foldl_bucketStep_mem (c : Ctx) (w : Weighting) (L : List Tx) (l : List Tx) (st : BState)
    (hl : ∀ t ∈ l, t ∈ L) (h : ∀ b ∈ st.buckets, ∀ x ∈ b.raw, x ∈ L) :
    ∀ b ∈ (l.foldl (bucketStep c w) st).buckets, ∀ x ∈ b.raw, x ∈ L := by
  induction l generalizing st with
  | nil => exact h
  | cons t rest ih =>
    simp only [List.foldl_cons]
    exact ih _ (fun x hx => hl x (by simp [hx])) (bucketStep_mem c w L st t (hl t (by simp)) h)

theorem insertBucket_eq (b : Bucket) : ∀ l, insertBucket b l = insertBy Bucket.le b l
  | [] => rfl
  | y :: ys => by rw [insertBucket, insertBy, insertBucket_eq b ys]

theorem sortBuckets_eq : ∀ l, sortBuckets l = insertionSort Bucket.le l
  | [] => rfl
  | b :: rest => by rw [sortBuckets, List.foldr_cons, insertionSort, insertBucket_eq, ← sortBuckets_eq rest]; rfl

theorem sortBuckets_perm (l : List Bucket) : (sortBuckets l).Perm l :=
  sortBuckets_eq l ▸ insertionSort_perm _ l

theorem mem_sortBuckets {x : Bucket} {l : List Bucket} (h : x ∈ sortBuckets l) : x ∈ l :=
  (sortBuckets_perm l).mem_iff.mp h

theorem bucketTransactions_mem (c : Ctx) (w : Weighting) (p : Pool) :
    ∀ t ∈ p.bucketTransactions c w, t ∈ p.txs := by
  intro t ht
  unfold Pool.bucketTransactions at ht
  simp only [List.mem_flatMap] at ht
  obtain ⟨b, hb, hx⟩ := ht
  exact foldl_bucketStep_mem c w p.txs p.txs {} (fun _ h => h) (by simp) b (mem_sortBuckets hb) t hx

/-! ### the output index -/

theorem lookupCommit_new (outs : List Nat) (pos : Nat) (m : List (Nat × Nat)) (o : Nat) :
    lookupCommit (outs.map (·, pos) ++ m) o = if o ∈ outs then some pos else lookupCommit m o := by
  unfold lookupCommit
  induction outs with
  | nil => simp
  | cons a rest ih =>
    simp only [List.map_cons, List.cons_append, List.find?_cons, List.mem_cons]
    by_cases h : a = o
    · subst h; simp
    · have h' : (a == o) = false := by simpa using h
      have h'' : ¬ o = a := fun e => h e.symm
      simp only [h', h'', false_or]
      exact ih

/-- what the scan does with the position of one more input found in the index -/
def scanFound (acc : Option Nat × Bool) (pos : Nat) : Option Nat × Bool :=
  if acc.1.isSome then (acc.1, true) else (some pos, acc.2)

theorem scanFound_flagged (l : List Nat) (p : Nat) : l.foldl scanFound (some p, true) = (some p, true) := by
  induction l with
  | nil => rfl
  | cons q rest ih => exact ih

theorem scanInputs_of_found (st : BState) (hrej : st.rejected = []) (ins : List Nat) :
    scanInputs st ins =
      match ins.filterMap (lookupCommit st.commits) with
      | [] => (none, false)
      | [p] => (some p, false)
      | p :: _ :: _ => (some p, true) := by
  have h : scanInputs st ins = (ins.filterMap (lookupCommit st.commits)).foldl scanFound (none, false) := by
    rw [scanInputs, List.foldl_filterMap]
    congr 1
    funext acc i
    simp only [hrej, List.contains_nil, Bool.false_eq_true, if_false, scanFound]
    cases lookupCommit st.commits i <;> rfl
  rw [h]
  match ins.filterMap (lookupCommit st.commits) with
  | [] => rfl
  | [p] => rfl
  | p :: q :: r => exact scanFound_flagged r p

theorem scan_unflagged (st : BState) (hrej : st.rejected = []) (ins : List Nat)
    (hflag : (scanInputs st ins).2 = false) :
    (∀ i ∈ ins, ∀ j, lookupCommit st.commits i = some j → (scanInputs st ins).1 = some j) ∧
    ((scanInputs st ins).1 = none → ∀ i ∈ ins, lookupCommit st.commits i = none) := by
  have hmem : ∀ i ∈ ins, ∀ j, lookupCommit st.commits i = some j → j ∈ ins.filterMap (lookupCommit st.commits) :=
    fun i hi j hj => List.mem_filterMap.mpr ⟨i, hi, hj⟩
  rw [scanInputs_of_found st hrej] at hflag ⊢
  match hf : ins.filterMap (lookupCommit st.commits), hflag with
  | [], _ =>
    rw [hf] at hmem
    refine ⟨fun i hi j hj => (List.not_mem_nil (hmem i hi j hj)).elim, fun _ i hi => ?_⟩
    cases h : lookupCommit st.commits i with
    | none => rfl
    | some j => exact (List.not_mem_nil (hmem i hi j h)).elim
  | [p], _ =>
    rw [hf] at hmem
    exact ⟨fun i hi j hj => by rw [List.mem_singleton.mp (hmem i hi j hj)], fun h => by cases h⟩

/-! ### the invariant of a calm run -/

def childOf (u t : Tx) : Prop := ∃ o ∈ t.outs, o ∈ u.ins

structure BInv (st : BState) (done : List Tx) : Prop where
  rej : st.rejected = []
  /-- the index points at the bucket that holds the creator -/
  reg : ∀ (j : Nat) (b : Bucket), st.buckets[j]? = some b → ∀ t ∈ b.raw, ∀ o ∈ t.outs, lookupCommit st.commits o = some j
  /-- bucketed transactions are processed ones -/
  mem : ∀ (j : Nat) (b : Bucket), st.buckets[j]? = some b → ∀ t ∈ b.raw, t ∈ done
  /-- a transaction with a child among the processed ones is not the last of its bucket -/
  last : ∀ (j : Nat) (b : Bucket), st.buckets[j]? = some b → ∀ t ∈ b.raw, ∀ u ∈ done, childOf u t → b.raw.getLast? ≠ some t

theorem binv_empty : BInv {} [] :=
  ⟨rfl, fun j b h => by simp at h, fun j b h => by simp at h, fun j b h => by simp at h⟩

/-- `t` is appended to the bucket at position `p` (its earlier content `raw0`; a new bucket when
`raw0 = []`), the other buckets stay, and `t`'s outputs are indexed under `p`: the invariant is kept
provided every input of `t` found in the index is found under `p` -/
theorem binv_place {st st' : BState} {done : List Tx} {t : Tx} {p : Nat} {bp : Bucket} {raw0 : List Tx}
    (h : BInv st done) (hfresh : ∀ o ∈ t.outs, o ∉ allOuts done)
    (hord : ∀ u ∈ done ++ [t], ∀ o ∈ t.outs, o ∉ u.ins)
    (hrej : st'.rejected = []) (hcom : st'.commits = t.outs.map (·, p) ++ st.commits)
    (hother : ∀ (j : Nat) (b : Bucket), st'.buckets[j]? = some b → j ≠ p → st.buckets[j]? = some b)
    (hp : st'.buckets[p]? = some bp) (hraw : bp.raw = raw0 ++ [t])
    (hraw0 : ∀ x ∈ raw0, ∃ b0, st.buckets[p]? = some b0 ∧ x ∈ b0.raw)
    (hfound : ∀ i ∈ t.ins, ∀ j, lookupCommit st.commits i = some j → j = p) :
    BInv st' (done ++ [t]) := by
  -- outputs of bucketed transactions are not outputs of the new one
  have hnew : ∀ (j : Nat) (b : Bucket), st.buckets[j]? = some b → ∀ x ∈ b.raw, ∀ o ∈ x.outs, o ∉ t.outs := by
    intro j b hb x hx o ho hot
    exact hfresh o hot (mem_allOuts.mpr ⟨x, h.mem j b hb x hx, ho⟩)
  have hnochild : ∀ u ∈ done ++ [t], ¬ childOf u t := fun u hu ⟨o, ho, hi⟩ => hord u hu o ho hi
  -- a transaction of a new bucket is `t` in bucket `p`, or sits in the old bucket of the same position
  have hwhere : ∀ (j : Nat) (b : Bucket), st'.buckets[j]? = some b → ∀ x ∈ b.raw,
      (j = p ∧ x = t) ∨ ∃ b0, st.buckets[j]? = some b0 ∧ x ∈ b0.raw := by
    intro j b hb x hx
    by_cases hj : j = p
    · subst hj
      rw [hp] at hb
      injection hb with hb
      subst hb
      rw [hraw] at hx
      rcases List.mem_append.mp hx with hx | hx
      · exact .inr (hraw0 x hx)
      · exact .inl ⟨rfl, by simpa using hx⟩
    · exact .inr ⟨b, hother j b hb hj, hx⟩
  refine ⟨hrej, ?_, ?_, ?_⟩
  · intro j b hb x hx o ho
    rw [hcom, lookupCommit_new]
    rcases hwhere j b hb x hx with ⟨rfl, rfl⟩ | ⟨b0, hb0, hx0⟩
    · rw [if_pos ho]
    · rw [if_neg (hnew j b0 hb0 x hx0 o ho)]; exact h.reg j b0 hb0 x hx0 o ho
  · intro j b hb x hx
    rcases hwhere j b hb x hx with ⟨_, rfl⟩ | ⟨b0, hb0, hx0⟩
    · simp
    · exact List.mem_append.mpr (.inl (h.mem j b0 hb0 x hx0))
  · intro j b hb x hx u hu hch
    by_cases hj : j = p
    · subst hj
      rw [hp] at hb
      injection hb with hb
      subst hb
      rw [hraw, List.getLast?_concat]
      intro he
      injection he with he
      subst he
      exact hnochild u hu hch
    · have hb0 := hother j b hb hj
      rcases List.mem_append.mp hu with hu | hu
      · exact h.last j b hb0 x hx u hu hch
      · simp only [List.mem_singleton] at hu
        obtain ⟨o, ho, hi⟩ := hch
        rw [hu] at hi
        exact absurd (hfound o hi j (h.reg j b hb0 x hx o ho)) hj

theorem bucketStep_calm {c : Ctx} {w : Weighting} {st : BState} {t : Tx}
    (hk : stepKind c w st t = .fresh ∨ stepKind c w st t = .merged) :
    (scanInputs st t.ins).2 = false ∧
    (((scanInputs st t.ins).1 = none ∧
        bucketStep c w st t = { st with buckets := st.buckets ++ [Bucket.new t st.buckets.length],
                                        commits := t.outs.map (·, st.buckets.length) ++ st.commits }) ∨
      ∃ pos b0 nb, (scanInputs st t.ins).1 = some pos ∧ st.buckets[pos]? = some b0 ∧
        b0.aggregateWith c w t = some nb ∧
        bucketStep c w st t = { st with buckets := st.buckets.set pos nb,
                                        commits := t.outs.map (·, pos) ++ st.commits }) := by
  unfold stepKind at hk
  unfold bucketStep
  simp only [] at hk ⊢
  by_cases hs : (scanInputs st t.ins).2 = true
  · simp [hs] at hk
  have hs' : (scanInputs st t.ins).2 = false := by simpa using hs
  simp only [hs', Bool.false_eq_true, if_false] at hk ⊢
  refine ⟨trivial, ?_⟩
  cases h1 : (scanInputs st t.ins).1 with
  | none => exact .inl ⟨rfl, rfl⟩
  | some pos =>
    simp only [h1] at hk ⊢
    cases hb0 : st.buckets[pos]? with
    | none => simp [hb0] at hk
    | some b0 =>
      simp only [hb0] at hk ⊢
      cases ha : b0.aggregateWith c w t with
      | none => simp [ha] at hk
      | some nb =>
        simp only [ha] at hk ⊢
        by_cases hr : nb.feeRate ≥ b0.feeRate
        · exact .inr ⟨pos, b0, nb, rfl, hb0, ha, by simp only [hr, if_true]⟩
        · simp [hr] at hk

theorem binv_step {c : Ctx} {w : Weighting} {st : BState} {done : List Tx} {t : Tx}
    (h : BInv st done) (hk : stepKind c w st t = .fresh ∨ stepKind c w st t = .merged)
    (hfresh : ∀ o ∈ t.outs, o ∉ allOuts done)
    (hord : ∀ u ∈ done ++ [t], ∀ o ∈ t.outs, o ∉ u.ins) :
    BInv (bucketStep c w st t) (done ++ [t]) := by
  obtain ⟨hs, hb⟩ := bucketStep_calm hk
  obtain ⟨hfound, hnone⟩ := scan_unflagged st h.rej t.ins hs
  rcases hb with ⟨h1, hb⟩ | ⟨pos, b0, nb, h1, hb0, ha, hb⟩
  · -- fresh: own bucket at the end
    rw [hb]
    have hno := hnone h1
    refine binv_place (p := st.buckets.length) (bp := Bucket.new t st.buckets.length) (raw0 := []) h hfresh hord h.rej rfl ?_ (by simp) rfl
      (fun _ hx => by cases hx) (fun i hi j hj => by rw [hno i hi] at hj; cases hj)
    intro j b hb hj
    rcases getElem?_snoc hb with hb | ⟨hj', _⟩
    · exact hb
    · exact absurd hj' hj
  · -- merged into the parent's bucket
    rw [hb]
    have hpos : pos < st.buckets.length := (List.getElem?_eq_some_iff.mp hb0).1
    refine binv_place (p := pos) (bp := nb) (raw0 := b0.raw) h hfresh hord h.rej rfl ?_
      (by simp [hpos]) (aggregateWith_raw ha) (fun x hx => ⟨b0, hb0, hx⟩) ?_
    · intro j b hb hj
      rcases getElem?_set_cases hb with ⟨hj', _⟩ | ⟨_, hb⟩
      · exact absurd hj' hj
      · exact hb
    · intro i hi j hj
      exact (Option.some.inj ((hfound i hi j hj).symm.trans h1)).symm ▸ rfl

theorem binv_fold {c : Ctx} {w : Weighting} (rest : List Tx) (st : BState) (done : List Tx)
    (h : BInv st done) (hc : calmB c w st rest = true)
    (hnd : (allOuts (done ++ rest)).Nodup) (hord : Ordered (done ++ rest)) :
    BInv (rest.foldl (bucketStep c w) st) (done ++ rest) := by
  induction rest generalizing st done with
  | nil => simpa using h
  | cons t ts ih =>
    simp only [calmB, stepKinds, List.all_cons, Bool.and_eq_true, Bool.or_eq_true, beq_iff_eq] at hc
    have hstep : BInv (bucketStep c w st t) (done ++ [t]) := by
      apply binv_step h hc.1
      · intro o ho hm
        rw [allOuts_append, allOuts_cons] at hnd
        have := (List.nodup_append.mp hnd).2.2
        exact this o hm o (List.mem_append.mpr (Or.inl ho)) rfl
      · exact hord done t ts rfl
    have heq : done ++ t :: ts = (done ++ [t]) ++ ts := by simp
    rw [heq] at hnd hord ⊢
    simp only [List.foldl_cons]
    exact ih (bucketStep c w st t) (done ++ [t]) hstep (by simpa [calmB] using hc.2) hnd hord

/-- **the eviction victim of a calm pool is a leaf**: no pooled transaction spends one of its
outputs -/
theorem evictee_leaf_of_calm {c : Ctx} {p : Pool} {E : Tx}
    (hc : calmB c .noLimit {} p.txs = true) (hnd : (allOuts p.txs).Nodup) (hord : Ordered p.txs)
    (hE : p.evictee c = some E) : ∀ u ∈ p.txs, ¬ childOf u E := by
  have hinv := binv_fold (c := c) (w := .noLimit) p.txs {} [] binv_empty hc (by simpa using hnd) (by simpa using hord)
  simp only [List.nil_append] at hinv
  unfold Pool.evictee Pool.bucketTransactions at hE
  rw [List.getLast?_flatMap] at hE
  obtain ⟨b, hb, hlast⟩ := List.exists_of_findSome?_eq_some hE
  have hb' := mem_sortBuckets (List.mem_reverse.mp hb)
  obtain ⟨j, hj⟩ := List.mem_iff_getElem?.mp hb'
  intro u hu hch
  have hmem : E ∈ b.raw := List.mem_of_getLast? hlast
  exact hinv.last j b hj E hmem u hu hch hlast

end GV.Pool
