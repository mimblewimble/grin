import GrinVerif.Model.SerTx
/-! The readers of `Model/SerTx.lean` that are written with a raw `match`, as `andThen` chains. The types themselves: `Lemmas/WireTx.lean`. -/
namespace GV.Ser
open GV

theorem decNrdHeight_eq (bs : Bytes) : decNrdHeight bs =
    andThen (readU16 bs) fun x r => if x = 0 ∨ x > NRD_MAX then .error .corrupted else .ok (x, r) := by
  unfold decNrdHeight; cases readU16 bs <;> rfl

/-- `decKernelFeaturesV1.match_3` is the auxiliary definition to which Lean compiles
`match x with | .error e => .error e | .ok (a, r) => f a r` for `x : Except SerErr (Nat × Bytes)` in `Model/SerTx.lean`
(`match_1`: the same for `Unit × Bytes`). Inside one file every match of the same shape is compiled to the same
constant, so these two equations turn all the nested matches of `decKernelFeaturesV1` and `…V2` into `andThen` in one
`simp only`. The names are those of the model file as it stands; a match written here would get a constant of its own
and would not rewrite. -/
theorem match_eq_andThen_nat (x : Except SerErr (Nat × Bytes)) {β : Type} (f : Nat → Bytes → Except SerErr (β × Bytes)) :
    decKernelFeaturesV1.match_3 (fun _ => Except SerErr (β × Bytes)) x (fun e => .error e) f = andThen x f := by
  cases x <;> rfl

theorem match_eq_andThen_unit (x : Except SerErr (Unit × Bytes)) {β : Type} (f : Unit → Bytes → Except SerErr (β × Bytes)) :
    decKernelFeaturesV1.match_1 (fun _ => Except SerErr (β × Bytes)) x (fun e => .error e) f = andThen x f := by
  cases x <;> rfl

theorem decKernelFeaturesV1_eq (nrd : Bool) (bs : Bytes) :
    decKernelFeaturesV1 nrd bs = andThen (readU8 bs) fun fb r =>
      if fb = 0 then andThen (readU64 r) fun fee r => andThen (readEmpty 8 r) fun _ r => .ok (.plain fee, r)
      else if fb = 1 then andThen (readEmpty 16 r) fun _ r => .ok (.coinbase, r)
      else if fb = 2 then andThen (readU64 r) fun fee r => andThen (readU64 r) fun lock r => .ok (.heightLocked fee lock, r)
      else if fb = 3 then
        (if nrd = false then .error .corrupted else
         andThen (readU64 r) fun fee r => andThen (readEmpty 6 r) fun _ r => andThen (decNrdHeight r) fun rel r =>
           .ok (.noRecentDuplicate fee rel, r))
      else .error .corrupted := by
  simp only [decKernelFeaturesV1, match_eq_andThen_nat, match_eq_andThen_unit]
  cases readU8 bs with
  | error e => rfl
  | ok v =>
    obtain ⟨fb, r⟩ := v
    match fb with
    | 0 | 1 | 2 => rfl
    | 3 => cases nrd <;> rfl
    | n+4 => simp [andThen]

theorem decKernelFeaturesV2_eq (nrd : Bool) (bs : Bytes) :
    decKernelFeaturesV2 nrd bs = andThen (readU8 bs) fun fb r =>
      if fb = 0 then andThen (readU64 r) fun fee r => .ok (.plain fee, r)
      else if fb = 1 then .ok (.coinbase, r)
      else if fb = 2 then andThen (readU64 r) fun fee r => andThen (readU64 r) fun lock r => .ok (.heightLocked fee lock, r)
      else if fb = 3 then
        (if nrd = false then .error .corrupted else
         andThen (readU64 r) fun fee r => andThen (decNrdHeight r) fun rel r => .ok (.noRecentDuplicate fee rel, r))
      else .error .corrupted := by
  simp only [decKernelFeaturesV2, match_eq_andThen_nat]
  cases readU8 bs with
  | error e => rfl
  | ok v =>
    obtain ⟨fb, r⟩ := v
    match fb with
    | 0 | 1 | 2 => rfl
    | 3 => cases nrd <;> rfl
    | n+4 => simp [andThen]

theorem decOutputFeatures_eq (bs : Bytes) :
    decOutputFeatures bs = andThen (readU8 bs) fun b r =>
      if b = 0 then .ok (.plain, r) else if b = 1 then .ok (.coinbase, r) else .error .corrupted := by
  unfold decOutputFeatures
  cases h8 : readU8 bs with
  | error e => rfl
  | ok v =>
    obtain ⟨fb, r⟩ := v
    match fb with
    | 0 => rfl
    | 1 => rfl
    | n+2 => simp [andThen]

end GV.Ser
