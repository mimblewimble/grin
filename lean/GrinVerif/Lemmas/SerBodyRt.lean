import GrinVerif.Lemmas.WireTx
/-! Round-trip lemmas for `Inputs`, `TransactionBody` and `CompactBlockBody`, and what
`TransactionBody::read` checks before and while it reads its entries: the announced counts. -/
namespace GV.Ser
open GV GV.Wire

/-- full-mode `Inputs::write` without the `is_empty` shortcut -/
theorem encInputs_full (key : Bytes → Nat) (ver : Nat) (ins : Inputs) :
    encInputs key ver .full ins =
      match ins with
      | .commitOnly l => if ver ≤ 2 then (if l = [] then .ok [] else .error .unsupportedVersion)
                         else .ok (writeMulti encCommitWrapper l)
      | .featuresAndCommit l =>
        if ver ≤ 2 then .ok (writeMulti encInput l)
        else .ok (writeMulti encCommitWrapper (ins.toCommits key)) := by
  cases ins with
  | commitOnly l =>
    cases l with
    | nil => simp [encInputs, Inputs.len, writeMulti]
    | cons x l => simp [encInputs, Inputs.len]
  | featuresAndCommit l =>
    cases l with
    | nil => simp [encInputs, Inputs.len, writeMulti, Inputs.toCommits, sortByKey]
    | cons x l => simp [encInputs, Inputs.len]

theorem toCommits_length (key : Bytes → Nat) (ins : Inputs) : (ins.toCommits key).length = ins.len := by
  cases ins with
  | commitOnly l => rfl
  | featuresAndCommit l =>
    simp only [Inputs.toCommits, Inputs.len]
    rw [(sortByKey_perm _ _).length_eq, List.length_map]

theorem Inputs.WF.le2 {key : Bytes → Nat} {ver : Nat} {ins : Inputs} (hwf : ins.WF key ver) (hv : ver ≤ 2) :
    ∃ l, ins.norm key ver = .featuresAndCommit l ∧ ins.len = l.length
      ∧ encInputs key ver .full ins = .ok (writeMulti encInput l)
      ∧ (∀ i ∈ l, i.WF) ∧ (l.map fun i => key i.hashBytes).Pairwise (· < ·) := by
  cases ins with
  | commitOnly l =>
    simp only [Inputs.WF, hv, ↓reduceIte] at hwf
    subst hwf
    exact ⟨[], by simp [Inputs.norm, hv], rfl, by simp [encInputs_full, hv, writeMulti], by simp, by simp⟩
  | featuresAndCommit l =>
    simp only [Inputs.WF, hv, ↓reduceIte] at hwf
    exact ⟨l, by simp [Inputs.norm, hv], rfl, by simp [encInputs_full, hv], hwf.1, hwf.2⟩

theorem Inputs.WF.ge3 {key : Bytes → Nat} {ver : Nat} {ins : Inputs} (hwf : ins.WF key ver) (hv : ¬ ver ≤ 2) :
    ins.norm key ver = .commitOnly (ins.toCommits key)
      ∧ encInputs key ver .full ins = .ok (writeMulti encCommitWrapper (ins.toCommits key))
      ∧ (∀ cm ∈ ins.toCommits key, cm.length = COMMIT_SIZE)
      ∧ ((ins.toCommits key).map (commitKey key)).Pairwise (· < ·) := by
  refine ⟨by simp [Inputs.norm, hv], ?_, ?_, ?_⟩
  · cases ins <;> simp [encInputs_full, hv, Inputs.toCommits]
  · cases ins with
    | commitOnly l =>
      simp only [Inputs.WF, hv, ↓reduceIte] at hwf
      exact hwf.1
    | featuresAndCommit l =>
      simp only [Inputs.WF, hv, ↓reduceIte] at hwf
      intro x hx
      obtain ⟨i, hi, rfl⟩ := List.mem_map.mp ((sortByKey_perm _ _).subset hx)
      exact hwf.1 i hi
  · cases ins with
    | commitOnly l =>
      simp only [Inputs.WF, hv, ↓reduceIte] at hwf
      exact hwf.2
    | featuresAndCommit l =>
      simp only [Inputs.WF, hv, ↓reduceIte] at hwf
      apply sortByKey_strict
      simpa [List.map_map, commitKey, Function.comp_def] using hwf.2

theorem decInputs_enc (key : Bytes → Nat) (ver : Nat) (ins : Inputs) (bs : Bytes)
    (henc : encInputs key ver .full ins = .ok bs) (hwf : ins.WF key ver)
    (hcap : ins.len ≤ MAX_MULTI_COUNT) (rest : Bytes) :
    decInputs ver ins.len (bs ++ rest) = .ok (ins.norm key ver, rest) := by
  by_cases hv : ver ≤ 2
  · obtain ⟨l, hn, hl, he, hw, -⟩ := hwf.le2 hv
    obtain rfl := Except.ok.inj (henc.symm.trans he)
    rw [hl] at hcap ⊢
    rw [decInputs, if_pos hv, readMulti_write decInput encInput l hcap (fun x hx => wire_input.codec.leafRt (hw x hx)),
      andThen_ok, hn]
  · obtain ⟨hn, he, hw, -⟩ := hwf.ge3 hv
    obtain rfl := Except.ok.inj (henc.symm.trans he)
    rw [← toCommits_length key] at hcap ⊢
    rw [decInputs, if_neg hv, readMulti_write decCommitWrapper encCommitWrapper _ hcap
      (fun x hx => wire_commit.codec.leafRt (hw x hx)), andThen_ok, hn]

theorem inputs_norm_sorted (key : Bytes → Nat) (ver : Nat) (ins : Inputs) (hwf : ins.WF key ver) :
    ((ins.norm key ver).keys key).Pairwise (· < ·) := by
  by_cases hv : ver ≤ 2
  · obtain ⟨l, hn, -, -, -, hs⟩ := hwf.le2 hv
    rw [hn]; exact hs
  · obtain ⟨hn, -, -, hs⟩ := hwf.ge3 hv
    rw [hn]; exact hs

theorem encInputs_norm (key : Bytes → Nat) (ver : Nat) (ins : Inputs) (hwf : ins.WF key ver) :
    encInputs key ver .full (ins.norm key ver) = encInputs key ver .full ins := by
  by_cases hv : ver ≤ 2
  · obtain ⟨l, hn, -, he, -, -⟩ := hwf.le2 hv
    rw [hn, he, encInputs_full]; simp [hv]
  · obtain ⟨hn, he, -, -⟩ := hwf.ge3 hv
    rw [hn, he, encInputs_full]; simp [hv]

theorem inputs_norm_len (key : Bytes → Nat) (ver : Nat) (ins : Inputs) (hwf : ins.WF key ver) :
    (ins.norm key ver).len = ins.len := by
  by_cases hv : ver ≤ 2
  · obtain ⟨l, hn, hl, -, -, -⟩ := hwf.le2 hv
    rw [hn, hl]; rfl
  · rw [(hwf.ge3 hv).1]
    exact toCommits_length key ins

theorem counts_lt_u64 (ni no nk : Nat) (h1 : ni ≤ MAX_MULTI_COUNT) (h2 : no ≤ MAX_MULTI_COUNT)
    (h3 : nk ≤ MAX_MULTI_COUNT) : ni < 2^64 ∧ no < 2^64 ∧ nk < 2^64 := by
  unfold MAX_MULTI_COUNT at *
  omega

theorem TxBody.verifySorted_ok_iff (key : Bytes → Nat) (b : TxBody) :
    b.verifySorted key = .ok () ↔ (b.inputs.keys key).Pairwise (· < ·)
      ∧ (b.outputs.map fun o => key o.hashBytes).Pairwise (· < ·) ∧ (b.kernels.map fun k => key k.hashBytes).Pairwise (· < ·) := by
  simp only [TxBody.verifySorted, ← verifySortedUnique_iff]
  cases verifySortedUnique (b.inputs.keys key) <;> cases verifySortedUnique (b.outputs.map fun o => key o.hashBytes) <;> simp

theorem CompactBlockBody.verifySorted_ok_iff (key : Bytes → Nat) (b : CompactBlockBody) :
    b.verifySorted key = .ok () ↔ (b.outFull.map fun o => key o.hashBytes).Pairwise (· < ·)
      ∧ (b.kernFull.map fun k => key k.hashBytes).Pairwise (· < ·) ∧ (b.kernIds.map fun s => key (encShortId s)).Pairwise (· < ·) := by
  simp only [CompactBlockBody.verifySorted, ← verifySortedUnique_iff]
  cases verifySortedUnique (b.outFull.map fun o => key o.hashBytes) <;>
    cases verifySortedUnique (b.kernFull.map fun k => key k.hashBytes) <;> simp

theorem encTxBody_ok {key : Bytes → Nat} {ver : Nat} {m : Mode} {b : TxBody} {bs : Bytes} :
    encTxBody key ver m b = .ok bs ↔ ∃ ib, encInputs key ver m b.inputs = .ok ib
      ∧ bs = writeU64 b.inputs.len ++ writeU64 b.outputs.length ++ writeU64 b.kernels.length
          ++ ib ++ writeMulti encOutput b.outputs ++ writeMulti (encTxKernel ver m) b.kernels := by
  unfold encTxBody
  cases encInputs key ver m b.inputs <;> simp [eq_comm]

theorem encTransaction_ok {key : Bytes → Nat} {ver : Nat} {m : Mode} {t : Transaction} {bs : Bytes} :
    encTransaction key ver m t = .ok bs ↔ ∃ bb, encTxBody key ver m t.body = .ok bb ∧ bs = writeFixed t.offset ++ bb := by
  unfold encTransaction
  cases encTxBody key ver m t.body <;> simp [eq_comm]

theorem encBlock_full_ok {key : Bytes → Nat} {proofSize ver : Nat} {b : Block} {bs : Bytes} :
    encBlock key proofSize ver .full b = .ok bs
      ↔ ∃ bb, encTxBody key ver .full b.body = .ok bb ∧ bs = encBlockHeader proofSize .full b.header ++ bb := by
  unfold encBlock
  rw [if_neg (by decide)]
  cases encTxBody key ver .full b.body <;> simp [eq_comm]

theorem decTxBody_enc (c : Cfg) (b : TxBody) (bs : Bytes)
    (henc : encTxBody c.key c.ver .full b = .ok bs) (hwf : b.WF c) (rest : Bytes) :
    decTxBody c (bs ++ rest) = .ok (b.norm c, rest) := by
  obtain ⟨hin, hout, houts, hker, hkers, hci, hco, hck, hw⟩ := hwf
  obtain ⟨ib, hib, rfl⟩ := encTxBody_ok.mp henc
  obtain ⟨l1, l2, l3⟩ := counts_lt_u64 _ _ _ hci hco hck
  have hins := decInputs_enc c.key c.ver b.inputs ib hib hin hci
    (writeMulti encOutput b.outputs ++ (writeMulti (encTxKernel c.ver .full) b.kernels ++ rest))
  have houtrt := readMulti_write decOutput encOutput b.outputs hco
    (fun x hx rest => decOutput_enc x (hout x hx) rest)
    (writeMulti (encTxKernel c.ver .full) b.kernels ++ rest)
  have hkerrt := readMulti_write (decTxKernel c) (encTxKernel c.ver .full) b.kernels hck
    (fun x hx => (wire_txKernel c).codec.leafRt (hker x hx)) rest
  have hwt : ¬ weightByIok b.inputs.len b.outputs.length b.kernels.length > c.maxWeight := by
    unfold TxBody.weight at hw; omega
  have hsorted : TxBody.verifySorted c.key
      { inputs := b.inputs.norm c.key c.ver, outputs := b.outputs, kernels := b.kernels } = .ok () :=
    (TxBody.verifySorted_ok_iff _ _).mpr ⟨inputs_norm_sorted c.key c.ver b.inputs hin, houts, hkers⟩
  rw [decTxBody]
  simp only [List.append_assoc]
  rw [readU64_write _ l1, andThen_ok, readU64_write _ l2, andThen_ok, readU64_write _ l3, andThen_ok,
    if_neg hwt, hins, andThen_ok, houtrt, andThen_ok, hkerrt, andThen_ok]
  simp only [hsorted, TxBody.norm]

theorem encTxBody_norm (c : Cfg) (b : TxBody) (hwf : b.WF c) :
    encTxBody c.key c.ver .full (b.norm c) = encTxBody c.key c.ver .full b := by
  simp only [encTxBody, TxBody.norm, encInputs_norm c.key c.ver b.inputs hwf.1,
    inputs_norm_len c.key c.ver b.inputs hwf.1]

theorem decInputs_len {ver ni : Nat} {bs : Bytes} {ins : Inputs} {r : Bytes}
    (h : decInputs ver ni bs = .ok (ins, r)) : ins.len = ni := by
  unfold decInputs at h
  split at h <;>
  · obtain ⟨l, r', h1, h2⟩ := andThen_inv h
    obtain ⟨rfl, -⟩ := Prod.mk.inj (Except.ok.inj h2)
    exact readMulti_ok_length h1

theorem decTxBody_overweight (c : Cfg) (ni no nk : Nat) (h1 : ni < 2^64) (h2 : no < 2^64) (h3 : nk < 2^64)
    (hw : weightByIok ni no nk > c.maxWeight) (r : Bytes) :
    decTxBody c (writeU64 ni ++ (writeU64 no ++ (writeU64 nk ++ r))) = .error .tooLarge := by
  rw [decTxBody, readU64_write _ h1, andThen_ok, readU64_write _ h2, andThen_ok, readU64_write _ h3,
    andThen_ok, if_pos hw]

theorem decCompactBody_enc (c : Cfg) (b : CompactBlockBody) (hwf : b.WF c) (rest : Bytes) :
    decCompactBody c (encCompactBody c.ver .full b ++ rest) = .ok (b, rest) := by
  obtain ⟨hout, houts, hker, hkers, hid, hids, hco, hck, hci⟩ := hwf
  obtain ⟨l1, l2, l3⟩ := counts_lt_u64 _ _ _ hco hck hci
  have houtrt := readMulti_write decOutput encOutput b.outFull hco
    (fun x hx rest => decOutput_enc x (hout x hx) rest)
    (writeMulti (encTxKernel c.ver .full) b.kernFull ++ (writeMulti encShortId b.kernIds ++ rest))
  have hkerrt := readMulti_write (decTxKernel c) (encTxKernel c.ver .full) b.kernFull hck
    (fun x hx => (wire_txKernel c).codec.leafRt (hker x hx)) (writeMulti encShortId b.kernIds ++ rest)
  have hidrt := readMulti_write decShortId encShortId b.kernIds hci
    (fun x hx => wire_shortId.codec.leafRt (hid x hx)) rest
  have hsorted : CompactBlockBody.verifySorted c.key b = .ok () :=
    (CompactBlockBody.verifySorted_ok_iff _ _).mpr ⟨houts, hkers, hids⟩
  rw [decCompactBody, encCompactBody]
  simp only [List.append_assoc]
  rw [readU64_write _ l1, andThen_ok, readU64_write _ l2, andThen_ok, readU64_write _ l3, andThen_ok,
    houtrt, andThen_ok, hkerrt, andThen_ok, hidrt, andThen_ok]
  simp only [hsorted]

end GV.Ser
