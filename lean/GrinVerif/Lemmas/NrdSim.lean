import GrinVerif.Lemmas.NrdRepr
import GrinVerif.Lemmas.NrdSpec
/-! Simulation: every operation of the NRD index (`Model/NrdIndex.lean`), primitive or composite,
is matched step by step by the specification operation on per-excess lists; so is every history of calls. -/
namespace GV.Nrd
variable {ε : Type} [DecidableEq ε]

def Sim (kv : KV ε) (S : Spec ε) : Prop := ∀ e, Repr kv e (S e)

def Inv (kv : KV ε) : Prop := ∀ e, ∃ l, Repr kv e l

theorem Sim.inv {kv : KV ε} {S : Spec ε} (h : Sim kv S) : Inv kv := fun e => ⟨S e, h e⟩

theorem Sim.abs {kv : KV ε} {S : Spec ε} (h : Sim kv S) (e : ε) : abs kv e = S e := abs_repr (h e)

theorem Inv.sim {kv : KV ε} (h : Inv kv) : Sim kv (abs kv) := fun e => by
  obtain ⟨l, hl⟩ := h e
  rw [abs_repr hl]; exact hl

theorem sim_empty : Sim ({} : KV ε) (fun _ => []) := fun e => repr_empty e

theorem Sim.upd {kv kv' : KV ε} {S : Spec ε} {e : ε} {l : List CommitPos} (h : Sim kv S)
    (hr : Repr kv' e l) (hf : Frame kv kv' e) : Sim kv' (upd S e l) := by
  intro e'
  by_cases he : e' = e
  · subst he; simpa using hr
  · rw [upd_other S l he]; exact (h e').frame hf he

/-- the outcome `o` on the store simulates the outcome `so` on the specification: same answer, and the store left
represents the specification state left (on an error too: a loop's `?` returns the store as modified so far) -/
def OutSim {α : Type} (o : Out ε α) (so : SOut ε α) : Prop := o.res = so.res ∧ Sim o.kv so.st

theorem Sim.outSim {α : Type} {kv : KV ε} {S : Spec ε} {o : Out ε α} {e : ε} {a : α} {l' : List CommitPos}
    (h : Sim kv S) (d : o.Does kv e a l') : OutSim o ⟨Nrd.upd S e l', .ok a⟩ :=
  ⟨d.res, h.upd d.repr d.frame⟩

theorem peekPos_sim {kv : KV ε} {S : Spec ε} (h : Sim kv S) (e : ε) : peekPos kv e = .ok (sPeek S e) :=
  peekPos_repr (h e)

theorem pushPos_sim {kv : KV ε} {S : Spec ε} (h : Sim kv S) (e : ε) (p : CommitPos) :
    OutSim (pushPos kv e p) (sPush S e p) := by
  unfold sPush
  cases hok : specPushOk (S e) p with
  | true =>
    exact h.outSim (pushPos_repr p (h e) hok)
  | false =>
    rw [pushPos_repr_err p (h e) hok]
    exact ⟨rfl, h⟩

theorem popPos_sim {kv : KV ε} {S : Spec ε} (h : Sim kv S) (e : ε) : OutSim (popPos kv e) (sPop S e) :=
  h.outSim (popPos_repr (h e))

theorem popPosBack_sim {kv : KV ε} {S : Spec ε} (h : Sim kv S) (e : ε) :
    OutSim (popPosBack kv e) (sPopBack S e) := h.outSim (popPosBack_repr (h e))

theorem rewind_sim {kv : KV ε} {S : Spec ε} (h : Sim kv S) (e : ε) (r : Nat) :
    OutSim (rewind kv e r) (sRewind S e r) := h.outSim (rewind_repr r (h e))

theorem pruneBack_sim {kv : KV ε} {S : Spec ε} (h : Sim kv S) (e : ε) (c : Nat) :
    OutSim (pruneBack kv e c) (sPruneBack S e c) := h.outSim (pruneBack_repr c (h e))

theorem clear_sim (kv : KV ε) (S : Spec ε) :
    ∃ kv', clear kv = ⟨kv', (sClear S).res⟩ ∧ Sim kv' (sClear S).st := ⟨{}, rfl, sim_empty⟩

theorem applyKernelRules_sim {kv : KV ε} {S : Spec ε} (h : Sim kv S) (k : Kernel ε) (pos : CommitPos) :
    OutSim (applyKernelRules kv k pos) (sApplyKernelRules S k pos) := by
  unfold applyKernelRules sApplyKernelRules
  cases hn : k.nrd with
  | none => exact ⟨rfl, h⟩
  | some rel =>
    simp only [peekPos_sim h, sPeek]
    cases hl : S k.excess with
    | nil => simpa [specNrdOk, hl] using pushPos_sim h k.excess pos
    | cons q t =>
      by_cases hlt : satSub pos.height q.height < rel
      · exact ⟨by simp [specNrdOk, hlt], by simpa [specNrdOk, hlt] using h⟩
      · simpa [specNrdOk, hlt, hl] using pushPos_sim h k.excess pos

omit [DecidableEq ε] in
theorem SOut.eq_mk {α : Type} {so : SOut ε α} {r : Except Err α} (h : so.res = r) : so = ⟨so.st, r⟩ := by
  cases so; cases h; rfl

theorem OutSim.map {α β : Type} {o : Out ε α} {so : SOut ε α} (h : OutSim o so) (f : Except Err α → β) :
    f o.res = f so.res ∧ Sim o.kv so.st := ⟨congrArg f h.1, h.2⟩

/-- one round of a loop with `?`: the two outcomes of the round, known to simulate, are taken apart together -/
theorem OutSim.cases {α : Type} {o : Out ε α} {so : SOut ε α} (h : OutSim o so) :
    (∃ kv' S' err, o = ⟨kv', .error err⟩ ∧ so = ⟨S', .error err⟩ ∧ Sim kv' S') ∨
    (∃ kv' S' a, o = ⟨kv', .ok a⟩ ∧ so = ⟨S', .ok a⟩ ∧ Sim kv' S') := by
  obtain ⟨kv', r⟩ := o
  obtain ⟨S', r'⟩ := so
  obtain ⟨rfl, h2⟩ : r = r' ∧ Sim kv' S' := h
  cases r with
  | error err => exact Or.inl ⟨kv', S', err, rfl, rfl, h2⟩
  | ok a => exact Or.inr ⟨kv', S', a, rfl, rfl, h2⟩

theorem applyKernels_sim (height : Nat) (ks : List (Kernel ε × Nat)) {kv : KV ε} {S : Spec ε}
    (h : Sim kv S) : OutSim (applyKernels kv height ks) (sApplyKernels S height ks) := by
  induction ks generalizing kv S with
  | nil => exact ⟨rfl, h⟩
  | cons a rest ih =>
    obtain ⟨k, pos⟩ := a
    simp only [applyKernels, sApplyKernels]
    rcases (applyKernelRules_sim h k ⟨pos, height⟩).cases with ⟨kv1, S1, err, h1, h2, h3⟩ | ⟨kv1, S1, u, h1, h2, h3⟩
    · rw [h1, h2]; exact ⟨rfl, h3⟩
    · rw [h1, h2]; exact ih h3

theorem applyBlock_sim (b : Blk ε) {kv : KV ε} {S : Spec ε} (h : Sim kv S) :
    OutSim (applyBlock kv b) (sApplyBlock S b) :=
  applyKernels_sim b.height b.kernels h

theorem applyBlocks_sim (bs : List (Blk ε)) {kv : KV ε} {S : Spec ε} (h : Sim kv S) :
    OutSim (applyBlocks kv bs) (sApplyBlocks S bs) := by
  induction bs generalizing kv S with
  | nil => exact ⟨rfl, h⟩
  | cons b rest ih =>
    simp only [applyBlocks, sApplyBlocks]
    rcases (applyBlock_sim b h).cases with ⟨kv1, S1, err, h1, h2, h3⟩ | ⟨kv1, S1, u, h1, h2, h3⟩
    · rw [h1, h2]; exact ⟨rfl, h3⟩
    · rw [h1, h2]; exact ih h3

theorem applyBlocks_ok_sim {kv kv' : KV ε} {S : Spec ε} {bs : List (Blk ε)} (h : Sim kv S)
    (hb : applyBlocks kv bs = ⟨kv', .ok ()⟩) : ∃ S', sApplyBlocks S bs = ⟨S', .ok ()⟩ ∧ Sim kv' S' := by
  obtain ⟨h1, h2⟩ := applyBlocks_sim bs h
  rw [hb] at h1 h2
  exact ⟨_, SOut.eq_mk h1.symm, h2⟩

theorem rewindKernels_sim (c : Nat) (ks : List (Kernel ε × Nat)) {kv : KV ε} {S : Spec ε}
    (h : Sim kv S) : OutSim (rewindKernels kv c ks) ⟨sRewindKernels S c ks, .ok ()⟩ := by
  induction ks generalizing kv S with
  | nil => exact ⟨rfl, h⟩
  | cons a rest ih =>
    obtain ⟨k, pos⟩ := a
    cases hn : k.nrd with
    | none => simpa [rewindKernels, sRewindKernels, hn] using ih h
    | some rel =>
      obtain ⟨h1, h2⟩ := rewind_sim h k.excess c
      simp only [rewindKernels, sRewindKernels, hn]
      rw [Out.eq_mk h1]
      exact ih h2

theorem rewindSingleBlock_sim (b : Blk ε) {kv : KV ε} {S : Spec ε} (h : Sim kv S) :
    OutSim (rewindSingleBlock kv b) ⟨sRewindSingleBlock S b, .ok ()⟩ :=
  rewindKernels_sim b.prevSize b.kernels h

theorem rewindBlocks_sim (bs : List (Blk ε)) {kv : KV ε} {S : Spec ε} (h : Sim kv S) :
    OutSim (rewindBlocks kv bs) ⟨sRewindBlocks S bs, .ok ()⟩ := by
  induction bs generalizing kv S with
  | nil => exact ⟨rfl, h⟩
  | cons b rest ih =>
    obtain ⟨h1, h2⟩ := rewindSingleBlock_sim b h
    simp only [rewindBlocks, sRewindBlocks]
    rw [Out.eq_mk h1]
    exact ih h2

theorem verifyKernelPosIndex_sim (kv : KV ε) (bs : List (Blk ε)) :
    OutSim (verifyKernelPosIndex kv bs) (sApplyBlocks (fun _ => []) bs) :=
  applyBlocks_sim bs sim_empty

theorem step_sim {kv : KV ε} {S : Spec ε} (h : Sim kv S) (op : Op ε) :
    (step kv op).2 = (sstep S op).2 ∧ Sim (step kv op).1 (sstep S op).1 := by
  cases op with
  | push e p => exact (pushPos_sim h e p).map ansUnit
  | pop e => exact (popPos_sim h e).map ansPos
  | popBack e => exact (popPosBack_sim h e).map ansPos
  | rewind e r => exact (rewind_sim h e r).map ansUnit
  | pruneBack e c => exact (pruneBack_sim h e c).map ansUnit
  | prune e c => exact ⟨rfl, h⟩
  | clear => exact ⟨rfl, sim_empty⟩
  | applyBlock b =>
    obtain ⟨h1, h2⟩ := applyBlock_sim b h
    refine ⟨congrArg ansUnit h1, ?_⟩
    -- a refused block's batch is dropped on both sides
    simp only [step, sstep, keepIfOk, sKeepIfOk, h1]
    cases (sApplyBlock S b).res with
    | ok u => exact h2
    | error err => exact h
  | rewindBlock b => exact (rewindSingleBlock_sim b h).map ansUnit
  | rebuild bs => exact (verifyKernelPosIndex_sim kv bs).map ansUnit

theorem run_sim {kv : KV ε} {S : Spec ε} (h : Sim kv S) (ops : List (Op ε)) :
    (run kv ops).2 = (srun S ops).2 ∧ Sim (run kv ops).1 (srun S ops).1 := by
  induction ops generalizing kv S with
  | nil => exact ⟨rfl, h⟩
  | cons op ops ih =>
    obtain ⟨h1, h2⟩ := step_sim h op
    obtain ⟨g1, g2⟩ := ih h2
    simp only [run, srun]
    exact ⟨by rw [h1, g1], g2⟩

end GV.Nrd
