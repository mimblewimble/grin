import GrinVerif.Lemmas.DecMerkle
import GrinVerif.Model.SerSeg
import GrinVerif.Lemmas.SerStoreRt
import GrinVerif.Lemmas.WireTx
/-! The instrumented readers of `SegmentIdentifier`, `SegmentProof`, `Segment<T>`, `MerkleProof` (`Model/Dec.lean`) and of
`BitmapBlock`, `BitmapSegment` (`Model/DecSer.lean`) — property C11: pre-allocation caps, both readers — erase to the
plain codecs of `Model/SerSeg.lean` / `Model/SerStore.lean` (property C10), up to the renaming of the record types; with
it `Segment<T>::read` is panic-free for every leaf reader that is. -/
namespace GV.DecSer
open GV GV.Ser GV.Dec GV.SerSeg

variable {α : Type}

theorem erases_segItemCount : Erases segItemCount readItemCount :=
  Erases.bind erases_rU64 fun _ => Erases.ite _ (erases_err _) (erases_pure _)

theorem erases_segPositionsLoop : ∀ (n last : Nat), Erases (segPositionsLoop n last) (readPositionsLoop n last)
  | 0, _ => fun _ => rfl
  | n+1, _ => Erases.bind erases_rU64 fun pos =>
      Erases.ite _ (erases_err _) (Erases.bind (erases_segPositionsLoop n pos) fun _ => erases_pure _)

theorem prealloc_fits (count sz : Nat) (hsz : 1024 * sz ≤ ISIZE_MAX) :
    min count GV.Gen.SEGMENT_READ_PREALLOC_ITEMS * sz ≤ ISIZE_MAX :=
  Nat.le_trans (prealloc_le count sz) hsz

theorem erases_segPositions (count : Nat) : Erases (segPositions count) (readPositions count) :=
  Erases.withCapacity (erases_segPositionsLoop count 0) _ _ (prealloc_fits count 8 (by decide))

theorem erases_segItems {p : Dec α} {q : Parser α} (h : Erases p q) (sz count : Nat) (hsz : 1024 * sz ≤ ISIZE_MAX) :
    Erases (segItems p sz count) (readItems q count) :=
  Erases.withCapacity (erases_readN h count) _ _ (prealloc_fits count sz hsz)

theorem erases_segmentProof (rd : Rdr) : Erases (segmentProof rd) decSegProof :=
  Erases.bind erases_segItemCount fun n => erases_segItems (erases_rHash rd) 32 n (by decide)

def toSegId (s : GV.Dec.SegmentId) : SegId := { height := s.height, idx := s.idx }

def toSegment (s : GV.Dec.Segment α) : GV.SerSeg.Segment α :=
  { id := toSegId s.id, hashPos := s.hashPos, hashes := s.hashes, leafPos := s.leafPos,
    leafData := s.leafData, proof := s.proof }

theorem erases_segmentId : ErasesVia toSegId segmentId decSegId :=
  Erases.bindV erases_rU8 fun _ => Erases.bindV erases_rU64 fun _ => ErasesVia.pure

theorem erases_segment (rd : Rdr) {p : Dec α} {q : Parser α} (h : Erases p q) (sz : Nat)
    (hsz : 1024 * sz ≤ ISIZE_MAX) :
    ErasesVia toSegment (segment rd p sz) (decSegment q) :=
  ErasesVia.bind erases_segmentId fun _ =>
    Erases.bindV erases_segItemCount fun nh => Erases.bindV (erases_segPositions nh) fun _ =>
    Erases.bindV (erases_segItems (erases_rHash rd) 32 nh (by decide)) fun _ =>
    Erases.bindV erases_segItemCount fun nl => Erases.bindV (erases_segPositions nl) fun _ =>
    Erases.bindV (erases_segItems h sz nl hsz) fun _ =>
    Erases.bindV (erases_segmentProof rd) fun _ => ErasesVia.pure

theorem noPanic_segment (rd : Rdr) {p : Dec α} (hp : NoPanic p) (sz : Nat) (hsz : 1024 * sz ≤ ISIZE_MAX) :
    NoPanic (segment rd p sz) := (erases_segment rd hp.erases sz hsz).noPanic

def toMerkleProof (p : GV.Dec.MerkleProof) : GV.Ser.MerkleProof := { mmrSize := p.mmrSize, path := p.path }

theorem erases_readN_hashes (rd : Rdr) (n : Nat) : Erases (GV.Dec.readN (rHash rd) n) (readHashes n) :=
  (erases_readN (erases_rHash rd) n).congr fun bs => (readHashes_eq n bs).symm

theorem erases_merkleProof (rd : Rdr) : ErasesVia toMerkleProof (merkleProof rd) decMerkleProof :=
  Erases.bindV erases_rU64 fun _ => Erases.bindV erases_rU64 fun n =>
    ErasesVia.withCapacity (Erases.bindV (erases_readN_hashes rd n) fun _ => ErasesVia.pure) _ _ (by
      have : min n MERKLE_PREALLOC ≤ 64 := by unfold MERKLE_PREALLOC; omega
      unfold ISIZE_MAX; omega)

end GV.DecSer

-- without `open GV.SerSeg`: `BitmapBlock`, `BitmapSegment`, `validateBlocks` … exist in both models
namespace GV.DecSer
open GV GV.Ser GV.Dec

/-! ## `BitmapBlock`, `BitmapSegment`

`BitmapBlock::read`: the instrumented reader (`Model/DecSer.lean`: the `BitVec` as its length, the
fill value and the flipped positions; allocation before the entry count is read) erases to the plain
one (`Model/SerSeg.lean`: the bit vector as a number). -/

def toBlock (b : BitmapBlock) : GV.SerSeg.BitmapBlock :=
  { nChunks := b.nBits / CHUNK_BITS,
    v := match b.bits with
      | .raw bytes => ofBE bytes
      | .flips false ps => GV.SerSeg.orBits b.nBits ps
      | .flips true ps => (2 ^ b.nBits - 1) - GV.SerSeg.orBits b.nBits ps }

/-- the second `pos ≥ n_bits` test (the assertion of `BitVec::set`) is never reached -/
theorem erases_flipLoop (nBits : Nat) : ∀ n, Erases (flipLoop nBits n) (GV.SerSeg.readBitPositions nBits n)
  | 0 => fun _ => rfl
  | n+1 => Erases.bind erases_rU16 fun pos => Erases.iteH _ (fun _ => erases_err _) fun h r => by
      show (if pos ≥ nBits then _ else _ : Outcome _).toExcept = _
      rw [if_neg h]
      exact (Erases.bind (erases_flipLoop nBits n) fun _ => erases_pure _) r

theorem erases_rBitmapBlock (rd : Rdr) :
    ErasesVia toBlock (rBitmapBlock rd) GV.SerSeg.decBitmapBlock := by
  refine Erases.bindV erases_rU8 fun nChunks => ErasesVia.iteH _ (fun _ => ErasesVia.err) fun hbig =>
    Erases.bindV erases_rU8 fun mode r => ?_
  show ((rBitmapBlockBody rd nChunks mode r).map toBlock).toExcept = some _
  have hn : nChunks ≤ 64 := by unfold NCHUNKS at hbig; omega
  have hdiv : nChunks * CHUNK_BITS / CHUNK_BITS = nChunks := by unfold CHUNK_BITS; omega
  have flips : ∀ fill : Bool,
      ((Dec.withCapacity (nChunks * CHUNK_BITS / 8) 1 (Dec.bind (rU16 r) fun cnt r =>
          Dec.bind (flipLoop (nChunks * CHUNK_BITS) cnt r) fun ps r =>
            .ok ({ nBits := nChunks * CHUNK_BITS, bits := .flips fill ps } : BitmapBlock) r 0)).map toBlock).toExcept
        = some (andThen (readU16 r) fun cnt r =>
            andThen (GV.SerSeg.readBitPositions (nChunks * CHUNK_BITS) cnt r) fun ps r =>
              .ok (toBlock { nBits := nChunks * CHUNK_BITS, bits := .flips fill ps }, r)) := by
    intro fill
    exact ErasesVia.withCapacity (Erases.bindV erases_rU16 fun cnt =>
      Erases.bindV (erases_flipLoop (nChunks * CHUNK_BITS) cnt) fun _ => ErasesVia.pure) _ _
      (by unfold CHUNK_BITS ISIZE_MAX; omega) r
  unfold rBitmapBlockBody
  show _ = some (if mode = 0 then _ else if mode = 1 then _ else if mode = 2 then _ else _)
  by_cases h0 : mode = 0
  · -- raw bytes: `nChunks * 1024 / 8` of them
    rw [if_pos h0, if_pos h0]
    exact Erases.bindVP (erases_rFixed rd (nChunks * CHUNK_BITS / 8)) (fun _ bytes r _ h => by
      have hc : bytes.length * 8 / CHUNK_BITS = nChunks := by rw [(rFixed_ok h).1]; unfold CHUNK_BITS; omega
      simp [charge, Outcome.addAlloc, Outcome.map, Outcome.toExcept, toBlock, hc]) r
  rw [if_neg h0, if_neg h0]
  by_cases h1 : mode = 1
  · subst h1
    rw [if_pos (Or.inl rfl), if_pos rfl, flips]
    simp [toBlock, hdiv]; rfl
  by_cases h2 : mode = 2
  · subst h2
    rw [if_pos (Or.inr rfl), if_neg h1, if_pos rfl, flips]
    simp [toBlock, hdiv]; rfl
  rw [if_neg (by omega), if_neg h1, if_neg h2]; rfl

/-! ### what every decoded block satisfies -/

def BlockInv (b : BitmapBlock) : Prop := b.nBits % CHUNK_BITS = 0 ∧ b.nBits / CHUNK_BITS ≤ NCHUNKS

theorem blockInv_of_chunks {b : BitmapBlock} {nc : Nat} (hn : nc ≤ NCHUNKS) (hb : b.nBits = nc * CHUNK_BITS) :
    BlockInv b := by
  unfold BlockInv
  rw [hb]
  unfold CHUNK_BITS NCHUNKS at *
  omega

theorem rBitmapBlock_inv {rd : Rdr} {bs : Bytes} {b : BitmapBlock} {r : Bytes} {n : Nat}
    (h : rBitmapBlock rd bs = .ok b r n) : BlockInv b := by
  unfold rBitmapBlock at h
  obtain ⟨nc, r1, n1, n2, h1, h2, _⟩ := bind_ok_inv h
  split at h2
  · simp at h2
  rename_i hnc
  obtain ⟨mode, r2, n3, n4, h3, h4, _⟩ := bind_ok_inv h2
  unfold rBitmapBlockBody at h4
  have hn64 : nc ≤ 64 := by unfold NCHUNKS at hnc; omega
  split at h4
  · obtain ⟨bytes, r3, n5, n6, h5, h6, _⟩ := bind_ok_inv h4
    obtain ⟨m, h7⟩ := addAlloc_ok_inv (o := (.ok { nBits := bytes.length * 8, bits := .raw bytes } r3 0 : Outcome BitmapBlock)) h6
    simp only [Outcome.ok.injEq] at h7
    have hl := (rFixed_ok h5).1
    rw [← h7.1]
    exact blockInv_of_chunks hn64 (by show bytes.length * 8 = nc * CHUNK_BITS; rw [hl]; unfold CHUNK_BITS; omega)
  · split at h4
    · obtain ⟨m, h5⟩ := withCapacity_ok_inv h4
      obtain ⟨cnt, r3, n5, n6, h6, h7, _⟩ := bind_ok_inv h5
      obtain ⟨ps, r4, n7, n8, h8, h9, _⟩ := bind_ok_inv h7
      simp only [Outcome.ok.injEq] at h9
      rw [← h9.1]
      exact blockInv_of_chunks hn64 rfl
    · simp at h4

theorem tryNChunks_inv {b : BitmapBlock} (h : BlockInv b) : tryNChunks b = .ok (toBlock b).nChunks := by
  unfold tryNChunks
  rw [if_neg (by simp [h.1]), if_neg (by have := h.2; omega)]
  rfl

/-- `split_last` sees the list from its end; from the front it reads like the plain recursion: a full first block, then
the count of the rest, plus 64 -/
theorem nChunksOf_cons_cons (b c : BitmapBlock) (r : List BitmapBlock) :
    nChunksOf (b :: c :: r) =
      match tryNChunks b with
      | .error e => .error e
      | .ok n =>
        if n ≠ NCHUNKS then .error .corrupted else
        match nChunksOf (c :: r) with
        | .error e => .error e
        | .ok m => if m + NCHUNKS ≥ 2^64 then .error .tooLarge else .ok (m + NCHUNKS) := by
  have hgl : (b :: c :: r).getLast? = (c :: r).getLast? := by simp [List.getLast?_cons_cons]
  have hdl : (b :: c :: r).dropLast = b :: (c :: r).dropLast := by simp [List.dropLast]
  unfold nChunksOf
  rw [hgl, hdl]
  cases hl : (c :: r).getLast? with
  | none => simp at hl
  | some last =>
    simp only [fullBlocksOk, List.length_cons]
    cases tryNChunks b with
    | error e => rfl
    | ok n =>
      dsimp only
      by_cases hfull : n ≠ NCHUNKS
      · rw [if_pos hfull, if_pos hfull]
      rw [if_neg hfull, if_neg hfull]
      cases fullBlocksOk (c :: r).dropLast with
      | error e => rfl
      | ok u =>
        cases tryNChunks last with
        | error e => rfl
        | ok lc =>
          dsimp only
          by_cases h0 : lc = 0
          · rw [if_pos h0, if_pos h0]
          rw [if_neg h0, if_neg h0]
          have e : ((c :: r).dropLast.length + 1) * NCHUNKS + lc = (c :: r).dropLast.length * NCHUNKS + lc + NCHUNKS := by
            rw [Nat.add_mul]; omega
          rw [e]
          by_cases h1 : (c :: r).dropLast.length * NCHUNKS + lc ≥ 2^64
          · rw [if_pos h1, if_pos (by omega)]
          · rw [if_neg h1]

/-- with at most 64 chunks per block the count is far from the `checked_mul` / `checked_add` limit -/
theorem serNChunksOf_le : ∀ (l : List GV.SerSeg.BitmapBlock) (n : Nat), (∀ b ∈ l, b.nChunks ≤ 64) →
    GV.SerSeg.nChunksOf l = .ok n → n ≤ 64 * l.length
  | [], n, _, h => by simp [GV.SerSeg.nChunksOf] at h
  | [b], n, hb, h => by
    simp only [GV.SerSeg.nChunksOf] at h
    split at h
    · simp at h
    · simp only [Except.ok.injEq] at h; have := hb b (by simp); simp only [List.length_singleton]; omega
  | b :: c :: r, n, hb, h => by
    rw [GV.SerSeg.nChunksOf] at h
    · split at h
      · simp at h
      · split at h
        · rename_i m hm
          have := serNChunksOf_le (c :: r) m (fun x hx => hb x (by simp [hx])) hm
          simp only [Except.ok.injEq] at h
          unfold GV.SerSeg.BLOCK_NCHUNKS at h; simp only [List.length_cons] at this ⊢; omega
        · simp at h
    · simp

theorem nChunksOf_eq : ∀ (bl : List BitmapBlock), (∀ b ∈ bl, BlockInv b) → bl.length ≤ 2^32 →
    nChunksOf bl = GV.SerSeg.nChunksOf (bl.map toBlock)
  | [], _, _ => rfl
  | [b], h, _ => by
    have hb := tryNChunks_inv (h b (by simp))
    have h2 := (h b (by simp)).2
    have hd : ([b] : List BitmapBlock).dropLast = [] := rfl
    simp only [nChunksOf, List.getLast?_singleton, hd, fullBlocksOk, hb, List.length_nil,
      Nat.zero_mul, Nat.zero_add, List.map_cons, List.map_nil, GV.SerSeg.nChunksOf]
    by_cases h0 : (toBlock b).nChunks = 0
    · simp [h0]
    · have : ¬ (toBlock b).nChunks ≥ 2^64 := by
        have : (toBlock b).nChunks = b.nBits / CHUNK_BITS := rfl
        unfold NCHUNKS at h2; omega
      simp [h0, this]
  | b :: c :: r, h, hlen => by
    have ih := nChunksOf_eq (c :: r) (fun x hx => h x (by simp [hx])) (by simp at hlen ⊢; omega)
    have hle : ∀ x ∈ (c :: r).map toBlock, x.nChunks ≤ 64 := by
      intro x hx
      obtain ⟨y, hy, rfl⟩ := List.mem_map.mp hx
      exact (h y (by simp [List.mem_cons.mp hy])).2
    have key : GV.SerSeg.nChunksOf (toBlock b :: (c :: r).map toBlock) =
        if (toBlock b).nChunks ≠ NCHUNKS then .error .corrupted
        else match GV.SerSeg.nChunksOf ((c :: r).map toBlock) with
          | .ok n => .ok (NCHUNKS + n)
          | .error e => .error e := by
      rw [GV.SerSeg.nChunksOf]
      · rfl
      · simp
    rw [nChunksOf_cons_cons, tryNChunks_inv (h b (by simp)), ih]
    show _ = GV.SerSeg.nChunksOf (toBlock b :: (c :: r).map toBlock)
    rw [key]
    dsimp only
    by_cases hfull : (toBlock b).nChunks ≠ NCHUNKS
    · rw [if_pos hfull, if_pos hfull]
    rw [if_neg hfull, if_neg hfull]
    cases hm : GV.SerSeg.nChunksOf ((c :: r).map toBlock) with
    | error e => rfl
    | ok m =>
      have := serNChunksOf_le _ m hle hm
      have hl : ((c :: r).map toBlock).length ≤ 2^32 := by simp at hlen ⊢; omega
      dsimp only
      rw [if_neg (by unfold NCHUNKS; omega), Nat.add_comm]

def chkOfN : Except SerErr Nat → Chk
  | .ok _ => .ok
  | .error e => .err e

theorem leafOffset_eq (id : SegmentId) : leafOffset id = GV.SerSeg.leafOffset (toSegId id) := rfl

theorem maxChunks_eq (id : SegmentId) : maxChunks id.height = GV.SerSeg.maxChunks (toSegId id) := by
  unfold maxChunks GV.SerSeg.maxChunks toSegId
  have : GV.SerSeg.MAX_BITMAP_SEGMENT_HEIGHT = MAX_BITMAP_SEGMENT_HEIGHT := rfl
  simp only [this]
  by_cases h : id.height > MAX_BITMAP_SEGMENT_HEIGHT
  · simp [h]
  · have : ¬ id.height ≥ 64 := by unfold MAX_BITMAP_SEGMENT_HEIGHT at h; omega
    simp [h, this]

theorem maxChunks_le {h mx : Nat} (hm : maxChunks h = .ok mx) : mx ≤ 8192 := by
  unfold maxChunks at hm
  split at hm
  · simp at hm
  · split at hm
    · simp at hm
    · simp only [Except.ok.injEq] at hm
      rename_i h1 _
      have : MAX_BITMAP_SEGMENT_HEIGHT = 13 := rfl
      have : 2 ^ h ≤ 2 ^ 13 := Nat.pow_le_pow_right (by decide) (by omega)
      omega

theorem nChunksOf_pos {blocks : List BitmapBlock} {n : Nat} (h : nChunksOf blocks = .ok n) : 0 < n := by
  unfold nChunksOf at h
  cases hl : blocks.getLast? with
  | none => simp [hl] at h
  | some last =>
    simp only [hl] at h
    cases hf : fullBlocksOk blocks.dropLast with
    | error e => simp [hf] at h
    | ok u =>
      simp only [hf] at h
      cases ht : tryNChunks last with
      | error e => simp [ht] at h
      | ok lc =>
        simp only [ht] at h
        split at h
        · simp at h
        · split at h
          · simp at h
          · simp only [Except.ok.injEq] at h; omega

theorem validateBlocks_ne_panic (id : SegmentId) (blocks : List BitmapBlock) (s : Site) :
    validateBlocks id blocks ≠ .panic s := by
  unfold validateBlocks
  cases leafOffset id with
  | error e => simp
  | ok off =>
    simp only
    cases hn : nChunksOf blocks with
    | error e => simp
    | ok n =>
      have := nChunksOf_pos hn
      simp only
      cases maxChunks id.height with
      | error e => simp
      | ok mx =>
        simp only
        split
        · simp
        · rw [if_neg (by omega)]
          split
          · simp
          · split <;> simp

theorem validateBlocks_eq (id : SegmentId) (bl : List BitmapBlock) (hinv : ∀ b ∈ bl, BlockInv b)
    (hlen : bl.length ≤ 2^32) :
    validateBlocks id bl = chkOfN (GV.SerSeg.validateBlocks (toSegId id) (bl.map toBlock)) := by
  unfold validateBlocks GV.SerSeg.validateBlocks
  rw [leafOffset_eq, nChunksOf_eq bl hinv hlen, maxChunks_eq]
  cases GV.SerSeg.leafOffset (toSegId id) with
  | error e => rfl
  | ok off =>
    simp only
    cases hn : GV.SerSeg.nChunksOf (bl.map toBlock) with
    | error e => rfl
    | ok n =>
      simp only
      have hpos : 1 ≤ n := Nat.le_trans (Nat.le_add_left 1 _) (GV.SerSeg.nChunksOf_bound hn).2
      cases GV.SerSeg.maxChunks (toSegId id) with
      | error e => rfl
      | ok mx =>
        simp only
        by_cases h1 : n > mx
        · simp [h1, chkOfN]
        · have h0 : ¬ n = 0 := by omega
          simp only [h1, h0, if_false]
          by_cases h2 : off + (n - 1) ≥ 2^63
          · by_cases h3 : off + (n - 1) ≥ 2^64 <;> simp [h2, h3, chkOfN]
          · have h3 : ¬ off + (n - 1) ≥ 2^64 := by omega
            simp [h2, h3, chkOfN]

def toBitmapSegment (s : BitmapSegment) : GV.SerSeg.BitmapSegment :=
  { id := toSegId s.id, blocks := s.blocks.map toBlock, proof := s.proof }

theorem erases_rBitmapSegment (rd : Rdr) :
    ErasesVia toBitmapSegment (rBitmapSegment rd) GV.SerSeg.decBitmapSegment := by
  refine ErasesVia.bind erases_segmentId fun id => Erases.bindV erases_rU16 fun nBlocks r => ?_
  show ((rBitmapAfterCount rd id nBlocks r).map toBitmapSegment).toExcept = some _
  unfold rBitmapAfterCount
  by_cases h0 : nBlocks = 0
  · rw [if_pos h0, if_pos h0]; rfl
  rw [if_neg h0, if_neg h0, maxChunks_eq, leafOffset_eq]
  cases hmx : GV.SerSeg.maxChunks (toSegId id) with
  | error e => rfl
  | ok mx =>
    have hmx13 : mx ≤ 8192 := maxChunks_le (by rw [maxChunks_eq]; exact hmx)
    dsimp only
    show _ = some (if nBlocks > (mx + NCHUNKS - 1) / NCHUNKS then _ else _)
    by_cases hbig : nBlocks > (mx + NCHUNKS - 1) / NCHUNKS
    · rw [if_pos hbig, if_pos hbig]; rfl
    rw [if_neg hbig, if_neg hbig]
    cases GV.SerSeg.leafOffset (toSegId id) with
    | error e => rfl
    | ok off =>
      dsimp only
      -- at most 128 blocks are read; each satisfies `BlockInv`, so the two `validate_blocks` agree
      have hnb : nBlocks ≤ 128 := by unfold NCHUNKS at hbig; omega
      refine ErasesVia.withCapacity (ErasesVia.bindP (erases_readN_map (erases_rBitmapBlock rd) nBlocks)
        fun bs blocks r2 m hq => ?_) _ _ (by unfold BITMAP_BLOCK_MEM ISIZE_MAX; omega) r
      have hinv := readN_all (fun _ _ _ _ h => rBitmapBlock_inv h) nBlocks bs blocks r2 m hq
      have hl := readN_length nBlocks bs blocks r2 m hq
      rw [validateBlocks_eq id blocks hinv (by omega)]
      cases GV.SerSeg.validateBlocks (toSegId id) (blocks.map toBlock) with
      | error e => rfl
      | ok nn =>
        simp only [chkOfN, Chk.pass]
        exact (Erases.bindV (erases_segmentProof rd) fun _ => ErasesVia.pure) r2

end GV.DecSer
