import GrinVerif.Lemmas.PowScan
import GrinVerif.Lemmas.PowPipe
/-! Cuckaroom verifier: the bucket lists built by the first loop, the inner search, the walk. -/
namespace GV.Pow

/-- state of the first loop after `n` iterations, in closed form -/
structure RoomInv (P : Params) (ep : Nat → Nat × Nat) (ns : List Nat) (n : Nat) (s : RoomSt) : Prop where
  slots : SlotInv (fun k => P.bk (frmF ep ns k)) (frmF ep ns) ns.length n s.frm s.head s.prev
  to : ∀ k, k < n → s.to k = toF ep ns k

/-- what the first loop does to the arrays for nonce `x` at index `n` -/
def roomPush (P : Params) (ep : Nat → Nat × Nat) (n x : Nat) (s : RoomSt) : RoomSt :=
  { frm := upd s.frm n (ep x).1, prev := upd s.prev n (s.head (P.bk (ep x).1)),
    head := upd s.head (P.bk (ep x).1) n, to := upd s.to n (ep x).2,
    xf := s.xf ^^^ (ep x).1, xt := s.xt ^^^ (ep x).2 }

theorem roomBuild_eq (P : Params) (ep : Nat → Nat × Nat) : ∀ xs n last s,
    roomBuild P ep xs n last s = gBuild P.edgeMask (fun _ _ => none) (roomPush P ep) xs n last s
  | [], _, _, _ => rfl
  | x :: xs, n, last, s => by
    rw [roomBuild, gBuild]
    simp only [roomBuild_eq P ep xs]
    rfl

theorem roomBuild_ne_hang (P : Params) (ep : Nat → Nat × Nat) (xs : List Nat) (n : Nat) (last : Option Nat)
    (s : RoomSt) : roomBuild P ep xs n last s ≠ .error .hang :=
  roomBuild_eq P ep xs n last s ▸
    gBuild_ne_hang (pre := fun _ _ => none) (fun _ _ h => by cases h) xs n last s

theorem roomPush_inv (P : Params) (ep : Nat → Nat × Nat) (ns : List Nat) (n : Nat) (s : RoomSt)
    (inv : RoomInv P ep ns n s) : RoomInv P ep ns (n + 1) (roomPush P ep n (ns.getD n 0) s) :=
  ⟨slotInv_push inv.slots rfl rfl, fun k hk => by
    by_cases e : k = n
    · subst e; simp [roomPush, upd, toF]
    · simp only [roomPush, upd, e, if_false]; exact inv.to k (by omega)⟩

theorem roomInv_init (P : Params) (ep : Nat → Nat × Nat) (ns : List Nat) :
    RoomInv P ep ns 0 (RoomSt.init ns.length) :=
  ⟨⟨fun k hk => absurd hk (Nat.not_lt_zero k), fun _ => rfl, fun k hk => absurd hk (Nat.not_lt_zero k)⟩,
    fun k hk => absurd hk (Nat.not_lt_zero k)⟩

theorem roomBuild_spec (P : Params) (ep : Nat → Nat × Nat) (ns : List Nat) (s : RoomSt)
    (hb : roomBuild P ep ns 0 none (RoomSt.init ns.length) = .ok s) :
    RoomInv P ep ns ns.length s ∧ (∀ x ∈ ns, x ≤ P.edgeMask) ∧ ascChain none ns :=
  gBuild_sound ns (fun n s => RoomInv P ep ns n s) (fun n s _ inv _ => roomPush_inv P ep ns n s inv)
    (roomInv_init P ep ns) (roomBuild_eq P ep ns 0 none _ ▸ hb)

/-- one iteration of the outer loop as a function of the current edge -/
def roomStep (P : Params) (size : Nat) (s : RoomSt) (i : Nat) : Except Err Nat :=
  roomFind size s (s.to i) (size+1) (s.head (P.bk (s.to i)))

/-- **one step of the Cuckaroom walk in closed form**: the largest edge whose `from` is the `to` of
the current one (the search runs down the bucket of that node and stops at the first hit) -/
theorem roomStep_eq (P : Params) (ep : Nat → Nat × Nat) (ns : List Nat) (s : RoomSt)
    (inv : RoomInv P ep ns ns.length s) (i : Nat) :
    roomStep P ns.length s i =
      if lastBelow (fun k => frmF ep ns k == s.to i) ns.length ns.length = ns.length
      then .error .deadEnd
      else .ok (lastBelow (fun k => frmF ep ns k == s.to i) ns.length ns.length) := by
  have hmem := fun x (hx : x ∈ between (fun k => P.bk (frmF ep ns k) == P.bk (s.to i)) 0 ns.length) =>
    (mem_between.mp hx).2.1
  unfold roomStep
  rw [roomFind_path _ s _ (inv.slots.path _) rfl (fun x hx => Nat.ne_of_lt (hmem x hx)) (ns.length + 1)
      (Nat.lt_succ_of_le (between_length_le _ 0 _)),
    find?_between _ (fun k => frmF ep ns k == s.to i) _ 0
      (fun x hx => by rw [beq_iff_eq.mp hx]; exact beq_self_eq_true _) _
      (fun x hx => by rw [inv.slots.uvs x hx]),
    lastBelow_eq_headD]
  cases hb : between (fun k => frmF ep ns k == s.to i) 0 ns.length with
  | nil => exact (if_pos rfl).symm
  | cons r t =>
    have : r < ns.length := (mem_between.mp (hb ▸ List.mem_cons_self ..)).2.1
    exact (if_neg (Nat.ne_of_lt this)).symm

theorem roomStep_ok (P : Params) (ep : Nat → Nat × Nat) (ns : List Nat) (s : RoomSt)
    (inv : RoomInv P ep ns ns.length s) (i r : Nat)
    (h : roomStep P ns.length s i = .ok r) :
    r < ns.length ∧ frmF ep ns r = s.to i ∧
      ∀ k', k' < ns.length → frmF ep ns k' = s.to i → k' ≤ r := by
  rw [roomStep_eq P ep ns s inv] at h
  rcases lastBelow_key (frmF ep ns) (s.to i) ns.length ns.length with ⟨h1, _⟩ | ⟨h1, h2, h3⟩
  · rw [if_pos h1] at h; cases h
  · rw [if_neg (by omega)] at h
    injection h with h
    subst h
    exact ⟨h1, h2, h3⟩

theorem roomStep_no_hang (P : Params) (ep : Nat → Nat × Nat) (ns : List Nat) (s : RoomSt)
    (inv : RoomInv P ep ns ns.length s) (i : Nat) :
    roomStep P ns.length s i ≠ .error .hang := by
  rw [roomStep_eq P ep ns s inv]
  split <;> exact fun h => nomatch h

theorem roomStep_complete (P : Params) (ep : Nat → Nat × Nat) (ns : List Nat) (s : RoomSt)
    (inv : RoomInv P ep ns ns.length s) (i kst : Nat) (hk : kst < ns.length)
    (hf : frmF ep ns kst = s.to i)
    (huniq : ∀ k, k < ns.length → frmF ep ns k = s.to i → k = kst) :
    roomStep P ns.length s i = .ok kst := by
  rw [roomStep_eq P ep ns s inv]
  rcases lastBelow_key (frmF ep ns) (s.to i) ns.length ns.length with ⟨_, h2⟩ | ⟨h1, h2, _⟩
  · exact absurd hf (h2 kst hk)
  · rw [if_neg (by omega), huniq _ h1 h2]

theorem roomWalk_ok (P : Params) (size : Nat) (s : RoomSt) : ∀ f vis i n m,
    roomWalk P size s f vis i n = .ok m → uWalk (roomStep P size s) f i n = .ok m := by
  intro f
  induction f with
  | zero => intro vis i n m h; cases h
  | succ f ih =>
    intro vis i n m h
    unfold roomWalk at h
    unfold uWalk
    split at h
    · cases h
    · rw [show roomFind size s (s.to i) (size+1) (s.head (P.bk (s.to i))) = roomStep P size s i from rfl] at h
      cases hs : roomStep P size s i with
      | error e => rw [hs] at h; cases h
      | ok k =>
        rw [hs] at h
        dsimp only at h ⊢
        split
        · next h0 => rwa [if_pos h0] at h
        · next h0 => rw [if_neg h0] at h; exact ih _ _ _ _ h

theorem room_cycle (P : Params) (ep : Nat → Nat × Nat) (ns : List Nat) (s : RoomSt)
    (inv : RoomInv P ep ns ns.length s) (tr : List Nat)
    (htr : Trace (roomStep P ns.length s) 0 tr) (hlen : tr.length = ns.length) :
    IsDirCycle (ns.map ep) tr := by
  have hL : 0 < ns.length := hlen ▸ htr.pos
  -- every trace element is an edge index, and the largest one with its `from` value
  have hel : ∀ a, a < ns.length → tr.getD a 0 < ns.length ∧
      ∀ k', k' < ns.length → frmF ep ns k' = frmF ep ns (tr.getD a 0) → k' ≤ tr.getD a 0 := by
    intro a ha
    cases a with
    | zero =>
      have hl := htr.last
      obtain ⟨_, hfrm, hmax⟩ := roomStep_ok P ep ns s inv _ _ hl
      rw [htr.head]
      exact ⟨hL, fun k' hk' hf => hmax k' hk' (by rw [hf, hfrm])⟩
    | succ a =>
      have hc := (htr.chain a (by omega)).1
      obtain ⟨hlt, hfrm, hmax⟩ := roomStep_ok P ep ns s inv _ _ hc
      exact ⟨hlt, fun k' hk' hf => hmax k' hk' (by rw [hf, hfrm])⟩
  have hmem : ∀ x ∈ tr, x < ns.length := by
    intro x hx
    obtain ⟨a, ha, rfl⟩ := exists_getD_of_mem hx
    exact (hel a (hlen ▸ ha)).1
  have hlenm : (ns.map ep).length = ns.length := by simp
  constructor
  · rw [hlenm]; exact perm_range_of_nodup htr.nodup hmem hlen
  · intro t ht
    rw [hlenm] at ht ⊢
    have ht1 := (hel t ht).1
    obtain ⟨hlt, hfrm, _⟩ := roomStep_ok P ep ns s inv _ _ (htr.cyc_chain hlen t ht)
    rw [map_getD_snd ep ns _ ht1, map_getD_fst ep ns _ hlt, hfrm, inv.to _ ht1]
  · intro a b ha hb hab heq
    rw [hlenm] at ha hb
    rw [map_getD_fst ep ns _ (hel a ha).1, map_getD_fst ep ns _ (hel b hb).1] at heq
    have h1 := (hel a ha).2 _ (hel b hb).1 heq.symm
    have h2 := (hel b hb).2 _ (hel a ha).1 heq
    exact hab (htr.inj (by omega) (by omega) (Nat.le_antisymm h2 h1))

end GV.Pow
