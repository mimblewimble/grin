import GrinVerif.Lemmas.ConsHeader
/-! Definitions used to *state* the node-level theorems of `Props/C04.lean` (header batches, known
headers), the look-ups in the header store, and what a success of each entry point of the header
pipeline consists of (the rules that held, the stages that ran, the node that results); the fork walk
and which headers it re-applies; computed root comparisons.

`check_known`, `is_known` / `check_orphan`, `process_block_header`, `process_block_headers`,
`rewind_and_apply_header_fork` and `Options` are transliterated a second time in `Model/ChainKnown.lean`
for the block-level properties: there with block ids, work and fault tags, and the header MMR read as the
path to the header head; here with proof-only hashes that can collide, `Tip`s, the numeric header rules
and the header MMR as a list. -/
namespace GV.Cons
open GV GV.Gen

/-- Every header of a batch obeys the header rules against its predecessor **as the batch sees
the store**: the parent is looked up in the store extended by the batch's earlier headers. -/
def BatchRules (ct : ChainType) (skip : Bool) : List FHdr → List FHdr → Prop
  | _, [] => True
  | s, f :: fs => HeaderRules (ctxFor ct skip s f) f.h ∧ BatchRules ct skip (f :: s) fs

instance : DecidableEq (Except ReadErr Unit) := fun a b =>
  match a, b with
  | .ok (), .ok () => isTrue rfl
  | .error e, .error f =>
    if h : e = f then isTrue (by rw [h]) else isFalse (by intro hh; cases hh; exact h rfl)
  | .ok (), .error _ => isFalse (by intro h; cases h)
  | .error _, .ok () => isFalse (by intro h; cases h)

/-- the error of a result, if any (lets the `decide` examples compare results whose success value
has no decidable equality) -/
def errOf {α : Type} : Except NErr α → Option NErr
  | .error e => some e
  | .ok _ => none

/-- two deliveries carry the same header (the oracle answers aside) -/
def SameContent (a b : FHdr) : Prop := a.h = b.h ∧ a.prevHash = b.prevHash ∧ a.rest = b.rest

/-- **The proof-of-work clause for one header** against the store `s`: the edge bits are an allowed
size, the cycle verifier accepted the proof for this header, the claimed total difficulty minus the
stored parent's (a `Nat` subtraction) is exactly the network difficulty, and the proof's own difficulty
(`to_difficulty`: a function of the hash of the proof nonces) reaches it.  That the claimed total is
more than the parent's is part of `DifficultyRules`, not of this clause. -/
def PowRule (ct : ChainType) (s : List FHdr) (f : FHdr) : Prop :=
  (isPrimary ct f.h.edgeBits = true ∨ isSecondary f.h.edgeBits = true) ∧ f.powOk = true ∧
  ∃ prev next, getHdr s f.prevHash = some prev ∧
    nextDifficulty ct f.h.height (windowFrom s (DMA_WINDOW + 1) f.prevHash) = some next ∧
    f.h.totalDiff - prev.h.totalDiff = next.diff ∧
    next.diff ≤ toDifficulty ct f.h.height f.h.edgeBits f.h.secondaryScaling f.h.hash64

theorem headerRules_parent {ct : ChainType} {skip : Bool} {s : List FHdr} {f : FHdr}
    (h : HeaderRules (ctxFor ct skip s f) f.h) :
    ∃ p, getHdr s f.prevHash = some p ∧ f.h.height = addW p.h.height 1 ∧ p.h.ts < f.h.ts ∧
      (skip = false → DifficultyRules (ctxFor ct skip s f) p.h f.h) := by
  obtain ⟨prev, hp, hh, _, ht, hd⟩ := h.parent
  simp only [ctxFor, Option.map_eq_some_iff] at hp
  obtain ⟨p, hp1, rfl⟩ := hp
  exact ⟨p, hp1, hh, ht, hd⟩

theorem powRule_of_rules {ct : ChainType} {s : List FHdr} {f : FHdr}
    (h : HeaderRules (ctxFor ct false s f) f.h) : PowRule ct s f := by
  obtain ⟨p, hp, _, _, hd⟩ := headerRules_parent h
  obtain ⟨he, hpow, _, next, hn, hdiff, hle, _⟩ := hd rfl
  exact ⟨he, hpow, p, next, hp, hn, hdiff, hle⟩

theorem batchRules_mem {ct : ChainType} {skip : Bool} :
    ∀ (pre : List FHdr) (s : List FHdr) (f : FHdr) (post : List FHdr),
      BatchRules ct skip s (pre ++ f :: post) →
      HeaderRules (ctxFor ct skip (pre.reverse ++ s) f) f.h := by
  intro pre
  induction pre with
  | nil => intro s f post h; exact h.1
  | cons a t ih =>
    intro s f post h
    have := ih (a :: s) f post h.2
    simpa [List.reverse_cons, List.append_assoc] using this

theorem getHdr_cons_self (f : FHdr) (s : List FHdr) : getHdr (f :: s) f.hash = some f := by
  simp [getHdr, List.find?]

theorem getHdr_cons_ne (x : FHdr) (s : List FHdr) (k : Nat) (h : x.hash ≠ k) :
    getHdr (x :: s) k = getHdr s k := by
  unfold getHdr
  rw [List.find?_cons_of_neg (by simpa using h)]

theorem getHdr_cons_some {f : FHdr} {s : List FHdr} {k : Nat} {x : FHdr}
    (h : getHdr (f :: s) k = some x) : (x = f ∧ k = f.hash) ∨ getHdr s k = some x := by
  by_cases hk : f.hash = k
  · subst hk
    rw [getHdr_cons_self] at h
    cases h
    exact .inl ⟨rfl, rfl⟩
  · rw [getHdr_cons_ne f s k hk] at h
    exact .inr h

theorem getHdr_append_ne (xs s : List FHdr) (k : Nat) (h : ∀ x ∈ xs, x.hash ≠ k) :
    getHdr (xs ++ s) k = getHdr s k := by
  induction xs with
  | nil => rfl
  | cons a t ih =>
    rw [List.cons_append, getHdr_cons_ne a _ k (h a (by simp))]
    exact ih (fun x hx => h x (List.mem_cons_of_mem _ hx))

theorem getHdr_hash {s : List FHdr} {k : Nat} {f : FHdr} (h : getHdr s k = some f) : f.hash = k := by
  have := List.find?_some h
  simpa using this

theorem getHdr_self {s : List FHdr} {k : Nat} {f : FHdr} (h : getHdr s k = some f) :
    getHdr s f.hash = some f := by
  rw [getHdr_hash h]; exact h

theorem getHdr_last {b : List FHdr} {last : FHdr} (hl : b.getLast? = some last) (s : List FHdr) :
    getHdr (b.reverse ++ s) last.hash = some last := by
  obtain ⟨pre, rfl⟩ := List.getLast?_eq_some_iff.mp hl
  rw [List.reverse_append]
  exact getHdr_cons_self last _

theorem find_nodup : ∀ (l : List FHdr) (x : FHdr), (l.map (·.hash)).Nodup → x ∈ l →
    l.find? (fun f => f.hash == x.hash) = some x := by
  intro l
  induction l with
  | nil => intro x _ hx; cases hx
  | cons a t ih =>
    intro x hn hx
    simp only [List.map_cons, List.nodup_cons] at hn
    rcases List.mem_cons.mp hx with rfl | hx
    · simp [List.find?]
    · have hne : a.hash ≠ x.hash := by
        intro he
        exact hn.1 (by rw [he]; exact List.mem_map_of_mem hx)
      rw [List.find?_cons_of_neg (by simpa using hne)]
      exact ih x hn.2 hx

theorem getHdr_chunk (chunk hdrs : List FHdr) (x : FHdr) (hn : (chunk.map (·.hash)).Nodup)
    (hx : x ∈ chunk) : getHdr (chunk.reverse ++ hdrs) x.hash = some x := by
  have hn' : (chunk.reverse.map (·.hash)).Nodup := by
    rw [List.map_reverse, List.Nodup, List.pairwise_reverse]
    exact List.Pairwise.imp (fun h => Ne.symm h) hn
  unfold getHdr
  rw [List.find?_append, find_nodup chunk.reverse x hn' (by simpa using hx)]
  rfl

theorem validateLoop_ok_iff {ct : ChainType} {skip : Bool} :
    ∀ (b s s' : List FHdr), validateLoop ct skip s b = .ok s' ↔
      BatchRules ct skip s b ∧ s' = b.reverse ++ s := by
  intro b
  induction b with
  | nil =>
    intro s s'
    simp only [validateLoop, BatchRules, List.reverse_nil, List.nil_append, true_and]
    constructor
    · intro h; cases h; rfl
    · intro h; rw [h]
  | cons a t ih =>
    intro s s'
    simp only [validateLoop, BatchRules, ← validateHeader_ok_iff]
    split
    · rename_i e he
      simp [he]
    · rename_i he
      rw [ih (a :: s) s']
      simp [he, List.reverse_cons, List.append_assoc]

theorem validateApply_ok {e e' : HExt} {f : FHdr} (h : e.validateApply f = .ok e') :
    (f.h.height = 0 ∨ f.rootOk = true) ∧ e' = { head := Tip.ofHdr f, mmr := e.mmr ++ [f.hash] } := by
  unfold HExt.validateApply at h
  split at h
  · cases h
  · rename_i hc
    cases h
    refine ⟨?_, rfl⟩
    by_cases h0 : f.h.height = 0
    · exact .inl h0
    · cases hr : f.rootOk
      · exact absurd ⟨h0, hr⟩ hc
      · exact .inr rfl

/-- how both header entry points end: the batch's view `s` of the store is committed; `header_head` and
the header MMR move to the accepted header `x` only if it has more work (else the extension is rolled back) -/
def HNode.commit (n : HNode) (s : List FHdr) (x : FHdr) (mmr : List Nat) : HNode :=
  if x.h.totalDiff > n.headerHead.totalDiff then { n with hdrs := s, headerHead := Tip.ofHdr x, hmmr := mmr }
  else { n with hdrs := s }

section commit
variable (n : HNode) (s : List FHdr) (x : FHdr) (m : List Nat)

theorem HNode.commit_hdrs : (n.commit s x m).hdrs = s := by unfold HNode.commit; split <;> rfl
theorem HNode.commit_ct : (n.commit s x m).ct = n.ct := by unfold HNode.commit; split <;> rfl
theorem HNode.commit_head : (n.commit s x m).head = n.head := by unfold HNode.commit; split <;> rfl
theorem HNode.commit_blocks : (n.commit s x m).blocks = n.blocks := by unfold HNode.commit; split <;> rfl

theorem HNode.commit_headerHead :
    (n.commit s x m).headerHead = n.headerHead ∧ (n.commit s x m).hmmr = n.hmmr ∨
    (n.commit s x m).headerHead = Tip.ofHdr x ∧ n.headerHead.totalDiff < x.h.totalDiff := by
  unfold HNode.commit
  split
  · exact .inr ⟨rfl, by assumption⟩
  · exact .inl ⟨rfl, rfl⟩

end commit

theorem pbhApply_ok {n n' : HNode} {opts : Opts} {f prev : FHdr} (h : pbhApply n opts f prev = .ok n') :
    HeaderRules (ctxFor n.ct opts.skipPow n.hdrs f) f.h ∧
    ∃ e0 e1 e2, extInit n.hdrs n.hmmr = some e0 ∧ rewindAndApplyHeaderFork n.hdrs e0 prev = .ok e1 ∧
      e1.validateApply f = .ok e2 ∧ n' = n.commit (f :: n.hdrs) f e2.mmr := by
  unfold pbhApply at h
  split at h
  · cases h
  rename_i hv
  split at h
  · cases h
  rename_i e0 he0
  split at h
  · cases h
  rename_i e1 he1
  split at h
  · cases h
  rename_i e2 he2
  refine ⟨(validateHeader_ok_iff _ _).mp hv, e0, e1, e2, he0, he1, he2, ?_⟩
  unfold HNode.commit
  split at h <;> cases h
  · rw [if_pos (by assumption)]
  · rw [if_neg (by assumption)]

theorem nodeProcessBlockHeader_ok {n n' : HNode} {opts : Opts} {f : FHdr}
    (h : nodeProcessBlockHeader n opts f = .ok n') :
    n' = n ∨ ∃ prev, getHdr n.hdrs f.prevHash = some prev ∧ pbhApply n opts f prev = .ok n' := by
  unfold nodeProcessBlockHeader at h
  split at h
  · cases h; exact .inl rfl
  split at h
  · cases h
  rename_i prev hp
  split at h
  · split at h
    · exact .inr ⟨prev, hp, h⟩
    · cases h; exact .inl rfl
  · exact .inr ⟨prev, hp, h⟩

theorem node_process_block_header_ct (n : HNode) (opts : Opts) (f : FHdr) (n' : HNode)
    (h : nodeProcessBlockHeader n opts f = .ok n') : n'.ct = n.ct := by
  rcases nodeProcessBlockHeader_ok h with rfl | ⟨prev, _, happ⟩
  · rfl
  · obtain ⟨_, _, _, _, _, _, _, rfl⟩ := pbhApply_ok happ
    exact HNode.commit_ct ..

theorem processBlockHeaders_ok {n n' : HNode} {opts : Opts} {sh : Tip} {batch : List FHdr} {r : Bool}
    (h : processBlockHeaders n opts sh batch = .ok (n', r)) :
    batch = [] ∧ n' = n ∨
    ∃ last e0 e1, batch.getLast? = some last ∧ BatchRules n.ct opts.skipPow n.hdrs batch ∧
      extInit (batch.reverse ++ n.hdrs) n.hmmr = some e0 ∧
      rewindAndApplyHeaderFork (batch.reverse ++ n.hdrs) e0 last = .ok e1 ∧
      n' = n.commit (batch.reverse ++ n.hdrs) last e1.mmr := by
  unfold processBlockHeaders at h
  split at h
  · rename_i hl
    cases h
    exact .inl ⟨by simpa using hl, rfl⟩
  rename_i last hl
  split at h
  · cases h
  rename_i s hs
  split at h
  · cases h
  rename_i e0 he0
  split at h
  · cases h
  rename_i e1 he1
  split at h
  · cases h
  obtain ⟨hrules, rfl⟩ := (validateLoop_ok_iff batch n.hdrs s).mp hs
  dsimp only at h
  refine .inr ⟨last, e0, e1, hl, hrules, he0, he1, ?_⟩
  unfold HNode.commit
  split at h <;> cases h
  · rw [if_pos (by assumption)]
  · rw [if_neg (by assumption)]

/-- `process_block_single` ends in one of three ways: the first header pass refuses; a later stage
refuses; or both header passes, the proof-of-work stage and the body stage succeed -/
theorem nodeProcessBlock_elim {P : HNode × Except NErr Unit → Prop} (n : HNode) (opts : Opts) (f : FHdr)
    (bodyOk : Bool) (h0 : ∀ e, P (n, .error e))
    (h1 : ∀ n1 e, nodeProcessBlockHeader n opts f = .ok n1 → P (n1, .error e))
    (h2 : ∀ n1 n2, nodeProcessBlockHeader n opts f = .ok n1 → nodeProcessBlockHeader n1 opts f = .ok n2 →
      (opts.skipPow = false →
        (isPrimary n1.ct f.h.edgeBits = true ∨ isSecondary f.h.edgeBits = true) ∧ f.powOk = true) →
      P ({ n2 with blocks := f.hash :: n2.blocks,
                   head := if f.h.totalDiff > n1.head.totalDiff then Tip.ofHdr f else n2.head }, .ok ())) :
    P (nodeProcessBlock n opts f bodyOk) := by
  unfold nodeProcessBlock
  cases hh : nodeProcessBlockHeader n opts f with
  | error e => exact h0 e
  | ok n1 =>
    have h1 := fun e => h1 n1 e hh
    dsimp only
    refine iteInduction (fun _ => h1 _) fun _ => iteInduction (fun _ => h1 _) fun _ => iteInduction (fun _ => h1 _) fun _ => ?_
    cases checkKnown n1 f with
    | error e => exact h1 _
    | ok u =>
      refine iteInduction (fun _ => h1 _) fun hedge => iteInduction (fun _ => h1 _) fun hpow => ?_
      cases getHdr n1.hdrs f.prevHash with
      | none => exact h1 _
      | some p =>
        dsimp only
        cases hn2 : nodeProcessBlockHeader n1 opts f with
        | error e => exact h1 _
        | ok n2 =>
          refine iteInduction (fun _ => h1 _) fun _ => ?_
          have := h2 n1 n2 hh hn2 (fun hs => by
            rw [hs, Bool.not_false, Bool.true_and] at hedge hpow
            exact ⟨Classical.not_not.mp fun h => hedge ((lowEdgeBits_iff _ _).mpr h), by simpa using hpow⟩)
          by_cases hm : f.h.totalDiff > n1.head.totalDiff
          · rw [if_pos hm] at this ⊢; exact this
          · rw [if_neg hm] at this ⊢; exact this

theorem onChain_true_iff {e : HExt} {s : List FHdr} {hash height : Nat} :
    e.onChain s hash height = some true ↔ height ≤ e.head.height ∧
      ∃ x g, e.mmr[height]? = some x ∧ getHdr s x = some g ∧ g.hash = hash := by
  unfold HExt.onChain
  by_cases hgt : height > e.head.height
  · rw [if_pos hgt]
    exact ⟨fun h => (by cases h), fun h => absurd h.1 (by omega)⟩
  · have hle : height ≤ e.head.height := by omega
    rw [if_neg hgt]
    cases e.mmr[height]? with
    | none => simp
    | some x =>
      cases hg : getHdr s x with
      | none => simp [hg]
      | some g => simp [hg, hle]

theorem forkWalk_acc {s : List FHdr} {e : HExt} :
    ∀ (fuel : Nat) (cur : FHdr) (acc : List Nat) (f : FHdr) (l : List Nat),
      forkWalk s e fuel cur acc = .ok (f, l) → ∀ k ∈ acc, k ∈ l := by
  intro fuel
  induction fuel with
  | zero => intro cur acc f l h; simp [forkWalk] at h
  | succ n ih =>
    intro cur acc f l h k hk
    simp only [forkWalk] at h
    split at h
    · cases h; exact hk
    split at h
    · cases h
    · cases h; exact hk
    · split at h
      · cases h
      · exact ih _ _ _ _ h k (List.mem_cons_of_mem _ hk)

theorem forkWalk_step {s : List FHdr} {e : HExt} {fuel : Nat} {cur f : FHdr} {acc l : List Nat}
    (h0 : cur.h.height ≠ 0) (hon : e.onChain s cur.hash cur.h.height ≠ some true)
    (hw : forkWalk s e fuel cur acc = .ok (f, l)) :
    ∃ n p, fuel = n + 1 ∧ getHdr s cur.prevHash = some p ∧
      forkWalk s e n p (cur.hash :: acc) = .ok (f, l) := by
  cases fuel with
  | zero => simp [forkWalk] at hw
  | succ n =>
    simp only [forkWalk, if_neg h0] at hw
    split at hw
    · cases hw
    · rename_i ht; exact absurd ht hon
    · split at hw
      · cases hw
      · rename_i p hp; exact ⟨n, p, rfl, hp, hw⟩

theorem forkWalk_start {s : List FHdr} {e : HExt} (fuel : Nat) (cur f : FHdr) (l : List Nat)
    (h : forkWalk s e fuel cur [] = .ok (f, l)) :
    cur.h.height = 0 ∨ e.onChain s cur.hash cur.h.height = some true ∨ cur.hash ∈ l := by
  by_cases h0 : cur.h.height = 0
  · exact .inl h0
  by_cases hon : e.onChain s cur.hash cur.h.height = some true
  · exact .inr (.inl hon)
  obtain ⟨n, p, _, _, hw⟩ := forkWalk_step h0 hon h
  exact .inr (.inr (forkWalk_acc _ _ _ _ _ hw _ (by simp)))

theorem reapply_roots {s : List FHdr} :
    ∀ (ks : List Nat) (e e' : HExt), reapply s e ks = .ok e' →
      ∀ k ∈ ks, ∃ f, getHdr s k = some f ∧ (f.h.height = 0 ∨ f.rootOk = true) := by
  intro ks
  induction ks with
  | nil => intro e e' _ k hk; cases hk
  | cons a t ih =>
    intro e e' h k hk
    simp only [reapply] at h
    split at h
    · cases h
    rename_i f hf
    split at h
    · cases h
    rename_i e1 hva
    rcases List.mem_cons.mp hk with rfl | hk
    · exact ⟨f, hf, (validateApply_ok hva).1⟩
    · exact ih _ _ h k hk

theorem rewindAndApplyHeaderFork_ok {s : List FHdr} {e e' : HExt} {f : FHdr} :
    rewindAndApplyHeaderFork s e f = .ok e' ↔
      ∃ fp fork, forkWalk s e (s.length + 1) f [] = .ok (fp, fork) ∧ reapply s (e.rewind fp) fork = .ok e' := by
  unfold rewindAndApplyHeaderFork
  split
  · rename_i err hw
    simp [hw]
  · rename_i fp fork hw
    rw [hw]
    exact ⟨fun h => ⟨fp, fork, rfl, h⟩, fun ⟨_, _, he, h⟩ => by cases he; exact h⟩

theorem rewindAndApplyHeaderFork_roots {s : List FHdr} {e e' : HExt} {f : FHdr}
    (h : rewindAndApplyHeaderFork s e f = .ok e') :
    ∃ fp fork, forkWalk s e (s.length + 1) f [] = .ok (fp, fork) ∧
      ∀ k ∈ fork, ∃ x, getHdr s k = some x ∧ (x.h.height = 0 ∨ x.rootOk = true) := by
  obtain ⟨fp, fork, hw, hr⟩ := rewindAndApplyHeaderFork_ok.mp h
  exact ⟨fp, fork, hw, reapply_roots fork _ _ hr⟩

/-- consecutive headers link up: each header's `prev_hash` is the hash of the one before it -/
def Linked (c : List FHdr) : Prop :=
  ∀ pre a b post, c = pre ++ a :: b :: post → b.prevHash = a.hash

private theorem Linked.of_reverse_cons {r : List FHdr} {cur b : FHdr} (h : Linked (cur :: b :: r).reverse) :
    cur.prevHash = b.hash ∧ Linked (b :: r).reverse :=
  have e : (cur :: b :: r).reverse = (b :: r).reverse ++ [cur] := by simp
  ⟨h r.reverse b cur [] (by simp), fun pre x y post hc => h pre x y (post ++ [cur]) (by rw [e, hc]; simp)⟩

/-- the walk back from the end of a linked run of headers (`cur :: r` is the run latest first) that
are neither genesis nor on the current header chain collects every one of them -/
private theorem forkWalk_covers {s : List FHdr} {e : HExt} :
    ∀ (r : List FHdr) (cur : FHdr) (fuel : Nat) (acc : List Nat) (f : FHdr) (l : List Nat),
      Linked (cur :: r).reverse →
      (∀ x ∈ cur :: r, getHdr s x.hash = some x ∧ x.h.height ≠ 0 ∧
        e.onChain s x.hash x.h.height ≠ some true) →
      forkWalk s e fuel cur acc = .ok (f, l) → ∀ x ∈ cur :: r, x.hash ∈ l := by
  intro r
  induction r with
  | nil =>
    intro cur fuel acc f l _ hall hw x hx
    obtain rfl := List.mem_singleton.mp hx
    obtain ⟨_, h0, hon⟩ := hall x (by simp)
    obtain ⟨n, p, _, _, hw'⟩ := forkWalk_step h0 hon hw
    exact forkWalk_acc _ _ _ _ _ hw' _ (by simp)
  | cons b r' ih =>
    intro cur fuel acc f l hl hall hw x hx
    obtain ⟨hlink, hl'⟩ := hl.of_reverse_cons
    obtain ⟨_, h0, hon⟩ := hall cur (by simp)
    obtain ⟨hb, _, _⟩ := hall b (by simp)
    obtain ⟨n, p, _, hp, hw'⟩ := forkWalk_step h0 hon hw
    rw [hlink, hb] at hp
    cases hp
    rcases List.mem_cons.mp hx with rfl | hx
    · exact forkWalk_acc _ _ _ _ _ hw' _ (by simp)
    · exact ih b n _ f l hl' (fun y hy => hall y (List.mem_cons_of_mem _ hy)) hw' x hx

/-- the walk back from the last header of a linked chunk of stored headers, none of them genesis or on the
current header chain, collects every header of the chunk -/
theorem forkWalk_covers_chunk {s : List FHdr} {e : HExt} {chunk : List FHdr} {last f : FHdr} {fuel : Nat}
    {acc l : List Nat} (hl : chunk.getLast? = some last) (hlink : Linked chunk)
    (hall : ∀ x ∈ chunk, getHdr s x.hash = some x ∧ x.h.height ≠ 0 ∧
      e.onChain s x.hash x.h.height ≠ some true)
    (hw : forkWalk s e fuel last acc = .ok (f, l)) : ∀ x ∈ chunk, x.hash ∈ l := by
  obtain ⟨pre, rfl⟩ := List.getLast?_eq_some_iff.mp hl
  have hrev : ∀ y, y ∈ last :: pre.reverse ↔ y ∈ pre ++ [last] := fun y => by simp [or_comm]
  intro x hx
  exact forkWalk_covers pre.reverse last fuel acc f l (by simpa using hlink)
    (fun y hy => hall y ((hrev y).mp hy)) hw x ((hrev x).mpr hx)

section roots
variable {α H : Type} [DecidableEq H]

/-- the chunk as the node-level pipeline sees it: every header with its computed `rootOk` -/
def flagged (hf : Pmmr.HashFn α H) (rs : RStore α H) (chunk : List (RHdr α H)) : List FHdr :=
  (flagChunk hf rs chunk).map (·.1.f)

theorem flagOne_same (hf : Pmmr.HashFn α H) (rs : RStore α H) (r : RHdr α H) :
    ∃ b, (flagOne hf rs r).1.f = { r.f with rootOk := b } ∧ (flagOne hf rs r).1.prevRoot = r.prevRoot := by
  unfold flagOne
  split <;> exact ⟨_, rfl, rfl⟩

/-- computing the flags changes nothing else about the headers -/
theorem flagged_same (hf : Pmmr.HashFn α H) :
    ∀ (chunk : List (RHdr α H)) (rs : RStore α H),
      (flagged hf rs chunk).map (fun f => { f with rootOk := false }) =
        chunk.map (fun r => { r.f with rootOk := false }) := by
  intro chunk
  induction chunk with
  | nil => intro rs; rfl
  | cons r t ih =>
    intro rs
    obtain ⟨b, hb, _⟩ := flagOne_same hf rs r
    have := ih (flagOne hf rs r :: rs)
    simp only [flagged, flagChunk, List.map_cons, hb] at this ⊢
    rw [this]

theorem flagOne_rootOk (hf : Pmmr.HashFn α H) (rs : RStore α H) (r : RHdr α H)
    (h : (flagOne hf rs r).1.f.rootOk = true) :
    ∃ p m, rLookup rs r.f.prevHash = some (p, m) ∧ Pmmr.root hf m = .ok r.prevRoot := by
  unfold flagOne at h
  split at h
  · cases h
  · rename_i p m hl
    exact ⟨p, m, hl, by simpa [rootMatches] using h⟩

theorem flagChunk_at (hf : Pmmr.HashFn α H) :
    ∀ (pre : List (RHdr α H)) (rs : RStore α H) (x : RHdr α H) (post : List (RHdr α H)),
      flagOne hf ((flagChunk hf rs pre).reverse ++ rs) x ∈ flagChunk hf rs (pre ++ x :: post) := by
  intro pre
  induction pre with
  | nil => intro rs x post; simp [flagChunk]
  | cons a t ih =>
    intro rs x post
    simp only [List.cons_append, flagChunk, List.reverse_cons, List.append_assoc, List.mem_cons]
    right
    exact ih _ x post

end roots

end GV.Cons
