import GrinVerif.Lemmas.ChainInv
/-! C06: nodes that agree on the best-chain core (`CoreEq`: definitions, head, block store) behave alike:
the header gate along a run (`gateErr`), one processing step (`processBlockSingle_coreEq`); and the
bisimulation `Sim`: nodes with the same core that differ only in remembered headers / pooled orphans of
blocks that can never be stored behave alike along every history. -/
namespace GV.Chain

/-- the error of the header gate as a function, along a run: `none` = the gate lets the block through
(a known block passes, every other one is validated: `processHeader_gateErr`) -/
def gateErr (p : Params) (n : Node) (b : Blk) : Option Err :=
  if KnownFull n b then none else validateHeader p n b

theorem gateErr_congr {a b : Node} (p : Params) (h : CoreEq a b) (blk : Blk)
    (hp : ∀ par, blk.parent = some par → (par ∈ a.headers ↔ par ∈ b.headers)) :
    gateErr p a blk = gateErr p b blk := by
  unfold gateErr
  rw [validateHeader_congr p h.blks blk hp]
  by_cases hk : KnownFull a blk
  · rw [if_pos hk, if_pos ((h.knownFull blk).mp hk)]
  · rw [if_neg hk, if_neg (mt (h.knownFull blk).mpr hk)]

theorem gateErr_of_unknown_parent (p : Params) {n : Node} {b : Blk} {par : Nat} (hk : ¬ KnownFull n b)
    (hp : b.parent = some par) (hph : par ∉ n.headers) : gateErr p n b = some "StoreErr" :=
  (if_neg hk).trans (validateHeader_no_parent fun _ hp' => Option.some.inj (hp.symm.trans hp') ▸ hph)

theorem processHeader_gateErr (p : Params) (n : Node) (b : Blk) (hb : n.blk b.id = some b)
    (hi : StoreInv p n) :
    (∀ e, gateErr p n b = some e → processHeader p n b = .error e) ∧
    (gateErr p n b = none → ∃ n1, processHeader p n b = .ok n1) := by
  unfold gateErr
  by_cases hk : KnownFull n b
  · rw [if_pos hk]
    exact ⟨nofun, fun _ => ⟨n, processHeader_skip (.inl hk)⟩⟩
  · rw [if_neg hk]
    by_cases hr : Resting n b
    · rw [hr.valid hi hb hk]
      exact ⟨nofun, fun _ => ⟨n, processHeader_skip (.inr hr)⟩⟩
    · rw [processHeader_fresh (not_or.mpr ⟨hk, hr⟩)]
      exact ⟨fun e he => (by rw [he]), fun he => ⟨_, by rw [he]⟩⟩

/-- the store invariant is needed on both sides (a header one node has saved, and skips, must be one the
other accepts), and so is agreement on whether the block's parent header is known -/
theorem processBlockSingle_coreEq (p : Params) (a c : Node) (b : Blk) (h : CoreEq a c)
    (hb : a.blk b.id = some b) (hia : StoreInv p a) (hic : StoreInv p c)
    (hp : ∀ par, b.parent = some par → (par ∈ a.headers ↔ par ∈ c.headers)) :
    CoreEq (processBlockSingle p a b).1 (processBlockSingle p c b).1 ∧
    (processBlockSingle p a b).2 = (processBlockSingle p c b).2 := by
  have hbc := h.blk_some hb
  have hg := gateErr_congr p h b hp
  cases hga : gateErr p a b with
  | some e =>
    have h1 := (processHeader_gateErr p a b hb hia).1 e hga
    have h2 := (processHeader_gateErr p c b hbc hic).1 e (hg ▸ hga)
    simp only [processBlockSingle, h1, h2]
    exact ⟨h, trivial⟩
  | none =>
    obtain ⟨a1, h1⟩ := (processHeader_gateErr p a b hb hia).2 hga
    obtain ⟨c1, h2⟩ := (processHeader_gateErr p c b hbc hic).2 (hg ▸ hga)
    have hc1 : CoreEq a1 c1 := (CoreEq.of_header h1).trans (h.trans (CoreEq.of_header h2).symm)
    simp only [processBlockSingle_of_header h1, processBlockSingle_of_header h2, precheck_congr h b,
      h.checkBlock]
    cases precheck c b with
    | reject e => exact ⟨hc1, rfl⟩
    | orphan => exact ⟨⟨hc1.outs, hc1.blks, hc1.head, hc1.stored⟩, rfl⟩
    | go par =>
      simp only
      cases checkBlock p c b par with
      | error e => exact ⟨hc1, rfl⟩
      | ok s' => exact storeBlock_congr hc1 b

theorem addOrphan_filter_dead (live : Nat → Bool) (n : Node) (b : Blk) (hd : live b.id = false) :
    (addOrphan n b).orphans.filter live = n.orphans.filter live := by
  unfold addOrphan
  simp only
  split
  · rfl
  · simp [List.filter_append, hd]

theorem addOrphan_filter_live (live : Nat → Bool) (a c : Node) (b : Blk) (hl : live b.id = true)
    (h : a.orphans.filter live = c.orphans.filter live) :
    (addOrphan a b).orphans.filter live = (addOrphan c b).orphans.filter live := by
  have hmem : b.id ∈ a.orphans ↔ b.id ∈ c.orphans := by
    have ha : b.id ∈ a.orphans ↔ b.id ∈ a.orphans.filter live := by simp [List.mem_filter, hl]
    have hc : b.id ∈ c.orphans ↔ b.id ∈ c.orphans.filter live := by simp [List.mem_filter, hl]
    rw [ha, hc, h]
  unfold addOrphan
  simp only [List.contains_eq_mem]
  by_cases hm : b.id ∈ a.orphans
  · simp only [hm, hmem.mp hm, decide_true, if_true]; exact h
  · have hm' : b.id ∉ c.orphans := fun x => hm (hmem.mpr x)
    simp only [hm, hm', decide_false]
    simp [List.filter_append, h]


theorem processHeader_headers_iff {p : Params} {n n1 : Node} {b : Blk} (hi : StoreInv p n)
    (h1 : processHeader p n b = .ok n1) (h : Nat) :
    h ∈ n1.headers ↔ h ∈ n.headers ∨ h = b.id := by
  rcases processHeader_ok_cases p n n1 b h1 with ⟨e, hk⟩ | ⟨_, _, e⟩
  · have hbm : b.id ∈ n.headers := by
      rcases hk with hk | ⟨hk, _⟩
      · exact hi.hdr.stored _ (knownFull_stored hi.closed hk)
      · exact hk
    rw [e]
    constructor
    · exact Or.inl
    · rintro (h2 | h2)
      · exact h2
      · exact h2 ▸ hbm
  · rw [e]; exact hdrUpdate_headers_mem n b h

theorem pbs_headers_iff (p : Params) (n : Node) (b : Blk) (hb : n.blk b.id = some b)
    (hi : StoreInv p n) (h : Nat) :
    h ∈ (processBlockSingle p n b).1.headers ↔ h ∈ n.headers ∨ (h = b.id ∧ gateErr p n b = none) := by
  cases hg : gateErr p n b with
  | some e =>
    have h1 := (processHeader_gateErr p n b hb hi).1 e hg
    simp only [processBlockSingle, h1]
    simp
  | none =>
    obtain ⟨n1, h1⟩ := (processHeader_gateErr p n b hb hi).2 hg
    have hfin : (processBlockSingle p n b).1.headers = n1.headers := by
      rw [processBlockSingle_of_header h1]
      cases precheck n b with
      | reject e => rfl
      | orphan => rfl
      | go par =>
        simp only
        cases checkBlock p n b par with
        | error e => rfl
        | ok _ => exact storeBlock_headers n1 b
    rw [hfin, processHeader_headers_iff hi h1]
    simp

theorem pbs_orphans_iff (p : Params) (n : Node) (b : Blk) (hb : n.blk b.id = some b)
    (hi : StoreInv p n) :
    (processBlockSingle p n b).1.orphans =
      if gateErr p n b = none ∧ precheck n b = .orphan then (addOrphan n b).orphans else n.orphans := by
  cases hg : gateErr p n b with
  | some e =>
    have h1 := (processHeader_gateErr p n b hb hi).1 e hg
    simp only [processBlockSingle, h1]
    simp
  | none =>
    obtain ⟨n1, h1⟩ := (processHeader_gateErr p n b hb hi).2 hg
    have ho := processHeader_orphans h1
    rw [processBlockSingle_of_header h1]
    cases hpre : precheck n b with
    | reject e => simp [ho]
    | orphan => simp [addOrphan, ho]
    | go par =>
      simp only [true_and]
      cases checkBlock p n b par with
      | error e => simp [ho]
      | ok s' => simp [storeBlock_orphans n1 b, ho]

/-- what the liveness classifier must satisfy: the parent of a live block is live, dead blocks are not
valid on their path (so they can never be stored) -/
structure LiveOK (p : Params) (N : Node) (live : Nat → Bool) : Prop where
  parent : ∀ b par, N.blk b.id = some b → b.parent = some par → live b.id = true → live par = true
  dead : ∀ z, live z = false → ¬ VOP p N z

/-- the simulation relation of C06: same best-chain core; remembered headers and pooled orphans
may differ, but only in blocks that can never be stored (`live = false`) -/
structure Sim (p : Params) (N : Node) (live : Nat → Bool) (a c : Node) : Prop where
  rana : Ran p N a
  ranc : Ran p N c
  core : CoreEq a c
  hdrs : ∀ h, live h = true → (h ∈ a.headers ↔ h ∈ c.headers)
  pool : a.orphans.filter live = c.orphans.filter live

theorem Sim.symm {p : Params} {N : Node} {live : Nat → Bool} {a c : Node} (h : Sim p N live a c) :
    Sim p N live c a :=
  ⟨h.ranc, h.rana, h.core.symm, fun x hx => (h.hdrs x hx).symm, h.pool.symm⟩

theorem Sim.dead_left {p : Params} {N : Node} {live : Nat → Bool} {a c : Node} (hl : LiveOK p N live)
    (h : Sim p N live a c) (b : Blk) (hb : a.blk b.id = some b) (hd : live b.id = false) :
    Sim p N live (processBlockSingle p a b).1 c ∧ ∃ e, (processBlockSingle p a b).2 = .err e := by
  have hr' := h.rana.single hb
  obtain ⟨hc, e, he⟩ : CoreEq (processBlockSingle p a b).1 a ∧ ∃ e, (processBlockSingle p a b).2 = .err e := by
    rcases processBlockSingle_core p a b with hc | ⟨_, _, A⟩
    · exact hc
    · exact absurd (hr'.stored_vop (A.mem_stored.mpr (.inr rfl))) (hl.dead b.id hd)
  refine ⟨⟨hr', h.ranc, hc.trans h.core, ?_, ?_⟩, e, he⟩
  · intro x hx
    rw [← h.hdrs x hx]
    constructor
    · intro hm
      rcases pbs_headers_sub p a b x hm with h1 | h1
      · exact h1
      · rw [h1, hd] at hx; cases hx
    · exact pbs_headers_mono p a b x
  · rw [← h.pool]
    rcases pbs_orphans_eq p a b with h1 | h1
    · rw [h1]
    · rw [h1, addOrphan_filter_dead live a b hd]

theorem Sim.live_both {p : Params} {N : Node} {live : Nat → Bool} {a c : Node} (hl : LiveOK p N live)
    (h : Sim p N live a c) (b : Blk) (hb : a.blk b.id = some b) (hlv : live b.id = true) :
    Sim p N live (processBlockSingle p a b).1 (processBlockSingle p c b).1 ∧
    (processBlockSingle p a b).2 = (processBlockSingle p c b).2 := by
  have hbc := h.core.blk_some hb
  have hbN : N.blk b.id = some b := by rw [← h.rana.blk]; exact hb
  have hp : ∀ par, b.parent = some par → (par ∈ a.headers ↔ par ∈ c.headers) :=
    fun par hpar => h.hdrs par (hl.parent b par hbN hpar hlv)
  obtain ⟨hce, hres⟩ := processBlockSingle_coreEq p a c b h.core hb h.rana.inv.store h.ranc.inv.store hp
  have hg := gateErr_congr p h.core b hp
  refine ⟨⟨h.rana.single hb, h.ranc.single hbc, hce, ?_, ?_⟩, hres⟩
  · intro x hx
    rw [pbs_headers_iff p a b hb h.rana.inv.store, pbs_headers_iff p c b hbc h.ranc.inv.store, hg, h.hdrs x hx]
  · rw [pbs_orphans_iff p a b hb h.rana.inv.store, pbs_orphans_iff p c b hbc h.ranc.inv.store, hg,
      precheck_congr h.core b]
    split
    · exact addOrphan_filter_live live a c b hlv h.pool
    · exact h.pool


theorem orphanStep_dead_left {p : Params} {N : Node} {live : Nat → Bool} {x : Node}
    (hl : LiveOK p N live) (acc : Node × Option Nat) (o : Nat) (hd : live o = false)
    (h : Sim p N live acc.1 x) :
    Sim p N live (orphanStep p acc o).1 x ∧ (orphanStep p acc o).2 = acc.2 := by
  cases hbo : acc.1.blk o with
  | none => rw [orphanStep_none hbo]; exact ⟨h, rfl⟩
  | some b =>
    have hid := blk_id hbo
    rw [orphanStep_some hbo]
    obtain ⟨hs, e, he⟩ := h.dead_left hl b (hid ▸ hbo) (hid ▸ hd)
    exact ⟨hs, by simp only [he]⟩

theorem fold_dead_left {p : Params} {N : Node} {live : Nat → Bool} {x : Node}
    (hl : LiveOK p N live) (l : List Nat) : ∀ (acc : Node × Option Nat),
    (∀ o ∈ l, live o = false) → Sim p N live acc.1 x →
    Sim p N live (l.foldl (orphanStep p) acc).1 x ∧ (l.foldl (orphanStep p) acc).2 = acc.2 := by
  induction l with
  | nil => intro acc _ h; exact ⟨h, rfl⟩
  | cons o l ih =>
    intro acc hd h
    obtain ⟨h1, e1⟩ := orphanStep_dead_left hl acc o (hd o (List.mem_cons_self ..)) h
    obtain ⟨h2, e2⟩ := ih _ (fun o' ho' => hd o' (List.mem_cons_of_mem _ ho')) h1
    exact ⟨h2, e2.trans e1⟩

theorem orphanStep_live_both {p : Params} {N : Node} {live : Nat → Bool} (hl : LiveOK p N live)
    (acca accc : Node × Option Nat) (o : Nat) (hlv : live o = true)
    (h : Sim p N live acca.1 accc.1) (h2 : acca.2 = accc.2) :
    Sim p N live (orphanStep p acca o).1 (orphanStep p accc o).1 ∧
    (orphanStep p acca o).2 = (orphanStep p accc o).2 := by
  have hbe : acca.1.blk o = accc.1.blk o := blk_congr h.core.blks o
  cases hbo : acca.1.blk o with
  | none =>
    rw [orphanStep_none hbo, orphanStep_none (hbe ▸ hbo)]; exact ⟨h, h2⟩
  | some b =>
    have hid := blk_id hbo
    rw [orphanStep_some hbo, orphanStep_some (hbe ▸ hbo)]
    obtain ⟨hs, hr⟩ := h.live_both hl b (hid ▸ hbo) (hid ▸ hlv)
    exact ⟨hs, by simp only [hr, h2]⟩

theorem fold_sim {p : Params} {N : Node} {live : Nat → Bool} (hl : LiveOK p N live)
    (la : List Nat) : ∀ (lc : List Nat) (acca accc : Node × Option Nat),
    la.filter live = lc.filter live → Sim p N live acca.1 accc.1 → acca.2 = accc.2 →
    Sim p N live (la.foldl (orphanStep p) acca).1 (lc.foldl (orphanStep p) accc).1 ∧
    (la.foldl (orphanStep p) acca).2 = (lc.foldl (orphanStep p) accc).2 := by
  induction la with
  | nil =>
    intro lc acca accc hf h h2
    have hdead : ∀ o ∈ lc, live o = false := by
      have := List.filter_eq_nil_iff.mp hf.symm
      intro o ho
      have := this o ho
      simpa using this
    obtain ⟨h1, e1⟩ := fold_dead_left hl lc accc hdead h.symm
    exact ⟨h1.symm, h2.trans e1.symm⟩
  | cons a0 la ih =>
    intro lc acca accc hf h h2
    by_cases hlv : live a0 = true
    · rw [List.filter_cons_of_pos hlv] at hf
      obtain ⟨l1, l2, hlc, hd1, _, hf2⟩ := List.filter_eq_cons_iff.mp hf.symm
      subst hlc
      rw [List.foldl_append]
      simp only [List.foldl_cons]
      obtain ⟨h1, e1⟩ := fold_dead_left hl l1 accc (fun o ho => by simpa using hd1 o ho) h.symm
      obtain ⟨h3, e3⟩ := orphanStep_live_both hl acca _ a0 hlv h1.symm (h2.trans e1.symm)
      exact ih l2 _ _ hf2.symm h3 e3
    · have hd : live a0 = false := by simpa using hlv
      rw [List.filter_cons_of_neg hlv] at hf
      simp only [List.foldl_cons]
      obtain ⟨h1, e1⟩ := orphanStep_dead_left hl acca a0 hd h
      exact ih lc _ accc hf h1 (e1.trans h2)

theorem orphanRound_sim {p : Params} {N : Node} {live : Nat → Bool} {a c : Node}
    (hl : LiveOK p N live) (h : Sim p N live a c) (height : Nat) :
    Sim p N live (orphanRound p a height).1 (orphanRound p c height).1 ∧
    (orphanRound p a height).2 = (orphanRound p c height).2 := by
  unfold orphanRound
  have hh : ∀ o, c.heightOf o = a.heightOf o := fun o => (heightOf_congr h.core.blks o).symm
  -- filtering by `live` and by a height commute: the pools agree on the live entries of every height
  have hcomm : ∀ (q : Nat → Bool) (l : List Nat), l.filter (fun x => live x && q x) = (l.filter live).filter q :=
    fun q l => by rw [List.filter_filter]; congr 1; funext x; rw [Bool.and_comm]
  apply fold_sim hl
  · simp only [hh, List.filter_filter, hcomm, h.pool]
  · refine ⟨h.rana.orphans _, h.ranc.orphans _, ((CoreEq.orphans a _).trans h.core).trans (CoreEq.orphans c _).symm,
      h.hdrs, ?_⟩
    show (a.orphans.filter _).filter live = (c.orphans.filter _).filter live
    simp only [hh, List.filter_filter, hcomm, h.pool]
  · rfl

theorem checkOrphans_sim {p : Params} {N : Node} {live : Nat → Bool} (hl : LiveOK p N live)
    (fuel : Nat) : ∀ (a c : Node) (height : Nat), Sim p N live a c →
    Sim p N live (checkOrphans p fuel a height) (checkOrphans p fuel c height) := by
  induction fuel with
  | zero => intro a c _ h; exact h
  | succ k ih =>
    intro a c height h
    rw [checkOrphans_succ, checkOrphans_succ]
    obtain ⟨h1, e1⟩ := orphanRound_sim hl h height
    rw [e1]
    cases (orphanRound p c height).2 with
    | none => exact h1
    | some hAcc => exact ih _ _ _ h1


theorem deliverBlock_sim {p : Params} {N : Node} {live : Nat → Bool} {a c : Node}
    (hl : LiveOK p N live) (h : Sim p N live a c) (b : Blk) (hb : a.blk b.id = some b) :
    Sim p N live (deliverBlock p a b).1 (deliverBlock p c b).1 ∧
    (live b.id = true → (deliverBlock p a b).2 = (deliverBlock p c b).2) := by
  have hbc := h.core.blk_some hb
  by_cases hlv : live b.id = true
  · obtain ⟨hs, hr⟩ := h.live_both hl b hb hlv
    rcases deliverBlock_cases p a b with ⟨e, he, hda⟩ | ⟨hne, hda⟩ <;>
      rcases deliverBlock_cases p c b with ⟨e', he', hdc⟩ | ⟨hne', hdc⟩ <;> rw [hda, hdc]
    · exact ⟨hs, fun _ => hr⟩
    · exact absurd (hr ▸ he) (hne' e)
    · exact absurd (hr ▸ he') (hne e')
    · rw [show (processBlockSingle p a b).1.blks.length = (processBlockSingle p c b).1.blks.length by
        rw [hs.core.blks]]
      exact ⟨checkOrphans_sim hl _ _ _ _ hs, fun _ => hr⟩
  · have hd : live b.id = false := by simpa using hlv
    obtain ⟨hs1, e1, he1⟩ := h.dead_left hl b hb hd
    obtain ⟨hs2, e2, he2⟩ := hs1.symm.dead_left hl b hbc hd
    rw [deliverBlock_of_err p a b e1 he1, deliverBlock_of_err p c b e2 he2]
    exact ⟨hs2.symm, fun x => absurd x hlv⟩

theorem Sim.header_both {p : Params} {N : Node} {live : Nat → Bool} {a c a1 c1 : Node}
    (h : Sim p N live a c) (b : Blk) (hb : a.blk b.id = some b)
    (ha : processHeader p a b = .ok a1) (hc : processHeader p c b = .ok c1) : Sim p N live a1 c1 := by
  have hbc := h.core.blk_some hb
  have hfa := CoreEq.of_header ha
  refine ⟨h.rana.header hb ha, h.ranc.header hbc hc, hfa.trans (h.core.trans (CoreEq.of_header hc).symm), ?_,
    by rw [processHeader_orphans ha, processHeader_orphans hc]; exact h.pool⟩
  intro z hz
  rw [processHeader_headers_iff h.rana.inv.store ha z, processHeader_headers_iff h.ranc.inv.store hc z, h.hdrs z hz]

theorem Sim.header_dead_left {p : Params} {N : Node} {live : Nat → Bool} {a c a1 : Node}
    (h : Sim p N live a c) (b : Blk) (hb : a.blk b.id = some b)
    (ha : processHeader p a b = .ok a1) (hd : live b.id = false) : Sim p N live a1 c := by
  have hfa := CoreEq.of_header ha
  refine ⟨h.rana.header hb ha, h.ranc, hfa.trans h.core, ?_, by rw [processHeader_orphans ha]; exact h.pool⟩
  intro z hz
  rw [processHeader_headers_iff h.rana.inv.store ha z, ← h.hdrs z hz]
  refine ⟨fun h1 => h1.elim id fun h1 => ?_, Or.inl⟩
  rw [h1, hd] at hz
  cases hz

theorem deliverHeader_sim {p : Params} {N : Node} {live : Nat → Bool} {a c : Node}
    (hl : LiveOK p N live) (h : Sim p N live a c) (b : Blk) (hb : a.blk b.id = some b) :
    Sim p N live (deliverHeader p a b).1 (deliverHeader p c b).1 := by
  have hbc := h.core.blk_some hb
  have hbN : N.blk b.id = some b := by rw [← h.rana.blk]; exact hb
  -- on a live header the gate decides alike on both sides
  have hdead : ∀ {x y : Node} {x1 : Node} {e : Err}, Sim p N live x y → x.blk b.id = some b →
      processHeader p x b = .ok x1 → processHeader p y b = .error e → live b.id = false := by
    intro x y x1 e hxy hbx hx hy
    have hby := hxy.core.blk_some hbx
    apply Bool.eq_false_iff.mpr
    intro hlv
    have hg := gateErr_congr p hxy.core b fun par hpar =>
      hxy.hdrs par (hl.parent b par hbN hpar hlv)
    cases hgx : gateErr p x b with
    | some e' => rw [(processHeader_gateErr p x b hbx hxy.rana.inv.store).1 e' hgx] at hx; cases hx
    | none =>
      obtain ⟨y1, hy1⟩ := (processHeader_gateErr p y b hby hxy.ranc.inv.store).2 (hg ▸ hgx)
      rw [hy] at hy1; cases hy1
  unfold deliverHeader
  cases ha : processHeader p a b with
  | error e =>
    cases hc : processHeader p c b with
    | error e' => exact h
    | ok c1 => exact (h.symm.header_dead_left b hbc hc (hdead h.symm hbc hc ha)).symm
  | ok a1 =>
    cases hc : processHeader p c b with
    | error e' => exact h.header_dead_left b hb ha (hdead h hb ha hc)
    | ok c1 => exact h.header_both b hb ha hc

theorem step_sim {p : Params} {N : Node} {live : Nat → Bool} {a c : Node}
    (hl : LiveOK p N live) (h : Sim p N live a c) (e : Event) (hb : a.blk e.blk.id = some e.blk) :
    Sim p N live (step p a e) (step p c e) := by
  cases e with
  | block b => exact (deliverBlock_sim hl h b hb).1
  | header b => exact deliverHeader_sim hl h b hb

theorem run_sim {p : Params} {N : Node} {live : Nat → Bool} (hl : LiveOK p N live)
    (es : List Event) (a c : Node) (h : Sim p N live a c) (hreg : Registered a es) :
    Sim p N live (run p a es) (run p c es) :=
  List.foldl_rel (r := Sim p N live) h fun e he _ _ hxy =>
    step_sim hl hxy e ((blk_congr (hxy.rana.blks.trans h.rana.blks.symm) _).trans (hreg e he))


open Classical in
noncomputable def liveVOP (p : Params) (N : Node) : Nat → Bool := fun z => decide (VOP p N z)

theorem liveVOP_iff {p : Params} {N : Node} {z : Nat} : liveVOP p N z = true ↔ VOP p N z := by
  simp [liveVOP]

theorem liveVOP_ok (p : Params) (N : Node) (hg : ∀ g, N.blk 0 = some g → g.parent = none) :
    LiveOK p N (liveVOP p N) where
  parent := by
    intro b par hb hpar hl
    have hv : VOP p N b.id := liveVOP_iff.mp hl
    have h0 : b.id ≠ 0 := by
      intro h0
      rw [h0] at hb
      rw [hg b hb] at hpar; cases hpar
    obtain ⟨par', _, hp', hvp, _, _⟩ := hv.inv hb h0
    rw [hpar] at hp'; cases hp'
    exact liveVOP_iff.mpr hvp
  dead := by
    intro z hz
    exact fun hv => Bool.eq_false_iff.mp hz (liveVOP_iff.mpr hv)

/-- **a node that saw a rejected block is similar to the node before** — provided the rejection
was a validation failure or an unknown parent header, not a parked orphan: the block's parent is
stored, or its header is not known -/
theorem reject_sim (p : Params) (n : Node) (r : Blk) (e : Err) (hi : Inv p n)
    (hr : n.blk r.id = some r)
    (hrej : (processBlockSingle p n r).2 = .err e)
    (hpar : ∀ par, r.parent = some par → par ∈ n.stored ∨ par ∉ n.headers) :
    Sim p n (liveVOP p n) (processBlockSingle p n r).1 n := by
  refine ⟨(Ran.mk rfl rfl hi).single hr, ⟨rfl, rfl, hi⟩, .of_err hrej, ?_, ?_⟩
  · intro h hl
    constructor
    · intro hm
      rcases pbs_headers_sub p n r h hm with h1 | h1
      · exact h1
      · subst h1
        -- a valid-on-path block whose header was not known cannot have been rejected
        by_cases hin : r.id ∈ n.headers
        · exact hin
        · exfalso
          have hv : VOP p n r.id := liveVOP_iff.mp hl
          have hns : r.id ∉ n.stored := fun x => hin (hi.hdr.stored _ x)
          have h0 : r.id ≠ 0 := fun x => hns (x ▸ hi.closed.zero)
          obtain ⟨par, s', hp, _, hok, hc⟩ := hv.inv hr h0
          rcases hpar par hp with hps | hph
          · obtain ⟨n1, _, hst⟩ := processBlockSingle_stores p n r par s'
              (mt (knownFull_stored hi.closed) hns) hp hps (hi.hdr.stored par hps) hok hc
            rw [hst] at hrej
            exact storeBlock_ok n1 r e hrej
          · -- unknown parent header: the gate fails and nothing changes
            have hge := gateErr_of_unknown_parent p (mt (knownFull_stored hi.closed) hns) hp hph
            have := (processHeader_gateErr p n r hr hi.2).1 _ hge
            have hsame : (processBlockSingle p n r).1 = n := by
              simp only [processBlockSingle, this]
            rw [hsame] at hm
            exact hin hm
    · exact pbs_headers_mono p n r h
  · rw [pbs_orphans_iff p n r hr hi.2]
    split
    · rename_i hc
      exfalso
      obtain ⟨par, hp, _, hps⟩ := precheck_orphan n r hc.2
      rcases hpar par hp with h1 | h1
      · exact hps h1
      · by_cases hk : KnownFull n r
        · exact hps (hi.closed.parent r.id (knownFull_stored hi.closed hk) r par hr hp)
        · have hge := gateErr_of_unknown_parent p hk hp h1
          rw [hge] at hc
          cases hc.1
    · rfl

theorem reject_run_sim (p : Params) (n : Node) (r : Blk) (e : Err) (hi : Inv p n)
    (hg : ∀ g, n.blk 0 = some g → g.parent = none) (hr : n.blk r.id = some r)
    (hrej : (processBlockSingle p n r).2 = .err e)
    (hpar : ∀ par, r.parent = some par → par ∈ n.stored ∨ par ∉ n.headers)
    (es : List Event) (hreg : Registered n es) :
    Sim p n (liveVOP p n) (run p (processBlockSingle p n r).1 es) (run p n es) :=
  run_sim (liveVOP_ok p n hg) es _ _ (reject_sim p n r e hi hr hrej hpar)
    (hreg.congr (processBlockSingle_defs p n r).1)

theorem reject_bisim (p : Params) (n : Node) (r : Blk) (e : Err) (hi : Inv p n)
    (hg : ∀ g, n.blk 0 = some g → g.parent = none) (hr : n.blk r.id = some r)
    (hrej : (processBlockSingle p n r).2 = .err e)
    (hpar : ∀ par, r.parent = some par → par ∈ n.stored ∨ par ∉ n.headers)
    (es : List Event) (hreg : Registered n es) :
    obsBest p (run p (processBlockSingle p n r).1 es) = obsBest p (run p n es) :=
  (reject_run_sim p n r e hi hg hr hrej hpar es hreg).core.obsBest p

end GV.Chain
