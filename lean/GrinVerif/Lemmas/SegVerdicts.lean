import GrinVerif.Lemmas.SegInj
/-! What `root`, `first_unpruned_parent`, `validate`, `validate_with` answer for ANY segment,
identifier, size and bitmap (C16), stated on `rootWith`, `fupWith`, `validateAt`, `validateWithAt`
(the identifier arithmetic taken out); `root_no_panic`, `root_none_some`, `leafless_no_bitmap`
carry them to `Segment.root` and the three functions above it.
* Never a panic (repaired `Segment::root`, commit 22ca8fd14): the one remaining `unwrap`
  (`bitmap.unwrap()` in `first_unpruned_parent`) is only reached when `root` returned `None`, which
  needs a bitmap.
* `first_unpruned_parent` climbs from the segment's last position to an ancestor only across
  subtrees in which the bitmap has no bit set: the hash of a pruned subtree that the validation
  accepts in place of a completely pruned segment covers spent leaves only.
* Segments that carry no leaves, validated without a bitmap (`bitmap = None`: the kernel MMR and the
  bitmap MMR are not prunable): the first position of the range is a leaf, its data is required
  (`bitmap.map(..).unwrap_or(true)`), the shared leaf iterator is empty — `Segment::root` answers
  `MissingLeaf(first)` before it looks at any hash or at the proof, and so do the other three.
Core Lean only. -/
namespace GV.Seg
open GV GV.Pmmr

variable {α H : Type}

def allSome (stk : List (Option H)) : Prop := ∀ o ∈ stk, o ≠ none

theorem rootStep_allSome (hf : HashFn α H) (s : Segment α H) (size p : Nat) (st st' : RootSt α H)
    (h : rootStep hf s none size st p = .ok st') (ha : allSome st.1) : allSome st'.1 := by
  rcases rootStep_ok hf s none size p st st' h with
    ⟨_, _, x, it', _, rfl⟩ | ⟨_, hr, _⟩ | ⟨_, r, l, rest, v, hst, hn, rfl⟩
  · intro o ho
    rcases List.mem_cons.1 ho with rfl | ho'
    · simp
    · exact ha o ho'
  · cases hr
  · -- without a bitmap a node is pushed only over two present children
    rw [hst] at ha
    intro o ho
    rcases List.mem_cons.1 ho with rfl | ho'
    · cases l <;> cases r <;> simp [nodeEntry] at hn
      rw [← hn]; simp
    · exact ha o (List.mem_cons_of_mem _ (List.mem_cons_of_mem _ ho'))

theorem rootLoop_allSome (hf : HashFn α H) (s : Segment α H) (size : Nat) :
    ∀ (ps : List Nat) (st st' : RootSt α H), rootLoop hf s none size st ps = .ok st' →
      allSome st.1 → allSome st'.1 := by
  intro ps
  induction ps with
  | nil => intro st st' h ha; simp only [rootLoop, Res.ok.injEq] at h; subst h; exact ha
  | cons p ps ih =>
    intro st st' h ha
    obtain ⟨m, hs, h⟩ := rootLoop_cons_ok hf s none size p ps st st' h
    exact ih m st' h (rootStep_allSome hf s size p st m hs ha)

theorem nodeEntry_no_panic (hf : HashFn α H) (s : Segment α H) (bm : Option (Nat → Bool)) (p : Nat)
    (l r : Option H) : nodeEntry hf s bm p l r ≠ .panic := by
  cases l <;> cases r <;> simp only [nodeEntry]
  · split <;> simp
  · have := getHash_no_panic s (1 + p - 2 ^ height p - 1)
    split
    · split <;> simp_all
    · simp
  · have := getHash_no_panic s (p - 1)
    split
    · split <;> simp_all
    · simp
  · simp

theorem rootStep_no_panic (hf : HashFn α H) (s : Segment α H) (bm : Option (Nat → Bool)) (size p : Nat)
    (st : RootSt α H) : rootStep hf s bm size st p ≠ .panic := by
  obtain ⟨stk, it⟩ := st
  by_cases hh : height p = 0
  · simp only [rootStep, hh, if_true]
    split
    · split <;> simp
    · simp
  · match stk with
    | [] => simp [rootStep, hh]
    | [_] => simp [rootStep, hh]
    | r :: l :: rest =>
      rw [rootStep_inner hf s bm size p hh]
      have := nodeEntry_no_panic hf s bm p l r
      split <;> simp_all

theorem rootLoop_no_panic (hf : HashFn α H) (s : Segment α H) (bm : Option (Nat → Bool)) (size : Nat) :
    ∀ (ps : List Nat) (st : RootSt α H), rootLoop hf s bm size st ps ≠ .panic := by
  intro ps
  induction ps with
  | nil => intro st; simp [rootLoop]
  | cons p ps ih =>
    intro st
    simp only [rootLoop]
    cases hs : rootStep hf s bm size st p with
    | err e => simp
    | panic => exact absurd hs (rootStep_no_panic hf s bm size p st)
    | ok m => exact ih m

theorem bagPeaks_no_panic (hf : HashFn α H) (s : Segment α H) (bm : Option (Nat → Bool)) (size : Nat) :
    ∀ (pks : List Nat) (stk : List (Option H)) (acc : Option H),
      bagPeaks hf s bm size stk acc pks ≠ .panic := by
  intro pks
  induction pks with
  | nil => intro stk acc; simp [bagPeaks]
  | cons p ps ih =>
    intro stk acc
    match stk with
    | [] => simp [bagPeaks]
    | some l :: stk' => rw [bagPeaks_cons_some]; exact ih _ _
    | none :: stk' =>
      rw [bagPeaks_cons_none]
      split
      · cases hg : s.getHash p with
        | ok h => exact ih _ _
        | err e => simp
        | panic => exact absurd hg (getHash_no_panic s p)
      · simp

theorem bagPeaks_none_some (hf : HashFn α H) (s : Segment α H) (size : Nat) :
    ∀ (pks : List Nat) (stk : List (Option H)) (acc : Option H) (o : Option H),
      bagPeaks hf s none size stk acc pks = .ok o → acc ≠ none ∨ pks ≠ [] → o ≠ none := by
  intro pks
  induction pks with
  | nil =>
    intro stk acc o h hne
    simp only [bagPeaks, Res.ok.injEq] at h
    subst h
    rcases hne with h | h
    · exact h
    · exact absurd rfl h
  | cons p ps ih =>
    intro stk acc o h _
    match stk with
    | [] => simp [bagPeaks] at h
    | none :: stk' => rw [bagPeaks_cons_none] at h; simp at h
    | some l :: stk' =>
      rw [bagPeaks_cons_some] at h
      exact ih _ _ o h (Or.inl (by simp))

theorem rootFinish_no_panic (hf : HashFn α H) (s : Segment α H) (bm : Option (Nat → Bool)) (size : Nat)
    (full : Bool) (pks : List Nat) (stk : List (Option H)) :
    rootFinish hf s bm size full pks stk ≠ .panic := by
  unfold rootFinish
  split
  · split <;> simp
  · have := bagPeaks_no_panic hf s bm size pks stk none
    split <;> simp_all

theorem rootWith_no_panic (hf : HashFn α H) (s : Segment α H) (bm : Option (Nat → Bool)) (size : Nat)
    (ps : List Nat) (full : Bool) (pks : List Nat) : rootWith hf s size bm ps full pks ≠ .panic := by
  unfold rootWith
  cases hl : rootLoop hf s bm size ([], s.leafPos.zip s.leafData) ps with
  | ok st => exact rootFinish_no_panic hf s bm size full pks st.1
  | err e => simp
  | panic => exact absurd hl (rootLoop_no_panic hf s bm size ps _)

theorem rootWith_none_some (hf : HashFn α H) (s : Segment α H) (size : Nat)
    (ps : List Nat) (full : Bool) (pks : List Nat) : rootWith hf s size none ps full pks ≠ .ok none := by
  intro h
  obtain ⟨st, hl, hfin⟩ := rootWith_ok hf s size none ps full pks none h
  have ha : allSome st.1 := rootLoop_allSome hf s size ps _ st hl (by intro o ho; cases ho)
  cases full with
  | true =>
    -- the result is the top of a stack without `None`
    cases hst : st.1 with
    | nil => simp [rootFinish, hst] at hfin
    | cons v rest =>
      simp only [rootFinish, hst, if_true, Res.ok.injEq] at hfin
      exact ha v (by rw [hst]; exact List.mem_cons_self) hfin
  | false =>
    obtain ⟨x, _, hx⟩ := rootFinish_bag_ok hf s none size pks st.1 none hfin
    cases hx

theorem fupLoop_no_panic (s : Segment α H) (b : Nat → Bool) (nl : Nat) :
    ∀ (fb : List (Nat × Nat)) (pos0 : Nat), fupLoop s b nl pos0 fb ≠ .panic := by
  intro fb
  induction fb with
  | nil =>
    intro pos0
    simp only [fupLoop]
    cases hg : s.getHash pos0 with
    | ok h => simp
    | err e => simp
    | panic => exact absurd hg (getHash_no_panic s pos0)
  | cons x rest ih =>
    intro pos0
    obtain ⟨p0, s0⟩ := x
    simp only [fupLoop]
    cases hg : s.getHash pos0 with
    | ok h => simp
    | panic => exact absurd hg (getHash_no_panic s pos0)
    | err e =>
      simp only
      split
      · exact ih p0
      · simp

theorem root_no_panic (hf : HashFn α H) (s : Segment α H) (size : Nat) (bm : Option (Nat → Bool)) :
    s.root hf size bm ≠ .panic := by
  by_cases hz : s.id.unprunedSize size = 0
  · rw [root_of_empty hf s size bm hz]; simp
  · rw [root_of_nonempty hf s size bm hz]; exact rootWith_no_panic hf s bm size _ _ _

theorem root_none_some (hf : HashFn α H) (s : Segment α H) (size : Nat) :
    s.root hf size none ≠ .ok none := by
  by_cases hz : s.id.unprunedSize size = 0
  · rw [root_of_empty hf s size none hz]; simp
  · rw [root_of_nonempty hf s size none hz]; exact rootWith_none_some hf s size _ _ _

theorem fupWith_no_panic (s : Segment α H) (size : Nat) (bm : Option (Nat → Bool))
    (rootRes : Res (Option H)) (last : Nat) (h1 : rootRes ≠ .panic)
    (h2 : bm = none → rootRes ≠ .ok none) : fupWith s size bm rootRes last ≠ .panic := by
  unfold fupWith
  cases rootRes with
  | panic => exact absurd rfl h1
  | err e => simp
  | ok o =>
    cases o with
    | some v => simp
    | none =>
      cases bm with
      | none => exact absurd rfl (h2 rfl)
      | some b => exact fupLoop_no_panic s b _ _ _

theorem validateAt_no_panic (hf : HashFn α H) [DecidableEq H] (proof : List H) (size : Nat)
    (mmrRoot : H) (first last : Nat) (fup : Res (H × Nat)) (h : fup ≠ .panic) :
    validateAt hf proof size mmrRoot first last fup ≠ .panic := by
  unfold validateAt
  cases fup with
  | panic => exact absurd rfl h
  | err e => simp
  | ok x =>
    obtain ⟨v, u⟩ := x
    simp only
    unfold proofValidate
    cases hr : reconstructRoot hf proof size first last v u with
    | panic => exact absurd hr (reconstructRoot_no_panic hf _ _ _ _ _ _)
    | err e => simp
    | ok y => simp only; split <;> simp

theorem validateWithAt_no_panic (hf : HashFn α H) [DecidableEq H] (proof : List H) (size : Nat)
    (mmrRoot : H) (first last : Nat) (fup : Res (H × Nat)) (hlp : Nat) (other : H) (left : Bool)
    (h : fup ≠ .panic) :
    validateWithAt hf proof size mmrRoot first last fup hlp other left ≠ .panic := by
  unfold validateWithAt
  cases fup with
  | panic => exact absurd rfl h
  | err e => simp
  | ok x =>
    obtain ⟨v, u⟩ := x
    simp only
    unfold proofValidateWith
    cases hr : reconstructRoot hf proof size first last v u with
    | panic => exact absurd hr (reconstructRoot_no_panic hf _ _ _ _ _ _)
    | err e => simp
    | ok y => simp only; split <;> split <;> simp

/-- the leaf-index range `first_unpruned_parent` hands to `bitmap.range_cardinality` for the
subtree below `p0` -/
def subtreeLeafRange (p0 nLeavesTotal : Nat) : Nat × Nat :=
  (nLeaves (1 + bintreeLeftmost p0) - 1, min (nLeaves (1 + bintreeRightmost p0)) nLeavesTotal)

theorem fupLoop_ok (s : Segment α H) (b : Nat → Bool) (nl : Nat) :
    ∀ (fb : List (Nat × Nat)) (pos0 : Nat) (h : H) (u : Nat),
      fupLoop s b nl pos0 fb = .ok (h, u) →
      s.getHash (u - 1) = .ok h ∧
      (u = 1 + pos0 ∨
        ∃ x ∈ fb, u = 1 + x.1 ∧
          rangeCard b (subtreeLeafRange x.1 nl).1 (subtreeLeafRange x.1 nl).2 = 0) := by
  have start : ∀ (fb : List (Nat × Nat)) (pos0 : Nat) (h h' : H) (u : Nat),
      s.getHash pos0 = .ok h' → fupLoop s b nl pos0 fb = .ok (h, u) →
      s.getHash (u - 1) = .ok h ∧ u = 1 + pos0 := by
    intro fb pos0 h h' u hg hr
    rw [fupLoop_first s b nl pos0 fb h' hg] at hr
    cases hr
    exact ⟨by simpa using hg, rfl⟩
  intro fb
  induction fb with
  | nil =>
    intro pos0 h u hr
    cases hg : s.getHash pos0 with
    | ok h' => exact (start [] pos0 h h' u hg hr).imp id Or.inl
    | err e => simp [fupLoop, hg] at hr
    | panic => simp [fupLoop, hg] at hr
  | cons x rest ih =>
    intro pos0 h u hr
    obtain ⟨p0, s0⟩ := x
    cases hg : s.getHash pos0 with
    | ok h' => exact (start _ pos0 h h' u hg hr).imp id Or.inl
    | panic => simp [fupLoop, hg] at hr
    | err e =>
      simp only [fupLoop, hg] at hr
      split at hr
      · rename_i hc
        obtain ⟨g, hcases⟩ := ih p0 h u hr
        refine ⟨g, Or.inr ?_⟩
        rcases hcases with he | ⟨y, hy, hu, hcard⟩
        · exact ⟨(p0, s0), List.mem_cons_self, he, hc⟩
        · exact ⟨y, List.mem_cons_of_mem _ hy, hu, hcard⟩
      · cases hr

theorem fupLoop_skip (s : Segment α H) (b : Nat → Bool) (nl a s0 : Nat) (x : H) (rest : List (Nat × Nat))
    (hget : s.getHash a = .ok x)
    (hcard : rangeCard b (subtreeLeafRange a nl).1 (subtreeLeafRange a nl).2 = 0) :
    ∀ (pre : List (Nat × Nat)) (p0 : Nat), (∃ e, s.getHash p0 = .err e) →
      (∀ y ∈ pre, (∃ e, s.getHash y.1 = .err e) ∧
        rangeCard b (subtreeLeafRange y.1 nl).1 (subtreeLeafRange y.1 nl).2 = 0) →
      fupLoop s b nl p0 (pre ++ (a, s0) :: rest) = .ok (x, 1 + a) := by
  intro pre
  induction pre with
  | nil =>
    intro p0 ⟨e, h0⟩ _
    simp only [List.nil_append, fupLoop, h0]
    exact (if_pos hcard).trans (fupLoop_first s b nl a rest x hget)
  | cons y pre ih =>
    intro p0 ⟨e, h0⟩ hpre
    obtain ⟨hy, cy⟩ := hpre y (List.mem_cons_self ..)
    obtain ⟨p1, s1⟩ := y
    simp only [List.cons_append, fupLoop, h0]
    exact (if_pos cy).trans (ih p1 hy fun z hz => hpre z (List.mem_cons_of_mem _ hz))

theorem rangeCard_zero (b : Nat → Bool) (lo hi : Nat) (h : rangeCard b lo hi = 0) :
    ∀ i, lo % 2 ^ 32 ≤ i → i < hi % 2 ^ 32 → b i = false := by
  intro i h1 h2
  unfold rangeCard at h
  simp only [List.countP_eq_zero] at h
  have hm : i ∈ List.range' (lo % 2 ^ 32) (hi % 2 ^ 32 - lo % 2 ^ 32) := by
    rw [List.mem_range'_1]; omega
  have := h i hm
  simpa using this

theorem rootLoop_leafless (hf : HashFn α H) (s : Segment α H) (size p : Nat) (ps : List Nat)
    (stk : List (Option H)) (hp : height p = 0) :
    rootLoop hf s none size (stk, []) (p :: ps) = .err (.missingLeaf p) := by
  simp [rootLoop, rootStep, hp, required, iterFind]

theorem rootWith_leafless (hf : HashFn α H) (s : Segment α H) (size p : Nat) (ps : List Nat)
    (full : Bool) (pks : List Nat) (hno : s.leafPos = [] ∨ s.leafData = []) (hp : height p = 0) :
    rootWith hf s size none (p :: ps) full pks = .err (.missingLeaf p) := by
  unfold rootWith
  rw [List.zip_eq_nil_iff.2 hno, rootLoop_leafless hf s size p ps [] hp]

theorem rootWith_empty_range (hf : HashFn α H) (s : Segment α H) (size : Nat)
    (bm : Option (Nat → Bool)) (full : Bool) :
    rootWith hf s size bm [] full [] = .err .nonExistent := by
  cases full <;> simp [rootWith, rootLoop, rootFinish, bagPeaks]

theorem peaksIn_of_empty_range (id : Ident) (size : Nat) (h : id.positions size = []) :
    id.peaksIn size = [] := by
  unfold Ident.positions at h
  unfold Ident.peaksIn
  have hlen : (id.posRange size).2 + 1 - (id.posRange size).1 = 0 := by
    have := congrArg List.length h
    simpa using this
  rw [List.reverse_eq_nil_iff, List.filter_eq_nil_iff]
  intro p _
  simp only [Bool.and_eq_true, decide_eq_true_eq, not_and]
  omega

theorem leafless_no_bitmap (hf : HashFn α H) [DecidableEq H] (s : Segment α H) (size : Nat)
    (mmrRoot : H) (hlp : Nat) (other : H) (left : Bool) (p : Nat) (ps : List Nat)
    (hno : s.leafPos = [] ∨ s.leafData = []) (hex : s.id.unprunedSize size ≠ 0)
    (hpos : s.id.positions size = p :: ps) (hp : height p = 0) :
    s.root hf size none = .err (.missingLeaf p) ∧
    s.firstUnprunedParent hf size none = .err (.missingLeaf p) ∧
    s.validate hf size none mmrRoot = .err (.missingLeaf p) ∧
    s.validateWith hf size none mmrRoot hlp other left = .err (.missingLeaf p) := by
  have hr : s.root hf size none = .err (.missingLeaf p) := by
    rw [root_of_nonempty hf s size none hex, hpos]
    exact rootWith_leafless hf s size p ps _ _ hno hp
  exact ⟨hr, calls_of_root_err hf s size none mmrRoot hlp other left _ hr⟩

end GV.Seg
