import GrinVerif.Lemmas.ChainExamples
import GrinVerif.Lemmas.ChainOrphan
/-! Facts about the example tree of `Lemmas/ChainExamples.lean` used by the non-vacuity examples (`Ex`),
and a second tree with a reorganisation for the history-level theorems of C02 / C06 / C01 (`Ex2`). -/
namespace GV.Chain.Ex
open GV GV.Chain

theorem ex_fresh : Fresh N := .init (genesis_root_of (G := G) rfl rfl)

theorem ex_vop1 : VOP P N 1 := .child B1 0 _ rfl rfl .genesis ⟨0, G, rfl, rfl, rfl, rfl, by decide, rfl⟩ rfl

theorem ex_vop3 : VOP P N 3 := .child B3 1 _ rfl rfl ex_vop1 ⟨1, B1, rfl, rfl, rfl, rfl, by decide, rfl⟩ rfl

/-- block 9 is not valid on its path: it spends an output that never existed -/
theorem ex_not_vop9 : ¬ VOP P N 9 := by
  intro hv
  obtain ⟨par, s', hpar, _, _, hc⟩ := VOP.inv (b := B9) hv rfl (by decide)
  obtain rfl : par = 1 := (Option.some.inj hpar).symm
  -- `checkBlock P N B9 1` computes to an error (the input 999 is not unspent after block 1), so `hc`,
  -- which equates it with `.ok s'`, has no case
  cases hc

/-- parents first, with an invalid block and a duplicate in between -/
def ex_es₁ : List Event := [.block B2, .block B1, .block B9, .block B3, .block B1]

theorem ex_reg₁ : Registered N ex_es₁ :=
  .cons rfl (.cons rfl (.cons rfl (.cons rfl (.cons rfl (.nil _)))))

theorem ex_pf₁ : ParentsFirst [] ex_es₁ := by
  simp [ex_es₁, ParentsFirst, B1, B2, B3, B9]

/-- 3 has the most work among the delivered blocks that are valid on their path -/
theorem ex_unique₁ : ∀ id, VOP P N id → (id = 0 ∨ id ∈ blockIds ex_es₁) → id ≠ 3 →
    N.workOf id < N.workOf 3 := by
  intro id hv hd hne
  simp only [ex_es₁, blockIds, B1, B2, B3, B9, List.mem_cons, List.not_mem_nil, or_false] at hd
  rcases hd with rfl | rfl | rfl | rfl | rfl | rfl
  · decide
  · decide
  · decide
  · exact absurd hv ex_not_vop9
  · exact absurd rfl hne
  · decide

/-- children before parents: 3 arrives first and waits in the orphan pool -/
def ex_es₂ : List Event := [.block B3, .block B2, .block B1]

def ex_N₂ : Node := run P N [.header B1, .header B3, .header B2]

theorem ex_headersOnly : HeadersOnly P ex_N₂ :=
  HeadersOnly.after_headers P N [B1, B3, B2] ex_fresh (.cons rfl (.cons rfl (.cons rfl (.nil _))))

theorem ex_reg₂ : Registered ex_N₂ ex_es₂ :=
  .cons rfl (.cons rfl (.cons rfl (.nil _)))

theorem ex_reach3 : Reach P ex_N₂ (blockIds ex_es₂) 3 :=
  .child B3 1 ⟨rfl, rfl, ⟨1, B1, rfl, rfl, rfl, rfl, by decide, rfl⟩, _, rfl⟩
    (.child B1 0 ⟨rfl, rfl, ⟨0, G, rfl, rfl, rfl, rfl, by decide, rfl⟩, _, rfl⟩ .genesis (by decide))
    (by decide)

end GV.Chain.Ex

/-! A concrete block tree with a reorganisation for the non-vacuity examples of the history-level
theorems of C02 / C06 / C01:

    0 ── 1            a1: spends the genesis output 100, creates 111 (coinbase) and 112
    │    ├── 2        a2: tries to spend 100 again (double spend across blocks on the same path)
    │    └── 3        a3: repeats 112 among its own inputs (double spend within the block)
    └── 11 ── 12      b1 (heavier than a1), b2: spends 100 again after the reorganisation
         ├── 13       b3: spends 112, which exists only on the a-fork
         ├── 14       b4: re-creates the unspent coinbase commitment 121
         └── 15       b5: carries a `sums:` tag (blinding-level fault found by the real code)
-/
namespace GV.Chain.Ex2

def P : Params := { maturity := 3, reward := 60, hfInterval := 3, maxOrphans := 100 }

def G : Blk := { id := 0, parent := none, h := 0, work := 1, ver := 1, ts := 0, ins := [],
                 outs := [(100, false)], kers := [.cb], tags := [] }
def A1 : Blk := { id := 1, parent := some 0, h := 1, work := 2, ver := 1, ts := 1, ins := [100],
                  outs := [(111, true), (112, false)], kers := [.cb, .plain 0], tags := [] }
def A2 : Blk := { id := 2, parent := some 1, h := 2, work := 9, ver := 1, ts := 2, ins := [100],
                  outs := [(113, true), (114, false)], kers := [.cb, .plain 0], tags := [] }
def A3 : Blk := { id := 3, parent := some 1, h := 2, work := 9, ver := 1, ts := 2, ins := [112, 112],
                  outs := [(115, true), (116, false)], kers := [.cb, .plain 0], tags := [] }
def B1 : Blk := { id := 11, parent := some 0, h := 1, work := 3, ver := 1, ts := 1, ins := [],
                  outs := [(121, true)], kers := [.cb], tags := [] }
def B2 : Blk := { id := 12, parent := some 11, h := 2, work := 4, ver := 1, ts := 2, ins := [100],
                  outs := [(131, true), (132, false)], kers := [.cb, .plain 0], tags := [] }
def B3 : Blk := { id := 13, parent := some 11, h := 2, work := 9, ver := 1, ts := 2, ins := [112],
                  outs := [(133, true), (134, false)], kers := [.cb, .plain 0], tags := [] }
def B4 : Blk := { id := 14, parent := some 11, h := 2, work := 9, ver := 1, ts := 2, ins := [],
                  outs := [(121, true)], kers := [.cb], tags := [] }
def B5 : Blk := { id := 15, parent := some 11, h := 2, work := 9, ver := 1, ts := 2, ins := [],
                  outs := [(135, true)], kers := [.cb], tags := ["sums:Block:KernelSumMismatch"] }

def outs : List OutDef :=
  [⟨100, false, 60⟩, ⟨111, true, 60⟩, ⟨112, false, 60⟩, ⟨113, true, 60⟩, ⟨114, false, 60⟩,
   ⟨115, true, 60⟩, ⟨116, false, 60⟩, ⟨121, true, 60⟩, ⟨131, true, 60⟩, ⟨132, false, 60⟩,
   ⟨133, true, 60⟩, ⟨134, false, 60⟩, ⟨135, true, 60⟩]

def N : Node := { outs := outs, blks := [G, A1, A2, A3, B1, B2, B3, B4, B5] }

/-- a1 becomes the head, then b1 takes over (reorganisation) -/
def esReorg : List Event := [.block A1, .block B1]

theorem fresh_N : Fresh N := .init (genesis_root_of (G := G) rfl rfl)

theorem reg_reorg : Registered N esReorg :=
  .cons rfl (.cons rfl (.nil _))

theorem reg_A1 : Registered N [.block A1] :=
  .cons rfl (.nil _)

/-- after a1 -/
def NA : Node := run P N [.block A1]
/-- after a1 and the reorganisation to b1 -/
def NB : Node := run P N esReorg

theorem NA_head : NA.head = 1 ∧ NA.reportedUtxo P = [111, 112] := by decide +kernel
theorem NB_head : NB.head = 11 ∧ NB.stored = [0, 1, 11] ∧ NB.reportedUtxo P = [100, 121] := by decide +kernel

theorem B5_sums : hasTag B5 "sums:" ≠ none := by decide +kernel

end GV.Chain.Ex2
