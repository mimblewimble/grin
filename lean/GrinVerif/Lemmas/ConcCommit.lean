import GrinVerif.Model.Conc
import GrinVerif.Lemmas.UtilList
/-! Lemmas for C17, commit-protocol model (`GV.Conc.Commit`): the invariant tying the shared state to the sequential
commit history, its preservation and the run-level consequences (`run_obs_committed`, `run_log_monotone`,
`run_obs_monotone`); then read-only extensions (`work_chain`) and the system extended by the PIBD staging step
(`PStep`, `PRun`) with their lemmas. -/
namespace GV.Conc.Commit
variable {D M : Type}

structure CInv (s0 : Shared D M) (s : St D M) : Prop where
  len : s.hist.length = s.k + 1
  /-- a thread inside a writer op holds the txhashset write lock -/
  lockW : ∀ tid, s.wr tid ≠ .idle → s.ts = .writer tid
  /-- outside the sync→commit window the shared state is the last committed state -/
  quiet : (∀ tid b w, s.wr tid ≠ .synced b w) → s.hist.head? = some s.sh
  /-- the LMDB half is always that of the last committed state -/
  dbok : ∃ c, s.hist.head? = some c ∧ s.sh.db = c.db
  /-- a running op started from the last committed state -/
  base : ∀ tid b w, (s.wr tid = .working b w ∨ s.wr tid = .synced b w) → s.hist.head? = some b
  serial : serialHist s0 s.bases s.hist

theorem CInv.hist_of_synced {s0 : Shared D M} {s : St D M} (hi : CInv s0 s) {tid : Nat} {b w : Shared D M}
    (hw : s.wr tid = .synced b w) : ∃ rest, s.hist = b :: rest := by
  have hb := hi.base tid b w (Or.inr hw)
  cases hh : s.hist with
  | nil => simp [hh] at hb
  | cons c rest => exact ⟨rest, by rw [hh] at hb; simp only [List.head?_cons, Option.some.injEq] at hb; rw [hb]⟩

theorem cinv_start (s0 : Shared D M) : CInv s0 (start s0) := by
  refine ⟨rfl, ?_, ?_, ⟨s0, rfl, rfl⟩, ?_, ?_⟩
  · intro tid h; exact absurd rfl h
  · intro _; rfl
  · intro tid b w h; rcases h with h | h <;> cases h
  · simp [start, serialHist]

theorem all_idle_of_not_writer {s0 : Shared D M} {s : St D M} (hi : CInv s0 s)
    (h : ∀ tid, s.ts ≠ .writer tid) : ∀ tid, s.wr tid = .idle :=
  fun tid => Classical.byContradiction fun hne => h tid (hi.lockW tid hne)

theorem only_writer {s0 : Shared D M} {s : St D M} (hi : CInv s0 s) {tid j : Nat}
    (ht : s.wr tid ≠ .idle) (hj : s.wr j ≠ .idle) : j = tid := by
  have a := hi.lockW tid ht
  have b := hi.lockW j hj
  rw [a] at b; injection b with b; exact b.symm

theorem others_idle {s0 : Shared D M} {s : St D M} (hi : CInv s0 s) {tid : Nat} (ht : s.wr tid ≠ .idle) :
    ∀ j, j ≠ tid → s.wr j = .idle :=
  fun _ hj => Classical.byContradiction fun h => hj (only_writer hi ht h)

theorem CInv.quiet_of {s0 : Shared D M} {s : St D M} (hi : CInv s0 s) {tid : Nat} (hne : s.wr tid ≠ .idle)
    (hns : ∀ b w, s.wr tid ≠ .synced b w) : s.hist.head? = some s.sh :=
  hi.quiet fun j b w e => by
    by_cases hj : j = tid
    · exact hns b w (hj ▸ e)
    · rw [others_idle hi hne j hj] at e; cases e

/-- with every other thread idle, the clauses about writer phases need checking for the new phase `x` of `tid` only -/
theorem CInv.of_single_writer {s0 : Shared D M} {s s' : St D M} (tid : Nat) (x : WPhase D M)
    (hwr : s'.wr = fun j => if j = tid then x else s.wr j) (hoth : ∀ j, j ≠ tid → s.wr j = .idle)
    (len : s'.hist.length = s'.k + 1) (lockW : x ≠ .idle → s'.ts = .writer tid)
    (quiet : (∀ b w, x ≠ .synced b w) → s'.hist.head? = some s'.sh)
    (dbok : ∃ c, s'.hist.head? = some c ∧ s'.sh.db = c.db)
    (base : ∀ b w, (x = .working b w ∨ x = .synced b w) → s'.hist.head? = some b)
    (serial : serialHist s0 s'.bases s'.hist) : CInv s0 s' := by
  have htid : s'.wr tid = x := by rw [hwr]; exact if_pos rfl
  have hj : ∀ j, j ≠ tid → s'.wr j = .idle := fun j hj => by rw [hwr]; exact (if_neg hj).trans (hoth j hj)
  refine ⟨len, fun j hne => ?_, fun hq => quiet (htid ▸ hq tid), dbok, fun j b w h => ?_, serial⟩
  · by_cases hjt : j = tid
    · subst hjt; exact lockW (htid ▸ hne)
    · exact absurd (hj j hjt) hne
  · by_cases hjt : j = tid
    · subst hjt; exact base b w (htid ▸ h)
    · rw [hj j hjt] at h
      rcases h with h | h <;> cases h

theorem CInv.set_ts {s0 : Shared D M} {s : St D M} (hi : CInv s0 s) (hnw : ∀ tid, s.ts ≠ .writer tid) (t : TsLock) :
    CInv s0 { s with ts := t } :=
  ⟨hi.len, fun j hj => absurd (all_idle_of_not_writer hi hnw j) hj, hi.quiet, hi.dbok, hi.base, hi.serial⟩

theorem cinv_step (s0 : Shared D M) (s s' : St D M) (o : Option (Obs D M)) (hi : CInv s0 s)
    (hs : CStep s o s') : CInv s0 s' := by
  cases hs with
  | wlock tid hfree hidle =>
    have hall := all_idle_of_not_writer hi (by simp [hfree])
    have hq := hi.quiet (by simp [hall])
    refine .of_single_writer tid _ rfl (fun j _ => hall j) hi.len (fun _ => rfl) (fun _ => hq) hi.dbok ?_ hi.serial
    rintro b w (h | h) <;> cases h
    exact hq
  | work tid b w f hw =>
    have hne : s.wr tid ≠ .idle := by simp [hw]
    refine .of_single_writer tid _ rfl (others_idle hi hne) hi.len (fun _ => hi.lockW tid hne)
      (fun _ => hi.quiet_of hne (by simp [hw])) hi.dbok ?_ hi.serial
    rintro b' w' (h | h) <;> cases h
    exact hi.base tid b w (Or.inl hw)
  | sync tid b w hw =>
    have hne : s.wr tid ≠ .idle := by simp [hw]
    refine .of_single_writer tid _ rfl (others_idle hi hne) hi.len (fun _ => hi.lockW tid hne)
      (fun hq => absurd rfl (hq b w)) hi.dbok ?_ hi.serial
    rintro b' w' (h | h) <;> cases h
    exact hi.base tid b w (Or.inl hw)
  | commit tid b w hw =>
    have hne : s.wr tid ≠ .idle := by simp [hw]
    refine .of_single_writer tid _ rfl (others_idle hi hne) (by simp [hi.len]) (fun _ => hi.lockW tid hne)
      (fun _ => rfl) ⟨w, rfl, rfl⟩ (by simp) ?_
    -- the base of the committed op is the previous head
    obtain ⟨rest, hh⟩ := hi.hist_of_synced hw
    have hser := hi.serial
    simp only [hh] at hser ⊢
    exact ⟨rfl, hser⟩
  | abort tid _ _ hw | wunlock tid hw =>
    have hne : s.wr tid ≠ .idle := by simp [hw]
    exact .of_single_writer tid _ rfl (others_idle hi hne) hi.len (fun h => absurd rfl h)
      (fun _ => hi.quiet_of hne (by simp [hw])) hi.dbok (by simp) hi.serial
  | rlock0 h | rlock _ h | runlock1 h | runlock _ h => exact hi.set_ts (by simp [h]) _
  | rread _ _ | lfread => exact hi

theorem cinv_run (s0 : Shared D M) (s : St D M) (log : List (Nat × Obs D M)) (h : Run s0 s log) :
    CInv s0 s := by
  induction h with
  | nil => exact cinv_start s0
  | silent _ hs ih => exact cinv_step s0 _ _ _ ih hs
  | obs _ hs ih => exact cinv_step s0 _ _ _ ih hs

/-- history positions are stable: later steps only push in front -/
theorem hist_stable (s s' : St D M) (o : Option (Obs D M)) (hs : CStep s o s') (k : Nat) (c : Shared D M)
    (h : s.hist.reverse[k]? = some c) : s'.hist.reverse[k]? = some c := by
  cases hs with
  | commit tid b w hw =>
    simp only [List.reverse_cons]
    rw [List.getElem?_append_left (List.getElem?_eq_some_iff.1 h).1]
    exact h
  | _ => exact h

theorem k_mono (s s' : St D M) (o : Option (Obs D M)) (hs : CStep s o s') : s.k ≤ s'.k := by
  cases hs <;> simp

theorem obs_same_state (s s' : St D M) (o : Obs D M) (hs : CStep s (some o) s') : s' = s := by
  cases hs <;> rfl

/-- the part of `CInv` that is about the LMDB half alone (it survives the staging steps of `PStep` below) -/
structure DbInv (s : St D M) : Prop where
  len : s.hist.length = s.k + 1
  dbok : ∃ c, s.hist.head? = some c ∧ s.sh.db = c.db

theorem CInv.dbInv {s0 : Shared D M} {s : St D M} (hi : CInv s0 s) : DbInv s := ⟨hi.len, hi.dbok⟩

theorem DbInv.db_now {s : St D M} (hi : DbInv s) : ∃ c, s.hist.reverse[s.k]? = some c ∧ s.sh.db = c.db := by
  obtain ⟨c, hc, hdb⟩ := hi.dbok
  exact ⟨c, reverse_last_of_head _ _ _ hi.len hc, hdb⟩

theorem obs_now (s0 : Shared D M) (s s' : St D M) (o : Obs D M) (hi : CInv s0 s) (hs : CStep s (some o) s') :
    ∃ c, s.hist.reverse[s.k]? = some c ∧ obsMatches o c := by
  cases hs with
  | rread n hr =>
    have hall := all_idle_of_not_writer hi (by simp [hr])
    exact ⟨s.sh, reverse_last_of_head _ _ _ hi.len (hi.quiet (by simp [hall])), rfl, rfl⟩
  | lfread => exact hi.dbInv.db_now

theorem run_obs_committed (s0 : Shared D M) (s : St D M) (log : List (Nat × Obs D M)) (h : Run s0 s log) :
    ∀ k o, (k, o) ∈ log → ∃ c, s.hist.reverse[k]? = some c ∧ obsMatches o c := by
  induction h with
  | nil => intro k o hm; cases hm
  | silent _ hs ih =>
    intro k o hm
    obtain ⟨c, hc, hm'⟩ := ih k o hm
    exact ⟨c, hist_stable _ _ _ hs k c hc, hm'⟩
  | @obs s s' log o' hr hs ih =>
    intro k o hm
    rw [obs_same_state _ _ _ hs]
    rcases List.mem_cons.mp hm with heq | hm
    · cases heq
      exact obs_now s0 s s' o' (cinv_run s0 s log hr) hs
    · exact ih k o hm

theorem run_log_monotone (s0 : Shared D M) (s : St D M) (log : List (Nat × Obs D M)) (h : Run s0 s log) :
    log.Pairwise (fun a b => b.1 ≤ a.1) ∧ ∀ e ∈ log, e.1 ≤ s.k := by
  induction h with
  | nil => exact ⟨List.Pairwise.nil, fun e he => by cases he⟩
  | silent _ hs ih =>
    exact ⟨ih.1, fun e he => Nat.le_trans (ih.2 e he) (k_mono _ _ _ hs)⟩
  | @obs s s' log o' hr hs ih =>
    have hsame := obs_same_state _ _ _ hs
    refine ⟨List.Pairwise.cons (fun b hb => ih.2 b hb) ih.1, ?_⟩
    intro e he
    rw [hsame]
    rcases List.mem_cons.mp he with rfl | he
    · exact Nat.le_refl _
    · exact ih.2 e he

/-! non-vacuity: a run in which a writer commits and both kinds of reader observe the new state,
while a lock-free reader inside the sync→commit window still observes the old LMDB half -/
example : ∃ (s : St Nat Nat) (log : List (Nat × Obs Nat Nat)), Run ⟨0, 0⟩ s log ∧
    log = [(1, .locked 7 7), (1, .lockfree 7), (0, .lockfree 0)] := by
  let s0 : Shared Nat Nat := ⟨0, 0⟩
  have r0 := Run.nil (s0 := s0)
  have r1 := Run.silent r0 (CStep.wlock _ 5 rfl rfl)
  have r2 := Run.silent r1 (CStep.work _ 5 s0 s0 (fun _ => ⟨7, 7⟩) rfl)
  have r3 := Run.silent r2 (CStep.sync _ 5 s0 ⟨7, 7⟩ rfl)
  have r4 := Run.obs r3 (CStep.lfread _)
  have r5 := Run.silent r4 (CStep.commit _ 5 s0 ⟨7, 7⟩ rfl)
  have r6 := Run.silent r5 (CStep.wunlock _ 5 rfl)
  have r7 := Run.obs r6 (CStep.lfread _)
  have r8 := Run.silent r7 (CStep.rlock0 _ rfl)
  have r9 := Run.obs r8 (CStep.rread _ 1 rfl)
  exact ⟨_, _, r9, rfl⟩

/-- the LMDB half of an observation -/
def obsDb : Obs D M → D
  | .locked d _ => d
  | .lockfree d => d

theorem obsMatches_db {o : Obs D M} {c : Shared D M} (h : obsMatches o c) : obsDb o = c.db := by
  cases o with
  | locked d m => exact h.1
  | lockfree d => exact h

/-- if the history (newest first) never loses `wk` towards the present, later observations report at least the `wk`
of earlier ones: each is the db half of a committed state, and the log is ordered by commit count -/
theorem run_obs_monotone (wk : D → Nat) (s0 : Shared D M) (s : St D M) (log : List (Nat × Obs D M))
    (h : Run s0 s log) (hm : s.hist.Pairwise fun newer older => wk older.db ≤ wk newer.db) :
    log.Pairwise fun later earlier => wk (obsDb earlier.2) ≤ wk (obsDb later.2) := by
  have hc := run_obs_committed s0 s log h
  have hh : (s.hist.reverse).Pairwise (fun older newer => wk older.db ≤ wk newer.db) := List.pairwise_reverse.mpr hm
  refine (run_log_monotone s0 s log h).1.imp_of_mem ?_
  intro a b ha hb hab
  obtain ⟨ca, hca, hma⟩ := hc a.1 a.2 ha
  obtain ⟨cb, hcb, hmb⟩ := hc b.1 b.2 hb
  rw [obsMatches_db hma, obsMatches_db hmb]
  rcases Nat.lt_or_ge b.1 a.1 with hlt | hge
  · obtain ⟨hbl, hbe⟩ := List.getElem?_eq_some_iff.mp hcb
    obtain ⟨hal, hae⟩ := List.getElem?_eq_some_iff.mp hca
    have := (List.pairwise_iff_getElem.mp hh) b.1 a.1 hbl hal hlt
    rw [hbe, hae] at this
    exact this
  · obtain rfl : ca = cb := by
      rw [Nat.le_antisymm hge hab] at hca
      exact Option.some.inj (hca.symm.trans hcb)
    exact Nat.le_refl _

/-! ## read-only extensions (`txhashset::extending_readonly`, `header_extending_readonly`)

`Chain::get_merkle_proof`, `get_locator_hashes`, `set_txhashset_roots`, `validate`,
`validate_tx` (NRD path), `verify_coinbase_maturity` (write-lock path), `Chain::segmenter` →
`init_segmenter`: take the write lock(s), rewind / apply on the private (unsynced) part of the MMR
backends and a child batch, then `force_rollback` — in the model: `wlock`, any number of `work`
steps, `abort`. -/

/-- the private copy after a list of work steps -/
def workAll (w : Shared D M) : List (Shared D M → Shared D M) → Shared D M
  | [] => w
  | f :: fs => workAll (f w) fs

/-- finitely many silent steps of the commit-protocol system -/
inductive Silent : St D M → St D M → Prop where
  | refl (s : St D M) : Silent s s
  | step {s s' s'' : St D M} : Silent s s' → CStep s' none s'' → Silent s s''

theorem Silent.head {s s1 s' : St D M} (h1 : CStep s none s1) (h : Silent s1 s') : Silent s s' := by
  induction h with
  | refl => exact Silent.step (Silent.refl _) h1
  | step _ hs ih => exact Silent.step ih hs

/-- a writer in phase `working b w` can run any list of private work steps; nothing but its own
phase changes -/
theorem work_chain (fs : List (Shared D M → Shared D M)) : ∀ (s : St D M) (tid : Nat) (b w : Shared D M),
    s.wr tid = .working b w →
    Silent s { s with wr := fun j => if j = tid then .working b (workAll w fs) else s.wr j } := by
  induction fs with
  | nil =>
    intro s tid b w h
    have e : (fun j => if j = tid then .working b w else s.wr j) = s.wr := funext fun j => by split <;> simp [*]
    simp only [workAll, e]; exact Silent.refl s
  | cons f fs ih =>
    intro s tid b w h
    have e : ∀ x y : WPhase D M, (fun j => if j = tid then x else if j = tid then y else s.wr j) =
        fun j => if j = tid then x else s.wr j := fun x y => funext fun j => by split <;> simp [*]
    simpa only [workAll, e] using Silent.head (CStep.work s tid b w f h) (ih _ tid b (f w) (by simp))

/-! ## The state-receiving phase (PIBD): MMR published without an LMDB commit

`Desegmenter::apply_output_segments` / `apply_rangeproof_segments` / `apply_kernel_segments` /
`finalize_bitmap` (desegmenter.rs): `header_pmmr.write()`, `txhashset.write()`, a batch,
`txhashset::extending(..)` — which syncs the MMR files when the closure succeeds — and then the
function returns WITHOUT `batch.commit()`: the MMR part of the private copy is published, the LMDB
part is not touched (`stage`).  The body head stays where it was until
`Desegmenter::validate_complete_state` commits (an ordinary writer). -/

inductive PStep : St D M → Option (Obs D M) → St D M → Prop where
  | base {s : St D M} {o : Option (Obs D M)} {s' : St D M} : CStep s o s' → PStep s o s'
  | stage (s : St D M) (tid : Nat) (b w : Shared D M) : s.wr tid = .working b w →
      PStep s none { s with sh := { s.sh with mmr := w.mmr }, ts := .free,
                            wr := fun j => if j = tid then .idle else s.wr j }

inductive PRun (s0 : Shared D M) : St D M → List (Nat × Obs D M) → Prop where
  | nil : PRun s0 (start s0) []
  | silent {s s' log} : PRun s0 s log → PStep s none s' → PRun s0 s' log
  | obs {s s' log o} : PRun s0 s log → PStep s (some o) s' → PRun s0 s' ((s.k, o) :: log)

theorem dbinv_pstep (s s' : St D M) (o : Option (Obs D M)) (hi : DbInv s) (hs : PStep s o s') : DbInv s' := by
  cases hs with
  | stage tid b w hw => exact ⟨hi.len, hi.dbok⟩
  | base h =>
    cases h with
    | commit tid b w hw => exact ⟨by simp [hi.len], w, rfl, rfl⟩
    | _ => exact ⟨hi.len, hi.dbok⟩

theorem dbinv_prun (s0 : Shared D M) (s : St D M) (log : List (Nat × Obs D M)) (h : PRun s0 s log) : DbInv s := by
  induction h with
  | nil => exact ⟨rfl, s0, rfl, rfl⟩
  | silent _ hs ih => exact dbinv_pstep _ _ _ ih hs
  | obs _ hs ih => exact dbinv_pstep _ _ _ ih hs

theorem phist_stable (s s' : St D M) (o : Option (Obs D M)) (hs : PStep s o s') (k : Nat) (c : Shared D M)
    (h : s.hist.reverse[k]? = some c) : s'.hist.reverse[k]? = some c := by
  cases hs with
  | base hc => exact hist_stable s s' o hc k c h
  | stage tid b w hw => exact h

theorem pobs_same_state (s s' : St D M) (o : Obs D M) (hs : PStep s (some o) s') : s' = s := by
  cases hs with
  | base hc => exact obs_same_state s s' o hc

theorem pobs_now (s s' : St D M) (o : Obs D M) (hi : DbInv s) (hs : PStep s (some o) s') :
    ∃ c, s.hist.reverse[s.k]? = some c ∧ obsDb o = c.db := by
  cases hs with
  | base h => cases h <;> exact hi.db_now

end GV.Conc.Commit
