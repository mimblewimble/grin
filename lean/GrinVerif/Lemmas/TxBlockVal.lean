import GrinVerif.Model.TxBlock
import GrinVerif.Lemmas.Bytes
import GrinVerif.Lemmas.UtilList
/-! Lemmas about the block-level gates of `Model/TxBlock.lean` (C12): `Vec::dedup`, the
lock-height scan, the insertion sort of the short ids, fees and lock height of a body. -/
namespace GV.Tx
open List

theorem dedupAdj_length_le : ∀ (l : List Nat), (dedupAdj l).length ≤ l.length
  | [] => by simp [dedupAdj]
  | [_] => by simp [dedupAdj]
  | a :: b :: t => by
    have ih := dedupAdj_length_le (b :: t)
    unfold dedupAdj
    split
    · simp only [length_cons] at ih ⊢; omega
    · simp only [length_cons] at ih ⊢; omega

theorem dedupAdj_length_eq_iff : ∀ (l : List Nat), (dedupAdj l).length = l.length ↔ adjDup l = false
  | [] => by simp [dedupAdj, adjDup]
  | [_] => by simp [dedupAdj, adjDup]
  | a :: b :: t => by
    have ih := dedupAdj_length_eq_iff (b :: t)
    have le := dedupAdj_length_le (b :: t)
    unfold dedupAdj adjDup
    by_cases e : a = b
    · subst e
      simp only [beq_self_eq_true, if_true, Bool.true_or, length_cons] at le ⊢
      constructor
      · intro h; omega
      · intro h; cases h
    · have e' : (a == b) = false := by simpa using e
      simp only [e', Bool.false_eq_true, if_false, Bool.false_or, length_cons, Nat.add_right_cancel_iff]
      simpa using ih

theorem verifyKernelLockHeights_none_iff (M : KMeta) (height : Nat) :
    ∀ (ks : List Nat), verifyKernelLockHeights M height ks = none ↔
      ∀ k ∈ ks, M.feat k = 2 → M.lock k ≤ height
  | [] => by simp [verifyKernelLockHeights]
  | k :: t => by
    rw [verifyKernelLockHeights, forall_mem_cons, ← verifyKernelLockHeights_none_iff M height t]
    split
    · rename_i c
      simp only [Bool.and_eq_true, beq_iff_eq, decide_eq_true_eq] at c
      simp [c.1, Nat.not_le.2 c.2]
    · rename_i c
      simp only [Bool.and_eq_true, beq_iff_eq, decide_eq_true_eq, not_and, Nat.not_lt] at c
      exact (and_iff_right c).symm

theorem insertByLe_eq {α : Type} (le : α → α → Bool) (x : α) : ∀ l, insertByLe le x l = insertBy le x l
  | [] => rfl
  | y :: t => by rw [insertByLe, insertBy, insertByLe_eq le x t]

theorem sortByLe_eq {α : Type} (le : α → α → Bool) : ∀ l, sortByLe le l = insertionSort le l
  | [] => rfl
  | x :: t => by rw [sortByLe, insertionSort, insertByLe_eq, sortByLe_eq le t]

theorem sortByLe_perm {α : Type} (le : α → α → Bool) (l : List α) : sortByLe le l ~ l :=
  sortByLe_eq le l ▸ insertionSort_perm le l

theorem sortByLe_pairwise {α : Type} {R : α → α → Prop} (t : α → α → Bool) (h1 : ∀ a b, t a b = true → R a b)
    (h2 : ∀ a b, t a b = false → R b a) (tr : ∀ a b c, R a b → R b c → R a c) (l : List α) :
    (sortByLe t l).Pairwise R :=
  sortByLe_eq t l ▸ insertionSort_pairwise t h1 h2 tr l

theorem sortByLe_sorted {α : Type} (le : α → α → Bool) (tot : ∀ a b, le a b = true ∨ le b a = true)
    (tr : ∀ a b c, le a b = true → le b c = true → le a c = true) (l : List α) :
    (sortByLe le l).Pairwise (fun a b => le a b = true) :=
  sortByLe_pairwise le (fun _ _ h => h) (fun a b h => (tot a b).resolve_left (by simp [h])) tr l

theorem bytesLe_cons {a b : Nat} {as bs : List Nat} :
    bytesLe (a :: as) (b :: bs) = true ↔ a < b ∨ (a = b ∧ bytesLe as bs = true) := by
  rw [bytesLe]; exact GV.lexStep_true

theorem bytesLe_total : ∀ (a b : List Nat), bytesLe a b = true ∨ bytesLe b a = true
  | [], _ => by simp [bytesLe]
  | _ :: _, [] => by simp [bytesLe]
  | a :: as, b :: bs => by
    rw [bytesLe_cons, bytesLe_cons]
    rcases Nat.lt_trichotomy a b with h | rfl | h
    · exact Or.inl (Or.inl h)
    · exact (bytesLe_total as bs).imp (fun h => Or.inr ⟨rfl, h⟩) (fun h => Or.inr ⟨rfl, h⟩)
    · exact Or.inr (Or.inl h)

theorem bytesLe_trans : ∀ (a b c : List Nat), bytesLe a b = true → bytesLe b c = true → bytesLe a c = true
  | [], _, _, _, _ => by simp [bytesLe]
  | _ :: _, [], _, h, _ => by simp [bytesLe] at h
  | _ :: _, _ :: _, [], _, h => by simp [bytesLe] at h
  | a :: as, b :: bs, c :: cs, h1, h2 => by
    rw [bytesLe_cons] at h1 h2 ⊢
    exact GV.lex_trans (bytesLe_trans as bs cs) h1 h2

theorem totalFees_eq (M : KMeta) (ks : List Nat) :
    totalFees M ks = min U64MAX (((ks.filter (fun k => M.feat k != 1)).map M.fee).sum) := by
  unfold totalFees
  rw [foldl_satAdd U64MAX M.fee _ 0 (by decide), Nat.zero_add]

theorem totalFees_perm (M : KMeta) {a b : List Nat} (p : a ~ b) : totalFees M a = totalFees M b := by
  rw [totalFees_eq, totalFees_eq, ((p.filter _).map M.fee).sum_nat]

theorem lockHeight_le_iff (M : KMeta) (ks : List Nat) (h : Nat) :
    lockHeight M ks ≤ h ↔ ∀ k ∈ ks, M.feat k = 2 → M.lock k ≤ h := by
  unfold lockHeight
  rw [foldl_max_le_iff]
  simp only [Nat.zero_le, true_and, mem_map, mem_filter, beq_iff_eq]
  constructor
  · intro g k hk hf; exact g _ ⟨k, ⟨hk, hf⟩, rfl⟩
  · rintro g x ⟨k, ⟨hk, hf⟩, rfl⟩; exact g k hk hf

theorem leBytes_length (w n : Nat) : (leBytes w n).length = w := GV.leBytes_length w n

end GV.Tx
