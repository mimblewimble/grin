import GrinVerif.Model.ChainImpl
/-! Lookup algebra of the txhashset model (`Model/ChainImpl.lean`) and its representation
invariant. -/
namespace GV.Chain
namespace TxHS

theorem find_filter_ne {β : Type} (l : List (Nat × β)) (c c' : Nat) :
    (l.filter (fun e => !(e.1 == c))).find? (·.1 == c') =
      if c' = c then none else l.find? (·.1 == c') := by
  induction l with
  | nil => simp
  | cons e es ih =>
    by_cases hc : c' = c
    · subst hc
      simp only [if_true] at ih ⊢
      by_cases he : e.1 = c'
      · simp [he, ih]
      · have : (e.1 == c') = false := by simpa using he
        simp [this, ih]
    · simp only [hc, if_false] at ih ⊢
      by_cases he : e.1 = c
      · have h2 : (c == c') = false := by
          simp only [beq_eq_false_iff_ne, ne_eq]; intro h; exact hc h.symm
        simp [he, h2, ih]
      · have : (e.1 == c) = false := by simpa using he
        simp only [List.filter_cons, this, Bool.not_false, if_true, List.find?_cons, ih]

theorem find_put {β : Type} (l : List (Nat × β)) (c c' : Nat) (v : β) :
    ((c, v) :: l.filter (fun e => !(e.1 == c))).find? (·.1 == c') =
      if c' = c then some (c, v) else l.find? (·.1 == c') := by
  by_cases hc : c' = c
  · subst hc; simp
  · have : (c == c') = false := by simp only [beq_eq_false_iff_ne, ne_eq]; exact fun h => hc h.symm
    simp only [List.find?_cons, this, find_filter_ne, hc, if_false]

@[simp] theorem saveOutputPos_leaves (S : TxHS) (c : Nat) (cp : CommitPos) :
    (S.saveOutputPos c cp).leaves = S.leaves := rfl
@[simp] theorem saveOutputPos_leafSet (S : TxHS) (c : Nat) (cp : CommitPos) :
    (S.saveOutputPos c cp).leafSet = S.leafSet := rfl
@[simp] theorem saveOutputPos_spentIdx (S : TxHS) (c : Nat) (cp : CommitPos) :
    (S.saveOutputPos c cp).spentIdx = S.spentIdx := rfl
@[simp] theorem deleteOutputPos_leaves (S : TxHS) (c : Nat) : (S.deleteOutputPos c).leaves = S.leaves := rfl
@[simp] theorem deleteOutputPos_leafSet (S : TxHS) (c : Nat) : (S.deleteOutputPos c).leafSet = S.leafSet := rfl
@[simp] theorem deleteOutputPos_spentIdx (S : TxHS) (c : Nat) : (S.deleteOutputPos c).spentIdx = S.spentIdx := rfl

theorem getOutputPos_save (S : TxHS) (c c' : Nat) (cp : CommitPos) :
    (S.saveOutputPos c cp).getOutputPos c' = if c' = c then some cp else S.getOutputPos c' := by
  unfold getOutputPos saveOutputPos
  rw [find_put]
  split <;> rfl

theorem getOutputPos_delete (S : TxHS) (c c' : Nat) :
    (S.deleteOutputPos c).getOutputPos c' = if c' = c then none else S.getOutputPos c' := by
  unfold getOutputPos deleteOutputPos
  simp only [find_filter_ne]
  split <;> rfl

theorem getData_save (S : TxHS) (c : Nat) (cp : CommitPos) (i : Nat) :
    (S.saveOutputPos c cp).getData i = S.getData i := rfl
theorem getData_delete (S : TxHS) (c : Nat) (i : Nat) : (S.deleteOutputPos c).getData i = S.getData i := rfl

theorem getData_eq_some (S : TxHS) (i c : Nat) :
    S.getData i = some c ↔ i ∈ S.leafSet ∧ S.leaves[i]? = some c := by
  unfold getData
  by_cases h : i ∈ S.leafSet
  · simp [h]
  · simp [h]

theorem getSpentIndex_save (S : TxHS) (bid bid' : Nat) (sp : List CommitPos) :
    (S.saveSpentIndex bid sp).getSpentIndex bid' =
      if bid' = bid then some sp else S.getSpentIndex bid' := by
  unfold getSpentIndex saveSpentIndex
  rw [find_put]
  split <;> rfl

@[simp] theorem saveSpentIndex_leaves (S : TxHS) (b : Nat) (sp : List CommitPos) :
    (S.saveSpentIndex b sp).leaves = S.leaves := rfl
@[simp] theorem saveSpentIndex_leafSet (S : TxHS) (b : Nat) (sp : List CommitPos) :
    (S.saveSpentIndex b sp).leafSet = S.leafSet := rfl
@[simp] theorem saveSpentIndex_outputPos (S : TxHS) (b : Nat) (sp : List CommitPos) :
    (S.saveSpentIndex b sp).outputPos = S.outputPos := rfl
theorem getOutputPos_saveSpent (S : TxHS) (b : Nat) (sp : List CommitPos) (c : Nat) :
    (S.saveSpentIndex b sp).getOutputPos c = S.getOutputPos c := rfl
theorem getData_saveSpent (S : TxHS) (b : Nat) (sp : List CommitPos) (i : Nat) :
    (S.saveSpentIndex b sp).getData i = S.getData i := rfl

/-- the `output_pos` index and the leaf set describe the same thing: every unspent leaf is
indexed under its commitment at its own position, and every index entry points at an unspent leaf
holding that commitment (so at most one unspent leaf per commitment, and no stale entries) -/
structure RInv (S : TxHS) : Prop where
  bound : ∀ i ∈ S.leafSet, i < S.leaves.length
  indexed : ∀ i ∈ S.leafSet, ∀ c, S.leaves[i]? = some c → ∃ h, S.getOutputPos c = some ⟨i, h⟩
  points : ∀ c cp, S.getOutputPos c = some cp → cp.pos ∈ S.leafSet ∧ S.leaves[cp.pos]? = some c

theorem RInv.empty : RInv {} :=
  ⟨fun i h => (by cases h), fun i h => (by cases h), fun c cp h => (by cases h)⟩

theorem getOutputPos_of_getUnspent {S : TxHS} {c : Nat} {cp : CommitPos}
    (h : S.getUnspent c = some cp) : S.getOutputPos c = some cp := by
  unfold getUnspent at h
  split at h
  · next cp' hgp =>
    split at h
    · split at h
      · cases h; exact hgp
      · cases h
    · cases h
  · cases h

theorem RInv.getData {S : TxHS} (hi : RInv S) {c : Nat} {cp : CommitPos}
    (h : S.getOutputPos c = some cp) : S.getData cp.pos = some c :=
  (getData_eq_some S cp.pos c).mpr (hi.points c cp h)

theorem RInv.getUnspent_eq {S : TxHS} (hi : RInv S) (c : Nat) : S.getUnspent c = S.getOutputPos c := by
  unfold getUnspent
  cases h : S.getOutputPos c with
  | none => rfl
  | some cp =>
    simp [hi.getData h]

theorem RInv.unspent_distinct {S : TxHS} (hi : RInv S) (i j c : Nat) (hi' : i ∈ S.leafSet)
    (hj : j ∈ S.leafSet) (hci : S.leaves[i]? = some c) (hcj : S.leaves[j]? = some c) : i = j := by
  obtain ⟨h1, e1⟩ := hi.indexed i hi' c hci
  obtain ⟨h2, e2⟩ := hi.indexed j hj c hcj
  rw [e1] at e2
  injection e2 with e2
  injection e2

end TxHS

theorem applyBlocks_nil_ok {S S' : TxHS} (h : applyBlocks S [] = .ok S') : S' = S :=
  (Except.ok.inj h).symm

theorem applyBlocks_cons_ok {S S' : TxHS} {b : Blk} {bs : List Blk}
    (h : applyBlocks S (b :: bs) = .ok S') :
    ∃ S1, applyBlockImpl S b = .ok S1 ∧ applyBlocks S1 bs = .ok S' := by
  unfold applyBlocks at h
  cases h1 : applyBlockImpl S b with
  | error e => rw [h1] at h; cases h
  | ok S1 => rw [h1] at h; exact ⟨S1, rfl, h⟩

end GV.Chain
