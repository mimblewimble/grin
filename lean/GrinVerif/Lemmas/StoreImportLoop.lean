import GrinVerif.Lemmas.StoreOps
import GrinVerif.Model.StoreExt
/-! One `push_pruned_subtree` step of an import against the reference (C08): first
`PruneList.append` of a new rightmost root against the file layouts, then the loop of
`PMMR::push_pruned_subtree` itself.  No Mathlib. -/
namespace GV.Store
open GV GV.Pmmr GV.Pmmr.Co

theorem compactedP_snoc_below (bm : Bitmap) {N pos0 q : Nat} (hl : bintreeLeftmost pos0 = mmr N)
    (hq : q < mmr N) : compactedP (bm ++ [pos0 + 1]) q = compactedP bm q := by
  rw [compactedP_snoc, hl]
  simp [show ¬ mmr N ≤ q by omega]

theorem compactedP_snoc_inside (bm : Bitmap) {N pos0 q : Nat} (hl : bintreeLeftmost pos0 = mmr N)
    (h1 : mmr N ≤ q) (h2 : q < pos0) : compactedP (bm ++ [pos0 + 1]) q = true := by
  rw [compactedP_snoc, hl]
  simp [h1, h2]

theorem filter_snoc (pOld pNew : Nat → Bool) (A k1 k2 : Nat)
    (h1 : ∀ q, q < A → pNew q = pOld q) (h2 : ∀ q, A ≤ q → q < A + k1 → pNew q = false) :
    (List.range (A + (k1 + k2))).filter pNew =
      (List.range A).filter pOld ++ (List.range' (A + k1) k2).filter pNew := by
  rw [range_add', ← List.range'_append_1, List.filter_append, List.filter_append]
  have e1 : (List.range A).filter pNew = (List.range A).filter pOld :=
    List.filter_congr (fun q hq => h1 q (List.mem_range.1 hq))
  have e2 : (List.range' A k1).filter pNew = [] := by
    rw [List.filter_eq_nil_iff]
    intro q hq
    obtain ⟨a, b⟩ := List.mem_range'_1.1 hq
    simp [h2 q a b]
  rw [e1, e2, List.nil_append]

theorem layout_snoc {bm : Bitmap} {N pos0 M' : Nat} (hroots : ∀ x ∈ bm, x ≤ mmr N)
    (hl : bintreeLeftmost pos0 = mmr N) (hlt : pos0 < M') :
    layout (bm ++ [pos0 + 1]) M' = layout bm (mmr N) ++ List.range' pos0 (M' - pos0) := by
  have hle := Co.leftmost_le pos0
  obtain ⟨k1, hk1⟩ : ∃ k1, pos0 = mmr N + k1 := ⟨pos0 - mmr N, by omega⟩
  obtain ⟨k2, hk2⟩ : ∃ k2, M' = mmr N + (k1 + k2) := ⟨M' - pos0, by omega⟩
  have e2 : M' - pos0 = k2 := by omega
  unfold layout
  rw [e2, hk2, filter_snoc (fun q => !compactedP bm q) _ (mmr N) k1 k2, ← hk1]
  · congr 1
    rw [List.filter_eq_self]
    intro q hq
    obtain ⟨a, _⟩ := List.mem_range'_1.1 hq
    rw [compactedP_snoc, not_compacted_of_ge hroots (by omega)]
    simp; omega
  · intro q hq
    rw [compactedP_snoc_below bm hl hq]
  · intro q a b
    rw [compactedP_snoc_inside bm hl a (by omega)]
    simp

/-- every leaf the subtree brings lies strictly inside it; height of the root `>= 1` is stated as:
no position from the root on up to the new size is a leaf -/
theorem dataLayout_snoc {bm : Bitmap} {N pos0 M' : Nat}
    (hl : bintreeLeftmost pos0 = mmr N) (hlt : pos0 < M')
    (hnl : ∀ q, pos0 ≤ q → q < M' → isLeaf q = false) :
    dataLayout (bm ++ [pos0 + 1]) M' = dataLayout bm (mmr N) := by
  have hle := Co.leftmost_le pos0
  obtain ⟨k1, hk1⟩ : ∃ k1, pos0 = mmr N + k1 := ⟨pos0 - mmr N, by omega⟩
  obtain ⟨k2, hk2⟩ : ∃ k2, M' = mmr N + (k1 + k2) := ⟨M' - pos0, by omega⟩
  unfold dataLayout
  rw [hk2, filter_snoc (fun q => isLeaf q && !compactedP bm q) _ (mmr N) k1 k2, ← hk1]
  · have : (List.range' pos0 k2).filter
        (fun q => isLeaf q && !compactedP (bm ++ [pos0 + 1]) q) = [] := by
      rw [List.filter_eq_nil_iff]
      intro q hq
      obtain ⟨a, b⟩ := List.mem_range'_1.1 hq
      simp [hnl q a (by omega)]
    rw [this, List.append_nil]
  · intro q hq
    rw [compactedP_snoc_below bm hl hq]
  · intro q a b
    rw [compactedP_snoc_inside bm hl a (by omega)]
    simp

/-- the backend with its prune-list FILE brought up to date (what `sync` will do): inside an import
the in-memory prune list runs ahead of the file -/
def Backend.fixPF {H : Type} (b : Backend H) : Backend H := { b with pruneFile := b.pruneList.bitmap }

/-- `sync` writes the prune-list file anyway -/
theorem Backend.fixPF_sync {H : Type} (b : Backend H) : b.fixPF.sync = b.sync := rfl

/-- the import step against the reference, given what the loop appended.  `b2` is kept apart from
the loop's own result, with the seven equations as hypotheses, because
`C08Import.import_step_preserves_reference` states the step for ANY such `b2`; the loop supplies
them by `rfl` in `pushPrunedSubtree_live`. -/
theorem Live.import_step {H : Type} {hf : HashFn Bytes H} {f : Nat → Bytes} {b b2 : Backend H}
    {N N' pos0 k : Nat} {df : AOF Bytes}
    (h : Live b.fixPF N (refHash hf f) (refData f) df)
    (hl : bintreeLeftmost pos0 = mmr N) (hsz : mmr N' = pos0 + 1 + k)
    (hsib : b.pruneList.isPruned (family pos0).2 = false)
    (hnl : ∀ q, pos0 ≤ q → q < mmr N' → isLeaf q = false)
    (hbd : mmr N' + 64 < 2 ^ 64)
    (hdf : b2.dataFile = b.dataFile) (hls : b2.leafSet = b.leafSet)
    (hpl : b2.pruneList = b.pruneList.append pos0)
    (hdisk : b2.hashFile.disk = b.hashFile.disk) (hbsp : b2.hashFile.bsp = b.hashFile.bsp)
    (hbak : b2.hashFile.bak = b.hashFile.bak)
    (hbuf : b2.hashFile.buffer = b.hashFile.buffer ++ (List.range' pos0 (k + 1)).map (refHash hf f)) :
    Live b2.fixPF N' (refHash hf f) (refData f) df := by
  have hle := Co.leftmost_le pos0
  have hroots : ∀ x ∈ b.pruneList.bitmap, x ≤ mmr N := h.roots
  have hinv0 : b.pruneList.Inv := h.inv
  obtain ⟨hbm, hinv⟩ := PruneList.append_rightmost hinv0 (fun y hy => hl ▸ hroots y hy) hsib
  have hlt : pos0 < mmr N' := by omega
  have hNN : mmr N ≤ mmr N' := by omega
  refine ⟨?_, ?_, ?_, ?_, h.dataWF, ?_, ?_, ?_, ?_, ?_, hbd, rfl⟩
  · show b2.pruneList.Inv
    rw [hpl]; exact hinv
  · show b2.hashFile.WF
    have w : b.hashFile.WF := h.hashWF
    exact ⟨by rw [hbsp, hdisk]; exact w.le, fun h0 => by rw [hbsp, hdisk]; exact w.bak0 (by rw [← hbak]; exact h0)⟩
  · show b2.hashFile.view = (layout b2.pruneList.bitmap (mmr N')).map (refHash hf f)
    have hv : b.hashFile.view = (layout b.pruneList.bitmap (mmr N)).map (refHash hf f) := h.hashLay
    have e : mmr N' - pos0 = k + 1 := by omega
    rw [hpl, hbm, layout_snoc hroots hl hlt, List.map_append, ← hv, e]
    unfold AOF.view
    rw [hdisk, hbsp, hbuf, List.append_assoc]
  · show b2.dataFile = .fixed df
    rw [hdf]; exact (h.data : b.dataFile = .fixed df)
  · show df.view = (dataLayout b2.pruneList.bitmap (mmr N')).map (refData f)
    rw [hpl, hbm, dataLayout_snoc hl hlt hnl]
    exact (h.dataLay : df.view = (dataLayout b.pruneList.bitmap (mmr N)).map (refData f))
  · show Sorted b2.leafSet.bitmap
    rw [hls]; exact (h.lsSorted : Sorted b.leafSet.bitmap)
  · intro x hx
    have hx' : x ∈ b.leafSet.bitmap := by rw [← hls]; exact hx
    have hh : 1 ≤ x ∧ x ≤ mmr N ∧ height (x - 1) = 0 := h.lsLeaf x hx'
    exact ⟨hh.1, by omega, hh.2.2⟩
  · intro x hx
    have hx' : x ∈ b.leafSet.bitmap := by rw [← hls]; exact hx
    have hh : 1 ≤ x ∧ x ≤ mmr N ∧ height (x - 1) = 0 := h.lsLeaf x hx'
    have hun : ¬ PrunedBy b.pruneList.bitmap (x - 1) := h.unpruned x hx'
    show ¬ PrunedBy b2.pruneList.bitmap (x - 1)
    rw [hpl, hbm, prunedBy_snoc]
    rintro (hp | hs)
    · exact hun hp
    · have := hs.1; have := hh.2.1; omega
  · intro x hx
    have hx' : x ∈ b.pruneList.bitmap ++ [pos0 + 1] := by
      have : x ∈ b2.pruneList.bitmap := hx
      rw [hpl, hbm] at this; exact this
    rcases List.mem_append.1 hx' with hx'' | hx''
    · have := hroots x hx''; omega
    · simp only [List.mem_singleton] at hx''; omega

/-! ### The loop of `PMMR::push_pruned_subtree` (`core/src/core/pmmr/pmmr.rs`) against the reference:
for a subtree root at coordinates
`(n, h)` (`pos0 = mmr n + h`, `1 ≤ h ≤ trailingOnes n`) the `while (peak_map & peak) != 0` loop runs
`trailingOnes n` times, merges in the first `trailingOnes n − h` of them – each left sibling is read
through `get_hash`, is not compacted (its parent is a position the MMR does not have yet) and so
reads its reference hash – appends exactly the reference hashes of `pos0 + 1 … mmr n + trailingOnes n`,
`continue`s for the remaining `h` set bits (the node reached is a left child) and leaves
`size = mmr (n + 1)`. -/

variable {H : Type}

theorem Backend.getHash_of_not_leaf {b : Backend H} {q : Nat} (h : isLeaf q = false) :
    b.getHash q = b.getFromFile q := by
  unfold Backend.getHash
  rw [h]
  rfl

/-- the remaining set bits once a left child is reached: `continue` until the first clear bit -/
theorem pushPrunedLoop_continue (hf : HashFn Bytes H) (pm : Nat) (b : Backend H) (pos : Nat) (cur : H)
    (hsib : (family pos).2 > pos) : ∀ (k fuel j : Nat),
    (∀ i, j ≤ i → i < j + k → bitSet pm i = true) → bitSet pm (j + k) = false → k < fuel →
    PM.pushPrunedLoop hf pm fuel j b pos cur = (b, pos, true) := by
  intro k
  induction k with
  | zero =>
    intro fuel j _ hclr hfu
    obtain ⟨f', rfl⟩ : ∃ f', fuel = f' + 1 := ⟨fuel - 1, by omega⟩
    unfold PM.pushPrunedLoop
    rw [Nat.add_zero] at hclr
    simp [hclr]
  | succ k ih =>
    intro fuel j hset hclr hfu
    obtain ⟨f', rfl⟩ : ∃ f', fuel = f' + 1 := ⟨fuel - 1, by omega⟩
    unfold PM.pushPrunedLoop
    have hj : bitSet pm j = true := hset j (Nat.le_refl _) (by omega)
    simp only [hj, if_true, hsib]
    exact ih f' (j + 1) (fun i h1 h2 => hset i (by omega) (by omega))
      (by rw [show j + 1 + k = j + (k + 1) by omega]; exact hclr) (by omega)

theorem pushPrunedLoop_merge (hf : HashFn Bytes H) (pm fuel j : Nat) (b : Backend H) {n g : Nat}
    (cur l : H) (hbit : bitSet pm j = true) (hg : g < trailingOnes n)
    (hread : b.getHash (mmr n + g + 1 - 2 * 2 ^ g) = some l) :
    PM.pushPrunedLoop hf pm (fuel + 1) j b (mmr n + g) cur =
      PM.pushPrunedLoop hf pm fuel (j + 1) (b.appendHash (hf.node (mmr n + g + 1) l cur))
        (mmr n + g + 1) (hf.node (mmr n + g + 1) l cur) := by
  have hle : ¬ mmr n + g + 1 - 2 * 2 ^ g > mmr n + g := by have := Nat.two_pow_pos g; omega
  rw [PM.pushPrunedLoop]
  simp only [hbit, if_true, family_right_child hg, if_neg hle, hread]

theorem Backend.getHash_appendHash {b : Backend H} {q : Nat} {v : H} (x : H)
    (h : b.getHash q = some v) : (b.appendHash x).getHash q = some v := by
  -- the tests of `get_hash` read leaf set and prune list, which `append_hash` leaves alone; what it
  -- then reads is an old position of the hash file
  unfold Backend.getHash Backend.getFromFile at h
  show (if (isLeaf q && !b.leafSet.includes q) = true then none else
    if b.isCompacted q = true then none
    else (b.hashFile.append x).read1 (1 + q - b.pruneList.getShift q)) = some v
  split at h
  · exact absurd h (by simp)
  · split at h
    · exact absurd h (by simp)
    · rename_i h1 h2
      rw [if_neg h1, if_neg h2, AOF.read1_append_of_some _ _ h]

theorem Backend.foldl_appendHash (hs : List H) (b : Backend H) :
    hs.foldl Backend.appendHash b =
      { b with hashFile := { b.hashFile with buffer := b.hashFile.buffer ++ hs } } := by
  induction hs generalizing b with
  | nil => simp
  | cons x xs ih => rw [List.foldl_cons, ih]; simp [Backend.appendHash, AOF.append]

/-- the loop in coordinates, for any hashes `ref` obeying the node law along the climb -/
theorem pushPrunedLoop_climb (hf : HashFn Bytes H) (ref : Nat → H) (n : Nat)
    (hnode : ∀ g, g < trailingOnes n → ref (mmr n + g + 1) =
      hf.node (mmr n + g + 1) (ref (mmr n + g + 1 - 2 * 2 ^ g)) (ref (mmr n + g))) :
    ∀ (m g j fuel : Nat) (b : Backend H), g + m = trailingOnes n → j ≤ g →
      trailingOnes n < fuel + j →
      (∀ g', g ≤ g' → g' < trailingOnes n →
        b.getHash (mmr n + g' + 1 - 2 * 2 ^ g') = some (ref (mmr n + g' + 1 - 2 * 2 ^ g'))) →
      PM.pushPrunedLoop hf n fuel j b (mmr n + g) (ref (mmr n + g)) =
        (((List.range' (mmr n + g + 1) m).map ref).foldl Backend.appendHash b,
          mmr n + trailingOnes n, true) := by
  intro m
  induction m with
  | zero =>
    intro g j fuel b hm hj hfu _
    have hg : g = trailingOnes n := by omega
    subst hg
    have hgt : (family (mmr n + trailingOnes n)).2 > mmr n + trailingOnes n := by
      rw [family_left_child rfl]
      have := Nat.two_pow_pos (trailingOnes n)
      show mmr n + trailingOnes n < mmr n + trailingOnes n + 2 * 2 ^ trailingOnes n - 1
      omega
    apply pushPrunedLoop_continue hf n b _ _ hgt (trailingOnes n - j) fuel j
    · intro i _ hi2
      rw [bitSet_coord (by omega : i ≤ trailingOnes n)]
      exact decide_eq_true (by omega)
    · rw [show j + (trailingOnes n - j) = trailingOnes n by omega, bitSet_coord (Nat.le_refl _)]
      exact decide_eq_false (Nat.lt_irrefl _)
    · omega
  | succ m ih =>
    intro g j fuel b hm hj hfu hread
    have hg : g < trailingOnes n := by omega
    obtain ⟨f', rfl⟩ : ∃ f', fuel = f' + 1 := ⟨fuel - 1, by omega⟩
    have hbit : bitSet n j = true := by
      rw [bitSet_coord (by omega : j ≤ trailingOnes n)]
      exact decide_eq_true (by omega)
    rw [pushPrunedLoop_merge hf n f' j b _ _ hbit hg (hread g (Nat.le_refl _) hg), ← hnode g hg,
      List.range'_succ, List.map_cons, List.foldl_cons]
    exact ih (g + 1) (j + 1) f' _ (by omega) (by omega) (by omega)
      (fun g' h1 h2 => Backend.getHash_appendHash _ (hread g' (by omega) h2))

theorem subtree_root_geom {N n h : Nat} (hh : h ≤ trailingOnes n) (h1 : 1 ≤ h)
    (hN : N + 2 ^ h = n + 1) :
    bintreeLeftmost (mmr n + h) = mmr N ∧
    mmr (n + 1) = mmr n + h + 1 + (trailingOnes n - h) ∧
    (∀ q, mmr n + h ≤ q → q < mmr (n + 1) → isLeaf q = false) ∧
    roundUpToLeafPos (mmr n + trailingOnes n) = mmr (n + 1) := by
  refine ⟨?_, by rw [mmr_succ]; omega, ?_, ?_⟩
  · rw [leftmost_co hh, show n + 1 - 2 ^ h = N by omega]
  · intro q a b
    obtain ⟨g, hg, rfl⟩ := block_coord (by omega) b
    rw [isLeaf_co hg]
    exact beq_false_of_ne (by omega)
  · rw [roundUp_co (Nat.le_refl _), if_neg (by omega)]

theorem climb_sibling {N n h g : Nat} (h1 : 1 ≤ h) (hN : N + 2 ^ h = n + 1) (hg1 : h ≤ g)
    (hg2 : g < trailingOnes n) :
    mmr n + g + 1 - 2 * 2 ^ g < mmr N ∧ isLeaf (mmr n + g + 1 - 2 * 2 ^ g) = false ∧
    (family (mmr n + g + 1 - 2 * 2 ^ g)).1 = mmr n + g + 1 := by
  obtain ⟨e, l1, l2, hfam⟩ := left_sibling_geom hg2
  have hpow : 2 ^ h ≤ 2 ^ g := Nat.pow_le_pow_right (by omega) hg1
  rw [e]
  refine ⟨(coord_lt_iff l1).2 (by omega), ?_, hfam⟩
  rw [isLeaf_co l1]
  exact beq_false_of_ne (by omega)

/-- the reads of the climb: every left sibling the loop reads lies before the subtree, is no leaf,
and has its parent at or beyond every root (the new one included), so it is not compacted and
reads its reference hash -/
theorem appendPrunedSubtree_reads (hf : HashFn Bytes H) (f : Nat → Bytes) {b : Backend H}
    {N n h : Nat} {df : AOF Bytes} (hlive : Live b.fixPF N (refHash hf f) (refData f) df)
    (hh : h ≤ trailingOnes n) (h1 : 1 ≤ h) (hN : N + 2 ^ h = n + 1)
    (hsib : b.pruneList.isPruned (family (mmr n + h)).2 = false) :
    ∀ g, h ≤ g → g < trailingOnes n →
      (b.appendPrunedSubtree (refHash hf f (mmr n + h)) (mmr n + h)).getHash
        (mmr n + g + 1 - 2 * 2 ^ g) = some (refHash hf f (mmr n + g + 1 - 2 * 2 ^ g)) := by
  have hl := (subtree_root_geom hh h1 hN).1
  have hroots : ∀ x ∈ b.pruneList.bitmap, x ≤ mmr N := hlive.roots
  obtain ⟨hbm, hinv⟩ := PruneList.append_rightmost (pl := b.pruneList) hlive.inv (fun y hy => hl ▸ hroots y hy) hsib
  have hNle : mmr N ≤ mmr n + h := hl ▸ Co.leftmost_le (mmr n + h)
  have hv0 : b.hashFile.view = (layout b.pruneList.bitmap (mmr N)).map (refHash hf f) :=
    hlive.hashLay
  obtain ⟨hwf, hview⟩ := AOF.wf_append (f := b.hashFile) hlive.hashWF (refHash hf f (mmr n + h))
  have hlay : (b.appendPrunedSubtree (refHash hf f (mmr n + h)) (mmr n + h)).hashFile.view =
      (layout (b.pruneList.append (mmr n + h)).bitmap (mmr n + h + 1)).map (refHash hf f) := by
    rw [hbm, layout_snoc hroots hl (by omega : mmr n + h < mmr n + h + 1), Nat.add_sub_cancel_left,
      List.map_append, ← hv0]
    exact hview
  intro g hg1 hg2
  obtain ⟨c1, c2, c3⟩ := climb_sibling h1 hN hg1 hg2
  rw [Backend.getHash_of_not_leaf c2]
  refine (Backend.read_of_view _ (mmr n + h + 1) hinv hwf hlay _ (by omega)
    (not_compacted_of_parent_ge fun x hx => ?_)).2
  rw [c3]
  rcases List.mem_append.1 (hbm ▸ hx) with hx | hx
  · have := hroots x hx; omega
  · rw [List.mem_singleton.1 hx]; omega

theorem pushPrunedSubtree_live (hf : HashFn Bytes H) (f : Nat → Bytes) {p : PM H} {N n h : Nat}
    {df : AOF Bytes} (hlive : Live p.b.fixPF N (refHash hf f) (refData f) df)
    (hh : h ≤ trailingOnes n) (h1 : 1 ≤ h) (hN : N + 2 ^ h = n + 1)
    (hsib : p.b.pruneList.isPruned (family (mmr n + h)).2 = false)
    (hbd : mmr (n + 1) + 64 < 2 ^ 64) :
    ∃ p', PM.pushPrunedSubtree hf p (refHash hf f (mmr n + h)) (mmr n + h) = (p', true) ∧
      p'.size = mmr (n + 1) ∧ Live p'.b.fixPF (n + 1) (refHash hf f) (refData f) df ∧
      p'.b.dataFile = p.b.dataFile ∧ p'.b.leafSet = p.b.leafSet := by
  obtain ⟨hl, hsz, hnl, hround⟩ := subtree_root_geom hh h1 hN
  have ht : trailingOnes n < 65 :=
    trailingOnes_lt_of_bound (by have := mmr_le_mmr (Nat.le_succ n); omega)
  have hloop := pushPrunedLoop_climb hf (refHash hf f) n (fun g hg => refHash_parent hf f hg)
    (trailingOnes n - h) h 0 65 _ (by omega) (Nat.zero_le _) (by omega)
    (appendPrunedSubtree_reads hf f hlive hh h1 hN hsib)
  have hb' : ((List.range' (mmr n + h + 1) (trailingOnes n - h)).map (refHash hf f)).foldl
      Backend.appendHash (p.b.appendPrunedSubtree (refHash hf f (mmr n + h)) (mmr n + h)) =
      { p.b with
        hashFile := { p.b.hashFile with buffer := p.b.hashFile.buffer ++
          (List.range' (mmr n + h) (trailingOnes n - h + 1)).map (refHash hf f) },
        pruneList := p.b.pruneList.append (mmr n + h) } := by
    rw [Backend.foldl_appendHash, List.range'_succ, List.map_cons]
    simp [Backend.appendPrunedSubtree, AOF.append]
  have hres : PM.pushPrunedSubtree hf p (refHash hf f (mmr n + h)) (mmr n + h) =
      ({ b := { p.b with
          hashFile := { p.b.hashFile with buffer := p.b.hashFile.buffer ++
            (List.range' (mmr n + h) (trailingOnes n - h + 1)).map (refHash hf f) },
          pruneList := p.b.pruneList.append (mmr n + h) }, size := mmr (n + 1) }, true) := by
    unfold PM.pushPrunedSubtree
    simp only [peakMapHeight_co n h hh, hloop, hround, hb']
  exact ⟨_, hres, rfl, Live.import_step hlive hl hsz hsib hnl hbd rfl rfl rfl rfl rfl rfl rfl, rfl, rfl⟩

end GV.Store
