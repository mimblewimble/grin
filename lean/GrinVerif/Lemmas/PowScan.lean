import GrinVerif.Model.Pow
/-! Bucket lists as explicit lists.  After the first loop the list hanging off `head[b]` is
`between (key · == b) 0 m` (the slots with key `b`, newest first) and `prev` steps along it.  Every
inner search loop of the verifiers is then a left-to-right scan of such a list (`scanJ` /
`List.find?`). -/
namespace GV.Pow

/-- largest `k < n` with `p k`, else `nil` -/
def lastBelow (p : Nat → Bool) (nil : Nat) : Nat → Nat
  | 0 => nil
  | n+1 => if p n then n else lastBelow p nil n

structure SlotInv (keyOf uv : Nat → Nat) (nil m : Nat) (uvs head prev : Nat → Nat) : Prop where
  uvs : ∀ t, t < m → uvs t = uv t
  head : ∀ b, head b = lastBelow (fun t => keyOf t == b) nil m
  prev : ∀ t, t < m → prev t = lastBelow (fun t' => keyOf t' == keyOf t) nil t

theorem lastBelow_push (key : Nat → Nat) (sl : Nat → Nat) (nil m b : Nat) (head : Nat → Nat)
    (h : ∀ b, head b = sl (lastBelow (fun t => key t == b) nil m)) :
    upd head (key m) (sl m) b = sl (lastBelow (fun t => key t == b) nil (m+1)) := by
  simp only [upd, lastBelow]
  by_cases e : b = key m
  · subst e; simp
  · have e' : ¬ (key m = b) := fun h => e h.symm
    simp only [e, if_false, beq_iff_eq, e']
    exact h b

theorem slotInv_push {keyOf uv : Nat → Nat} {nil m : Nat} {uvs head prev : Nat → Nat}
    (h : SlotInv keyOf uv nil m uvs head prev) {x kx : Nat} (hx : uv m = x) (hk : keyOf m = kx) :
    SlotInv keyOf uv nil (m+1) (upd uvs m x) (upd head kx m) (upd prev m (head kx)) := by
  constructor
  · intro t ht
    by_cases e : t = m
    · subst e; simp [upd, hx]
    · simp only [upd, e, if_false]; exact h.uvs t (by omega)
  · intro b
    exact hk ▸ lastBelow_push keyOf id nil m b head h.head
  · intro t ht
    by_cases e : t = m
    · subst e
      simp only [upd, if_true, hk]
      exact h.head _
    · simp only [upd, e, if_false]; exact h.prev t (by omega)

/-- the `x` with `lo ≤ x < hi` and `p x`, in descending order -/
def between (p : Nat → Bool) (lo : Nat) : Nat → List Nat
  | 0 => []
  | n+1 => if n < lo then [] else if p n then n :: between p lo n else between p lo n

theorem mem_between {p : Nat → Bool} {lo x : Nat} : ∀ {hi}, x ∈ between p lo hi ↔ lo ≤ x ∧ x < hi ∧ p x = true
  | 0 => by simp [between]
  | n+1 => by
    unfold between
    have ih := @mem_between p lo x n
    by_cases h : n < lo
    · rw [if_pos h]; simp; omega
    · rw [if_neg h]
      by_cases hp : p n = true
      · rw [if_pos hp, List.mem_cons, ih]
        constructor
        · rintro (rfl | ⟨a, b, c⟩)
          · exact ⟨by omega, by omega, hp⟩
          · exact ⟨a, by omega, c⟩
        · rintro ⟨a, b, c⟩
          by_cases e : x = n
          · exact .inl e
          · exact .inr ⟨a, by omega, c⟩
      · rw [if_neg hp, ih]
        constructor
        · rintro ⟨a, b, c⟩; exact ⟨a, by omega, c⟩
        · rintro ⟨a, b, c⟩
          refine ⟨a, ?_, c⟩
          by_cases e : x = n
          · subst e; exact absurd c hp
          · omega

theorem between_length_le (p : Nat → Bool) (lo : Nat) : ∀ hi, (between p lo hi).length ≤ hi - lo
  | 0 => by simp [between]
  | n+1 => by
    unfold between
    have := between_length_le p lo n
    split
    · simp
    · split <;> simp <;> omega

theorem lastBelow_eq_headD (p : Nat → Bool) (nil : Nat) : ∀ n,
    lastBelow p nil n = (between p 0 n).headD nil
  | 0 => rfl
  | n+1 => by
    rw [lastBelow, between, if_neg (Nat.not_lt_zero n)]
    split
    · rfl
    · exact lastBelow_eq_headD p nil n

/-- searching a bucket for something that determines the bucket finds the newest such slot overall
(`q'`: the test as the loop makes it, on the arrays) -/
theorem find?_between (p q q' : Nat → Bool) (lo : Nat) (hqp : ∀ x, q x = true → p x = true) : ∀ hi,
    (∀ x, x < hi → q' x = q x) → (between p lo hi).find? q' = (between q lo hi).head?
  | 0, _ => rfl
  | n+1, hq' => by
    rw [between, between]
    have ih := find?_between p q q' lo hqp n fun x hx => hq' x (Nat.lt_succ_of_lt hx)
    split
    · rfl
    · by_cases hq : q n = true
      · rw [if_pos (hqp n hq), if_pos hq, List.find?_cons_of_pos (l := _) ((hq' n (Nat.lt_succ_self n)).trans hq)]
        rfl
      · rw [if_neg hq]
        split
        · rw [List.find?_cons_of_neg (l := _) (by rw [hq' n (Nat.lt_succ_self n)]; exact hq)]; exact ih
        · exact ih

theorem between_pairwise (p : Nat → Bool) (lo : Nat) : ∀ hi, (between p lo hi).Pairwise (· > ·)
  | 0 => by simp [between]
  | n+1 => by
    unfold between
    have ih := between_pairwise p lo n
    split
    · exact .nil
    · split
      · exact List.pairwise_cons.mpr ⟨fun x hx => (mem_between.mp hx).2.1, ih⟩
      · exact ih

theorem lastBelow_spec (p : Nat → Bool) (nil : Nat) (n : Nat) :
    (lastBelow p nil n = nil ∧ ∀ k, k < n → p k = false) ∨
    (lastBelow p nil n < n ∧ p (lastBelow p nil n) = true ∧
      ∀ k, k < n → p k = true → k ≤ lastBelow p nil n) := by
  rw [lastBelow_eq_headD]
  cases h : between p 0 n with
  | nil =>
    refine .inl ⟨rfl, fun k hk => Bool.eq_false_iff.mpr fun hp => ?_⟩
    have : k ∈ between p 0 n := mem_between.mpr ⟨Nat.zero_le _, hk, hp⟩
    rw [h] at this; cases this
  | cons r t =>
    have hr := mem_between.mp (h ▸ List.mem_cons_self .. : r ∈ between p 0 n)
    refine .inr ⟨hr.2.1, hr.2.2, fun k hk hp => ?_⟩
    have hk' : k ∈ r :: t := h ▸ mem_between.mpr ⟨Nat.zero_le _, hk, hp⟩
    rcases List.mem_cons.mp hk' with e | e
    · exact Nat.le_of_eq e
    · exact Nat.le_of_lt ((List.pairwise_cons.mp (h ▸ between_pairwise p 0 n)).1 k e)

theorem lastBelow_key (f : Nat → Nat) (b nil n : Nat) :
    (lastBelow (fun k => f k == b) nil n = nil ∧ ∀ k, k < n → f k ≠ b) ∨
    (lastBelow (fun k => f k == b) nil n < n ∧ f (lastBelow (fun k => f k == b) nil n) = b ∧
      ∀ k, k < n → f k = b → k ≤ lastBelow (fun k => f k == b) nil n) := by
  rcases lastBelow_spec (fun k => f k == b) nil n with ⟨h1, h2⟩ | ⟨h1, h2, h3⟩
  · exact .inl ⟨h1, fun k hk e => by simpa [e] using h2 k hk⟩
  · exact .inr ⟨h1, by simpa using h2, fun k hk e => h3 k hk (by simpa using e)⟩

/-- `l` is what following `next` from `k` passes before it arrives at `k'` -/
inductive Path (next : Nat → Nat) : Nat → List Nat → Nat → Prop
  | nil (k : Nat) : Path next k [] k
  | cons {k k' : Nat} {l : List Nat} : Path next (next k) l k' → Path next k (k :: l) k'

theorem Path.append {next : Nat → Nat} {a b c : Nat} {l m : List Nat}
    (h : Path next a l b) (h' : Path next b m c) : Path next a (l ++ m) c := by
  induction h with
  | nil => exact h'
  | cons _ ih => exact .cons (ih h')

/-- a bucket list in closed form: from the newest slot below `hi` the `prev` pointers pass the slots
of `between p lo hi` and arrive at the newest slot below `lo` (`sl`: numbering of the slots in the
arrays; `sl nil` stands for "none") -/
theorem path_between (p : Nat → Bool) (sl prev : Nat → Nat) (nil lo : Nat) : ∀ hi, lo ≤ hi →
    (∀ t, lo ≤ t → t < hi → p t = true → prev (sl t) = sl (lastBelow p nil t)) →
    Path prev (sl (lastBelow p nil hi)) ((between p lo hi).map sl) (sl (lastBelow p nil lo))
  | 0, h, _ => by
    have : lo = 0 := by omega
    subst this; exact .nil _
  | n+1, h, hprev => by
    rw [between, lastBelow]
    by_cases hlo : n < lo
    · have : lo = n + 1 := by omega
      subst this
      rw [if_pos hlo]
      exact .nil _
    · have ih := path_between p sl prev nil lo n (by omega) fun t a b c => hprev t a (by omega) c
      rw [if_neg hlo]
      by_cases hp : p n = true
      · rw [if_pos hp, if_pos hp, List.map_cons]
        refine .cons ?_
        rw [hprev n (by omega) (by omega) hp]
        exact ih
      · rw [if_neg hp, if_neg hp]
        exact ih

theorem SlotInv.path {keyOf uv : Nat → Nat} {nil m : Nat} {uvs head prev : Nat → Nat}
    (h : SlotInv keyOf uv nil m uvs head prev) (b : Nat) :
    Path prev (head b) (between (fun t => keyOf t == b) 0 m) nil := by
  have := path_between (fun t => keyOf t == b) id prev nil 0 m (Nat.zero_le _) fun t _ ht hp => by
    rw [id, h.prev t ht, beq_iff_eq.mp hp]; rfl
  rwa [List.map_id, ← h.head] at this

/-- the "remember the one match, fail on a second" loop body on an explicit candidate list -/
def scanJ (mt : Nat → Bool) (i : Nat) : List Nat → Nat → Except Err Nat
  | [], j => .ok j
  | k :: l, j => if mt k then (if j ≠ i then .error .branch else scanJ mt i l k) else scanJ mt i l j

theorem scanJ_ne_hang (mt : Nat → Bool) (i : Nat) : ∀ l j, scanJ mt i l j ≠ .error .hang := by
  intro l
  induction l with
  | nil => intro j h; cases h
  | cons k l ih =>
    intro j
    unfold scanJ
    split
    · split
      · exact fun h => nomatch h
      · exact ih _
    · exact ih _

theorem scanJ_found (mt : Nat → Bool) (i : Nat) : ∀ l j, j ≠ i →
    scanJ mt i l j = if l.any mt then .error .branch else .ok j := by
  intro l
  induction l with
  | nil => intro j _; rfl
  | cons k l ih =>
    intro j hj
    unfold scanJ
    by_cases hm : mt k = true
    · simp [hm, hj]
    · simp only [hm, if_false, List.any_cons, Bool.false_or, Bool.false_eq_true]
      exact ih j hj

theorem scanJ_spec (mt : Nat → Bool) (i : Nat) : ∀ l : List Nat, i ∉ l → l.Nodup →
    (∃ r, scanJ mt i l i = .ok r ∧
      ((r = i ∧ ∀ s ∈ l, mt s = false) ∨ (r ∈ l ∧ mt r = true ∧ ∀ s ∈ l, mt s = true → s = r))) ∨
    (scanJ mt i l i = .error .branch ∧ ∃ s1 s2, s1 ≠ s2 ∧ s1 ∈ l ∧ s2 ∈ l ∧ mt s1 = true ∧ mt s2 = true) := by
  intro l
  induction l with
  | nil => intro _ _; exact .inl ⟨i, rfl, .inl ⟨rfl, fun _ h => nomatch h⟩⟩
  | cons k l ih =>
    intro hi nd
    have hk : k ≠ i := fun e => hi (e ▸ List.mem_cons_self ..)
    obtain ⟨hkl, nd⟩ := List.nodup_cons.mp nd
    unfold scanJ
    by_cases hm : mt k = true
    · rw [if_pos hm, if_neg (fun h => h rfl), scanJ_found mt i l k hk]
      by_cases ha : l.any mt = true
      · rw [if_pos ha]
        obtain ⟨x, hx, hmx⟩ := List.any_eq_true.mp ha
        exact .inr ⟨rfl, k, x, fun e => hkl (e ▸ hx), List.mem_cons_self .., List.mem_cons_of_mem _ hx, hm, hmx⟩
      · rw [if_neg ha]
        refine .inl ⟨k, rfl, .inr ⟨List.mem_cons_self .., hm, fun s hs hms => ?_⟩⟩
        rcases List.mem_cons.mp hs with e | hs
        · exact e
        · exact absurd (List.any_eq_true.mpr ⟨s, hs, hms⟩) ha
    · rw [if_neg hm]
      have hmf : mt k = false := by simpa using hm
      rcases ih (fun h => hi (List.mem_cons_of_mem _ h)) nd with ⟨r, hr, h⟩ | ⟨hr, s1, s2, a, b, c, d, e⟩
      · refine .inl ⟨r, hr, h.imp (fun ⟨a, b⟩ => ⟨a, fun s hs => ?_⟩) (fun ⟨a, b, c⟩ => ⟨List.mem_cons_of_mem _ a, b, fun s hs hms => ?_⟩)⟩
        · rcases List.mem_cons.mp hs with rfl | hs
          · exact hmf
          · exact b s hs
        · rcases List.mem_cons.mp hs with rfl | hs
          · rw [hmf] at hms; cases hms
          · exact c s hs hms
      · exact .inr ⟨hr, s1, s2, a, List.mem_cons_of_mem _ b, List.mem_cons_of_mem _ c, d, e⟩

theorem roodFind_path (L : Nat) (s : RoodSt) (i : Nat) : ∀ {k e : Nat} {l : List Nat},
    Path s.prev k l e → e = 2 * L → (∀ x ∈ l, x ≠ 2 * L) → ∀ f j, l.length < f →
    roodFind L s i f k j = scanJ (fun x => decide (s.uvs x = s.uvs i)) i l j := by
  intro k e l h
  induction h with
  | nil k =>
    intro he _ f j hf
    obtain ⟨f, rfl⟩ : ∃ f', f = f' + 1 := ⟨f - 1, by omega⟩
    unfold roodFind scanJ
    rw [if_pos he]
  | @cons k k' l h ih =>
    intro he hl f j hf
    obtain ⟨f, rfl⟩ : ∃ f', f = f' + 1 := ⟨f - 1, by omega⟩
    have ih := ih he (fun x hx => hl x (List.mem_cons_of_mem _ hx)) f
    simp only [List.length_cons] at hf
    unfold roodFind scanJ
    rw [if_neg (hl k (List.mem_cons_self ..))]
    by_cases hm : s.uvs k = s.uvs i
    · simp only [hm, if_true, decide_true]
      split
      · rfl
      · exact ih _ (by omega)
    · simp only [hm, if_false, decide_false, Bool.false_eq_true]
      exact ih _ (by omega)

theorem uFind_path (C : UCfg) (uvs prev : Nat → Nat) (i : Nat) : ∀ {k e : Nat} {l : List Nat},
    Path prev k l e → e = i → i ∉ l → ∀ f k0 j, prev k0 = k → l.length < f →
    uFind C uvs prev i f k0 j = scanJ (fun x => C.mt (uvs x) (uvs i)) i l j := by
  intro k e l h
  induction h with
  | nil k =>
    intro he _ f k0 j hk hf
    obtain ⟨f, rfl⟩ : ∃ f', f = f' + 1 := ⟨f - 1, by omega⟩
    unfold uFind scanJ
    simp only [hk, he, if_true]
  | @cons k k' l h ih =>
    intro he hl f k0 j hk hf
    obtain ⟨f, rfl⟩ : ∃ f', f = f' + 1 := ⟨f - 1, by omega⟩
    have hki : k ≠ i := fun e => hl (e ▸ List.mem_cons_self ..)
    have ih := ih he (fun hx => hl (List.mem_cons_of_mem _ hx)) f k
    simp only [List.length_cons] at hf
    unfold uFind scanJ
    simp only [hk, hki, if_false]
    split
    · split
      · rfl
      · exact ih _ rfl (by omega)
    · exact ih _ rfl (by omega)

theorem roomFind_path (size : Nat) (s : RoomSt) (target : Nat) : ∀ {k e : Nat} {l : List Nat},
    Path s.prev k l e → e = size → (∀ x ∈ l, x ≠ size) → ∀ f, l.length < f →
    roomFind size s target f k =
      match l.find? (fun x => s.frm x == target) with
      | some r => .ok r
      | none => .error .deadEnd := by
  intro k e l h
  induction h with
  | nil k =>
    intro he _ f hf
    obtain ⟨f, rfl⟩ : ∃ f', f = f' + 1 := ⟨f - 1, by omega⟩
    unfold roomFind
    rw [if_pos he]; rfl
  | @cons k k' l h ih =>
    intro he hl f hf
    obtain ⟨f, rfl⟩ : ∃ f', f = f' + 1 := ⟨f - 1, by omega⟩
    have ih := ih he (fun x hx => hl x (List.mem_cons_of_mem _ hx)) f
    simp only [List.length_cons] at hf
    unfold roomFind
    rw [if_neg (hl k (List.mem_cons_self ..))]
    by_cases hm : s.frm k = target
    · simp [hm]
    · rw [if_neg hm, List.find?_cons_of_neg (l := _) (by simpa using hm)]
      exact ih (by omega)

end GV.Pow
