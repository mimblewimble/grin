import GrinVerif.Lemmas.ChainImplApply
import GrinVerif.Model.ChainPool
import GrinVerif.Model.ChainStatus
/-! Observable equivalence of txhashsets (`TxHS.Equiv`): `rewindSingleBlock` undoes `applyBlockImpl` on the
observable parts; apply and rewind respect the equivalence; the fork switch, and that it rewinds to the fork
point the status reports (`fork_of_common_prefix`: `splitCommon` of `Model/ChainImpl.lean` and `lastCommon` of
`Model/ChainStatus.lean` on two paths with a common prefix; leaf counts are `outSize` of `Model/ChainPool.lean`). -/
namespace GV.Chain
open TxHS

/-- two txhashsets with the same observable content: the same leaves, the same set of unspent
positions, the same `output_pos` lookups (list order of the leaf set and of the index, and the
spent index, are not observable through the txhashset's API) -/
structure TxHS.Equiv (S T : TxHS) : Prop where
  leaves : S.leaves = T.leaves
  leafSet : ∀ i, i ∈ S.leafSet ↔ i ∈ T.leafSet
  index : ∀ c, S.getOutputPos c = T.getOutputPos c

theorem TxHS.Equiv.refl (S : TxHS) : S.Equiv S := ⟨rfl, fun _ => Iff.rfl, fun _ => rfl⟩
theorem TxHS.Equiv.symm {S T : TxHS} (h : S.Equiv T) : T.Equiv S :=
  ⟨h.leaves.symm, fun i => (h.leafSet i).symm, fun c => (h.index c).symm⟩
theorem TxHS.Equiv.trans {S T U : TxHS} (h : S.Equiv T) (g : T.Equiv U) : S.Equiv U :=
  ⟨h.leaves.trans g.leaves, fun i => (h.leafSet i).trans (g.leafSet i), fun c => (h.index c).trans (g.index c)⟩

theorem TxHS.Equiv.getData {S T : TxHS} (h : S.Equiv T) (i : Nat) : S.getData i = T.getData i := by
  unfold TxHS.getData
  have := h.leafSet i
  by_cases hm : i ∈ S.leafSet
  · simp [hm, this.mp hm, h.leaves]
  · have hm' : i ∉ T.leafSet := fun x => hm (this.mpr x)
    simp [hm, hm']

theorem TxHS.Equiv.getUnspent {S T : TxHS} (h : S.Equiv T) (c : Nat) : S.getUnspent c = T.getUnspent c := by
  unfold TxHS.getUnspent
  rw [h.index c]
  cases T.getOutputPos c with
  | none => rfl
  | some cp => simp only [h.getData]

theorem TxHS.Equiv.rinv {S T : TxHS} (h : S.Equiv T) (hi : RInv S) : RInv T :=
  ⟨fun i hm => h.leaves ▸ hi.bound i ((h.leafSet i).mpr hm),
   fun i hm c hc => by
     rw [← h.index c]
     exact hi.indexed i ((h.leafSet i).mpr hm) c (h.leaves ▸ hc),
   fun c cp hg => by
     obtain ⟨h1, h2⟩ := hi.points c cp ((h.index c).trans hg)
     exact ⟨(h.leafSet _).mp h1, h.leaves ▸ h2⟩⟩

theorem foldl_delete (os : List (Nat × Bool)) : ∀ (T : TxHS),
    (os.foldl (fun T o => T.deleteOutputPos o.1) T).leaves = T.leaves ∧
    (os.foldl (fun T o => T.deleteOutputPos o.1) T).leafSet = T.leafSet ∧
    (os.foldl (fun T o => T.deleteOutputPos o.1) T).spentIdx = T.spentIdx ∧
    ∀ c, (os.foldl (fun T o => T.deleteOutputPos o.1) T).getOutputPos c =
      if c ∈ os.map (·.1) then none else T.getOutputPos c := by
  induction os with
  | nil => intro T; simp
  | cons o os ih =>
    intro T
    simp only [List.foldl_cons]
    obtain ⟨a, b, c, d⟩ := ih (T.deleteOutputPos o.1)
    refine ⟨a, b, c, ?_⟩
    intro c'
    rw [d c', getOutputPos_delete]
    simp only [List.map_cons, List.mem_cons]
    by_cases h1 : c' ∈ os.map (·.1)
    · simp [h1]
    · by_cases h2 : c' = o.1
      · simp [h2]
      · simp [h1, h2]

/-- the re-save step of `rewind_single_block` -/
def resave (T : TxHS) (cp : CommitPos) : TxHS :=
  match T.getData cp.pos with
  | some c => T.saveOutputPos c cp
  | none => T

theorem foldl_resave (sp : List (Nat × CommitPos)) : ∀ (T : TxHS),
    (∀ x ∈ sp, T.getData x.2.pos = some x.1) → (sp.map (·.1)).Nodup →
    ((sp.map (·.2)).foldl resave T).leaves = T.leaves ∧
    ((sp.map (·.2)).foldl resave T).leafSet = T.leafSet ∧
    ((sp.map (·.2)).foldl resave T).spentIdx = T.spentIdx ∧
    (∀ x ∈ sp, ((sp.map (·.2)).foldl resave T).getOutputPos x.1 = some x.2) ∧
    (∀ c, c ∉ sp.map (·.1) → ((sp.map (·.2)).foldl resave T).getOutputPos c = T.getOutputPos c) := by
  induction sp with
  | nil => intro T _ _; simp
  | cons x xs ih =>
    intro T hd hnd
    simp only [List.map_cons, List.nodup_cons] at hnd
    have hx := hd x (List.mem_cons_self ..)
    have e1 : resave T x.2 = T.saveOutputPos x.1 x.2 := by unfold resave; rw [hx]
    simp only [List.map_cons, List.foldl_cons, e1]
    have hd' : ∀ y ∈ xs, (T.saveOutputPos x.1 x.2).getData y.2.pos = some y.1 := by
      intro y hy; rw [getData_save]; exact hd y (List.mem_cons_of_mem _ hy)
    obtain ⟨a, b, c, d, e⟩ := ih (T.saveOutputPos x.1 x.2) hd' hnd.2
    refine ⟨a, b, c, ?_, ?_⟩
    · intro y hy
      rcases List.mem_cons.mp hy with hy | hy
      · subst hy
        rw [e _ hnd.1, getOutputPos_save, if_pos rfl]
      · exact d y hy
    · intro c' hc'
      simp only [List.mem_cons, not_or] at hc'
      rw [e c' hc'.2, getOutputPos_save, if_neg hc'.1]

/-- `rewind_mmrs_to_pos` + `LeafSet::rewind` -/
def rewindMmrs (S : TxHS) (n : Nat) (cps : List CommitPos) : TxHS :=
  { S with leaves := S.leaves.take n, leafSet := S.leafSet.filter (· < n) ++ cps.map (·.pos) }

theorem rewindSingleBlock_eq (S : TxHS) (b : Blk) (n : Nat) :
    rewindSingleBlock S b n =
      (((S.getSpentIndex b.id).getD []).foldl resave
        (b.outs.foldl (fun T o => T.deleteOutputPos o.1)
          (rewindMmrs S n ((S.getSpentIndex b.id).getD [])))) := rfl

theorem rewindSingleBlock_spentIdx (S : TxHS) (b : Blk) (n : Nat) :
    (rewindSingleBlock S b n).spentIdx = S.spentIdx := by
  rw [rewindSingleBlock_eq]
  generalize hsp : (S.getSpentIndex b.id).getD [] = cps
  have : ∀ (l : List CommitPos) (T : TxHS), (l.foldl resave T).spentIdx = T.spentIdx := by
    intro l
    induction l with
    | nil => intro T; rfl
    | cons cp l ih =>
      intro T
      simp only [List.foldl_cons]
      rw [ih]
      unfold resave
      split <;> rfl
  rw [this, (foldl_delete b.outs _).2.2.1]
  rfl

/-- **`rewind_single_block` undoes `apply_block`** on the observable parts (leaves, leaf set,
`output_pos` lookups — hence `get_unspent`), under the representation invariant, for a block that
does not spend its own outputs; `S.leaves.length` is the previous header's output size. -/
theorem rewind_apply_equiv {S S' : TxHS} {b : Blk} {sp : List (Nat × CommitPos)} (hi : RInv S)
    (A : BlockApplied S S' b sp) : (rewindSingleBlock S' b S.leaves.length).Equiv S := by
  rw [rewindSingleBlock_eq]
  have hsp : (S'.getSpentIndex b.id).getD [] = sp.map (·.2) := by rw [A.spentHere]; rfl
  rw [hsp]
  generalize hT1 : rewindMmrs S' S.leaves.length (sp.map (·.2)) = T1
  have hT1l : T1.leaves = S.leaves := by
    rw [← hT1]; show S'.leaves.take _ = _
    rw [A.leaves]; simp
  have hT1s : ∀ i, i ∈ T1.leafSet ↔ i ∈ S.leafSet := by
    intro i
    rw [← hT1]
    show i ∈ S'.leafSet.filter (· < S.leaves.length) ++ (sp.map (·.2)).map (·.pos) ↔ _
    simp only [List.mem_append, List.mem_filter, decide_eq_true_eq, A.leafSet i, List.map_map]
    constructor
    · rintro (⟨h | h, hlt⟩ | h)
      · exact h.1
      · omega
      · obtain ⟨x, hx, hxi⟩ := List.mem_map.mp h
        rw [← hxi]
        exact (hi.points x.1 x.2 (A.wasUnspent x hx)).1
    · intro h
      by_cases hm : i ∈ sp.map (·.2.pos)
      · exact Or.inr hm
      · exact Or.inl ⟨Or.inl ⟨h, hm⟩, hi.bound i h⟩
  have hT1i : ∀ c, T1.getOutputPos c = S'.getOutputPos c := by intro c; rw [← hT1]; rfl
  obtain ⟨d1, d2, _, d4⟩ := foldl_delete b.outs T1
  generalize hT2 : b.outs.foldl (fun T o => T.deleteOutputPos o.1) T1 = T2 at d1 d2 d4
  have hdata : ∀ x ∈ sp, T2.getData x.2.pos = some x.1 := by
    intro x hx
    obtain ⟨h1, h2⟩ := hi.points x.1 x.2 (A.wasUnspent x hx)
    rw [getData_eq_some, d2, d1, hT1l]
    exact ⟨(hT1s _).mpr h1, h2⟩
  obtain ⟨r1, r2, _, r4, r5⟩ := foldl_resave sp T2 hdata (A.spIns ▸ A.insNodup)
  refine ⟨?_, ?_, ?_⟩
  · rw [r1, d1, hT1l]
  · intro i; rw [r2, d2]; exact hT1s i
  · intro c
    by_cases hc : c ∈ b.ins
    · rw [← A.spIns] at hc
      obtain ⟨x, hx, hxc⟩ := List.mem_map.mp hc
      rw [← hxc, r4 x hx, A.wasUnspent x hx]
    · rw [r5 c (A.spIns ▸ hc), d4 c]
      by_cases ho : c ∈ b.outs.map (·.1)
      · rw [if_pos ho, A.fresh c ho]
      · rw [if_neg ho, hT1i c, A.idxOther c hc ho]

theorem pairs_eq_of {β : Type} (f : Nat → Option β) : ∀ (l m : List (Nat × β)),
    l.map (·.1) = m.map (·.1) → (∀ x ∈ l, f x.1 = some x.2) → (∀ x ∈ m, f x.1 = some x.2) → l = m := by
  intro l
  induction l with
  | nil => intro m h _ _; cases m with
    | nil => rfl
    | cons y ys => simp at h
  | cons x xs ih =>
    intro m h hl hm
    cases m with
    | nil => simp at h
    | cons y ys =>
      simp only [List.map_cons, List.cons.injEq] at h
      have h1 := hl x (List.mem_cons_self ..)
      have h2 := hm y (List.mem_cons_self ..)
      rw [h.1] at h1
      rw [h1] at h2
      injection h2 with h2
      have : x = y := Prod.ext h.1 h2
      rw [this, ih ys h.2 (fun z hz => hl z (List.mem_cons_of_mem _ hz))
        (fun z hz => hm z (List.mem_cons_of_mem _ hz))]

theorem applyBlockImpl_equiv {S T S' : TxHS} {b : Blk} (he : S.Equiv T) (hi : RInv S)
    (hct : cutThroughViolation b = false) (hr : applyBlockImpl S b = .ok S') :
    ∃ T', applyBlockImpl T b = .ok T' ∧ S'.Equiv T' ∧
      T'.getSpentIndex b.id = S'.getSpentIndex b.id := by
  obtain ⟨sp, A⟩ := applyBlockImpl_ok hi hct hr
  have hiT := he.rinv hi
  obtain ⟨T', hT'⟩ := applyBlockImpl_of hiT hct A.insNodup A.outsNodup
    (fun c hc => (he.index c) ▸ A.fresh c hc)
    (fun c hc => by
      rw [← he.index c, ← A.spIns] at *
      obtain ⟨x, hx, hxc⟩ := List.mem_map.mp hc
      rw [← hxc, A.wasUnspent x hx]; rfl)
  obtain ⟨sp', B⟩ := applyBlockImpl_ok hiT hct hT'
  have hsp : sp' = sp := pairs_eq_of T.getOutputPos sp' sp (B.spIns.trans A.spIns.symm) B.wasUnspent
    (fun x hx => (he.index x.1) ▸ A.wasUnspent x hx)
  subst hsp
  have hls : ∀ i, i ∈ S'.leafSet ↔ i ∈ T'.leafSet := by
    intro i
    rw [A.leafSet i, B.leafSet i, he.leafSet i, he.leaves]
  have hlv : S'.leaves = T'.leaves := by rw [A.leaves, B.leaves, he.leaves]
  refine ⟨T', hT', ⟨hlv, hls, ?_⟩, by rw [A.spentHere, B.spentHere]⟩
  intro c
  by_cases hc : c ∈ b.ins
  · rw [A.idxIn c hc, B.idxIn c hc]
  · by_cases ho : c ∈ b.outs.map (·.1)
    · obtain ⟨i, e1, _⟩ := A.idxOut c ho
      obtain ⟨j, e2, _⟩ := B.idxOut c ho
      obtain ⟨a1, a2⟩ := A.rinv.points c _ e1
      obtain ⟨b1, b2⟩ := B.rinv.points c _ e2
      have : i = j := A.rinv.unspent_distinct i j c a1 ((hls j).mpr b1) a2 (hlv ▸ b2)
      rw [e1, e2, this]
    · rw [A.idxOther c hc ho, B.idxOther c hc ho, he.index c]

theorem foldl_resave_equiv (l : List CommitPos) : ∀ {S T : TxHS}, S.Equiv T →
    (l.foldl resave S).Equiv (l.foldl resave T) := by
  induction l with
  | nil => intro S T h; exact h
  | cons cp l ih =>
    intro S T h
    simp only [List.foldl_cons]
    apply ih
    unfold resave
    rw [h.getData cp.pos]
    cases T.getData cp.pos with
    | none => exact h
    | some c =>
      exact ⟨h.leaves, h.leafSet, fun c' => by
        rw [getOutputPos_save, getOutputPos_save, h.index c']⟩

theorem rewindSingleBlock_equiv {S T : TxHS} (b : Blk) (n : Nat) (he : S.Equiv T)
    (hs : S.getSpentIndex b.id = T.getSpentIndex b.id) :
    (rewindSingleBlock S b n).Equiv (rewindSingleBlock T b n) := by
  rw [rewindSingleBlock_eq, rewindSingleBlock_eq, hs]
  apply foldl_resave_equiv
  obtain ⟨a1, a2, _, a4⟩ := foldl_delete b.outs (rewindMmrs S n ((T.getSpentIndex b.id).getD []))
  obtain ⟨b1, b2, _, b4⟩ := foldl_delete b.outs (rewindMmrs T n ((T.getSpentIndex b.id).getD []))
  refine ⟨?_, ?_, ?_⟩
  · rw [a1, b1]; show S.leaves.take n = T.leaves.take n; rw [he.leaves]
  · intro i
    rw [a2, b2]
    show i ∈ S.leafSet.filter (· < n) ++ _ ↔ i ∈ T.leafSet.filter (· < n) ++ _
    simp only [List.mem_append, List.mem_filter, he.leafSet i]
  · intro c
    rw [a4 c, b4 c]
    show (if _ then none else S.getOutputPos c) = (if _ then none else T.getOutputPos c)
    rw [he.index c]

theorem applyBlocks_append (S : TxHS) (xs ys : List Blk) :
    applyBlocks S (xs ++ ys) =
      match applyBlocks S xs with
      | .error e => .error e
      | .ok S' => applyBlocks S' ys := by
  induction xs generalizing S with
  | nil => rfl
  | cons x xs ih =>
    simp only [List.cons_append, applyBlocks]
    cases applyBlockImpl S x with
    | error e => rfl
    | ok S1 => exact ih S1

theorem rewindBlocks_append (S : TxHS) (xs ys : List (Blk × Nat)) :
    rewindBlocks S (xs ++ ys) = rewindBlocks (rewindBlocks S xs) ys := by
  induction xs generalizing S with
  | nil => rfl
  | cons x xs ih => simp only [List.cons_append, rewindBlocks]; exact ih _

theorem rewindBlocks_spentIdx (S : TxHS) (xs : List (Blk × Nat)) :
    (rewindBlocks S xs).spentIdx = S.spentIdx := by
  induction xs generalizing S with
  | nil => rfl
  | cons x xs ih => simp only [rewindBlocks]; rw [ih, rewindSingleBlock_spentIdx]

theorem applyBlocks_ok (bs : List Blk) : ∀ {S T : TxHS}, RInv S →
    (∀ b ∈ bs, cutThroughViolation b = false) → applyBlocks S bs = .ok T →
    RInv T ∧ ∀ id, id ∉ bs.map (·.id) → T.getSpentIndex id = S.getSpentIndex id := by
  induction bs with
  | nil =>
    intro S T hi _ h
    obtain rfl := applyBlocks_nil_ok h
    exact ⟨hi, fun _ _ => rfl⟩
  | cons b bs ih =>
    intro S T hi hct h
    obtain ⟨S1, h1, h⟩ := applyBlocks_cons_ok h
    obtain ⟨sp, A⟩ := applyBlockImpl_ok hi (hct b (List.mem_cons_self ..)) h1
    obtain ⟨r, s⟩ := ih A.rinv (fun b' hb' => hct b' (List.mem_cons_of_mem _ hb')) h
    refine ⟨r, ?_⟩
    intro id hid
    simp only [List.map_cons, List.mem_cons, not_or] at hid
    rw [s id hid.2, A.spentOther id hid.1]

/-- **rewinding a branch block by block, tip first, leads back to the fork point** (observably) -/
theorem rewindBlocks_applyBlocks (d : List Blk) : ∀ {P S S₁ : TxHS}, RInv P →
    (∀ b ∈ d, cutThroughViolation b = false) → (d.map (·.id)).Nodup →
    applyBlocks P d = .ok S → S₁.Equiv S →
    (∀ b ∈ d, S₁.getSpentIndex b.id = S.getSpentIndex b.id) →
    (rewindBlocks S₁ (withPrevSizes P.leaves.length d).reverse).Equiv P := by
  induction d with
  | nil =>
    intro P S S₁ _ _ _ h he _
    obtain rfl := applyBlocks_nil_ok h
    exact he
  | cons b d ih =>
    intro P S S₁ hi hct hnd h he hsp
    obtain ⟨P1, h1, h⟩ := applyBlocks_cons_ok h
    simp only [List.map_cons, List.nodup_cons] at hnd
    obtain ⟨sp, A⟩ := applyBlockImpl_ok hi (hct b (List.mem_cons_self ..)) h1
    have hct' : ∀ b' ∈ d, cutThroughViolation b' = false :=
      fun b' hb' => hct b' (List.mem_cons_of_mem _ hb')
    have hlen : P1.leaves.length = P.leaves.length + b.outs.length := by
      rw [A.leaves]; simp
    have IH := ih A.rinv hct' hnd.2 h he (fun b' hb' => hsp b' (List.mem_cons_of_mem _ hb'))
    simp only [withPrevSizes, List.reverse_cons, rewindBlocks_append, rewindBlocks]
    rw [← hlen]
    have hspb : (rewindBlocks S₁ (withPrevSizes P1.leaves.length d).reverse).getSpentIndex b.id =
        P1.getSpentIndex b.id := by
      unfold getSpentIndex
      rw [rewindBlocks_spentIdx]
      have := hsp b (List.mem_cons_self ..)
      unfold getSpentIndex at this
      rw [this]
      exact (applyBlocks_ok d A.rinv hct' h).2 b.id hnd.1
    exact (rewindSingleBlock_equiv b P.leaves.length IH hspb).trans (rewind_apply_equiv hi A)

theorem applyBlocks_equiv (u : List Blk) : ∀ {S T S' : TxHS}, S.Equiv T → RInv S →
    (∀ b ∈ u, cutThroughViolation b = false) → applyBlocks S u = .ok S' →
    ∃ T', applyBlocks T u = .ok T' ∧ S'.Equiv T' := by
  induction u with
  | nil =>
    intro S T S' he _ _ h
    obtain rfl := applyBlocks_nil_ok h
    exact ⟨T, rfl, he⟩
  | cons b u ih =>
    intro S T S' he hi hct h
    obtain ⟨S1, h1, h⟩ := applyBlocks_cons_ok h
    have hcb := hct b (List.mem_cons_self ..)
    obtain ⟨T1, hT1, he1, _⟩ := applyBlockImpl_equiv he hi hcb h1
    obtain ⟨sp, A⟩ := applyBlockImpl_ok hi hcb h1
    obtain ⟨T', hT', he'⟩ := ih he1 A.rinv (fun b' hb' => hct b' (List.mem_cons_of_mem _ hb')) h
    exact ⟨T', by simp only [applyBlocks, hT1, hT'], he'⟩

theorem fork_switch_equiv {P S S₁ T : TxHS} (d u : List Blk) (hi : RInv P)
    (hctd : ∀ b ∈ d, cutThroughViolation b = false) (hctu : ∀ b ∈ u, cutThroughViolation b = false)
    (hnd : (d.map (·.id)).Nodup)
    (hd : applyBlocks P d = .ok S) (hu : applyBlocks P u = .ok T) (he : S₁.Equiv S)
    (hsp : ∀ b ∈ d, S₁.getSpentIndex b.id = S.getSpentIndex b.id) :
    ∃ T', rewindAndApplyFork S₁ (withPrevSizes P.leaves.length d).reverse u = .ok T' ∧ T'.Equiv T := by
  have hR := rewindBlocks_applyBlocks d hi hctd hnd hd he hsp
  obtain ⟨T', hT', heq⟩ := applyBlocks_equiv u hR.symm hi hctu hu
  exact ⟨T', hT', heq.symm⟩

theorem applyBlocks_leaves_length (bs : List Blk) : ∀ {S T : TxHS}, RInv S →
    (∀ b ∈ bs, cutThroughViolation b = false) → applyBlocks S bs = .ok T →
    T.leaves.length = S.leaves.length + outSize bs := by
  induction bs with
  | nil =>
    intro S T _ _ h
    obtain rfl := applyBlocks_nil_ok h
    simp [outSize]
  | cons b bs ih =>
    intro S T hi hct h
    obtain ⟨S1, h1, h⟩ := applyBlocks_cons_ok h
    obtain ⟨sp, A⟩ := applyBlockImpl_ok hi (hct b (List.mem_cons_self ..)) h1
    have := ih A.rinv (fun b' hb' => hct b' (List.mem_cons_of_mem _ hb')) h
    rw [this, A.leaves]
    simp [outSize]
    omega

theorem splitCommon_prefix (pre d u : List Blk) (n : Nat) :
    splitCommon (pre ++ d) (pre ++ u) n = splitCommon d u (n + outSize pre) := by
  induction pre generalizing n with
  | nil => simp [outSize]
  | cons a pre ih =>
    simp only [List.cons_append, splitCommon, beq_self_eq_true, if_true]
    rw [ih]
    have : n + a.outs.length + outSize pre = n + outSize (a :: pre) := by
      simp only [outSize, List.map_cons, List.sum_cons]; omega
    rw [this]

theorem splitCommon_diverge (d u : List Blk) (n : Nat)
    (hdiff : ∀ x y, d.head? = some x → u.head? = some y → x.id ≠ y.id) :
    splitCommon d u n = (n, d, u) := by
  cases d with
  | nil => cases u <;> rfl
  | cons x d =>
    cases u with
    | nil => rfl
    | cons y u =>
      have : (x.id == y.id) = false := by simpa using hdiff x y rfl rfl
      simp [splitCommon, this]

theorem lastCommon_prefix (pre d u : List Blk) (a : Nat) :
    lastCommon (pre ++ d) (pre ++ u) a = lastCommon d u ((pre.getLast?.map (·.id)).getD a) := by
  induction pre generalizing a with
  | nil => rfl
  | cons x pre ih =>
    simp only [List.cons_append, lastCommon, beq_self_eq_true, if_true]
    rw [ih]
    cases pre <;> rfl

theorem lastCommon_diverge (d u : List Blk) (a : Nat)
    (hdiff : ∀ x y, d.head? = some x → u.head? = some y → x.id ≠ y.id) : lastCommon d u a = a := by
  cases d with
  | nil => cases u <;> rfl
  | cons x d =>
    cases u with
    | nil => rfl
    | cons y u =>
      have : (x.id == y.id) = false := by simpa using hdiff x y rfl rfl
      simp [lastCommon, this]

/-- two root-first paths that part after `pre`: the fork point `determine_status` reports
(`forkPoint`, i.e. `lastCommon`, `Model/ChainStatus.lean`) is the last block of `pre`, and it is the block
down to which the fork switch of the txhashset rewinds (`splitCommon`: output size of `pre`) -/
theorem fork_of_common_prefix (pre d u : List Blk) (a : Nat)
    (hdiff : ∀ x y, d.head? = some x → u.head? = some y → x.id ≠ y.id) :
    lastCommon (pre ++ d) (pre ++ u) a = (pre.getLast?.map (·.id)).getD a ∧
    splitCommon (pre ++ d) (pre ++ u) 0 = (outSize pre, d, u) :=
  ⟨by rw [lastCommon_prefix, lastCommon_diverge _ _ _ hdiff],
   by rw [splitCommon_prefix, splitCommon_diverge _ _ _ hdiff, Nat.zero_add]⟩

theorem switchTo_eq {P : TxHS} (S : TxHS) (pre d u : List Blk)
    (hct : ∀ b ∈ pre, cutThroughViolation b = false) (hP : applyBlocks {} pre = .ok P)
    (hdiff : ∀ x y, d.head? = some x → u.head? = some y → x.id ≠ y.id) :
    switchTo S (pre ++ d) (pre ++ u) =
      rewindAndApplyFork S (withPrevSizes P.leaves.length d).reverse u := by
  have hlen := applyBlocks_leaves_length pre RInv.empty hct hP
  unfold switchTo
  rw [(fork_of_common_prefix pre d u 0 hdiff).2]
  simp only
  rw [hlen]
  simp

end GV.Chain
