import GrinVerif.Model.Crash
import GrinVerif.Model.CrashCompact
import GrinVerif.Lemmas.CrashPath
import GrinVerif.Lemmas.CrashRecover
/-! Lemmas for the compaction extension of the crash model: closed form of the state after `k`
compaction steps, which of them are coherent, `recoverC` on coherent states is `recover`,
`fallbackC`/`recoverC` as instances of the common loop (`fallbackC_eq_with`, `DurableC.gone`). -/
namespace GV.Crash

theorem foldl_take_eq {α σ : Type} (f : σ → α → σ) (steps : List α) (S : Nat → σ)
    (hs : ∀ k (h : k < steps.length), S (k + 1) = f (S k) steps[k])
    (hS : ∀ k, steps.length ≤ k → S k = S steps.length) (k : Nat) :
    (steps.take k).foldl f (S 0) = S k := by
  have key : ∀ j, j ≤ steps.length → (steps.take j).foldl f (S 0) = S j := by
    intro j
    induction j with
    | zero => intro _; rfl
    | succ j ih =>
      intro hj
      rw [List.take_succ_eq_append_getElem hj, List.foldl_append, ih (Nat.le_of_succ_le hj)]
      exact (hs j hj).symm
  rcases Nat.le_total k steps.length with h | h
  · exact key k h
  · rw [List.take_of_length_le h, hS k h, ← key _ (Nat.le_refl _), List.take_length]

def cState (t : CTarget) (d : DurableC) (k : Nat) : DurableC :=
  { base := d.base,
    out := { hash := if 2 ≤ k then some t.newPrun else if 1 ≤ k then none else d.out.hash,
             data := if 4 ≤ k then some t.newPrun else if 3 ≤ k then none else d.out.data,
             prun := if 5 ≤ k then t.newPrun else d.out.prun },
    rp := { hash := if 8 ≤ k then some t.newPrun else if 7 ≤ k then none else d.rp.hash,
            data := if 10 ≤ k then some t.newPrun else if 9 ≤ k then none else d.rp.data,
            prun := if 11 ≤ k then t.newPrun else d.rp.prun },
    tail := if 13 ≤ k then t.newTail else d.tail }

theorem crashAfterC_eq (t : CTarget) (d : DurableC) (k : Nat) : crashAfterC t d k = cState t d k := by
  refine foldl_take_eq (applyCStep t) compactSteps (cState t d) ?_ ?_ k
  · intro j hj
    match j, hj with
    | 0, _ | 1, _ | 2, _ | 3, _ | 4, _ | 5, _ | 6, _ | 7, _ | 8, _ | 9, _ | 10, _ | 11, _ | 12, _ => rfl
    | j + 13, hj => exact absurd hj (by simp [compactSteps])
  · intro j hj
    have e : ∀ n, n ≤ 13 → (n ≤ j) = True := fun n hn => eq_true (Nat.le_trans hn hj)
    simp [cState, compactSteps, e]

theorem cState_base (t : CTarget) (d : DurableC) (k : Nat) : (cState t d k).base = d.base := rfl

/-- the crash points of a compaction of clean files at which both prunable MMRs read coherently -/
theorem cState_coherent (t : CTarget) (d : DurableC) (prun : List Leaf) (k : Nat)
    (ho : d.out = PFiles.clean prun) (hr : d.rp = PFiles.clean prun) (hk : k = 0 ∨ k = 5 ∨ k = 6 ∨ 11 ≤ k) :
    (cState t d k).out.coherent = true ∧ (cState t d k).rp.coherent = true := by
  rcases hk with rfl | rfl | rfl | hk
  · simp [cState, ho, hr, PFiles.coherent, PFiles.clean]
  · simp [cState, ho, hr, PFiles.coherent, PFiles.clean]
  · simp [cState, ho, hr, PFiles.coherent, PFiles.clean]
  · have e : ∀ n, n ≤ 11 → n ≤ k := fun n hn => Nat.le_trans hn hk
    simp [cState, ho, hr, PFiles.coherent, PFiles.clean, e]

/-- … and those at which one of them does not: a file is absent (`k = 1, 3, 7, 9`), or — when
the compaction prunes anything new — a compacted file sits beside a stale prune list
(`k = 2, 4, 8, 10`) -/
theorem cState_incoherent (t : CTarget) (d : DurableC) (prun : List Leaf) (k : Nat)
    (ho : d.out = PFiles.clean prun) (hr : d.rp = PFiles.clean prun)
    (hk : k = 1 ∨ k = 3 ∨ k = 7 ∨ k = 9 ∨ (t.newPrun ≠ prun ∧ (k = 2 ∨ k = 4 ∨ k = 8 ∨ k = 10))) :
    ((cState t d k).out.coherent && (cState t d k).rp.coherent) = false := by
  rcases hk with rfl | rfl | rfl | rfl | ⟨hne, hk⟩
  · simp [cState, ho, hr, PFiles.coherent, PFiles.clean]
  · simp [cState, ho, hr, PFiles.coherent, PFiles.clean]
  · simp [cState, ho, hr, PFiles.coherent, PFiles.clean]
  · simp [cState, ho, hr, PFiles.coherent, PFiles.clean]
  · rcases hk with rfl | rfl | rfl | rfl <;>
      simp [cState, ho, hr, PFiles.coherent, PFiles.clean, hne]

theorem PFiles.clean_coherent (prun : List Leaf) : (PFiles.clean prun).coherent = true := by
  simp [PFiles.coherent, PFiles.clean]

theorem validAtC_of_coherent (bc : Nat → Bool) (d : DurableC) (readded : List Leaf) (P : List BlkInfo)
    (h1 : d.out.coherent = true) (h2 : d.rp.coherent = true) :
    validAtC bc d readded P = validAt bc d.base readded P := by
  simp [validAtC, h1, h2]

theorem validAtC_of_incoherent (bc : Nat → Bool) (d : DurableC) (readded : List Leaf) (P : List BlkInfo)
    (h : (d.out.coherent && d.rp.coherent) = false) : validAtC bc d readded P = false := by
  simp only [validAtC, h, Bool.false_and]

/-- the block that would have to be undone has been deleted: the candidate lies below the body tail -/
def DurableC.gone (d : DurableC) (_ : Nat) (p : List BlkInfo) : Bool := decide (p.length - 1 < d.tail)

theorem DurableC.gone_eq_true {d : DurableC} {h : Nat} {p : List BlkInfo} (ht : p.length - 1 < d.tail) :
    d.gone h p = true := decide_eq_true ht

/-- nothing at or above the tail has been deleted: the walk down to `M` never misses a block -/
theorem DurableC.gone_above {d : DurableC} {M : List BlkInfo} (ht : d.tail ≤ M.length) (T : List BlkInfo) :
    Above M T fun Q _ => d.gone (tipOf Q) Q = false :=
  fun T1 x T2 _ => decide_eq_false (by simp; omega)

theorem fallbackC_eq_with (bc : Nat → Bool) (tbl : List BlkInfo) (d : DurableC) (fuel h : Nat) (r : List Leaf) :
    fallbackC bc tbl d fuel h r =
      fallbackWith (validAtC bc d) d.gone tbl fuel h r := by
  induction fuel generalizing h r with
  | zero => rfl
  | succ f ih =>
    simp only [fallbackC, fallbackWith, ih, DurableC.gone, decide_eq_true_eq]
    cases pathOf tbl (tbl.length + 1) h [] <;> rfl

theorem recoverC_eq_with (bc : Nat → Bool) (tbl : List BlkInfo) (d : DurableC) :
    recoverC bc tbl d = recoverWith (validAtC bc d) d.gone tbl d.base := by
  simp only [recoverC, recoverWith, fallbackC_eq_with]
  split
  · rfl
  · cases pathOf tbl (tbl.length + 1) d.base.dbHHead [] <;> rfl

theorem recoverC_of_hdrOk (bc : Nat → Bool) (tbl : List BlkInfo) (d : DurableC) (h : HdrOk tbl d.base) :
    recoverC bc tbl d = fallbackWith (validAtC bc d) d.gone tbl (tbl.length + 1) d.base.dbHead [] :=
  (recoverC_eq_with bc tbl d).trans (recoverWith_of_hdrOk d.base h)

/-- the safe-state characterisation carries over: coherent files, header files consistent with the
header head, base state agreeing with `consistent O` ⇒ reopens on the tip of `O` (no block has to
be undone, so the tail does not matter) -/
theorem recoverC_of_agrees (bc : Nat → Bool) (tbl : List BlkInfo) (O : List BlkInfo) (d : DurableC)
    (hO : pathOf tbl (tbl.length + 1) (tipOf O) [] = some O)
    (h1 : d.out.coherent = true) (h2 : d.rp.coherent = true)
    (hh : HdrOk tbl d.base) (ha : AgreesOld O d.base) :
    recoverC bc tbl d = .ok (tipOf O) := by
  rw [recoverC_of_hdrOk bc tbl d hh, ha.head]
  apply fallbackWith_stop _ _ _ O hO
  right
  rw [validAtC_of_coherent bc d [] O h1 h2]
  exact validAt_of_agrees bc O d.base ha

/-- **Conservative extension.** On a never-compacted node (coherent files, nothing deleted)
`recoverC` is `recover`. -/
theorem recoverC_eq_recover (bc : Nat → Bool) (tbl : List BlkInfo) (d : DurableC)
    (h1 : d.out.coherent = true) (h2 : d.rp.coherent = true) (ht : d.tail = 0) :
    recoverC bc tbl d = recover bc tbl d.base := by
  rw [recoverC_eq_with, recover_eq_with]
  -- nothing lies below tail 0, and with coherent files the validity tests agree
  congr 1
  · funext r P; exact validAtC_of_coherent bc d r P h1 h2
  · funext _ p; exact decide_eq_false (by rw [ht]; exact Nat.not_lt_zero _)

theorem crashAfterCB_base (t : Target) (d : DurableC) (steps : List Step) (k : Nat) :
    (crashAfterCB t d steps k).base = crashAfter t d.base steps k ∧
    (crashAfterCB t d steps k).out = d.out ∧ (crashAfterCB t d steps k).rp = d.rp ∧
    (crashAfterCB t d steps k).tail = d.tail := by
  simp [crashAfterCB]

theorem validAtC_crashAfterCB (bc : Nat → Bool) (t : Target) (O : List BlkInfo) (prun : List Leaf) (tail : Nat)
    (steps : List Step) (k : Nat) (r : List Leaf) (P : List BlkInfo) :
    validAtC bc (crashAfterCB t (consistentC O prun tail) steps k) r P =
      validAt bc (crashAfter t (consistent O) steps k) r P :=
  validAtC_of_coherent bc _ r P (PFiles.clean_coherent prun) (PFiles.clean_coherent prun)

/-- with incoherent files no candidate validates: if nothing is deleted above `M`, the loop walks down to `M` -/
theorem recoverC_incoherent_walk (bc : Nat → Bool) (tbl : List BlkInfo) (d : DurableC) (M T : List BlkInfo)
    (hM : M ≠ []) (hh : HdrOk tbl d.base) (hhead : d.base.dbHead = tipOf (M ++ T))
    (hO : pathOf tbl (tbl.length + 1) (tipOf (M ++ T)) [] = some (M ++ T))
    (hinc : (d.out.coherent && d.rp.coherent) = false) (ht : d.tail ≤ M.length) :
    recoverC bc tbl d = fallbackWith (validAtC bc d) d.gone tbl (tbl.length + 1 - T.length) (tipOf M) (undo M T) := by
  rw [recoverC_of_hdrOk bc tbl d hh, hhead]
  have := fallbackWith_walk M hM T [] (tbl.length + 1) (walk_fuel_le hO) hO
    (.of_forall fun _ _ _ => validAtC_of_incoherent bc d _ _ hinc) (DurableC.gone_above ht T)
  simpa [undo] using this

end GV.Crash
