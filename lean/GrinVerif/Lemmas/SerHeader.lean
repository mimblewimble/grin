import GrinVerif.Lemmas.SerProofRt
import GrinVerif.Lemmas.WireTx
import GrinVerif.Model.SerStore
/-! `ProofOfWork` and `Tip` as codecs, and `read_block_header` once, for any proof-of-work reader: the eleven pre-PoW fields, the proof of work, then the
timestamp test. The full read (`decBlockHeader`) and the `SkipPow` read (`decBlockHeaderSkip`) are the same
thirteen lines with another reader in the twelfth; what is proved here of `readHeaderWith` holds of both.
The block header as one codec statement is `codec_blockHeader` (over `BlockHeader.WF_iff`: pre-PoW ranges, calendar range, proof of
work); `BlockHeader.WFSkip` is the value domain of the `SkipPow` read.
The instrumented `rBlockHeader` (`Model/DecSer.lean`) is cut at the same point (`rPrePow`, `rBlockHeader_eq`) and the eleven fields are one
`Wire` statement (`wire_prePow`), from which its erasure, allocation bound and reader agreement take them (`Lemmas/DecSerErase.lean`,
`DecSerBound.lean`, `DecSerAgree.lean`). -/
namespace GV.Ser
open GV GV.Wire GV.Dec GV.DecSer

theorem codec_pow (c : Cfg) :
    Whole True (decProofOfWork c) (encProofOfWork c.proofSize .full) (ProofOfWork.WF c.proofSize) := by
  refine Codec.congr (Codec.step ProofOfWork.totalDifficulty codec_u64 fun a =>
    Codec.step ProofOfWork.secondaryScaling codec_u32 fun b => Codec.step ProofOfWork.nonce codec_u64 fun d =>
    Codec.step ProofOfWork.proof (codec_proof c) fun e =>
    Codec.pure (ProofOfWork.mk a b d e) (by rintro ⟨⟩; simp [and_assoc]))
    (by simp) (fun p _ => by simp [encProofOfWork]) (fun p => by simp [ProofOfWork.WF])

theorem codec_tip : Whole True decTip encTip Tip.WF := by
  refine Codec.congr (Codec.step Tip.height codec_u64 fun a => Codec.step Tip.lastBlockH wire_hash.codec fun b =>
    Codec.step Tip.prevBlockH wire_hash.codec fun c => Codec.step Tip.totalDifficulty codec_u64 fun d =>
    Codec.pure (Tip.mk a b c d) (by rintro ⟨⟩; simp [and_assoc]))
    (by simp) (fun t _ => by simp [encTip]) (fun t => by simp [Tip.WF])

theorem ts_bounds : -(2^63 : Int) ≤ TS_MIN ∧ TS_MAX < (2^63 : Int) := by
  unfold TS_MIN TS_MAX; omega

/-- the reads of `read_block_header` in front of the proof of work, as the header with `p0` in the `pow` slot -/
def decPrePow (p0 : ProofOfWork) : Parser BlockHeader := fun bs =>
  andThen (readU16 bs) fun version r =>
  andThen (readU64 r) fun height r =>
  andThen (readI64 r) fun timestamp r =>
  andThen (decHash r) fun prevHash r =>
  andThen (decHash r) fun prevRoot r =>
  andThen (decHash r) fun outputRoot r =>
  andThen (decHash r) fun rangeProofRoot r =>
  andThen (decHash r) fun kernelRoot r =>
  andThen (decBlind r) fun tko r =>
  andThen (readU64 r) fun oms r =>
  andThen (readU64 r) fun kms r =>
  .ok (⟨version, height, prevHash, prevRoot, timestamp, outputRoot, rangeProofRoot, kernelRoot, tko, oms, kms, p0⟩, r)

/-- the same eleven reads of the instrumented `rBlockHeader` (`Model/DecSer.lean`) -/
def rPrePow (rd : Rdr) (p0 : ProofOfWork) : Dec BlockHeader := fun bs =>
  Dec.bind (rU16 bs) fun version r =>
  Dec.bind (rU64 r) fun height r =>
  Dec.bind (rI64 r) fun timestamp r =>
  Dec.bind (rHash rd r) fun prevHash r =>
  Dec.bind (rHash rd r) fun prevRoot r =>
  Dec.bind (rHash rd r) fun outputRoot r =>
  Dec.bind (rHash rd r) fun rangeProofRoot r =>
  Dec.bind (rHash rd r) fun kernelRoot r =>
  Dec.bind (rBlind rd r) fun tko r =>
  Dec.bind (rU64 r) fun oms r =>
  Dec.bind (rU64 r) fun kms r =>
  .ok ⟨version, height, prevHash, prevRoot, timestamp, outputRoot, rangeProofRoot, kernelRoot, tko, oms, kms, p0⟩ r 0

/-- field ranges of the pre-PoW part (the timestamp as an `i64`; its calendar range is tested after the proof
of work has been read) -/
def BlockHeader.PrePowWF (h : BlockHeader) : Prop :=
  h.version < 2^16 ∧ h.height < 2^64 ∧ (-(2^63 : Int) ≤ h.timestamp ∧ h.timestamp < (2^63 : Int))
  ∧ h.prevHash.length = HASH_SIZE ∧ h.prevRoot.length = HASH_SIZE ∧ h.outputRoot.length = HASH_SIZE
  ∧ h.rangeProofRoot.length = HASH_SIZE ∧ h.kernelRoot.length = HASH_SIZE
  ∧ h.totalKernelOffset.length = BLIND_SIZE ∧ h.outputMmrSize < 2^64 ∧ h.kernelMmrSize < 2^64

theorem wire_prePow (p0 : ProofOfWork) :
    Wire True (fun h => h.pow = p0) (decPrePow p0) (fun rd => rPrePow rd p0) encHeaderPrePow BlockHeader.PrePowWF 32 226 := by
  refine Wire.congr (Wire.step BlockHeader.version wire_u16 fun a => Wire.step BlockHeader.height wire_u64 fun b =>
    Wire.step BlockHeader.timestamp wire_i64 fun c => Wire.step BlockHeader.prevHash wire_hash fun d =>
    Wire.step BlockHeader.prevRoot wire_hash fun e => Wire.step BlockHeader.outputRoot wire_hash fun f =>
    Wire.step BlockHeader.rangeProofRoot wire_hash fun g => Wire.step BlockHeader.kernelRoot wire_hash fun h =>
    Wire.step BlockHeader.totalKernelOffset wire_blind fun i => Wire.step BlockHeader.outputMmrSize wire_u64 fun j =>
    Wire.step BlockHeader.kernelMmrSize wire_u64 fun k =>
    Wire.pure (BlockHeader.mk a b d e c f g h i j k p0) (by rintro ⟨⟩; simp only [BlockHeader.mk.injEq]; grind))
    (by simp) (fun t _ => by simp [encHeaderPrePow]) (fun t => by simp [BlockHeader.PrePowWF, and_assoc])
    (he := by decide) (hn := by decide)

/-- the slot `readHeaderWith` fills with what its proof-of-work reader returns -/
def noPow : ProofOfWork := ⟨0, 0, 0, ⟨0, []⟩⟩

def readHeaderWith (pw : Parser ProofOfWork) : Parser BlockHeader := fun bs =>
  andThen (decPrePow noPow bs) fun h r =>
  andThen (pw r) fun pow r =>
    if h.timestamp > TS_MAX ∨ h.timestamp < TS_MIN then .error .corrupted else .ok ({ h with pow := pow }, r)

theorem decBlockHeader_eq (c : Cfg) : decBlockHeader c = readHeaderWith (decProofOfWork c) := by
  funext bs; simp only [readHeaderWith, decPrePow, andThen_assoc, andThen_ok]; rfl

theorem decBlockHeaderSkip_eq : decBlockHeaderSkip = readHeaderWith decProofOfWorkSkip := by
  funext bs; simp only [readHeaderWith, decPrePow, andThen_assoc, andThen_ok]; rfl

/-- the instrumented reader cut at the same point -/
theorem rBlockHeader_eq (rd : Rdr) (c : Cfg) : rBlockHeader rd c = fun bs =>
    Dec.bind (rPrePow rd noPow bs) fun h r => Dec.bind (rProofOfWork rd c r) fun pow r =>
      if h.timestamp > TS_MAX ∨ h.timestamp < TS_MIN then .err .corrupted 0 else .ok { h with pow := pow } r 0 := by
  funext bs
  simp only [rBlockHeader, rPrePow, bind_assoc, bind_ok, addAlloc_zero]

theorem readHeaderWith_enc {pw : Parser ProofOfWork} {h : BlockHeader} (hwf : h.PrePowWF)
    {tail rest : Bytes} {pow : ProofOfWork} (hpw : pw tail = .ok (pow, rest)) :
    readHeaderWith pw (encHeaderPrePow h ++ tail)
      = if h.timestamp > TS_MAX ∨ h.timestamp < TS_MIN then .error .corrupted else .ok ({ h with pow := pow }, rest) := by
  have h1 : decPrePow noPow (encHeaderPrePow h ++ tail) = .ok ({ h with pow := noPow }, tail) :=
    (wire_prePow noPow).codec.rt { h with pow := noPow } rfl hwf tail
  rw [readHeaderWith, h1, andThen_ok, hpw, andThen_ok]

theorem readHeaderWith_inv {pw : Parser ProofOfWork} {bs : Bytes} {hd : BlockHeader} {r : Bytes}
    (h : readHeaderWith pw bs = .ok (hd, r)) :
    ∃ h0 r1, decPrePow noPow bs = .ok (h0, r1) ∧ pw r1 = .ok (hd.pow, r) ∧ hd = { h0 with pow := hd.pow }
      ∧ ¬ (hd.timestamp > TS_MAX ∨ hd.timestamp < TS_MIN) := by
  obtain ⟨h0, r1, h1, h⟩ := andThen_inv h
  obtain ⟨pow, r2, h2, h⟩ := andThen_inv h
  split at h
  · cases h
  · rename_i hts
    obtain ⟨rfl, rfl⟩ := Prod.mk.inj (Except.ok.inj h)
    exact ⟨h0, r1, h1, h2, rfl, hts⟩

/-- field ranges of everything a `SkipPow` read looks at -/
def BlockHeader.WFSkip (h : BlockHeader) : Prop :=
  h.version < 2^16 ∧ h.height < 2^64 ∧ TS_MIN ≤ h.timestamp ∧ h.timestamp ≤ TS_MAX
  ∧ h.prevHash.length = HASH_SIZE ∧ h.prevRoot.length = HASH_SIZE ∧ h.outputRoot.length = HASH_SIZE
  ∧ h.rangeProofRoot.length = HASH_SIZE ∧ h.kernelRoot.length = HASH_SIZE
  ∧ h.totalKernelOffset.length = BLIND_SIZE
  ∧ h.outputMmrSize < 2^64 ∧ h.kernelMmrSize < 2^64
  ∧ h.pow.totalDifficulty < 2^64 ∧ h.pow.secondaryScaling < 2^32 ∧ h.pow.nonce < 2^64
  ∧ 1 ≤ h.pow.proof.edgeBits ∧ h.pow.proof.edgeBits ≤ 63

/-- the calendar range of the timestamp fits an `i64` (`ts_bounds`), so the pre-PoW ranges can be split off -/
theorem BlockHeader.WF_iff (ps : Nat) (h : BlockHeader) :
    h.WF ps ↔ h.PrePowWF ∧ (TS_MIN ≤ h.timestamp ∧ h.timestamp ≤ TS_MAX) ∧ h.pow.WF ps := by
  have := ts_bounds
  simp only [BlockHeader.WF, BlockHeader.PrePowWF]
  constructor
  · rintro ⟨a1, a2, a3, a4, a5, a6, a7, a8, a9, a10, a11, a12, a13⟩
    exact ⟨⟨a1, a2, ⟨by omega, by omega⟩, a5, a6, a7, a8, a9, a10, a11, a12⟩, ⟨a3, a4⟩, a13⟩
  · rintro ⟨⟨a1, a2, -, a5, a6, a7, a8, a9, a10, a11, a12⟩, ⟨a3, a4⟩, a13⟩
    exact ⟨a1, a2, a3, a4, a5, a6, a7, a8, a9, a10, a11, a12, a13⟩

theorem BlockHeader.WF.toSkip {proofSize : Nat} {h : BlockHeader} (hwf : h.WF proofSize) : h.WFSkip := by
  obtain ⟨a1, a2, a3, a4, a5, a6, a7, a8, a9, a10, a11, a12, b1, b2, b3, c1, c2, _⟩ := hwf
  exact ⟨a1, a2, a3, a4, a5, a6, a7, a8, a9, a10, a11, a12, b1, b2, b3, c1, c2⟩

theorem BlockHeader.WFSkip.prePow {h : BlockHeader} (hwf : h.WFSkip) : h.PrePowWF := by
  have := ts_bounds
  obtain ⟨a1, a2, a3, a4, a5, a6, a7, a8, a9, a10, a11, a12, -⟩ := hwf
  exact ⟨a1, a2, ⟨by omega, by omega⟩, a5, a6, a7, a8, a9, a10, a11, a12⟩

theorem BlockHeader.WFSkip.pow {h : BlockHeader} (hwf : h.WFSkip) :
    h.pow.totalDifficulty < 2^64 ∧ h.pow.secondaryScaling < 2^32 ∧ h.pow.nonce < 2^64
      ∧ 1 ≤ h.pow.proof.edgeBits ∧ h.pow.proof.edgeBits ≤ 63 := hwf.2.2.2.2.2.2.2.2.2.2.2.2

theorem BlockHeader.WFSkip.ts {h : BlockHeader} (hwf : h.WFSkip) : ¬ (h.timestamp > TS_MAX ∨ h.timestamp < TS_MIN) := by
  have := hwf.2.2.1; have := hwf.2.2.2.1; omega

/-- the header over the pre-PoW reader: its value with the `pow` slot emptied is the first "field", the proof of work the
second, the calendar range of the timestamp the test after them -/
theorem codec_blockHeader (c : Cfg) :
    Whole True (decBlockHeader c) (encBlockHeader c.proofSize .full) (BlockHeader.WF c.proofSize) := by
  rw [decBlockHeader_eq]
  refine Codec.congr (Codec.stepP (fun h => { h with pow := noPow }) (wire_prePow noPow).codec.toWhole fun h0 hh0 =>
    Codec.step BlockHeader.pow (codec_pow c) fun pw =>
    Codec.ite (h0.timestamp > TS_MAX ∨ h0.timestamp < TS_MIN) (fun _ => Codec.fail .corrupted) fun _ =>
    Codec.pure { h0 with pow := pw } (by have := hh0.2; rintro ⟨⟩; cases h0; simp only [BlockHeader.mk.injEq] at this ⊢; grind)) (by simp) (fun h _ => ?_) (fun h => ?_)
  · simp only [encBlockHeader, if_neg (show ¬ Mode.full = .hash by decide), encHeaderPrePow]; split <;> simp
  · rw [BlockHeader.WF_iff]
    constructor
    · rintro ⟨a, t, w⟩
      exact ⟨⟨a, rfl⟩, w, by rw [if_neg (by show ¬ (h.timestamp > TS_MAX ∨ h.timestamp < TS_MIN); omega)]; trivial⟩
    · rintro ⟨⟨a, -⟩, w, hi⟩
      split at hi
      · exact hi.elim
      · rename_i hb
        dsimp only at hb
        exact ⟨a, ⟨by omega, by omega⟩, w⟩

end GV.Ser
