import GrinVerif.Lemmas.ModSub
import GrinVerif.Lemmas.TxCut
/-! Lemmas about `aggregate` / `aggregateFull`, kernel-offset sums and grouping (C12). -/
namespace GV.Tx
open List

def allIns (K : Keys) (txs : List Tx) : List Nat := txs.flatMap (Tx.inputsCO K)
def allOuts (txs : List Tx) : List Nat := txs.flatMap (·.outputs)
def allKers (txs : List Tx) : List Nat := txs.flatMap (·.kernels)
def allOffs (txs : List Tx) : List Nat := txs.map (·.offset)

theorem allIns_append (K : Keys) (a b : List Tx) : allIns K (a ++ b) = allIns K a ++ allIns K b := by
  simp [allIns]
theorem allOuts_append (a b : List Tx) : allOuts (a ++ b) = allOuts a ++ allOuts b := by
  simp [allOuts]
theorem allKers_append (a b : List Tx) : allKers (a ++ b) = allKers a ++ allKers b := by
  simp [allKers]
theorem allOffs_append (a b : List Tx) : allOffs (a ++ b) = allOffs a ++ allOffs b := by
  simp [allOffs]
theorem allIns_cons (K : Keys) (t : Tx) (ts : List Tx) : allIns K (t :: ts) = t.inputsCO K ++ allIns K ts := by
  simp [allIns]
theorem allOuts_cons (t : Tx) (ts : List Tx) : allOuts (t :: ts) = t.outputs ++ allOuts ts := by
  simp [allOuts]
theorem allKers_cons (t : Tx) (ts : List Tx) : allKers (t :: ts) = t.kernels ++ allKers ts := by
  simp [allKers]
theorem allOffs_cons (t : Tx) (ts : List Tx) : allOffs (t :: ts) = t.offset :: allOffs ts := by
  simp [allOffs]

theorem allIns_perm (K : Keys) {a b : List Tx} (p : a ~ b) : allIns K a ~ allIns K b := p.flatMap_right _
theorem allOuts_perm {a b : List Tx} (p : a ~ b) : allOuts a ~ allOuts b := p.flatMap_right _
theorem allKers_perm {a b : List Tx} (p : a ~ b) : allKers a ~ allKers b := p.flatMap_right _
theorem allOffs_perm {a b : List Tx} (p : a ~ b) : allOffs a ~ allOffs b := p.map _

theorem mem_allOuts {txs : List Tx} {o : Nat} : o ∈ allOuts txs ↔ ∃ t ∈ txs, o ∈ t.outputs := mem_flatMap
theorem mem_allKers {txs : List Tx} {k : Nat} : k ∈ allKers txs ↔ ∃ t ∈ txs, k ∈ t.kernels := mem_flatMap

theorem allOuts_singleton (t : Tx) : allOuts [t] = t.outputs := by simp [allOuts]
theorem allKers_singleton (t : Tx) : allKers [t] = t.kernels := by simp [allKers]

theorem Tx.inputsCO_of_not_v2 (K : Keys) {t : Tx} (h : t.v2 = false) : t.inputsCO K = t.inputs := by
  simp [Tx.inputsCO, h]

theorem Tx.mem_inputsCO (K : Keys) (t : Tx) (x : Nat) : x ∈ t.inputsCO K ↔ x ∈ t.inputs := by
  unfold Tx.inputsCO; split
  · exact mem_sortBy
  · exact Iff.rfl

theorem allIns_singleton (K : Keys) {t : Tx} (h : t.v2 = false) : allIns K [t] = t.inputs := by
  simp [allIns, Tx.inputsCO_of_not_v2 K h]

/-- the merge of a list of transactions: all inputs against all outputs -/
def cutOf (K : Keys) (txs : List Tx) : Cut := merged id outCommit (allIns K txs) (allOuts txs)

theorem mem_cutOf_ins {K : Keys} {txs : List Tx} {x : Nat} (h : x ∈ (cutOf K txs).ins) : x ∈ allIns K txs :=
  mem_merged_ins h

theorem mem_cutOf_outs {K : Keys} {txs : List Tx} {o : Nat} (h : o ∈ (cutOf K txs).outs) : o ∈ allOuts txs :=
  mem_merged_outs h

theorem cutOf_ins_count (K : Keys) (txs : List Tx) (x : Nat) :
    (cutOf K txs).ins.count x = (allIns K txs).count x - ((allOuts txs).map outCommit).count x :=
  merged_ins_count outCommit _ _ x

theorem cutOf_outs_count (K : Keys) {txs : List Tx} (inj : InjOn outCommit (allOuts txs)) (o : Nat) :
    (cutOf K txs).outs.count o = (allOuts txs).count o - (allIns K txs).count (outCommit o) :=
  merged_outs_count outCommit _ _ inj o

theorem cutOf_outs_map_count (K : Keys) (txs : List Tx) (c : Nat) :
    ((cutOf K txs).outs.map outCommit).count c = ((allOuts txs).map outCommit).count c - (allIns K txs).count c := by
  have m := (merged_count id outCommit (allIns K txs) (allOuts txs) c).2.1
  rwa [map_id] at m

theorem cutOf_balance (K : Keys) (txs : List Tx) (c : Nat) :
    (cutOf K txs).ins.count c + ((allOuts txs).map outCommit).count c =
      ((cutOf K txs).outs.map outCommit).count c + (allIns K txs).count c := by
  have m := merged_balance id outCommit (allIns K txs) (allOuts txs) c
  rwa [map_id, map_id] at m

theorem toSecrets_append (a b : List Nat) : toSecrets (a ++ b) = toSecrets a ++ toSecrets b := by
  simp [toSecrets]

theorem mem_toSecrets {l : List Nat} {x : Nat} : x ∈ toSecrets l ↔ x ∈ l ∧ x ≠ 0 ∧ x < N := by
  simp [toSecrets]

theorem toSecrets_perm {l₁ l₂ : List Nat} (p : l₁ ~ l₂) : toSecrets l₁ ~ toSecrets l₂ := p.filter _

theorem toSecrets_sum_of_lt {l : List Nat} (h : ∀ x ∈ l, x < N) : (toSecrets l).sum = l.sum := by
  induction l with
  | nil => simp [toSecrets]
  | cons a t ih =>
    have ha : a < N := h a mem_cons_self
    have ih' := ih (fun x hx => h x (mem_cons_of_mem _ hx))
    unfold toSecrets at ih' ⊢
    by_cases h0 : a = 0
    · subst h0; simp [ih']
    · simp [h0, ha, ih']

/-- **`blind_sum_or_zero` never fails**: for all lists of scalars it is the sum modulo the group
order, zero included — the second `blind_sum` (with `ONE_KEY`) gives exactly `ONE_KEY` whenever the
first one failed, so the `Err(e)` branch of the code is unreachable. -/
theorem blindSumOrZero_eq (pos neg : List Nat) : blindSumOrZero pos neg = .ok (scalarSum pos neg) := by
  unfold blindSumOrZero secpBlindSum
  by_cases z : scalarSum pos neg = 0
  · have h1 : scalarSum (pos ++ [1]) neg = 1 := by
      unfold scalarSum at z ⊢
      rw [sum_append, Nat.add_right_comm]
      exact add_one_of_mod_eq_zero (by decide) z
    simp [z, h1]
  · simp [z]

theorem scalarSum_nil (pos : List Nat) : scalarSum pos [] = pos.sum % N := by
  simp [scalarSum]

/-- `sum_kernel_offsets(positive, vec![])` in closed form: never an error; the "positive empty ⇒
zero" shortcut is not observable (the empty sum is zero) -/
theorem sumKernelOffsets_nil (l : List Nat) :
    sumKernelOffsets l [] = .ok ((toSecrets l).sum % N) := by
  have e : toSecrets ([] : List Nat) = [] := rfl
  simp only [sumKernelOffsets, e, blindSumOrZero_eq, scalarSum_nil, isEmpty_iff]
  by_cases h : toSecrets l = []
  · simp [h]
  · simp [h]

theorem toSecrets_singleton_of_lt {s : Nat} (h : s < N) : toSecrets [s] = if s = 0 then [] else [s] := by
  by_cases z : s = 0
  · subst z; simp [toSecrets]
  · simp [toSecrets, z, h]

theorem toSecrets_singleton_sum {s : Nat} (h : s < N) : (toSecrets [s]).sum = s := by
  rw [toSecrets_singleton_of_lt h]
  split
  · simp [*]
  · simp

theorem scalarSum_pair {m a : Nat} (hm : m < N) (ha : a < N) :
    scalarSum (toSecrets [m]) (toSecrets [a]) = (m + (N - a)) % N := by
  unfold scalarSum
  rw [toSecrets_singleton_sum hm, toSecrets_singleton_of_lt ha]
  split
  · subst a; simp
  · simp [Nat.mod_eq_of_lt ha]

/-- a simple two-list relation (core has no `Forall₂`) -/
inductive AllRel {α β : Type} (R : α → β → Prop) : List α → List β → Prop
  | nil : AllRel R [] []
  | cons {a b as bs} : R a b → AllRel R as bs → AllRel R (a :: as) (b :: bs)

theorem AllRel.of_map {α β : Type} {R : α → β → Prop} (f : α → β) :
    ∀ (l : List α), (∀ a ∈ l, R a (f a)) → AllRel R l (l.map f)
  | [], _ => .nil
  | a :: t, h => .cons (h a mem_cons_self) (AllRel.of_map f t (fun x hx => h x (mem_cons_of_mem _ hx)))

theorem AllRel.length_eq {α β : Type} {R : α → β → Prop} {l₁ : List α} {l₂ : List β}
    (h : AllRel R l₁ l₂) : l₁.length = l₂.length := by
  induction h with
  | nil => rfl
  | cons _ _ ih => simp [ih]

/-- **offset sums nest**: summing group sums is summing everything (including the zero shortcuts
and groups whose offsets cancel to zero) -/
theorem toSecrets_sum_groups (gs : List (List Nat)) :
    (toSecrets (gs.map fun g => (toSecrets g).sum % N)).sum % N = (toSecrets gs.flatten).sum % N := by
  induction gs with
  | nil => rfl
  | cons g gs ih =>
    rw [map_cons, ← singleton_append, flatten_cons, toSecrets_append, toSecrets_append, sum_append, sum_append,
      toSecrets_singleton_sum (Nat.mod_lt _ (by decide)), Nat.add_mod, Nat.mod_mod, ih, ← Nat.add_mod]

theorem aggregate_of_two_le (K : Keys) {txs : List Tx} (h : 2 ≤ txs.length) :
    aggregate K txs = aggregateFull K txs := by
  match txs, h with
  | _ :: _ :: _, _ => rfl

theorem aggregateFull_eq (K : Keys) (txs : List Tx) :
    aggregateFull K txs =
      if adjDup (sortBy K.ik (cutOf K txs).ins) then .error .cutThrough
      else if adjDup (sortBy K.ok (cutOf K txs).outs) then .error .cutThrough
      else .ok ⟨(toSecrets (allOffs txs)).sum % N, false,
            sortBy K.ik (cutOf K txs).ins,
            sortBy K.ok (cutOf K txs).outs,
            sortBy K.kk (allKers txs)⟩ := by
  simp only [aggregateFull, cutOf, allIns, allOuts, allKers, allOffs]
  rcases cutThrough_cases id outCommit K.ik K.ok (flatMap (Tx.inputsCO K) txs) (flatMap (fun x => x.outputs) txs)
    with ⟨e, d | d⟩ | ⟨e, d1, d2⟩ <;> simp [sumKernelOffsets_nil, sortBy_idem, *]

/-- what a successful `aggregateFull K txs = .ok t` says about `t` -/
structure Aggregated (K : Keys) (txs : List Tx) (t : Tx) : Prop where
  insOnce : adjDup (sortBy K.ik (cutOf K txs).ins) = false
  outsOnce : adjDup (sortBy K.ok (cutOf K txs).outs) = false
  offset : t.offset = (toSecrets (allOffs txs)).sum % N
  v2 : t.v2 = false
  inputs : t.inputs = sortBy K.ik (cutOf K txs).ins
  outputs : t.outputs = sortBy K.ok (cutOf K txs).outs
  kernels : t.kernels = sortBy K.kk (allKers txs)

theorem aggregateFull_ok {K : Keys} {txs : List Tx} {t : Tx} (h : aggregateFull K txs = .ok t) :
    Aggregated K txs t := by
  rw [aggregateFull_eq] at h
  split at h; · cases h
  rename_i h1
  split at h; · cases h
  rename_i h2
  cases h
  exact ⟨Bool.not_eq_true _ ▸ h1, Bool.not_eq_true _ ▸ h2, rfl, rfl, rfl, rfl, rfl⟩

theorem aggregate_ok_of_two_le {K : Keys} {txs : List Tx} {t : Tx} (h2 : 2 ≤ txs.length)
    (h : aggregate K txs = .ok t) : Aggregated K txs t :=
  aggregateFull_ok (aggregate_of_two_le K h2 ▸ h)

theorem aggregateFull_error_iff (K : Keys) (txs : List Tx) (e : Err) :
    aggregateFull K txs = .error e ↔ cutThrough id outCommit K.ik K.ok (allIns K txs) (allOuts txs) = .error e := by
  rw [aggregateFull_eq]
  rcases cutThrough_cases id outCommit K.ik K.ok (allIns K txs) (allOuts txs) with ⟨h, d | d⟩ | ⟨h, d1, d2⟩ <;>
    simp [cutOf, *]

theorem aggregateFull_disjoint {K : Keys} {txs : List Tx}
    (iI : InjOn K.ik (allIns K txs)) (iO : InjOn K.ok (allOuts txs))
    (ndI : (allIns K txs).Nodup) (ndO : (allOuts txs).Nodup)
    (hdis : ∀ x ∈ allIns K txs, x ∉ (allOuts txs).map outCommit) :
    aggregateFull K txs =
      .ok ⟨(toSecrets (allOffs txs)).sum % N, false, sortBy K.ik (allIns K txs), sortBy K.ok (allOuts txs),
        sortBy K.kk (allKers txs)⟩ := by
  obtain ⟨pI, pO⟩ : (cutOf K txs).ins ~ allIns K txs ∧ (cutOf K txs).outs ~ allOuts txs :=
    merged_no_cut outCommit ndI ndO hdis
  have eI := sortBy_congr (key := K.ik) (iI.of_perm pI.symm) pI
  have eO := sortBy_congr (key := K.ok) (iO.of_perm pO.symm) pO
  have d1 : adjDup (sortBy K.ik (cutOf K txs).ins) = false :=
    (adjDup_sortBy (iI.of_perm pI.symm)).2 (pI.nodup_iff.2 ndI)
  have d2 : adjDup (sortBy K.ok (cutOf K txs).outs) = false :=
    (adjDup_sortBy (iO.of_perm pO.symm)).2 (pO.nodup_iff.2 ndO)
  rw [aggregateFull_eq, d1, d2, eI, eO]
  simp only [Bool.false_eq_true, if_false]

theorem Aggregated.count_eq {K : Keys} {g : List Tx} {t : Tx} (a : Aggregated K g t) (c : Nat) :
    (t.inputsCO K).count c = (cutOf K g).ins.count c ∧
    (t.outputs.map outCommit).count c =
      ((cutOf K g).outs.map outCommit).count c := by
  rw [Tx.inputsCO_of_not_v2 K a.v2, a.inputs, a.outputs, count_sortBy,
    ((sortBy_perm K.ok _).map outCommit).count_eq]
  exact ⟨rfl, rfl⟩

theorem aggregateFull_counts {K : Keys} {g : List Tx} {t : Tx} (h : aggregateFull K g = .ok t) (c : Nat) :
    (t.inputsCO K).count c = (allIns K g).count c - ((allOuts g).map outCommit).count c ∧
    (t.outputs.map outCommit).count c = ((allOuts g).map outCommit).count c - (allIns K g).count c := by
  obtain ⟨e1, e2⟩ := (aggregateFull_ok h).count_eq c
  exact ⟨e1.trans (cutOf_ins_count K g c), e2.trans (cutOf_outs_map_count K g c)⟩

theorem aggregateFull_balance {K : Keys} {g : List Tx} {t : Tx} (h : aggregateFull K g = .ok t) (c : Nat) :
    (t.inputsCO K).count c + ((allOuts g).map outCommit).count c =
      (t.outputs.map outCommit).count c + (allIns K g).count c := by
  obtain ⟨e1, e2⟩ := (aggregateFull_ok h).count_eq c
  rw [e1, e2]
  exact cutOf_balance K g c

/-- **grouping invariant**: after aggregating every group, per commitment
`#I' + #O = #O' + #I` (primed = concatenation of the group results), i.e. the signed balance
`#I − #O` of every commitment is untouched. -/
theorem group_invariant {K : Keys} {groups : List (List Tx)} {ts : List Tx}
    (h : AllRel (fun g t => aggregateFull K g = .ok t) groups ts) (c : Nat) :
    (allIns K ts).count c + ((allOuts groups.flatten).map outCommit).count c =
      ((allOuts ts).map outCommit).count c + (allIns K groups.flatten).count c := by
  induction h with
  | nil => rfl
  | @cons g t gs ts hg _ ih =>
    have hb := aggregateFull_balance hg c
    rw [flatten_cons, allIns_cons, allOuts_cons, allIns_append, allOuts_append]
    simp only [map_append, count_append]
    omega

theorem group_kernels {K : Keys} {groups : List (List Tx)} {ts : List Tx}
    (h : AllRel (fun g t => aggregateFull K g = .ok t) groups ts) :
    allKers ts ~ allKers groups.flatten := by
  induction h with
  | nil => exact .refl _
  | @cons g t gs ts hg _ ih =>
    rw [flatten_cons, allKers_cons, allKers_append, (aggregateFull_ok hg).kernels]
    exact (sortBy_perm _ _).append ih

theorem group_offsets {K : Keys} {groups : List (List Tx)} {ts : List Tx}
    (h : AllRel (fun g t => aggregateFull K g = .ok t) groups ts) :
    allOffs ts = groups.map fun g => (toSecrets (allOffs g)).sum % N := by
  induction h with
  | nil => rfl
  | @cons g t gs ts hg _ ih => rw [allOffs_cons, (aggregateFull_ok hg).offset, ih, map_cons]

theorem allOffs_flatten (groups : List (List Tx)) : allOffs groups.flatten = (groups.map allOffs).flatten := by
  induction groups with
  | nil => rfl
  | cons g gs ih => rw [flatten_cons, allOffs_append, ih, map_cons, flatten_cons]

theorem mem_group_outs {K : Keys} {groups : List (List Tx)} {ts : List Tx}
    (h : AllRel (fun g t => aggregateFull K g = .ok t) groups ts) {o : Nat} (ho : o ∈ allOuts ts) :
    o ∈ allOuts groups.flatten := by
  induction h with
  | nil => exact ho
  | @cons g t gs ts hg _ ih =>
    have hout := (aggregateFull_ok hg).outputs
    rw [allOuts_cons, mem_append] at ho
    rw [flatten_cons, allOuts_append, mem_append]
    rcases ho with ho | ho
    · left; rw [hout, mem_sortBy] at ho; exact mem_cutOf_outs ho
    · right; exact ih ho

theorem tsub_eq_of_balance {a b c d : Nat} (h : a + d = c + b) : a - c = b - d := by
  rw [← Nat.add_sub_add_right a d c, h, Nat.add_sub_add_left]

/-- **grouped aggregation = flat aggregation** on the level of `aggregateFull` (no shortcuts):
if every group aggregates, aggregating the results gives exactly what aggregating everything at
once gives — same value or same error. Needs injective hash orders and that no two outputs share
a commitment. -/
theorem aggregateFull_groups {K : Keys} {groups : List (List Tx)} {ts : List Tx}
    (h : AllRel (fun g t => aggregateFull K g = .ok t) groups ts)
    (iI : InjOn K.ik (allIns K groups.flatten)) (iO : InjOn K.ok (allOuts groups.flatten))
    (iK : InjOn K.kk (allKers groups.flatten)) (iC : InjOn outCommit (allOuts groups.flatten)) :
    aggregateFull K ts = aggregateFull K groups.flatten := by
  have inv := group_invariant h
  have sub : ∀ o ∈ allOuts ts, o ∈ allOuts groups.flatten := fun o ho => mem_group_outs h ho
  have pI : (cutOf K ts).ins ~ (cutOf K groups.flatten).ins := by
    rw [perm_iff_count]
    intro x
    rw [cutOf_ins_count, cutOf_ins_count]
    exact tsub_eq_of_balance (inv x)
  have pO : (cutOf K ts).outs ~ (cutOf K groups.flatten).outs := by
    rw [perm_iff_count]
    intro o
    rw [cutOf_outs_count K (iC.of_subset sub), cutOf_outs_count K iC]
    by_cases ho : o ∈ allOuts groups.flatten
    · have := inv (outCommit o)
      rw [count_map_of_injOn iC (fun a ha => ha) ho, count_map_of_injOn iC sub ho] at this
      exact tsub_eq_of_balance (Nat.add_comm _ _ ▸ Nat.add_comm _ _ ▸ this.symm)
    · rw [count_eq_zero.2 ho, count_eq_zero.2 fun hm => ho (sub o hm), Nat.zero_sub, Nat.zero_sub]
  have eI := sortBy_congr (key := K.ik) (iI.of_subset (fun a ha => mem_cutOf_ins ha) |>.of_perm pI.symm) pI
  have eO := sortBy_congr (key := K.ok) (iO.of_subset (fun a ha => mem_cutOf_outs ha) |>.of_perm pO.symm) pO
  have eK : sortBy K.kk (allKers ts) = sortBy K.kk (allKers groups.flatten) :=
    sortBy_congr (iK.of_perm (group_kernels h).symm) (group_kernels h)
  have eF : (toSecrets (allOffs ts)).sum % N = (toSecrets (allOffs groups.flatten)).sum % N := by
    rw [allOffs_flatten, group_offsets h, ← toSecrets_sum_groups, map_map]
    rfl
  rw [aggregateFull_eq, aggregateFull_eq, eI, eO, eK, eF]

end GV.Tx
