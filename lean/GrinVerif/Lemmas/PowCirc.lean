import GrinVerif.Lemmas.PowScan
/-! The circular `prev` lists of Cuckatoo / Cuckaroo / Cuckarooz: the inner loop started at slot
`i` visits every *other* slot with the same list key exactly once — first those below `i`, then,
wrapping around at the list head, those above — and then comes back to `i`.  Hence its result is:
the unique other slot of the same list that matches `i` (`ok j`), `i` itself if there is none,
error `branch` if there are two. -/
namespace GV.Pow

/-- circularisation: `next'` is `next` except that it goes to `wrap` where `next` goes to `nil` -/
theorem Path.circ {next next' : Nat → Nat} {nil wrap : Nat} {a b : Nat} {l : List Nat}
    (h : Path next a l b)
    (hl : ∀ x ∈ l, x ≠ nil ∧ next' x = if next x = nil then wrap else next x) :
    Path next' (if a = nil then wrap else a) l (if b = nil then wrap else b) := by
  induction h with
  | nil k => exact .nil _
  | @cons k k' l h ih =>
    have ih := ih fun x hx => hl x (List.mem_cons_of_mem _ hx)
    obtain ⟨h1, h2⟩ := hl k (List.mem_cons_self ..)
    rw [if_neg h1]
    refine .cons ?_
    rw [h2]
    exact ih

/-- the circularised list (`prev` sends the oldest slot of a list to its newest, `hp`) read from a
slot `i` of the list: from `prev i` the pointers pass the slots below `i`, wrap around at the list
head, pass the slots above `i` and arrive at `i` (two uses of `path_between` glued by `Path.circ`) -/
theorem path_circ (p : Nat → Bool) (prev : Nat → Nat) (N i : Nat) (hi : i < N) (hpi : p i = true)
    (hp : ∀ t, p t = true → t < N →
      prev t = if lastBelow p N t = N then lastBelow p N N else lastBelow p N t) :
    Path prev (prev i) (between p 0 i ++ between p (i + 1) N) i := by
  have lin : ∀ lo hi', lo ≤ hi' →
      Path (lastBelow p N) (lastBelow p N hi') (between p lo hi') (lastBelow p N lo) := fun lo hi' h => by
    have := path_between p id (lastBelow p N) N lo hi' h fun _ _ _ _ => rfl
    rwa [List.map_id] at this
  have circ : ∀ lo hi', lo ≤ hi' → hi' ≤ N → _ := fun lo hi' h hN =>
    (lin lo hi' h).circ (nil := N) (wrap := lastBelow p N N) (next' := prev) fun x hx => by
      obtain ⟨_, h2, h3⟩ := mem_between.mp hx
      exact ⟨by omega, hp x h3 (by omega)⟩
  have hhead : lastBelow p N N < N :=
    ((lastBelow_spec p N N).resolve_left fun h => by rw [h.2 i hi] at hpi; cases hpi).1
  have hA := circ 0 i (Nat.zero_le _) (Nat.le_of_lt hi)
  have hB := circ (i + 1) N hi (Nat.le_refl _)
  rw [show lastBelow p N 0 = N from rfl, if_pos rfl] at hA
  rw [if_neg (Nat.ne_of_lt hhead), show lastBelow p N (i + 1) = i by rw [lastBelow, if_pos hpi],
    if_neg (Nat.ne_of_lt hi)] at hB
  rw [hp i hpi hi]
  exact hA.append hB

/-- closed form of a circular predecessor: next lower slot with the same key, else the largest -/
def prevCirc (key : Nat → Nat) (N : Nat) (t : Nat) : Nat :=
  if lastBelow (fun t' => key t' == key t) N t = N then lastBelow (fun t' => key t' == key t) N N
  else lastBelow (fun t' => key t' == key t) N t

section
variable (C : UCfg) (key : Nat → Nat) (N : Nat) (uvs prev : Nat → Nat) (i : Nat)

/-- another slot of the circular list of `i` -/
def Other (s : Nat) : Prop := s < N ∧ s ≠ i ∧ key s = key i

/-- the other slots of the list of `i` in the order the inner loop meets them -/
def others : List Nat :=
  between (fun t => key t == key i) 0 i ++ between (fun t => key t == key i) (i + 1) N

theorem mem_others {s : Nat} (hi : i < N) : s ∈ others key N i ↔ Other key N i s := by
  unfold others Other
  rw [List.mem_append, mem_between, mem_between, beq_iff_eq]
  omega

theorem others_nodup : (others key N i).Nodup := by
  refine List.nodup_append.mpr ⟨(between_pairwise _ _ _).imp Nat.ne_of_gt,
    (between_pairwise _ _ _).imp Nat.ne_of_gt, fun a ha b hb => ?_⟩
  have := (mem_between.mp ha).2.1
  have := (mem_between.mp hb).1
  omega

variable (hi : i < N) (hprev : ∀ t, t < N → prev t = prevCirc key N t)
include hi hprev

theorem path_others : Path prev (prev i) (others key N i) i :=
  path_circ (fun t => key t == key i) prev N i hi (beq_self_eq_true _) fun t ht htN => by
    rw [hprev t htN, prevCirc, beq_iff_eq.mp ht]

theorem uFind_eq (f : Nat) (hf : N ≤ f) :
    uFind C uvs prev i f i i = scanJ (fun x => C.mt (uvs x) (uvs i)) i (others key N i) i := by
  refine uFind_path C uvs prev i (path_others key N prev i hi hprev) rfl
    (fun h => ((mem_others key N i hi).mp h).2.1 rfl) f i i rfl (Nat.lt_of_lt_of_le ?_ hf)
  unfold others
  have := between_length_le (fun t => key t == key i) 0 i
  have := between_length_le (fun t => key t == key i) (i + 1) N
  rw [List.length_append]
  omega

theorem uFind_spec (f : Nat) (hf : N ≤ f) :
    (∃ r, uFind C uvs prev i f i i = .ok r ∧
      ((r = i ∧ ∀ s, Other key N i s → C.mt (uvs s) (uvs i) = false) ∨
       (Other key N i r ∧ C.mt (uvs r) (uvs i) = true ∧
         ∀ s, Other key N i s → C.mt (uvs s) (uvs i) = true → s = r))) ∨
    (uFind C uvs prev i f i i = .error .branch ∧ ∃ s1 s2, s1 ≠ s2 ∧ Other key N i s1 ∧
      Other key N i s2 ∧ C.mt (uvs s1) (uvs i) = true ∧ C.mt (uvs s2) (uvs i) = true) := by
  rw [uFind_eq C key N uvs prev i hi hprev f hf]
  simp only [← mem_others key N i hi]
  exact scanJ_spec _ i _ (fun h => ((mem_others key N i hi).mp h).2.1 rfl) (others_nodup key N i)

end
end GV.Pow
