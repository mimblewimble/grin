import GrinVerif.Lemmas.ChainImplApply
import GrinVerif.Lemmas.ChainValue
/-! The incremental txhashset model refines the replay of `Model/Chain.lean`. -/
namespace GV.Chain
open TxHS

/-- abstraction: the commitments with an `output_pos` entry are exactly the unspent set of the
replayed state -/
def AbsU (S : TxHS) (s : UState) : Prop := ∀ c, (S.getOutputPos c).isSome = s.has c

theorem impl_step {S : TxHS} {s : UState} {b : Blk} (hi : RInv S) (ha : AbsU S s) (hs : b.Sane)
    (hct : cutThroughViolation b = false) (hins : ∀ i ∈ b.ins, s.has i = true)
    (houts : ∀ o ∈ b.outs, s.has o.1 = false) :
    ∃ S', applyBlockImpl S b = .ok S' ∧ RInv S' ∧ AbsU S' (effects s b) := by
  have hfresh : ∀ c ∈ b.outs.map (·.1), S.getOutputPos c = none := by
    intro c hc
    obtain ⟨o, ho, hoc⟩ := List.mem_map.mp hc
    have := ha c
    rw [← hoc, houts o ho] at this
    rw [← hoc]
    cases h : S.getOutputPos o.1 with
    | none => rfl
    | some cp => rw [h] at this; cases this
  obtain ⟨S', hS'⟩ := applyBlockImpl_of hi hct hs.1 hs.2 hfresh
    (fun c hc => by rw [ha c]; exact hins c hc)
  obtain ⟨sp, A⟩ := applyBlockImpl_ok hi hct hS'
  refine ⟨S', hS', A.rinv, ?_⟩
  intro c
  have hcut := (cutThrough_false_iff b).mp hct
  rw [Bool.eq_iff_iff, has_effects_iff]
  by_cases hc : c ∈ b.ins
  · simp only [A.idxIn c hc, hc, hcut c hc, Option.isSome_none, Bool.false_eq_true, not_true_eq_false,
      and_false, or_self]
  · by_cases ho : c ∈ b.outs.map (·.1)
    · obtain ⟨i, e, _⟩ := A.idxOut c ho
      simp only [e, ho, Option.isSome_some, or_true]
    · simp only [A.idxOther c hc ho, ha c, hc, ho, not_false_eq_true, and_true, or_false]

theorem impl_replay (p : Params) (bs : List Blk) : ∀ {S : TxHS} {s s' : UState}, RInv S → AbsU S s →
    (∀ b ∈ bs, b.Sane ∧ cutThroughViolation b = false) → replay p s bs = .ok s' →
    ∃ S', applyBlocks S bs = .ok S' ∧ RInv S' ∧ AbsU S' s' := by
  induction bs with
  | nil =>
    intro S s s' hi ha _ hr
    obtain rfl := replay_nil_ok hr
    exact ⟨S, rfl, hi, ha⟩
  | cons b bs ih =>
    intro S s s' hi ha hb hr
    obtain ⟨s1, h1, hr⟩ := replay_cons_ok hr
    obtain ⟨hins, houts, _, _, he⟩ := applyBlock_ok p s s1 b h1
    obtain ⟨hs, hct⟩ := hb b (List.mem_cons_self ..)
    obtain ⟨S1, hS1, hi1, ha1⟩ := impl_step hi ha hs hct hins houts
    obtain ⟨S', hS', r⟩ := ih hi1 (he ▸ ha1) (fun b' hb' => hb b' (List.mem_cons_of_mem _ hb')) hr
    exact ⟨S', by simp only [applyBlocks, hS1, hS'], r⟩

theorem genesisState_has (g : Blk) (c : Nat) :
    (genesisState g).has c = (effects {} g).has c := by
  simp [UState.has, genesisState, effects, List.any_map]
  rfl

theorem impl_genesis (g : Blk) (hgi : g.ins = []) (hgo : (g.outs.map (·.1)).Nodup) :
    ∃ S0, applyBlockImpl {} g = .ok S0 ∧ RInv S0 ∧ AbsU S0 (genesisState g) := by
  have hct := cutThrough_of_ins_nil hgi
  obtain ⟨S0, h0, hi0, ha0⟩ := impl_step (S := {}) (s := {}) (b := g) RInv.empty (fun _ => rfl)
    ⟨hgi ▸ List.nodup_nil, hgo⟩ hct (fun i hi => by rw [hgi] at hi; cases hi)
    (fun o _ => rfl)
  exact ⟨S0, h0, hi0, fun c => by rw [ha0 c, genesisState_has]⟩

theorem reported_iff {S : TxHS} (hi : RInv S) (c : Nat) :
    c ∈ S.reported ↔ (S.getOutputPos c).isSome = true := by
  unfold TxHS.reported
  rw [List.mem_filter, hi.getUnspent_eq]
  constructor
  · exact fun h => h.2
  · intro h
    refine ⟨?_, h⟩
    unfold TxHS.getOutputPos at h
    cases hf : S.outputPos.find? (·.1 == c) with
    | none => rw [hf] at h; cases h
    | some e =>
      have h1 := List.mem_of_find?_eq_some hf
      have h2 := List.find?_some hf
      exact List.mem_map.mpr ⟨e, h1, by simpa using h2⟩

/-- abstraction of the recorded heights: the height stored with an `output_pos` entry is the
creation height of that unspent output in the replayed state -/
def AbsH (S : TxHS) (s : UState) : Prop :=
  ∀ c cp, S.getOutputPos c = some cp → ∃ cb, (c, cp.height, cb) ∈ s.utxo

theorem absH_step {S S' : TxHS} {s : UState} {b : Blk} {sp : List (Nat × CommitPos)}
    (A : BlockApplied S S' b sp) (ha : AbsH S s) : AbsH S' (effects s b) := by
  intro c cp hg
  by_cases hc : c ∈ b.ins
  · rw [A.idxIn c hc] at hg; cases hg
  · by_cases ho : c ∈ b.outs.map (·.1)
    · obtain ⟨i, e, _⟩ := A.idxOut c ho
      rw [e] at hg
      injection hg with hg
      subst hg
      obtain ⟨o, ho', hoc⟩ := List.mem_map.mp ho
      refine ⟨o.2, ?_⟩
      simp only [effects, List.mem_append, List.mem_map]
      right
      exact ⟨o, ho', by rw [← hoc]⟩
    · rw [A.idxOther c hc ho] at hg
      obtain ⟨cb, hm⟩ := ha c cp hg
      refine ⟨cb, ?_⟩
      simp only [effects, List.mem_append, List.mem_filter]
      left
      exact ⟨hm, by simpa using hc⟩

theorem impl_replay_heights (p : Params) (bs : List Blk) : ∀ {S S' : TxHS} {s s' : UState}, RInv S →
    AbsH S s → (∀ b ∈ bs, cutThroughViolation b = false) → replay p s bs = .ok s' →
    applyBlocks S bs = .ok S' → AbsH S' s' := by
  induction bs with
  | nil =>
    intro S S' s s' _ ha _ hr hS
    obtain rfl := replay_nil_ok hr
    obtain rfl := applyBlocks_nil_ok hS
    exact ha
  | cons b bs ih =>
    intro S S' s s' hi ha hct hr hS
    obtain ⟨s1, h1, hr⟩ := replay_cons_ok hr
    obtain ⟨S1, h2, hS⟩ := applyBlocks_cons_ok hS
    obtain ⟨sp, A⟩ := applyBlockImpl_ok hi (hct b (List.mem_cons_self ..)) h2
    have he := applyBlock_effects h1
    exact ih A.rinv (he ▸ absH_step A ha) (fun b' hb' => hct b' (List.mem_cons_of_mem _ hb')) hr hS

end GV.Chain
