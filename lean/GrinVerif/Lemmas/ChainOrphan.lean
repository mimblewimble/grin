import GrinVerif.Lemmas.ChainOrder
/-! Order independence through the orphan pool: blocks may arrive before their parents
(headers known first). The model's pool has no capacity eviction and no age-out.
The invariant: every delivered block that passes its own step is stored, or pooled under a parent that is
not stored (`Pending`, over the standing facts `Ctx`); `checkOrphans` restores it (`FoldInv`). -/
namespace GV.Chain

/-- **a valid step is never dropped** -/
theorem pbs_validStep (p : Params) (n : Node) (b : Blk) (par : Nat) (hi : Inv p n)
    (hv : ValidStep p n b par) (hh : b.id ∈ n.headers) :
    b.id ∈ (processBlockSingle p n b).1.stored ∨
    (b.id ∈ (processBlockSingle p n b).1.orphans ∧ par ∉ (processBlockSingle p n b).1.stored) := by
  obtain ⟨hb, hpar, hok, s', hc⟩ := hv
  by_cases hin : b.id ∈ n.stored
  · exact Or.inl (pbs_stored_mono p n b b.id hin)
  · have hk := mt (knownFull_stored hi.closed) hin
    have hph : par ∈ n.headers := by
      rcases hi.hdr.valid b.id hh with h0 | ⟨b', par', hb', _, hp', hm'⟩
      · exact absurd (h0 ▸ hi.closed.zero) hin
      · rw [hb] at hb'; cases hb'
        rw [hpar] at hp'; cases hp'
        exact hm'
    by_cases hps : par ∈ n.stored
    · obtain ⟨n1, _, hr⟩ := processBlockSingle_stores p n b par s' hk hpar hps hph hok hc
      left
      rw [hr]; exact (storeBlock_stored_mem n1 b _).mpr (.inr rfl)
    · have hne : par ≠ n.head := fun h => hps (h ▸ hi.closed.head)
      obtain ⟨n1, h1, hr⟩ := processBlockSingle_pools p n b par hk hpar hps hne hph hok
      have hf := CoreEq.of_header h1
      right
      rw [hr]
      refine ⟨(addOrphan_mem n1 b b.id).mpr (Or.inr rfl), ?_⟩
      show par ∉ (addOrphan n1 b).stored
      unfold addOrphan
      simp only
      rw [hf.stored]; exact hps


/-- *reachable within `D`*: the block and all its ancestors down to the genesis pass their own
step and have been delivered -/
inductive Reach (p : Params) (N : Node) (D : List Nat) : Nat → Prop
  | genesis : Reach p N D 0
  | child (b : Blk) (par : Nat) : ValidStep p N b par → Reach p N D par → b.id ∈ D → Reach p N D b.id

theorem Reach.mono {p : Params} {N : Node} {D D' : List Nat} (hsub : ∀ d ∈ D, d ∈ D') {id : Nat}
    (h : Reach p N D id) : Reach p N D' id := by
  induction h with
  | genesis => exact .genesis
  | child b par hv _ hd ih => exact .child b par hv ih (hsub _ hd)

theorem Reach.vop {p : Params} {N : Node} {D : List Nat} {id : Nat} (h : Reach p N D id) :
    VOP p N id := by
  induction h with
  | genesis => exact .genesis
  | child b par hv _ _ ih => exact hv.vop ih

/-- the standing facts about a node `n` during a history over the definitions of `N` with delivered ids `D` -/
structure Ctx (p : Params) (N n : Node) (D : List Nat) : Prop where
  blks : n.blks = N.blks
  outs : n.outs = N.outs
  inv : Inv p n
  pool : ∀ o ∈ n.orphans, o ∈ D
  hdrs : ∀ d ∈ D, d ∈ n.headers
  sound : ∀ s ∈ n.stored, Reach p N D s

theorem Ctx.ran {p : Params} {N n : Node} {D : List Nat} (hc : Ctx p N n D) : Ran p N n :=
  ⟨hc.blks, hc.outs, hc.inv⟩

theorem Ctx.single {p : Params} {N n : Node} {D : List Nat} (hc : Ctx p N n D) (b : Blk)
    (hb : n.blk b.id = some b) (hd : b.id ∈ D) : Ctx p N (processBlockSingle p n b).1 D := by
  have hr' := hc.ran.single hb
  refine ⟨hr'.blks, hr'.outs, hr'.inv, ?_, ?_, ?_⟩
  · intro o ho
    rcases pbs_orphans_sub p n b o ho with h | h
    · exact hc.pool o h
    · exact h ▸ hd
  · intro d hd'
    exact pbs_headers_mono p n b d (hc.hdrs d hd')
  · intro s hs
    rcases pbs_stored_sub p n b s hs with h | h
    · exact hc.sound s h
    · subst h
      by_cases h0 : b.id = 0
      · rw [h0]; exact .genesis
      · have hbN : N.blk b.id = some b := by rw [← hc.ran.blk]; exact hb
        obtain ⟨par, hvs, _⟩ := (hr'.stored_vop hs).validStep hbN h0
        have hpar := hvs.2.1
        have hps : par ∈ n.stored := by
          by_cases hin : b.id ∈ n.stored
          · exact hc.inv.closed.parent b.id hin b par hb hpar
          · rcases processBlockSingle_core p n b with ⟨hk, _⟩ | ⟨par', _, A⟩
            · rw [hk.stored] at hs; exact absurd hs hin
            · have hpar' := A.parent
              rw [hpar] at hpar'; cases hpar'
              rcases A.parStored with h | h
              · exact h ▸ hc.inv.closed.head
              · exact h
        exact .child b par hvs (hc.sound par hps) hd

theorem Ctx.shrink {p : Params} {N n : Node} {D : List Nat} (hc : Ctx p N n D) (os : List Nat)
    (hsub : ∀ o ∈ os, o ∈ n.orphans) : Ctx p N { n with orphans := os } D :=
  ⟨hc.blks, hc.outs, (preserved_inv p).orphans n os hc.inv, fun o ho => hc.pool o (hsub o ho),
    hc.hdrs, hc.sound⟩

theorem Ctx.stored_le {p : Params} {N n : Node} {D : List Nat} (hc : Ctx p N n D) :
    n.stored.length ≤ n.blks.length + 1 := by
  have hsub : n.stored ⊆ 0 :: n.blks.map (·.id) := by
    intro s hs
    have hr := hc.sound s hs
    cases hr with
    | genesis => exact List.mem_cons_self ..
    | child b par hv _ _ =>
      have := blk_mem hv.1
      rw [← hc.blks] at this
      exact List.mem_cons_of_mem _ (List.mem_map.mpr ⟨b, this, rfl⟩)
  have := hc.inv.nodup.length_le_of_subset hsub
  simpa using this

/-- every delivered block that passes its own step is stored, or waits in the pool — and then its
parent is not stored, unless the exception `X` applies (a round of `checkOrphans` is due) -/
def Pending (p : Params) (N n : Node) (D : List Nat) (X : Blk → Prop) : Prop :=
  ∀ c par, ValidStep p N c par → c.id ∈ D →
    c.id ∈ n.stored ∨ (c.id ∈ n.orphans ∧ (par ∉ n.stored ∨ X c))

theorem Pending.mono {p : Params} {N n : Node} {D : List Nat} {X Y : Blk → Prop}
    (h : Pending p N n D X) (hXY : ∀ c, X c → Y c) : Pending p N n D Y :=
  fun c par hv hd => (h c par hv hd).imp_right fun ⟨h1, h2⟩ => ⟨h1, h2.imp_right (hXY c)⟩

theorem ValidStep.child_height {p : Params} {N : Node} {c b : Blk} {par : Nat}
    (hv : ValidStep p N c par) (hb : N.blk par = some b) : c.h = b.h + 1 :=
  hv.2.2.1.height hv.2.1 hb

/-- The invariant of the loop over the orphans of one height `h`; `l` = the orphans still to be
processed, `acc` = (node, height of the last accepted one). `pend`: a delivered valid block is stored,
or pooled - under a parent that is not stored, or one height up once something of this round was
accepted (`acc.2 ≠ none`: the next round will take it) -, or still in `l`. `acc2`: only height `h` is
ever recorded. `len`: the store has grown beyond its length `L0` at the start of the round iff
something was accepted (the measure that bounds the number of rounds). -/
structure FoldInv (p : Params) (N : Node) (D : List Nat) (h L0 : Nat) (l : List Nat)
    (acc : Node × Option Nat) : Prop where
  ctx : Ctx p N acc.1 D
  pend : ∀ c par, ValidStep p N c par → c.id ∈ D →
    c.id ∈ acc.1.stored ∨
    (c.id ∈ acc.1.orphans ∧ (par ∉ acc.1.stored ∨ (acc.2 ≠ none ∧ c.h = h + 1))) ∨ c.id ∈ l
  acc2 : ∀ x, acc.2 = some x → x = h
  len : L0 ≤ acc.1.stored.length ∧ (acc.2 ≠ none → L0 < acc.1.stored.length)
  heights : ∀ o ∈ l, N.heightOf o = h
  inD : ∀ o ∈ l, o ∈ D

theorem FoldInv.step {p : Params} {N : Node} {D : List Nat} {h L0 : Nat} {o : Nat} {l : List Nat}
    {acc : Node × Option Nat} (hf : FoldInv p N D h L0 (o :: l) acc) :
    FoldInv p N D h L0 l (orphanStep p acc o) := by
  have hho := hf.heights o (List.mem_cons_self ..)
  have hhl : ∀ o' ∈ l, N.heightOf o' = h := fun o' ho' => hf.heights o' (List.mem_cons_of_mem _ ho')
  have hdl : ∀ o' ∈ l, o' ∈ D := fun o' ho' => hf.inD o' (List.mem_cons_of_mem _ ho')
  cases hbo : acc.1.blk o with
  | none =>
    rw [orphanStep_none hbo]
    refine ⟨hf.ctx, ?_, hf.acc2, hf.len, hhl, hdl⟩
    intro c par hv hd
    rcases hf.pend c par hv hd with h1 | h1 | h1
    · exact Or.inl h1
    · exact Or.inr (Or.inl h1)
    · rcases List.mem_cons.mp h1 with h2 | h2
      · exfalso
        have := (hf.ctx.ran.blk c.id).trans hv.1
        rw [h2, hbo] at this; cases this
      · exact Or.inr (Or.inr h2)
  | some b =>
    rw [orphanStep_some hbo]
    have hid : b.id = o := blk_id hbo
    have hb : acc.1.blk b.id = some b := by rw [hid]; exact hbo
    have hbN := (hf.ctx.ran.blk b.id).symm.trans hb
    have hbh : b.h = h := by
      have : N.heightOf o = b.h := by simp [Node.heightOf, ← hid, hbN]
      rw [← this]; exact hho
    have hdo : b.id ∈ D := hid ▸ hf.inD o (List.mem_cons_self ..)
    have hctx' := hf.ctx.single b hb hdo
    have hcore := pbs_stored_cases p acc.1 b
    -- the one idea: a pooled valid block whose parent gets stored by THIS step is a child of `b` (height
    -- `h + 1`), and the step has recorded an acceptance: the next round, one height up, will take it
    have waits : ∀ c par, ValidStep p N c par → par ∉ acc.1.stored →
        par ∈ (processBlockSingle p acc.1 b).1.stored →
        (match (processBlockSingle p acc.1 b).2 with | .err _ => acc.2 | _ => some b.h) ≠ none ∧
          c.h = h + 1 := by
      intro c par hv h2 hps
      rcases pbs_stored_sub p acc.1 b par hps with h4 | h4
      · exact absurd h4 h2
      · rcases hcore with ⟨hst, _⟩ | ⟨_, hr⟩
        · rw [hst] at hps; exact absurd hps h2
        · refine ⟨?_, by rw [hv.child_height (h4 ▸ hbN), hbh]⟩
          rcases hr with hr | hr <;> rw [hr] <;> simp
    -- an acceptance recorded earlier in the round stays recorded
    have stays : acc.2 ≠ none →
        (match (processBlockSingle p acc.1 b).2 with | .err _ => acc.2 | _ => some b.h) ≠ none := by
      intro h2
      rcases hcore with ⟨_, e, he⟩ | ⟨_, hr⟩
      · rw [he]; exact h2
      · rcases hr with hr | hr <;> rw [hr] <;> simp
    refine ⟨hctx', ?_, ?_, ?_, hhl, hdl⟩
    · intro c par hv hd
      by_cases hcb : c.id = b.id
      · have hcb' : c = b := by
          have := hv.1; rw [hcb, hbN] at this; exact (Option.some.inj this).symm
        subst hcb'
        have hv' : ValidStep p acc.1 c par := (ValidStep_congr hf.ctx.outs hf.ctx.blks p c par).mpr hv
        rcases pbs_validStep p acc.1 c par hf.ctx.inv hv' (hf.ctx.hdrs c.id hd) with h1 | ⟨h1, h2⟩
        · exact Or.inl h1
        · exact Or.inr (Or.inl ⟨h1, Or.inl h2⟩)
      · rcases hf.pend c par hv hd with h1 | ⟨h1, h2⟩ | h1
        · exact Or.inl (pbs_stored_mono p acc.1 b c.id h1)
        · refine Or.inr (Or.inl ⟨pbs_pool_mono p acc.1 b c.id h1, ?_⟩)
          rcases h2 with h2 | ⟨h2, h3⟩
          · by_cases hps : par ∈ (processBlockSingle p acc.1 b).1.stored
            · exact .inr (waits c par hv h2 hps)
            · exact .inl hps
          · exact .inr ⟨stays h2, h3⟩
        · rcases List.mem_cons.mp h1 with h2 | h2
          · exact absurd (h2.trans hid.symm) hcb
          · exact Or.inr (Or.inr h2)
    · intro x hx
      rcases hcore with ⟨_, e, he⟩ | ⟨_, hr⟩
      · rw [he] at hx; exact hf.acc2 x hx
      · rcases hr with hr | hr <;> rw [hr] at hx <;> simp at hx <;> omega
    · rcases hcore with ⟨hst, e, he⟩ | ⟨hst, hr⟩
      · rw [hst, he]; exact hf.len
      · rw [hst]
        simp only [List.length_append, List.length_singleton]
        exact ⟨by have := hf.len.1; omega, fun _ => by have := hf.len.1; omega⟩

theorem FoldInv.fold {p : Params} {N : Node} {D : List Nat} {h L0 : Nat} (l : List Nat) :
    ∀ {acc : Node × Option Nat}, FoldInv p N D h L0 l acc →
      FoldInv p N D h L0 [] (l.foldl (orphanStep p) acc) := by
  induction l with
  | nil => intro acc hf; exact hf
  | cons o l ih => intro acc hf; exact ih hf.step


theorem FoldInv.pending {p : Params} {N : Node} {D : List Nat} {h L0 : Nat}
    {acc : Node × Option Nat} (hf : FoldInv p N D h L0 [] acc) :
    Pending p N acc.1 D (fun c => acc.2 ≠ none ∧ c.h = h + 1) := by
  intro c par hv hd
  rcases hf.pend c par hv hd with h1 | h1 | h1
  · exact Or.inl h1
  · exact Or.inr h1
  · cases h1

theorem orphanRound_inv {p : Params} {N n : Node} {D : List Nat} {h : Nat} (hc : Ctx p N n D)
    (hp : Pending p N n D (fun c => c.h = h)) :
    FoldInv p N D h n.stored.length [] (orphanRound p n h) := by
  unfold orphanRound
  apply FoldInv.fold
  refine ⟨hc.shrink _ (fun o ho => (List.mem_filter.mp ho).1), ?_, fun x hx => (by cases hx),
    ⟨Nat.le_refl _, fun hne => absurd rfl hne⟩, ?_, ?_⟩
  · intro c par hv hd
    have hreg : n.heightOf c.id = c.h := by
      have := (hc.ran.blk c.id).trans hv.1
      simp [Node.heightOf, this]
    rcases hp c par hv hd with h1 | ⟨h1, h2⟩
    · exact Or.inl h1
    · by_cases hh : c.h = h
      · right; right
        exact List.mem_filter.mpr ⟨h1, by simp [hreg, hh]⟩
      · right; left
        refine ⟨List.mem_filter.mpr ⟨h1, by simp [hreg, hh]⟩, Or.inl ?_⟩
        rcases h2 with h2 | h2
        · exact h2
        · exact absurd h2 hh
  · intro o ho
    have := (List.mem_filter.mp ho).2
    rw [← heightOf_congr hc.blks]
    simpa using this
  · intro o ho
    exact hc.pool o (List.mem_filter.mp ho).1

/-- **`checkOrphans` settles the pool**, started at the height where pooled blocks with a stored parent may
wait; the fuel is enough because every round but the last stores a block (`FoldInv.len`, `Ctx.stored_le`) -/
theorem checkOrphans_quiescent (p : Params) (N : Node) (D : List Nat) (fuel : Nat) :
    ∀ (n : Node) (h : Nat), Ctx p N n D → Pending p N n D (fun c => c.h = h) →
      n.blks.length + 2 ≤ fuel + n.stored.length →
      Ctx p N (checkOrphans p fuel n h) D ∧ Pending p N (checkOrphans p fuel n h) D (fun _ => False) := by
  induction fuel with
  | zero =>
    intro n h hc _ hfuel
    have := hc.stored_le
    omega
  | succ k ih =>
    intro n h hc hp hfuel
    rw [checkOrphans_succ]
    have F := orphanRound_inv hc hp
    cases hst : (orphanRound p n h).2 with
    | none =>
      simp only
      exact ⟨F.ctx, F.pending.mono fun _ hx => absurd hst hx.1⟩
    | some hAcc =>
      simp only
      have hh : hAcc = h := F.acc2 hAcc hst
      subst hh
      apply ih _ _ F.ctx (F.pending.mono fun _ hx => hx.2)
      have hl := F.len.2 (by rw [hst]; simp)
      have hb : (orphanRound p n hAcc).1.blks.length = n.blks.length := by
        rw [F.ctx.blks, hc.blks]
      omega

theorem Ctx.grow {p : Params} {N n : Node} {D : List Nat} (hc : Ctx p N n D) (d : Nat)
    (hh : d ∈ n.headers) : Ctx p N n (d :: D) :=
  ⟨hc.blks, hc.outs, hc.inv, fun o ho => List.mem_cons_of_mem _ (hc.pool o ho),
   fun x hx => by
     rcases List.mem_cons.mp hx with h | h
     · exact h ▸ hh
     · exact hc.hdrs x h,
   fun s hs => (hc.sound s hs).mono (fun x hx => List.mem_cons_of_mem _ hx)⟩

theorem deliverBlock_quiescent {p : Params} {N n : Node} {D : List Nat} (b : Blk)
    (hc : Ctx p N n D) (hq : Pending p N n D (fun _ => False)) (hb : n.blk b.id = some b)
    (hh : b.id ∈ n.headers) :
    Ctx p N (deliverBlock p n b).1 (b.id :: D) ∧
    Pending p N (deliverBlock p n b).1 (b.id :: D) (fun _ => False) := by
  have hbN := (hc.ran.blk b.id).symm.trans hb
  have F0 : FoldInv p N (b.id :: D) b.h n.stored.length [b.id] (n, none) := by
    refine ⟨hc.grow b.id hh, ?_, fun x hx => (by cases hx),
      ⟨Nat.le_refl _, fun hne => absurd rfl hne⟩, ?_, ?_⟩
    · intro c par hv hd
      rcases List.mem_cons.mp hd with h | h
      · right; right; rw [h]; exact List.mem_cons_self ..
      · rcases hq c par hv h with h1 | ⟨h1, h2⟩
        · exact Or.inl h1
        · rcases h2 with h2 | h2
          · exact Or.inr (Or.inl ⟨h1, Or.inl h2⟩)
          · exact absurd h2 id
    · intro o ho
      obtain rfl := List.mem_singleton.mp ho
      simp [Node.heightOf, hbN]
    · intro o ho
      obtain rfl := List.mem_singleton.mp ho
      exact List.mem_cons_self ..
  have F := F0.step
  rw [orphanStep_some (acc := (n, none)) hb] at F
  rcases deliverBlock_cases p n b with ⟨e, he, hd⟩ | ⟨_, hd⟩ <;> rw [hd]
  · refine ⟨F.ctx, F.pending.mono fun _ hx => ?_⟩
    rw [he] at hx
    exact hx.1 rfl
  · refine checkOrphans_quiescent p N (b.id :: D) _ _ (b.h + 1) F.ctx
      (F.pending.mono fun _ hx => hx.2) ?_
    have := F.ctx.blks.trans hc.blks.symm
    simp only at this
    omega

theorem deliverHeader_quiescent {p : Params} {N n : Node} {D : List Nat} (b : Blk)
    (hc : Ctx p N n D) (hq : Pending p N n D (fun _ => False)) (hb : n.blk b.id = some b) :
    Ctx p N (deliverHeader p n b).1 D ∧ Pending p N (deliverHeader p n b).1 D (fun _ => False) := by
  have hf := CoreEq.of_deliverHeader p n b
  have hfo := deliverHeader_orphans p n b
  refine ⟨⟨hf.blks.trans hc.blks, hf.outs.trans hc.outs,
    deliverHeader_preserved (preserved_inv p) n b hb hc.inv, fun o ho => hc.pool o (hfo ▸ ho),
    fun d hd => deliverHeader_headers_mono p n b d (hc.hdrs d hd),
    fun s hs => hc.sound s (hf.stored ▸ hs)⟩, ?_⟩
  intro c par hv hd
  rw [hf.stored, hfo]
  exact hq c par hv hd

/-- **any delivery order** -/
theorem run_quiescent (p : Params) (N : Node) (es : List Event) (n : Node) (D : List Nat)
    (hreg : Registered n es) (hk : ∀ id ∈ blockIds es, id ∈ n.headers) (hc : Ctx p N n D)
    (hq : Pending p N n D (fun _ => False)) :
    Ctx p N (run p n es) ((blockIds es).reverse ++ D) ∧
      Pending p N (run p n es) ((blockIds es).reverse ++ D) (fun _ => False) :=
  (run_delivered (Q := fun n D es => (∀ id ∈ blockIds es, id ∈ n.headers) ∧ Ctx p N n D ∧
      Pending p N n D (fun _ => False))
    (fun n _ b _ hb ⟨hk, hc, hq⟩ => ⟨fun id hid => deliverHeader_headers_mono p n b id (hk id hid),
      deliverHeader_quiescent b hc hq hb⟩)
    (fun n _ b _ hb ⟨hk, hc, hq⟩ => ⟨fun id hid => step_headers_mono p n (.block b) id (hk id (List.mem_cons_of_mem _ hid)),
      deliverBlock_quiescent b hc hq hb (hk b.id (List.mem_cons_self ..))⟩) es n D hreg ⟨hk, hc, hq⟩).2

structure HeadersOnly (p : Params) (n : Node) : Prop where
  stored : n.stored = [0]
  head : n.head = 0
  orphans : n.orphans = []
  inv : Inv p n

theorem Fresh.headersOnly {n : Node} (p : Params) (h : Fresh n) : HeadersOnly p n :=
  ⟨h.stored, h.head, h.orphans, h.inv p⟩

theorem HeadersOnly.deliverHeader {p : Params} {n : Node} (h : HeadersOnly p n) (b : Blk)
    (hb : n.blk b.id = some b) : HeadersOnly p (deliverHeader p n b).1 := by
  have hf := CoreEq.of_deliverHeader p n b
  exact ⟨hf.stored ▸ h.stored, hf.head ▸ h.head, deliverHeader_orphans p n b ▸ h.orphans,
    deliverHeader_preserved (preserved_inv p) n b hb h.inv⟩

theorem HeadersOnly.after_headers (p : Params) (n : Node) (bs : List Blk) (hf : Fresh n)
    (hreg : Registered n (bs.map Event.header)) : HeadersOnly p (run p n (bs.map Event.header)) :=
  run_ind hreg (hf.headersOnly p) fun m e he hb hm => by
    obtain ⟨b, _, rfl⟩ := List.mem_map.mp he
    exact hm.deliverHeader b hb

end GV.Chain
