import GrinVerif.Lemmas.PoolOps
/-! Availability of inputs (`Avail`): every input of every pooled transaction is unspent at the
head or created by a pooled transaction; what `locate_spends` guarantees about the inputs of an
admitted transaction; the history invariant behind `GV.Props.C14.admitted_inputs_available`. -/
namespace GV.Pool

theorem avail_of_netOK {utxo : List Nat} {txs : List Tx} (h : NetOK utxo txs) : Avail utxo txs := by
  intro t ht i hi
  have hI : i ∈ allIns txs := mem_allIns.mpr ⟨t, ht, hi⟩
  have h1 := (h i).1
  have hp : 0 < (allIns txs).count i := List.count_pos_iff.mpr hI
  by_cases hm : i ∈ allOuts txs
  · exact Or.inr hm
  · left
    by_cases hu : i ∈ utxo
    · exact hu
    · have h0 : unspentCount utxo i = 0 := by simp [unspentCount, hu]
      have h2 := List.count_eq_zero.mpr hm
      omega

theorem avail_of_txpoolOK {c : Ctx} {p : Pool} (h : TxpoolOK c p) : Avail (utxoIds c) p.txs :=
  avail_of_netOK (netOK_of_txpoolOK h)

theorem mem_msub_of_not_mem {i : Nat} {l m : List Nat} (hi : i ∈ l) (hm : i ∉ m) : i ∈ msub l m := by
  have := count_msub i l m
  rw [List.count_eq_zero.mpr hm] at this
  have hp : 0 < l.count i := List.count_pos_iff.mpr hi
  exact List.count_pos_iff.mp (by omega)

theorem aggregate_outs_subset {txs : List Tx} {a : Tx} (h : aggregate txs = .ok a) :
    ∀ o ∈ a.outs, o ∈ allOuts txs := by
  intro o ho
  rcases aggregate_ok h with ⟨rfl, rfl⟩ | rfl | ⟨i, o', hc, rfl⟩
  · simp [emptyTx] at ho
  · simpa using ho
  · obtain ⟨_, ho', _, _⟩ := cutThrough_ok hc
    have hp : 0 < o'.count o := List.count_pos_iff.mpr ho
    have := ho' o
    exact List.count_pos_iff.mp (by omega)

theorem allAggregate_outs_subset {c : Ctx} {p : Pool} {x : Option Tx} (h : Pool.allAggregate c p none = .ok x) :
    ∀ o ∈ allOuts x.toList, o ∈ allOuts p.txs := by
  intro o ho
  rcases allAggregate_ok h with ⟨h1, h2⟩ | ⟨a, h1, h2⟩
  · subst h2; simp at ho
  · subst h2
    have := aggregate_outs_subset h1 o (by simpa using ho)
    simpa using this

/-- a successful `locate_spends`: the inputs it looked up on the chain are unspent at the head, and
every input that no transaction of the pool (nor the extra one) creates is among them -/
theorem locateSpends_ok {c : Ctx} {p : Pool} {t : Tx} {extra : Option Tx} {sp su : List Nat}
    (h : p.locateSpends c t extra = .ok (sp, su)) :
    (∀ i ∈ su, c.head.has i = true) ∧ ∀ i ∈ t.ins, i ∉ allOuts (p.txs ++ extra.toList) → i ∈ su := by
  unfold Pool.locateSpends at h
  cases hagg : p.allAggregate c extra with
  | error e => rw [hagg] at h; cases h
  | ok agg =>
    rw [hagg] at h
    simp -zeta only [] at h
    extract_lets outs at h
    have hsub : ∀ o ∈ outs, o ∈ allOuts (p.txs ++ extra.toList) := by
      intro o ho
      rcases allAggregate_ok hagg with ⟨h1, h2⟩ | ⟨a, h1, h2⟩
      · subst h1; subst h2
        cases agg with
        | none => simp [outs] at ho
        | some a => simpa [outs] using ho
      · subst h2
        exact aggregate_outs_subset h1 o ho
    clear_value outs
    cases hct : cutThrough t.ins outs with
    | error e => rw [hct] at h; cases h
    | ok r =>
      obtain ⟨su', so⟩ := r
      rw [hct] at h
      simp only [] at h
      split at h
      · rename_i hall
        simp only [Except.ok.injEq, Prod.mk.injEq] at h
        obtain ⟨_, rfl⟩ := h
        refine ⟨List.all_eq_true.mp hall, fun i hi hno => ?_⟩
        have hc := (cutThrough_ok hct).1 i
        rw [List.count_eq_zero.mpr (fun ho => hno (hsub i ho))] at hc
        have hp' : 0 < t.ins.count i := List.count_pos_iff.mpr hi
        exact List.count_pos_iff.mp (by omega)
      · cases h

/-- an input of an admitted transaction that no pooled transaction creates (fluff: none of the
txpool; stem: nor of the stempool) was looked up on the chain and is unspent at the head -/
theorem Passed.chain_input {c : Ctx} {s : TxPool} {src : Src} {tx : Tx} {stem : Bool} {entry : Entry}
    {extra : Option Tx} {su : List Nat} (hp : Passed c s src tx stem entry extra su) {i : Nat}
    (hi : i ∈ entry.tx.ins) (htp : i ∉ allOuts s.txpool.txs) (hsp : stem = true → i ∉ allOuts s.stempool.txs) :
    i ∈ su ∧ c.head.has i = true := by
  obtain ⟨sp, hloc⟩ := hp.spends
  have hagg := hp.agg
  have key : ∀ {p : Pool} {x : Option Tx}, p.locateSpends c entry.tx x = .ok (sp, su) →
      i ∉ allOuts (p.txs ++ x.toList) → i ∈ su ∧ c.head.has i = true := fun h hno =>
    have hmem := (locateSpends_ok h).2 i hi hno
    ⟨hmem, (locateSpends_ok h).1 i hmem⟩
  cases stem with
  | false => exact key hloc (by simpa using htp)
  | true =>
    refine key hloc ?_
    rw [allOuts_append, List.mem_append]
    rintro (h | h)
    · exact hsp rfl h
    · exact htp (allAggregate_outs_subset hagg i h)

/-! ### the history invariant -/

/-- every transaction of the list has all its inputs available, except possibly those in `old` -/
def AvailExc (utxo : List Nat) (txs old : List Tx) : Prop :=
  ∀ t ∈ txs, t ∈ old ∨ ∀ i ∈ t.ins, i ∈ utxo ∨ i ∈ allOuts txs

theorem availExc_of_avail {utxo : List Nat} {txs : List Tx} (old : List Tx) (h : Avail utxo txs) :
    AvailExc utxo txs old := fun t ht => Or.inr (h t ht)

theorem availExc_self (utxo : List Nat) (txs : List Tx) : AvailExc utxo txs txs := fun _ ht => Or.inl ht

theorem availExc_self_right (utxo : List Nat) (a b : List Tx) : AvailExc utxo b (a ++ b) :=
  fun _ ht => Or.inl (List.mem_append.mpr (Or.inr ht))

/-- Ghost state of the history invariant: the transactions that were in stempool ++ txpool right
after the most recent eviction (explicit, or by an admission while the txpool was over
`max_pool_size`) since the last block.  A block empties it: `reconcile_block` re-validates
everything. -/
def staleStep (cs : Ctx × TxPool) (old : List Tx) (op : Op) : List Tx :=
  match op with
  | .block _ _ _ _ => []
  | .evict => (step cs op).2.stempool.txs ++ (step cs op).2.txpool.txs
  | .submit src tx stem ok =>
    if cs.2.txpool.length > cs.1.cfg.maxPool ∧ (cs.2.addToPool cs.1 src tx stem ok).2 = none then
      (step cs op).2.stempool.txs ++ (step cs op).2.txpool.txs
    else old
  | _ => old

def staleRun : Ctx × TxPool → List Tx → List Op → List Tx
  | _, old, [] => old
  | cs, old, op :: ops => staleRun (step cs op) (staleStep cs old op) ops

theorem staleRun_append (cs : Ctx × TxPool) (old : List Tx) (ops ops' : List Op) :
    staleRun cs old (ops ++ ops') = staleRun (run cs ops) (staleRun cs old ops) ops' := by
  induction ops generalizing cs old with
  | nil => rfl
  | cons op rest ih => simp only [List.cons_append, staleRun, run, List.foldl_cons]; exact ih _ _

structure AvInv (cs : Ctx × TxPool) (old : List Tx) : Prop where
  valid : AllValid cs.1 cs.2
  tx : AvailExc (utxoIds cs.1) cs.2.txpool.txs old
  both : AvailExc (utxoIds cs.1) (cs.2.stempool.txs ++ cs.2.txpool.txs) old

theorem step_avInv (cs : Ctx × TxPool) (old : List Tx) (op : Op) (h : AvInv cs old) :
    AvInv (step cs op) (staleStep cs old op) := by
  suffices key : _ ∧ _ from ⟨step_allValid cs op h.valid, key.1, key.2⟩
  -- right after an eviction everything is stale; a validated pool has nothing unavailable
  have stale : ∀ (u : List Nat) (a b : List Tx), AvailExc u b (a ++ b) ∧ AvailExc u (a ++ b) (a ++ b) :=
    fun u a b => ⟨availExc_self_right u a b, availExc_self u _⟩
  have fresh : ∀ {c : Ctx} {s : TxPool} (old : List Tx), TxpoolOK c s.txpool →
      NetOK (utxoIds c) (s.stempool.txs ++ s.txpool.txs) → AvailExc (utxoIds c) s.txpool.txs old ∧
        AvailExc (utxoIds c) (s.stempool.txs ++ s.txpool.txs) old :=
    fun old h1 h2 => ⟨availExc_of_avail old (avail_of_txpoolOK h1), availExc_of_avail old (avail_of_netOK h2)⟩
  cases op with
  | submit src tx stem ok =>
    obtain ⟨stem', _, hout⟩ := addToPool_outcome cs.1 cs.2 src tx stem ok
    simp only [step, staleStep]
    cases hout with
    | refused er he =>
      rw [he]
      simp only [reduceCtorEq, and_false, if_false]
      exact ⟨h.tx, h.both⟩
    | stemmed hs _ h1 h2 =>
      split
      · exact stale _ _ _
      · rw [h1]; exact ⟨h.tx, availExc_of_avail old (avail_of_netOK h2)⟩
    | added h0 hc h1 h2 =>
      split
      · exact stale _ _ _
      · exact fresh old h1 h2
    | evicted p h0 hs hc h1 h2 h3 =>
      rw [if_pos ⟨hc, h0⟩]
      exact stale _ _ _
  | block head ver ins kers =>
    have hInv := reconcileBlock_inv (c := { cs.1 with head := head, ver := ver }) ins kers
      (allValid_indep_head head ver h.valid)
    exact fresh [] hInv.txOK hInv.stem
  | reorgCache =>
    rcases replay_cases cs.1 cs.2.cache cs.2 with hr | ⟨h1, h2⟩
    · rw [step_reorgCache, hr]; exact ⟨h.tx, h.both⟩
    · exact fresh old h1 h2
  | evict => exact stale _ _ _
  | truncate n => exact ⟨h.tx, h.both⟩

theorem run_avInv (cs : Ctx × TxPool) (old : List Tx) (ops : List Op) (h : AvInv cs old) :
    AvInv (run cs ops) (staleRun cs old ops) := by
  induction ops generalizing cs old with
  | nil => exact h
  | cons op rest ih => exact ih (step cs op) (staleStep cs old op) (step_avInv cs old op h)

theorem avInv_empty (c : Ctx) : AvInv (c, {}) [] :=
  ⟨allE_empty, fun t ht => by simp at ht, fun t ht => by simp at ht⟩

end GV.Pool
