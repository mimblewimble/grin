import GrinVerif.Lemmas.StoreFiles
import GrinVerif.Lemmas.PruneListCount
import GrinVerif.Lemmas.StoreTree
/-! The compacted files of a backend as the prune list lays them out (C08): the rewrite loop of
`write_tmp_pruned`, the read and rewind laws of a file that keeps the `keep`-positions in order,
the read laws of the compacted hash file and data file, `unpruned_size`.  No Mathlib. -/
namespace GV.Store
open GV GV.Pmmr

/-- keep the elements whose index (counted from `cur`) satisfies `keep` -/
def keepIdx {E : Type} (keep : Nat → Bool) : List E → Nat → List E
  | [], _ => []
  | e :: es, cur => if keep cur then e :: keepIdx keep es (cur + 1) else keepIdx keep es (cur + 1)

theorem keepIdx_congr {E : Type} (k1 k2 : Nat → Bool) (es : List E) (cur : Nat)
    (h : ∀ i, cur ≤ i → k1 i = k2 i) : keepIdx k1 es cur = keepIdx k2 es cur := by
  induction es generalizing cur with
  | nil => rfl
  | cons e es ih =>
    simp only [keepIdx, h cur (Nat.le_refl _)]
    rw [ih (cur + 1) (fun i hi => h i (by omega))]

/-- the loop of `write_tmp_pruned` (test `contains`, then drop the *first* entry of the list) is
correct for an ascending list of indices: it removes exactly the listed indices -/
theorem writeTmpLoop_spec {E : Type} (es : List E) (cur : Nat) (pp : List Nat) (hs : Sorted pp)
    (hge : ∀ x ∈ pp, cur ≤ x) :
    AOF.writeTmpLoop es cur pp = keepIdx (fun i => !pp.elem i) es cur := by
  induction es generalizing cur pp with
  | nil => rfl
  | cons e es ih =>
    simp only [AOF.writeTmpLoop, keepIdx]
    by_cases hc : pp.elem cur = true
    · -- `cur` is the head of `pp`
      cases pp with
      | nil => simp at hc
      | cons a t =>
        have hs' := List.pairwise_cons.1 hs
        have ha : a = cur := by
          have hmem : cur ∈ a :: t := by simpa using hc
          rcases List.mem_cons.1 hmem with h | h
          · exact h.symm
          · have := hs'.1 cur h; have := hge a (by simp); omega
        subst ha
        rw [if_pos hc]
        simp only [hc, Bool.not_true, List.drop_succ_cons, List.drop_zero]
        rw [ih (a + 1) t hs'.2 (fun x hx => by have := hs'.1 x hx; omega)]
        apply keepIdx_congr
        intro i hi
        have : i ≠ a := by omega
        simp [this]
    · have hc' : pp.elem cur = false := by simpa using hc
      rw [if_neg hc]
      simp only [hc', Bool.not_false, if_true]
      rw [ih (cur + 1) pp hs (fun x hx => by
        have := hge x hx
        have : x ≠ cur := by intro h; subst h; simp [hx] at hc'
        omega)]

theorem AOF.mem_writeTmpLoop {E : Type} : ∀ (es : List E) (cur : Nat) (pp : List Nat) (x : E),
    x ∈ AOF.writeTmpLoop es cur pp → x ∈ es
  | [], _, _, x, h => by simp [AOF.writeTmpLoop] at h
  | e :: es, cur, pp, x, h => by
    unfold AOF.writeTmpLoop at h
    split at h
    · exact List.mem_cons_of_mem _ (AOF.mem_writeTmpLoop es _ _ x h)
    · rcases List.mem_cons.1 h with h | h
      · rw [h]; exact List.mem_cons_self
      · exact List.mem_cons_of_mem _ (AOF.mem_writeTmpLoop es _ _ x h)

namespace Backend
variable {H : Type}

theorem getFromFile_eq (b : Backend H) (pos : Nat) :
    b.getFromFile pos = if b.isCompacted pos then none else b.getPeakFromFile pos := rfl

theorem isCompacted_of_not_compacted {b : Backend H} (hinv : b.pruneList.Inv) (q : Nat)
    (hnc : compactedP b.pruneList.bitmap q = false) : b.isCompacted q = false := by
  unfold isCompacted isPruned isPrunedRoot
  split
  · rfl
  · rw [PruneList.isPruned_iff hinv, hnc]
    cases b.pruneList.isPrunedRoot q <;> rfl

theorem isCompacted_false {b : Backend H} (hpl : b.pruneList = {}) (q : Nat) : b.isCompacted q = false :=
  isCompacted_of_not_compacted (hpl ▸ PruneList.inv_empty) q (by rw [hpl]; rfl)

theorem isCompacted_iff {b : Backend H} (h : b.pruneList.Inv) (p : Nat)
    (hl : b.leafSet.includes p = false) :
    b.isCompacted p = (!b.pruneList.isPrunedRoot p && compactedP b.pruneList.bitmap p) := by
  unfold isCompacted isPruned isPrunedRoot
  rw [hl, PruneList.isPruned_iff h]
  cases b.pruneList.isPrunedRoot p <;> simp

end Backend

/-- a file that keeps the `keep`-positions below `M` in order: the hash file and the data file of a
backend are such files (`layout`, `dataLayout`) -/
theorem AOF.read1_kept {E : Type} {f : AOF E} (hwf : f.WF) {keep : Nat → Bool} {M : Nat}
    {val : Nat → E} (hlay : f.view = ((List.range M).filter keep).map val) {q : Nat} (hq : q < M)
    (hk : keep q = true) : f.read1 (rk keep q + 1) = some (val q) := by
  unfold AOF.read1
  rw [if_neg (by omega), Nat.add_sub_cancel, AOF.read_view hwf, hlay, List.getElem?_map,
    filter_range_index _ M q hq hk]
  rfl

theorem AOF.rewind_kept {E : Type} {f : AOF E} (hwf : f.WF) (hb : f.buffer = []) {keep : Nat → Bool}
    {M M' : Nat} {val : Nat → E} (hlay : f.view = ((List.range M).filter keep).map val)
    (h : M' ≤ M) :
    (f.rewind (rk keep M')).WF ∧
    (f.rewind (rk keep M')).view = ((List.range M').filter keep).map val ∧
    (f.rewind (rk keep M')).buffer = [] ∧ rk keep M' ≤ f.disk.length := by
  have hv := AOF.view_length hwf
  unfold AOF.sizeUnsyncInElmts at hv
  rw [hb, List.length_nil, Nat.add_zero] at hv
  have hl : rk keep M' ≤ f.bsp := by
    rw [← hv, hlay, List.length_map, filter_range_length]; exact rk_mono _ h
  obtain ⟨w, v, e⟩ := AOF.rewind_of_wf hwf hb _ hl
  exact ⟨w, by rw [v, hlay, ← List.map_take, filter_range_take _ h], e, Nat.le_trans hl hwf.le⟩

namespace Backend
variable {H : Type}

/-- `M` need not be the size of a complete MMR (inside an import it is not) -/
theorem read_of_view {b : Backend H} (ref : Nat → H) (M : Nat) (hinv : b.pruneList.Inv)
    (hwf : b.hashFile.WF) (hlay : b.hashFile.view = (layout b.pruneList.bitmap M).map ref)
    (q : Nat) (hq : q < M) (hnc : compactedP b.pruneList.bitmap q = false) :
    b.getPeakFromFile q = some (ref q) ∧ b.getFromFile q = some (ref q) := by
  have h1 : b.getPeakFromFile q = some (ref q) := by
    unfold getPeakFromFile
    rw [Nat.add_comm 1 q, hashIdx_eq hinv q hnc]
    exact AOF.read1_kept hwf hlay hq (by simp [hnc])
  refine ⟨h1, ?_⟩
  rw [getFromFile_eq, isCompacted_of_not_compacted hinv q hnc]
  exact h1

theorem getPeakFromFile_of_layout {b : Backend H} (ref : Nat → H) (size : Nat)
    (hinv : b.pruneList.Inv) (hclean : b.hashFile.Clean)
    (hlay : b.hashFile.disk = (layout b.pruneList.bitmap size).map ref)
    (pos : Nat) (hpos : pos < size) (hnc : compactedP b.pruneList.bitmap pos = false) :
    b.getPeakFromFile pos = some (ref pos) := by
  obtain ⟨hwf, hv⟩ := AOF.wf_of_clean hclean
  exact (read_of_view ref size hinv hwf (hv ▸ hlay) pos hpos hnc).1

theorem unprunedSize_of_layout {b : Backend H} (size : Nat) (hinv : b.pruneList.Inv)
    (hlen : b.hashFile.disk.length = (layout b.pruneList.bitmap size).length)
    (hroots : ∀ x ∈ b.pruneList.bitmap, x ≤ size) : b.unprunedSize = size := by
  unfold unprunedSize hashSize AOF.sizeInElmts
  rw [hlen]
  exact layout_length hinv hroots

theorem checkCompact_leafSet (el : Bytes → Option Nat) (b : Backend H) (cutoff : Nat) (rm : Bitmap) :
    (b.checkCompact el cutoff rm).leafSet.bitmap = b.leafSet.bitmap := rfl

theorem checkCompact_leafPosIter (el : Bytes → Option Nat) (b : Backend H) (cutoff : Nat) (rm : Bitmap) :
    (b.checkCompact el cutoff rm).leafPosIter = b.leafPosIter := rfl

theorem checkCompact_nUnprunedLeaves (el : Bytes → Option Nat) (b : Backend H) (cutoff : Nat) (rm : Bitmap) :
    (b.checkCompact el cutoff rm).nUnprunedLeaves = b.nUnprunedLeaves := rfl

theorem checkCompact_inv (el : Bytes → Option Nat) (b : Backend H) (cutoff : Nat) (rm : Bitmap) :
    (b.checkCompact el cutoff rm).pruneList.Inv := PruneList.new_inv _

theorem getDataFromFile_of_view (el : Bytes → Option Nat) {b : Backend H} {df : AOF Bytes}
    (dref : Nat → Bytes) (M : Nat) (hinv : b.pruneList.Inv) (hd : b.dataFile = .fixed df)
    (hwf : df.WF) (hlay : df.view = (dataLayout b.pruneList.bitmap M).map dref)
    (q : Nat) (hq : q < M) (hleaf : height q = 0)
    (hnc : compactedP b.pruneList.bitmap q = false) :
    b.getDataFromFile el q = some (dref q) := by
  unfold getDataFromFile
  have hl : isLeaf q = true := (isLeaf_iff q).2 hleaf
  simp only [hl, Bool.not_true, Bool.false_eq_true, if_false, isCompacted_of_not_compacted hinv q hnc]
  rw [hd, dataIdx_eq hinv q hleaf hnc]
  exact AOF.read1_kept hwf hlay hq (by simp [hl, hnc])

end Backend
end GV.Store
