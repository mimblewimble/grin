import GrinVerif.Lemmas.PowUWalk
/-! Completeness of the undirected engine (Cuckatoo / Cuckaroo / Cuckarooz): a simple cycle through
all edges is accepted; in particular the early xor test never rejects a real cycle. -/
namespace GV.Pow

section
variable {C : UCfg} (E : MtEquiv C) {key uv : Nat → Nat} {L : Nat} {c : List Nat}
  (hG : IsCycle L (adjG C key uv) (sameVG C key uv) c) (hL : 0 < L)
include E hG hL

omit E hL in
theorem gcyc_cover (s : Nat) (hs : s < 2 * L) : ∃ a, a < L ∧ (s = c.getD a 0 ∨ s = c.getD a 0 ^^^ 1) := by
  obtain ⟨a, ha, h⟩ := hG.edge_cover (s / 2) (by omega)
  exact ⟨a, ha, eq_or_xor_of_half s _ h.symm⟩

/-- in a simple cycle through all edges, the slot entered at step `t` has exactly one partner:
the slot through which the cycle leaves that vertex -/
theorem gcyc_partner (t : Nat) (ht : t < L) :
    Partner C key uv (2 * L) (c.getD t 0) (c.getD ((t + 1) % L) 0 ^^^ 1) := by
  have hm : (t + 1) % L < L := Nat.mod_lt _ hL
  obtain ⟨l1, l2, l3⟩ := hG.link t ht
  have hlt := hG.slot_lt
  refine ⟨⟨xor_one_lt _ _ (hlt _ hm), ?_, l1⟩, l2, ?_, l3⟩
  · intro e
    have h2 : c.getD ((t + 1) % L) 0 / 2 = c.getD t 0 / 2 := by
      rw [← xor_one_div, e]
    have := hG.edge_inj _ _ hm ht h2
    rw [this] at e
    exact ne_xor_one _ e.symm
  · intro s ⟨s1, s2, s3⟩ sm
    obtain ⟨a, ha, hs⟩ := gcyc_cover hG s s1
    rcases hs with rfl | rfl
    · -- another entry slot of the same vertex: excluded by simplicity
      have hat : a ≠ t := fun h => s2 (by rw [h])
      exact absurd ⟨s3, sm⟩ (hG.simple a t ha ht hat)
    · -- an exit slot: it is the exit slot of the vertex entered one step before `a`
      have hp : (a + L - 1) % L < L := Nat.mod_lt _ hL
      obtain ⟨k1, k2, _⟩ := hG.link_pred hL a ha
      by_cases hpt : (a + L - 1) % L = t
      · rw [← hpt, pred_succ_mod a L hL ha]
      · exfalso
        apply hG.simple _ t hp ht hpt
        refine ⟨k1.symm.trans s3, ?_⟩
        have : C.mt (uv (c.getD ((a + L - 1) % L) 0)) (uv (c.getD a 0 ^^^ 1)) = true := by
          rw [E.symm]; exact k2
        exact E.trans _ _ _ this sm

theorem gcyc_partner_pred (a : Nat) (ha : a < L) :
    Partner C key uv (2 * L) (c.getD ((a + L - 1) % L) 0) (c.getD a 0 ^^^ 1) := by
  have := gcyc_partner E hG hL _ (Nat.mod_lt (a + L - 1) hL)
  rwa [pred_succ_mod a L hL ha] at this

theorem gcyc_has_partner (s : Nat) (hs : s < 2 * L) : ∃ j, Partner C key uv (2 * L) s j := by
  obtain ⟨a, ha, h⟩ := gcyc_cover hG s hs
  rcases h with rfl | rfl
  · exact ⟨_, gcyc_partner E hG hL a ha⟩
  · exact ⟨_, partner_symm E (hG.slot_lt _ (Nat.mod_lt _ hL)) (gcyc_partner_pred E hG hL a ha)⟩

end

/-! ### the walk follows the cycle, forwards or backwards -/

/-- The states of the step need not be the slots of the cycle: `σ` embeds the specification's slots
into them (`id` for the circular-list variants; Cuckarood numbers its slots per direction), `x0` is
the slot at which the walk starts, `InE` a class of slots containing it, closed under the step, on
which the step is known to go to the partner's other end and `σ` is injective. -/
structure WalkEmb (C : UCfg) (key uv : Nat → Nat) (L : Nat) (step : Nat → Except Err Nat)
    (σ : Nat → Nat) (InE : Nat → Prop) (x0 : Nat) : Prop where
  start_lt : x0 < 2 * L
  start : σ x0 = 0
  start_in : InE x0
  inj : ∀ a b, InE a → InE b → σ a = σ b → a = b
  step : ∀ i j, i < 2 * L → InE i → Partner C key uv (2 * L) i j →
    step (σ i) = .ok (σ (j ^^^ 1)) ∧ InE (j ^^^ 1)

section
variable {C : UCfg} {key uv : Nat → Nat} {L : Nat} (hL : 0 < L)
  {step : Nat → Except Err Nat} {InE : Nat → Prop} {σ : Nat → Nat} {x0 : Nat}
  (W : WalkEmb C key uv L step σ InE x0)
include hL W

/-- slots `g 0 = x0, g 1, …, g L = x0`, each the other end of the partner of the one before and only
the first of them `x0`, are a trace of the walk -/
theorem trace_of_partners (g : Nat → Nat) (h0 : g 0 = x0) (hlt : ∀ t, t < L → g t < 2 * L)
    (hp : ∀ t, t < L → Partner C key uv (2 * L) (g t) (g (t + 1) ^^^ 1))
    (hne : ∀ t, 0 < t → t < L → g t ≠ x0) (hend : g L = x0) :
    ∃ tr, Trace step 0 tr ∧ tr.length = L := by
  have hs : ∀ t, t < L → InE (g t) ∧ step (σ (g t)) = .ok (σ (g (t + 1))) := by
    intro t
    induction t with
    | zero =>
      intro ht
      have hin : InE (g 0) := h0.symm ▸ W.start_in
      have := W.step _ _ (hlt 0 ht) hin (hp 0 ht)
      rw [xor_one_xor_one] at this
      exact ⟨hin, this.1⟩
    | succ t ih =>
      intro ht
      have hin := (W.step _ _ (hlt t (by omega)) (ih (by omega)).1 (hp t (by omega))).2
      rw [xor_one_xor_one] at hin
      have := W.step _ _ (hlt _ ht) hin (hp _ ht)
      rw [xor_one_xor_one] at this
      exact ⟨hin, this.1⟩
  refine ⟨(List.range L).map (fun t => σ (g t)), trace_of_seq _ _ L hL (by rw [h0, W.start])
    (fun t ht => ⟨(hs t (by omega)).2, fun e => hne _ (by omega) ht
      (W.inj _ _ (hs _ ht).1 W.start_in (e.trans W.start.symm))⟩) ?_, by simp⟩
  have := (hs (L - 1) (by omega)).2
  rwa [show L - 1 + 1 = L by omega, hend, W.start] at this

end

section
variable {C : UCfg} (E : MtEquiv C) {key uv : Nat → Nat} {L : Nat} {c : List Nat}
  (hG : IsCycle L (adjG C key uv) (sameVG C key uv) c) (hL : 0 < L)
  {step : Nat → Except Err Nat} {InE : Nat → Prop} {σ : Nat → Nat} {x0 : Nat}
  (W : WalkEmb C key uv L step σ InE x0)
include E hG hL W

theorem gcyc_trace : ∃ tr, Trace step 0 tr ∧ tr.length = L := by
  have hlt := hG.slot_lt
  obtain ⟨p, hp, h0⟩ := gcyc_cover hG x0 W.start_lt
  have hmod : ∀ x, x % L < L := fun x => Nat.mod_lt _ hL
  have hidx : ∀ x, c.getD (x % L) 0 = c.getD p 0 → x % L = p :=
    fun x e => hG.edge_inj _ _ (hmod x) hp (by rw [e])
  rcases h0 with h0 | h0
  · -- the cycle enters the first edge where the walk does: the walk follows it forwards
    refine trace_of_partners hL W (fun t => c.getD ((p + t) % L) 0)
      (by simp only [Nat.add_zero, Nat.mod_eq_of_lt hp]; exact h0.symm) (fun t _ => hlt _ (hmod _))
      (fun t _ => ?_) (fun t h1 h2 e => ?_)
      (by simp only [Nat.add_mod_right, Nat.mod_eq_of_lt hp]; exact h0.symm)
    · have := gcyc_partner E hG hL _ (hmod (p + t))
      rwa [Nat.mod_add_mod] at this
    · have := hidx _ (e.trans h0)
      rw [modL_cases _ _ hL (by omega)] at this
      split at this <;> omega
  · -- the cycle enters it at the other end: the walk follows it backwards
    refine trace_of_partners hL W (fun t => c.getD ((p + L - t) % L) 0 ^^^ 1)
      (by simp only [Nat.sub_zero, Nat.add_mod_right, Nat.mod_eq_of_lt hp]; exact h0.symm)
      (fun t _ => xor_one_lt _ _ (hlt _ (hmod _))) (fun t ht => ?_) (fun t h1 h2 e => ?_)
      (by simp only [Nat.add_sub_cancel, Nat.mod_eq_of_lt hp]; exact h0.symm)
    · have := gcyc_partner E hG hL _ (hmod (p + L - (t + 1)))
      rw [Nat.mod_add_mod, show p + L - (t + 1) + 1 = p + L - t by omega] at this
      rw [xor_one_xor_one]
      exact partner_symm E (hlt _ (hmod _)) this
    · have := hidx _ (xor_one_cancel (e.trans h0))
      rw [modL_cases _ _ hL (by omega)] at this
      split at this <;> omega

end

/-- what the early xor test looks at after the first loop -/
def xorAcc (C : UCfg) (ep : Nat → Nat × Nat) (ns : List Nat) : Nat :=
  if C.jointXor then
    (C.xinit ns.length ^^^ xorAll (ns.map (fun x => (ep x).1))) ^^^
      (C.xinit ns.length ^^^ xorAll (ns.map (fun x => (ep x).2)))
  else
    (C.xinit ns.length ^^^ xorAll (ns.map (fun x => (ep x).1))) |||
      (C.xinit ns.length ^^^ xorAll (ns.map (fun x => (ep x).2)))

theorem verifyU_complete (C : UCfg) (E : MtEquiv C) (P : Params) (ep : Nat → Nat × Nat)
    (ns : List Nat) (hps : 0 < P.proofsize) (hlen : ns.length = P.proofsize) (hasc : Ascending ns)
    (hmask : ∀ x ∈ ns, x ≤ P.edgeMask)
    (hctx : C.useCtxSize = true → P.ctxProofSize = P.proofsize)
    (hG : IsProofCycleU C P ep ns) (hxor : xorAcc C ep ns = 0) :
    verifyU C P ep ns = .ok () := by
  obtain ⟨c, hG⟩ := hG
  have hL : 0 < ns.length := by omega
  obtain ⟨s, hb, h0, h1⟩ := uBuild_complete C P ep ns hmask
    (ascChain_of_pairwise ns none hasc (fun y hy => by cases hy))
  obtain ⟨huv, hprev⟩ := uBuild_arrays C P ep ns s hb
  have hx : (if C.jointXor = true then s.x0 ^^^ s.x1 else s.x0 ||| s.x1) = 0 := by
    rw [h0, h1]; exact hxor
  have hstep : ∀ i j, i < 2 * ns.length →
      Partner C (keyF C P ep ns) (uvF ep ns) (2 * ns.length) i j →
      uStep C ns.length s.uvs (uCirc C P ns.length s ns.length s.prev) i = .ok (j ^^^ 1) := by
    intro i j hi hp
    exact (uStep_iff C (keyF C P ep ns) ns.length s.uvs _ i _ hi hprev).mpr
      ⟨j, partner_congr (fun t ht => (huv t ht).symm) hi hp, rfl⟩
  obtain ⟨tr, htr, htl⟩ := gcyc_trace E hG hL (InE := fun _ => True) (σ := id) (x0 := 0)
    { start_lt := by omega, start := rfl, start_in := trivial, inj := fun _ _ _ _ h => h,
      step := fun i j hi _ hp => ⟨hstep i j hi hp, trivial⟩ }
  have hw := uWalk_complete _ tr 0 (2 * ns.length + 1) 0 htr (by omega)
  rw [htl, Nat.zero_add] at hw
  refine verifyU_eq C P ep ns ▸ pipeline_ok_iff.mpr ⟨hlen, s, hb, fun h => h hx, hw.trans ?_⟩
  split
  · next hc => rw [hctx hc, hlen]
  · rfl

/-! ### the early xor test never rejects a real cycle

The `2L` slots pair up by vertex, and the two node values of a pair are equal (Cuckaroo, Cuckarooz)
or differ in the lowest bit (Cuckatoo). -/

section
variable {C : UCfg} (E : MtEquiv C) {key uv : Nat → Nat} {L : Nat} {c : List Nat}
  (hG : IsCycle L (adjG C key uv) (sameVG C key uv) c) (hL : 0 < L)
include E hG hL

theorem gcyc_pi : ∃ π : Nat → Nat, ∀ s, s < 2 * L →
    Partner C key uv (2 * L) s (π s) ∧ π (π s) = s := by
  obtain ⟨π, hπ⟩ := exists_fun_lt (gcyc_has_partner E hG hL)
  exact ⟨π, fun s hs => ⟨hπ s hs, partner_invol E hs (hπ s hs) (hπ _ (hπ s hs).lt)⟩⟩

/-- xor of the node values over all slots of one side (`side = 0`: all `u`, `1`: all `v`) -/
theorem gcyc_xor_side (side : Nat) (hside : side < 2)
    (hpar : ∀ a b, key a = key b → a % 2 = b % 2) (δ : Nat)
    (hδ : ∀ a b, Partner C key uv (2 * L) a b → uv b = uv a ^^^ δ) :
    xorAll (((List.range L).map (fun e => 2 * e + side)).map uv) =
      if (L / 2) % 2 = 1 then δ else 0 := by
  obtain ⟨π, hπ⟩ := gcyc_pi E hG hL
  apply xorAll_pairs uv π δ L
  · simp
  · exact nodup_map_range _ L fun a b hab _ => by omega
  · intro x hx
    obtain ⟨e, he, rfl⟩ := List.mem_map.mp hx
    have he' := List.mem_range.mp he
    obtain ⟨hp, hinv⟩ := hπ (2 * e + side) (by omega)
    refine ⟨?_, hp.ne, hinv, hδ _ _ hp⟩
    have h1 := hpar _ _ hp.sameKey
    have h2 := hp.lt
    apply List.mem_map.mpr
    exact ⟨π (2 * e + side) / 2, List.mem_range.mpr (by omega), by omega⟩

theorem gcyc_xor_all (val : Nat → Nat) (hδ : ∀ a b, Partner C key uv (2 * L) a b → val b = val a) :
    xorAll ((List.range (2 * L)).map val) = 0 := by
  obtain ⟨π, hπ⟩ := gcyc_pi E hG hL
  have := xorAll_pairs val π 0 (2 * L) (List.range (2 * L)) (by simp) List.nodup_range (by
    intro x hx
    have hx' := List.mem_range.mp hx
    obtain ⟨hp, hinv⟩ := hπ x hx'
    exact ⟨List.mem_range.mpr hp.lt, hp.ne, hinv, by rw [hδ _ _ hp, Nat.xor_zero]⟩)
  rw [this]; split <;> rfl

end

theorem us_eq (ep : Nat → Nat × Nat) (ns : List Nat) :
    ns.map (fun x => (ep x).1) = ((List.range ns.length).map (fun e => 2 * e + 0)).map (uvF ep ns) := by
  rw [← map_range_getD (fun x => (ep x).1) ns 0, List.map_map]
  apply List.map_congr_left
  intro e he
  simp only [Function.comp, Nat.add_zero]
  rw [uvF_even ep ns e (List.mem_range.mp he)]

theorem vs_eq (ep : Nat → Nat × Nat) (ns : List Nat) :
    ns.map (fun x => (ep x).2) = ((List.range ns.length).map (fun e => 2 * e + 1)).map (uvF ep ns) := by
  rw [← map_range_getD (fun x => (ep x).2) ns 0, List.map_map]
  apply List.map_congr_left
  intro e he
  simp only [Function.comp]
  rw [uvF_odd ep ns e (List.mem_range.mp he)]

theorem cycle_xor_sides {C : UCfg} (E : MtEquiv C) {key : Nat → Nat} (ep : Nat → Nat × Nat) (ns c : List Nat)
    (hL : 0 < ns.length)
    (hG : IsCycle ns.length (adjG C key (uvF ep ns)) (sameVG C key (uvF ep ns)) c)
    (hpar : ∀ a b, key a = key b → a % 2 = b % 2) (δ : Nat)
    (hδ : ∀ a b, Partner C key (uvF ep ns) (2 * ns.length) a b → uvF ep ns b = uvF ep ns a ^^^ δ) :
    xorAll (ns.map (fun x => (ep x).1)) = (if (ns.length / 2) % 2 = 1 then δ else 0) ∧
    xorAll (ns.map (fun x => (ep x).2)) = (if (ns.length / 2) % 2 = 1 then δ else 0) := by
  rw [us_eq, vs_eq]
  exact ⟨gcyc_xor_side E hG hL 0 (by omega) hpar δ hδ, gcyc_xor_side E hG hL 1 (by omega) hpar δ hδ⟩

theorem cycle_xor_joint {C : UCfg} (E : MtEquiv C) {key uv : Nat → Nat} (ep : Nat → Nat × Nat)
    (ns c : List Nat) (hL : 0 < ns.length)
    (hG : IsCycle ns.length (adjG C key uv) (sameVG C key uv) c)
    (hδ : ∀ a b, Partner C key uv (2 * ns.length) a b → uvF ep ns b = uvF ep ns a) :
    xorAll (ns.map (fun x => (ep x).1)) ^^^ xorAll (ns.map (fun x => (ep x).2)) = 0 := by
  have hall := gcyc_xor_all E hG hL (uvF ep ns) hδ
  rwa [← xorAll_perm ((evens_odds_perm ns.length).map (uvF ep ns)), List.map_append, xorAll_append,
    ← us_eq, ← vs_eq] at hall

/-- the xor test on a cycle of a bipartite configuration (separate `xor0`, `xor1`) -/
theorem xorAcc_bip {C : UCfg} (E : MtEquiv C) (P : Params) (ep : Nat → Nat × Nat) (ns : List Nat)
    (hL : 0 < ns.length) (hG : IsProofCycleU C P ep ns) (hj : C.jointXor = false)
    (hpar : ∀ a b, keyF C P ep ns a = keyF C P ep ns b → a % 2 = b % 2) (δ : Nat)
    (hδ : ∀ a b, Partner C (keyF C P ep ns) (uvF ep ns) (2 * ns.length) a b →
      uvF ep ns b = uvF ep ns a ^^^ δ)
    (hinit : C.xinit ns.length ^^^ (if (ns.length / 2) % 2 = 1 then δ else 0) = 0) :
    xorAcc C ep ns = 0 := by
  obtain ⟨c, hG⟩ := hG
  obtain ⟨e0, e1⟩ := cycle_xor_sides E ep ns c hL hG hpar δ hδ
  unfold xorAcc
  rw [hj, e0, e1, hinit]
  rfl

/-- the xor test on a cycle of the one-node-space configuration (one accumulator `xoruv`) -/
theorem xorAcc_joint {C : UCfg} (E : MtEquiv C) (P : Params) (ep : Nat → Nat × Nat) (ns : List Nat)
    (hL : 0 < ns.length) (hG : IsProofCycleU C P ep ns) (hj : C.jointXor = true)
    (hδ : ∀ a b, Partner C (keyF C P ep ns) (uvF ep ns) (2 * ns.length) a b →
      uvF ep ns b = uvF ep ns a)
    (hinit : C.xinit ns.length = 0) : xorAcc C ep ns = 0 := by
  obtain ⟨c, hG⟩ := hG
  unfold xorAcc
  rw [hj, if_pos rfl, hinit, Nat.zero_xor, Nat.zero_xor]
  exact cycle_xor_joint E ep ns c hL hG hδ

theorem xorAcc_cuckaroo (P : Params) (ep : Nat → Nat × Nat) (ns : List Nat) (hL : 0 < ns.length)
    (hG : IsProofCycleU cfgCuckaroo P ep ns) : xorAcc cfgCuckaroo ep ns = 0 :=
  xorAcc_bip mtEquiv_cuckaroo P ep ns hL hG rfl
    (fun a b h => by simp only [keyF, cfgCuckaroo] at h; omega) 0
    (fun a b hp => by
      rw [((adjG_cuckaroo (keyF_cuckaroo P ep ns) a b).mp (adjG_of_partner hp)).2, Nat.xor_zero])
    (by simp [cfgCuckaroo])

theorem xorAcc_cuckatoo (P : Params) (ep : Nat → Nat × Nat) (ns : List Nat) (hL : 0 < ns.length)
    (hG : IsProofCycleU cfgCuckatoo P ep ns) : xorAcc cfgCuckatoo ep ns = 0 :=
  xorAcc_bip mtEquiv_cuckatoo P ep ns hL hG rfl
    (fun a b h => by simp only [keyF, cfgCuckatoo] at h; omega) 1
    (fun a b hp => by
      rw [((adjG_cuckatoo (keyF_cuckatoo P ep ns) a b).mp (adjG_of_partner hp)).2, xor_one_xor_one])
    (by
      show (ns.length / 2) % 2 ^^^ (if (ns.length / 2) % 2 = 1 then 1 else 0) = 0
      rcases Nat.mod_two_eq_zero_or_one (ns.length / 2) with h | h <;> simp [h])

theorem xorAcc_cuckarooz (P : Params) (ep : Nat → Nat × Nat) (ns : List Nat) (hL : 0 < ns.length)
    (hG : IsProofCycleU cfgCuckarooz P ep ns) : xorAcc cfgCuckarooz ep ns = 0 :=
  xorAcc_joint mtEquiv_cuckarooz P ep ns hL hG rfl
    (fun a b hp => ((adjG_cuckarooz (keyF_cuckarooz P ep ns) a b).mp (adjG_of_partner hp)).symm)
    (by simp [cfgCuckarooz])

end GV.Pow
