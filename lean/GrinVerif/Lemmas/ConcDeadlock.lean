import GrinVerif.Model.Conc
import GrinVerif.Lemmas.UtilList
/-! Lemmas for C17: invariant preservation, progress (no deadlock), step counting, mutual exclusion
for the lock transition system of `Model/Conc.lean`, generic in the lock alphabet; programs composed from the entries
of a table (`checkFrom_append/_flatten/_threads`); two deadlocking schedules on the concrete `Lock`. -/
namespace GV.Conc
-- the section's `[DecidableEq L]` is not used by every lemma
set_option linter.unusedSectionVars false
variable {L : Type} [DecidableEq L]

theorem mem_release {l : L} {held : List (L × Mode)} {h : L × Mode} :
    h ∈ release l held ↔ h ∈ held ∧ h.1 ≠ l := by
  simp [release]

/-- the rank of the lock a thread is about to acquire (0 when it is not about to acquire) -/
def want (rank : L → Nat) (t : Thread L) : Nat :=
  match t.prog with
  | .acq l _ :: _ => rank l
  | _ => 0

/-- what `Enabled` asks for when the next event of thread `i` is `e` -/
def EvEnabled (P : Policy L) (s : State L) (i : Nat) : Ev L → Prop
  | .acq l .W => ∀ u ∈ s, ∀ h ∈ u.held, h.1 ≠ l
  | .acq l .R => (∀ u ∈ s, (l, Mode.W) ∉ u.held) ∧ ¬ P s i l
  | _ => True

theorem enabled_iff {P : Policy L} {s : State L} {i : Nat} {t : Thread L} {e : Ev L} {rest : List (Ev L)}
    (hsi : s[i]? = some t) (hp : t.prog = e :: rest) : Enabled P s i ↔ EvEnabled P s i e := by
  unfold Enabled
  rw [hsi]
  simp only
  rw [hp]
  cases e with
  | acq l m => cases m <;> exact Iff.rfl
  | rel l => exact Iff.rfl
  | mark k => exact Iff.rfl

theorem Enabled.next {P : Policy L} {s : State L} {i : Nat} (h : Enabled P s i) :
    ∃ t e rest, s[i]? = some t ∧ t.prog = e :: rest := by
  unfold Enabled at h
  cases hsi : s[i]? with
  | none => rw [hsi] at h; exact h.elim
  | some t =>
    rw [hsi] at h
    cases hp : t.prog with
    | nil => simp only [hp] at h
    | cons e rest => exact ⟨t, e, rest, rfl, hp⟩

theorem fire_eq {s : State L} {i : Nat} {t : Thread L} {e : Ev L} {rest : List (Ev L)}
    (hsi : s[i]? = some t) (hp : t.prog = e :: rest) : fire s i = s.set i ⟨rest, heldAfter t.held [e]⟩ := by
  unfold fire
  rw [hsi]
  simp only
  rw [hp]
  cases e <;> rfl

theorem checkFrom_tail (rank : L → Nat) {held : List (L × Mode)} {e : Ev L} {rest : List (Ev L)}
    (h : checkFrom rank held (e :: rest) = true) : checkFrom rank (heldAfter held [e]) rest = true := by
  cases e with
  | acq l m => simp only [checkFrom, Bool.and_eq_true] at h; exact h.2
  | rel l => simp only [checkFrom, Bool.and_eq_true] at h; exact h.2
  | mark k => exact h

theorem inv_fire (rank : L → Nat) (P : Policy L) (s : State L) (i : Nat) (hinv : Inv rank s) (hE : Enabled P s i) :
    Inv rank (fire s i) := by
  obtain ⟨t, e, rest, hsi, hp⟩ := hE.next
  rw [fire_eq hsi hp]
  intro t' ht'
  rcases List.mem_or_eq_of_mem_set ht' with h | rfl
  · exact hinv t' h
  · exact checkFrom_tail rank (hp ▸ hinv t (List.mem_of_getElem? hsi))

theorem inv_init (rank : L → Nat) (progs : List (List (Ev L)))
    (h : ∀ p ∈ progs, checkFrom rank [] p = true) : Inv rank (init progs) := by
  intro t ht
  simp only [init, List.mem_map] at ht
  obtain ⟨p, hp, rfl⟩ := ht
  exact h p hp

theorem inv_reach (rank : L → Nat) (P : Policy L) (s0 s : State L) (h0 : Inv rank s0)
    (hr : Reach P s0 s) : Inv rank s := by
  induction hr with
  | refl => exact h0
  | step _ hs ih =>
    obtain ⟨i, hE, rfl⟩ := hs
    exact inv_fire rank P _ i ih hE

theorem held_nil_of_done (rank : L → Nat) (t : Thread L) (hc : checkFrom rank t.held t.prog = true)
    (e : t.prog = []) : t.held = [] := by
  rw [e] at hc; simpa [checkFrom] using hc

theorem held_lt_of_next_acq (rank : L → Nat) (t : Thread L) (hc : checkFrom rank t.held t.prog = true)
    {l' : L} {m' : Mode} {rest : List (Ev L)} (e : t.prog = .acq l' m' :: rest) : ∀ h ∈ t.held, rank h.1 < rank l' := by
  intro h hh
  rw [e] at hc
  simp only [checkFrom, Bool.and_eq_true, List.all_eq_true, decide_eq_true_eq] at hc
  exact hc.1 h hh

/-- **Progress**: in a state satisfying the invariant, if some thread is unfinished then some thread
is enabled — for every admissible reader-blocking policy. -/
theorem progress (rank : L → Nat) (P : Policy L) (hP : PolicyOK P) (s : State L) (hinv : Inv rank s)
    (hun : ∃ t ∈ s, t.prog ≠ []) : ∃ i, Enabled P s i := by
  apply Classical.byContradiction
  intro hno
  have hno : ∀ {j u e rest}, s[j]? = some u → u.prog = e :: rest → ¬ EvEnabled P s j e :=
    fun hj hp h => hno ⟨_, (enabled_iff hj hp).2 h⟩
  -- among the unfinished threads take one whose next acquisition has the highest rank
  obtain ⟨t, htU, hmax⟩ := exists_max (want rank) (s.filter fun t => !t.prog.isEmpty) (by
    obtain ⟨t, ht, hne⟩ := hun
    exact List.ne_nil_of_mem (List.mem_filter.2 ⟨ht, by simpa using hne⟩))
  obtain ⟨hts, htne⟩ := List.mem_filter.1 htU
  obtain ⟨i, hi⟩ := List.getElem?_of_mem hts
  cases hp : t.prog with
  | nil => simp [hp] at htne
  | cons e rest =>
    cases e with
    | rel l => exact hno hi hp trivial
    | mark k => exact hno hi hp trivial
    | acq l m =>
      -- nobody holds `l`: a holder is unfinished and, not being enabled, about to acquire a lock above `l`
      have hfree : ∀ u ∈ s, ∀ h ∈ u.held, h.1 ≠ l := by
        intro u hu h hh heq
        obtain ⟨j, hj⟩ := List.getElem?_of_mem hu
        cases hpu : u.prog with
        | nil => rw [held_nil_of_done rank u (hinv u hu) hpu] at hh; cases hh
        | cons e' rest' =>
          cases e' with
          | rel _ => exact hno hj hpu trivial
          | mark _ => exact hno hj hpu trivial
          | acq l' m' =>
            have hlt := held_lt_of_next_acq rank u (hinv u hu) hpu h hh
            have hle := hmax u (List.mem_filter.2 ⟨hu, by simp [hpu]⟩)
            simp only [want, hpu, hp] at hle
            rw [heq] at hlt
            omega
      cases m with
      | W => exact hno hi hp hfree
      | R =>
        by_cases hpol : P s i l
        · -- refused because a writer waits for `l`: that writer is enabled, `l` being free
          obtain ⟨w, hw, hwh⟩ := hP s i l hpol
          obtain ⟨rest', hwp⟩ := List.head?_eq_some_iff.mp hwh
          obtain ⟨j, hj⟩ := List.getElem?_of_mem hw
          exact hno hj hwp hfree
        · exact hno hi hp ⟨fun u hu hmem => hfree u hu _ hmem rfl, hpol⟩

theorem remaining_set (s : State L) (i : Nat) (t t' : Thread L) (hsi : s[i]? = some t) :
    remaining (s.set i t') + t.prog.length = remaining s + t'.prog.length := by
  induction s generalizing i with
  | nil => simp at hsi
  | cons a s ih =>
    cases i with
    | zero =>
      simp at hsi; subst hsi
      simp only [List.set_cons_zero, remaining]; omega
    | succ i =>
      simp only [List.getElem?_cons_succ] at hsi
      have := ih i hsi
      simp only [List.set_cons_succ, remaining]; omega

theorem remaining_fire (P : Policy L) (s : State L) (i : Nat) (hE : Enabled P s i) :
    remaining (fire s i) + 1 = remaining s := by
  obtain ⟨t, e, rest, hsi, hp⟩ := hE.next
  have := remaining_set s i t ⟨rest, heldAfter t.held [e]⟩ hsi
  rw [fire_eq hsi hp]
  simp only [hp, List.length_cons] at this
  omega

/-- runs of exactly `n` steps -/
inductive RunN (P : Policy L) : Nat → State L → State L → Prop where
  | zero (s) : RunN P 0 s s
  | succ {n s s' s''} : RunN P n s s' → Step P s' s'' → RunN P (n + 1) s s''

theorem runN_remaining (P : Policy L) {n : Nat} {s s' : State L} (h : RunN P n s s') :
    n + remaining s' = remaining s := by
  induction h with
  | zero => simp
  | succ _ hs ih =>
    obtain ⟨i, hE, rfl⟩ := hs
    have := remaining_fire P _ i hE
    omega

theorem runN_reach (P : Policy L) {n : Nat} {s s' : State L} (h : RunN P n s s') : Reach P s s' := by
  induction h with
  | zero => exact .refl
  | succ _ hs ih => exact .step ih hs

/-- thread `i` write-holds `l` ⇒ no other thread holds `l` in any mode -/
def Excl (s : State L) : Prop :=
  ∀ (i j : Nat) (ti tj : Thread L), s[i]? = some ti → s[j]? = some tj → i ≠ j →
    ∀ l, (l, Mode.W) ∈ ti.held → ∀ m, (l, m) ∉ tj.held

/-- thread `i` gets the guard list `held'`: exclusion is kept if every guard in it was held before, or is on a lock no
thread write-holds and — if it is a write guard — no thread holds at all (`hnew`) -/
theorem excl_set {s : State L} {i : Nat} {t : Thread L} (hx : Excl s) (hsi : s[i]? = some t) (rest : List (Ev L))
    (held' : List (L × Mode))
    (hnew : ∀ l m, (l, m) ∈ held' → (l, m) ∈ t.held ∨
      ((∀ u ∈ s, (l, Mode.W) ∉ u.held) ∧ (m = .W → ∀ u ∈ s, ∀ h ∈ u.held, h.1 ≠ l))) :
    Excl (s.set i ⟨rest, held'⟩) := by
  intro a b ta tb ha hb hab l hl m hm
  rcases getElem?_set_cases ha with ⟨rfl, rfl⟩ | ⟨hai, ha'⟩
  · rcases getElem?_set_cases hb with ⟨rfl, _⟩ | ⟨_, hb'⟩
    · exact hab rfl
    · rcases hnew l .W hl with h | h
      · exact hx a b t tb hsi hb' hab l h m hm
      · exact h.2 rfl tb (List.mem_of_getElem? hb') (l, m) hm rfl
  · rcases getElem?_set_cases hb with ⟨rfl, rfl⟩ | ⟨_, hb'⟩
    · rcases hnew l m hm with h | h
      · exact hx a b ta t ha' hsi hab l hl m h
      · exact h.1 ta (List.mem_of_getElem? ha') hl
    · exact hx a b ta tb ha' hb' hab l hl m hm

theorem excl_fire (P : Policy L) (s : State L) (i : Nat) (hx : Excl s) (hE : Enabled P s i) :
    Excl (fire s i) := by
  obtain ⟨t, e, rest, hsi, hp⟩ := hE.next
  have hE := (enabled_iff hsi hp).1 hE
  rw [fire_eq hsi hp]
  apply excl_set hx hsi
  intro l' m' hl'
  cases e with
  | acq l m =>
    rcases List.mem_cons.mp hl' with h | h
    · cases h
      cases m' with
      | W => exact Or.inr ⟨fun u hu hmem => hE u hu _ hmem rfl, fun _ => hE⟩
      | R => exact Or.inr ⟨hE.1, fun h => nomatch h⟩
    · exact Or.inl h
  | rel l => exact Or.inl (mem_release.mp hl').1
  | mark k => exact Or.inl hl'

theorem excl_init (progs : List (List (Ev L))) : Excl (init progs) := by
  intro i j ti tj hi _ _ l hl
  have : ti ∈ init progs := List.mem_of_getElem? hi
  simp only [init, List.mem_map] at this
  obtain ⟨p, _, rfl⟩ := this
  cases hl

theorem excl_reach (P : Policy L) (s0 s : State L) (h0 : Excl s0) (hr : Reach P s0 s) : Excl s := by
  induction hr with
  | refl => exact h0
  | step _ hs ih =>
    obtain ⟨i, hE, rfl⟩ := hs
    exact excl_fire P _ i ih hE

theorem checkFrom_append (rank : L → Nat) (p q : List (Ev L)) (hq : checkFrom rank [] q = true) :
    ∀ held, checkFrom rank held p = true → checkFrom rank held (p ++ q) = true := by
  induction p with
  | nil =>
    intro held h
    simp only [checkFrom, List.isEmpty_iff] at h
    subst h; simpa using hq
  | cons e p ih =>
    intro held h
    cases e with
    | mark k => exact ih _ h
    | _ =>
      simp only [checkFrom, Bool.and_eq_true, List.cons_append] at h ⊢
      exact ⟨h.1, ih _ h.2⟩

theorem checkFrom_flatten (rank : L → Nat) (ps : List (List (Ev L)))
    (h : ∀ p ∈ ps, checkFrom rank [] p = true) : checkFrom rank [] ps.flatten = true := by
  induction ps with
  | nil => rfl
  | cons p ps ih =>
    simp only [List.flatten_cons]
    exact checkFrom_append rank p _ (ih (fun q hq => h q (List.mem_cons_of_mem _ hq))) [] (h p (by simp))

theorem checkFrom_threads (rank : L → Nat) (tbl : List (String × List (Ev L)))
    (htbl : ∀ e ∈ tbl, checkFrom rank [] e.2 = true) (threads : List (List String)) :
    ∀ p ∈ threads.map (fun th => (th.map (fun n => (tbl.lookup n).getD [])).flatten), checkFrom rank [] p = true := by
  intro p hp
  obtain ⟨th, -, rfl⟩ := List.mem_map.1 hp
  apply checkFrom_flatten
  intro q hq
  obtain ⟨n, -, rfl⟩ := List.mem_map.1 hq
  cases hl : tbl.lookup n with
  | none => rfl  -- a name that is not in the table contributes the empty program
  | some evs => exact htbl (n, evs) (lookup_mem hl)

theorem deadlock_example_inversion : ∃ s, Reach (strictWP (L := Lock))
      (init [[.acq .hp .W, .acq .ts .W, .rel .ts, .rel .hp], [.acq .ts .W, .acq .hp .W, .rel .hp, .rel .ts]]) s
    ∧ Deadlocked strictWP s := by
  refine ⟨[⟨[.acq .ts .W, .rel .ts, .rel .hp], [(.hp, .W)]⟩, ⟨[.acq .hp .W, .rel .hp, .rel .ts], [(.ts, .W)]⟩], ?_, ?_⟩
  · refine .step (s := [⟨[.acq .ts .W, .rel .ts, .rel .hp], [(.hp, .W)]⟩, ⟨[.acq .ts .W, .acq .hp .W, .rel .hp, .rel .ts], []⟩])
      (.step .refl ⟨0, ?_, ?_⟩) ⟨1, ?_, ?_⟩
    · simp [Enabled, init]
    · simp [fire, init]
    · simp [Enabled]
    · simp [fire]
  · refine ⟨⟨_, List.mem_cons_self, by simp⟩, ?_⟩
    intro i
    match i with
    | 0 => simp [Enabled]
    | 1 => simp [Enabled]
    | n + 2 => simp [Enabled]

theorem deadlock_example_reentrant_read : ∃ s, Reach (strictWP (L := Lock))
      (init [[.acq .ts .R, .acq .ts .R, .rel .ts], [.mark .callback, .acq .ts .W, .rel .ts]]) s
    ∧ Deadlocked strictWP s := by
  refine ⟨[⟨[.acq .ts .R, .rel .ts], [(.ts, .R)]⟩, ⟨[.acq .ts .W, .rel .ts], []⟩], ?_, ?_⟩
  · refine .step (s := [⟨[.acq .ts .R, .rel .ts], [(.ts, .R)]⟩, ⟨[.mark .callback, .acq .ts .W, .rel .ts], []⟩])
      (.step .refl ⟨0, ?_, ?_⟩) ⟨1, ?_, ?_⟩
    · simp [Enabled, init, strictWP]
    · simp [fire, init]
    · simp [Enabled]
    · simp [fire]
  · refine ⟨⟨_, List.mem_cons_self, by simp⟩, ?_⟩
    intro i
    match i with
    | 0 => simp [Enabled, strictWP]
    | 1 => simp [Enabled]
    | n + 2 => simp [Enabled]

end GV.Conc
