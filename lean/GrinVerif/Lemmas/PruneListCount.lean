import GrinVerif.Lemmas.PruneListInv
import GrinVerif.Model.Store
/-! The shifts count what is compacted (DESIGN A.5, second half): `get_shift pos` is the number
of compacted positions below `pos`, so `pos − shift` indexes the compacted hash file; the same
for leaves, `get_leaf_shift` and the data file.  No Mathlib. -/
namespace GV.Store
open GV GV.Pmmr

/-- `q` lies strictly inside the subtree of the (1-based) root `x` -/
def interior (x q : Nat) : Bool := decide (bintreeLeftmost (x - 1) ≤ q) && decide (q < x - 1)

/-- `q` is compacted away: strictly inside the subtree of some pruned root -/
def compactedP (bm : Bitmap) (q : Nat) : Bool := bm.any (interior · q)

theorem interior_iff {x q : Nat} :
    interior x q = true ↔ bintreeLeftmost (x - 1) ≤ q ∧ q < x - 1 := by simp [interior]

theorem not_compacted_iff {bm : Bitmap} {q : Nat} :
    compactedP bm q = false ↔ ∀ x ∈ bm, ¬ (bintreeLeftmost (x - 1) ≤ q ∧ q < x - 1) := by
  unfold compactedP
  rw [List.any_eq_false]
  exact forall_congr' fun x => imp_congr_right fun _ => not_congr interior_iff

theorem compactedP_snoc (bm : Bitmap) (r q : Nat) :
    compactedP (bm ++ [r + 1]) q =
      (compactedP bm q || (decide (bintreeLeftmost r ≤ q) && decide (q < r))) := by
  unfold compactedP
  rw [List.any_append]
  simp [interior]

/-- the positions of an MMR of `size` nodes that the compacted hash file still holds, in order -/
def layout (bm : Bitmap) (size : Nat) : List Nat := (List.range size).filter fun q => !compactedP bm q

/-- number of positions below `q` satisfying `keep` (the index of `q` in a file that stores the
kept positions in order) -/
def rk (keep : Nat → Bool) (q : Nat) : Nat := (List.range q).countP keep

theorem rk_succ (keep : Nat → Bool) (q : Nat) : rk keep (q + 1) = rk keep q + if keep q then 1 else 0 := by
  unfold rk
  rw [List.range_succ, List.countP_append]
  simp [List.countP_cons]

theorem rk_mono (keep : Nat → Bool) {a b : Nat} (h : a ≤ b) : rk keep a ≤ rk keep b := by
  induction h with
  | refl => exact Nat.le_refl _
  | step _ ih => rw [rk_succ]; omega

theorem rk_lt (keep : Nat → Bool) {a b : Nat} (h : a < b) (ha : keep a = true) : rk keep a < rk keep b := by
  have := rk_mono keep (show a + 1 ≤ b from h)
  rw [rk_succ, ha] at this
  simp at this; omega

theorem rk_split (p c : Nat → Bool) (q : Nat) :
    rk p q = rk (fun x => p x && c x) q + rk (fun x => p x && !c x) q := by
  induction q with
  | zero => rfl
  | succ n ih =>
    rw [rk_succ, rk_succ, rk_succ, ih]
    cases p n <;> cases c n <;> simp <;> omega

theorem rk_not (c : Nat → Bool) (q : Nat) : rk (fun x => !c x) q + rk c q = q := by
  have := rk_split (fun _ => true) c q
  simp only [Bool.true_and] at this
  have h1 : rk (fun _ => true) q = q := by simp [rk]
  have h2 : rk (fun x => c x) q = rk c q := rfl
  omega

theorem countP_and_interval (p : Nat → Bool) (lo hi n : Nat) (h : lo ≤ hi) :
    (List.range n).countP (fun q => p q && (decide (lo ≤ q) && decide (q < hi))) =
      rk p (min hi n) - rk p (min lo n) := by
  induction n with
  | zero => simp [rk]
  | succ n ih =>
    rw [List.range_succ, List.countP_append, ih]
    simp only [List.countP_cons, List.countP_nil]
    by_cases h1 : lo ≤ n
    · by_cases h2 : n < hi
      · rw [Nat.min_eq_right (by omega : n + 1 ≤ hi), Nat.min_eq_left (by omega : lo ≤ n + 1),
          Nat.min_eq_right (by omega : n ≤ hi), Nat.min_eq_left h1, rk_succ]
        have := rk_mono p h1
        cases p n <;> simp [h1, h2] <;> omega
      · rw [Nat.min_eq_left (by omega : hi ≤ n + 1), Nat.min_eq_left (by omega : lo ≤ n + 1),
          Nat.min_eq_left (by omega : hi ≤ n), Nat.min_eq_left h1]
        simp [h2]
    · rw [Nat.min_eq_right (by omega : n + 1 ≤ hi), Nat.min_eq_right (by omega : n + 1 ≤ lo),
        Nat.min_eq_right (by omega : n ≤ hi), Nat.min_eq_right (by omega : n ≤ lo)]
      simp [h1]

theorem count_compacted_p (p : Nat → Bool) (bm : Bitmap)
    (hdisj : List.Pairwise (fun a b => a ≤ bintreeLeftmost (b - 1)) bm) (hpos : ∀ x ∈ bm, 1 ≤ x)
    (pos : Nat) :
    (List.range pos).countP (fun q => p q && compactedP bm q) =
      sumF (fun r => rk p (min r pos) - rk p (min (bintreeLeftmost r) pos)) bm := by
  induction bm with
  | nil => simp [compactedP, sumF]
  | cons a t ih =>
    have hd := List.pairwise_cons.1 hdisj
    have ih' := ih hd.2 (fun x hx => hpos x (by simp [hx]))
    have hfun : (fun q => p q && compactedP (a :: t) q) =
        fun q => (p q && interior a q) || (p q && compactedP t q) := by
      funext q; simp [compactedP, Bool.and_or_distrib_left]
    rw [hfun, countP_or_disjoint, ih', sumF]
    · congr 1
      unfold interior
      exact countP_and_interval p _ _ _ (Co.leftmost_le _)
    · -- the subtrees of the later roots start right of `a`
      intro q _ ⟨h1, h2⟩
      simp only [Bool.and_eq_true] at h1 h2
      have h1' := interior_iff.1 h1.2
      obtain ⟨b, hb, hb2⟩ := List.any_eq_true.1 h2.2
      have hb2 := interior_iff.1 hb2
      have := hd.1 b hb
      have := hpos a (by simp)
      omega

theorem sumF_filter_of_zero (g : Nat → Nat) (c : Nat → Bool) (bm : List Nat)
    (h : ∀ x ∈ bm, c x = false → g (x - 1) = 0) : sumF g bm = sumF g (bm.filter c) := by
  induction bm with
  | nil => rfl
  | cons a t ih =>
    have ih' := ih (fun x hx => h x (by simp [hx]))
    rw [List.filter_cons]
    cases hc : c a
    · simp [sumF, h a (by simp) hc, ih']
    · simp [sumF, ih']

theorem sumF_congr (f g : Nat → Nat) (bm : List Nat) (h : ∀ x ∈ bm, f (x - 1) = g (x - 1)) :
    sumF f bm = sumF g bm := by
  induction bm with
  | nil => rfl
  | cons a t ih =>
    simp only [sumF]
    rw [h a (by simp), ih (fun x hx => h x (by simp [hx]))]

theorem rootShift_count (r : Nat) :
    PruneList.rootShift r = rk (fun _ => true) r - rk (fun _ => true) (bintreeLeftmost r) := by
  simp only [rk, List.countP_true, List.length_range]
  exact (Co.interior_width r).symm

namespace PruneList

/-- **a shift counts what is compacted.**  `k` is `q` or `q + 1` (the subtree of a root at
`q + 1`, if there is one, is the single position `q + 1`); `get_shift` is the case `p = true`,
`get_leaf_shift` the case `p = is_leaf`. -/
theorem sumF_counts (p : Nat → Bool) {pl : PruneList} (h : Inv pl) (q k : Nat) (hqk : q ≤ k)
    (hk : k ≤ q + 1) (hnc : compactedP pl.bitmap q = false) :
    sumF (fun r => rk p r - rk p (bintreeLeftmost r)) (pl.bitmap.filter (· ≤ 1 + k)) =
      (List.range q).countP (fun x => p x && compactedP pl.bitmap x) := by
  -- no root has `q` strictly inside its subtree
  have hout : ∀ x ∈ pl.bitmap, q < x - 1 → q < bintreeLeftmost (x - 1) := by
    intro x hx hlt
    have := not_compacted_iff.1 hnc x hx
    omega
  rw [count_compacted_p p _ h.disj h.pos, sumF_filter_of_zero _ (fun x => decide (x ≤ 1 + k)) pl.bitmap]
  · apply sumF_congr
    intro x hx
    obtain ⟨hxm, hx'⟩ := List.mem_filter.1 hx
    have hx1 := h.pos x hxm
    have hlm := Co.leftmost_le (x - 1)
    have hxk : x ≤ 1 + k := by simpa using hx'
    show rk p (x - 1) - rk p (bintreeLeftmost (x - 1)) =
      rk p (min (x - 1) q) - rk p (min (bintreeLeftmost (x - 1)) q)
    by_cases hlt : x - 1 ≤ q
    · rw [Nat.min_eq_left hlt, Nat.min_eq_left (by omega)]
    · have := hout x hxm (by omega)
      rw [Nat.min_eq_right (by omega), Nat.min_eq_right (by omega),
        show bintreeLeftmost (x - 1) = x - 1 by omega]
      omega
  · intro x hx hc
    have hxk : ¬ x ≤ 1 + k := by simpa using hc
    have := hout x hx (by omega)
    show rk p (min (x - 1) q) - rk p (min (bintreeLeftmost (x - 1)) q) = 0
    rw [Nat.min_eq_right (by omega), Nat.min_eq_right (by omega)]
    omega

theorem sumF_counts_all (p : Nat → Bool) {pl : PruneList} (h : Inv pl) {size : Nat}
    (hroots : ∀ x ∈ pl.bitmap, x ≤ size) :
    sumF (fun r => rk p r - rk p (bintreeLeftmost r)) pl.bitmap =
      rk (fun q => p q && compactedP pl.bitmap q) size := by
  unfold rk
  rw [count_compacted_p p _ h.disj h.pos]
  apply sumF_congr
  intro x hx
  have := hroots x hx; have := h.pos x hx
  have := Co.leftmost_le (x - 1)
  show rk p (x - 1) - rk p (bintreeLeftmost (x - 1)) = _
  rw [Nat.min_eq_left (by omega), Nat.min_eq_left (by omega)]

theorem getShift_counts {pl : PruneList} (h : Inv pl) (pos : Nat)
    (hnc : compactedP pl.bitmap pos = false) :
    getShift pl pos = (List.range pos).countP (compactedP pl.bitmap) := by
  have := sumF_counts (fun _ => true) h pos pos (Nat.le_refl _) (Nat.le_succ _) hnc
  simp only [Bool.true_and] at this
  rw [getShift_spec h, ← this]
  exact sumF_congr _ _ _ fun x _ => rootShift_count (x - 1)

/-- `is_pruned` is right to look only at the next root -/
theorem isPruned_iff {pl : PruneList} (h : Inv pl) (p : Nat) :
    isPruned pl p = (isPrunedRoot pl p || compactedP pl.bitmap p) := by
  unfold isPruned
  by_cases hr : isPrunedRoot pl p = true
  · simp [hr]
  · have hr' : isPrunedRoot pl p = false := by simpa using hr
    rw [if_neg hr, hr', Bool.false_or]
    have hnot : (1 + p) ∉ pl.bitmap := by
      intro hm; rw [isPrunedRoot, contains_iff.2 hm] at hr'; exact absurd hr' (by simp)
    have hsplit : pl.bitmap = pl.bitmap.take (Bm.rank pl.bitmap (1 + p)) ++
        pl.bitmap.drop (Bm.rank pl.bitmap (1 + p)) := (List.take_append_drop _ _).symm
    have htake : ∀ x ∈ pl.bitmap.take (Bm.rank pl.bitmap (1 + p)), x ≤ 1 + p := by
      intro x hx
      unfold Bm.rank at hx
      rw [← filter_le_eq_take _ h.sorted] at hx
      simpa using (List.mem_filter.1 hx).2
    have hdrop : ∀ x ∈ pl.bitmap.drop (Bm.rank pl.bitmap (1 + p)), 1 + p < x :=
      drop_countP_gt (1 + p) h.sorted
    have hany1 : (pl.bitmap.take (Bm.rank pl.bitmap (1 + p))).any (interior · p) = false := by
      rw [List.any_eq_false]
      intro x hx
      have h1 := htake x hx
      have h2 : x ≠ 1 + p := fun e => hnot (e ▸ List.mem_of_mem_take hx)
      rw [interior_iff]; omega
    have hsel : Bm.select pl.bitmap (Bm.rank pl.bitmap (1 + p)) =
        (pl.bitmap.drop (Bm.rank pl.bitmap (1 + p))).head? := by
      unfold Bm.select; rw [List.head?_drop]
    have hcp : compactedP pl.bitmap p =
        (pl.bitmap.drop (Bm.rank pl.bitmap (1 + p))).any (interior · p) := by
      unfold compactedP
      conv => lhs; rw [hsplit]
      rw [List.any_append, hany1, Bool.false_or]
    rw [hsel, hcp]
    have hdisj : List.Pairwise (fun a b => a ≤ bintreeLeftmost (b - 1))
        (pl.bitmap.drop (Bm.rank pl.bitmap (1 + p))) :=
      List.Pairwise.sublist (List.drop_sublist _ _) h.disj
    generalize pl.bitmap.drop (Bm.rank pl.bitmap (1 + p)) = d at hdrop hdisj ⊢
    cases d with
    | nil => simp
    | cons r rest =>
      have hr1 := hdrop r (by simp)
      have hd := List.pairwise_cons.1 hdisj
      have hrest : rest.any (interior · p) = false := by
        rw [List.any_eq_false]
        intro y hy
        have := hd.1 y hy
        rw [interior_iff]; omega
      simp only [List.head?_cons, List.any_cons, hrest, Bool.or_false]
      -- `bintree_range (r - 1)` is the subtree with its root: `[leftmost, r - 1 + 1)`; `p` is no root
      show (decide (bintreeLeftmost (r - 1) ≤ p) && decide (p < r - 1 + 1)) = interior r p
      rw [Bool.eq_iff_iff, interior_iff, Bool.and_eq_true, decide_eq_true_eq, decide_eq_true_eq]
      omega

theorem root_not_compacted {pl : PruneList} (h : Inv pl) (x : Nat) (hx : x ∈ pl.bitmap) :
    compactedP pl.bitmap (x - 1) = false := by
  rw [not_compacted_iff]
  intro y hy
  have hx1 := h.pos x hx
  have hy1 := h.pos y hy
  by_cases hxy : x < y
  · -- x sits before y in the list, so the subtree of y starts right of x
    obtain ⟨i, hi, rfl⟩ := List.mem_iff_getElem.1 hx
    obtain ⟨j, hj, rfl⟩ := List.mem_iff_getElem.1 hy
    have := List.pairwise_iff_getElem.1 h.disj i j hi hj (sorted_getElem_lt h.sorted hi hj hxy)
    omega
  · omega

end PruneList

theorem filter_range_succ (p : Nat → Bool) (n : Nat) :
    (List.range (n + 1)).filter p = (List.range n).filter p ++ (if p n then [n] else []) := by
  rw [List.range_succ, List.filter_append]
  cases h : p n <;> simp [h]

theorem filter_range_index (keep : Nat → Bool) (size q : Nat) (hq : q < size) (hk : keep q = true) :
    ((List.range size).filter keep)[rk keep q]? = some q := by
  unfold rk
  induction size with
  | zero => omega
  | succ n ih =>
    rw [filter_range_succ]
    by_cases hqn : q = n
    · subst hqn
      rw [List.getElem?_append_right (by rw [List.countP_eq_length_filter]; exact Nat.le_refl _)]
      simp [hk, List.countP_eq_length_filter]
    · have := ih (by omega)
      rw [List.getElem?_append_left (List.getElem?_eq_some_iff.1 this).1]
      exact this

theorem filter_range_length (keep : Nat → Bool) (size : Nat) :
    ((List.range size).filter keep).length = rk keep size := by
  unfold rk; rw [List.countP_eq_length_filter]

theorem hashIdx_eq {pl : PruneList} (h : PruneList.Inv pl) (q : Nat)
    (hnc : compactedP pl.bitmap q = false) :
    q + 1 - pl.getShift q = rk (fun x => !compactedP pl.bitmap x) q + 1 := by
  rw [PruneList.getShift_counts h q hnc]
  have := rk_not (compactedP pl.bitmap) q
  unfold rk at *
  omega

theorem totalShift_counts {pl : PruneList} (h : pl.Inv) {size : Nat}
    (hroots : ∀ x ∈ pl.bitmap, x ≤ size) : pl.getTotalShift = rk (compactedP pl.bitmap) size := by
  have := PruneList.sumF_counts_all (fun _ => true) h hroots
  simp only [Bool.true_and] at this
  rw [← this]
  unfold PruneList.getTotalShift PruneList.getShift
  rw [h.shift, PruneList.cacheAt_total h.sorted h.pos]
  exact sumF_congr _ _ _ fun x _ => rootShift_count (x - 1)

theorem layout_length {pl : PruneList} (h : pl.Inv) {size : Nat}
    (hroots : ∀ x ∈ pl.bitmap, x ≤ size) :
    (layout pl.bitmap size).length + pl.getTotalShift = size := by
  rw [totalShift_counts h hroots]
  unfold layout
  rw [filter_range_length]
  exact rk_not _ size

theorem filter_range_take (p : Nat → Bool) {M' M : Nat} (h : M' ≤ M) :
    ((List.range M).filter p).take (rk p M') = (List.range M').filter p := by
  obtain ⟨k, rfl⟩ : ∃ k, M = M' + k := ⟨M - M', by omega⟩
  rw [range_add', List.filter_append]
  exact List.take_left' (filter_range_length p M')

section LeafShift
open GV.Pmmr.Co

theorem rk_leaf_coord {n h : Nat} (hh : h ≤ trailingOnes n) :
    rk isLeaf (mmr n + h) = n + if h = 0 then 0 else 1 := by
  rw [show rk isLeaf (mmr n + h) = nLeaves (mmr n + h) from countP_isLeaf _]
  by_cases h0 : h = 0
  · subst h0; simp [nLeaves_mmr]
  · rw [nLeaves_inner hh (by omega), if_neg h0]

theorem rk_leaf_mmr (n : Nat) : rk isLeaf (mmr n) = n := (countP_isLeaf _).trans (nLeaves_mmr n)

theorem rootLeafShift_count (r : Nat) :
    PruneList.rootLeafShift r = rk isLeaf r - rk isLeaf (bintreeLeftmost r) := by
  obtain ⟨n, h, hh, rfl⟩ := coord_surj r
  rw [leftmost_co hh, rk_leaf_mmr, rk_leaf_coord hh]
  unfold PruneList.rootLeafShift
  rw [height_co n h hh]
  have := two_pow_le_of_le_trailingOnes hh
  by_cases h0 : h = 0
  · subst h0; simp
  · have hpos := Nat.two_pow_pos h
    simp only [h0, if_false]
    omega

theorem nLeaves_eq_rk {q : Nat} (hq : height q = 0) : nLeaves (q + 1) = rk isLeaf q + 1 := by
  obtain ⟨n, rfl⟩ := leaf_coord hq
  rw [nLeaves_mmr_succ, rk_leaf_mmr]

namespace PruneList

theorem getLeafShift_counts {pl : PruneList} (h : Inv pl) (q : Nat)
    (hnc : compactedP pl.bitmap q = false) :
    getLeafShift pl (1 + q) = (List.range q).countP (fun x => isLeaf x && compactedP pl.bitmap x) := by
  rw [getLeafShift_spec h, ← sumF_counts isLeaf h q (1 + q) (by omega) (by omega) hnc]
  exact sumF_congr _ _ _ fun x _ => rootLeafShift_count (x - 1)

end PruneList

/-- the leaf positions whose data the compacted data file still holds, in order -/
def dataLayout (bm : Bitmap) (size : Nat) : List Nat :=
  (List.range size).filter fun q => isLeaf q && !compactedP bm q

theorem dataIdx_eq {pl : PruneList} (h : PruneList.Inv pl) (q : Nat) (hq : height q = 0)
    (hnc : compactedP pl.bitmap q = false) :
    nLeaves (q + 1) - pl.getLeafShift (1 + q) =
      rk (fun x => isLeaf x && !compactedP pl.bitmap x) q + 1 := by
  rw [nLeaves_eq_rk hq, PruneList.getLeafShift_counts h q hnc]
  have := rk_split isLeaf (compactedP pl.bitmap) q
  unfold rk at *
  omega

theorem totalLeafShift_counts {pl : PruneList} (h : pl.Inv) {size : Nat}
    (hroots : ∀ x ∈ pl.bitmap, x ≤ size) :
    pl.getTotalLeafShift = rk (fun q => isLeaf q && compactedP pl.bitmap q) size := by
  rw [← PruneList.sumF_counts_all isLeaf h hroots]
  unfold PruneList.getTotalLeafShift PruneList.getLeafShift
  rw [h.leaf, PruneList.cacheAt_total h.sorted h.pos]
  exact sumF_congr _ _ _ fun x _ => rootLeafShift_count (x - 1)

theorem dataLayout_length {pl : PruneList} (h : pl.Inv) {N : Nat}
    (hroots : ∀ x ∈ pl.bitmap, x ≤ mmr N) :
    (dataLayout pl.bitmap (mmr N)).length + pl.getTotalLeafShift = N := by
  rw [totalLeafShift_counts h hroots]
  unfold dataLayout
  rw [filter_range_length]
  have := rk_split isLeaf (compactedP pl.bitmap) (mmr N)
  rw [rk_leaf_mmr] at this
  omega

end LeafShift

end GV.Store
