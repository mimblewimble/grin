import GrinVerif.Model.CrashZip
import GrinVerif.Lemmas.CrashRecover
/-! The state-sync install (`Model/CrashZip.lean`): `fallbackZ` / `recoverZ` as instances of the common loop and header
check of `Lemmas/CrashRecover`. -/
namespace GV.Crash

/-- the outcomes of the common loop and header check, as `recoverZ` reports them -/
def toZ : Rec → RecZ
  | .ok h => .ok h
  | .openFail .other => .openFail .other
  | .openFail .storeErr => .openFail .storeErr

/-- the head cannot be undone: its body is not stored -/
def DurableZ.gone (d : DurableZ) (h : Nat) (_ : List BlkInfo) : Bool := !d.bodies.contains h

theorem fallbackZ_eq_with (bc : Nat → Bool) (tbl : List BlkInfo) (d : DurableZ) (fuel h : Nat) (r : List Leaf) :
    fallbackZ bc tbl d fuel h r = toZ (fallbackWith (validAt bc d.base) d.gone tbl fuel h r) := by
  induction fuel generalizing h r with
  | zero => rfl
  | succ f ih =>
    simp only [fallbackZ, fallbackWith, ih]
    cases pathOf tbl (tbl.length + 1) h [] with
    | none => rfl
    | some path => simp only [apply_ite toZ]; rfl

theorem recoverZ_of_hdrOk (bc : Nat → Bool) (tbl : List BlkInfo) (d : DurableZ) (ht : d.torn = false)
    (h : HdrOk tbl d.base) : recoverZ bc tbl d =
      toZ (fallbackWith (validAt bc d.base) d.gone tbl (tbl.length + 1) d.base.dbHead []) := by
  rw [← recoverWith_of_hdrOk d.base h]
  simp only [recoverZ, recoverWith, fallbackZ_eq_with, ht, Bool.false_eq_true, if_false, apply_ite toZ]
  cases pathOf tbl (tbl.length + 1) d.base.dbHHead [] with
  | none => rfl
  | some hp => simp only [apply_ite toZ]; rfl

theorem zipStart_hdrOk {tbl : List BlkInfo} (g : BlkInfo) {H : List BlkInfo}
    (hH : pathOf tbl (tbl.length + 1) (tipOf H) [] = some H) : HdrOk tbl (zipStart g H).base :=
  .of_files H rfl rfl hH (List.prefix_refl _)

end GV.Crash
