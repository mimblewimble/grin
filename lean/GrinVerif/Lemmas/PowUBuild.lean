import GrinVerif.Lemmas.PowScan
import GrinVerif.Lemmas.PowPipe
/-! First loop and circularisation of the undirected engine (Cuckatoo / Cuckaroo / Cuckarooz) in
closed form. -/
namespace GV.Pow

/-- list key of slot `t` -/
def keyF (C : UCfg) (P : Params) (ep : Nat → Nat × Nat) (ns : List Nat) (t : Nat) : Nat :=
  C.key P.bk (t % 2) (uvF ep ns t)

/-- what the first loop does to the arrays for nonce `x` at index `n`: slot `2n` then slot `2n+1` -/
def uPush (C : UCfg) (P : Params) (ep : Nat → Nat × Nat) (n x : Nat) (s : USt) : USt :=
  let ub := C.key P.bk 0 (ep x).1
  let head1 := upd s.head ub (2*n)
  let vb := C.key P.bk 1 (ep x).2
  { uvs := upd (upd s.uvs (2*n) (ep x).1) (2*n+1) (ep x).2,
    prev := upd (upd s.prev (2*n) (s.head ub)) (2*n+1) (head1 vb),
    head := upd head1 vb (2*n+1), x0 := s.x0 ^^^ (ep x).1, x1 := s.x1 ^^^ (ep x).2 }

theorem uBuild_eq (C : UCfg) (P : Params) (ep : Nat → Nat × Nat) : ∀ xs n last s,
    uBuild C P ep xs n last s = gBuild P.edgeMask (fun _ _ => none) (uPush C P ep) xs n last s
  | [], _, _, _ => rfl
  | x :: xs, n, last, s => by
    rw [uBuild, gBuild]
    simp only [uBuild_eq C P ep xs]
    rfl

theorem uBuild_ne_hang (C : UCfg) (P : Params) (ep : Nat → Nat × Nat) (xs : List Nat) (n : Nat)
    (last : Option Nat) (s : USt) : uBuild C P ep xs n last s ≠ .error .hang :=
  uBuild_eq C P ep xs n last s ▸
    gBuild_ne_hang (pre := fun _ _ => none) (fun _ _ h => by cases h) xs n last s

theorem uPush_inv (C : UCfg) (P : Params) (ep : Nat → Nat × Nat) (ns : List Nat) (n : Nat) (s : USt)
    (hn : n < ns.length)
    (inv : SlotInv (keyF C P ep ns) (uvF ep ns) (2 * ns.length) (2 * n) s.uvs s.head s.prev) :
    SlotInv (keyF C P ep ns) (uvF ep ns) (2 * ns.length) (2 * (n + 1))
      (uPush C P ep n (ns.getD n 0) s).uvs (uPush C P ep n (ns.getD n 0) s).head
      (uPush C P ep n (ns.getD n 0) s).prev := by
  have hu := uvF_even ep ns n hn
  have hv := uvF_odd ep ns n hn
  have hku : keyF C P ep ns (2 * n) = C.key P.bk 0 (ep (ns.getD n 0)).1 := by
    simp only [keyF, show 2 * n % 2 = 0 by omega, hu]
  have hkv : keyF C P ep ns (2 * n + 1) = C.key P.bk 1 (ep (ns.getD n 0)).2 := by
    simp only [keyF, show (2 * n + 1) % 2 = 1 by omega, hv]
  exact slotInv_push (slotInv_push inv hu hku) hv hkv

theorem uBuild_spec (C : UCfg) (P : Params) (ep : Nat → Nat × Nat) (ns : List Nat) (s : USt)
    (hb : uBuild C P ep ns 0 none (USt.init C ns.length) = .ok s) :
    SlotInv (keyF C P ep ns) (uvF ep ns) (2 * ns.length) (2 * ns.length) s.uvs s.head s.prev ∧
      (∀ x ∈ ns, x ≤ P.edgeMask) ∧ ascChain none ns :=
  gBuild_sound ns
    (fun n (s : USt) => SlotInv (keyF C P ep ns) (uvF ep ns) (2 * ns.length) (2 * n) s.uvs s.head s.prev)
    (fun n s hn inv _ => uPush_inv C P ep ns n s hn inv)
    ⟨fun t ht => absurd ht (Nat.not_lt_zero t), fun _ => rfl, fun t ht => absurd ht (Nat.not_lt_zero t)⟩
    (uBuild_eq C P ep ns 0 none _ ▸ hb)

theorem uBuild_complete (C : UCfg) (P : Params) (ep : Nat → Nat × Nat) (ns : List Nat)
    (hmask : ∀ x ∈ ns, x ≤ P.edgeMask) (hasc : ascChain none ns) :
    ∃ s, uBuild C P ep ns 0 none (USt.init C ns.length) = .ok s ∧
      s.x0 = C.xinit ns.length ^^^ xorAll (ns.map (fun x => (ep x).1)) ∧
      s.x1 = C.xinit ns.length ^^^ xorAll (ns.map (fun x => (ep x).2)) :=
  ⟨_, (uBuild_eq C P ep ns 0 none _).trans
      (gBuild_complete ns (fun _ _ => True) (fun _ _ _ _ _ => trivial) (fun _ _ _ _ => rfl) trivial hmask hasc).1,
    gFold_xor USt.x0 _ (fun _ _ _ => rfl) ns 0 _, gFold_xor USt.x1 _ (fun _ _ _ => rfl) ns 0 _⟩

theorem circ2_apply (nil : Nat) (prev : Nat → Nat) (n v0 v1 t : Nat) :
    upd (upd prev (2*n) (circVal nil prev (2*n) v0)) (2*n+1)
        (circVal nil (upd prev (2*n) (circVal nil prev (2*n) v0)) (2*n+1) v1) t =
      if t = 2*n then (if prev t = nil then v0 else prev t)
      else if t = 2*n+1 then (if prev t = nil then v1 else prev t) else prev t := by
  unfold circVal upd
  by_cases h1 : t = 2*n+1
  · subst h1
    have : 2*n+1 ≠ 2*n := by omega
    simp [this]
  · by_cases h0 : t = 2*n
    · subst h0; simp
    · simp [h0, h1]

theorem uCirc_spec (C : UCfg) (P : Params) (size : Nat) (s : USt) :
    ∀ m prev, m ≤ size → ∀ t, uCirc C P size s m prev t =
      if 2 * (size - m) ≤ t ∧ t < 2 * size ∧ prev t = 2 * size
      then s.head (C.key P.bk (t % 2) (s.uvs t)) else prev t := by
  intro m
  induction m with
  | zero =>
    intro prev _ t
    exact (if_neg (by omega)).symm
  | succ m ih =>
    intro prev hm t
    unfold uCirc
    rw [ih _ (by omega) t, circ2_apply]
    obtain ⟨n, hn⟩ : ∃ n, size - (m + 1) = n := ⟨_, rfl⟩
    rw [hn, show size - m = n + 1 by omega]
    have hnl : n < size := by omega
    by_cases ha : t = 2 * n
    · subst ha
      rw [if_pos rfl, if_neg (by omega), show 2 * n % 2 = 0 by omega]
      by_cases hp : prev (2 * n) = 2 * size
      · rw [if_pos hp, if_pos ⟨Nat.le_refl _, by omega, hp⟩]
      · rw [if_neg hp, if_neg (fun h => hp h.2.2)]
    · rw [if_neg ha]
      by_cases hb : t = 2 * n + 1
      · subst hb
        rw [if_pos rfl, if_neg (by omega), show (2 * n + 1) % 2 = 1 by omega]
        by_cases hp : prev (2 * n + 1) = 2 * size
        · rw [if_pos hp, if_pos ⟨by omega, by omega, hp⟩]
        · rw [if_neg hp, if_neg (fun h => hp h.2.2)]
      · rw [if_neg hb]
        by_cases hc : 2 * (n + 1) ≤ t ∧ t < 2 * size ∧ prev t = 2 * size
        · rw [if_pos hc, if_pos ⟨by omega, hc.2⟩]
        · rw [if_neg hc, if_neg (fun h => hc ⟨by omega, h.2⟩)]

end GV.Pow
