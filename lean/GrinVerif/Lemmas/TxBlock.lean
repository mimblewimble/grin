import GrinVerif.Lemmas.TxAgg
/-! Lemmas about `insertSorted` (`with_output` / `with_kernel`), `hydrateFrom` and `fromReward` (C12). -/
namespace GV.Tx
open List

theorem insertSorted_of_not_mem (key : Nat → Nat) {x : Nat} {l : List Nat} (h : x ∉ l) :
    insertSorted key x l = insertKey key x l := by
  unfold insertSorted
  rw [if_neg (by simpa using h)]
  rfl

theorem insertKey_perm (key : Nat → Nat) (x : Nat) (l : List Nat) : insertKey key x l ~ x :: l := by
  refine perm_middle.trans ?_
  rw [takeWhile_append_dropWhile]

theorem insertSorted_perm (key : Nat → Nat) {x : Nat} {l : List Nat} (h : x ∉ l) :
    insertSorted key x l ~ x :: l :=
  insertSorted_of_not_mem key h ▸ insertKey_perm key x l

theorem insertKey_eq_sortBy (key : Nat → Nat) (x : Nat) {l : List Nat} (s : l.Pairwise (KeyLe key)) :
    insertKey key x l = sortBy key (x :: l) := by
  rw [sortBy_cons, sortBy_of_sorted s]

theorem insertSorted_sorted (key : Nat → Nat) (x : Nat) {l : List Nat} (s : l.Pairwise (KeyLe key)) :
    (insertSorted key x l).Pairwise (KeyLe key) := by
  unfold insertSorted
  split
  · exact s
  · show (insertKey key x l).Pairwise (KeyLe key)
    rw [insertKey_eq_sortBy key x s]
    exact sortBy_sorted _ _

theorem insertSorted_eq_sortBy {key : Nat → Nat} {x : Nat} {l : List Nat} (inj : InjOn key (x :: l))
    (h : x ∉ l) (s : l.Pairwise (KeyLe key)) : insertSorted key x l = sortBy key (l ++ [x]) := by
  rw [insertSorted_of_not_mem key h, insertKey_eq_sortBy key x s]
  exact sortBy_congr inj (perm_append_singleton x l).symm

theorem filter_coinbase_insertSorted (key : Nat → Nat) {x : Nat} {l : List Nat}
    (hx : isCoinbase x = true) (hl : ∀ o ∈ l, isCoinbase o = false) :
    (insertSorted key x l).filter isCoinbase = [x] := by
  have hnm : x ∉ l := fun hm => by have := hl x hm; rw [hx] at this; cases this
  have p := (insertSorted_perm key hnm).filter isCoinbase
  have e : (x :: l).filter isCoinbase = [x] := by
    rw [filter_cons, if_pos hx]
    congr 1
    exact filter_eq_nil_iff.2 (fun o ho => by simp [hl o ho])
  rw [e] at p
  exact perm_singleton.1 p

theorem hydrateFrom_eq (K : Keys) (cb : CompactBlock) (txs : List Tx) :
    hydrateFrom K cb txs =
      if adjDup (sortBy K.ik (cutOf K txs).ins) then .error .cutThrough
      else if adjDup (sortBy K.ok (cutOf K txs).outs) then .error .cutThrough
      else .ok ⟨cb.header, false,
            sortBy K.ik (cutOf K txs).ins,
            sortBy K.ok (sortBy K.ok (cutOf K txs).outs ++ cb.outFull),
            sortBy K.kk (allKers txs ++ cb.kernFull)⟩ := by
  simp only [hydrateFrom, cutOf, allIns, allOuts, allKers]
  rcases cutThrough_cases id outCommit K.ik K.ok (flatMap (Tx.inputsCO K) txs) (flatMap (fun x => x.outputs) txs)
    with ⟨e, d | d⟩ | ⟨e, d1, d2⟩ <;> simp [sortBy_idem, *]

/-- `from_reward` fails only when `aggregate` fails: the sum of the aggregate's offset and the
previous header's `total_kernel_offset` never does (also when the two cancel) -/
theorem fromReward_of_aggregate {K : Keys} {prev : Nat} {txs : List Tx} {rout rkern : Nat} {agg : Tx}
    (h : aggregate K txs = .ok agg) :
    fromReward K prev txs rout rkern =
      .ok ⟨(toSecrets [agg.offset, prev]).sum % N, agg.v2, agg.inputs, insertSorted K.ok rout agg.outputs,
        insertSorted K.kk rkern agg.kernels⟩ := by
  unfold fromReward
  rw [h]
  simp only [sumKernelOffsets_nil]

theorem fromReward_ok {K : Keys} {prev : Nat} {txs : List Tx} {rout rkern : Nat} {b : Block}
    (h : fromReward K prev txs rout rkern = .ok b) :
    ∃ agg, aggregate K txs = .ok agg ∧
      b = ⟨(toSecrets [agg.offset, prev]).sum % N, agg.v2, agg.inputs, insertSorted K.ok rout agg.outputs,
        insertSorted K.kk rkern agg.kernels⟩ := by
  cases ha : aggregate K txs with
  | error e => simp [fromReward, ha] at h
  | ok agg => exact ⟨agg, rfl, Except.ok.inj ((fromReward_of_aggregate ha).symm.trans h).symm⟩

end GV.Tx
