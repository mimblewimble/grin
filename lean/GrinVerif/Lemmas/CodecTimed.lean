import GrinVerif.Lemmas.CodecFaith
/-! The codec over a stream with a clock (`readT` / `runT` of `Model/Codec.lean`): as long as every
wait is shorter than the read timeout of the state the codec is in while it waits, the timed machine
does exactly what the untimed one does on the flat byte stream.  The per-state condition is
discharged from a condition on the sender's schedule (`DelaysOK`) by following the chain of reads:
a read that starts in state `None` pulls the 11 frame-header bytes first and is in a body state for
every later fill; all other reads of a message start in a body state.  A wait of any length for the FIRST byte of a
frame is not an error: the read times out with nothing pulled and the reader thread retries (`runT_idle_wait`). -/
namespace GV.Codec
open GV GV.Ser GV.Dec GV.Msg GV.Gen.Msg GV.Gen.CodecTimeouts

variable {B H : Type}

theorem ioTimeout_none : ioTimeout (State.none : State H) = HEADER_IO_TIMEOUT_MS := rfl

theorem ioTimeout_body (st : State H) (h : st ≠ .none) : ioTimeout st = BODY_IO_TIMEOUT_MS := by
  cases st with
  | none => exact absurd rfl h
  | header _ => rfl
  | blockHeaders _ _ _ => rfl
  | attachment _ => rfl

theorem header_lt_body : HEADER_IO_TIMEOUT_MS < BODY_IO_TIMEOUT_MS := by decide

theorem waitsBelow_take {lim : Nat} {ts : TStream} (h : WaitsBelow lim ts) (n : Nat) : WaitsBelow lim (ts.take n) :=
  fun p hp => h p (List.mem_of_mem_take hp)

theorem waitsBelow_drop {lim : Nat} {ts : TStream} (h : WaitsBelow lim ts) (n : Nat) : WaitsBelow lim (ts.drop n) :=
  fun p hp => h p (List.mem_of_mem_drop hp)

theorem waitsBelow_mono {a b : Nat} (hab : a ≤ b) {ts : TStream} (h : WaitsBelow a ts) : WaitsBelow b ts :=
  fun p hp => Nat.lt_of_lt_of_le (h p hp) hab

theorem waitsBelow_take_le {lim : Nat} {ts : TStream} {a b : Nat} (hab : a ≤ b)
    (h : WaitsBelow lim (ts.take b)) : WaitsBelow lim (ts.take a) := by
  have : ts.take a = (ts.take b).take a := by rw [List.take_take, Nat.min_eq_left hab]
  rw [this]
  exact waitsBelow_take h a

theorem waitsBelow_replace_head {lim w w' b n : Nat} {tl : TStream}
    (h : WaitsBelow lim ((((w, b) :: tl).take (n + 1)).drop 1)) (hw : w' < lim) :
    WaitsBelow lim (((w', b) :: tl).take (n + 1)) := by
  intro q hq
  rw [List.take_succ_cons, List.mem_cons] at hq
  rcases hq with rfl | hq
  · exact hw
  · exact h q (by simpa using hq)

theorem tbytes_take (ts : TStream) (n : Nat) : tbytes (ts.take n) = (tbytes ts).take n := by
  simp [tbytes, List.map_take]

theorem tbytes_drop (ts : TStream) (n : Nat) : tbytes (ts.drop n) = (tbytes ts).drop n := by
  simp [tbytes, List.map_drop]

theorem tbytes_length (ts : TStream) : (tbytes ts).length = ts.length := by simp [tbytes]

theorem rxT_ok (T : Nat) : ∀ (n : Nat) (ts : TStream), WaitsBelow T (ts.take n) →
    rxT T n ts = if n ≤ ts.length then .got (tbytes (ts.take n)) (ts.drop n) else .eof
  | 0, ts, _ => by simp [rxT, tbytes]
  | n+1, [], _ => by simp [rxT]
  | n+1, (w, b) :: s, h => by
    have hw : w < T := h (w, b) (by simp)
    have ih := rxT_ok T n s (fun p hp => h p (by simp [hp]))
    have hnw : ¬ T ≤ w := by omega
    simp only [rxT, hnw, if_false, ih]
    by_cases hn : n ≤ s.length
    · simp [hn, tbytes]
    · simp [hn]

theorem rxT_first_timeout (T n w b : Nat) (s : TStream) (h : T ≤ w) :
    rxT T (n + 1) ((w, b) :: s) = .timeout ((w - T, b) :: s) := by
  simp [rxT, h]

theorem rxT_timeout_of_mem (T : Nat) : ∀ (n : Nat) (ts : TStream), (∃ p ∈ ts.take n, T ≤ p.1) →
    ∃ s, rxT T n ts = .timeout s
  | 0, ts, h => by simp at h
  | n+1, [], h => by simp at h
  | n+1, (w, b) :: s, h => by
    by_cases hw : T ≤ w
    · exact ⟨(w - T, b) :: s, by simp [rxT, hw]⟩
    · obtain ⟨p, hp, hT⟩ := h
      simp only [List.take_succ_cons, List.mem_cons] at hp
      rcases hp with rfl | hp
      · exact absurd hT hw
      · obtain ⟨s', hs'⟩ := rxT_timeout_of_mem T n s ⟨p, hp, hT⟩
        exact ⟨s', by simp [rxT, hw, hs']⟩

theorem fillT_flat (c : Codec H) (ts : TStream) (nl : Nat)
    (hw : WaitsBelow (ioTimeout c.state) (ts.take (nl - c.buffer.length))) :
    (fill flatOps c (tbytes ts) nl = none ∧ fillT c ts nl = .eof) ∨
    (∃ c1, fill flatOps c (tbytes ts) nl = some (c1, tbytes (ts.drop (nl - c.buffer.length))) ∧
      fillT c ts nl = .ok c1 (ts.drop (nl - c.buffer.length))) := by
  unfold fill fillT
  by_cases h : nl - c.buffer.length > 0
  · simp only [h, if_true]
    have hrx : flatOps.rx (nl - c.buffer.length) (tbytes ts) = splitExact (nl - c.buffer.length) (tbytes ts) := rfl
    rw [hrx, splitExact_eq, rxT_ok _ _ _ hw, tbytes_length]
    by_cases hn : nl - c.buffer.length ≤ ts.length
    · right
      rw [if_pos hn, if_pos hn]
      exact ⟨{ c with buffer := c.buffer ++ tbytes (ts.take (nl - c.buffer.length)) },
        by rw [tbytes_take, tbytes_drop], rfl⟩
    · left
      rw [if_neg hn, if_neg hn]
      exact ⟨rfl, rfl⟩
  · right
    simp only [h, if_false]
    have h0 : nl - c.buffer.length = 0 := by omega
    exact ⟨c, by rw [h0]; rfl, by rw [h0]; rfl⟩

/-- the waits on the next `n` bytes are tolerable for a codec in state `c`: below the body timeout, and, if `c` is in
`None`, below the header timeout on what is missing of the frame header -/
def WaitsOK (c : Codec H) (ts : TStream) (n : Nat) : Prop :=
  WaitsBelow BODY_IO_TIMEOUT_MS (ts.take n) ∧
  (c.state = .none → WaitsBelow HEADER_IO_TIMEOUT_MS (ts.take (MSG_HEADER_LEN - c.buffer.length)))

theorem WaitsOK.mono {c : Codec H} {ts : TStream} {n m : Nat} (h : WaitsOK c ts m) (hn : n ≤ m) : WaitsOK c ts n :=
  ⟨waitsBelow_take_le hn h.1, h.2⟩

theorem WaitsOK.fill (env : Env B H) {c : Codec H} {ts : TStream} {n : Nat} (h : WaitsOK c ts n)
    (hn : nextLen env c.state - c.buffer.length ≤ n) :
    WaitsBelow (ioTimeout c.state) (ts.take (nextLen env c.state - c.buffer.length)) := by
  by_cases hs : c.state = .none
  · have := h.2 hs
    rw [hs]
    exact this
  · rw [ioTimeout_body _ hs]
    exact waitsBelow_take_le hn h.1

/-- only the first fill of a read, and of a message, can be in `None` -/
theorem WaitsOK.after {c c2 : Codec H} {ts : TStream} {k n : Nat} (h : WaitsOK c ts (k + n)) (hc : c2.state ≠ .none) :
    WaitsOK c2 (ts.drop k) n :=
  ⟨by have := waitsBelow_drop h.1 k
      rwa [List.drop_take, Nat.add_sub_cancel_left] at this, fun h0 => absurd h0 hc⟩

theorem readLoopT_flat (env : Env B H) : ∀ (fuel : Nat) (c : Codec H) (ts : TStream) (br al : Nat),
    WaitsBelow BODY_IO_TIMEOUT_MS ts →
    (c.state = .none → WaitsBelow HEADER_IO_TIMEOUT_MS (ts.take (MSG_HEADER_LEN - c.buffer.length))) →
    ∃ j, readLoopT env fuel c ts br al =
        { res := (readLoop env flatOps fuel c (tbytes ts) br al).res,
          bytesRead := (readLoop env flatOps fuel c (tbytes ts) br al).bytesRead,
          alloc := (readLoop env flatOps fuel c (tbytes ts) br al).alloc,
          codec := (readLoop env flatOps fuel c (tbytes ts) br al).codec, sock := ts.drop j } ∧
      (readLoop env flatOps fuel c (tbytes ts) br al).sock = tbytes (ts.drop j) := by
  intro fuel
  induction fuel with
  | zero => intro c ts br al _ _; exact ⟨0, rfl, rfl⟩
  | succ fuel ih =>
    intro c ts br al hb hh
    rcases fillT_flat c ts (nextLen env c.state) (WaitsOK.fill env (n := nextLen env c.state - c.buffer.length) ⟨waitsBelow_take hb _, hh⟩ (Nat.le_refl _)) with ⟨e1, e2⟩ | ⟨c1, e1, e2⟩
    · refine ⟨ts.length, ?_, ?_⟩
      · simp only [readLoop, readLoopT, e1, e2, List.drop_length]
      · simp only [readLoop, e1, List.drop_length]
        rfl
    · simp only [readLoop, readLoopT, e1, e2]
      cases hst : stepState env c1 (nextLen env c.state) with
      | inl r =>
        obtain ⟨r, c2, a⟩ := r
        exact ⟨nextLen env c.state - c.buffer.length, rfl, rfl⟩
      | inr r =>
        obtain ⟨c2, a⟩ := r
        obtain ⟨j, q1, q2⟩ := ih c2 (ts.drop (nextLen env c.state - c.buffer.length))
          (br + (nextLen env c.state - c.buffer.length)) (al + (nextLen env c.state - c.buffer.length) + a)
          (waitsBelow_drop hb _) (fun hn => absurd hn (stepState_inr_state env c1 _ c2 a hst))
        refine ⟨nextLen env c.state - c.buffer.length + j, ?_, ?_⟩
        · simp only [q1, List.drop_drop]
        · simp only [q2, List.drop_drop]

theorem readT_flat (env : Env B H) (c : Codec H) (ts : TStream)
    (hb : WaitsBelow BODY_IO_TIMEOUT_MS ts)
    (hh : c.state = .none → WaitsBelow HEADER_IO_TIMEOUT_MS (ts.take (MSG_HEADER_LEN - c.buffer.length))) :
    ∃ j, readT env c ts =
        { res := (read env flatOps c (tbytes ts)).res, bytesRead := (read env flatOps c (tbytes ts)).bytesRead,
          alloc := (read env flatOps c (tbytes ts)).alloc, codec := (read env flatOps c (tbytes ts)).codec,
          sock := ts.drop j } ∧
      (read env flatOps c (tbytes ts)).sock = tbytes (ts.drop j) :=
  readLoopT_flat env READ_FUEL c ts 0 0 hb hh

theorem expectAttachment_state (c c2 : Codec H) (size : Nat) (h : expectAttachment c size = some c2) :
    c2.state ≠ .none := by
  unfold expectAttachment at h
  split at h
  · cases h; simp
  · cases h

theorem readT_idle_eof (env : Env B H) :
    readT env (idle : Codec H) [] = { res := .err .conn, bytesRead := 0, alloc := 0 + 11, codec := idle, sock := [] } := rfl

theorem runT_idle_eof (env : Env B H) (attach : Message B H → Option Nat) (fuel : Nat) :
    runT env attach (fuel + 1) (idle : Codec H) [] = ([], .err .conn, idle, []) := by
  rw [runT_leave env attach fuel idle [] (by rw [readT_idle_eof]; rfl), readT_idle_eof]

theorem readT_idle_timeout (env : Env B H) (w b : Nat) (s : TStream) (h : HEADER_IO_TIMEOUT_MS ≤ w) :
    readT env (idle : Codec H) ((w, b) :: s) =
      { res := .err .timedOut, bytesRead := 0, alloc := 11, codec := idle,
        sock := (w - HEADER_IO_TIMEOUT_MS, b) :: s } := by
  have hf : fillT (idle : Codec H) ((w, b) :: s) (nextLen env (idle : Codec H).state) =
      .timeout ((w - HEADER_IO_TIMEOUT_MS, b) :: s) := by
    have : nextLen env (idle : Codec H).state - (idle : Codec H).buffer.length = (MSG_HEADER_LEN - 1) + 1 := rfl
    unfold fillT
    rw [this, if_pos (by omega), show ioTimeout (idle : Codec H).state = HEADER_IO_TIMEOUT_MS from ioTimeout_none,
      rxT_first_timeout _ _ _ _ _ h]
  show readLoopT env ((READ_FUEL - 1) + 1) idle ((w, b) :: s) 0 0 = _
  simp only [readLoopT, hf]
  rfl

/-- `try_break!` maps `TimedOut` to "nothing yet": the reader thread retries until the byte is there -/
theorem runT_idle_wait (env : Env B H) (attach : Message B H → Option Nat) (b : Nat) (s : TStream) :
    ∀ (k w' : Nat) (fuel : Nat),
      runT env attach (k + fuel) (idle : Codec H) ((k * HEADER_IO_TIMEOUT_MS + w', b) :: s) =
        runT env attach fuel (idle : Codec H) ((w', b) :: s) := by
  intro k
  induction k with
  | zero => intro w' fuel; simp
  | succ k ih =>
    intro w' fuel
    have hge : HEADER_IO_TIMEOUT_MS ≤ (k + 1) * HEADER_IO_TIMEOUT_MS + w' := by
      rw [Nat.succ_mul]; omega
    have hsub : (k + 1) * HEADER_IO_TIMEOUT_MS + w' - HEADER_IO_TIMEOUT_MS = k * HEADER_IO_TIMEOUT_MS + w' := by
      rw [Nat.succ_mul]; omega
    have e : k + 1 + fuel = (k + fuel) + 1 := by omega
    have ht := readT_idle_timeout env _ b s hge
    rw [e, ← ih w' fuel, runT_retry env attach _ idle _ (by rw [ht]; rfl), ht, hsub]

theorem runT_idle_wait' (env : Env B H) (attach : Message B H → Option Nat) (w b : Nat) (s : TStream) (fuel : Nat) :
    runT env attach (w / HEADER_IO_TIMEOUT_MS + fuel) (idle : Codec H) ((w, b) :: s) =
      runT env attach fuel (idle : Codec H) ((w % HEADER_IO_TIMEOUT_MS, b) :: s) := by
  have := runT_idle_wait env attach b s (w / HEADER_IO_TIMEOUT_MS) (w % HEADER_IO_TIMEOUT_MS) fuel
  rw [Nat.mul_comm, Nat.div_add_mod] at this
  exact this

theorem tbytes_tagFrag (d : Nat) (f : Bytes) : tbytes (tagFrag d f) = f := by
  cases f with
  | nil => rfl
  | cons b r => simp [tagFrag, tbytes, Function.comp_def]

theorem tbytes_tagSched (sched : Sched) : tbytes (tagSched sched) = (sched.map (·.2)).flatten := by
  induction sched with
  | nil => rfl
  | cons p s ih =>
    obtain ⟨d, f⟩ := p
    have : tbytes (tagFrag d f ++ tagSched s) = tbytes (tagFrag d f) ++ tbytes (tagSched s) := by
      simp [tbytes]
    simp only [tagSched, this, tbytes_tagFrag, ih, List.map_cons, List.flatten_cons]

theorem waitsBelow_tagFrag (lim d : Nat) (f : Bytes) (h0 : 0 < lim) (hd : d < lim) : WaitsBelow lim (tagFrag d f) := by
  cases f with
  | nil => intro p hp; cases hp
  | cons b r =>
    intro p hp
    simp only [tagFrag, List.mem_cons, List.mem_map] at hp
    rcases hp with rfl | ⟨x, _, rfl⟩
    · exact hd
    · exact h0

theorem waitsBelow_tagSched (lim : Nat) (h0 : 0 < lim) (sched : Sched) (h : ∀ p ∈ sched, p.1 < lim) :
    WaitsBelow lim (tagSched sched) := by
  induction sched with
  | nil => intro p hp; cases hp
  | cons q s ih =>
    obtain ⟨d, f⟩ := q
    intro p hp
    simp only [tagSched, List.mem_append] at hp
    rcases hp with hp | hp
    · exact waitsBelow_tagFrag lim d f h0 (h (d, f) (by simp)) p hp
    · exact ih (fun x hx => h x (by simp [hx])) p hp

theorem delaysOK_of_small (net : NetCfg) : ∀ (msgs : List (Sent B H)) (ts : TStream),
    tbytes ts = (msgs.map (encodeSent net)).flatten → WaitsBelow HEADER_IO_TIMEOUT_MS ts → DelaysOK net msgs ts := by
  intro msgs
  induction msgs with
  | nil =>
    intro ts hts _
    have : ts.length = 0 := by rw [← tbytes_length, hts]; rfl
    exact List.eq_nil_of_length_eq_zero this
  | cons m ms ih =>
    intro ts hts hw
    refine ⟨waitsBelow_take hw _, waitsBelow_mono (Nat.le_of_lt header_lt_body) (waitsBelow_take hw _), ?_⟩
    apply ih _ _ (waitsBelow_drop hw _)
    rw [tbytes_drop, hts]
    simp

/-! The hypothesis on the waits is needed only for the bytes a read / a chain of reads actually consumes
(`Reads.timed`, `runT_chain_local`); the wait for the first byte of a frame is absorbed by `runT_idle_wait'`. -/

/-- the header timeout matters only for a fill in state `None`, which can only be the first of a read -/
theorem Reads.timed {env : Env B H} {c c' : Codec H} {s s' : Bytes} {r : Res B H} {n a : Nat}
    (h : Reads env flatOps c s r c' s' n a) (hr : r ≠ .err .conn) : ∀ ts : TStream, tbytes ts = s → WaitsOK c ts n →
    WFc c → ∀ fuel, rank c ≤ fuel → ∀ br al,
      readLoopT env fuel c ts br al = { res := r, bytesRead := br + n, alloc := al + a, codec := c', sock := ts.drop n } := by
  induction h with
  | eof _ => exact absurd rfl hr
  | @ret c c1 c2 s s1 r a hf hs =>
    intro ts hts hok hw fuel hfu br al
    subst hts
    obtain ⟨f, rfl⟩ := fuel_succ hw hfu
    rcases fillT_flat c ts (nextLen env c.state) (hok.fill env (Nat.le_refl _)) with ⟨e1, _⟩ | ⟨c1', e1, e2⟩
    · rw [e1] at hf; cases hf
    · rw [e1] at hf; cases hf
      simp only [readLoopT, e2, hs, Nat.add_assoc]
  | @cont c c1 c2 c' s s1 s' r a n m hf hs _ ih =>
    intro ts hts hok hw fuel hfu br al
    subst hts
    obtain ⟨f, rfl⟩ := fuel_succ hw hfu
    obtain ⟨hlt, hw2⟩ := iter_rank hf hs hw
    rcases fillT_flat c ts (nextLen env c.state) (hok.fill env (Nat.le_add_right _ _)) with ⟨e1, _⟩ | ⟨c1', e1, e2⟩
    · rw [e1] at hf; cases hf
    · rw [e1] at hf; cases hf
      simp only [readLoopT, e2, hs]
      rw [ih hr (ts.drop (nextLen env c.state - c.buffer.length)) rfl
        (hok.after (stepState_inr_state env _ _ c2 a hs)) hw2 f (by omega)]
      simp only [List.drop_drop, Nat.add_assoc]

theorem Reads.readT {env : Env B H} {c c' : Codec H} {s s' : Bytes} {r : Res B H} {n a : Nat}
    (h : Reads env flatOps c s r c' s' n a) (hr : r ≠ .err .conn) (hw : WFc c) {ts : TStream} (hts : tbytes ts = s)
    (hok : WaitsOK c ts n) :
    Codec.readT env c ts = { res := r, bytesRead := n, alloc := a, codec := c', sock := ts.drop n } := by
  rw [Codec.readT, h.timed hr ts hts hok hw READ_FUEL (rank_le_fuel c) 0 0, Nat.zero_add, Nat.zero_add]

theorem runT_chain_local {env : Env B H} {attach : Message B H → Option Nat} {c c' : Codec H} {s s' : Bytes}
    {ms : List (Message B H)} (h : BChain env attach c s ms c' s') :
    ∀ ts : TStream, tbytes ts = s → WaitsOK c ts (s.length - s'.length) →
      tbytes (ts.drop (s.length - s'.length)) = s' ∧ ∀ fuel, runT env attach (ms.length + fuel) c ts =
        (ms ++ (runT env attach fuel c' (ts.drop (s.length - s'.length))).1,
         (runT env attach fuel c' (ts.drop (s.length - s'.length))).2) := by
  induction h with
  | nil c s =>
    intro ts hts _
    rw [Nat.sub_self]
    exact ⟨by simpa using hts, fun fuel => by simp⟩
  | @cons c s m c1 s1 c2 ms c3 s3 j a hr hw hn hbody htail ih =>
    intro ts hts hok
    subst hts
    obtain ⟨hjl, hs1'⟩ := hr.flat_sock nofun
    have hs1 : tbytes (ts.drop j) = s1 := by rw [tbytes_drop, hs1']
    have hl3 := htail.length_le
    have hl1 : s1.length = (tbytes ts).length - j := by rw [hs1', List.length_drop]
    have hsum : j + (s1.length - s3.length) = (tbytes ts).length - s3.length := by omega
    rw [← hsum] at hok ⊢
    have hread := hr.readT nofun hw rfl (hok.mono (Nat.le_add_right _ _))
    by_cases hms : ms = []
    · subst hms
      cases htail
      rw [Nat.sub_self, Nat.add_zero]
      exact ⟨hs1, fun fuel => by
        simpa [Nat.add_comm, hread] using runT_msg env attach fuel c ts (by rw [hread]) (by rw [hread]; exact hn)⟩
    · obtain ⟨p1, p2⟩ := ih (ts.drop j) hs1 (hok.after (hbody hms))
      rw [List.drop_drop] at p1
      refine ⟨p1, fun fuel => ?_⟩
      have e : (m :: ms).length + fuel = (ms.length + fuel) + 1 := by
        simp only [List.length_cons]; omega
      rw [e, runT_msg env attach _ c ts (by rw [hread]) (by rw [hread]; exact hn), hread, p2 fuel, List.drop_drop]
      simp

theorem runT_sent_idle (env : Env B H) (attach : Message B H → Option Nat) (hat : AttachOK attach) (m : Sent B H)
    (hwf : SentWF env attach m) (rest : Bytes) (w b : Nat) (tl : TStream)
    (hts : tbytes ((w, b) :: tl) = encodeSent env.net m ++ rest)
    (hhead : WaitsBelow HEADER_IO_TIMEOUT_MS ((((w, b) :: tl).take MSG_HEADER_LEN).drop 1))
    (hbody : WaitsBelow BODY_IO_TIMEOUT_MS ((((w, b) :: tl).take (encodeSent env.net m).length).drop 1)) :
    tbytes (((w, b) :: tl).drop (encodeSent env.net m).length) = rest ∧ ∀ fuel,
      runT env attach (w / HEADER_IO_TIMEOUT_MS + ((expected m).length + fuel)) idle ((w, b) :: tl) =
        (expected m ++ (runT env attach fuel (idle : Codec H) (((w, b) :: tl).drop (encodeSent env.net m).length)).1,
         (runT env attach fuel (idle : Codec H) (((w, b) :: tl).drop (encodeSent env.net m).length)).2) := by
  have hL := encodeSent_length_ge env.net m
  obtain ⟨L', hL'⟩ : ∃ L', (encodeSent env.net m).length = L' + 1 :=
    ⟨(encodeSent env.net m).length - 1, by simp only [MSG_HEADER_LEN] at hL; omega⟩
  -- the stream after the idle wait was absorbed
  have hbytes : tbytes ((w % HEADER_IO_TIMEOUT_MS, b) :: tl) = encodeSent env.net m ++ rest := by rw [← hts]; rfl
  have hpos : w % HEADER_IO_TIMEOUT_MS < HEADER_IO_TIMEOUT_MS := Nat.mod_lt _ (by decide)
  have hK : (encodeSent env.net m ++ rest).length - rest.length = L' + 1 := by rw [List.length_append]; omega
  have hb2 : WaitsBelow BODY_IO_TIMEOUT_MS (((w % HEADER_IO_TIMEOUT_MS, b) :: tl).take (L' + 1)) :=
    waitsBelow_replace_head (hL' ▸ hbody) (Nat.lt_trans hpos header_lt_body)
  have hh2 : WaitsBelow HEADER_IO_TIMEOUT_MS (((w % HEADER_IO_TIMEOUT_MS, b) :: tl).take ((MSG_HEADER_LEN - 1) + 1)) :=
    waitsBelow_replace_head hhead hpos
  obtain ⟨p1, p2⟩ := runT_chain_local (chain_sent env attach hat rest m hwf)
    ((w % HEADER_IO_TIMEOUT_MS, b) :: tl) hbytes ⟨by rw [hK]; exact hb2, fun _ => hh2⟩
  have hdrop : ((w % HEADER_IO_TIMEOUT_MS, b) :: tl).drop (L' + 1) =
      ((w, b) :: tl).drop (encodeSent env.net m).length := by
    rw [hL']; rfl
  rw [hK, hdrop] at p1 p2
  exact ⟨p1, fun fuel => by rw [runT_idle_wait' env attach w b tl, p2]⟩

theorem runT_all_idle (env : Env B H) (attach : Message B H → Option Nat) (hat : AttachOK attach) :
    ∀ (msgs : List (Sent B H)), (∀ m ∈ msgs, SentWF env attach m) → ∀ ts : TStream,
      tbytes ts = (msgs.map (encodeSent env.net)).flatten → DelaysOKIdle env.net msgs ts → ∀ fuel,
      runT env attach (idleRetries env.net msgs ts + ((msgs.map expected).flatten.length + fuel)) idle ts =
        ((msgs.map expected).flatten ++ (runT env attach fuel (idle : Codec H) []).1,
         (runT env attach fuel (idle : Codec H) []).2) := by
  intro msgs
  induction msgs with
  | nil =>
    intro _ ts _ hd fuel
    cases hd
    simp [idleRetries]
  | cons m ms ih =>
    intro hwf ts hts hd fuel
    obtain ⟨hhead, hbody, htail⟩ := hd
    have hts' : tbytes ts = encodeSent env.net m ++ (ms.map (encodeSent env.net)).flatten := by
      simpa using hts
    cases ts with
    | nil =>
      have := encodeSent_length_ge env.net m
      have h0 := congrArg List.length hts'
      simp [tbytes, MSG_HEADER_LEN] at h0 this
      omega
    | cons p tl =>
      obtain ⟨w, b⟩ := p
      obtain ⟨p1, p2⟩ := runT_sent_idle env attach hat m (hwf m (by simp)) _ w b tl hts' hhead hbody
      have hfuel : idleRetries env.net (m :: ms) ((w, b) :: tl) +
          (((m :: ms).map expected).flatten.length + fuel) =
          w / HEADER_IO_TIMEOUT_MS + ((expected m).length +
            (idleRetries env.net ms (((w, b) :: tl).drop (encodeSent env.net m).length) +
              ((ms.map expected).flatten.length + fuel))) := by
        simp only [idleRetries, List.map_cons, List.flatten_cons, List.length_append]
        omega
      rw [hfuel, p2, ih (fun x hx => hwf x (by simp [hx])) _ p1 htail fuel]
      simp

theorem delaysOK_idle (net : NetCfg) : ∀ (msgs : List (Sent B H)) (ts : TStream),
    DelaysOK net msgs ts → DelaysOKIdle net msgs ts ∧ idleRetries net msgs ts = 0
  | [], _, h => ⟨h, rfl⟩
  | m :: ms, ts, ⟨h1, h2, h3⟩ => by
    obtain ⟨i1, i2⟩ := delaysOK_idle net ms _ h3
    refine ⟨⟨waitsBelow_drop h1 1, waitsBelow_drop h2 1, i1⟩, ?_⟩
    simp only [idleRetries, i2, Nat.add_zero]
    cases ts with
    | nil => rfl
    | cons p tl => exact Nat.div_eq_of_lt (h1 p List.mem_cons_self)

theorem runT_conversation_idle (env : Env B H) (attach : Message B H → Option Nat) (hat : AttachOK attach)
    (msgs : List (Sent B H)) (hwf : ∀ m ∈ msgs, SentWF env attach m) (ts : TStream)
    (hts : tbytes ts = (msgs.map (encodeSent env.net)).flatten) (hd : DelaysOKIdle env.net msgs ts) (extra : Nat) :
    runT env attach (idleRetries env.net msgs ts + ((msgs.map expected).flatten.length + (extra + 1))) idle ts =
      ((msgs.map expected).flatten, .err .conn, idle, []) := by
  rw [runT_all_idle env attach hat msgs hwf ts hts hd (extra + 1), runT_idle_eof env attach extra]
  simp

theorem runT_conversation (env : Env B H) (attach : Message B H → Option Nat) (hat : AttachOK attach)
    (msgs : List (Sent B H)) (hwf : ∀ m ∈ msgs, SentWF env attach m) (ts : TStream)
    (hts : tbytes ts = (msgs.map (encodeSent env.net)).flatten) (hd : DelaysOK env.net msgs ts) (extra : Nat) :
    runT env attach ((msgs.map expected).flatten.length + (extra + 1)) idle ts =
      ((msgs.map expected).flatten, .err .conn, idle, []) := by
  obtain ⟨hi, h0⟩ := delaysOK_idle env.net msgs ts hd
  have := runT_conversation_idle env attach hat msgs hwf ts hts hi extra
  rwa [h0, Nat.zero_add] at this

end GV.Codec
