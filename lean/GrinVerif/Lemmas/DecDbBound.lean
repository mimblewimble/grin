import GrinVerif.Lemmas.MsgBound
import GrinVerif.Model.DecDb
import GrinVerif.Lemmas.SerDbRt
import GrinVerif.Lemmas.DecSerEraseMsg
/-! Bounds and panic-freedom of the instrumented db decoders of `Model/DecDb.lean` that are not a `Wire` walk: the list
wrapper and list entry generically in the item reader, `PeerData`; and the streaming reader on an exhausted stream. -/
namespace GV.DecDb
open GV GV.Ser GV.Dec GV.SerDb GV.Msg

theorem noPanic_listWrapperI {α : Type} {p : Dec α} (hp : NoPanic p) : NoPanic (listWrapperI p) :=
  NoPanic.bind (NoPanic.lift _) fun v => by
    cases v with
    | single => exact NoPanic.bind hp fun pos => NoPanic.pure _
    | multi => exact NoPanic.bind noPanic_rU64 fun h => NoPanic.bind noPanic_rU64 fun t => NoPanic.pure _

theorem noPanic_listEntryI {α : Type} {p : Dec α} (hp : NoPanic p) : NoPanic (listEntryI p) :=
  NoPanic.bind (NoPanic.lift _) fun v => by
    cases v with
    | head => exact NoPanic.bind hp fun pos => NoPanic.bind noPanic_rU64 fun n => NoPanic.pure _
    | tail => exact NoPanic.bind hp fun pos => NoPanic.bind noPanic_rU64 fun n => NoPanic.pure _
    | middle =>
      exact NoPanic.bind hp fun pos => NoPanic.bind noPanic_rU64 fun n => NoPanic.bind noPanic_rU64 fun q => NoPanic.pure _

theorem bnd_listWrapperI {α : Type} {p : Dec α} (hp : Bnd 1 0 0 p) : Bnd 1 0 0 (listWrapperI p) :=
  Bnd.seq (Bnd.lift (fun _ _ _ h => by rw [(codec_wrapperVariant.inv' h).1]; simp) 1) fun v => by
    cases v with
    | single => exact Bnd.seq hp fun pos => Bnd.ret
    | multi => exact Bnd.seq (bnd_rU64 1) fun h => Bnd.seq (bnd_rU64 1) fun t => Bnd.ret

theorem bnd_listEntryI {α : Type} {p : Dec α} (hp : Bnd 1 0 0 p) : Bnd 1 0 0 (listEntryI p) :=
  Bnd.seq (Bnd.lift (fun _ _ _ h => by rw [(codec_entryVariant.inv' h).1]; simp) 1) fun v => by
    cases v with
    | head | tail => exact Bnd.seq hp fun pos => Bnd.seq (bnd_rU64 1) fun n => Bnd.ret
    | middle => exact Bnd.seq hp fun pos => Bnd.seq (bnd_rU64 1) fun n => Bnd.seq (bnd_rU64 1) fun q => Bnd.ret

theorem noPanic_peerDataI (now : Int) (rd : Rdr) : NoPanic (peerDataI now rd) :=
  NoPanic.bind (GV.DecSer.erases_decPeerAddr rd).noPanic fun addr =>
    NoPanic.bind GV.DecSer.erases_rU32.noPanic fun capab =>
    NoPanic.bind (GV.DecSer.erases_rBytesLenPrefix rd).noPanic fun ua =>
    NoPanic.bind GV.DecSer.erases_rU8.noPanic fun fl =>
    NoPanic.bind GV.DecSer.erases_rI64.noPanic fun lb =>
    NoPanic.bind GV.DecSer.erases_rU32.noPanic fun br => by
      intro bs
      show (if peerDataChecks ua fl br then _ else _ : Outcome _).isPanic = false
      split <;> rfl

/-- the end of `PeerData::read`: the checks, and the two optional trailing timestamps, which only consume -/
theorem bnd_peerDataTail (now : Int) (ua : Bytes) (fl : Nat) (lb : Int) (addr : GV.Msg.PeerAddr) (capab br : Nat) :
    Bnd 1 0 0 (fun r => (if peerDataChecks ua fl br then
      .ok (addr, capab, ua, fl, lb, br, (readTrailing now r).1, (readTrailing now r).2.1) (readTrailing now r).2.2 0
      else .err .corrupted 0 : Outcome _)) := by
  intro bs
  have hrest : (readTrailing now bs).2.2.length ≤ bs.length := by
    unfold readTrailing
    cases h1 : readI64 bs with
    | error e => simp
    | ok v =>
      obtain ⟨lc, r⟩ := v
      have l1 := readI64_len h1
      cases h2 : readI64 r with
      | error e => simp [h2]
      | ok w =>
        obtain ⟨la, r'⟩ := w
        have l2 := readI64_len h2
        simp only [h2]
        omega
  by_cases hc : peerDataChecks ua fl br = true
  · simp only [hc, ↓reduceIte, OBnd_ok]
    exact ⟨hrest, Nat.zero_le _⟩
  · simp only [hc, Bool.false_eq_true, ↓reduceIte, OBnd_err]
    omega

theorem bnd_peerDataI (now : Int) (rd : Rdr) : Bnd 1 0 MAX_FIXED_READ (peerDataI now rd) :=
  Bnd.seqE (bnd_decPeerAddr rd) (fun addr => Bnd.seq (bnd_rU32 1) fun capab =>
    Bnd.seqE (bnd_rBytesLenPrefix rd) fun ua => Bnd.seq (bnd_rU8 1) fun fl => Bnd.seq GV.Wire.instr_rI64.bnd fun lb =>
    Bnd.seq (bnd_rU32 1) fun br => (bnd_peerDataTail now ua fl lb addr capab br).free) (by decide)

theorem sFixed_nil (n : Nat) (h : n ≤ ISIZE_MAX) (hn : 0 < n) : sFixed n [] = .err .ioEof n := by
  unfold sFixed
  rw [if_neg (by omega)]
  cases n with
  | zero => omega
  | succ m => rfl

end GV.DecDb
