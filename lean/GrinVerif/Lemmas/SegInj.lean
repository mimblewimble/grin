import GrinVerif.Lemmas.SegHashUp
/-! Injectivity of segment validation (C16 soundness core): two segments with the same
identifier that are accepted against the same root (same MMR size, same bitmap) agree on
everything the reconstruction reads — leaf data at every required position, every hash looked up
through `get_hash`, every proof hash consumed.  No MMR arithmetic is needed here: the shape of the
computation depends on the positions and the bitmap only.  Core Lean only. -/
namespace GV.Seg
open GV GV.Pmmr

variable {α H : Type}

/-! ### `Segment::root` piece by piece — the existence guard (repair 362e7d94e), `get_hash`, the leaf
iterator, one node, one iteration, the loop, the bagging of the peaks (`bagPeaks`): what each reads of the segment (`Ev`), and
that equal results come from equal reads -/

theorem root_of_empty (hf : HashFn α H) (s : Segment α H) (size : Nat) (bm : Option (Nat → Bool))
    (h : s.id.unprunedSize size = 0) : s.root hf size bm = .err .nonExistent := by
  unfold Segment.root; rw [if_pos h]

theorem root_of_nonempty (hf : HashFn α H) (s : Segment α H) (size : Nat) (bm : Option (Nat → Bool))
    (h : s.id.unprunedSize size ≠ 0) :
    s.root hf size bm =
      rootWith hf s size bm (s.id.positions size) (s.id.full size) (s.id.peaksIn size) := by
  unfold Segment.root; rw [if_neg h]

theorem root_ok_rootWith (hf : HashFn α H) (s : Segment α H) (size : Nat) (bm : Option (Nat → Bool))
    (o : Option H) (h : s.root hf size bm = .ok o) :
    s.id.unprunedSize size ≠ 0 ∧
      rootWith hf s size bm (s.id.positions size) (s.id.full size) (s.id.peaksIn size) = .ok o := by
  unfold Segment.root at h
  split at h
  · cases h
  · rename_i hne; exact ⟨hne, h⟩

theorem getHash_no_panic (s : Segment α H) (q : Nat) : s.getHash q ≠ .panic := by
  unfold Segment.getHash; split <;> simp

theorem iterFind_mem {β : Type} : ∀ (l : List (Nat × β)) (p : Nat) (x : β) (rest : List (Nat × β)),
    iterFind l p = some (x, rest) → (p, x) ∈ l ∧ ∃ pre, l = pre ++ (p, x) :: rest := by
  intro l
  induction l with
  | nil => intro p x rest h; cases h
  | cons a l ih =>
    intro p x rest h
    obtain ⟨q, y⟩ := a
    simp only [iterFind] at h
    by_cases hq : q = p
    · simp only [hq, if_true, Option.some.injEq, Prod.mk.injEq] at h
      obtain ⟨rfl, rfl⟩ := h
      subst hq
      exact ⟨List.mem_cons_self, [], rfl⟩
    · simp only [hq, if_false] at h
      obtain ⟨hm, pre, hpre⟩ := ih p x rest h
      exact ⟨List.mem_cons_of_mem _ hm, (q, y) :: pre, by rw [hpre]; rfl⟩

theorem iterFind_of_mem {β : Type} : ∀ (l : List (Nat × β)) (q : Nat) (y : β), (q, y) ∈ l →
    ∃ x rest pre, iterFind l q = some (x, rest) ∧ l = pre ++ (q, x) :: rest := by
  intro l
  induction l with
  | nil => intro q y h; cases h
  | cons a l ih =>
    intro q y h
    obtain ⟨p, z⟩ := a
    by_cases hp : p = q
    · subst hp
      exact ⟨z, l, [], by simp [iterFind], rfl⟩
    · have hm : (q, y) ∈ l := by
        rcases List.mem_cons.1 h with h | h
        · injection h with h1 _; exact absurd h1.symm hp
        · exact h
      obtain ⟨x, rest, pre, h1, h2⟩ := ih q y hm
      exact ⟨x, rest, (p, z) :: pre, by simp [iterFind, hp, h1], by rw [h2]; rfl⟩

/-- what an inner node at `p` pushes, given the stack entries `l`, `r` of its children: the inner
`match` of `rootStep`, without the stack around it -/
def nodeEntry (hf : HashFn α H) (s : Segment α H) (bm : Option (Nat → Bool)) (p : Nat) :
    Option H → Option H → Res (Option H)
  | some lh, some rh => .ok (some (hf.node p lh rh))
  | none, none => if bm.isSome then .ok none else .err (.missingHash (1 + p - 2 ^ height p))
  | none, some rh =>
    if bm.isSome then
      match s.getHash (1 + p - 2 ^ height p - 1) with
      | .ok lh => .ok (some (hf.node p lh rh))
      | .err e => .err e
      | .panic => .panic
    else .err (.missingHash (1 + p - 2 ^ height p))
  | some lh, none =>
    if bm.isSome then
      match s.getHash (p - 1) with
      | .ok rh => .ok (some (hf.node p lh rh))
      | .err e => .err e
      | .panic => .panic
    else .err (.missingHash p)

theorem rootStep_inner (hf : HashFn α H) (s : Segment α H) (bm : Option (Nat → Bool)) (size p : Nat)
    (hh : height p ≠ 0) (r l : Option H) (rest : List (Option H)) (it : List (Nat × α)) :
    rootStep hf s bm size (r :: l :: rest, it) p =
      match nodeEntry hf s bm p l r with
      | .ok v => .ok (v :: rest, it)
      | .err e => .err e
      | .panic => .panic := by
  simp only [rootStep, hh, if_false]
  cases bm with
  | none => cases l <;> cases r <;> rfl
  | some b =>
    cases l <;> cases r
    · rfl
    · cases hg : s.getHash (1 + p - 2 ^ height p - 1) <;>
        simp only [nodeEntry, hg, Option.isSome_some, if_true]
    · cases hg : s.getHash (p - 1) <;> simp only [nodeEntry, hg, Option.isSome_some, if_true]
    · rfl

theorem rootStep_ok (hf : HashFn α H) (s : Segment α H) (bm : Option (Nat → Bool)) (size p : Nat)
    (st st' : RootSt α H) (h : rootStep hf s bm size st p = .ok st') :
    (height p = 0 ∧ required bm size p = true ∧
      ∃ x it', iterFind st.2 p = some (x, it') ∧ st' = (some (hf.leaf p x) :: st.1, it')) ∨
    (height p = 0 ∧ required bm size p = false ∧ st' = (none :: st.1, st.2)) ∨
    (height p ≠ 0 ∧ ∃ r l rest v, st.1 = r :: l :: rest ∧ nodeEntry hf s bm p l r = .ok v ∧
      st' = (v :: rest, st.2)) := by
  obtain ⟨stk, it⟩ := st
  by_cases hh : height p = 0
  · simp only [rootStep, hh, if_true] at h
    by_cases hr : required bm size p = true
    · simp only [hr, if_true] at h
      cases hf' : iterFind it p with
      | none => simp [hf'] at h
      | some r =>
        obtain ⟨x, it'⟩ := r
        simp only [hf', Res.ok.injEq] at h
        exact Or.inl ⟨hh, hr, x, it', rfl, h.symm⟩
    · simp only [hr, Bool.false_eq_true, if_false, Res.ok.injEq] at h
      exact Or.inr (Or.inl ⟨hh, by simpa using hr, h.symm⟩)
  · refine Or.inr (Or.inr ⟨hh, ?_⟩)
    match stk with
    | [] => simp [rootStep, hh] at h
    | [_] => simp [rootStep, hh] at h
    | r :: l :: rest =>
      rw [rootStep_inner hf s bm size p hh] at h
      cases hn : nodeEntry hf s bm p l r with
      | ok v => rw [hn] at h; exact ⟨r, l, rest, v, rfl, hn, (Res.ok.inj h).symm⟩
      | err e => rw [hn] at h; cases h
      | panic => rw [hn] at h; cases h

theorem rootLoop_cons_ok (hf : HashFn α H) (s : Segment α H) (bm : Option (Nat → Bool)) (size p : Nat)
    (ps : List Nat) (st st' : RootSt α H) (h : rootLoop hf s bm size st (p :: ps) = .ok st') :
    ∃ m, rootStep hf s bm size st p = .ok m ∧ rootLoop hf s bm size m ps = .ok st' := by
  rw [rootLoop] at h
  cases hs : rootStep hf s bm size st p with
  | ok m => rw [hs] at h; exact ⟨m, rfl, h⟩
  | err e => rw [hs] at h; cases h
  | panic => rw [hs] at h; cases h

theorem rootLoop_append (hf : HashFn α H) (s : Segment α H) (bm : Option (Nat → Bool)) (size : Nat) :
    ∀ (a b : List Nat) (st : RootSt α H),
    rootLoop hf s bm size st (a ++ b) = match rootLoop hf s bm size st a with
      | .ok st' => rootLoop hf s bm size st' b
      | .err e => .err e
      | .panic => .panic := by
  intro a
  induction a with
  | nil => intro b st; simp [rootLoop]
  | cons p ps ih =>
    intro b st
    simp only [List.cons_append, rootLoop]
    cases rootStep hf s bm size st p with
    | ok m => exact ih b m
    | err e => rfl
    | panic => rfl

theorem rootWith_ok (hf : HashFn α H) (s : Segment α H) (size : Nat) (bm : Option (Nat → Bool))
    (ps : List Nat) (full : Bool) (pks : List Nat) (o : Option H)
    (h : rootWith hf s size bm ps full pks = .ok o) :
    ∃ st, rootLoop hf s bm size ([], s.leafPos.zip s.leafData) ps = .ok st ∧
      rootFinish hf s bm size full pks st.1 = .ok o := by
  unfold rootWith at h
  cases hl : rootLoop hf s bm size ([], s.leafPos.zip s.leafData) ps with
  | ok st => rw [hl] at h; exact ⟨st, rfl, h⟩
  | err e => rw [hl] at h; cases h
  | panic => rw [hl] at h; cases h

theorem rootFinish_bag_ok (hf : HashFn α H) (s : Segment α H) (bm : Option (Nat → Bool)) (size : Nat)
    (pks : List Nat) (stk : List (Option H)) (o : Option H)
    (h : rootFinish hf s bm size false pks stk = .ok o) :
    ∃ x, bagPeaks hf s bm size stk none pks = .ok (some x) ∧ o = some x := by
  simp only [rootFinish, Bool.false_eq_true, if_false] at h
  cases hb : bagPeaks hf s bm size stk none pks with
  | ok w =>
    rw [hb] at h
    cases w with
    | none => cases h
    | some x => exact ⟨x, rfl, (Res.ok.inj h).symm⟩
  | err e => rw [hb] at h; cases h
  | panic => rw [hb] at h; cases h

theorem nodeEntry_left_ok (hf : HashFn α H) (s : Segment α H) (bm : Option (Nat → Bool)) (p : Nat)
    (rh : H) (v : Option H) (h : nodeEntry hf s bm p none (some rh) = .ok v) :
    ∃ g, bm.isSome = true ∧ s.getHash (1 + p - 2 ^ height p - 1) = .ok g ∧
      v = some (hf.node p g rh) := by
  simp only [nodeEntry] at h
  split at h
  · rename_i hb
    cases hg : s.getHash (1 + p - 2 ^ height p - 1) with
    | ok g => rw [hg] at h; exact ⟨g, hb, rfl, (Res.ok.inj h).symm⟩
    | err e => rw [hg] at h; cases h
    | panic => rw [hg] at h; cases h
  · cases h

theorem nodeEntry_right_ok (hf : HashFn α H) (s : Segment α H) (bm : Option (Nat → Bool)) (p : Nat)
    (lh : H) (v : Option H) (h : nodeEntry hf s bm p (some lh) none = .ok v) :
    ∃ g, bm.isSome = true ∧ s.getHash (p - 1) = .ok g ∧ v = some (hf.node p lh g) := by
  simp only [nodeEntry] at h
  split at h
  · rename_i hb
    cases hg : s.getHash (p - 1) with
    | ok g => rw [hg] at h; exact ⟨g, hb, rfl, (Res.ok.inj h).symm⟩
    | err e => rw [hg] at h; cases h
    | panic => rw [hg] at h; cases h
  · cases h

/-- something a segment was asked for during `Segment::root` -/
inductive Ev (α H : Type)
  | leaf (pos : Nat) (x : α)
  | hash (pos : Nat) (h : H)

/-- what one iteration of the loop of `Segment::root` reads of the segment -/
def stepReads (s : Segment α H) (bm : Option (Nat → Bool)) (mmrSize : Nat)
    (st : RootSt α H) (pos0 : Nat) : List (Ev α H) :=
  if height pos0 = 0 then
    if required bm mmrSize pos0 then
      match iterFind st.2 pos0 with
      | some (x, _) => [.leaf pos0 x]
      | none => []
    else []
  else
    match st.1, bm with
    | r :: l :: _, some _ =>
      match l, r with
      | none, some _ =>
        match s.getHash (1 + pos0 - 2 ^ height pos0 - 1) with
        | .ok h => [.hash (1 + pos0 - 2 ^ height pos0 - 1) h]
        | _ => []
      | some _, none =>
        match s.getHash (pos0 - 1) with
        | .ok h => [.hash (pos0 - 1) h]
        | _ => []
      | _, _ => []
    | _, _ => []

/-- everything the loop of `Segment::root` reads of the segment, in order -/
def rootReads (hf : HashFn α H) (s : Segment α H) (bm : Option (Nat → Bool)) (mmrSize : Nat) :
    RootSt α H → List Nat → List (Ev α H)
  | _, [] => []
  | st, p :: ps =>
    stepReads s bm mmrSize st p ++
      match rootStep hf s bm mmrSize st p with
      | .ok st' => rootReads hf s bm mmrSize st' ps
      | _ => []

def shape (stk : List (Option H)) : List Bool := stk.map Option.isSome

theorem shape_eq_of_eq {a b : List (Option H)} (h : a = b) : shape a = shape b := by rw [h]

theorem shape_cons (o : Option H) (stk : List (Option H)) : shape (o :: stk) = o.isSome :: shape stk := rfl

theorem isSome_eq_cases {o1 o2 : Option H} (h : o1.isSome = o2.isSome) :
    (o1 = none ∧ o2 = none) ∨ ∃ a b, o1 = some a ∧ o2 = some b := by
  cases o1 <;> cases o2 <;> simp at h ⊢

/-- what an inner node at `p` reads of the segment, given the entries of its children: the inner
`match` of `stepReads` -/
def nodeReads (s : Segment α H) (bm : Option (Nat → Bool)) (p : Nat) : Option H → Option H → List (Ev α H)
  | none, some _ =>
    if bm.isSome then
      match s.getHash (1 + p - 2 ^ height p - 1) with
      | .ok h => [.hash (1 + p - 2 ^ height p - 1) h]
      | _ => []
    else []
  | some _, none =>
    if bm.isSome then
      match s.getHash (p - 1) with
      | .ok h => [.hash (p - 1) h]
      | _ => []
    else []
  | _, _ => []

theorem stepReads_inner (s : Segment α H) (bm : Option (Nat → Bool)) (size p : Nat) (hh : height p ≠ 0)
    (r l : Option H) (rest : List (Option H)) (it : List (Nat × α)) :
    stepReads s bm size (r :: l :: rest, it) p = nodeReads s bm p l r := by
  simp only [stepReads, hh, if_false]
  cases bm <;> cases l <;> cases r <;> rfl

theorem nodeReads_left (s : Segment α H) {bm : Option (Nat → Bool)} (p : Nat) (r g : H)
    (hb : bm.isSome = true) (hg : s.getHash (1 + p - 2 ^ height p - 1) = .ok g) :
    nodeReads s bm p none (some r) = [.hash (1 + p - 2 ^ height p - 1) g] := by
  simp only [nodeReads, hb, if_true, hg]

theorem nodeReads_right (s : Segment α H) {bm : Option (Nat → Bool)} (p : Nat) (l g : H)
    (hb : bm.isSome = true) (hg : s.getHash (p - 1) = .ok g) :
    nodeReads s bm p (some l) none = [.hash (p - 1) g] := by
  simp only [nodeReads, hb, if_true, hg]

theorem nodeEntry_inj (hf : HashFn α H) (inj : Inj hf) (s1 s2 : Segment α H) (bm : Option (Nat → Bool))
    (p : Nat) (l1 r1 l2 r2 v1 v2 : Option H)
    (h1 : nodeEntry hf s1 bm p l1 r1 = .ok v1) (h2 : nodeEntry hf s2 bm p l2 r2 = .ok v2)
    (hl : l1.isSome = l2.isSome) (hr : r1.isSome = r2.isSome) :
    v1.isSome = v2.isSome ∧
    (v1 = v2 → l1 = l2 ∧ r1 = r2 ∧ nodeReads s1 bm p l1 r1 = nodeReads s2 bm p l2 r2) := by
  rcases isSome_eq_cases hl with ⟨rfl, rfl⟩ | ⟨a1, a2, rfl, rfl⟩ <;>
    rcases isSome_eq_cases hr with ⟨rfl, rfl⟩ | ⟨b1, b2, rfl, rfl⟩
  · simp only [nodeEntry] at h1 h2
    split at h1
    · rename_i hb
      rw [if_pos hb] at h2
      rw [← Res.ok.inj h1, ← Res.ok.inj h2]
      exact ⟨rfl, fun _ => ⟨rfl, rfl, rfl⟩⟩
    · cases h1
  · obtain ⟨g1, hb, hg1, rfl⟩ := nodeEntry_left_ok hf s1 bm p b1 v1 h1
    obtain ⟨g2, _, hg2, rfl⟩ := nodeEntry_left_ok hf s2 bm p b2 v2 h2
    refine ⟨rfl, fun he => ?_⟩
    obtain ⟨rfl, rfl⟩ := inj.node p _ _ _ _ (Option.some.inj he)
    exact ⟨rfl, rfl, by rw [nodeReads_left s1 p _ _ hb hg1, nodeReads_left s2 p _ _ hb hg2]⟩
  · obtain ⟨g1, hb, hg1, rfl⟩ := nodeEntry_right_ok hf s1 bm p a1 v1 h1
    obtain ⟨g2, _, hg2, rfl⟩ := nodeEntry_right_ok hf s2 bm p a2 v2 h2
    refine ⟨rfl, fun he => ?_⟩
    obtain ⟨rfl, rfl⟩ := inj.node p _ _ _ _ (Option.some.inj he)
    exact ⟨rfl, rfl, by rw [nodeReads_right s1 p _ _ hb hg1, nodeReads_right s2 p _ _ hb hg2]⟩
  · cases h1; cases h2
    refine ⟨rfl, fun he => ?_⟩
    obtain ⟨rfl, rfl⟩ := inj.node p _ _ _ _ (Option.some.inj he)
    exact ⟨rfl, rfl, rfl⟩

theorem rootStep_inj (hf : HashFn α H) (inj : Inj hf) (s1 s2 : Segment α H)
    (bm : Option (Nat → Bool)) (size p : Nat) (st1 st2 st1' st2' : RootSt α H)
    (h1 : rootStep hf s1 bm size st1 p = .ok st1') (h2 : rootStep hf s2 bm size st2 p = .ok st2')
    (hs : shape st1.1 = shape st2.1) :
    shape st1'.1 = shape st2'.1 ∧
    (st1'.1 = st2'.1 → st1.1 = st2.1 ∧ stepReads s1 bm size st1 p = stepReads s2 bm size st2 p) := by
  rcases rootStep_ok hf s1 bm size p st1 st1' h1 with
    ⟨hh, hr, x1, it1', hf1, rfl⟩ | ⟨hh, hr, rfl⟩ | ⟨hh, r1, l1, rest1, v1, hst1, hn1, rfl⟩
  · rcases rootStep_ok hf s2 bm size p st2 st2' h2 with
      ⟨_, _, x2, it2', hf2, rfl⟩ | ⟨_, hr', _⟩ | ⟨hh', _⟩
    · refine ⟨congrArg (List.cons true) hs, fun he => ?_⟩
      simp only [List.cons.injEq, Option.some.injEq] at he
      have := inj.leaf p x1 x2 he.1
      subst this
      exact ⟨he.2, by simp [stepReads, hh, hr, hf1, hf2]⟩
    · rw [hr] at hr'; cases hr'
    · exact absurd hh hh'
  · rcases rootStep_ok hf s2 bm size p st2 st2' h2 with ⟨_, hr', _⟩ | ⟨_, _, rfl⟩ | ⟨hh', _⟩
    · rw [hr] at hr'; cases hr'
    · refine ⟨congrArg (List.cons false) hs, fun he => ?_⟩
      simp only [List.cons.injEq, true_and] at he
      exact ⟨he, by simp [stepReads, hh, hr]⟩
    · exact absurd hh hh'
  · rcases rootStep_ok hf s2 bm size p st2 st2' h2 with
      ⟨hh', _⟩ | ⟨hh', _⟩ | ⟨_, r2, l2, rest2, v2, hst2, hn2, rfl⟩
    · exact absurd hh' hh
    · exact absurd hh' hh
    · obtain ⟨stk1, it1⟩ := st1
      obtain ⟨stk2, it2⟩ := st2
      simp only at hst1 hst2 hs
      subst hst1; subst hst2
      simp only [shape_cons, List.cons.injEq] at hs
      obtain ⟨hr, hl, hrest⟩ := hs
      obtain ⟨hv, hback⟩ := nodeEntry_inj hf inj s1 s2 bm p l1 r1 l2 r2 v1 v2 hn1 hn2 hl hr
      rw [stepReads_inner s1 bm size p hh, stepReads_inner s2 bm size p hh]
      refine ⟨by rw [shape_cons, shape_cons, hv, hrest], fun he => ?_⟩
      simp only [List.cons.injEq] at he
      obtain ⟨el, er, ereads⟩ := hback he.1
      exact ⟨by rw [el, er, he.2], ereads⟩

theorem rootLoop_inj (hf : HashFn α H) (inj : Inj hf) (s1 s2 : Segment α H)
    (bm : Option (Nat → Bool)) (size : Nat) : ∀ (ps : List Nat) (st1 st2 st1' st2' : RootSt α H),
    rootLoop hf s1 bm size st1 ps = .ok st1' → rootLoop hf s2 bm size st2 ps = .ok st2' →
    shape st1.1 = shape st2.1 →
    shape st1'.1 = shape st2'.1 ∧
    (st1'.1 = st2'.1 → st1.1 = st2.1 ∧
      rootReads hf s1 bm size st1 ps = rootReads hf s2 bm size st2 ps) := by
  intro ps
  induction ps with
  | nil =>
    intro st1 st2 st1' st2' h1 h2 hs
    simp only [rootLoop, Res.ok.injEq] at h1 h2
    subst h1; subst h2
    exact ⟨hs, fun he => ⟨he, rfl⟩⟩
  | cons p ps ih =>
    intro st1 st2 st1' st2' h1 h2 hs
    obtain ⟨m1, hr1, h1⟩ := rootLoop_cons_ok hf s1 bm size p ps st1 st1' h1
    obtain ⟨m2, hr2, h2⟩ := rootLoop_cons_ok hf s2 bm size p ps st2 st2' h2
    obtain ⟨hsm, hback⟩ := rootStep_inj hf inj s1 s2 bm size p st1 st2 m1 m2 hr1 hr2 hs
    obtain ⟨hsf, hback2⟩ := ih m1 m2 st1' st2' h1 h2 hsm
    refine ⟨hsf, fun he => ?_⟩
    obtain ⟨hm, hreads⟩ := hback2 he
    obtain ⟨h0, hsr⟩ := hback hm
    refine ⟨h0, ?_⟩
    simp only [rootReads, hr1, hr2, hsr, hreads]

/-- a peak hash with the bagged peaks to its right (if any) -/
def bagOnto (hf : HashFn α H) (size : Nat) (p : H) : Option H → H
  | none => p
  | some r => hf.node size p r

theorem bagOnto_none (hf : HashFn α H) (size : Nat) (p : H) : bagOnto hf size p none = p := rfl
theorem bagOnto_some (hf : HashFn α H) (size : Nat) (p r : H) :
    bagOnto hf size p (some r) = hf.node size p r := rfl

theorem bagPeaks_cons_some (hf : HashFn α H) (s : Segment α H) (bm : Option (Nat → Bool)) (size : Nat)
    (l : H) (stk : List (Option H)) (acc : Option H) (p : Nat) (ps : List Nat) :
    bagPeaks hf s bm size (some l :: stk) acc (p :: ps)
      = bagPeaks hf s bm size stk (some (bagOnto hf size l acc)) ps := by
  cases acc <;> rfl

theorem bagPeaks_cons_none (hf : HashFn α H) (s : Segment α H) (bm : Option (Nat → Bool)) (size : Nat)
    (stk : List (Option H)) (acc : Option H) (p : Nat) (ps : List Nat) :
    bagPeaks hf s bm size (none :: stk) acc (p :: ps) =
      if bm.isSome then
        match s.getHash p with
        | .ok h => bagPeaks hf s bm size stk (some (bagOnto hf size h acc)) ps
        | .err e => .err e
        | .panic => .panic
      else .err (.missingHash (1 + p)) := by
  cases bm with
  | none => rfl
  | some b => cases hg : s.getHash p <;> cases acc <;> simp [bagPeaks, hg, bagOnto]

theorem bagPeaks_cons_dead (hf : HashFn α H) (s : Segment α H) {bm : Option (Nat → Bool)} (size : Nat)
    (stk : List (Option H)) (acc : Option H) (p : Nat) (ps : List Nat) (g : H)
    (hb : bm.isSome = true) (hg : s.getHash p = .ok g) :
    bagPeaks hf s bm size (none :: stk) acc (p :: ps)
      = bagPeaks hf s bm size stk (some (bagOnto hf size g acc)) ps := by
  rw [bagPeaks_cons_none, if_pos hb, hg]

theorem bagPeaks_cons_none_ok (hf : HashFn α H) (s : Segment α H) (bm : Option (Nat → Bool)) (size : Nat)
    (stk : List (Option H)) (acc : Option H) (p : Nat) (ps : List Nat) (o : Option H)
    (h : bagPeaks hf s bm size (none :: stk) acc (p :: ps) = .ok o) :
    ∃ g, bm.isSome = true ∧ s.getHash p = .ok g := by
  rw [bagPeaks_cons_none] at h
  split at h
  · rename_i hb
    cases hg : s.getHash p with
    | ok g => exact ⟨g, hb, rfl⟩
    | err e => rw [hg] at h; cases h
    | panic => rw [hg] at h; cases h
  · cases h

theorem bagOnto_inj (hf : HashFn α H) (inj : Inj hf) (size : Nat) (l1 l2 : H) (acc1 acc2 : Option H)
    (ha : acc1.isSome = acc2.isSome) (h : bagOnto hf size l1 acc1 = bagOnto hf size l2 acc2) :
    l1 = l2 ∧ acc1 = acc2 := by
  rcases isSome_eq_cases ha with ⟨rfl, rfl⟩ | ⟨c1, c2, rfl, rfl⟩
  · exact ⟨h, rfl⟩
  · obtain ⟨e1, e2⟩ := inj.node size _ _ _ _ h
    exact ⟨e1, by rw [e2]⟩

/-- what the peak-bagging loop of `Segment::root` reads of the segment -/
def peakReads (s : Segment α H) (bm : Option (Nat → Bool)) : List (Option H) → List Nat → List (Ev α H)
  | _, [] => []
  | [], _ :: _ => []
  | lh :: stk, p :: ps =>
    (if lh.isNone && bm.isSome then
      match s.getHash p with
      | .ok h => [Ev.hash p h]
      | _ => []
    else []) ++ peakReads s bm stk ps

theorem bagPeaks_inj (hf : HashFn α H) (inj : Inj hf) (s1 s2 : Segment α H)
    (bm : Option (Nat → Bool)) (size : Nat) : ∀ (pks : List Nat) (stk1 stk2 : List (Option H))
    (acc1 acc2 v1 v2 : Option H),
    bagPeaks hf s1 bm size stk1 acc1 pks = .ok v1 → bagPeaks hf s2 bm size stk2 acc2 pks = .ok v2 →
    shape stk1 = shape stk2 → acc1.isSome = acc2.isSome →
    v1.isSome = v2.isSome ∧
    (v1 = v2 → acc1 = acc2 ∧ stk1.take pks.length = stk2.take pks.length ∧
      peakReads s1 bm stk1 pks = peakReads s2 bm stk2 pks) := by
  intro pks
  induction pks with
  | nil =>
    intro stk1 stk2 acc1 acc2 v1 v2 h1 h2 _ ha
    simp only [bagPeaks, Res.ok.injEq] at h1 h2
    subst h1; subst h2
    exact ⟨ha, fun he => ⟨he, by simp, by simp [peakReads]⟩⟩
  | cons p ps ih =>
    intro stk1 stk2 acc1 acc2 v1 v2 h1 h2 hs ha
    match stk1, stk2, hs with
    | [], _, _ => simp [bagPeaks] at h1
    | _ :: _, [], _ => simp [bagPeaks] at h2
    | lh1 :: r1, lh2 :: r2, hs =>
      simp only [shape_cons, List.cons.injEq] at hs
      obtain ⟨hl, hrest⟩ := hs
      have tail : ∀ (a1 a2 : H) (rd1 rd2 : List (Ev α H)),
          bagPeaks hf s1 bm size r1 (some (bagOnto hf size a1 acc1)) ps = .ok v1 →
          bagPeaks hf s2 bm size r2 (some (bagOnto hf size a2 acc2)) ps = .ok v2 →
          (a1 = a2 → rd1 = rd2) →
          v1.isSome = v2.isSome ∧ (v1 = v2 → acc1 = acc2 ∧ a1 = a2 ∧
            r1.take ps.length = r2.take ps.length ∧
            rd1 ++ peakReads s1 bm r1 ps = rd2 ++ peakReads s2 bm r2 ps) := by
        intro a1 a2 rd1 rd2 h1 h2 hrd
        obtain ⟨hv, hback⟩ := ih r1 r2 _ _ v1 v2 h1 h2 hrest rfl
        refine ⟨hv, fun he => ?_⟩
        obtain ⟨hacc', htake, hreads⟩ := hback he
        obtain ⟨ea, eacc⟩ := bagOnto_inj hf inj size a1 a2 acc1 acc2 ha (Option.some.inj hacc')
        exact ⟨eacc, ea, htake, by rw [hrd ea, hreads]⟩
      rcases isSome_eq_cases hl with ⟨rfl, rfl⟩ | ⟨a1, a2, rfl, rfl⟩
      · obtain ⟨g1, hb, hg1⟩ := bagPeaks_cons_none_ok hf s1 bm size r1 acc1 p ps v1 h1
        obtain ⟨g2, _, hg2⟩ := bagPeaks_cons_none_ok hf s2 bm size r2 acc2 p ps v2 h2
        rw [bagPeaks_cons_dead hf s1 size r1 acc1 p ps g1 hb hg1] at h1
        rw [bagPeaks_cons_dead hf s2 size r2 acc2 p ps g2 hb hg2] at h2
        obtain ⟨hv, hback⟩ := tail g1 g2 [Ev.hash p g1] [Ev.hash p g2] h1 h2 (fun e => by rw [e])
        refine ⟨hv, fun he => ?_⟩
        obtain ⟨eacc, ea, htake, hreads⟩ := hback he
        exact ⟨eacc, by simp [htake], by simpa [peakReads, hb, hg1, hg2] using hreads⟩
      · rw [bagPeaks_cons_some] at h1 h2
        obtain ⟨hv, hback⟩ := tail a1 a2 [] [] h1 h2 (fun _ => rfl)
        refine ⟨hv, fun he => ?_⟩
        obtain ⟨eacc, ea, htake, hreads⟩ := hback he
        exact ⟨eacc, by simp [htake, ea], by simpa [peakReads] using hreads⟩

/-! ### Stack depth: depends on the positions only.  With it (`WellFormedRange`) the end of `root` is
injective too, and so are `root`, `validate`, `validate_with` -/

def depthStep (d p : Nat) : Option Nat :=
  if height p = 0 then some (d + 1) else if 2 ≤ d then some (d - 1) else none

def depthLoop : Nat → List Nat → Option Nat
  | d, [] => some d
  | d, p :: ps => match depthStep d p with
    | some d' => depthLoop d' ps
    | none => none

theorem rootStep_depth (hf : HashFn α H) (s : Segment α H) (bm : Option (Nat → Bool)) (size p : Nat)
    (st st' : RootSt α H) (h : rootStep hf s bm size st p = .ok st') :
    depthStep st.1.length p = some st'.1.length := by
  rcases rootStep_ok hf s bm size p st st' h with
    ⟨hh, _, x, it', _, rfl⟩ | ⟨hh, _, rfl⟩ | ⟨hh, r, l, rest, v, hst, _, rfl⟩
  · simp [depthStep, hh]
  · simp [depthStep, hh]
  · simp [depthStep, hh, hst]

theorem rootLoop_depth (hf : HashFn α H) (s : Segment α H) (bm : Option (Nat → Bool)) (size : Nat) :
    ∀ (ps : List Nat) (st st' : RootSt α H), rootLoop hf s bm size st ps = .ok st' →
      depthLoop st.1.length ps = some st'.1.length := by
  intro ps
  induction ps with
  | nil => intro st st' h; simp only [rootLoop, Res.ok.injEq] at h; subst h; rfl
  | cons p ps ih =>
    intro st st' h
    obtain ⟨m, hr, h⟩ := rootLoop_cons_ok hf s bm size p ps st st' h
    simp only [depthLoop, rootStep_depth hf s bm size p st m hr]
    exact ih m st' h

/-- the range of the identifier is a well-formed post-order range: the loop of `root` leaves
exactly the entries the end of `root` consumes (one for a full segment, one per peak otherwise).
A fact about `(id, size)` only: `wellFormed_full` (`Lemmas/SegTree.lean`), `wellFormed_final`,
`wellFormed_fit` (`Lemmas/SegForest.lean`). -/
def WellFormedRange (id : Ident) (size : Nat) : Prop :=
  depthLoop 0 (id.positions size) =
    some (if id.full size then 1 else (id.peaksIn size).length)

/-- what the end of `Segment::root` reads of the segment -/
def finishReads (s : Segment α H) (bm : Option (Nat → Bool)) (full : Bool) (pks : List Nat)
    (stk : List (Option H)) : List (Ev α H) :=
  if full then [] else peakReads s bm stk pks

/-- everything `rootWith` reads of the segment -/
def readsWith (hf : HashFn α H) (s : Segment α H) (size : Nat) (bm : Option (Nat → Bool))
    (ps : List Nat) (full : Bool) (pks : List Nat) : List (Ev α H) :=
  rootReads hf s bm size ([], s.leafPos.zip s.leafData) ps ++
  match rootLoop hf s bm size ([], s.leafPos.zip s.leafData) ps with
  | .ok st => finishReads s bm full pks st.1
  | _ => []

/-- everything `Segment::root` reads of the segment: leaf data with its position, hashes looked
up through `get_hash` with their position -/
def segReads (hf : HashFn α H) (s : Segment α H) (size : Nat) (bm : Option (Nat → Bool)) :
    List (Ev α H) :=
  readsWith hf s size bm (s.id.positions size) (s.id.full size) (s.id.peaksIn size)

theorem rootFinish_inj (hf : HashFn α H) (inj : Inj hf) (s1 s2 : Segment α H)
    (size : Nat) (bm : Option (Nat → Bool)) (full : Bool) (pks : List Nat)
    (stk1 stk2 : List (Option H)) (o1 o2 : Option H)
    (hs : shape stk1 = shape stk2)
    (hl1 : stk1.length = if full then 1 else pks.length)
    (hl2 : stk2.length = if full then 1 else pks.length)
    (h1 : rootFinish hf s1 bm size full pks stk1 = .ok o1)
    (h2 : rootFinish hf s2 bm size full pks stk2 = .ok o2) :
    o1.isSome = o2.isSome ∧
    (o1 = o2 → stk1 = stk2 ∧ finishReads s1 bm full pks stk1 = finishReads s2 bm full pks stk2) := by
  unfold finishReads
  cases full with
  | true =>
    simp only [if_true] at hl1 hl2 ⊢
    match stk1, stk2, hl1, hl2 with
    | [v1], [v2], _, _ =>
      simp only [rootFinish, if_true, Res.ok.injEq] at h1 h2
      subst h1; subst h2
      exact ⟨(List.cons.inj hs).1, fun he => ⟨by rw [he], trivial⟩⟩
  | false =>
    simp only [Bool.false_eq_true, if_false] at hl1 hl2 ⊢
    obtain ⟨x1, hb1, rfl⟩ := rootFinish_bag_ok hf s1 bm size pks stk1 o1 h1
    obtain ⟨x2, hb2, rfl⟩ := rootFinish_bag_ok hf s2 bm size pks stk2 o2 h2
    refine ⟨rfl, fun he => ?_⟩
    obtain ⟨_, htake, hpr⟩ := (bagPeaks_inj hf inj s1 s2 bm size _ _ _ _ _ _ _ hb1 hb2 hs rfl).2 he
    -- the bagging loop consumes the whole stack
    rw [← hl1, List.take_length] at htake
    rw [hl1, ← hl2, List.take_length] at htake
    exact ⟨htake, hpr⟩

theorem rootWith_inj (hf : HashFn α H) (inj : Inj hf) (s1 s2 : Segment α H)
    (size : Nat) (bm : Option (Nat → Bool)) (ps : List Nat) (full : Bool) (pks : List Nat)
    (wf : depthLoop 0 ps = some (if full then 1 else pks.length)) (o1 o2 : Option H)
    (h1 : rootWith hf s1 size bm ps full pks = .ok o1)
    (h2 : rootWith hf s2 size bm ps full pks = .ok o2) :
    o1.isSome = o2.isSome ∧
    (o1 = o2 → readsWith hf s1 size bm ps full pks = readsWith hf s2 size bm ps full pks) := by
  obtain ⟨f1, hl1, h1⟩ := rootWith_ok hf s1 size bm ps full pks o1 h1
  obtain ⟨f2, hl2, h2⟩ := rootWith_ok hf s2 size bm ps full pks o2 h2
  unfold readsWith
  rw [hl1, hl2]
  obtain ⟨hsh, hback⟩ := rootLoop_inj hf inj s1 s2 bm size _ _ _ _ _ hl1 hl2 rfl
  -- the depth of the stack the loop leaves is what the end of `root` consumes
  have d1 : depthLoop 0 ps = some f1.1.length := rootLoop_depth hf s1 bm size ps _ f1 hl1
  have d2 : depthLoop 0 ps = some f2.1.length := rootLoop_depth hf s2 bm size ps _ f2 hl2
  rw [wf] at d1 d2
  obtain ⟨hv, hfin⟩ := rootFinish_inj hf inj s1 s2 size bm full pks f1.1 f2.1 o1 o2 hsh
    (Option.some.inj d1).symm (Option.some.inj d2).symm h1 h2
  refine ⟨hv, fun he => ?_⟩
  obtain ⟨hstk, hfr⟩ := hfin he
  simp only [(hback hstk).2, hfr]

theorem root_inj (hf : HashFn α H) (inj : Inj hf) (s1 s2 : Segment α H) (hid : s1.id = s2.id)
    (size : Nat) (bm : Option (Nat → Bool)) (wf : WellFormedRange s1.id size) (o1 o2 : Option H)
    (h1 : s1.root hf size bm = .ok o1) (h2 : s2.root hf size bm = .ok o2) :
    o1.isSome = o2.isSome ∧ (o1 = o2 → segReads hf s1 size bm = segReads hf s2 size bm) := by
  have h1 := (root_ok_rootWith hf s1 size bm o1 h1).2
  have h2 := (root_ok_rootWith hf s2 size bm o2 h2).2
  unfold segReads
  rw [← hid] at h2 ⊢
  exact rootWith_inj hf inj s1 s2 size bm _ _ _ wf o1 o2 h1 h2

theorem proofValidate_ok_iff (hf : HashFn α H) [DecidableEq H] (proof : List H) (lastPos : Nat) (mmrRoot : H)
    (first0 last0 : Nat) (segRoot : H) (upos : Nat) :
    proofValidate hf proof lastPos mmrRoot first0 last0 segRoot upos = .ok () ↔
      ∃ rest, reconstructRoot hf proof lastPos first0 last0 segRoot upos = .ok (mmrRoot, rest) := by
  unfold proofValidate
  cases reconstructRoot hf proof lastPos first0 last0 segRoot upos with
  | err e => simp
  | panic => simp
  | ok x =>
    obtain ⟨r, rest⟩ := x
    by_cases he : r = mmrRoot <;> simp [he]

theorem proofValidateWith_ok_iff (hf : HashFn α H) [DecidableEq H] (proof : List H) (lastPos : Nat)
    (mmrRoot : H) (first0 last0 : Nat) (segRoot : H) (upos hlp : Nat) (other : H) (left : Bool) :
    proofValidateWith hf proof lastPos mmrRoot first0 last0 segRoot upos hlp other left = .ok () ↔
      ∃ r rest, reconstructRoot hf proof lastPos first0 last0 segRoot upos = .ok (r, rest) ∧
        (if left then hf.node hlp other r else hf.node hlp r other) = mmrRoot := by
  unfold proofValidateWith
  cases reconstructRoot hf proof lastPos first0 last0 segRoot upos with
  | err e => simp
  | panic => simp
  | ok x =>
    obtain ⟨r, rest⟩ := x
    by_cases he : (if left = true then hf.node hlp other r else hf.node hlp r other) = mmrRoot <;>
      simp [he]

/-- `validate` accepts exactly when `first_unpruned_parent` is `Ok` and `reconstruct_root` from what
it returned yields the MMR root -/
theorem validate_ok_iff (hf : HashFn α H) [DecidableEq H] (s : Segment α H) (size : Nat)
    (bm : Option (Nat → Bool)) (mmrRoot : H) :
    s.validate hf size bm mmrRoot = .ok () ↔
      ∃ sr u rest, s.firstUnprunedParent hf size bm = .ok (sr, u) ∧
        reconstructRoot hf s.proof size (s.id.posRange size).1 (s.id.posRange size).2 sr u
          = .ok (mmrRoot, rest) := by
  unfold Segment.validate validateAt
  cases s.firstUnprunedParent hf size bm with
  | err e => simp
  | panic => simp
  | ok x =>
    obtain ⟨sr, u⟩ := x
    simp only [proofValidate_ok_iff]
    constructor
    · rintro ⟨rest, h⟩; exact ⟨sr, u, rest, rfl, h⟩
    · rintro ⟨_, _, rest, h, hr⟩; cases h; exact ⟨rest, hr⟩

theorem validateWith_ok_iff (hf : HashFn α H) [DecidableEq H] (s : Segment α H) (size : Nat)
    (bm : Option (Nat → Bool)) (mmrRoot : H) (hlp : Nat) (other : H) (left : Bool) :
    s.validateWith hf size bm mmrRoot hlp other left = .ok () ↔
      ∃ sr u r rest, s.firstUnprunedParent hf size bm = .ok (sr, u) ∧
        reconstructRoot hf s.proof size (s.id.posRange size).1 (s.id.posRange size).2 sr u
          = .ok (r, rest) ∧
        (if left then hf.node hlp other r else hf.node hlp r other) = mmrRoot := by
  unfold Segment.validateWith validateWithAt
  cases s.firstUnprunedParent hf size bm with
  | err e => simp
  | panic => simp
  | ok x =>
    obtain ⟨sr, u⟩ := x
    simp only [proofValidateWith_ok_iff]
    constructor
    · rintro ⟨r, rest, h, hm⟩; exact ⟨sr, u, r, rest, rfl, h, hm⟩
    · rintro ⟨_, _, r, rest, h, hr, hm⟩; cases h; exact ⟨r, rest, hr, hm⟩

theorem calls_of_root_err (hf : HashFn α H) [DecidableEq H] (s : Segment α H) (size : Nat)
    (bm : Option (Nat → Bool)) (mmrRoot : H) (hlp : Nat) (other : H) (left : Bool) (e : SegErr)
    (h : s.root hf size bm = .err e) :
    s.firstUnprunedParent hf size bm = .err e ∧ s.validate hf size bm mmrRoot = .err e ∧
      s.validateWith hf size bm mmrRoot hlp other left = .err e := by
  have hfup : s.firstUnprunedParent hf size bm = .err e := by
    unfold Segment.firstUnprunedParent; rw [h]; rfl
  exact ⟨hfup, by unfold Segment.validate; rw [hfup]; rfl,
    by unfold Segment.validateWith; rw [hfup]; rfl⟩

theorem fupLoop_first (s : Segment α H) (b : Nat → Bool) (nl pos0 : Nat) (fb : List (Nat × Nat)) (x : H)
    (h : s.getHash pos0 = .ok x) : fupLoop s b nl pos0 fb = .ok (x, 1 + pos0) := by
  cases fb with
  | nil => simp [fupLoop, h]
  | cons y rest => obtain ⟨p0, s0⟩ := y; simp [fupLoop, h]

theorem fup_of_root_some (hf : HashFn α H) (s : Segment α H) (size : Nat) (bm : Option (Nat → Bool))
    (v : H) (h : s.root hf size bm = .ok (some v)) :
    s.firstUnprunedParent hf size bm = .ok (v, 1 + (s.id.posRange size).2) := by
  unfold Segment.firstUnprunedParent
  rw [h]
  rfl

theorem root_ok_of_fup_ok (hf : HashFn α H) (s : Segment α H) (size : Nat) (bm : Option (Nat → Bool))
    (x : H × Nat) (h : s.firstUnprunedParent hf size bm = .ok x) :
    ∃ o, s.root hf size bm = .ok o := by
  unfold Segment.firstUnprunedParent at h
  cases hr : s.root hf size bm with
  | err e => rw [hr] at h; cases h
  | panic => rw [hr] at h; cases h
  | ok o => exact ⟨o, rfl⟩

/-- number of proof hashes `validate` consumes for a segment that has a root of its own -/
def proofLen (id : Ident) (size : Nat) : Nat :=
  consumed size (id.posRange size).1 (id.posRange size).2 (1 + (id.posRange size).2)

theorem accepted_fups (hf : HashFn α H) (inj : Inj hf) (s1 s2 : Segment α H)
    (hid : s1.id = s2.id) (size : Nat) (bm : Option (Nat → Bool)) (wf : WellFormedRange s1.id size)
    (v1 : H) (hnp : s1.root hf size bm = .ok (some v1)) (x : H × Nat)
    (h2 : s2.firstUnprunedParent hf size bm = .ok x) :
    ∃ v2, s1.firstUnprunedParent hf size bm = .ok (v1, 1 + (s1.id.posRange size).2) ∧
      s2.firstUnprunedParent hf size bm = .ok (v2, 1 + (s1.id.posRange size).2) ∧
      (v1 = v2 → segReads hf s1 size bm = segReads hf s2 size bm) := by
  obtain ⟨o2, hr2⟩ := root_ok_of_fup_ok hf s2 size bm x h2
  obtain ⟨hsome, hreads⟩ := root_inj hf inj s1 s2 hid size bm wf _ _ hnp hr2
  cases o2 with
  | none => simp at hsome
  | some v2 =>
    refine ⟨v2, fup_of_root_some hf s1 size bm v1 hnp, ?_, fun hv => hreads (by rw [hv])⟩
    rw [hid]
    exact fup_of_root_some hf s2 size bm v2 hr2

theorem validate_inj (hf : HashFn α H) [DecidableEq H] (inj : Inj hf) (s1 s2 : Segment α H)
    (hid : s1.id = s2.id) (size : Nat) (bm : Option (Nat → Bool)) (wf : WellFormedRange s1.id size)
    (mmrRoot v1 : H) (hnp : s1.root hf size bm = .ok (some v1))
    (h1 : s1.validate hf size bm mmrRoot = .ok ()) (h2 : s2.validate hf size bm mmrRoot = .ok ()) :
    segReads hf s1 size bm = segReads hf s2 size bm ∧
    s1.proof.take (proofLen s1.id size) = s2.proof.take (proofLen s1.id size) := by
  obtain ⟨sr1, u1, rest1, g1, e1⟩ := (validate_ok_iff hf s1 size bm mmrRoot).1 h1
  obtain ⟨sr2, u2, rest2, g2, e2⟩ := (validate_ok_iff hf s2 size bm mmrRoot).1 h2
  obtain ⟨v2, f1, f2, hreads⟩ := accepted_fups hf inj s1 s2 hid size bm wf v1 hnp _ g2
  rw [f1] at g1; rw [f2] at g2; cases g1; cases g2
  rw [← hid] at e2
  obtain ⟨hv, htake⟩ := reconstructRoot_inj hf inj _ _ _ _ _ _ _ _ _ _ _ e1 e2
  exact ⟨hreads hv, htake⟩

theorem validateWith_inj (hf : HashFn α H) [DecidableEq H] (inj : Inj hf) (s1 s2 : Segment α H)
    (hid : s1.id = s2.id) (size : Nat) (bm : Option (Nat → Bool)) (wf : WellFormedRange s1.id size)
    (mmrRoot v1 : H) (hlp : Nat) (other : H) (left : Bool)
    (hnp : s1.root hf size bm = .ok (some v1))
    (h1 : s1.validateWith hf size bm mmrRoot hlp other left = .ok ())
    (h2 : s2.validateWith hf size bm mmrRoot hlp other left = .ok ()) :
    segReads hf s1 size bm = segReads hf s2 size bm ∧
    s1.proof.take (proofLen s1.id size) = s2.proof.take (proofLen s1.id size) := by
  obtain ⟨sr1, u1, r1, rest1, g1, e1, m1⟩ := (validateWith_ok_iff hf s1 size bm mmrRoot hlp other left).1 h1
  obtain ⟨sr2, u2, r2, rest2, g2, e2, m2⟩ := (validateWith_ok_iff hf s2 size bm mmrRoot hlp other left).1 h2
  obtain ⟨v2, f1, f2, hreads⟩ := accepted_fups hf inj s1 s2 hid size bm wf v1 hnp _ g2
  rw [f1] at g1; rw [f2] at g2; cases g1; cases g2
  -- the last hashing step with the other root: equal results give equal reconstructed roots
  have hr : r1 = r2 := by
    rw [← m2] at m1
    cases left with
    | true => simp only [if_true] at m1; exact (inj.node hlp _ _ _ _ m1).2
    | false => simp only [Bool.false_eq_true, if_false] at m1; exact (inj.node hlp _ _ _ _ m1).1
  subst hr
  rw [← hid] at e2
  obtain ⟨hv, htake⟩ := reconstructRoot_inj hf inj _ _ _ _ _ _ _ _ _ _ _ e1 e2
  exact ⟨hreads hv, htake⟩

end GV.Seg
