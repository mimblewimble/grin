import GrinVerif.Lemmas.PowUComplete
import GrinVerif.Lemmas.PowRoodCycle
/-! Towards the completeness of the Cuckarood verifier (`Props/C05.verifyCuckarood_complete`): the
cycle of the specification is a cycle of the generic engine (node values carrying the direction bit
in their lowest bit, matched like Cuckatoo's); the verifier numbers its slots per direction
(`sigR`), and from the slot of an entry slot that has a partner the step goes to the slot of the
partner's other end. -/
namespace GV.Pow

theorem roodBuild_complete (P : Params) (ep : Nat → Nat × Nat) (ns : List Nat)
    (hbal : RoodBalanced ns)
    (hmask : ∀ x ∈ ns, x ≤ P.edgeMask) (hasc : ascChain none ns) :
    ∃ s, roodBuild P ep ns.length ns none (RoodSt.init ns.length) = .ok s ∧ RoodInv P ep ns ns.length s ∧
      s.x0 = xorAll (ns.map (fun x => (ep x).1)) ∧ s.x1 = xorAll (ns.map (fun x => (ep x).2)) :=
  have h := gBuild_complete (mask := P.edgeMask) ns (fun n s => RoodInv P ep ns n s)
    (fun n s hn inv hp => roodPush_inv P ep ns n s hn inv hp) (roodPre_balanced P ep ns hbal)
    (roodInv_init P ep ns) hmask hasc
  ⟨_, (roodBuild_eq P ep ns.length ns 0 none _).trans h.1, h.2,
    (gFold_xor RoodSt.x0 _ (fun _ _ _ => rfl) ns 0 _).trans (Nat.zero_xor _),
    (gFold_xor RoodSt.x1 _ (fun _ _ _ => rfl) ns 0 _).trans (Nat.zero_xor _)⟩

/-- node value with the direction bit as its lowest bit (`2·node + dir`, which is what the Rust code
hashes), at a slot of the specification -/
def uvD (ep : Nat → Nat × Nat) (ns : List Nat) (x : Nat) : Nat :=
  2 * slotNode (ns.map ep) x + dirF ns (x / 2)

/-- with the direction bit in the node value, the Cuckarood cycle of the specification is a cycle of
the generic engine under Cuckatoo's matching rule (same node, different lowest bit) -/
theorem rood_generic_cycle (ep : Nat → Nat × Nat) (ns c : List Nat) :
    IsRoodCycle ep ns c ↔
    IsCycle ns.length (adjG cfgCuckatoo (· % 2) (uvD ep ns)) (sameVG cfgCuckatoo (· % 2) (uvD ep ns)) c := by
  have hd : ∀ x, dirF ns (x / 2) ≤ 1 := fun x => Nat.le_of_lt_succ (dirF_lt ns _)
  exact (IsCycle.congr (adjG_dirbit hd) (sameVG_dirbit hd)).symm

section
variable (P : Params) (ep : Nat → Nat × Nat) (ns : List Nat) (s : RoodSt)
  (inv : RoodInv P ep ns ns.length s)
include inv

theorem sigR_lt (x : Nat) (hx : x < 2 * ns.length) : sigR ns x < 2 * ns.length := by
  have := inv.lt (x / 2) (by omega)
  unfold sigR; omega

end

/-- the slots through which the walk enters an edge: the side is the direction -/
def IsEnt (ns : List Nat) (x : Nat) : Prop := x / 2 < ns.length ∧ x % 2 = dirF ns (x / 2)

theorem isEnt_slot (ns : List Nat) (e d : Nat) (hd : d < 2) :
    IsEnt ns (2 * e + d) ↔ e < ns.length ∧ d = dirF ns e := by
  unfold IsEnt; rw [two_mul_add_div _ _ hd, two_mul_add_mod _ _ hd]

theorem roodStep_of_partner (P : Params) (ep : Nat → Nat × Nat) (ns : List Nat) (s : RoodSt)
    (inv : RoodInv P ep ns ns.length s) (hbk : ∀ x, P.bk x % 2 = x % 2) (i j : Nat)
    (hi : IsEnt ns i) (hp : Partner cfgCuckatoo (· % 2) (uvD ep ns) (2 * ns.length) i j) :
    roodStep P ns.length s (sigR ns i) = .ok (sigR ns (j ^^^ 1)) ∧ IsEnt ns (j ^^^ 1) := by
  have hdl : ∀ x, dirF ns (x / 2) ≤ 1 := fun x => Nat.le_of_lt_succ (dirF_lt ns _)
  obtain ⟨e, d, hd, rfl⟩ := exists_slot i
  obtain ⟨e2, d2, hd2, rfl⟩ := exists_slot j
  obtain ⟨he, hde⟩ := (isEnt_slot ns e d hd).mp hi
  obtain ⟨hk, hn, hdne⟩ := (adjG_dirbit hdl _ _).mp (adjG_of_partner hp)
  simp only [two_mul_add_mod _ _ hd, two_mul_add_mod _ _ hd2] at hk
  subst hk
  rw [two_mul_add_div _ _ hd, two_mul_add_div _ _ hd] at hdne
  have he2 : e2 < ns.length := by have := hp.lt; omega
  have hd1 : 1 - d < 2 := by omega
  have hdir2 : dirF ns e2 = 1 - d := eq_one_sub_of_ne (dirF_lt ns e2) hd (fun h => hdne (hde ▸ h.symm))
  rw [even_add_xor_one (2 * e2) d (by omega) hd, sigR_slot _ _ _ hd, sigR_slot _ _ _ hd1,
    isEnt_slot _ _ _ hd1]
  refine ⟨?_, he2, hdir2.symm⟩
  have hstep := (roodStep_ent_iff P ep ns s hbk inv e (ent ns e2) he).mpr
    ⟨e2, ⟨he2, fun h => hdne h.symm, ?_⟩, fun e' ⟨l', d', n'⟩ => ?_, rfl⟩
  · unfold ent at hstep; rwa [← hde, hdir2] at hstep
  · rw [← hde, ← slotNode_side ep ns e2 d he2 hd, ← slotNode_side ep ns e d he hd]; exact hn.symm
  · -- another mate would be another match of the inner loop
    rw [← hde] at d' n'
    have hkey : (2 * e' + d) % 2 = (2 * e + d) % 2 := by
      rw [two_mul_add_mod _ _ hd, two_mul_add_mod _ _ hd]
    have hs := hp.uniq (2 * e' + d) ⟨by omega, fun h => d' (by rw [show e' = e by omega]; exact hde.symm), hkey⟩
      ((sameVG_dirbit (key := fun x => x % 2) (node := slotNode (ns.map ep))
        (dir := fun x => dirF ns (x / 2)) hdl _ _).mpr ⟨hkey, by
        rw [slotNode_side ep ns e' d l' hd, slotNode_side ep ns e d he hd]; exact n'⟩).2
    omega

section
variable (ep : Nat → Nat × Nat) (ns c : List Nat)
  (hc : IsRoodCycle ep ns c)
  (hL : 0 < ns.length)
include hc hL

theorem rood_trace_of_cycle (P : Params) (s : RoodSt) (inv : RoodInv P ep ns ns.length s)
    (hbk : ∀ x, P.bk x % 2 = x % 2)
    (hbal : RoodBalanced ns) :
    ∃ tr, Trace (roodStep P ns.length s) 0 tr ∧ tr.length = ns.length := by
  obtain ⟨e0, he0, hent0⟩ := ent_zero ns hL hbal
  have hd0 := dirF_lt ns e0
  exact gcyc_trace mtEquiv_cuckatoo ((rood_generic_cycle ep ns c).mp hc) hL
    (InE := IsEnt ns) (σ := sigR ns) (x0 := 2 * e0 + dirF ns e0)
    { start_lt := by omega, start := (ent_eq_sigR ns e0).symm.trans hent0,
      start_in := (isEnt_slot ns e0 _ hd0).mpr ⟨he0, rfl⟩, inj := fun a b _ _ => sigR_inj ns a b,
      step := fun i j _ hi hp => roodStep_of_partner P ep ns s inv hbk i j hi hp }

/-- forgetting directions the cycle is a Cuckaroo cycle: the xor test passes -/
theorem rood_xor_of_cycle :
    xorAll (ns.map (fun x => (ep x).1)) ||| xorAll (ns.map (fun x => (ep x).2)) = 0 := by
  have hk : ∀ a b : Nat, uvF ep ns a = uvF ep ns b → (a % 2 = b % 2 ↔ a % 2 = b % 2) := fun _ _ _ => Iff.rfl
  obtain ⟨e0, e1⟩ := cycle_xor_sides mtEquiv_cuckaroo (key := (· % 2)) ep ns c hL
    (hc.mono (fun a b ⟨h1, h2, _⟩ => (adjG_cuckaroo hk a b).mpr ⟨h1, h2⟩) (fun a b => (sameVG_cuckaroo hk a b).mp))
    (fun _ _ h => h) 0
    (fun a b hp => by rw [((adjG_cuckaroo hk a b).mp (adjG_of_partner hp)).2, Nat.xor_zero])
  rw [e0, e1]
  split <;> rfl

end

end GV.Pow
