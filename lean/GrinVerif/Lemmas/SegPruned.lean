import GrinVerif.Lemmas.SegProof
import GrinVerif.Lemmas.SegLive
/-! Segments of a pruned / compacted MMR served with `prunable = true` and validated with the
bitmap of unspent leaves (output and rangeproof MMRs).  `PrunedView` characterises what the
`ReadonlyPMMR` of a store in a state reachable through its usage protocol answers: a position is
off file only strictly inside a compacted subtree, whose leaves are all spent.  Core Lean only. -/
namespace GV.Seg
open GV GV.Pmmr

variable {α H : Type}

/-- the leaf entry `from_pmmr` pushes for position `p` -/
def leafEntry (V : View α H) (p : Nat) : Option (Nat × α) :=
  if isLeaf p then (V.dataFromFile p).map fun d => (p, d) else none

/-- the hash entry `from_pmmr` pushes for position `p` (prunable MMR) -/
def hashEntry (V : View α H) (p : Nat) : Option (Nat × H) :=
  if (leafEntry V p).isSome then none else (V.fromFile p).map fun h => (p, h)

theorem fill_prunable (V : View α H) : ∀ (ps : List Nat),
    fill V true ps = .ok (ps.filterMap (hashEntry V), ps.filterMap (leafEntry V)) := by
  intro ps
  induction ps with
  | nil => rfl
  | cons p ps ih =>
    simp only [fill, Bool.not_true, Bool.and_false, Bool.false_eq_true, if_false, ih, if_true,
      List.filterMap_cons, hashEntry, leafEntry]
    by_cases hl : isLeaf p = true
    · simp only [hl, if_true]
      cases hd : V.dataFromFile p with
      | some d => simp
      | none =>
        simp only [Option.map_none, Option.isSome_none, Bool.false_eq_true, if_false]
        cases V.fromFile p <;> simp
    · simp only [hl, Bool.false_eq_true, if_false, Option.isSome_none]
      cases V.fromFile p <;> simp

theorem leafEntry_fst (V : View α H) (p : Nat) (e : Nat × α) (h : leafEntry V p = some e) :
    e.1 = p ∧ height p = 0 ∧ V.dataFromFile p = some e.2 := by
  unfold leafEntry at h
  by_cases hl : isLeaf p = true
  · simp only [hl, if_true] at h
    cases hd : V.dataFromFile p with
    | none => rw [hd] at h; cases h
    | some d =>
      rw [hd] at h
      simp only [Option.map_some, Option.some.injEq] at h
      subst h
      exact ⟨rfl, by simpa [isLeaf] using hl, rfl⟩
  · simp only [hl, Bool.false_eq_true, if_false] at h; cases h

theorem hashEntry_fst (V : View α H) (p : Nat) (e : Nat × H) (h : hashEntry V p = some e) :
    e.1 = p ∧ V.fromFile p = some e.2 := by
  unfold hashEntry at h
  split at h
  · cases h
  · cases hd : V.fromFile p with
    | none => rw [hd] at h; cases h
    | some x =>
      rw [hd] at h
      simp only [Option.map_some, Option.some.injEq] at h
      subst h
      exact ⟨rfl, rfl⟩

theorem lookup_filterMap {β : Type} (F : Nat → Option (Nat × β))
    (hF : ∀ p e, F p = some e → e.1 = p) (d : Nat) (x : β) (hd : F d = some (d, x)) :
    ∀ (ps : List Nat), d ∈ ps → lookup (ps.filterMap F) d = some x := by
  intro ps
  induction ps with
  | nil => intro h; cases h
  | cons p ps ih =>
    intro h
    by_cases hp : p = d
    · subst hp
      simp [hd, lookup]
    · have hm : d ∈ ps := by
        rcases List.mem_cons.1 h with h | h
        · exact absurd h.symm hp
        · exact h
      rw [List.filterMap_cons]
      cases hfp : F p with
      | none => exact ih hm
      | some e =>
        obtain ⟨q, y⟩ := e
        have := hF p _ hfp
        simp only at this
        subst this
        simp only [lookup, hp, if_false]
        exact ih hm

/-- the segment `from_pmmr(.., prunable = true)` builds when it is not completely compacted -/
def prunedSeg (V : View α H) (id : Ident) (ps : List Nat) (proof : List H) : Segment α H :=
  { id := id,
    hashPos := (ps.filterMap (hashEntry V)).map (·.1), hashes := (ps.filterMap (hashEntry V)).map (·.2),
    leafPos := (ps.filterMap (leafEntry V)).map (·.1), leafData := (ps.filterMap (leafEntry V)).map (·.2),
    proof := proof }

theorem prunedSeg_getHash (V : View α H) (id : Ident) (ps : List Nat) (proof : List H) (d : Nat) (x : H)
    (hd : d ∈ ps) (he : hashEntry V d = some (d, x)) :
    (prunedSeg V id ps proof).getHash d = .ok x := by
  unfold Segment.getHash prunedSeg
  simp only
  rw [← List.zip_of_prod rfl rfl,
    lookup_filterMap (hashEntry V) (fun p e h => (hashEntry_fst V p e h).1) d x he ps hd]

theorem prunedSeg_leaves (V : View α H) (id : Ident) (ps : List Nat) (proof : List H) :
    (prunedSeg V id ps proof).leafPos.zip (prunedSeg V id ps proof).leafData
      = ps.filterMap (leafEntry V) := (List.zip_of_prod rfl rfl).symm

theorem fromPmmrWith_prunable (hf : HashFn α H) (V : View α H) (id : Ident) (ps : List Nat)
    (first last : Nat)
    (hne : ¬ ((ps.filterMap (leafEntry V)).isEmpty = true ∧ (ps.filterMap (hashEntry V)).isEmpty = true))
    (proof : List H) (hgen : generate hf V (1 + first) (1 + last) none = .ok proof) :
    fromPmmrWith hf V id true ps first last = .ok (prunedSeg V id ps proof) := by
  unfold fromPmmrWith
  rw [fill_prunable]
  have : ((ps.filterMap (leafEntry V)).isEmpty && (ps.filterMap (hashEntry V)).isEmpty) = false :=
    Bool.eq_false_iff.2 fun h => hne (Bool.and_eq_true _ _ ▸ h)
  simp only [this, Bool.false_eq_true, if_false, hgen]
  rfl

/-- What a `ReadonlyPMMR` over a pruned / compacted backend answers, with the bitmap `b` of unspent
leaf indices (`N < 2^32` leaves: the bitmap is indexed by `u32`).  In (leaf-count, height)
coordinates the inner node `(n, k+1)` has the children `(n - 2^k, k)` and `(n, k)` and covers the
leaves `n + 1 - 2^(k+1) ..= n`.  `compacted`: a position is off file only strictly inside a
compacted subtree — if an inner node or one of its children is off file then both children are,
and no leaf below the node is marked unspent.  `data_compacted`: a leaf whose hash is off file has
its data off file too — `PMMRBackend::get_from_file` and `get_data_from_file`
(`store/src/pmmr.rs`) both start with `if self.is_compacted(pos0) { return None; }` and read the
file otherwise, so below the MMR size `get_from_file(pos0) = None` means `is_compacted(pos0)`, and
then `get_data_from_file(pos0) = None` (the converse of `data_of_file`; without it the record
admits a view that still answers the *data* of a compacted leaf, for which `from_pmmr` does not
take its "fully pruned segment" branch and fails: `pruned_view_needs_data_compacted`). -/
structure PrunedView (hf : HashFn α H) (f : Nat → α) (N : Nat) (b : Nat → Bool) (V : View α H) : Prop where
  size : V.size = mmr N
  small : N < 2 ^ 32
  file_genuine : ∀ q h, q < mmr N → V.fromFile q = some h → h = hAt hf f q
  data_genuine : ∀ q d, q < mmr N → height q = 0 → V.dataFromFile q = some d → d = dAt f q
  data_of_file : ∀ q, q < mmr N → height q = 0 → V.dataFromFile q = none → V.fromFile q = none
  data_compacted : ∀ q, q < mmr N → height q = 0 → V.fromFile q = none → V.dataFromFile q = none
  hash_inner : ∀ q, q < mmr N → height q ≠ 0 → V.hash q = V.fromFile q
  peaks_on_file : ∀ p ∈ peaks (mmr N), V.fromFile p ≠ none
  compacted : ∀ n k, k + 1 ≤ trailingOnes n → n < N →
    (V.fromFile (mmr n + (k + 1)) = none ∨ V.fromFile (mmr (n - 2 ^ k) + k) = none ∨
      V.fromFile (mmr n + k) = none) →
    V.fromFile (mmr (n - 2 ^ k) + k) = none ∧ V.fromFile (mmr n + k) = none ∧
      ∀ j, n + 1 - 2 ^ (k + 1) ≤ j → j ≤ n → b j = false

theorem PrunedView.file_eq {hf : HashFn α H} {f : Nat → α} {N : Nat} {b : Nat → Bool} {V : View α H}
    (pv : PrunedView hf f N b V) {q : Nat} (hq : q < mmr N) (hon : V.fromFile q ≠ none) :
    V.fromFile q = some (hAt hf f q) := by
  cases hx : V.fromFile q with
  | none => exact absurd hx hon
  | some x => rw [pv.file_genuine q x hq hx]

theorem PrunedView.compacted_up {hf : HashFn α H} {f : Nat → α} {N : Nat} {b : Nat → Bool} {V : View α H}
    (pv : PrunedView hf f N b V) (n j : Nat) (hlt : Co.up n (j + 1) < N)
    (h : V.fromFile (anc n (j + 1)) = none ∨
      V.fromFile (anc n j) = none ∨ V.fromFile (Co.cpos (Co.sibCo n j)) = none) :
    V.fromFile (anc n j) = none ∧ V.fromFile (Co.cpos (Co.sibCo n j)) = none ∧
      ∀ i, Co.up n (j + 1) + 1 - 2 ^ (j + 1) ≤ i → i ≤ Co.up n (j + 1) → b i = false := by
  have hc := pv.compacted (Co.up n (j + 1)) j (Co.up_valid n (j + 1)) hlt
  unfold anc at h ⊢
  cases hb : bitSet n j with
  | true =>
    -- right child: the sibling is the left child of the parent
    obtain ⟨hu, hs, _⟩ := Co.step_right hb
    rw [hs, ← hu] at h ⊢
    obtain ⟨hl, hr, hun⟩ := hc (by
      rcases h with h | h | h
      · exact Or.inl h
      · exact Or.inr (Or.inr h)
      · exact Or.inr (Or.inl h))
    exact ⟨hr, hl, hun⟩
  | false =>
    -- left child: the sibling is the right child of the parent
    obtain ⟨hu, hs, _⟩ := Co.step_left hb
    have e : Co.up n (j + 1) - 2 ^ j = Co.up n j := by omega
    rw [hs] at h ⊢
    rw [e] at hc
    obtain ⟨hl, hr, hun⟩ := hc (by
      rcases h with h | h | h
      · exact Or.inl h
      · exact Or.inr (Or.inl h)
      · exact Or.inr (Or.inr h))
    exact ⟨hl, hr, hun⟩

theorem required_leaf (b : Nat → Bool) (N j : Nat) (hj : j < N) (hN : N < 2 ^ 32) :
    required (some b) (mmr N) (mmr j) =
      (b j || b (if trailingOnes j = 0 then j + 1 else j - 1) || mmr j == mmr N - 1) := by
  have h1 : nLeaves (mmr j + 1) = j + 1 := Co.nLeaves_mmr_succ j
  have h2 : isLeftSibling (mmr j) = decide (0 = trailingOnes j) := by
    have := Co.isLeftSibling_co (n := j) (h := 0) (Nat.zero_le _)
    simpa using this
  have hm : mmr N ≤ 2 * N := by unfold mmr; omega
  have hm1 : 1 ≤ mmr N := by have := le_mmr N; omega
  have h3 : subW (mmr N) 1 = mmr N - 1 := subW_eq (by omega) hm1
  unfold required
  simp only [h1, h2, h3, Nat.add_sub_cancel]
  have e1 : j % 2 ^ 32 = j := Nat.mod_eq_of_lt (by omega)
  by_cases ht : trailingOnes j = 0
  · have e2 : (j + 1) % 2 ^ 32 = j + 1 := Nat.mod_eq_of_lt (by omega)
    simp [ht, e1, e2]
  · have e2 : (j - 1) % 2 ^ 32 = j - 1 := Nat.mod_eq_of_lt (by omega)
    have : ¬ (0 = trailingOnes j) := by omega
    simp [ht, this, e1, e2]

theorem required_pair (b : Nat → Bool) (N n : Nat) (hn : n < N) (hN : N < 2 ^ 32)
    (ht : 1 ≤ trailingOnes n) :
    required (some b) (mmr N) (mmr (n - 1)) = (b (n - 1) || b n) ∧
    required (some b) (mmr N) (mmr n) = (b (n - 1) || b n) := by
  have ls := Co.left_sibling_coord (show 0 < trailingOnes n from ht)
  have h2 := ls.le
  have h3 := ls.pos
  have h4 := ls.tail
  simp only [Nat.pow_zero] at h2 h3 h4
  have hlt : mmr n + 1 < mmr N := (Co.coord_lt_iff (show 1 ≤ trailingOnes n from ht)).2 hn
  rw [required_leaf b N (n - 1) (by omega) hN, required_leaf b N n hn hN]
  have e1 : (mmr (n - 1) == mmr N - 1) = false := by
    simp only [beq_eq_false_iff_ne, ne_eq]; omega
  have e2 : (mmr n == mmr N - 1) = false := by
    simp only [beq_eq_false_iff_ne, ne_eq]; omega
  have e3 : n - 1 + 1 = n := by omega
  have e4 : ¬ trailingOnes n = 0 := by omega
  simp only [h4, if_true, e1, e2, e3, e4, if_false, Bool.or_false]
  exact ⟨trivial, Bool.or_comm _ _⟩

theorem dead_of_unmarked (b : Nat → Bool) (N : Nat) (hN : N < 2 ^ 32) : ∀ (h n : Nat),
    1 ≤ h → h ≤ trailingOnes n → n < N → (∀ j, n + 1 - 2 ^ h ≤ j → j ≤ n → b j = false) →
    liveAt (some b) (mmr N) h (mmr n + h) = false := by
  intro h
  induction h with
  | zero => intro n h1; exact absurd h1 (by decide)
  | succ k ih =>
    intro n _ hv hn hb
    obtain ⟨eL, eR⟩ := children_co (show k < trailingOnes n from hv)
    have ls := Co.left_sibling_coord (show k < trailingOnes n from hv)
    have h1 := ls.valid
    have h2 := ls.le
    rw [liveAt, eL, eR]
    cases k with
    | zero =>
      obtain ⟨r1, r2⟩ := required_pair b N n hn hN hv
      rw [Nat.pow_zero] at h2
      simp only [liveAt, Nat.pow_zero, Nat.add_zero, r1, r2]
      rw [hb (n - 1) (by omega) (Nat.sub_le _ _), hb n (by omega) (Nat.le_refl n)]
      rfl
    | succ k =>
      -- the leaves below the left child, then those below the right child
      have e1 : n - 2 ^ (k + 1) + 1 - 2 ^ (k + 1) = n + 1 - 2 ^ (k + 1 + 1) := by
        have := Co.two_pow_succ (k + 1); omega
      rw [ih (n - 2 ^ (k + 1)) (Nat.le_add_left 1 k) h1 (Nat.lt_of_le_of_lt (Nat.sub_le _ _) hn)
          (fun j hj1 hj2 => hb j (e1 ▸ hj1) (Nat.le_trans hj2 (Nat.sub_le _ _))),
        ih n (Nat.le_add_left 1 k) (Nat.le_of_succ_le hv) hn
          (fun j hj1 hj2 => hb j (Nat.le_trans (Nat.sub_le_sub_left
            (Nat.pow_le_pow_right (by omega) (Nat.le_succ _)) _) hj1) hj2)]
      rfl

section Holds
variable {hf : HashFn α H} {f : Nat → α} {N : Nat} {b : Nat → Bool} {V : View α H}

theorem required_has_data (pv : PrunedView hf f N b V) (q : Nat) (hq : q < mmr N) (hl : height q = 0)
    (hr : required (some b) (mmr N) q = true) : V.dataFromFile q ≠ none := by
  intro hd
  have hfile := pv.data_of_file q hq hl hd
  obtain ⟨j, h, hh, rfl⟩ := Co.coord_surj q
  rw [Co.height_co j h hh] at hl
  subst hl
  simp only [Nat.add_zero] at hq hr hfile
  have hj : j < N := (Co.coord_lt_iff (Nat.zero_le _)).1 (by simpa using hq)
  by_cases ht : 1 ≤ trailingOnes j
  · -- right child of `(j, 1)`
    obtain ⟨_, _, hun⟩ := pv.compacted j 0 ht hj (Or.inr (Or.inr (by simpa using hfile)))
    obtain ⟨_, r2⟩ := required_pair b N j hj pv.small ht
    have hp := Co.two_pow_le_of_le_trailingOnes ht
    rw [r2, hun (j - 1) (by simp only [Nat.zero_add, Nat.pow_one]; omega) (by omega),
      hun j (by simp only [Nat.zero_add, Nat.pow_one]; omega) (Nat.le_refl j)] at hr
    cases hr
  · have ht0 : 0 = trailingOnes j := by omega
    by_cases hlast : j + 1 < N
    · -- left child of `(j + 1, 1)`
      obtain ⟨h1, _⟩ := Co.right_sibling_coord ht0
      simp only [Nat.pow_zero, Nat.zero_add] at h1
      have e : j + 1 - 2 ^ 0 = j := by simp
      obtain ⟨_, _, hun⟩ := pv.compacted (j + 1) 0 h1 hlast (Or.inr (Or.inl (by rw [e]; simpa using hfile)))
      obtain ⟨r1, _⟩ := required_pair b N (j + 1) hlast pv.small h1
      simp only [Nat.add_sub_cancel] at r1
      rw [r1, hun j (by simp only [Nat.zero_add, Nat.pow_one]; omega) (by omega),
        hun (j + 1) (by simp only [Nat.zero_add, Nat.pow_one]; omega) (Nat.le_refl _)] at hr
      cases hr
    · -- the lone last leaf is a peak
      have hN : N = j + 1 := by omega
      have hlp := Co.last_peak N (by omega)
      have hm : mmr N - 1 = mmr j := by rw [hN, mmr_succ]; omega
      rw [hm] at hlp
      exact pv.peaks_on_file (mmr j) (List.mem_of_getLast? hlp) hfile

theorem dead_child_on_file (pv : PrunedView hf f N b V) (p k : Nat) (hp : p < mmr N)
    (hh : height p = k + 1)
    (hne : liveAt (some b) (mmr N) k (p - 2 ^ (k + 1)) ≠ liveAt (some b) (mmr N) k (p - 1)) :
    1 ≤ k ∧ V.fromFile (p - 2 ^ (k + 1)) = some (hAt hf f (p - 2 ^ (k + 1))) ∧
      V.fromFile (p - 1) = some (hAt hf f (p - 1)) := by
  obtain ⟨n, hv, rfl, eR, eL, h1, _⟩ := Co.inner_co hh
  have hn : n < N := (Co.coord_lt_iff hv).1 hp
  rw [Co.two_pow_succ, eL, eR] at hne ⊢
  have hk : 1 ≤ k := by
    cases k with
    | succ k => exact Nat.le_add_left 1 k
    | zero =>
      -- two leaves are required together
      obtain ⟨r1, r2⟩ := required_pair b N n hn pv.small hv
      simp only [liveAt, Nat.pow_zero, Nat.add_zero] at hne
      exact absurd (r1.trans r2.symm) hne
  -- a child off file: the node is compacted, nothing below it is marked, both children are dead
  have hon : V.fromFile (mmr (n - 2 ^ k) + k) = none ∨ V.fromFile (mmr n + k) = none → False := by
    intro hoff
    obtain ⟨_, _, hun⟩ := pv.compacted n k hv hn (Or.inr hoff)
    have hd := dead_of_unmarked b N pv.small (k + 1) n (Nat.le_add_left 1 k) hv hn hun
    rw [liveAt, Co.two_pow_succ, eL, eR, Bool.or_eq_false_iff] at hd
    exact hne (hd.1.trans hd.2.symm)
  have hltL : mmr (n - 2 ^ k) + k < mmr N :=
    (Co.coord_lt_iff h1).2 (Nat.lt_of_le_of_lt (Nat.sub_le _ _) hn)
  have hltR : mmr n + k < mmr N := (Co.coord_lt_iff (Nat.le_of_succ_le hv)).2 hn
  exact ⟨hk, pv.file_eq hltL (fun h => hon (Or.inl h)), pv.file_eq hltR (fun h => hon (Or.inr h))⟩

theorem hashEntry_inner (V : View α H) (d : Nat) (x : H) (hd : height d ≠ 0) (hx : V.fromFile d = some x) :
    hashEntry V d = some (d, x) := by
  have hl : isLeaf d = false := by simp [isLeaf, hd]
  simp [hashEntry, leafEntry, hl, hx]

/-- the leaves that must be found in the segment's leaf list -/
def needOf (V : View α H) (ps : List Nat) (q : Nat) : Prop :=
  q ∈ ps ∧ height q = 0 ∧ V.dataFromFile q ≠ none

theorem pruned_holds (pv : PrunedView hf f N b V) (id : Ident) (ps : List Nat) (proof : List H)
    (hlt : ∀ q ∈ ps, q < mmr N) :
    Holds hf f (prunedSeg V id ps proof) (some b) (mmr N) (needOf V ps) ps where
  leaf := fun q hq hl hr => ⟨hq, hl, required_has_data pv q (hlt q hq) hl hr⟩
  left := by
    intro p k hh hsub hL hR
    obtain ⟨hl, _, hsplit⟩ := node_split p k hh
    obtain ⟨hk, hfl, _⟩ := dead_child_on_file pv p k (hlt p (hsub p (mem_treeRange_self hh))) hh
      (by rw [hL, hR]; simp)
    exact prunedSeg_getHash V id ps proof _ _
      (hsub _ (by rw [hsplit]; exact List.mem_append_left _ (List.mem_append_left _ (mem_treeRange_self hl))))
      (hashEntry_inner V _ _ (by rw [hl]; omega) hfl)
  right := by
    intro p k hh hsub hL hR
    obtain ⟨_, hr, hsplit⟩ := node_split p k hh
    obtain ⟨hk, _, hfr⟩ := dead_child_on_file pv p k (hlt p (hsub p (mem_treeRange_self hh))) hh
      (by rw [hL, hR]; simp)
    exact prunedSeg_getHash V id ps proof _ _
      (hsub _ (by rw [hsplit]; exact List.mem_append_left _ (List.mem_append_right _ (mem_treeRange_self hr))))
      (hashEntry_inner V _ _ (by rw [hr]; omega) hfr)

theorem pruned_iterInv (pv : PrunedView hf f N b V) (ps : List Nat) (hsorted : ps.Pairwise (· < ·))
    (hlt : ∀ p ∈ ps, p < mmr N) (lo : Nat) :
    IterInv f (needOf V ps) (ps.filterMap (leafEntry V)) lo where
  sorted := by
    apply List.Pairwise.filterMap (leafEntry V) _ hsorted
    intro a a' haa e he e' he'
    rw [(leafEntry_fst V a e he).1, (leafEntry_fst V a' e' he').1]
    exact haa
  genuine := by
    intro e he
    obtain ⟨p, hp, hpe⟩ := List.mem_filterMap.1 he
    obtain ⟨h1, h2, h3⟩ := leafEntry_fst V p e hpe
    rw [h1]
    exact pv.data_genuine p e.2 (hlt p hp) h2 h3
  has := by
    intro q _ hn
    obtain ⟨hq, hl, hd⟩ := hn
    cases hx : V.dataFromFile q with
    | none => exact absurd hx hd
    | some d =>
      have := pv.data_genuine q d (hlt q hq) hl hx
      subst this
      apply List.mem_filterMap.2
      refine ⟨q, hq, ?_⟩
      have : isLeaf q = true := by simp [isLeaf, hl]
      simp [leafEntry, this, hx]

end Holds

section Pruned
variable {hf : HashFn α H} {f : Nat → α} {N : Nat} {b : Nat → Bool} {V : View α H}

theorem branch_step (pv : PrunedView hf f N b V) {n k : Nat} {L R : List (Nat × Nat)}
    (c : Co.PeakCtx N n k L R) (j : Nat) (hj : j < k)
    (hon : V.fromFile (anc n j) ≠ none) :
    V.fromFile (anc n (j + 1)) ≠ none ∧ V.fromFile (Co.cpos (Co.sibCo n j)) ≠ none :=
  ⟨fun h => hon (pv.compacted_up n j (c.up_lt hj) (Or.inl h)).1,
    fun h => hon (pv.compacted_up n j (c.up_lt hj) (Or.inr (Or.inr h))).1⟩

theorem branch_on_file (pv : PrunedView hf f N b V) {n k : Nat} {L R : List (Nat × Nat)}
    (c : Co.PeakCtx N n k L R) (g : Nat) (hon : V.fromFile (anc n g) ≠ none) :
    ∀ d, g + d ≤ k → V.fromFile (anc n (g + d)) ≠ none := by
  intro d
  induction d with
  | zero => intro _; exact hon
  | succ d ih =>
    intro hle
    exact (branch_step pv c (g + d) (by omega) (ih (by omega))).1

theorem branch_sibs (pv : PrunedView hf f N b V) {n k : Nat} {L R : List (Nat × Nat)}
    (c : Co.PeakCtx N n k L R) (m : Nat) (hm : 1 ≤ m) (hon : V.fromFile (anc n m) ≠ none) :
    ∀ j, m ≤ j → j < k →
      V.hash (Co.cpos (Co.sibCo n j)) = some (hAt hf f (Co.cpos (Co.sibCo n j))) := by
  intro j hmj hjk
  obtain ⟨d, rfl⟩ := Nat.exists_eq_add_of_le hmj
  have hsib := (branch_step pv c (m + d) hjk (branch_on_file pv c m hon d (by omega))).2
  have hvalid := Co.sibCo_valid n (m + d)
  have hlt : Co.cpos (Co.sibCo n (m + d)) < mmr N := (Co.coord_lt_iff hvalid).2 (c.sib_lt hjk)
  have hh : height (Co.cpos (Co.sibCo n (m + d))) ≠ 0 := by
    rw [show height (Co.cpos (Co.sibCo n (m + d))) = _ from Co.height_co _ _ hvalid, Co.sibCo_snd]
    omega
  rw [pv.hash_inner _ hlt hh]
  exact pv.file_eq hlt hsib

theorem peak_height_pos (N p : Nat) (hp : p ∈ peaks (mmr N)) (hne : p ≠ mmr N - 1) : height p ≠ 0 := by
  rw [Co.peaks_forest] at hp
  obtain ⟨c, hc, rfl⟩ := List.mem_map.1 hp
  obtain ⟨h1, h2, h3⟩ := Co.forest_mem hc
  rw [show Co.cpos c = mmr c.1 + c.2 from rfl, Co.height_co c.1 c.2 (by omega)]
  intro h0
  apply hne
  rw [h0] at h3 h1
  have : N = c.1 + 1 := by simp at h3; omega
  simp only [Co.cpos, h0, Nat.add_zero]
  rw [this, mmr_succ]; omega

theorem peak_file (pv : PrunedView hf f N b V) (p : Nat) (hp : p ∈ peaks (mmr N)) :
    V.fromFile p = some (hAt hf f p) :=
  pv.file_eq (Co.peaks_lt_size hp) (pv.peaks_on_file p hp)

/-- a peak to the left of a position inside the MMR is not the last position, hence an inner node:
`get_hash` answers it from the file -/
theorem left_peak_hash (pv : PrunedView hf f N b V) (p first : Nat) (hp : p ∈ peaks (mmr N))
    (hlt : p < first) (hf1 : first < mmr N) : V.hash p = some (hAt hf f p) := by
  rw [pv.hash_inner p (Co.peaks_lt_size hp) (peak_height_pos N p hp (by omega))]
  exact peak_file pv p hp

end Pruned

section Assembly
variable {hf : HashFn α H} {f : Nat → α} {N : Nat} {b : Nat → Bool} {V : View α H}

theorem full_complete_pruned [DecidableEq H] (pv : PrunedView hf f N b V) (id : Ident)
    (v : FullId id (mmr N)) (hg : 1 ≤ id.height) (hon : V.fromFile (lastOf id) ≠ none) :
    ∃ proof r, fromPmmr hf V id true = .ok (prunedSeg V id (id.positions (mmr N)) proof) ∧
      rootOf hf f N = some r ∧
      (prunedSeg V id (id.positions (mmr N)) proof).root hf (mmr N) (some b)
        = .ok (entryAt hf f (some b) (mmr N) id.height (lastOf id)) ∧
      (prunedSeg V id (id.positions (mmr N)) proof).firstUnprunedParent hf (mmr N) (some b)
        = .ok (hAt hf f (lastOf id), 1 + lastOf id) ∧
      Accepts hf (prunedSeg V id (id.positions (mmr N)) proof) (mmr N) (some b) r := by
  have fit := v.toFit
  have hr := v.posRange
  have hsorted : (id.positions (mmr N)).Pairwise (· < ·) := List.pairwise_lt_range'
  have hlt := fit.positions_lt
  have hhl := height_lastOf id
  have hpos := full_positions id (mmr N) v
  have hlastmem : lastOf id ∈ id.positions (mmr N) := by rw [hpos]; exact mem_treeRange_self hhl
  obtain ⟨k, L, R, c⟩ := Co.exists_peakCtx (lastLeaf_lt id N v)
  obtain ⟨proof, r, hgen, hroot, hrec⟩ := branch_generate_reconstruct hf f N id V pv.size c
    id.height (Nat.le_refl _) (c.height_le (lastLeaf_valid id)) none (Or.inr ⟨rfl, rfl⟩)
    (branch_sibs pv c id.height hg (by rw [anc_lastLeaf]; exact hon))
    (fun p hp => peak_file pv p hp)
    (fun p hp hlt' => left_peak_hash pv p _ hp hlt' (Co.mmr_lt_mmr fit.lo))
  rw [anc_lastLeaf] at hrec
  -- the hash of the last position is among the collected ones
  have hentry : hashEntry V (lastOf id) = some (lastOf id, hAt hf f (lastOf id)) :=
    hashEntry_inner V _ _ (by rw [hhl]; omega) (pv.file_eq (hlt _ hlastmem) hon)
  have hfrom : fromPmmr hf V id true = .ok (prunedSeg V id (id.positions (mmr N)) proof) := by
    rw [fromPmmr_fit hf V id fit pv.size]
    apply fromPmmrWith_prunable hf V id _ _ _ _ proof (by rw [hr]; exact hgen)
    intro hc
    have hin := List.mem_filterMap.2 ⟨lastOf id, hlastmem, hentry⟩
    rw [List.isEmpty_iff.1 hc.2] at hin
    cases hin
  have hget := prunedSeg_getHash V id _ proof _ _ hlastmem hentry
  have hholds := pruned_holds pv id (id.positions (mmr N)) proof hlt
  have hinv := pruned_iterInv pv (id.positions (mmr N)) hsorted hlt (lastOf id + 2 - 2 ^ (id.height + 1))
  rw [← prunedSeg_leaves V id _ proof] at hinv
  have hid : (prunedSeg V id (id.positions (mmr N)) proof).id = id := rfl
  have hpr : (prunedSeg V id (id.positions (mmr N)) proof).proof = proof := rfl
  refine ⟨proof, r, hfrom, hroot, ?_⟩
  -- the segment becomes an opaque `S0`: `rw [hpos]` below has to rewrite the range arguments only,
  -- not the `id.positions (mmr N)` inside the `prunedSeg` record (same in `final_complete_pruned`)
  generalize prunedSeg V id (id.positions (mmr N)) proof = S0 at hholds hinv hget hid hpr ⊢
  have hrootS : S0.root hf (mmr N) (some b)
      = .ok (entryAt hf f (some b) (mmr N) id.height (lastOf id)) := by
    rw [root_full hf S0 (mmr N) (some b) (hid.symm ▸ v), hid]
    rw [hpos] at hholds hinv
    exact rootWith_tree_live hf f S0 (some b) (mmr N) _ _ id.height (lastOf id) hhl hholds
      (fun q hq => hq) hinv _
  have hfup : S0.firstUnprunedParent hf (mmr N) (some b)
      = .ok (hAt hf f (lastOf id), 1 + lastOf id) := by
    unfold Segment.firstUnprunedParent
    rw [hrootS, hid, hr]
    exact fupWith_entry hf f S0 b (mmr N) id.height (lastOf id) hget
  exact ⟨hrootS, hfup, validate_of_parts hf S0 (mmr N) (some b) (hAt hf f (lastOf id)) r
    (1 + lastOf id) [] hfup (by rw [hid, hr, hpr]; exact hrec)⟩

theorem cpos_mem_tiles {l : List (Nat × Nat)} (hv : ∀ c ∈ l, c.2 ≤ trailingOnes c.1)
    {c : Nat × Nat} (hc : c ∈ l) : Co.cpos c ∈ tiles l :=
  List.mem_flatMap.2 ⟨c, hc, mem_treeRange_self (Co.height_co c.1 c.2 (hv c hc))⟩

/-- the last position of the MMR is a peak on file: a range that contains it yields a leaf entry or
a hash entry, so `from_pmmr` does not take its "fully pruned segment" branch -/
theorem last_position_collected (pv : PrunedView hf f N b V) (hN : 0 < N) (ps : List Nat)
    (hin : mmr N - 1 ∈ ps) :
    ¬ ((ps.filterMap (leafEntry V)).isEmpty = true ∧ (ps.filterMap (hashEntry V)).isEmpty = true) := by
  have hlastfile := peak_file pv _ (List.mem_of_getLast? (Co.last_peak N hN))
  have hS : 1 ≤ mmr N := Nat.le_trans hN (le_mmr N)
  intro hc
  by_cases hh : height (mmr N - 1) = 0
  · cases hx : V.dataFromFile (mmr N - 1) with
    | none =>
      have := pv.data_of_file _ (by omega) hh hx
      rw [hlastfile] at this; cases this
    | some d =>
      have : (mmr N - 1, d) ∈ ps.filterMap (leafEntry V) :=
        List.mem_filterMap.2 ⟨_, hin, by
          have : isLeaf (mmr N - 1) = true := by simp [isLeaf, hh]
          simp [leafEntry, this, hx]⟩
      rw [List.isEmpty_iff.1 hc.1] at this
      cases this
  · have : (mmr N - 1, hAt hf f (mmr N - 1)) ∈ ps.filterMap (hashEntry V) :=
      List.mem_filterMap.2 ⟨_, hin, hashEntry_inner V _ _ hh hlastfile⟩
    rw [List.isEmpty_iff.1 hc.2] at this
    cases this

/-- a peak of height 0 is the lone last leaf, which is always required -/
theorem leaf_peak_live (b : Nat → Bool) (hN : N < 2 ^ 32) (c : Nat × Nat) (hc : c ∈ Co.forest N)
    (h0 : c.2 = 0) : liveAt (some b) (mmr N) c.2 (Co.cpos c) = true := by
  obtain ⟨_, h2, h3⟩ := Co.forest_mem hc
  have hc1 : c.1 + 1 = N := by rw [h0] at h3; simp at h3; omega
  rw [show Co.cpos c = mmr c.1 by simp [Co.cpos, h0], h0, liveAt, required_leaf b N c.1 h2 hN,
    show mmr c.1 = mmr N - 1 by rw [← hc1, mmr_succ]; omega]
  simp

theorem final_complete_pruned [DecidableEq H] (pv : PrunedView hf f N b V) (id : Ident)
    (v : FinalId id N) :
    ∃ proof r sr, fromPmmr hf V id true = .ok (prunedSeg V id (id.positions (mmr N)) proof) ∧
      rootOf hf f N = some r ∧ segRootOf hf f N id = some sr ∧
      (prunedSeg V id (id.positions (mmr N)) proof).root hf (mmr N) (some b) = .ok (some sr) ∧
      Accepts hf (prunedSeg V id (id.positions (mmr N)) proof) (mmr N) (some b) r := by
  have fit := v.toFit
  have hr := v.posRange
  obtain ⟨Lh, hL, _⟩ := final_forest id N v
  have hfl := v.leaves_lt
  have hsorted : (id.positions (mmr N)).Pairwise (· < ·) := List.pairwise_lt_range'
  have hlt := fit.positions_lt
  have hposT := final_positions id N v
  have hmm := final_trees_mem id N v
  have hvalid : ∀ c ∈ Co.forestFrom id.height (id.idx * 2 ^ id.height) (finalLeaves id N),
      c.2 ≤ trailingOnes c.1 := fun c hc => Nat.le_of_eq (hmm c hc).1
  cases hb : bag hf (mmr N) ((Co.forestFrom id.height (id.idx * 2 ^ id.height) (finalLeaves id N)).map
      (Co.nh hf f)) with
  | none => exact absurd hb (Co.bag_ne_none hf (mmr N) _ (by simpa using final_forest_ne_nil id N v))
  | some sr =>
  obtain ⟨proof, r, hgen, hroot, hrec⟩ := final_generate_reconstruct hf f N id v V pv.size
    (fun p hp hlt' => left_peak_hash pv p _ hp hlt' (Co.mmr_lt_mmr v.lo)) sr hb
  have hin : mmr N - 1 ∈ id.positions (mmr N) := by
    rw [mem_positions_iff, hr]
    exact ⟨by have := Co.mmr_lt_mmr v.lo; simp only; omega, Nat.le_refl _⟩
  have hfrom : fromPmmr hf V id true = .ok (prunedSeg V id (id.positions (mmr N)) proof) := by
    rw [fromPmmr_fit hf V id fit pv.size]
    exact fromPmmrWith_prunable hf V id _ _ _
      (last_position_collected pv (Nat.zero_lt_of_lt v.lo) _ hin) proof (by rw [hr]; exact hgen)
  -- a dead peak inside is not a leaf (the lone last leaf is required) and its hash was collected
  have hdead : ∀ c ∈ Co.forestFrom id.height (id.idx * 2 ^ id.height) (finalLeaves id N),
      liveAt (some b) (mmr N) c.2 (Co.cpos c) = false →
      (some b).isSome = true ∧
        (prunedSeg V id (id.positions (mmr N)) proof).getHash (Co.cpos c) = .ok (Co.nh hf f c) := by
    intro c hc hdead
    have hcf : c ∈ Co.forest N := by rw [hL]; exact List.mem_append_right _ hc
    have hcp : Co.cpos c ∈ peaks (mmr N) := by
      rw [Co.peaks_forest]; exact List.mem_map.2 ⟨c, hcf, rfl⟩
    have hc2 : c.2 ≠ 0 := fun h0 => by
      rw [leaf_peak_live b pv.small c hcf h0] at hdead
      cases hdead
    refine ⟨rfl, prunedSeg_getHash V id _ proof _ _ (by rw [hposT]; exact cpos_mem_tiles hvalid hc)
      (hashEntry_inner V _ _ ?_ ?_)⟩
    · rw [show height (Co.cpos c) = _ from Co.height_co c.1 c.2 (hvalid c hc)]; exact hc2
    · rw [peak_file pv _ hcp, hAt_cpos hf f c (hvalid c hc)]
  have hholds := pruned_holds pv id (id.positions (mmr N)) proof hlt
  have hinv := pruned_iterInv pv (id.positions (mmr N)) hsorted hlt (mmr (id.idx * 2 ^ id.height))
  rw [← prunedSeg_leaves V id _ proof] at hinv
  have hid : (prunedSeg V id (id.positions (mmr N)) proof).id = id := rfl
  have hpr : (prunedSeg V id (id.positions (mmr N)) proof).proof = proof := rfl
  have hsr : segRootOf hf f N id = some sr := by rw [segRootOf_final hf f v]; exact hb
  refine ⟨proof, r, sr, hfrom, hroot, hsr, ?_⟩
  generalize prunedSeg V id (id.positions (mmr N)) proof = S0 at hholds hinv hdead hid hpr ⊢
  have hrootS : S0.root hf (mmr N) (some b) = .ok (some sr) := by
    rw [root_final hf S0 N (some b) (hid.symm ▸ v), hid]
    rw [hposT] at hholds hinv
    exact rootWith_tiles_live hf f S0 (some b) (mmr N) _ _ _ hvalid _ _ hholds
      (forestFrom_tiles id.height id.idx (finalLeaves id N) hfl).symm (fun q hq => hq) hinv hdead sr hb
  have hfup := fup_of_root_some hf S0 (mmr N) (some b) sr hrootS
  exact ⟨hrootS, validate_of_parts hf S0 (mmr N) (some b) sr r _ [] hfup
    (by rw [hid, hr, hpr]; exact hrec)⟩

end Assembly

theorem complete_pruned (hf : HashFn α H) [DecidableEq H] (f : Nat → α) (N : Nat) (b : Nat → Bool)
    (V : View α H) (pv : PrunedView hf f N b V) (id : Ident) (fit : FitId id N) (hg : 1 ≤ id.height)
    (hon : FullId id (mmr N) → V.fromFile (lastOf id) ≠ none) :
    ∃ s r, fromPmmr hf V id true = .ok s ∧ rootOf hf f N = some r ∧ s.id = id ∧
      Accepts hf s (mmr N) (some b) r := by
  rcases fit_cases id N fit with h | h
  · obtain ⟨proof, r, h1, h2, _, _, h5⟩ := full_complete_pruned pv id h hg (hon h)
    exact ⟨_, r, h1, h2, rfl, h5⟩
  · obtain ⟨proof, r, sr, h1, h2, _, _, h5⟩ := final_complete_pruned pv id h
    exact ⟨_, r, h1, h2, rfl, h5⟩

end GV.Seg
