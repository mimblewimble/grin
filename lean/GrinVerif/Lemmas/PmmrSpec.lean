import GrinVerif.Spec.Mmr
import GrinVerif.Lemmas.PmmrTree
import GrinVerif.Lemmas.PmmrPeaks
/-! The defining construction (`Spec/Mmr.lean`: stack of peaks + position counter) in `(n, h)`
coordinates: after `N` appends its counter is `mmr N`, its output is `allHashes N`, its stack is the
forest of `N`, lowest tree first (C07).  Core Lean only. -/
namespace GV.Pmmr.Co
open GV GV.Pmmr GV.Spec.Mmr

variable {α H : Type}

/-- hash of the node with coordinates `c` -/
@[reducible] def nh (hf : HashFn α H) (f : Nat → α) (c : Nat × Nat) : H := nodeHash hf f c.1 c.2

/-- the spec's stack entry for the tree with coordinates `c` -/
def peakOf (hf : HashFn α H) (f : Nat → α) (c : Nat × Nat) : Peak H :=
  ⟨c.2, cpos c, nodeHash hf f c.1 c.2⟩

/-- bit `j` of `N` is clear (`N = (2a)·2^j + (2^j - 1)`): the stack top is higher than `j`, the merge
loop of `append` stops -/
theorem carry_stop (hf : HashFn α H) (f : Nat → α) (N j a : Nat) (hN : N = (2*a) * 2^j + (2^j - 1)) :
    carry hf ⟨j, mmr N + j, nodeHash hf f N j⟩ ((stackOf (2*a) j).map (peakOf hf f))
        (mmr N + j + 1) (allHashes hf f N ++ (List.range (j+1)).map (nodeHash hf f N))
      = ⟨mmr (N+1), (stackOf (N+1) 0).map (peakOf hf f), allHashes hf f (N+1)⟩ := by
  have ht : trailingOnes N = j := by rw [hN, trailingOnes_of_form, trailingOnes_two_mul]; rfl
  have hnext : mmr N + j + 1 = mmr (N+1) := by rw [mmr_succ, ht, Nat.add_right_comm]
  have hout : allHashes hf f N ++ (List.range (j+1)).map (nodeHash hf f N) = allHashes hf f (N+1) := by
    rw [allHashes, emitted, ht]
  have hstack : stackOf (N+1) 0 = (N, j) :: stackOf a (j+1) := by
    have e : N + 1 = (2*a+1) * 2^j := by
      rw [hN, Nat.add_one_mul (2*a), Nat.add_assoc, Nat.sub_add_cancel (Nat.two_pow_pos j)]
    rw [e, stackOf_mul_pow, Nat.zero_add, stackOf_odd, ← e]
    rfl
  rw [hnext, hout, hstack, stackOf_even]
  cases hT : stackOf a (j+1) with
  | nil => rfl
  | cons c rest =>
    have hge := stackOf_height_ge a (j+1) c (by rw [hT]; exact List.mem_cons_self ..)
    have hne : ¬ c.2 = j := Nat.ne_of_gt hge
    simp [carry, peakOf, cpos, hne]

/-- the merge loop of `append` for leaf `N` at height `j`; `b` holds the bits of `N` from `j` on -/
theorem carry_coord (hf : HashFn α H) (f : Nat → α) (N b : Nat) :
    ∀ j, N = b * 2^j + (2^j - 1) →
      carry hf ⟨j, mmr N + j, nodeHash hf f N j⟩ ((stackOf b j).map (peakOf hf f))
          (mmr N + j + 1) (allHashes hf f N ++ (List.range (j+1)).map (nodeHash hf f N))
        = ⟨mmr (N+1), (stackOf (N+1) 0).map (peakOf hf f), allHashes hf f (N+1)⟩ := by
  induction b using binary_induction with
  | zero => intro j hN; exact carry_stop hf f N j 0 hN
  | even a _ _ => intro j hN; exact carry_stop hf f N j a hN
  | odd a ih =>
    intro j hN
    have hl : (2*a+1) * 2^j - 1 = N - 2^j := by
      rw [hN, (sibling_pair a j).1, Nat.add_sub_cancel, Nat.add_one_mul, Nat.add_sub_assoc (Nat.two_pow_pos j)]
    rw [stackOf_odd, hl]
    simp only [List.map_cons, carry, peakOf, if_true]
    rw [show hf.node (mmr N + j + 1) (nodeHash hf f (N - 2^j) j) (nodeHash hf f N j)
        = nodeHash hf f N (j+1) from rfl, List.append_assoc, map_range_succ]
    exact ih (j+1) (by rw [hN, form_succ_odd])

theorem append_coord (hf : HashFn α H) (f : Nat → α) (N : Nat) :
    append hf ⟨mmr N, (stackOf N 0).map (peakOf hf f), allHashes hf f N⟩ (f N)
      = ⟨mmr (N+1), (stackOf (N+1) 0).map (peakOf hf f), allHashes hf f (N+1)⟩ := by
  have := carry_coord hf f N N 0 (by simp)
  simpa [append, nodeHash] using this

theorem build_coord (hf : HashFn α H) (f : Nat → α) (N : Nat) :
    build hf ((List.range N).map f) = ⟨mmr N, (stackOf N 0).map (peakOf hf f), allHashes hf f N⟩ := by
  induction N with
  | zero => simp [build, mmr_zero, stackOf_zero, allHashes]
  | succ N ih =>
    have : build hf ((List.range (N+1)).map f) = append hf (build hf ((List.range N).map f)) (f N) := by
      simp [build, List.range_succ, List.foldl_append]
    rw [this, ih, append_coord]

theorem spec_hashes (hf : HashFn α H) (f : Nat → α) (N : Nat) :
    hashes hf ((List.range N).map f) = allHashes hf f N := by
  simp [hashes, build_coord]

theorem spec_size (hf : HashFn α H) (f : Nat → α) (N : Nat) :
    size hf ((List.range N).map f) = mmr N := by
  simp [size, build_coord]

theorem spec_peakPositions (hf : HashFn α H) (f : Nat → α) (N : Nat) :
    peakPositions hf ((List.range N).map f) = (forest N).map cpos := by
  simp only [peakPositions, build_coord, ← forest_reverse, ← List.map_reverse, List.reverse_reverse,
    List.map_map]
  rfl

theorem spec_peakHashes (hf : HashFn α H) (f : Nat → α) (N : Nat) :
    Spec.Mmr.peakHashes hf ((List.range N).map f) = (forest N).map (nh hf f) := by
  simp only [Spec.Mmr.peakHashes, build_coord, ← forest_reverse, ← List.map_reverse, List.reverse_reverse,
    List.map_map]
  rfl

theorem bag_eq_bagRightToLeft (hf : HashFn α H) (size : Nat) (l : List H) :
    bag hf size l = bagRightToLeft hf size l.reverse := by
  rcases List.eq_nil_or_concat l with rfl | ⟨l', r, rfl⟩
  · rfl
  · rw [List.concat_eq_append, bag_append_cons]
    simp [bagRightToLeft, bagNE]

theorem spec_root (hf : HashFn α H) (f : Nat → α) (N : Nat) :
    Spec.Mmr.root hf ((List.range N).map f)
      = bag hf (mmr N) ((forest N).map (nh hf f)) := by
  rw [bag_eq_bagRightToLeft, Spec.Mmr.root, spec_size, build_coord, ← List.map_reverse, forest_reverse]
  simp only [List.map_map]
  rfl

theorem filterMap_forest (hf : HashFn α H) (f : Nat → α) (N : Nat) (l : List (Nat × Nat))
    (hl : ∀ c ∈ l, c.2 ≤ trailingOnes c.1 ∧ c.1 < N) :
    (l.map cpos).filterMap (fun p => (allHashes hf f N)[p]?) = l.map (nh hf f) := by
  induction l with
  | nil => rfl
  | cons c l ih =>
    have hc := hl c (List.mem_cons_self ..)
    have := allHashes_getElem? hf f N c.1 c.2 hc.2 hc.1
    simp only [List.map_cons, List.filterMap_cons, cpos, this]
    congr 1
    exact ih (fun d hd => hl d (List.mem_cons_of_mem _ hd))

theorem peakHashes_allHashes (hf : HashFn α H) (f : Nat → α) (N : Nat) :
    Pmmr.peakHashes (allHashes hf f N) = (forest N).map (nh hf f) := by
  rw [Pmmr.peakHashes, allHashes_length, peaks_forest]
  exact filterMap_forest hf f N (forest N) forest_valid

theorem spec_root_some (hf : HashFn α H) (f : Nat → α) {N : Nat} (hN : 0 < N) :
    ∃ r, Spec.Mmr.root hf ((List.range N).map f) = some r := by
  rw [spec_root]
  exact Option.ne_none_iff_exists'.1
    (bag_ne_none hf (mmr N) _ (by simpa using forest_ne_nil hN))

theorem root_allHashes (hf : HashFn α H) (f : Nat → α) (N : Nat) :
    Pmmr.root hf (allHashes hf f N) =
      match Spec.Mmr.root hf ((List.range N).map f) with
      | none => .zero
      | some r => .ok r := by
  rcases Nat.eq_zero_or_pos N with rfl | hN
  · rfl
  · obtain ⟨r, hr⟩ := spec_root_some hf f hN
    have hpos : mmr N ≠ 0 := Nat.ne_of_gt (Nat.lt_of_lt_of_le hN (le_mmr N))
    rw [hr, Pmmr.root, peakHashes_allHashes, allHashes_length, if_neg hpos, ← spec_root, hr]

theorem hashes_length (hf : HashFn α H) (xs : List α) : (hashes hf xs).length = mmr xs.length := by
  induction xs using list_fn_cases with
  | nil => simp [hashes, build, mmr_zero]
  | fn N f => rw [spec_hashes, allHashes_length]; simp

theorem pushAll_hashes (hf : HashFn α H) (xs : List α) (hb : xs.length ≤ 2^65) :
    pushAll hf [] xs = some (hashes hf xs) := by
  revert hb
  induction xs using list_fn_cases with
  | nil => intro _; rfl
  | fn N f => intro hb; rw [spec_hashes]; exact pushAll_range hf f N (by simpa using hb)

theorem hashes_take (hf : HashFn α H) (xs : List α) (k : Nat) (hk : k ≤ xs.length) :
    (hashes hf xs).take (mmr k) = hashes hf (xs.take k) := by
  revert hk
  induction xs using list_fn_cases with
  | nil => intro hk; rw [Nat.le_zero.1 hk]; simp [hashes, build]
  | fn N f =>
    intro hk
    rw [List.length_map, List.length_range] at hk
    have ht : ((List.range N).map f).take k = (List.range k).map f := by
      rw [← List.map_take, List.take_range, Nat.min_eq_left hk]
    rw [ht, spec_hashes, spec_hashes, ← allHashes_length hf f k]
    exact (List.prefix_iff_eq_take.1 (allHashes_prefix hf f hk)).symm

theorem peakHashes_hashes (hf : HashFn α H) (xs : List α) :
    Pmmr.peakHashes (hashes hf xs) = Spec.Mmr.peakHashes hf xs := by
  induction xs using list_fn_cases with
  | nil => rfl
  | fn N f => rw [spec_hashes, spec_peakHashes]; exact peakHashes_allHashes hf f N

theorem root_hashes (hf : HashFn α H) (xs : List α) :
    Pmmr.root hf (hashes hf xs) = match Spec.Mmr.root hf xs with
      | none => .zero
      | some r => .ok r := by
  induction xs using list_fn_cases with
  | nil => rfl
  | fn N f => rw [spec_hashes]; exact root_allHashes hf f N

theorem validate_hashes [DecidableEq H] (hf : HashFn α H) (xs : List α) :
    validate hf (hashes hf xs) = true := by
  induction xs using list_fn_cases with
  | nil => rfl
  | fn N f => rw [spec_hashes]; exact validate_allHashes hf f N

end GV.Pmmr.Co
