import GrinVerif.Model.Crash
import GrinVerif.Lemmas.CrashBasic
import GrinVerif.Lemmas.CrashRecover
import GrinVerif.Lemmas.UtilList
/-! The unspent set along a path, at the level of membership: it is duplicate-free; spending removes exactly
the leaves the spent index records; and **rewinding with the spent index is exact**: for a leaf created on the prefix `Q` of `Q ++ R`,
`l ∈ unspentOf Q ↔ l ∈ unspentOf (Q ++ R) ∨ l ∈ undo Q R`. -/
namespace GV.Crash

/-- well-formed blocks: no block lists an output or an input twice -/
structure BlocksWF (P : List BlkInfo) : Prop where
  outs : ∀ x ∈ P, x.outs.Nodup
  ins : ∀ x ∈ P, x.ins.Nodup

theorem BlocksWF.of_append_left {P Q : List BlkInfo} (h : BlocksWF (P ++ Q)) : BlocksWF P :=
  ⟨fun x hx => h.outs x (List.mem_append_left _ hx), fun x hx => h.ins x (List.mem_append_left _ hx)⟩

/-- distinct block ids and duplicate-free output lists: every leaf is created once -/
theorem leavesOf_nodup (P : List BlkInfo) (hid : (P.map (·.id)).Nodup) (ho : ∀ x ∈ P, x.outs.Nodup) :
    (leavesOf P).Nodup := by
  induction P with
  | nil => simp [leavesOf]
  | cons x P ih =>
    rw [leavesOf_cons, List.nodup_append]
    rw [List.map_cons, List.nodup_cons] at hid
    refine ⟨nodup_map_pair _ _ (ho x (by simp)), ih hid.2 (fun y hy => ho y (by simp [hy])), ?_⟩
    intro a ha c hc hac
    subst hac
    obtain ⟨y, hy, h1, _⟩ := (mem_leavesOf P a).1 hc
    have : a.1 = x.id := by
      simp only [List.mem_map] at ha
      obtain ⟨o, _, rfl⟩ := ha; rfl
    apply hid.1
    rw [List.mem_map]
    exact ⟨y, hy, by rw [h1, this]⟩

theorem pathOf_leaves_nodup {tbl : List BlkInfo} {fuel tip : Nat} {P : List BlkInfo}
    (h : pathOf tbl fuel tip [] = some P) (ho : ∀ x ∈ P, x.outs.Nodup) : (leavesOf P).Nodup :=
  leavesOf_nodup P (pathOf_ids_nodup tbl fuel tip P h) ho

theorem leavesOf_disjoint_of_nodup (P Q : List BlkInfo) (h : (leavesOf (P ++ Q)).Nodup) (l : Leaf)
    (h1 : l ∈ leavesOf P) (h2 : l ∈ leavesOf Q) : False := by
  rw [leavesOf_append, List.nodup_append] at h
  exact h.2.2 l h1 l h2 rfl

theorem unspentOf_nodup (P : List BlkInfo) (h : (leavesOf P).Nodup) : (unspentOf P).Nodup :=
  (unspentOf_sublist P).nodup h

/-- a leaf created on `Q` that is not unspent at `Q` is not unspent at any extension of `Q`
(created once, so it never comes back) -/
theorem not_unspent_later (Q R : List BlkInfo) (hn : (leavesOf (Q ++ R)).Nodup) (l : Leaf)
    (hl : l ∈ leavesOf Q) (hu : l ∉ unspentOf Q) : l ∉ unspentOf (Q ++ R) := by
  intro h
  rw [unspentOf_append] at h
  rcases foldl_applyU_subset R _ l h with h' | h'
  · exact hu h'
  · exact leavesOf_disjoint_of_nodup Q R hn l hl h'

/-- … so a leaf created on `Q` that is unspent at an extension of `Q` is unspent at `Q` -/
theorem unspent_of_unspent_later (Q R : List BlkInfo) (hn : (leavesOf (Q ++ R)).Nodup) (l : Leaf)
    (hl : l ∈ unspentOf (Q ++ R)) (hlQ : l ∈ leavesOf Q) : l ∈ unspentOf Q :=
  Classical.byContradiction fun hnot => not_unspent_later Q R hn l hlQ hnot hl

theorem find?_reverse_erase (u : List Leaf) (hu : u.Nodup) (l0 : Leaf) (o : Nat) (h : l0.2 ≠ o) :
    (u.erase l0).reverse.find? (·.2 == o) = u.reverse.find? (·.2 == o) := by
  rw [hu.erase_eq_filter, ← List.filter_reverse]
  apply find?_filter_of_imp
  intro x hx
  have : x.2 = o := by simpa using hx
  simp only [bne_iff_ne, ne_eq]
  intro hxl
  rw [hxl] at this
  exact h this

theorem spentLeaves_subset (u : List Leaf) (b : BlkInfo) : ∀ l ∈ spentLeaves u b, l ∈ u := by
  intro l hl
  simp only [spentLeaves, List.mem_filterMap] at hl
  obtain ⟨o, _, ho⟩ := hl
  have := List.mem_of_find?_eq_some ho
  simpa using this

/-- list form of `spentLeaves`, for induction over the input list -/
def resolveAll (u : List Leaf) (ins : List Nat) : List Leaf :=
  ins.filterMap fun o => u.reverse.find? (·.2 == o)

theorem spentLeaves_eq (u : List Leaf) (b : BlkInfo) : spentLeaves u b = resolveAll u b.ins := rfl

/-- with pairwise distinct inputs, sequential spending removes exactly the leaves the inputs
resolve to in the state the block is applied to (what the spent index records) -/
theorem mem_foldl_spendOne (ins : List Nat) : ∀ (u : List Leaf), u.Nodup → ins.Nodup → ∀ l,
    (l ∈ ins.foldl spendOne u ↔ l ∈ u ∧ l ∉ resolveAll u ins) := by
  induction ins with
  | nil => intro u _ _ l; simp [resolveAll]
  | cons o os ih =>
    intro u hu hins l
    rw [List.nodup_cons] at hins
    rw [List.foldl_cons]
    cases hf : u.reverse.find? (·.2 == o) with
    | none =>
      have e : spendOne u o = u := by simp [spendOne, hf]
      rw [e, ih u hu hins.2 l]
      simp [resolveAll, hf]
    | some l0 =>
      have e : spendOne u o = u.erase l0 := by simp [spendOne, hf]
      have hl0 : l0.2 = o := by simpa using List.find?_some hf
      have hu' : (u.erase l0).Nodup := List.Sublist.nodup List.erase_sublist hu
      rw [e, ih (u.erase l0) hu' hins.2 l]
      have hres : resolveAll (u.erase l0) os = resolveAll u os := by
        simp only [resolveAll]
        apply filterMap_congr_mem
        intro o' ho'
        apply find?_reverse_erase u hu l0 o'
        rw [hl0]; intro h; rw [h] at hins; exact hins.1 ho'
      rw [hres, hu.mem_erase_iff]
      have e2 : resolveAll u (o :: os) = l0 :: resolveAll u os := by
        simp [resolveAll, hf]
      rw [e2, List.mem_cons]
      constructor
      · rintro ⟨⟨h1, h2⟩, h3⟩; exact ⟨h2, fun h => h.elim h1 h3⟩
      · rintro ⟨h1, h2⟩; exact ⟨⟨fun h => h2 (Or.inl h), h1⟩, fun h => h2 (Or.inr h)⟩

theorem mem_applyU (u : List Leaf) (x : BlkInfo) (hu : u.Nodup) (hi : x.ins.Nodup) (l : Leaf) :
    l ∈ applyU u x ↔ (l ∈ u ∧ l ∉ spentLeaves u x) ∨ l ∈ x.outs.map (fun o => (x.id, o)) := by
  unfold applyU
  rw [List.mem_append, mem_foldl_spendOne x.ins u hu hi l, spentLeaves_eq]

/-- one block, for a leaf that the block does not create: unspent before ⟺ unspent after or
recorded as spent by the block -/
theorem applyU_rewind_one (u : List Leaf) (x : BlkInfo) (hu : u.Nodup) (hi : x.ins.Nodup) (l : Leaf)
    (hnew : l ∉ x.outs.map (fun o => (x.id, o))) :
    (l ∈ u ↔ l ∈ applyU u x ∨ l ∈ spentLeaves u x) := by
  rw [mem_applyU u x hu hi]
  constructor
  · intro h
    by_cases hs : l ∈ spentLeaves u x
    · exact Or.inr hs
    · exact Or.inl (Or.inl ⟨h, hs⟩)
  · rintro ((⟨h, _⟩ | h) | h)
    · exact h
    · exact absurd h hnew
    · exact spentLeaves_subset u x l h

theorem spent_not_in_applyU (u : List Leaf) (x : BlkInfo) (hu : u.Nodup) (hi : x.ins.Nodup) (l : Leaf)
    (hnew : l ∉ x.outs.map (fun o => (x.id, o))) (hs : l ∈ spentLeaves u x) : l ∉ applyU u x := by
  rw [mem_applyU u x hu hi]
  rintro (⟨_, h⟩ | h)
  · exact h hs
  · exact hnew h

/-- one block `x` on top of `Q`, for a leaf created on `Q`: the unspent set at `Q` has no duplicates
and `x` does not create the leaf -/
theorem nodup_step (Q R : List BlkInfo) (x : BlkInfo) (hn : (leavesOf (Q ++ x :: R)).Nodup) (l : Leaf)
    (hlQ : l ∈ leavesOf Q) : (unspentOf Q).Nodup ∧ l ∉ x.outs.map (fun o => (x.id, o)) := by
  have hnQx : (leavesOf (Q ++ [x])).Nodup := leavesOf_nodup_left (List.append_cons .. ▸ hn)
  exact ⟨unspentOf_nodup Q (leavesOf_nodup_left hnQx),
    fun h => leavesOf_disjoint_of_nodup Q [x] hnQx l hlQ (by rw [leavesOf_single]; exact h)⟩

theorem undo_not_unspent : ∀ (R Q : List BlkInfo), (leavesOf (Q ++ R)).Nodup → BlocksWF (Q ++ R) →
    ∀ l, l ∈ undo Q R → l ∉ unspentOf (Q ++ R) := by
  intro R
  induction R with
  | nil => intro Q _ _ l hl; simp [undo] at hl
  | cons x R ih =>
    intro Q hn hw l hl
    have eqr : Q ++ x :: R = (Q ++ [x]) ++ R := List.append_cons ..
    simp only [undo, List.mem_append] at hl
    rcases hl with hl | hl
    · rw [eqr]; exact ih (Q ++ [x]) (by rw [← eqr]; exact hn) (by rw [← eqr]; exact hw) l hl
    · -- l is spent by x in state unspentOf Q
      have hlQ : l ∈ leavesOf Q := unspentOf_subset_leaves Q l (spentLeaves_subset _ _ l hl)
      obtain ⟨hu, hnew⟩ := nodup_step Q R x hn l hlQ
      have h1 : l ∉ unspentOf (Q ++ [x]) := by
        rw [unspentOf_snoc]
        exact spent_not_in_applyU _ x hu (hw.ins x (by simp)) l hnew hl
      rw [eqr]
      apply not_unspent_later (Q ++ [x]) R (by rw [← eqr]; exact hn) l _ h1
      rw [leavesOf_append]; exact List.mem_append_left _ hlQ

/-- **Rewinding with the spent index is exact.** For a leaf created on `Q`: it is unspent at `Q`
iff it is unspent at `Q ++ R` or the spent index of one of the blocks of `R` lists it. -/
theorem rewind_exact : ∀ (R Q : List BlkInfo), (leavesOf (Q ++ R)).Nodup → BlocksWF (Q ++ R) →
    ∀ l, l ∈ leavesOf Q → (l ∈ unspentOf Q ↔ (l ∈ unspentOf (Q ++ R) ∨ l ∈ undo Q R)) := by
  intro R
  induction R with
  | nil => intro Q _ _ l _; simp [undo]
  | cons x R ih =>
    intro Q hn hw l hlQ
    have eqr : Q ++ x :: R = (Q ++ [x]) ++ R := List.append_cons ..
    obtain ⟨hu, hnew⟩ := nodup_step Q R x hn l hlQ
    have step := applyU_rewind_one (unspentOf Q) x hu (hw.ins x (by simp)) l hnew
    rw [← unspentOf_snoc] at step
    have hlQx : l ∈ leavesOf (Q ++ [x]) := by rw [leavesOf_append]; exact List.mem_append_left _ hlQ
    have := ih (Q ++ [x]) (by rw [← eqr]; exact hn) (by rw [← eqr]; exact hw) l hlQx
    rw [step, this, eqr]
    simp only [undo, List.mem_append, or_assoc]

end GV.Crash
