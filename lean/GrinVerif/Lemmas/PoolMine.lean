import GrinVerif.Lemmas.PoolInv
/-! The mineable set and the block built from it: `Pool::validate_raw_txs` never fails and is the greedy pass
"aggregates and validates with `extra` and those kept so far"; the block assembled from a set that passed
`validate_raw_tx` (`mkBlock`: aggregate plus coinbase) is accepted by the chain model (`GV.Chain.validateBody`,
`GV.Chain.applyBlock`), under the side conditions `reconcile` does not re-check (lock heights, coinbase
maturity) and for sets without NRD kernels. -/
namespace GV.Pool

theorem validateRawTxs_eq_greedy (c : Ctx) (w : Weighting) (extra : Option Tx) (txs valid : List Tx) :
    validateRawTxs c w extra txs valid =
      .ok (greedy (fun valid t => match aggregate (extra.toList ++ valid ++ [t]) with
        | .error _ => false
        | .ok a => (validateRawTx c w a).isNone) txs valid) := by
  induction txs generalizing valid with
  | nil => rfl
  | cons t rest ih =>
    rw [validateRawTxs, greedy_cons]
    cases aggregate (extra.toList ++ valid ++ [t]) with
    | error e => exact ih valid
    | ok a =>
      cases h : validateRawTx c w a with
      | none => simpa [h] using ih (valid ++ [t])
      | some e => simpa [h] using ih valid

theorem validateRawTxs_spec (c : Ctx) (w : Weighting) (extra : Option Tx) (txs valid res : List Tx)
    (hv : SetOK c w extra valid) (h : validateRawTxs c w extra txs valid = .ok res) :
    SetOK c w extra res ∧ ∀ t ∈ res, t ∈ valid ∨ t ∈ txs := by
  rw [validateRawTxs_eq_greedy] at h
  obtain rfl := Except.ok.inj h
  constructor
  · refine greedy_ind _ hv fun acc t _ _ hok => .inr ?_
    cases ha : aggregate (extra.toList ++ acc ++ [t]) with
    | error e => simp only [ha] at hok; cases hok
    | ok a =>
      simp only [ha, Option.isNone_iff_eq_none] at hok
      exact ⟨a, by rw [← List.append_assoc]; exact ha, hok⟩
  · obtain ⟨more, h1, h2⟩ := greedy_extends _ txs valid
    rw [h1]
    exact fun t ht => (List.mem_append.mp ht).imp_right (h2.subset ·)

/-! ## the assembled block

`mkBlock` puts the coinbase output and kernel LAST, `GV.Chain.txBlock` (Model/ChainPool.lean, the block of the
chain-side statements) puts them first; every rule involved here is blind to the order. -/

open GV.Chain

theorem foldl_eq_natSum (l : List Nat) : l.foldl (· + ·) 0 = natSum l := by
  rw [foldl_add_eq_sum, Nat.zero_add]; rfl

theorem blk_fees (a : Tx) : (a.kers.map (·.ker) ++ [Ker.cb]).map Ker.fee = a.kers.map (·.ker.fee) ++ [0] := by
  simp [Ker.fee]

theorem validate_no_cb {c : Ctx} {w : Weighting} {t : Tx} (h : t.validate c w = none) :
    t.kers.any (fun k => k.ker == .cb) = false :=
  ((validate_none_iff c w t).mp h).1

theorem lockHeight_gt_iff (t : Tx) (h : Nat) :
    t.lockHeight > h ↔ ∃ k ∈ t.kers, ∃ f l, k.ker = .hl f l ∧ h < l := by
  suffices ∀ kers, ({ t with kers := kers } : Tx).lockHeight > h ↔
      ∃ k ∈ kers, ∃ f l, k.ker = .hl f l ∧ h < l from this t.kers
  intro kers
  induction kers with
  | nil => exact ⟨fun h => absurd h (Nat.not_lt_zero _), fun ⟨_, hk, _⟩ => nomatch hk⟩
  | cons k ks ih =>
    have e : ({ t with kers := k :: ks } : Tx).lockHeight =
        match k.ker with
        | .hl _ l => max ({ t with kers := ks } : Tx).lockHeight l
        | _ => ({ t with kers := ks } : Tx).lockHeight := rfl
    rw [e]
    simp only [List.mem_cons, exists_eq_or_imp, ← ih]
    cases hk : k.ker with
    | hl f l =>
      have : (∃ f' l', Ker.hl f l = Ker.hl f' l' ∧ h < l') ↔ h < l :=
        ⟨fun ⟨_, _, e, hl⟩ => (Ker.hl.inj e).2 ▸ hl, fun hl => ⟨f, l, rfl, hl⟩⟩
      rw [this]
      show max _ l > h ↔ _
      omega
    | _ => simp only [reduceCtorEq, false_and, exists_false, false_or]

theorem mkBlock_hasTag (c : Ctx) (a : Tx) (cb : Nat) (pfx : String) : hasTag (mkBlock c a cb) pfx = none := by
  simp [hasTag, mkBlock]

/-! the chain's rules on the assembled block are the pool's rules on its body -/

theorem mkBlock_any_nrd (c : Ctx) (a : Tx) (cb : Nat) : (mkBlock c a cb).kers.any kerIsNrd = a.hasNrd := by
  simp [mkBlock, Tx.hasNrd, List.any_map, Function.comp_def, kerIsNrd]

theorem nrdTooRecent_eq_any (c : Ctx) (t : Tx) :
    nrdTooRecent c t = (t.kers.map (·.ker)).any (Ker.tooRecent c.head.nrd (c.head.height + 1)) := by
  simp only [nrdTooRecent, List.any_map]; rfl

theorem nrdBad_mkBlock (c : Ctx) (a : Tx) (cb : Nat) : nrdBad c.head (mkBlock c a cb) = nrdTooRecent c a := by
  rw [nrdBad_eq_any, nrdTooRecent_eq_any]
  simp [mkBlock, Ker.tooRecent]

theorem immature_mkBlock (c : Ctx) (a : Tx) (cb : Nat) :
    immature { maturity := c.cfg.maturity } c.head (mkBlock c a cb) = immatureCoinbase c a.ins := by
  unfold immature immatureCoinbase
  simp only [mkBlock]
  congr 1

theorem hasNrd_of_nrdTooRecent {c : Ctx} {t : Tx} (h : nrdTooRecent c t = true) : t.hasNrd = true := by
  unfold nrdTooRecent at h
  unfold Tx.hasNrd
  rw [List.any_eq_true] at h ⊢
  obtain ⟨k, hk, hp⟩ := h
  refine ⟨k, hk, ?_⟩
  cases hker : k.ker <;> simp_all

theorem mkBlock_no_nrd {c : Ctx} {a : Tx} (cb : Nat) (h : a.hasNrd = false) :
    ∀ k ∈ (mkBlock c a cb).kers, kerIsNrd k = false :=
  fun k hk => by simpa using List.any_eq_false.mp ((mkBlock_any_nrd c a cb).trans h) k hk

/-- state-dependent half: `applyBlock` accepts the assembled block -/
theorem mkBlock_applies {c : Ctx} {w : Weighting} {a : Tx} {cb : Nat}
    (hva : validateRawTx c w a = none)
    (hmat : immatureCoinbase c a.ins = false) (hnrd : a.hasNrd = false)
    (hcb : c.head.has cb = false) :
    ∃ s', applyBlock { maturity := c.cfg.maturity } c.head (mkBlock c a cb) = .ok s' := by
  obtain ⟨co, ci, _⟩ := (chainValidateTx_none_iff c a).mp ((validateRawTx_none_iff c w a).mp hva).2
  have h1 : (mkBlock c a cb).ins.all c.head.has = true := by
    simp only [mkBlock, List.all_eq_true]; exact ci
  have h2 := (immature_mkBlock c a cb).trans hmat
  have h3 : dupOutput c.head (mkBlock c a cb) = false := by
    unfold dupOutput
    simp only [mkBlock, List.any_append, List.any_map, Bool.or_eq_false_iff]
    constructor
    · rw [List.any_eq_false]; intro o ho; simpa using co o ho
    · simp [hcb]
  have h4 : nrdBad c.head (mkBlock c a cb) = false := by
    rw [nrdBad_mkBlock, Bool.eq_false_iff]
    exact fun h => by simp [hasNrd_of_nrdTooRecent h] at hnrd
  have hs := (stateChecks_none_iff { maturity := c.cfg.maturity } c.head (mkBlock c a cb)).mpr
    ⟨h1, h2, h3, mkBlock_hasTag .., h4, mkBlock_hasTag ..⟩
  exact ⟨_, by rw [applyBlock, hs]⟩

theorem mkBlock_fees (c : Ctx) (a : Tx) (cb : Nat) : (mkBlock c a cb).fees = a.fee := by
  unfold Blk.fees
  simp only [mkBlock, blk_fees, foldl_eq_natSum, Tx.fee]
  induction a.kers with
  | nil => simp [natSum]
  | cons k ks ih => simp only [List.map_cons, List.cons_append, natSum, List.foldr_cons] at ih ⊢; rw [ih]

theorem mkBlock_outIds (c : Ctx) (a : Tx) (cb : Nat) : (mkBlock c a cb).outs.map (·.1) = a.outs ++ [cb] := by
  simp [mkBlock, Function.comp_def]

/-- state-independent half: `validateBody` accepts the assembled block -/
theorem mkBlock_body_valid {c : Ctx} {w : Weighting} {a : Tx} {cb : Nat}
    (hva : validateRawTx c w a = none)
    (hlock : a.lockHeight ≤ c.head.height + 1) (hnrd : a.hasNrd = false)
    (hcb1 : cb ∉ a.ins) (hcb2 : cb ∉ a.outs) (hfresh : ∀ x ∈ c.outs, x.id ≠ cb) :
    validateBody { maturity := c.cfg.maturity }
      (c.outs ++ [{ id := cb, cb := true, v := ({ maturity := c.cfg.maturity } : Params).reward + a.fee }])
      (mkBlock c a cb)
      (sumVals (c.outs ++ [{ id := cb, cb := true, v := ({ maturity := c.cfg.maturity } : Params).reward + a.fee }])
        (mkBlock c a cb).ins) = none := by
  have hv := validateRawTx_validate hva
  obtain ⟨hnd1, hnd2, hdis, hbal⟩ := validate_shape hv
  have h0 : dupInBody (mkBlock c a cb) = false := by
    have n1 : (mkBlock c a cb).ins.Nodup := (nodupB_iff _).1 hnd1
    have n2 : (a.outs ++ [cb]).Nodup := by
      rw [List.nodup_append]
      refine ⟨(nodupB_iff _).1 hnd2, by simp, ?_⟩
      intro x hx y hy
      have : y = cb := by simpa using hy
      subst this
      intro h; subst h; exact hcb2 hx
    simp [dupInBody, mkBlock_outIds, n1, n2]
  generalize hd : ({ id := cb, cb := true, v := ({ maturity := c.cfg.maturity } : Params).reward + a.fee } : OutDef) = d
  have hdid : d.id = cb := by rw [← hd]
  have hdv : d.v = ({ maturity := c.cfg.maturity } : Params).reward + a.fee := by rw [← hd]
  have hfresh' : ∀ x ∈ c.outs, x.id ≠ d.id := by rw [hdid]; exact hfresh
  have h1 : cutThroughViolation (mkBlock c a cb) = false := by
    unfold cutThroughViolation
    simp only [mkBlock]
    rw [List.any_eq_false]
    intro i hi
    simp only [List.any_append, List.any_map, Bool.or_eq_true, not_or, Bool.not_eq_true]
    constructor
    · rw [List.any_eq_false]
      intro o ho
      simp only [Function.comp, beq_iff_eq]
      intro h; subst h; exact hdis _ hi ho
    · simp only [List.any_cons, List.any_nil, Bool.or_false, beq_eq_false_iff_ne, ne_eq]
      intro h; subst h; exact hcb1 hi
  have h2 : lockViolation (mkBlock c a cb) = false := by
    unfold lockViolation
    simp only [mkBlock, List.any_append, List.any_map, Bool.or_eq_false_iff]
    constructor
    · rw [List.any_eq_false]
      intro k hk
      simp only [Function.comp]
      cases hker : k.ker with
      | hl f l =>
        have : l ≤ c.head.height + 1 := Nat.le_of_not_lt fun hlt =>
          absurd ((lockHeight_gt_iff a _).mpr ⟨k, hk, f, l, hker, hlt⟩) (Nat.not_lt.mpr hlock)
        simp only [gt_iff_lt, decide_eq_true_eq, Nat.not_lt]; exact this
      | _ => simp
    · simp
  have h3 : nrdEraViolation (mkBlock c a cb) = false := by
    unfold nrdEraViolation
    rw [Bool.and_eq_false_iff]
    refine .inl (List.any_eq_false.mpr fun k hk => ?_)
    have := mkBlock_no_nrd cb hnrd k hk
    cases k <;> simp_all [kerIsNrd]
  have hins : sumVals (c.outs ++ [d]) a.ins = sumVals c.outs a.ins :=
    sumVals_extend hfresh' a.ins (by rw [hdid]; exact hcb1)
  have houts : sumVals (c.outs ++ [d]) a.outs = sumVals c.outs a.outs :=
    sumVals_extend hfresh' a.outs (by rw [hdid]; exact hcb2)
  have hcbv : sumVals (c.outs ++ [d]) [cb] = d.v := by rw [← hdid]; exact sumVals_single_new hfresh'
  have hbal' : sumVals c.outs a.ins = sumVals c.outs a.outs + a.fee := by
    simpa [Tx.balanced] using hbal
  have h4 : coinbaseMismatch { maturity := c.cfg.maturity } (c.outs ++ [d]) (mkBlock c a cb) = false := by
    unfold coinbaseMismatch
    rw [mkBlock_fees]
    have e1 : ((mkBlock c a cb).outs.filter (·.2)).map (·.1) = [cb] := by
      simp [mkBlock, List.filter_append, List.filter_map, Function.comp_def]
    have e2 : ((mkBlock c a cb).kers.filter (· == Ker.cb)).length ≠ 0 := by
      simp [mkBlock, List.filter_append]
    rw [e1, hcbv, hdv]
    simp [e2]
  have h5 : valueMismatch { maturity := c.cfg.maturity } (c.outs ++ [d]) (mkBlock c a cb)
      (sumVals (c.outs ++ [d]) (mkBlock c a cb).ins) = false := by
    unfold valueMismatch
    rw [mkBlock_outIds, show (mkBlock c a cb).ins = a.ins from rfl, sumVals_append, hins, houts, hcbv, hdv, hbal']
    simp; omega
  exact (validateBody_none_iff ..).mpr ⟨mkBlock_hasTag .., h0, h1, h2, h3, h4, h5, mkBlock_hasTag ..⟩

end GV.Pool
