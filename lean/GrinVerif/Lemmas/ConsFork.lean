import GrinVerif.Lemmas.ConsNode
/-! Side branches of the header tree (property C04): what a header is validated against — its
difficulty window (`DifficultyIter`) and the header MMR its `prev_root` is compared with — is a
function of **its own ancestors** in the store, whatever else the store holds and wherever
`header_head` is.  Chains of stored headers, the invariants of store, extension and node, and the
vocabulary of the history theorem of `Props/C04Forks.lean`: deliveries, when one is admissible, the node
after it. -/
namespace GV.Cons

/-- `start`, its parent, grand-parent … (`fuel` look-ups): the keys `DifficultyIter` (`windowFrom`)
and `get_previous_header` read -/
def walk (s : List FHdr) : Nat → Nat → List Nat
  | 0, _ => []
  | fuel+1, k => k :: match getHdr s k with
    | none => []
    | some f => walk s fuel f.prevHash

theorem walk_succ (s : List FHdr) (n k : Nat) :
    walk s (n+1) k = k :: match getHdr s k with
      | none => []
      | some f => walk s n f.prevHash := rfl

theorem walk_head (s : List FHdr) (n k : Nat) : k ∈ walk s (n+1) k := by
  simp [walk]

theorem windowFrom_congr (s s' : List FHdr) : ∀ (n start : Nat),
    (∀ k ∈ walk s (n+1) start, getHdr s' k = getHdr s k) →
    windowFrom s' n start = windowFrom s n start := by
  intro n
  induction n with
  | zero => intro start _; simp [windowFrom]
  | succ n ih =>
    intro start h
    have h0 : getHdr s' start = getHdr s start := h start (walk_head s _ start)
    simp only [windowFrom, h0]
    cases hs : getHdr s start with
    | none => rfl
    | some f =>
      have hsub : ∀ k ∈ walk s (n+1) f.prevHash, getHdr s' k = getHdr s k := by
        intro k hk
        apply h k
        rw [walk_succ, hs]
        exact List.mem_cons_of_mem _ hk
      have hp : getHdr s' f.prevHash = getHdr s f.prevHash := hsub _ (walk_head s _ _)
      simp only [hp, ih f.prevHash hsub]

/-- `l` (genesis first) is a chain of stored headers: the header stored under `l[i]` has height
`i` and, above genesis, links to `l[i-1]` -/
def IsChain (s : List FHdr) (l : List Nat) : Prop :=
  ∀ i k, l[i]? = some k → ∃ f, getHdr s k = some f ∧ f.h.height = i ∧
    ∀ j, i = j + 1 → l[j]? = some f.prevHash

/-- the store only grows: what is stored under a key stays -/
def StoreLe (s s' : List FHdr) : Prop := ∀ k g, getHdr s k = some g → getHdr s' k = some g

theorem StoreLe.refl (s : List FHdr) : StoreLe s s := fun _ _ h => h

theorem StoreLe.trans {a b c : List FHdr} (h1 : StoreLe a b) (h2 : StoreLe b c) : StoreLe a c :=
  fun k g h => h2 k g (h1 k g h)

theorem isChain_mono {s s' : List FHdr} {l : List Nat} (hle : StoreLe s s') (h : IsChain s l) :
    IsChain s' l := by
  intro i k hk
  obtain ⟨f, hf, hh, hl⟩ := h i k hk
  exact ⟨f, hle k f hf, hh, hl⟩

theorem isChain_take {s : List FHdr} {l : List Nat} (m : Nat) (h : IsChain s l) :
    IsChain s (l.take m) := by
  intro i k hk
  rw [List.getElem?_take] at hk
  split at hk
  · rename_i him
    obtain ⟨f, hf, hh, hl⟩ := h i k hk
    refine ⟨f, hf, hh, ?_⟩
    intro j hj
    rw [List.getElem?_take, if_pos (by omega)]
    exact hl j hj
  · cases hk

theorem isChain_snoc {s : List FHdr} {l : List Nat} {f : FHdr} (h : IsChain s l)
    (hf : getHdr s f.hash = some f) (hh : f.h.height = l.length)
    (hl : ∀ j, l.length = j + 1 → l[j]? = some f.prevHash) : IsChain s (l ++ [f.hash]) := by
  intro i k hk
  by_cases hi : i < l.length
  · rw [List.getElem?_append_left hi] at hk
    obtain ⟨g, hg, hgh, hgl⟩ := h i k hk
    refine ⟨g, hg, hgh, ?_⟩
    intro j hj
    rw [List.getElem?_append_left (by omega)]
    exact hgl j hj
  · have hi' : i = l.length := by
      have := (List.getElem?_eq_some_iff.mp hk).1
      simp at this
      omega
    subst hi'
    rw [List.getElem?_append_right (Nat.le_refl _)] at hk
    simp at hk
    subst hk
    refine ⟨f, hf, hh, ?_⟩
    intro j hj
    rw [List.getElem?_append_left (by omega)]
    exact hl j hj

theorem IsChain.walk_eq {s : List FHdr} {l : List Nat} (h : IsChain s l) :
    ∀ i k, l[i]? = some k → walk s (i + 1) k = (l.take (i + 1)).reverse := by
  intro i
  induction i with
  | zero =>
    intro k hk
    obtain ⟨f, hf, _, _⟩ := h 0 k hk
    rw [walk_succ, hf, List.take_add_one, hk]
    rfl
  | succ j ih =>
    intro k hk
    obtain ⟨f, hf, _, hl⟩ := h (j + 1) k hk
    rw [walk_succ, hf]
    simp only
    rw [ih _ (hl j rfl), List.take_add_one (i := j + 1), hk]
    simp

theorem isChain_unique {s : List FHdr} (l l' : List Nat) (h : IsChain s l) (h' : IsChain s l')
    (hne : l ≠ []) (hlast : l.getLast? = l'.getLast?) : l = l' := by
  have hpos : 0 < l.length := List.length_pos_iff.mpr hne
  obtain ⟨k, hk⟩ : ∃ k, l[l.length - 1]? = some k := ⟨_, List.getElem?_eq_getElem (by omega)⟩
  have hk' : l'[l'.length - 1]? = some k := by
    rw [← List.getLast?_eq_getElem?, ← hlast, List.getLast?_eq_getElem?]; exact hk
  have hpos' : 0 < l'.length := by
    cases l' with
    | nil => simp at hk'
    | cons _ _ => simp
  -- the common last header fixes the common length; both lists are then the same walk back from it
  obtain ⟨f, hf, hfh, _⟩ := h _ _ hk
  obtain ⟨f', hf', hfh', _⟩ := h' _ _ hk'
  obtain rfl := Option.some.inj (hf.symm.trans hf')
  have hlen : l.length - 1 = l'.length - 1 := hfh.symm.trans hfh'
  have e := h.walk_eq _ _ hk
  rw [hlen, h'.walk_eq _ _ hk', Nat.sub_add_cancel hpos', List.take_length,
    show l'.length = l.length by omega, List.take_length] at e
  exact (List.reverse_inj.mp e).symm

/-- every stored header above height 0 has its parent stored, one below it -/
def HLinked (s : List FHdr) : Prop :=
  ∀ k f, getHdr s k = some f → f.h.height ≠ 0 →
    ∃ p, getHdr s f.prevHash = some p ∧ f.h.height = p.h.height + 1

/-- stored heights are `u64` values -/
def HBound (s : List FHdr) : Prop := ∀ k f, getHdr s k = some f → f.h.height < 2^64

/-- the only stored header of height 0 is the genesis `g` -/
def UniqueGenesis (s : List FHdr) (g : Nat) : Prop :=
  ∀ k f, getHdr s k = some f → f.h.height = 0 → k = g

structure StoreInv (s : List FHdr) (g : Nat) : Prop where
  linked : HLinked s
  gen : UniqueGenesis s g
  bound : HBound s

/-- the extension's MMR holds the chain of ancestors of its head -/
structure ExtInv (s : List FHdr) (e : HExt) : Prop where
  chain : IsChain s e.mmr
  len : e.mmr.length = e.head.height + 1
  last : e.mmr[e.head.height]? = some e.head.hash

theorem ExtInv.getLast {s : List FHdr} {e : HExt} (h : ExtInv s e) :
    e.mmr.getLast? = some e.head.hash := by
  have := h.len
  rw [List.getLast?_eq_getElem?, ← h.last]
  congr 1
  omega

theorem ExtInv.unique {s : List FHdr} {e : HExt} (h : ExtInv s e) {l : List Nat} (hl : IsChain s l)
    (hll : l.getLast? = some e.head.hash) : l = e.mmr := by
  have hne : e.mmr ≠ [] := by
    intro he
    have := h.len
    rw [he] at this
    simp at this
  exact (isChain_unique e.mmr l h.chain hl hne (by rw [h.getLast, hll])).symm

/-- `l` (oldest first) is a run of stored headers on top of `p` -/
def Run (s : List FHdr) : FHdr → List Nat → Prop
  | _, [] => True
  | p, k :: ks => ∃ f, getHdr s k = some f ∧ f.prevHash = p.hash ∧ f.h.height = p.h.height + 1 ∧
      Run s f ks

/-- hash of the tip of a run (its base when empty) -/
def runTip (p : FHdr) (l : List Nat) : Nat := (l.getLast?).getD p.hash

theorem runTip_cons (p f : FHdr) (ks : List Nat) : runTip p (f.hash :: ks) = runTip f ks := by
  rw [runTip, List.getLast?_cons, Option.getD_some]; rfl

theorem forkWalk_spec {s : List FHdr} {e : HExt} (hl : HLinked s) :
    ∀ (fuel : Nat) (cur : FHdr) (acc : List Nat) (fp : FHdr) (l : List Nat),
      getHdr s cur.hash = some cur → Run s cur acc →
      forkWalk s e fuel cur acc = .ok (fp, l) →
      getHdr s fp.hash = some fp ∧ Run s fp l ∧ runTip fp l = runTip cur acc ∧
      (fp.h.height = 0 ∨ e.onChain s fp.hash fp.h.height = some true) := by
  intro fuel
  induction fuel with
  | zero => intro cur acc fp l _ _ h; simp [forkWalk] at h
  | succ n ih =>
    intro cur acc fp l hc hr h
    by_cases h0 : cur.h.height = 0
    · simp only [forkWalk, if_pos h0] at h
      cases h
      exact ⟨hc, hr, rfl, .inl h0⟩
    by_cases hon : e.onChain s cur.hash cur.h.height = some true
    · simp only [forkWalk, if_neg h0, hon] at h
      cases h
      exact ⟨hc, hr, rfl, .inr hon⟩
    obtain ⟨_, p, hn, hp, h⟩ := forkWalk_step h0 hon h
    cases hn
    have hph : p.hash = cur.prevHash := getHdr_hash hp
    have hrun : Run s p (cur.hash :: acc) := by
      obtain ⟨p', hp', hh⟩ := hl _ _ hc h0
      rw [hp] at hp'
      cases hp'
      exact ⟨cur, hc, hph.symm, hh, hr⟩
    obtain ⟨a, b, c, d⟩ := ih p (cur.hash :: acc) fp l (getHdr_self hp) hrun h
    exact ⟨a, b, by rw [c]; exact runTip_cons _ _ _, d⟩

theorem extInv_rewind {s : List FHdr} {e : HExt} {g : Nat} (hi : ExtInv s e)
    (hg : UniqueGenesis s g) (fp : FHdr) (hf : getHdr s fp.hash = some fp)
    (hon : fp.h.height = 0 ∨ e.onChain s fp.hash fp.h.height = some true) :
    ExtInv s (e.rewind fp) ∧ (e.rewind fp).head = Tip.ofHdr fp := by
  have hat : e.mmr[fp.h.height]? = some fp.hash ∧ fp.h.height ≤ e.head.height := by
    rcases hon with h0 | hon
    · have hlen := hi.len
      obtain ⟨k0, hk0⟩ : ∃ k0, e.mmr[0]? = some k0 := by
        cases hm : e.mmr with
        | nil => rw [hm] at hlen; simp at hlen
        | cons a t => exact ⟨a, rfl⟩
      obtain ⟨f0, hf0, hh0, _⟩ := hi.chain 0 k0 hk0
      have e1 : k0 = g := hg k0 f0 hf0 hh0
      have e2 : fp.hash = g := hg fp.hash fp hf h0
      rw [h0, hk0, e1, e2]
      exact ⟨rfl, Nat.zero_le _⟩
    · obtain ⟨hle, x, g', hx, hg', hgh⟩ := onChain_true_iff.mp hon
      rw [hx, ← getHdr_hash hg', hgh]
      exact ⟨rfl, hle⟩
  obtain ⟨hat, hle⟩ := hat
  refine ⟨⟨isChain_take _ hi.chain, ?_, ?_⟩, rfl⟩
  · have := hi.len
    simp only [HExt.rewind, Tip.ofHdr, List.length_take]
    omega
  · simp only [HExt.rewind, Tip.ofHdr]
    rw [List.getElem?_take, if_pos (by omega)]
    exact hat

theorem extInv_apply {s : List FHdr} {e : HExt} {f : FHdr} (hi : ExtInv s e)
    (hf : getHdr s f.hash = some f) (hp : f.prevHash = e.head.hash)
    (hh : f.h.height = e.head.height + 1) :
    ExtInv s { head := Tip.ofHdr f, mmr := e.mmr ++ [f.hash] } := by
  have hlen := hi.len
  refine ⟨isChain_snoc hi.chain hf (by omega) ?_, ?_, ?_⟩
  · intro j hj
    have : j = e.head.height := by omega
    rw [this, hp]
    exact hi.last
  · simp only [List.length_append, List.length_singleton, Tip.ofHdr]
    omega
  · simp only [Tip.ofHdr]
    have : f.h.height = e.mmr.length := by omega
    rw [this, List.getElem?_append_right (Nat.le_refl _)]
    simp

theorem reapply_spec {s : List FHdr} :
    ∀ (l : List Nat) (e e' : HExt) (p : FHdr), ExtInv s e → e.head.hash = p.hash →
      e.head.height = p.h.height → Run s p l → reapply s e l = .ok e' →
      ExtInv s e' ∧ e'.head.hash = runTip p l := by
  intro l
  induction l with
  | nil =>
    intro e e' p hi hh _ _ h
    simp only [reapply] at h
    cases h
    exact ⟨hi, by simpa [runTip] using hh⟩
  | cons k ks ih =>
    intro e e' p hi hh hht hr h
    obtain ⟨f, hf, hfp, hfh, hr'⟩ := hr
    simp only [reapply, hf] at h
    split at h
    · cases h
    rename_i e1 hva
    have he1 := (validateApply_ok hva).2
    have hfk : f.hash = k := getHdr_hash hf
    have hi1 : ExtInv s e1 := by
      rw [he1]
      exact extInv_apply hi (by rw [hfk]; exact hf) (by rw [hfp, hh]) (by rw [hfh, hht])
    obtain ⟨a, b⟩ := ih e1 e' f hi1 (by rw [he1]; rfl) (by rw [he1]; rfl) hr' h
    refine ⟨a, ?_⟩
    rw [b, ← hfk, runTip_cons]

theorem rewindAndApplyHeaderFork_chain {s : List FHdr} {e e' : HExt} {g : Nat} (f : FHdr)
    (hi : ExtInv s e) (hs : StoreInv s g) (hf : getHdr s f.hash = some f)
    (h : rewindAndApplyHeaderFork s e f = .ok e') :
    ExtInv s e' ∧ e'.head.hash = f.hash ∧ e'.head.height = f.h.height := by
  obtain ⟨fp, l, hw, h⟩ := rewindAndApplyHeaderFork_ok.mp h
  obtain ⟨hfp, hrun, htip, hon⟩ := forkWalk_spec hs.linked _ f [] fp l hf trivial hw
  obtain ⟨hir, hhead⟩ := extInv_rewind hi hs.gen fp hfp hon
  obtain ⟨a, b⟩ := reapply_spec l (e.rewind fp) e' fp hir (by rw [hhead]; rfl)
    (by rw [hhead]; rfl) hrun h
  refine ⟨a, by rw [b, htip]; rfl, ?_⟩
  -- the height is that of the header stored under the last hash, at the last index
  have hlast := a.last
  obtain ⟨f', hf', hh', _⟩ := a.chain _ _ hlast
  rw [b, htip] at hf'
  have : f' = f := by
    have : runTip f [] = f.hash := rfl
    rw [this, hf] at hf'
    exact (Option.some.inj hf').symm
  rw [← hh', this]

/-- a delivered header does not change what is stored: its hash is new, or the very same header
is stored under it (a header hash covers the proof nonces only; a *different* header under a stored
hash is the subject of `known_hash_cannot_move_head_partial`) -/
def Compat (s : List FHdr) (f : FHdr) : Prop := getHdr s f.hash = none ∨ getHdr s f.hash = some f

theorem storeLe_cons {s : List FHdr} {f : FHdr} (h : Compat s f) : StoreLe s (f :: s) := by
  intro k g hg
  by_cases hk : f.hash = k
  · subst hk
    rw [getHdr_cons_self]
    rcases h with h | h <;> rw [h] at hg
    · cases hg
    · exact hg
  · rw [getHdr_cons_ne f s k hk]
    exact hg

/-- a wrapping successor that is not zero did not wrap -/
theorem succ_of_addW_ne_zero {a b : Nat} (ha : a < 2^64) (h : b = addW a 1) (hb : b ≠ 0) : b = a + 1 := by
  unfold addW at h
  by_cases he : a + 1 = 2^64
  · rw [he] at h; simp at h; exact absurd h hb
  · rw [h]; exact Nat.mod_eq_of_lt (by omega)

/-- storing a header that passed the height rule against its stored parent keeps the store
invariants (`hnz`: it does not claim height 0, i.e. `prev.height + 1` did not wrap) -/
theorem storeInv_cons {s : List FHdr} {g : Nat} {f prev : FHdr} (hi : StoreInv s g)
    (hc : Compat s f) (hp : getHdr s f.prevHash = some prev)
    (hh : f.h.height = addW prev.h.height 1) (hnz : f.h.height ≠ 0) :
    StoreInv (f :: s) g := by
  have hheight := succ_of_addW_ne_zero (hi.bound _ _ hp) hh hnz
  have hle := storeLe_cons hc
  -- a look-up in `f :: s` finds `f` itself or what `s` held, and `s`'s look-ups persist
  refine ⟨fun k x hx hx0 => ?_, fun k x hx hx0 => ?_, fun k x hx => ?_⟩
  · rcases getHdr_cons_some hx with ⟨rfl, rfl⟩ | hx
    · exact ⟨prev, hle _ _ hp, hheight⟩
    · obtain ⟨p, hp', hh'⟩ := hi.linked k x hx hx0
      exact ⟨p, hle _ _ hp', hh'⟩
  · rcases getHdr_cons_some hx with ⟨rfl, rfl⟩ | hx
    · exact absurd hx0 hnz
    · exact hi.gen k x hx hx0
  · rcases getHdr_cons_some hx with ⟨rfl, rfl⟩ | hx
    · rw [hh]
      exact Nat.mod_lt _ (by decide)
    · exact hi.bound k x hx

/-- **node invariant**: the header MMR holds the chain of ancestors of `header_head` (genesis
first), `header_head` is the stored header at its end, and the store is closed under parents -/
structure NodeInv (n : HNode) (g : Nat) : Prop where
  store : StoreInv n.hdrs g
  ext : ExtInv n.hdrs ⟨n.headerHead, n.hmmr⟩
  head : ∃ f, getHdr n.hdrs n.headerHead.hash = some f ∧ Tip.ofHdr f = n.headerHead

theorem extInit_of_inv {n : HNode} {g : Nat} (hi : NodeInv n g) {s : List FHdr}
    (hle : StoreLe n.hdrs s) {e0 : HExt} (h : extInit s n.hmmr = some e0) :
    e0 = ⟨n.headerHead, n.hmmr⟩ := by
  obtain ⟨f, hf, hft⟩ := hi.head
  have hgl : n.hmmr.getLast? = some n.headerHead.hash := hi.ext.getLast
  unfold extInit at h
  rw [hgl] at h
  simp only [hle _ _ hf] at h
  cases h
  rw [hft]

theorem extInv_mono {s s' : List FHdr} {e : HExt} (hle : StoreLe s s') (h : ExtInv s e) :
    ExtInv s' e := ⟨isChain_mono hle h.chain, h.len, h.last⟩

theorem NodeInv.fork {n : HNode} {g : Nat} {s : List FHdr} {e0 e1 : HExt} {f : FHdr} (hinv : NodeInv n g)
    (hle : StoreLe n.hdrs s) (hst : StoreInv s g) (he0 : extInit s n.hmmr = some e0)
    (hf : getHdr s f.hash = some f) (hfk : rewindAndApplyHeaderFork s e0 f = .ok e1) :
    ExtInv s e1 ∧ e1.head.hash = f.hash ∧ e1.head.height = f.h.height := by
  have := extInit_of_inv hinv hle he0
  subst this
  exact rewindAndApplyHeaderFork_chain f (extInv_mono hle hinv.ext) hst hf hfk

/-- committing a grown store and an extension that sits on the stored header `x` keeps the invariant,
whether or not the head moves -/
theorem NodeInv.commit {n : HNode} {g : Nat} {s : List FHdr} {e : HExt} {x : FHdr} (hinv : NodeInv n g)
    (hle : StoreLe n.hdrs s) (hst : StoreInv s g) (hi : ExtInv s e) (hx : getHdr s x.hash = some x)
    (hh : e.head.hash = x.hash) (hht : e.head.height = x.h.height) : NodeInv (n.commit s x e.mmr) g := by
  unfold HNode.commit
  split
  · refine ⟨hst, ⟨hi.chain, ?_, ?_⟩, ⟨x, hx, rfl⟩⟩
    · simp only [Tip.ofHdr]; rw [hi.len, hht]
    · simp only [Tip.ofHdr]; rw [← hht, ← hh]; exact hi.last
  · obtain ⟨y, hy, hyt⟩ := hinv.head
    exact ⟨hst, extInv_mono hle hinv.ext, ⟨y, hle _ _ hy, hyt⟩⟩

/-- the freshness side condition for a batch, header by header against the batch's view of the
store: new hash or the very same header, and not claiming height 0 -/
def BatchFresh : List FHdr → List FHdr → Prop
  | _, [] => True
  | s, f :: fs => Compat s f ∧ f.h.height ≠ 0 ∧ BatchFresh (f :: s) fs

inductive Delivery
  | header (o : Opts) (f : FHdr)
  | batch (o : Opts) (syncHead : Tip) (b : List FHdr)
  | block (o : Opts) (f : FHdr) (bodyOk : Bool)

/-- the node after a delivery (`Err`: batch dropped, nothing changes) -/
def deliver (n : HNode) : Delivery → HNode
  | .header o f => match nodeProcessBlockHeader n o f with
    | .ok n' => n'
    | .error _ => n
  | .batch o sh b => syncStep n o sh b
  | .block o f bodyOk => (nodeProcessBlock n o f bodyOk).1

def Admissible (n : HNode) : Delivery → Prop
  | .header _ f => Compat n.hdrs f ∧ f.h.height ≠ 0
  | .batch _ _ b => BatchFresh n.hdrs b
  | .block _ f _ => Compat n.hdrs f ∧ f.h.height ≠ 0

/-- every delivery of a history is admissible when it arrives -/
def AdmissibleRun : HNode → List Delivery → Prop
  | _, [] => True
  | n, d :: ds => Admissible n d ∧ AdmissibleRun (deliver n d) ds

/- decidability of the side conditions, for the concrete history of `Props/C04Forks.lean` -/
instance (s : List FHdr) (f : FHdr) : Decidable (Compat s f) := by unfold Compat; infer_instance

def batchFreshDec : ∀ (s b : List FHdr), Decidable (BatchFresh s b)
  | _, [] => isTrue trivial
  | s, f :: fs =>
    have := batchFreshDec (f :: s) fs
    by unfold BatchFresh; infer_instance

instance (s b : List FHdr) : Decidable (BatchFresh s b) := batchFreshDec s b

instance (n : HNode) (d : Delivery) : Decidable (Admissible n d) := by
  cases d <;> unfold Admissible <;> infer_instance

def admissibleRunDec : ∀ (n : HNode) (ds : List Delivery), Decidable (AdmissibleRun n ds)
  | _, [] => isTrue trivial
  | n, d :: ds =>
    have := admissibleRunDec (deliver n d) ds
    by unfold AdmissibleRun; infer_instance

instance (n : HNode) (ds : List Delivery) : Decidable (AdmissibleRun n ds) := admissibleRunDec n ds

end GV.Cons
