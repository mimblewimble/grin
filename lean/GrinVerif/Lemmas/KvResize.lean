import GrinVerif.Model.KvResize
import GrinVerif.Model.KvSpace
import GrinVerif.Model.KvF32
/-! Growth of the LMDB map (C18): `needs_resize`; the resize protocol with its guard flags (`Model/KvResize.lean`) and
the same protocol as a transition system over per-thread counters (`Gate` of `Model/Kv.lean`), each with its
invariant; the space accounting the resize threshold is meant for (`Model/KvSpace.lean`); the registry of
environments; `needs_resize` with the `f32` arithmetic of the code (`Model/KvF32.lean`). -/
namespace GV.Kv

theorem sub_mod_mod (n c : Nat) : (n - n % c) % c = 0 :=
  Nat.sub_mod_eq_zero_of_mod_eq (Nat.mod_mod n c).symm

theorem growLoop_ge (used chunk fuel tot : Nat) : tot ≤ growLoop used chunk fuel tot := by
  fun_induction growLoop used chunk fuel tot with
  | case1 => exact Nat.le_refl _
  | case2 fuel tot _ ih => exact Nat.le_trans (Nat.le_add_right _ _) ih
  | case3 => exact Nat.le_refl _

theorem growLoop_mod (used chunk fuel tot : Nat) (h : tot % chunk = 0) :
    growLoop used chunk fuel tot % chunk = 0 := by
  fun_induction growLoop used chunk fuel tot with
  | case1 => exact h
  | case2 fuel tot _ ih => exact ih (by rw [Nat.add_mod_right]; exact h)
  | case3 => exact h

theorem growLoop_target (used chunk fuel tot : Nat) (h : used * 100 ≤ 65 * (tot + fuel * chunk)) :
    used * 100 ≤ 65 * growLoop used chunk fuel tot := by
  fun_induction growLoop used chunk fuel tot with
  | case1 => rwa [Nat.zero_mul] at h
  | case2 fuel tot _ ih =>
    apply ih
    rwa [Nat.succ_mul fuel chunk, Nat.add_comm _ chunk, ← Nat.add_assoc] at h
  | case3 fuel tot hn => exact Nat.le_of_not_lt hn

theorem needsResize_cases (mapSize used chunk : Nat) :
    (mapSize < chunk ∧ needsResize mapSize used chunk = (true, chunk)) ∨
    (chunk ≤ mapSize ∧ used * 10 ≤ 9 * mapSize ∧ needsResize mapSize used chunk = (false, mapSize)) ∨
    (chunk ≤ mapSize ∧ 9 * mapSize < used * 10 ∧ needsResize mapSize used chunk =
      (true, growLoop used chunk (used * 2 + 1) (mapSize - mapSize % chunk))) := by
  unfold needsResize
  by_cases hlt : mapSize < chunk
  · exact Or.inl ⟨hlt, by simp only [hlt, decide_true, Bool.or_true, Bool.not_true, Bool.false_eq_true, if_false, if_true]⟩
  · refine Or.inr ?_
    simp only [hlt, decide_false, Bool.or_false, if_false]
    by_cases hu : used * 10 > 9 * mapSize
    · exact Or.inr ⟨Nat.le_of_not_lt hlt, hu, by simp only [hu, decide_true, Bool.not_true, Bool.false_eq_true, if_false]⟩
    · exact Or.inl ⟨Nat.le_of_not_lt hlt, Nat.le_of_not_lt hu, by simp only [hu, decide_false, Bool.not_false, if_true]⟩

/-- the fuel `needs_resize` gives the loop is enough -/
theorem growLoop_stops (used chunk tot : Nat) (hc : 0 < chunk) :
    used * 100 ≤ 65 * growLoop used chunk (used * 2 + 1) tot := by
  apply growLoop_target
  have : used * 2 + 1 ≤ (used * 2 + 1) * chunk := Nat.le_mul_of_pos_right _ hc
  omega

theorem needsResize_false (mapSize used chunk : Nat) (h : (needsResize mapSize used chunk).1 = false) :
    (needsResize mapSize used chunk).2 = mapSize ∧ used * 10 ≤ 9 * mapSize ∧ chunk ≤ mapSize := by
  rcases needsResize_cases mapSize used chunk with ⟨_, e⟩ | ⟨hle, hu, e⟩ | ⟨_, _, e⟩
  · rw [e] at h; exact Bool.noConfusion h
  · rw [e]; exact ⟨rfl, hu, hle⟩
  · rw [e] at h; exact Bool.noConfusion h

/-- `needs_resize` (thresholds read as exact rationals): whenever it asks for a resize, the new map
is strictly larger than the old one, a whole number of chunks, and the used space is at most 65 % of
it (unless the old map was smaller than one chunk) -/
theorem needsResize_true (mapSize used chunk : Nat) (hc : 0 < chunk)
    (h : (needsResize mapSize used chunk).1 = true) :
    mapSize < (needsResize mapSize used chunk).2 ∧ (needsResize mapSize used chunk).2 % chunk = 0 ∧
    (chunk ≤ mapSize → used * 100 ≤ 65 * (needsResize mapSize used chunk).2) := by
  rcases needsResize_cases mapSize used chunk with ⟨hlt, e⟩ | ⟨_, _, e⟩ | ⟨_, hu, e⟩
  · rw [e]; exact ⟨hlt, Nat.mod_self _, fun hle => absurd hlt (Nat.not_lt.2 hle)⟩
  · rw [e] at h; exact Bool.noConfusion h
  · -- the loop starts at the old size rounded down to whole chunks
    have hm := growLoop_mod used chunk (used * 2 + 1) _ (sub_mod_mod mapSize chunk)
    have ht := growLoop_stops used chunk (mapSize - mapSize % chunk) hc
    -- above 90 % of the old size and at most 65 % of the new one: the new one is larger
    have hlt : ∀ n, used * 100 ≤ 65 * n → mapSize < n := fun n hn => by omega
    rw [e]; exact ⟨hlt _ ht, hm, fun _ => ht⟩

theorem needsResize_lt {mapSize used chunk : Nat} (hc : 0 < chunk) (h : (needsResize mapSize used chunk).1 = true) :
    mapSize < (needsResize mapSize used chunk).2 := (needsResize_true _ _ _ hc h).1

/-- what is there is at most 90 % of the size `needs_resize` leaves -/
theorem needsResize_fits (mapSize used chunk : Nat) (hc : 0 < chunk) (hm : chunk ≤ mapSize) :
    used * 10 ≤ 9 * (needsResize mapSize used chunk).2 := by
  cases h : (needsResize mapSize used chunk).1 with
  | false => rw [(needsResize_false _ _ _ h).1]; exact (needsResize_false _ _ _ h).2.1
  | true => have := (needsResize_true _ _ _ hc h).2.2 hm; omega

theorem maybeResize_busy {e : REnv} (h : e.checking = true) (used : Nat) :
    maybeResize e used = (e, .guardBusy) := by
  simp only [maybeResize, h, if_true]

theorem maybeResize_cases (e : REnv) (used : Nat) :
    (e.checking = true ∧ maybeResize e used = (e, .guardBusy)) ∨
    (e.checking = false ∧ (needsResize e.mapSize used e.chunk).1 = false ∧
      maybeResize e used = ({ e with checking := false }, .notNeeded)) ∨
    (e.checking = false ∧ (needsResize e.mapSize used e.chunk).1 = true ∧ e.openTxs ≠ 0 ∧
      maybeResize e used = ({ e with checking := true, resizing := true, pending := some (needsResize e.mapSize used e.chunk).2 },
        .deferred (needsResize e.mapSize used e.chunk).2)) ∨
    (e.checking = false ∧ (needsResize e.mapSize used e.chunk).1 = true ∧ e.openTxs = 0 ∧
      maybeResize e used = ({ e with mapSize := (needsResize e.mapSize used e.chunk).2, resizing := false, checking := false },
        .immediate (needsResize e.mapSize used e.chunk).2)) := by
  cases hck : e.checking
  · refine Or.inr ?_
    cases hr : (needsResize e.mapSize used e.chunk).1
    · exact Or.inl ⟨rfl, rfl, by simp only [maybeResize, hck, hr, Bool.false_eq_true, if_false, Bool.not_false, if_true]⟩
    · refine Or.inr ?_
      by_cases ho : e.openTxs = 0
      · exact Or.inr ⟨rfl, rfl, ho, by simp [maybeResize, hck, hr, ho]⟩
      · exact Or.inl ⟨rfl, rfl, ho, by simp [maybeResize, hck, hr, ho]⟩
  · exact Or.inl ⟨rfl, maybeResize_busy hck used⟩

theorem waiterStep_fires {e : REnv} {n : Nat} (hp : e.pending = some n) (ho : e.openTxs = 0) :
    waiterStep e = { e with mapSize := n, resizing := false, checking := false, pending := none } := by
  simp only [waiterStep, hp, ho, if_true]

theorem waiterStep_waits {e : REnv} {n : Nat} (hp : e.pending = some n) (ho : e.openTxs ≠ 0) :
    waiterStep e = e := by
  simp only [waiterStep, hp, ho, if_false]

theorem waiterStep_idle {e : REnv} (hp : e.pending = none) : waiterStep e = e := by
  simp only [waiterStep, hp]

/-- the invariant of the resize protocol at the granularity of calls of `maybe_resize` -/
structure RInv (e : REnv) : Prop where
  /-- no transition writes `chunk`; carried here so that the users need no separate hypothesis -/
  chunk : 0 < e.chunk
  guard : e.checking = e.pending.isSome
  flag : e.resizing = e.pending.isSome
  grows : ∀ n, e.pending = some n → e.mapSize < n

theorem rinv_init (mapSize chunk : Nat) (hc : 0 < chunk) : RInv (rinit mapSize chunk) :=
  ⟨hc, rfl, rfl, fun _ h => nomatch h⟩

theorem pending_none_of_unchecked (e : REnv) (inv : RInv e) (h : e.checking = false) :
    e.pending = none ∧ e.resizing = false := by
  have hp : e.pending = none := by
    cases hp : e.pending with
    | none => rfl
    | some n => have := inv.guard; rw [h, hp] at this; exact Bool.noConfusion this
  exact ⟨hp, by rw [inv.flag, hp]; rfl⟩

theorem rinv_maybeResize (e : REnv) (used : Nat) (inv : RInv e) : RInv (maybeResize e used).1 := by
  rcases maybeResize_cases e used with ⟨_, heq⟩ | ⟨hck, _, heq⟩ | ⟨_, hn, _, heq⟩ | ⟨hck, _, _, heq⟩
  · rw [heq]; exact inv
  · obtain ⟨hp, hz⟩ := pending_none_of_unchecked e inv hck
    rw [heq]; exact ⟨inv.chunk, hp ▸ rfl, hz.trans (hp ▸ rfl), fun n h => absurd (hp ▸ h) nofun⟩
  · rw [heq]
    exact ⟨inv.chunk, rfl, rfl, fun n h => Option.some.inj h ▸ needsResize_lt inv.chunk hn⟩
  · obtain ⟨hp, _⟩ := pending_none_of_unchecked e inv hck
    rw [heq]; exact ⟨inv.chunk, hp ▸ rfl, hp ▸ rfl, fun n h => absurd (hp ▸ h) nofun⟩

theorem rinv_waiter (e : REnv) (inv : RInv e) : RInv (waiterStep e) := by
  cases hp : e.pending with
  | none => rw [waiterStep_idle hp]; exact inv
  | some n =>
    by_cases ho : e.openTxs = 0
    · rw [waiterStep_fires hp ho]; exact ⟨inv.chunk, rfl, rfl, nofun⟩
    · rw [waiterStep_waits hp ho]; exact inv

theorem rinv_openTxs (e : REnv) (k : Nat) (inv : RInv e) : RInv { e with openTxs := k } :=
  ⟨inv.chunk, inv.guard, inv.flag, inv.grows⟩

theorem rinv_step (e : REnv) (a : RAct) (inv : RInv e) : RInv (rstep e a) := by
  cases a with
  | openTx => exact rinv_openTxs e _ inv
  | closeTx => exact rinv_openTxs e _ inv
  | call used => exact rinv_maybeResize e used inv
  | waiter => exact rinv_waiter e inv

theorem rinv_run (as : List RAct) (e : REnv) (inv : RInv e) : RInv (rrun e as) :=
  List.foldlRecOn (motive := RInv) as _ inv fun e h a _ => rinv_step e a h

theorem growRun_append (a b : List Nat) : ∀ e : REnv, growRun e (a ++ b) = growRun (growRun e a) b := by
  induction a with
  | nil => exact fun _ => rfl
  | cons u r ih => exact fun e => ih _

/-! ### the gate as a transition system (`Gate`, `gateStep` of `Model/Kv.lean`) -/

theorem cntOf_le_sum (t : Nat) (l : List Nat) : cntOf t l ≤ l.sum := by
  fun_induction cntOf t l with
  | case1 => exact Nat.zero_le _
  | case2 c r => rw [List.sum_cons]; exact Nat.le_add_right c _
  | case3 t c r ih => rw [List.sum_cons]; exact Nat.le_trans ih (Nat.le_add_left _ c)

theorem sum_incAt (t : Nat) (l : List Nat) (h : t < l.length) : (incAt t l).sum = l.sum + 1 := by
  fun_induction incAt t l with
  | case1 => exact absurd h (Nat.not_lt_zero _)
  | case2 c r => rw [List.sum_cons, List.sum_cons, Nat.add_right_comm]
  | case3 t c r ih => rw [List.sum_cons, List.sum_cons, ih (Nat.lt_of_succ_lt_succ h)]; rfl

theorem sum_decAt (t : Nat) (l : List Nat) (h : 0 < cntOf t l) : (decAt t l).sum + 1 = l.sum := by
  fun_induction decAt t l with
  | case1 => rw [cntOf] at h; exact absurd h (Nat.lt_irrefl 0)
  | case2 c r => rw [List.sum_cons, List.sum_cons, Nat.add_right_comm, Nat.sub_add_cancel (show 0 < c from h)]
  | case3 t c r ih => rw [List.sum_cons, List.sum_cons, Nat.add_assoc, ih h]

theorem cntOf_eq_zero_of_sum (t : Nat) (l : List Nat) (h : l.sum = 0) : cntOf t l = 0 :=
  Nat.le_zero.1 (h ▸ cntOf_le_sum t l)

/-- the invariant behind `resize_gate_safe` -/
structure GateInv (g : Gate) : Prop where
  /-- the global counter is the sum of the per-thread counters -/
  sum : g.openTxs = g.cnt.sum
  /-- a resize in flight holds both flags -/
  flags : g.phase ≠ .idle → g.resizing = true ∧ g.checking = true
  /-- `env.resize` runs only with no transaction open -/
  quiet : ∀ n, g.phase = .running n → g.openTxs = 0

theorem gateInv_init (threads mapSize : Nat) : GateInv (gateInit threads mapSize) := by
  refine ⟨?_, ?_, ?_⟩
  · simp [gateInit]
  · intro h; simp [gateInit] at h
  · intro n h; simp [gateInit] at h

theorem gateInv_step (g : Gate) (a : GAct) (inv : GateInv g) : GateInv (gateStep g a) := by
  unfold gateStep
  cases hen : gateEnabled g a with
  | false => exact inv
  | true =>
    simp only [Bool.not_true, Bool.false_eq_true, if_false]
    cases a with
    | enter t =>
      simp only [gateEnabled, Bool.and_eq_true, decide_eq_true_eq, Bool.or_eq_true,
        Bool.not_eq_true'] at hen
      refine ⟨?_, inv.flags, ?_⟩
      · show g.openTxs + 1 = (incAt t g.cnt).sum
        rw [sum_incAt t g.cnt hen.1, inv.sum]
      · -- impossible: a running resize has `resizing` set and no thread holds a transaction
        intro n hn
        have h0 : g.cnt.sum = 0 := inv.sum ▸ inv.quiet n hn
        rcases hen.2 with hg | hg
        · rw [(inv.flags (by rw [hn]; nofun)).1] at hg; cases hg
        · rw [cntOf_eq_zero_of_sum t g.cnt h0] at hg; cases hg
    | exit t =>
      simp only [gateEnabled, decide_eq_true_eq] at hen
      have hs : (decAt t g.cnt).sum + 1 = g.openTxs := inv.sum ▸ sum_decAt t g.cnt hen
      refine ⟨?_, inv.flags, ?_⟩
      · show g.openTxs - 1 = (decAt t g.cnt).sum
        rw [← hs]; rfl
      · intro n hn
        show g.openTxs - 1 = 0
        rw [inv.quiet n hn]
    | request n => exact ⟨inv.sum, fun _ => ⟨rfl, rfl⟩, nofun⟩
    | beginResize =>
      simp only [gateEnabled, Bool.and_eq_true, beq_iff_eq] at hen
      cases hph : g.phase with
      | pending m => exact ⟨inv.sum, fun _ => inv.flags (by rw [hph]; nofun), fun _ _ => hen.2⟩
      | idle => exact inv
      | running m => exact inv
    | endResize =>
      cases hph : g.phase with
      | running m => exact ⟨inv.sum, fun h => absurd rfl h, nofun⟩
      | idle => exact inv
      | pending m => exact inv

theorem gateInv_run (as : List GAct) (g : Gate) (h : GateInv g) : GateInv (gateRun g as) :=
  List.foldlRecOn (motive := GateInv) as _ h fun g h a _ => gateInv_step g a h

/-! ### space (`Model/KvSpace.lean`) -/

theorem alloc_ok_of_tail (s : Space) (n : Nat) (h : s.lastPg + n ≤ s.mapPages) :
    ∃ s', alloc s n = some s' ∧ s'.mapPages = s.mapPages ∧ s'.lastPg ≤ s.lastPg + n := by
  unfold alloc
  cases findRun s.free n with
  | some p => exact ⟨_, rfl, rfl, Nat.le_add_right _ _⟩
  | none => rw [if_pos h]; exact ⟨_, rfl, rfl, Nat.le_refl _⟩

theorem allocAll_ok (reqs : List Nat) : ∀ (s : Space), s.lastPg + reqs.sum ≤ s.mapPages →
    ∃ s', allocAll s reqs = some s' ∧ s'.mapPages = s.mapPages ∧ s'.lastPg ≤ s.lastPg + reqs.sum := by
  induction reqs with
  | nil => exact fun s _ => ⟨s, rfl, rfl, Nat.le_refl _⟩
  | cons n r ih =>
    intro s h
    rw [List.sum_cons, ← Nat.add_assoc] at h ⊢
    obtain ⟨s1, h1, hm, hhi⟩ := alloc_ok_of_tail s n (Nat.le_trans (Nat.le_add_right _ _) h)
    obtain ⟨s2, h2, hm2, hhi2⟩ := ih s1 (hm ▸ Nat.le_trans (Nat.add_le_add_right hhi _) h)
    exact ⟨s2, by rw [allocAll, h1]; exact h2, hm2.trans hm,
      Nat.le_trans hhi2 (Nat.add_le_add_right hhi _)⟩

theorem allocAll_ok_bytes (reqs : List Nat) (mapSize lastPg : Nat) (free : List Nat)
    (h : (lastPg + reqs.sum) * PAGE_SIZE ≤ mapSize) :
    ∃ s', allocAll { mapPages := mapSize / PAGE_SIZE, lastPg := lastPg, free := free } reqs = some s' :=
  have ⟨s', hs, _⟩ := allocAll_ok reqs { mapPages := mapSize / PAGE_SIZE, lastPg := lastPg, free := free }
    ((Nat.le_div_iff_mul_le (by decide : 0 < PAGE_SIZE)).2 h)
  ⟨s', hs⟩

/-! ### the registry (`envLookup`, `envUpdate`) and runs of closes -/

theorem lookup_update_same (f : EnvState → EnvState) (m : EnvMap) (path : Nat) (s : EnvState)
    (h : envLookup m path = some s) : envLookup (envUpdate m path f) path = some (f s) := by
  fun_induction envUpdate m path f with
  | case1 => cases h
  | case2 s0 r path f =>
    rw [envLookup, if_pos rfl] at h ⊢
    rw [Option.some.inj h]
  | case3 p s0 r path f hp ih =>
    rw [envLookup, if_neg hp] at h ⊢
    exact ih h

theorem lookup_update_other (f : EnvState → EnvState) (m : EnvMap) (path q : Nat) (hq : q ≠ path) :
    envLookup (envUpdate m path f) q = envLookup m q := by
  fun_induction envUpdate m path f with
  | case1 => rfl
  | case2 s0 r path f => rw [envLookup, envLookup, if_neg (Ne.symm hq), if_neg (Ne.symm hq)]
  | case3 p s0 r path f hp ih => rw [envLookup, envLookup, ih hq]

theorem rrun_closeTx (k : Nat) : ∀ e : REnv,
    rrun e (List.replicate k RAct.closeTx) = { e with openTxs := e.openTxs - k } := by
  induction k with
  | zero => intro e; rfl
  | succ n ih =>
    intro e
    show rrun (rstep e .closeTx) (List.replicate n RAct.closeTx) = _
    rw [ih, rstep, Nat.sub_sub, Nat.add_comm]

/-! ### `needs_resize` with the `f32` arithmetic of the code (`Model/KvF32.lean`) -/

namespace F32

theorem growLoopF32_spec (used chunk fuel tot : Nat) (h : tot % chunk = 0) :
    (growLoopF32 used chunk fuel tot) % chunk = 0 ∧ tot ≤ growLoopF32 used chunk fuel tot := by
  fun_induction growLoopF32 used chunk fuel tot with
  | case1 => exact ⟨h, Nat.le_refl _⟩
  | case2 fuel tot _ ih =>
    have ih := ih (by rw [Nat.add_mod_right]; exact h)
    exact ⟨ih.1, Nat.le_trans (Nat.le_add_right _ _) ih.2⟩
  | case3 => exact ⟨h, Nat.le_refl _⟩

theorem needsResizeF32_cases (mapSize used chunk : Nat) :
    (mapSize < chunk ∧ needsResizeF32 mapSize used chunk = (true, chunk)) ∨
    (chunk ≤ mapSize ∧ needsResizeF32 mapSize used chunk = (false, mapSize)) ∨
    (chunk ≤ mapSize ∧ needsResizeF32 mapSize used chunk =
      (true, growLoopF32 used chunk (used * 2 + 1) (mapSize - mapSize % chunk))) := by
  unfold needsResizeF32
  by_cases hlt : mapSize < chunk
  · exact Or.inl ⟨hlt, by simp only [hlt, decide_true, Bool.or_true, Bool.not_true, Bool.false_eq_true, if_false, if_true]⟩
  · refine Or.inr ?_
    simp only [hlt, decide_false, Bool.or_false, if_false]
    cases (decide (mapSize ≠ 0) && gt90 used mapSize)
    · exact Or.inl ⟨Nat.le_of_not_lt hlt, rfl⟩
    · exact Or.inr ⟨Nat.le_of_not_lt hlt, rfl⟩

end F32

end GV.Kv
