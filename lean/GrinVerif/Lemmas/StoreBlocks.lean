import GrinVerif.Lemmas.StoreHistory
/-! Block-level histories of the output MMR (C08): what the chain's database remembers about its
block boundaries (`Bnd`: leaf count + unspent set of the output MMR at the end of a block) and
how the chain derives from it the arguments it passes to the store:

* `rewind_single_block` / `Extension::rewind`: the rewind target is an earlier boundary not below
  the last compaction cutoff, `rewind_rm_pos` = the leaves unspent at that boundary and spent now;
  rewinds come before the first append of the extension (block by block is fine);
* `TxHashSet::compact` → `check_compact(cutoff, input_pos_to_rewind(horizon, head))`: the cutoff is
  a committed boundary, `rewind_rm_pos` = every position spent by the blocks after it.

`book_run`: every such history, flattened to store operations, satisfies the usage protocol
`RefSt.Proto` (so `history_preserves_reference` applies), and the invariant `BInv` holds along the
way; its `prot` clause says that no leaf compacted away so far (`G`) is unspent now or at any
boundary a rewind may still target – including leaves a compaction protected (they were in
`rewind_rm_pos`) that a later rewind made unspent again.  `protected_not_pruned` reads this off
the store: no prune-list entry covers such a leaf.  No Mathlib. -/
namespace GV.Store
open GV GV.Pmmr GV.Pmmr.Co

/-- a committed block boundary: leaf count of the MMR and the unspent leaf positions there -/
structure Bnd where
  N : Nat
  U : List Nat
deriving Repr, DecidableEq

/-- what the chain does with its output MMR -/
inductive BOp
  /-- rewind to the boundary with index `j` (one step of `Extension::rewind`) -/
  | rewindTo (j : Nat)
  | push (e : Bytes)
  | prune (pos0 : Nat)
  /-- the extension is committed: `sync`, the new boundary is remembered -/
  | commit
  /-- the extension is rolled back: `discard`, the database batch is dropped -/
  | rollback
  /-- `check_compact` with the boundary of index `c` as cutoff -/
  | compact (c : Nat)
  | reopen
deriving Repr, DecidableEq

/-- the chain-side bookkeeping together with the reference of the store -/
structure Book where
  /-- boundaries of the current (working) history, oldest first -/
  chain : List Bnd := [⟨0, []⟩]
  /-- … as committed in the database (restored by `rollback`) -/
  chainC : List Bnd := [⟨0, []⟩]
  /-- index of the last compaction cutoff: the lowest boundary a rewind may still target -/
  minIdx : Nat := 0
  r : RefSt := {}

/-- `rewind_rm_pos` of a rewind to boundary `t`: unspent there, not unspent now (1-based) -/
def rmOf (t : Bnd) (U : List Nat) : Bitmap := (t.U.filter fun q => !U.elem q).map (· + 1)

/-- the positions spent by the blocks after the first boundary of the list -/
def spentAfter : List Bnd → List Nat
  | a :: b :: rest => (a.U.filter fun q => !b.U.elem q) ++ spentAfter (b :: rest)
  | _ => []

namespace Book

/-- the store operation the chain issues -/
def emit (b : Book) : BOp → HOp
  | .rewindTo j => let t := b.chain.getD j ⟨0, []⟩; .rewind t.N (rmOf t b.r.cur.U)
  | .push e => .push e
  | .prune p => .prune p
  | .commit => .sync
  | .rollback => .discard
  | .compact c => .compact (b.chain.getD c ⟨0, []⟩).N ((spentAfter (b.chain.drop c)).map (· + 1))
  | .reopen => .reopen

def step (b : Book) (op : BOp) : Book :=
  let r' := b.r.step (b.emit op)
  match op with
  | .rewindTo j => { b with chain := b.chain.take (j + 1), r := r' }
  | .commit =>
    let ch := b.chain ++ [⟨b.r.cur.es.length, b.r.cur.U⟩]
    { b with chain := ch, chainC := ch, r := r' }
  | .rollback => { b with chain := b.chainC, r := r' }
  | .compact c => { b with minIdx := c, r := r' }
  | _ => { b with r := r' }

/-- the chain's discipline: rewinds before the first append of an extension, to a boundary from the
last compaction cutoff on; compaction and reopen between extensions, the cutoff a remembered
boundary not below the previous cutoff; sizes below `2^64 − 64` -/
def ok (b : Book) : BOp → Prop
  | .rewindTo j => b.r.app = false ∧ b.minIdx ≤ j ∧ j < b.chain.length
  | .push _ => mmr (b.r.cur.es.length + 1) + 64 < 2 ^ 64
  | .compact c => b.r.dirty = false ∧ b.minIdx ≤ c ∧ c < b.chain.length
  | .reopen => b.r.dirty = false
  | _ => True

instance okDec (b : Book) (op : BOp) : Decidable (b.ok op) := by
  cases op <;> unfold ok <;> exact inferInstance

def Ok : Book → List BOp → Prop
  | _, [] => True
  | b, op :: ops => b.ok op ∧ Ok (b.step op) ops

instance OkDec : ∀ (b : Book) (ops : List BOp), Decidable (Ok b ops)
  | _, [] => isTrue trivial
  | b, op :: ops =>
    have := OkDec (b.step op) ops
    by unfold Ok; exact inferInstance

/-- the store operations of a block-level history -/
def ops : Book → List BOp → List HOp
  | _, [] => []
  | b, op :: rest => b.emit op :: ops (b.step op) rest

def run (b : Book) (l : List BOp) : Book := l.foldl step b

end Book

/-- boundaries `chain` (rewindable from index `m` on) with the reference view `v` of their tip -/
structure Good (G : List Nat) (C m : Nat) (chain : List Bnd) (v : RefView) : Prop where
  idx : m < chain.length
  leafU : ∀ t ∈ chain, ∀ q ∈ t.U, isLeaf q = true ∧ q < mmr t.N
  mono : chain.Pairwise (fun a b => a.N ≤ b.N)
  tipN : ∀ t ∈ chain, t.N ≤ v.es.length
  cN : ∀ k t, m ≤ k → chain[k]? = some t → C ≤ t.N
  /-- **no compacted leaf is unspent at a boundary a rewind may still target** -/
  prot : ∀ k t, m ≤ k → chain[k]? = some t → ∀ q ∈ t.U, q ∉ G
  /-- … nor unspent now -/
  curU : ∀ q ∈ v.U, isLeaf q = true ∧ q < mmr v.es.length ∧ q ∉ G

/-! The boundaries a rewind may still target are the members of `chain.drop m`; in that form
`take`, `++`, `drop` of the chain are library facts. -/

theorem Good.cN_mem {G : List Nat} {C m : Nat} {chain : List Bnd} {v : RefView}
    (h : Good G C m chain v) : ∀ t ∈ chain.drop m, C ≤ t.N := fun t ht =>
  have ⟨k, hk, hkt⟩ := getElem?_of_mem_drop ht
  h.cN k t hk hkt

theorem Good.prot_mem {G : List Nat} {C m : Nat} {chain : List Bnd} {v : RefView}
    (h : Good G C m chain v) : ∀ t ∈ chain.drop m, ∀ q ∈ t.U, q ∉ G := fun t ht =>
  have ⟨k, hk, hkt⟩ := getElem?_of_mem_drop ht
  h.prot k t hk hkt

theorem Good.of_mem {G : List Nat} {C m : Nat} {chain : List Bnd} {v : RefView}
    (idx : m < chain.length) (leafU : ∀ t ∈ chain, ∀ q ∈ t.U, isLeaf q = true ∧ q < mmr t.N)
    (mono : chain.Pairwise (fun a b => a.N ≤ b.N)) (tipN : ∀ t ∈ chain, t.N ≤ v.es.length)
    (cN : ∀ t ∈ chain.drop m, C ≤ t.N) (prot : ∀ t ∈ chain.drop m, ∀ q ∈ t.U, q ∉ G)
    (curU : ∀ q ∈ v.U, isLeaf q = true ∧ q < mmr v.es.length ∧ q ∉ G) : Good G C m chain v :=
  ⟨idx, leafU, mono, tipN, fun _ t hk hkt => cN t (mem_drop_of_getElem? hk hkt),
    fun _ t hk hkt => prot t (mem_drop_of_getElem? hk hkt), curU⟩

theorem Good.cle {G : List Nat} {C m : Nat} {chain : List Bnd} {v : RefView} (h : Good G C m chain v) :
    C ≤ v.es.length :=
  Nat.le_trans (h.cN m _ (Nat.le_refl m) (List.getElem?_eq_getElem h.idx))
    (h.tipN _ (List.getElem_mem h.idx))

structure BInv (b : Book) : Prop where
  work : Good b.r.G b.r.C b.minIdx b.chain b.r.cur
  comm : Good b.r.G b.r.C b.minIdx b.chainC b.r.saved
  tip : ∃ t, b.chainC.getLast? = some t ∧ t.N = b.r.saved.es.length ∧ ∀ q, q ∈ t.U ↔ q ∈ b.r.saved.U
  clean : b.r.dirty = false → b.chain = b.chainC ∧ b.r.cur = b.r.saved
  gC : ∀ q ∈ b.r.G, q < mmr b.r.C

theorem binv_init : BInv {} := by
  have hg : Good [] 0 0 [⟨0, []⟩] {} := by
    refine Good.of_mem (by simp) ?_ (List.pairwise_singleton _ _) ?_ (fun _ _ => Nat.zero_le _)
      (fun _ _ q _ => by simp) ?_
    · intro t ht q hq; simp at ht; subst ht; simp at hq
    · intro t ht; simp at ht; subst ht; exact Nat.le_refl _
    · intro q hq; exact absurd hq (by simp)
  exact ⟨hg, hg, ⟨⟨0, []⟩, rfl, rfl, fun q => Iff.rfl⟩, fun _ => ⟨rfl, rfl⟩, fun q hq => absurd hq (by simp)⟩

theorem unspent_or_spentAfter : ∀ (l : List Bnd) (last : Bnd), l.getLast? = some last →
    ∀ t ∈ l, ∀ q ∈ t.U, q ∈ last.U ∨ q ∈ spentAfter l
  | [a], last, hl, t, ht, q, hq => by
    simp only [List.getLast?_singleton, Option.some.injEq] at hl
    simp only [List.mem_singleton] at ht
    subst hl ht; exact Or.inl hq
  | a :: b :: rest, last, hl, t, ht, q, hq => by
    rw [List.getLast?_cons_cons] at hl
    have ih := unspent_or_spentAfter (b :: rest) last hl
    have up : q ∈ last.U ∨ q ∈ spentAfter (b :: rest) → q ∈ last.U ∨ q ∈ spentAfter (a :: b :: rest) :=
      Or.imp_right fun h => List.mem_append_right _ h
    rcases List.mem_cons.1 ht with rfl | ht
    · by_cases hb : q ∈ b.U
      · exact up (ih b List.mem_cons_self q hb)
      · exact Or.inr (List.mem_append_left _ (List.mem_filter.2 ⟨hq, by simpa using hb⟩))
    · exact up (ih t ht q hq)

theorem book_rewindTo {b : Book} (h : BInv b) (j : Nat) (hok : b.ok (.rewindTo j)) :
    b.r.ok (b.emit (.rewindTo j)) ∧ BInv (b.step (.rewindTo j)) := by
  obtain ⟨hw, hc, htip, hclean, hgC⟩ := h
  obtain ⟨happ, hmj, hj⟩ := hok
  have htm : b.chain[j] ∈ b.chain := List.getElem_mem hj
  have htd : b.chain[j] ∈ b.chain.drop b.minIdx :=
    mem_drop_of_getElem? hmj (List.getElem?_eq_getElem hj)
  generalize ht : b.chain[j] = t at htm htd
  have hget : b.chain.getD j ⟨0, []⟩ = t := (List.getElem_eq_getD _).symm.trans ht
  have hrm : ∀ x ∈ rmOf t b.r.cur.U, ∃ q, q ∈ t.U ∧ x = q + 1 := by
    intro x hx
    simp only [rmOf, List.mem_map, List.mem_filter] at hx
    obtain ⟨q, ⟨h1, _⟩, rfl⟩ := hx
    exact ⟨q, h1, rfl⟩
  -- a re-added leaf: a leaf of the smaller MMR that no compaction has removed
  have hre : ∀ q ∈ t.U, isLeaf q = true ∧ q < mmr t.N ∧ q ∉ b.r.G :=
    fun q hq => ⟨(hw.leafU t htm q hq).1, (hw.leafU t htm q hq).2, hw.prot_mem t htd q hq⟩
  constructor
  · show b.r.ok (HOp.rewind (b.chain.getD j ⟨0, []⟩).N (rmOf (b.chain.getD j ⟨0, []⟩) b.r.cur.U))
    rw [hget]
    refine ⟨happ, hw.cN_mem t htd, hw.tipN t htm, ?_⟩
    intro x hx
    obtain ⟨q, hq1, rfl⟩ := hrm x hx
    obtain ⟨l1, l2, l3⟩ := hre q hq1
    exact ⟨by omega, by omega, by simpa using l1, by simpa using l3⟩
  · have hlen : (b.r.cur.es.take t.N).length = t.N := by
      rw [List.length_take]; have := hw.tipN t htm; omega
    have hstep : b.step (.rewindTo j) =
        { b with chain := b.chain.take (j + 1),
                 r := b.r.step (.rewind t.N (rmOf t b.r.cur.U)) } := by
      show ({ b with chain := b.chain.take (j + 1), r := b.r.step (b.emit (.rewindTo j)) } : Book) = _
      simp only [Book.emit, hget]
    have hsub : ∀ t' ∈ (b.chain.take (j + 1)).drop b.minIdx, t' ∈ b.chain.drop b.minIdx := by
      intro t' ht'
      rw [List.drop_take] at ht'
      exact List.mem_of_mem_take ht'
    rw [hstep]
    refine ⟨?_, hc, htip, fun hd => absurd hd (by simp [RefSt.step]), hgC⟩
    show Good b.r.G b.r.C b.minIdx (b.chain.take (j + 1))
      { es := b.r.cur.es.take t.N, U := b.r.cur.U.filter (· < mmr t.N) ++ (rmOf t b.r.cur.U).map (· - 1) }
    refine Good.of_mem (by rw [List.length_take]; omega)
      (fun t' ht' => hw.leafU t' (List.mem_of_mem_take ht'))
      (hw.mono.sublist (List.take_sublist _ _)) ?_ (fun t' ht' => hw.cN_mem t' (hsub t' ht'))
      (fun t' ht' => hw.prot_mem t' (hsub t' ht')) ?_
    · intro t' ht'
      show t'.N ≤ (b.r.cur.es.take t.N).length
      rw [hlen, ← ht]; exact rel_of_mem_take hw.mono (fun _ => Nat.le_refl _) hj t' ht'
    · intro q hq
      show isLeaf q = true ∧ q < mmr (b.r.cur.es.take t.N).length ∧ q ∉ b.r.G
      rw [hlen]
      simp only [List.mem_append, List.mem_filter, decide_eq_true_eq, List.mem_map] at hq
      rcases hq with ⟨h1, h2⟩ | ⟨x, hx, rfl⟩
      · exact ⟨(hw.curU q h1).1, h2, (hw.curU q h1).2.2⟩
      · obtain ⟨q, hq1, rfl⟩ := hrm x hx
        rw [Nat.add_sub_cancel]; exact hre q hq1

theorem book_compact {b : Book} (h : BInv b) (c : Nat) (hok : b.ok (.compact c)) :
    b.r.ok (b.emit (.compact c)) ∧ BInv (b.step (.compact c)) := by
  obtain ⟨hw, hc, htip, hclean, hgC⟩ := h
  obtain ⟨hd, hmc, hcl⟩ := hok
  obtain ⟨hch, hcs⟩ := hclean hd
  have htm : b.chain[c] ∈ b.chain := List.getElem_mem hcl
  have hge := rel_of_mem_drop hw.mono (fun _ => Nat.le_refl _) hcl
  generalize ht : b.chain[c] = t at htm hge
  have hget : b.chain.getD c ⟨0, []⟩ = t := (List.getElem_eq_getD _).symm.trans ht
  have hsub : ∀ t' ∈ b.chain.drop c, t' ∈ b.chain.drop b.minIdx :=
    fun t' ht' => (List.drop_sublist_drop_left b.chain hmc).subset ht'
  constructor
  · show b.r.ok (HOp.compact (b.chain.getD c ⟨0, []⟩).N _)
    rw [hget]; exact ⟨hd, hw.tipN t htm⟩
  · have hstep : b.step (.compact c) =
        { b with minIdx := c,
                 r := b.r.step (.compact t.N ((spentAfter (b.chain.drop c)).map (· + 1))) } := by
      show ({ b with minIdx := c, r := b.r.step (b.emit (.compact c)) } : Book) = _
      simp only [Book.emit, hget]
    rw [hstep]
    -- a leaf unspent at a boundary from the cutoff on is unspent now or protected by `rewind_rm_pos`
    have hkey : ∀ t' ∈ b.chain.drop c, ∀ q ∈ t'.U,
        q ∈ b.r.cur.U ∨ (q + 1) ∈ (spentAfter (b.chain.drop c)).map (· + 1) := by
      obtain ⟨last, hl1, _, hl3⟩ := htip
      intro t' ht' q hq
      have hl : (b.chain.drop c).getLast? = some last := by
        rw [List.getLast?_drop, if_neg (by omega), hch]; exact hl1
      exact (unspent_or_spentAfter _ last hl t' ht' q hq).imp
        (fun h => by rw [hcs]; exact (hl3 q).1 h) (fun h => List.mem_map.2 ⟨q, h, rfl⟩)
    -- a leaf the compaction adds to the ghost set is neither unspent now nor protected
    have hnew : ∀ q, q ∈ (b.r.step (.compact t.N ((spentAfter (b.chain.drop c)).map (· + 1)))).G →
        q ∈ b.r.G ∨ (q ∉ b.r.cur.U ∧ (q + 1) ∉ (spentAfter (b.chain.drop c)).map (· + 1)) := by
      intro q hq
      simp only [RefSt.step, List.mem_append, List.mem_filter, Bool.and_eq_true, Bool.not_eq_true',
        List.elem_eq_mem, decide_eq_false_iff_not] at hq
      rcases hq with h1 | ⟨_, ⟨⟨⟨_, h3⟩, h4⟩, _⟩⟩
      · exact Or.inl h1
      · exact Or.inr ⟨h3, h4⟩
    have hgood : Good (b.r.step (.compact t.N ((spentAfter (b.chain.drop c)).map (· + 1)))).G
        (max b.r.C t.N) c b.chain b.r.cur := by
      refine Good.of_mem hcl hw.leafU hw.mono hw.tipN ?_ ?_ ?_
      · intro t' ht'
        have h1 := hw.cN_mem t' (hsub t' ht')
        have h2 := hge t' ht'
        omega
      · intro t' ht' q hq hin
        rcases hnew q hin with h1 | ⟨h1, h2⟩
        · exact hw.prot_mem t' (hsub t' ht') q hq h1
        · exact (hkey t' ht' q hq).elim h1 h2
      · intro q hq
        obtain ⟨a1, a2, a3⟩ := hw.curU q hq
        exact ⟨a1, a2, fun hin => (hnew q hin).elim a3 fun h => h.1 hq⟩
    refine ⟨hgood, ?_, htip, fun _ => ⟨hch, hcs⟩, ?_⟩
    · show Good _ _ c b.chainC b.r.saved
      rw [← hch, ← hcs]; exact hgood
    intro q hq
    show q < mmr (max b.r.C t.N)
    simp only [RefSt.step, List.mem_append, List.mem_filter, List.mem_range] at hq
    rcases hq with h1 | ⟨h1, _⟩
    · exact Nat.lt_of_lt_of_le (hgC q h1) (mmr_le_mmr (Nat.le_max_left _ _))
    · exact Nat.lt_of_lt_of_le h1 (mmr_le_mmr (Nat.le_max_right _ _))

theorem book_step {b : Book} (h : BInv b) (op : BOp) (hok : b.ok op) :
    b.r.ok (b.emit op) ∧ BInv (b.step op) := by
  cases op with
  | rewindTo j => exact book_rewindTo h j hok
  | push e =>
    obtain ⟨hw, hc, htip, hclean, hgC⟩ := h
    have hb : mmr (b.r.cur.es.length + 1) + 64 < 2 ^ 64 := hok
    refine ⟨hb, ?_, hc, htip, fun hd => absurd hd (by simp [Book.step, Book.emit, RefSt.step]), hgC⟩
    show Good b.r.G b.r.C b.minIdx b.chain
      { es := b.r.cur.es ++ [e], U := b.r.cur.U ++ [mmr b.r.cur.es.length] }
    have hlen : (b.r.cur.es ++ [e]).length = b.r.cur.es.length + 1 := by simp
    refine ⟨hw.idx, hw.leafU, hw.mono, ?_, hw.cN, hw.prot, ?_⟩
    · intro t ht
      show t.N ≤ (b.r.cur.es ++ [e]).length
      rw [hlen]; have := hw.tipN t ht; omega
    · intro q hq
      show isLeaf q = true ∧ q < mmr (b.r.cur.es ++ [e]).length ∧ q ∉ b.r.G
      rw [hlen]
      simp only [List.mem_append, List.mem_singleton] at hq
      rcases hq with h1 | rfl
      · obtain ⟨a1, a2, a3⟩ := hw.curU q h1
        exact ⟨a1, Nat.lt_of_lt_of_le a2 (mmr_le_mmr (by omega)), a3⟩
      · refine ⟨(isLeaf_iff _).2 (height_mmr _), mmr_lt_mmr (by omega), ?_⟩
        intro hin
        have h1 := hgC _ hin
        have h2 := mmr_le_mmr hw.cle
        omega
  | prune p =>
    obtain ⟨hw, hc, htip, hclean, hgC⟩ := h
    refine ⟨trivial, ?_, hc, htip, fun hd => absurd hd (by simp [Book.step, Book.emit, RefSt.step]), hgC⟩
    show Good b.r.G b.r.C b.minIdx b.chain { b.r.cur with U := b.r.cur.U.filter (· != p) }
    exact ⟨hw.idx, hw.leafU, hw.mono, hw.tipN, hw.cN, hw.prot,
      fun q hq => hw.curU q (List.mem_filter.1 hq).1⟩
  | commit =>
    obtain ⟨hw, hc, htip, hclean, hgC⟩ := h
    refine ⟨trivial, ?_⟩
    -- the new boundary is the current view: whatever holds of all old boundaries and of it
    have hall : ∀ {P : Bnd → Prop} {l : List Bnd}, (∀ t ∈ l, P t) → P ⟨b.r.cur.es.length, b.r.cur.U⟩ →
        ∀ t ∈ l ++ [⟨b.r.cur.es.length, b.r.cur.U⟩], P t := by
      intro P l h1 h2 t ht
      rcases List.mem_append.1 ht with h | h
      · exact h1 t h
      · rw [List.mem_singleton.1 h]; exact h2
    have hdrop : (b.chain ++ [(⟨b.r.cur.es.length, b.r.cur.U⟩ : Bnd)]).drop b.minIdx =
        b.chain.drop b.minIdx ++ [⟨b.r.cur.es.length, b.r.cur.U⟩] :=
      List.drop_append_of_le_length (Nat.le_of_lt hw.idx)
    have hg : Good b.r.G b.r.C b.minIdx (b.chain ++ [⟨b.r.cur.es.length, b.r.cur.U⟩]) b.r.cur := by
      refine Good.of_mem (by rw [List.length_append]; have := hw.idx; omega)
        (hall (P := fun t => ∀ q ∈ t.U, isLeaf q = true ∧ q < mmr t.N) hw.leafU
          fun q hq => ⟨(hw.curU q hq).1, (hw.curU q hq).2.1⟩) ?_
        (hall hw.tipN (Nat.le_refl _)) ?_ ?_ hw.curU
      · rw [List.pairwise_append]
        refine ⟨hw.mono, List.pairwise_singleton _ _, fun a ha c hc' => ?_⟩
        rw [List.mem_singleton.1 hc']; exact hw.tipN a ha
      · rw [hdrop]; exact hall hw.cN_mem hw.cle
      · rw [hdrop]; exact hall hw.prot_mem fun q hq => (hw.curU q hq).2.2
    exact ⟨hg, hg, ⟨⟨b.r.cur.es.length, b.r.cur.U⟩, by simp [Book.step], rfl, fun q => Iff.rfl⟩,
      fun _ => ⟨rfl, rfl⟩, hgC⟩
  | rollback =>
    obtain ⟨hw, hc, htip, hclean, hgC⟩ := h
    exact ⟨trivial, hc, hc, htip, fun _ => ⟨rfl, rfl⟩, hgC⟩
  | compact c => exact book_compact h c hok
  | reopen =>
    obtain ⟨hw, hc, htip, hclean, hgC⟩ := h
    exact ⟨hok, hw, hc, htip, hclean, hgC⟩

theorem book_run {b : Book} (h : BInv b) (l : List BOp) (hok : Book.Ok b l) :
    RefSt.Proto b.r (Book.ops b l) ∧ BInv (Book.run b l) ∧
    (Book.run b l).r = (Book.ops b l).foldl RefSt.step b.r := by
  induction l generalizing b with
  | nil => exact ⟨trivial, h, rfl⟩
  | cons op rest ih =>
    obtain ⟨h1, h2⟩ := hok
    obtain ⟨s1, s2⟩ := book_step h op h1
    obtain ⟨i1, i2, i3⟩ := ih s2 h2
    have hr : (b.step op).r = b.r.step (b.emit op) := by cases op <;> rfl
    refine ⟨⟨s1, ?_⟩, i2, ?_⟩
    · rw [← hr]; exact i1
    · show (Book.run (b.step op) rest).r = _
      rw [i3, hr]; rfl

theorem protected_not_pruned {H : Type} (el : Bytes → Option Nat) (hf : HashFn Bytes H)
    (l : List BOp) (hok : Book.Ok {} l) :
    let bk := Book.run {} l
    let p := (Book.ops {} l).foldl (bstep el hf) ({} : PM H)
    (∀ q ∈ bk.r.cur.U, p.b.pruneList.isPruned q = false) ∧
    (∀ k t, bk.minIdx ≤ k → bk.chain[k]? = some t → ∀ q ∈ t.U, p.b.pruneList.isPruned q = false) ∧
    PruneList.openBm p.b.pruneFile = p.b.pruneList := by
  intro bk p
  obtain ⟨h1, h2, h3⟩ := book_run binv_init l hok
  have hinv : HInv hf p bk.r := by
    show HInv hf _ (Book.run {} l).r
    rw [h3]
    exact hinv_of_proto el hf _ h1
  refine ⟨?_, ?_, ?_⟩
  · intro q hq
    obtain ⟨a1, _, a3⟩ := h2.work.curU q hq
    exact hinv.not_pruned a1 a3
  · intro k t hk hkt q hq
    obtain ⟨hkl, hke⟩ := List.getElem?_eq_some_iff.1 hkt
    have htm : t ∈ bk.chain := by rw [← hke]; exact List.getElem_mem hkl
    exact hinv.not_pruned (h2.work.leafU t htm q hq).1 (h2.work.prot k t hk hkt q hq)
  · obtain ⟨⟨df, hc⟩, _, _⟩ := hinv
    rw [hc.live.pruneFile]; exact PruneList.openBm_of_inv hc.live.inv

end GV.Store
