import GrinVerif.Lemmas.PowWalk
/-! The five `verify` functions are one pipeline: count test, first loop, xor test, walk, length test.
What acceptance and a hang mean is read off the pipeline once; the first loops are one guarded fold. -/
namespace GV.Pow

/-- `bad` is the xor test as the code writes it (`xor0 | xor1 != 0`, a negative test), so acceptance
reads `¬ bad s` -/
def pipeline {σ : Type} (size ps : Nat) (build : Except Err σ) (bad : σ → Prop) [DecidablePred bad]
    (walk : σ → Except Err Nat) (target : Nat) : Except Err Unit :=
  if size ≠ ps then .error .wrongLen
  else
    match build with
    | .error e => .error e
    | .ok s =>
      if bad s then .error .noMatch
      else
        match walk s with
        | .error e => .error e
        | .ok n => if n = target then .ok () else .error .tooShort

section
variable {σ : Type} {size ps : Nat} {build : Except Err σ} {bad : σ → Prop} [DecidablePred bad]
  {walk : σ → Except Err Nat} {target : Nat}

theorem pipeline_ok_iff : pipeline size ps build bad walk target = .ok () ↔
    size = ps ∧ ∃ s, build = .ok s ∧ ¬ bad s ∧ walk s = .ok target := by
  unfold pipeline
  by_cases hl : size = ps
  case neg => simp [hl]
  cases build with
  | error e => simp [hl]
  | ok s =>
    by_cases hx : bad s
    case pos => simp [hl, hx]
    cases hw : walk s with
    | error e => simp [hl, hx, hw]
    | ok n =>
      by_cases hn : n = target
      · simp [hl, hx, hw, hn]
      · simp [hl, hx, hw, hn]

theorem pipeline_wrong_len (h : size ≠ ps) : pipeline size ps build bad walk target = .error .wrongLen :=
  if_pos h

theorem pipeline_ne_hang (hb : build ≠ .error .hang)
    (hw : size = ps → ∀ s, build = .ok s → walk s ≠ .error .hang) :
    pipeline size ps build bad walk target ≠ .error .hang := by
  unfold pipeline
  split
  · exact fun h => nomatch h
  · next hl =>
    split
    · next e => exact fun h => hb (by injection h with h; rw [h])
    · next s =>
      split
      · exact fun h => nomatch h
      · split
        · next e he =>
          exact fun h => hw (Classical.not_not.mp hl) s rfl (by rw [he]; injection h with h; rw [h])
        · split <;> exact fun h => nomatch h

end

/-! The two matches of a `verify` body and those of `pipeline` are different auxiliary constants; they
agree once their scrutinees are constructors. -/

theorem verifyU_eq (C : UCfg) (P : Params) (ep : Nat → Nat × Nat) (ns : List Nat) :
    verifyU C P ep ns = pipeline ns.length P.proofsize (uBuild C P ep ns 0 none (USt.init C ns.length))
      (fun s => (if C.jointXor then s.x0 ^^^ s.x1 else s.x0 ||| s.x1) ≠ 0)
      (fun s => uWalk (uStep C ns.length s.uvs (uCirc C P ns.length s ns.length s.prev)) (2 * ns.length + 1) 0 0)
      (if C.useCtxSize then P.ctxProofSize else ns.length) := by
  simp only [verifyU, pipeline]
  cases uBuild C P ep ns 0 none (USt.init C ns.length) with
  | error e => rfl
  | ok s =>
    cases uWalk (uStep C ns.length s.uvs (uCirc C P ns.length s ns.length s.prev)) (2 * ns.length + 1) 0 0 <;> rfl

theorem verifyCuckaroom_eq (P : Params) (ep : Nat → Nat × Nat) (ns : List Nat) :
    verifyCuckaroom P ep ns = pipeline ns.length P.proofsize (roomBuild P ep ns 0 none (RoomSt.init ns.length))
      (fun s => s.xf ≠ s.xt)
      (fun s => roomWalk P ns.length s (ns.length + 1) (fun _ => false) 0 0) ns.length := by
  simp only [verifyCuckaroom, pipeline]
  cases roomBuild P ep ns 0 none (RoomSt.init ns.length) with
  | error e => rfl
  | ok s => cases roomWalk P ns.length s (ns.length + 1) (fun _ => false) 0 0 <;> rfl

theorem verifyCuckarood_eq (P : Params) (ep : Nat → Nat × Nat) (ns : List Nat) :
    verifyCuckarood P ep ns = pipeline ns.length P.proofsize
      (roodBuild P ep ns.length ns none (RoodSt.init ns.length))
      (fun s => (s.x0 ||| s.x1) ≠ 0)
      (fun s => roodWalk (roodStep P ns.length s) ns.length (ns.length + 1) 0 0) ns.length := by
  simp only [verifyCuckarood, pipeline]
  cases roodBuild P ep ns.length ns none (RoodSt.init ns.length) with
  | error e => rfl
  | ok s => cases roodWalk (roodStep P ns.length s) ns.length (ns.length + 1) 0 0 <;> rfl

/-! ### the first loops are one guarded fold

`for n in 0..size`: a test of the state (Cuckarood's balance test; none for the others), the mask
test, the ascending test, then the update of the arrays. Invariants are proved about the updates
alone. -/

def gBuild {σ : Type} (mask : Nat) (pre : σ → Nat → Option Err) (push : Nat → Nat → σ → σ) :
    List Nat → Nat → Option Nat → σ → Except Err σ
  | [], _, _, s => .ok s
  | x :: xs, n, last, s =>
    match pre s x with
    | some e => .error e
    | none =>
      if x > mask then .error .tooBig
      else if notAsc last x then .error .notAscending
      else gBuild mask pre push xs (n+1) (some x) (push n x s)

/-- the updates alone -/
def gFold {σ : Type} (push : Nat → Nat → σ → σ) : List Nat → Nat → σ → σ
  | [], _, s => s
  | x :: xs, n, s => gFold push xs (n+1) (push n x s)

/-- the test of the state passes all along -/
def preChain {σ : Type} (pre : σ → Nat → Option Err) (push : Nat → Nat → σ → σ) : List Nat → Nat → σ → Prop
  | [], _, _ => True
  | x :: xs, n, s => pre s x = none ∧ preChain pre push xs (n+1) (push n x s)

section
variable {σ : Type} {mask : Nat} {pre : σ → Nat → Option Err} {push : Nat → Nat → σ → σ}

theorem gBuild_ok_iff : ∀ {xs n last s s'}, gBuild mask pre push xs n last s = .ok s' ↔
    preChain pre push xs n s ∧ (∀ x ∈ xs, x ≤ mask) ∧ ascChain last xs ∧ s' = gFold push xs n s := by
  intro xs
  induction xs with
  | nil =>
    intro n last s s'
    simp only [gBuild, preChain, ascChain, gFold, List.not_mem_nil, false_imp_iff, implies_true, true_and]
    exact ⟨fun h => by injection h with h; exact h.symm, fun h => by rw [h]⟩
  | cons x xs ih =>
    intro n last s s'
    constructor
    · intro h
      unfold gBuild at h
      split at h
      · cases h
      · next hp =>
        split at h
        · cases h
        · next h1 =>
          split at h
          · cases h
          · next h2 =>
            obtain ⟨a, b, c, d⟩ := ih.mp h
            exact ⟨⟨hp, a⟩, fun y hy => (List.mem_cons.mp hy).elim (fun e => e ▸ Nat.le_of_not_gt h1) (b y),
              ⟨by simpa using h2, c⟩, d⟩
    · rintro ⟨⟨hp, a⟩, b, ⟨h2, c⟩, d⟩
      have h1 : ¬ x > mask := Nat.not_lt.mpr (b x (List.mem_cons_self ..))
      unfold gBuild
      simp only [hp, h1, h2, if_false, Bool.false_eq_true]
      exact ih.mpr ⟨a, fun y hy => b y (List.mem_cons_of_mem _ hy), c, d⟩

theorem gBuild_ne_hang (hpre : ∀ s x, pre s x ≠ some .hang) : ∀ xs n last s,
    gBuild mask pre push xs n last s ≠ .error .hang := by
  intro xs
  induction xs with
  | nil => intro n last s h; cases h
  | cons x xs ih =>
    intro n last s
    unfold gBuild
    split
    · next e he => exact fun h => hpre s x (by rw [he]; injection h with h; rw [h])
    · split
      · exact fun h => nomatch h
      · split
        · exact fun h => nomatch h
        · exact ih _ _ _

/-- an invariant of the updates, indexed by the number of nonces consumed, holds at the end: when the
state test is known to have passed all along, and — together with that fact — when it passes because
of the invariant (one induction for both) -/
theorem gFold_inv (ns : List Nat) (Inv : Nat → σ → Prop)
    (hstep : ∀ n s, n < ns.length → Inv n s → pre s (ns.getD n 0) = none →
      Inv (n+1) (push n (ns.getD n 0) s)) :
    ∀ xs pfx s, ns = pfx ++ xs → Inv pfx.length s →
      (preChain pre push xs pfx.length s → Inv ns.length (gFold push xs pfx.length s)) ∧
      ((∀ n s, n < ns.length → Inv n s → pre s (ns.getD n 0) = none) →
        preChain pre push xs pfx.length s ∧ Inv ns.length (gFold push xs pfx.length s)) := by
  intro xs
  induction xs with
  | nil =>
    intro pfx s hns inv
    rw [show ns.length = pfx.length by simp [hns]]
    exact ⟨fun _ => inv, fun _ => ⟨trivial, inv⟩⟩
  | cons x xs ih =>
    intro pfx s hns inv
    have hx : ns.getD pfx.length 0 = x := by rw [hns]; exact getD_append_cons pfx xs x
    have hpl : pfx.length < ns.length := by simp [hns]
    have next : pre s x = none → _ := fun hp => ih (pfx ++ [x]) (push pfx.length x s) (by simp [hns])
      (by rw [List.length_append, List.length_singleton, ← hx]; exact hstep _ s hpl inv (hx ▸ hp))
    simp only [List.length_append, List.length_singleton] at next
    exact ⟨fun c => (next c.1).1 c.2, fun q =>
      have hp := hx ▸ q _ s hpl inv
      ⟨⟨hp, ((next hp).2 q).1⟩, ((next hp).2 q).2⟩⟩

theorem gBuild_sound (ns : List Nat) (Inv : Nat → σ → Prop)
    (hstep : ∀ n s, n < ns.length → Inv n s → pre s (ns.getD n 0) = none →
      Inv (n+1) (push n (ns.getD n 0) s))
    {s0 s : σ} (h0 : Inv 0 s0) (hb : gBuild mask pre push ns 0 none s0 = .ok s) :
    Inv ns.length s ∧ (∀ x ∈ ns, x ≤ mask) ∧ ascChain none ns := by
  obtain ⟨c, a, b, rfl⟩ := gBuild_ok_iff.mp hb
  exact ⟨(gFold_inv ns Inv hstep ns [] s0 rfl h0).1 c, a, b⟩

theorem gBuild_complete (ns : List Nat) (Inv : Nat → σ → Prop)
    (hstep : ∀ n s, n < ns.length → Inv n s → pre s (ns.getD n 0) = none →
      Inv (n+1) (push n (ns.getD n 0) s))
    (hpre : ∀ n s, n < ns.length → Inv n s → pre s (ns.getD n 0) = none)
    {s0 : σ} (h0 : Inv 0 s0) (hmask : ∀ x ∈ ns, x ≤ mask) (hasc : ascChain none ns) :
    gBuild mask pre push ns 0 none s0 = .ok (gFold push ns 0 s0) ∧ Inv ns.length (gFold push ns 0 s0) := by
  have := (gFold_inv ns Inv hstep ns [] s0 rfl h0).2 hpre
  exact ⟨gBuild_ok_iff.mpr ⟨this.1, hmask, hasc, rfl⟩, this.2⟩

theorem gFold_xor (acc : σ → Nat) (f : Nat → Nat) (hacc : ∀ n x s, acc (push n x s) = acc s ^^^ f x) :
    ∀ xs n s, acc (gFold push xs n s) = acc s ^^^ xorAll (xs.map f)
  | [], _, s => by simp [gFold, xorAll]
  | x :: xs, n, s => by
    rw [gFold, gFold_xor acc f hacc xs, hacc, List.map_cons, xorAll_cons, Nat.xor_assoc]

end

end GV.Pow
