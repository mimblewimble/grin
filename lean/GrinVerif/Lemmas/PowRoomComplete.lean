import GrinVerif.Lemmas.PowUComplete
import GrinVerif.Lemmas.PowRoom
/-! Towards the completeness of the Cuckaroom verifier (`Props/C05.verifyCuckaroom_complete`): read on
slots (`to` ends are the odd slots) a directed cycle is a cycle of the generic engine, from the `to`
end of an edge that has a partner the step goes to the partner's edge, and the xor test passes. -/
namespace GV.Pow

theorem roomBuild_complete (P : Params) (ep : Nat → Nat × Nat) (ns : List Nat)
    (hmask : ∀ x ∈ ns, x ≤ P.edgeMask) (hasc : ascChain none ns) :
    ∃ s, roomBuild P ep ns 0 none (RoomSt.init ns.length) = .ok s ∧ RoomInv P ep ns ns.length s ∧
      s.xf = xorAll (ns.map (fun x => (ep x).1)) ∧ s.xt = xorAll (ns.map (fun x => (ep x).2)) :=
  have h := gBuild_complete (mask := P.edgeMask) ns (fun n s => RoomInv P ep ns n s)
    (fun n s _ inv _ => roomPush_inv P ep ns n s inv) (fun _ _ _ _ => rfl) (roomInv_init P ep ns) hmask hasc
  ⟨_, (roomBuild_eq P ep ns 0 none _).trans h.1, h.2,
    (gFold_xor RoomSt.xf _ (fun _ _ _ => rfl) ns 0 _).trans (Nat.zero_xor _),
    (gFold_xor RoomSt.xt _ (fun _ _ _ => rfl) ns 0 _).trans (Nat.zero_xor _)⟩

theorem roomWalk_complete (P : Params) (size : Nat) (s : RoomSt) : ∀ tr i f vis n,
    Trace (roomStep P size s) i tr → tr.length ≤ f → tr.Nodup → (∀ x ∈ tr, vis x = false) →
    roomWalk P size s f vis i n = .ok (n + tr.length) := by
  intro tr
  induction tr with
  | nil => intro i f vis n h; exact absurd h.pos (Nat.lt_irrefl 0)
  | cons x tr ih =>
    intro i f vis n h hf hnd hvis
    obtain rfl : x = i := h.head
    obtain ⟨f, rfl⟩ : ∃ f', f = f' + 1 := ⟨f - 1, by simp only [List.length_cons] at hf; omega⟩
    unfold roomWalk
    rw [hvis x (List.mem_cons_self ..)]
    simp only [Bool.false_eq_true, if_false]
    rw [show roomFind size s (s.to x) (size + 1) (s.head (P.bk (s.to x))) = roomStep P size s x from rfl]
    cases tr with
    | nil => rw [show roomStep P size s x = .ok 0 from h.last]; rfl
    | cons y tr =>
      obtain ⟨hs, h0, ht⟩ := h.tail
      simp only [List.length_cons] at hf ih ⊢
      rw [hs]
      simp only [if_neg h0]
      rw [ih y f _ (n + 1) ht (by omega) (List.nodup_cons.mp hnd).2 (fun z hz => by
        have : z ≠ x := fun e => (List.nodup_cons.mp hnd).1 (e ▸ hz)
        simp [this, hvis z (List.mem_cons_of_mem _ hz)])]
      congr 1
      omega

/-- a Cuckaroom edge set as an undirected cycle on slots in which the two edge ends meeting in a
vertex are one `to` end (odd slot) and one `from` end (even slot) -/
def IsSlotCycleCuckaroom (es : List (Nat × Nat)) : Prop :=
  ∃ c, IsCycle es.length
    (fun a b => slotNode es a = slotNode es b ∧ a % 2 ≠ b % 2)
    (fun a b => slotNode es a = slotNode es b) c

theorem slotCycle_of_dirCycle (es : List (Nat × Nat)) (hL : 0 < es.length)
    (h : IsProofCycleCuckaroom es) : IsSlotCycleCuckaroom es := by
  obtain ⟨d, hd⟩ := h
  have hlen : d.length = es.length := by simpa using hd.perm.length_eq
  have hget : ∀ t, t < es.length → (d.map (fun e => 2 * e + 1)).getD t 0 = 2 * d.getD t 0 + 1 :=
    fun t ht => map_getD _ d t (by omega)
  have hx : ∀ e : Nat, (2 * e + 1) ^^^ 1 = 2 * e := by
    intro e; exact even_add_xor_one (2 * e) 1 (by omega) (by omega)
  refine ⟨d.map (fun e => 2 * e + 1), ?_, ?_, ?_, ?_⟩
  · simp [hlen]
  · rw [List.map_map]
    have : ((fun x => x / 2) ∘ fun e => 2 * e + 1) = id := by
      funext e; simp only [Function.comp, id]; omega
    rw [this, List.map_id]; exact hd.perm
  · intro t ht
    have hm : (t + 1) % es.length < es.length := Nat.mod_lt _ hL
    rw [hget t ht, hget _ hm, hx, slotNode_odd, slotNode_even]
    exact ⟨hd.link t ht, by omega⟩
  · intro a b ha hb hab hv
    rw [hget a ha, hget b hb, slotNode_odd, slotNode_odd] at hv
    have hma : (a + 1) % es.length < es.length := Nat.mod_lt _ hL
    have hmb : (b + 1) % es.length < es.length := Nat.mod_lt _ hL
    have hne : (a + 1) % es.length ≠ (b + 1) % es.length :=
      fun e => hab (succ_mod_inj _ a b hL ha hb e)
    apply hd.simple _ _ hma hmb hne
    rw [← hd.link a ha, ← hd.link b hb]; exact hv

/-- node value with the end of the edge (`from` / `to`) as its lowest bit -/
def uvRoom (es : List (Nat × Nat)) (s : Nat) : Nat := 2 * slotNode es s + s % 2

/-- with the end of the edge as the lowest bit of the node value, the slot reading of a Cuckaroom
cycle is a cycle of the generic engine under Cuckatoo's matching rule -/
theorem room_generic_cycle (es : List (Nat × Nat)) :
    IsSlotCycleCuckaroom es ↔ ∃ c, IsCycle es.length (adjG cfgCuckatoo (fun _ => 0) (uvRoom es))
      (sameVG cfgCuckatoo (fun _ => 0) (uvRoom es)) c := by
  have hp : ∀ s : Nat, s % 2 ≤ 1 := fun s => by omega
  exact exists_congr fun c => (IsCycle.congr (fun a b => by
    rw [show uvRoom es = fun s => 2 * slotNode es s + s % 2 from rfl, adjG_dirbit hp, and_iff_right rfl])
    (fun a b => by
    rw [show uvRoom es = fun s => 2 * slotNode es s + s % 2 from rfl, sameVG_dirbit hp, and_iff_right rfl])).symm

theorem roomStep_of_partner (P : Params) (ep : Nat → Nat × Nat) (ns : List Nat) (s : RoomSt)
    (inv : RoomInv P ep ns ns.length s) (i j : Nat) (hiN : i < 2 * ns.length) (hi : i % 2 = 1)
    (hp : Partner cfgCuckatoo (fun _ => 0) (uvRoom (ns.map ep))
      (2 * ns.length) i j) :
    roomStep P ns.length s (i / 2) = .ok ((j ^^^ 1) / 2) ∧ (j ^^^ 1) % 2 = 1 := by
  have hp2 : ∀ x : Nat, x % 2 ≤ 1 := fun x => by omega
  have h1 : (1 : Nat) < 2 := by decide
  have h0 : (0 : Nat) < 2 := by decide
  obtain ⟨e, d, hd, rfl⟩ := exists_slot i
  rw [two_mul_add_mod _ _ hd] at hi
  subst hi
  obtain ⟨e2, d2, hd2, rfl⟩ := exists_slot j
  obtain ⟨_, hn, hdne⟩ := (adjG_dirbit hp2 _ _).mp (adjG_of_partner hp)
  rw [two_mul_add_mod _ _ h1, two_mul_add_mod _ _ hd2] at hdne
  obtain rfl : d2 = 0 := by omega
  have he : e < ns.length := by omega
  have he2 : e2 < ns.length := by have := hp.lt; omega
  rw [even_add_xor_one (2 * e2) 0 (by omega) h0, two_mul_add_div _ _ h1, two_mul_add_div _ _ h1,
    two_mul_add_mod _ _ h1]
  refine ⟨roomStep_complete P ep ns s inv e e2 he2 ?_ fun k hk hf => ?_, rfl⟩
  · rw [inv.to e he]
    exact ((uvF_even ep ns e2 he2).symm.trans hn.symm).trans (uvF_odd ep ns e he)
  · -- another edge leaving that node would be another match of the inner loop
    have hs := hp.uniq (2 * k + 0) ⟨by omega, by omega, rfl⟩
      ((sameVG_dirbit (key := fun _ => 0) (node := slotNode (ns.map ep)) (dir := fun x => x % 2)
        hp2 _ _).mpr ⟨rfl, by
          rw [inv.to e he] at hf
          exact ((uvF_even ep ns k hk).trans hf).trans (uvF_odd ep ns e he).symm⟩).2
    omega

theorem room_trace_of_slotCycle (P : Params) (ep : Nat → Nat × Nat) (ns : List Nat) (s : RoomSt)
    (inv : RoomInv P ep ns ns.length s) (hL : 0 < ns.length) (h : IsSlotCycleCuckaroom (ns.map ep)) :
    ∃ tr, Trace (roomStep P ns.length s) 0 tr ∧ tr.length = ns.length := by
  obtain ⟨c, hG⟩ := (room_generic_cycle (ns.map ep)).mp h
  rw [List.length_map] at hG
  exact gcyc_trace mtEquiv_cuckatoo hG hL (InE := fun x => x % 2 = 1) (σ := fun x => x / 2) (x0 := 1)
    { start_lt := by omega, start := rfl, start_in := rfl,
      inj := fun a b (ha : a % 2 = 1) (hb : b % 2 = 1) (h : a / 2 = b / 2) => by omega,
      step := fun i j hiN hi hp => roomStep_of_partner P ep ns s inv i j hiN hi hp }

/-- along a slot cycle every `from` value is the `to` value of its partner: the xor test passes -/
theorem room_xor_of_slotCycle (ep : Nat → Nat × Nat) (ns : List Nat) (hL : 0 < ns.length)
    (h : IsSlotCycleCuckaroom (ns.map ep)) :
    xorAll (ns.map (fun x => (ep x).1)) = xorAll (ns.map (fun x => (ep x).2)) := by
  obtain ⟨c, hG⟩ := (room_generic_cycle (ns.map ep)).mp h
  rw [List.length_map] at hG
  exact eq_of_xor_eq_zero (cycle_xor_joint mtEquiv_cuckatoo ep ns c hL hG fun a b hp =>
    ((adjG_dirbit (fun x => Nat.le_of_lt_succ (Nat.mod_lt x (by decide))) a b).mp
      (adjG_of_partner hp)).2.1.symm)

end GV.Pow
