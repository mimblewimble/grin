import GrinVerif.Lemmas.PowUComplete
/-! # "every vertex has degree two and the edge set is connected" ⟺ "one simple cycle through all edges"

The independent formulation of the C05 specification (what the executable oracle of
`Model/PowSpec.lean` computes: degree counting + a connectivity closure) against the declarative
one (`IsCycle`), at the level of the generic undirected engine (`UCfg`, `Partner`).

* `Deg2`: every slot has exactly one partner slot (same vertex, other slot; Cuckatoo: the two ends
  differ in the low bit);
* `Conn`: every set of edges that contains edge 0 and is closed under "shares a vertex with" is
  the whole edge set.

`cycle_of_deg2_conn`: `Deg2 ∧ Conn ⟹ ∃ c, IsCycle …` — the cycle is the orbit of slot 0 under
"partner, then other end of the edge"; it closes (pigeonhole), never retraces an edge (partner is an
involution), and covers every edge (connectivity).  `deg2_conn_of_cycle`: the converse. -/
namespace GV.Pow

/-- every slot has a partner -/
def Deg2 (C : UCfg) (key uv : Nat → Nat) (L : Nat) : Prop :=
  ∀ i, i < 2 * L → ∃ j, Partner C key uv (2 * L) i j

/-- the edge set is connected through shared vertices -/
def Conn (C : UCfg) (key uv : Nat → Nat) (L : Nat) : Prop :=
  ∀ X : Nat → Prop, X 0 →
    (∀ e e', e < L → e' < L → X e' →
      (∃ x y, x / 2 = e ∧ y / 2 = e' ∧ sameVG C key uv x y) → X e) →
    ∀ e, e < L → X e

/-- **degree two + connected ⟹ one simple cycle through all edges** -/
theorem cycle_of_deg2_conn {C : UCfg} (E : MtEquiv C) {key uv : Nat → Nat} {L : Nat} (hL : 0 < L)
    (hdeg : Deg2 C key uv L) (hconn : Conn C key uv L) :
    ∃ c, IsCycle L (fun a b => Partner C key uv (2 * L) a b)
      (fun a b => key a = key b ∧ C.mt (uv a) (uv b) = true) c := by
  obtain ⟨pf, hpf⟩ := exists_fun_lt hdeg
  let step : Nat → Except Err Nat := fun i => .ok (pf i ^^^ 1)
  have hstep : StepsToPartner C key uv (2 * L) step := by
    intro i i' hi hs
    injection hs with hs
    exact ⟨pf i, hpf i hi, hs.symm⟩
  have hinv : ∀ i, i < 2 * L → pf (pf i) = i := fun i hi =>
    partner_invol E hi (hpf i hi) (hpf _ (hpf i hi).lt)
  obtain ⟨tr, htr⟩ := walk_returns step (2 * L) (by omega) (fun j => ⟨_, rfl⟩) (ustep_lt hstep)
    (ustep_inj E hstep)
  have hk : 0 < tr.length := htr.pos
  have hmod : ∀ t, t % tr.length < tr.length := fun t => Nat.mod_lt _ hk
  have hlt : ∀ t, t < tr.length → tr.getD t 0 < 2 * L := ucyc_lt hstep htr hL
  -- one step along the walk, cyclically
  have hnext : ∀ t, t < tr.length → pf (tr.getD t 0) ^^^ 1 = tr.getD ((t + 1) % tr.length) 0 := fun t ht => by
    have := htr.cyc_chain rfl t ht
    injection this
  have hmem : ∀ t, t < tr.length → tr.getD t 0 / 2 ∈ tr.map (· / 2) := fun t ht =>
    List.mem_map.mpr ⟨tr.getD t 0, getD_mem ht, rfl⟩
  have hkL : tr.length ≤ L := by
    have := nodup_subset_length_le (ucyc_edges_nodup E hstep htr hL) (m := List.range L) (by
      intro x hx
      obtain ⟨y, hy, rfl⟩ := List.mem_map.mp hx
      obtain ⟨t, ht, rfl⟩ := exists_getD_of_mem hy
      have := hlt t ht
      exact List.mem_range.mpr (by omega))
    simpa using this
  -- connectivity: every edge is entered by the walk
  have hall : ∀ e, e < L → ∃ t, t < tr.length ∧ tr.getD t 0 / 2 = e := by
    apply hconn (fun e => ∃ t, t < tr.length ∧ tr.getD t 0 / 2 = e)
    · exact ⟨0, hk, by rw [htr.head]⟩
    · intro e e' he _ ⟨t, ht, hte⟩ ⟨x, y, hx, hy, hv⟩
      have hxN : x < 2 * L := by omega
      have hyN : y < 2 * L := by omega
      by_cases hxy : x = y
      · exact ⟨t, ht, by rw [hte, ← hy, ← hxy, hx]⟩
      -- x is the partner of y
      have hxp : x = pf y := (hpf y hyN).uniq x ⟨hxN, hxy, hv.1⟩ hv.2
      rcases eq_or_xor_of_half y (tr.getD t 0) (by rw [hy, hte]) with h | h
      · -- y is the entry slot: x is the exit slot, the other end of the next entry
        refine ⟨_, hmod (t + 1), ?_⟩
        rw [← hnext t ht, ← h, ← hxp, xor_one_div]; exact hx
      · -- y is the other end of the entry slot = the exit slot of the vertex before
        have hp := hnext _ (hmod (t + tr.length - 1))
        rw [pred_succ_mod t _ hk ht] at hp
        refine ⟨_, hmod (t + tr.length - 1), ?_⟩
        rw [← hx, hxp, h, ← hp, xor_one_xor_one, hinv _ (hlt _ (hmod _))]
  have hLk : L ≤ tr.length := by
    have := nodup_subset_length_le (List.nodup_range (n := L)) (m := tr.map (· / 2)) (by
      intro e he
      obtain ⟨t, ht, h⟩ := hall e (List.mem_range.mp he)
      exact h ▸ hmem t ht)
    simpa using this
  exact ⟨tr, ucyc_cycle E hstep htr (by omega)⟩

/-- **one simple cycle through all edges ⟹ degree two + connected** -/
theorem deg2_conn_of_cycle {C : UCfg} (E : MtEquiv C) {key uv : Nat → Nat} {L : Nat} {c : List Nat}
    (hG : IsCycle L (adjG C key uv) (sameVG C key uv) c) (hL : 0 < L) :
    Deg2 C key uv L ∧ Conn C key uv L := by
  refine ⟨gcyc_has_partner E hG hL, ?_⟩
  · intro X h0 hcl
    obtain ⟨a0, ha0L, hs0e⟩ := hG.edge_cover 0 hL
    -- walk along the cycle from the position of edge 0
    have hwalk : ∀ d, X (c.getD ((a0 + d) % L) 0 / 2) := by
      intro d
      induction d with
      | zero => rw [Nat.add_zero, Nat.mod_eq_of_lt ha0L, hs0e]; exact h0
      | succ d ih =>
        have ht : (a0 + d) % L < L := Nat.mod_lt _ hL
        obtain ⟨l1, l2, _⟩ := hG.link _ ht
        rw [Nat.mod_add_mod] at l1 l2
        have hm : (a0 + (d + 1)) % L < L := Nat.mod_lt _ hL
        refine hcl _ _ (hG.edge_lt _ hm) (hG.edge_lt _ ht) ih
          ⟨c.getD ((a0 + (d + 1)) % L) 0 ^^^ 1, c.getD ((a0 + d) % L) 0, xor_one_div _, rfl, l1, l2⟩
    intro e he
    obtain ⟨a, haL, hse⟩ := hG.edge_cover e he
    have := hwalk (a + L - a0)
    rwa [show a0 + (a + L - a0) = a + L by omega, Nat.add_mod_right, Nat.mod_eq_of_lt haL, hse] at this

end GV.Pow
