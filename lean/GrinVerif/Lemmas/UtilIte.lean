/-! `if c then a else r`, for any value type. The validators of the models are chains of such links. -/
namespace GV

/-- Meant as a conditional rewrite rule: `simp only [ite_eq_iff_of_ne, ne_eq, reduceCtorEq, not_false_eq_true]`
walks down a whole chain (`a := .error e, x := .ok ()`; `a := some e, x := none`; …), the last three names
closing each side goal `a ≠ x` between constructors. -/
theorem ite_eq_iff_of_ne {α} {c : Prop} [Decidable c] {a r x : α} (h : a ≠ x) :
    (if c then a else r) = x ↔ ¬ c ∧ r = x := by
  by_cases hc : c <;> simp [hc, h]

theorem ite_ite_default {α} {a p : Prop} [Decidable a] [Decidable p] (x d : α) :
    (if a then d else if p then x else d) = if ¬ a ∧ p then x else d := by
  by_cases a <;> by_cases p <;> simp [*]

theorem rel_ite_iff {α β} (R : α → β → Prop) {c p : Prop} [Decidable c] [Decidable p] (h : c ↔ p)
    {x y : α} {x' y' : β} (hx : p → R x x') (hy : ¬ p → R y y') :
    R (if c then x else y) (if p then x' else y') := by
  by_cases hp : p
  · rw [if_pos (h.2 hp), if_pos hp]; exact hx hp
  · rw [if_neg (fun hc => hp (h.1 hc)), if_neg hp]; exact hy hp

theorem rel_ite {α β} (R : α → β → Prop) (c : Prop) [Decidable c] {x y : α} {x' y' : β}
    (hx : c → R x x') (hy : ¬ c → R y y') : R (if c then x else y) (if c then x' else y') :=
  rel_ite_iff R Iff.rfl hx hy

/-- reading `(c → p) ∧ (¬c → q)` link by link leaves `a ∧ (a → b)` behind -/
theorem and_self_imp {a b : Prop} : a ∧ (a → b) ↔ a ∧ b :=
  ⟨fun ⟨h, f⟩ => ⟨h, f h⟩, fun ⟨h, hb⟩ => ⟨h, fun _ => hb⟩⟩

end GV
