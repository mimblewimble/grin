import GrinVerif.Model.TxBlock
/-! Lemmas about `Pool::retrieve_transactions` (`Model/TxBlock.lean: retrLoop`): what the two nested
loops with their `break 'outer` compute, as a prefix of the loop without the break. -/
namespace GV.Tx
open List

/-- the kernels of a transaction whose short id is asked for, in order -/
def matching (sid : Nat → Nat) (ids : List Nat) (ks : List Nat) : List Nat :=
  ks.filter (fun k => ids.contains (sid k))

theorem mem_matching {sid : Nat → Nat} {ids ks : List Nat} {k : Nat} :
    k ∈ matching sid ids ks ↔ k ∈ ks ∧ ids.contains (sid k) = true := mem_filter

/-- ids found by the loops without the `break`: pool order, kernel order -/
def foundAll (sid : Nat → Nat) (ids : List Nat) (pool : List Tx) : List Nat :=
  pool.flatMap fun tx => (matching sid ids tx.kernels).map sid

/-- transactions pushed by the loops without the `break`: each once per matching kernel -/
def pushedAll (sid : Nat → Nat) (ids : List Nat) (pool : List Tx) : List Tx :=
  pool.flatMap fun tx => replicate (matching sid ids tx.kernels).length tx

/-! The two nested loops with their `break 'outer` are one scan over the (entry, kernel) pairs of the pool that
stops as soon as enough ids were found. -/

/-- the (entry, kernel) pairs in the order the loops visit them -/
def retrEvents (pool : List Tx) : List (Tx × Nat) := pool.flatMap fun tx => tx.kernels.map fun k => (tx, k)

/-- the body of the inner loop on one kernel of one entry -/
def retrHit (sid : Nat → Nat) (ids : List Nat) (r : Retr) (e : Tx × Nat) : Retr :=
  if ids.contains (sid e.2) then { r with txs := r.txs ++ [e.1], found := r.found ++ [sid e.2] } else r

def retrScan (sid : Nat → Nat) (ids : List Nat) : Retr → List (Tx × Nat) → Retr
  | r, [] => r
  | r, e :: es =>
    if (retrHit sid ids r e).found.length == ids.length then { retrHit sid ids r e with done := true }
    else retrScan sid ids (retrHit sid ids r e) es

theorem retrHit_done (sid : Nat → Nat) (ids : List Nat) (r : Retr) (e : Tx × Nat) : (retrHit sid ids r e).done = r.done := by
  unfold retrHit; split <;> rfl

theorem retrKernels_cons (sid : Nat → Nat) (ids : List Nat) (tx : Tx) (r : Retr) (k : Nat) (ks : List Nat) :
    retrKernels sid ids tx r (k :: ks) =
      if (retrHit sid ids r (tx, k)).found.length == ids.length then { retrHit sid ids r (tx, k) with done := true }
      else retrKernels sid ids tx (retrHit sid ids r (tx, k)) ks := rfl

theorem retrLoop_cons (sid : Nat → Nat) (ids : List Nat) (tx : Tx) (r : Retr) (rest : List Tx) :
    retrLoop sid ids r (tx :: rest) =
      if (retrKernels sid ids tx r tx.kernels).done then retrKernels sid ids tx r tx.kernels
      else retrLoop sid ids (retrKernels sid ids tx r tx.kernels) rest := rfl

theorem retrLoop_eq_retrScan (sid : Nat → Nat) (ids : List Nat) :
    ∀ (pool : List Tx) (r : Retr), r.done = false → retrLoop sid ids r pool = retrScan sid ids r (retrEvents pool)
  | [], _, _ => rfl
  | tx :: rest, r, hd => by
    have inner : ∀ (ks : List Nat) (r : Retr), r.done = false →
        (if (retrKernels sid ids tx r ks).done then retrKernels sid ids tx r ks
          else retrLoop sid ids (retrKernels sid ids tx r ks) rest) =
        retrScan sid ids r (ks.map (fun k => (tx, k)) ++ retrEvents rest) := by
      intro ks
      induction ks with
      | nil =>
        intro r hd
        simp only [retrKernels, hd, Bool.false_eq_true, if_false, map_nil, nil_append]
        exact retrLoop_eq_retrScan sid ids rest r hd
      | cons k ks ih =>
        intro r hd
        rw [retrKernels_cons, map_cons, cons_append, retrScan]
        split
        · rfl
        · exact ih _ ((retrHit_done sid ids r (tx, k)).trans hd)
    rw [retrLoop_cons, retrEvents, flatMap_cons]
    exact inner tx.kernels r hd

def retrHits (sid : Nat → Nat) (ids : List Nat) (es : List (Tx × Nat)) : List (Tx × Nat) :=
  es.filter fun e => ids.contains (sid e.2)

theorem retrHits_cons (sid : Nat → Nat) (ids : List Nat) (e : Tx × Nat) (es : List (Tx × Nat)) :
    retrHits sid ids (e :: es) = retrHits sid ids [e] ++ retrHits sid ids es := by
  rw [retrHits, retrHits, retrHits, ← filter_append]; rfl

theorem retrHit_eq (sid : Nat → Nat) (ids : List Nat) (r : Retr) (e : Tx × Nat) :
    (retrHit sid ids r e).found = r.found ++ (retrHits sid ids [e]).map (fun e => sid e.2) ∧
    (retrHit sid ids r e).txs = r.txs ++ (retrHits sid ids [e]).map (·.1) := by
  unfold retrHit retrHits
  cases h : ids.contains (sid e.2) <;>
    simp only [h, ↓reduceIte, filter_cons, filter_nil, map_cons, map_nil, append_nil, Bool.false_eq_true, and_self]

theorem retrScan_spec (sid : Nat → Nat) (ids : List Nat) :
    ∀ (es : List (Tx × Nat)) (r : Retr), r.done = false →
      ∃ n, (retrScan sid ids r es).found = r.found ++ ((retrHits sid ids es).take n).map (fun e => sid e.2) ∧
        (retrScan sid ids r es).txs = r.txs ++ ((retrHits sid ids es).take n).map (·.1) ∧
        ((retrScan sid ids r es).done = false → (retrHits sid ids es).length ≤ n) ∧
        ((retrScan sid ids r es).done = true → (retrScan sid ids r es).found.length = ids.length)
  | [], r, hd => ⟨0, (append_nil _).symm, (append_nil _).symm, fun _ => Nat.le_refl _,
      fun h => absurd (hd.symm.trans h) Bool.false_ne_true⟩
  | e :: es, r, hd => by
    obtain ⟨ef, et⟩ := retrHit_eq sid ids r e
    rw [retrScan, retrHits_cons]
    split
    · -- enough ids found: the scan stops behind `e`
      rename_i hl
      refine ⟨(retrHits sid ids [e]).length, ?_, ?_, fun h => Bool.noConfusion h, fun _ => eq_of_beq hl⟩
      · rw [take_left' rfl]; exact ef
      · rw [take_left' rfl]; exact et
    · obtain ⟨n, hf, ht, h0, h1⟩ := retrScan_spec sid ids es (retrHit sid ids r e) ((retrHit_done sid ids r e).trans hd)
      refine ⟨(retrHits sid ids [e]).length + n, ?_, ?_, ?_, h1⟩
      · rw [hf, ef, take_length_add_append, map_append, append_assoc]
      · rw [ht, et, take_length_add_append, map_append, append_assoc]
      · intro h; rw [length_append]; exact Nat.add_le_add_left (h0 h) _

theorem foundAll_eq_retrHits (sid : Nat → Nat) (ids : List Nat) (pool : List Tx) :
    foundAll sid ids pool = (retrHits sid ids (retrEvents pool)).map fun e => sid e.2 := by
  induction pool with
  | nil => rfl
  | cons tx rest ih =>
    simp only [foundAll, retrEvents, retrHits, flatMap_cons, filter_append, map_append, matching, filter_map, map_map] at ih ⊢
    rw [ih]; rfl

theorem pushedAll_eq_retrHits (sid : Nat → Nat) (ids : List Nat) (pool : List Tx) :
    pushedAll sid ids pool = (retrHits sid ids (retrEvents pool)).map (·.1) := by
  induction pool with
  | nil => rfl
  | cons tx rest ih =>
    simp only [pushedAll, retrEvents, retrHits, flatMap_cons, filter_append, map_append, matching, filter_map, map_map] at ih ⊢
    rw [ih, ← map_const']; rfl

/-- **the two loops compute a prefix of the break-free loops**: after the pool has been walked,
`found` / `txs` are the first `n` ids found / transactions pushed by the loops without the
`break`; if the `break` was not taken that is all of them, and if it was taken exactly as many ids
were found as were asked for. -/
theorem retrLoop_spec (sid : Nat → Nat) (ids : List Nat) (pool : List Tx) (r : Retr) (hd : r.done = false) :
      ∃ n, (retrLoop sid ids r pool).found = r.found ++ (foundAll sid ids pool).take n ∧
        (retrLoop sid ids r pool).txs = r.txs ++ (pushedAll sid ids pool).take n ∧
        ((retrLoop sid ids r pool).done = false → (foundAll sid ids pool).length ≤ n) ∧
        ((retrLoop sid ids r pool).done = true → (retrLoop sid ids r pool).found.length = ids.length) := by
  rw [retrLoop_eq_retrScan sid ids pool r hd, foundAll_eq_retrHits, pushedAll_eq_retrHits, length_map]
  simp only [← map_take]
  exact retrScan_spec sid ids (retrEvents pool) r hd

theorem mem_pushedAll {sid : Nat → Nat} {ids : List Nat} {pool : List Tx} {t : Tx} :
    t ∈ pushedAll sid ids pool ↔ t ∈ pool ∧ ∃ k ∈ t.kernels, ids.contains (sid k) = true := by
  simp only [pushedAll, mem_flatMap, mem_replicate]
  constructor
  · rintro ⟨tx, htx, hne, rfl⟩
    refine ⟨htx, ?_⟩
    obtain ⟨k, hk⟩ := exists_mem_of_length_pos (Nat.pos_of_ne_zero hne)
    exact ⟨k, (mem_matching.1 hk).1, (mem_matching.1 hk).2⟩
  · rintro ⟨htx, k, hk, hm⟩
    refine ⟨t, htx, ?_, rfl⟩
    apply Nat.ne_of_gt
    exact length_pos_of_mem (mem_matching.2 ⟨hk, hm⟩)

theorem mem_foundAll {sid : Nat → Nat} {ids : List Nat} {pool : List Tx} {i : Nat} :
    i ∈ foundAll sid ids pool ↔ i ∈ ids ∧ ∃ t ∈ pool, ∃ k ∈ t.kernels, sid k = i := by
  simp only [foundAll, mem_flatMap, mem_map, mem_matching]
  constructor
  · rintro ⟨t, ht, k, ⟨hk, hm⟩, rfl⟩
    exact ⟨by simpa using hm, t, ht, k, hk, rfl⟩
  · rintro ⟨hi, t, ht, k, hk, rfl⟩
    exact ⟨t, ht, k, ⟨hk, by simpa using hi⟩, rfl⟩

theorem dedupAdjTx_sublist : ∀ (l : List Tx), (dedupAdjTx l).Sublist l
  | [] => by simp [dedupAdjTx]
  | [_] => by simp [dedupAdjTx]
  | a :: b :: t => by
    have ih := dedupAdjTx_sublist (b :: t)
    unfold dedupAdjTx
    split
    · exact ih.trans (sublist_cons_self _ _)
    · exact ih.cons_cons a

theorem mem_dedupAdjTx : ∀ {l : List Tx} {x : Tx}, x ∈ dedupAdjTx l ↔ x ∈ l
  | [], _ => by simp [dedupAdjTx]
  | [_], _ => by simp [dedupAdjTx]
  | a :: b :: t, x => by
    have ih := @mem_dedupAdjTx (b :: t) x
    unfold dedupAdjTx
    by_cases e : (a == b) = true
    · have : a = b := by simpa using e
      subst this
      simp only [e, if_true, ih, mem_cons]
      constructor
      · intro h; exact Or.inr h
      · rintro (h | h); exact Or.inl h; exact h
    · simp only [e, Bool.false_eq_true, if_false, mem_cons, ih]

theorem length_pushedAll (sid : Nat → Nat) (ids : List Nat) (pool : List Tx) :
    (pushedAll sid ids pool).length = (foundAll sid ids pool).length := by
  rw [pushedAll_eq_retrHits, foundAll_eq_retrHits, length_map, length_map]

def poolKers (pool : List Tx) : List Nat := pool.flatMap (·.kernels)

theorem foundAll_eq (sid : Nat → Nat) (ids : List Nat) :
    ∀ (pool : List Tx), foundAll sid ids pool = (matching sid ids (poolKers pool)).map sid
  | [] => rfl
  | tx :: rest => by
    have ih := foundAll_eq sid ids rest
    simp only [foundAll, poolKers, matching, flatMap_cons, filter_append, map_append] at ih ⊢
    rw [ih]

theorem take_eq_self_of_length {α : Type} {l : List α} {n : Nat} (h : (l.take n).length = l.length) : l.take n = l := by
  apply take_of_length_le
  rw [length_take] at h
  omega

theorem dedupAdjTx_replicate (a : Tx) : ∀ (m : Nat) (l : List Tx), l.head? ≠ some a →
    dedupAdjTx (replicate (m + 1) a ++ l) = a :: dedupAdjTx l
  | 0, [], _ => by simp [replicate, dedupAdjTx]
  | 0, b :: t, h => by
    have hne : (a == b) = false := by
      cases hb : (a == b)
      · rfl
      · exfalso; apply h; have : a = b := by simpa using hb
        simp [this]
    simp only [replicate, nil_append, cons_append]
    rw [dedupAdjTx]
    simp [hne]
  | m + 1, l, h => by
    have ih := dedupAdjTx_replicate a m l h
    have e : replicate (m + 1 + 1) a ++ l = a :: a :: (replicate m a ++ l) := by
      simp [replicate_succ]
    rw [e, dedupAdjTx]
    have e2 : a :: (replicate m a ++ l) = replicate (m + 1) a ++ l := by simp [replicate_succ]
    simp only [beq_self_eq_true, if_true]
    rw [e2, ih]

theorem dedupAdjTx_pushedAll (sid : Nat → Nat) (ids : List Nat) :
    ∀ (pool : List Tx),
      (pool.filter fun tx => (matching sid ids tx.kernels).length != 0).Pairwise (· ≠ ·) →
      dedupAdjTx (pushedAll sid ids pool) = pool.filter fun tx => (matching sid ids tx.kernels).length != 0
  | [], _ => by simp [pushedAll, dedupAdjTx]
  | tx :: rest, hp => by
    cases hm : (matching sid ids tx.kernels).length with
    | zero =>
      have hp' : (rest.filter fun tx => (matching sid ids tx.kernels).length != 0).Pairwise (· ≠ ·) := by
        simpa [filter_cons, hm] using hp
      have ih := dedupAdjTx_pushedAll sid ids rest hp'
      simp only [pushedAll, flatMap_cons, hm, replicate_zero, nil_append, filter_cons] at ih ⊢
      simpa using ih
    | succ m =>
      have hp' : tx ∉ (rest.filter fun tx => (matching sid ids tx.kernels).length != 0) ∧
          (rest.filter fun tx => (matching sid ids tx.kernels).length != 0).Pairwise (· ≠ ·) := by
        have : (filter (fun tx => (matching sid ids tx.kernels).length != 0) (tx :: rest)) =
            tx :: filter (fun tx => (matching sid ids tx.kernels).length != 0) rest := by
          simp [hm]
        rw [this, pairwise_cons] at hp
        exact ⟨fun h => hp.1 tx h rfl, hp.2⟩
      have ih := dedupAdjTx_pushedAll sid ids rest hp'.2
      have hd : (pushedAll sid ids rest).head? ≠ some tx := by
        intro h
        have hmem : tx ∈ pushedAll sid ids rest := mem_of_mem_head? h
        have hmem' : tx ∈ dedupAdjTx (pushedAll sid ids rest) := mem_dedupAdjTx.2 hmem
        rw [ih] at hmem'
        exact hp'.1 hmem'
      have e : pushedAll sid ids (tx :: rest) = replicate (m + 1) tx ++ pushedAll sid ids rest := by
        simp [pushedAll, hm]
      rw [e, dedupAdjTx_replicate tx m _ hd, ih]
      simp [hm]

/-- different selected entries are different transactions: their kernels are disjoint -/
theorem filter_matching_pairwise_ne (sid : Nat → Nat) (ids : List Nat) : ∀ (pool : List Tx), (poolKers pool).Nodup →
    (pool.filter fun tx => (matching sid ids tx.kernels).length != 0).Pairwise (· ≠ ·)
  | [], _ => by simp
  | a :: t, nd => by
    rw [poolKers, flatMap_cons, nodup_append] at nd
    have iht := filter_matching_pairwise_ne sid ids t nd.2.1
    by_cases ha : ((matching sid ids a.kernels).length != 0) = true
    · rw [filter_cons, if_pos ha, pairwise_cons]
      refine ⟨?_, iht⟩
      intro b hb hab
      subst hab
      have hne : (matching sid ids a.kernels).length ≠ 0 := by simpa using ha
      obtain ⟨k, hk⟩ := exists_mem_of_length_pos (Nat.pos_of_ne_zero hne)
      have hk' : k ∈ a.kernels := (mem_matching.1 hk).1
      exact nd.2.2 k hk' k (mem_flatMap.2 ⟨a, (mem_filter.1 hb).1, hk'⟩) rfl
    · rw [filter_cons, if_neg ha]; exact iht

end GV.Tx
