import GrinVerif.Lemmas.DecSer
import GrinVerif.Lemmas.DecSerEraseMsg
import GrinVerif.Lemmas.DecSerErase
import GrinVerif.Lemmas.SerHeader
import GrinVerif.Lemmas.UtilIte
/-! Allocation bounds (and the panic-freedom that is not an erasure corollary) of the composite decoders of
`Model/DecSer.lean`: `Inputs`, `TransactionBody`, `validate_read`, `Transaction`; `Proof::read`, `BlockHeader`,
`UntrustedBlockHeader`, `UntrustedBlock`, `CompactBlockBody`, `UntrustedCompactBlock`; `BitmapBlock`, `BitmapSegment`, the
segment responses; and the assembled payload of `decode_message`. The item types (`TxKernel`, `Input`, `Output`, …) have
theirs from their walk in `Lemmas/WireTx.lean`. -/
namespace GV.DecSer
open GV GV.Ser GV.Dec GV.Msg

theorem _root_.GV.Wire.Instr.bnd_readMulti {ρ : Type} {e w c1 sz : Nat} {q : Parser ρ} {p : Dec ρ}
    (i : Wire.Instr e w q p) (hd : GROW * sz ≤ c1 * w) (count : Nat) : Bnd (1 + c1) 0 e (readMulti p sz count) :=
  (i.bndS_readMulti (d := 0) hd count).toBnd

/-- the coefficient of the body decoders: 1 (bytes read) + 92, where 92 · 42 ≥ 4 · 728 + 728 + 200
pays, per 42-byte output, for the pushed `Vec<Output>`, its `to_vec()` copy and the cut-through
temporaries -/
def CB : Nat := 93

/-- the credit a decoded body carries for `validate_read`. Per item read the `read_multi` loops below hand on
`d` = its later copy + its share here: 234 = `INPUT_MEM` + 200, 233 = `COMMIT_MEM` + 200, 928 = `OUTPUT_MEM` + 200,
260 = `KERNEL_MEM` + 4 · 33. -/
def νBody (b : TxBody) : Nat :=
  CUT_THROUGH_MEM * b.inputs.len + CUT_THROUGH_MEM * b.outputs.length + GROW * COMMIT_MEM * b.kernels.length

theorem bndS_rInputs (rd : Rdr) (ver ni : Nat) :
    BndS CB 0 33 (fun ins : Inputs => CUT_THROUGH_MEM * ins.len) (rInputs rd ver ni) :=
  BndS.ite _
    (BndS.seq ((Wire.wire_input.instr rd).bndS_readMulti (c1 := 92) (d := 234) (by decide) ni)
      fun l => BndS.spend _ (CUT_THROUGH_MEM * l.length) (BndS.ret (Nat.le_refl _))
        (by simp only [INPUT_MEM, CUT_THROUGH_MEM]; omega))
    (BndS.seq ((Wire.wire_commit.instr rd).bndS_readMulti (c1 := 92) (d := 233) (by decide) ni)
      fun l => BndS.spend _ (CUT_THROUGH_MEM * l.length) (BndS.ret (Nat.le_refl _))
        (by simp only [COMMIT_MEM, CUT_THROUGH_MEM]; omega))

/-- `TransactionBody::read`: allocation ≤ 93 · consumed, plus one failed `read_fixed_bytes` (≤ 675);
the decoded body still carries the credit that `validate_read` spends. Each `read_multi` hands its credit on to the
reads after it (it accumulates in the budget of the goal) until `TransactionBody::init` spends the part for the two
`to_vec()` copies and leaves `νBody` for `validate_read`. -/
theorem bndS_rTxBody (rd : Rdr) (c : Cfg) : BndS CB 0 675 νBody (rTxBody rd c) :=
  BndS.seq (Bnd.toBndS (bnd_rU64 CB)) fun ni => BndS.seq (Bnd.toBndS (bnd_rU64 CB)) fun no =>
  BndS.seq (Bnd.toBndS (bnd_rU64 CB)) fun nk =>
  BndS.ite _ BndS.err
   (BndS.seq (bndS_rInputs rd c.ver ni) fun ins =>
    BndS.seq ((instr_rOutput rd).bndS_readMulti (c1 := 92) (d := 928) (by decide) no)
      fun outs =>
    BndS.seq (((Wire.wire_txKernel c).instr rd).bndS_readMulti (c1 := 92) (d := 260) (by decide) nk) fun kers =>
    BndS.spend _ (νBody (TxBody.mk ins outs kers)) (BndS.corrupt _ (BndS.ret (Nat.le_refl _)))
      (by simp only [νBody, OUTPUT_MEM, KERNEL_MEM, CUT_THROUGH_MEM, GROW, COMMIT_MEM]; omega))

theorem noPanic_rTxBody (rd : Rdr) (c : Cfg) : NoPanic (rTxBody rd c) := (erases_rTxBody rd c).noPanic

/-- `validate_read` spends at most the credit of the body, and nothing else; it consumes nothing, so this holds under
every coefficient -/
theorem bndS_validateReadBody (c0 : Nat) (c : Cfg) (maxW : Nat) (b : TxBody) :
    BndS c0 (νBody b) 0 (fun _ : Unit => 0) (validateReadBody c maxW b) := by
  have hn : ((b.kernels.filter (·.features.isNrd)).map (·.excess)).length ≤ b.kernels.length := by
    rw [List.length_map]; exact List.length_filter_le _ _
  refine BndS.ite _ BndS.err (BndS.spend _ (CUT_THROUGH_MEM * (b.inputs.len + b.outputs.length))
    (BndS.ite _ BndS.err (BndS.corrupt _ (BndS.spend _ 0 (BndS.corrupt _ BndS.ret)))) ?_)
  simp only [νBody, GROW, COMMIT_MEM, CUT_THROUGH_MEM] at hn ⊢
  split <;> omega

theorem noPanic_validateReadBody (c : Cfg) (maxW : Nat) (b : TxBody) : NoPanic (validateReadBody c maxW b) :=
  (erases_validateReadBody c maxW b).noPanic

theorem alloc_charge {β : Type} (n : Nat) (k : Outcome β) : (charge n k).alloc = n + k.alloc := by
  cases k <;> rfl

theorem validateReadBody_alloc (c : Cfg) (maxW : Nat) (b : TxBody) (rest : Bytes) :
    (validateReadBody c maxW b rest).alloc ≤ νBody b := by
  have := (bndS_validateReadBody 0 c maxW b).toBnd.alloc_le rest
  rwa [Nat.zero_mul, Nat.zero_add, Nat.add_zero] at this

theorem validateReadBody_rest (c : Cfg) (maxW : Nat) (b : TxBody) : ProgW 0 (validateReadBody c maxW b) :=
  Bnd.progW0 (bndS_validateReadBody 0 c maxW b).toBnd

theorem bnd_rTransaction (rd : Rdr) (c : Cfg) : Bnd CB 0 675 (rTransaction rd c) :=
  (BndS.seq (Bnd.toBndS ((Wire.wire_blind.bnd rd).mono (by decide : 1 ≤ CB) (Nat.le_refl _) (Nat.le_refl _))) fun off =>
    BndS.seq (bndS_rTxBody rd c) fun body =>
    BndS.seqK 0 (bndS_validateReadBody CB c (maxTxWeight c.maxWeight) body) fun _ =>
      BndS.ite _ (BndS.ret (ν := fun _ => 0) (Nat.zero_le _)) BndS.err).toBnd

theorem noPanic_rTransaction (rd : Rdr) (c : Cfg) : NoPanic (rTransaction rd c) := (erases_rTransaction rd c).noPanic

theorem packLen_le (ps eb : Nat) (heb : eb ≤ 63) : packLen ps eb ≤ 8 * ps := by
  unfold packLen
  have : eb * ps ≤ 63 * ps := Nat.mul_le_mul_right ps heb
  omega

theorem bnd_proofFromBits (c0 : Nat) (c : Cfg) (eb : Nat) (bits : Bytes) : Bnd c0 0 0 (proofFromBits c eb bits) := by
  intro r
  unfold proofFromBits
  cases nonceLoop bits eb c.proofSize 0 with
  | error s => simp
  | ok vs =>
    simp only
    split
    · simp
    · cases readNumberP bits (c.proofSize * eb) (packLen c.proofSize eb * 8 - c.proofSize * eb) with
      | error s => simp
      | ok pad =>
        simp only
        split <;> simp

/-- `Proof::read`: `8 · proofsize` for the nonce vector, the packed bytes it reads, and one failed read
of at most `8 · proofsize` bytes -/
theorem bnd_rProof (rd : Rdr) (c : Cfg) : Bnd 1 (8 * c.proofSize) (8 * c.proofSize) (rProof rd c) :=
  Bnd.seq (bnd_rU8 1) fun eb =>
    Bnd.iteH _ (fun _ => Bnd.err) fun heb =>
      Bnd.cap c.proofSize 8 (by omega)
        (Bnd.ite _ Bnd.err
          (Bnd.seqE (bnd_rFixed rd (packLen c.proofSize eb)) (fun bits => (bnd_proofFromBits 1 c eb bits).free)
            (by have := packLen_le c.proofSize eb (by omega); omega)))

theorem bnd_rProofOfWork (rd : Rdr) (c : Cfg) :
    Bnd 1 (8 * c.proofSize) (8 * c.proofSize) (rProofOfWork rd c) :=
  Bnd.seq (bnd_rU64 1) fun td => Bnd.seq (bnd_rU32 1) fun ss => Bnd.seq (bnd_rU64 1) fun nonce =>
    Bnd.seqK 0 (bnd_rProof rd c) fun pf => Bnd.ret

theorem bnd_rBlockHeader (rd : Rdr) (c : Cfg) :
    Bnd 1 (8 * c.proofSize) (32 + 8 * c.proofSize) (rBlockHeader rd c) := by
  rw [rBlockHeader_eq]
  exact Bnd.seqE ((wire_prePow noPow).bnd rd) fun _ => Bnd.seqK 0 (bnd_rProofOfWork rd c) fun _ => Bnd.ite _ Bnd.err Bnd.ret

theorem noPanic_rBlockHeader (rd : Rdr) (c : Cfg) (hps : c.proofSize * 8 ≤ ISIZE_MAX) :
    NoPanic (rBlockHeader rd c) := (erases_rBlockHeader rd c hps).noPanic

theorem bnd_untrustedChecks (c0 : Nat) (e : Env) (h : BlockHeader) :
    Bnd c0 (powVerifyAlloc e.cfg.proofSize) 0 (untrustedChecks e h) := by
  intro r
  unfold untrustedChecks
  simp only
  cases GV.Cons.untrustedHeaderCheck e.ct e.now e.ftl (e.powOk h) (toHdr h) with
  | error x => cases x <;> simp only [charge, Outcome.addAlloc, OBnd_err] <;> split <;> omega
  | ok u => simp only [charge, Outcome.addAlloc, OBnd_ok]; refine ⟨Nat.le_refl _, ?_⟩; split <;> omega

theorem noPanic_untrustedChecks (e : Env) (h : BlockHeader) : NoPanic (untrustedChecks e h) := by
  intro r
  unfold untrustedChecks
  simp only
  cases GV.Cons.untrustedHeaderCheck e.ct e.now e.ftl (e.powOk h) (toHdr h) with
  | error x => cases x <;> rfl
  | ok u => rfl

/-- the additive constant of a header: nonce vector + what `verify_size` allocates -/
def hdrK (ps : Nat) : Nat := 8 * ps + powVerifyAlloc ps
/-- the slack of a failed read inside a header -/
def hdrE (ps : Nat) : Nat := 32 + 8 * ps

theorem bnd_rUntrustedHeader (rd : Rdr) (e : Env) :
    Bnd 1 (hdrK e.cfg.proofSize) (hdrE e.cfg.proofSize) (rUntrustedHeader rd e) :=
  Bnd.seqK _ (bnd_rBlockHeader rd e.cfg) (fun h => (bnd_untrustedChecks 1 e h).weaken (Nat.le_refl _) (Nat.zero_le _))
    (Nat.le_refl _) (Nat.le_refl _)

theorem noPanic_rUntrustedHeader (rd : Rdr) (e : Env) (hps : e.cfg.proofSize * 8 ≤ ISIZE_MAX) :
    NoPanic (rUntrustedHeader rd e) :=
  NoPanic.bind (noPanic_rBlockHeader rd e.cfg hps) (noPanic_untrustedChecks e)

theorem bnd_rUntrustedBlock (rd : Rdr) (e : Env) :
    Bnd CB (hdrK e.cfg.proofSize) (675 + hdrE e.cfg.proofSize) (rUntrustedBlock rd e) :=
  (BndS.seqK 0
      (Bnd.toBndS ((bnd_rUntrustedHeader rd e).mono (by decide : 1 ≤ CB) (Nat.le_refl _) (Nat.le_refl _))) fun h =>
    BndS.seq (bndS_rTxBody rd e.cfg) fun body =>
    BndS.seqK 0 (bndS_validateReadBody CB e.cfg e.cfg.maxWeight body) fun _ =>
      BndS.ret (ν := fun _ => 0) (Nat.zero_le _)).toBnd

theorem noPanic_rUntrustedBlock (rd : Rdr) (e : Env) (hps : e.cfg.proofSize * 8 ≤ ISIZE_MAX) :
    NoPanic (rUntrustedBlock rd e) :=
  NoPanic.bind (noPanic_rUntrustedHeader rd e hps) fun h =>
    NoPanic.bind (noPanic_rTxBody rd e.cfg) fun body =>
    NoPanic.bind (noPanic_validateReadBody e.cfg e.cfg.maxWeight body) fun _ => NoPanic.pure (Block.mk h body)

theorem compactVerifySortedP_noPanic (key : Bytes → Nat) (b : CompactBlockBody) (s : Site) :
    compactVerifySortedP key b ≠ .panic s := by
  rw [compactVerifySortedP_eq]; exact chkOf_ne_panic _ s

/-- the coefficient of the compact-block body: 1 + 70, where 70 · 42 ≥ 4 · 728 pays for the pushed
`Vec<Output>` per 42-byte output (there is no weight pre-check and no `to_vec()`) -/
def CC : Nat := 71

theorem bnd_rCompactBody (rd : Rdr) (c : Cfg) : Bnd CC 0 675 (rCompactBody rd c) :=
  Bnd.seq (bnd_rU64 CC) fun no => Bnd.seq (bnd_rU64 CC) fun nk => Bnd.seq (bnd_rU64 CC) fun ni =>
  Bnd.seqE ((instr_rOutput rd).bnd_readMulti (c1 := 70) (by decide) no) fun outs =>
  Bnd.seqE (((Wire.wire_txKernel c).instr rd).bnd_readMulti (c1 := 70) (by decide) nk) fun kers =>
  Bnd.seqE ((Wire.wire_shortId.instr rd).bnd_readMulti (c1 := 70) (by decide) ni) fun ids => Bnd.corrupt _ Bnd.ret

theorem noPanic_rCompactBody (rd : Rdr) (c : Cfg) : NoPanic (rCompactBody rd c) := (erases_rCompactBody rd c).noPanic

theorem bnd_rUntrustedCompactBlock (rd : Rdr) (e : Env) :
    Bnd CC (hdrK e.cfg.proofSize) (675 + hdrE e.cfg.proofSize) (rUntrustedCompactBlock rd e) :=
  Bnd.seqK 0 ((bnd_rUntrustedHeader rd e).mono (by decide : 1 ≤ CC) (Nat.le_refl _) (Nat.le_refl _)) fun h =>
    Bnd.seq (bnd_rU64 CC) fun nonce =>
    Bnd.seqE (bnd_rCompactBody rd e.cfg) fun body =>
      Bnd.corrupt _ Bnd.ret

theorem noPanic_rUntrustedCompactBlock (rd : Rdr) (e : Env) (hps : e.cfg.proofSize * 8 ≤ ISIZE_MAX) :
    NoPanic (rUntrustedCompactBlock rd e) :=
  NoPanic.bind (noPanic_rUntrustedHeader rd e hps) fun h =>
    NoPanic.bind noPanic_rU64 fun nonce =>
    NoPanic.bind (noPanic_rCompactBody rd e.cfg) fun body =>
      NoPanic.corrupt _ (compactVerifySortedP_noPanic e.cfg.key body) (NoPanic.pure (CompactBlock.mk h nonce body))

theorem bnd_flipLoop (c nBits : Nat) : ∀ n, Bnd c 0 0 (flipLoop nBits n)
  | 0 => Bnd.ret
  | n+1 => Bnd.seq (bnd_rU16 c) fun _ =>
      Bnd.ite _ Bnd.err (Bnd.ite _ Bnd.unreachable (Bnd.seq (bnd_flipLoop c nBits n) fun _ => Bnd.ret))

/-- a block requests at most 8 KiB besides what it reads (the zeroed `BitVec` of 2^16 bits, allocated
before the entry count is known), whatever entry count follows -/
theorem bnd_rBitmapBlockBody (rd : Rdr) (nChunks mode : Nat) (hn : nChunks ≤ 64) :
    Bnd 1 8192 8192 (rBitmapBlockBody rd nChunks mode) :=
  Bnd.ite _
    (Bnd.seqE (bnd_rFixed rd (nChunks * CHUNK_BITS / 8))
      (fun bytes => Bnd.spend _ 0 Bnd.ret (by simp only [CHUNK_BITS]; omega))
      (by simp only [CHUNK_BITS]; omega))
    (Bnd.ite _
      (Bnd.cap (nChunks * CHUNK_BITS / 8) 1 (by simp only [CHUNK_BITS]; omega)
        (Bnd.seq (bnd_rU16 1) fun n => Bnd.seq (bnd_flipLoop 1 (nChunks * CHUNK_BITS) n) fun ps => Bnd.ret))
      Bnd.err)

theorem bnd_rBitmapBlock (rd : Rdr) : Bnd 1 8192 8192 (rBitmapBlock rd) :=
  Bnd.seq (bnd_rU8 1) fun nChunks =>
    Bnd.iteH _ (fun _ => Bnd.err) fun hn =>
      Bnd.seq (bnd_rU8 1) fun mode => bnd_rBitmapBlockBody rd nChunks mode (by simp only [NCHUNKS] at hn; omega)

theorem progW_rBitmapBlock (rd : Rdr) : ProgW 2 (rBitmapBlock rd) :=
  (ProgW.bind progW_rU8 fun nChunks =>
    ProgW.iteH (nChunks > NCHUNKS) (fun _ => ProgW.fail 1 .tooLarge)
      (fun hn => ProgW.bind progW_rU8 fun mode =>
        Bnd.progW0 (bnd_rBitmapBlockBody rd nChunks mode (by simp only [NCHUNKS] at hn; omega)))).mono (by omega)

/-- constant part of a bitmap segment: the block vector (128 · 32), 128 blocks of 8 KiB, the proof's
pre-allocation (1024 hashes) -/
def BITMAP_K : Nat := 4096 + 128 * 8192 + 32768

theorem BITMAP_K_eq : BITMAP_K = 1085440 := by decide

theorem bnd_rBitmapBlocks (rd : Rdr) (id : SegmentId) (nBlocks : Nat) (hn : nBlocks ≤ 128) :
    Bnd 1 BITMAP_K 8192 (rBitmapBlocks rd id nBlocks) :=
  (Bnd.withCapacity (A := 4096)
    (Bnd.bind (Bnd.readNk (bnd_rBitmapBlock rd) nBlocks) fun blocks =>
      Bnd.pass (validateBlocks id blocks)
        (Bnd.bind (bnd_segmentProof rd) fun proof => Bnd.pure 1 (BitmapSegment.mk id blocks proof)))
    nBlocks BITMAP_BLOCK_MEM (by simp only [BITMAP_BLOCK_MEM]; omega)).weaken (by unfold BITMAP_K; omega) (by decide)

theorem rBitmapAfterCount_cases (id : SegmentId) (nBlocks : Nat) (r : Bytes) :
    (∃ e, ∀ rd, rBitmapAfterCount rd id nBlocks r = .err e 0) ∨
    (nBlocks ≤ 128 ∧ ∀ rd, rBitmapAfterCount rd id nBlocks r = rBitmapBlocks rd id nBlocks r) := by
  unfold rBitmapAfterCount
  by_cases h0 : nBlocks = 0
  · exact .inl ⟨_, fun _ => if_pos h0⟩
  simp only [if_neg h0]
  cases hm : maxChunks id.height with
  | error e => exact .inl ⟨e, fun _ => rfl⟩
  | ok mx =>
    dsimp only
    by_cases hbig : nBlocks > (mx + NCHUNKS - 1) / NCHUNKS
    · exact .inl ⟨_, fun _ => if_pos hbig⟩
    simp only [if_neg hbig]
    cases leafOffset id with
    | error e => exact .inl ⟨e, fun _ => rfl⟩
    | ok off =>
      have := maxChunks_le hm
      exact .inr ⟨by simp only [NCHUNKS] at hbig; omega, fun _ => rfl⟩

theorem bnd_rBitmapAfterCount (rd : Rdr) (id : SegmentId) (nBlocks : Nat) :
    Bnd 1 BITMAP_K 8192 (rBitmapAfterCount rd id nBlocks) := by
  intro r
  rcases rBitmapAfterCount_cases id nBlocks r with ⟨e, h⟩ | ⟨hn, h⟩
  · rw [h]; simp
  · rw [h]; exact bnd_rBitmapBlocks rd id nBlocks hn r

/-- `BitmapSegment::read`: what it reads plus at most `BITMAP_K` ≈ 1.04 MiB — the block count is capped
at 128 before anything is allocated, but each 4-byte block may reserve 8 KiB -/
theorem bnd_rBitmapSegment (rd : Rdr) : Bnd 1 BITMAP_K 8192 (rBitmapSegment rd) :=
  Bnd.seq bnd_segmentId fun id => Bnd.seq (bnd_rU16 1) fun nBlocks => bnd_rBitmapAfterCount rd id nBlocks

theorem bnd_rSegmentResponse {α : Type} (rd : Rdr) {p : Dec α} {e : Nat} (hp : Bnd 1 0 e p) (sz : Nat) :
    Bnd 1 (81920 + 1024 * sz) (max 32 e) (rSegmentResponse rd p sz) :=
  Bnd.seqE (bnd_rHash rd) fun h => Bnd.seqK 0 (bnd_segment rd hp sz) fun s => Bnd.ret

theorem bnd_rOutputSegmentResponse (rd : Rdr) : Bnd 1 116736 33 (rOutputSegmentResponse rd) :=
  Bnd.seqK 0 (bnd_rSegmentResponse rd (Wire.wire_outputId.bnd rd) OUTPUT_ID_MEM)
    (fun p => Bnd.seqE (bnd_rHash rd) fun root => Bnd.ret) (by decide) (by decide)

theorem bnd_rBitmapSegmentResponse (rd : Rdr) : Bnd 1 BITMAP_K 8192 (rBitmapSegmentResponse rd) :=
  Bnd.seqE (bnd_rHash rd) fun h => Bnd.seqK 0 (bnd_rBitmapSegment rd) fun s => Bnd.seqE (bnd_rHash rd) fun root => Bnd.ret

theorem noPanic_rBitmapSegmentResponse (rd : Rdr) : NoPanic (rBitmapSegmentResponse rd) :=
  (erases_rBitmapSegmentResponse rd).noPanic

/-- additive constant of any payload: the largest capped pre-allocation (a bitmap segment) plus the
header's constant -/
def payloadK (ps : Nat) : Nat := BITMAP_K + hdrK ps
def payloadE (ps : Nat) : Nat := 8192 + 675 + hdrE ps

theorem payload_cases (R : Dec PayloadV → Dec PayloadV → Prop) (a b : Rdr) (e : Env) (t : Nat)
    (tx : R (fun bs => (rTransaction a e.cfg bs).map .tx) (fun bs => (rTransaction b e.cfg bs).map .tx))
    (block : R (fun bs => (rUntrustedBlock a e bs).map .block) (fun bs => (rUntrustedBlock b e bs).map .block))
    (compactBlock : R (fun bs => (rUntrustedCompactBlock a e bs).map .compactBlock)
      (fun bs => (rUntrustedCompactBlock b e bs).map .compactBlock))
    (header : R (fun bs => (rUntrustedHeader a e bs).map .header) (fun bs => (rUntrustedHeader b e bs).map .header))
    (bitmapSegment : R (fun bs => (rBitmapSegmentResponse a bs).map fun p => .bitmapSegment p.1 p.2.1 p.2.2)
      (fun bs => (rBitmapSegmentResponse b bs).map fun p => .bitmapSegment p.1 p.2.1 p.2.2))
    (outputSegment : R (fun bs => (rOutputSegmentResponse a bs).map fun p => .outputSegment p.1 p.2.1 p.2.2)
      (fun bs => (rOutputSegmentResponse b bs).map fun p => .outputSegment p.1 p.2.1 p.2.2))
    (rangeProofSegment :
      R (fun bs => (rSegmentResponse a (rRangeProof a) RANGE_PROOF_MEM bs).map fun p => .rangeProofSegment p.1 p.2)
        (fun bs => (rSegmentResponse b (rRangeProof b) RANGE_PROOF_MEM bs).map fun p => .rangeProofSegment p.1 p.2))
    (kernelSegment :
      R (fun bs => (rSegmentResponse a (rTxKernel a e.cfg) KERNEL_MEM bs).map fun p => .kernelSegment p.1 p.2)
        (fun bs => (rSegmentResponse b (rTxKernel b e.cfg) KERNEL_MEM bs).map fun p => .kernelSegment p.1 p.2))
    (other : R (fun _ => .err .corrupted 0) (fun _ => .err .corrupted 0)) :
    R (payload a e t) (payload b e t) :=
  rel_ite R _ (fun _ => tx) fun _ => rel_ite R _ (fun _ => block) fun _ => rel_ite R _ (fun _ => compactBlock) fun _ =>
  rel_ite R _ (fun _ => header) fun _ => rel_ite R _ (fun _ => bitmapSegment) fun _ =>
  rel_ite R _ (fun _ => outputSegment) fun _ => rel_ite R _ (fun _ => rangeProofSegment) fun _ =>
  rel_ite R _ (fun _ => kernelSegment) fun _ => other

theorem bnd_payload (rd : Rdr) (e : Env) (t : Nat) :
    Bnd CB (payloadK e.cfg.proofSize) (payloadE e.cfg.proofSize) (payload rd e t) := by
  have hK := BITMAP_K_eq
  unfold payloadK payloadE
  exact payload_cases (fun p _ => Bnd CB _ _ p) rd rd e t
    ((Bnd.map (bnd_rTransaction rd e.cfg) PayloadV.tx).weaken (by omega) (by omega))
    ((Bnd.map (bnd_rUntrustedBlock rd e) PayloadV.block).weaken (by omega) (by omega))
    ((Bnd.map (bnd_rUntrustedCompactBlock rd e) PayloadV.compactBlock).mono (by decide) (by omega) (by omega))
    ((Bnd.map (bnd_rUntrustedHeader rd e) PayloadV.header).mono (by decide) (by omega) (by omega))
    ((Bnd.map (bnd_rBitmapSegmentResponse rd) _).mono (by decide) (by omega) (by omega))
    ((Bnd.map (bnd_rOutputSegmentResponse rd) _).mono (by decide) (by omega) (by omega))
    ((Bnd.map (bnd_rSegmentResponse rd (instr_rRangeProof rd).bnd RANGE_PROOF_MEM) _).mono (by decide)
      (by simp only [RANGE_PROOF_MEM]; omega) (by omega))
    ((Bnd.map (bnd_rSegmentResponse rd ((Wire.wire_txKernel e.cfg).bnd rd) KERNEL_MEM) _).mono (by decide)
      (by simp only [KERNEL_MEM]; omega) (by omega))
    Bnd.err

end GV.DecSer
