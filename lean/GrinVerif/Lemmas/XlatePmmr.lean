import GrinVerif.Gen.FnsPmmr
import GrinVerif.Lemmas.XlateArith
import GrinVerif.Lemmas.PmmrShape
import GrinVerif.Lemmas.PmmrPeaks
import GrinVerif.Lemmas.BasicWrap
/-! Loop invariants tying the translated `while` loops of `pmmr.rs` (`peak_map_height`, `peak_sizes_height`,
`family_branch`; `Gen/FnsPmmr.lean`) to the structural recursions of the hand-written model (`Model/Pmmr.lean`), and
`peakMapHeight` at the positions the examples use; at the end what `peaks` needs of the peak sizes of a `size` (every
entry `≥ 1`, they add up to `size` minus the height rest).  The range facts about `peakMapHeight` that keep the
translated arithmetic from wrapping are in `Lemmas/PmmrShape.lean`. -/

namespace GV.Xlate
open GV GV.Pmmr GV.Pmmr.Co GV.Gen

theorem peak_size_step (k : Nat) :
    (2^(k+1) - 1 != 0) = true ∧ shrW (2^(k+1) - 1) 1 = 2^k - 1 := by
  have h2 : 2^(k+1) = 2 * 2^k := by rw [Nat.pow_succ]; omega
  have hkpos : 0 < 2^k := Nat.pow_pos (by omega)
  exact ⟨by simp; omega, by rw [shrW_one]; omega⟩

/-- `pm < 2^(64-k)` is what keeps `peak_map <<= 1` from wrapping -/
theorem pmh_loop : ∀ (k : Nat), k ≤ 64 → ∀ (fuel s pm : Nat), k ≤ fuel → s < 2^64 → pm < 2^(64-k) →
    Fns.peak_map_height_loop1 fuel s (2^k - 1) pm = ((greedy k s pm).2, 0, (greedy k s pm).1) ∧
    Fns.peak_map_height_loop1_exits fuel s (2^k - 1) pm = true := by
  intro k
  induction k with
  | zero =>
    intro _ fuel s pm _ _ _
    cases fuel <;> simp [Fns.peak_map_height_loop1, Fns.peak_map_height_loop1_exits, greedy]
  | succ k ih =>
    intro hk fuel s pm hf hs hpm
    obtain ⟨f, rfl⟩ : ∃ f, fuel = f + 1 := ⟨fuel - 1, by omega⟩
    obtain ⟨hne, hshr⟩ := peak_size_step k
    have h3 : 2^(64-k) = 2 * 2^(64-(k+1)) := by
      rw [show 64 - k = (64 - (k+1)) + 1 by omega, Nat.pow_succ]; omega
    have h4 : 2^(64-(k+1)) ≤ 2^63 := Nat.pow_le_pow_right (by omega) (by omega)
    have hshl : shlW pm 1 = 2 * pm := shlW_one (by omega)
    rw [Fns.peak_map_height_loop1, Fns.peak_map_height_loop1_exits, greedy]
    simp only [hne, if_true, hshl, hshr]
    by_cases hge : s ≥ 2^(k+1) - 1
    · have hsub : subW s (2^(k+1) - 1) = s - (2^(k+1) - 1) := subW_eq hs hge
      simp only [hge, decide_true, if_true, hsub, two_mul_or_one]
      exact ih (by omega) f _ _ (by omega) (by omega) (by omega)
    · simp only [hge, decide_false, Bool.false_eq_true, if_false]
      exact ih (by omega) f _ _ (by omega) hs (by omega)

theorem psh_loop : ∀ (k : Nat), k ≤ 64 → ∀ (fuel s : Nat) (acc : List Nat), k ≤ fuel → s < 2^64 →
    Fns.peak_sizes_height_loop1 fuel s (2^k - 1) acc
      = ((greedySizes k s).2, 0, acc ++ (greedySizes k s).1) ∧
    Fns.peak_sizes_height_loop1_exits fuel s (2^k - 1) acc = true := by
  intro k
  induction k with
  | zero =>
    intro _ fuel s acc _ _
    cases fuel <;> simp [Fns.peak_sizes_height_loop1, Fns.peak_sizes_height_loop1_exits, greedySizes]
  | succ k ih =>
    intro hk fuel s acc hf hs
    obtain ⟨f, rfl⟩ : ∃ f, fuel = f + 1 := ⟨fuel - 1, by omega⟩
    obtain ⟨hne, hshr⟩ := peak_size_step k
    rw [Fns.peak_sizes_height_loop1, Fns.peak_sizes_height_loop1_exits, greedySizes]
    simp only [hne, if_true, hshr]
    by_cases hge : s ≥ 2^(k+1) - 1
    · have hsub : subW s (2^(k+1) - 1) = s - (2^(k+1) - 1) := subW_eq hs hge
      simp only [hge, decide_true, if_true, hsub]
      obtain ⟨h1, h2⟩ := ih (by omega) f (s - (2^(k+1) - 1)) (acc ++ [2^(k+1) - 1]) (by omega) (by omega)
      exact ⟨by rw [h1, List.append_assoc]; rfl, h2⟩
    · simp only [hge, decide_false, Bool.false_eq_true, if_false]
      exact ih (by omega) f _ _ (by omega) hs

theorem height_lt_63 {pos : Nat} (h : pos + 2 < 2^64) : (peakMapHeight pos).2 < 63 :=
  height_lt_of_lt (k := 63) (by omega)

/-- `peakMapHeight` at the positions the examples use: 6 (height 2, a left child), leaf 7, 9 (height 1) -/
theorem pmh_6 : peakMapHeight 6 = (3, 2) := by decide +kernel
theorem pmh_7 : peakMapHeight 7 = (4, 0) := by decide +kernel
theorem pmh_9 : peakMapHeight 9 = (5, 1) := by decide +kernel

/-- One iteration of `family_branch` at the level-`j` ancestor.  The first `if` is the loop body's
`(current, sibling)` update as generated (`peak = 2^j`): it yields the level-`j+1` ancestor and the
model's sibling; the second is the model's `cur'`; the third keeps the fuel argument going. -/
theorem fb_step (n j : Nat) (hc : cpos (up n j, j) + 1 < 2^63) :
    (if ((n &&& 2^j) != 0) = true then
        (addW (cpos (up n j, j)) 1, subW (addW (cpos (up n j, j)) 1) (mulW 2 (2^j)))
      else (addW (cpos (up n j, j)) (mulW 2 (2^j)), subW (addW (cpos (up n j, j)) (mulW 2 (2^j))) 1))
      = (cpos (up n (j+1), j+1),
         if bitSet n j then cpos (up n (j+1), j+1) - 2 * 2^j else cpos (up n (j+1), j+1) - 1) ∧
    (if bitSet n j then cpos (up n j, j) + 1 else cpos (up n j, j) + 2 * 2^j)
      = cpos (up n (j+1), j+1) ∧
    cpos (up n j, j) + 1 ≤ cpos (up n (j+1), j+1) := by
  have room := cpos_up_room n j
  have hpos := Nat.two_pow_pos j
  have hmul : mulW 2 (2^j) = 2 * 2^j := mulW_eq (by omega)
  rw [and_two_pow_ne_zero, show (n / 2^j % 2 == 1) = bitSet n j from rfl, hmul]
  cases hb : bitSet n j with
  | true =>
    obtain ⟨_, _, h3, h4, _⟩ := step_right hb
    have e1 : cpos (up n j, j) + 1 = cpos (up n (j+1), j+1) := by omega
    simp only [if_true]
    rw [addW_eq (by omega), subW_eq (by omega) (by omega), e1]
    exact ⟨rfl, rfl, by omega⟩
  | false =>
    obtain ⟨_, _, h3, h4, _⟩ := step_left hb
    have e1 : cpos (up n j, j) + 2 * 2^j = cpos (up n (j+1), j+1) := by omega
    simp only [Bool.false_eq_true, if_false]
    rw [addW_eq (by omega), subW_eq (by omega) (by omega), e1]
    exact ⟨rfl, rfl, by omega⟩

/-- from level 63 on the loop condition fails (`cpos_up_room`): that bounds the fuel -/
theorem fb_loop (n size : Nat) (hsize : size ≤ 2^63) :
    ∀ (fuelT j fuelM : Nat) (acc : List (Nat × Nat)) (sib : Nat),
      64 ≤ j + fuelT → size ≤ cpos (up n j, j) + fuelM → cpos (up n j, j) + 1 < 2^64 →
      (Fns.family_branch_loop1 size n fuelT (2^j) acc (cpos (up n j, j)) sib).2.1
        = acc ++ familyBranchLoop n size fuelM (cpos (up n j, j)) j ∧
      Fns.family_branch_loop1_exits size n fuelT (2^j) acc (cpos (up n j, j)) sib = true := by
  intro fuelT
  induction fuelT with
  | zero =>
    intro j fuelM acc sib hj hM hc
    have room := cpos_up_room n j
    have : ¬ cpos (up n j, j) + 1 < size := by
      intro hlt
      have : 2^j ≤ 2^62 := by omega
      have := (Nat.pow_le_pow_iff_right (a := 2) (by omega)).1 this
      omega
    cases fuelM <;>
      simp [Fns.family_branch_loop1, Fns.family_branch_loop1_exits, familyBranchLoop, addW_eq hc, this]
  | succ f ih =>
    intro j fuelM acc sib hj hM hc
    by_cases hlt : cpos (up n j, j) + 1 < size
    · obtain ⟨m, rfl⟩ : ∃ m, fuelM = m + 1 := ⟨fuelM - 1, by omega⟩
      obtain ⟨hst, hcur, hmono⟩ := fb_step n j (by omega)
      have hjlt : j ≤ 62 := by
        have room := cpos_up_room n j
        exact (Nat.pow_le_pow_iff_right (a := 2) (by omega)).1 (by omega : 2^j ≤ 2^62)
      have hshl : shlW (2^j) 1 = 2^(j+1) := by
        rw [shlW_one (Nat.pow_lt_pow_right (by omega) (by omega)), Nat.pow_succ]; omega
      rw [Fns.family_branch_loop1, Fns.family_branch_loop1_exits, hst, addW_eq hc, familyBranchLoop]
      simp only [hlt, decide_true, if_true, hcur, hshl]
      by_cases hge : cpos (up n (j+1), j+1) ≥ size
      · simp [hge]
      · simp only [hge, decide_false, Bool.false_eq_true, if_false]
        obtain ⟨h1, h2⟩ := ih (j+1) m (acc ++ [(cpos (up n (j+1), j+1),
          if bitSet n j then cpos (up n (j+1), j+1) - 2 * 2^j else cpos (up n (j+1), j+1) - 1)])
          (if bitSet n j then cpos (up n (j+1), j+1) - 2 * 2^j else cpos (up n (j+1), j+1) - 1)
          (by omega) (by omega) (by omega)
        rw [h1]
        exact ⟨by simp, h2⟩
    · rw [Fns.family_branch_loop1, Fns.family_branch_loop1_exits, addW_eq hc]
      cases fuelM <;> simp [familyBranchLoop, hlt]
end GV.Xlate

namespace GV.Xlate2
open GV GV.Pmmr GV.Pmmr.Co GV.Xlate
open GV.Gen

theorem peakSizesHeight_sum (size : Nat) :
    (peakSizesHeight size).1.sum + (peakSizesHeight size).2 = size := by
  unfold peakSizesHeight
  by_cases h0 : size = 0
  · simp [h0]
  · simp only [h0, if_false]; exact greedySizes_sum _ _

theorem peakSizesHeight_pos (size : Nat) : ∀ x ∈ (peakSizesHeight size).1, 1 ≤ x := by
  unfold peakSizesHeight
  by_cases h0 : size = 0
  · simp [h0]
  · simp only [h0, if_false]; exact greedySizes_pos _ _

/-- the `scan` never stops early: one output per peak size -/
theorem scan_length : ∀ (l : List Nat) (acc : Nat),
    (Fns.scanOpt Fns.peaks_closure1 acc l).length = l.length := by
  intro l
  induction l with
  | nil => intro acc; simp [Fns.scanOpt]
  | cons x xs ih => intro acc; simp [Fns.scanOpt, Fns.peaks_closure1, ih]

end GV.Xlate2
