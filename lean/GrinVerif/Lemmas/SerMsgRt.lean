import GrinVerif.Lemmas.SerSegRt
import GrinVerif.Model.SerMsg
/-! Round-trip, refusal and normalisation lemmas for the handshake / sync messages
(`Model/SerMsg.lean`), and the value domains (`….WF`, `StringWF`, `CapsWF`, …) and normal forms (`PeerAddr.norm`, `Hand.norm`) the
C10 theorems about them quantify over. -/
namespace GV.SerMsg
open GV GV.Ser GV.SerSeg GV.Gen.Msg GV.Wire

def PeerAddr.WF : PeerAddr → Prop
  | .v4 ip port => ip.length = 4 ∧ port < 2^16
  | .v6 segs port _ _ => segs.length = 8 ∧ (∀ s ∈ segs, s < 2^16) ∧ port < 2^16

instance (a : PeerAddr) : Decidable a.WF := by
  cases a <;> unfold PeerAddr.WF <;> infer_instance

/-- what a reader makes of a written address: V4 stays; a V6 address loses flow info and scope id
(they are not on the wire) and **becomes a V4 address when `Ipv6Addr::to_ipv4_mapped()` is `Some`** -/
def PeerAddr.norm : PeerAddr → PeerAddr
  | .v4 ip port => .v4 ip port
  | .v6 segs port _ _ => v6Result segs port

theorem decPeerAddr_enc (a : PeerAddr) (h : a.WF) (rest : Bytes) :
    decPeerAddr (encPeerAddr a ++ rest) = .ok (a.norm, rest) := by
  cases a with
  | v4 ip port =>
    obtain ⟨h1, h2⟩ := h
    rw [decPeerAddr, encPeerAddr]
    simp only [List.append_assoc]
    rw [readU8_write, andThen_ok]
    simp only [↓reduceIte]
    rw [readFixed_write ip 4 h1 (by decide), andThen_ok, readU16_write _ h2, andThen_ok]
    rfl
  | v6 segs port fl sc =>
    obtain ⟨h1, h2, h3⟩ := h
    have hr := readItems_write readU16 writeU16 segs (fun s hs r => readU16_write s (h2 s hs) r)
    rw [h1] at hr
    rw [decPeerAddr, encPeerAddr]
    simp only [List.append_assoc]
    rw [readU8_write, andThen_ok]
    simp only [show ¬ (1 = 0) by omega, ↓reduceIte]
    rw [hr, andThen_ok, readU16_write _ h3, andThen_ok]
    rfl

theorem toIpv4_some {segs : List Nat} {ip : Bytes} (h : toIpv4 segs = some ip) :
    ∃ ab cd, segs = [0, 0, 0, 0, 0, 0xffff, ab, cd] := by
  unfold toIpv4 at h
  split at h
  · exact ⟨_, _, rfl⟩
  · simp at h

def StringWF (s : Bytes) : Prop := s.length ≤ MAX_FIXED_READ ∧ validUtf8 s = true

instance (s : Bytes) : Decidable (StringWF s) := by unfold StringWF; infer_instance

theorem stringWF_nil : StringWF [] := ⟨Nat.zero_le _, rfl⟩

theorem decString_write (s : Bytes) (h : StringWF s) (rest : Bytes) :
    decString (writeBytes s ++ rest) = .ok (s, rest) := by
  rw [decString, readBytesLenPrefix_write s h.1, andThen_ok]
  simp [h.2]

/-- capability bits a value can hold: only the defined flags -/
def CapsWF (c : Nat) : Prop := capsTruncate c = c

instance (c : Nat) : Decidable (CapsWF c) := by unfold CapsWF; infer_instance

theorem capsWF_lt {c : Nat} (h : CapsWF c) : c < 2^32 := by
  have : c &&& CAPABILITIES_ALL ≤ CAPABILITIES_ALL := Nat.and_le_right
  unfold CapsWF capsTruncate at h
  rw [h] at this
  unfold CAPABILITIES_ALL at this
  omega

def Hand.WF (h : Hand) : Prop :=
  h.version < 2^32 ∧ CapsWF h.capabilities ∧ h.nonce < 2^64 ∧ h.genesis.length = HASH_SIZE
  ∧ h.totalDifficulty < 2^64 ∧ h.senderAddr.WF ∧ h.receiverAddr.WF ∧ StringWF h.userAgent

def Hand.norm (h : Hand) : Hand :=
  { h with senderAddr := h.senderAddr.norm, receiverAddr := h.receiverAddr.norm }

theorem decHand_enc (h : Hand) (hwf : h.WF) (rest : Bytes) :
    decHand (encHand h ++ rest) = .ok (h.norm, rest) := by
  obtain ⟨h1, h2, h3, h4, h5, h6, h7, h8⟩ := hwf
  rw [decHand, encHand]
  simp only [List.append_assoc]
  rw [readU32_write _ h1, andThen_ok, readU32_write _ (capsWF_lt h2), andThen_ok, readU64_write _ h3, andThen_ok,
    readU64_write _ h5, andThen_ok, decPeerAddr_enc _ h6, andThen_ok, decPeerAddr_enc _ h7, andThen_ok,
    decString_write _ h8, andThen_ok, Wire.wire_hash.rt _ h4, andThen_ok, h2]
  rfl

def Shake.WF (s : Shake) : Prop :=
  s.version < 2^32 ∧ CapsWF s.capabilities ∧ s.genesis.length = HASH_SIZE ∧ s.totalDifficulty < 2^64
  ∧ StringWF s.userAgent

theorem decShake_enc (s : Shake) (hwf : s.WF) (rest : Bytes) :
    decShake (encShake s ++ rest) = .ok (s, rest) := by
  obtain ⟨h1, h2, h3, h4, h5⟩ := hwf
  rw [decShake, encShake]
  simp only [List.append_assoc]
  rw [readU32_write _ h1, andThen_ok, readU32_write _ (capsWF_lt h2), andThen_ok, readU64_write _ h4, andThen_ok,
    decString_write _ h5, andThen_ok, Wire.wire_hash.rt _ h3, andThen_ok, h2]

theorem decGetPeerAddrs_any (c : Nat) (h : c < 2^32) (rest : Bytes) :
    decGetPeerAddrs (writeU32 c ++ rest) = .ok (capsTruncate c, rest) := by
  rw [decGetPeerAddrs, readU32_write _ h, andThen_ok]

def PingPong.WF (p : PingPong) : Prop := p.totalDifficulty < 2^64 ∧ p.height < 2^64

def TxHashSetRequest.WF (t : TxHashSetRequest) : Prop := t.hash.length = HASH_SIZE ∧ t.height < 2^64

def TxHashSetArchive.WF (t : TxHashSetArchive) : Prop :=
  t.hash.length = HASH_SIZE ∧ t.height < 2^64 ∧ t.bytes < 2^64

def SegmentRequest.WF (s : SegmentRequest) : Prop := s.blockHash.length = HASH_SIZE ∧ s.id.WF

theorem codec_pingPong : Whole True decPingPong encPingPong PingPong.WF := by
  refine Codec.congr (Codec.step PingPong.totalDifficulty codec_u64 fun a => Codec.step PingPong.height codec_u64 fun b =>
    Codec.pure (PingPong.mk a b) (by rintro ⟨⟩; simp)) (by simp) (fun p _ => by simp [encPingPong]) (fun p => by simp [PingPong.WF])

theorem codec_txHashSetRequest : Whole True decTxHashSetRequest encTxHashSetRequest TxHashSetRequest.WF := by
  refine Codec.congr (Codec.step TxHashSetRequest.hash wire_hash.codec fun a => Codec.step TxHashSetRequest.height codec_u64 fun b =>
    Codec.pure (TxHashSetRequest.mk a b) (by rintro ⟨⟩; simp))
    (by simp) (fun t _ => by simp [encTxHashSetRequest]) (fun t => by simp [TxHashSetRequest.WF])

theorem codec_txHashSetArchive : Whole True decTxHashSetArchive encTxHashSetArchive TxHashSetArchive.WF := by
  refine Codec.congr (Codec.step TxHashSetArchive.hash wire_hash.codec fun a => Codec.step TxHashSetArchive.height codec_u64 fun b =>
    Codec.step TxHashSetArchive.bytes codec_u64 fun c => Codec.pure (TxHashSetArchive.mk a b c) (by rintro ⟨⟩; simp [and_assoc]))
    (by simp) (fun t _ => by simp [encTxHashSetArchive]) (fun t => by simp [TxHashSetArchive.WF])

theorem codec_segmentRequest : Whole True decSegmentRequest encSegmentRequest SegmentRequest.WF := by
  refine Codec.congr (Codec.step SegmentRequest.blockHash wire_hash.codec fun a =>
    Codec.step SegmentRequest.id codec_segId fun b =>
    Codec.pure (SegmentRequest.mk a b) (by rintro ⟨⟩; simp))
    (by simp) (fun s _ => by simp [encSegmentRequest]) (fun s => by simp [SegmentRequest.WF])

def PeerAddrsWF (ps : List PeerAddr) : Prop := ps.length ≤ GV.Gen.MAX_PEER_ADDRS ∧ ∀ a ∈ ps, a.WF

theorem decPeerAddrs_enc (ps : List PeerAddr) (h : PeerAddrsWF ps) (rest : Bytes) :
    decPeerAddrs (encPeerAddrs ps ++ rest) = .ok (ps.map PeerAddr.norm, rest) := by
  obtain ⟨h1, h2⟩ := h
  have h32 : ps.length < 2^32 := by unfold GV.Gen.MAX_PEER_ADDRS at h1; omega
  have hgt : ¬ ps.length > GV.Gen.MAX_PEER_ADDRS := by omega
  rw [decPeerAddrs, encPeerAddrs, List.append_assoc, readU32_write _ h32, andThen_ok]
  simp only [hgt, ↓reduceIte]
  cases ps with
  | nil => simp [writeMulti]
  | cons a l =>
    simp only [List.length_cons, Nat.add_eq_zero_iff, Nat.succ_ne_self, and_false, ↓reduceIte]
    exact readItems_write_norm decPeerAddr encPeerAddr PeerAddr.norm (a :: l)
      (fun x hx r => decPeerAddr_enc x (h2 x hx) r) rest

def PeerError.WF (e : PeerError) : Prop := e.code < 2^32 ∧ StringWF e.message

theorem decPeerError_enc (e : PeerError) (h : e.WF) (rest : Bytes) :
    decPeerError (encPeerError e ++ rest) = .ok (e, rest) := by
  rw [decPeerError, encPeerError, List.append_assoc, readU32_write _ h.1, andThen_ok, decString_write _ h.2,
    andThen_ok]

def LocatorWF (hs : List Bytes) : Prop := hs.length ≤ GV.Gen.MAX_LOCATORS ∧ ∀ h ∈ hs, h.length = HASH_SIZE

/-- the count byte is the derived field `length`; the writer truncates it to 8 bits, which changes nothing below the cap -/
theorem codec_locator : Whole True decLocator encLocator LocatorWF := by
  refine Codec.congr (Codec.step List.length codec_u8 fun n => Codec.ite (n > GV.Gen.MAX_LOCATORS % 256)
    (fun _ => Codec.fail .tooLarge) fun _ => (codec_items wire_hash.codec n).ofWhole fun _ h => ⟨trivial, h.1⟩)
    (by simp) (fun hs h => ?_) (fun hs => ?_)
  · have : hs.length % 256 = hs.length := Nat.mod_eq_of_lt h.1
    simp only [encLocator, this]; split <;> simp_all
  · unfold LocatorWF GV.Gen.MAX_LOCATORS; by_cases h : hs.length > 20 % 256 <;> simp [h] <;> omega

theorem encHeaders_small {α : Type} (hw : α → Bytes) (hs : List α) (h : hs.length < 65536) :
    encHeaders hw hs = writeU16 hs.length ++ writeMulti hw hs := by
  rw [encHeaders, Nat.mod_eq_of_lt h]

theorem reasonOfI32_some (r : Nat) (h : r ≤ 7) : reasonOfI32 (toI32 r) = some r := by
  revert r
  decide

theorem reasonOfI32_none (v : Int) (h : v < 0 ∨ v > 7) : reasonOfI32 v = none := by
  unfold reasonOfI32
  split
  · rename_i hc
    obtain ⟨h0, hm⟩ := hc
    simp only [banReasons, List.contains_iff_mem, List.mem_cons, List.not_mem_nil, or_false] at hm
    omega
  · rfl

theorem reasonOfI32_toI32_none (u : Nat) (h32 : u < 2^32) (h : 8 ≤ u) : reasonOfI32 (toI32 u) = none :=
  reasonOfI32_none _ (by unfold toI32; split <;> omega)

def BanReasonWF (r : Nat) : Prop := r ≤ 7

/-- a body shorter than four bytes (the empty one included) is **accepted** as `ReasonForBan::None` -/
theorem decBanReason_short (bs : Bytes) (h : bs.length < 4) : decBanReason bs = .ok (0, []) := by
  match bs, h with
  | [], _ => rfl
  | [_], _ => rfl
  | [_, _], _ => rfl
  | [_, _, _], _ => rfl

theorem decMsgHeader_enc (c : NetCfg) (t len : Nat) (h64 : len < 2^64) (rest : Bytes) :
    decMsgHeader c (encMsgHeader c t len ++ rest)
      = if len > maxLen c t then .error .tooLarge
        else if isKnownType t then .ok (.known t len, rest) else .ok (.unknown len t, rest) := by
  rw [decMsgHeader, encMsgHeader]
  simp only [List.append_assoc]
  rw [expectU8_write, andThen_ok, expectU8_write, andThen_ok, readU8_write, andThen_ok,
    readU64_write _ h64, andThen_ok]

theorem decMsgHeader_magic1 (c : NetCfg) (b : Nat) (h : b ≠ c.magic.1) (r : Bytes) :
    decMsgHeader c (b :: r) = .error .unexpectedData := by
  rw [decMsgHeader, expectU8_other _ _ h, andThen_error]

theorem decMsgHeader_magic2 (c : NetCfg) (b : Nat) (h : b ≠ c.magic.2) (r : Bytes) :
    decMsgHeader c (c.magic.1 :: b :: r) = .error .unexpectedData := by
  have e : expectU8 c.magic.1 (c.magic.1 :: b :: r) = .ok (c.magic.1, b :: r) := expectU8_write c.magic.1 (b :: r)
  rw [decMsgHeader, e, andThen_ok, expectU8_other _ _ h, andThen_error]

def SegmentResponse.WF {α : Type} (s : SegmentResponse α) : Prop :=
  s.blockHash.length = HASH_SIZE ∧ s.segment.WF

theorem decSegmentResponse_enc {α : Type} (p : Parser α) (w : α → Bytes) (s : SegmentResponse α) (h : s.WF)
    (hrt : ∀ x ∈ s.segment.leafData, LeafRt p w x) (rest : Bytes) :
    decSegmentResponse p (encSegmentResponse w s ++ rest) = .ok (s, rest) := by
  rw [decSegmentResponse, encSegmentResponse, List.append_assoc, Wire.wire_hash.rt _ h.1, andThen_ok,
    decSegment_enc p w _ h.2 hrt, andThen_ok]

def OutputSegmentResponse.WF (s : OutputSegmentResponse) : Prop :=
  s.response.WF ∧ (∀ o ∈ s.response.segment.leafData, o.WF) ∧ s.outputBitmapRoot.length = HASH_SIZE

def OutputBitmapSegmentResponse.WF (s : OutputBitmapSegmentResponse) : Prop :=
  s.blockHash.length = HASH_SIZE ∧ s.segment.WF ∧ s.outputRoot.length = HASH_SIZE

end GV.SerMsg
