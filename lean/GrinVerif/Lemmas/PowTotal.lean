import GrinVerif.Lemmas.PowRoodCycle
import GrinVerif.Lemmas.PowRoom
import GrinVerif.Lemmas.PowUWalk
/-! Termination: the loops of the verifier models do not run out of fuel (`Err.hang`), i.e. the fuel
bounds used in the transliterations are real bounds for the Rust loops: the Cuckaroom walk, the
Cuckarood verifier, the undirected engine (for a positive proof size). -/
namespace GV.Pow

/-- number of not yet visited edges -/
def unvisited (vis : Nat → Bool) (L : Nat) : Nat := cntBelow (fun x => !vis x) L

theorem cnt_mark (vis : Nat → Bool) (i : Nat) (hv : vis i = false) : ∀ L,
    cntBelow (fun x => !(decide (x = i) || vis x)) L + (if i < L then 1 else 0) =
      cntBelow (fun x => !vis x) L := by
  intro L
  induction L with
  | zero => simp [cntBelow]
  | succ L ih =>
    simp only [cntBelow]
    by_cases e : L = i
    · subst e
      have h1 : ¬ (L < L) := by omega
      simp only [h1, if_false, Nat.add_zero] at ih
      have h2 : L < L + 1 := by omega
      simp only [h2, if_true, decide_true, Bool.true_or, Bool.not_true, Bool.false_eq_true, if_false,
        hv, Bool.not_false]
      omega
    · simp only [e, decide_false, Bool.false_or]
      by_cases h2 : i < L
      · have h3 : i < L + 1 := by omega
        simp only [h2, h3, if_true] at ih ⊢
        omega
      · have h3 : ¬ (i < L + 1) := by omega
        simp only [h2, h3, if_false] at ih ⊢
        omega

theorem unvisited_mark (vis : Nat → Bool) (L i : Nat) (hi : i < L) (hv : vis i = false) :
    unvisited (fun x => decide (x = i) || vis x) L + 1 = unvisited vis L := by
  have := cnt_mark vis i hv L
  simp only [hi, if_true] at this
  exact this

theorem roomWalk_no_hang (P : Params) (ep : Nat → Nat × Nat) (ns : List Nat) (s : RoomSt)
    (inv : RoomInv P ep ns ns.length s) :
    ∀ f vis i n, (0 < ns.length → i < ns.length) → unvisited vis ns.length < f →
      roomWalk P ns.length s f vis i n ≠ .error .hang := by
  intro f
  induction f with
  | zero => intro vis i n _ h; omega
  | succ f ih =>
    intro vis i n hi hf
    unfold roomWalk
    by_cases hv : vis i = true
    · simp [hv]
    · have hv' : vis i = false := by simpa using hv
      simp only [hv', Bool.false_eq_true, if_false]
      have hstep : roomFind ns.length s (s.to i) (ns.length + 1) (s.head (P.bk (s.to i))) =
          roomStep P ns.length s i := rfl
      rw [hstep]
      cases hs : roomStep P ns.length s i with
      | error e =>
        simp only
        intro h
        injection h with h
        exact roomStep_no_hang P ep ns s inv i (by rw [hs, h])
      | ok k =>
        simp only
        by_cases h0 : k = 0
        · simp [h0]
        · simp only [h0, if_false]
          have hk := (roomStep_ok P ep ns s inv i k hs).1
          have := unvisited_mark vis ns.length i (hi (by omega)) hv'
          exact ih _ k (n+1) (fun _ => hk) (by omega)

theorem unvisited_none (L : Nat) : unvisited (fun _ => false) L = L := by
  unfold unvisited
  induction L with
  | zero => rfl
  | succ L ih =>
    simp only [cntBelow] at ih ⊢
    simp only [Bool.not_false, if_true] at ih ⊢
    omega

theorem verifyCuckaroom_no_hang (P : Params) (ep : Nat → Nat × Nat) (ns : List Nat) :
    verifyCuckaroom P ep ns ≠ .error .hang := by
  rw [verifyCuckaroom_eq]
  refine pipeline_ne_hang (roomBuild_ne_hang P ep _ _ _ _) fun _ s hb => ?_
  obtain ⟨inv, _, _⟩ := roomBuild_spec P ep ns s hb
  exact roomWalk_no_hang P ep ns s inv _ _ 0 0 (fun h => h) (by rw [unvisited_none]; omega)

theorem roodStep_no_hang (P : Params) (ep : Nat → Nat × Nat) (ns : List Nat) (s : RoodSt)
    (inv : RoodInv P ep ns ns.length s) (i : Nat) :
    roodStep P ns.length s i ≠ .error .hang := by
  have key : ∀ d, d < 2 → ∀ b,
      roodFind ns.length s i (2 * ns.length + 1) (headS s d b) i ≠ .error .hang := fun d hd b => by
    rw [roodFind_bucket inv d hd b i]; exact scanJ_ne_hang _ _ _ _
  have hfind : roodFind ns.length s i (2 * ns.length + 1)
      (if i % 2 = 0 then s.headu (P.bk (2 * s.uvs i + 1)) else s.headv (P.bk (2 * s.uvs i))) i ≠
      .error .hang := by
    split
    · exact key 0 (by omega) _
    · exact key 1 (by omega) _
  unfold roodStep
  dsimp only
  split
  · next e he => exact fun h => hfind (by rw [he]; injection h with h; rw [h])
  · split <;> exact fun h => nomatch h

theorem verifyCuckarood_no_hang (P : Params) (ep : Nat → Nat × Nat) (ns : List Nat) :
    verifyCuckarood P ep ns ≠ .error .hang := by
  rw [verifyCuckarood_eq]
  refine pipeline_ne_hang (roodBuild_ne_hang P ep ns.length _ _ _) fun _ s hb => ?_
  obtain ⟨inv, _, _⟩ := roodBuild_spec P ep ns s hb
  exact roodWalk_no_hang _ ns.length (roodStep_no_hang P ep ns s inv) (ns.length + 1) 0 0 (by omega) (by omega)

theorem verifyU_no_hang (C : UCfg) (E : MtEquiv C) (P : Params) (ep : Nat → Nat × Nat) (ns : List Nat)
    (hps : 0 < P.proofsize) : verifyU C P ep ns ≠ .error .hang := by
  rw [verifyU_eq]
  refine pipeline_ne_hang (uBuild_ne_hang C P ep _ _ _ _) fun hl s hb => ?_
  have hL : 0 < ns.length := by omega
  have hprev := (uBuild_arrays C P ep ns s hb).2
  have hstep := uStep_final C P ep ns s hb
  exact uWalk_no_hang _ (2 * ns.length) (by omega)
    (fun j hj => uStep_no_hang C (keyF C P ep ns) ns.length s.uvs _ j hj hprev)
    (ustep_lt hstep) (ustep_inj E hstep)
    0

end GV.Pow
