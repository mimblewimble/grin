import GrinVerif.Model.Crash
import GrinVerif.Lemmas.CrashPath
/-! The durable state after the first `k` steps of an acceptance.  `applyStep` never reads a field other than the one it
writes (`applyStep_fields`).  So a fact about a crash state needs no closed form of the state: a field has its start
value as long as no step writing it is among the first `k` (and `s ∉ steps.take k` for `k ≤ n` is a `decide` on the
concrete list), and a crash state can be cut at any step, so "from step `a` on the field is `v`" is an evaluation
at `a` and the same argument on `steps.drop a`. -/
namespace GV.Crash

theorem consistent_tip (P : List BlkInfo) : (consistent P).dbHead = tipOf P ∧ (consistent P).dbHHead = tipOf P := by
  simp [consistent, tipOf]

theorem take_map_len (O : List BlkInfo) : List.take O.length (O.map (·.id)) = O.map (·.id) := by
  rw [← List.length_map (f := fun (x : BlkInfo) => x.id)]; exact List.take_length

theorem crashAfter_ge (t : Target) (d : Durable) (steps : List Step) (k : Nat) (h : steps.length ≤ k) :
    crashAfter t d steps k = crashAfter t d steps steps.length := by
  simp [crashAfter, List.take_of_length_le h]

/-- what step `s` does to a file that step `tr` cuts at `n` entries and step `ap` then fills with `new` -/
def fileStep {α : Type} (n : Nat) (new : List α) (tr ap s : Step) (old : List α) : List α :=
  if s = tr then old.take n else if s = ap then new else old

theorem applyStep_fields (t : Target) (d : Durable) (s : Step) : applyStep t d s =
    { dbHead := if s = .finalCommit ∧ t.movesHead = true then t.tip else d.dbHead,
      dbHHead := if s = .hdrCommit ∧ t.movesHHead = true then t.tip else d.dbHHead,
      hdrHash := fileStep t.forkLen (t.newPath.map (·.id)) .hdrHashTrunc .hdrHashApp s d.hdrHash,
      hdrData := fileStep t.forkLen (t.newPath.map (·.id)) .hdrDataTrunc .hdrDataApp s d.hdrData,
      outHash := fileStep (leavesOf t.forkPath).length (leavesOf t.newPath) .outHashTrunc .outHashApp s d.outHash,
      outData := fileStep (leavesOf t.forkPath).length (leavesOf t.newPath) .outDataTrunc .outDataApp s d.outData,
      leaf := if s = .leafRename then unspentOf t.newPath else d.leaf,
      kerHash := fileStep t.forkLen (t.newPath.map (·.id)) .kerHashTrunc .kerHashApp s d.kerHash,
      kerData := fileStep t.forkLen (t.newPath.map (·.id)) .kerDataTrunc .kerDataApp s d.kerData } := by
  cases s <;> cases d <;> simp [applyStep, fileStep] <;> split <;> rfl

theorem prefix_fileStep {α : Type} {p old new : List α} {n : Nat} (h : p <+: old) (hn : p.length ≤ n)
    (hnew : p <+: new) (tr ap s : Step) : p <+: fileStep n new tr ap s old := by
  unfold fileStep
  split
  · exact List.prefix_take_iff.2 ⟨h, hn⟩
  · split <;> assumption

theorem crashAfter_split (t : Target) (d : Durable) (steps : List Step) {j k : Nat} (h : j ≤ k) :
    crashAfter t d steps k = crashAfter t (crashAfter t d steps j) (steps.drop j) (k - j) := by
  simp only [crashAfter, ← List.foldl_append, ← List.drop_take]
  congr 1
  conv => lhs; rw [← List.take_append_drop j (steps.take k), List.take_take, Nat.min_eq_left h]

theorem crashAfter_keeps {β : Type} (π : Durable → β) {t : Target} {d : Durable} {steps : List Step} {k : Nat}
    (h : ∀ s ∈ steps.take k, ∀ d, π (applyStep t d s) = π d) : π (crashAfter t d steps k) = π d :=
  foldl_keeps (applyStep t) π _ d h

theorem applyStep_dbHead {t : Target} {s : Step} (hs : s ≠ .finalCommit) (d : Durable) :
    (applyStep t d s).dbHead = d.dbHead := by
  rw [applyStep_fields]; exact if_neg fun h => hs h.1

theorem applyStep_leaf {t : Target} {s : Step} (hs : s ≠ .leafRename) (d : Durable) :
    (applyStep t d s).leaf = d.leaf := by
  rw [applyStep_fields]; exact if_neg hs

theorem applyStep_outHash {t : Target} {s : Step} (h1 : s ≠ .outHashTrunc) (h2 : s ≠ .outHashApp) (d : Durable) :
    (applyStep t d s).outHash = d.outHash := by
  rw [applyStep_fields]; exact (if_neg h1).trans (if_neg h2)

/-- a view written by ONE step, to a value that writing again does not change: it is that value once the step is
among the first `k`, and the start value before -/
theorem crashAfter_writer {β : Type} (π : Durable → β) (w : Step) (g : β → β) {t : Target}
    (hs : ∀ s, s ≠ w → ∀ d, π (applyStep t d s) = π d) (hw : ∀ d, π (applyStep t d w) = g (π d))
    (hg : ∀ x, g (g x) = g x) (d : Durable) (steps : List Step) (k : Nat) :
    π (crashAfter t d steps k) = if w ∈ steps.take k then g (π d) else π d := by
  unfold crashAfter
  generalize steps.take k = l
  induction l generalizing d with
  | nil => simp
  | cons s l ih =>
    rw [List.foldl_cons, ih]
    by_cases e : s = w
    · subst e; simp only [List.mem_cons_self, if_true, hw, hg, ite_self]
    · simp only [hs s e, List.mem_cons, Ne.symm e, false_or]

theorem crashAfter_leaf (t : Target) (d : Durable) (steps : List Step) (k : Nat) :
    (crashAfter t d steps k).leaf = if Step.leafRename ∈ steps.take k then unspentOf t.newPath else d.leaf :=
  crashAfter_writer (·.leaf) .leafRename (fun _ => unspentOf t.newPath) (fun _ => applyStep_leaf) (fun _ => rfl)
    (fun _ => rfl) d steps k

theorem crashAfter_dbHead (t : Target) (d : Durable) (steps : List Step) (k : Nat) :
    (crashAfter t d steps k).dbHead =
      if Step.finalCommit ∈ steps.take k then (if t.movesHead = true then t.tip else d.dbHead) else d.dbHead :=
  crashAfter_writer (·.dbHead) .finalCommit (fun x => if t.movesHead = true then t.tip else x)
    (fun _ => applyStep_dbHead) (fun d => by rw [applyStep_fields]; simp) (fun x => by split <;> simp [*]) d steps k

theorem applyStep_dbHHead {t : Target} {s : Step} (hs : s ≠ .hdrCommit) (d : Durable) :
    (applyStep t d s).dbHHead = d.dbHHead := by
  rw [applyStep_fields]; exact if_neg fun h => hs h.1

theorem crashAfter_dbHHead (t : Target) (d : Durable) (steps : List Step) (k : Nat) :
    (crashAfter t d steps k).dbHHead =
      if Step.hdrCommit ∈ steps.take k then (if t.movesHHead = true then t.tip else d.dbHHead) else d.dbHHead :=
  crashAfter_writer (·.dbHHead) .hdrCommit (fun x => if t.movesHHead = true then t.tip else x)
    (fun _ => applyStep_dbHHead) (fun d => by rw [applyStep_fields]; simp) (fun x => by split <;> simp [*]) d steps k

/-- the five steps that write a header file or `header_head` -/
def Step.hdrSide : Step → Bool
  | .hdrHashTrunc | .hdrHashApp | .hdrDataTrunc | .hdrDataApp | .hdrCommit => true
  | _ => false

def Step.hdrFile : Step → Bool
  | .hdrHashTrunc | .hdrHashApp | .hdrDataTrunc | .hdrDataApp => true
  | _ => false

theorem applyStep_hdrFiles {t : Target} {s : Step} (hs : s.hdrFile = false) (d : Durable) :
    ((applyStep t d s).hdrHash, (applyStep t d s).hdrData) = (d.hdrHash, d.hdrData) := by
  rw [applyStep_fields]; cases s <;> first | rfl | cases hs

/-- the two header files on their own: at a numeral `k` the right-hand sides evaluate -/
theorem crashAfter_hdrHash (t : Target) (d : Durable) (steps : List Step) (k : Nat) :
    (crashAfter t d steps k).hdrHash =
      (steps.take k).foldl (fun x s => fileStep t.forkLen (t.newPath.map (·.id)) .hdrHashTrunc .hdrHashApp s x) d.hdrHash :=
  foldl_proj (applyStep t) (·.hdrHash) _ (fun d s => by rw [applyStep_fields]) _ d

theorem crashAfter_hdrData (t : Target) (d : Durable) (steps : List Step) (k : Nat) :
    (crashAfter t d steps k).hdrData =
      (steps.take k).foldl (fun x s => fileStep t.forkLen (t.newPath.map (·.id)) .hdrDataTrunc .hdrDataApp s x) d.hdrData :=
  foldl_proj (applyStep t) (·.hdrData) _ (fun d s => by rw [applyStep_fields]) _ d

theorem crashAfter_outHash (t : Target) (d : Durable) (steps : List Step) (k : Nat) :
    (crashAfter t d steps k).outHash =
      (steps.take k).foldl
        (fun x s => fileStep (leavesOf t.forkPath).length (leavesOf t.newPath) .outHashTrunc .outHashApp s x) d.outHash :=
  foldl_proj (applyStep t) (·.outHash) _ (fun d s => by rw [applyStep_fields]) _ d

theorem crashAfter_from {β : Type} (π : Durable → β) (t : Target) (d : Durable) {steps : List Step} {a : Nat}
    (hs : ∀ s ∈ steps.drop a, ∀ d, π (applyStep t d s) = π d) {k : Nat} (hk : a ≤ k) :
    π (crashAfter t d steps k) = π (crashAfter t d steps a) := by
  rw [crashAfter_split t d steps hk]
  exact crashAfter_keeps π fun s hm => hs s (List.take_subset _ _ hm)

/-- once both header files hold `ids` (after step `a`) and no later step writes a header file, they keep holding it -/
theorem crashAfter_hdrFiles (t : Target) (d : Durable) {steps : List Step} {a : Nat} {ids : List Nat}
    (ha : (crashAfter t d steps a).hdrHash = ids ∧ (crashAfter t d steps a).hdrData = ids)
    (hs : ∀ s ∈ steps.drop a, s.hdrFile = false) (k : Nat) (hk : a ≤ k) :
    (crashAfter t d steps k).hdrHash = ids ∧ (crashAfter t d steps k).hdrData = ids := by
  have h := crashAfter_from (fun d => (d.hdrHash, d.hdrData)) t d (fun s hm => applyStep_hdrFiles (hs s hm)) hk
  exact ⟨(congrArg Prod.fst h).trans ha.1, (congrArg Prod.snd h).trans ha.2⟩

/-- the body head is committed by the last step of a block acceptance, the leaf set renamed by step 12 -/
theorem crashAfter_block_dbHead (t : Target) (d : Durable) {k : Nat} (hk : k ≤ 16) :
    (crashAfter t d blockSteps k).dbHead = d.dbHead := by
  rw [crashAfter_dbHead, if_neg (not_mem_take_of_le hk (by decide))]

theorem crashAfter_block_leaf (t : Target) (d : Durable) (k : Nat) :
    (crashAfter t d blockSteps k).leaf = if 12 ≤ k then unspentOf t.newPath else d.leaf := by
  rw [crashAfter_leaf]
  by_cases h12 : 12 ≤ k
  · rw [if_pos (List.take_subset_take_left _ h12 (by decide)), if_pos h12]
  · rw [if_neg (not_mem_take_of_le (Nat.le_of_lt_succ (Nat.lt_of_not_le h12)) (by decide)), if_neg h12]

theorem Target.forkPath_eq {t : Target} {F S : List BlkInfo} (hN : t.newPath = F ++ S) (hF : t.forkLen = F.length) :
    t.forkPath = F := by
  rw [Target.forkPath, hN, hF, List.take_left]

theorem crashAfter_block_done (t : Target) (d : Durable) (k : Nat) (hk : 17 ≤ k) :
    crashAfter t d blockSteps k =
      { dbHead := if t.movesHead = true then t.tip else d.dbHead,
        dbHHead := if t.movesHHead = true then t.tip else d.dbHHead,
        hdrHash := t.newPath.map (·.id), hdrData := t.newPath.map (·.id),
        outHash := leavesOf t.newPath, outData := leavesOf t.newPath, leaf := unspentOf t.newPath,
        kerHash := t.newPath.map (·.id), kerData := t.newPath.map (·.id) } := by
  rw [crashAfter_ge t d blockSteps k hk]
  obtain ⟨np, fl, m1, m2⟩ := t
  cases d; cases m1 <;> cases m2 <;> rfl

theorem headerSteps_eq : headerSteps = blockSteps.take 6 := rfl

theorem crashAfter_block_le6 (t : Target) (d : Durable) (k : Nat) (hk : k ≤ 6) :
    crashAfter t d blockSteps k = crashAfter t d headerSteps k := by
  simp only [crashAfter, headerSteps_eq, List.take_take, Nat.min_eq_left hk]

end GV.Crash
