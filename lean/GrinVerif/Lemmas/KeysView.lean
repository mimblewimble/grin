import GrinVerif.Lemmas.KeysArith
import GrinVerif.Lemmas.UtilIte
/-! Identifiers, range-proof messages and view keys (C20), and the instances the non-vacuity examples use
(the term keychain `termKD`, a toy `Crypto`). -/
namespace GV.Keys

/-- Collision-freedom of the key derivation (BIP32 / HMAC-SHA512, a cryptographic assumption —
an explicit hypothesis of the view-key theorems, like `Inj hf` for hashes): two word lists that
derive the same secret scalar from the master key are the same list. -/
def DeriveInj {K : Type} (kd : KeyDeriv K) : Prop :=
  ∀ cs cs' k k', ckdAll kd kd.master cs = some k → ckdAll kd kd.master cs' = some k' →
    kd.secret k = kd.secret k' → cs = cs'

theorem Path.get?_eq_comps (p : Path) (i : Nat) : p.get? i = p.comps[i]? := by
  match i with
  | 0 => rfl
  | 1 => rfl
  | 2 => rfl
  | 3 => rfl
  | n + 4 => simp [Path.get?, Path.comps]

theorem Path.get?_eq_none_iff (p : Path) (i : Nat) : p.get? i = none ↔ 4 ≤ i := by
  rw [Path.get?_eq_comps, List.getElem?_eq_none_iff]
  rfl

/-- `to_path` never returns a depth above 4 (repair cb1f5b25f) -/
theorem toPath_depth_le4 (id : Ident) : id.toPath.depth ≤ 4 := by
  unfold Ident.toPath
  split
  · exact Nat.min_le_right _ _
  · exact Nat.zero_le _

theorem IdWF.cons {id : Ident} (h : IdWF id) : ∃ d t, id = d :: t ∧ t.length = 16 := by
  obtain ⟨d, t, rfl⟩ := List.exists_cons_of_length_eq_add_one h.1
  exact ⟨d, t, rfl, Nat.succ.inj h.1⟩

theorem list17 (l : List Nat) (h : l.length = 17) :
    ∃ x0 x1 x2 x3 x4 x5 x6 x7 x8 x9 x10 x11 x12 x13 x14 x15 x16,
      l = [x0, x1, x2, x3, x4, x5, x6, x7, x8, x9, x10, x11, x12, x13, x14, x15, x16] := by
  iterate 17
    obtain ⟨_, l, rfl⟩ := List.exists_cons_of_length_eq_add_one h
    replace h := Nat.succ.inj h
  obtain rfl := List.eq_nil_of_length_eq_zero h
  exact ⟨_, _, _, _, _, _, _, _, _, _, _, _, _, _, _, _, _, rfl⟩

theorem clampId_depthByte (id : Ident) : (clampId id).depthByte ≤ 4 := by
  simp only [clampId, Ident.depthByte, List.headD_cons]; omega

theorem clampId_of_le (id : Ident) (h : IdWF id) (hd : id.depthByte ≤ 4) : clampId id = id := by
  obtain ⟨d, t, rfl, _⟩ := h.cons
  exact congrArg (· :: t) (Nat.min_eq_left hd)

/-- the depth byte beyond 4 is never looked at: `to_path` of an identifier and of its clamped form
are the same path -/
theorem toPath_clampId (id : Ident) (h : IdWF id) : (clampId id).toPath = id.toPath := by
  obtain ⟨hl, _⟩ := h
  obtain ⟨d, a0, a1, a2, a3, b0, b1, b2, b3, e0, e1, e2, e3, f0, f1, f2, f3, rfl⟩ := list17 id hl
  simp only [clampId, List.headD_cons, List.drop_succ_cons, List.drop_zero, Ident.toPath]
  congr 1; omega

theorem words_length (id : Ident) (h : id.toPath.depth ≤ 4) : id.words.length = id.toPath.depth := by
  simp only [Ident.words, Path.comps, List.length_take, List.length_cons, List.length_nil]
  omega

theorem prefix?_eq_words (id : Ident) : id.toPath.prefix? = some id.words := by
  simp [Path.prefix?, toPath_depth_le4 id, Ident.words]

/-- the blinding factor `derive_key` returns for the extended key `k` -/
def keyOf {K : Type} (kd : KeyDeriv K) (sw : Switch) (amount : Nat) (k : K) : Nat :=
  match sw with
  | .regular => kd.blindSwitch amount (kd.secret k)
  | .none => kd.secret k

/-- `derive_key` reads the identifier through its words only, and does not panic -/
theorem deriveKey_eq {K : Type} (kd : KeyDeriv K) (amount : Nat) (id : Ident) (sw : Switch) :
    deriveKey kd amount id sw = match ckdAll kd kd.master id.words with
      | none => .err
      | some k => .ok (keyOf kd sw amount k) := by
  simp only [deriveKey, prefix?_eq_words id]
  cases ckdAll kd kd.master id.words with
  | none => rfl
  | some k => cases sw <;> rfl

theorem commit_inv {K : Type} {kd : KeyDeriv K} {amount : Nat} {id : Ident} {sw : Switch} {c : Opening}
    (h : commit kd amount id sw = .ok c) :
    ∃ k, ckdAll kd kd.master id.words = some k ∧ c = ⟨amount, keyOf kd sw amount k⟩ := by
  rw [commit, deriveKey_eq] at h
  cases hk : ckdAll kd kd.master id.words with
  | none => rw [hk] at h; cases h
  | some k => rw [hk] at h; exact ⟨k, rfl, (Res.ok.inj h).symm⟩

/-- what `check_output` reads back from `proof_message(id, switch)`: the same switch, the same 16 path
bytes, and the depth byte **clamped to 4** (`u8::min(msg[3], 4)`) -/
theorem parseMessage_proofMessage (id : Ident) (sw : Switch) (h : IdWF id) :
    parseMessage (proofMessage id sw) = some (clampId id, sw) := by
  obtain ⟨d, t, rfl, ht⟩ := h.cons
  have hm : min d 4 % 256 = min d 4 := by omega
  simp [parseMessage, proofMessage, switch_roundtrip, Ident.fromSerializedPath, hm, clampId, ht,
    List.take_of_length_le]

theorem covers_child (vk : List ChildNumber) (id : Ident)
    (hn : vk.length ≤ id.toPath.depth) (ht : id.words.take vk.length = vk) (h0 : 0 < vk.length) :
    id.toPath.get? (vk.length - 1) = some (vkChildNumber vk) := by
  have hd := toPath_depth_le4 id
  have h1 : vk[vk.length - 1]? = id.toPath.comps[vk.length - 1]? := by
    have : (id.words.take vk.length)[vk.length - 1]? = id.toPath.comps[vk.length - 1]? := by
      rw [List.getElem?_take, if_pos (by omega)]
      simp only [Ident.words]
      rw [List.getElem?_take, if_pos (by omega)]
    rwa [ht] at this
  have hlen : id.toPath.comps.length = 4 := rfl
  obtain ⟨x, hx⟩ : ∃ x, id.toPath.comps[vk.length - 1]? = some x :=
    ⟨_, List.getElem?_eq_getElem (by omega)⟩
  rw [Path.get?_eq_comps, vkChildNumber, h1, hx]
  rfl

theorem ite_none_eq_some {c : Prop} [Decidable c] {r : Check} {id : Ident} {sw : Switch}
    (h : (if c then Check.none else r) = .some id sw) : r = .some id sw :=
  ((ite_eq_iff_of_ne (by simp)).1 h).2

theorem viewCheckOutput_some {d : Nat} {ch : ChildNumber} {pm : Ident → Switch → Bool} {amount : Nat}
    {msg : Bytes} {id : Ident} {sw : Switch} (h : viewCheckOutput d ch pm amount msg = .some id sw) :
    parseMessage msg = some (id, sw) ∧ sw = .none ∧ amount ≠ 0 := by
  unfold viewCheckOutput at h
  cases hp : parseMessage msg with
  | none => rw [hp] at h; cases h
  | some p =>
    obtain ⟨id0, sw0⟩ := p
    rw [hp] at h
    replace h := ite_none_eq_some (ite_none_eq_some (ite_none_eq_some h))
    split at h
    · cases h
    · rename_i ha
      cases sw0 with
      | regular => cases h
      | none =>
        simp only at h
        split at h
        · injection h with h1 h2
          subst h1 h2
          exact ⟨rfl, rfl, ha⟩
        · cases h

theorem viewCheckOutput_honest (d : Nat) (ch : ChildNumber) (pm : Ident → Switch → Bool) (amount : Nat)
    (id : Ident) (sw : Switch) (hid : IdWF id) :
    viewCheckOutput d ch pm amount (proofMessage id sw) =
      if d > id.toPath.depth then .none
      else if (decide (d > 0) && decide (id.toPath.depth > 0) && (id.toPath.get? (d - 1) != some ch)) = true then .none
      else if (id.words.drop d).any ChildNumber.isHardened = true then .none
      else if amount = 0 then .err
      else match sw with
        | .regular => .err
        | .none => if pm (clampId id) .none = true then .some (clampId id) .none else .none := by
  simp only [viewCheckOutput, parseMessage_proofMessage id sw hid, Ident.words, toPath_clampId id hid]
  cases sw <;> rfl

theorem viewCheckAt_honest {K : Type} (kd : KeyDeriv K) (vk : List ChildNumber) (c : Opening)
    (amount : Nat) (id : Ident) (sw : Switch) (hid : IdWF id) :
    viewCheckAt kd vk c amount (proofMessage id sw) =
      if vk.length > id.toPath.depth then .none
      else if (decide (vk.length > 0) && decide (id.toPath.depth > 0) &&
          (id.toPath.get? (vk.length - 1) != some (vkChildNumber vk))) = true then .none
      else if (id.words.drop vk.length).any ChildNumber.isHardened = true then .none
      else if amount = 0 then .err
      else match sw with
        | .regular => .err
        | .none => if viewPubMatches kd vk c amount id .none = true then .some (clampId id) .none else .none := by
  rw [viewCheckAt, viewCheckOutput_honest _ _ _ _ _ _ hid]
  simp only [viewPubMatches, Ident.words, toPath_clampId id hid]
  cases sw <;> rfl

theorem viewCovers_iff (vk : List ChildNumber) (id : Ident) :
    viewCovers vk id = true ↔ id.toPath.depth ≤ 4 ∧ vk.length ≤ id.toPath.depth ∧
      id.words.take vk.length = vk ∧ (id.words.drop vk.length).any ChildNumber.isHardened = false := by
  simp only [viewCovers, Bool.and_eq_true, decide_eq_true_eq, beq_iff_eq, Bool.not_eq_true',
    and_assoc]

/-- when the view key covers the identifier, the public keys match (no assumption needed) -/
theorem pubMatches_of_covers {K : Type} (kd : KeyDeriv K) (vk : List ChildNumber) (amount : Nat)
    (id : Ident) (c : Opening)
    (hc : commit kd amount id .none = .ok c) (ht : id.words.take vk.length = vk) :
    viewPubMatches kd vk c amount id .none = true := by
  obtain ⟨k, hk, rfl⟩ := commit_inv hc
  have : vk ++ id.words.drop vk.length = id.words := by
    conv => lhs; arg 1; rw [← ht]
    exact List.take_append_drop _ _
  simp [viewPubMatches, this, hk, keyOf]

/-- when the public keys match, the view key's path is the prefix of the identifier's words
(collision-freedom of the derivation) -/
theorem covers_of_pubMatches {K : Type} (kd : KeyDeriv K) (hinj : DeriveInj kd) (vk : List ChildNumber)
    (amount : Nat) (id : Ident) (c : Opening)
    (hc : commit kd amount id .none = .ok c)
    (hm : viewPubMatches kd vk c amount id .none = true) : id.words.take vk.length = vk := by
  obtain ⟨k, hk, rfl⟩ := commit_inv hc
  unfold viewPubMatches at hm
  cases hk' : ckdAll kd kd.master (vk ++ id.words.drop vk.length) with
  | none => rw [hk'] at hm; cases hm
  | some k' =>
    rw [hk'] at hm
    simp only [decide_eq_true_eq, Opening.mk.injEq, true_and] at hm
    have := hinj _ _ _ _ hk' hk hm.symm
    have h2 : (vk ++ id.words.drop vk.length).take vk.length = id.words.take vk.length := by rw [this]
    rw [List.take_left'] at h2
    · exact h2.symm
    · rfl

theorem viewCheckAt_eq {K : Type} (kd : KeyDeriv K) (hinj : DeriveInj kd) (vk : List ChildNumber)
    (amount : Nat) (id : Ident) (c : Opening) (hid : IdWF id) (ha : amount ≠ 0)
    (hc : commit kd amount id .none = .ok c) :
    viewCheckAt kd vk c amount (proofMessage id .none) =
      if viewCovers vk id = true then .some (clampId id) .none else .none := by
  have hd := toPath_depth_le4 id
  simp only [viewCheckAt_honest kd vk c amount id .none hid, ha, if_false, ite_ite_default]
  refine ite_congr (propext ?_) (fun _ => rfl) (fun _ => rfl)
  rw [viewCovers_iff]
  show (¬ vk.length > id.toPath.depth ∧
      ¬ (decide (vk.length > 0) && decide (id.toPath.depth > 0) &&
          (id.toPath.get? (vk.length - 1) != some (vkChildNumber vk))) = true ∧
      ¬ (id.words.drop vk.length).any ChildNumber.isHardened = true ∧
      viewPubMatches kd vk c amount id .none = true) ↔ _
  constructor
  · rintro ⟨h1, _, h3, h4⟩
    exact ⟨hd, Nat.not_lt.1 h1, covers_of_pubMatches kd hinj vk amount id c hc h4, by simpa using h3⟩
  · rintro ⟨_, h1, h2, h3⟩
    exact ⟨Nat.not_lt.2 h1, by
        by_cases h0 : 0 < vk.length
        · simp [covers_child vk id h1 h2 h0]
        · simp [h0], by simp [h3],
      pubMatches_of_covers kd vk amount id c hc h2⟩

/-! ## a provably collision-free derivation (non-vacuity of `DeriveInj`) -/

/-- total injective code of a child number -/
def cnCode : ChildNumber → Nat
  | .normal i => 2 * i
  | .hardened i => 2 * i + 1

theorem cnCode_inj {a b : ChildNumber} (h : cnCode a = cnCode b) : a = b := by
  cases a <;> cases b <;> simp only [cnCode] at h <;> first | (congr 1; omega) | omega

/-- `2^a · (2x + 1)`: injective pairing -/
def pairCode (a x : Nat) : Nat := 2 ^ a * (2 * x + 1)

theorem pairCode_succ (a x : Nat) : pairCode (a + 1) x = 2 * pairCode a x := by
  rw [pairCode, pairCode, Nat.pow_succ, Nat.mul_comm (2 ^ a) 2, Nat.mul_assoc]

/-- the power of two in a code is read off by halving; the rest is odd -/
theorem pairCode_inj : ∀ (a b x y : Nat), pairCode a x = pairCode b y → a = b ∧ x = y
  | 0, 0, x, y, h => by simp only [pairCode, Nat.pow_zero, Nat.one_mul] at h; omega
  | 0, b + 1, x, y, h => by
    rw [pairCode_succ, pairCode, Nat.pow_zero, Nat.one_mul] at h; omega
  | a + 1, 0, x, y, h => by
    rw [pairCode_succ, pairCode, pairCode, Nat.pow_zero, Nat.one_mul] at h; omega
  | a + 1, b + 1, x, y, h => by
    rw [pairCode_succ, pairCode_succ] at h
    have := pairCode_inj a b x y (by omega)
    omega

/-- injective code of a word list -/
def wordsCode : List ChildNumber → Nat
  | [] => 0
  | c :: cs => pairCode (cnCode c) (wordsCode cs)

theorem pairCode_pos (a x : Nat) : 0 < pairCode a x := by
  unfold pairCode
  exact Nat.mul_pos (Nat.pow_pos (by omega)) (by omega)

theorem listCode_inj {α : Type} (f : α → Nat) (hf : ∀ a b, f a = f b → a = b) (code : List α → Nat)
    (h0 : code [] = 0) (hc : ∀ c cs, code (c :: cs) = pairCode (f c) (code cs)) :
    ∀ (l l' : List α), code l = code l' → l = l'
  | [], [], _ => rfl
  | [], c :: cs, h => by have := pairCode_pos (f c) (code cs); rw [h0, hc] at h; omega
  | c :: cs, [], h => by have := pairCode_pos (f c) (code cs); rw [h0, hc] at h; omega
  | c :: cs, c' :: cs', h => by
    rw [hc, hc] at h
    obtain ⟨h1, h2⟩ := pairCode_inj _ _ _ _ h
    rw [hf _ _ h1, listCode_inj f hf code h0 hc cs cs' h2]

theorem wordsCode_inj : ∀ (l l' : List ChildNumber), wordsCode l = wordsCode l' → l = l' :=
  listCode_inj cnCode (fun _ _ => cnCode_inj) wordsCode rfl (fun _ _ => rfl)

/-- the term model of key derivation: the key at a path *is* the path; its secret is the injective
code of the path (shifted by one: zero is not a secret key) -/
def termKD : KeyDeriv (List ChildNumber) where
  master := []
  ckd := fun k c => some (k ++ [c])
  secret := fun k => wordsCode k + 1
  blindSwitch := fun amount key => pairCode amount key

theorem termKD_ckdAll : ∀ (cs k : List ChildNumber), ckdAll termKD k cs = some (k ++ cs) := by
  intro cs
  induction cs with
  | nil => intro k; simp [ckdAll]
  | cons c cs ih =>
    intro k
    simp only [ckdAll]
    show ckdAll termKD (k ++ [c]) cs = _
    rw [ih]; simp

theorem termKD_inj : DeriveInj termKD := by
  intro cs cs' k k' h h' hs
  have e : termKD.master = [] := rfl
  rw [e, termKD_ckdAll] at h h'
  simp only [List.nil_append, Option.some.injEq] at h h'
  subst h; subst h'
  exact wordsCode_inj _ _ (by simpa [termKD] using hs)

/-- The contracts of `Crypto` are satisfiable: a toy instance (proof = the data in clear). -/
def toyCrypto : Crypto (Nat × Nat × Nat × Bytes) where
  bulletProof := fun v k rn _ m => (v, k, rn, m)
  verify := fun c p => c.value == p.1 && c.blind == p.2.1
  rewind := fun c nonce p =>
    if nonce = p.2.2.1 ∧ c.value = p.1 ∧ c.blind = p.2.1 then some (p.1, p.2.2.2) else none
  verify_honest := by intros; simp
  rewind_same := by intros; simp
  rewind_other := by intro v k rn rn' pn m h; simp [h]

/-- (for the non-vacuity examples) create with `ProofBuilder` on the term keychain under the toy
crypto, rewind with the view key made from the private key at `m/vk` -/
def toyViewRewind (vk : List ChildNumber) (amount : Nat) (id : Ident) : Rewound :=
  match commit termKD amount id .none,
    proofCreate termKD toyCrypto (newBuilder termKD (fun _ => 11) (fun _ => 12)) amount id .none with
  | .ok c, .ok p => proofRewind toyCrypto (viewBuilder termKD vk (fun _ => 11)) c p
  | _, _ => .panic

end GV.Keys
