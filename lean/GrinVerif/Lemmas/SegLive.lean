import GrinVerif.Lemmas.SegHonest
import GrinVerif.Lemmas.SegForest
/-! The loop of `Segment::root` with a bitmap over complete subtrees: the stack entry of a subtree
is `Some(committed hash)` when some leaf below it is *required* (the bitmap marks it or its
sibling, or it is the last position of the MMR; no bitmap: always) and `None` otherwise, provided
the segment carries the data of every required leaf and the hash of the dead child of every node
with exactly one live child.  The loop lemma holds for `bitmap = None` and `bitmap = Some(..)` alike (the node-law form without a bitmap, for
any hash assignment and any tail of the leaf iterator, is in `SegHonest`).
Core Lean only. -/
namespace GV.Seg
open GV GV.Pmmr

variable {α H : Type}

/-- some leaf under the node of height `h` at `p` is required -/
def liveAt (bm : Option (Nat → Bool)) (S : Nat) : Nat → Nat → Bool
  | 0, q => required bm S q
  | k + 1, q => liveAt bm S k (q - 2 ^ (k + 1)) || liveAt bm S k (q - 1)

/-- the stack entry the loop leaves for the subtree of height `h` at `p` -/
def entryAt (hf : HashFn α H) (f : Nat → α) (bm : Option (Nat → Bool)) (S h p : Nat) : Option H :=
  if liveAt bm S h p then some (hAt hf f p) else none

theorem entryAt_live {hf : HashFn α H} {f : Nat → α} {bm : Option (Nat → Bool)} {S h p : Nat}
    (hl : liveAt bm S h p = true) : entryAt hf f bm S h p = some (hAt hf f p) := by
  simp [entryAt, hl]

theorem entryAt_dead {hf : HashFn α H} {f : Nat → α} {bm : Option (Nat → Bool)} {S h p : Nat}
    (hl : liveAt bm S h p = false) : entryAt hf f bm S h p = none := by
  simp [entryAt, hl]

theorem liveAt_none (S : Nat) : ∀ h p, liveAt none S h p = true := by
  intro h
  induction h with
  | zero => intro p; rfl
  | succ k ih => intro p; simp [liveAt, ih]

/-- invariant of the leaf iterator: sorted by position, genuine data, and still holding every
needed leaf from `lo` on -/
structure IterInv (f : Nat → α) (need : Nat → Prop) (it : List (Nat × α)) (lo : Nat) : Prop where
  sorted : it.Pairwise (fun a b => a.1 < b.1)
  genuine : ∀ e ∈ it, e.2 = dAt f e.1
  has : ∀ q, lo ≤ q → need q → (q, dAt f q) ∈ it

theorem IterInv.mono {f : Nat → α} {need : Nat → Prop} {it : List (Nat × α)} {lo lo' : Nat}
    (h : IterInv f need it lo) (hle : lo ≤ lo') : IterInv f need it lo' :=
  ⟨h.sorted, h.genuine, fun q hq hn => h.has q (by omega) hn⟩

theorem IterInv.find {f : Nat → α} {need : Nat → Prop} {it : List (Nat × α)} {lo q : Nat}
    (h : IterInv f need it lo) (hq : lo ≤ q) (hn : need q) :
    ∃ it', iterFind it q = some (dAt f q, it') ∧ IterInv f need it' (q + 1) := by
  obtain ⟨x, rest, pre, h1, h2⟩ := iterFind_of_mem it q _ (h.has q hq hn)
  have hx : x = dAt f q := by
    have := h.genuine (q, x) (by rw [h2]; simp)
    exact this
  subst hx
  have hs := h.sorted
  rw [h2, List.pairwise_append] at hs
  obtain ⟨_, hs2, hs3⟩ := hs
  rw [List.pairwise_cons] at hs2
  refine ⟨rest, h1, ⟨hs2.2, fun e he => h.genuine e (by rw [h2]; simp [he]), ?_⟩⟩
  intro q' hq' hn'
  have hm := h.has q' (by omega) hn'
  rw [h2] at hm
  rcases List.mem_append.1 hm with hm | hm
  · have := hs3 _ hm (q, dAt f q) (List.mem_cons_self ..)
    simp only at this; omega
  · rcases List.mem_cons.1 hm with hm | hm
    · injection hm with h1' _; omega
    · exact hm

section Loop
variable (hf : HashFn α H) (f : Nat → α) (s : Segment α H) (bm : Option (Nat → Bool)) (S : Nat)
  (need : Nat → Prop) (ps : List Nat)

/-- what the segment must hold for the subtrees that lie inside the positions `ps` -/
structure Holds : Prop where
  /-- every required leaf is needed (and `IterInv` then says its data is there) -/
  leaf : ∀ q ∈ ps, height q = 0 → required bm S q = true → need q
  /-- the hash of a dead left child next to a live right child -/
  left : ∀ p k, height p = k + 1 → (∀ q ∈ treeRange (k + 1) p, q ∈ ps) →
    liveAt bm S k (p - 2 ^ (k + 1)) = false → liveAt bm S k (p - 1) = true →
    s.getHash (p - 2 ^ (k + 1)) = .ok (hAt hf f (p - 2 ^ (k + 1)))
  /-- the hash of a dead right child next to a live left child -/
  right : ∀ p k, height p = k + 1 → (∀ q ∈ treeRange (k + 1) p, q ∈ ps) →
    liveAt bm S k (p - 2 ^ (k + 1)) = true → liveAt bm S k (p - 1) = false →
    s.getHash (p - 1) = .ok (hAt hf f (p - 1))

theorem rootLoop_tree_live (hold : Holds hf f s bm S need ps) :
    ∀ (h p : Nat) (stk : List (Option H)) (it : List (Nat × α)), height p = h →
      (∀ q ∈ treeRange h p, q ∈ ps) → IterInv f need it (p + 2 - 2 ^ (h + 1)) →
      ∃ it', rootLoop hf s bm S (stk, it) (treeRange h p) = .ok (entryAt hf f bm S h p :: stk, it') ∧
        IterInv f need it' (p + 1) := by
  intro h
  induction h with
  | zero =>
    intro p stk it hp hsub hinv
    rw [show p + 2 - 2 ^ (0 + 1) = p from rfl] at hinv
    simp only [treeRange_zero, rootLoop, rootStep, hp, if_true, entryAt, liveAt]
    by_cases hr : required bm S p = true
    · obtain ⟨it', hfind, hinv'⟩ :=
        hinv.find (Nat.le_refl p) (hold.leaf p (hsub p (mem_treeRange_self hp)) hp hr)
      refine ⟨it', ?_, hinv'⟩
      simp only [hr, if_true, hfind, hAt_leafLaw hf f p hp]
    · refine ⟨it, ?_, hinv.mono (Nat.le_succ p)⟩
      simp only [hr, Bool.false_eq_true, if_false]
  | succ h ih =>
    intro p stk it hp hsub hinv
    obtain ⟨hl, hr, hsplit⟩ := node_split p h hp
    obtain ⟨eL, eR⟩ := node_starts p h hp
    have hsubL : ∀ q ∈ treeRange h (p - 2 ^ (h + 1)), q ∈ ps :=
      fun q hq => hsub q (by rw [hsplit]; exact List.mem_append_left _ (List.mem_append_left _ hq))
    have hsubR : ∀ q ∈ treeRange h (p - 1), q ∈ ps :=
      fun q hq => hsub q (by rw [hsplit]; exact List.mem_append_left _ (List.mem_append_right _ hq))
    obtain ⟨it1, hloop1, hinv1⟩ := ih (p - 2 ^ (h + 1)) stk it hl hsubL (by rw [eL]; exact hinv)
    obtain ⟨it2, hloop2, hinv2⟩ := ih (p - 1) (entryAt hf f bm S h (p - 2 ^ (h + 1)) :: stk) it1 hr hsubR
      (by rw [eR]; exact hinv1)
    refine ⟨it2, ?_, hinv2.mono (by omega)⟩
    rw [rootLoop_node hf s bm S hp hloop1 hloop2]
    simp only [rootStep, hp, Nat.add_one_ne_zero, if_false]
    have hnode := hAt_nodeLaw hf f p h hp
    have elc : 1 + p - 2 ^ (h + 1) - 1 = p - 2 ^ (h + 1) := by omega
    cases bm with
    | none =>
      simp only [entryAt, liveAt_none, if_true, liveAt, Bool.or_self]
      rw [hnode]
    | some b =>
      simp only [entryAt, liveAt]
      rcases Bool.eq_false_or_eq_true (liveAt (some b) S h (p - 2 ^ (h + 1))) with hL | hL <;>
        rcases Bool.eq_false_or_eq_true (liveAt (some b) S h (p - 1)) with hR | hR
      · simp only [hL, hR, if_true, Bool.or_self]
        rw [hnode]
      · have := hold.right p h hp hsub hL hR
        simp only [hL, hR, Bool.false_eq_true, if_false, if_true, Bool.or_false, this]
        rw [hnode]
      · have := hold.left p h hp hsub hL hR
        simp only [hL, hR, Bool.false_eq_true, if_false, if_true, Bool.or_true, elc, this]
        rw [hnode]
      · simp [hL, hR]

theorem rootLoop_tiles_live (hold : Holds hf f s bm S need ps) :
    ∀ (l : List (Nat × Nat)) (a n : Nat) (stk : List (Option H)) (it : List (Nat × α)),
      (∀ c ∈ l, c.2 ≤ trailingOnes c.1) → tiles l = List.range' a n → (∀ q ∈ tiles l, q ∈ ps) →
      IterInv f need it a →
      ∃ it', rootLoop hf s bm S (stk, it) (tiles l)
          = .ok ((l.map fun c => entryAt hf f bm S c.2 (Co.cpos c)).reverse ++ stk, it') ∧
        IterInv f need it' (a + n) := by
  intro l
  induction l with
  | nil =>
    intro a n stk it _ htl _ hinv
    have hn : n = 0 := by simpa [tiles] using (congrArg List.length htl).symm
    exact ⟨it, by simp [tiles, rootLoop], by rw [hn]; exact hinv⟩
  | cons c l ih =>
    intro a n stk it hv htl hsub hinv
    have hh : height (Co.cpos c) = c.2 := Co.height_co c.1 c.2 (hv c (List.mem_cons_self ..))
    have hb := Co.height_bound (Co.cpos c)
    rw [hh] at hb
    rw [tiles_cons] at htl hsub ⊢
    -- the first tree is `a, …, a + k - 1`, the rest continues at `a + k`
    obtain ⟨k, hkn, h1, h2⟩ := List.range'_eq_append_iff.1 htl.symm
    obtain ⟨hlen, hstart⟩ := List.range'_inj.1 (show List.range' _ _ = List.range' a k from h1)
    have hstart : Co.cpos c + 2 - 2 ^ (c.2 + 1) = a := by
      rcases hstart with h0 | h0
      · have := Co.two_pow_succ c.2; have := Nat.two_pow_pos c.2; omega
      · exact h0
    have hnext : Co.cpos c + 1 = a + k := by
      have := Co.two_pow_succ c.2; have := Nat.two_pow_pos c.2; omega
    obtain ⟨it1, hloop1, hinv1⟩ := rootLoop_tree_live hf f s bm S need ps hold c.2 (Co.cpos c) stk it hh
      (fun q hq => hsub q (List.mem_append_left _ hq)) (by rw [hstart]; exact hinv)
    obtain ⟨it2, hloop2, hinv2⟩ := ih (a + k) (n - k) (entryAt hf f bm S c.2 (Co.cpos c) :: stk) it1
      (fun x hx => hv x (List.mem_cons_of_mem _ hx)) (by rw [h2, Nat.mul_one])
      (fun q hq => hsub q (List.mem_append_right _ hq)) (by rw [← hnext]; exact hinv1)
    refine ⟨it2, ?_, by rw [show a + n = a + k + (n - k) by omega]; exact hinv2⟩
    rw [rootLoop_append, hloop1]
    simp only
    rw [hloop2]
    simp

end Loop

/-- the bagging loop over peaks `l`: `entry c` is what the stack holds for peak `c` — its hash
`hash c`, or `None` for a dead peak whose hash the segment carries at `pos c` -/
theorem bagPeaks_entries {β : Type} (hf : HashFn α H) (s : Segment α H) (bm : Option (Nat → Bool))
    (size : Nat) (entry : β → Option H) (pos : β → Nat) (hash : β → H) :
    ∀ (l : List β) (acc : Option H) (stk : List (Option H)),
      (∀ c ∈ l, entry c = some (hash c) ∨
        (entry c = none ∧ bm.isSome = true ∧ s.getHash (pos c) = .ok (hash c))) →
      bagPeaks hf s bm size (l.map entry ++ stk) acc (l.map pos)
        = .ok ((l.map hash).foldl (fun acc l => some (bagOnto hf size l acc)) acc) := by
  intro l
  induction l with
  | nil => intro acc stk _; simp [bagPeaks]
  | cons c l ih =>
    intro acc stk h
    have ih' := fun acc' => ih acc' stk (fun t' ht' => h t' (List.mem_cons_of_mem _ ht'))
    simp only [List.map_cons, List.cons_append, List.foldl_cons]
    rcases h c (List.mem_cons_self ..) with ht | ⟨ht, hb, hg⟩
    · rw [ht, bagPeaks_cons_some, ih']
    · rw [ht, bagPeaks_cons_none, if_pos hb, hg]
      exact ih' _

theorem rootWith_tree_live (hf : HashFn α H) (f : Nat → α) (s : Segment α H) (bm : Option (Nat → Bool))
    (S : Nat) (need : Nat → Prop) (ps : List Nat) (h p : Nat) (hp : height p = h)
    (hold : Holds hf f s bm S need ps) (hsub : ∀ q ∈ treeRange h p, q ∈ ps)
    (hinv : IterInv f need (s.leafPos.zip s.leafData) (p + 2 - 2 ^ (h + 1))) (pks : List Nat) :
    rootWith hf s S bm (treeRange h p) true pks = .ok (entryAt hf f bm S h p) := by
  obtain ⟨it', hloop, _⟩ := rootLoop_tree_live hf f s bm S need ps hold h p [] _ hp hsub hinv
  unfold rootWith
  rw [hloop]
  simp [rootFinish]

theorem fupWith_entry (hf : HashFn α H) (f : Nat → α) (s : Segment α H) (b : Nat → Bool) (S h last : Nat)
    (hget : s.getHash last = .ok (hAt hf f last)) :
    fupWith s S (some b) (.ok (entryAt hf f (some b) S h last)) last = .ok (hAt hf f last, 1 + last) := by
  cases hl : liveAt (some b) S h last with
  | true => rw [entryAt_live hl]; rfl
  | false => rw [entryAt_dead hl]; exact fupLoop_first s b _ last _ _ hget

theorem rootWith_tiles_live (hf : HashFn α H) (f : Nat → α) (s : Segment α H) (bm : Option (Nat → Bool))
    (S : Nat) (need : Nat → Prop) (ps : List Nat) (l : List (Nat × Nat))
    (hv : ∀ c ∈ l, c.2 ≤ trailingOnes c.1) (a n : Nat) (hold : Holds hf f s bm S need ps)
    (htl : tiles l = List.range' a n) (hsub : ∀ q ∈ tiles l, q ∈ ps)
    (hinv : IterInv f need (s.leafPos.zip s.leafData) a)
    (hpk : ∀ c ∈ l, liveAt bm S c.2 (Co.cpos c) = false →
      bm.isSome = true ∧ s.getHash (Co.cpos c) = .ok (Co.nh hf f c))
    (sr : H) (hb : bag hf S (l.map (Co.nh hf f)) = some sr) :
    rootWith hf s S bm (tiles l) false ((l.map Co.cpos).reverse) = .ok (some sr) := by
  obtain ⟨it', hloop, _⟩ := rootLoop_tiles_live hf f s bm S need ps hold l a n [] _ hv htl hsub hinv
  unfold rootWith
  rw [hloop]
  simp only [rootFinish, Bool.false_eq_true, if_false]
  have hts := bagPeaks_entries hf s bm S (fun c => entryAt hf f bm S c.2 (Co.cpos c)) Co.cpos (Co.nh hf f)
    l.reverse none [] (by
      intro c hc
      have hc := List.mem_reverse.1 hc
      cases hl : liveAt bm S c.2 (Co.cpos c) with
      | true => exact Or.inl (by rw [entryAt_live hl, hAt_cpos hf f c (hv c hc)])
      | false => exact Or.inr ⟨entryAt_dead hl, hpk c hc hl⟩)
  rw [List.map_reverse, List.map_reverse, List.map_reverse] at hts
  rw [hts, ← Co.bag_eq_foldl hf S _ (fun _ => rfl) (fun _ _ => rfl), hb]

theorem holds_none (hf : HashFn α H) (f : Nat → α) (s : Segment α H) (S : Nat) (ps : List Nat) :
    Holds hf f s none S (fun q => q ∈ ps ∧ height q = 0) ps where
  leaf := fun q hq hl _ => ⟨hq, hl⟩
  left := fun p k _ _ hL _ => by rw [liveAt_none] at hL; cases hL
  right := fun p k _ _ _ hR => by rw [liveAt_none] at hR; cases hR

theorem iterInv_leavesOf (f : Nat → α) (ps : List Nat) (hs : ps.Pairwise (· < ·)) (lo : Nat) :
    IterInv f (fun q => q ∈ ps ∧ height q = 0) (leavesOf (dAt f) ps) lo where
  sorted := by
    unfold leavesOf
    exact List.Pairwise.map _ (fun a b h => h) (List.Pairwise.filter _ hs)
  genuine := fun e he => by
    obtain ⟨q, _, rfl⟩ := List.mem_map.1 he
    rfl
  has := fun q _ hn => List.mem_map.2 ⟨q, List.mem_filter.2 ⟨hn.1, by simp [hn.2]⟩, rfl⟩

theorem rootWith_tiles_none (hf : HashFn α H) (s : Segment α H) (size : Nat) (f : Nat → α)
    (l : List (Nat × Nat)) (hv : ∀ c ∈ l, c.2 ≤ trailingOnes c.1) (a n : Nat)
    (htl : tiles l = List.range' a n)
    (hleaves : s.leafPos.zip s.leafData = leavesOf (dAt f) (tiles l))
    (sr : H) (hb : bag hf size (l.map (Co.nh hf f)) = some sr) :
    rootWith hf s size none (tiles l) false ((l.map Co.cpos).reverse) = .ok (some sr) :=
  rootWith_tiles_live hf f s none size _ (tiles l) l hv a n (holds_none hf f s size _) htl (fun _ h => h)
    (by rw [hleaves]; exact iterInv_leavesOf f _ (by rw [htl]; exact List.pairwise_lt_range') a)
    (fun c _ hd => by rw [liveAt_none] at hd; cases hd) sr hb

end GV.Seg
