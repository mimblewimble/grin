import GrinVerif.Model.Chain
import GrinVerif.Lemmas.UtilList
/-! A `Node` is a product of four parts that the steps of `Model/Chain.lean` touch disjointly:
the definitions (`outs`, `blks`: never written), the core (`head`, `stored`: written by `storeBlock`),
the header store (`headers`, `hhead`: written and read by `processHeader` only) and the pool
(`orphans`). This file: what each writer leaves alone, and what each reader reads (`CoreEq`, the
`_congr` lemmas). What the steps compute is in `ChainStep` / `ChainApply`. -/
namespace GV.Chain

/-- the node `processHeader` returns when it saves a header -/
def hdrUpdate (n : Node) (b : Blk) : Node :=
  { n with headers := if n.headers.contains b.id then n.headers else n.headers ++ [b.id],
           hhead := if b.work > n.workOf n.hhead then b.id else n.hhead }

theorem storeBlock_head (n1 : Node) (b : Blk) :
    ((storeBlock n1 b).1.head = n1.head ∧ ¬ b.work > n1.workOf n1.head ∧ (storeBlock n1 b).2 = .okFork) ∨
    ((storeBlock n1 b).1.head = b.id ∧ b.work > n1.workOf n1.head ∧ (storeBlock n1 b).2 = .okHead) := by
  unfold storeBlock
  split
  · right; simp_all
  · left; simp_all

theorem storeBlock_stored (n1 : Node) (b : Blk) : (storeBlock n1 b).1.stored = n1.stored ++ [b.id] := by
  unfold storeBlock; split <;> rfl

theorem storeBlock_blks (n1 : Node) (b : Blk) : (storeBlock n1 b).1.blks = n1.blks := by
  unfold storeBlock; split <;> rfl
theorem storeBlock_outs (n1 : Node) (b : Blk) : (storeBlock n1 b).1.outs = n1.outs := by
  unfold storeBlock; split <;> rfl
theorem storeBlock_headers (n1 : Node) (b : Blk) : (storeBlock n1 b).1.headers = n1.headers := by
  unfold storeBlock; split <;> rfl
theorem storeBlock_orphans (n1 : Node) (b : Blk) : (storeBlock n1 b).1.orphans = n1.orphans := by
  unfold storeBlock; split <;> rfl

theorem hdrUpdate_headers_mem (n : Node) (b : Blk) (h : Nat) :
    h ∈ (hdrUpdate n b).headers ↔ h ∈ n.headers ∨ h = b.id := mem_append_new

theorem addOrphan_mem (n : Node) (b : Blk) (o : Nat) :
    o ∈ (addOrphan n b).orphans ↔ o ∈ n.orphans ∨ o = b.id := mem_append_new

theorem storeBlock_stored_mem (n1 : Node) (b : Blk) (s : Nat) :
    s ∈ (storeBlock n1 b).1.stored ↔ s ∈ n1.stored ∨ s = b.id := by
  rw [storeBlock_stored, List.mem_append, List.mem_singleton]

theorem storeBlock_ok (n1 : Node) (b : Blk) : ∀ e, (storeBlock n1 b).2 ≠ .err e := by
  intro e; unfold storeBlock; split <;> simp

/-! ## Definitions never change; everything derived from them is a function of `outs`/`blks` -/

theorem blk_congr {n m : Node} (h : n.blks = m.blks) (id : Nat) : n.blk id = m.blk id := by
  simp [Node.blk, h]

theorem blk_id {n : Node} {id : Nat} {b : Blk} (h : n.blk id = some b) : b.id = id := by
  unfold Node.blk at h
  have := List.find?_some h
  simpa using this

theorem blk_mem {n : Node} {id : Nat} {b : Blk} (h : n.blk id = some b) : b ∈ n.blks := by
  unfold Node.blk at h
  exact List.mem_of_find?_eq_some h

theorem workOf_congr {n m : Node} (h : n.blks = m.blks) (id : Nat) : n.workOf id = m.workOf id := by
  simp [Node.workOf, blk_congr h]

theorem heightOf_congr {n m : Node} (h : n.blks = m.blks) (id : Nat) : n.heightOf id = m.heightOf id := by
  simp [Node.heightOf, blk_congr h]

theorem parentOf_congr {n m : Node} (h : n.blks = m.blks) (id : Nat) : n.parentOf id = m.parentOf id := by
  simp [Node.parentOf, blk_congr h]

theorem pathTo_congr {n m : Node} (h : n.blks = m.blks) :
    ∀ (fuel id : Nat) (acc : List Blk), pathTo n fuel id acc = pathTo m fuel id acc := by
  intro fuel
  induction fuel with
  | zero => intros; rfl
  | succ k ih =>
    intro id acc
    simp only [pathTo, blk_congr h]
    split
    · rfl
    · split
      · rfl
      · exact ih _ _

theorem path_congr {n m : Node} (h : n.blks = m.blks) (id : Nat) : n.path id = m.path id := by
  simp [Node.path, pathTo_congr h, h]

theorem stateAt_congr {n m : Node} (h : n.blks = m.blks) (p : Params) (id : Nat) :
    n.stateAt p id = m.stateAt p id := by
  simp [Node.stateAt, path_congr h]

theorem checkBlock_congr {n m : Node} (ho : n.outs = m.outs) (h : n.blks = m.blks) (p : Params)
    (b : Blk) (par : Nat) : checkBlock p n b par = checkBlock p m b par := by
  simp [checkBlock, stateAt_congr h, ho]

theorem reportedUtxo_congr {n m : Node} (h : n.blks = m.blks) (hh : n.head = m.head) (p : Params) :
    n.reportedUtxo p = m.reportedUtxo p := by
  simp [Node.reportedUtxo, stateAt_congr h, hh]


theorem validateHeader_congr {a b : Node} (p : Params) (hb : a.blks = b.blks) (blk : Blk)
    (hp : ∀ par, blk.parent = some par → (par ∈ a.headers ↔ par ∈ b.headers)) :
    validateHeader p a blk = validateHeader p b blk := by
  unfold validateHeader
  cases hpar : blk.parent with
  | none => rfl
  | some par =>
    have := hp par hpar
    simp only [List.contains_eq_mem, this, heightOf_congr hb, blk_congr hb]

theorem reportedUtxo_of_state {n : Node} {p : Params} {s : UState} (h : n.stateAt p n.head = .ok s) :
    n.reportedUtxo p = s.utxo.map (·.1) := by
  unfold Node.reportedUtxo; rw [h]

/-- `check_known`: the full block is the head, the head's parent, or in the block store -/
def KnownFull (n : Node) (b : Blk) : Prop :=
  b.id = n.head ∨ some b.id = n.parentOf n.head ∨ b.id ∈ n.stored

instance (n : Node) (b : Blk) : Decidable (KnownFull n b) := by unfold KnownFull; infer_instance

theorem knownFull_iff (n : Node) (b : Blk) :
    (b.id == n.head ∨ some b.id == n.parentOf n.head ∨ n.stored.contains b.id) ↔ KnownFull n b := by
  simp only [KnownFull, beq_iff_eq, List.contains_eq_mem, decide_eq_true_eq]

/-! ## Agreement on definitions and core: all that `precheck`, `checkBlock`, `storeBlock` read -/

structure CoreEq (a b : Node) : Prop where
  outs : a.outs = b.outs
  blks : a.blks = b.blks
  head : a.head = b.head
  stored : a.stored = b.stored

theorem CoreEq.refl (a : Node) : CoreEq a a := ⟨rfl, rfl, rfl, rfl⟩
theorem CoreEq.symm {a b : Node} (h : CoreEq a b) : CoreEq b a :=
  ⟨h.outs.symm, h.blks.symm, h.head.symm, h.stored.symm⟩
theorem CoreEq.trans {a b c : Node} (h : CoreEq a b) (g : CoreEq b c) : CoreEq a c :=
  ⟨h.outs.trans g.outs, h.blks.trans g.blks, h.head.trans g.head, h.stored.trans g.stored⟩

/-- the best-chain observation: head, stored blocks, reported unspent set -/
def obsBest (p : Params) (n : Node) : Nat × List Nat × List Nat := (n.head, n.stored, n.reportedUtxo p)

theorem CoreEq.orphans (n : Node) (os : List Nat) : CoreEq { n with orphans := os } n := ⟨rfl, rfl, rfl, rfl⟩

theorem CoreEq.obsBest {a b : Node} (h : CoreEq a b) (p : Params) : obsBest p a = obsBest p b := by
  simp [GV.Chain.obsBest, h.head, h.stored, reportedUtxo_congr h.blks h.head p]

theorem CoreEq.blk_some {a c : Node} (h : CoreEq a c) {id : Nat} {b : Blk} (hb : a.blk id = some b) :
    c.blk id = some b :=
  (blk_congr h.blks id).symm.trans hb

theorem CoreEq.knownFull {a b : Node} (h : CoreEq a b) (blk : Blk) : KnownFull a blk ↔ KnownFull b blk := by
  simp only [KnownFull, parentOf_congr h.blks, h.head, h.stored]

theorem CoreEq.workOfHead {a b : Node} (h : CoreEq a b) : a.workOf a.head = b.workOf b.head := by
  rw [workOf_congr h.blks, h.head]

theorem CoreEq.checkBlock {a b : Node} (h : CoreEq a b) (p : Params) (blk : Blk) (par : Nat) :
    checkBlock p a blk par = checkBlock p b blk par := checkBlock_congr h.outs h.blks p blk par

theorem precheck_congr {a b : Node} (h : CoreEq a b) (blk : Blk) : precheck a blk = precheck b blk := by
  simp [precheck, h.head, h.stored, workOf_congr h.blks, parentOf_congr h.blks, heightOf_congr h.blks]

theorem storeBlock_congr {a b : Node} (h : CoreEq a b) (blk : Blk) :
    CoreEq (storeBlock a blk).1 (storeBlock b blk).1 ∧ (storeBlock a blk).2 = (storeBlock b blk).2 := by
  have hs : a.stored ++ [blk.id] = b.stored ++ [blk.id] := by rw [h.stored]
  unfold storeBlock
  rw [h.workOfHead]
  split
  · exact ⟨⟨h.outs, h.blks, rfl, hs⟩, rfl⟩
  · exact ⟨⟨h.outs, h.blks, h.head, hs⟩, rfl⟩

end GV.Chain
