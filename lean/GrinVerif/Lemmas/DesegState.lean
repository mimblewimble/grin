import GrinVerif.Lemmas.DesegArith
/-! The invariant of the desegmenter (`Model/Deseg.lean`): one tree with its cache (`TreeOk`) under
`apply_*_segment`, the whole machine (`Inv`) under `Desegmenter::new` and `add_*_segment`.

Term shape matters for checking here: a definitional comparison of two machine states, or of terms that
contain `s.nextRequired …`, makes `whnf` (elaborator and kernel) unfold the wrapped u64 arithmetic of the
model.  Hence `Inv.par` is spelled out field by field, `NextOk` (`Lemmas/DesegApply.lean`) speaks of
variables for the four `next_required_*` values, and `rounds` (`Props/C16Deseg.lean`) takes its count last. -/
namespace GV.Deseg
open GV GV.Pmmr GV.Seg

theorem hasId_iff (cache : List Cached) (id : Ident) :
    hasId cache id = true ↔ ∃ c ∈ cache, c.id = id := by
  unfold hasId
  simp [List.any_eq_true]

theorem mem_cacheSeg (cache : List Cached) (y x : Cached) (h : x ∈ cacheSeg cache y) :
    x ∈ cache ∨ x = y := by
  unfold cacheSeg at h
  split at h
  · exact Or.inl h
  · rcases List.mem_append.mp h with h | h
    · exact Or.inl h
    · simp only [List.mem_singleton] at h; exact Or.inr h

theorem cacheSeg_sub (cache : List Cached) (y x : Cached) (h : x ∈ cache) : x ∈ cacheSeg cache y := by
  unfold cacheSeg
  split
  · exact h
  · exact List.mem_append_left _ h

theorem hasId_cacheSeg (cache : List Cached) (y : Cached) : hasId (cacheSeg cache y) y.id = true := by
  unfold cacheSeg
  split
  · assumption
  · rw [hasId_iff]; exact ⟨y, List.mem_append_right _ (List.mem_singleton.mpr rfl), rfl⟩

theorem cacheSeg_idem (cache : List Cached) (y z : Cached) (h : z.id = y.id) :
    cacheSeg (cacheSeg cache y) z = cacheSeg cache y := by
  have hh := hasId_cacheSeg cache y
  rw [← h] at hh
  have e : cacheSeg (cacheSeg cache y) z =
      if hasId (cacheSeg cache y) z.id then cacheSeg cache y else cacheSeg cache y ++ [z] := rfl
  rw [e, if_pos hh]

theorem removeFirstIdx_eq (cache : List Cached) (n : Nat) :
    removeFirstIdx cache n = Dsg.removeFirstBy (·.id.idx) cache n := by
  induction cache with
  | nil => rfl
  | cons c cs ih =>
    rw [removeFirstIdx, Dsg.removeFirstBy, ih]
    cases Dsg.removeFirstBy (·.id.idx) cs n <;> rfl

theorem takeBatch_eq : ∀ (k : Nat) (cache : List Cached) (next : Nat),
    takeBatch cache next k = Dsg.takeBatchBy (·.id.idx) cache next k
  | 0, _, _ => rfl
  | k + 1, cache, next => by
    rw [takeBatch, Dsg.takeBatchBy, removeFirstIdx_eq]
    cases Dsg.removeFirstBy (·.id.idx) cache next with
    | none => rfl
    | some p => simp only [takeBatch_eq k]

theorem removeFirstIdx_mem (cache : List Cached) (n : Nat) (s : Cached) (rest : List Cached)
    (h : removeFirstIdx cache n = some (s, rest)) :
    s ∈ cache ∧ s.id.idx = n ∧ ∀ x ∈ rest, x ∈ cache :=
  Dsg.removeFirstBy_mem _ cache n s rest (removeFirstIdx_eq cache n ▸ h)

theorem removeFirstIdx_some (cache : List Cached) (n : Nat) (h : ∃ c ∈ cache, c.id.idx = n) :
    ∃ s rest, removeFirstIdx cache n = some (s, rest) ∧ s ∈ cache ∧ s.id.idx = n ∧
      (∀ x ∈ rest, x ∈ cache) :=
  removeFirstIdx_eq cache n ▸ Dsg.removeFirstBy_some _ cache n h

def Consec : Nat → List Cached → Prop := Dsg.ConsecBy (·.id.idx)

theorem takeBatch_spec (k : Nat) (cache : List Cached) (next : Nat) :
    (∀ x ∈ (takeBatch cache next k).1, x ∈ cache) ∧ (∀ x ∈ (takeBatch cache next k).2, x ∈ cache) ∧
      Consec next (takeBatch cache next k).1 :=
  takeBatch_eq k cache next ▸ Dsg.takeBatchBy_spec _ k cache next

/-- a tree is regular: every cached segment has the asked height, and the local MMR ends at the
archive size, at a segment boundary below it, or at the genesis leaf -/
structure TreeOk (gen : Bool) (h N : Nat) (t : Tree) : Prop where
  own : ∀ c ∈ t.cache, c.id.height = h
  pos : ∃ n o, t.size = mmr n ∧ Pos gen h N n o

def Tree.leaves (t : Tree) : Nat := nLeaves t.size

theorem TreeOk.leaves_le {gen : Bool} {h N : Nat} {t : Tree} (ok : TreeOk gen h N t) : t.leaves ≤ N := by
  obtain ⟨n, o, hs, p⟩ := ok.pos
  unfold Tree.leaves; rw [hs, Co.nLeaves_mmr]; exact p.le

theorem TreeOk.size_eq {gen : Bool} {h N : Nat} {t : Tree} (ok : TreeOk gen h N t) :
    t.size = mmr t.leaves := by
  obtain ⟨n, o, hs, _⟩ := ok.pos
  unfold Tree.leaves; rw [hs, Co.nLeaves_mmr]

theorem TreeOk.pos' {gen : Bool} {h N : Nat} {t : Tree} (ok : TreeOk gen h N t) :
    ∃ o, Pos gen h N t.leaves o := by
  obtain ⟨n, o, hs, p⟩ := ok.pos
  refine ⟨o, ?_⟩
  unfold Tree.leaves; rw [hs, Co.nLeaves_mmr]; exact p

theorem treeOk_cache {gen : Bool} {h N : Nat} {t : Tree} (ok : TreeOk gen h N t) (c : Cached)
    (hc : c.id.height = h) : TreeOk gen h N { t with cache := cacheSeg t.cache c } := by
  refine ⟨?_, ok.pos⟩
  intro x hx
  rcases mem_cacheSeg _ _ _ hx with h1 | h1
  · exact ok.own x h1
  · subst h1; exact hc

/-- a segment with index `m` does not start beyond the local MMR, or the local MMR is complete -/
def Reach (h N m n : Nat) : Prop := m * 2 ^ h ≤ n ∨ n = N

theorem reach_of_pos {gen : Bool} {h N n : Nat} {o : Option Nat} (p : Pos gen h N n o)
    (hg : gen = true → 1 ≤ h) (next : Option Nat) (hn : ∀ k, o = some k → next = some k) :
    ∀ m, next = some m → Reach h N m n := by
  intro m hm
  cases o with
  | none => exact Or.inr p.eq_of_none
  | some k =>
    rw [hn k rfl] at hm
    injection hm with hm
    subst hm
    exact Or.inl (p.bounds hg).1

theorem Pos.at_min (gen : Bool) (h N m : Nat) : ∃ o, Pos gen h N (min (m * 2 ^ h) N) o := by
  by_cases hlt : m * 2 ^ h < N
  · exact ⟨some m, by rw [Nat.min_eq_left (Nat.le_of_lt hlt)]; exact Pos.boundary m hlt⟩
  · exact ⟨none, by rw [Nat.min_eq_right (by omega)]; exact Pos.done⟩

theorem applySeg_eq (prunable : Bool) (N : Nat) (t : Tree) (c : Cached) :
    applySeg prunable (mmr N) t c =
      if c.id.idx * 2 ^ c.id.height ≤ t.leaves ∧ t.leaves < (c.id.idx + 1) * 2 ^ c.id.height ∧ t.leaves < N then
        (⟨mmr (min ((c.id.idx + 1 + if prunable then c.jump else 0) * 2 ^ c.id.height) N), t.cache,
          c :: t.log⟩, false)
      else (t, decide (t.leaves < c.id.idx * 2 ^ c.id.height ∧ c.id.idx * 2 ^ c.id.height < N)) := by
  unfold applySeg segLo segHi Tree.leaves insertionToPmmrIndex
  simp only [Co.nLeaves_mmr, Nat.lt_min]

/-- `r` = (new tree, "misapplied") after applying segments to the regular tree `t` -/
structure Applied (gen : Bool) (h N : Nat) (t : Tree) (r : Tree × Bool) : Prop where
  ok : TreeOk gen h N r.1
  clean : r.2 = false
  le : t.leaves ≤ r.1.leaves

theorem applySeg_ok (prunable gen : Bool) (h N : Nat) (t : Tree) (c : Cached) (ok : TreeOk gen h N t)
    (hc : c.id.height = h) (hr : Reach h N c.id.idx t.leaves) :
    Applied gen h N t (applySeg prunable (mmr N) t c) ∧
      Reach h N (c.id.idx + 1) (applySeg prunable (mmr N) t c).1.leaves ∧
      (c.id.idx * 2 ^ h ≤ t.leaves → t.leaves < (c.id.idx + 1) * 2 ^ h → t.leaves < N →
        t.leaves < (applySeg prunable (mmr N) t c).1.leaves) := by
  have hle := ok.leaves_le
  have hp := Nat.two_pow_pos h
  unfold Reach at hr ⊢
  rw [applySeg_eq, hc]
  generalize (if prunable = true then c.jump else 0) = j
  have hmono : (c.id.idx + 1) * 2 ^ h ≤ (c.id.idx + 1 + j) * 2 ^ h := Nat.mul_le_mul_right _ (by omega)
  have hsucc : (c.id.idx + 1) * 2 ^ h = c.id.idx * 2 ^ h + 2 ^ h := Nat.succ_mul _ _
  split
  · rename_i hin
    have hl : Tree.leaves ⟨mmr (min ((c.id.idx + 1 + j) * 2 ^ h) N), t.cache, c :: t.log⟩ =
        min ((c.id.idx + 1 + j) * 2 ^ h) N := Co.nLeaves_mmr _
    dsimp only
    rw [hl]
    obtain ⟨o, po⟩ := Pos.at_min gen h N (c.id.idx + 1 + j)
    have key : t.leaves < min ((c.id.idx + 1 + j) * 2 ^ h) N :=
      Nat.lt_min.2 ⟨Nat.lt_of_lt_of_le hin.2.1 hmono, hin.2.2⟩
    have hreach : (c.id.idx + 1) * 2 ^ h ≤ min ((c.id.idx + 1 + j) * 2 ^ h) N ∨
        min ((c.id.idx + 1 + j) * 2 ^ h) N = N :=
      (Nat.le_total ((c.id.idx + 1 + j) * 2 ^ h) N).elim
        (fun hq => Or.inl (by rw [Nat.min_eq_left hq]; exact hmono)) (fun hq => Or.inr (Nat.min_eq_right hq))
    exact ⟨⟨⟨ok.own, _, o, rfl, po⟩, rfl, Nat.le_of_lt (Nat.lt_of_lt_of_eq key hl.symm)⟩, hreach, fun _ _ _ => key⟩
  · rename_i hin
    have key : ¬ (t.leaves < c.id.idx * 2 ^ h ∧ c.id.idx * 2 ^ h < N) ∧
        ((c.id.idx + 1) * 2 ^ h ≤ t.leaves ∨ t.leaves = N) := by omega
    exact ⟨⟨ok, decide_eq_false key.1, Nat.le_refl _⟩, key.2, fun h1 h2 h3 => absurd ⟨h1, h2, h3⟩ hin⟩

theorem applyList_ok (prunable gen : Bool) (h N : Nat) : ∀ (l : List Cached) (m : Nat) (t : Tree),
    TreeOk gen h N t → (∀ c ∈ l, c.id.height = h) → Consec m l → Reach h N m t.leaves →
    Applied gen h N t (applyList prunable (mmr N) t l) := by
  intro l
  induction l with
  | nil => intro m t ok _ _ _; exact ⟨ok, rfl, Nat.le_refl _⟩
  | cons c cs ih =>
    intro m t ok hl hcs hr
    obtain ⟨hci, hcs'⟩ : c.id.idx = m ∧ Consec (m + 1) cs := hcs
    have hc := hl c List.mem_cons_self
    obtain ⟨a, hreach, _⟩ := applySeg_ok prunable gen h N t c ok hc (by rw [hci]; exact hr)
    have b := ih (m + 1) _ a.ok (fun x hx => hl x (List.mem_cons_of_mem _ hx)) hcs' (by rw [← hci]; exact hreach)
    simp only [applyList]
    refine ⟨b.ok, ?_, Nat.le_trans a.le b.le⟩
    rw [a.clean, b.clean]; rfl

theorem applyTree_ok (prunable gen : Bool) (h N : Nat) (next : Option Nat) (t : Tree)
    (ok : TreeOk gen h N t) (hn : ∀ m, next = some m → Reach h N m t.leaves) :
    TreeOk gen h N (applyTree prunable (mmr N) next t).1 ∧
      (applyTree prunable (mmr N) next t).2 = false ∧
      t.leaves ≤ (applyTree prunable (mmr N) next t).1.leaves := by
  unfold applyTree
  cases next with
  | none =>
    simp only
    split
    · exact ⟨⟨fun c hc => (by cases hc), ok.pos⟩, rfl, Nat.le_refl _⟩
    · exact ⟨ok, rfl, Nat.le_refl _⟩
  | some m =>
    simp only
    obtain ⟨i1, i2, i3⟩ := takeBatch_spec batchSize t.cache m
    have ok' : TreeOk gen h N { t with cache := (takeBatch t.cache m batchSize).2 } :=
      ⟨fun c hc => ok.own c (i2 c hc), ok.pos⟩
    have a := applyList_ok prunable gen h N _ m _ ok' (fun c hc => ok.own c (i1 c hc)) i3 (hn m rfl)
    exact ⟨a.ok, a.clean, a.le⟩

/-- `A` with `A = mmr N` and not `mmr N`: the archive sizes of a state are `s.outSize` / `s.kerSize`,
which are `mmr N` by an equation of `Params` only -/
theorem applyTree_ok' (prunable gen : Bool) (h N A : Nat) (next : Option Nat) (t : Tree) (hA : A = mmr N)
    (ok : TreeOk gen h N t) (hg : gen = true → 1 ≤ h)
    (hn : ∀ k, Pos gen h N t.leaves (some k) → next = some k) :
    TreeOk gen h N (applyTree prunable A next t).1 ∧ (applyTree prunable A next t).2 = false ∧
      t.leaves ≤ (applyTree prunable A next t).1.leaves := by
  subst hA
  obtain ⟨o, p⟩ := ok.pos'
  exact applyTree_ok prunable gen h N next t ok (reach_of_pos p hg next fun k hk => hn k (hk ▸ p))

theorem applyTree_progress (prunable gen : Bool) (h N k : Nat) (t : Tree) (ok : TreeOk gen h N t)
    (hg : gen = true → 1 ≤ h) (p : Pos gen h N t.leaves (some k)) (hc : ∃ c ∈ t.cache, c.id.idx = k) :
    t.leaves < (applyTree prunable (mmr N) (some k) t).1.leaves := by
  obtain ⟨b1, b2, _⟩ := p.bounds hg
  obtain ⟨i1, i2, i3⟩ := takeBatch_spec batchSize t.cache k
  obtain ⟨s, rest, hr, _⟩ := removeFirstIdx_some t.cache k hc
  have hsl : (takeBatch t.cache k batchSize).1 = s :: (takeBatch rest (k + 1) 3).1 := by
    simp [batchSize, takeBatch, hr]
  unfold applyTree
  simp only
  rw [hsl] at i1 i3 ⊢
  obtain ⟨hsi, i3⟩ := i3
  subst hsi
  have ok' : TreeOk gen h N { t with cache := (takeBatch t.cache s.id.idx batchSize).2 } :=
    ⟨fun c hc => ok.own c (i2 c hc), ok.pos⟩
  obtain ⟨a, hreach, hprog⟩ := applySeg_ok prunable gen h N _ s ok' (ok.own s (i1 s List.mem_cons_self)) (Or.inl b1)
  have b := applyList_ok prunable gen h N _ _ _ a.ok (fun x hx => ok.own x (i1 x (List.mem_cons_of_mem _ hx))) i3 hreach
  exact Nat.lt_of_lt_of_le (hprog b1 b2 p.lt_of_some) b.le

theorem applyTree_progress' (prunable gen : Bool) (h N A k : Nat) (t : Tree) (hA : A = mmr N)
    (ok : TreeOk gen h N t) (hg : gen = true → 1 ≤ h) (p : Pos gen h N t.leaves (some k))
    (hc : ∃ c ∈ t.cache, c.id.idx = k) : t.leaves < (applyTree prunable A (some k) t).1.leaves := by
  subst hA
  exact applyTree_progress prunable gen h N k t ok hg p hc

/-- what `Desegmenter::new` fixes: heights in range (`1 ≤ h` for the three main trees: with
height 0 the genesis special case never lets a tree leave its first leaf), archive sizes that are
MMR sizes of `No ≥ 1` outputs and `Nk ≥ 2` kernels (an archive header above genesis commits to at
least the genesis and one coinbase kernel), far below the u64 range -/
structure Params (No Nk hB hO hR hK outSize kerSize bmLeafCount bmSize : Nat) : Prop where
  hB : hB ≤ 61
  hO1 : 1 ≤ hO
  hO : hO ≤ 61
  hR1 : 1 ≤ hR
  hR : hR ≤ 61
  hK1 : 1 ≤ hK
  hK : hK ≤ 61
  out : outSize = mmr No
  ker : kerSize = mmr Nk
  No1 : 1 ≤ No
  NoS : No < 2 ^ 62
  Nk2 : 2 ≤ Nk
  NkS : Nk < 2 ^ 62
  bmc : bmLeafCount = Dsg.expectedChunks No
  bms : bmSize = mmr (Dsg.expectedChunks No)

theorem chunks_pos (No : Nat) (h : 1 ≤ No) : 1 ≤ Dsg.expectedChunks No := by
  unfold Dsg.expectedChunks; omega

theorem chunks_small (No : Nat) (h : No < 2 ^ 62) : Dsg.expectedChunks No < 2 ^ 62 := by
  unfold Dsg.expectedChunks; omega

structure Inv (No Nk : Nat) (s : St) : Prop where
  /-- (spelled out field by field: the kernel compares the arguments one by one, and never has to
  compare two states) -/
  par : Params No Nk s.hB s.hO s.hR s.hK s.outSize s.kerSize s.bmLeafCount s.bmSize
  bm : TreeOk false s.hB (Dsg.expectedChunks No) s.bm
  /-- no cached bitmap segment carries redundant chunks (assumption on the deliveries:
  `apply_bitmap_segment` appends every chunk it is given) -/
  clean : ∀ c ∈ s.bm.cache, c.extra = 0
  out : TreeOk true s.hO No s.out
  rp : TreeOk true s.hR No s.rp
  ker : TreeOk true s.hK Nk s.ker
  noMis : s.misapplied = false
  fin : s.bitmapCache = true → s.bm.leaves = Dsg.expectedChunks No

theorem leaves_mk (n : Nat) (c l : List Cached) : Tree.leaves ⟨mmr n, c, l⟩ = n := by
  unfold Tree.leaves; exact Co.nLeaves_mmr n

/-- `Desegmenter::new` on a fresh chain (MMRs of size 0 or 1: nothing, or the genesis element) -/
theorem new_inv (hB hO hR hK No Nk gOut gKer : Nat) (hb : hB ≤ 61) (ho1 : 1 ≤ hO) (ho : hO ≤ 61)
    (hr1 : 1 ≤ hR) (hr : hR ≤ 61) (hk1 : 1 ≤ hK) (hk : hK ≤ 61) (hNo : 1 ≤ No) (hNoS : No < 2 ^ 62)
    (hNk : 2 ≤ Nk) (hNkS : Nk < 2 ^ 62) (hgo : gOut ≤ 1) (hgk : gKer ≤ 1) :
    Inv No Nk (St.new hB hO hR hK (mmr No) (mmr Nk) gOut gKer) := by
  have hc1 := chunks_pos No hNo
  have hcs := chunks_small No hNoS
  have posOf : ∀ (h N g : Nat), 1 ≤ N → g ≤ 1 → ∃ n o, g = mmr n ∧ Pos true h N n o := by
    intro h N g hN hg
    have : g = 0 ∨ g = 1 := by omega
    rcases this with e | e
    · exact ⟨0, some 0, e.trans Co.mmr_zero.symm, Pos.zero hN⟩
    · by_cases h1 : N = 1
      · subst h1; exact ⟨1, none, e.trans Co.mmr_one.symm, Pos.done⟩
      · exact ⟨1, some 0, e.trans Co.mmr_one.symm, Pos.genesis rfl (by omega)⟩
  refine ⟨?_, ⟨fun c hc => (by cases hc), 0, some 0, Co.mmr_zero.symm, Pos.zero hc1⟩, fun c hc => (by cases hc),
    ⟨fun c hc => (by cases hc), posOf hO No gOut hNo hgo⟩, ⟨fun c hc => (by cases hc), posOf hR No gOut hNo hgo⟩,
    ⟨fun c hc => (by cases hc), posOf hK Nk gKer (by omega) hgk⟩, rfl, fun h => (by cases h)⟩
  refine ⟨hb, ho1, ho, hr1, hr, hk1, hk, rfl, rfl, hNo, hNoS, hNk, hNkS, ?_, ?_⟩
  · show (calcBitmapMmrSizes (mmr No)).1 = _
    unfold calcBitmapMmrSizes Dsg.expectedChunks; simp only [Co.nLeaves_mmr]
  · show (calcBitmapMmrSizes (mmr No)).2 = _
    unfold calcBitmapMmrSizes; simp only [Co.nLeaves_mmr]
    exact ins2pmmrW_small _ (by unfold Dsg.expectedChunks at hcs; omega)

theorem addSegment_refused (s : St) (k : Kind) (x : SegIn) (h : (s.addSegment k x).2 ≠ .ok) :
    (s.addSegment k x).1 = s := by
  unfold St.addSegment at h ⊢
  split
  · rfl
  · split
    · rfl
    · split
      · rfl
      · rename_i h1 h2 h3
        rw [if_neg h1, if_neg h2, if_neg h3] at h
        exact absurd rfl h

theorem addSegment_ok_iff (s : St) (k : Kind) (x : SegIn) :
    (s.addSegment k x).2 = .ok ↔
      x.id.height = s.heightOf k ∧ x.id.unprunedSize (s.archiveOf k) ≠ 0 ∧ x.valid = true := by
  unfold St.addSegment
  by_cases h1 : x.id.height = s.heightOf k
  · by_cases h2 : x.id.unprunedSize (s.archiveOf k) = 0
    · simp [h1, h2]
    · by_cases h3 : x.valid = true
      · simp [h1, h2, h3]
      · simp [h1, h2, h3]
  · simp [h1]

theorem addSegment_ok_state (s : St) (k : Kind) (x : SegIn) (h : (s.addSegment k x).2 = .ok) :
    (s.addSegment k x).1 =
      s.setTree k { s.treeOf k with cache := cacheSeg (s.treeOf k).cache ⟨x.id, x.jump, x.extra⟩ } := by
  obtain ⟨h1, h2, h3⟩ := (addSegment_ok_iff s k x).mp h
  unfold St.addSegment
  rw [if_neg (by simpa using h1), if_neg h2, if_neg (by simp [h3])]

theorem add_inv (No Nk : Nat) (s : St) (k : Kind) (x : SegIn) (hi : Inv No Nk s)
    (hclean : k = .bitmap → x.extra = 0) : Inv No Nk (s.addSegment k x).1 := by
  by_cases hok : (s.addSegment k x).2 = .ok
  · rw [addSegment_ok_state s k x hok]
    obtain ⟨h1, _, _⟩ := (addSegment_ok_iff s k x).mp hok
    obtain ⟨par, bm, clean, out, rp, ker, noMis, fin⟩ := hi
    cases k with
    | bitmap =>
      refine ⟨par, treeOk_cache bm _ h1, ?_, out, rp, ker, noMis, fin⟩
      intro c hc
      rcases mem_cacheSeg _ _ _ hc with h | h
      · exact clean c h
      · subst h; exact hclean rfl
    | output => exact ⟨par, bm, clean, treeOk_cache out _ h1, rp, ker, noMis, fin⟩
    | rangeproof => exact ⟨par, bm, clean, out, treeOk_cache rp _ h1, ker, noMis, fin⟩
    | kernel => exact ⟨par, bm, clean, out, rp, treeOk_cache ker _ h1, noMis, fin⟩
  · rw [addSegment_refused s k x hok]; exact hi

/-- what no `add_*_segment` changes -/
structure Frame (s s' : St) : Prop where
  hB : s'.hB = s.hB
  hO : s'.hO = s.hO
  hR : s'.hR = s.hR
  hK : s'.hK = s.hK
  outSize : s'.outSize = s.outSize
  kerSize : s'.kerSize = s.kerSize
  bmLeafCount : s'.bmLeafCount = s.bmLeafCount
  bmSize : s'.bmSize = s.bmSize
  bm : s'.bm.size = s.bm.size
  out : s'.out.size = s.out.size
  rp : s'.rp.size = s.rp.size
  ker : s'.ker.size = s.ker.size
  bc : s'.bitmapCache = s.bitmapCache

theorem Frame.refl (s : St) : Frame s s := by constructor <;> rfl

theorem Frame.trans {a b c : St} (h1 : Frame a b) (h2 : Frame b c) : Frame a c :=
  ⟨h2.hB.trans h1.hB, h2.hO.trans h1.hO, h2.hR.trans h1.hR, h2.hK.trans h1.hK,
   h2.outSize.trans h1.outSize, h2.kerSize.trans h1.kerSize, h2.bmLeafCount.trans h1.bmLeafCount,
   h2.bmSize.trans h1.bmSize, h2.bm.trans h1.bm, h2.out.trans h1.out, h2.rp.trans h1.rp, h2.ker.trans h1.ker,
   h2.bc.trans h1.bc⟩

theorem add_frame (s : St) (k : Kind) (x : SegIn) : Frame s (s.addSegment k x).1 := by
  by_cases hok : (s.addSegment k x).2 = .ok
  · rw [addSegment_ok_state s k x hok]
    cases k <;> constructor <;> rfl
  · rw [addSegment_refused s k x hok]; exact Frame.refl s

theorem add_sizes (s : St) (k : Kind) (x : SegIn) :
    let s' := (s.addSegment k x).1
    s'.bm.size = s.bm.size ∧ s'.out.size = s.out.size ∧ s'.rp.size = s.rp.size ∧
      s'.ker.size = s.ker.size ∧ s'.bitmapCache = s.bitmapCache ∧ s'.misapplied = s.misapplied ∧
      s'.allComplete = s.allComplete ∧
      s'.bm.log = s.bm.log ∧ s'.out.log = s.out.log ∧ s'.rp.log = s.rp.log ∧ s'.ker.log = s.ker.log := by
  have f := add_frame s k x
  refine ⟨f.bm, f.out, f.rp, f.ker, f.bc, ?_⟩
  by_cases hok : (s.addSegment k x).2 = .ok
  · simp only [addSegment_ok_state s k x hok]
    cases k <;> simp [St.setTree, St.treeOf]
  · simp only [addSegment_refused s k x hok]
    simp

theorem treeOf_setTree (s : St) (k : Kind) (t : Tree) (k' : Kind) :
    (s.setTree k t).treeOf k' = if k' = k then t else s.treeOf k' := by
  cases k <;> cases k' <;> rfl

theorem add_cache_sub (s : St) (k k' : Kind) (x : SegIn) (c : Cached) (hc : c ∈ (s.treeOf k').cache) :
    c ∈ ((s.addSegment k x).1.treeOf k').cache := by
  by_cases hok : (s.addSegment k x).2 = .ok
  · rw [addSegment_ok_state s k x hok, treeOf_setTree]
    split
    · subst k'; exact cacheSeg_sub _ _ _ hc
    · exact hc
  · rw [addSegment_refused s k x hok]; exact hc

theorem add_cached (s : St) (k : Kind) (x : SegIn) (hok : (s.addSegment k x).2 = .ok) :
    hasId ((s.addSegment k x).1.treeOf k).cache x.id = true := by
  rw [addSegment_ok_state s k x hok, treeOf_setTree, if_pos rfl]
  exact hasId_cacheSeg _ ⟨x.id, x.jump, x.extra⟩

theorem next_values (No Nk : Nat) (s : St) (hi : Inv No Nk s) :
    (∀ o, Pos false s.hB (Dsg.expectedChunks No) s.bm.leaves o → s.nextRequired .bitmap = o) ∧
    (∀ k, Pos true s.hO No s.out.leaves (some k) → s.nextRequired .output = some k) ∧
    (∀ k, Pos true s.hR No s.rp.leaves (some k) → s.nextRequired .rangeproof = some k) ∧
    (∀ o, Pos true s.hK Nk s.ker.leaves o → s.nextRequired .kernel = o) := by
  have par := hi.par; have bm := hi.bm; have out := hi.out; have rp := hi.rp; have ker := hi.ker
  refine ⟨?_, ?_, ?_, ?_⟩
  · intro o p
    show nextRequiredBitmap s.hB s.bmSize s.bm.size = o
    rw [par.bms, bm.size_eq]
    exact nextBitmap_pos _ _ _ o par.hB (chunks_small No par.NoS) p
  · intro k p
    show nextRequiredPrunable s.hO s.outSize s.out.size = some k
    rw [par.out, out.size_eq]
    exact nextPrunable_pos _ _ _ k par.hO par.hO1 par.NoS p
  · intro k p
    show nextRequiredPrunable s.hR s.outSize s.rp.size = some k
    rw [par.out, rp.size_eq]
    exact nextPrunable_pos _ _ _ k par.hR par.hR1 par.NoS p
  · intro o p
    show nextRequiredKernel s.hK s.kerSize s.ker.size = o
    rw [par.ker, ker.size_eq]
    exact nextKernel_pos _ _ _ o par.hK par.hK1 par.NkS par.Nk2 p

theorem applyBitmapSeg_ok (h C k : Nat) (t : Tree) (c : Cached) (rest : List Cached)
    (hh : h ≤ 61) (hC : C < 2 ^ 62) (ok : TreeOk false h C t) (p : Pos false h C t.leaves (some k))
    (hc : c.id.height = h) (hi : c.id.idx = k) (he : c.extra = 0) (hrest : ∀ x ∈ rest, x ∈ t.cache) :
    TreeOk false h C (applyBitmapSeg (mmr C) t c rest) ∧
      t.leaves < (applyBitmapSeg (mmr C) t c rest).leaves ∧
      (applyBitmapSeg (mmr C) t c rest).cache = rest := by
  have hp := Nat.two_pow_pos h
  have hlt := p.lt_of_some
  have hn := p.eq_boundary
  rw [hn] at hlt
  have hsz : (applyBitmapSeg (mmr C) t c rest).size = mmr (min ((k + 1) * 2 ^ h) C) := by
    show mmr (t.leaves + c.id.unprunedSize (mmr C) + c.extra) = _
    rw [unprunedSize_mmr c.id C (by omega) (by rw [hc, hi]; omega), hc, hi, he, hn, Nat.succ_mul,
      Nat.add_zero, ← Nat.add_min_add_left, Nat.add_sub_cancel' (Nat.le_of_lt hlt)]
  obtain ⟨o, po⟩ := Pos.at_min false h C (k + 1)
  refine ⟨⟨fun x hx => ok.own x (hrest x hx), _, o, hsz, po⟩, ?_, rfl⟩
  show t.leaves < nLeaves (applyBitmapSeg (mmr C) t c rest).size
  rw [hsz, Co.nLeaves_mmr, hn, Nat.succ_mul]
  omega

end GV.Deseg
