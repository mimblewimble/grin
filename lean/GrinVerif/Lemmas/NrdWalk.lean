import GrinVerif.Lemmas.NrdSpec
/-! The header walk of `verify_kernel_pos_index` assigns every kernel the height of the block it
belongs to: `verifyWalk` over the flattened kernels = `applyBlocks` over the blocks. -/
namespace GV.Nrd
variable {ε : Type} [DecidableEq ε]
set_option linter.unusedSectionVars false

/-- state of the walk while the kernels of block `b` (first of the remaining path, sizes before it
at most `c`) are being read: either the current header is still at or below `c` with only headers
of size ≤ `c` between it and `b`'s, or it is `b`'s header; `rest` = the headers after `b`'s -/
def WalkAt (b : Blk ε) (c : Nat) (rest : List (Nat × Nat)) (cur : Nat × Nat) (later : List (Nat × Nat)) : Prop :=
  (cur.2 ≤ c ∧ ∃ pre, later = pre ++ b.hdr :: rest ∧ ∀ h ∈ pre, h.2 ≤ c) ∨ (cur = b.hdr ∧ later = rest)

theorem advanceHeader_skip (cur : Nat × Nat) (pre : List (Nat × Nat)) (h : Nat × Nat)
    (rest : List (Nat × Nat)) (pos c : Nat) (hc : cur.2 ≤ c) (hpre : ∀ x ∈ pre, x.2 ≤ c) (hpos : c < pos)
    (hle : pos ≤ h.2) : advanceHeader cur (pre ++ h :: rest) pos = some (h, rest) := by
  induction pre generalizing cur with
  | nil =>
    have h1 : pos > cur.2 := Nat.lt_of_le_of_lt hc hpos
    have h2 : ¬ pos > h.2 := Nat.not_lt.mpr hle
    cases rest <;> simp only [List.nil_append, advanceHeader, h1, h2, if_true, if_false]
  | cons p pre ih =>
    have h1 : pos > cur.2 := Nat.lt_of_le_of_lt hc hpos
    simp only [List.cons_append, advanceHeader, h1, if_true]
    exact ih p (hpre p List.mem_cons_self) (fun x hx => hpre x (List.mem_cons_of_mem _ hx))

theorem advanceHeader_stay (cur : Nat × Nat) (later : List (Nat × Nat)) (pos : Nat) (hle : pos ≤ cur.2) :
    advanceHeader cur later pos = some (cur, later) := by
  have h2 : ¬ pos > cur.2 := Nat.not_lt.mpr hle
  cases later <;> simp only [advanceHeader, h2, if_false]

theorem WalkAt.atHeader (b : Blk ε) (c : Nat) (rest : List (Nat × Nat)) : WalkAt b c rest b.hdr rest :=
  Or.inr ⟨rfl, rfl⟩

theorem WalkAt.advance {b : Blk ε} {c : Nat} {rest : List (Nat × Nat)} {cur : Nat × Nat}
    {later : List (Nat × Nat)} (h : WalkAt b c rest cur later) (pos : Nat) (hpos : c < pos)
    (hle : pos ≤ b.size) : advanceHeader cur later pos = some (b.hdr, rest) := by
  rcases h with ⟨hc, pre, rfl, hpre⟩ | ⟨rfl, rfl⟩
  · exact advanceHeader_skip cur pre b.hdr rest pos c hc hpre hpos hle
  · exact advanceHeader_stay _ _ _ hle

theorem verifyWalk_block (b : Blk ε) (c : Nat) (rest : List (Nat × Nat)) (ks more : List (Kernel ε × Nat))
    (hk : ∀ kp ∈ ks, c < kp.2 ∧ kp.2 ≤ b.size) (kv : KV ε) (cur : Nat × Nat) (later : List (Nat × Nat))
    (hw : WalkAt b c rest cur later) :
    ∃ cur' later', WalkAt b c rest cur' later' ∧
      verifyWalk kv cur later (ks ++ more) =
        match applyKernels kv b.height ks with
        | ⟨kv', .error err⟩ => ⟨kv', .error err⟩
        | ⟨kv', .ok _⟩ => verifyWalk kv' cur' later' more := by
  induction ks generalizing kv cur later with
  | nil => exact ⟨cur, later, hw, rfl⟩
  | cons kp ks ih =>
    obtain ⟨k, pos⟩ := kp
    have hk' : ∀ kp ∈ ks, c < kp.2 ∧ kp.2 ≤ b.size := fun kp hm => hk kp (List.mem_cons_of_mem _ hm)
    cases hn : k.nrd with
    | none =>
      obtain ⟨cur', later', hw', heq⟩ := ih hk' kv cur later hw
      refine ⟨cur', later', hw', ?_⟩
      simp only [List.cons_append, verifyWalk, hn, applyKernels, applyKernelRules]
      exact heq
    | some rel =>
      have hp := hk (k, pos) (by simp)
      have hadv := hw.advance pos hp.1 hp.2
      simp only [List.cons_append, verifyWalk, hn, hadv, applyKernels]
      have hh : b.hdr.1 = b.height := rfl
      rw [hh]
      generalize applyKernelRules kv k ⟨pos, b.height⟩ = o
      obtain ⟨kv1, r1⟩ := o
      cases r1 with
      | error err => exact ⟨cur, later, hw, rfl⟩
      | ok u => exact ih hk' kv1 b.hdr rest (.atHeader b c rest)

theorem WalkAt.next {b b' : Blk ε} {c : Nat} {rest : List (Nat × Nat)} {cur : Nat × Nat}
    {later : List (Nat × Nat)} (h : WalkAt b c (b'.hdr :: rest) cur later) (hc : c ≤ b.size) :
    WalkAt b' b.size rest cur later := by
  rcases h with ⟨hc', pre, rfl, hpre⟩ | ⟨rfl, rfl⟩
  · refine Or.inl ⟨Nat.le_trans hc' hc, pre ++ [b.hdr], by simp, ?_⟩
    intro h hh
    rcases List.mem_append.mp hh with hh | hh
    · exact Nat.le_trans (hpre h hh) hc
    · cases List.mem_singleton.mp hh
      exact Nat.le_refl _
  · exact Or.inl ⟨Nat.le_refl _, [], rfl, fun _ hh => by cases hh⟩

def WalkInv (c : Nat) (cur : Nat × Nat) (later : List (Nat × Nat)) : List (Blk ε) → Prop
  | [] => True
  | b :: bs => WalkAt b c (bs.map Blk.hdr) cur later

theorem WalkInv.start (c : Nat) (b : Blk ε) (bs : List (Blk ε)) :
    WalkInv c b.hdr (bs.map Blk.hdr) (b :: bs) := .atHeader b c _

theorem verifyWalk_blocks (bs : List (Blk ε)) (c : Nat) (hp : PathOK c bs) (kv : KV ε) (cur : Nat × Nat)
    (later : List (Nat × Nat)) (hw : WalkInv c cur later bs) :
    verifyWalk kv cur later (bs.flatMap (·.kernels)) = applyBlocks kv bs := by
  induction bs generalizing kv cur later c with
  | nil => rfl
  | cons b bs ih =>
    obtain ⟨p1, p2, p3, p4⟩ := hp
    obtain ⟨cur', later', hw', heq⟩ :=
      verifyWalk_block b c (bs.map Blk.hdr) b.kernels (bs.flatMap (·.kernels)) p2 kv cur later hw
    simp only [List.flatMap_cons, heq, applyBlocks, applyBlock]
    generalize applyKernels kv b.height b.kernels = o
    obtain ⟨kv1, r1⟩ := o
    cases r1 with
    | error err => rfl
    | ok u =>
      refine ih b.size p4 kv1 cur' later' ?_
      cases bs with
      | nil => trivial
      | cons b' bs' => exact hw'.next p3

end GV.Nrd
