import GrinVerif.Model.CrashMulti
import GrinVerif.Lemmas.CrashSteps
import GrinVerif.Lemmas.CrashRecover
import GrinVerif.Lemmas.CrashExt
/-! A header-first block acceptance and a head reset (`Model/CrashMulti.lean`): the start state, and the durable state
once all their file steps have run. -/
namespace GV.Crash

theorem hdrFirst_hdrOk {tbl : List BlkInfo} (O : List BlkInfo) {H : List BlkInfo}
    (hH : pathOf tbl (tbl.length + 1) (tipOf H) [] = some H) : HdrOk tbl (hdrFirst O H) :=
  .of_files H rfl rfl hH (List.prefix_refl _)

theorem hdrFirst_agrees (O H : List BlkInfo) : AgreesOld O (hdrFirst O H) :=
  (consistent_agrees O).of_view rfl

theorem crashAfter_body_done (t : Target) (d : Durable) (k : Nat) (hk : 10 ≤ k) :
    crashAfter t d bodySteps k =
      { d with
        dbHead := if t.movesHead = true then t.tip else d.dbHead,
        outHash := leavesOf t.newPath, outData := leavesOf t.newPath, leaf := unspentOf t.newPath,
        kerHash := t.newPath.map (·.id), kerData := t.newPath.map (·.id) } := by
  rw [crashAfter_ge t d bodySteps k hk]
  obtain ⟨np, fl, m1, m2⟩ := t
  cases d; cases m2 <;> rfl

theorem crashAfter_resetFiles_done (t : Target) (d : Durable) :
    crashAfter t d resetFileSteps 13 =
      { d with
        hdrHash := t.newPath.map (·.id), hdrData := t.newPath.map (·.id),
        outHash := leavesOf t.newPath, outData := leavesOf t.newPath, leaf := unspentOf t.newPath,
        kerHash := t.newPath.map (·.id), kerData := t.newPath.map (·.id) } := by
  cases d; rfl

theorem take_ids_left (T R : List BlkInfo) :
    List.take T.length ((T ++ R).map (·.id)) = T.map (·.id) := by
  rw [List.map_append, ← List.length_map (f := fun (x : BlkInfo) => x.id)]; exact List.take_left

/-- the header files at the four crash points between the truncation of the header hash file (step 10) and the
commit: the hash file holds the target's headers, the data file from step 12 on -/
theorem reset_hdrFiles (T R : List BlkInfo) (k : Nat) (h1 : 10 ≤ k) (h2 : k ≤ 13) :
    (crashAfter (resetTarget T) (consistent (T ++ R)) resetFileSteps k).hdrHash = T.map (·.id) ∧
    (crashAfter (resetTarget T) (consistent (T ++ R)) resetFileSteps k).hdrData =
      if 12 ≤ k then T.map (·.id) else (T ++ R).map (·.id) := by
  rw [crashAfter_hdrHash, crashAfter_hdrData]
  obtain rfl | rfl | rfl | rfl : k = 10 ∨ k = 11 ∨ k = 12 ∨ k = 13 := by omega
  all_goals exact ⟨by first | rfl | exact take_ids_left T R, by first | rfl | exact take_ids_left T R⟩

end GV.Crash
