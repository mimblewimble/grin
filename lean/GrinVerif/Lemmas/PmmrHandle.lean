import GrinVerif.Model.PmmrHandle
import GrinVerif.Spec.Mmr
/-! Helper lemmas for the handle state machine of `Model/PmmrHandle.lean`:

* a handle whose `size` lies inside its backend reads exactly what the view functions of
  `Model/Pmmr.lean` (`vRoot`, `vPeaks`, `vProof`, `validate` on the first `size` hashes) read;
* a handle positioned at the end of its backend pushes exactly as `Pmmr.push` does;
* `pushAll` over an appended list;
* the vocabulary of the `handle_*` theorems: `Rep` (the handle is the MMR of an element list), `absStep` /
  `absRun` (what a history does to the list), `Legal` (the histories a handle is meant for). -/
namespace GV.Pmmr

variable {α H : Type}

namespace Handle

theorem getFromFile_eq_take (h : Handle α H) :
    h.getFromFile = fun p => (h.be.hashes.take h.size)[p]? := by
  funext p
  simp only [getFromFile, VecBackend.getFromFile, List.getElem?_take]
  by_cases hp : p ≥ h.size
  · simp [hp, Nat.not_lt.mpr hp]
  · simp [hp, Nat.lt_of_not_ge hp]

theorem take_length (h : Handle α H) (hle : h.size ≤ h.be.hashes.length) :
    (h.be.hashes.take h.size).length = h.size := by
  rw [List.length_take]; omega

/-- the handle's view as a backend of `Model/Pmmr.lean` -/
def toV (h : Handle α H) : VBackend H := ⟨h.be.hashes, h.be.removed⟩

theorem peaks_eq_view (h : Handle α H) (hle : h.size ≤ h.be.hashes.length) :
    h.peaks = vPeaks h.toV h.size := by
  simp only [peaks, vPeaks, vFile, toV, peakHashes, take_length h hle, getFromFile_eq_take]

theorem root_eq_view (hf : HashFn α H) (h : Handle α H) (hle : h.size ≤ h.be.hashes.length) :
    h.root hf = vRoot hf h.toV h.size := by
  have hp := peaks_eq_view h hle
  simp only [vPeaks, vFile, toV] at hp
  simp only [root, vRoot, vFile, toV, Pmmr.root, take_length h hle, hp]
  rfl

theorem getHash_eq_view (h : Handle α H) (pos : Nat) :
    h.getHash pos = vGetHash h.toV h.size pos := by
  simp only [getHash, vGetHash, toV, VecBackend.getHash, VecBackend.getFromFile]
  by_cases hp : pos ≥ h.size
  · simp [hp]
  · by_cases hl : isLeaf pos = true <;> simp [hp, hl]

theorem bagTheRhs_eq (hf : HashFn α H) (h : Handle α H) (hle : h.size ≤ h.be.hashes.length)
    (peakPos : Nat) :
    h.bagTheRhs hf peakPos = Pmmr.bagTheRhs hf (h.be.hashes.take h.size) peakPos := by
  simp only [bagTheRhs, Pmmr.bagTheRhs, take_length h hle, getFromFile_eq_take]

theorem peakPath_eq (hf : HashFn α H) (h : Handle α H) (hle : h.size ≤ h.be.hashes.length)
    (peakPos : Nat) :
    h.peakPath hf peakPos = Pmmr.peakPath hf (h.be.hashes.take h.size) peakPos := by
  simp only [peakPath, Pmmr.peakPath, bagTheRhs_eq hf h hle, take_length h hle,
    getFromFile_eq_take]
  rfl

theorem getHash_some {h : Handle α H} {pos : Nat} {x : H} (hg : h.getHash pos = some x) :
    (h.be.hashes.take h.size)[pos]? = some x := by
  unfold getHash at hg
  split at hg
  · cases hg
  · rw [List.getElem?_take, if_pos (Nat.lt_of_not_le ‹_›)]
    split at hg
    · unfold VecBackend.getHash at hg
      split at hg
      · cases hg
      · exact hg
    · exact hg

theorem merkleProof_eq_view (hf : HashFn α H) (h : Handle α H)
    (hle : h.size ≤ h.be.hashes.length) (pos : Nat) :
    h.merkleProof hf pos = vProof hf h.toV h.size pos := by
  unfold merkleProof vProof
  by_cases hl : isLeaf pos = true
  · simp only [hl, Bool.not_true, Bool.false_eq_true, if_false]
    rw [← getHash_eq_view]
    cases hg : h.getHash pos with
    | none => rfl
    | some x =>
      simp only [Pmmr.merkleProof, vFile, toV, hl, Bool.not_true, Bool.false_eq_true, if_false,
        getHash_some hg, take_length h hle, peakPath_eq hf h hle, getFromFile_eq_take]
      rfl
  · have hl' : isLeaf pos = false := by simpa using hl
    simp [hl']

theorem validate_eq (hf : HashFn α H) [DecidableEq H] (h : Handle α H)
    (hle : h.size ≤ h.be.hashes.length) :
    h.validate hf = Pmmr.validate hf (h.be.hashes.take h.size) := by
  unfold validate Pmmr.validate
  rw [take_length h hle]
  apply List.all_congr rfl
  intro n
  by_cases hh : height n > 0
  · have hl : isLeaf n = false := by
      simp only [isLeaf]; apply beq_false_of_ne; omega
    have hg : h.getHash n = h.getFromFile n := by
      simp only [getHash, getFromFile, hl, Bool.false_eq_true, if_false]
    simp only [hh, if_true, hg, getFromFile_eq_take]
    rfl
  · simp [hh]

theorem push_at_end (hf : HashFn α H) (h : Handle α H) (hsz : h.size = h.be.hashes.length) (e : α) :
    (∀ hs', Pmmr.push hf h.be.hashes e = some hs' →
        h.push hf e = .ok ⟨{ h.be with data := h.be.data.map (· ++ [e]), hashes := hs' }, hs'.length⟩)
    ∧ (Pmmr.push hf h.be.hashes e = none →
        h.push hf e = .badSize ∨ h.push hf e = .missingSibling) := by
  unfold push Pmmr.push
  rw [← hsz]
  by_cases hb : (peakMapHeight h.size).2 ≠ 0
  · simp [hb]
  · simp only [hb, if_false]
    cases hl : pushLoop hf h.be.hashes (peakMapHeight h.size).1 65 0 h.size (hf.leaf h.size e)
        [hf.leaf h.size e] with
    | none => simp
    | some new =>
      refine ⟨?_, by simp⟩
      intro hs' hs
      injection hs with hs
      subst hs
      simp [VecBackend.append, hsz]

end Handle

end GV.Pmmr

namespace GV.Pmmr.Handle

variable {α H : Type}

/-- `Rep hf h xs`: the handle (backend and size) is the MMR of the element list `xs` - the hash
vector is the defining construction's, position by position, the data vector is `xs`, nothing is
pruned, and the size is that of `xs.length` leaves. -/
structure Rep (hf : HashFn α H) (h : Handle α H) (xs : List α) : Prop where
  hashes : h.be.hashes = Spec.Mmr.hashes hf xs
  data : h.be.data = some xs
  removed : h.be.removed = []
  size : h.size = mmr xs.length

theorem Rep.unique {hf : HashFn α H} {h h' : Handle α H} {xs : List α}
    (r : Rep hf h xs) (r' : Rep hf h' xs) : h = h' := by
  obtain ⟨⟨d, hs, rm⟩, sz⟩ := h
  obtain ⟨⟨d', hs', rm'⟩, sz'⟩ := h'
  obtain ⟨a1, a2, a3, a4⟩ := r
  obtain ⟨b1, b2, b3, b4⟩ := r'
  simp only at a1 a2 a3 a4 b1 b2 b3 b4
  subst a1 a2 a3 a4 b1 b2 b3 b4
  rfl

/-- the element list after one operation: `push` appends, `rewind(position)` keeps the leaves below
the least leaf position at or above `position` -/
def absStep (xs : List α) : Op α → List α
  | .push e => xs ++ [e]
  | .rewind p => xs.take (nLeaves (roundUpToLeafPos p))

def absRun (xs : List α) (ops : List (Op α)) : List α := ops.foldl absStep xs

/-- the histories a handle is meant for: a rewind targets a position at or below the current size
(anything else makes `PMMR::rewind` claim a size its backend does not have), and the number of
leaves stays below the `2^65` the model's push loop is fuelled for (the code's `u64` is smaller) -/
def Legal : List α → List (Op α) → Prop
  | _, [] => True
  | xs, .push e :: ops => xs.length < 2^65 ∧ Legal (xs ++ [e]) ops
  | xs, .rewind p :: ops => p ≤ mmr xs.length ∧ Legal (absStep xs (.rewind p)) ops

theorem vProof_no_removed (hf : HashFn α H) (hs : List H) (pos : Nat) :
    vProof hf ⟨hs, []⟩ hs.length pos = Pmmr.merkleProof hf hs pos := by
  unfold vProof Pmmr.merkleProof
  by_cases hl : isLeaf pos = true
  · simp only [hl, Bool.not_true, Bool.false_eq_true, if_false, vGetHash, vFile, List.take_length]
    by_cases hp : pos ≥ hs.length
    · simp [hp]
    · cases hs[pos]? <;> simp [hp]
  · have hl' : isLeaf pos = false := by simpa using hl
    simp [hl']

end GV.Pmmr.Handle
