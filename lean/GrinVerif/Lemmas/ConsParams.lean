import GrinVerif.Model.Cons
/-! The thread-local parameter store of `global.rs` (`Model/Cons.lean`, `PStore`): a getter answers
`local ?? global ?? default` and at most caches that answer in its own cell, so every operation built
from getters returns a store that is the same to every later look-up (`PStore.Same`); an operation
that does not set a parameter leaves its look-up unchanged, along any history (`resolve_run`). -/
namespace GV.Cons
open GV GV.Gen

theorem resolve_setLocal_ne (s : PStore) (p q : Param) (v : Nat) (h : p ≠ q) :
    (s.setLocal q v).resolve p = s.resolve p := by
  simp [PStore.resolve, PStore.setLocal, h]

theorem resolve_setGlobal_ne (s : PStore) (p q : Param) (v : Nat) (h : p ≠ q) :
    (s.setGlobal q v).resolve p = s.resolve p := by
  simp [PStore.resolve, PStore.setGlobal, h]

theorem resolve_cache (s : PStore) (p q : Param) (v : Nat) (hv : s.resolve q = some v) :
    (s.setLocal q v).resolve p = s.resolve p := by
  by_cases h : p = q
  · subst h
    simp [PStore.resolve, PStore.setLocal] at *
    cases hl : s.loc p <;> simp [hl] at hv ⊢
    · cases hg : s.glob p <;> simp [hg] at hv ⊢ <;> exact hv.symm
    · exact hv.symm
  · exact resolve_setLocal_ne s p q v h

theorem get_eq (s : PStore) (q : Param) :
    s.get q = (s.resolve q, s) ∨ ∃ v, s.resolve q = some v ∧ s.get q = (some v, s.setLocal q v) := by
  cases q <;>
    simp only [PStore.get, getChainType, getAcceptFeeBase, getFutureTimeLimit, isNrdEnabled,
      PStore.resolve, pDefault] <;>
    cases s.loc _ <;> cases s.glob _ <;> simp

theorem get_fst (s : PStore) (p : Param) : (s.get p).1 = s.resolve p := by
  rcases get_eq s p with h | ⟨v, hv, h⟩ <;> rw [h]
  exact hv.symm

/-- `s'` answers every look-up as `s` does and holds the same process-wide values -/
def PStore.Same (s s' : PStore) : Prop := (∀ p, s'.resolve p = s.resolve p) ∧ s'.glob = s.glob

theorem PStore.Same.trans {a b c : PStore} (h1 : a.Same b) (h2 : b.Same c) : a.Same c :=
  ⟨fun p => (h2.1 p).trans (h1.1 p), h2.2.trans h1.2⟩

theorem get_same (s : PStore) (q : Param) : s.Same (s.get q).2 := by
  rcases get_eq s q with h | ⟨v, hv, h⟩ <;> rw [h]
  · exact ⟨fun _ => rfl, rfl⟩
  · exact ⟨fun p => resolve_cache s p q v hv, rfl⟩

theorem get_get_fst (s : PStore) (p q : Param) : ((s.get q).2.get p).1 = (s.get p).1 := by
  rw [get_fst, get_fst, (get_same s q).1]

theorem derived_snd (f : ChainType → Nat) (s : PStore) : (derived f s).2 = (s.get .chainType).2 := by
  unfold derived PStore.get; split <;> simp [*]

theorem acceptFee_snd (w : Nat) (s : PStore) : (acceptFee w s).2 = (s.get .feeBase).2 := by
  unfold acceptFee PStore.get; split <;> simp [*]

theorem derived_same (f : ChainType → Nat) (s : PStore) : s.Same (derived f s).2 := by
  rw [derived_snd]; exact get_same s .chainType

theorem acceptFee_same (w : Nat) (s : PStore) : s.Same (acceptFee w s).2 := by
  rw [acceptFee_snd]; exact get_same s .feeBase

theorem untrustedHeaderRead_spec (s : PStore) (now : Int) (ok : Bool) (h : Hdr) :
    (untrustedHeaderRead s now ok h).1 =
      (match s.resolve .chainType, s.resolve .ftl with
      | some c, some f => some (untrustedHeaderCheck (ctOfNat c) now f ok h)
      | _, _ => none) ∧ s.Same (untrustedHeaderRead s now ok h).2 := by
  have h1 := get_fst s .chainType
  have h2 := get_same s .chainType
  simp only [PStore.get] at h1 h2
  unfold untrustedHeaderRead
  split
  · rename_i s1 hc
    simp only [hc] at h1 h2
    exact ⟨by rw [← h1], h2⟩
  · rename_i c s1 hc
    simp only [hc] at h1 h2
    have h3 := get_fst s1 .ftl
    have h4 := get_same s1 .ftl
    simp only [PStore.get] at h3 h4
    rw [← h1, ← h2.1 .ftl]
    split <;> rename_i hf <;> simp only [hf] at h3 h4 <;> exact ⟨by rw [← h3], h2.trans h4⟩

theorem resolve_step (s : PStore) (op : POp) (p : Param) (hw : op.writes ≠ some p) :
    (s.step op).resolve p = s.resolve p := by
  cases op with
  | get q => exact (get_same s q).1 p
  | setLocal q v =>
    exact resolve_setLocal_ne s p q v (by intro h; subst h; simp [POp.writes] at hw)
  | setGlobal q v =>
    exact resolve_setGlobal_ne s p q v (by intro h; subst h; simp [POp.writes] at hw)
  | initGlobal q v =>
    simp only [PStore.step, PStore.initGlobal]
    split
    · rfl
    · exact resolve_setGlobal_ne s p q v (by intro h; subst h; simp [POp.writes] at hw)
  | maxBlockWeight => exact (derived_same _ s).1 p
  | coinbaseMaturity => exact (derived_same _ s).1 p
  | acceptFee w => exact (acceptFee_same w s).1 p
  | readHeader now ok h => exact (untrustedHeaderRead_spec s now ok h).2.1 p

theorem resolve_run (ops : List POp) (s : PStore) (p : Param)
    (hw : ∀ op ∈ ops, op.writes ≠ some p) : (s.run ops).resolve p = s.resolve p := by
  induction ops generalizing s with
  | nil => rfl
  | cons a t ih =>
    simp only [PStore.run, List.foldl_cons]
    have := ih (s.step a) (fun op ho => hw op (List.mem_cons_of_mem _ ho))
    simp only [PStore.run] at this
    rw [this, resolve_step s a p (hw a (List.mem_cons_self ..))]

end GV.Cons
