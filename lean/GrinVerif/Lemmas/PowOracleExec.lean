import GrinVerif.Lemmas.PowOracle
/-! The executable oracle (`degreeOkG`, `closureG` of `Model/PowSpec.lean`) computes `Deg2` and
`Conn` of `Lemmas/PowOracle.lean`; its data layout (`slotArray`) is `slotNode`, `ascendingb` is
`Ascending`. -/
namespace GV.Pow

section
variable {C : UCfg} (E : MtEquiv C) {key uv : Nat → Nat} {L : Nat}
  (sv cont : Nat → Nat → Bool)
  (hsv : ∀ a b, a < 2 * L → b < 2 * L → (sv a b = true ↔ sameVG C key uv a b))
  (hcont : ∀ a b, a < 2 * L → b < 2 * L → sv a b = true →
      (cont a b = true ↔ (C.deadSame = true → uv b ≠ uv a)))
include E hsv hcont

theorem partner_iff_filter (a b : Nat) (ha : a < 2 * L) :
    Partner C key uv (2 * L) a b ↔
      ((List.range (2 * L)).filter (fun x => x != a && sv a x) = [b] ∧ cont a b = true) := by
  rw [filter_range_singleton]
  constructor
  · rintro ⟨⟨h1, h2, h3⟩, h4, h5, h6⟩
    have hs : sv a b = true := (hsv a b ha h1).mpr ⟨h3.symm, by rw [E.symm]; exact h4⟩
    refine ⟨⟨h1, ?_, ?_⟩, (hcont a b ha h1 hs).mpr h6⟩
    · simp only [Bool.and_eq_true, bne_iff_ne, ne_eq]
      exact ⟨h2, hs⟩
    · intro x hx hp
      simp only [Bool.and_eq_true, bne_iff_ne, ne_eq] at hp
      obtain ⟨k1, k2⟩ := (hsv a x ha hx).mp hp.2
      exact h5 x ⟨hx, hp.1, k1.symm⟩ (by rw [E.symm]; exact k2)
  · rintro ⟨⟨h1, h2, h3⟩, h4⟩
    simp only [Bool.and_eq_true, bne_iff_ne, ne_eq] at h2
    obtain ⟨k1, k2⟩ := (hsv a b ha h1).mp h2.2
    refine ⟨⟨h1, h2.1, k1.symm⟩, by rw [E.symm]; exact k2, ?_, (hcont a b ha h1 h2.2).mp h4⟩
    intro s ⟨s1, s2, s3⟩ sm
    apply h3 s s1
    simp only [Bool.and_eq_true, bne_iff_ne, ne_eq]
    exact ⟨s2, (hsv a s ha s1).mpr ⟨s3.symm, by rw [E.symm]; exact sm⟩⟩

theorem degreeOkG_iff : degreeOkG (2 * L) sv cont = true ↔ Deg2 C key uv L := by
  unfold degreeOkG Deg2
  rw [List.all_eq_true]
  constructor
  · intro h i hi
    have := h i (List.mem_range.mpr hi)
    split at this
    · next b hb => exact ⟨b, (partner_iff_filter E sv cont hsv hcont i b hi).mpr ⟨hb, this⟩⟩
    · cases this
  · intro h a ha
    have ha' := List.mem_range.mp ha
    obtain ⟨j, hj⟩ := h a ha'
    obtain ⟨h1, h2⟩ := (partner_iff_filter E sv cont hsv hcont a j ha').mp hj
    rw [h1]
    exact h2

end

section
variable {C : UCfg} {key uv : Nat → Nat} {L : Nat} (hL : 0 < L)
  (sv : Nat → Nat → Bool)
  (hsv : ∀ a b, a < 2 * L → b < 2 * L → (sv a b = true ↔ sameVG C key uv a b))
include hL hsv

omit hL in
theorem adjEdge_iff (e e' : Nat) (he : e < L) (he' : e' < L) :
    adjEdge sv e e' = true ↔ ∃ x y, x / 2 = e ∧ y / 2 = e' ∧ sameVG C key uv x y := by
  unfold adjEdge
  simp only [Bool.or_eq_true]
  constructor
  · have d0 : ∀ n, (2 * n) / 2 = n := fun n => Nat.mul_div_cancel_left n (by decide)
    have d1 : ∀ n, (2 * n + 1) / 2 = n := fun n => two_mul_add_div n 1 (by decide)
    have a0 : 2 * e < 2 * L := by omega
    have a1 : 2 * e + 1 < 2 * L := by omega
    have b0 : 2 * e' < 2 * L := by omega
    have b1 : 2 * e' + 1 < 2 * L := by omega
    rintro (((h | h) | h) | h)
    · exact ⟨2*e, 2*e', d0 e, d0 e', (hsv _ _ a0 b0).mp h⟩
    · exact ⟨2*e, 2*e'+1, d0 e, d1 e', (hsv _ _ a0 b1).mp h⟩
    · exact ⟨2*e+1, 2*e', d1 e, d0 e', (hsv _ _ a1 b0).mp h⟩
    · exact ⟨2*e+1, 2*e'+1, d1 e, d1 e', (hsv _ _ a1 b1).mp h⟩
  · rintro ⟨x, y, rfl, rfl, hv⟩
    have hs := (hsv x y (by omega) (by omega)).mpr hv
    rw [← Nat.div_add_mod x 2, ← Nat.div_add_mod y 2] at hs
    rcases Nat.mod_two_eq_zero_or_one x with px | px <;>
    rcases Nat.mod_two_eq_zero_or_one y with py | py <;>
    rw [px, py] at hs
    · exact .inl (.inl (.inl hs))
    · exact .inl (.inl (.inr hs))
    · exact .inl (.inr hs)
    · exact .inr hs

/-- a stage of the closure: distinct edges, edge 0 among them -/
structure CInv (L : Nat) (comp : List Nat) : Prop where
  nodup : comp.Nodup
  lt : ∀ e ∈ comp, e < L
  zero : 0 ∈ comp

omit hL hsv in
theorem mem_grow (comp : List Nat) (e : Nat) :
    e ∈ grow sv L comp ↔ e < L ∧ (e ∈ comp ∨ ∃ e' ∈ comp, adjEdge sv e e' = true) := by
  unfold grow
  simp [List.mem_filter, List.mem_range]

omit hL hsv in
theorem grow_inv (comp : List Nat) (h : CInv L comp) :
    CInv L (grow sv L comp) ∧ (∀ e ∈ comp, e ∈ grow sv L comp) := by
  have hsub : ∀ e ∈ comp, e ∈ grow sv L comp := fun e he =>
    (mem_grow sv comp e).mpr ⟨h.lt e he, .inl he⟩
  refine ⟨⟨?_, ?_, hsub 0 h.zero⟩, hsub⟩
  · unfold grow; exact List.Nodup.sublist List.filter_sublist List.nodup_range
  · intro e he; exact ((mem_grow sv comp e).mp he).1

omit hL hsv in
theorem cinv_length_le (comp : List Nat) (h : CInv L comp) : comp.length ≤ L := by
  have := nodup_subset_length_le h.nodup (m := List.range L) (fun x hx => List.mem_range.mpr (h.lt x hx))
  simpa using this

omit hL in
/-- whatever the closure returns lies in every adjacency-closed set that contains its start -/
theorem closureG_sub (X : Nat → Prop)
    (hcl : ∀ e e', e < L → e' < L → X e' →
      (∃ x y, x / 2 = e ∧ y / 2 = e' ∧ sameVG C key uv x y) → X e) :
    ∀ r comp, CInv L comp → (∀ e ∈ comp, X e) →
      CInv L (closureG sv L r comp) ∧ ∀ e ∈ closureG sv L r comp, X e := by
  intro r
  induction r with
  | zero => intro comp hi hx; exact ⟨hi, hx⟩
  | succ r ih =>
    intro comp hi hx
    unfold closureG
    simp only
    split
    · exact ⟨hi, hx⟩
    · apply ih _ (grow_inv sv comp hi).1
      intro e he
      obtain ⟨heL, h⟩ := (mem_grow sv comp e).mp he
      rcases h with h | ⟨e', he', ha⟩
      · exact hx e h
      · exact hcl e e' heL (hi.lt e' he') (hx e' he')
          ((adjEdge_iff sv hsv e e' heL (hi.lt e' he')).mp ha)

omit hL hsv in
/-- with enough rounds the closure stops at a set closed under adjacency -/
theorem closureG_closed : ∀ r comp, CInv L comp → L < r + comp.length →
    CInv L (closureG sv L r comp) ∧
    ∀ e, e < L → (∃ e' ∈ closureG sv L r comp, adjEdge sv e e' = true) → e ∈ closureG sv L r comp := by
  intro r
  induction r with
  | zero =>
    intro comp hi hlt
    have := cinv_length_le comp hi
    omega
  | succ r ih =>
    intro comp hi hlt
    have hg := grow_inv sv comp hi
    unfold closureG
    simp only
    split
    · next heq =>
      refine ⟨hi, fun e he ⟨e', he', ha⟩ => ?_⟩
      have hin : e ∈ grow sv L comp := (mem_grow sv comp e).mpr ⟨he, .inr ⟨e', he', ha⟩⟩
      exact mem_of_nodup_sub_length hi.nodup hg.2 (by omega) e hin
    · next hne =>
      have hle := nodup_subset_length_le hi.nodup hg.2
      exact ih _ hg.1 (by omega)

theorem closureG_iff : (closureG sv L L [0]).length = L ↔ Conn C key uv L := by
  have h0 : CInv L [0] := ⟨by simp, by intro e he; simp at he; omega, by simp⟩
  constructor
  · intro hlen X hX0 hcl e he
    obtain ⟨hi, hx⟩ := closureG_sub sv hsv X hcl L [0] h0 (by intro e he; simp at he; rw [he]; exact hX0)
    apply hx
    have := mem_of_nodup_sub_length hi.nodup (m := List.range L)
      (fun x hx => List.mem_range.mpr (hi.lt x hx)) (by simp [hlen])
    exact this e (List.mem_range.mpr he)
  · intro hconn
    obtain ⟨hi, hc⟩ := closureG_closed sv L [0] h0 (by simp)
    have hall := hconn (fun e => e ∈ closureG sv L L [0]) hi.zero (by
      intro e e' he he' hx hadj
      exact hc e he ⟨e', hx, (adjEdge_iff sv hsv e e' he he').mpr hadj⟩)
    have h1 := cinv_length_le _ hi
    have h2 := nodup_subset_length_le (List.nodup_range (n := L)) (m := closureG sv L L [0])
      (fun e he => hall e (List.mem_range.mp he))
    simp at h2
    omega

end

theorem slotArray_toList_aux (es : List (Nat × Nat)) : ∀ acc : Array Nat,
    (es.foldl (fun a e => (a.push e.1).push e.2) acc).toList
      = acc.toList ++ es.flatMap (fun e => [e.1, e.2]) := by
  induction es with
  | nil => intro acc; simp
  | cons e es ih => intro acc; simp [List.foldl_cons, ih]

theorem slotArray_toList (es : List (Nat × Nat)) :
    (slotArray es).toList = es.flatMap (fun e => [e.1, e.2]) := by
  unfold slotArray; rw [slotArray_toList_aux]; simp

theorem flat_getD (es : List (Nat × Nat)) : ∀ s,
    (es.flatMap (fun e => [e.1, e.2])).getD s 0 = slotNode es s := by
  induction es with
  | nil => intro s; simp [slotNode]
  | cons e es ih =>
    intro s
    match s with
    | 0 => simp [slotNode]
    | 1 => simp [slotNode]
    | s + 2 =>
      have h1 : (s + 2) % 2 = s % 2 := by omega
      have h2 : (s + 2) / 2 = s / 2 + 1 := by omega
      simp only [List.flatMap_cons, List.cons_append, List.nil_append, List.getD_cons_succ]
      rw [ih s]
      unfold slotNode
      rw [h1, h2, List.getD_cons_succ]

theorem slotArray_get (es : List (Nat × Nat)) (s : Nat) : (slotArray es)[s]! = slotNode es s := by
  rw [← flat_getD, ← slotArray_toList]
  simp only [getElem!_def, List.getD_eq_getElem?_getD, Array.getElem?_toList]
  cases (slotArray es)[s]? <;> rfl

theorem slotArray_size (es : List (Nat × Nat)) : (slotArray es).size = 2 * es.length := by
  rw [← Array.length_toList, slotArray_toList]
  induction es with
  | nil => rfl
  | cons e es ih => simp [List.flatMap_cons, ih]; omega

/-- the Boolean core of `oracleCycle` (degree count + connectivity closure) decides "one simple
cycle through all edges" of the generic undirected engine -/
theorem oracle_core {C : UCfg} (E : MtEquiv C) {key uv : Nat → Nat} {L : Nat} (hL : 0 < L)
    (sv cont : Nat → Nat → Bool)
    (hsv : ∀ a b, a < 2 * L → b < 2 * L → (sv a b = true ↔ sameVG C key uv a b))
    (hcont : ∀ a b, a < 2 * L → b < 2 * L → sv a b = true →
      (cont a b = true ↔ (C.deadSame = true → uv b ≠ uv a))) :
    (degreeOkG (2 * L) sv cont = true ∧ (closureG sv L L [0]).length = L) ↔
      ∃ c, IsCycle L (adjG C key uv) (sameVG C key uv) c := by
  rw [degreeOkG_iff E sv cont hsv hcont, closureG_iff hL sv hsv]
  constructor
  · rintro ⟨hd, hc⟩
    obtain ⟨c, hcyc⟩ := cycle_of_deg2_conn E hL hd hc
    exact ⟨c, hcyc.mono (fun _ _ => adjG_of_partner) fun _ _ h => h⟩
  · rintro ⟨c, hc⟩
    exact deg2_conn_of_cycle E hc hL

theorem ascendingb_iff (l : List Nat) : ascendingb l = true ↔ Ascending l := by
  unfold Ascending
  induction l with
  | nil => simp [ascendingb]
  | cons a l ih =>
    cases l with
    | nil => simp [ascendingb]
    | cons b r =>
      rw [ascendingb, Bool.and_eq_true, ih, decide_eq_true_iff, List.pairwise_cons (a := a)]
      constructor
      · rintro ⟨hab, hp⟩
        refine ⟨?_, hp⟩
        intro x hx
        rcases List.mem_cons.mp hx with rfl | hx
        · exact hab
        · exact Nat.lt_trans hab ((List.pairwise_cons.mp hp).1 x hx)
      · rintro ⟨h1, hp⟩
        exact ⟨h1 b (by simp), hp⟩

end GV.Pow
