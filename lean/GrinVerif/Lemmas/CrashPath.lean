import GrinVerif.Model.Crash
import GrinVerif.Lemmas.UtilList
/-! Lemmas about `pathOf` (the canonical path of a stored block read off the block table):
accumulator form, fuel monotonicity, determinism, every non-empty prefix of a path is the path of
its own tip, ids on a path are pairwise distinct, length bound. -/
namespace GV.Crash

/-- id of the last block of a path (0 for the empty path), as used by `consistent`, `Target.tip`
and `fallback` -/
def tipOf (p : List BlkInfo) : Nat := (p.getLast?.map (·.id)).getD 0

@[simp] theorem tipOf_snoc (p : List BlkInfo) (b : BlkInfo) : tipOf (p ++ [b]) = b.id := by
  simp [tipOf]

theorem tipOf_eq (p : List BlkInfo) : (p.getLast?.map (·.id)).getD 0 = tipOf p := rfl

theorem Target.tip_eq (t : Target) : t.tip = tipOf t.newPath := rfl

theorem pathOf_acc (tbl : List BlkInfo) : ∀ (fuel id : Nat) (acc : List BlkInfo),
    pathOf tbl fuel id acc = (pathOf tbl fuel id []).map (· ++ acc) := by
  intro fuel
  induction fuel with
  | zero => intro id acc; simp [pathOf]
  | succ f ih =>
    intro id acc
    simp only [pathOf]
    split
    · simp
    · rename_i b _
      split
      · simp
      · rename_i p _
        rw [ih p (b :: acc), ih p [b], Option.map_map]
        congr 1
        funext x
        simp

theorem pathOf_succ (tbl : List BlkInfo) (fuel id : Nat) :
    pathOf tbl (fuel + 1) id [] =
      match tbl.find? (·.id == id) with
      | none => none
      | some b => match b.parent with
        | none => some [b]
        | some p => (pathOf tbl fuel p []).map (· ++ [b]) := by
  simp only [pathOf]
  cases hf : tbl.find? (·.id == id) with
  | none => rfl
  | some b =>
    simp only
    cases hp : b.parent with
    | none => rfl
    | some p => simp only; rw [pathOf_acc]

theorem pathOf_succ_some (tbl : List BlkInfo) (fuel id : Nat) (r : List BlkInfo) :
    pathOf tbl (fuel + 1) id [] = some r ↔
      ∃ b, tbl.find? (·.id == id) = some b ∧
        ((b.parent = none ∧ [b] = r) ∨ ∃ p q, b.parent = some p ∧ pathOf tbl fuel p [] = some q ∧ q ++ [b] = r) := by
  rw [pathOf_succ]
  cases tbl.find? (·.id == id) with
  | none => simp
  | some b =>
    simp only []
    constructor
    · intro h
      refine ⟨b, rfl, ?_⟩
      cases hp : b.parent with
      | none => rw [hp] at h; exact Or.inl ⟨rfl, Option.some.inj h⟩
      | some p =>
        rw [hp] at h
        obtain ⟨q, hq, e⟩ := Option.map_eq_some_iff.1 h
        exact Or.inr ⟨p, q, rfl, hq, e⟩
    · rintro ⟨b', hb, h⟩
      cases hb
      rcases h with ⟨hp, e⟩ | ⟨p, q, hp, hq, e⟩
      · rw [hp, e]
      · rw [hp]
        simp only []
        rw [hq, ← e]
        rfl

theorem pathOf_mono_succ (tbl : List BlkInfo) : ∀ (fuel id : Nat) (r : List BlkInfo),
    pathOf tbl fuel id [] = some r → pathOf tbl (fuel + 1) id [] = some r := by
  intro fuel
  induction fuel with
  | zero => intro id r h; simp [pathOf] at h
  | succ f ih =>
    intro id r h
    obtain ⟨b, hb, hr⟩ := (pathOf_succ_some tbl f id r).1 h
    refine (pathOf_succ_some tbl (f + 1) id r).2 ⟨b, hb, hr.imp_right ?_⟩
    rintro ⟨p, q, hp, hq, e⟩
    exact ⟨p, q, hp, ih p q hq, e⟩

theorem pathOf_mono (tbl : List BlkInfo) (fuel fuel' id : Nat) (r : List BlkInfo)
    (hle : fuel ≤ fuel') (h : pathOf tbl fuel id [] = some r) : pathOf tbl fuel' id [] = some r := by
  induction hle with
  | refl => exact h
  | step _ ih => exact pathOf_mono_succ tbl _ id r ih

theorem pathOf_det (tbl : List BlkInfo) (f f' id : Nat) (r r' : List BlkInfo)
    (h : pathOf tbl f id [] = some r) (h' : pathOf tbl f' id [] = some r') : r = r' := by
  have a := pathOf_mono tbl f (max f f') id r (Nat.le_max_left _ _) h
  have b := pathOf_mono tbl f' (max f f') id r' (Nat.le_max_right _ _) h'
  rw [a] at b
  exact Option.some.inj b

/-- shape of a found path: it ends in the block carrying the id, and what precedes it is the path
of that block's parent -/
theorem pathOf_snoc (tbl : List BlkInfo) (fuel id : Nat) (r : List BlkInfo)
    (h : pathOf tbl fuel id [] = some r) :
    ∃ pre b, r = pre ++ [b] ∧ b.id = id ∧
      ((b.parent = none ∧ pre = []) ∨ (∃ p, b.parent = some p ∧ pathOf tbl fuel p [] = some pre)) := by
  cases fuel with
  | zero => simp [pathOf] at h
  | succ f =>
    obtain ⟨b, hb, hr⟩ := (pathOf_succ_some tbl f id r).1 h
    have hid : b.id = id := by simpa using List.find?_some hb
    rcases hr with ⟨hp, rfl⟩ | ⟨p, q, hp, hq, rfl⟩
    · exact ⟨[], b, rfl, hid, Or.inl ⟨hp, rfl⟩⟩
    · exact ⟨q, b, rfl, hid, Or.inr ⟨p, hp, pathOf_mono_succ tbl f p q hq⟩⟩

theorem pathOf_ne_nil (tbl : List BlkInfo) (fuel id : Nat) (r : List BlkInfo)
    (h : pathOf tbl fuel id [] = some r) : r ≠ [] := by
  obtain ⟨pre, b, rfl, _, _⟩ := pathOf_snoc tbl fuel id r h
  simp

theorem pathOf_tip (tbl : List BlkInfo) (fuel id : Nat) (r : List BlkInfo)
    (h : pathOf tbl fuel id [] = some r) : tipOf r = id := by
  obtain ⟨pre, b, rfl, hid, _⟩ := pathOf_snoc tbl fuel id r h
  simp [hid]

/-- every non-empty prefix of a found path is the path of its own tip (same fuel) -/
theorem pathOf_prefix (tbl : List BlkInfo) (fuel : Nat) (Q : List BlkInfo) (hQ : Q ≠ []) :
    ∀ (R : List BlkInfo) (tip : Nat), pathOf tbl fuel tip [] = some (Q ++ R) →
      pathOf tbl fuel (tipOf Q) [] = some Q := by
  intro R
  induction R using list_snoc_induction with
  | nil =>
    intro tip h
    rw [List.append_nil] at h
    rw [pathOf_tip tbl fuel tip Q h]; exact h
  | snoc R x ih =>
    intro tip h
    obtain ⟨pre, b, e, _, hh⟩ := pathOf_snoc tbl fuel tip _ h
    rw [← List.append_assoc] at e
    have e1 : Q ++ R = pre := (List.append_inj' e rfl).1
    rcases hh with ⟨_, hpre⟩ | ⟨p, _, hp⟩
    · rw [hpre] at e1
      have : Q = [] := (List.append_eq_nil_iff.mp e1).1
      exact absurd this hQ
    · rw [← e1] at hp
      exact ih p hp

/-- the ids on a found path are pairwise distinct (a repeated id would be a parent cycle) -/
theorem pathOf_ids_nodup (tbl : List BlkInfo) (fuel tip : Nat) (P : List BlkInfo)
    (h : pathOf tbl fuel tip [] = some P) : (P.map (·.id)).Nodup := by
  rw [List.nodup_iff_pairwise_ne, List.pairwise_map, List.pairwise_iff_getElem]
  intro i j hi hj hij heq
  -- the two prefixes ending in P[i] and P[j] are both the path of the same id
  have split : ∀ k (hk : k < P.length), P = (P.take k ++ [P[k]]) ++ P.drop (k + 1) := by
    intro k hk
    rw [List.append_assoc, List.singleton_append, List.getElem_cons_drop, List.take_append_drop]
  have pi := pathOf_prefix tbl fuel (P.take i ++ [P[i]]) (List.concat_ne_nil _ _) (P.drop (i + 1)) tip (by rw [← split i hi]; exact h)
  have pj := pathOf_prefix tbl fuel (P.take j ++ [P[j]]) (List.concat_ne_nil _ _) (P.drop (j + 1)) tip (by rw [← split j hj]; exact h)
  rw [tipOf_snoc] at pi pj
  rw [heq] at pi
  have := pathOf_det tbl fuel fuel _ _ _ pi pj
  have hl := congrArg List.length this
  simp only [List.length_append, List.length_take, List.length_singleton] at hl
  omega

theorem pathOf_ids_disjoint {tbl : List BlkInfo} {fuel tip : Nat} {P Q : List BlkInfo}
    (h : pathOf tbl fuel tip [] = some (P ++ Q)) : ∀ x ∈ P, ∀ y ∈ Q, x.id ≠ y.id := by
  intro x hx y hy
  have := pathOf_ids_nodup tbl fuel tip _ h
  rw [List.map_append, List.nodup_append] at this
  exact this.2.2 x.id (List.mem_map.2 ⟨x, hx, rfl⟩) y.id (List.mem_map.2 ⟨y, hy, rfl⟩)

theorem pathOf_length_le (tbl : List BlkInfo) : ∀ (fuel id : Nat) (r : List BlkInfo),
    pathOf tbl fuel id [] = some r → r.length ≤ fuel := by
  intro fuel
  induction fuel with
  | zero => intro id r h; simp [pathOf] at h
  | succ f ih =>
    intro id r h
    obtain ⟨b, _, ⟨_, rfl⟩ | ⟨p, q, _, hq, rfl⟩⟩ := (pathOf_succ_some tbl f id r).1 h
    · simp
    · have := ih p q hq
      simp; omega

theorem pathOf_dropLast (tbl : List BlkInfo) (fuel h : Nat) (path : List BlkInfo)
    (hp : pathOf tbl fuel h [] = some path) (hl : ¬ path.length ≤ 1) :
    pathOf tbl fuel (tipOf path.dropLast) [] = some path.dropLast := by
  obtain ⟨pre, b, rfl, _, _⟩ := pathOf_snoc tbl fuel h path hp
  rw [List.dropLast_concat]
  have hne : pre ≠ [] := by
    intro e; subst e; simp at hl
  exact pathOf_prefix tbl fuel pre hne [b] h hp

end GV.Crash
