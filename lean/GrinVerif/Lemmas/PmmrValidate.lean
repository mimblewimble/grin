import GrinVerif.Model.Pmmr
/-! `PMMR::validate` (core/src/core/pmmr/pmmr.rs) characterised: it accepts a hash file exactly
when every inner node holds the hash of its two children with its own position (the *node law*);
and a hash file that satisfies the node law is determined by the hashes at its leaf positions. -/
namespace GV.Pmmr
variable {α H : Type}

def NodeLawAt (hf : HashFn α H) (hashes : List H) (n : Nat) : Prop :=
  0 < height n → ∀ p l r, hashes[n]? = some p → hashes[n - 2 ^ height n]? = some l →
    hashes[n - 1]? = some r → hf.node n l r = p

theorem validate_iff [DecidableEq H] (hf : HashFn α H) (hashes : List H) :
    validate hf hashes = true ↔ ∀ n, n < hashes.length → NodeLawAt hf hashes n := by
  unfold validate
  rw [List.all_eq_true]
  constructor
  · intro h n hn hpos p l r hp hl hr
    have := h n (List.mem_range.mpr hn)
    simp only at this
    rw [if_pos hpos, hp, hl, hr] at this
    simpa using this
  · intro h n hn
    have hn' := List.mem_range.mp hn
    simp only
    split
    · rename_i hpos
      split
      · rename_i p l r hp hl hr
        have := h n hn' hpos p l r hp hl hr
        simp [this]
      · rfl
    · rfl

theorem height_zero : height 0 = 0 := by decide

theorem children_lt {n : Nat} (hpos : 0 < height n) : n - 2 ^ height n < n ∧ n - 1 < n := by
  have hn0 : 0 < n := Nat.pos_of_ne_zero (fun h0 => by rw [h0, height_zero] at hpos; cases hpos)
  exact ⟨Nat.sub_lt hn0 (Nat.two_pow_pos _), Nat.sub_lt hn0 Nat.one_pos⟩

theorem NodeLawAt.entries {hf : HashFn α H} {hs : List H} {n : Nat} (law : NodeLawAt hf hs n)
    (hpos : 0 < height n) (hn : n < hs.length) :
    ∃ l r, hs[n - 2 ^ height n]? = some l ∧ hs[n - 1]? = some r ∧ hs[n]? = some (hf.node n l r) := by
  have el := List.getElem?_eq_getElem (Nat.lt_trans (children_lt hpos).1 hn)
  have er := List.getElem?_eq_getElem (Nat.lt_trans (children_lt hpos).2 hn)
  have e0 := List.getElem?_eq_getElem hn
  exact ⟨_, _, el, er, by rw [e0, law hpos _ _ _ e0 el er]⟩

theorem entries_of_set [DecidableEq H] {hf : HashFn α H} {hs : List H} (hv : validate hf hs = true)
    {c : Nat} {h' : H} (hc : validate hf (hs.set c h') = true) {n : Nat} (hn : n < hs.length)
    (hpos : 0 < height n) :
    ∃ l r l' r', hs[n - 2 ^ height n]? = some l ∧ hs[n - 1]? = some r ∧ hs[n]? = some (hf.node n l r) ∧
      (hs.set c h')[n - 2 ^ height n]? = some l' ∧ (hs.set c h')[n - 1]? = some r' ∧
      (hs.set c h')[n]? = some (hf.node n l' r') := by
  rw [validate_iff] at hv hc
  have hn' : n < (hs.set c h').length := by rw [List.length_set]; exact hn
  obtain ⟨l, r, e⟩ := (hv n hn).entries hpos hn
  obtain ⟨l', r', e'⟩ := (hc n hn').entries hpos hn'
  exact ⟨l, r, l', r', e.1, e.2.1, e.2.2, e'⟩

/-- **two hash files of the same length that both pass `validate` and agree at every leaf position
are equal**: the inner nodes are determined (induction on the position; the children of an inner
node sit at smaller positions) -/
theorem validate_unique [DecidableEq H] (hf : HashFn α H) (a b : List H) (hlen : a.length = b.length)
    (ha : validate hf a = true) (hb : validate hf b = true)
    (hleaf : ∀ n, height n = 0 → a[n]? = b[n]?) : a = b := by
  rw [validate_iff] at ha hb
  apply List.ext_getElem?
  intro n
  induction n using Nat.strongRecOn with
  | ind n ih =>
    by_cases hh : height n = 0
    · exact hleaf n hh
    · have hpos : 0 < height n := Nat.pos_of_ne_zero hh
      by_cases hn : n < a.length
      · obtain ⟨l, r, el, er, e0⟩ := (ha n hn).entries hpos hn
        obtain ⟨l', r', el', er', e0'⟩ := (hb n (hlen ▸ hn)).entries hpos (hlen ▸ hn)
        rw [ih _ (children_lt hpos).1, el'] at el
        rw [ih _ (children_lt hpos).2, er'] at er
        rw [e0, e0', Option.some.inj el, Option.some.inj er]
      · rw [List.getElem?_eq_none (Nat.le_of_not_lt hn),
          List.getElem?_eq_none (hlen ▸ Nat.le_of_not_lt hn)]

end GV.Pmmr
