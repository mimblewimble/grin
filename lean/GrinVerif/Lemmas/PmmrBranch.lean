import GrinVerif.Lemmas.PmmrShape
import GrinVerif.Lemmas.PmmrPeaks
/-! The way from a leaf to its peak in `(n, h)` coordinates (C07): `family_branch` along the
ancestors `up i j` of leaf `i` (`family` itself: `Lemmas/PmmrShape`), and where those ancestors sit
relative to the peak list of a valid size.  Core Lean only. -/
namespace GV.Pmmr.Co
open GV GV.Pmmr

/-- nothing above a peak ends inside the MMR -/
theorem forest_up_ge {N : Nat} {c : Nat × Nat} (hc : c ∈ forest N) {j : Nat} (hj : c.2 < j) :
    N ≤ up c.1 j := by
  obtain ⟨h1, _, h3⟩ := forest_mem hc
  have hv : c.2 ≤ trailingOnes c.1 := Nat.le_of_eq h1
  have hb : bitSet c.1 c.2 = false := by rw [bitSet_coord hv]; simp; omega
  have hs := up_succ c.1 c.2
  rw [hb, up_of_valid hv] at hs
  simp only [Bool.false_eq_true, if_false] at hs
  have := up_mono c.1 (show c.2 + 1 ≤ j from hj)
  omega

theorem peak_parent_ge {N p : Nat} (hp : p ∈ peaks (mmr N)) : mmr N ≤ (family p).1 := by
  rw [peaks_forest] at hp
  obtain ⟨c, hc, rfl⟩ := List.mem_map.1 hp
  have hpar := family_up c.1 c.2
  rw [up_of_valid (forest_valid c hc).1] at hpar
  rw [hpar]
  exact Nat.le_trans (mmr_le_mmr (forest_up_ge hc (Nat.lt_succ_self _))) (Nat.le_add_right _ _)

/-- the peak above leaf `i` in the MMR with `N` leaves: `(up i k, k)` splits the forest -/
structure PeakCtx (N i k : Nat) (L R : List (Nat × Nat)) : Prop where
  split : forest N = L ++ (up i k, k) :: R

namespace PeakCtx
variable {N i k : Nat} {L R : List (Nat × Nat)}

theorem mem (c : PeakCtx N i k L R) : (up i k, k) ∈ forest N := by
  rw [c.split]; simp

theorem peak_facts (c : PeakCtx N i k L R) :
    k = trailingOnes (up i k) ∧ up i k < N ∧ N ≤ up i k + 2^k := by
  have := forest_mem c.mem; simpa using this

theorem i_lt (c : PeakCtx N i k L R) : i < N := by
  have := c.peak_facts; have := le_up i k; omega

theorem up_lt (c : PeakCtx N i k L R) {j : Nat} (hj : j ≤ k) : up i j < N := by
  have := c.peak_facts; have := up_mono i hj; omega

theorem cpos_lt (c : PeakCtx N i k L R) {j : Nat} (hj : j ≤ k) : cpos (up i j, j) < mmr N :=
  (coord_lt_iff (up_valid i j)).2 (c.up_lt hj)

theorem parent_ge (c : PeakCtx N i k L R) : mmr N ≤ cpos (up i (k+1), k+1) := by
  have := forest_up_ge c.mem (Nat.lt_succ_self k)
  rw [up_up i (Nat.le_succ k)] at this
  exact Nat.le_trans (mmr_le_mmr this) (Nat.le_add_right _ _)

theorem sib_lt (c : PeakCtx N i k L R) {j : Nat} (hj : j < k) : (sibCo i j).1 < N := by
  have := sibCo_fst_le i j; have := c.up_lt (show j+1 ≤ k from hj); omega

end PeakCtx

theorem exists_peakCtx {N i : Nat} (hi : i < N) : ∃ k L R, PeakCtx N i k L R := by
  obtain ⟨k, hk⟩ := forest_cover hi
  obtain ⟨L, R, h⟩ := List.append_of_mem hk
  exact ⟨k, L, R, ⟨h⟩⟩

/-- the (parent, sibling) positions of the ancestors of leaf `i` at the levels `j … j+d-1` -/
def branchCo (i j d : Nat) : List (Nat × Nat) :=
  (List.range' j d).map fun j => (cpos (up i (j+1), j+1), cpos (sibCo i j))

/-- (parent position, sibling position) of the level-`j` ancestor of `n` -/
def ancestorStep (n j : Nat) : Nat × Nat := (cpos (up n (j+1), j+1), cpos (sibCo n j))

/-- the pair one round of `family_branch` computes is `family` of the current position, where the
start position's peak map `pm` agrees in bit `h` with that of the current position -/
theorem familyBranchLoop_succ (pm size fuel cur h : Nat) (hh : (peakMapHeight cur).2 = h)
    (hb : bitSet pm h = bitSet (peakMapHeight cur).1 h) :
    familyBranchLoop pm size (fuel+1) cur h
      = if cur + 1 < size then
          (if (family cur).1 ≥ size then []
            else family cur :: familyBranchLoop pm size fuel (family cur).1 (h+1))
        else [] := by
  subst hh
  rw [familyBranchLoop, family, hb]
  cases bitSet (peakMapHeight cur).1 (peakMapHeight cur).2 <;> rfl

theorem familyBranchLoop_step (n size fuel j : Nat) :
    familyBranchLoop n size (fuel+1) (cpos (up n j, j)) j
      = if (ancestorStep n j).1 < size then
          ancestorStep n j :: familyBranchLoop n size fuel (ancestorStep n j).1 (j+1)
        else [] := by
  have hlt : cpos (up n j, j) < (ancestorStep n j).1 := cpos_up_lt_succ n j
  have hco := peakMapHeight_co _ _ (up_valid n j)
  rw [familyBranchLoop_succ n size fuel _ j (by rw [cpos, hco]) (by rw [cpos, hco, bitSet_up]),
    family_up, ← ancestorStep]
  by_cases hin : (ancestorStep n j).1 < size
  · rw [if_pos (by omega), if_neg (by omega), if_pos hin]
  · rw [if_neg hin]
    split
    · rw [if_pos (by omega)]
    · rfl

theorem familyBranchLoop_coord {N i k : Nat} {L R : List (Nat × Nat)} (c : PeakCtx N i k L R) :
    ∀ d j fuel, j + d = k → mmr N + 1 ≤ fuel + cpos (up i j, j) →
      familyBranchLoop i (mmr N) fuel (cpos (up i j, j)) j = branchCo i j d := by
  intro d
  induction d with
  | zero =>
    intro j fuel hj _
    obtain rfl : j = k := hj
    cases fuel with
    | zero => rfl
    | succ fuel =>
      rw [familyBranchLoop_step, if_neg (show ¬ (ancestorStep i j).1 < mmr N from Nat.not_lt.2 c.parent_ge)]
      rfl
  | succ d ih =>
    intro j fuel hj hfu
    have hjk : j + 1 ≤ k := hj ▸ Nat.add_le_add_left (Nat.succ_pos d) j
    have hlt := c.cpos_lt (Nat.le_of_succ_le hjk)
    have hlt' := c.cpos_lt hjk
    have hstep := cpos_up_lt_succ i j
    cases fuel with
    | zero => omega
    | succ fuel =>
      rw [familyBranchLoop_step, if_pos (show (ancestorStep i j).1 < mmr N from hlt')]
      show ancestorStep i j :: familyBranchLoop i (mmr N) fuel (cpos (up i (j+1), j+1)) (j+1) = _
      rw [ih (j+1) fuel ((Nat.add_right_comm j 1 d).trans hj) (by omega)]
      rfl

theorem familyBranch_leaf {N i k : Nat} {L R : List (Nat × Nat)} (c : PeakCtx N i k L R) :
    familyBranch (mmr i) (mmr N) = branchCo i 0 k := by
  have h := familyBranchLoop_coord c k 0 (mmr N + 1) (by omega) (by omega)
  simp only [cpos, up_zero, Nat.add_zero] at h
  simp only [familyBranch, peakMapHeight_leaf]
  exact h

theorem familyBranchLoop_general (n size : Nat) : ∀ fuel j,
    familyBranchLoop n size fuel (cpos (up n j, j)) j
      = ((List.range' j fuel).map (ancestorStep n)).takeWhile (fun x => x.1 < size) := by
  intro fuel
  induction fuel with
  | zero => intro j; rfl
  | succ fuel ih =>
    intro j
    rw [familyBranchLoop_step, List.range'_succ, List.map_cons, List.takeWhile_cons]
    by_cases hin : (ancestorStep n j).1 < size
    · rw [if_pos hin, if_pos (decide_eq_true hin)]
      exact congrArg _ (ih (j+1))
    · rw [if_neg hin, if_neg (by simpa using hin)]

theorem findIdx_append_cons (A B : List Nat) (x : Nat) (hx : x ∉ A) :
    findIdx (A ++ x :: B) x = some A.length := by
  unfold findIdx
  have : List.idxOf x (A ++ x :: B) = A.length := by
    simp [List.idxOf_append, hx]
  rw [this]; simp

theorem findIdx_none (l : List Nat) (x : Nat) (hx : x ∉ l) : findIdx l x = none := by
  unfold findIdx
  have : ¬ List.idxOf x l < l.length := by
    intro h; exact hx (List.idxOf_lt_length_iff.1 h)
  rw [if_neg this]

theorem peaks_lt_size {N p : Nat} (hp : p ∈ peaks (mmr N)) : p < mmr N := by
  rw [peaks_forest] at hp
  obtain ⟨c, hc, rfl⟩ := List.mem_map.1 hp
  have := forest_mem hc
  exact (coord_lt_iff (by omega)).2 this.2.1

namespace PeakCtx
variable {N i k : Nat} {L R : List (Nat × Nat)}

theorem peaks_eq (c : PeakCtx N i k L R) :
    peaks (mmr N) = L.map cpos ++ cpos (up i k, k) :: R.map cpos := by
  rw [peaks_forest, c.split]; simp

theorem pairwise (c : PeakCtx N i k L R) :
    (L.map cpos ++ cpos (up i k, k) :: R.map cpos).Pairwise (· < ·) := by
  have := forest_pos_pairwise N
  rwa [c.split, List.map_append, List.map_cons] at this

theorem left_lt (c : PeakCtx N i k L R) : ∀ p ∈ L.map cpos, p < cpos (up i k, k) := by
  intro p hp
  have := (List.pairwise_append.1 c.pairwise).2.2 p hp (cpos (up i k, k)) (List.mem_cons_self ..)
  exact this

theorem right_gt (c : PeakCtx N i k L R) : ∀ p ∈ R.map cpos, cpos (up i k, k) < p := by
  intro p hp
  have h := (List.pairwise_append.1 c.pairwise).2.1
  exact (List.pairwise_cons.1 h).1 p hp

theorem findIdx_peak (c : PeakCtx N i k L R) :
    findIdx (peaks (mmr N)) (cpos (up i k, k)) = some L.length := by
  rw [c.peaks_eq]
  have : cpos (up i k, k) ∉ L.map cpos := fun h => by have := c.left_lt _ h; omega
  have := findIdx_append_cons (L.map cpos) (R.map cpos) _ this
  simpa using this

theorem peaks_length (c : PeakCtx N i k L R) : (peaks (mmr N)).length = L.length + 1 + R.length := by
  rw [c.peaks_eq]; simp; omega

theorem findIdx_below (c : PeakCtx N i k L R) {j : Nat} (hj : j < k) :
    findIdx (peaks (mmr N)) (cpos (up i j, j)) = none := by
  apply findIdx_none
  intro hmem
  rw [peaks_forest] at hmem
  obtain ⟨d, hd, he⟩ := List.mem_map.1 hmem
  have hm := forest_mem hd
  have hinj := coord_inj (show d.2 ≤ trailingOnes d.1 by omega) (up_valid i j) he
  obtain ⟨h1, h2⟩ := hinj
  -- `(up i j, j)` would be a peak: left child whose parent is outside; but its parent is inside
  have hclear : bitSet i j = false := by
    cases hb : bitSet i j with
    | false => rfl
    | true => have := (bitSet_up_iff i j).2 hb; rw [← h1, ← h2] at this; omega
  have hu := (step_left hclear).up_succ
  have := c.up_lt (show j + 1 ≤ k from hj)
  rw [h1, h2] at hm
  omega

theorem filter_lt (c : PeakCtx N i k L R) :
    (peaks (mmr N)).filter (· < cpos (up i k, k)) = L.map cpos :=
  (peaks_filter_split c.split _ (fun d hd => c.left_lt _ (List.mem_map_of_mem hd)) fun d hd => by
    rcases List.mem_cons.1 hd with rfl | hd
    · exact Nat.le_refl _
    · exact Nat.le_of_lt (c.right_gt _ (List.mem_map_of_mem hd))).1

theorem filter_gt (c : PeakCtx N i k L R) :
    (peaks (mmr N)).filter (· > cpos (up i k, k)) = R.map cpos :=
  (peaks_filter_split (A := L ++ [(up i k, k)]) (B := R) (by rw [c.split, List.append_assoc]; rfl)
    (cpos (up i k, k) + 1)
    (fun d hd => by
      rcases List.mem_append.1 hd with hd | hd
      · exact Nat.lt_succ_of_lt (c.left_lt _ (List.mem_map_of_mem hd))
      · rw [List.mem_singleton.1 hd]; exact Nat.lt_succ_self _)
    fun d hd => c.right_gt _ (List.mem_map_of_mem hd)).2

theorem left_valid (c : PeakCtx N i k L R) : ∀ d ∈ L, d.2 ≤ trailingOnes d.1 ∧ d.1 < N :=
  fun d hd => forest_valid d (by rw [c.split]; simp [hd])

theorem right_valid (c : PeakCtx N i k L R) : ∀ d ∈ R, d.2 ≤ trailingOnes d.1 ∧ d.1 < N :=
  fun d hd => forest_valid d (by rw [c.split]; simp [hd])

theorem height_le (c : PeakCtx N i k L R) {h : Nat} (hh : h ≤ trailingOnes i) : h ≤ k := by
  apply Classical.byContradiction
  intro hlt
  have hk : k ≤ trailingOnes i := by omega
  have hup := up_of_valid hk
  have := c.peak_facts.1
  rw [hup] at this
  omega

end PeakCtx

end GV.Pmmr.Co
