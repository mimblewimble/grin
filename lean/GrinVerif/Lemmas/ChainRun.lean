import GrinVerif.Lemmas.ChainStep
/-! Delivery histories over the chain model: events, runs, and the generic lifting of a node
invariant from one `processBlockSingle` / `processHeader` step through `checkOrphans`,
`deliverBlock`, `deliverHeader` and any finite run. -/
namespace GV.Chain

/-- one delivery to the node: a full block (`Chain::process_block`) or a header
(`Chain::process_block_header`) -/
inductive Event
  | block (b : Blk)
  | header (b : Blk)
deriving Repr, Inhabited

def Event.blk : Event → Blk
  | .block b => b
  | .header b => b

def step (p : Params) (n : Node) : Event → Node
  | .block b => (deliverBlock p n b).1
  | .header b => (deliverHeader p n b).1

def run (p : Params) (n : Node) (es : List Event) : Node := es.foldl (step p) n

theorem run_nil (p : Params) (n : Node) : run p n [] = n := rfl
theorem run_cons (p : Params) (n : Node) (e : Event) (es : List Event) :
    run p n (e :: es) = run p (step p n e) es := rfl
theorem run_append (p : Params) (n : Node) (es fs : List Event) :
    run p n (es ++ fs) = run p (run p n es) fs := by
  simp [run, List.foldl_append]

def Registered (n : Node) (es : List Event) : Prop := ∀ e ∈ es, n.blk e.blk.id = some e.blk

theorem Registered.nil (n : Node) : Registered n [] := fun _ h => nomatch h

theorem Registered.congr {n m : Node} {es : List Event} (h : m.blks = n.blks) (hr : Registered n es) :
    Registered m es := fun e he => (blk_congr h _).trans (hr e he)

theorem Registered.cons {n : Node} {e : Event} {es : List Event} (h : n.blk e.blk.id = some e.blk)
    (hs : Registered n es) : Registered n (e :: es) :=
  fun x hx => (List.mem_cons.mp hx).elim (fun hx => hx ▸ h) (hs x)

/-- the body of the loop over the orphans of one height in `checkOrphans` (the lambda of
`Model/Chain.lean`, named; `checkOrphans_succ` is the link) -/
def orphanStep (p : Params) (acc : Node × Option Nat) (o : Nat) : Node × Option Nat :=
  match acc.1.blk o with
  | none => acc
  | some b =>
    let (n', r) := processBlockSingle p acc.1 b
    match r with
    | .err _ => (n', acc.2)
    | _ => (n', some b.h)

theorem orphanStep_none {p : Params} {acc : Node × Option Nat} {o : Nat}
    (h : acc.1.blk o = none) : orphanStep p acc o = acc := by
  unfold orphanStep; rw [h]

theorem orphanStep_some {p : Params} {acc : Node × Option Nat} {o : Nat} {b : Blk}
    (h : acc.1.blk o = some b) :
    orphanStep p acc o = ((processBlockSingle p acc.1 b).1,
      match (processBlockSingle p acc.1 b).2 with
      | .err _ => acc.2
      | _ => some b.h) := by
  unfold orphanStep; rw [h]
  simp only
  generalize processBlockSingle p acc.1 b = x
  obtain ⟨m, r⟩ := x
  cases r <;> rfl

theorem checkOrphans_zero (p : Params) (n : Node) (h : Nat) : checkOrphans p 0 n h = n := rfl

/-- one round of `checkOrphans`: the loop over the pooled blocks of one height -/
def orphanRound (p : Params) (n : Node) (height : Nat) : Node × Option Nat :=
  (n.orphans.filter (fun o => n.heightOf o == height)).foldl (orphanStep p)
    ({ n with orphans := n.orphans.filter (fun o => !(n.heightOf o == height)) }, none)

theorem orphanRound_empty {p : Params} {n : Node} {height : Nat}
    (h : (n.orphans.filter (fun o => n.heightOf o == height)).isEmpty) :
    orphanRound p n height = (n, none) := by
  unfold orphanRound
  rw [List.isEmpty_iff.mp h, filter_not_of_isEmpty _ _ h]
  rfl

/-- `checkOrphans` is a round, then the next height while something was accepted (the early exit on
an empty round is a round that changes nothing) -/
theorem checkOrphans_succ (p : Params) (fuel : Nat) (n : Node) (height : Nat) :
    checkOrphans p (fuel + 1) n height =
      match (orphanRound p n height).2 with
      | some hAcc => checkOrphans p fuel (orphanRound p n height).1 (hAcc + 1)
      | none => (orphanRound p n height).1 := by
  have h : checkOrphans p (fuel + 1) n height =
      if (n.orphans.filter (fun o => n.heightOf o == height)).isEmpty then n else
      match (orphanRound p n height).2 with
      | some hAcc => checkOrphans p fuel (orphanRound p n height).1 (hAcc + 1)
      | none => (orphanRound p n height).1 := by
    simp only [checkOrphans, List.partition_eq_filter_filter]
    rfl
  rw [h]
  split
  · rename_i hemp
    rw [orphanRound_empty hemp]
  · rfl

/-- what it takes for a node predicate to survive every block delivery when processing preserves it
only for blocks that satisfy a guard `G`: it must guarantee the guard for every pooled block and
survive shrinking the pool -/
structure PreservedG (p : Params) (G : Nat → Prop) (P : Node → Prop) : Prop where
  single : ∀ n b, n.blk b.id = some b → G b.id → P n → P (processBlockSingle p n b).1
  shrink : ∀ n os, (∀ o ∈ os, o ∈ n.orphans) → P n → P { n with orphans := os }
  pool : ∀ n, P n → ∀ o ∈ n.orphans, G o

theorem orphanStep_preservedG {p : Params} {G : Nat → Prop} {P : Node → Prop}
    (hP : PreservedG p G P) (acc : Node × Option Nat) (o : Nat) (hg : G o) (h : P acc.1) :
    P (orphanStep p acc o).1 := by
  unfold orphanStep
  split
  · exact h
  · rename_i b hb
    have hid := blk_id hb
    have hreg : acc.1.blk b.id = some b := by rw [hid]; exact hb
    have := hP.single acc.1 b hreg (hid ▸ hg) h
    cases hr : processBlockSingle p acc.1 b with
    | mk n' r =>
      rw [hr] at this
      cases r <;> exact this

theorem orphanFold_preservedG {p : Params} {G : Nat → Prop} {P : Node → Prop}
    (hP : PreservedG p G P) (l : List Nat) (acc : Node × Option Nat) (hg : ∀ o ∈ l, G o)
    (h : P acc.1) : P (l.foldl (orphanStep p) acc).1 := by
  induction l generalizing acc with
  | nil => exact h
  | cons o os ih =>
    exact ih _ (fun x hx => hg x (List.mem_cons_of_mem _ hx))
      (orphanStep_preservedG hP acc o (hg o (List.mem_cons_self ..)) h)

theorem checkOrphans_preservedG {p : Params} {G : Nat → Prop} {P : Node → Prop}
    (hP : PreservedG p G P) (fuel : Nat) :
    ∀ (n : Node) (height : Nat), P n → P (checkOrphans p fuel n height) := by
  induction fuel with
  | zero => intro n _ h; exact h
  | succ k ih =>
    intro n height h
    rw [checkOrphans_succ]
    have h0 : P (orphanRound p n height).1 :=
      orphanFold_preservedG hP (n.orphans.filter (fun o => n.heightOf o == height))
        ({ n with orphans := n.orphans.filter (fun o => !(n.heightOf o == height)) }, none)
        (fun o ho => hP.pool n h o (List.mem_filter.mp ho).1)
        (hP.shrink n _ (fun o ho => (List.mem_filter.mp ho).1) h)
    split
    · exact ih _ _ h0
    · exact h0

theorem deliverBlock_preservedG {p : Params} {G : Nat → Prop} {P : Node → Prop}
    (hP : PreservedG p G P) (n : Node) (b : Blk) (h1 : P (processBlockSingle p n b).1) :
    P (deliverBlock p n b).1 := by
  rcases deliverBlock_cases p n b with ⟨_, _, hd⟩ | ⟨_, hd⟩ <;> rw [hd]
  · exact h1
  · exact checkOrphans_preservedG hP _ _ _ h1

/-- what it takes for a node predicate to survive every delivery -/
structure Preserved (p : Params) (P : Node → Prop) : Prop where
  single : ∀ n b, n.blk b.id = some b → P n → P (processBlockSingle p n b).1
  orphans : ∀ n os, P n → P { n with orphans := os }
  header : ∀ n b n', n.blk b.id = some b → processHeader p n b = .ok n' → P n → P n'

theorem Preserved.and {p : Params} {P Q : Node → Prop} (hP : Preserved p P) (hQ : Preserved p Q) :
    Preserved p (fun n => P n ∧ Q n) where
  single := fun n b hb h => ⟨hP.single n b hb h.1, hQ.single n b hb h.2⟩
  orphans := fun n os h => ⟨hP.orphans n os h.1, hQ.orphans n os h.2⟩
  header := fun n b n' hb hn h => ⟨hP.header n b n' hb hn h.1, hQ.header n b n' hb hn h.2⟩

theorem Preserved.toG {p : Params} {P : Node → Prop} (hP : Preserved p P) :
    PreservedG p (fun _ => True) P where
  single := fun n b hb _ h => hP.single n b hb h
  shrink := fun n os _ h => hP.orphans n os h
  pool := fun _ _ _ _ => trivial

theorem checkOrphans_preserved {p : Params} {P : Node → Prop} (hP : Preserved p P)
    (fuel : Nat) (n : Node) (height : Nat) : P n → P (checkOrphans p fuel n height) :=
  checkOrphans_preservedG hP.toG fuel n height

theorem deliverBlock_preserved {p : Params} {P : Node → Prop} (hP : Preserved p P)
    (n : Node) (b : Blk) (hb : n.blk b.id = some b) (h : P n) : P (deliverBlock p n b).1 :=
  deliverBlock_preservedG hP.toG n b (hP.single n b hb h)

theorem deliverHeader_preserved {p : Params} {P : Node → Prop} (hP : Preserved p P)
    (n : Node) (b : Blk) (hb : n.blk b.id = some b) (h : P n) : P (deliverHeader p n b).1 := by
  rcases deliverHeader_cases p n b with ⟨_, _, hd⟩ | ⟨n', hn, hd⟩ <;> rw [hd]
  · exact h
  · exact hP.header n b n' hb hn h

theorem step_preserved {p : Params} {P : Node → Prop} (hP : Preserved p P)
    (n : Node) (e : Event) (hb : n.blk e.blk.id = some e.blk) (h : P n) : P (step p n e) := by
  cases e with
  | block b => exact deliverBlock_preserved hP n b hb h
  | header b => exact deliverHeader_preserved hP n b hb h

theorem preserved_defs (p : Params) (B : List Blk) (O : List OutDef) :
    Preserved p (fun m => m.blks = B ∧ m.outs = O) where
  single := by
    intro n b _ h
    have := processBlockSingle_defs p n b
    exact ⟨this.1.trans h.1, this.2.trans h.2⟩
  orphans := by intro n os h; exact h
  header := by
    intro n b n' _ hn h
    have hf := CoreEq.of_header hn
    exact ⟨hf.blks ▸ h.1, hf.outs ▸ h.2⟩

theorem deliverBlock_defs (p : Params) (n : Node) (b : Blk) :
    (deliverBlock p n b).1.blks = n.blks ∧ (deliverBlock p n b).1.outs = n.outs :=
  deliverBlock_preservedG (preserved_defs p n.blks n.outs).toG n b (processBlockSingle_defs p n b)

theorem deliverHeader_defs (p : Params) (n : Node) (b : Blk) :
    (deliverHeader p n b).1.blks = n.blks ∧ (deliverHeader p n b).1.outs = n.outs :=
  ⟨(CoreEq.of_deliverHeader p n b).blks, (CoreEq.of_deliverHeader p n b).outs⟩

theorem step_defs (p : Params) (n : Node) (e : Event) :
    (step p n e).blks = n.blks ∧ (step p n e).outs = n.outs := by
  cases e with
  | block b => exact deliverBlock_defs p n b
  | header b => exact deliverHeader_defs p n b

theorem run_defs (p : Params) (n : Node) (es : List Event) :
    (run p n es).blks = n.blks ∧ (run p n es).outs = n.outs := by
  induction es generalizing n with
  | nil => exact ⟨rfl, rfl⟩
  | cons e es ih =>
    rw [run_cons]
    have h1 := step_defs p n e
    have h2 := ih (step p n e)
    exact ⟨h2.1.trans h1.1, h2.2.trans h1.2⟩

theorem Registered.tail {n : Node} {e : Event} {es : List Event} (p : Params)
    (h : Registered n (e :: es)) : Registered (step p n e) es :=
  .congr (step_defs p n e).1 fun e' he' => h e' (List.mem_cons_of_mem _ he')

theorem deliverHeader_headers_mono (p : Params) (n : Node) (b : Blk) (h : Nat) (hm : h ∈ n.headers) :
    h ∈ (deliverHeader p n b).1.headers := by
  rcases deliverHeader_cases p n b with ⟨_, _, hd⟩ | ⟨n', hn, hd⟩ <;> rw [hd]
  · exact hm
  · exact processHeader_headers_mono hn h hm

theorem step_headers_mono (p : Params) (n : Node) (e : Event) (h : Nat) (hm : h ∈ n.headers) :
    h ∈ (step p n e).headers := by
  cases e with
  | header b => exact deliverHeader_headers_mono p n b h hm
  | block b =>
    show h ∈ (deliverBlock p n b).1.headers
    -- headers only grow: `Preserved` with the predicate "h is known"
    have hP : Preserved p (fun m => h ∈ m.headers) :=
      ⟨fun m b' _ hm' => pbs_headers_mono p m b' h hm', fun _ _ hm' => hm',
       fun _ _ _ _ hn hm' => processHeader_headers_mono hn h hm'⟩
    exact deliverBlock_preservedG hP.toG n b (pbs_headers_mono p n b h hm)

/-- every delivery meets a node in which its block is the registered definition: the definitions never
change (`step_defs`) -/
theorem run_ind {p : Params} {n : Node} {es : List Event} (hreg : Registered n es) {P : Node → Prop}
    (h0 : P n) (hs : ∀ m e, e ∈ es → m.blk e.blk.id = some e.blk → P m → P (step p m e)) :
    P (run p n es) :=
  (es.foldlRecOn (motive := fun m => m.blks = n.blks ∧ P m) (step p) ⟨rfl, h0⟩
    fun m h e he => ⟨(step_defs p m e).1.trans h.1, hs m e he ((blk_congr h.1 _).trans (hreg e he)) h.2⟩).2

theorem run_preserved {p : Params} {P : Node → Prop} (hP : Preserved p P)
    (n : Node) (es : List Event) (hreg : Registered n es) (h : P n) : P (run p n es) :=
  run_ind hreg h fun m e _ hb => step_preserved hP m e hb


end GV.Chain
