import GrinVerif.Model.Bitmap
import GrinVerif.Lemmas.PmmrSpec
import GrinVerif.Lemmas.PmmrShape
import GrinVerif.Lemmas.UtilList
/-! The bitmap accumulator as a function of its chunk vector (`ofData`, C15): the accumulator is a PMMR over
chunks (`Co.pushAll_hashes`, `Co.hashes_length`, `pushAll_take` for what `rewind_prior` relies on); the
`apply_from` loop on an ascending index list appends exactly the chunks of that list from the current chunk
up to the chunk of its last element (nothing at all on an empty list); `rewind_prior` / `pad_left` /
`append_chunk` are operations on the chunk vector. -/
namespace GV.Pmmr
open GV

variable {α H : Type}

theorem pushAll_take (hf : HashFn α H) (d : List α) (hs : List H) (k : Nat)
    (hb : d.length ≤ 2 ^ 65) (h : pushAll hf [] d = some hs) :
    pushAll hf [] (d.take k) = some (hs.take (mmr k)) := by
  obtain rfl := Option.some.inj (h.symm.trans (Co.pushAll_hashes hf d hb))
  rw [Co.pushAll_hashes hf (d.take k) (by rw [List.length_take]; omega)]
  by_cases hk : k ≤ d.length
  · rw [Co.hashes_take hf d k hk]
  · have hk' : d.length ≤ k := by omega
    rw [List.take_of_length_le hk',
      List.take_of_length_le (by rw [Co.hashes_length]; exact Co.mmr_le_mmr hk')]

end GV.Pmmr

namespace GV.Bitmap
open GV GV.Pmmr

variable {H : Type}

theorem leafPosIter_mmr : ∀ n : Nat, leafPosIter (mmr n) = (List.range n).map mmr := by
  intro n
  induction n with
  | zero => simp [leafPosIter, mmr, popcount]
  | succ n ih =>
    unfold leafPosIter at ih ⊢
    have hsplit : List.range (mmr (n + 1)) = List.range (mmr n) ++ List.range' (mmr n) (1 + trailingOnes n) := by
      rw [← range_add', mmr_succ, Nat.add_assoc]
    have hnew : (List.range' (mmr n) (1 + trailingOnes n)).filter isLeaf = [mmr n] := by
      rw [Nat.add_comm 1, List.range'_succ, List.filter_cons]
      rw [if_pos (Co.isLeaf_mmr n)]
      congr 1
      rw [List.filter_eq_nil_iff]
      intro p hp
      obtain ⟨h1, h2⟩ := List.mem_range'_1.1 hp
      have hh : p = mmr n + (p - mmr n) := by omega
      have := Co.height_co n (p - mmr n) (by omega)
      rw [← hh] at this
      simp [isLeaf, this]; omega
    rw [hsplit, List.filter_append, ih, hnew, List.range_succ, List.map_append]
    rfl

/-- append a list of chunks one after the other (proof device) -/
def appendAll (hf : HashFn Nat H) (st : Acc H) : List Nat → Option (Acc H)
  | [] => some st
  | c :: cs => match appendChunk hf st c with
    | none => none
    | some st' => appendAll hf st' cs

def setAll (ch : Nat) (l : List Nat) : Nat := l.foldl (fun ch x => chunkSet ch (x % 1024)) ch

def inChunk (c : Nat) (x : Nat) : Bool := x / 1024 == c

theorem chunkOf_eq (U : List Nat) (c : Nat) : chunkOf U c = setAll chunkNew (U.filter (inChunk c)) := rfl

theorem chunkSet_ne_zero (ch i : Nat) : chunkSet ch i ≠ 0 := by
  unfold chunkSet
  intro h
  have := (Nat.or_eq_zero_iff.1 h).2
  have hp : 0 < 2 ^ i := Nat.pow_pos (by omega)
  omega

theorem chunkAny_chunkSet (ch i : Nat) : chunkAny (chunkSet ch i) = true := by
  simp [chunkAny, chunkSet_ne_zero]

theorem filter_inChunk_cons (c x : Nat) (l : List Nat) :
    (x :: l).filter (inChunk c) = if x / 1024 = c then x :: l.filter (inChunk c) else l.filter (inChunk c) := by
  rw [List.filter_cons]
  simp only [inChunk, beq_iff_eq]

theorem chunkOf_filter (U : List Nat) (p : Nat → Bool) (c : Nat) (h : ∀ x, x / 1024 = c → p x = true) :
    chunkOf (U.filter p) c = chunkOf U c := by
  rw [chunkOf_eq, chunkOf_eq, List.filter_filter]
  congr 1
  apply List.filter_congr
  intro x _
  by_cases hx : x / 1024 = c
  · simp [inChunk, hx, h x hx]
  · simp [inChunk, hx]

theorem nChunks_eq {U : List Nat} {m : Nat} (h : U.getLast? = some m) : nChunks U = m / 1024 + 1 := by
  unfold nChunks; rw [h]

theorem nChunks_le_of (U : List Nat) (k : Nat) (h : ∀ x ∈ U, x / 1024 < k) : nChunks U ≤ k := by
  unfold nChunks
  cases hl : U.getLast? with
  | none => exact Nat.zero_le _
  | some m => exact h m (List.mem_of_getLast? hl)

theorem div_lt_nChunks {U : List Nat} (hs : U.Pairwise (· ≤ ·)) {x : Nat} (hx : x ∈ U) :
    x / 1024 < nChunks U := by
  cases hl : U.getLast? with
  | none => rw [List.getLast?_eq_none_iff] at hl; subst hl; cases hx
  | some m =>
    rw [nChunks_eq hl]
    exact Nat.lt_succ_of_le (Nat.div_le_div_right (le_getLast U m hs hl x hx))

theorem appendAll_cons (hf : HashFn Nat H) (st : Acc H) (c : Nat) (cs : List Nat) :
    appendAll hf st (c :: cs) = match appendChunk hf st c with
      | none => none
      | some st' => appendAll hf st' cs := rfl

/-- every iteration consumes an element or advances `c`, hence the fuel `xs.length + (nChunks xs - c)` -/
theorem applyFromLoop_spec (hf : HashFn Nat H) : ∀ (fuel : Nat) (xs : List Nat) (c ch : Nat) (st : Acc H),
    xs ≠ [] → xs.Pairwise (· ≤ ·) → (∀ x ∈ xs, c * 1024 ≤ x) → xs.length + (nChunks xs - c) ≤ fuel →
    applyFromLoop hf fuel xs c ch st =
      appendAll hf st (setAll ch (xs.filter (inChunk c)) ::
        (List.range' (c + 1) (nChunks xs - (c + 1))).map (chunkOf xs)) := by
  intro fuel
  induction fuel with
  | zero => intro xs c ch st hne _ _ hf0; exact absurd (List.eq_nil_of_length_eq_zero
      (Nat.eq_zero_of_le_zero (Nat.le_trans (Nat.le_add_right _ _) hf0))) hne
  | succ fuel ih =>
    intro xs c ch st hne hs hge hfu
    cases xs with
    | nil => exact absurd rfl hne
    | cons x rest =>
      have hxge : c * 1024 ≤ x := hge x List.mem_cons_self
      have hN : x / 1024 < nChunks (x :: rest) := div_lt_nChunks hs List.mem_cons_self
      have hall : ∀ y ∈ x :: rest, x ≤ y := by
        intro y hy
        rcases List.mem_cons.1 hy with h | h
        · exact Nat.le_of_eq h.symm
        · exact (List.pairwise_cons.1 hs).1 y h
      rw [applyFromLoop, if_neg (Nat.not_lt.2 hxge)]
      by_cases hx : x < (c + 1) * 1024
      · -- x belongs to the current chunk
        have hxc : x / 1024 = c := Nat.div_eq_of_lt_le hxge hx
        rw [if_pos hx, filter_inChunk_cons, if_pos hxc]
        cases rest with
        | nil =>
          have hn : nChunks [x] = c + 1 := by rw [← hxc]; rfl
          rw [hn, Nat.add_sub_cancel_left] at hfu
          cases fuel with
          | zero => exact absurd (Nat.le_of_add_le_add_right hfu) (Nat.not_succ_le_zero 0)
          | succ f =>
            rw [applyFromLoop, if_pos (chunkAny_chunkSet _ _), hn, Nat.sub_self]
            show _ = match appendChunk hf st (chunkSet ch (x % 1024)) with
              | none => none
              | some st' => some st'
            cases appendChunk hf st (chunkSet ch (x % 1024)) <;> rfl
        | cons z zs =>
          have hn : nChunks (x :: z :: zs) = nChunks (z :: zs) := rfl
          rw [ih (z :: zs) c (chunkSet ch (x % 1024)) st (List.cons_ne_nil _ _) (List.pairwise_cons.1 hs).2
            (fun y hy => hge y (List.mem_cons_of_mem _ hy))
            (Nat.le_of_succ_le_succ (by
              show (z :: zs).length + (nChunks (z :: zs) - c) + 1 ≤ fuel + 1
              rw [Nat.add_right_comm]; exact hfu)), hn]
          congr 2
          apply List.map_congr_left
          intro c' hc'
          have hc1 : c + 1 ≤ c' := (List.mem_range'_1.1 hc').1
          rw [chunkOf_eq, chunkOf_eq, filter_inChunk_cons c' x, if_neg (by rw [hxc]; exact Nat.ne_of_lt hc1)]
      · -- x lies beyond the current chunk: append it and move on
        rw [if_neg hx]
        have hxc : c + 1 ≤ x / 1024 := (Nat.le_div_iff_mul_le (by decide)).2 (Nat.not_lt.1 hx)
        have hnone : (x :: rest).filter (inChunk c) = [] := by
          rw [List.filter_eq_nil_iff]
          intro y hy
          have : x / 1024 ≤ y / 1024 := Nat.div_le_div_right (hall y hy)
          simp only [inChunk, beq_iff_eq]
          exact Nat.ne_of_gt (Nat.lt_of_lt_of_le hxc this)
        have hk : nChunks (x :: rest) - (c + 1) = (nChunks (x :: rest) - (c + 1 + 1)) + 1 :=
          (Nat.succ_pred_eq_of_pos (Nat.sub_pos_of_lt (Nat.lt_of_le_of_lt hxc hN))).symm
        have hfu' : (x :: rest).length + (nChunks (x :: rest) - (c + 1)) ≤ fuel := by
          rw [← Nat.succ_pred_eq_of_pos (Nat.sub_pos_of_lt (Nat.lt_trans (Nat.lt_of_succ_le hxc) hN))] at hfu
          exact Nat.le_of_succ_le_succ hfu
        rw [hnone, hk, List.range'_succ, List.map_cons, appendAll_cons, show setAll ch [] = ch from rfl]
        cases appendChunk hf st ch with
        | none => rfl
        | some st' =>
          show applyFromLoop hf fuel (x :: rest) (c + 1) chunkNew st' = _
          rw [chunkOf_eq]
          exact ih (x :: rest) (c + 1) chunkNew st' hne hs
            (fun y hy => Nat.le_trans (Nat.not_lt.1 hx) (hall y hy)) hfu'

theorem applyFrom_spec (hf : HashFn Nat H) (st : Acc H) (xs : List Nat) (fromIdx size : Nat)
    (hs : xs.Pairwise (· ≤ ·)) (hlt : ∀ x ∈ xs, x < size) (hge : ∀ x ∈ xs, fromIdx / 1024 * 1024 ≤ x) :
    applyFrom hf st xs fromIdx size =
      appendAll hf st ((List.range' (fromIdx / 1024) (nChunks xs - fromIdx / 1024)).map (chunkOf xs)) := by
  unfold applyFrom
  have hfil : xs.filter (fun x => decide (x < size)) = xs := by
    rw [List.filter_eq_self]; intro a ha; simpa using hlt a ha
  simp only [hfil, chunkIdx]
  cases xs with
  | nil =>
    rw [show nChunks [] = 0 from rfl, Nat.zero_sub]
    simp [applyFromLoop, chunkAny, chunkNew, appendAll]
  | cons x rest =>
    have h1 : fromIdx / 1024 ≤ x / 1024 :=
      (Nat.le_div_iff_mul_le (by decide)).2 (hge x List.mem_cons_self)
    have h2 := div_lt_nChunks hs (List.mem_cons_self (a := x) (l := rest))
    have h3 : nChunks (x :: rest) ≤ size / 1024 + 1 :=
      nChunks_le_of _ _ fun y hy => Nat.lt_succ_of_le (Nat.div_le_div_right (Nat.le_of_lt (hlt y hy)))
    have hk : nChunks (x :: rest) - fromIdx / 1024 = (nChunks (x :: rest) - (fromIdx / 1024 + 1)) + 1 :=
      (Nat.succ_pred_eq_of_pos (Nat.sub_pos_of_lt (Nat.lt_of_le_of_lt h1 h2))).symm
    have hfuel : (x :: rest).length + (nChunks (x :: rest) - fromIdx / 1024) ≤
        (x :: rest).length + size / 1024 + 2 := by
      rw [Nat.add_assoc]
      exact Nat.add_le_add_left (Nat.le_trans (Nat.sub_le _ _) (Nat.le_succ_of_le h3)) _
    rw [applyFromLoop_spec hf _ (x :: rest) (fromIdx / 1024) chunkNew st (List.cons_ne_nil _ _) hs hge hfuel,
      hk, List.range'_succ, List.map_cons, chunkOf_eq]

theorem ofData_eq_some {hf : HashFn Nat H} {d : List Nat} {st : Acc H} (h : ofData hf d = some st) :
    ∃ hs, pushAll hf [] d = some hs ∧ st = { data := d, hashes := hs } := by
  unfold ofData at h
  cases hp : pushAll hf [] d with
  | none => rw [hp] at h; cases h
  | some hs => rw [hp] at h; injection h with h; exact ⟨hs, rfl, h.symm⟩

theorem appendChunk_ofData (hf : HashFn Nat H) (d : List Nat) (st : Acc H) (c : Nat)
    (h : ofData hf d = some st) : appendChunk hf st c = ofData hf (d ++ [c]) := by
  obtain ⟨hs, hp, rfl⟩ := ofData_eq_some h
  unfold ofData
  rw [pushAll_app, hp]
  simp only [appendChunk, pushAll]
  cases push hf hs c <;> rfl

theorem ofData_append_none (hf : HashFn Nat H) (d cs : List Nat) (h : ofData hf d = none) :
    ofData hf (d ++ cs) = none := by
  unfold ofData at h ⊢
  cases hp : pushAll hf [] d with
  | none => rw [pushAll_app, hp]
  | some hs => simp [hp] at h

theorem appendAll_ofData (hf : HashFn Nat H) : ∀ (cs d : List Nat) (st : Acc H),
    ofData hf d = some st → appendAll hf st cs = ofData hf (d ++ cs) := by
  intro cs
  induction cs with
  | nil => intro d st h; simpa [appendAll] using h.symm
  | cons c cs ih =>
    intro d st h
    rw [appendAll_cons, appendChunk_ofData hf d st c h]
    have e : d ++ c :: cs = (d ++ [c]) ++ cs := by simp
    cases h' : ofData hf (d ++ [c]) with
    | none => rw [e, ofData_append_none hf _ _ h']
    | some st' => rw [e]; exact ih (d ++ [c]) st' h'

theorem padLoop_eq (hf : HashFn Nat H) : ∀ (n : Nat) (st : Acc H),
    padLoop hf n st = appendAll hf st (List.replicate n chunkNew) := by
  intro n
  induction n with
  | zero => intro st; rfl
  | succ n ih =>
    intro st
    rw [padLoop, List.replicate_succ, appendAll_cons]
    cases appendChunk hf st chunkNew with
    | none => rfl
    | some st' => exact ih st'

theorem ofData_nil (hf : HashFn Nat H) : ofData hf [] = some (new : Acc H) := rfl

theorem rewindPrior_ofData (hf : HashFn Nat H) (d : List Nat) (st : Acc H) (fromIdx : Nat)
    (hb : d.length ≤ 2 ^ 64) (h : ofData hf d = some st) :
    ofData hf (d.take (fromIdx / 1024)) = some (rewindPrior st fromIdx) := by
  obtain ⟨hs, hp, rfl⟩ := ofData_eq_some h
  have hr := Co.roundUp_co (n := fromIdx / 1024) (h := 0) (Nat.zero_le _)
  simp only [Nat.add_zero, if_true] at hr
  have hn := Co.nLeaves_mmr (fromIdx / 1024)
  simp only [rewindPrior, chunkIdx, insertionToPmmrIndex, hr, hn, ofData,
    pushAll_take hf d hs (fromIdx / 1024) (Nat.le_trans hb (by decide)) hp]

theorem padLeft_ofData (hf : HashFn Nat H) (d : List Nat) (st : Acc H) (fromIdx : Nat)
    (hb : d.length ≤ 2 ^ 64) (h : ofData hf d = some st) :
    padLeft hf st fromIdx = ofData hf (d ++ List.replicate (fromIdx / 1024 - d.length) chunkNew) := by
  have hlen : st.hashes.length = mmr d.length := by
    obtain ⟨hs, hp, rfl⟩ := ofData_eq_some h
    obtain rfl := Option.some.inj (hp.symm.trans (Co.pushAll_hashes hf d (by omega)))
    exact Co.hashes_length hf d
  unfold padLeft
  rw [hlen, Co.nLeaves_mmr, padLoop_eq, chunkIdx]
  exact appendAll_ofData hf _ d st h

end GV.Bitmap
