import GrinVerif.Lemmas.PruneListSet
/-! What `pos_to_rm` computes (C08): the positions `check_compact` removes from the
hash file are exactly the positions that the new prune list compacts away and the old one did not.  No Mathlib. -/
namespace GV.Store
open GV GV.Pmmr

/-- leaf `l` is pruned by the old roots `bm` or is one of the newly removed leaves (`M`, 1-based) -/
def P0 (bm : List Nat) (M : Nat → Prop) (l : Nat) : Prop := PrunedBy bm l ∨ M (l + 1)

/-- `q` becomes fully pruned: all its leaves are pruned now, and it was not pruned before -/
def NewP (bm : List Nat) (M : Nat → Prop) (q : Nat) : Prop := Full (P0 bm M) q ∧ ¬ PrunedBy bm q

/-- content of `expanded`: the newly fully pruned positions and the old roots whose parent is
newly fully pruned (1-based) -/
def ESpec (bm : List Nat) (N : Nat → Prop) (y : Nat) : Prop :=
  1 ≤ y ∧ (N (y - 1) ∨ (y ∈ bm ∧ N (family (y - 1)).1))

theorem espec_congr {bm : List Nat} {N N' : Nat → Prop} (h : ∀ q, N q ↔ N' q) (y : Nat) :
    ESpec bm N y ↔ ESpec bm N' y := by
  unfold ESpec; rw [h, h]

theorem newP_congr {bm : List Nat} {M M' : Nat → Prop} (h : ∀ x, M x ↔ M' x) (q : Nat) :
    NewP bm M q ↔ NewP bm M' q := by
  unfold NewP
  rw [full_congr (S := P0 bm M) (T := P0 bm M') (fun l _ => by unfold P0; rw [h])]

/-- were the sibling strictly inside an old root's subtree, the position itself would be pruned -/
theorem full_sibling_iff {pl : PruneList} (hinv : pl.Inv) (M : Nat → Prop) (c : Nat)
    (hc : ¬ PrunedBy pl.bitmap c) :
    Full (P0 pl.bitmap M) (family c).2 ↔
      ((1 + (family c).2) ∈ pl.bitmap ∨ NewP pl.bitmap M (family c).2) := by
  have hsf := (family_sibling c).2.1
  have hcsub : Sub (family c).1 c := sub_parent_self c
  constructor
  · intro hf
    by_cases hp : PrunedBy pl.bitmap (family c).2
    · -- pruned through its parent it cannot be: that is the parent of `c`
      refine Or.inl (((prunedBy_iff hinv.pos _).1 hp).resolve_right fun h1 => ?_)
      rw [hsf] at h1
      exact hc (prunedBy_of_sub h1 hcsub)
    · right; exact ⟨hf, hp⟩
  · rintro (h | h)
    · intro l _ hs
      exact Or.inl (prunedBy_of_sub (prunedBy_of_mem h) hs)
    · exact h.1

namespace Backend

/-- the loop invariant of `expandLoop` for the leaf `x` (1-based) at the ancestor `c`: what the
bitmap holds so far -/
def NAt (bm : List Nat) (M : Nat → Prop) (x c : Nat) (q : Nat) : Prop :=
  NewP bm M q ∨ (Sub q (x - 1) ∧ q ≤ c)

variable {pl : PruneList}

/-- what stands while the leaf `x` (1-based) is expanded after the leaves `M`, the loop being at
the ancestor `c` of `x` -/
structure Climb (pl : PruneList) (M : Nat → Prop) (x c : Nat) : Prop where
  inv : pl.Inv
  pos : 1 ≤ x
  fresh : ¬ M x
  leaf : height (x - 1) = 0
  unpruned : ¬ PrunedBy pl.bitmap (x - 1)
  sub : Sub c (x - 1)
  full : Full (P0 pl.bitmap (fun y => M y ∨ y = x)) c

namespace Climb
variable {M : Nat → Prop} {x c : Nat}

theorem notPruned (h : Climb pl M x c) {q : Nat} (hq : Sub q (x - 1)) : ¬ PrunedBy pl.bitmap q :=
  fun hp => h.unpruned (prunedBy_of_sub hp hq)

theorem notNew (h : Climb pl M x c) {q : Nat} (hq : Sub q (x - 1)) : ¬ NewP pl.bitmap M q := by
  intro hn
  rcases hn.1 (x - 1) h.leaf hq with hp | hm
  · exact h.unpruned hp
  · rw [Nat.sub_add_cancel h.pos] at hm; exact h.fresh hm

theorem full_off (h : Climb pl M x c) {q : Nat} (hq : ¬ Sub q (x - 1)) :
    Full (P0 pl.bitmap (fun y => M y ∨ y = x)) q ↔ Full (P0 pl.bitmap M) q :=
  full_congr_sub fun l _ hs => or_congr_right
    ⟨fun hm => hm.resolve_right fun e =>
        hq (by rw [← show l = x - 1 by have := h.pos; omega]; exact hs), Or.inl⟩

theorem nat_parent (h : Climb pl M x c) (q : Nat) :
    NAt pl.bitmap M x (family c).1 q ↔ (NAt pl.bitmap M x c q ∨ q = (family c).1) := by
  have hcgt := Co.family_fst_gt c
  unfold NAt
  constructor
  · rintro (hn | ⟨h1, h2⟩)
    · exact Or.inl (Or.inl hn)
    · by_cases hqc : q ≤ c
      · exact Or.inl (Or.inr ⟨h1, hqc⟩)
      · right
        have h3 : Sub q c := sub_of_common h.sub h1 (by omega)
        have h4 := (sub_parent_iff q c).1 ⟨h3, by omega⟩
        have := h4.2; omega
  · rintro ((hn | ⟨h1, h2⟩) | e)
    · exact Or.inl hn
    · exact Or.inr ⟨h1, by omega⟩
    · right; rw [e]; exact ⟨sub_trans (sub_parent_self c) h.sub, Nat.le_refl _⟩

/-- the continuation test of the loop (the sibling is an old root or is in `expanded`) is "the
parent is fully pruned" -/
theorem full_parent_iff (h : Climb pl M x c) {E : Bitmap}
    (hE : ∀ y, y ∈ E ↔ ESpec pl.bitmap (NAt pl.bitmap M x c) y) :
    Full (P0 pl.bitmap (fun y => M y ∨ y = x)) (family c).1 ↔
      ((1 + (family c).2) ∈ pl.bitmap ∨ (1 + (family c).2) ∈ E) := by
  have hsdis : ¬ Sub (family c).2 (x - 1) := fun hs => sub_sibling_disjoint c (x - 1) h.sub hs
  rw [full_parent, h.full_off hsdis, full_sibling_iff h.inv M c (h.notPruned h.sub)]
  simp only [h.full, true_and]
  constructor
  · rintro (hr | hn)
    · exact Or.inl hr
    · exact Or.inr ((hE _).2 ⟨by omega, Or.inl (by rw [Nat.add_sub_cancel_left]; exact Or.inl hn)⟩)
  · rintro (hr | hm)
    · exact Or.inl hr
    · obtain ⟨_, h2 | ⟨h2, _⟩⟩ := (hE _).1 hm
      · rw [Nat.add_sub_cancel_left] at h2
        rcases h2 with h2 | ⟨h2, _⟩
        · exact Or.inr h2
        · exact absurd h2 hsdis
      · exact Or.inl h2

theorem parent (h : Climb pl M x c) (hf : Full (P0 pl.bitmap (fun y => M y ∨ y = x)) (family c).1) :
    Climb pl M x (family c).1 :=
  { h with sub := sub_trans (sub_parent_self c) h.sub, full := hf }

theorem espec_parent (h : Climb pl M x c) {E E1 : Bitmap}
    (hE : ∀ y, y ∈ E ↔ ESpec pl.bitmap (NAt pl.bitmap M x c) y)
    (hE1 : ∀ z, z ∈ E1 ↔ (z ∈ E ∨ (z = 1 + (family c).2 ∧ z ∈ pl.bitmap))) (z : Nat) :
    z ∈ Bm.add E1 (1 + (family c).1) ↔ ESpec pl.bitmap (NAt pl.bitmap M x (family c).1) z := by
  have hsf := (family_sibling c).2.1
  have hcroot : (1 + c) ∉ pl.bitmap := fun hm => h.notPruned h.sub (prunedBy_of_mem hm)
  rw [mem_add, hE1]
  unfold ESpec
  rw [h.nat_parent, h.nat_parent]
  have hEz := hE z
  unfold ESpec at hEz
  constructor
  · rintro (e | hz | ⟨e, h'⟩)
    · subst e
      exact ⟨by omega, Or.inl (Or.inr (by omega))⟩
    · obtain ⟨h1, h2 | ⟨h2, h3⟩⟩ := hEz.1 hz
      · exact ⟨h1, Or.inl (Or.inl h2)⟩
      · exact ⟨h1, Or.inr ⟨h2, Or.inl h3⟩⟩
    · subst e
      refine ⟨by omega, Or.inr ⟨h', Or.inr ?_⟩⟩
      rw [Nat.add_sub_cancel_left, hsf]
  · rintro ⟨h1, (h2 | h2) | ⟨h2, h3 | h3⟩⟩
    · exact Or.inr (Or.inl (hEz.2 ⟨h1, Or.inl h2⟩))
    · left; omega
    · exact Or.inr (Or.inl (hEz.2 ⟨h1, Or.inr ⟨h2, h3⟩⟩))
    · -- `z - 1` is a root with the parent of `c` as parent: it is the sibling
      right; right
      rcases same_parent (a := c) (b := z - 1) h3.symm with h4 | h4
      · exfalso; apply hcroot
        have : 1 + c = z := by omega
        rw [this]; exact h2
      · exact ⟨by omega, h2⟩

/-- where the loop stops `expanded` is complete: the parent of `c` is not fully pruned, so the
newly fully pruned positions are those of before and the ancestors of `x` up to `c` -/
theorem espec_stop (h : Climb pl M x c) {E : Bitmap}
    (hE : ∀ y, y ∈ E ↔ ESpec pl.bitmap (NAt pl.bitmap M x c) y)
    (hnotfull : ¬ Full (P0 pl.bitmap (fun y => M y ∨ y = x)) (family c).1) (y : Nat) :
    y ∈ E ↔ ESpec pl.bitmap (NewP pl.bitmap (fun y => M y ∨ y = x)) y := by
  rw [hE y]
  apply espec_congr
  intro q
  unfold NAt NewP
  by_cases hq : Sub q (x - 1)
  · constructor
    · rintro (hn | ⟨_, h2⟩)
      · exact absurd hn (h.notNew hq)
      · exact ⟨full_of_sub (sub_of_common hq h.sub h2) h.full, h.notPruned hq⟩
    · rintro ⟨h1, _⟩
      right
      refine ⟨hq, ?_⟩
      apply Classical.byContradiction
      intro hqc
      have h3 : Sub q c := sub_of_common h.sub hq (by omega)
      have h4 := (sub_parent_iff q c).1 ⟨h3, by omega⟩
      exact hnotfull (full_of_sub h4 h1)
  · rw [h.full_off hq]
    constructor
    · rintro (hn | ⟨hs, _⟩)
      · exact hn
      · exact absurd hs hq
    · exact Or.inl

end Climb

/-- **the inner loop of `pos_to_rm`** climbs from a newly removed leaf exactly as far as the
ancestors are fully pruned, adding them and their already pruned siblings -/
theorem expandLoop_spec {M : Nat → Prop} {x : Nat}
    (hB : ∀ l, P0 pl.bitmap (fun y => M y ∨ y = x) l → l + 64 < 2 ^ 64) :
    ∀ (fuel : Nat) (E : Bitmap) (cur : Nat), 1 ≤ cur → Climb pl M x (cur - 1) →
      64 ≤ height (cur - 1) + fuel →
      (∀ y, y ∈ E ↔ ESpec pl.bitmap (NAt pl.bitmap M x (cur - 1)) y) →
      ∀ y, y ∈ expandLoop pl fuel E cur ↔ ESpec pl.bitmap (NewP pl.bitmap (fun y => M y ∨ y = x)) y := by
  intro fuel
  induction fuel with
  | zero =>
    intro E cur hc1 hcl hfuel _
    exfalso
    obtain ⟨r1, r2⟩ := rightmost_leaf (cur - 1)
    have := hB _ (hcl.full _ r1 r2)
    have h1 : 2 ^ 64 ≤ 2 ^ height (cur - 1) := Nat.pow_le_pow_right (by omega) (by omega)
    have h2 : height (cur - 1) < 2 ^ height (cur - 1) := Nat.lt_two_pow_self
    have := Co.height_bound (cur - 1)
    omega
  | succ n ih =>
    intro E cur hc1 hcl hfuel hE y
    unfold expandLoop
    simp only
    generalize hc : cur - 1 = c at *
    have hpar := Co.height_family_fst c
    have hcgt := Co.family_fst_gt c
    have hcond := hcl.full_parent_iff hE
    have hrootiff : pl.isPrunedRoot (family c).2 = true ↔ (1 + (family c).2) ∈ pl.bitmap := by
      unfold PruneList.isPrunedRoot; exact contains_iff
    have e1 : 1 + (family c).1 - 1 = (family c).1 := by omega
    have hclimb : ∀ E1 : Bitmap, (∀ z, z ∈ E1 ↔ (z ∈ E ∨ (z = 1 + (family c).2 ∧ z ∈ pl.bitmap))) →
        Full (P0 pl.bitmap (fun y => M y ∨ y = x)) (family c).1 →
        (y ∈ expandLoop pl n (Bm.add E1 (1 + (family c).1)) (1 + (family c).1) ↔
          ESpec pl.bitmap (NewP pl.bitmap (fun y => M y ∨ y = x)) y) := by
      intro E1 hE1 hfullpar
      apply ih _ (1 + (family c).1) (by omega)
      · rw [e1]; exact hcl.parent hfullpar
      · rw [e1]; omega
      · rw [e1]; exact hcl.espec_parent hE hE1
    cases hr : pl.isPrunedRoot (family c).2 with
    | true =>
      have hm := hrootiff.1 hr
      simp only [if_true, Bool.true_or]
      exact hclimb _ (fun z => by
        rw [mem_add]
        constructor
        · rintro (h | h)
          · exact Or.inr ⟨h, by rw [h]; exact hm⟩
          · exact Or.inl h
        · rintro (h | ⟨h, _⟩)
          · exact Or.inr h
          · exact Or.inl h) (hcond.2 (Or.inl hm))
    | false =>
      have hm : (1 + (family c).2) ∉ pl.bitmap := fun h => by
        rw [hrootiff.2 h] at hr; exact absurd hr (by simp)
      simp only [Bool.false_eq_true, if_false, Bool.false_or]
      split
      · rename_i hgo
        exact hclimb E (fun z => by
          constructor
          · exact Or.inl
          · rintro (h | ⟨h, h'⟩)
            · exact h
            · rw [h] at h'; exact absurd h' hm) (hcond.2 (Or.inr (contains_iff.1 hgo)))
      · rename_i hstop
        refine hcl.espec_stop hE (fun hf => ?_) y
        rcases hcond.1 hf with h | h
        · exact hm h
        · exact hstop (contains_iff.2 h)

theorem expand_step (hinv : pl.Inv) (M : Nat → Prop) (x : Nat) (hx1 : 1 ≤ x)
    (hxM : ¬ M x) (hxl : height (x - 1) = 0) (hxp : ¬ PrunedBy pl.bitmap (x - 1))
    (hB : ∀ l, P0 pl.bitmap (fun y => M y ∨ y = x) l → l + 64 < 2 ^ 64)
    (E : Bitmap) (hE : ∀ y, y ∈ E ↔ ESpec pl.bitmap (NewP pl.bitmap M) y) (y : Nat) :
    y ∈ expandLoop pl 64 (Bm.add E x) x ↔ ESpec pl.bitmap (NewP pl.bitmap (fun y => M y ∨ y = x)) y := by
  apply expandLoop_spec hB 64 (Bm.add E x) x hx1
    ⟨hinv, hx1, hxM, hxl, hxp, sub_refl _, (full_leaf hxl).2 (Or.inr (Or.inr (by omega)))⟩
  · omega
  · intro z
    rw [mem_add, hE z]
    unfold ESpec NAt
    constructor
    · rintro (h | ⟨h1, h2 | ⟨h2, h3⟩⟩)
      · subst h; exact ⟨hx1, Or.inl (Or.inr ⟨sub_refl _, Nat.le_refl _⟩)⟩
      · exact ⟨h1, Or.inl (Or.inl h2)⟩
      · exact ⟨h1, Or.inr ⟨h2, Or.inl h3⟩⟩
    · rintro ⟨h1, (h2 | ⟨h2, h3⟩) | ⟨h2, h3 | ⟨h3, h4⟩⟩⟩
      · exact Or.inr ⟨h1, Or.inl h2⟩
      · left
        unfold Sub at h2
        omega
      · exact Or.inr ⟨h1, Or.inr ⟨h2, h3⟩⟩
      · exfalso
        have hh := Co.height_family_fst (z - 1)
        unfold Sub at h3
        have : (family (z - 1)).1 = x - 1 := by omega
        rw [this] at hh; omega

/-- the outer loop of `pos_to_rm` -/
theorem expand_fold (hinv : pl.Inv) : ∀ (rest : List Nat) (M : Nat → Prop) (E : Bitmap),
    (∀ y, y ∈ E ↔ ESpec pl.bitmap (NewP pl.bitmap M) y) →
    List.Pairwise (· ≠ ·) rest →
    (∀ x ∈ rest, 1 ≤ x ∧ ¬ M x ∧ height (x - 1) = 0 ∧ ¬ PrunedBy pl.bitmap (x - 1)) →
    (∀ l, P0 pl.bitmap (fun y => M y ∨ y ∈ rest) l → l + 64 < 2 ^ 64) →
    ∀ y, y ∈ rest.foldl (fun expanded x => expandLoop pl 64 (Bm.add expanded x) x) E ↔
      ESpec pl.bitmap (NewP pl.bitmap (fun y => M y ∨ y ∈ rest)) y := by
  intro rest
  induction rest with
  | nil =>
    intro M E hE _ _ _ y
    simp only [List.foldl_nil]
    rw [hE y]
    exact espec_congr (newP_congr (fun x => by simp)) y
  | cons x rest ih =>
    intro M E hE hnd hprops hB y
    simp only [List.foldl_cons]
    have hnd' := List.pairwise_cons.1 hnd
    obtain ⟨hx1, hxM, hxl, hxp⟩ := hprops x (by simp)
    have hB1 : ∀ l, P0 pl.bitmap (fun y => M y ∨ y = x) l → l + 64 < 2 ^ 64 :=
      fun l hl => hB l (hl.imp_right (Or.imp_right fun e => by simp [e]))
    have := ih (fun y => M y ∨ y = x) _ (expand_step hinv M x hx1 hxM hxl hxp hB1 E hE) hnd'.2
      (fun z hz => by
        obtain ⟨h1, h2, h3, h4⟩ := hprops z (by simp [hz])
        refine ⟨h1, ?_, h3, h4⟩
        rintro (h | h)
        · exact h2 h
        · exact hnd'.1 z hz h.symm)
      (fun l hl => hB l (hl.imp_right fun h => by simpa [or_assoc] using h))
      y
    rw [this]
    apply espec_congr
    apply newP_congr
    intro z
    simp only [List.mem_cons, or_assoc]

theorem newP_empty (hinv : pl.Inv) (q : Nat) : ¬ NewP pl.bitmap (fun _ => False) q := by
  rintro ⟨h1, h2⟩
  apply h2
  apply PruneList.canon hinv q
  intro l hl hs
  rcases h1 l hl hs with h | h
  · exact h
  · exact absurd h (by simp)

/-- **`removed_excl_roots ∘ expand`**: a position is removed from the hash file iff its parent
becomes fully pruned -/
theorem exclRoots_spec (hinv : pl.Inv) (M : Nat → Prop) (E : Bitmap)
    (hE : ∀ y, y ∈ E ↔ ESpec pl.bitmap (NewP pl.bitmap M) y) (y : Nat) :
    y ∈ removedExclRoots E ↔ 1 ≤ y ∧ NewP pl.bitmap M (family (y - 1)).1 := by
  unfold removedExclRoots
  rw [List.mem_filter, contains_iff, hE, hE]
  have hsub : Sub (family (y - 1)).1 (y - 1) := sub_parent_self _
  constructor
  · rintro ⟨⟨h1, hy⟩, ⟨_, hp⟩⟩
    rw [Nat.add_sub_cancel_left] at hp
    refine ⟨h1, ?_⟩
    rcases hp with hp | ⟨hp, _⟩
    · exact hp
    · -- the parent is an old root: then `y - 1` was pruned already and is no root
      exfalso
      have hpr : PrunedBy pl.bitmap (family (y - 1)).1 := prunedBy_of_mem hp
      rcases hy with hy | ⟨hy, _⟩
      · exact hy.2 (prunedBy_of_sub hpr hsub)
      · have h1 := PruneList.root_not_compacted hinv y hy
        have h2 := compactedP_iff_parent.2 hpr
        rw [h1] at h2; exact absurd h2 (by simp)
  · rintro ⟨h1, hn⟩
    refine ⟨⟨h1, ?_⟩, ⟨by omega, Or.inl (by rw [Nat.add_sub_cancel_left]; exact hn)⟩⟩
    by_cases hp : PrunedBy pl.bitmap (y - 1)
    · have hy := ((prunedBy_iff hinv.pos _).1 hp).resolve_right hn.2
      rw [show 1 + (y - 1) = y by omega] at hy
      exact Or.inr ⟨hy, hn⟩
    · left; exact ⟨full_of_sub hsub hn.1, hp⟩

end Backend
end GV.Store
