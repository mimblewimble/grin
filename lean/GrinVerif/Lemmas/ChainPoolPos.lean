import GrinVerif.Model.ChainPool
import GrinVerif.Lemmas.ChainPath
/-! The position-based coinbase-maturity check of the implementation (`Model/ChainPool.lean`,
`txMaturityImpl`) against the height-based specification (`txMaturity`): the positions carried
along a path refine the replayed state, every unspent output created by the block at height `c`
lies in the leaf range of that block, and therefore — as long as the header found in the header
MMR at the cutoff height is the one of the body chain — both checks decide alike. -/
namespace GV.Chain

def OutPos.proj (u : OutPos) : Nat × Nat × Bool := (u.id, u.height, u.cb)

def AbsP (S : PState) (s : UState) : Prop := S.utxo.map OutPos.proj = s.utxo

theorem posOuts_proj (start h : Nat) (os : List (Nat × Bool)) :
    (posOuts start h os).map OutPos.proj = os.map (fun o => (o.1, h, o.2)) := by
  induction os generalizing start with
  | nil => rfl
  | cons o os ih => simp [posOuts, OutPos.proj, ih]

theorem absP_step {S : PState} {s : UState} (b : Blk) (h : AbsP S s) :
    AbsP (applyP S b) (effects s b) := by
  unfold AbsP at *
  simp only [applyP, effects, List.map_append, posOuts_proj, ← h, List.filter_map]
  rfl

theorem absP_genesis (g : Blk) : AbsP (genesisP g) (genesisState g) := by
  simp [AbsP, genesisP, genesisState, posOuts_proj]

theorem absP_foldl (bs : List Blk) : ∀ {S : PState} {s : UState}, AbsP S s →
    AbsP (replayP S bs) (bs.foldl effects s) := by
  induction bs with
  | nil => exact id
  | cons b bs ih => exact fun h => ih (absP_step b h)

theorem absP_replay (p : Params) (bs : List Blk) {S : PState} {s s' : UState} (h : AbsP S s)
    (hr : replay p s bs = .ok s') : AbsP (replayP S bs) s' :=
  replay_ok_foldl p bs hr ▸ absP_foldl bs h

theorem absP_find {S : PState} {s : UState} (h : AbsP S s) (i : Nat) :
    s.find i = (S.utxo.find? (·.id == i)).map OutPos.proj := by
  unfold UState.find
  rw [← h, List.find?_map]
  rfl

theorem absP_has {S : PState} {s : UState} (h : AbsP S s) (i : Nat) :
    s.has i = (S.utxo.find? (·.id == i)).isSome := by
  unfold UState.has
  rw [← h, List.any_map, Bool.eq_iff_iff, List.any_eq_true, List.find?_isSome]
  rfl

theorem outSize_append (a b : List Blk) : outSize (a ++ b) = outSize a + outSize b := by
  simp [outSize, List.sum_append]

theorem outSize_take_mono (P : List Blk) (a b : Nat) (h : a ≤ b) :
    outSize (P.take a) ≤ outSize (P.take b) := by
  have e : P.take a = (P.take b).take a := by rw [List.take_take, Nat.min_eq_left h]
  have e2 : P.take b = (P.take b).take a ++ (P.take b).drop a := (List.take_append_drop a _).symm
  rw [e2, outSize_append, ← e]
  omega

theorem posOuts_mem (start h : Nat) (os : List (Nat × Bool)) (u : OutPos)
    (hu : u ∈ posOuts start h os) : u.height = h ∧ start < u.pos ∧ u.pos ≤ start + os.length := by
  induction os generalizing start with
  | nil => cases hu
  | cons o os ih =>
    simp only [posOuts, List.mem_cons] at hu
    rcases hu with rfl | hu
    · simp
    · have := ih (start + 1) hu
      simp only [List.length_cons]
      omega

/-- every unspent output created by the block at index `c` of the path `P` (root first, heights =
indices) has its leaf number in that block's range -/
structure PosInv (S : PState) (P : List Blk) : Prop where
  size : S.size = outSize P
  range : ∀ u ∈ S.utxo, u.height < P.length ∧ outSize (P.take u.height) < u.pos ∧
    u.pos ≤ outSize (P.take (u.height + 1))

theorem PosInv.pos_gt_iff {S : PState} {P : List Blk} (hI : PosInv S P) {u : OutPos} (hu : u ∈ S.utxo)
    (k : Nat) : u.pos > outSize (P.take k) ↔ k ≤ u.height := by
  obtain ⟨_, r2, r3⟩ := hI.range u hu
  by_cases hle : k ≤ u.height
  · have := outSize_take_mono P k u.height hle
    exact ⟨fun _ => hle, fun _ => by omega⟩
  · have := outSize_take_mono P (u.height + 1) k (by omega)
    exact ⟨fun h => by omega, fun h => absurd h hle⟩

theorem posInv_genesis (g : Blk) : PosInv (genesisP g) [g] := by
  refine ⟨by simp [genesisP, outSize], ?_⟩
  intro u hu
  obtain ⟨h1, h2, h3⟩ := posOuts_mem 0 0 g.outs u hu
  rw [h1]
  simp [outSize]
  omega

theorem posInv_step {S : PState} {P : List Blk} (b : Blk) (hb : b.h = P.length) (h : PosInv S P) :
    PosInv (applyP S b) (P ++ [b]) := by
  refine ⟨by simp [applyP, h.size, outSize], ?_⟩
  intro u hu
  simp only [applyP, List.mem_append, List.mem_filter] at hu
  rcases hu with ⟨hu, _⟩ | hu
  · obtain ⟨h1, h2, h3⟩ := h.range u hu
    refine ⟨by simp; omega, ?_, ?_⟩
    · rw [List.take_append_of_le_length (by omega)]; exact h2
    · rw [List.take_append_of_le_length (by omega)]; exact h3
  · obtain ⟨h1, h2, h3⟩ := posOuts_mem S.size b.h b.outs u hu
    rw [h1, hb]
    refine ⟨by simp, ?_, ?_⟩
    · rw [List.take_append_of_le_length (Nat.le_refl _), List.take_length, ← h.size]; exact h2
    · rw [show P.length + 1 = (P ++ [b]).length by simp, List.take_length, outSize_append, ← h.size]
      simp only [outSize, List.map_cons, List.map_nil, List.sum_cons, List.sum_nil, Nat.add_zero]
      exact h3

theorem posInv_replay (bs : List Blk) : ∀ {S : PState} {P : List Blk}, PosInv S P →
    (∀ k x, bs[k]? = some x → x.h = P.length + k) → PosInv (replayP S bs) (P ++ bs) := by
  induction bs with
  | nil => intro S P h _; simpa [replayP] using h
  | cons b bs ih =>
    intro S P h hh
    have hb : b.h = P.length := by simpa using hh 0 b rfl
    have := ih (posInv_step b hb h) (by
      intro k x hk
      have := hh (k + 1) x (by simpa using hk)
      simp only [List.length_append, List.length_cons, List.length_nil]
      omega)
    simpa [replayP] using this

theorem lookupInputs_none_iff (S : PState) (ins : List Nat) :
    lookupInputs S ins = none ↔ ∃ i ∈ ins, S.utxo.find? (·.id == i) = none := by
  induction ins with
  | nil => simp [lookupInputs]
  | cons i is ih =>
    simp only [lookupInputs]
    cases hf : S.utxo.find? (·.id == i) with
    | none => exact ⟨fun _ => ⟨i, List.mem_cons_self .., hf⟩, fun _ => rfl⟩
    | some u =>
      cases hl : lookupInputs S is with
      | none =>
        simp only [true_iff]
        obtain ⟨j, hj, hn⟩ := ih.mp hl
        exact ⟨j, List.mem_cons_of_mem _ hj, hn⟩
      | some r =>
        simp only [reduceCtorEq, false_iff]
        rintro ⟨j, hj, hn⟩
        rcases List.mem_cons.mp hj with rfl | hj
        · rw [hf] at hn; cases hn
        · have := ih.mpr ⟨j, hj, hn⟩
          rw [hl] at this; cases this

theorem lookupInputs_some (S : PState) (ins : List Nat) : ∀ (sp : List OutPos),
    lookupInputs S ins = some sp →
    ∀ u, u ∈ sp ↔ ∃ i ∈ ins, S.utxo.find? (·.id == i) = some u := by
  induction ins with
  | nil =>
    intro sp h u
    simp only [lookupInputs] at h
    injection h with h
    subst h; simp
  | cons i is ih =>
    intro sp h u
    simp only [lookupInputs] at h
    cases hf : S.utxo.find? (·.id == i) with
    | none => rw [hf] at h; cases h
    | some v =>
      rw [hf] at h
      cases hl : lookupInputs S is with
      | none => rw [hl] at h; cases h
      | some r =>
        rw [hl] at h
        injection h with h
        subst h
        simp only [List.mem_cons]
        constructor
        · rintro (rfl | hu)
          · exact ⟨i, Or.inl rfl, hf⟩
          · obtain ⟨j, hj, hju⟩ := (ih r hl u).mp hu
            exact ⟨j, Or.inr hj, hju⟩
        · rintro ⟨j, hj | hj, hju⟩
          · subst hj; rw [hf] at hju; injection hju with hju; exact Or.inl hju.symm
          · exact Or.inr ((ih r hl u).mpr ⟨j, hj, hju⟩)

theorem maxOpt_eq_max? (l : List Nat) : maxOpt l = l.max? := by
  induction l with
  | nil => rfl
  | cons x xs ih =>
    rw [maxOpt, ih, List.max?_cons']
    cases xs with
    | nil => rfl
    | cons y ys =>
      rw [List.max?_cons', List.foldl_cons, List.foldl_assoc]
      show some (if x < _ then _ else x) = some (max x _)
      congr 1
      split <;> omega

theorem maxOpt_none_iff (l : List Nat) : maxOpt l = none ↔ l = [] := by
  rw [maxOpt_eq_max?, List.max?_eq_none_iff]

theorem maxOpt_some (l : List Nat) (m : Nat) (h : maxOpt l = some m) : m ∈ l ∧ ∀ x ∈ l, x ≤ m :=
  List.max?_eq_some_iff.mp (maxOpt_eq_max? l ▸ h)

open Classical in
theorem txMaturity_spec (p : Params) (s : UState) (t : TxA) :
    txMaturity p s t =
      if ∃ i ∈ t.ins, s.has i = false then some "AlreadySpent"
      else if ∃ i ∈ t.ins, ∃ c, s.find i = some (i, c, true) ∧ s.height + 1 < c + p.maturity
        then some "ImmatureCoinbase" else none := by
  have hall : (!t.ins.all s.has) = true ↔ ∃ i ∈ t.ins, s.has i = false := by
    simp only [Bool.not_eq_true', List.all_eq_false, Bool.not_eq_true]
  -- the second test is `immature` for any block with these inputs at the next height
  have him : (t.ins.any fun i => match s.find i with
        | some (_, c, true) => decide (s.height + 1 < c + p.maturity)
        | _ => false) = true ↔
      ∃ i ∈ t.ins, ∃ c, s.find i = some (i, c, true) ∧ s.height + 1 < c + p.maturity :=
    immature_iff (b := { id := 0, parent := none, h := s.height + 1, work := 0, ver := 0, ts := 0,
                         ins := t.ins, outs := [], kers := [], tags := [] })
  unfold txMaturity
  by_cases h1 : ∃ i ∈ t.ins, s.has i = false
  · rw [if_pos h1, if_pos (hall.mpr h1)]
  · rw [if_neg h1, if_neg (mt hall.mp h1)]
    by_cases h2 : ∃ i ∈ t.ins, ∃ c, s.find i = some (i, c, true) ∧ s.height + 1 < c + p.maturity
    · rw [if_pos h2]; exact if_pos (him.mpr h2)
    · rw [if_neg h2]; exact if_neg (mt him.mp h2)

/-- The header MMR `hpath` has a header at the cutoff height `P.length - maturity` of the body path `P` and
agrees with `P` up to that height (nothing is asked while `P` is shorter than the maturity). -/
def CutAgrees (p : Params) (P hpath : List Blk) : Prop :=
  p.maturity ≤ P.length → P.length - p.maturity < hpath.length ∧
    hpath.take (P.length - p.maturity + 1) = P.take (P.length - p.maturity + 1)

theorem maxOpt_gt_iff (l : List Nat) (c : Nat) : (∃ m, maxOpt l = some m ∧ c < m) ↔ ∃ x ∈ l, c < x := by
  constructor
  · rintro ⟨m, hm, hc⟩
    exact ⟨m, (maxOpt_some l m hm).1, hc⟩
  · rintro ⟨x, hx, hc⟩
    cases hm : maxOpt l with
    | none => rw [(maxOpt_none_iff l).mp hm] at hx; cases hx
    | some m => exact ⟨m, rfl, Nat.lt_of_lt_of_le hc ((maxOpt_some l m hm).2 x hx)⟩

/-- with every input found, the specification's two tests read on the outputs looked up -/
theorem lookupInputs_absP {S : PState} {s : UState} (hA : AbsP S s) {ins : List Nat} {sp : List OutPos}
    (hl : lookupInputs S ins = some sp) (m : Nat) :
    (¬ ∃ i ∈ ins, s.has i = false) ∧
    ((∃ i ∈ ins, ∃ c, s.find i = some (i, c, true) ∧ s.height + 1 < c + m) ↔
      ∃ u ∈ sp, u.cb = true ∧ s.height + 1 < u.height + m) := by
  have hsp := lookupInputs_some S ins sp hl
  refine ⟨?_, ?_, ?_⟩
  · rintro ⟨i, hi, hn⟩
    rw [absP_has hA] at hn
    have : lookupInputs S ins = none :=
      (lookupInputs_none_iff S ins).mpr ⟨i, hi, by
        cases hf : S.utxo.find? (·.id == i) with
        | none => rfl
        | some u => rw [hf] at hn; cases hn⟩
    rw [hl] at this; cases this
  · rintro ⟨i, hi, c, hf, hlt⟩
    rw [absP_find hA] at hf
    cases hfu : S.utxo.find? (·.id == i) with
    | none => rw [hfu] at hf; cases hf
    | some u =>
      rw [hfu] at hf
      simp only [Option.map_some, OutPos.proj, Option.some.injEq, Prod.mk.injEq] at hf
      exact ⟨u, (hsp u).mpr ⟨i, hi, hfu⟩, hf.2.2, by rw [hf.2.1]; exact hlt⟩
  · rintro ⟨u, hu, hcb, hlt⟩
    obtain ⟨i, hi, hfu⟩ := (hsp u).mp hu
    have hid : u.id = i := by simpa using List.find?_some hfu
    refine ⟨i, hi, u.height, ?_, hlt⟩
    rw [absP_find hA, hfu]
    simp [OutPos.proj, hid, hcb]

theorem txMaturityImpl_eq (p : Params) (P hpath : List Blk) (S : PState) (s : UState) (t : TxA)
    (hA : AbsP S s) (hI : PosInv S P) (hh : s.height + 1 = P.length)
    (hcut : CutAgrees p P hpath) :
    txMaturityImpl p S hpath P.length t.ins = txMaturity p s t := by
  rw [txMaturity_spec]
  unfold txMaturityImpl
  cases hl : lookupInputs S t.ins with
  | none =>
    obtain ⟨i, hi, hn⟩ := (lookupInputs_none_iff S t.ins).mp hl
    rw [if_pos ⟨i, hi, by rw [absP_has hA, hn]; rfl⟩]
  | some sp =>
    obtain ⟨hall, hspec⟩ := lookupInputs_absP hA hl p.maturity
    rw [if_neg hall]
    replace hspec := hspec.trans (by rw [hh])
    have hmem : ∀ {u}, u ∈ sp → u ∈ S.utxo := fun hu =>
      have ⟨_, _, hfu⟩ := (lookupInputs_some S t.ins sp hl _).mp hu
      List.mem_of_find?_eq_some hfu
    have hcb : ∀ c, (∃ x ∈ (sp.filter (·.cb)).map (·.pos), c < x) ↔ ∃ u ∈ sp, u.cb = true ∧ c < u.pos := by
      intro c
      constructor
      · rintro ⟨x, hx, hc⟩
        obtain ⟨u, hu, rfl⟩ := List.mem_map.mp hx
        exact ⟨u, (List.mem_filter.mp hu).1, (List.mem_filter.mp hu).2, hc⟩
      · rintro ⟨u, hu, hcbu, hc⟩
        exact ⟨u.pos, List.mem_map.mpr ⟨u, List.mem_filter.mpr ⟨hu, hcbu⟩, rfl⟩, hc⟩
    dsimp only
    cases hm : maxOpt ((sp.filter (·.cb)).map (·.pos)) with
    | none =>
      refine (if_neg fun h => ?_).symm
      obtain ⟨u, hu, hcbu, _⟩ := hspec.mp h
      have : u.pos ∈ (sp.filter (·.cb)).map (·.pos) := List.mem_map.mpr ⟨u, List.mem_filter.mpr ⟨hu, hcbu⟩, rfl⟩
      rw [(maxOpt_none_iff _).mp hm] at this; cases this
    | some pos =>
      dsimp only
      by_cases hlt : P.length < p.maturity
      · obtain ⟨w, hw, _⟩ := List.mem_map.mp (maxOpt_some _ pos hm).1
        obtain ⟨hwsp, hwcb⟩ := List.mem_filter.mp hw
        rw [if_pos hlt, if_pos (hspec.mpr ⟨w, hwsp, hwcb, by omega⟩)]
      · rw [if_neg hlt]
        obtain ⟨hc1, hc2⟩ := hcut (by omega)
        unfold cutoffSize
        rw [if_pos hc1, hc2]
        dsimp only
        -- some spent coinbase is too young iff the largest coinbase position lies above the cutoff size
        have hpos : pos > outSize (P.take (P.length - p.maturity + 1)) ↔
            ∃ u ∈ sp, u.cb = true ∧ P.length < u.height + p.maturity := by
          rw [gt_iff_lt, show (_ < pos) ↔ ∃ m, maxOpt _ = some m ∧ _ < m from
            ⟨fun h => ⟨pos, hm, h⟩, fun ⟨m, hm', h⟩ => Option.some.inj (hm.symm.trans hm') ▸ h⟩,
            maxOpt_gt_iff, hcb]
          refine exists_congr fun u => and_congr_right fun hu => and_congr_right fun _ => ?_
          exact (hI.pos_gt_iff (hmem hu) _).trans (by omega)
        by_cases hgt : pos > outSize (P.take (P.length - p.maturity + 1))
        · rw [if_pos hgt, if_pos (hspec.mpr (hpos.mp hgt))]
        · rw [if_neg hgt, if_neg fun h => hgt (hpos.mpr (hspec.mp h))]

theorem cut_of_prefix_left (p : Params) (P hpath : List Blk) (hm0 : 0 < p.maturity)
    (h : P <+: hpath) : CutAgrees p P hpath := by
  intro hm
  obtain ⟨x, rfl⟩ := h
  refine ⟨by simp; omega, ?_⟩
  rw [List.take_append_of_le_length (by omega)]

theorem cut_of_prefix_right (p : Params) (P hpath : List Blk) (h : hpath <+: P)
    (hlen : P.length - p.maturity < hpath.length) : CutAgrees p P hpath := by
  intro _
  obtain ⟨x, rfl⟩ := h
  refine ⟨hlen, ?_⟩
  rw [List.take_append_of_le_length (by omega)]

theorem HeadPath.positions {p : Params} {n : Node} {g : Blk} {id : Nat} {rest : List Blk} {s : UState}
    (H : HeadPath p n g id rest s) (hg0 : g.h = 0) :
    AbsP (replayP (genesisP g) rest) s ∧ PosInv (replayP (genesisP g) rest) (g :: rest) :=
  ⟨absP_replay p rest (absP_genesis g) H.replay,
   posInv_replay rest (posInv_genesis g) (by
    intro k x hk
    have := H.height_at (k + 1) x (by simpa using hk)
    simp only [List.length_cons, List.length_nil]
    omega)⟩

theorem HeadPath.txMaturityImpl_eq {p : Params} {n : Node} {g : Blk} {id : Nat} {rest : List Blk} {s : UState}
    (H : HeadPath p n g id rest s) (hg0 : g.h = 0) {hpath : List Blk} (t : TxA)
    (hcut : CutAgrees p (g :: rest) hpath) :
    txMaturityImpl p (replayP (genesisP g) rest) hpath (g :: rest).length t.ins = txMaturity p s t :=
  Chain.txMaturityImpl_eq p (g :: rest) hpath _ s t (H.positions hg0).1 (H.positions hg0).2
    (by rw [H.height_eq hg0]; rfl) hcut

theorem HeadPath.read_on {p : Params} {N n : Node} {g : Blk} {rest : List Blk} {s : UState}
    (H : HeadPath p n g N.head rest s) (hg0 : g.h = 0) (hb : N.blks = n.blks) :
    N.path N.head = some (g :: rest) ∧ N.heightOf N.head = rest.length :=
  ⟨(path_congr hb _).trans H.path, by rw [heightOf_congr hb, H.heightOf_eq, hg0, Nat.zero_add]⟩

/-- Two nodes: `HeadPath` (Lemmas/ChainPath) is stated about the node `n` the history started from,
while the head ids come from the node `N` after the run, which has the same blocks (`hb`). -/
theorem poolMaturityImpl_eq (p : Params) (N n : Node) (hb : N.blks = n.blks) (g : Blk)
    (rest : List Blk) (s : UState) (H : HeadPath p n g N.head rest s) (hg0 : g.h = 0)
    (hpath : List Blk) (hH : N.path N.hhead = some hpath) (t : TxA)
    (hcut : CutAgrees p (g :: rest) hpath) :
    N.poolMaturityImpl p t = txMaturity p s t := by
  obtain ⟨hP, hidx⟩ := H.read_on hg0 hb
  unfold Node.poolMaturityImpl
  rw [hP, hH]
  simp only
  rw [hidx]
  exact H.txMaturityImpl_eq hg0 t hcut

end GV.Chain
