import GrinVerif.Lemmas.PoolInv
/-! The operations of `TransactionPool`, one by one: `add_to_pool` is read once, into the list of its checks
followed by `admitInto` (`addCore_eq_checks`), so a call either refuses and leaves the pool untouched, or the
considered form of the transaction passed every check (`Passed`) and the call is `admitInto`; for every
operation, where the entries of the result come from and what is left of the validity facts.  On that rest the
invariants over histories: whatever admission guarantees of an entry holds of every entry ever after
(`step_allE`), and `Inv` over histories that do not evict. -/
namespace GV.Pool

/-- the `if` is `add_to_reorg_cache` (and `cachePush`): push to the back, pop the front above the bound `mp` -/
theorem mem_push_bounded {α : Type} {l : List α} {x y : α} {mp : Nat}
    (h : y ∈ (if (l ++ [x]).length > mp then (l ++ [x]).drop 1 else l ++ [x])) : y ∈ l ∨ y = x := by
  split at h
  · simpa using List.mem_of_mem_drop h
  · simpa using h

theorem length_push_bounded {α : Type} (l : List α) (x : α) {mp : Nat} (h : l.length ≤ mp) :
    (if (l ++ [x]).length > mp then (l ++ [x]).drop 1 else l ++ [x]).length ≤ mp := by
  split
  · simp only [List.length_drop, List.length_append, List.length_cons, List.length_nil]; omega
  · rename_i hn; simp only [List.length_append, List.length_cons, List.length_nil] at hn ⊢; omega

theorem isAcceptable_eq (c : Ctx) (s : TxPool) (t : Tx) (stem : Bool) :
    s.isAcceptable c t stem =
      if t.shiftedFee < t.acceptFee c.cfg then some "LowFee"
      else if s.txpool.length > c.cfg.maxPool ∨ (stem = true ∧ s.stempool.length > c.cfg.maxStem) then
        some "OverCapacity"
      else none := by
  unfold TxPool.isAcceptable
  by_cases h1 : t.shiftedFee < t.acceptFee c.cfg
  · simp only [h1, if_true]
  · by_cases h2 : s.txpool.length > c.cfg.maxPool
    · simp only [h1, h2, if_true, if_false, true_or]
    · simp only [h1, h2, if_false, false_or, decide_false, Bool.or_false, Bool.and_eq_true, decide_eq_true_eq]

theorem isAcceptable_pass {c : Ctx} {s : TxPool} {t : Tx} {stem : Bool}
    (h : (!(!stem && s.isAcceptable c t stem == some "OverCapacity") && (s.isAcceptable c t stem).isSome) = false) :
    t.acceptFee c.cfg ≤ t.shiftedFee ∧ (stem = true → s.txpool.length ≤ c.cfg.maxPool) ∧
    (!stem && s.isAcceptable c t stem == some "OverCapacity") = (!stem && decide (s.txpool.length > c.cfg.maxPool)) := by
  rw [isAcceptable_eq] at h ⊢
  by_cases hfee : t.shiftedFee < t.acceptFee c.cfg
  · cases stem <;> simp [hfee] at h
  by_cases hov : s.txpool.length > c.cfg.maxPool
  · cases stem <;> simp [hfee, hov] at h ⊢
    omega
  · cases stem <;> simp [hfee, hov] <;> omega

/-- the form in which a submitted transaction is considered: itself (stem) or deaggregated
against the txpool (fluff) -/
def entryOf (s : TxPool) (src : Src) (tx : Tx) (stem : Bool) : Except Err Entry :=
  if stem then .ok { tx, src } else s.deaggregateTx { tx, src }

/-- the submitted transaction itself is what the pool considers when it has at most one kernel
(no deaggregation) -/
theorem entryOf_single {s : TxPool} {src : Src} {tx : Tx} {st : Bool} {e : Entry} (hk : tx.kers.length ≤ 1)
    (h : entryOf s src tx st = .ok e) : e.tx = tx := by
  unfold entryOf TxPool.deaggregateTx at h
  have : ¬ (tx.kers.length > 1) := by omega
  cases st <;> simp [this] at h <;> rw [← h]

/-- every check of `add_to_pool` passed: `entry` is the considered form of the submitted
transaction, `extra` the txpool aggregate a stem transaction is validated with, `su` the inputs
`locate_spends` found on the chain -/
structure Passed (c : Ctx) (s : TxPool) (src : Src) (tx : Tx) (stem : Bool) (entry : Entry) (extra : Option Tx)
    (su : List Nat) : Prop where
  form : entryOf s src tx stem = .ok entry
  variant : verifyKernelVariants c entry.tx = none
  paid : entry.tx.acceptFee c.cfg ≤ entry.tx.shiftedFee
  cap : stem = true → s.txpool.length ≤ c.cfg.maxPool
  valid : entry.tx.validate c .asTransaction = none
  lock : entry.tx.lockHeight ≤ c.head.height + 1
  agg : (if stem then Pool.allAggregate c s.txpool none else .ok none) = .ok extra
  spends : ∃ sp, (if stem then s.stempool.locateSpends c entry.tx extra else s.txpool.locateSpends c entry.tx none) =
    .ok (sp, su)
  mature : immatureCoinbase c su = false

/-- `add_to_txpool`, the reorg cache, the eviction: the last steps of `add_to_pool` -/
def admitTx (c : Ctx) (s : TxPool) (entry : Entry) (evict : Bool) : TxPool × Res :=
  match s.addToTxpool c entry with
  | (s2, some er) => (s2, some er)
  | (s2, none) =>
    let s3 := s2.addToReorgCache c entry
    if evict then ({ s3 with txpool := s3.txpool.evict c }, none) else (s3, none)

/-- what `add_to_pool` does once every check has passed -/
def admitInto (c : Ctx) (s : TxPool) (entry : Entry) (extra : Option Tx) (stem stemOk : Bool) : TxPool × Res :=
  if stem then
    match Pool.addToPool c s.stempool entry extra with
    | .error er => (s, some er)
    | .ok sp => if stemOk then ({ s with stempool := sp }, none) else admitTx c { s with stempool := sp } entry false
  else admitTx c s entry (decide (s.txpool.length > c.cfg.maxPool))

/-! ### the checks of `add_to_pool` as a list

`addCore` is read ONCE, into the list of its checks in order (`checks`; a later check looks at the entry / the
extra transaction the earlier ones produced, or at a default when they failed: it is not reached then) followed by
`admitInto`.  `addCore_cases` below and the stage list of `Props/C14Shape` both rest on `addCore_eq_checks`. -/

def entryD (s : TxPool) (src : Src) (tx : Tx) (stem : Bool) : Entry :=
  match entryOf s src tx stem with
  | .ok e => e
  | .error _ => { tx := tx, src := src }

def accOf (c : Ctx) (s : TxPool) (src : Src) (tx : Tx) (stem : Bool) : Res :=
  s.isAcceptable c (entryD s src tx stem).tx stem

def extraOf (c : Ctx) (s : TxPool) (stem : Bool) : Except Err (Option Tx) :=
  if stem then Pool.allAggregate c s.txpool none else .ok none

def extraD (c : Ctx) (s : TxPool) (stem : Bool) : Option Tx :=
  match extraOf c s stem with
  | .ok x => x
  | .error _ => none

def spendsOf (c : Ctx) (s : TxPool) (src : Src) (tx : Tx) (stem : Bool) : Except Err (List Nat × List Nat) :=
  if stem then s.stempool.locateSpends c (entryD s src tx stem).tx (extraD c s stem)
  else s.txpool.locateSpends c (entryD s src tx stem).tx none

def checks (c : Ctx) (s : TxPool) (src : Src) (tx : Tx) (stem : Bool) : List (Option Err) := [
  if s.txpool.containsTx tx then some "DuplicateTx" else none,
  match entryOf s src tx stem with | .error er => some er | .ok _ => none,
  verifyKernelVariants c (entryD s src tx stem).tx,
  if !(!stem && accOf c s src tx stem == some "OverCapacity") && (accOf c s src tx stem).isSome
    then accOf c s src tx stem else none,
  (entryD s src tx stem).tx.validate c .asTransaction,
  if (entryD s src tx stem).tx.lockHeight > c.head.height + 1 then some "ImmatureTransaction" else none,
  match extraOf c s stem with | .error er => some er | .ok _ => none,
  match spendsOf c s src tx stem with | .error er => some er | .ok _ => none,
  match spendsOf c s src tx stem with
    | .ok (_, su) => if immatureCoinbase c su then some "ImmatureCoinbase" else none
    | .error _ => none ]

theorem guard_isSome_none {α : Type} {b : Bool} {a : Option α}
    (h : (if (b && a.isSome) = true then a else none) = none) : (b && a.isSome) = false := by
  by_cases hb : (b && a.isSome) = true
  · rw [if_pos hb] at h; simp [h] at hb
  · simpa using hb

theorem addCore_eq_checks (c : Ctx) (s : TxPool) (src : Src) (tx : Tx) (stem stemOk : Bool) :
    s.addCore c src tx stem stemOk =
      match (checks c s src tx stem).findSome? id with
      | some er => (s, some er)
      | none => admitInto c s (entryD s src tx stem) (extraD c s stem) stem stemOk := by
  -- walk down `addCore`; at every exit the facts collected so far decide `r`, the first check that answers
  generalize hr : (checks c s src tx stem).findSome? id = r
  simp only [checks, List.findSome?_cons, List.findSome?_nil, id_eq] at hr
  unfold TxPool.addCore
  by_cases hdup : s.txpool.containsTx tx = true
  · rw [if_pos hdup] at hr ⊢; subst hr; rfl
  rw [if_neg hdup] at hr ⊢
  cases hentry : entryOf s src tx stem with
  | error er =>
    simp only [hentry] at hr
    unfold entryOf at hentry
    simp only [hentry]
    subst hr; rfl
  | ok entry =>
  have hD : entryD s src tx stem = entry := by simp only [entryD, hentry]
  simp only [hentry, hD] at hr
  unfold entryOf at hentry
  simp only [hentry]
  cases hvar : verifyKernelVariants c entry.tx with
  | some er => simp only [hvar] at hr; subst hr; rfl
  | none =>
  simp only [hvar, accOf, hD] at hr ⊢
  by_cases hacc : (!(!stem && s.isAcceptable c entry.tx stem == some "OverCapacity") &&
      (s.isAcceptable c entry.tx stem).isSome) = true
  · rw [if_pos hacc] at hr ⊢
    obtain ⟨er, her⟩ := Option.isSome_iff_exists.mp (Bool.and_eq_true_iff.mp hacc).2
    rw [her] at hr ⊢; subst hr; rfl
  rw [if_neg hacc] at hr ⊢
  obtain ⟨_, _, hev⟩ := isAcceptable_pass (Bool.not_eq_true _ ▸ hacc)
  rw [hev]
  cases hval : entry.tx.validate c .asTransaction with
  | some er => simp only [hval] at hr; subst hr; rfl
  | none =>
  simp only [hval] at hr ⊢
  by_cases hlock : entry.tx.lockHeight > c.head.height + 1
  · rw [if_pos hlock] at hr ⊢; subst hr; rfl
  rw [if_neg hlock] at hr ⊢
  cases hextra : extraOf c s stem with
  | error er =>
    simp only [hextra] at hr
    unfold extraOf at hextra
    simp only [hextra]
    subst hr; rfl
  | ok extra =>
  have hX : extraD c s stem = extra := by simp only [extraD, hextra]
  simp only [hextra, spendsOf, hD, hX] at hr
  unfold extraOf at hextra
  simp only [hextra]
  cases hsp : (if stem then s.stempool.locateSpends c entry.tx extra else s.txpool.locateSpends c entry.tx none) with
  | error er => simp only [hsp] at hr; subst hr; rfl
  | ok sp =>
  obtain ⟨spPool, su⟩ := sp
  simp only [hsp] at hr ⊢
  by_cases hmat : immatureCoinbase c su = true
  · rw [if_pos hmat] at hr ⊢; subst hr; rfl
  rw [if_neg hmat] at hr ⊢
  subst hr
  simp only [hD, hX]
  unfold admitInto admitTx
  cases stem with
  | false => rfl
  | true =>
    simp only [if_true]
    cases Pool.addToPool c s.stempool entry extra with
    | error er => rfl
    | ok sp => cases stemOk <;> rfl

theorem addCore_cases (c : Ctx) (s : TxPool) (src : Src) (tx : Tx) (stem stemOk : Bool) :
    (∃ er, s.addCore c src tx stem stemOk = (s, some er)) ∨
    ∃ entry extra su, Passed c s src tx stem entry extra su ∧
      s.addCore c src tx stem stemOk = admitInto c s entry extra stem stemOk := by
  rw [addCore_eq_checks]
  cases hf : (checks c s src tx stem).findSome? id with
  | some er => exact .inl ⟨er, rfl⟩
  | none =>
    -- every check answered `none`: these are the fields of `Passed`
    have hall := List.findSome?_eq_none_iff.mp hf
    simp only [checks, List.mem_cons, List.not_mem_nil, or_false, forall_eq_or_imp, forall_eq, id_eq,
      ite_eq_iff_of_ne (Option.some_ne_none _)] at hall
    obtain ⟨_, hentry, hvar, hacc, hval, hlock, hextra, hsp, hmat⟩ := hall
    cases he : entryOf s src tx stem with
    | error er => rw [he] at hentry; cases hentry
    | ok entry =>
    cases hx : extraOf c s stem with
    | error er => rw [hx] at hextra; cases hextra
    | ok extra =>
    have hD : entryD s src tx stem = entry := by simp only [entryD, he]
    have hX : extraD c s stem = extra := by simp only [extraD, hx]
    cases hs : spendsOf c s src tx stem with
    | error er => rw [hs] at hsp; cases hsp
    | ok r =>
    obtain ⟨sp, su⟩ := r
    rw [hs] at hmat
    rw [hD] at hvar hval hlock
    simp only [accOf, hD] at hacc
    obtain ⟨hpaid, hcap, _⟩ := isAcceptable_pass (guard_isSome_none hacc)
    refine .inr ⟨entry, extra, su, ⟨he, hvar, hpaid, hcap, hval, Nat.le_of_not_lt hlock.1, hx, ⟨sp, ?_⟩, ?_⟩,
      by rw [hD, hX]⟩
    · simpa only [spendsOf, hD, hX] using hs
    · simpa using ((ite_eq_iff_of_ne (Option.some_ne_none _)).mp hmat).1

/-- `st`: the path actually taken — a stem transaction already in the stempool is fluffed -/
theorem addToPool_cases (c : Ctx) (s : TxPool) (src : Src) (tx : Tx) (stem stemOk : Bool) :
    (∃ er, s.addToPool c src tx stem stemOk = (s, some er)) ∨
    ∃ st entry extra su, (stem = false → st = false) ∧ Passed c s src tx st entry extra su ∧
      s.addToPool c src tx stem stemOk = admitInto c s entry extra st stemOk := by
  have ⟨st, hst, heq⟩ : ∃ st, (stem = false → st = false) ∧
      s.addToPool c src tx stem stemOk = s.addCore c src tx st stemOk := by
    unfold TxPool.addToPool
    split
    · exact ⟨false, fun _ => rfl, rfl⟩
    · exact ⟨stem, id, rfl⟩
  rw [heq]
  rcases addCore_cases c s src tx st stemOk with h | ⟨entry, extra, su, hp, h⟩
  · exact .inl h
  · exact .inr ⟨st, entry, extra, su, hst, hp, h⟩

theorem addCore_refused {c : Ctx} {s : TxPool} {src : Src} {tx : Tx} {stem stemOk : Bool}
    (h : ∀ entry extra su, ¬ Passed c s src tx stem entry extra su) :
    ∃ er, s.addCore c src tx stem stemOk = (s, some er) := by
  rcases addCore_cases c s src tx stem stemOk with h' | ⟨entry, extra, su, hp, _⟩
  · exact h'
  · exact absurd hp (h entry extra su)

theorem addToPool_refused {c : Ctx} {s : TxPool} {src : Src} {tx : Tx} {stem stemOk : Bool}
    (h : ∀ st entry extra su, ¬ Passed c s src tx st entry extra su) :
    ∃ er, s.addToPool c src tx stem stemOk = (s, some er) := by
  rcases addToPool_cases c s src tx stem stemOk with h' | ⟨st, entry, extra, su, _, hp, _⟩
  · exact h'
  · exact absurd hp (h st entry extra su)

theorem mem_addToReorgCache {c : Ctx} {s : TxPool} {e x : Entry} (h : x ∈ (s.addToReorgCache c e).cache) :
    x ∈ s.cache ∨ x = e :=
  mem_push_bounded h

theorem admitTx_cases (c : Ctx) (s : TxPool) (entry : Entry) (evict : Bool) :
    (∃ er, admitTx c s entry evict = (s, some er)) ∨
    ∃ s2 : TxPool, s2.txpool = s.txpool ++ [entry] ∧ TxpoolOK c s2.txpool ∧
      NetOK (utxoIds c) (s2.stempool.txs ++ s2.txpool.txs) ∧ (∀ x ∈ s2.stempool, x ∈ s.stempool) ∧
      s2.cache = s.cache ∧
      admitTx c s entry evict =
        ({ txpool := if evict then s2.txpool.evict c else s2.txpool, stempool := s2.stempool,
           cache := (s2.addToReorgCache c entry).cache }, none) := by
  unfold admitTx
  rcases addToTxpool_cases c s entry with ⟨er, h⟩ | ⟨s2, h, h1, h2, h3, h4, h5⟩
  · rw [h]; exact .inl ⟨er, rfl⟩
  · rw [h]
    refine .inr ⟨s2, h1, h2, h3, h4, h5, ?_⟩
    cases evict <;> rfl

theorem admitInto_members (c : Ctx) (s : TxPool) (entry : Entry) (extra : Option Tx) (stem stemOk : Bool) :
    (∀ x ∈ (admitInto c s entry extra stem stemOk).1.txpool, x ∈ s.txpool ∨ x = entry) ∧
    (∀ x ∈ (admitInto c s entry extra stem stemOk).1.stempool, x ∈ s.stempool ∨ x = entry) ∧
    ((admitInto c s entry extra stem stemOk).1.cache = s.cache ∨
      (admitInto c s entry extra stem stemOk).1.cache = (s.addToReorgCache c entry).cache) := by
  have tail : ∀ (s1 : TxPool) (ev : Bool), s1.txpool = s.txpool → (∀ x ∈ s1.stempool, x ∈ s.stempool ∨ x = entry) →
      s1.cache = s.cache →
      (∀ x ∈ (admitTx c s1 entry ev).1.txpool, x ∈ s.txpool ∨ x = entry) ∧
      (∀ x ∈ (admitTx c s1 entry ev).1.stempool, x ∈ s.stempool ∨ x = entry) ∧
      ((admitTx c s1 entry ev).1.cache = s.cache ∨
        (admitTx c s1 entry ev).1.cache = (s.addToReorgCache c entry).cache) := by
    intro s1 ev e1 e2 e3
    rcases admitTx_cases c s1 entry ev with ⟨er, h⟩ | ⟨s2, h1, _, _, h4, h5, h⟩
    · rw [h]; exact ⟨fun x hx => .inl (e1 ▸ hx), e2, .inl e3⟩
    · rw [h]
      refine ⟨fun x hx => ?_, fun x hx => e2 x (h4 x hx), .inr ?_⟩
      · have hx' : x ∈ s2.txpool := by
          cases ev
          · exact hx
          · exact mem_evict hx
        rw [h1, e1] at hx'
        rcases List.mem_append.mp hx' with hx' | hx'
        · exact .inl hx'
        · exact .inr (by simpa using hx')
      · show (s2.addToReorgCache c entry).cache = (s.addToReorgCache c entry).cache
        unfold TxPool.addToReorgCache
        rw [h5, e3]
  unfold admitInto
  cases stem with
  | false => exact tail s _ rfl (fun x hx => .inl hx) rfl
  | true =>
    simp only [if_true]
    cases hadd : Pool.addToPool c s.stempool entry extra with
    | error er => exact ⟨fun x hx => .inl hx, fun x hx => .inl hx, .inl rfl⟩
    | ok sp =>
      have hsp : ∀ x ∈ sp, x ∈ s.stempool ∨ x = entry := by
        intro x hx
        rw [(addToPool_ok hadd).1] at hx
        rcases List.mem_append.mp hx with hx | hx
        · exact .inl hx
        · exact .inr (by simpa using hx)
      cases stemOk with
      | true => exact ⟨fun x hx => .inl hx, hsp, .inl rfl⟩
      | false => exact tail _ _ rfl hsp rfl

theorem addToPool_allE {P : Entry → Prop} {c : Ctx} {s : TxPool} (src : Src) (tx : Tx) (stem stemOk : Bool)
    (hv : AllE P s) (hP : ∀ st entry extra su, Passed c s src tx st entry extra su → P entry) :
    AllE P (s.addToPool c src tx stem stemOk).1 := by
  rcases addToPool_cases c s src tx stem stemOk with ⟨er, h⟩ | ⟨st, entry, extra, su, _, hp, h⟩
  · rw [h]; exact hv
  · rw [h]
    obtain ⟨m1, m2, m3⟩ := admitInto_members c s entry extra st stemOk
    have hp : ∀ {x}, x = entry → P x := fun h => h ▸ hP st entry extra su hp
    refine allE_of_subset hv (fun x hx => (m1 x hx).imp_right hp) (fun x hx => (m2 x hx).imp_right hp)
      (fun x hx => ?_)
    rcases m3 with m3 | m3
    · exact .inl (m3 ▸ hx)
    · exact (mem_addToReorgCache (m3 ▸ hx)).imp_right hp

/-- What one call of `add_to_pool` can do to txpool and stempool, from ANY state (no invariant
assumed): nothing; a validated stem entry; a validated txpool entry; a validated txpool entry
followed by an eviction (exactly when the txpool was over `max_pool_size`). -/
inductive Outcome (c : Ctx) (s : TxPool) (stem : Bool) (r : TxPool × Res) : Prop
  | refused (er : Err) (h : r = (s, some er))
  | stemmed (hs : stem = true) (hc : s.txpool.length ≤ c.cfg.maxPool) (h1 : r.1.txpool = s.txpool)
      (h2 : NetOK (utxoIds c) (r.1.stempool.txs ++ s.txpool.txs))
  | added (h0 : r.2 = none) (hc : s.txpool.length ≤ c.cfg.maxPool)
      (h1 : TxpoolOK c r.1.txpool) (h2 : NetOK (utxoIds c) (r.1.stempool.txs ++ r.1.txpool.txs))
  | evicted (p : Pool) (h0 : r.2 = none) (hs : stem = false) (hc : s.txpool.length > c.cfg.maxPool)
      (h1 : TxpoolOK c p) (h2 : r.1.txpool = p.evict c)
      (h3 : NetOK (utxoIds c) (r.1.stempool.txs ++ p.txs))

theorem admitInto_outcome {c : Ctx} {s : TxPool} {entry : Entry} {extra : Option Tx} {stem : Bool} (stemOk : Bool)
    (hcap : stem = true → s.txpool.length ≤ c.cfg.maxPool)
    (hextra : (if stem then Pool.allAggregate c s.txpool none else .ok none) = .ok extra) :
    Outcome c s stem (admitInto c s entry extra stem stemOk) := by
  unfold admitInto
  cases stem with
  | false =>
    simp only [Bool.false_eq_true, if_false]
    rcases admitTx_cases c s entry (decide (s.txpool.length > c.cfg.maxPool)) with ⟨er, h⟩ | ⟨s2, _, h2, h3, _, _, h⟩
    · rw [h]; exact .refused er rfl
    · rw [h]
      by_cases hov : s.txpool.length > c.cfg.maxPool
      · simp only [hov, decide_true, if_true]
        exact .evicted s2.txpool rfl rfl hov h2 rfl h3
      · simp only [hov, decide_false, Bool.false_eq_true, if_false]
        exact .added rfl (by omega) h2 h3
  | true =>
    simp only [if_true] at hextra ⊢
    cases hadd : Pool.addToPool c s.stempool entry extra with
    | error er => exact .refused er rfl
    | ok sp =>
      have hst : NetOK (utxoIds c) (sp.txs ++ s.txpool.txs) := netOK_unfold_extra hextra (netOK_of_add hadd).2
      cases stemOk with
      | true => exact .stemmed rfl (hcap rfl) rfl hst
      | false =>
        simp only [Bool.false_eq_true, if_false]
        rcases admitTx_cases c { s with stempool := sp } entry false with ⟨er, h⟩ | ⟨s2, _, h2, h3, _, _, h⟩
        · rw [h]; exact .stemmed rfl (hcap rfl) rfl hst
        · rw [h]; exact .added rfl (hcap rfl) h2 h3

theorem addToPool_outcome (c : Ctx) (s : TxPool) (src : Src) (tx : Tx) (stem stemOk : Bool) :
    ∃ stem', (stem = false → stem' = false) ∧ Outcome c s stem' (s.addToPool c src tx stem stemOk) := by
  rcases addToPool_cases c s src tx stem stemOk with ⟨er, h⟩ | ⟨st, entry, extra, su, hst, hp, h⟩
  · exact ⟨stem, id, .refused er h⟩
  · exact ⟨st, hst, h ▸ admitInto_outcome stemOk hp.cap hp.agg⟩

theorem addToPool_inv {c : Ctx} {s : TxPool} (src : Src) (tx : Tx) (stem stemOk : Bool)
    (hInv : Inv c s) (hcap : s.txpool.length ≤ c.cfg.maxPool) :
    Inv c (s.addToPool c src tx stem stemOk).1 := by
  have hv : AllValid c (s.addToPool c src tx stem stemOk).1 :=
    addToPool_allE (P := fun e => e.tx.validate c .asTransaction = none) src tx stem stemOk hInv.valid
      fun _ _ _ _ hp => hp.valid
  obtain ⟨_, _, hout⟩ := addToPool_outcome c s src tx stem stemOk
  cases hout with
  | refused er h => rw [h]; exact hInv
  | stemmed _ _ h1 h2 => exact ⟨hv, h1 ▸ hInv.txOK, h1 ▸ h2⟩
  | added _ _ h1 h2 => exact ⟨hv, h1, h2⟩
  | evicted _ _ _ hc _ _ _ => omega

/-! ## the other operations, and histories -/

theorem validate_indep_head (c : Ctx) (head : GV.Chain.UState) (ver : Nat) (w : Weighting) (t : Tx) :
    t.validate { c with head := head, ver := ver } w = t.validate c w := rfl

theorem allValid_indep_head {c : Ctx} {s : TxPool} (head : GV.Chain.UState) (ver : Nat) (h : AllValid c s) :
    AllValid { c with head := head, ver := ver } s := fun e he => h e he

theorem mem_reconcileBlock {p : Pool} {ins kers : List Nat} {e : Entry} (h : e ∈ p.reconcileBlock ins kers) :
    e ∈ p := by
  unfold Pool.reconcileBlock at h
  exact (List.mem_filter.mp h).1

theorem reconcileBlock_inv {c : Ctx} {s : TxPool} (ins kers : List Nat) (hv : AllValid c s) :
    Inv c (s.reconcileBlock c ins kers).1 := by
  unfold TxPool.reconcileBlock
  simp only []
  have htp := reconcile_txpoolOK c (s.txpool.reconcileBlock ins kers)
  split
  · rename_i er hagg
    exact absurd hagg (allAggregate_ne_error htp er)
  · rename_i agg hagg
    refine ⟨?_, htp, stem_reconciled htp hagg⟩
    intro e he
    rcases he with he | he | he
    · exact hv e (Or.inl (mem_reconcileBlock (reconcile_subset c none _ e he)))
    · exact hv e (Or.inr (Or.inl (mem_reconcileBlock (reconcile_subset c agg _ e he))))
    · exact hv e (Or.inr (Or.inr he))

theorem reconcileBlock_members (c : Ctx) (s : TxPool) (ins kers : List Nat) :
    (∀ e ∈ (s.reconcileBlock c ins kers).1.txpool, e ∈ s.txpool) ∧
    (∀ e ∈ (s.reconcileBlock c ins kers).1.stempool, e ∈ s.stempool) ∧
    (s.reconcileBlock c ins kers).1.cache = s.cache := by
  unfold TxPool.reconcileBlock
  simp only []
  split
  · refine ⟨fun e he => ?_, fun e he => ?_, rfl⟩
    · exact (mem_reconcileBlock (reconcile_subset c none _ e he))
    · exact (mem_reconcileBlock he)
  · refine ⟨fun e he => ?_, fun e he => ?_, rfl⟩
    · exact (mem_reconcileBlock (reconcile_subset c none _ e he))
    · exact (mem_reconcileBlock (reconcile_subset c _ _ e he))

theorem step_allE {P : Entry → Prop} (cs : Ctx × TxPool) (op : Op) (hv : AllE P cs.2)
    (hP : ∀ src tx stem ok, op = .submit src tx stem ok → ∀ st entry extra su,
      Passed cs.1 cs.2 src tx st entry extra su → P entry) :
    AllE P (step cs op).2 := by
  cases op with
  | submit src tx stem ok => exact addToPool_allE src tx stem ok hv (hP src tx stem ok rfl)
  | block head ver ins kers =>
    obtain ⟨m1, m2, m3⟩ := reconcileBlock_members { cs.1 with head := head, ver := ver } cs.2 ins kers
    exact allE_of_subset hv (fun e he => .inl (m1 e he)) (fun e he => .inl (m2 e he)) (fun e he => .inl (m3 ▸ he))
  | reorgCache =>
    rw [step_reorgCache]
    obtain ⟨m1, m2, m3⟩ := replay_members cs.1 cs.2.cache cs.2
    exact allE_of_subset hv (fun e he => (m1 e he).imp_right fun h => hv e (.inr (.inr h)))
      (fun e he => .inl (m2 e he)) (fun e he => .inl (m3 ▸ he))
  | evict => exact allE_of_subset hv (fun _ he => .inl (mem_evict he)) (fun _ he => .inl he) (fun _ he => .inl he)
  | truncate n =>
    exact allE_of_subset hv (fun _ he => .inl he) (fun _ he => .inl he) (fun _ he => .inl (List.mem_of_mem_drop he))

/-- `step_allE` for a property that reads the context, but neither the head nor the header version: no
operation changes anything else of it -/
theorem step_allE_ctx {P : Ctx → Entry → Prop}
    (hP : ∀ c head ver, P { c with head := head, ver := ver } = P c) (cs : Ctx × TxPool) (op : Op)
    (hv : AllE (P cs.1) cs.2)
    (hadm : ∀ src tx stem ok, op = .submit src tx stem ok → ∀ st entry extra su,
      Passed cs.1 cs.2 src tx st entry extra su → P cs.1 entry) :
    AllE (P (step cs op).1) (step cs op).2 := by
  have h := step_allE cs op hv hadm
  cases op with
  | block head ver ins kers => exact (hP cs.1 head ver).symm ▸ h
  | _ => exact h

theorem step_allValid (cs : Ctx × TxPool) (op : Op) (hv : AllValid cs.1 cs.2) :
    AllValid (step cs op).1 (step cs op).2 :=
  step_allE_ctx (P := fun c e => e.tx.validate c .asTransaction = none)
    (fun c head ver => funext fun e => congrArg (· = none) (validate_indep_head c head ver _ e.tx)) cs op hv
    fun _ _ _ _ _ _ _ _ _ hp => hp.valid

theorem run_append (cs : Ctx × TxPool) (a b : List Op) : run cs (a ++ b) = run (run cs a) b := by
  simp only [run, List.foldl_append]

theorem step_cfg (cs : Ctx × TxPool) (op : Op) : (step cs op).1.cfg = cs.1.cfg := by
  cases op <;> rfl

theorem run_ind {I : Ctx × TxPool → Prop} {cs : Ctx × TxPool} (ops : List Op) (h0 : I cs)
    (hstep : ∀ cs op, I cs → I (step cs op)) : I (run cs ops) :=
  ops.foldlRecOn step h0 fun cs h op _ => hstep cs op h

theorem run_cfg (cs : Ctx × TxPool) (ops : List Op) : (run cs ops).1.cfg = cs.1.cfg :=
  run_ind (I := fun x => x.1.cfg = cs.1.cfg) ops rfl fun x op h => (step_cfg x op).trans h

theorem run_allValid (cs : Ctx × TxPool) (ops : List Op) (hv : AllValid cs.1 cs.2) :
    AllValid (run cs ops).1 (run cs ops).2 :=
  run_ind (I := fun x => AllValid x.1 x.2) ops hv step_allValid

theorem step_inv (cs : Ctx × TxPool) (op : Op) (hInv : Inv cs.1 cs.2) (hne : ¬ evicts cs op) :
    Inv (step cs op).1 (step cs op).2 := by
  cases op with
  | submit src tx stem ok =>
    have hcap : cs.2.txpool.length ≤ cs.1.cfg.maxPool := by
      simp only [evicts] at hne; omega
    exact addToPool_inv src tx stem ok hInv hcap
  | block head ver ins kers => exact reconcileBlock_inv ins kers (allValid_indep_head head ver hInv.valid)
  | reorgCache =>
    -- nothing went back, or everything was validated after the last entry that did
    rcases replay_cases cs.1 cs.2.cache cs.2 with h | ⟨h1, h2⟩
    · rw [step_reorgCache, h]; exact hInv
    · exact ⟨step_allValid cs .reorgCache hInv.valid, h1, h2⟩
  | evict => exact absurd trivial hne
  | truncate n => exact ⟨step_allValid cs (.truncate n) hInv.valid, hInv.txOK, hInv.stem⟩

theorem run_inv (cs : Ctx × TxPool) (ops : List Op) (hInv : Inv cs.1 cs.2) (hne : NoEvict cs ops) :
    Inv (run cs ops).1 (run cs ops).2 := by
  induction ops generalizing cs with
  | nil => exact hInv
  | cons op rest ih => exact ih (step cs op) (step_inv cs op hInv hne.1) hne.2

/-! ## the empty pool; `NoEvict` is decidable (the witnesses over concrete histories evaluate it) -/

theorem inv_empty (c : Ctx) : Inv c {} :=
  ⟨allE_empty, Or.inl rfl, by simpa using netOK_nil _⟩

instance (cs : Ctx × TxPool) (op : Op) : Decidable (evicts cs op) := by
  cases op <;> unfold evicts <;> infer_instance

instance instDecNoEvict : (cs : Ctx × TxPool) → (ops : List Op) → Decidable (NoEvict cs ops)
  | _, [] => isTrue trivial
  | cs, op :: ops =>
    have := instDecNoEvict (step cs op) ops
    by unfold NoEvict; infer_instance

end GV.Pool
