import GrinVerif.Model.CodecConn
import GrinVerif.Lemmas.CodecRun
/-! The reader thread of `conn::poll` with the handler in the loop (`connLoop`) against the framing
loop (`run`): what the thread does with one message is named (`turn`); `connLoop` and `connView` each follow it. -/
namespace GV.Codec
open GV GV.Ser GV.Dec GV.Msg GV.Gen.Msg GV.Gen.CodecConn

variable {B H : Type}

/-- the view of the connection agrees with `v`; where `v` names no reason for leaving, the loop was left
for the codec's reason `r` -/
structure Agrees (ov v : ConnView B H) (r : Res B H) : Prop where
  handed : ov.handed = v.handed
  sent : ov.sent = v.sent
  files : ov.files = v.files
  stop : ov.stop = (match v.stop with
    | some w => some w
    | none => some (.codec r))

theorem agrees_push (ov v : ConnView B H) (r : Res B H) (m : Message B H) (snt : List OutMsg) (fl : List Bytes)
    (h : Agrees ov v r) : Agrees (ov.push m snt fl) (v.push m snt fl) r where
  handed := by simp only [ConnView.push, h.handed]
  sent := by simp only [ConnView.push, h.sent]
  files := by simp only [ConnView.push, h.files]
  stop := by simpa only [ConnView.push] using h.stop

theorem agrees_end (handler : Message B H → Consumed) (file : Option Bytes) (r : Res B H) :
    Agrees { handed := [], sent := [], files := [], stop := some (.codec r) } (connView handler file []) r := by
  cases file <;> exact ⟨rfl, rfl, rfl, rfl⟩

theorem attachOf_not (handler : Message B H → Consumed) (m : Message B H) (h : ∀ size, handler m ≠ .attachment size) :
    attachOf handler m = none := by
  unfold attachOf
  cases hm : handler m with
  | attachment size => exact absurd hm (h size)
  | none => rfl
  | response r => rfl
  | disconnect => rfl
  | err t => rfl

/-- what the reader thread does with one message -/
inductive Turn (B H : Type)
  /-- `Unknown`: `continue`, nothing is handed over -/
  | skip
  /-- `m'` is handed over, `snt` queued, `done` closed; the loop goes on with `file'`, after `expect_attachment(size)`
  when `att = some size` -/
  | go (m' : Message B H) (snt : List OutMsg) (done : List Bytes) (file' : Option Bytes) (att : Option Nat)
  | stop (handed : List (Message B H)) (done : List Bytes) (why : ConnEnd B H)

/-- the handler's answer to `m'`, with the files `done` closed by this message and the file open after it -/
def Turn.ofConsumed (m' : Message B H) (done : List Bytes) (file' : Option Bytes) : Consumed → Turn B H
  | .none => .go m' [] done file' none
  | .err true => .go m' [] done file' none
  | .response r => .go m' [r] done file' none
  | .attachment size => .go m' [] done (some []) (some size)
  | .disconnect => .stop [m'] done .disconnect
  | .err false => .stop [m'] done .handlerErr

def turn (handler : Message B H → Consumed) (file : Option Bytes) : Message B H → Turn B H
  | .unknown _ => .skip
  | .attachment n left bytes =>
    match file with
    | none => .stop [] [] .unexpectedAttachment
    | some content =>
      .ofConsumed (.attachment n left []) (if left = 0 then [content ++ bytes] else [])
        (if left = 0 then none else some (content ++ bytes)) (handler (.attachment n left []))
  | m => .ofConsumed m [] file (handler m)

def Turn.att : Turn B H → Option Nat
  | .go _ _ _ _ att => att
  | _ => none

theorem turn_plain (handler : Message B H → Consumed) (file : Option Bytes) {m : Message B H}
    (hm : ∀ t, m ≠ .unknown t) (ha : ∀ a b c, m ≠ .attachment a b c) :
    turn handler file m = .ofConsumed m [] file (handler m) := by
  cases m with
  | unknown t => exact absurd rfl (hm t)
  | attachment a b c => exact absurd rfl (ha a b c)
  | body t v => rfl
  | headers hs rem => rfl

theorem connView_cons (handler : Message B H → Consumed) (file : Option Bytes) (m : Message B H) (ms : List (Message B H)) :
    connView handler file (m :: ms) =
      match turn handler file m with
      | .skip => connView handler file ms
      | .go m' snt done file' _ => (connView handler file' ms).push m' snt done
      | .stop h done w => { handed := h, sent := [], files := done, stop := some w } := by
  cases m with
  | unknown t => rfl
  | attachment n left bytes =>
    cases file with
    | none => rfl
    | some content => simp only [connView, turn]; cases handler (.attachment n left []) with
      | err tol => cases tol <;> rfl
      | _ => rfl
  | body t v => simp only [connView, turn]; cases handler (.body t v) with
      | err tol => cases tol <;> rfl
      | _ => rfl
  | headers hs rem => simp only [connView, turn]; cases handler (.headers hs rem) with
      | err tol => cases tol <;> rfl
      | _ => rfl

theorem connLoop_msg_view {σ : Type} (rd : Codec H → σ → ReadOut B H σ) (retry : Bool) (handler : Message B H → Consumed)
    (fuel : Nat) (c : Codec H) (s : σ) (file : Option Bytes) (m : Message B H) (hr : (rd c s).res = .msg m) :
    (connLoop rd retry handler (fuel + 1) c s file).view =
      match turn handler file m with
      | .skip => (connLoop rd retry handler fuel (rd c s).codec (rd c s).sock file).view
      | .go m' snt done file' att =>
        match nextCodec (fun _ => att) (rd c s).codec m' with
        | none => { handed := [m'], sent := [], files := done, stop := some .assertion }
        | some c' => (connLoop rd retry handler fuel c' (rd c s).sock file').view.push m' snt done
      | .stop h done w => { handed := h, sent := [], files := done, stop := some w } := by
  cases m with
  | unknown t => simp only [connLoop, hr, turn, ConnOut.push]
  | attachment n left bytes =>
    cases file with
    | none => simp only [connLoop, hr, turn]
    | some content =>
      simp only [connLoop, hr, turn]
      cases handler (.attachment n left []) with
      | err tol => cases tol <;> rfl
      | attachment size => simp only [Turn.ofConsumed, nextCodec]; cases expectAttachment (rd c s).codec size <;> rfl
      | _ => rfl
  | body t v =>
    simp only [connLoop, hr, turn]
    cases handler (.body t v) with
    | err tol => cases tol <;> rfl
    | attachment size => simp only [Turn.ofConsumed, nextCodec]; cases expectAttachment (rd c s).codec size <;> rfl
    | _ => rfl
  | headers hs rem =>
    simp only [connLoop, hr, turn]
    cases handler (.headers hs rem) with
    | err tol => cases tol <;> rfl
    | attachment size => simp only [Turn.ofConsumed, nextCodec]; cases expectAttachment (rd c s).codec size <;> rfl
    | _ => rfl

theorem ofConsumed_att (m' : Message B H) (done : List Bytes) (file' : Option Bytes) (k : Consumed) :
    (Turn.ofConsumed m' done file' k).att = (match k with
      | .attachment size => some size
      | _ => none) := by
  cases k with
  | err tol => cases tol <;> rfl
  | _ => rfl

theorem attachOf_turn (handler : Message B H → Consumed) (hat : AttachOK (attachOf handler)) (file : Option Bytes)
    (m : Message B H) : attachOf handler m = (turn handler file m).att := by
  cases m with
  | unknown t => exact hat.unknown t
  | attachment n left bytes =>
    rw [hat.attachment]
    cases file with
    | none => rfl
    | some content => exact (hat.attachment n left []).symm.trans (ofConsumed_att _ _ _ _).symm
  | body t v => exact (ofConsumed_att _ _ _ _).symm
  | headers hs rem => exact (ofConsumed_att _ _ _ _).symm

theorem connLoopG_view {σ : Type} (rd : Codec H → σ → ReadOut B H σ) (retry : Bool) (handler : Message B H → Consumed)
    (hat : AttachOK (attachOf handler)) : ∀ (fuel : Nat) (c : Codec H) (s : σ) (file : Option Bytes),
    (runG rd retry (attachOf handler) fuel c s).2.1 ≠ .panic .assertion →
    Agrees (connLoop rd retry handler fuel c s file).view
      (connView handler file (runG rd retry (attachOf handler) fuel c s).1)
      (runG rd retry (attachOf handler) fuel c s).2.1 := by
  intro fuel
  induction fuel with
  | zero => intro c s file _; exact agrees_end handler file .hang
  | succ fuel ih =>
    intro c s file hna
    cases hr : (rd c s).res with
    | msg m =>
      rw [connLoop_msg_view rd retry handler fuel c s file m hr]
      have hatt := attachOf_turn handler hat file m
      cases hn : nextCodec (attachOf handler) (rd c s).codec m with
      | none =>
        exact absurd (runG_msg_none rd retry (attachOf handler) fuel c s m hr hn) hna
      | some c' =>
        rw [runG_msg rd retry (attachOf handler) fuel c s hr hn] at hna ⊢
        rw [connView_cons]
        unfold nextCodec at hn
        rw [hatt] at hn
        cases ht : turn handler file m with
        | skip =>
          rw [ht] at hn
          cases hn
          exact ih _ _ file hna
        | go m' snt done file' att =>
          rw [ht] at hn
          simp only [Turn.att] at hn
          simp only [nextCodec, hn]
          exact agrees_push _ _ _ _ _ _ (ih c' _ file' hna)
        | stop h done w => exact ⟨rfl, rfl, rfl, rfl⟩
    | err e =>
      by_cases he : retry = true ∧ e = .timedOut
      · have e0 := runG_err_retry rd retry (attachOf handler) fuel c s e hr he
        rw [e0] at hna ⊢
        simpa only [connLoop, hr, ConnOut.push, he, and_self, if_true] using ih (rd c s).codec (rd c s).sock file hna
      · rw [runG_err_leave rd retry (attachOf handler) fuel c s e hr he]
        simp only [connLoop, hr, he, if_false]
        exact agrees_end handler file _
    | panic st =>
      simp only [runG, connLoop, hr]
      exact agrees_end handler file _
    | hang =>
      simp only [runG, connLoop, hr]
      exact agrees_end handler file _

theorem connLoop_view {σ : Type} (env : Env B H) (ops : SockOps σ) (handler : Message B H → Consumed)
    (hat : AttachOK (attachOf handler)) (fuel : Nat) (c : Codec H) (s : σ) (file : Option Bytes)
    (hna : (run env ops (attachOf handler) fuel c s).2.1 ≠ .panic .assertion) :
    Agrees (connLoop (read env ops) false handler fuel c s file).view
      (connView handler file (run env ops (attachOf handler) fuel c s).1)
      (run env ops (attachOf handler) fuel c s).2.1 := by
  rw [run_eq_runG] at hna ⊢
  exact connLoopG_view (read env ops) false handler hat fuel c s file hna

theorem connLoopT_view (env : Env B H) (handler : Message B H → Consumed)
    (hat : AttachOK (attachOf handler)) (fuel : Nat) (c : Codec H) (s : TStream) (file : Option Bytes)
    (hna : (runT env (attachOf handler) fuel c s).2.1 ≠ .panic .assertion) :
    Agrees (connLoop (readT env) true handler fuel c s file).view
      (connView handler file (runT env (attachOf handler) fuel c s).1)
      (runT env (attachOf handler) fuel c s).2.1 := by
  rw [runT_eq_runG] at hna ⊢
  exact connLoopG_view (readT env) true handler hat fuel c s file hna

end GV.Codec
