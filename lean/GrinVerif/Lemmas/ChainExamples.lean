import GrinVerif.Model.Chain
/-! A small concrete block tree used by the non-vacuity examples of C01/C02/C03/C06/C13:

    0 ── 1 ── 3 ── 4        (3 spends the genesis output 100; 4 re-creates commitment 100)
     └── 2                  (a lighter sibling of 1)
         1 ── 9             (invalid: spends an output that never existed)
-/
namespace GV.Chain.Ex

def P : Params := { maturity := 3, reward := 60, hfInterval := 3, maxOrphans := 100 }

def G : Blk := { id := 0, parent := none, h := 0, work := 1, ver := 1, ts := 0, ins := [], outs := [(100, false)], kers := [.cb], tags := [] }
def B1 : Blk := { id := 1, parent := some 0, h := 1, work := 3, ver := 1, ts := 1, ins := [], outs := [(101, true)], kers := [.cb], tags := [] }
def B2 : Blk := { id := 2, parent := some 0, h := 1, work := 2, ver := 1, ts := 1, ins := [], outs := [(102, true)], kers := [.cb], tags := [] }
def B3 : Blk := { id := 3, parent := some 1, h := 2, work := 5, ver := 1, ts := 2, ins := [100], outs := [(103, true), (104, false)], kers := [.cb, .plain 0], tags := [] }
def B4 : Blk := { id := 4, parent := some 3, h := 3, work := 7, ver := 2, ts := 3, ins := [104], outs := [(105, true), (100, false)], kers := [.cb, .plain 0], tags := [] }
def B9 : Blk := { id := 9, parent := some 1, h := 2, work := 9, ver := 1, ts := 2, ins := [999], outs := [(109, true)], kers := [.cb], tags := [] }

def outs : List OutDef :=
  [⟨100, false, 60⟩, ⟨101, true, 60⟩, ⟨102, true, 60⟩, ⟨103, true, 60⟩, ⟨104, false, 60⟩,
   ⟨105, true, 60⟩, ⟨109, true, 60⟩]

/-- a fresh node over the tree -/
def N : Node := { outs := outs, blks := [G, B1, B2, B3, B4, B9] }

end GV.Chain.Ex
