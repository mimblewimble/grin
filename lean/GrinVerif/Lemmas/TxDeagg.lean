import GrinVerif.Lemmas.TxNormal
/-! Lemmas about `deaggregate` (C12): the membership loops and the offset subtraction for arbitrary arguments;
the whole result when the multi-kernel transaction is the aggregate of the known subset and a remainder. -/
namespace GV.Tx
open List

theorem mem_pushNew (other : List Nat) : ∀ (xs acc : List Nat) (x : Nat),
    x ∈ pushNew other acc xs ↔ x ∈ acc ∨ (x ∈ xs ∧ x ∉ other)
  | [], acc, x => by simp [pushNew]
  | y :: ys, acc, x => by
    unfold pushNew
    split
    · rename_i hc
      rw [mem_pushNew other ys acc x, mem_cons]
      have hy : y ∈ other ∨ y ∈ acc := by simpa using hc
      constructor
      · rintro (h | ⟨h1, h2⟩)
        · exact Or.inl h
        · exact Or.inr ⟨Or.inr h1, h2⟩
      · rintro (h | ⟨rfl | h1, h2⟩)
        · exact Or.inl h
        · exact Or.inl (hy.resolve_left h2)
        · exact Or.inr ⟨h1, h2⟩
    · rename_i hc
      rw [mem_pushNew other ys (acc ++ [y]) x, mem_append, mem_singleton, mem_cons]
      have hyo : y ∉ other := fun h => hc (by simp [h])
      constructor
      · rintro ((h | rfl) | ⟨h1, h2⟩)
        · exact Or.inl h
        · exact Or.inr ⟨Or.inl rfl, hyo⟩
        · exact Or.inr ⟨Or.inr h1, h2⟩
      · rintro (h | ⟨rfl | h1, h2⟩)
        · exact Or.inl (Or.inl h)
        · exact Or.inl (Or.inr rfl)
        · exact Or.inr ⟨h1, h2⟩

theorem pushNew_nodup (other : List Nat) : ∀ (xs acc : List Nat), acc.Nodup → (pushNew other acc xs).Nodup
  | [], acc, h => h
  | y :: ys, acc, h => by
    unfold pushNew
    split
    · exact pushNew_nodup other ys acc h
    · rename_i hc
      have hya : y ∉ acc := fun h => hc (by simp [h])
      apply pushNew_nodup other ys (acc ++ [y])
      rw [nodup_append]
      refine ⟨h, by simp, fun a ha b hb e => ?_⟩
      rw [mem_singleton.1 hb] at e
      exact hya (e ▸ ha)

theorem pushNew_perm {other xs l : List Nat} (nd : l.Nodup) (h : ∀ x, x ∈ l ↔ x ∈ xs ∧ x ∉ other) :
    pushNew other [] xs ~ l :=
  (perm_ext_iff_of_nodup (pushNew_nodup other xs [] nodup_nil) nd).2 fun x => by
    rw [mem_pushNew, h]; simp

/-- the offset branch of `deaggregate` is the scalar difference in every case (the "both empty"
shortcut and `blind_sum_or_zero` agree) -/
theorem deagg_offset_any (m a : Nat) :
    (if (toSecrets [m]).isEmpty && (toSecrets [a]).isEmpty then (.ok 0 : Except Err Nat)
      else blindSumOrZero (toSecrets [m]) (toSecrets [a])) = .ok (scalarSum (toSecrets [m]) (toSecrets [a])) := by
  rw [blindSumOrZero_eq]
  split
  · rename_i h
    simp only [Bool.and_eq_true, isEmpty_iff] at h
    rw [h.1, h.2]
    rfl
  · rfl

/-- the offset subtraction of `deaggregate` in closed form: always the remainder's offset sum,
zero included (`mk` offset = subset offset ≠ 0 gives the zero offset, not an error) -/
theorem deagg_offset (m a SA SB : Nat) (hm : m = (SA + SB) % N) (ha : a = SA % N) :
    (if (toSecrets [m]).isEmpty && (toSecrets [a]).isEmpty then (.ok 0 : Except Err Nat)
      else blindSumOrZero (toSecrets [m]) (toSecrets [a])) = .ok (SB % N) := by
  have hN : 0 < N := by decide
  subst hm ha
  rw [deagg_offset_any, scalarSum_pair (Nat.mod_lt _ hN) (Nat.mod_lt _ hN),
    add_mod_cancel_of_compl (Nat.add_sub_cancel' (Nat.le_of_lt (Nat.mod_lt _ hN)))]

/-- the known subset `A` and the remainder `B` may spend each other's outputs -/
theorem deaggregate_linked {K : Keys} {A B : List Tx} {mk a : Tx} (kinj : KInj K)
    (hn : ∀ t ∈ A ++ B, Normal K t)
    (ndI : (allIns K (A ++ B)).Nodup) (ndO : (allOuts (A ++ B)).Nodup) (ndK : (allKers (A ++ B)).Nodup)
    (once : ∀ x ∈ allIns K (A ++ B), ((allOuts (A ++ B)).map outCommit).count x ≤ 1)
    (hmk : aggregate K (A ++ B) = .ok mk) (hA : aggregate K A = .ok a) :
    deaggregate K mk A = .ok
      ⟨(toSecrets (allOffs B)).sum % N, false,
       sortBy K.ik ((allIns K B).filter fun x => !((allOuts (A ++ B)).map outCommit).contains x),
       sortBy K.ok ((allOuts B).filter fun o => !(allIns K (A ++ B)).contains (outCommit o)),
       sortBy K.kk (allKers B)⟩ := by
  have hnA : ∀ t ∈ A, Normal K t := fun t ht => hn t (mem_append_left _ ht)
  rw [aggregate_eq_full hn] at hmk
  have hA' := hA
  rw [aggregate_eq_full hnA] at hA'
  have m := aggregateFull_ok hmk
  have a' := aggregateFull_ok hA'
  have hm : mk.offset = ((toSecrets (allOffs A)).sum + (toSecrets (allOffs B)).sum) % N := by
    rw [m.offset, allOffs_append, toSecrets_append, sum_append]
  unfold deaggregate
  rw [hA]
  simp only [Tx.inputsCO_of_not_v2 K m.v2, Tx.inputsCO_of_not_v2 K a'.v2]
  rw [deagg_offset mk.offset a.offset _ _ hm a'.offset, m.inputs, m.outputs, m.kernels, a'.inputs, a'.outputs,
    a'.kernels]
  have onceI : ∀ c ∈ (allOuts (A ++ B)).map outCommit, (allIns K (A ++ B)).count c ≤ 1 :=
    fun c _ => nodup_iff_count.1 ndI c
  rw [allIns_append] at ndI once onceI
  rw [allOuts_append] at ndO once onceI
  rw [allKers_append] at ndK
  have onceA : ∀ x ∈ allIns K A, ((allOuts A).map outCommit).count x ≤ 1 := fun x hx =>
    Nat.le_trans (by rw [map_append, count_append]; exact Nat.le_add_right _ _) (once x (mem_append_left _ hx))
  have onceIA : ∀ c ∈ (allOuts A).map outCommit, (allIns K A).count c ≤ 1 :=
    fun c _ => nodup_iff_count.1 (nodup_append.1 ndI).1 c
  -- each loop leaves a duplicate-free vector, so its content is settled by membership
  have fK : pushNew (sortBy K.kk (allKers A)) [] (sortBy K.kk (allKers (A ++ B))) ~ allKers B := by
    refine pushNew_perm (nodup_append.1 ndK).2.1 fun x => ?_
    simp only [allKers_append, mem_sortBy, mem_append]
    exact ⟨fun hb => ⟨Or.inr hb, fun ha => (nodup_append.1 ndK).2.2 x ha x hb rfl⟩, fun h => h.1.resolve_left h.2⟩
  have fI : pushNew (sortBy K.ik (cutOf K A).ins) [] (sortBy K.ik (cutOf K (A ++ B)).ins) ~
      (allIns K B).filter fun x => !((allOuts (A ++ B)).map outCommit).contains x := by
    refine pushNew_perm ((nodup_append.1 ndI).2.1.filter _) fun x => ?_
    simp only [cutOf, allIns_append, allOuts_append, mem_filter, mem_sortBy, mem_merged_ins_iff onceI,
      mem_merged_ins_iff onceIA, mem_append, Bool.not_eq_true', List.contains_eq_mem, decide_eq_false_iff_not,
      not_and, Decidable.not_not]
    have dis := (nodup_append.1 ndI).2.2
    simp only [map_append, mem_append, not_or]
    constructor
    · rintro ⟨hi, ho⟩
      exact ⟨⟨Or.inr hi, ho⟩, fun hia => absurd rfl (dis x hia x hi)⟩
    · rintro ⟨⟨hi | hi, ho⟩, hna⟩
      · exact absurd (hna hi) ho.1
      · exact ⟨hi, ho⟩
  have fO : pushNew (sortBy K.ok (cutOf K A).outs) [] (sortBy K.ok (cutOf K (A ++ B)).outs) ~
      (allOuts B).filter fun o => !(allIns K (A ++ B)).contains (outCommit o) := by
    refine pushNew_perm ((nodup_append.1 ndO).2.1.filter _) fun o => ?_
    simp only [cutOf, allIns_append, allOuts_append, mem_filter, mem_sortBy, mem_merged_outs_iff once,
      mem_merged_outs_iff onceA, mem_append, Bool.not_eq_true', List.contains_eq_mem, decide_eq_false_iff_not,
      not_and, Decidable.not_not, not_or]
    constructor
    · rintro ⟨ho, hi⟩
      exact ⟨⟨Or.inr ho, hi⟩, fun hoa => absurd rfl ((nodup_append.1 ndO).2.2 o hoa o ho)⟩
    · rintro ⟨⟨ho | ho, hi⟩, hna⟩
      · exact absurd (hna ho) hi.1
      · exact ⟨ho, hi⟩
  rw [sortBy_congr (kinj.ik _) fI, sortBy_congr (kinj.ok _) fO, sortBy_congr (kinj.kk _) fK]

end GV.Tx
