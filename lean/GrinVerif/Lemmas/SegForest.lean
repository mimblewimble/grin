import GrinVerif.Lemmas.PmmrPeaks
import GrinVerif.Lemmas.SegTree
/-! The final, not full segment: its position range `[mmr (idx·2^h), size-1]` is tiled by the
subtrees of the peaks it contains (the low part of the forest of the leaf count), in post-order.
Forest split at a segment boundary, tiling, stack depth of the loop of `Segment::root` over the
final range, identifier arithmetic of the final segment and of every identifier that intersects
the MMR (`FinalId`, `FitId`: against the leaf count `N`, size `mmr N`) without wrap-around, `peaksIn`;
the position range of a `FitId` (first, last, non-empty, starts with a leaf).  Core Lean only. -/
namespace GV.Seg
open GV GV.Pmmr

/-- the positions of the subtrees of a list of trees, each in post-order -/
def tiles (l : List (Nat × Nat)) : List Nat := l.flatMap fun c => treeRange c.2 (Co.cpos c)

theorem tiles_cons (c : Nat × Nat) (l : List (Nat × Nat)) :
    tiles (c :: l) = treeRange c.2 (Co.cpos c) ++ tiles l := by
  simp [tiles]

theorem forestFrom_tiles (k : Nat) : ∀ (a m : Nat), m < 2 ^ k →
    List.range' (mmr (a * 2 ^ k)) (mmr m) = tiles (Co.forestFrom k (a * 2 ^ k) m) := by
  induction k with
  | zero =>
    intro a m hm
    have : m = 0 := by simpa using hm
    subst this
    simp [Co.forestFrom, tiles, Co.mmr_zero]
  | succ k ih =>
    intro a m hm
    have hp := Co.two_pow_succ k
    have hA : a * 2 ^ (k + 1) = (2 * a) * 2 ^ k := by rw [hp]; ac_rfl
    rw [Co.forestFrom, hA]
    by_cases hb : 2 ^ k ≤ m
    · obtain ⟨m', rfl⟩ : ∃ m', m = 2 ^ k + m' := ⟨m - 2 ^ k, by omega⟩
      have hm' : m' < 2 ^ k := by omega
      -- the first tree `(2a·2^k + (2^k - 1), k)` starts at `mmr (2a·2^k)`, the rest at `mmr ((2a+1)·2^k)`
      have hlast : (2 * a + 1) * 2 ^ k - 1 = 2 * a * 2 ^ k + (2 ^ k - 1) := by
        have := Nat.two_pow_pos k; rw [Nat.add_one_mul]; omega
      have hstart : mmr (2 * a * 2 ^ k + (2 ^ k - 1)) + k + 2 - 2 ^ (k + 1) = mmr (2 * a * 2 ^ k) := by
        have := Co.mmr_of_form (2 * a) k; omega
      have hnext : mmr ((2 * a + 1) * 2 ^ k) = mmr (2 * a * 2 ^ k) + (2 ^ (k + 1) - 1) := by
        have := Co.mmr_mul_pow_succ a k; have := Nat.two_pow_pos k; omega
      rw [if_pos hb, tiles_cons, Nat.add_sub_cancel_left, mmr_add_pow k m' hm', ← List.range'_append_1,
        ← hnext, ← Nat.add_one_mul, ← ih (2 * a + 1) m' hm']
      show _ = List.range' (mmr ((2 * a + 1) * 2 ^ k - 1) + k + 2 - 2 ^ (k + 1)) (2 ^ (k + 1) - 1) ++ _
      rw [hlast, hstart]
    · rw [if_neg hb]
      exact ih (2 * a) m (by omega)

theorem depthLoop_tiles : ∀ (l : List (Nat × Nat)) (d : Nat), (∀ c ∈ l, c.2 ≤ trailingOnes c.1) →
    depthLoop d (tiles l) = some (d + l.length) := by
  intro l
  induction l with
  | nil => intro d _; simp [tiles, depthLoop]
  | cons c l ih =>
    intro d hv
    have hc := hv c (List.mem_cons_self ..)
    have hh : height (Co.cpos c) = c.2 := Co.height_co c.1 c.2 hc
    rw [tiles_cons, depthLoop_append, depthLoop_tree c.2 (Co.cpos c) d hh]
    simp only
    rw [ih (d + 1) (fun x hx => hv x (List.mem_cons_of_mem _ hx))]
    simp only [List.length_cons]
    congr 1; omega

/-- the final segment of an MMR with `N` leaves (`size = mmr N`): `height < 64`, its first leaf
exists, its last leaf does not, leaf count far below the u64 range -/
structure FinalId (id : Ident) (N : Nat) : Prop where
  hh : id.height < 64
  lo : id.idx * 2 ^ id.height < N
  hi : N < (id.idx + 1) * 2 ^ id.height
  small : N < 2 ^ 62

/-- number of leaves in the final segment -/
def finalLeaves (id : Ident) (N : Nat) : Nat := N - id.idx * 2 ^ id.height

theorem final_arith (id : Ident) (N : Nat) (v : FinalId id N) :
    id.unprunedSize (mmr N) = finalLeaves id N ∧
    id.full (mmr N) = false ∧
    id.posRange (mmr N) = (mmr (id.idx * 2 ^ id.height), mmr N - 1) := by
  obtain ⟨hh, lo, hi, small⟩ := v
  have hcap := capacity_eq id hh
  have hoff := leafOffset_eq id hh (by omega)
  have hnl : nLeaves (mmr N) = N := Co.nLeaves_mmr N
  rw [Nat.add_mul, Nat.one_mul] at hi
  have hus : id.unprunedSize (mmr N) = finalLeaves id N := by
    unfold Ident.unprunedSize satSub finalLeaves
    rw [hcap, hoff, hnl]
    exact Nat.min_eq_right (by omega)
  have hfull : id.full (mmr N) = false := by
    unfold Ident.full
    rw [hus, hcap]
    unfold finalLeaves
    simp only [beq_eq_false_iff_ne, ne_eq]
    omega
  refine ⟨hus, hfull, ?_⟩
  unfold Ident.posRange
  simp only [hfull, Bool.false_eq_true, if_false, hoff]
  have hm := Co.mmr_le_two_mul N
  have hm1 := le_mmr N
  rw [ins2pmmrW_small _ (by omega), subW_eq (by omega) (by omega)]

theorem FinalId.not_full {id : Ident} {N : Nat} (v : FinalId id N) : id.full (mmr N) = false :=
  (final_arith id N v).2.1

theorem FinalId.unprunedSize {id : Ident} {N : Nat} (v : FinalId id N) :
    id.unprunedSize (mmr N) = finalLeaves id N := (final_arith id N v).1

theorem FinalId.posRange {id : Ident} {N : Nat} (v : FinalId id N) :
    id.posRange (mmr N) = (mmr (id.idx * 2 ^ id.height), mmr N - 1) := (final_arith id N v).2.2

theorem FinalId.leaves_lt {id : Ident} {N : Nat} (v : FinalId id N) : finalLeaves id N < 2 ^ id.height := by
  have := v.hi; have := Nat.two_pow_pos id.height
  rw [Nat.add_mul, Nat.one_mul] at *; unfold finalLeaves; omega

theorem FinalId.leaves_pos {id : Ident} {N : Nat} (v : FinalId id N) : 0 < finalLeaves id N := by
  have := v.lo; unfold finalLeaves; omega

theorem FinalId.leaves_eq {id : Ident} {N : Nat} (v : FinalId id N) :
    N = id.idx * 2 ^ id.height + finalLeaves id N := by
  have := v.lo; unfold finalLeaves; omega

theorem final_forest (id : Ident) (N : Nat) (v : FinalId id N) :
    ∃ Lh, Co.forest N = Lh ++ Co.forestFrom id.height (id.idx * 2 ^ id.height) (finalLeaves id N)
      ∧ ∀ c ∈ Lh, c.1 < id.idx * 2 ^ id.height := by
  obtain ⟨Lh, hL, hlt⟩ := Co.forest_split id.height id.idx (finalLeaves id N) v.leaves_lt
  rw [← v.leaves_eq] at hL
  exact ⟨Lh, hL, hlt⟩

theorem final_trees_mem (id : Ident) (N : Nat) (v : FinalId id N) :
    ∀ c ∈ Co.forestFrom id.height (id.idx * 2 ^ id.height) (finalLeaves id N),
      c.2 = trailingOnes c.1 ∧ id.idx * 2 ^ id.height ≤ c.1 ∧ c.1 < N := by
  intro c hc
  have hr := v.leaves_lt
  have hN := v.leaves_eq
  have := Co.forestFrom_mem id.height id.idx (finalLeaves id N) hr c hc
  have hpos : 0 < 2 ^ c.2 := Nat.pow_pos (by omega)
  omega

theorem final_forest_ne_nil (id : Ident) (N : Nat) (v : FinalId id N) :
    Co.forestFrom id.height (id.idx * 2 ^ id.height) (finalLeaves id N) ≠ [] := by
  have hfl := v.leaves_lt
  have hgt := v.leaves_pos
  obtain ⟨h, hh⟩ := Co.forestFrom_cover id.height (id.idx * 2 ^ id.height) (finalLeaves id N)
    (id.idx * 2 ^ id.height) (Nat.dvd_mul_left _ _) hfl (Nat.le_refl _) (Nat.lt_add_of_pos_right hgt)
  exact List.ne_nil_of_mem hh

theorem final_positions (id : Ident) (N : Nat) (v : FinalId id N) :
    id.positions (mmr N) =
      tiles (Co.forestFrom id.height (id.idx * 2 ^ id.height) (finalLeaves id N)) := by
  have hr := v.posRange
  have hlt := v.leaves_lt
  have hN := v.leaves_eq
  have hadd := Co.mmr_split id.height id.idx (finalLeaves id N) hlt
  rw [← hN] at hadd
  unfold Ident.positions
  rw [hr]
  simp only
  have hm1 : 1 ≤ mmr N := by have := le_mmr N; have := v.lo; omega
  have : mmr N - 1 + 1 - mmr (id.idx * 2 ^ id.height) = mmr (finalLeaves id N) := by omega
  rw [this]
  exact forestFrom_tiles id.height id.idx (finalLeaves id N) hlt

theorem final_peaksIn (id : Ident) (N : Nat) (v : FinalId id N) :
    id.peaksIn (mmr N) =
      ((Co.forestFrom id.height (id.idx * 2 ^ id.height) (finalLeaves id N)).map Co.cpos).reverse := by
  obtain ⟨Lh, hL, hlt⟩ := final_forest id N v
  unfold Ident.peaksIn
  rw [v.posRange, ← (Co.peaks_filter_split hL (mmr (id.idx * 2 ^ id.height))
    (fun c hc => (Co.coord_lt_iff (Co.forest_valid c (by rw [hL]; exact List.mem_append_left _ hc)).1).2 (hlt c hc))
    (fun c hc => Nat.le_trans (Co.mmr_le_mmr (final_trees_mem id N v c hc).2.1) (Nat.le_add_right _ _))).2]
  congr 1
  apply List.filter_congr
  intro p hp
  have h : p ≤ mmr N - 1 := by
    rw [Co.peaks_forest] at hp
    obtain ⟨c, hc, rfl⟩ := List.mem_map.1 hp
    have := (Co.coord_lt_iff (Co.forest_valid c hc).1).2 (Co.forest_valid c hc).2
    simp only [Co.cpos]; omega
  simp only [h, decide_true, Bool.and_true]
theorem root_final (hf : HashFn α H) (s : Segment α H) (N : Nat) (bm : Option (Nat → Bool))
    (v : FinalId s.id N) :
    s.root hf (mmr N) bm
      = rootWith hf s (mmr N) bm
          (tiles (Co.forestFrom s.id.height (s.id.idx * 2 ^ s.id.height) (finalLeaves s.id N))) false
          ((Co.forestFrom s.id.height (s.id.idx * 2 ^ s.id.height) (finalLeaves s.id N)).map Co.cpos).reverse := by
  rw [root_of_nonempty hf s (mmr N) bm (by rw [v.unprunedSize]; exact Nat.ne_of_gt v.leaves_pos),
    final_positions s.id N v, v.not_full, final_peaksIn s.id N v]

theorem wellFormed_final (id : Ident) (N : Nat) (v : FinalId id N) :
    WellFormedRange id (mmr N) := by
  unfold WellFormedRange
  rw [final_positions id N v, v.not_full, final_peaksIn id N v]
  simp only [Bool.false_eq_true, if_false, List.length_reverse, List.length_map]
  have := depthLoop_tiles _ 0 (fun c hc => by have := final_trees_mem id N v c hc; omega)
  simpa using this

/-- an identifier whose range intersects the MMR with `N` leaves (`size = mmr N`), leaf count far
below the u64 range: `height < 64`, the first leaf of the segment exists -/
structure FitId (id : Ident) (N : Nat) : Prop where
  hh : id.height < 64
  lo : id.idx * 2 ^ id.height < N
  small : N < 2 ^ 62

theorem FullId.fits {id : Ident} {N : Nat} (v : FullId id (mmr N)) : (id.idx + 1) * 2 ^ id.height ≤ N := by
  have := v.fit
  rwa [Co.nLeaves_mmr] at this

theorem FullId.toFit {id : Ident} {N : Nat} (v : FullId id (mmr N)) : FitId id N where
  hh := v.hh
  lo := by
    have := v.fits
    rw [Nat.add_mul, Nat.one_mul] at this
    have := Nat.two_pow_pos id.height
    omega
  small := by have := v.small; rwa [Co.nLeaves_mmr] at this

theorem FinalId.toFit {id : Ident} {N : Nat} (v : FinalId id N) : FitId id N := ⟨v.hh, v.lo, v.small⟩

theorem fit_cases (id : Ident) (N : Nat) (v : FitId id N) :
    FullId id (mmr N) ∨ FinalId id N := by
  have hnl : nLeaves (mmr N) = N := Co.nLeaves_mmr N
  by_cases h : (id.idx + 1) * 2 ^ id.height ≤ N
  · exact Or.inl ⟨v.hh, by rw [hnl]; exact h, by rw [hnl]; exact v.small⟩
  · exact Or.inr ⟨v.hh, v.lo, by omega, v.small⟩

theorem wellFormed_fit (id : Ident) (N : Nat) (v : FitId id N) : WellFormedRange id (mmr N) := by
  rcases fit_cases id N v with h | h
  · exact wellFormed_full id (mmr N) h
  · exact wellFormed_final id N h

theorem fit_range (id : Ident) (N : Nat) (v : FitId id N) :
    (id.posRange (mmr N)).1 = mmr (id.idx * 2 ^ id.height) ∧
    (id.posRange (mmr N)).2 < mmr N ∧
    (id.posRange (mmr N)).1 ≤ (id.posRange (mmr N)).2 ∧
    id.unprunedSize (mmr N) ≠ 0 := by
  have hpos : 0 < 2 ^ id.height := Nat.pow_pos (by omega)
  rcases fit_cases id N v with h | h
  · have hr := h.posRange
    have hn := lastLeaf_lt id N h
    have hlt := (Co.coord_lt_iff (lastLeaf_valid id) (N := N)).2 hn
    have hb := Co.mmr_of_form id.idx id.height
    rw [hr]
    refine ⟨rfl, hlt, ?_, ?_⟩
    · show mmr (id.idx * 2 ^ id.height) ≤ mmr (id.idx * 2 ^ id.height + (2 ^ id.height - 1)) + id.height
      omega
    · exact unprunedSize_ne_zero_of_full id (mmr N) h.full
  · have hr := h.posRange
    have hus := h.unprunedSize
    have hgt := h.leaves_pos
    have hN := h.leaves_eq
    have hm := Co.mmr_lt_mmr h.lo
    rw [hr, hus]
    exact ⟨rfl, by simp only; omega, by simp only; omega, by omega⟩

theorem FitId.first_eq {id : Ident} {N : Nat} (v : FitId id N) :
    (id.posRange (mmr N)).1 = mmr (id.idx * 2 ^ id.height) := (fit_range id N v).1

theorem FitId.last_lt {id : Ident} {N : Nat} (v : FitId id N) : (id.posRange (mmr N)).2 < mmr N :=
  (fit_range id N v).2.1

theorem FitId.first_le_last {id : Ident} {N : Nat} (v : FitId id N) :
    (id.posRange (mmr N)).1 ≤ (id.posRange (mmr N)).2 := (fit_range id N v).2.2.1

theorem FitId.nonempty {id : Ident} {N : Nat} (v : FitId id N) : id.unprunedSize (mmr N) ≠ 0 :=
  (fit_range id N v).2.2.2

theorem fromPmmr_fit (hf : HashFn α H) (V : View α H) (id : Ident) {N : Nat} (fit : FitId id N)
    (hsize : V.size = mmr N) (prunable : Bool) :
    fromPmmr hf V id prunable = fromPmmrWith hf V id prunable (id.positions (mmr N))
      (id.posRange (mmr N)).1 (id.posRange (mmr N)).2 := by
  unfold fromPmmr; rw [hsize, if_neg fit.nonempty]

theorem mem_positions_iff (id : Ident) (size q : Nat) :
    q ∈ id.positions size ↔ (id.posRange size).1 ≤ q ∧ q ≤ (id.posRange size).2 := by
  show q ∈ List.range' _ _ ↔ _
  rw [List.mem_range'_1]
  omega

theorem FitId.positions_lt {id : Ident} {N : Nat} (v : FitId id N) :
    ∀ p ∈ id.positions (mmr N), p < mmr N := fun p hp =>
  Nat.lt_of_le_of_lt ((mem_positions_iff id _ p).1 hp).2 v.last_lt

theorem FitId.positions_head {id : Ident} {N : Nat} (v : FitId id N) :
    ∃ ps, id.positions (mmr N) = mmr (id.idx * 2 ^ id.height) :: ps := by
  have h3 := v.first_le_last
  have hpos : id.positions (mmr N) = List.range' (id.posRange (mmr N)).1
      (((id.posRange (mmr N)).2 - (id.posRange (mmr N)).1) + 1) := by
    show List.range' _ _ = _
    congr 1; omega
  rw [hpos, List.range'_succ, v.first_eq]
  exact ⟨_, rfl⟩

end GV.Seg
