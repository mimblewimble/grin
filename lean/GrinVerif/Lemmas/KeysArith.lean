import GrinVerif.Model.KeysSig
import GrinVerif.Lemmas.Bytes
import GrinVerif.Lemmas.ModSub
/-! Arithmetic of the keys model (C20): modulo the group order (`blind_sum`, `add`, `split`, partial signatures)
and on u32 / bytes (child numbers, big-endian round trips). -/
namespace GV.Keys

theorem N_pos : 0 < N := by unfold N; omega

theorem sadd_lt (a b : Nat) : sadd a b < N := Nat.mod_lt _ N_pos
theorem sneg_lt (a : Nat) : sneg a < N := Nat.mod_lt _ N_pos

/-- the mathematical value of a blind sum: Σ positive − Σ negative (mod n) -/
def rawSum (pos neg : List Nat) : Nat := (pos.sum + (neg.map sneg).sum) % N

theorem accPos_eq (acc : Nat) (xs : List Nat) (h : acc < N) : accPos acc xs = (acc + xs.sum) % N := by
  induction xs generalizing acc with
  | nil => simp [accPos, Nat.mod_eq_of_lt h]
  | cons x xs ih =>
    simp only [accPos, List.sum_cons]
    rw [ih _ (sadd_lt _ _)]
    simp only [sadd, Nat.mod_add_mod, Nat.add_assoc]

theorem accNeg_eq_accPos (acc : Nat) (xs : List Nat) : accNeg acc xs = accPos acc (xs.map sneg) := by
  induction xs generalizing acc with
  | nil => rfl
  | cons x xs ih => exact ih _

theorem acc_eq_rawSum (pos neg : List Nat) : accNeg (accPos 0 pos) neg = rawSum pos neg := by
  rw [accNeg_eq_accPos, accPos_eq 0 pos N_pos, accPos_eq _ _ (Nat.mod_lt _ N_pos)]
  simp [rawSum, Nat.mod_add_mod]

theorem secpBlindSum_eq (pos neg : List Nat) :
    secpBlindSum pos neg =
      if overflows pos || overflows neg then .panic
      else if rawSum pos neg = 0 then .invalidKey else .ok (rawSum pos neg) := by
  simp only [secpBlindSum, acc_eq_rawSum]

theorem rawSum_perm {pos pos' neg neg' : List Nat} (hp : pos.Perm pos') (hn : neg.Perm neg') :
    rawSum pos neg = rawSum pos' neg' := by
  simp only [rawSum, hp.sum_nat, (hn.map sneg).sum_nat]

theorem overflows_perm {l l' : List Nat} (h : l.Perm l') : overflows l = overflows l' := by
  simp only [overflows, h.any_eq]

theorem rawSum_lt (pos neg : List Nat) : rawSum pos neg < N := Nat.mod_lt _ N_pos

theorem rawSum_append (p1 p2 n1 n2 : List Nat) :
    rawSum (p1 ++ p2) (n1 ++ n2) = (rawSum p1 n1 + rawSum p2 n2) % N := by
  simp only [rawSum, List.sum_append, List.map_append, ← Nat.add_mod]
  congr 1
  omega

/-- the secret keys `BlindingFactor::add` keeps from one operand: non-zero scalars -/
def nzKey (x : Nat) : List Nat := if x ≠ 0 ∧ x < N then [x] else []

theorem nzKey_valid {x : Nat} (h0 : x ≠ 0) (h : x < N) : nzKey x = [x] := by simp [nzKey, h0, h]
theorem nzKey_zero : nzKey 0 = [] := by simp [nzKey]
theorem nzKey_big {x : Nat} (h : N ≤ x) : nzKey x = [] := by
  have : ¬ x < N := by omega
  simp [nzKey, this]

theorem bfAdd_eq (a b : Nat) :
    bfAdd a b = if (nzKey a ++ nzKey b).isEmpty then .ok 0 else secpBlindSum (nzKey a ++ nzKey b) [] := by
  have one : ∀ x, ([x].filter (fun x => x != 0)).filterMap bfSecretKey = nzKey x := by
    intro x
    by_cases h0 : x = 0 <;> by_cases hN : x < N <;> simp [nzKey, bfSecretKey, h0, hN]
  have key : ([a, b].filter (fun x => x != 0)).filterMap bfSecretKey = nzKey a ++ nzKey b := by
    rw [show [a, b] = [a] ++ [b] from rfl, List.filter_append, List.filterMap_append, one, one]
  simp only [bfAdd, key]

theorem bfSecretKey_valid {x : Nat} (h : x < N) : bfSecretKey x = some x := by
  unfold bfSecretKey; split <;> simp_all

theorem bfSecretKey_big {x : Nat} (h : N ≤ x) : bfSecretKey x = none := by
  have := N_pos
  have h1 : x ≠ 0 := by omega
  have h2 : ¬ x < N := by omega
  simp [bfSecretKey, h1, h2]

theorem secpBlindSum_one {a : Nat} (h : a < N) :
    secpBlindSum [a] [] = if a = 0 then .invalidKey else .ok a := by
  simp [secpBlindSum_eq, overflows, rawSum, Nat.not_le.mpr h, Nat.mod_eq_of_lt h]

theorem secpBlindSum_two {a b : Nat} (ha : a < N) (hb : b < N) :
    secpBlindSum [a, b] [] = if (a + b) % N = 0 then .invalidKey else .ok ((a + b) % N) := by
  simp [secpBlindSum_eq, overflows, rawSum, Nat.not_le.mpr ha, Nat.not_le.mpr hb]

theorem secpBlindSum_sub {a b : Nat} (ha : a < N) (hb : b < N) :
    secpBlindSum [a] [b] = if (a + sneg b) % N = 0 then .invalidKey else .ok ((a + sneg b) % N) := by
  simp [secpBlindSum_eq, overflows, rawSum, Nat.not_le.mpr ha, Nat.not_le.mpr hb]

theorem bfSplit_eq (self b1 : Nat) :
    bfSplit self b1 = if self < N ∧ b1 < N ∧ (self + sneg b1) % N ≠ 0
      then .ok ((self + sneg b1) % N) else .invalidKey := by
  unfold bfSplit
  by_cases hs : self < N
  · by_cases hb : b1 < N
    · rw [bfSecretKey_valid hs, bfSecretKey_valid hb]
      by_cases hz : (self + sneg b1) % N = 0 <;> simp [secpBlindSum_sub hs hb, hs, hb, hz]
    · rw [bfSecretKey_big (Nat.le_of_not_lt hb)]
      cases bfSecretKey self <;> simp [hb]
  · rw [bfSecretKey_big (Nat.le_of_not_lt hs)]
    simp [hs]

theorem bfAdd_scalars {a b : Nat} (ha : a < N) (hb : b < N) :
    bfAdd a b = if a = 0 ∧ b = 0 then .ok 0
      else if (a + b) % N = 0 then .invalidKey else .ok ((a + b) % N) := by
  rw [bfAdd_eq]
  by_cases ha0 : a = 0
  · subst ha0
    by_cases hb0 : b = 0
    · subst hb0; simp [nzKey_zero]
    · simp [nzKey_zero, nzKey_valid hb0 hb, secpBlindSum_one hb, hb0, Nat.mod_eq_of_lt hb]
  · by_cases hb0 : b = 0
    · subst hb0; simp [nzKey_zero, nzKey_valid ha0 ha, secpBlindSum_one ha, ha0, Nat.mod_eq_of_lt ha]
    · simp [nzKey_valid ha0 ha, nzKey_valid hb0 hb, secpBlindSum_two ha hb, ha0]

theorem sneg_zero : sneg 0 = 0 := by decide

theorem sub_add_mod {a : Nat} (b : Nat) (ha : a < N) : ((a + b) % N + sneg b) % N = a := by
  unfold sneg
  rw [Nat.add_mod_mod, Nat.add_comm a b,
    add_mod_cancel_of_compl (Nat.add_sub_cancel' (Nat.le_of_lt (Nat.mod_lt b N_pos))),
    Nat.mod_eq_of_lt ha]

theorem add_sneg (b : Nat) : (b + sneg b) % N = 0 := by
  have := sub_add_mod b N_pos
  rwa [Nat.zero_add, Nat.mod_add_mod] at this

theorem add_sub_mod {a : Nat} (b : Nat) (ha : a < N) : (b + (a + sneg b) % N) % N = a := by
  rw [Nat.add_mod_mod, Nat.add_left_comm, ← Nat.add_mod_mod, add_sneg, Nat.add_zero, Nat.mod_eq_of_lt ha]

theorem sub_eq_zero_iff {a b : Nat} (ha : a < N) (hb : b < N) : (a + sneg b) % N = 0 ↔ a = b := by
  constructor
  · intro h
    have := add_sub_mod b ha
    rw [h, Nat.add_zero, Nat.mod_eq_of_lt hb] at this
    exact this.symm
  · rintro rfl; exact add_sneg a

theorem add_mod_ne {p S : Nat} (h0 : 0 < p) (hp : p < N) : (p + S) % N ≠ S % N := by
  intro h
  have := sub_add_mod S hp
  rw [h, Nat.mod_add_mod, add_sneg] at this
  exact Nat.ne_of_gt h0 this.symm

theorem readU32_eq_ofBE (a b c d : Nat) : readU32 a b c d = ofBE [a, b, c, d] := by
  simp [readU32, ofBE]

theorem u32be_eq_beBytes (n : Nat) : u32be n = beBytes 4 n := by
  simp [u32be, beBytes, List.range, List.range.loop]

theorem pow256_4 : (256 : Nat) ^ 4 = 2 ^ 32 := pow256_eq_two_pow 4

theorem readU32_u32be (n : Nat) (h : n < 2^32) :
    readU32 (n / 2^24 % 256) (n / 2^16 % 256) (n / 2^8 % 256) (n % 256) = n := by
  have e : ofBE (u32be n) = n := by
    rw [u32be_eq_beBytes, ofBE_beBytes, pow256_4]; exact Nat.mod_eq_of_lt h
  exact (readU32_eq_ofBE _ _ _ _).trans e

theorem u32be_readU32 (a b c d : Nat) (ha : a < 256) (hb : b < 256) (hc : c < 256) (hd : d < 256) :
    u32be (readU32 a b c d) = [a, b, c, d] := by
  rw [u32be_eq_beBytes, readU32_eq_ofBE]
  exact beBytes_ofBE [a, b, c, d] (by unfold Ser.AllBytes; simp; exact ⟨ha, hb, hc, hd⟩)

theorem u32be_inj {m n : Nat} (hm : m < 2^32) (hn : n < 2^32) (h : u32be m = u32be n) : m = n := by
  have e := congrArg ofBE h
  rwa [u32be_eq_beBytes, u32be_eq_beBytes, ofBE_beBytes, ofBE_beBytes, pow256_4, Nat.mod_eq_of_lt hm,
    Nat.mod_eq_of_lt hn] at e

theorem u32be_lt (n b : Nat) (h : b ∈ u32be n) : b < 256 := beBytes_lt 4 n b (u32be_eq_beBytes n ▸ h)

theorem readU32_lt (a b c d : Nat) (ha : a < 256) (hb : b < 256) (hc : c < 256) (hd : d < 256) :
    readU32 a b c d < 2^32 := by
  rw [readU32_eq_ofBE, ← pow256_4]
  exact ofBE_lt [a, b, c, d] (by unfold Ser.AllBytes; simp; exact ⟨ha, hb, hc, hd⟩)

theorem bit31 {n : Nat} (h : n < 2^32) : n / 2^31 % 2 = 1 ↔ 2^31 ≤ n := by omega

theorem ofU32_eq {n : Nat} (h : n < 2^32) :
    ChildNumber.ofU32 n = if 2^31 ≤ n then .hardened (n - 2^31) else .normal n := by
  simp only [ChildNumber.ofU32, bit31 h]

theorem toU32_hardened {i : Nat} (h : i < 2^31) : (ChildNumber.hardened i).toU32 = i + 2^31 := by
  have : ¬ i / 2^31 % 2 = 1 := by rw [bit31 (Nat.lt_trans h (by decide))]; exact Nat.not_le.2 h
  simp only [ChildNumber.toU32, this, if_false]

theorem ofU32_toU32 (n : Nat) (h : n < 2^32) : (ChildNumber.ofU32 n).toU32 = n := by
  rw [ofU32_eq h]
  split
  · rw [toU32_hardened (by omega)]; omega
  · rfl

theorem toU32_ofU32 (c : ChildNumber) (h : c.WF) : ChildNumber.ofU32 c.toU32 = c := by
  cases c with
  | normal i => exact (ofU32_eq (Nat.lt_trans h (by decide))).trans (if_neg (Nat.not_le.2 h))
  | hardened i =>
    have hi : i < 2^31 := h
    rw [toU32_hardened hi, ofU32_eq (by omega), if_pos (Nat.le_add_left _ _), Nat.add_sub_cancel]

theorem u32be_ofU32_readU32 (a b c d : Nat) (ha : a < 256) (hb : b < 256) (hc : c < 256) (hd : d < 256) :
    u32be (ChildNumber.ofU32 (readU32 a b c d)).toU32 = [a, b, c, d] := by
  rw [ofU32_toU32 _ (readU32_lt a b c d ha hb hc hd), u32be_readU32 a b c d ha hb hc hd]

theorem ofU32_WF (n : Nat) (h : n < 2^32) : (ChildNumber.ofU32 n).WF := by
  rw [ofU32_eq h]
  split <;> simp only [ChildNumber.WF] <;> omega

theorem toU32_lt (c : ChildNumber) (h : c.WF) : c.toU32 < 2^32 := by
  cases c with
  | normal i => exact Nat.lt_trans h (by decide)
  | hardened i =>
    have hi : i < 2^31 := h
    rw [toU32_hardened hi]; omega

theorem switch_roundtrip (sw : Switch) : Switch.ofU8 sw.toU8 = some sw := by cases sw <;> rfl

open List

theorem sum_partials (e : Nat) : ∀ (signers : List (Nat × Nat)),
    (partialSigs e signers).sum % N = ((signers.map (·.2)).sum + e * (signers.map (·.1)).sum) % N
  | [] => by simp [partialSigs]
  | s :: t => by
    have ih := sum_partials e t
    simp only [partialSigs, map_cons, sum_cons] at ih ⊢
    generalize (map (fun s => partialSig e s.1 s.2) t).sum = S at ih ⊢
    generalize (map (fun x : Nat × Nat => x.2) t).sum = K at ih ⊢
    generalize (map (fun x : Nat × Nat => x.1) t).sum = X at ih ⊢
    unfold partialSig
    rw [Nat.mod_add_mod, Nat.add_mod, ih, ← Nat.add_mod, Nat.mul_add]
    congr 1
    omega

end GV.Keys
