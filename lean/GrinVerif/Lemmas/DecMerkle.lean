import GrinVerif.Lemmas.DecBound
/-! `MerkleProof::read` / `from_hex`, `util::from_hex`, and the `Segment` readers: their bounds, and
witnesses against the same bounds for `merkleProofUnrepaired` (C11). -/
namespace GV.Dec
open GV GV.Ser

/-- `MerkleProof::read`: the pre-allocation is at most 64 hashes = 2048 bytes -/
theorem bnd_merkleProof (rd : Rdr) : Bnd 1 2048 32 (merkleProof rd) :=
  Bnd.seq (bnd_rU64 1) fun mmrSize => Bnd.seq (bnd_rU64 1) fun pathLen =>
    Bnd.cap (min pathLen MERKLE_PREALLOC) 32
      (by have : MERKLE_PREALLOC = 64 := rfl
          omega)
      (Bnd.seqE (Bnd.readN (bnd_rHash rd) pathLen) fun path => Bnd.ret)

/-- the 16-byte input `mmr_size = 0, path_len = n` -/
def mpWitness (n : Nat) : Bytes := writeU64 0 ++ writeU64 n

theorem mpWitness_length (n : Nat) : (mpWitness n).length = 16 := by
  simp [mpWitness, writeU64_length]

theorem readN_hash_nil (rd : Rdr) (n : Nat) (hn : 0 < n) :
    readN (rHash rd) n [] = .err .ioEof (match rd with | .bin => 32 | .buf => 0) := by
  cases n with
  | zero => omega
  | succ n =>
    cases rd <;> simp [readN, rHash, rFixed, MAX_FIXED_READ, splitExact, GV.Dec.bind]

/-- the reader of a Merkle proof with the pre-allocation `g path_len` left open, on `mpWitness n`: both `merkleProof`
(`g = min · 64`) and `merkleProofUnrepaired` (`g = id`) are this function by unfolding -/
theorem merkleProofWith_on_witness (g : Nat → Nat) (rd : Rdr) (n : Nat) (h0 : 0 < n) (h : n < 2^64) :
    (bind (rU64 (mpWitness n)) fun mmrSize r => bind (rU64 r) fun pathLen r =>
      withCapacity (g pathLen) 32
        (bind (readN (rHash rd) pathLen r) fun path r => .ok (MerkleProof.mk mmrSize path) r 0)) =
      if g n * 32 > ISIZE_MAX then .panic .capacityOverflow 0
      else .err .ioEof (g n * 32 + (match rd with | .bin => 32 | .buf => 0)) := by
  have e1 : rU64 (mpWitness n) = .ok 0 (writeU64 n) 0 := rU64_write 0 (Nat.pow_pos (by omega)) _
  rw [e1, bind_ok, rU64_write_nil n h, bind_ok, readN_hash_nil rd n h0]
  unfold withCapacity
  split <;> simp [Outcome.addAlloc, GV.Dec.bind]

theorem merkleProofUnrepaired_on_witness (rd : Rdr) (n : Nat) (h0 : 0 < n) (h : n < 2^64) :
    merkleProofUnrepaired rd (mpWitness n) =
      if n * 32 > ISIZE_MAX then .panic .capacityOverflow 0
      else .err .ioEof (n * 32 + (match rd with | .bin => 32 | .buf => 0)) :=
  merkleProofWith_on_witness id rd n h0 h

/-- the unrepaired reader: 16 bytes in, at least 128 GiB requested -/
theorem merkleProofUnrepaired_alloc_witness (rd : Rdr) :
    (mpWitness (2^32)).length = 16 ∧ (merkleProofUnrepaired rd (mpWitness (2^32))).alloc ≥ 2^37 := by
  refine ⟨mpWitness_length _, ?_⟩
  rw [merkleProofUnrepaired_on_witness rd (2^32) (by decide) (by decide), if_neg (by decide)]
  simp only [Outcome.alloc]; omega

theorem merkleProof_on_old_witness (rd : Rdr) (n : Nat) (h0 : 0 < n) (h : n < 2^64) :
    merkleProof rd (mpWitness n) =
      .err .ioEof (min n MERKLE_PREALLOC * 32 + (match rd with | .bin => 32 | .buf => 0)) := by
  have : MERKLE_PREALLOC = 64 := rfl
  have : ISIZE_MAX = 9223372036854775807 := by decide
  exact (merkleProofWith_on_witness (min · MERKLE_PREALLOC) rd n h0 h).trans (if_neg (by omega))

/-- `"€a"` (a char-boundary panic of the slicing loop alone) is an error -/
theorem utilFromHex_old_witness : utilFromHex [0xE2, 0x82, 0xAC, 0x61] = .err := by decide

theorem merkleProofFromHex_old_witnesses :
    (merkleProofFromHex [0x7a, 0x7a]).isPanic = false ∧ (merkleProofFromHex [0x30]).isPanic = false ∧
    (merkleProofFromHex [0xE2, 0x82, 0xAC, 0x61]).isPanic = false := by decide

/-- the loop slices by byte offsets: without the `is_ascii` guard it panics -/
theorem hexLoop_needs_guard : hexLoop [0xE2, 0x82, 0xAC, 0x61] = .panic .charBoundary := by decide

theorem hexLoop_ascii : ∀ (n : Nat) (s : Bytes), s.length = 2 * n → (∀ b ∈ s, b < 128) →
    hexLoop s = .err ∨ ∃ bs, hexLoop s = .ok bs ∧ bs.length = n := by
  intro n
  induction n with
  | zero =>
    intro s hl _
    have : s = [] := List.eq_nil_of_length_eq_zero (by omega)
    subst this; exact .inr ⟨[], rfl, rfl⟩
  | succ n ih =>
    intro s hl hb
    match s, hl, hb with
    | a :: b :: r, hl, hb =>
      have ha : a < 128 := hb a (by simp)
      have hca : isCont a = false := by simp [isCont]; omega
      have hr : r.length = 2 * n := by simp at hl; omega
      have hbr : ∀ x ∈ r, x < 128 := fun x hx => hb x (by simp [hx])
      cases r with
      | nil =>
        simp only [hexLoop, hca]
        cases fromStrRadix16 a b with
        | none => exact .inl rfl
        | some v =>
          refine .inr ⟨[v], rfl, ?_⟩
          simp only [List.length_nil] at hr
          simp only [List.length_cons, List.length_nil]; omega
      | cons c t =>
        have hc : c < 128 := hbr c (by simp)
        have hcc : isCont c = false := by simp [isCont]; omega
        simp only [hexLoop, hca, hcc]
        cases fromStrRadix16 a b with
        | none => exact .inl rfl
        | some v =>
          rcases ih (c :: t) hr hbr with h | ⟨vs, h, hvs⟩
          · rw [h]; exact .inl rfl
          · rw [h]; exact .inr ⟨v :: vs, rfl, by rw [List.length_cons, hvs]⟩

theorem mem_trimStartFuel (f : Nat) (s : Bytes) : ∀ b ∈ trimStartFuel f s, b ∈ s := by
  induction f generalizing s with
  | zero => intro b hb; exact hb
  | succ f ih =>
    intro b hb
    unfold trimStartFuel at hb
    split at hb
    · exact hb
    · exact List.mem_of_mem_drop (ih _ b hb)

theorem mem_trimEndRevFuel (f : Nat) (s : Bytes) : ∀ b ∈ trimEndRevFuel f s, b ∈ s := by
  induction f generalizing s with
  | zero => intro b hb; exact hb
  | succ f ih =>
    intro b hb
    unfold trimEndRevFuel at hb
    split at hb
    · exact hb
    · exact List.mem_of_mem_drop (ih _ b hb)

theorem mem_strTrim (s : Bytes) : ∀ b ∈ strTrim s, b ∈ s := by
  intro b hb
  unfold strTrim at hb
  simp only [List.mem_reverse] at hb
  have := mem_trimEndRevFuel _ _ b hb
  simp only [List.mem_reverse] at this
  exact mem_trimStartFuel _ _ b this

theorem mem_trim0x : ∀ (s : Bytes), ∀ b ∈ trim0x s, b ∈ s := by
  intro s
  fun_induction trim0x s with
  | case1 r ih => intro b hb; simp [ih b hb]
  | case2 s _ => intro b hb; exact hb

/-- non-ASCII input and odd lengths are refused before the slicing loop -/
theorem utilFromHex_cases (s : Bytes) :
    utilFromHex s = .err ∨ ∃ bs, utilFromHex s = .ok bs ∧ 2 * bs.length = (trim0x (strTrim s)).length := by
  unfold utilFromHex
  simp only
  split
  · exact .inl rfl
  · rename_i hc
    simp only [not_or, Bool.not_eq_false] at hc
    have hall : ∀ b ∈ trim0x (strTrim s), b < 128 := fun b hb => of_decide_eq_true (List.all_eq_true.mp hc.2 b hb)
    rcases hexLoop_ascii ((trim0x (strTrim s)).length / 2) _ (by omega) hall with h | ⟨bs, h, hl⟩
    · exact .inl h
    · exact .inr ⟨bs, h, by omega⟩

/-- **`util::from_hex` never panics**, on any string -/
theorem utilFromHex_noPanic (s : Bytes) : ∀ st, utilFromHex s ≠ .panic st := by
  intro st
  rcases utilFromHex_cases s with h | ⟨bs, h, _⟩ <;> rw [h] <;> simp

theorem bnd_segItemCount (c : Nat) : Bnd c 0 0 segItemCount :=
  Bnd.seq (bnd_rU64 c) fun _ => Bnd.ite _ Bnd.err Bnd.ret

theorem bnd_segPositionsLoop (c : Nat) : ∀ n last, Bnd c 0 0 (segPositionsLoop n last)
  | 0, _ => Bnd.ret
  | n+1, _ => Bnd.seq (bnd_rU64 c) fun pos =>
      Bnd.ite _ Bnd.err (Bnd.seq (bnd_segPositionsLoop c n pos) fun _ => Bnd.ret)

theorem prealloc_le (count sz : Nat) : min count GV.Gen.SEGMENT_READ_PREALLOC_ITEMS * sz ≤ 1024 * sz := by
  apply Nat.mul_le_mul_right
  have : GV.Gen.SEGMENT_READ_PREALLOC_ITEMS = 1024 := by decide
  omega

/-- `read_segment_positions`: at most 1024 `u64` pre-allocated, whatever the count -/
theorem bnd_segPositions (c count : Nat) : Bnd c 8192 0 (segPositions count) :=
  Bnd.cap _ 8 (prealloc_le count 8) (bnd_segPositionsLoop c count 0)

/-- `read_segment_items`: at most 1024 items pre-allocated -/
theorem bnd_segItems {α : Type} {c e : Nat} {p : Dec α} (hp : Bnd c 0 e p) (sz count : Nat) :
    Bnd c (1024 * sz) e (segItems p sz count) :=
  Bnd.cap _ sz (prealloc_le count sz) (Bnd.readN hp count)

theorem bnd_segmentProof (rd : Rdr) : Bnd 1 32768 32 (segmentProof rd) :=
  Bnd.seq (bnd_segItemCount 1) fun n => bnd_segItems (bnd_rHash rd) 32 n

theorem bnd_segmentId : Bnd 1 0 0 segmentId :=
  Bnd.seq (bnd_rU8 1) fun _ => Bnd.seq (bnd_rU64 1) fun _ => Bnd.ret

/-- `Segment<T>::read` for a leaf reader that allocates proportionally (`Bnd 1 0 e`) with in-memory
leaf size `sz`: pre-allocation ≤ 2·8 KiB positions + 2·32 KiB hashes + 1024 leaves -/
theorem bnd_segment {α : Type} (rd : Rdr) {p : Dec α} {e : Nat} (hp : Bnd 1 0 e p) (sz : Nat) :
    Bnd 1 (81920 + 1024 * sz) (max 32 e) (segment rd p sz) :=
  (Bnd.bind bnd_segmentId fun id =>
    Bnd.bind (bnd_segItemCount 1) fun nh =>
    Bnd.bind (bnd_segPositions 1 nh) fun hashPos =>
    Bnd.bind (bnd_segItems (bnd_rHash rd) 32 nh) fun hashes =>
    Bnd.bind (bnd_segItemCount 1) fun nl =>
    Bnd.bind (bnd_segPositions 1 nl) fun leafPos =>
    Bnd.bind (bnd_segItems hp sz nl) fun leafData =>
    Bnd.bind (bnd_segmentProof rd) fun proof =>
      Bnd.pure 1 (Segment.mk id hashPos hashes leafPos leafData proof)).weaken
    (by omega) (by omega)

end GV.Dec
