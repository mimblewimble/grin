import GrinVerif.Lemmas.Kv
import GrinVerif.Model.KvSpec
/-! Batches as a stack of overlays (`Model/Kv.lean`) against the textbook map (`Model/KvSpec.lean`): a body of any
nesting depth pushes exactly its surviving writes onto the innermost overlay (`run_flat`), and only an outermost
commit touches the committed tables (`committed_step`). -/
namespace GV.Kv

theorem run_nil (st : St) : run st [] = st := rfl
theorem run_cons (st : St) (op : Op) (r : List Op) : run st (op :: r) = run (step st op) r := rfl
theorem run_append (st : St) (a b : List Op) : run st (a ++ b) = run (run st a) b := by
  simp [run, List.foldl_append]

theorem eq_of_stack_ne_nil {st : St} (h : st.stack ≠ []) : ∃ c o s, st = ⟨c, o :: s⟩ := by
  obtain ⟨c, _ | ⟨o, s⟩⟩ := st
  · exact absurd rfl h
  · exact ⟨c, o, s, rfl⟩

theorem bget_put (st : St) (k k' : Key) (v : Val) (h : st.stack ≠ []) :
    bget (step st (.put k v)) k' = if k = k' then some v else bget st k' := by
  obtain ⟨c, o, s, rfl⟩ := eq_of_stack_ne_nil h
  by_cases hk : k = k' <;> simp [bget, step, ovGet, hk]

theorem bget_del (st : St) (k k' : Key) (h : st.stack ≠ []) :
    bget (step st (.del k)) k' = if k = k' then none else bget st k' := by
  obtain ⟨c, o, s, rfl⟩ := eq_of_stack_ne_nil h
  by_cases hk : k = k' <;> simp [bget, step, ovGet, hk]

theorem stack_del (st : St) (k : Key) (h : st.stack ≠ []) : (step st (.del k)).stack ≠ [] := by
  obtain ⟨c, o, s, rfl⟩ := eq_of_stack_ne_nil h
  exact List.cons_ne_nil _ _

theorem ovF_eq (o : Ov) (m : Map) (k : Key) :
    ovF o m k = match ovGet o k with
      | some r => r
      | none => m k := by
  fun_induction ovGet o k with
  | case1 => rfl
  | case2 v r k => exact if_pos rfl
  | case3 k' v r k hk ih => exact (if_neg hk).trans ih

theorem den_applyOv (o : Ov) (t : Tbl) : den (applyOv o t) = ovF o (den t) := by
  funext k
  simp only [den]
  rw [tget_applyOv, ovF_eq]
  rfl

theorem ovF_append (a b : Ov) (m : Map) : ovF (a ++ b) m = ovF a (ovF b m) := by
  simp [ovF, List.foldr_append]

theorem ovF_writes (p : Prog) : ∀ m : Map, ovF p.writes m = p.sem m := by
  induction p with
  | done => intro m; rfl
  | put k v rest ih => intro m; simp only [Prog.writes, Prog.sem, ovF_append, ih]; rfl
  | del k rest ih => intro m; simp only [Prog.writes, Prog.sem, ovF_append, ih]; rfl
  | child b c rest ihb ihr =>
    intro m
    simp only [Prog.writes, Prog.sem, ovF_append, ihr]
    cases c with
    | true => simp [ihb]
    | false => simp [ovF]

theorem bget_eq_view (st : St) (k : Key) : bget st k = tget (view st) k := by
  rw [view, tget_applyOv]
  rfl

theorem bget_eq_ovF (st : St) : (fun k => bget st k) = ovF st.stack.flatten (den st.committed) := by
  funext k
  rw [ovF_eq]
  rfl

theorem run_flat (p : Prog) : ∀ (c : Tbl) (o : Ov) (s : List Ov),
    run ⟨c, o :: s⟩ p.flat = ⟨c, (p.writes ++ o) :: s⟩ := by
  induction p with
  | done => intro c o s; rfl
  | put k v rest ih =>
    intro c o s
    show run ⟨c, ((k, some v) :: o) :: s⟩ rest.flat = _
    rw [ih, Prog.writes, List.append_assoc]; rfl
  | del k rest ih =>
    intro c o s
    show run ⟨c, ((k, none) :: o) :: s⟩ rest.flat = _
    rw [ih, Prog.writes, List.append_assoc]; rfl
  | child b cm rest ihb ihr =>
    intro c o s
    show run ⟨c, [] :: o :: s⟩ (b.flat ++ (if cm then Op.commit else Op.drop) :: rest.flat) = _
    rw [run_append, ihb, List.append_nil, run_cons, Prog.writes]
    cases cm with
    | true =>
      show run ⟨c, (b.writes ++ o) :: s⟩ rest.flat = _
      rw [ihr, List.append_assoc]; rfl
    | false =>
      show run ⟨c, o :: s⟩ rest.flat = _
      rw [ihr]
      simp only [Bool.false_eq_true, if_false, List.append_nil]

theorem run_txn (p : Prog) (c : Tbl) (commit : Bool) :
    run ⟨c, []⟩ (txn p commit) = if commit then ⟨applyOv p.writes c, []⟩ else ⟨c, []⟩ := by
  rw [txn, run_cons, run_append]
  show run (run ⟨c, [[]]⟩ p.flat) _ = _
  rw [run_flat, List.append_nil]
  cases commit <;> rfl

theorem committed_step (st : St) (op : Op) :
    (step st op).committed = st.committed ∨
    ∃ o, op = .commit ∧ st.stack = [o] ∧ (step st op).committed = applyOv o st.committed := by
  obtain ⟨c, stack⟩ := st
  cases op with
  | commit =>
    match stack with
    | [] => exact Or.inl rfl
    | [o] => exact Or.inr ⟨o, rfl, rfl, rfl⟩
    | _ :: _ :: _ => exact Or.inl rfl
  | _ => cases stack <;> exact Or.inl rfl

theorem committed_of_not_outer_commit (st : St) (op : Op) (h : ¬ (op = Op.commit ∧ st.stack.length = 1)) :
    (step st op).committed = st.committed := by
  rcases committed_step st op with e | ⟨o, ho, hs, _⟩
  · exact e
  · exact absurd ⟨ho, by rw [hs]; rfl⟩ h

theorem run_committed (ops : List Op) : ∀ st : St, NoOuterCommit st ops →
    (run st ops).committed = st.committed := by
  induction ops with
  | nil => intro st _; rfl
  | cons op r ih =>
    intro st h
    obtain ⟨h1, h2⟩ := h
    rw [run_cons, ih _ h2, committed_of_not_outer_commit st op h1]

theorem noOuter_append (a b : List Op) : ∀ st : St,
    NoOuterCommit st (a ++ b) ↔ NoOuterCommit st a ∧ NoOuterCommit (run st a) b := by
  induction a with
  | nil => intro st; simp [NoOuterCommit, run]
  | cons op r ih =>
    intro st
    simp only [List.cons_append, NoOuterCommit, run_cons, ih, and_assoc]

theorem noOuter_flat (p : Prog) : ∀ (c : Tbl) (o : Ov) (s : List Ov), NoOuterCommit ⟨c, o :: s⟩ p.flat := by
  induction p with
  | done => intro c o s; trivial
  | put k v rest ih => intro c o s; exact ⟨fun h => Op.noConfusion h.1, ih c _ s⟩
  | del k rest ih => intro c o s; exact ⟨fun h => Op.noConfusion h.1, ih c _ s⟩
  | child b cm rest ihb ihr =>
    intro c o s
    refine ⟨fun h => Op.noConfusion h.1, ?_⟩
    show NoOuterCommit ⟨c, [] :: o :: s⟩ (b.flat ++ (if cm then Op.commit else Op.drop) :: rest.flat)
    rw [noOuter_append, run_flat]
    -- the child's commit finds its parent below it, so it is not an outermost one
    refine ⟨ihb c [] (o :: s), fun h => absurd h.2 (by simp), ?_⟩
    cases cm with
    | true => exact ihr c _ s
    | false => exact ihr c o s

theorem sorted_step (st : St) (op : Op) (h : Sorted st.committed) : Sorted (step st op).committed := by
  rcases committed_step st op with e | ⟨o, _, _, e⟩
  · rw [e]; exact h
  · rw [e]; exact sorted_applyOv _ _ h

theorem noOuter_prefix (p : Prog) (st : St) (h : st.stack = []) {ops₁ ops₂ : List Op}
    (hsplit : Op.begin :: p.flat = ops₁ ++ ops₂) : NoOuterCommit st ops₁ := by
  obtain ⟨c, stack⟩ := st
  obtain rfl : stack = [] := h
  have hno : NoOuterCommit ⟨c, []⟩ (Op.begin :: p.flat) :=
    ⟨fun hh => Op.noConfusion hh.1, noOuter_flat p c [] []⟩
  rw [hsplit, noOuter_append] at hno
  exact hno.1

theorem storeReads_congr {a b : St} (h : a.committed = b.committed) :
    sget a = sget b ∧ sexists a = sexists b ∧ siter a = siter b := by
  simp only [funext_iff, sget, sexists, siter, h, implies_true, and_self]

theorem biter_correct (st : St) (h : Sorted st.committed) (db : Nat) :
    (∀ kb v, (kb, v) ∈ biter st db ↔ bget st (db, kb) = some v) ∧
    (biter st db).Pairwise (fun a b => bytesLt a.1 b.1 = true) := by
  have hv := iterPaged_correct PAGE (by decide) (view st) (sorted_applyOv _ _ h) db
  exact ⟨fun kb v => by rw [bget_eq_view]; exact hv.1 kb v, hv.2⟩

theorem siter_correct (st : St) (h : Sorted st.committed) (db : Nat) :
    (∀ kb v, (kb, v) ∈ siter st db ↔ sget st (db, kb) = some v) ∧
    (siter st db).Pairwise (fun a b => bytesLt a.1 b.1 = true) :=
  iterPaged_correct PAGE (by decide) st.committed h db

theorem sorted_run (ops : List Op) (st : St) (h : Sorted st.committed) : Sorted (run st ops).committed :=
  List.foldlRecOn (motive := fun st => Sorted st.committed) ops _ h fun st h op _ => sorted_step st op h

end GV.Kv
