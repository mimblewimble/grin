import GrinVerif.Model.SerDb
import GrinVerif.Model.DecDb
import GrinVerif.Lemmas.SerMsgRt
/-! Lemmas about `Model/SerDb.lean`: round trips with any continuation, inversion ("accepted ⇒ these
were the bytes"), refusals, and what the two normalising readers (`BoolFlag`, `PeerData`) do; with the value domains
(`ListWrapper.WF`, `ListEntry.WF`, `BlockSums.WF`, `SizeEntry.WF`, `PeerData.WF`) and the item vocabulary `ItemRt` / `ItemCanon` of
the C10 theorems about them. -/
namespace GV.SerDb
open GV GV.Ser GV.SerMsg GV.Wire

theorem codec_wrapperVariant : Whole False decWrapperVariant (fun v => writeU8 v.tag) (fun _ => True) := by
  have key := Codec.step (S := fun _ => True) WrapperVariant.tag codec_tag fun t =>
    Codec.ite (t = 0) (fun h => Codec.pure WrapperVariant.single (by subst h; rintro (_|_) <;> simp [WrapperVariant.tag])) fun _ =>
    Codec.ite (t = 1) (fun h => Codec.pure WrapperVariant.multi (by subst h; rintro (_|_) <;> simp [WrapperVariant.tag]))
      fun _ => Codec.fail .corrupted
  refine (key.of_eq fun _ => rfl).congr (by simp) ?_ ?_
  · intro x _; cases x <;> simp [WrapperVariant.tag]
  · intro x; cases x <;> simp [WrapperVariant.tag]

theorem codec_entryVariant : Whole False decEntryVariant (fun v => writeU8 v.tag) (fun _ => True) := by
  have key := Codec.step (S := fun _ => True) EntryVariant.tag codec_tag fun t =>
    Codec.ite (t = 2) (fun h => Codec.pure EntryVariant.head (by subst h; rintro (_|_|_) <;> simp [EntryVariant.tag])) fun _ =>
    Codec.ite (t = 3) (fun h => Codec.pure EntryVariant.tail (by subst h; rintro (_|_|_) <;> simp [EntryVariant.tag])) fun _ =>
    Codec.ite (t = 4) (fun h => Codec.pure EntryVariant.middle (by subst h; rintro (_|_|_) <;> simp [EntryVariant.tag]))
      fun _ => Codec.fail .corrupted
  refine (key.of_eq fun _ => rfl).congr (by simp) ?_ ?_
  · intro x _; cases x <;> simp [EntryVariant.tag]
  · intro x; cases x <;> simp [EntryVariant.tag]

theorem decWrapperVariant_unknown (t : Nat) (ht : 2 ≤ t) (r : Bytes) :
    decWrapperVariant (t :: r) = .error .corrupted := by
  have h0 : ¬ t = 0 := by omega
  have h1 : ¬ t = 1 := by omega
  simp [decWrapperVariant, readU8, h0, h1]

theorem decEntryVariant_unknown (t : Nat) (ht : t < 2 ∨ 4 < t) (r : Bytes) :
    decEntryVariant (t :: r) = .error .corrupted := by
  have h2 : ¬ t = 2 := by omega
  have h3 : ¬ t = 3 := by omega
  have h4 : ¬ t = 4 := by omega
  simp [decEntryVariant, readU8, h2, h3, h4]

/-- the item codec round-trips on `x` with every continuation -/
def ItemRt {α : Type} (p : Parser α) (w : α → Bytes) (x : α) : Prop :=
  ∀ rest, p (w x ++ rest) = .ok (x, rest)

/-- whatever the item reader accepts is the encoding of the value it returns -/
def ItemCanon {α : Type} (p : Parser α) (w : α → Bytes) : Prop :=
  ∀ bs x r, AllBytes bs → p bs = .ok (x, r) → bs = w x ++ r

def ListWrapper.WF {α : Type} (p : Parser α) (w : α → Bytes) : ListWrapper α → Prop
  | .single pos => ItemRt p w pos
  | .multi head tail => head < 2^64 ∧ tail < 2^64

def ListEntry.WF {α : Type} (p : Parser α) (w : α → Bytes) : ListEntry α → Prop
  | .head pos next => ItemRt p w pos ∧ next < 2^64
  | .tail pos prev => ItemRt p w pos ∧ prev < 2^64
  | .middle pos next prev => ItemRt p w pos ∧ next < 2^64 ∧ prev < 2^64

theorem decListWrapper_enc {α : Type} (p : Parser α) (w : α → Bytes) (x : ListWrapper α)
    (h : x.WF p w) (rest : Bytes) : decListWrapper p (encListWrapper w x ++ rest) = .ok (x, rest) := by
  cases x with
  | single pos =>
    rw [decListWrapper, encListWrapper]
    simp only [List.append_assoc]
    rw [codec_wrapperVariant.rt _ trivial, andThen_ok]
    simp only
    rw [h rest, andThen_ok]
  | multi head tail =>
    obtain ⟨h1, h2⟩ := h
    rw [decListWrapper, encListWrapper]
    simp only [List.append_assoc]
    rw [codec_wrapperVariant.rt _ trivial, andThen_ok]
    simp only
    rw [readU64_write _ h1, andThen_ok, readU64_write _ h2, andThen_ok]

theorem decListEntry_enc {α : Type} (p : Parser α) (w : α → Bytes) (x : ListEntry α)
    (h : x.WF p w) (rest : Bytes) : decListEntry p (encListEntry w x ++ rest) = .ok (x, rest) := by
  cases x with
  | head pos n | tail pos n =>
    obtain ⟨h1, h2⟩ := h
    rw [decListEntry, encListEntry]
    simp only [List.append_assoc]
    rw [codec_entryVariant.rt _ trivial, andThen_ok]
    simp only
    rw [h1, andThen_ok, readU64_write _ h2, andThen_ok]
  | middle pos next prev =>
    obtain ⟨h1, h2, h3⟩ := h
    rw [decListEntry, encListEntry]
    simp only [List.append_assoc]
    rw [codec_entryVariant.rt _ trivial, andThen_ok]
    simp only
    rw [h1, andThen_ok, readU64_write _ h2, andThen_ok, readU64_write _ h3, andThen_ok]

/-- `ItemCanon` is `LeafCanon` without a guarantee about the value -/
theorem ItemCanon.canon {α : Type} {p : Parser α} {w : α → Bytes} (hc : ItemCanon p w) : LeafCanon p w (fun _ => True) :=
  fun hb h => ⟨hc _ _ _ hb h, trivial⟩

theorem _root_.GV.Ser.LeafCanon.itemCanon {α : Type} {p : Parser α} {w : α → Bytes} {P : α → Prop} (h : LeafCanon p w P) :
    ItemCanon p w := fun _ _ _ hb hq => (h hb hq).1

theorem decListWrapper_inv {α : Type} {p : Parser α} {w : α → Bytes} (hc : ItemCanon p w)
    {bs : Bytes} {x : ListWrapper α} {r : Bytes} (hb : AllBytes bs)
    (h : decListWrapper p bs = .ok (x, r)) : bs = encListWrapper w x ++ r := by
  unfold decListWrapper at h
  obtain ⟨v, r1, rfl, -, hb1, h⟩ := andThen_canon (fun _ h => codec_wrapperVariant.inv' h) hb h
  cases v with
  | single =>
    simp only at h
    obtain ⟨pos, r2, rfl, -, hb, h⟩ := andThen_canon hc.canon hb1 h
    obtain ⟨rfl, rfl⟩ := Prod.mk.inj (Except.ok.inj h)
    simp [encListWrapper]
  | multi =>
    simp only at h
    obtain ⟨hd, r2, rfl, -, hb, h⟩ := andThen_canon readU64_inv hb1 h
    obtain ⟨tl, r3, rfl, -, hb, h⟩ := andThen_canon readU64_inv hb h
    obtain ⟨rfl, rfl⟩ := Prod.mk.inj (Except.ok.inj h)
    simp [encListWrapper]

theorem decListEntry_inv {α : Type} {p : Parser α} {w : α → Bytes} (hc : ItemCanon p w)
    {bs : Bytes} {x : ListEntry α} {r : Bytes} (hb : AllBytes bs)
    (h : decListEntry p bs = .ok (x, r)) : bs = encListEntry w x ++ r := by
  unfold decListEntry at h
  obtain ⟨v, r1, rfl, -, hb1, h⟩ := andThen_canon (fun _ h => codec_entryVariant.inv' h) hb h
  cases v with
  | head | tail =>
    simp only at h
    obtain ⟨pos, r2, rfl, -, hb, h⟩ := andThen_canon hc.canon hb1 h
    obtain ⟨n, r3, rfl, -, hb, h⟩ := andThen_canon readU64_inv hb h
    obtain ⟨rfl, rfl⟩ := Prod.mk.inj (Except.ok.inj h)
    simp [encListEntry]
  | middle =>
    simp only at h
    obtain ⟨pos, r2, rfl, -, hb, h⟩ := andThen_canon hc.canon hb1 h
    obtain ⟨nx, r3, rfl, -, hb, h⟩ := andThen_canon readU64_inv hb h
    obtain ⟨pv, r4, rfl, -, hb, h⟩ := andThen_canon readU64_inv hb h
    obtain ⟨rfl, rfl⟩ := Prod.mk.inj (Except.ok.inj h)
    simp [encListEntry]

theorem encListEntry_head {α : Type} (w : α → Bytes) (e : ListEntry α) :
    ∃ t tl, encListEntry w e = t :: tl ∧ 2 ≤ t := by
  cases e <;> exact ⟨_, _, rfl, by decide⟩

theorem encListWrapper_head {α : Type} (w : α → Bytes) (l : ListWrapper α) :
    ∃ t tl, encListWrapper w l = t :: tl ∧ t < 2 := by
  cases l <;> exact ⟨_, _, rfl, by decide⟩

theorem decListWrapper_unknown {α : Type} (p : Parser α) (t : Nat) (ht : 2 ≤ t) (r : Bytes) :
    decListWrapper p (t :: r) = .error .corrupted := by
  rw [decListWrapper, decWrapperVariant_unknown t ht, andThen_error]

theorem decListEntry_unknown {α : Type} (p : Parser α) (t : Nat) (ht : t < 2 ∨ 4 < t) (r : Bytes) :
    decListEntry p (t :: r) = .error .corrupted := by
  rw [decListEntry, decEntryVariant_unknown t ht, andThen_error]

def BlockSums.WF (s : BlockSums) : Prop := s.utxoSum.length = COMMIT_SIZE ∧ s.kernelSum.length = COMMIT_SIZE
instance (s : BlockSums) : Decidable s.WF := by unfold BlockSums.WF; infer_instance

def SizeEntry.WF (e : SizeEntry) : Prop := e.offset < 2^64 ∧ e.size < 2^16
instance (e : SizeEntry) : Decidable e.WF := by unfold SizeEntry.WF; infer_instance

theorem wire_blockSums : Wire.Field False decBlockSums GV.DecDb.blockSumsI encBlockSums BlockSums.WF 33 66 := by
  refine Wire.congr (Wire.step BlockSums.utxoSum (wire_fixed COMMIT_SIZE (by decide)) fun u =>
    Wire.step BlockSums.kernelSum (wire_fixed COMMIT_SIZE (by decide)) fun k =>
    Wire.pure (BlockSums.mk u k) (by rintro ⟨⟩; simp))
    (by simp) (fun s _ => by simp [encBlockSums]) (fun s => by simp [BlockSums.WF]) (he := by decide) (hn := by decide)

theorem wire_sizeEntry : Wire.Field True decSizeEntry (fun _ => GV.DecDb.sizeEntryI) encSizeEntry SizeEntry.WF 0 10 := by
  refine Wire.congr (Wire.step SizeEntry.offset wire_u64 fun o => Wire.step SizeEntry.size wire_u16 fun z =>
    Wire.pure (SizeEntry.mk o z) (by rintro ⟨⟩; simp))
    (by simp) (fun e _ => by simp [encSizeEntry]) (fun e => by simp [SizeEntry.WF]) (he := by decide) (hn := by decide)

theorem toI32_ofI32 (z : Int) (h1 : -(2^31 : Int) ≤ z) (h2 : z < (2^31 : Int)) :
    toI32 ((z % 2^32).toNat) = z := by
  unfold toI32
  split <;> omega

theorem readI32_write (z : Int) (h1 : -(2^31 : Int) ≤ z) (h2 : z < (2^31 : Int)) (rest : Bytes) :
    readI32 (writeI32 z ++ rest) = .ok (z, rest) := by
  have hlt : (z % 2^32).toNat < 2^32 := by omega
  rw [readI32, writeI32, readU32_write _ hlt, andThen_ok, toI32_ofI32 z h1 h2]

theorem codec_i32 : Whole True readI32 writeI32 (fun z => -(2^31 : Int) ≤ z ∧ z < (2^31 : Int)) :=
  .of_rt_inv (fun z h => readI32_write z h.1 h.2) fun hb h => by
    obtain ⟨u, r1, rfl, l, -, h⟩ := andThen_canon readU32_inv hb h
    obtain ⟨rfl, rfl⟩ := Prod.mk.inj (Except.ok.inj h)
    have hz : ((toI32 u) % 2^32).toNat = u := by unfold toI32; split <;> omega
    refine ⟨by rw [writeI32, hz], ?_, ?_⟩ <;> (unfold toI32; split <;> omega)

theorem decBoolFlag_any (x : Nat) (rest : Bytes) : decBoolFlag (x :: rest) = .ok (x % 2 == 1, rest) := rfl

def PeerData.WF (p : PeerData) : Prop :=
  p.addr.WF ∧ p.addr.norm = p.addr ∧ CapsWF p.capabilities ∧ StringWF p.userAgent ∧ p.flags ≤ PEER_STATE_MAX
  ∧ (-(2^63 : Int) ≤ p.lastBanned ∧ p.lastBanned < (2^63 : Int)) ∧ p.banReason ≤ 7
  ∧ (-(2^63 : Int) ≤ p.lastConnected ∧ p.lastConnected < (2^63 : Int))
  ∧ (-(2^63 : Int) ≤ p.lastAttempt ∧ p.lastAttempt < (2^63 : Int))

theorem PeerData.WF.flags {p : PeerData} (h : p.WF) : p.flags ≤ PEER_STATE_MAX := h.2.2.2.2.1
theorem PeerData.WF.banReason {p : PeerData} (h : p.WF) : p.banReason ≤ 7 := h.2.2.2.2.2.2.1
theorem PeerData.WF.lastConnected {p : PeerData} (h : p.WF) :
    -(2^63 : Int) ≤ p.lastConnected ∧ p.lastConnected < (2^63 : Int) := h.2.2.2.2.2.2.2.1
theorem PeerData.WF.lastAttempt {p : PeerData} (h : p.WF) :
    -(2^63 : Int) ≤ p.lastAttempt ∧ p.lastAttempt < (2^63 : Int) := h.2.2.2.2.2.2.2.2

/-- everything up to and including the ban reason: the mandatory part -/
def encPeerDataHead (p : PeerData) : Bytes :=
  encPeerAddr p.addr ++ writeU32 p.capabilities ++ writeBytes p.userAgent ++ writeU8 p.flags
  ++ writeI64 p.lastBanned ++ writeU32 p.banReason

theorem encPeerData_eq (p : PeerData) :
    encPeerData p = encPeerDataHead p ++ (writeI64 p.lastConnected ++ writeI64 p.lastAttempt) := by
  simp [encPeerData, encPeerDataHead]

/-- the reader after its six mandatory reads, for any state byte and ban-reason word in place of
those of `p`: what is left are the ban-reason and state tests and the optional fields -/
theorem decPeerData_reads (now : Int) (p : PeerData) (h : p.WF) (fl br : Nat) (h32 : br < 2^32) (tail : Bytes) :
    decPeerData now (encPeerAddr p.addr ++ writeU32 p.capabilities ++ writeBytes p.userAgent ++ writeU8 fl
      ++ writeI64 p.lastBanned ++ writeU32 br ++ tail)
      = match reasonOfI32 (toI32 br) with
        | none => .error .corrupted
        | some reason =>
          if fl > PEER_STATE_MAX then .error .corrupted
          else .ok ({ p with flags := fl, banReason := reason, lastConnected := (readTrailing now tail).1,
                             lastAttempt := (readTrailing now tail).2.1 }, (readTrailing now tail).2.2) := by
  obtain ⟨ha, hn, hc, hs, -, ⟨hb1, hb2⟩, -, -, -⟩ := h
  rw [decPeerData]
  simp only [List.append_assoc]
  rw [decPeerAddr_enc _ ha, andThen_ok, readU32_write _ (capsWF_lt hc), andThen_ok,
    readBytesLenPrefix_write _ hs.1, andThen_ok, readU8_write, andThen_ok,
    readI64_write _ hb1 hb2, andThen_ok, readU32_write _ h32, andThen_ok]
  have hu : validUtf8 p.userAgent = true := hs.2
  unfold CapsWF at hc
  cases reasonOfI32 (toI32 br) <;> simp [hu, hn, hc]

theorem decPeerData_head (now : Int) (p : PeerData) (h : p.WF) (tail : Bytes) :
    decPeerData now (encPeerDataHead p ++ tail)
      = .ok ({ p with lastConnected := (readTrailing now tail).1, lastAttempt := (readTrailing now tail).2.1 },
             (readTrailing now tail).2.2) := by
  have hr := h.banReason
  have hfl : ¬ p.flags > PEER_STATE_MAX := Nat.not_lt.mpr h.flags
  rw [encPeerDataHead, decPeerData_reads now p h _ _ (by omega), reasonOfI32_some _ hr]
  simp only [hfl, ↓reduceIte]

theorem readTrailing_full (now : Int) (lc la : Int) (h1 : -(2^63 : Int) ≤ lc ∧ lc < (2^63 : Int))
    (h2 : -(2^63 : Int) ≤ la ∧ la < (2^63 : Int)) (rest : Bytes) :
    readTrailing now (writeI64 lc ++ writeI64 la ++ rest) = (lc, la, rest) := by
  unfold readTrailing
  simp only [List.append_assoc]
  rw [readI64_write _ h1.1 h1.2]
  simp only
  rw [readI64_write _ h2.1 h2.2]

theorem readTrailing_none (now : Int) (tail : Bytes) (h : tail.length < 8) :
    readTrailing now tail = (now, 0, []) := by
  unfold readTrailing
  rw [readI64_short tail h]

theorem readTrailing_one (now : Int) (lc : Int) (h1 : -(2^63 : Int) ≤ lc ∧ lc < (2^63 : Int))
    (tail : Bytes) (h : tail.length < 8) :
    readTrailing now (writeI64 lc ++ tail) = (lc, 0, []) := by
  unfold readTrailing
  rw [readI64_write _ h1.1 h1.2]
  simp only
  rw [readI64_short tail h]

end GV.SerDb
