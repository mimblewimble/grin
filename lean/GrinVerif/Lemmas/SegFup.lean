import GrinVerif.Lemmas.SegPruned
import GrinVerif.Lemmas.SegVerdicts
/-! The completely compacted full segment (C16): the last position of the segment lies strictly
inside a compacted subtree.  `from_pmmr(.., prunable = true)` finds neither leaf data nor hashes in
the range, takes the "fully pruned segment" branch and ships one hash — the first position of the
family branch that is on file — with a proof that starts above it; `Segment::root` answers
`Ok(None)`; `first_unpruned_parent` walks up the family branch, finds the bitmap empty below every
ancestor up to and including that position, and returns its hash.  Here: coordinates, the range
is off file, nothing in it is required, the walk-up lemma, the first ancestor on file, and the
assembly: `validate` / `validate_with` accept.  Core Lean only. -/
namespace GV.Seg
open GV GV.Pmmr

variable {α H : Type}

theorem first_true (P : Nat → Prop) : ∀ (D g : Nat), ¬ P g → P (g + D) →
    ∃ e, e < D ∧ (∀ i, i ≤ e → ¬ P (g + i)) ∧ P (g + e + 1) := by
  intro D
  induction D with
  | zero => intro g h1 h2; exact absurd h2 h1
  | succ D ih =>
    intro g h1 h2
    by_cases h : P (g + 1)
    · refine ⟨0, by omega, ?_, h⟩
      intro i hi
      have : i = 0 := by omega
      subst this; exact h1
    · have e0 : g + (D + 1) = g + 1 + D := by omega
      rw [e0] at h2
      obtain ⟨e, he, hno, hyes⟩ := ih (g + 1) h h2
      refine ⟨e + 1, by omega, ?_, ?_⟩
      · intro i hi
        cases i with
        | zero => exact h1
        | succ i =>
          have := hno i (by omega)
          have e1 : g + 1 + i = g + (i + 1) := by omega
          rw [e1] at this; exact this
      · have e1 : g + 1 + e + 1 = g + (e + 1) + 1 := by omega
        rw [e1] at hyes; exact hyes

section Off
variable {hf : HashFn α H} {f : Nat → α} {N : Nat} {b : Nat → Bool} {V : View α H}

theorem subtree_off_file (pv : PrunedView hf f N b V) : ∀ (h n : Nat), h ≤ trailingOnes n → n < N →
    V.fromFile (mmr n + h) = none → ∀ q ∈ treeRange h (mmr n + h), V.fromFile q = none := by
  intro h
  induction h with
  | zero =>
    intro n _ _ hoff q hq
    rw [treeRange_zero, List.mem_singleton] at hq
    rw [hq]; exact hoff
  | succ k ih =>
    intro n hv hn hoff q hq
    have c1 := (Co.left_sibling_coord (show k < trailingOnes n from hv)).valid
    obtain ⟨hL, hR, _⟩ := pv.compacted n k hv hn (Or.inl hoff)
    obtain ⟨eL, eR⟩ := children_co (show k < trailingOnes n from hv)
    rw [treeRange_node (Co.height_co n (k + 1) hv), eL, eR, List.mem_append, List.mem_append,
      List.mem_singleton] at hq
    rcases hq with (hq | hq) | hq
    · exact ih (n - 2 ^ k) c1 (Nat.lt_of_le_of_lt (Nat.sub_le _ _) hn) hL q hq
    · exact ih n (Nat.le_of_succ_le hv) hn hR q hq
    · rw [hq]; exact hoff

theorem unmarked_below (pv : PrunedView hf f N b V) (n j : Nat) (hlt : Co.up n (j + 1) < N)
    (hoff : V.fromFile (anc n j) = none) (l : Nat) (hl : l ≤ j + 1) :
    ∀ i, Co.up n l + 1 - 2 ^ l ≤ i → i ≤ Co.up n l → b i = false := by
  intro i h1 h2
  obtain ⟨d, hd⟩ := Nat.exists_eq_add_of_le hl
  have hmono := Co.up_leftmost_mono n d l
  rw [← hd] at hmono
  exact (pv.compacted_up n j hlt (Or.inr (Or.inl hoff))).2.2 i (Nat.le_trans hmono h1)
    (Nat.le_trans h2 (Co.up_mono n hl))

end Off

theorem rootLoop_tree_dead (hf : HashFn α H) (s : Segment α H) (b : Nat → Bool) (S : Nat) :
    ∀ (h p : Nat) (st : RootSt α H), height p = h → liveAt (some b) S h p = false →
      rootLoop hf s (some b) S st (treeRange h p) = .ok (none :: st.1, st.2) := by
  intro h
  induction h with
  | zero =>
    intro p st hp hd
    rw [liveAt] at hd
    simp only [treeRange_zero, rootLoop, rootStep, hp, if_true, hd, Bool.false_eq_true, if_false]
  | succ h ih =>
    intro p st hp hd
    obtain ⟨hl, hr, hsplit⟩ := node_split p h hp
    rw [liveAt, Bool.or_eq_false_iff] at hd
    rw [rootLoop_node hf s (some b) S hp (ih _ st hl hd.1) (ih _ _ hr hd.2)]
    simp only [rootStep, hp, Nat.add_one_ne_zero, if_false]

theorem rootWith_dead (hf : HashFn α H) (s : Segment α H) (b : Nat → Bool) (S g p : Nat)
    (hp : height p = g) (hd : liveAt (some b) S g p = false) (pks : List Nat) :
    rootWith hf s S (some b) (treeRange g p) true pks = .ok none := by
  unfold rootWith
  rw [rootLoop_tree_dead hf s b S g p _ hp hd]
  rfl

theorem subtreeLeafRange_co {n h N : Nat} (hh : h ≤ trailingOnes n) (hn : n < N) :
    subtreeLeafRange (mmr n + h) N = (n + 1 - 2 ^ h, n + 1) := by
  unfold subtreeLeafRange
  rw [Co.leftmost_co hh, Co.rightmost_co hh, Co.nLeaves_succ_mmr_sub, Nat.add_comm 1 (mmr n),
    Co.nLeaves_mmr_succ]
  have : min (n + 1) N = n + 1 := Nat.min_eq_left (by omega)
  rw [this]

theorem rangeCard_co_zero (b : Nat → Bool) {n h N : Nat} (hh : h ≤ trailingOnes n) (hn : n < N)
    (hN : N < 2 ^ 32) (hun : ∀ j, n + 1 - 2 ^ h ≤ j → j ≤ n → b j = false) :
    rangeCard b (subtreeLeafRange (mmr n + h) N).1 (subtreeLeafRange (mmr n + h) N).2 = 0 := by
  rw [subtreeLeafRange_co hh hn]
  unfold rangeCard
  simp only
  have hle : n + 1 - 2 ^ h ≤ n + 1 := Nat.sub_le _ _
  have e1 : (n + 1 - 2 ^ h) % 2 ^ 32 = n + 1 - 2 ^ h := Nat.mod_eq_of_lt (by omega)
  have e2 : (n + 1) % 2 ^ 32 = n + 1 := Nat.mod_eq_of_lt (by omega)
  rw [e1, e2, List.countP_eq_zero]
  intro j hj
  rw [List.mem_range'_1] at hj
  rw [hun j (by omega) (by omega)]
  simp

/-- the "fully pruned segment" `from_pmmr` builds: one hash at `a`, no leaves -/
def parentSeg (id : Ident) (a : Nat) (x : H) (proof : List H) : Segment α H :=
  { id := id, hashPos := [a], hashes := [x], leafPos := [], leafData := [], proof := proof }

theorem parentSeg_getHash_self (id : Ident) (a : Nat) (x : H) (proof : List H) :
    (parentSeg id a x proof : Segment α H).getHash a = .ok x := by
  simp [Segment.getHash, parentSeg, lookup]

theorem parentSeg_getHash_ne (id : Ident) (a : Nat) (x : H) (proof : List H) (q : Nat) (hq : a ≠ q) :
    (parentSeg id a x proof : Segment α H).getHash q = .err (.missingHash q) := by
  simp [Segment.getHash, parentSeg, lookup, hq]

theorem firstOnFile_skip (V : View α H) (a s0 : Nat) (x : H) (rest : List (Nat × Nat))
    (hon : V.fromFile a = some x) : ∀ (pre : List (Nat × Nat)), (∀ y ∈ pre, V.fromFile y.1 = none) →
    firstOnFile V (pre ++ (a, s0) :: rest) = some (a, x) := by
  intro pre
  induction pre with
  | nil => intro _; simp only [List.nil_append, firstOnFile, hon]
  | cons y pre ih =>
    intro hoff
    have h0 := hoff y (List.mem_cons_self ..)
    obtain ⟨p1, s1⟩ := y
    simp only [List.cons_append, firstOnFile, h0]
    exact ih fun z hz => hoff z (List.mem_cons_of_mem _ hz)

theorem branchCo_split (n j e r : Nat) :
    Co.branchCo n j (e + 1 + r)
      = Co.branchCo n j e ++ (anc n (j + e + 1), Co.cpos (Co.sibCo n (j + e))) :: Co.branchCo n (j + e + 1) r := by
  simp only [Co.branchCo, anc, Nat.add_assoc e 1 r, ← List.range'_append_1, List.map_append,
    Nat.add_comm 1 r, List.range'_succ, List.map_cons]

theorem mem_branchCo {n j e : Nat} {y : Nat × Nat} (hy : y ∈ Co.branchCo n j e) :
    ∃ i, i < e ∧ y.1 = anc n (j + i + 1) := by
  simp only [Co.branchCo, List.mem_map, List.mem_range'_1] at hy
  obtain ⟨i, ⟨h1, h2⟩, rfl⟩ := hy
  exact ⟨i - j, by omega, by rw [show j + (i - j) = i by omega]; rfl⟩

theorem firstOnFile_branchCo (V : View α H) (n : Nat) (x : H) (e j r : Nat)
    (hoff : ∀ i, i < e → V.fromFile (anc n (j + i + 1)) = none)
    (hon : V.fromFile (anc n (j + e + 1)) = some x) :
    firstOnFile V (Co.branchCo n j (e + 1 + r)) = some (anc n (j + e + 1), x) := by
  rw [branchCo_split]
  apply firstOnFile_skip V _ _ x _ hon
  intro y hy
  obtain ⟨i, hi, e1⟩ := mem_branchCo hy
  rw [e1]; exact hoff i hi

theorem fupLoop_walk (s : Segment α H) (b : Nat → Bool) (nl n : Nat) (x : H) (e j r : Nat)
    (hmiss : ∀ i, i ≤ e → s.getHash (anc n (j + i)) = .err (.missingHash (anc n (j + i))))
    (hget : s.getHash (anc n (j + e + 1)) = .ok x)
    (hcard : ∀ i, i ≤ e → rangeCard b (subtreeLeafRange (anc n (j + i + 1)) nl).1
      (subtreeLeafRange (anc n (j + i + 1)) nl).2 = 0) :
    fupLoop s b nl (anc n j) (Co.branchCo n j (e + 1 + r)) = .ok (x, 1 + anc n (j + e + 1)) := by
  rw [branchCo_split]
  apply fupLoop_skip s b nl _ _ x _ hget (hcard e (Nat.le_refl _)) _ _ ⟨_, hmiss 0 (Nat.zero_le _)⟩
  intro y hy
  obtain ⟨i, hi, e1⟩ := mem_branchCo hy
  rw [e1]
  exact ⟨⟨_, hmiss (i + 1) hi⟩, hcard i (Nat.le_of_lt hi)⟩
theorem fromPmmrWith_compacted (hf : HashFn α H) (V : View α H) (id : Ident) (ps : List Nat)
    (first last : Nat) (hoffh : ∀ p ∈ ps, V.fromFile p = none)
    (hoffd : ∀ p ∈ ps, height p = 0 → V.dataFromFile p = none) (a : Nat) (x : H)
    (hfirst : firstOnFile V (familyBranch last V.size) = some (a, x)) (proof : List H)
    (hgen : generate hf V (1 + first) (1 + last) (some (1 + a)) = .ok proof) :
    fromPmmrWith hf V id true ps first last = .ok (parentSeg id a x proof) := by
  have hl : ps.filterMap (leafEntry V) = [] := by
    rw [List.filterMap_eq_nil_iff]
    intro p hp
    by_cases hl : height p = 0
    · simp [leafEntry, hoffd p hp hl]
    · simp [leafEntry, isLeaf, hl]
  have hh : ps.filterMap (hashEntry V) = [] := by
    rw [List.filterMap_eq_nil_iff]
    intro p hp
    by_cases hl : height p = 0
    · simp [hashEntry, leafEntry, hoffd p hp hl, hoffh p hp]
    · simp [hashEntry, leafEntry, isLeaf, hl, hoffh p hp]
  unfold fromPmmrWith
  rw [fill_prunable, hl, hh]
  simp only [List.isEmpty_nil, Bool.and_self, if_true, hfirst, hgen]
  rfl

section Assembly
variable {hf : HashFn α H} {f : Nat → α} {N : Nat} {b : Nat → Bool} {V : View α H}

theorem first_on_file (pv : PrunedView hf f N b V) {n k : Nat} {L R : List (Nat × Nat)}
    (c : Co.PeakCtx N n k L R) (g : Nat) (hgk : g ≤ k) (hoff : V.fromFile (anc n g) = none) :
    ∃ e, g + e + 1 ≤ k ∧ (∀ i, i ≤ e → V.fromFile (anc n (g + i)) = none) ∧
      V.fromFile (anc n (g + e + 1)) = some (hAt hf f (anc n (g + e + 1))) := by
  have hpeak : V.fromFile (anc n k) ≠ none :=
    pv.peaks_on_file _ (by rw [Co.peaks_forest]; exact List.mem_map.2 ⟨_, c.mem, rfl⟩)
  obtain ⟨D, rfl⟩ := Nat.exists_eq_add_of_le hgk
  obtain ⟨e, he, hno, hyes⟩ := first_true (fun j => V.fromFile (anc n j) ≠ none) D g
    (fun h => h hoff) hpeak
  exact ⟨e, by omega, fun i hi => Classical.byContradiction (hno i hi),
    pv.file_eq (c.cpos_lt (by omega)) hyes⟩

theorem compacted_full_complete [DecidableEq H] (pv : PrunedView hf f N b V)
    (id : Ident) (v : FullId id (mmr N)) (hg : 1 ≤ id.height)
    (hoff : V.fromFile (lastOf id) = none) :
    ∃ m proof r, id.height < m ∧
      (∀ j, id.height ≤ j → j < m → V.fromFile (anc (lastLeaf id) j) = none) ∧
      V.fromFile (anc (lastLeaf id) m) = some (hAt hf f (anc (lastLeaf id) m)) ∧
      (∃ x ∈ familyBranch (lastOf id) (mmr N), x.1 = anc (lastLeaf id) m) ∧
      rootOf hf f N = some r ∧
      ∀ s, s = parentSeg id (anc (lastLeaf id) m) (hAt hf f (anc (lastLeaf id) m)) proof →
        fromPmmr hf V id true = .ok s ∧
        s.root hf (mmr N) (some b) = .ok none ∧
        s.firstUnprunedParent hf (mmr N) (some b)
          = .ok (hAt hf f (anc (lastLeaf id) m), 1 + anc (lastLeaf id) m) ∧
        Accepts hf s (mmr N) (some b) r := by
  have fit := v.toFit
  have hr := v.posRange
  have hlt := fit.positions_lt
  have hfirst_lt : mmr (id.idx * 2 ^ id.height) < mmr N := Co.mmr_lt_mmr fit.lo
  have hpos := full_positions id (mmr N) v
  have hnlt := lastLeaf_lt id N v
  have hvalid := lastLeaf_valid id
  obtain ⟨k, L, R, c⟩ := Co.exists_peakCtx hnlt
  have hle := c.height_le (lastLeaf_valid id)
  have hlast_anc : lastOf id = anc (lastLeaf id) id.height := (anc_lastLeaf id).symm
  obtain ⟨e, hmk, hoffi, hx⟩ := first_on_file pv c id.height hle (by rw [← hlast_anc]; exact hoff)
  have hunL := unmarked_below pv (lastLeaf id) (id.height + e) (c.up_lt hmk) (hoffi e (Nat.le_refl _))
  have hdead : liveAt (some b) (mmr N) id.height (lastOf id) = false :=
    dead_of_unmarked b N pv.small id.height (lastLeaf id) hg hvalid hnlt
      (by have := hunL id.height (by omega); rwa [full_up] at this)
  have hoffh : ∀ p ∈ id.positions (mmr N), V.fromFile p = none := by
    rw [hpos]; exact subtree_off_file pv id.height (lastLeaf id) hvalid hnlt hoff
  have hoffd : ∀ p ∈ id.positions (mmr N), height p = 0 → V.dataFromFile p = none :=
    fun p hp hl => pv.data_compacted p (hlt p hp) hl (hoffh p hp)
  obtain ⟨D, hD⟩ := Nat.exists_eq_add_of_le hmk
  have hfirst : firstOnFile V (familyBranch (lastOf id) V.size)
      = some (anc (lastLeaf id) (id.height + e + 1), hAt hf f (anc (lastLeaf id) (id.height + e + 1))) := by
    rw [pv.size, full_familyBranch c, show k - id.height = e + 1 + D by omega]
    exact firstOnFile_branchCo V (lastLeaf id) _ e id.height _
      (fun i hi => hoffi (i + 1) (by omega)) hx
  obtain ⟨proof, r, hgen, hroot, hrec⟩ := branch_generate_reconstruct hf f N id V pv.size c
    (id.height + e + 1) (by omega) hmk _ (Or.inl rfl)
    (branch_sibs pv c (id.height + e + 1) (by omega) (fun h => by rw [hx] at h; cases h))
    (fun p hp => peak_file pv p hp)
    (fun p hp hlt' => left_peak_hash pv p _ hp hlt' hfirst_lt)
  refine ⟨id.height + e + 1, proof, r, by omega, ?_, hx, ?_, hroot, ?_⟩
  · intro j hj1 hj2
    obtain ⟨i, rfl⟩ := Nat.exists_eq_add_of_le hj1
    exact hoffi i (by omega)
  · rw [full_familyBranch c]
    refine ⟨(anc (lastLeaf id) (id.height + e + 1), Co.cpos (Co.sibCo (lastLeaf id) (id.height + e))), ?_, rfl⟩
    simp only [Co.branchCo, List.mem_map, List.mem_range'_1]
    exact ⟨id.height + e, ⟨by omega, by omega⟩, rfl⟩
  · intro S0 hS
    have hid : S0.id = id := by rw [hS]; rfl
    have hfrom : fromPmmr hf V id true = .ok S0 := by
      rw [fromPmmr_fit hf V id fit pv.size, hS]
      exact fromPmmrWith_compacted hf V id _ _ _ hoffh hoffd _ _ (by rw [hr]; exact hfirst) proof
        (by rw [hr]; exact hgen)
    have hrootS : S0.root hf (mmr N) (some b) = .ok none := by
      rw [root_full hf S0 (mmr N) (some b) (hid.symm ▸ v), hid]
      exact rootWith_dead hf _ b (mmr N) id.height (lastOf id) (height_lastOf id) hdead _
    have hfup : S0.firstUnprunedParent hf (mmr N) (some b)
        = .ok (hAt hf f (anc (lastLeaf id) (id.height + e + 1)), 1 + anc (lastLeaf id) (id.height + e + 1)) := by
      unfold Segment.firstUnprunedParent
      rw [hrootS, hid, hr]
      show fupLoop _ b (nLeaves (mmr N)) (lastOf id) (familyBranch (lastOf id) (mmr N)) = _
      rw [Co.nLeaves_mmr, full_familyBranch c,
        show k - id.height = e + 1 + D by omega, hlast_anc, hS]
      apply fupLoop_walk
      · intro i hi
        exact parentSeg_getHash_ne _ _ _ _ _
          (Nat.ne_of_gt (anc_strict (lastLeaf id) (show id.height + i < id.height + e + 1 by omega)))
      · exact parentSeg_getHash_self _ _ _ _
      · intro i hi
        exact rangeCard_co_zero b (Co.up_valid (lastLeaf id) (id.height + i + 1))
          (c.up_lt (by omega)) pv.small (hunL (id.height + i + 1) (by omega))
    exact ⟨hfrom, hrootS, hfup, validate_of_parts hf S0 (mmr N) (some b) _ r _ [] hfup
      (by rw [hS]; show reconstructRoot hf proof (mmr N) (id.posRange (mmr N)).1 (id.posRange (mmr N)).2 _ _ = _
          rw [hr]; exact hrec)⟩

end Assembly

end GV.Seg
