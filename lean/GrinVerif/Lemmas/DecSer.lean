import GrinVerif.Model.DecSer
import GrinVerif.Lemmas.DecBound
/-! What the calculus of `Lemmas/DecBound.lean` needs for the combinators of `Model/DecSer.lean`:

* `vecReq_le` — the amortised charge `GROW = 4` per pushed item dominates the real growth sequence of
  a `Vec` filled by `push`;
* `charge` and the `Chk` tests (`corrupt`, `pass`) under `BndS`, `Bnd` and `NoPanic`;
* `multiItem`, `readMulti` under `BndS` and `ProgW`: a `read_multi` allocates in proportion to what it
  consumed and hands on a credit per item (`bndS_readMulti`), and it yields `w` bytes of input per item
  (`readMulti_progress`). -/
namespace GV.DecSer
open GV GV.Ser GV.Dec

variable {α : Type}

/-! ### `Vec` growth by `push` (`RawVec::grow_amortized`, `MIN_NON_ZERO_CAP = 4`) -/

/-- capacity and total number of elements requested from the allocator after `i` pushes onto an empty
`Vec` (`from_iter` of an iterator without size hint starts with capacity 4 too) -/
def vecState : Nat → Nat × Nat
  | 0 => (0, 0)
  | i+1 =>
    let (cap, req) := vecState i
    if i < cap then (cap, req) else
      let cap' := max 4 (2 * cap)
      (cap', req + cap')

def vecCap (i : Nat) : Nat := (vecState i).1
def vecReq (i : Nat) : Nat := (vecState i).2

/-- capacity ≤ 2i + 2; requested + 4 ≤ 2 · capacity (the doubling sum; + 4 before the first push); capacity is 0
or ≥ 4; i ≤ capacity. The last two carry the induction, `vecReq_le` uses the first two. -/
theorem vecState_inv (i : Nat) :
    (vecState i).1 ≤ 2 * i + 2 ∧ (vecState i).2 + 4 ≤ 2 * (vecState i).1 + (if i = 0 then 4 else 0) ∧
    ((vecState i).1 = 0 ∨ 4 ≤ (vecState i).1) ∧ i ≤ (vecState i).1 := by
  induction i with
  | zero => simp [vecState]
  | succ i ih =>
    obtain ⟨h1, h2, h3, h4⟩ := ih
    simp only [vecState]
    split
    · rename_i hlt
      refine ⟨by omega, ?_, h3, by omega⟩
      split at h2 <;> simp_all <;> omega
    · rename_i hge
      simp only
      refine ⟨by omega, ?_, by omega, by omega⟩
      split at h2 <;> simp <;> omega

/-- elements requested in total (initial allocation and every reallocation) after `i` pushes: at most
`4 · i` — the charge `GROW · size_of::<T>()` per pushed item dominates it at every point -/
theorem vecReq_le (i : Nat) : vecReq i ≤ GROW * i := by
  have := vecState_inv i
  unfold vecReq GROW
  by_cases h : i = 0
  · subst h; simp [vecState]
  · simp only [h, if_false] at this; omega

example : vecReq 1 = 4 ∧ vecReq 4 = 4 ∧ vecReq 5 = 12 ∧ vecReq 9 = 28 := by decide

theorem BndS.charge {c k e : Nat} {μ : α → Nat} {p : Dec α} (hp : BndS c k e μ p) (n : Nat) :
    BndS c (n + k) e μ (fun bs => GV.DecSer.charge n (p bs)) :=
  fun bs => (hp bs).addAlloc

theorem BndS.spend {c k e : Nat} {μ : α → Nat} {p : Dec α} (n k' : Nat) (hp : BndS c k' e μ p)
    (h : n + k' ≤ k := by omega) : BndS c k e μ (fun bs => GV.DecSer.charge n (p bs)) :=
  (BndS.charge hp n).weaken h (Nat.le_refl _)

theorem BndS.corrupt {c k e : Nat} {μ : α → Nat} {p : Dec α} (ch : Chk) (hp : BndS c k e μ p) :
    BndS c k e μ (fun bs => ch.corrupt (p bs)) := by
  intro bs
  have := hp bs
  show OBndS _ _ _ _ _ (ch.corrupt (p bs))
  cases ch <;> simp [Chk.corrupt] <;> exact this

theorem BndS.pass {c k e : Nat} {μ : α → Nat} {p : Dec α} (ch : Chk) (hp : BndS c k e μ p) :
    BndS c k e μ (fun bs => ch.pass (p bs)) := by
  intro bs
  have := hp bs
  show OBndS _ _ _ _ _ (ch.pass (p bs))
  cases ch <;> simp [Chk.pass] <;> exact this

theorem NoPanic.corrupt {p : Dec α} (ch : Chk) (hc : ∀ s, ch ≠ .panic s) (hp : NoPanic p) :
    NoPanic (fun bs => ch.corrupt (p bs)) := by
  intro bs
  show (ch.corrupt (p bs)).isPanic = false
  cases ch with
  | ok => exact hp bs
  | err e => rfl
  | panic s => exact absurd rfl (hc s)

theorem _root_.GV.Dec.Bnd.spend {c k e : Nat} {p : Dec α} (n k' : Nat) (hp : Bnd c k' e p) (h : n + k' ≤ k := by omega) :
    Bnd c k e (fun bs => GV.DecSer.charge n (p bs)) :=
  (BndS.spend n k' (Bnd.toBndS hp) h).toBnd

theorem _root_.GV.Dec.Bnd.corrupt {c k e : Nat} {p : Dec α} (ch : Chk) (hp : Bnd c k e p) :
    Bnd c k e (fun bs => ch.corrupt (p bs)) :=
  (BndS.corrupt ch (Bnd.toBndS hp)).toBnd

theorem _root_.GV.Dec.Bnd.pass {c k e : Nat} {p : Dec α} (ch : Chk) (hp : Bnd c k e p) :
    Bnd c k e (fun bs => ch.pass (p bs)) :=
  (BndS.pass ch (Bnd.toBndS hp)).toBnd

theorem multiItem_ok {p : Dec α} {sz : Nat} {bs : Bytes} {x : α} {r : Bytes} {n : Nat}
    (h : multiItem p sz bs = .ok x r n) : ∃ m, p bs = .ok x r m ∧ n = m + GROW * sz := by
  unfold multiItem at h
  cases hp : p bs with
  | ok x' r' m => rw [hp] at h; simp only [Outcome.ok.injEq] at h; exact ⟨m, by rw [h.1, h.2.1], h.2.2.symm⟩
  | err e m => rw [hp] at h; simp at h
  | panic s m => rw [hp] at h; simp at h

theorem progW_multiItem {p : Dec α} {w : Nat} (hp : ProgW w p) (sz : Nat) : ProgW w (multiItem p sz) := by
  intro bs a r n h
  obtain ⟨m, h1, _⟩ := multiItem_ok h
  exact hp bs a r m h1

/-- an item read with its amortised push charge and a credit `d` for later copies:
`GROW · sz + d ≤ c1 · w` -/
theorem bndS_multiItem {c0 c1 e w d sz : Nat} {p : Dec α} (hp : Bnd c0 0 e p) (hw : ProgW w p)
    (hd : GROW * sz + d ≤ c1 * w) : BndS (c0 + c1) 0 e (fun _ => d) (multiItem p sz) := by
  intro bs
  have h1 := (BndS.ofProg (d := GROW * sz + d) hp hw hd) bs
  unfold multiItem
  cases hpb : p bs with
  | ok a r n => rw [hpb] at h1; simp only [OBndS_ok] at h1 ⊢; omega
  | err x n => rw [hpb] at h1; simpa using h1
  | panic x n => rw [hpb] at h1; simpa using h1

theorem bndS_readMulti {c0 c1 e w d sz : Nat} {p : Dec α} (hp : Bnd c0 0 e p) (hw : ProgW w p)
    (hd : GROW * sz + d ≤ c1 * w) (count : Nat) :
    BndS (c0 + c1) 0 e (fun xs => d * xs.length) (readMulti p sz count) := by
  intro bs
  unfold readMulti
  split
  · simp
  · exact BndS.readN (bndS_multiItem hp hw hd) count bs

theorem readMulti_ok {p : Dec α} {sz count : Nat} {bs : Bytes} {xs : List α} {r : Bytes} {n : Nat}
    (h : readMulti p sz count bs = .ok xs r n) :
    count ≤ MAX_MULTI_COUNT ∧ GV.Dec.readN (multiItem p sz) count bs = .ok xs r n := by
  unfold readMulti at h
  split at h
  · simp at h
  · exact ⟨by omega, h⟩

/-- **loop progress of `read_multi`**: whatever count is announced, the items it yields are paid for
by consumed bytes, `w` per item -/
theorem readMulti_progress {p : Dec α} {w : Nat} (hp : ProgW w p) {sz count : Nat} {bs : Bytes} {xs : List α}
    {r : Bytes} {n : Nat} (h : readMulti p sz count bs = .ok xs r n) :
    xs.length = count ∧ xs.length * w + r.length ≤ bs.length := by
  obtain ⟨_, h'⟩ := readMulti_ok h
  exact ⟨readN_length count bs xs r n h', readN_progressW (progW_multiItem hp sz) count bs xs r n h'⟩

end GV.DecSer
