import GrinVerif.Lemmas.ChainApply
import GrinVerif.Lemmas.UtilList
/-! Value accounting on the replayed state (C01 `state_equation`) and the exact effect of a block
on the unspent set. -/
namespace GV.Chain

theorem effects_has (s : UState) (b : Blk) (o : Nat) :
    (effects s b).has o = ((s.has o && !b.ins.contains o) || b.outs.any (·.1 == o)) := by
  simp only [UState.has, effects, List.any_append, List.any_filter, List.any_map]
  congr 1
  · induction s.utxo with
    | nil => simp
    | cons u us ih =>
      simp only [List.any_cons, ih]
      by_cases hu : u.1 = o
      · subst hu; simp
      · have : (u.1 == o) = false := by simpa using hu
        simp [this]

theorem has_effects_iff (s : UState) (b : Blk) (o : Nat) :
    (effects s b).has o = true ↔ (s.has o = true ∧ o ∉ b.ins) ∨ o ∈ b.outs.map (·.1) := by
  rw [effects_has]
  simp only [Bool.or_eq_true, Bool.and_eq_true, Bool.not_eq_true', List.contains_eq_mem,
    decide_eq_false_iff_not, List.any_eq_true, beq_iff_eq, List.mem_map]

theorem has_applyBlock_iff {p : Params} {s s' : UState} {b : Blk} (h : applyBlock p s b = .ok s')
    (o : Nat) : s'.has o = true ↔ (s.has o = true ∧ o ∉ b.ins) ∨ o ∈ b.outs.map (·.1) := by
  rw [applyBlock_effects h]
  exact has_effects_iff s b o

theorem has_iff_mem (s : UState) (o : Nat) : s.has o = true ↔ o ∈ s.utxo.map (·.1) := by
  simp only [UState.has, List.any_eq_true, List.mem_map]
  constructor
  · rintro ⟨u, hu, he⟩; exact ⟨u, hu, by simpa using he⟩
  · rintro ⟨u, hu, he⟩; exact ⟨u, hu, by simpa using he⟩

theorem sumVals_eq_sum (outs : List OutDef) (ids : List Nat) :
    sumVals outs ids = (ids.map (valOf outs)).sum := by
  unfold sumVals
  rw [foldl_add_eq_sum]; omega

theorem sumVals_append (outs : List OutDef) (a b : List Nat) :
    sumVals outs (a ++ b) = sumVals outs a + sumVals outs b := by
  simp only [sumVals_eq_sum, List.map_append, List.sum_append]

/-- a new output definition changes the value of no commitment but its own -/
theorem valOf_extend {outs : List OutDef} {d : OutDef} (hfresh : ∀ x ∈ outs, x.id ≠ d.id) (o : Nat) :
    valOf (outs ++ [d]) o = if o = d.id then d.v else valOf outs o := by
  unfold valOf
  rw [List.find?_append]
  by_cases ho : o = d.id
  · subst ho
    have : outs.find? (fun x => x.id == d.id) = none := by
      rw [List.find?_eq_none]; intro x hx; simpa using hfresh x hx
    simp [this]
  · cases hf : outs.find? (fun x => x.id == o) with
    | some x => simp [ho]
    | none =>
      have : (d.id == o) = false := by simpa using fun h => ho h.symm
      simp [ho, this]

theorem sumVals_extend {outs : List OutDef} {d : OutDef} (hfresh : ∀ x ∈ outs, x.id ≠ d.id)
    (ids : List Nat) (hn : d.id ∉ ids) : sumVals (outs ++ [d]) ids = sumVals outs ids := by
  unfold sumVals
  congr 1
  apply List.map_congr_left
  intro o ho
  rw [valOf_extend hfresh]
  have : o ≠ d.id := fun h => hn (h ▸ ho)
  simp [this]

theorem sumVals_single_new {outs : List OutDef} {d : OutDef} (hfresh : ∀ x ∈ outs, x.id ≠ d.id) :
    sumVals (outs ++ [d]) [d.id] = d.v := by
  simp [sumVals, valOf_extend hfresh]

def utxoValue (outs : List OutDef) (s : UState) : Nat := (s.utxo.map (fun u => valOf outs u.1)).sum

theorem sum_filter_ne (f : Nat → Nat) (L : List (Nat × Nat × Bool)) (i : Nat)
    (hnd : (L.map (·.1)).Nodup) (hm : i ∈ L.map (·.1)) :
    ((L.filter (fun u => !(u.1 == i))).map (fun u => f u.1)).sum + f i = (L.map (fun u => f u.1)).sum := by
  induction L with
  | nil => cases hm
  | cons u us ih =>
    simp only [List.map_cons, List.nodup_cons] at hnd
    simp only [List.map_cons, List.mem_cons] at hm
    by_cases hu : u.1 = i
    · subst hu
      have hfil : us.filter (fun v => !(v.1 == u.1)) = us := by
        apply List.filter_eq_self.mpr
        intro v hv
        have : v.1 ≠ u.1 := fun he => hnd.1 (he ▸ List.mem_map.mpr ⟨v, hv, rfl⟩)
        simpa using this
      simp only [List.filter_cons, beq_self_eq_true, Bool.not_true, hfil, List.map_cons, List.sum_cons]
      simp
      omega
    · have hne : (u.1 == i) = false := by simpa using hu
      have hm' : i ∈ us.map (·.1) := by
        rcases hm with h | h
        · exact absurd h.symm hu
        · exact h
      have := ih hnd.2 hm'
      simp only [List.filter_cons, hne, Bool.not_false, if_true, List.map_cons, List.sum_cons]
      omega

theorem sum_filter_notin (f : Nat → Nat) (ins : List Nat) : ∀ (L : List (Nat × Nat × Bool)),
    (L.map (·.1)).Nodup → ins.Nodup → (∀ i ∈ ins, i ∈ L.map (·.1)) →
    ((L.filter (fun u => !ins.contains u.1)).map (fun u => f u.1)).sum + (ins.map f).sum =
      (L.map (fun u => f u.1)).sum := by
  induction ins with
  | nil =>
    intro L _ _ _
    have : L.filter (fun _ => true) = L := List.filter_eq_self.mpr (fun _ _ => rfl)
    simp [this]
  | cons i rest ih =>
    intro L hnd hin hsub
    simp only [List.nodup_cons] at hin
    have hsplit : L.filter (fun u => !(i :: rest).contains u.1) =
        (L.filter (fun u => !(u.1 == i))).filter (fun u => !rest.contains u.1) := by
      rw [List.filter_filter]
      apply List.filter_congr
      intro u _
      by_cases h : u.1 = i
      · simp [h]
      · have h' : (u.1 == i) = false := by simpa using h
        simp [h, h']
    have hnd' : ((L.filter (fun u => !(u.1 == i))).map (·.1)).Nodup :=
      (List.filter_sublist.map _).nodup hnd
    have hsub' : ∀ j ∈ rest, j ∈ (L.filter (fun u => !(u.1 == i))).map (·.1) := by
      intro j hj
      obtain ⟨u, hu, huj⟩ := List.mem_map.mp (hsub j (List.mem_cons_of_mem _ hj))
      refine List.mem_map.mpr ⟨u, List.mem_filter.mpr ⟨hu, ?_⟩, huj⟩
      have : u.1 ≠ i := fun he => hin.1 (by rw [← he, huj]; exact hj)
      simpa using this
    have h1 := ih _ hnd' hin.2 hsub'
    have h2 := sum_filter_ne f L i hnd (hsub i (List.mem_cons_self ..))
    rw [hsplit]
    simp only [List.map_cons, List.sum_cons]
    omega

theorem effects_value (outs : List OutDef) (s : UState) (b : Blk)
    (hnd : (s.utxo.map (·.1)).Nodup) (hin : b.ins.Nodup) (hsub : ∀ i ∈ b.ins, s.has i = true) :
    utxoValue outs (effects s b) + sumVals outs b.ins =
      utxoValue outs s + sumVals outs (b.outs.map (·.1)) := by
  have h := sum_filter_notin (valOf outs) b.ins s.utxo hnd hin
    (fun i hi => (has_iff_mem s i).mp (hsub i hi))
  simp only [utxoValue, effects, sumVals_eq_sum, List.map_append, List.sum_append, List.map_map]
  have e : (b.outs.map ((fun u : Nat × Nat × Bool => valOf outs u.1) ∘ fun o => (o.1, b.h, o.2))) =
      b.outs.map (valOf outs ∘ fun x => x.1) := by
    apply List.map_congr_left; intro o _; rfl
  rw [e]
  omega

theorem effects_nodup (s : UState) (b : Blk) (hnd : (s.utxo.map (·.1)).Nodup)
    (hon : (b.outs.map (·.1)).Nodup) (hfresh : ∀ o ∈ b.outs, s.has o.1 = false) :
    ((effects s b).utxo.map (·.1)).Nodup := by
  simp only [effects, List.map_append, List.map_map]
  have e : b.outs.map ((fun u : Nat × Nat × Bool => u.1) ∘ fun o => (o.1, b.h, o.2)) = b.outs.map (·.1) := by
    apply List.map_congr_left; intro o _; rfl
  rw [e]
  refine List.nodup_append.mpr ⟨(List.filter_sublist.map _).nodup hnd, hon, ?_⟩
  intro a ha c hc hac
  subst hac
  obtain ⟨o, ho, hoa⟩ := List.mem_map.mp hc
  have h1 := hfresh o ho
  obtain ⟨u, hu, hua⟩ := List.mem_map.mp ha
  have : s.has o.1 = true := (has_iff_mem s o.1).mpr
    (List.mem_map.mpr ⟨u, (List.mem_filter.mp hu).1, by rw [hua, hoa]⟩)
  rw [this] at h1; cases h1

/-- **state equation along a replay** (`valueMismatch = false`: Σ outputs = Σ inputs + subsidy) -/
theorem replay_value (p : Params) (outs : List OutDef) (bs : List Blk) : ∀ (s s' : UState),
    (s.utxo.map (·.1)).Nodup → replay p s bs = .ok s' →
    (∀ b ∈ bs, b.Sane ∧ valueMismatch p outs b (sumVals outs b.ins) = false) →
    utxoValue outs s' = utxoValue outs s + bs.length * p.reward ∧ (s'.utxo.map (·.1)).Nodup := by
  induction bs with
  | nil =>
    intro s s' hnd hr _
    obtain rfl := replay_nil_ok hr
    exact ⟨by simp, hnd⟩
  | cons b bs ih =>
    intro s s' hnd hr hb
    obtain ⟨s1, h1, hr⟩ := replay_cons_ok hr
    obtain ⟨hins, houts, _, _, he⟩ := applyBlock_ok p s s1 b h1
    obtain ⟨hs, hv⟩ := hb b (List.mem_cons_self ..)
    subst he
    have hnd1 := effects_nodup s b hnd hs.2 houts
    obtain ⟨hval, hnd'⟩ := ih _ s' hnd1 hr (fun b' hb' => hb b' (List.mem_cons_of_mem _ hb'))
    refine ⟨?_, hnd'⟩
    have hv' : sumVals outs (b.outs.map (·.1)) = sumVals outs b.ins + p.reward := by
      unfold valueMismatch at hv; simpa using hv
    have := effects_value outs s b hnd hs.1 hins
    rw [hval, List.length_cons, Nat.add_mul]
    omega

theorem genesisState_nodup {g : Blk} (hgo : (g.outs.map (·.1)).Nodup) :
    ((genesisState g).utxo.map (·.1)).Nodup := by
  simp only [genesisState, List.map_map]
  exact hgo

theorem replay_value_of_valid (p : Params) (outs : List OutDef) (bs : List Blk) (s s' : UState)
    (hnd : (s.utxo.map (·.1)).Nodup) (hr : replay p s bs = .ok s')
    (hb : ∀ b ∈ bs, validateBody p outs b (sumVals outs b.ins) = none) :
    utxoValue outs s' = utxoValue outs s + bs.length * p.reward ∧ (s'.utxo.map (·.1)).Nodup :=
  replay_value p outs bs s s' hnd hr fun b h =>
    ⟨sane_of_validateBody p outs b _ (hb b h), validateBody_value (hb b h)⟩

end GV.Chain
