import GrinVerif.Model.Dec
import GrinVerif.Lemmas.SerPrim
/-! Calculus for the instrumented decoders (`Model/Dec.lean`):

* `Bnd c k e p` — on every input, `p` leaves a suffix-length rest and has requested at most
  `c * consumed + k` bytes when it succeeds and at most `c * input + k + e` when it fails (or panics);
  `k` adds up along `?`-sequencing, `e` (the slack of one failing read that allocated before reading)
  does not;
* `BndS c k e μ p` — `Bnd` with a **credit**: on success `p` has requested at most
  `c · consumed + k − μ value`; the credit `μ value` pays for allocations that the code makes later in
  proportion to what was read (`to_vec()` of the items of a `read_multi`, the temporaries of
  `validate_read`). `Bnd c k e p` says the same as `BndS c k e (fun _ => 0) p` (`Bnd.toBndS`, `BndS.toBnd`), and its rules
  `mono`, `bind`, `map`, `withCapacity` are proved as those of `BndS` at credit 0;
* `NoPanic p` — `p` never takes a `panic` branch;
* `ProgW w p` — a successful `p` consumes at least `w` bytes (weighted loop progress); `Prog p` (at least one byte)
  is `ProgW 1 p` (`prog_iff_progW`, from `ProgW w` by `ProgW.toProg`) and has no rules of its own.

`BndS`, `OBndS`, `ProgW` and their rules carry the namespace `GV.DecSer`; the rest is `GV.Dec`. -/
namespace GV.Dec
open GV GV.Ser

variable {α β : Type}

theorem bind_ok (a : α) (r : Bytes) (n : Nat) (f : α → Bytes → Outcome β) :
    GV.Dec.bind (.ok a r n) f = (f a r).addAlloc n := rfl
theorem bind_err (e : SerErr) (n : Nat) (f : α → Bytes → Outcome β) :
    GV.Dec.bind (.err e n : Outcome α) f = .err e n := rfl
theorem bind_panic (s : Site) (n : Nat) (f : α → Bytes → Outcome β) :
    GV.Dec.bind (.panic s n : Outcome α) f = .panic s n := rfl

theorem bind_lift (x : Except SerErr (α × Bytes)) {f : α → Bytes → Outcome β}
    {g : α → Bytes → Except SerErr (β × Bytes)} (h : ∀ a r, f a r = lift (g a r)) :
    GV.Dec.bind (lift x) f = lift (andThen x g) := by
  cases x with
  | error e => rfl
  | ok v =>
    show (f v.1 v.2).addAlloc 0 = lift (g v.1 v.2)
    rw [h]; cases g v.1 v.2 <;> rfl

theorem addAlloc_zero (o : Outcome α) : o.addAlloc 0 = o := by
  cases o <;> simp [Outcome.addAlloc]

theorem bind_addAlloc (o : Outcome α) (n : Nat) (f : α → Bytes → Outcome β) :
    GV.Dec.bind (o.addAlloc n) f = (GV.Dec.bind o f).addAlloc n := by
  cases o with
  | ok a r m =>
    show (f a r).addAlloc (n + m) = ((f a r).addAlloc m).addAlloc n
    cases f a r <;> simp [Outcome.addAlloc, Nat.add_assoc]
  | err e m => rfl
  | panic s m => rfl

/-- a chain may be cut into a first part and the rest: a prefix of the reads of a decoder as a decoder of its own -/
theorem bind_assoc {γ : Type} (o : Outcome α) (f : α → Bytes → Outcome β) (g : β → Bytes → Outcome γ) :
    GV.Dec.bind (GV.Dec.bind o f) g = GV.Dec.bind o fun a r => GV.Dec.bind (f a r) g := by
  cases o with
  | ok a r n => rw [bind_ok, bind_ok, bind_addAlloc]
  | err e n => rfl
  | panic s n => rfl

theorem lift_ok {x : Except SerErr (α × Bytes)} {a : α} {r : Bytes} (h : x = .ok (a, r)) : lift x = .ok a r 0 := by
  rw [h]; rfl

theorem bind_ok_inv {p : Outcome α} {f : α → Bytes → Outcome β} {b : β} {r : Bytes} {n : Nat}
    (h : GV.Dec.bind p f = .ok b r n) : ∃ a r1 n1 n2, p = .ok a r1 n1 ∧ f a r1 = .ok b r n2 ∧ n = n1 + n2 := by
  cases p with
  | err e m => simp [GV.Dec.bind] at h
  | panic s m => simp [GV.Dec.bind] at h
  | ok a r1 n1 =>
    rw [bind_ok] at h
    cases hf : f a r1 with
    | err e m => rw [hf] at h; simp [Outcome.addAlloc] at h
    | panic s m => rw [hf] at h; simp [Outcome.addAlloc] at h
    | ok b' r' n2 =>
      rw [hf] at h
      simp only [Outcome.addAlloc, Outcome.ok.injEq] at h
      obtain ⟨rfl, rfl, rfl⟩ := h
      exact ⟨a, r1, n1, n2, rfl, hf, rfl⟩

theorem toExcept_addAlloc (o : Outcome α) (n : Nat) : (o.addAlloc n).toExcept = o.toExcept := by
  cases o <;> rfl

theorem map_addAlloc (f : α → β) (o : Outcome α) (n : Nat) : (o.addAlloc n).map f = (o.map f).addAlloc n := by
  cases o <;> rfl

theorem map_withCapacity (f : α → β) (n sz : Nat) (o : Outcome α) :
    (GV.Dec.withCapacity n sz o).map f = GV.Dec.withCapacity n sz (o.map f) := by
  unfold GV.Dec.withCapacity
  split
  · rfl
  · exact map_addAlloc f o _

theorem addAlloc_ok_inv {o : Outcome α} {k : Nat} {a : α} {r : Bytes} {n : Nat} (h : o.addAlloc k = .ok a r n) :
    ∃ m, o = .ok a r m := by
  cases o with
  | ok a' r' m => simp only [Outcome.addAlloc, Outcome.ok.injEq] at h; exact ⟨m, by rw [h.1, h.2.1]⟩
  | err e m => simp [Outcome.addAlloc] at h
  | panic s m => simp [Outcome.addAlloc] at h

theorem withCapacity_ok_inv {o : Outcome α} {c sz : Nat} {a : α} {r : Bytes} {n : Nat}
    (h : GV.Dec.withCapacity c sz o = .ok a r n) : ∃ m, o = .ok a r m := by
  unfold GV.Dec.withCapacity at h
  split at h
  · simp at h
  · exact addAlloc_ok_inv h

/-- the bound on one outcome, for an input of length `len` -/
def OBnd (c k e len : Nat) : Outcome α → Prop
  | .ok _ r n => r.length ≤ len ∧ n ≤ c * (len - r.length) + k
  | .err _ n => n ≤ c * len + k + e
  | .panic _ n => n ≤ c * len + k + e

@[simp] theorem OBnd_ok (c k e len : Nat) (a : α) (r : Bytes) (n : Nat) :
    OBnd c k e len (.ok a r n) = (r.length ≤ len ∧ n ≤ c * (len - r.length) + k) := rfl
@[simp] theorem OBnd_err (c k e len : Nat) (x : SerErr) (n : Nat) :
    OBnd c k e len (.err x n : Outcome α) = (n ≤ c * len + k + e) := rfl
@[simp] theorem OBnd_panic (c k e len : Nat) (x : Site) (n : Nat) :
    OBnd c k e len (.panic x n : Outcome α) = (n ≤ c * len + k + e) := rfl

def Bnd (c k e : Nat) (p : Dec α) : Prop := ∀ bs, OBnd c k e bs.length (p bs)

def NoPanic (p : Dec α) : Prop := ∀ bs, (p bs).isPanic = false

def Prog (p : Dec α) : Prop := ∀ bs a r n, p bs = .ok a r n → r.length < bs.length

theorem Bnd.rest_le {c k e : Nat} {p : Dec α} (h : Bnd c k e p) {bs : Bytes} {a : α} {r : Bytes} {n : Nat}
    (hp : p bs = .ok a r n) : r.length ≤ bs.length := by
  have := h bs
  rw [hp] at this
  exact this.1

theorem mul_sub_chain (c a b d : Nat) (h1 : d ≤ b) (h2 : b ≤ a) :
    c * (a - b) + c * (b - d) = c * (a - d) := by
  rw [← Nat.mul_add, Nat.sub_add_sub_cancel h2 h1]

theorem mul_sub_add (c a b : Nat) (h : b ≤ a) : c * (a - b) + c * b = c * a := by
  rw [← Nat.mul_add, Nat.sub_add_cancel h]

theorem rFixed_ok {rd : Rdr} {len : Nat} {bs x r : Bytes} {n : Nat} (h : rFixed rd len bs = .ok x r n) :
    x.length = len ∧ r.length + len = bs.length ∧ n = len := by
  unfold rFixed at h
  split at h
  · simp at h
  · cases hs : splitExact len bs with
    | none => simp [hs] at h
    | some p =>
      simp only [hs, Outcome.ok.injEq] at h
      have := splitExact_len hs
      rw [← h.1, ← h.2.1, ← h.2.2]
      exact ⟨this.1, this.2, rfl⟩

end GV.Dec
namespace GV.DecSer
open GV GV.Ser GV.Dec
variable {α β : Type}

def OBndS (c k e len : Nat) (μ : α → Nat) : Outcome α → Prop
  | .ok a r n => r.length ≤ len ∧ n + μ a ≤ c * (len - r.length) + k
  | .err _ n => n ≤ c * len + k + e
  | .panic _ n => n ≤ c * len + k + e

@[simp] theorem OBndS_ok (c k e len : Nat) (μ : α → Nat) (a : α) (r : Bytes) (n : Nat) :
    OBndS c k e len μ (.ok a r n) = (r.length ≤ len ∧ n + μ a ≤ c * (len - r.length) + k) := rfl
@[simp] theorem OBndS_err (c k e len : Nat) (μ : α → Nat) (x : SerErr) (n : Nat) :
    OBndS c k e len μ (.err x n : Outcome α) = (n ≤ c * len + k + e) := rfl
@[simp] theorem OBndS_panic (c k e len : Nat) (μ : α → Nat) (x : Site) (n : Nat) :
    OBndS c k e len μ (.panic x n : Outcome α) = (n ≤ c * len + k + e) := rfl

def BndS (c k e : Nat) (μ : α → Nat) (p : Dec α) : Prop := ∀ bs, OBndS c k e bs.length μ (p bs)

theorem OBndS.toOBnd {c k e len : Nat} {μ : α → Nat} {o : Outcome α} (h : OBndS c k e len μ o) :
    OBnd c k e len o := by
  cases o with
  | ok a r n => exact ⟨h.1, Nat.le_trans (Nat.le_add_right _ _) h.2⟩
  | err x n => exact h
  | panic x n => exact h

theorem OBndS.mono {c k e c' k' e' len : Nat} {μ ν : α → Nat} {o : Outcome α} (h : OBndS c k e len μ o)
    (hc : c ≤ c') (hk : k ≤ k') (he : e ≤ e') (hμ : ∀ a, ν a ≤ μ a) : OBndS c' k' e' len ν o := by
  have m1 : ∀ x, c * x ≤ c' * x := fun x => Nat.mul_le_mul_right x hc
  cases o with
  | ok a r n => simp only [OBndS] at h ⊢; have := m1 (len - r.length); have := hμ a; omega
  | err e0 n => simp only [OBndS] at h ⊢; have := m1 len; omega
  | panic s n => simp only [OBndS] at h ⊢; have := m1 len; omega

theorem OBndS.bind {c k1 e1 k2 e2 len : Nat} {μ : α → Nat} {ν : β → Nat} {o : Outcome α}
    {f : α → Bytes → Outcome β} (h : OBndS c k1 e1 len μ o)
    (hf : ∀ a r, OBndS c (k2 + μ a) e2 r.length ν (f a r)) :
    OBndS c (k1 + k2) (max e1 e2) len ν (Dec.bind o f) := by
  cases o with
  | ok a r n =>
    simp only [OBndS] at h
    have h2 := hf a r
    rw [bind_ok]
    generalize f a r = o2 at h2 ⊢
    cases o2 with
    | ok b r' m =>
      have := mul_sub_chain c len r.length r'.length h2.1 h.1
      simp only [OBndS, Outcome.addAlloc] at h2 ⊢; omega
    | err x m =>
      have := mul_sub_add c len r.length h.1
      simp only [OBndS, Outcome.addAlloc] at h2 ⊢; omega
    | panic x m =>
      have := mul_sub_add c len r.length h.1
      simp only [OBndS, Outcome.addAlloc] at h2 ⊢; omega
  | err x n => simp only [OBndS, bind_err] at h ⊢; omega
  | panic x n => simp only [OBndS, bind_panic] at h ⊢; omega

theorem OBndS.addAlloc {c k e len A : Nat} {μ : α → Nat} {o : Outcome α} (h : OBndS c k e len μ o) :
    OBndS c (A + k) e len μ (o.addAlloc A) := by
  cases o with
  | ok a r m => simp only [OBndS, Outcome.addAlloc] at h ⊢; omega
  | err e' m => simp only [OBndS, Outcome.addAlloc] at h ⊢; omega
  | panic s m => simp only [OBndS, Outcome.addAlloc] at h ⊢; omega

theorem OBndS.map {c k e len : Nat} {μ : α → Nat} {o : Outcome α} (h : OBndS c k e len μ o) (f : α → β)
    (ν : β → Nat) (hν : ∀ a, ν (f a) ≤ μ a) : OBndS c k e len ν (o.map f) := by
  cases o with
  | ok a r n => simp only [OBndS, Outcome.map] at h ⊢; have := hν a; omega
  | err x n => exact h
  | panic x n => exact h

theorem OBndS.withCapacity {c k e len A : Nat} {μ : α → Nat} {o : Outcome α} (h : OBndS c k e len μ o) (n sz : Nat)
    (hA : n * sz ≤ A) : OBndS c (A + k) e len μ (GV.Dec.withCapacity n sz o) := by
  unfold GV.Dec.withCapacity
  split
  · exact Nat.zero_le _
  · exact h.addAlloc.mono (Nat.le_refl _) (by omega) (Nat.le_refl _) (fun _ => Nat.le_refl _)

theorem _root_.GV.Dec.OBnd.toOBndS {c k e len : Nat} {o : Outcome α} (h : OBnd c k e len o) : OBndS c k e len (fun _ => 0) o := by
  cases o <;> exact h

theorem BndS.toBnd {c k e : Nat} {μ : α → Nat} {p : Dec α} (h : BndS c k e μ p) : Bnd c k e p :=
  fun bs => (h bs).toOBnd

theorem Bnd.toBndS {c k e : Nat} {p : Dec α} (h : Bnd c k e p) : BndS c k e (fun _ => 0) p :=
  fun bs => OBnd.toOBndS (h bs)

theorem BndS.mono {c k e c' k' e' : Nat} {μ ν : α → Nat} {p : Dec α} (h : BndS c k e μ p)
    (hc : c ≤ c') (hk : k ≤ k') (he : e ≤ e') (hμ : ∀ a, ν a ≤ μ a) : BndS c' k' e' ν p :=
  fun bs => (h bs).mono hc hk he hμ

theorem BndS.weaken {c k e k' e' : Nat} {μ : α → Nat} {p : Dec α} (h : BndS c k e μ p)
    (hk : k ≤ k') (he : e ≤ e') : BndS c k' e' μ p :=
  h.mono (Nat.le_refl c) hk he (fun _ => Nat.le_refl _)

theorem BndS.bind {c k1 e1 k2 e2 : Nat} {μ : α → Nat} {ν : β → Nat} {p : Dec α} {f : α → Dec β}
    (hp : BndS c k1 e1 μ p) (hf : ∀ a, BndS c (k2 + μ a) e2 ν (f a)) :
    BndS c (k1 + k2) (max e1 e2) ν (fun bs => Dec.bind (p bs) f) :=
  fun bs => (hp bs).bind fun a r => hf a r

/-- a pure result that hands on a credit of `ν a` needs it in `k` -/
theorem BndS.pure (c : Nat) (ν : α → Nat) (a : α) : BndS c (ν a) 0 ν (fun bs => (.ok a bs 0 : Outcome α)) := by
  intro bs; simp

theorem BndS.fail (c : Nat) (ν : α → Nat) (e : SerErr) : BndS c 0 0 ν (fun _ => (.err e 0 : Outcome α)) := by
  intro bs; simp

theorem BndS.panic0 (c : Nat) (ν : α → Nat) (st : Site) : BndS c 0 0 ν (fun _ => (.panic st 0 : Outcome α)) := by
  intro bs; simp

theorem BndS.withCapacity {c k e A : Nat} {μ : α → Nat} {p : Dec α} (hp : BndS c k e μ p) (n sz : Nat)
    (hA : n * sz ≤ A) : BndS c (A + k) e μ (fun bs => GV.Dec.withCapacity n sz (p bs)) :=
  fun bs => (hp bs).withCapacity n sz hA

theorem BndS.iteH {c k e : Nat} {μ : α → Nat} {p q : Dec α} (b : Prop) [Decidable b]
    (hp : b → BndS c k e μ p) (hq : ¬ b → BndS c k e μ q) :
    BndS c k e μ (fun bs => if b then p bs else q bs) :=
  fun bs => iteInduction (motive := OBndS _ _ _ _ _) (fun hb => hp hb bs) (fun hb => hq hb bs)

theorem BndS.ite {c k e : Nat} {μ : α → Nat} {p q : Dec α} (b : Prop) [Decidable b]
    (hp : BndS c k e μ p) (hq : BndS c k e μ q) : BndS c k e μ (fun bs => if b then p bs else q bs) :=
  BndS.iteH b (fun _ => hp) (fun _ => hq)

theorem BndS.map {c k e : Nat} {μ : α → Nat} {p : Dec α} (hp : BndS c k e μ p) (f : α → β) (ν : β → Nat)
    (hν : ∀ a, ν (f a) ≤ μ a) : BndS c k e ν (fun bs => (p bs).map f) :=
  fun bs => (hp bs).map f ν hν

/-! The same rules with the constants of the statement flowing down the term (see `Bnd.seq` below): the budget `k`
and the credit `μ a` of what was read are handed to the rest. -/

theorem BndS.seqK {c k e k1 e1 : Nat} {μ : α → Nat} {ν : β → Nat} {p : Dec α} {f : α → Dec β} (k2 : Nat)
    (hp : BndS c k1 e1 μ p) (hf : ∀ a, BndS c (k2 + μ a) e ν (f a)) (hk : k1 + k2 ≤ k := by omega)
    (he : e1 ≤ e := by omega) : BndS c k e ν (fun bs => Dec.bind (p bs) f) :=
  (BndS.bind hp hf).weaken hk (by omega)

theorem BndS.seq {c k e e1 : Nat} {μ : α → Nat} {ν : β → Nat} {p : Dec α} {f : α → Dec β}
    (hp : BndS c 0 e1 μ p) (hf : ∀ a, BndS c (k + μ a) e ν (f a)) (he : e1 ≤ e := by omega) :
    BndS c k e ν (fun bs => Dec.bind (p bs) f) :=
  BndS.seqK k hp hf (by omega) he

theorem BndS.ret {c k e : Nat} {ν : α → Nat} {a : α} (h : ν a ≤ k := by omega) :
    BndS c k e ν (fun bs => (.ok a bs 0 : Outcome α)) :=
  (BndS.pure c ν a).weaken h (Nat.zero_le _)

theorem BndS.err {c k e : Nat} {ν : α → Nat} {x : SerErr} : BndS c k e ν (fun _ => (.err x 0 : Outcome α)) :=
  (BndS.fail c ν x).weaken (Nat.zero_le _) (Nat.zero_le _)

def ProgW (w : Nat) (p : Dec α) : Prop := ∀ bs a r n, p bs = .ok a r n → r.length + w ≤ bs.length

theorem ProgW.mono {w w' : Nat} {p : Dec α} (h : ProgW w p) (hw : w' ≤ w) : ProgW w' p :=
  fun bs a r n hp => by have := h bs a r n hp; omega

theorem prog_iff_progW {p : Dec α} : Prog p ↔ ProgW 1 p := Iff.rfl

theorem ProgW.toProg {w : Nat} {p : Dec α} (h : ProgW w p) (hw : 0 < w) : Prog p :=
  fun bs a r n hp => by have := h bs a r n hp; omega

theorem Bnd.progW0 {c k e : Nat} {p : Dec α} (h : Bnd c k e p) : ProgW 0 p :=
  fun bs a r n hp => by have := h.rest_le hp; omega

theorem ProgW.bind {w1 w2 : Nat} {p : Dec α} {f : α → Dec β} (hp : ProgW w1 p) (hf : ∀ a, ProgW w2 (f a)) :
    ProgW (w1 + w2) (fun bs => Dec.bind (p bs) f) := by
  intro bs b r n h
  obtain ⟨a, r1, n1, n2, h1, h2, _⟩ := bind_ok_inv h
  have := hp bs a r1 n1 h1
  have := hf a r1 b r n2 h2
  omega

theorem ProgW.pure (a : α) : ProgW 0 (fun bs => (.ok a bs 0 : Outcome α)) := by
  intro bs a' r n h
  simp only [Outcome.ok.injEq] at h
  rw [← h.2.1]; omega

theorem ProgW.panic (w : Nat) (st : Site) : ProgW w (fun _ => (.panic st 0 : Outcome α)) := by
  intro bs a r n h; simp at h

theorem ProgW.fail (w : Nat) (e : SerErr) : ProgW w (fun _ => (.err e 0 : Outcome α)) := by
  intro bs a r n h; simp at h

theorem ProgW.iteH {w : Nat} {p q : Dec α} (b : Prop) [Decidable b] (hp : b → ProgW w p) (hq : ¬ b → ProgW w q) :
    ProgW w (fun bs => if b then p bs else q bs) :=
  fun bs a r n => iteInduction (motive := fun o => o = _ → _) (fun hb => hp hb bs a r n) (fun hb => hq hb bs a r n)

theorem ProgW.ite {w : Nat} {p q : Dec α} (b : Prop) [Decidable b] (hp : ProgW w p) (hq : ProgW w q) :
    ProgW w (fun bs => if b then p bs else q bs) :=
  ProgW.iteH b (fun _ => hp) (fun _ => hq)

theorem progW_rFixed (rd : Rdr) (len : Nat) : ProgW len (rFixed rd len) := by
  intro bs a r n h
  have := rFixed_ok h
  omega

theorem progW_lift {q : Parser α} {w : Nat} (hq : ∀ bs a r, q bs = .ok (a, r) → r.length + w = bs.length) :
    ProgW w (fun bs => GV.Dec.lift (q bs)) := by
  intro bs a r n h
  change GV.Dec.lift (q bs) = _ at h
  cases hq' : q bs with
  | error e => simp [hq', GV.Dec.lift] at h
  | ok p =>
    obtain ⟨a', r'⟩ := p
    simp only [hq', GV.Dec.lift, Outcome.ok.injEq] at h
    have := hq bs a' r' hq'
    rw [← h.2.1]; omega

theorem progW_rU8 : ProgW 1 rU8 := progW_lift (fun _ _ _ h => readU8_len h)
theorem progW_rU16 : ProgW 2 rU16 := progW_lift (fun _ _ _ h => readU16_len h)
theorem progW_rU32 : ProgW 4 rU32 := progW_lift (fun _ _ _ h => readU32_len h)
theorem progW_rU64 : ProgW 8 rU64 := progW_lift (fun _ _ _ h => readU64_len h)

/-- a decoder that allocates in proportion `c0` and consumes at least `w` bytes carries a credit of
`d ≤ c1 · w` under the coefficient `c0 + c1` -/
theorem BndS.ofProg {c0 c1 e w d : Nat} {p : Dec α} (hp : Bnd c0 0 e p) (hw : ProgW w p) (hd : d ≤ c1 * w) :
    BndS (c0 + c1) 0 e (fun _ => d) p := by
  intro bs
  have h1 := hp bs
  cases hpb : p bs with
  | ok a r n =>
    rw [hpb] at h1; simp only [OBnd_ok] at h1
    have h2 := hw bs a r n hpb
    simp only [OBndS_ok]
    refine ⟨h1.1, ?_⟩
    have : c1 * w ≤ c1 * (bs.length - r.length) := Nat.mul_le_mul_left c1 (by omega)
    rw [Nat.add_mul]; omega
  | err x n =>
    rw [hpb] at h1; simp only [OBnd_err] at h1
    simp only [OBndS_err]; rw [Nat.add_mul]; omega
  | panic x n =>
    rw [hpb] at h1; simp only [OBnd_panic] at h1
    simp only [OBndS_panic]; rw [Nat.add_mul]; omega

theorem BndS.readN {c e d : Nat} {p : Dec α} (hp : BndS c 0 e (fun _ => d) p) (n : Nat) :
    BndS c 0 e (fun xs => d * xs.length) (GV.Dec.readN p n) := by
  induction n with
  | zero => intro bs; simp [GV.Dec.readN]
  | succ n ih =>
    have h := BndS.bind (k2 := 0) (ν := fun xs : List α => d * xs.length) hp (fun x =>
      (BndS.bind (k2 := d) (e2 := 0) (ν := fun xs : List α => d * xs.length) ih (fun xs =>
        (BndS.pure c (fun xs : List α => d * xs.length) (x :: xs)).weaken
          (by simp only [List.length_cons, Nat.mul_add]; omega) (Nat.le_refl _))).weaken
        (by omega) (Nat.le_refl _))
    simp only [Nat.add_zero, Nat.max_zero, Nat.max_self] at h
    intro bs
    have := h bs
    simpa [GV.Dec.readN] using this

end GV.DecSer
namespace GV.Dec
open GV GV.Ser GV.DecSer
variable {α β : Type}

/-! ### the rules without credit -/

theorem OBnd.alloc_le {c k e len : Nat} {o : Outcome α} (h : OBnd c k e len o) : o.alloc ≤ c * len + (k + e) := by
  cases o with
  | ok a r n => have := Nat.mul_le_mul_left c (Nat.sub_le len r.length); simp only [OBnd_ok, Outcome.alloc] at h ⊢; omega
  | err x n => simp only [OBnd_err, Outcome.alloc] at h ⊢; omega
  | panic x n => simp only [OBnd_panic, Outcome.alloc] at h ⊢; omega

theorem OBnd.mono {c k e c' k' e' len : Nat} {o : Outcome α} (h : OBnd c k e len o)
    (hc : c ≤ c') (hk : k ≤ k') (he : e ≤ e') : OBnd c' k' e' len o :=
  (h.toOBndS.mono hc hk he fun _ => Nat.le_refl 0).toOBnd

theorem OBnd.bind {c k1 e1 k2 e2 len : Nat} {o : Outcome α} {f : α → Bytes → Outcome β} (h : OBnd c k1 e1 len o)
    (hf : ∀ a r, OBnd c k2 e2 r.length (f a r)) : OBnd c (k1 + k2) (max e1 e2) len (GV.Dec.bind o f) :=
  (h.toOBndS.bind (ν := fun _ => 0) fun a r => (hf a r).toOBndS).toOBnd

theorem OBnd.map {c k e len : Nat} {o : Outcome α} (h : OBnd c k e len o) (f : α → β) : OBnd c k e len (o.map f) :=
  (h.toOBndS.map f (fun _ => 0) fun _ => Nat.le_refl 0).toOBnd

theorem Bnd.alloc_le {c k e : Nat} {p : Dec α} (h : Bnd c k e p) (bs : Bytes) :
    (p bs).alloc ≤ c * bs.length + (k + e) := (h bs).alloc_le

theorem Bnd.mono {c k e c' k' e' : Nat} {p : Dec α} (h : Bnd c k e p)
    (hc : c ≤ c') (hk : k ≤ k') (he : e ≤ e') : Bnd c' k' e' p :=
  fun bs => (h bs).mono hc hk he

theorem Bnd.weaken {c k e k' e' : Nat} {p : Dec α} (h : Bnd c k e p) (hk : k ≤ k') (he : e ≤ e') : Bnd c k' e' p :=
  h.mono (Nat.le_refl c) hk he

theorem Bnd.bind {c k1 e1 k2 e2 : Nat} {p : Dec α} {f : α → Dec β}
    (hp : Bnd c k1 e1 p) (hf : ∀ a, Bnd c k2 e2 (f a)) :
    Bnd c (k1 + k2) (max e1 e2) (fun bs => GV.Dec.bind (p bs) f) :=
  fun bs => (hp bs).bind fun a r => hf a r

theorem Bnd.pure (c : Nat) (a : α) : Bnd c 0 0 (fun bs => (.ok a bs 0 : Outcome α)) := by
  intro bs; simp

theorem Bnd.fail (c : Nat) (e : SerErr) : Bnd c 0 0 (fun _ => (.err e 0 : Outcome α)) := by
  intro bs; simp

theorem Bnd.panic0 (c : Nat) (st : Site) : Bnd c 0 0 (fun _ => (.panic st 0 : Outcome α)) := by
  intro bs; simp

theorem Bnd.lift {q : Parser α} (hq : ∀ bs a r, q bs = .ok (a, r) → r.length ≤ bs.length) (c : Nat) :
    Bnd c 0 0 (fun bs => GV.Dec.lift (q bs)) := by
  intro bs
  show OBnd _ _ _ _ (GV.Dec.lift (q bs))
  cases h : q bs with
  | ok v => exact ⟨hq bs v.1 v.2 h, Nat.zero_le _⟩
  | error e => exact Nat.zero_le _

theorem Bnd.withCapacity {c k e A : Nat} {p : Dec α} (hp : Bnd c k e p) (n sz : Nat) (hA : n * sz ≤ A) :
    Bnd c (A + k) e (fun bs => GV.Dec.withCapacity n sz (p bs)) :=
  fun bs => ((hp bs).toOBndS.withCapacity n sz hA).toOBnd

theorem Bnd.iteH {c k e : Nat} {p q : Dec α} (b : Prop) [Decidable b] (hp : b → Bnd c k e p)
    (hq : ¬ b → Bnd c k e q) : Bnd c k e (fun bs => if b then p bs else q bs) :=
  fun bs => iteInduction (motive := OBnd _ _ _ _) (fun hb => hp hb bs) (fun hb => hq hb bs)

theorem Bnd.ite {c k e : Nat} {p q : Dec α} (b : Prop) [Decidable b] (hp : Bnd c k e p) (hq : Bnd c k e q) :
    Bnd c k e (fun bs => if b then p bs else q bs) :=
  Bnd.iteH b (fun _ => hp) (fun _ => hq)

theorem Bnd.map {c k e : Nat} {p : Dec α} (hp : Bnd c k e p) (f : α → β) :
    Bnd c k e (fun bs => (p bs).map f) :=
  fun bs => (hp bs).map f

/-! The same rules in the direction in which the chains of the decoders are written: the constants `k`, `e` of the
statement flow down the term, a step that requests nothing (`ret`, `err`, an unreachable `panic`, a primitive read) fits
every `k e`, and an inequality is written only where something is spent: a `withCapacity` (`cap`), a read with a
failure slack (`seqE`), a sub-decoder with a constant of its own (`seqK`). -/

theorem Bnd.free {c k e : Nat} {p : Dec α} (hp : Bnd c 0 0 p) : Bnd c k e p :=
  hp.weaken (Nat.zero_le _) (Nat.zero_le _)

theorem Bnd.ret {c k e : Nat} {a : α} : Bnd c k e (fun bs => (.ok a bs 0 : Outcome α)) := (Bnd.pure c a).free

theorem Bnd.err {c k e : Nat} {x : SerErr} : Bnd c k e (fun _ => (.err x 0 : Outcome α)) := (Bnd.fail c x).free

theorem Bnd.unreachable {c k e : Nat} {st : Site} : Bnd c k e (fun _ => (.panic st 0 : Outcome α)) :=
  (Bnd.panic0 c st).free

theorem Bnd.seq {c k e : Nat} {p : Dec α} {f : α → Dec β} (hp : Bnd c 0 0 p) (hf : ∀ a, Bnd c k e (f a)) :
    Bnd c k e (fun bs => GV.Dec.bind (p bs) f) :=
  (Bnd.bind hp hf).weaken (by omega) (by omega)

theorem Bnd.seqE {c k e e1 : Nat} {p : Dec α} {f : α → Dec β} (hp : Bnd c 0 e1 p) (hf : ∀ a, Bnd c k e (f a))
    (he : e1 ≤ e := by omega) : Bnd c k e (fun bs => GV.Dec.bind (p bs) f) :=
  (Bnd.bind hp hf).weaken (by omega) (by omega)

theorem Bnd.seqK {c k e k1 e1 : Nat} {p : Dec α} {f : α → Dec β} (k2 : Nat) (hp : Bnd c k1 e1 p)
    (hf : ∀ a, Bnd c k2 e (f a)) (hk : k1 + k2 ≤ k := by omega) (he : e1 ≤ e := by omega) :
    Bnd c k e (fun bs => GV.Dec.bind (p bs) f) :=
  (Bnd.bind hp hf).weaken hk (by omega)

theorem Bnd.cap {c k e : Nat} {p : Dec α} (n sz : Nat) (hA : n * sz ≤ k) (hp : Bnd c 0 e p) :
    Bnd c k e (fun bs => GV.Dec.withCapacity n sz (p bs)) :=
  (Bnd.withCapacity hp n sz hA).weaken (by omega) (Nat.le_refl _)

theorem Bnd.readNk {c k e : Nat} {p : Dec α} (hp : Bnd c k e p) (n : Nat) : Bnd c (n * k) e (GV.Dec.readN p n) := by
  induction n with
  | zero => intro bs; simp [GV.Dec.readN]
  | succ n ih =>
    have h := Bnd.bind hp (fun x => Bnd.bind ih (fun xs => Bnd.pure c (x :: xs)))
    exact fun bs => (h bs).mono (Nat.le_refl _) (by rw [Nat.add_mul]; omega) (by omega)

theorem Bnd.readN {c e : Nat} {p : Dec α} (hp : Bnd c 0 e p) (n : Nat) : Bnd c 0 e (GV.Dec.readN p n) :=
  (Bnd.readNk hp n).weaken (by omega) (Nat.le_refl _)

theorem bnd_rU8 (c : Nat) : Bnd c 0 0 rU8 := Bnd.lift (fun _ _ _ h => by have := readU8_len h; omega) c
theorem bnd_rU16 (c : Nat) : Bnd c 0 0 rU16 := Bnd.lift (fun _ _ _ h => by have := readU16_len h; omega) c
theorem bnd_rU32 (c : Nat) : Bnd c 0 0 rU32 := Bnd.lift (fun _ _ _ h => by have := readU32_len h; omega) c
theorem bnd_rU64 (c : Nat) : Bnd c 0 0 rU64 := Bnd.lift (fun _ _ _ h => by have := readU64_len h; omega) c
theorem rU64_write (n : Nat) (h : n < 2^64) (rest : Bytes) : rU64 (writeU64 n ++ rest) = .ok n rest 0 :=
  lift_ok (readU64_write n h rest)

theorem rU64_write_nil (n : Nat) (h : n < 2^64) : rU64 (writeU64 n) = .ok n [] 0 := by
  have := rU64_write n h []
  rwa [List.append_nil] at this

/-- `read_fixed_bytes(len)`: allocation = bytes consumed; a failing `BinReader` read has requested `len` -/
theorem bnd_rFixed (rd : Rdr) (len : Nat) : Bnd 1 0 (min len MAX_FIXED_READ) (rFixed rd len) := by
  intro bs
  unfold rFixed
  by_cases hle : len > MAX_FIXED_READ
  · rw [if_pos hle]; simp
  · rw [if_neg hle]
    cases h : splitExact len bs with
    | some p => have := splitExact_len h; simp only [OBnd_ok]; omega
    | none => cases rd <;> simp only [OBnd_err] <;> omega

theorem bnd_rHash (rd : Rdr) : Bnd 1 0 32 (rHash rd) := bnd_rFixed rd 32

theorem bnd_rBytesLenPrefix (rd : Rdr) : Bnd 1 0 MAX_FIXED_READ (rBytesLenPrefix rd) :=
  Bnd.bind (bnd_rU64 1) fun len => (bnd_rFixed rd len).weaken (Nat.le_refl _)
    (Nat.min_le_right len MAX_FIXED_READ)

theorem isPanic_addAlloc (o : Outcome α) (n : Nat) : (o.addAlloc n).isPanic = o.isPanic := by
  cases o <;> rfl

theorem isPanic_map (o : Outcome α) (f : α → β) : (o.map f).isPanic = o.isPanic := by
  cases o <;> rfl

theorem isPanic_bind {o : Outcome α} {f : α → Bytes → Outcome β} (ho : o.isPanic = false)
    (hf : ∀ a r n, o = .ok a r n → (f a r).isPanic = false) : (GV.Dec.bind o f).isPanic = false := by
  cases o with
  | ok a r n => rw [bind_ok, isPanic_addAlloc]; exact hf a r n rfl
  | err e n => rfl
  | panic s n => exact ho

theorem NoPanic.bind {p : Dec α} {f : α → Dec β} (hp : NoPanic p) (hf : ∀ a, NoPanic (f a)) :
    NoPanic (fun bs => GV.Dec.bind (p bs) f) :=
  fun bs => isPanic_bind (hp bs) fun a r _ _ => hf a r

theorem NoPanic.lift (q : Parser α) : NoPanic (fun bs => GV.Dec.lift (q bs)) := by
  intro bs
  show (GV.Dec.lift (q bs)).isPanic = false
  cases q bs <;> rfl

theorem NoPanic.pure (a : α) : NoPanic (fun bs => (.ok a bs 0 : Outcome α)) := fun _ => rfl
theorem NoPanic.fail (e : SerErr) : NoPanic (fun _ => (.err e 0 : Outcome α)) := fun _ => rfl

theorem noPanic_rU64 : NoPanic rU64 := NoPanic.lift _
theorem NoPanic.map {p : Dec α} (hp : NoPanic p) (f : α → β) : NoPanic (fun bs => (p bs).map f) :=
  fun bs => (isPanic_map (p bs) f).trans (hp bs)

theorem readN_succ_ok {p : Dec α} {k : Nat} {bs : Bytes} {xs : List α} {r : Bytes} {n : Nat}
    (h : readN p (k + 1) bs = .ok xs r n) :
    ∃ x r1 n1 ys n2, p bs = .ok x r1 n1 ∧ readN p k r1 = .ok ys r n2 ∧ xs = x :: ys := by
  obtain ⟨x, r1, n1, _, h1, h2, _⟩ := bind_ok_inv h
  obtain ⟨ys, r2, n2, _, h3, h4, _⟩ := bind_ok_inv h2
  simp only [Outcome.ok.injEq] at h4
  exact ⟨x, r1, n1, ys, n2, h1, by rw [h3, h4.2.1], h4.1.symm⟩

theorem readN_length {p : Dec α} :
    ∀ (k : Nat) (bs : Bytes) (xs : List α) (r : Bytes) (n : Nat),
      readN p k bs = .ok xs r n → xs.length = k := by
  intro k
  induction k with
  | zero => intro bs xs r n h; simp only [GV.Dec.readN, Outcome.ok.injEq] at h; simp [← h.1]
  | succ k ih =>
    intro bs xs r n h
    obtain ⟨x, r1, n1, ys, n2, _, h2, rfl⟩ := readN_succ_ok h
    rw [List.length_cons, ih r1 ys r n2 h2]

theorem readN_all {p : Dec α} {Q : α → Prop} (hp : ∀ bs a r n, p bs = .ok a r n → Q a) :
    ∀ (k : Nat) (bs : Bytes) (xs : List α) (r : Bytes) (n : Nat), readN p k bs = .ok xs r n → ∀ x ∈ xs, Q x := by
  intro k
  induction k with
  | zero => intro bs xs r n h; simp only [GV.Dec.readN, Outcome.ok.injEq] at h; rw [← h.1]; simp
  | succ k ih =>
    intro bs xs r n h
    obtain ⟨x, r1, n1, ys, n2, h1, h2, rfl⟩ := readN_succ_ok h
    intro y hy
    rcases List.mem_cons.mp hy with rfl | hy
    · exact hp _ _ _ _ h1
    · exact ih _ _ _ _ h2 y hy

theorem readN_progressW {p : Dec α} {w : Nat} (hp : ProgW w p) :
    ∀ (k : Nat) (bs : Bytes) (xs : List α) (r : Bytes) (n : Nat),
      readN p k bs = .ok xs r n → xs.length * w + r.length ≤ bs.length := by
  intro k
  induction k with
  | zero => intro bs xs r n h; simp only [GV.Dec.readN, Outcome.ok.injEq] at h; simp [← h.1, ← h.2.1]
  | succ k ih =>
    intro bs xs r n h
    obtain ⟨x, r1, n1, ys, n2, h1, h2, rfl⟩ := readN_succ_ok h
    have := ih r1 ys r n2 h2
    have := hp bs x r1 n1 h1
    rw [List.length_cons, Nat.add_mul, Nat.one_mul]; omega

theorem readN_progress {p : Dec α} (hp : Prog p) (k : Nat) (bs : Bytes) (xs : List α) (r : Bytes) (n : Nat)
    (h : readN p k bs = .ok xs r n) : xs.length + r.length ≤ bs.length := by
  have := readN_progressW (prog_iff_progW.1 hp) k bs xs r n h
  omega

theorem prog_rU64 : Prog rU64 := progW_rU64.toProg (by decide)

theorem prog_rFixed (rd : Rdr) (len : Nat) (hl : 0 < len) : Prog (rFixed rd len) := (progW_rFixed rd len).toProg hl

theorem prog_rHash (rd : Rdr) : Prog (rHash rd) := prog_rFixed rd 32 (by decide)

theorem prog_rU16 : Prog rU16 := progW_rU16.toProg (by decide)

end GV.Dec
