import GrinVerif.Lemmas.XlateVerify

/-! # Helper lemmas for `Props/XlateVerifyD.lean`: translated Cuckaroom / Cuckarood verifiers
(`Gen/FnsVerify.lean`) = hand model (`Model/Pow.lean`: `verifyCuckaroom`, `verifyCuckarood`)

Each of the two verifiers is the only instance of its loops, so every loop of the translation is tied to
the model's recursive function by its own induction, simultaneously over the loop and its `_ok` / `_exits`
companion, which supplies every index-in-range fact.  `R l f` relates a `Vec<u64>` (list) to the
model's function array, `RB` does the same for `visited : Vec<bool>`.
-/

namespace GV.Lemmas.XlateVerifyD
open GV GV.Gen GV.Gen.Fns GV.Pow GV.Lemmas.XlateVerify

def RB (l : List Bool) (f : Nat → Bool) : Prop := ∀ i, i < l.length → idx l i = f i

theorem RB_set {l : List Bool} {f : Nat → Bool} (h : RB l f) (i : Nat) :
    RB (l.set i true) (fun x => decide (x = i) || f x) := by
  intro j hj
  rw [List.length_set] at hj
  rw [idx_set l i true j hj]
  by_cases e : j = i
  · simp [e]
  · simp [e, h j hj]

theorem RB_replicate (n : Nat) : RB (List.replicate n false) (fun _ => false) :=
  fun i hi => idx_replicate n false i (by rwa [List.length_replicate] at hi)

/-! ## Cuckaroom (`core/src/pow/cuckaroom.rs`) -/

theorem m1_nil (p : CuckooParams) (nonces : List Nat) (mask : Nat) (frm to : List Nat) (xf xt : Nat)
    (head prev : List Nat) :
    Cuckaroom_verify_loop1 p nonces mask [] frm to xf xt head prev
      = .go (frm, to, xf, xt, head, prev) := by
  conv => lhs; unfold Cuckaroom_verify_loop1

theorem m1_cons (p : CuckooParams) (nonces : List Nat) (mask n : Nat) (rest frm to : List Nat)
    (xf xt : Nat) (head prev : List Nat) :
    Cuckaroom_verify_loop1 p nonces mask (n :: rest) frm to xf xt head prev =
      if decide (idx nonces n > p.edge_mask) then .ret none
      else if (decide (n > 0)) && (decide (idx nonces n ≤ idx nonces (subW n 1))) then .ret none
      else
        let edge := siphash_block p.siphash_keys (idx nonces n) 21 true
        let u := edge &&& p.node_mask
        let v := (shrW edge 32) &&& p.node_mask
        Cuckaroom_verify_loop1 p nonces mask rest (List.set frm n u) (List.set to n v)
          (xf ^^^ idx (List.set frm n u) n) (xt ^^^ idx (List.set to n v) n)
          (List.set head (u &&& mask) n) (List.set prev n (idx head (u &&& mask))) := by
  conv => lhs; unfold Cuckaroom_verify_loop1

structure RelM (st : List Nat × List Nat × Nat × Nat × List Nat × List Nat) (s : RoomSt) : Prop where
  frm : R st.1 s.frm
  to : R st.2.1 s.to
  xf : st.2.2.1 = s.xf
  xt : st.2.2.2.1 = s.xt
  head : R st.2.2.2.2.1 s.head
  prev : R st.2.2.2.2.2 s.prev

theorem m1_eq (p : CuckooParams) (nonces : List Nat) (mask : Nat) (P : Params) (ep : Nat → Nat × Nat)
    (hsz : nonces.length < 2^62) (hP2 : P.edgeMask = p.edge_mask) (hbk : ∀ u, P.bk u = u &&& mask)
    (hep : ∀ x, ep x = (siphash_block p.siphash_keys x 21 true &&& p.node_mask,
        shrW (siphash_block p.siphash_keys x 21 true) 32 &&& p.node_mask)) :
    ∀ (k a : Nat) (frm to : List Nat) (xf xt : Nat) (head prev : List Nat) (s : RoomSt),
      a + k = nonces.length → RelM (frm, to, xf, xt, head, prev) s →
      Cuckaroom_verify_loop1_ok p nonces mask (List.range' a k) frm to xf xt head prev = true →
      Agree RelM (Cuckaroom_verify_loop1 p nonces mask (List.range' a k) frm to xf xt head prev)
        (roomBuild P ep (nonces.drop a) a (lastOf nonces a) s) := by
  intro k
  induction k with
  | zero =>
    intro a frm to xf xt head prev s hak hrel _
    rw [List.range'_zero, m1_nil, List.drop_of_length_le (by omega), roomBuild]
    exact .inr ⟨_, s, rfl, rfl, hrel⟩
  | succ k ih =>
    intro a frm to xf xt head prev s hak hrel hok
    rw [List.range'_succ] at hok ⊢
    conv at hok => lhs; unfold Cuckaroom_verify_loop1_ok
    simp only [Bool.and_eq_true, decide_eq_true_eq] at hok
    obtain ⟨han, hok⟩ := hok
    rw [m1_cons, drop_eq_cons nonces a han, roomBuild]
    refine Agree.nonceTests hP2 nonces (by omega) fun h1 h2 => ?_
    rw [if_neg h1, Bool.and_eq_true, if_neg (by simpa using h2)] at hok
    have hok' := hok.2
    simp only [Bool.and_eq_true, decide_eq_true_eq, List.length_set] at hok'
    obtain ⟨-, hfl, ⟨hub, hpl⟩, -, htl, -, -, hok'⟩ := hok'
    rw [← lastOf_succ]
    obtain ⟨r1, r2, r3, r4, r5, r6⟩ := hrel
    simp only [hep, hbk]
    rw [idx_set_self _ _ _ hfl, idx_set_self _ _ _ htl] at hok' ⊢
    refine ih (a + 1) _ _ _ _ _ _ _ (by omega) ?_ hok'
    generalize siphash_block p.siphash_keys (idx nonces a) 21 true &&& p.node_mask = U at hub ⊢
    generalize shrW (siphash_block p.siphash_keys (idx nonces a) 21 true) 32 &&& p.node_mask = V
    have e1 : idx head (U &&& mask) = s.head (U &&& mask) := r5 _ hub
    rw [e1]
    refine ⟨R_set r1 _ _, R_set r2 _ _, ?_, ?_, R_set r5 _ _, R_set r6 _ _⟩
    · exact congrArg (· ^^^ U) r3
    · exact congrArg (· ^^^ V) r4

theorem m3_succ (size : Nat) (frm to prev : List Nat) (i f k : Nat) :
    Cuckaroom_verify_loop3 size frm to prev i (f + 1) k =
      if (k == size) = true then .ret none
      else if (idx frm k == idx to i) = true then .go k
      else Cuckaroom_verify_loop3 size frm to prev i f (idx prev k) := by
  conv => lhs; unfold Cuckaroom_verify_loop3
  rw [if_pos rfl]

theorem m3_eq (size : Nat) (frm to prev : List Nat) (s : RoomSt) (i : Nat)
    (r1 : R frm s.frm) (r6 : R prev s.prev) :
    ∀ (f k : Nat), Cuckaroom_verify_loop3_exits size frm to prev i f k = true →
      Agree (· = ·) (Cuckaroom_verify_loop3 size frm to prev i f k) (roomFind size s (idx to i) f k) := by
  intro f
  induction f with
  | zero => intro k h; cases h
  | succ f ih =>
    intro k h
    conv at h => lhs; unfold Cuckaroom_verify_loop3_exits
    rw [if_pos rfl] at h
    rw [m3_succ, roomFind]
    refine Agree.ite (by simp) _ fun e1 => ?_
    rw [if_neg (by simpa using e1)] at h
    simp only [Bool.and_eq_true, decide_eq_true_eq] at h
    obtain ⟨⟨hk, hi⟩, h⟩ := h
    rw [← r1 k hk]
    refine Agree.ite_go beq_iff_eq rfl fun e2 => ?_
    rw [if_neg (by simpa using e2)] at h
    simp only [Bool.and_eq_true, decide_eq_true_eq] at h
    rw [← r6 k h.1]
    exact ih _ h.2

theorem m2_succ (size : Nat) (frm to : List Nat) (mask : Nat) (head prev : List Nat) (f : Nat)
    (vis : List Bool) (n i : Nat) :
    Cuckaroom_verify_loop2 size frm to mask head prev (f + 1) vis n i =
      if idx vis i = true then .ret none
      else
        match Cuckaroom_verify_loop3 size frm to prev i (size + 1) (idx head (idx to i &&& mask)) with
        | .ret r3 => .ret r3
        | .go k =>
          if (k == 0) = true then .go (List.set vis i true, addW n 1, k)
          else Cuckaroom_verify_loop2 size frm to mask head prev f (List.set vis i true) (addW n 1) k := by
  conv => lhs; unfold Cuckaroom_verify_loop2
  rw [if_pos rfl]
  rfl

theorem m2_eq (size : Nat) (frm to : List Nat) (mask : Nat) (head prev : List Nat) (P : Params)
    (s : RoomSt) (hbk : ∀ u, P.bk u = u &&& mask)
    (r1 : R frm s.frm) (r2 : R to s.to) (r5 : R head s.head) (r6 : R prev s.prev) :
    ∀ (f : Nat) (vis : List Bool) (visf : Nat → Bool) (n i : Nat), n + f < 2^63 → RB vis visf →
      Cuckaroom_verify_loop2_exits size frm to mask head prev f vis n i = true →
      Agree (fun st n' => st.2.1 = n') (Cuckaroom_verify_loop2 size frm to mask head prev f vis n i)
        (roomWalk P size s f visf i n) := by
  intro f
  induction f with
  | zero => intro vis visf n i _ _ h; cases h
  | succ f ih =>
    intro vis visf n i hn hvis h
    conv at h => lhs; unfold Cuckaroom_verify_loop2_exits
    rw [if_pos rfl, Bool.and_eq_true, decide_eq_true_eq] at h
    obtain ⟨hiv, h⟩ := h
    rw [m2_succ, roomWalk, ← hvis i hiv]
    refine Agree.ite Iff.rfl _ fun c0 => ?_
    rw [if_neg c0] at h
    simp only [Bool.and_eq_true, decide_eq_true_eq] at h
    obtain ⟨_, ⟨hit, hhd⟩, h3, h⟩ := h
    rw [hbk, ← r2 i hit, ← r5 _ hhd]
    rcases m3_eq size frm to prev s i r1 r6 _ _ h3 with ⟨e1, e, e2⟩ | ⟨k', _, e1, e2, rfl⟩
    · rw [e1, e2]
      exact .inl ⟨rfl, _, rfl⟩
    · rw [e1] at h ⊢
      rw [e2]
      dsimp only at h ⊢
      rw [GV.addW_eq (a := n) (b := 1) (by omega)] at h ⊢
      refine Agree.ite_go (Rel := fun (st : List Bool × Nat × Nat) n' => st.2.1 = n') beq_iff_eq rfl fun c2 => ?_
      rw [if_neg (by simpa using c2)] at h
      exact ih _ _ _ _ (by omega) (RB_set hvis i) h

/-! ## Cuckarood (`core/src/pow/cuckarood.rs`) -/

theorem and_mask_mod (x mask : Nat) (hm : mask < 2^64) : (x % 2^64) &&& mask = x &&& mask := by
  rw [← Nat.and_two_pow_sub_one_eq_mod x 64, Nat.and_assoc]
  congr 1
  rw [Nat.and_comm, Nat.and_two_pow_sub_one_eq_mod, Nat.mod_eq_of_lt hm]

/-- the bucket key `((u << 1) | dir) & mask` of the code (wrapping shift) is the model's
`(2*u + dir) & mask`, for every `u` (the mask has at most 64 bits) -/
theorem key_eq (u d mask : Nat) (hd : d < 2) (hm : mask < 2^64) :
    ((shlW u 1) ||| d) &&& mask = (2 * u + d) &&& mask := by
  unfold shlW
  have e0 : u * 2^(1 % 64) = 2 * u := by rw [show (1 % 64) = 1 from rfl]; omega
  have e : (u * 2^(1 % 64)) % 2^64 = 2^1 * ((u % 2^63)) := by rw [e0]; omega
  rw [e, ← Nat.two_pow_add_eq_or_of_lt (by omega : d < 2^1)]
  have e2 : 2^1 * (u % 2^63) + d = (2 * u + d) % 2^64 := by omega
  rw [e2, and_mask_mod _ _ hm]

theorem mask_lt (k : Nat) : shrW (2^64-1) k < 2^64 :=
  Nat.lt_of_le_of_lt (shrW_le _ _) (by omega)

theorem slot_eq {nd d size : Nat} (h : ¬ nd ≥ size / 2) (hsize : size < 2^60) (hd : d < 2) :
    addW (mulW 4 nd) (mulW 2 d) = 4 * nd + 2 * d ∧ addW (4 * nd + 2 * d) 1 = 4 * nd + 2 * d + 1 ∧
      addW nd 1 = nd + 1 := by
  have hn : nd < 2^59 := by omega
  rw [mulW_eq (a := 4) (b := nd) (by omega), mulW_eq (a := 2) (b := d) (by omega)]
  exact ⟨addW_eq (by omega), addW_eq (by omega), addW_eq (by omega)⟩

theorem ndir_eq (n0 n1 d : Nat) (hd : d < 2) :
    idx [n0, n1] d = (if d = 0 then n0 else n1) ∧
    List.set [n0, n1] d ((if d = 0 then n0 else n1) + 1)
      = [if d = 0 then n0 + 1 else n0, if d = 0 then n1 else n1 + 1] := by
  rcases (by omega : d = 0 ∨ d = 1) with rfl | rfl <;> exact ⟨rfl, rfl⟩

theorem d1_nil (p : CuckooParams) (size : Nat) (nonces : List Nat) (mask : Nat) (uvs ndir : List Nat)
    (x0 x1 : Nat) (hu hv prev : List Nat) :
    Cuckarood_verify_loop1 p size nonces mask [] uvs ndir x0 x1 hu hv prev
      = .go (uvs, ndir, x0, x1, hu, hv, prev) := by
  conv => lhs; unfold Cuckarood_verify_loop1

theorem d1_cons (p : CuckooParams) (size : Nat) (nonces : List Nat) (mask n : Nat)
    (rest uvs ndir : List Nat) (x0 x1 : Nat) (hu hv prev : List Nat) :
    Cuckarood_verify_loop1 p size nonces mask (n :: rest) uvs ndir x0 x1 hu hv prev =
      if decide (idx ndir (idx nonces n &&& 1) ≥ size / 2) then .ret none
      else if decide (idx nonces n > p.edge_mask) then .ret none
      else if (decide (n > 0)) && (decide (idx nonces n ≤ idx nonces (subW n 1))) then .ret none
      else
        let dir := idx nonces n &&& 1
        let edge := siphash_block p.siphash_keys (idx nonces n) 25 false
        let i1 := addW (mulW 4 (idx ndir dir)) (mulW 2 dir)
        let u := edge &&& p.node_mask
        let v := (shrW edge 32) &&& p.node_mask
        let ubits := ((shlW u 1) ||| dir) &&& mask
        let vbits := ((shlW v 1) ||| dir) &&& mask
        Cuckarood_verify_loop1 p size nonces mask rest
          (List.set (List.set uvs i1 u) (addW i1 1) v)
          (List.set ndir dir (addW (idx ndir dir) 1)) (x0 ^^^ u) (x1 ^^^ v)
          (List.set hu ubits i1) (List.set hv vbits (addW i1 1))
          (List.set (List.set prev i1 (idx hu ubits)) (addW i1 1) (idx hv vbits)) := by
  conv => lhs; unfold Cuckarood_verify_loop1

/-- state of the translated first loop vs. the model's `RoodSt` (`ndir` is the 2-element vector) -/
structure RelD (st : List Nat × List Nat × Nat × Nat × List Nat × List Nat × List Nat) (s : RoodSt) : Prop where
  uvs : R st.1 s.uvs
  ndir : st.2.1 = [s.nd0, s.nd1]
  x0 : st.2.2.1 = s.x0
  x1 : st.2.2.2.1 = s.x1
  headu : R st.2.2.2.2.1 s.headu
  headv : R st.2.2.2.2.2.1 s.headv
  prev : R st.2.2.2.2.2.2 s.prev

theorem d1_eq (p : CuckooParams) (size : Nat) (nonces : List Nat) (mask : Nat) (P : Params)
    (ep : Nat → Nat × Nat)
    (hsz : nonces.length < 2^60) (hsize : size < 2^60) (hm : mask < 2^64)
    (hP2 : P.edgeMask = p.edge_mask) (hbk : ∀ u, P.bk u = u &&& mask)
    (hep : ∀ x, ep x = (siphash_block p.siphash_keys x 25 false &&& p.node_mask,
        shrW (siphash_block p.siphash_keys x 25 false) 32 &&& p.node_mask)) :
    ∀ (k a : Nat) (uvs ndir : List Nat) (x0 x1 : Nat) (hu hv prev : List Nat) (s : RoodSt),
      a + k = nonces.length → RelD (uvs, ndir, x0, x1, hu, hv, prev) s →
      Cuckarood_verify_loop1_ok p size nonces mask (List.range' a k) uvs ndir x0 x1 hu hv prev = true →
      Agree RelD (Cuckarood_verify_loop1 p size nonces mask (List.range' a k) uvs ndir x0 x1 hu hv prev)
        (roodBuild P ep size (nonces.drop a) (lastOf nonces a) s) := by
  intro k
  induction k with
  | zero =>
    intro a uvs ndir x0 x1 hu hv prev s hak hrel _
    rw [List.range'_zero, d1_nil, List.drop_of_length_le (by omega), roodBuild]
    exact .inr ⟨_, s, rfl, rfl, hrel⟩
  | succ k ih =>
    intro a uvs ndir x0 x1 hu hv prev s hak hrel hok
    rw [List.range'_succ] at hok ⊢
    conv at hok => lhs; unfold Cuckarood_verify_loop1_ok
    simp only [Bool.and_eq_true, decide_eq_true_eq] at hok
    obtain ⟨han, -, hok⟩ := hok
    obtain ⟨r1, r2, r3, r4, r5, r6, r7⟩ := hrel
    have r2' : ndir = [s.nd0, s.nd1] := r2
    subst r2'
    rw [d1_cons, drop_eq_cons nonces a han, roodBuild]
    rw [Nat.and_one_is_mod] at hok ⊢
    have hdl : idx nonces a % 2 < 2 := Nat.mod_lt _ (by omega)
    obtain ⟨hnd, hset⟩ := ndir_eq s.nd0 s.nd1 _ hdl
    rw [hnd] at hok ⊢
    dsimp only at hok ⊢
    generalize idx nonces a % 2 = d at hdl hnd hset hok ⊢
    generalize (if d = 0 then s.nd0 else s.nd1) = nd at hnd hset hok ⊢
    refine Agree.ite decide_eq_true_iff _ fun h0 => ?_
    obtain ⟨e1, e2, e3⟩ := slot_eq h0 hsize hdl
    refine Agree.nonceTests hP2 nonces (by omega) fun h1 h2 => ?_
    rw [if_neg h0, Bool.and_eq_true, if_neg h1, Bool.and_eq_true, if_neg (by simpa using h2)] at hok
    have hok' := hok.2.2
    simp only [Bool.and_eq_true, decide_eq_true_eq, List.length_set] at hok'
    obtain ⟨-, -, -, ⟨hub, -⟩, -, -, ⟨hvb, -⟩, -, -, hok'⟩ := hok'
    rw [← lastOf_succ]
    simp only [hep, hbk, hnd, key_eq _ _ mask hdl hm, e1, e2, e3] at hub hvb hok' ⊢
    generalize siphash_block p.siphash_keys (idx nonces a) 25 false &&& p.node_mask = U
      at hub hok' ⊢
    generalize shrW (siphash_block p.siphash_keys (idx nonces a) 25 false) 32 &&& p.node_mask = V
      at hvb hok' ⊢
    rw [r5 _ hub, r6 _ hvb] at hok' ⊢
    refine ih (a + 1) _ _ _ _ _ _ _ _ (by omega) ?_ hok'
    refine ⟨R_set (R_set r1 _ _) _ _, hset, ?_, ?_, R_set r5 _ _, R_set r6 _ _,
      R_set (R_set r7 _ _) _ _⟩
    · exact congrArg (· ^^^ U) r3
    · exact congrArg (· ^^^ V) r4

/-! ### loop 3 (inner `while k != 2*size`) = `roodFind`, loop 2 (outer `loop`) = `roodWalk (roodStep …)`

The translated `while` with fuel `f` may run `f` iterations and then find its condition false
(`_exits … 0 … = !(k != 2*size)`), the model's `roodFind` with fuel `f` reports `hang` in that
boundary case; hence the third alternative below.  At the top level it is excluded by
`verifyCuckarood_no_hang` (the bucket chains have at most `2*size` elements). -/

theorem d3_zero (size : Nat) (uvs prev : List Nat) (i j k : Nat) :
    Cuckarood_verify_loop3 size uvs prev i 0 j k = .go (j, k) := by
  conv => lhs; unfold Cuckarood_verify_loop3

theorem d3_succ (size : Nat) (uvs prev : List Nat) (i f j k : Nat) :
    Cuckarood_verify_loop3 size uvs prev i (f + 1) j k =
      if (k != mulW 2 size) = true then
        (if (idx uvs k == idx uvs i) = true then
          (if (j != i) = true then .ret none
           else Cuckarood_verify_loop3 size uvs prev i f k (idx prev k))
         else Cuckarood_verify_loop3 size uvs prev i f j (idx prev k))
      else .go (j, k) := by
  conv => lhs; unfold Cuckarood_verify_loop3

theorem d3_exits_zero (size : Nat) (uvs prev : List Nat) (i j k : Nat)
    (h : Cuckarood_verify_loop3_exits size uvs prev i 0 j k = true) : k = mulW 2 size := by
  conv at h => lhs; unfold Cuckarood_verify_loop3_exits
  simpa using h

theorem d3_eq (size : Nat) (uvs prev : List Nat) (s : RoodSt) (i : Nat) (hsz : size < 2^62)
    (r1 : R uvs s.uvs) (r7 : R prev s.prev) :
    ∀ (f j k : Nat), Cuckarood_verify_loop3_exits size uvs prev i f j k = true →
      (Cuckarood_verify_loop3 size uvs prev i f j k = .ret none ∧
        roodFind size s i f k j = .error .branch) ∨
      (∃ j' k', Cuckarood_verify_loop3 size uvs prev i f j k = .go (j', k') ∧
        roodFind size s i f k j = .ok j') ∨
      (roodFind size s i f k j = .error .hang ∧
        ∃ j' k', Cuckarood_verify_loop3 size uvs prev i f j k = .go (j', k')) := by
  intro f
  induction f with
  | zero => intro j k _; right; right; exact ⟨by rw [roodFind], j, k, d3_zero ..⟩
  | succ f ih =>
    intro j k h
    conv at h => lhs; unfold Cuckarood_verify_loop3_exits
    rw [GV.mulW_eq (a := 2) (b := size) (by omega)] at h
    rw [d3_succ, roodFind, GV.mulW_eq (a := 2) (b := size) (by omega)]
    by_cases e1 : k = 2 * size
    · right; left
      rw [if_neg (by simpa using e1), if_pos e1]
      exact ⟨_, _, rfl, rfl⟩
    · rw [if_pos (by simpa using e1)] at h
      simp only [Bool.and_eq_true, decide_eq_true_eq] at h
      obtain ⟨⟨hk, hi⟩, h⟩ := h
      rw [if_pos (by simpa using e1), if_neg e1, ← r1 _ hk, ← r1 _ hi]
      by_cases e2 : (idx uvs k == idx uvs i) = true
      · rw [if_pos e2] at h
        rw [if_pos e2, if_pos (show idx uvs k = idx uvs i by simpa using e2)]
        by_cases e3 : j = i
        · rw [if_neg (by simpa using e3)] at h
          simp only [Bool.and_eq_true, decide_eq_true_eq] at h
          rw [if_neg (by simpa using e3), if_neg (by simpa using e3), ← r7 _ h.1]
          exact ih _ _ h.2
        · left
          rw [if_pos (by simpa using e3), if_pos (by simpa using e3)]
          exact ⟨rfl, rfl⟩
      · rw [if_neg e2] at h
        simp only [Bool.and_eq_true, decide_eq_true_eq] at h
        rw [if_neg e2, if_neg (show ¬ idx uvs k = idx uvs i by simpa using e2), ← r7 _ h.1]
        exact ih _ _ h.2

/-- start of the inner search: `if i & 1 == 0 { headu[((uvs[i] << 1) | 1) & mask] } else
{ headv[((uvs[i] << 1) | 0) & mask] }` -/
def kOf (uvs : List Nat) (mask : Nat) (hu hv : List Nat) (i : Nat) : Nat :=
  if (i &&& 1) == 0 then (idx hu (((shlW (idx uvs i) 1) ||| 1) &&& mask))
  else (idx hv (((shlW (idx uvs i) 1) ||| 0) &&& mask))

theorem d2_succ (size : Nat) (uvs : List Nat) (mask : Nat) (hu hv prev : List Nat) (f n i j : Nat) :
    Cuckarood_verify_loop2 size uvs mask hu hv prev (f + 1) n i j =
      match Cuckarood_verify_loop3 size uvs prev i (2 * size + 1) i (kOf uvs mask hu hv i) with
      | .ret r3 => .ret r3
      | .go st4 =>
        if (st4.1 == i) = true then .ret none
        else if (st4.1 ^^^ 1 == 0) = true then .go (addW n 1, st4.1 ^^^ 1, st4.1)
        else if decide (addW n 1 ≥ size) then .ret none
        else Cuckarood_verify_loop2 size uvs mask hu hv prev f (addW n 1) (st4.1 ^^^ 1) st4.1 := by
  conv => lhs; unfold Cuckarood_verify_loop2
  rw [if_pos rfl]
  rfl

theorem d2_exits_zero (size : Nat) (uvs : List Nat) (mask : Nat) (hu hv prev : List Nat) (n i j : Nat) :
    Cuckarood_verify_loop2_exits size uvs mask hu hv prev 0 n i j = false := by
  conv => lhs; unfold Cuckarood_verify_loop2_exits
  rfl

theorem d2_exits_succ (size : Nat) (uvs : List Nat) (mask : Nat) (hu hv prev : List Nat) (f n i j : Nat)
    (h : Cuckarood_verify_loop2_exits size uvs mask hu hv prev (f + 1) n i j = true) :
    i < uvs.length ∧
    (if (i &&& 1 == 0) = true then ((shlW (idx uvs i) 1) ||| 1) &&& mask < hu.length
      else ((shlW (idx uvs i) 1) ||| 0) &&& mask < hv.length) ∧
    Cuckarood_verify_loop3_exits size uvs prev i (2 * size + 1) i (kOf uvs mask hu hv i) = true ∧
    (∀ j' k', Cuckarood_verify_loop3 size uvs prev i (2 * size + 1) i (kOf uvs mask hu hv i)
        = .go (j', k') → j' ≠ i → j' ^^^ 1 ≠ 0 → ¬ addW n 1 ≥ size →
      Cuckarood_verify_loop2_exits size uvs mask hu hv prev f (addW n 1) (j' ^^^ 1) j' = true) := by
  conv at h => lhs; unfold Cuckarood_verify_loop2_exits
  rw [if_pos rfl, Bool.and_eq_true, Bool.and_eq_true] at h
  obtain ⟨ha, hb, hc⟩ := h
  refine ⟨?_, ?_, hb, fun j' k' e h1 h2 h3 => ?_⟩
  · by_cases c : (i &&& 1 == 0) = true
    · rw [if_pos c] at ha; simp only [Bool.and_eq_true, decide_eq_true_eq] at ha; exact ha.1
    · rw [if_neg c] at ha; simp only [Bool.and_eq_true, decide_eq_true_eq] at ha; exact ha.1
  · by_cases c : (i &&& 1 == 0) = true
    · rw [if_pos c] at ha ⊢; simp only [Bool.and_eq_true, decide_eq_true_eq] at ha; exact ha.2
    · rw [if_neg c] at ha ⊢; simp only [Bool.and_eq_true, decide_eq_true_eq] at ha; exact ha.2
  · have hc' : (match Cuckarood_verify_loop3 size uvs prev i (2 * size + 1) i (kOf uvs mask hu hv i) with
        | .ret _ => true
        | .go st6 =>
          if (st6.1 == i) = true then true
          else if (st6.1 ^^^ 1 == 0) = true then true
          else if decide (addW n 1 ≥ size) then true
          else Cuckarood_verify_loop2_exits size uvs mask hu hv prev f (addW n 1) (st6.1 ^^^ 1) st6.1)
        = true := hc
    rw [e] at hc'
    dsimp only at hc'
    rw [if_neg (by simpa using h1), if_neg (by simpa using h2), if_neg (by simpa using h3)] at hc'
    exact hc'

theorem kOf_eq (uvs : List Nat) (mask : Nat) (hu hv : List Nat) (P : Params) (s : RoodSt)
    (hm : mask < 2^64) (hbk : ∀ u, P.bk u = u &&& mask)
    (r1 : R uvs s.uvs) (r5 : R hu s.headu) (r6 : R hv s.headv) (i : Nat) (hi : i < uvs.length)
    (hb : if (i &&& 1 == 0) = true then ((shlW (idx uvs i) 1) ||| 1) &&& mask < hu.length
      else ((shlW (idx uvs i) 1) ||| 0) &&& mask < hv.length) :
    kOf uvs mask hu hv i =
      if i % 2 = 0 then s.headu (P.bk (2 * s.uvs i + 1)) else s.headv (P.bk (2 * s.uvs i)) := by
  unfold kOf
  rw [Nat.and_one_is_mod] at hb ⊢
  rw [← r1 i hi, hbk, hbk]
  by_cases c : i % 2 = 0
  · rw [if_pos (by simpa using c)] at hb
    rw [if_pos (by simpa using c), if_pos c]
    rw [key_eq _ 1 mask (by omega) hm] at hb ⊢
    exact r5 _ hb
  · rw [if_neg (by simpa using c)] at hb
    rw [if_neg (by simpa using c), if_neg c]
    rw [key_eq _ 0 mask (by omega) hm, Nat.add_zero] at hb ⊢
    exact r6 _ hb

theorem d2_eq (size : Nat) (uvs : List Nat) (mask : Nat) (hu hv prev : List Nat) (P : Params)
    (s : RoodSt) (hsz : size < 2^62) (hm : mask < 2^64) (hbk : ∀ u, P.bk u = u &&& mask)
    (r1 : R uvs s.uvs) (r5 : R hu s.headu) (r6 : R hv s.headv) (r7 : R prev s.prev) :
    ∀ (f n i j : Nat), n + f < 2^63 →
      Cuckarood_verify_loop2_exits size uvs mask hu hv prev f n i j = true →
      (Cuckarood_verify_loop2 size uvs mask hu hv prev f n i j = .ret none ∧
        ∃ e, roodWalk (roodStep P size s) size f i n = .error e) ∨
      (∃ n' i' j', Cuckarood_verify_loop2 size uvs mask hu hv prev f n i j = .go (n', i', j') ∧
        roodWalk (roodStep P size s) size f i n = .ok n') ∨
      roodWalk (roodStep P size s) size f i n = .error .hang := by
  intro f
  induction f with
  | zero => intro n i j _ h; rw [d2_exits_zero] at h; cases h
  | succ f ih =>
    intro n i j hn h
    obtain ⟨hi, hb, h3, hnext⟩ := d2_exits_succ _ _ _ _ _ _ _ _ _ _ h
    rw [d2_succ, roodWalk, roodStep]
    rw [kOf_eq uvs mask hu hv P s hm hbk r1 r5 r6 i hi hb] at h3 hnext ⊢
    rcases d3_eq size uvs prev s i hsz r1 r7 _ _ _ h3 with ⟨e1, e2⟩ | ⟨j', k', e1, e2⟩ | ⟨e2, _⟩
    · left
      rw [e1, e2]
      exact ⟨rfl, _, rfl⟩
    · rw [e1, e2]
      dsimp only
      by_cases c1 : j' = i
      · left
        rw [if_pos (by simpa using c1), if_pos c1]
        exact ⟨rfl, _, rfl⟩
      · rw [if_neg (by simpa using c1), if_neg c1]
        dsimp only
        rw [GV.addW_eq (a := n) (b := 1) (by omega)]
        by_cases c2 : j' ^^^ 1 = 0
        · right; left
          rw [if_pos (by simpa using c2), if_pos c2]
          exact ⟨_, _, _, rfl, rfl⟩
        · rw [if_neg (by simpa using c2), if_neg c2]
          by_cases c3 : n + 1 ≥ size
          · left
            rw [if_pos (by simpa using c3), if_pos c3]
            exact ⟨rfl, _, rfl⟩
          · rw [if_neg (by simpa using c3), if_neg c3]
            have := hnext j' k' e1 c1 c2 (by rw [GV.addW_eq (a := n) (b := 1) (by omega)]; exact c3)
            rw [GV.addW_eq (a := n) (b := 1) (by omega)] at this
            exact ih _ _ _ (by omega) this
    · right; right
      rw [e2]

end GV.Lemmas.XlateVerifyD
