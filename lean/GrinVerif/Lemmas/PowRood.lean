import GrinVerif.Lemmas.PowScan
import GrinVerif.Lemmas.PowPipe
/-! Cuckarood verifier: slots are numbered per direction (`idx = 4*ndir[dir] + 2*dir`, `slotOf`), the two
head arrays hold time-ordered lists keyed by `(node << 1 | dir) & mask`. From the entry slot of an
edge the step goes to the entry slot of the edge's only `Mate`, and fails if there is none or more than
one (`roodStep_ent_iff`). -/
namespace GV.Pow

/-- direction bit of the `e`-th edge of the proof -/
def dirF (ns : List Nat) (e : Nat) : Nat := ns.getD e 0 % 2

theorem dirF_lt (ns : List Nat) (e : Nat) : dirF ns e < 2 := by unfold dirF; omega

theorem cntBelow_split (ns : List Nat) : ∀ n,
    cntBelow (fun e => dirF ns e == 0) n + cntBelow (fun e => dirF ns e == 1) n = n := by
  intro n
  induction n with
  | zero => simp [cntBelow]
  | succ n ih =>
    have := dirF_lt ns n
    simp only [cntBelow]
    by_cases hz : dirF ns n = 0
    · simp [hz]; omega
    · have : dirF ns n = 1 := by omega
      simp [this]; omega

/-- as many even as odd nonces -/
def RoodBalanced (ns : List Nat) : Prop :=
  cntBelow (fun e => dirF ns e == 0) ns.length = cntBelow (fun e => dirF ns e == 1) ns.length

/-- `c` is a simple cycle through all edges in which consecutive edges have opposite direction bits:
the cycle of `IsProofCycleCuckarood` with the directions read off the nonces -/
def IsRoodCycle (ep : Nat → Nat × Nat) (ns c : List Nat) : Prop :=
  IsCycle ns.length
    (fun a b => sameSide a b ∧ slotNode (ns.map ep) a = slotNode (ns.map ep) b ∧
      dirF ns (a / 2) ≠ dirF ns (b / 2))
    (fun a b => sameSide a b ∧ slotNode (ns.map ep) a = slotNode (ns.map ep) b) c

/-- `u` slot of the `e`-th edge: `4 * ndir[dir] + 2 * dir` at the time the edge is added -/
def slotOf (ns : List Nat) (e : Nat) : Nat :=
  4 * cntBelow (fun e' => dirF ns e' == dirF ns e) e + 2 * dirF ns e

theorem slotOf_even (ns : List Nat) (e : Nat) : slotOf ns e % 2 = 0 := by unfold slotOf; omega

theorem slotOf_dir (ns : List Nat) (e : Nat) : slotOf ns e / 2 % 2 = dirF ns e := by
  have := dirF_lt ns e
  unfold slotOf; omega

theorem slotOf_inj (ns : List Nat) (e e' : Nat) (h : slotOf ns e = slotOf ns e') : e = e' := by
  have d1 := dirF_lt ns e
  have d2 := dirF_lt ns e'
  have hd : dirF ns e = dirF ns e' := by
    have a := slotOf_dir ns e
    have b := slotOf_dir ns e'
    rw [h] at a; omega
  have hc : cntBelow (fun x => dirF ns x == dirF ns e) e = cntBelow (fun x => dirF ns x == dirF ns e') e' := by
    unfold slotOf at h; omega
  rw [← hd] at hc
  rcases Nat.lt_trichotomy e e' with hlt | heq | hgt
  · have := cntBelow_lt (fun x => dirF ns x == dirF ns e) e e' hlt (by simp); omega
  · exact heq
  · have := cntBelow_lt (fun x => dirF ns x == dirF ns e) e' e hgt (by simp [hd]); omega

/-- bucket keys of the `e`-th edge in `headu` / `headv` -/
def bU (P : Params) (ep : Nat → Nat × Nat) (ns : List Nat) (e : Nat) : Nat :=
  P.bk (2 * frmF ep ns e + dirF ns e)
def bV (P : Params) (ep : Nat → Nat × Nat) (ns : List Nat) (e : Nat) : Nat :=
  P.bk (2 * toF ep ns e + dirF ns e)
/-- slot of an edge index, `ns.length` standing for "none" (`2 * size`) -/
def slU (ns : List Nat) (e : Nat) : Nat := if e = ns.length then 2 * ns.length else slotOf ns e
def slV (ns : List Nat) (e : Nat) : Nat := if e = ns.length then 2 * ns.length else slotOf ns e + 1

structure RoodInv (P : Params) (ep : Nat → Nat × Nat) (ns : List Nat) (n : Nat) (s : RoodSt) : Prop where
  nd0 : s.nd0 = cntBelow (fun e => dirF ns e == 0) n
  nd1 : s.nd1 = cntBelow (fun e => dirF ns e == 1) n
  bal : s.nd0 ≤ ns.length / 2 ∧ s.nd1 ≤ ns.length / 2
  lt : ∀ e, e < n → slotOf ns e + 1 < 2 * ns.length
  uvsU : ∀ e, e < n → s.uvs (slotOf ns e) = frmF ep ns e
  uvsV : ∀ e, e < n → s.uvs (slotOf ns e + 1) = toF ep ns e
  headu : ∀ b, s.headu b = slU ns (lastBelow (fun e => bU P ep ns e == b) ns.length n)
  headv : ∀ b, s.headv b = slV ns (lastBelow (fun e => bV P ep ns e == b) ns.length n)
  prevU : ∀ e, e < n → s.prev (slotOf ns e) =
    slU ns (lastBelow (fun e' => bU P ep ns e' == bU P ep ns e) ns.length e)
  prevV : ∀ e, e < n → s.prev (slotOf ns e + 1) =
    slV ns (lastBelow (fun e' => bV P ep ns e' == bV P ep ns e) ns.length e)

theorem roodInv_init (P : Params) (ep : Nat → Nat × Nat) (ns : List Nat) :
    RoodInv P ep ns 0 (RoodSt.init ns.length) := by
  refine ⟨rfl, rfl, ⟨Nat.zero_le _, Nat.zero_le _⟩, ?_, ?_, ?_, ?_, ?_, ?_, ?_⟩
  all_goals first
    | (intro e he; exact absurd he (Nat.not_lt_zero e))
    | (intro b; simp [RoodSt.init, lastBelow, slU, slV])

theorem upd_slots (ns : List Nat) (f : Nat → Nat) (n e d x y : Nat) (hne : e ≠ n) (hd : d < 2) :
    upd (upd f (slotOf ns n) x) (slotOf ns n + 1) y (slotOf ns e + d) = f (slotOf ns e + d) := by
  have := slotOf_even ns e
  have := slotOf_even ns n
  have h : slotOf ns e ≠ slotOf ns n := fun h => hne (slotOf_inj ns e n h)
  unfold upd
  rw [if_neg (by omega), if_neg (by omega)]

theorem upd_slots_fst (f : Nat → Nat) (a x y : Nat) : upd (upd f a x) (a + 1) y a = x := by
  unfold upd
  rw [if_neg (by omega), if_pos rfl]

theorem upd_slots_snd (f : Nat → Nat) (a x y : Nat) : upd (upd f a x) (a + 1) y (a + 1) = y :=
  if_pos rfl

theorem rood_counts_step (ns : List Nat) (n x n0 n1 : Nat) (hdir : x % 2 = dirF ns n)
    (h0 : n0 = cntBelow (fun e => dirF ns e == 0) n) (h1 : n1 = cntBelow (fun e => dirF ns e == 1) n) :
    (if x % 2 = 0 then n0 else n1) = cntBelow (fun e' => dirF ns e' == dirF ns n) n ∧
    (if x % 2 = 0 then n0 + 1 else n0) = cntBelow (fun e => dirF ns e == 0) (n + 1) ∧
    (if x % 2 = 0 then n1 else n1 + 1) = cntBelow (fun e => dirF ns e == 1) (n + 1) := by
  rw [← hdir]
  simp only [cntBelow, ← hdir]
  rcases Nat.mod_two_eq_zero_or_one x with hz | hz <;> simp [hz, h0, h1]

/-- the balance test in front of the mask and ascending tests -/
def roodPre (size : Nat) (s : RoodSt) (x : Nat) : Option Err :=
  if (if x % 2 = 0 then s.nd0 else s.nd1) ≥ size / 2 then some .notBalanced else none

/-- what the first loop does to the arrays and counters for nonce `x` -/
def roodPush (P : Params) (ep : Nat → Nat × Nat) (x : Nat) (s : RoodSt) : RoodSt :=
  let dir := x % 2
  let idx := 4 * (if dir = 0 then s.nd0 else s.nd1) + 2 * dir
  let ub := P.bk (2 * (ep x).1 + dir)
  let vb := P.bk (2 * (ep x).2 + dir)
  { uvs := upd (upd s.uvs idx (ep x).1) (idx+1) (ep x).2,
    prev := upd (upd s.prev idx (s.headu ub)) (idx+1) (s.headv vb),
    headu := upd s.headu ub idx, headv := upd s.headv vb (idx+1),
    nd0 := if dir = 0 then s.nd0 + 1 else s.nd0, nd1 := if dir = 0 then s.nd1 else s.nd1 + 1,
    x0 := s.x0 ^^^ (ep x).1, x1 := s.x1 ^^^ (ep x).2 }

theorem roodBuild_eq (P : Params) (ep : Nat → Nat × Nat) (size : Nat) : ∀ xs n last s,
    roodBuild P ep size xs last s =
      gBuild P.edgeMask (roodPre size) (fun _ => roodPush P ep) xs n last s
  | [], _, _, _ => rfl
  | x :: xs, n, last, s => by
    rw [roodBuild, gBuild]
    by_cases h : (if x % 2 = 0 then s.nd0 else s.nd1) ≥ size / 2
    · simp only [roodPre, h, if_true]
    · simp only [roodPre, h, if_false, roodBuild_eq P ep size xs (n+1)]
      rfl

theorem roodBuild_ne_hang (P : Params) (ep : Nat → Nat × Nat) (size : Nat) (xs : List Nat)
    (last : Option Nat) (s : RoodSt) : roodBuild P ep size xs last s ≠ .error .hang :=
  roodBuild_eq P ep size xs 0 last s ▸
    gBuild_ne_hang (fun s x h => by
      unfold roodPre at h
      by_cases c : (if x % 2 = 0 then s.nd0 else s.nd1) ≥ size / 2 <;> simp [c] at h) xs 0 last s

theorem roodPush_inv (P : Params) (ep : Nat → Nat × Nat) (ns : List Nat) (n : Nat) (s : RoodSt)
    (hn : n < ns.length) (inv : RoodInv P ep ns n s) (hp : roodPre ns.length s (ns.getD n 0) = none) :
    RoodInv P ep ns (n + 1) (roodPush P ep (ns.getD n 0) s) := by
  obtain ⟨hnd', h0', h1'⟩ := rood_counts_step ns n (ns.getD n 0) s.nd0 s.nd1 rfl inv.nd0 inv.nd1
  -- the running counter of the direction is `slotOf`: the update in closed form
  have hidx : 4 * (if ns.getD n 0 % 2 = 0 then s.nd0 else s.nd1) + 2 * (ns.getD n 0 % 2) = slotOf ns n := by
    rw [hnd']; rfl
  have hnd : cntBelow (fun e' => dirF ns e' == dirF ns n) n < ns.length / 2 := by
    unfold roodPre at hp
    rw [hnd'] at hp
    split at hp
    · cases hp
    · omega
  generalize hs' : roodPush P ep (ns.getD n 0) s = s'
  have h0 : s'.nd0 = cntBelow (fun e => dirF ns e == 0) (n+1) := by rw [← hs']; exact h0'
  have h1 : s'.nd1 = cntBelow (fun e => dirF ns e == 1) (n+1) := by rw [← hs']; exact h1'
  have huvs : s'.uvs = upd (upd s.uvs (slotOf ns n) (frmF ep ns n)) (slotOf ns n + 1) (toF ep ns n) := by
    rw [← hs']; simp only [roodPush, hidx]; rfl
  have hprev : s'.prev = upd (upd s.prev (slotOf ns n) (s.headu (bU P ep ns n))) (slotOf ns n + 1)
      (s.headv (bV P ep ns n)) := by rw [← hs']; simp only [roodPush, hidx]; rfl
  have hhu : s'.headu = upd s.headu (bU P ep ns n) (slotOf ns n) := by
    rw [← hs']; simp only [roodPush, hidx]; rfl
  have hhv : s'.headv = upd s.headv (bV P ep ns n) (slotOf ns n + 1) := by
    rw [← hs']; simp only [roodPush, hidx]; rfl
  have hd := dirF_lt ns n
  refine ⟨h0, h1, ?_, ?_, ?_, ?_, ?_, ?_, ?_, ?_⟩
  · rw [h0, h1]
    have b0 := inv.bal.1
    have b1 := inv.bal.2
    rw [inv.nd0] at b0
    rw [inv.nd1] at b1
    simp only [cntBelow]
    by_cases hz : dirF ns n = 0
    · rw [hz] at hnd; simp [hz]; omega
    · have h1' : dirF ns n = 1 := by omega
      rw [h1'] at hnd; simp [h1']; omega
  · intro e he
    rcases Nat.lt_succ_iff_lt_or_eq.mp he with he | rfl
    · exact inv.lt e he
    · unfold slotOf; omega
  · intro e he
    rw [huvs]
    rcases Nat.lt_succ_iff_lt_or_eq.mp he with he | rfl
    · exact (upd_slots ns _ n e 0 _ _ (Nat.ne_of_lt he) (by omega)).trans (inv.uvsU e he)
    · exact upd_slots_fst ..
  · intro e he
    rw [huvs]
    rcases Nat.lt_succ_iff_lt_or_eq.mp he with he | rfl
    · exact (upd_slots ns _ n e 1 _ _ (Nat.ne_of_lt he) (by omega)).trans (inv.uvsV e he)
    · exact upd_slots_snd ..
  · intro b
    rw [hhu, show slotOf ns n = slU ns n from (if_neg (Nat.ne_of_lt hn)).symm]
    exact lastBelow_push (bU P ep ns) (slU ns) ns.length n b _ inv.headu
  · intro b
    rw [hhv, show slotOf ns n + 1 = slV ns n from (if_neg (Nat.ne_of_lt hn)).symm]
    exact lastBelow_push (bV P ep ns) (slV ns) ns.length n b _ inv.headv
  · intro e he
    rw [hprev]
    rcases Nat.lt_succ_iff_lt_or_eq.mp he with he | rfl
    · exact (upd_slots ns _ n e 0 _ _ (Nat.ne_of_lt he) (by omega)).trans (inv.prevU e he)
    · exact (upd_slots_fst ..).trans (inv.headu _)
  · intro e he
    rw [hprev]
    rcases Nat.lt_succ_iff_lt_or_eq.mp he with he | rfl
    · exact (upd_slots ns _ n e 1 _ _ (Nat.ne_of_lt he) (by omega)).trans (inv.prevV e he)
    · exact (upd_slots_snd ..).trans (inv.headv _)

theorem roodPre_balanced (P : Params) (ep : Nat → Nat × Nat) (ns : List Nat)
    (hbal : RoodBalanced ns)
    (n : Nat) (s : RoodSt) (hn : n < ns.length) (inv : RoodInv P ep ns n s) :
    roodPre ns.length s (ns.getD n 0) = none := by
  unfold RoodBalanced at hbal
  obtain ⟨hnd, _, _⟩ := rood_counts_step ns n (ns.getD n 0) s.nd0 s.nd1 rfl inv.nd0 inv.nd1
  have hsplit := cntBelow_split ns ns.length
  have := cntBelow_lt (fun e => dirF ns e == dirF ns n) n ns.length hn (by simp)
  have : cntBelow (fun e => dirF ns e == dirF ns n) ns.length ≤ ns.length / 2 := by
    rcases Nat.mod_two_eq_zero_or_one (ns.getD n 0) with hz | hz <;>
      rw [show dirF ns n = ns.getD n 0 % 2 from rfl, hz] <;> omega
  unfold roodPre
  rw [hnd, if_neg (by omega)]

theorem roodBuild_spec (P : Params) (ep : Nat → Nat × Nat) (ns : List Nat) (s : RoodSt)
    (hb : roodBuild P ep ns.length ns none (RoodSt.init ns.length) = .ok s) :
    RoodInv P ep ns ns.length s ∧ (∀ x ∈ ns, x ≤ P.edgeMask) ∧ ascChain none ns :=
  gBuild_sound ns (fun n s => RoodInv P ep ns n s) (fun n s hn inv hp => roodPush_inv P ep ns n s hn inv hp)
    (roodInv_init P ep ns) (roodBuild_eq P ep ns.length ns 0 none _ ▸ hb)

/-- the slot through which the walk enters edge `e`: its `u` end for direction 0, `v` end for 1 -/
def ent (ns : List Nat) (e : Nat) : Nat := slotOf ns e + dirF ns e

/-- node of edge `e` on side `d` (0 = `u`, else `v`) -/
def sideNode (ep : Nat → Nat × Nat) (ns : List Nat) (d e : Nat) : Nat :=
  if d = 0 then frmF ep ns e else toF ep ns e

/-- specification slot `2e + side` ↦ verifier slot -/
def sigR (ns : List Nat) (x : Nat) : Nat := slotOf ns (x / 2) + x % 2

theorem sigR_slot (ns : List Nat) (e d : Nat) (hd : d < 2) : sigR ns (2 * e + d) = slotOf ns e + d := by
  unfold sigR; rw [two_mul_add_div _ _ hd, two_mul_add_mod _ _ hd]

theorem sigR_inj (ns : List Nat) (a b : Nat) (h : sigR ns a = sigR ns b) : a = b := by
  obtain ⟨e, d, hd, rfl⟩ := exists_slot a
  obtain ⟨e', d', hd', rfl⟩ := exists_slot b
  rw [sigR_slot _ _ _ hd, sigR_slot _ _ _ hd'] at h
  have := slotOf_even ns e
  have := slotOf_even ns e'
  obtain rfl : d = d' := by omega
  rw [slotOf_inj ns e e' (Nat.add_right_cancel h)]

theorem ent_eq_sigR (ns : List Nat) (e : Nat) : ent ns e = sigR ns (2 * e + dirF ns e) :=
  (sigR_slot ns e _ (dirF_lt ns e)).symm

theorem ent_inj (ns : List Nat) (e e' : Nat) (h : ent ns e = ent ns e') : e = e' := by
  have := sigR_inj ns _ _ (ent_eq_sigR ns e ▸ ent_eq_sigR ns e' ▸ h)
  have := dirF_lt ns e
  have := dirF_lt ns e'
  omega

/-- `headu` / `headv`, `bU` / `bV`, `slU` / `slV` by side -/
def headS (s : RoodSt) (d : Nat) : Nat → Nat := if d = 0 then s.headu else s.headv
def bS (P : Params) (ep : Nat → Nat × Nat) (ns : List Nat) (d e : Nat) : Nat :=
  P.bk (2 * sideNode ep ns d e + dirF ns e)
def slS (ns : List Nat) (d e : Nat) : Nat := if e = ns.length then 2 * ns.length else slotOf ns e + d

/-- at `d = 0` these are `headu`, `bU`, `slU` and the `U` fields of `RoodInv`, at `d = 1` the `V` ones,
by unfolding (`slS ns 0 = slU ns` etc. hold by `rfl`) -/
theorem RoodInv.side {P : Params} {ep : Nat → Nat × Nat} {ns : List Nat} {s : RoodSt}
    (inv : RoodInv P ep ns ns.length s) (d : Nat) (hd : d < 2) :
    (∀ e, e < ns.length → s.uvs (slotOf ns e + d) = sideNode ep ns d e) ∧
    (∀ b, headS s d b = slS ns d (lastBelow (fun e => bS P ep ns d e == b) ns.length ns.length)) ∧
    (∀ e, e < ns.length → s.prev (slotOf ns e + d) =
      slS ns d (lastBelow (fun e' => bS P ep ns d e' == bS P ep ns d e) ns.length e)) := by
  match d, hd with
  | 0, _ => exact ⟨inv.uvsU, inv.headu, inv.prevU⟩
  | 1, _ => exact ⟨inv.uvsV, inv.headv, inv.prevV⟩

/-- the slots hanging off bucket `b` of side `d`, newest first -/
def bucketSlots (P : Params) (ep : Nat → Nat × Nat) (ns : List Nat) (d b : Nat) : List Nat :=
  (between (fun e' => bS P ep ns d e' == b) 0 ns.length).map (fun e' => slotOf ns e' + d)

theorem mem_bucketSlots {P : Params} {ep : Nat → Nat × Nat} {ns : List Nat} {d b x : Nat} :
    x ∈ bucketSlots P ep ns d b ↔ ∃ e', e' < ns.length ∧ bS P ep ns d e' = b ∧ x = slotOf ns e' + d := by
  unfold bucketSlots
  rw [List.mem_map]
  constructor
  · rintro ⟨e', he', rfl⟩
    obtain ⟨_, h2, h3⟩ := mem_between.mp he'
    exact ⟨e', h2, beq_iff_eq.mp h3, rfl⟩
  · rintro ⟨e', h1, h2, rfl⟩
    exact ⟨e', mem_between.mpr ⟨Nat.zero_le _, h1, beq_iff_eq.mpr h2⟩, rfl⟩

theorem bucketSlots_nodup (P : Params) (ep : Nat → Nat × Nat) (ns : List Nat) (d b : Nat) :
    (bucketSlots P ep ns d b).Nodup :=
  List.pairwise_map.mpr ((between_pairwise _ 0 ns.length).imp fun {x y} hgt heq =>
    Nat.ne_of_gt hgt (slotOf_inj ns x y (Nat.add_right_cancel heq)))

theorem roodFind_bucket {P : Params} {ep : Nat → Nat × Nat} {ns : List Nat} {s : RoodSt}
    (inv : RoodInv P ep ns ns.length s) (d : Nat) (hd : d < 2) (b i : Nat) :
    roodFind ns.length s i (2 * ns.length + 1) (headS s d b) i =
      scanJ (fun x => decide (s.uvs x = s.uvs i)) i (bucketSlots P ep ns d b) i := by
  unfold bucketSlots
  obtain ⟨_, hh, hp⟩ := inv.side d hd
  have hslot : ∀ e', e' < ns.length → slS ns d e' = slotOf ns e' + d := fun e' h =>
    if_neg (Nat.ne_of_lt h)
  have hpath := path_between (fun e' => bS P ep ns d e' == b) (slS ns d) s.prev ns.length 0 ns.length
    (Nat.zero_le _) (fun t _ ht hpt => by rw [hslot t ht, hp t ht, beq_iff_eq.mp hpt])
  rw [List.map_congr_left fun e' he' => hslot e' (mem_between.mp he').2.1] at hpath
  rw [hh]
  refine roodFind_path ns.length s i hpath (show (if ns.length = ns.length then _ else _) = _ from if_pos rfl)
    (fun x hx => ?_) _ _ ?_
  · obtain ⟨e', he', rfl⟩ := List.mem_map.mp hx
    have := inv.lt e' (mem_between.mp he').2.1
    omega
  · have := between_length_le (fun e' => bS P ep ns d e' == b) 0 ns.length
    rw [List.length_map]; omega

theorem eq_one_sub_of_ne {a d : Nat} (ha : a < 2) (hd : d < 2) (h : a ≠ d) : a = 1 - d := by omega

/-- a bucket hash that keeps the lowest bit separates the two directions -/
theorem bk_low_bit {bk : Nat → Nat} (hbk : ∀ x, bk x % 2 = x % 2) {a b c d : Nat}
    (h : bk (2 * a + b) = bk (2 * c + d)) (hb : b < 2) (hd : d < 2) : b = d := by
  have h1 := hbk (2 * a + b)
  have h2 := hbk (2 * c + d)
  rw [h] at h1
  omega

/-- `e2` is an edge of the other direction that has, on the side where the walk stands on `e`, the
same node as `e` -/
def Mate (ep : Nat → Nat × Nat) (ns : List Nat) (e e2 : Nat) : Prop :=
  e2 < ns.length ∧ dirF ns e2 ≠ dirF ns e ∧
    sideNode ep ns (dirF ns e) e2 = sideNode ep ns (dirF ns e) e

section
variable {ep : Nat → Nat × Nat} {ns : List Nat} {e e2 : Nat} (h : Mate ep ns e e2)
include h

theorem Mate.lt : e2 < ns.length := h.1
theorem Mate.dir : dirF ns e2 ≠ dirF ns e := h.2.1
theorem Mate.node : sideNode ep ns (dirF ns e) e2 = sideNode ep ns (dirF ns e) e := h.2.2

end

theorem roodStep_ent_iff (P : Params) (ep : Nat → Nat × Nat) (ns : List Nat) (s : RoodSt)
    (hbk : ∀ x, P.bk x % 2 = x % 2) (inv : RoodInv P ep ns ns.length s) (e i' : Nat)
    (he : e < ns.length) :
    roodStep P ns.length s (ent ns e) = .ok i' ↔
      ∃ e2, Mate ep ns e e2 ∧ (∀ e', Mate ep ns e e' → e' = e2) ∧ i' = ent ns e2 := by
  unfold Mate ent
  have hev := slotOf_even ns
  have hdlt := dirF_lt ns
  generalize hd : dirF ns e = d
  have hd2 : d < 2 := hd ▸ hdlt e
  have hu := (inv.side d hd2).1
  have hstart : (if (slotOf ns e + d) % 2 = 0 then s.headu (P.bk (2 * s.uvs (slotOf ns e + d) + 1))
      else s.headv (P.bk (2 * s.uvs (slotOf ns e + d)))) =
      headS s d (P.bk (2 * sideNode ep ns d e + (1 - d))) := by
    have := hev e
    rw [hu e he]
    match d, hd2 with
    | 0, _ => exact if_pos (by omega)
    | 1, _ => exact if_neg (by omega)
  -- that bucket holds edges of the other direction only, and all mates of `e`
  have hpar : ∀ e', bS P ep ns d e' = P.bk (2 * sideNode ep ns d e + (1 - d)) → dirF ns e' = 1 - d := by
    exact fun e' hb => bk_low_bit hbk hb (hdlt e') (by omega)
  have hmate : ∀ e', e' < ns.length →
      ((bS P ep ns d e' = P.bk (2 * sideNode ep ns d e + (1 - d)) ∧
          sideNode ep ns d e' = s.uvs (slotOf ns e + d)) ↔
        (dirF ns e' ≠ d ∧ sideNode ep ns d e' = sideNode ep ns d e)) := by
    intro e' _
    rw [hu e he]
    constructor
    · rintro ⟨hb, hv⟩
      exact ⟨by rw [hpar e' hb]; omega, hv⟩
    · rintro ⟨hne, hv⟩
      refine ⟨?_, hv⟩
      unfold bS
      rw [hv, eq_one_sub_of_ne (hdlt e') hd2 hne]
  have hxor : ∀ e2, dirF ns e2 ≠ d → (slotOf ns e2 + d) ^^^ 1 = slotOf ns e2 + dirF ns e2 := by
    intro e2 h
    rw [even_add_xor_one _ d (hev e2) hd2, eq_one_sub_of_ne (hdlt e2) hd2 h]
  obtain ⟨b, hb⟩ : ∃ b, b = P.bk (2 * sideNode ep ns d e + (1 - d)) := ⟨_, rfl⟩
  rw [← hb] at hstart hpar hmate
  have hmem := fun x => mem_bucketSlots (P := P) (ep := ep) (ns := ns) (d := d) (b := b) (x := x)
  have hi : slotOf ns e + d ∉ bucketSlots P ep ns d b := by
    intro h
    obtain ⟨e', _, h2, h3⟩ := (hmem _).mp h
    have := hpar e' h2
    rw [← slotOf_inj ns e e' (Nat.add_right_cancel h3), hd] at this
    omega
  have hnd := bucketSlots_nodup P ep ns d b
  unfold roodStep
  dsimp only
  rw [hstart, roodFind_bucket inv d hd2 b]
  rcases scanJ_spec (fun x => decide (s.uvs x = s.uvs (slotOf ns e + d))) _ _ hi hnd with
    ⟨r, hr, hres⟩ | ⟨hr, s1, s2, h12, m1, m2, v1, v2⟩
  · simp only [hr]
    rcases hres with ⟨r1, r2⟩ | ⟨r1, r2, r3⟩
    · -- nothing found: dead end, and `e` has no mate
      rw [if_pos r1]
      refine ⟨fun h => (nomatch h), ?_⟩
      rintro ⟨e2, ⟨m1, m2⟩, _, _⟩
      obtain ⟨hb', hv⟩ := (hmate e2 m1).mpr m2
      have := r2 _ ((hmem _).mpr ⟨e2, m1, hb', rfl⟩)
      rw [hu e2 m1, hv] at this
      exact absurd (decide_eq_true rfl) (Bool.eq_false_iff.mp this)
    · -- exactly one found
      obtain ⟨ej, t1, t2, rfl⟩ := (hmem r).mp r1
      have hmj := (hmate ej t1).mp ⟨t2, by rw [← hu ej t1]; exact of_decide_eq_true r2⟩
      have hne : slotOf ns ej + d ≠ slotOf ns e + d := fun heq => hmj.1 (by
        rw [slotOf_inj ns ej e (Nat.add_right_cancel heq)]; exact hd)
      rw [if_neg hne, hxor ej hmj.1]
      have huniq : ∀ e', (e' < ns.length ∧ dirF ns e' ≠ d ∧
          sideNode ep ns d e' = sideNode ep ns d e) → e' = ej := by
        rintro e' ⟨m1, m2⟩
        obtain ⟨hb', hv⟩ := (hmate e' m1).mpr m2
        have := r3 _ ((hmem _).mpr ⟨e', m1, hb', rfl⟩) (by rw [hu e' m1, hv]; exact decide_eq_true rfl)
        exact slotOf_inj ns e' ej (Nat.add_right_cancel this)
      constructor
      · intro h
        injection h with h
        exact ⟨ej, ⟨t1, hmj⟩, huniq, h.symm⟩
      · rintro ⟨e2, m, _, rfl⟩
        rw [huniq e2 m]
  · -- two found: `branch`, and `e` has two mates
    simp only [hr]
    refine ⟨fun h => (nomatch h), ?_⟩
    rintro ⟨e0, _, huniq, _⟩
    obtain ⟨e1, l1, b1, rfl⟩ := (hmem s1).mp m1
    obtain ⟨e2, l2, b2, rfl⟩ := (hmem s2).mp m2
    have m1' := (hmate e1 l1).mp ⟨b1, by rw [← hu e1 l1]; exact of_decide_eq_true v1⟩
    have m2' := (hmate e2 l2).mp ⟨b2, by rw [← hu e2 l2]; exact of_decide_eq_true v2⟩
    exact absurd (by rw [(huniq e1 ⟨l1, m1'⟩).trans (huniq e2 ⟨l2, m2'⟩).symm]) h12

end GV.Pow
