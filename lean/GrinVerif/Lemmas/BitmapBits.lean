import GrinVerif.Lemmas.BitmapLoop
/-! Bit-level content of a chunk of the spec vector, and the little sort used by
`apply_to_bitmap_accumulator`. -/
namespace GV.Bitmap

theorem chunkSet_testBit (ch j i : Nat) : (chunkSet ch j).testBit i = (ch.testBit i || decide (j = i)) := by
  simp [chunkSet, Nat.testBit_or, Nat.testBit_two_pow]

theorem setAll_testBit : ∀ (l : List Nat) (ch i : Nat),
    (setAll ch l).testBit i = (ch.testBit i || l.any (fun x => decide (x % 1024 = i))) := by
  intro l
  induction l with
  | nil => intro ch i; simp [setAll]
  | cons x l ih =>
    intro ch i
    have : setAll ch (x :: l) = setAll (chunkSet ch (x % 1024)) l := rfl
    rw [this, ih, chunkSet_testBit, List.any_cons, Bool.or_assoc]

theorem chunkOf_testBit (U : List Nat) (c i : Nat) (hi : i < 1024) :
    (chunkOf U c).testBit i = decide (c * 1024 + i ∈ U) := by
  rw [chunkOf_eq, setAll_testBit]
  simp only [chunkNew, Nat.zero_testBit, Bool.false_or]
  rw [Bool.eq_iff_iff]
  simp only [List.any_eq_true, List.mem_filter, decide_eq_true_eq, inChunk, beq_iff_eq]
  constructor
  · rintro ⟨x, ⟨hx, hc⟩, hm⟩
    have := Nat.div_add_mod x 1024
    have e : c * 1024 + i = x := by rw [← hc, ← hm, Nat.mul_comm]; exact this
    rw [e]; exact hx
  · intro h
    refine ⟨c * 1024 + i, ⟨h, ?_⟩, ?_⟩
    · rw [Nat.mul_comm, Nat.mul_add_div (by omega), Nat.div_eq_of_lt hi]; rfl
    · rw [Nat.mul_comm, Nat.mul_add_mod, Nat.mod_eq_of_lt hi]

theorem sortNat_eq : ∀ l, sortNat l = insertionSort (fun a b => decide (a ≤ b)) l
  | [] => rfl
  | x :: xs => by
    have e : ∀ l, insertSorted x l = insertBy (fun a b => decide (a ≤ b)) x l := fun l => by
      induction l with
      | nil => rfl
      | cons y ys ih => simp only [insertSorted, insertBy, ih, decide_eq_true_eq]
    rw [sortNat, List.foldr_cons, insertionSort, e, ← sortNat_eq xs]; rfl

theorem mem_sortNat (y : Nat) (l : List Nat) : y ∈ sortNat l ↔ y ∈ l :=
  sortNat_eq l ▸ (insertionSort_perm _ l).mem_iff

theorem sortNat_sorted (l : List Nat) : (sortNat l).Pairwise (· ≤ ·) :=
  sortNat_eq l ▸ insertionSort_pairwise (R := (· ≤ ·)) (fun a b => decide (a ≤ b)) (fun _ _ h => of_decide_eq_true h)
    (fun _ _ h => Nat.le_of_not_le (of_decide_eq_false h)) (fun _ _ _ => Nat.le_trans) l

theorem sortNat_head (l : List Nat) (a : Nat) (t : List Nat) (h : sortNat l = a :: t) :
    a ∈ l ∧ ∀ y ∈ l, a ≤ y := by
  have hs := sortNat_sorted l
  rw [h, List.pairwise_cons] at hs
  constructor
  · exact (mem_sortNat a l).1 (by rw [h]; exact List.mem_cons_self)
  · intro y hy
    have : y ∈ a :: t := by rw [← h]; exact (mem_sortNat y l).2 hy
    rcases List.mem_cons.1 this with h1 | h1
    · omega
    · exact hs.1 y h1

theorem sortNat_eq_nil (l : List Nat) : sortNat l = [] ↔ l = [] := by
  constructor
  · intro h
    cases l with
    | nil => rfl
    | cons x xs =>
      have : x ∈ sortNat (x :: xs) := (mem_sortNat x _).2 List.mem_cons_self
      rw [h] at this; simp at this
  · intro h; subst h; rfl

end GV.Bitmap
