import GrinVerif.Lemmas.PmmrBranch
import GrinVerif.Lemmas.StoreCompactSet
import GrinVerif.Lemmas.StoreBackend
/-! `check_compact` against the layouts: the rewritten hash file and data file are the reference
values laid out by the new prune list (what `Synced.checkCompact`, and through it C08
`compact_preserves`, rests on).  Stated on the backend alone, as results of their own: nothing
the reference still needs is compacted away (`needed_not_compacted`) and `unpruned_size` is
unchanged (`checkCompact_unprunedSize`).  No Mathlib. -/
namespace GV.Store
open GV GV.Pmmr

theorem map_pred_idx {L : List Nat} {g r : Nat → Nat} (h : ∀ y ∈ L, g y - 1 = r (y - 1)) :
    (L.map g).map (· - 1) = (L.map (· - 1)).map r := by
  rw [List.map_map, List.map_map]
  exact List.map_congr_left h

theorem keepIdx_map_filter {E : Type} (k g : Nat → Bool) (val : Nat → E) :
    ∀ (L : List Nat) (cur : Nat), (∀ j (hj : j < L.length), k (cur + j) = g L[j]) →
      keepIdx k (L.map val) cur = (L.filter g).map val := by
  intro L
  induction L with
  | nil => intro _ _; rfl
  | cons a t ih =>
    intro cur h
    have h0 := h 0 (by simp)
    simp only [Nat.add_zero, List.getElem_cons_zero] at h0
    have ht := ih (cur + 1) (fun j hj => by
      have := h (j + 1) (by simpa using hj)
      simp only [List.getElem_cons_succ] at this
      rw [← this]; congr 1; omega)
    simp only [List.map_cons, keepIdx, List.filter_cons, h0]
    cases g a <;> simp [ht]

/-- generic compaction of a file by the loop of `write_tmp_pruned`; `R` is the ascending list of
kept positions to remove -/
theorem compact_generic {E : Type} (keep : Nat → Bool) (val : Nat → E) (size : Nat) (R : List Nat)
    (hRs : Sorted R) (hRk : ∀ q ∈ R, keep q = true) :
    AOF.writeTmpLoop (((List.range size).filter keep).map val) 0 (R.map (rk keep)) =
      ((List.range size).filter (fun q => keep q && !R.elem q)).map val := by
  have hsorted : Sorted (R.map (rk keep)) := by
    unfold Sorted at *
    rw [List.pairwise_map]
    have hk : ∀ q ∈ R, keep q = true := hRk
    revert hk
    induction hRs with
    | nil => intro _; exact List.Pairwise.nil
    | @cons a l h1 _ ih =>
      intro hk
      refine List.Pairwise.cons (fun b hb => rk_lt keep (h1 b hb) (hk a (by simp))) ?_
      exact ih (fun q hq => hRk q (by simp [hq])) (fun q hq => hk q (by simp [hq]))
  rw [writeTmpLoop_spec _ 0 _ hsorted (fun _ _ => Nat.zero_le _)]
  rw [keepIdx_map_filter (fun i => !(R.map (rk keep)).elem i) (fun q => !R.elem q) val _ 0]
  · rw [List.filter_filter]
    congr 1
    apply List.filter_congr
    intro q _
    exact Bool.and_comm _ _
  · intro j hj
    simp only [Nat.zero_add]
    congr 1
    generalize hL : (List.range size).filter keep = L at *
    have hnd : L.Nodup := by rw [← hL]; exact List.Nodup.sublist List.filter_sublist List.nodup_range
    have hmem : ∀ q, q ∈ L ↔ q < size ∧ keep q = true := by
      intro q; rw [← hL]; simp [List.mem_filter]
    have hlen : L.length = rk keep size := by rw [← hL]; exact filter_range_length keep size
    rw [Bool.eq_iff_iff]
    simp only [List.elem_eq_mem, decide_eq_true_eq, List.mem_map]
    constructor
    · rintro ⟨q, hqR, hqj⟩
      have hkq := hRk q hqR
      by_cases hqs : q < size
      · have := filter_range_index keep size q hqs hkq
        rw [hL, hqj] at this
        have : L[j] = q := by
          rw [List.getElem?_eq_getElem hj] at this; exact Option.some.inj this
        rw [this]; exact hqR
      · have := rk_mono keep (show size ≤ q by omega)
        omega
    · intro hR
      have hq := (hmem L[j]).1 (List.getElem_mem hj)
      refine ⟨L[j], hR, ?_⟩
      have := filter_range_index keep size L[j] hq.1 hq.2
      rw [hL] at this
      obtain ⟨hlt, he⟩ := List.getElem?_eq_some_iff.1 this
      exact (List.getElem_inj hnd).1 he

theorem compact_layout {E : Type} (keepOld keepNew : Nat → Bool) (val : Nat → E) (size : Nat)
    (R : List Nat) (hRs : Sorted R) (hR : ∀ q, q ∈ R ↔ keepOld q = true ∧ keepNew q = false)
    (hsub : ∀ q, keepNew q = true → keepOld q = true) :
    AOF.writeTmpLoop (((List.range size).filter keepOld).map val) 0 (R.map (rk keepOld)) =
      ((List.range size).filter keepNew).map val := by
  rw [compact_generic keepOld val size R hRs fun q hq => ((hR q).1 hq).1]
  congr 1
  apply List.filter_congr
  intro q _
  have h1 := hR q
  have h2 := hsub q
  rw [Bool.eq_iff_iff]
  simp only [Bool.and_eq_true, Bool.not_eq_true', List.elem_eq_mem, decide_eq_false_iff_not]
  cases hk : keepNew q <;> cases ho : keepOld q <;> simp_all

/-- `check_compact` on one file: `R` holds the 1-based positions to remove, `idx` is the shifted
index the code computes for them -/
theorem AOF.compact_clean {E : Type} {f : AOF E} (hclean : f.Clean) (keepOld keepNew : Nat → Bool)
    (val : Nat → E) (size : Nat) (hlay : f.disk = ((List.range size).filter keepOld).map val)
    (R : List Nat) (idx : Nat → Nat) (hRs : Sorted R) (hpos : ∀ y ∈ R, 1 ≤ y)
    (hidx : ∀ y ∈ R, idx y - 1 = rk keepOld (y - 1))
    (hR : ∀ q, q ∈ R.map (· - 1) ↔ keepOld q = true ∧ keepNew q = false)
    (hsub : ∀ q, keepNew q = true → keepOld q = true) :
    (f.replaceWith (f.writeTmpPruned ((R.map idx).map (· - 1)))).Clean ∧
    (f.replaceWith (f.writeTmpPruned ((R.map idx).map (· - 1)))).disk =
      ((List.range size).filter keepNew).map val := by
  obtain ⟨c1, c2, c3⟩ := hclean
  refine ⟨⟨c1, c2, rfl⟩, ?_⟩
  show AOF.writeTmpLoop f.disk 0 _ = _
  rw [map_pred_idx hidx, hlay]
  exact compact_layout _ _ val size _ (sorted_pred hRs hpos) hR hsub

theorem sorted_removedPreCutoff {ls : LeafSet} (hs : Sorted ls.bitmap) (cutoff : Nat) (rm : Bitmap)
    (pl : PruneList) : Sorted (ls.removedPreCutoff cutoff rm pl) := by
  unfold LeafSet.removedPreCutoff
  exact sorted_filter _ (sorted_flip (sorted_or (sorted_removeRange hs _ _)) _ _ (by omega))

namespace Backend
variable {H : Type}

theorem sorted_expandLoop (pl : PruneList) : ∀ (fuel : Nat) (E : Bitmap) (cur : Nat), Sorted E →
    Sorted (expandLoop pl fuel E cur) := by
  intro fuel
  induction fuel with
  | zero => intro E _ h; exact h
  | succ n ih =>
    intro E cur h
    unfold expandLoop
    simp only
    cases hr : pl.isPrunedRoot (family (cur - 1)).2 with
    | true =>
      simp only [if_true, Bool.true_or]
      exact ih _ _ (sorted_add (sorted_add h))
    | false =>
      simp only [Bool.false_eq_true, if_false, Bool.false_or]
      split
      · exact ih _ _ (sorted_add h)
      · exact h

theorem sorted_expand_fold (pl : PruneList) (l : List Nat) (E : Bitmap) (h : Sorted E) :
    Sorted (l.foldl (fun expanded x => expandLoop pl 64 (Bm.add expanded x) x) E) :=
  List.foldlRecOn l _ h fun _ hE _ _ => sorted_expandLoop pl 64 _ _ (sorted_add hE)

theorem sorted_posToRm (b : Backend H) (cutoff : Nat) (rm : Bitmap) :
    Sorted (b.posToRm cutoff rm).2 := by
  unfold posToRm removedExclRoots
  exact sorted_filter _ (sorted_expand_fold _ _ _ List.Pairwise.nil)

/-- the hypotheses on the backend under which compaction is analysed -/
structure CompactPre (b : Backend H) (size cutoff : Nat) : Prop where
  inv : b.pruneList.Inv
  lsSorted : Sorted b.leafSet.bitmap
  roots : ∀ x ∈ b.pruneList.bitmap, x ≤ size
  cutoff : cutoff ≤ size
  bound : size + 64 < 2 ^ 64

/-- the leaves `check_compact` removes (first component of `pos_to_rm`) -/
def leavesRm (b : Backend H) (cutoff : Nat) (rm : Bitmap) : Bitmap := (b.posToRm cutoff rm).1

/-- what `LeafSet.mem_removedPreCutoff_iff` says of a leaf (1-based `x`) that `check_compact`
removes, in the terms of the set-level development -/
structure RmLeaf (b : Backend H) (cutoff : Nat) (x : Nat) : Prop where
  pos : 1 ≤ x
  le : x ≤ cutoff
  spent : x ∉ b.leafSet.bitmap
  leaf : height (x - 1) = 0
  unpruned : ¬ PrunedBy b.pruneList.bitmap (x - 1)

theorem leavesRm_props {b : Backend H} {size cutoff : Nat} (hp : CompactPre b size cutoff) (rm : Bitmap) :
    ∀ x ∈ leavesRm b cutoff rm, RmLeaf b cutoff x := by
  intro x hx
  obtain ⟨h1, h2, h3, _, h5, h6⟩ := LeafSet.mem_removedPreCutoff_iff.1 (show x ∈
    b.leafSet.removedPreCutoff cutoff rm b.pruneList from hx)
  exact ⟨h1, h2, h3, (isLeaf_iff _).1 h5, fun hc =>
    Bool.false_ne_true (h6.symm.trans ((PruneList.isPruned_iff_prunedBy hp.inv _).2 hc))⟩

/-- the bitmap of the prune list after compaction -/
def newBm (b : Backend H) (cutoff : Nat) (rm : Bitmap) : Bitmap :=
  (PruneList.new (Bm.or b.pruneList.bitmap (leavesRm b cutoff rm))).bitmap

theorem newBm_eq (el : Bytes → Option Nat) (b : Backend H) (cutoff : Nat) (rm : Bitmap) :
    (b.checkCompact el cutoff rm).pruneList.bitmap = newBm b cutoff rm := rfl

/-- the bitmap `check_compact` hands to `PruneList::new` is fit for it: old roots are not nested; a
removed leaf is not below an old root (`removed_pre_cutoff` ANDs with the unpruned leaves) -/
theorem compact_bitmap_ok {b : Backend H} {size cutoff : Nat}
    (hp : CompactPre b size cutoff) (rm : Bitmap) :
    PruneList.NewArg (Bm.or b.pruneList.bitmap (leavesRm b cutoff rm)) := by
  have hprops := leavesRm_props hp rm
  have hsorted : Sorted (Bm.or b.pruneList.bitmap (leavesRm b cutoff rm)) := sorted_or hp.inv.sorted
  refine ⟨hsorted, ?_, ?_⟩
  · intro e he
    have hb := hp.bound
    have hc := hp.cutoff
    rcases mem_or.1 he with h | h
    · have := hp.roots e h; have := hp.inv.pos e h; omega
    · have := (hprops e h).pos; have := (hprops e h).le; omega
  · apply List.Pairwise.imp_of_mem (R := fun a c => a < c) ?_ hsorted
    intro a c ha hc hac hsub
    rcases mem_or.1 ha with ha | ha <;> rcases mem_or.1 hc with hc | hc
    · have h1 := PruneList.root_not_compacted hp.inv a ha
      have h2 : compactedP b.pruneList.bitmap (a - 1) = true :=
        compactedP_iff.2 ⟨c, hc, hsub, by have := hp.inv.pos a ha; omega⟩
      rw [h1] at h2; exact absurd h2 (by simp)
    · have := sub_leaf (hprops c hc).leaf hsub
      have := hp.inv.pos a ha; have := (hprops c hc).pos
      omega
    · exact (hprops a ha).unpruned ⟨c, hc, hsub⟩
    · have := sub_leaf (hprops c hc).leaf hsub
      have := (hprops a ha).pos; have := (hprops c hc).pos
      omega

theorem newBm_prunedBy {b : Backend H} {size cutoff : Nat} (hp : CompactPre b size cutoff)
    (rm : Bitmap) (q : Nat) :
    PrunedBy (newBm b cutoff rm) q ↔
      Full (P0 b.pruneList.bitmap (fun y => y ∈ leavesRm b cutoff rm)) q := by
  have hprops := leavesRm_props hp rm
  apply PruneList.prunedBy_of_leaves (PruneList.new_inv _)
  intro l hl
  rw [PruneList.new_leaves _ (compact_bitmap_ok hp rm) l hl]
  unfold P0 PrunedBy
  constructor
  · rintro ⟨x, hx, hs⟩
    rcases mem_or.1 hx with h | h
    · exact Or.inl ⟨x, h, hs⟩
    · right
      have := sub_leaf (hprops x h).leaf hs
      have h1 := (hprops x h).pos
      rw [show l + 1 = x by omega]; exact h
  · rintro (⟨x, hx, hs⟩ | h)
    · exact ⟨x, mem_or.2 (Or.inl hx), hs⟩
    · exact ⟨l + 1, mem_or.2 (Or.inr h), by rw [Nat.add_sub_cancel]; exact sub_refl l⟩

theorem compactedP_mono {b : Backend H} {size cutoff : Nat} (hp : CompactPre b size cutoff)
    (rm : Bitmap) (q : Nat) (h : compactedP b.pruneList.bitmap q = true) :
    compactedP (newBm b cutoff rm) q = true := by
  rw [compactedP_iff_parent] at h ⊢
  rw [newBm_prunedBy hp]
  intro l _ hs
  exact Or.inl (prunedBy_of_sub h hs)

theorem posToRm_spec {b : Backend H} {size cutoff : Nat} (hp : CompactPre b size cutoff)
    (rm : Bitmap) (y : Nat) :
    y ∈ (b.posToRm cutoff rm).2 ↔
      1 ≤ y ∧ compactedP (newBm b cutoff rm) (y - 1) = true ∧
        compactedP b.pruneList.bitmap (y - 1) = false := by
  have hprops := leavesRm_props hp rm
  have hLs : Sorted (leavesRm b cutoff rm) := sorted_removedPreCutoff hp.lsSorted _ _ _
  have hfold := expand_fold hp.inv (leavesRm b cutoff rm) (fun _ => False) []
    (fun y => by
      constructor
      · intro h; simp at h
      · rintro ⟨_, h | ⟨_, h⟩⟩ <;> exact absurd h (newP_empty hp.inv _))
    (hLs.imp fun h => by omega)
    (fun x hx => by
      obtain ⟨h1, _, _, h5, h6⟩ := hprops x hx
      exact ⟨h1, by simp, h5, h6⟩)
    (fun l hl => by
      have hb := hp.bound
      have hc := hp.cutoff
      rcases hl with ⟨x, hx, hs⟩ | h | h
      · have := hp.roots x hx; have := hs.2; omega
      · exact absurd h (by simp)
      · have := (hprops _ h).le; omega)
  have hE : ∀ y, y ∈ (leavesRm b cutoff rm).foldl
      (fun expanded x => expandLoop b.pruneList 64 (Bm.add expanded x) x) [] ↔
      ESpec b.pruneList.bitmap (NewP b.pruneList.bitmap (fun y => y ∈ leavesRm b cutoff rm)) y := by
    intro y
    rw [hfold y]
    exact espec_congr (newP_congr (fun x => by simp)) y
  have := exclRoots_spec hp.inv _ _ hE y
  refine Iff.trans this ?_
  unfold NewP
  rw [← newBm_prunedBy hp, ← compactedP_iff_parent, ← compactedP_iff_parent]
  simp

end Backend

open GV.Pmmr.Co

theorem peak_not_compacted {bm : Bitmap} {N : Nat} (hroots : ∀ x ∈ bm, x ≤ mmr N)
    (p : Nat) (hp : p ∈ peaks (mmr N)) : compactedP bm p = false :=
  not_compacted_of_parent_ge fun x hx => Nat.le_trans (hroots x hx) (peak_parent_ge hp)

namespace Backend
variable {H : Type}

theorem posToRm_pos {b : Backend H} {size cutoff : Nat} (hp : CompactPre b size cutoff) (rm : Bitmap) :
    ∀ y ∈ (b.posToRm cutoff rm).2, 1 ≤ y := fun y hy => ((posToRm_spec hp rm y).1 hy).1

theorem mem_rmPos {b : Backend H} {size cutoff : Nat} (hp : CompactPre b size cutoff) (rm : Bitmap)
    (q : Nat) : q ∈ (b.posToRm cutoff rm).2.map (· - 1) ↔
      (compactedP (newBm b cutoff rm) q = true ∧ compactedP b.pruneList.bitmap q = false) := by
  rw [mem_pred (posToRm_pos hp rm), posToRm_spec hp rm]
  simp

theorem checkCompact_hash_layout (el : Bytes → Option Nat) {b : Backend H} {size cutoff : Nat}
    (hp : CompactPre b size cutoff) (rm : Bitmap) (ref : Nat → H) (hclean : b.hashFile.Clean)
    (hlay : b.hashFile.disk = (layout b.pruneList.bitmap size).map ref) :
    (b.checkCompact el cutoff rm).hashFile.Clean ∧
    (b.checkCompact el cutoff rm).hashFile.disk = (layout (newBm b cutoff rm) size).map ref := by
  refine AOF.compact_clean hclean _ _ ref size hlay (b.posToRm cutoff rm).2
    (fun pos1 => pos1 - b.pruneList.getShift (pos1 - 1)) (sorted_posToRm b cutoff rm)
    (posToRm_pos hp rm) (fun y hy => ?_) (fun q => ?_) (fun q hq => ?_)
  · obtain ⟨h1, _, h3⟩ := (posToRm_spec hp rm y).1 hy
    have := hashIdx_eq hp.inv (y - 1) h3
    rw [show y - 1 + 1 = y by omega] at this
    omega
  · rw [mem_rmPos hp rm q]
    cases compactedP (newBm b cutoff rm) q <;> cases compactedP b.pruneList.bitmap q <;> simp
  · cases hc : compactedP b.pruneList.bitmap q with
    | false => rfl
    | true => rw [compactedP_mono hp rm q hc] at hq; exact absurd hq (by simp)

theorem checkCompact_data_layout (el : Bytes → Option Nat) {b : Backend H} {df : AOF Bytes}
    {size cutoff : Nat} (hp : CompactPre b size cutoff) (rm : Bitmap) (dref : Nat → Bytes)
    (hd : b.dataFile = .fixed df) (hclean : df.Clean)
    (hlay : df.disk = (dataLayout b.pruneList.bitmap size).map dref) :
    ∃ df', (b.checkCompact el cutoff rm).dataFile = .fixed df' ∧ df'.Clean ∧
      df'.disk = (dataLayout (newBm b cutoff rm) size).map dref := by
  have hfile : (b.checkCompact el cutoff rm).dataFile = b.dataFile.compact el
      ((((b.posToRm cutoff rm).2.filter fun x => isLeaf (x - 1)).map
        fun pos => nLeaves pos - b.pruneList.getLeafShift pos)) := rfl
  rw [hfile, hd]
  have hleafpos : ∀ y ∈ (b.posToRm cutoff rm).2.filter fun x => isLeaf (x - 1), 1 ≤ y :=
    fun y hy => posToRm_pos hp rm y (List.mem_filter.1 hy).1
  refine ⟨_, rfl, AOF.compact_clean hclean _ _ dref size hlay _ _
    (sorted_filter _ (sorted_posToRm b cutoff rm)) hleafpos (fun y hy => ?_) (fun q => ?_)
    (fun q hq => ?_)⟩
  · obtain ⟨hy1, hy2⟩ := List.mem_filter.1 hy
    obtain ⟨h1, _, h3⟩ := (posToRm_spec hp rm y).1 hy1
    have := dataIdx_eq hp.inv (y - 1) ((isLeaf_iff _).1 hy2) h3
    rw [show y - 1 + 1 = y by omega, show 1 + (y - 1) = y by omega] at this
    omega
  · rw [mem_pred hleafpos, List.mem_filter, ← mem_pred (posToRm_pos hp rm), mem_rmPos hp rm q,
      Nat.add_sub_cancel]
    cases isLeaf q <;> cases compactedP (newBm b cutoff rm) q <;>
      cases compactedP b.pruneList.bitmap q <;> simp
  · cases hc : compactedP b.pruneList.bitmap q with
    | false => simpa using (show isLeaf q = true ∧ _ by simpa using hq).1
    | true => rw [compactedP_mono hp rm q hc] at hq; simp at hq

theorem unspent_not_pruned {b : Backend H} {size cutoff : Nat} (hp : CompactPre b size cutoff)
    (rm : Bitmap) (hunp : ∀ x ∈ b.leafSet.bitmap, ¬ PrunedBy b.pruneList.bitmap (x - 1))
    (q : Nat) (hq : (q + 1) ∈ b.leafSet.bitmap) (hleaf : height q = 0) (a : Nat) (ha : Sub a q) :
    ¬ PrunedBy (newBm b cutoff rm) a := by
  intro hpr
  rcases (newBm_prunedBy hp rm a).1 hpr q hleaf ha with h | h
  · have := hunp (q + 1) hq
    rw [Nat.add_sub_cancel] at this
    exact this h
  · exact (leavesRm_props hp rm (q + 1) h).spent hq

/-- the positions whose parent has an unspent leaf below it: the leaf itself, every ancestor of it
inside the MMR and every Merkle-path sibling -/
theorem needed_not_compacted {b : Backend H} {size cutoff : Nat} (hp : CompactPre b size cutoff)
    (rm : Bitmap) (hunp : ∀ x ∈ b.leafSet.bitmap, ¬ PrunedBy b.pruneList.bitmap (x - 1))
    (q : Nat) (hq : (q + 1) ∈ b.leafSet.bitmap) (hleaf : height q = 0) (a : Nat)
    (ha : Sub (family a).1 q) : compactedP (newBm b cutoff rm) a = false :=
  not_compacted_of_unpruned_below (unspent_not_pruned hp rm hunp q hq hleaf _ (sub_refl q)) ha

theorem newBm_roots {b : Backend H} {cutoff N : Nat} (hp : CompactPre b (mmr N) cutoff)
    (rm : Bitmap) : ∀ y ∈ newBm b cutoff rm, 1 ≤ y ∧ y ≤ mmr N := by
  intro y hy
  have hinv : (PruneList.new (Bm.or b.pruneList.bitmap (leavesRm b cutoff rm))).Inv := PruneList.new_inv _
  have hy1 := hinv.pos y hy
  refine ⟨hy1, ?_⟩
  have hpr : PrunedBy (newBm b cutoff rm) (y - 1) := ⟨y, hy, sub_refl _⟩
  obtain ⟨r1, r2⟩ := rightmost_leaf (y - 1)
  have hlt : y - 1 - height (y - 1) < mmr N := by
    rcases (newBm_prunedBy hp rm _).1 hpr _ r1 r2 with ⟨x, hx, hs⟩ | h
    · have := hp.roots x hx; have := hp.inv.pos x hx; have := hs.2; omega
    · have := (leavesRm_props hp rm _ h).le; have := hp.cutoff; omega
  have := lt_size_of_rightmost hlt
  omega

theorem checkCompact_unprunedSize (el : Bytes → Option Nat) {b : Backend H} {cutoff N : Nat}
    (hp : CompactPre b (mmr N) cutoff) (rm : Bitmap) (ref : Nat → H) (hclean : b.hashFile.Clean)
    (hlay : b.hashFile.disk = (layout b.pruneList.bitmap (mmr N)).map ref) :
    (b.checkCompact el cutoff rm).unprunedSize = mmr N ∧ b.unprunedSize = mmr N := by
  constructor
  · apply unprunedSize_of_layout (mmr N) (checkCompact_inv el b cutoff rm)
    · rw [(checkCompact_hash_layout el hp rm ref hclean hlay).2, List.length_map]; rfl
    · exact fun x hx => (newBm_roots hp rm x hx).2
  · apply unprunedSize_of_layout (mmr N) hp.inv
    · rw [hlay, List.length_map]
    · exact hp.roots

end Backend
end GV.Store
