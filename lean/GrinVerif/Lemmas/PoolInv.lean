import GrinVerif.Model.Pool
import GrinVerif.Lemmas.ChainValue
/-! What the pool's checks establish, below the level of histories: cut-through and aggregation preserve the
*net* number of instances of every commitment, so whatever passes `validate_raw_tx` as an aggregate is `NetOK`
(the counting core of `JointlyValid`, which does not depend on order or grouping); `Pool::reconcile` and
`Pool::validate_raw_txs` are one greedy pass (`greedy`); the representation invariant `Inv` and what
`Pool::add_to_pool`, `Pool::reconcile`, `add_to_txpool` and the replay of the reorg cache do to it. -/
namespace GV.Pool

/-! ## counting -/

theorem count_filter_split {α β : Type} [BEq β] [LawfulBEq β] (o : β) (f : α → List β) (P : α → Bool) (l : List α) :
    (l.flatMap f).count o = ((l.filter P).flatMap f).count o + ((l.filter (fun t => !P t)).flatMap f).count o := by
  induction l with
  | nil => simp
  | cons t rest ih =>
    by_cases h : P t = true
    · simp [h, List.count_append, ih]; omega
    · simp [h, List.count_append, ih]; omega

theorem count_msub (a : Nat) (l m : List Nat) : (msub l m).count a = l.count a - m.count a := by
  induction m generalizing l with
  | nil => simp [msub]
  | cons b bs ih =>
    simp only [msub, ih, List.count_cons, List.count_erase]
    by_cases h : b = a
    · subst h; simp; omega
    · simp [h]

theorem nodupB_iff (l : List Nat) : nodupB l = true ↔ l.Nodup := by
  induction l with
  | nil => simp [nodupB]
  | cons a l ih => simp [nodupB, ih, List.nodup_cons]

theorem strNodupB_iff (l : List String) : strNodupB l = true ↔ l.Nodup := by
  induction l with
  | nil => simp [strNodupB]
  | cons a l ih => simp [strNodupB, ih, List.nodup_cons]

theorem nodupB_count {l : List Nat} (h : nodupB l = true) (a : Nat) : l.count a ≤ 1 :=
  List.nodup_iff_count.mp ((nodupB_iff l).mp h) a

theorem allIns_append (a b : List Tx) : allIns (a ++ b) = allIns a ++ allIns b := by
  simp [allIns]

theorem allOuts_append (a b : List Tx) : allOuts (a ++ b) = allOuts a ++ allOuts b := by
  simp [allOuts]

@[simp] theorem allIns_nil : allIns [] = [] := rfl
@[simp] theorem allOuts_nil : allOuts [] = [] := rfl
@[simp] theorem allIns_cons (t : Tx) (l : List Tx) : allIns (t :: l) = t.ins ++ allIns l := by
  simp [allIns]
@[simp] theorem allOuts_cons (t : Tx) (l : List Tx) : allOuts (t :: l) = t.outs ++ allOuts l := by
  simp [allOuts]
theorem mem_allOuts {txs : List Tx} {o : Nat} : o ∈ allOuts txs ↔ ∃ t ∈ txs, o ∈ t.outs := by
  simp [allOuts, List.mem_flatMap]

theorem mem_allIns {txs : List Tx} {o : Nat} : o ∈ allIns txs ↔ ∃ t ∈ txs, o ∈ t.ins := by
  simp [allIns, List.mem_flatMap]

theorem allIns_single (t : Tx) : allIns [t] = t.ins := by simp
theorem allOuts_single (t : Tx) : allOuts [t] = t.outs := by simp

theorem cutThrough_ok {ins outs i o : List Nat} (h : cutThrough ins outs = .ok (i, o)) :
    (∀ a, i.count a = ins.count a - outs.count a) ∧ (∀ a, o.count a = outs.count a - ins.count a) ∧
    (∀ a, i.count a ≤ 1) ∧ (∀ a, o.count a ≤ 1) := by
  by_cases hn : (nodupB (msub ins outs) && nodupB (msub outs ins)) = true
  · simp only [cutThrough, hn, if_true, Except.ok.injEq, Prod.mk.injEq] at h
    simp only [Bool.and_eq_true] at hn
    obtain ⟨hi, ho⟩ := h
    subst hi; subst ho
    exact ⟨fun a => count_msub a _ _, fun a => count_msub a _ _,
      fun a => nodupB_count hn.1 a, fun a => nodupB_count hn.2 a⟩
  · simp [cutThrough, hn] at h

/-- the three arms of `aggregate`: nothing, one transaction handed back as it is, cut-through of two or more -/
theorem aggregate_ok {txs : List Tx} {a : Tx} (h : aggregate txs = .ok a) :
    (txs = [] ∧ a = emptyTx) ∨ txs = [a] ∨
    ∃ i o, cutThrough (allIns txs) (allOuts txs) = .ok (i, o) ∧
      a = { ins := i, outs := o, kers := txs.flatMap (·.kers), tags := keptTags (txs.flatMap (·.tags)) } := by
  match txs, h with
  | [], h => exact .inl ⟨rfl, (Except.ok.inj h).symm⟩
  | [t], h => exact .inr (.inl (by rw [Except.ok.inj h]))
  | t1 :: t2 :: rest, h =>
    simp only [aggregate] at h
    split at h
    · simp at h
    · rename_i i o hc
      exact .inr (.inr ⟨i, o, hc, (Except.ok.inj h).symm⟩)

theorem aggregate_kers {txs : List Tx} {a : Tx} (h : aggregate txs = .ok a) : a.kers = txs.flatMap (·.kers) := by
  rcases aggregate_ok h with ⟨rfl, rfl⟩ | rfl | ⟨_, _, _, rfl⟩
  · rfl
  · simp
  · rfl

theorem mem_aggregate_kers {txs : List Tx} {a : Tx} (h : aggregate txs = .ok a) {k : PKer} :
    k ∈ a.kers ↔ ∃ t ∈ txs, k ∈ t.kers :=
  aggregate_kers h ▸ List.mem_flatMap

/-- **net preservation**: the aggregate creates, net, as many instances of every commitment as
the transactions it was made from -/
theorem aggregate_net {txs : List Tx} {a : Tx} (h : aggregate txs = .ok a) (o : Nat) :
    a.ins.count o + (allOuts txs).count o = a.outs.count o + (allIns txs).count o := by
  rcases aggregate_ok h with ⟨rfl, rfl⟩ | rfl | ⟨i, o', hc, rfl⟩
  · simp [emptyTx]
  · simp; omega
  · obtain ⟨hi, ho, _, _⟩ := cutThrough_ok hc
    simp only [hi o, ho o]
    omega

theorem validate_none_iff (c : Ctx) (w : Weighting) (t : Tx) :
    t.validate c w = none ↔
      t.kers.any (fun k => k.ker == .cb) = false ∧ overWeight c.cfg w t = false ∧
      (c.cfg.nrdEnabled && !strNodupB (nrdExcesses t)) = false ∧
      (nodupB t.ins && nodupB t.outs && nodupB (t.kers.map (·.kid))) = true ∧
      t.tags.contains "unsorted" = false ∧
      t.ins.any (fun i => t.outs.contains i) = false ∧
      t.tags.contains "rproof" = false ∧ t.tags.contains "sig" = false ∧
      (t.kers.isEmpty || (t.ins.isEmpty && t.outs.isEmpty && t.fee == 0)) = false ∧
      (t.tags.contains "sum" || !t.balanced c.outs) = false := by
  unfold Tx.validate
  simp only [ite_eq_iff_of_ne, ne_eq, reduceCtorEq, not_false_eq_true, Bool.not_eq_true, Bool.not_eq_false', and_true]

theorem validate_shape {c : Ctx} {w : Weighting} {t : Tx} (h : t.validate c w = none) :
    nodupB t.ins = true ∧ nodupB t.outs = true ∧ (∀ i ∈ t.ins, i ∉ t.outs) ∧ t.balanced c.outs = true := by
  obtain ⟨_, _, _, hdup, _, hcut, _, _, _, hsum⟩ := (validate_none_iff c w t).mp h
  simp only [Bool.and_eq_true] at hdup
  simp only [Bool.or_eq_false_iff, Bool.not_eq_false'] at hsum
  refine ⟨hdup.1.1, hdup.1.2, fun i hi ho => ?_, hsum.2⟩
  simpa [ho] using List.any_eq_false.mp hcut i hi

theorem validate_weight {c : Ctx} {w : Weighting} {t : Tx} (h : t.validate c w = none) :
    overWeight c.cfg w t = false :=
  ((validate_none_iff c w t).mp h).2.1

theorem validate_balanced {c : Ctx} {w : Weighting} {t : Tx} (h : t.validate c w = none) :
    t.balanced c.outs = true :=
  (validate_shape h).2.2.2

theorem validate_sorted {c : Ctx} {w : Weighting} {t : Tx} (h : t.validate c w = none) :
    t.tags.contains "unsorted" = false :=
  ((validate_none_iff c w t).mp h).2.2.2.2.1

theorem keptTags_of_valid {c : Ctx} {w : Weighting} {t : Tx} (h : t.validate c w = none) : keptTags t.tags = t.tags := by
  have hu := validate_sorted h
  unfold keptTags
  apply List.filter_eq_self.mpr
  intro x hx
  simp only [bne_iff_ne, ne_eq]
  intro hxe
  subst hxe
  simp at hu
  exact hu hx

theorem validate_nrd_nodup {c : Ctx} {w : Weighting} {t : Tx} (h : t.validate c w = none) :
    (c.cfg.nrdEnabled && !strNodupB (nrdExcesses t)) = false :=
  ((validate_none_iff c w t).mp h).2.2.1

theorem validate_nonempty {c : Ctx} {w : Weighting} {t : Tx} (h : t.validate c w = none) :
    (t.kers.isEmpty || (t.ins.isEmpty && t.outs.isEmpty && t.fee == 0)) = false :=
  ((validate_none_iff c w t).mp h).2.2.2.2.2.2.2.2.1

theorem validate_weight_le {c : Ctx} {w : Weighting} {t : Tx} {m : Nat} (h : t.validate c w = none)
    (hm : maxWeight c.cfg w = some m) : t.weight ≤ m := by
  simpa [overWeight, hm] using validate_weight h

theorem validate_too_heavy {c : Ctx} {t : Tx} (h : t.weight > c.cfg.maxTxW) :
    t.validate c .asTransaction ≠ none :=
  fun hv => absurd (validate_weight_le hv rfl) (Nat.not_le.mpr h)

theorem chainValidateTx_none_iff (c : Ctx) (t : Tx) :
    chainValidateTx c t = none ↔
      (∀ o ∈ t.outs, c.head.has o = false) ∧ (∀ i ∈ t.ins, c.head.has i = true) ∧
      (c.cfg.nrdEnabled && nrdTooRecent c t) = false := by
  unfold chainValidateTx
  simp only [ite_eq_iff_of_ne, ne_eq, reduceCtorEq, not_false_eq_true, Bool.not_eq_true, Bool.not_eq_false', and_true, List.any_eq_false,
    List.all_eq_true]

theorem validateRawTx_none_iff (c : Ctx) (w : Weighting) (t : Tx) :
    validateRawTx c w t = none ↔ t.validate c w = none ∧ chainValidateTx c t = none := by
  unfold validateRawTx
  cases t.validate c w <;> simp

theorem validateRawTx_validate {c : Ctx} {w : Weighting} {a : Tx} (h : validateRawTx c w a = none) :
    a.validate c w = none :=
  ((validateRawTx_none_iff c w a).mp h).1

theorem has_iff_mem (c : Ctx) (o : Nat) : c.head.has o = true ↔ o ∈ utxoIds c :=
  GV.Chain.has_iff_mem c.head o

theorem unspentCount_of_has {c : Ctx} {o : Nat} (h : c.head.has o = true) : unspentCount (utxoIds c) o = 1 := by
  simp [unspentCount, (has_iff_mem c o).mp h]

theorem unspentCount_of_not_has {c : Ctx} {o : Nat} (h : c.head.has o = false) : unspentCount (utxoIds c) o = 0 := by
  have : o ∉ utxoIds c := fun hm => by
    have := (has_iff_mem c o).mpr hm
    simp [h] at this
  simp [unspentCount, this]

theorem unspentCount_le (u : List Nat) (o : Nat) : unspentCount u o ≤ 1 := by
  unfold unspentCount; split <;> omega

theorem validateRawTx_counts {c : Ctx} {w : Weighting} {a : Tx} (h : validateRawTx c w a = none) (o : Nat) :
    a.ins.count o ≤ unspentCount (utxoIds c) o ∧
    a.outs.count o + unspentCount (utxoIds c) o ≤ 1 ∧
    (a.ins.count o = 0 ∨ a.outs.count o = 0) := by
  obtain ⟨hv, hc⟩ := (validateRawTx_none_iff c w a).mp h
  obtain ⟨hi, ho, hd, _⟩ := validate_shape hv
  obtain ⟨co, ci, _⟩ := (chainValidateTx_none_iff c a).mp hc
  have h1 := nodupB_count hi o
  have h2 := nodupB_count ho o
  refine ⟨?_, ?_, ?_⟩
  · by_cases hm : o ∈ a.ins
    · rw [unspentCount_of_has (ci o hm)]; exact h1
    · rw [List.count_eq_zero.mpr hm]; omega
  · by_cases hm : o ∈ a.outs
    · rw [unspentCount_of_not_has (co o hm)]; omega
    · rw [List.count_eq_zero.mpr hm]
      have := unspentCount_le (utxoIds c) o
      omega
  · by_cases hm : o ∈ a.ins
    · right; exact List.count_eq_zero.mpr (hd o hm)
    · left; exact List.count_eq_zero.mpr hm

/-! ## `NetOK` -/

/-- counting part of `JointlyValid` -/
def NetOK (utxo : List Nat) (txs : List Tx) : Prop :=
  ∀ o, (allIns txs).count o ≤ (allOuts txs).count o + unspentCount utxo o ∧
       (allOuts txs).count o + unspentCount utxo o ≤ (allIns txs).count o + 1

theorem jointlyValid_iff (outs : List GV.Chain.OutDef) (utxo : List Nat) (txs : List Tx) :
    JointlyValid outs utxo txs ↔ NetOK utxo txs ∧ ∀ t ∈ txs, t.balanced outs = true :=
  ⟨fun h => ⟨fun o => ⟨h.covered o, h.noDup o⟩, h.balanced⟩,
   fun h => ⟨fun o => (h.1 o).1, fun o => (h.1 o).2, h.2⟩⟩

theorem netOK_nil (utxo : List Nat) : NetOK utxo [] := by
  intro o
  have := unspentCount_le utxo o
  simp; omega

theorem netOK_congr {utxo : List Nat} {a b : List Tx}
    (hi : ∀ o, (allIns a).count o = (allIns b).count o)
    (ho : ∀ o, (allOuts a).count o = (allOuts b).count o) (h : NetOK utxo a) : NetOK utxo b := by
  intro o
  have := h o
  rw [hi o, ho o] at this
  exact this

theorem netOK_perm {utxo : List Nat} {a b : List Tx} (hp : a.Perm b) (h : NetOK utxo a) : NetOK utxo b :=
  netOK_congr (fun _ => (hp.flatMap_right _).count_eq _) (fun _ => (hp.flatMap_right _).count_eq _) h

theorem netOK_perm3 {utxo : List Nat} (a b c : List Tx) (h : NetOK utxo (a ++ b ++ c)) :
    NetOK utxo (a ++ c ++ b) :=
  netOK_perm (by simpa only [List.append_assoc] using List.perm_append_comm.append_left a) h

theorem netOK_swap {utxo : List Nat} (a b : List Tx) (h : NetOK utxo (a ++ b)) : NetOK utxo (b ++ a) :=
  netOK_perm List.perm_append_comm h

theorem netOK_of_aggregate {c : Ctx} {w : Weighting} {txs : List Tx} {a : Tx}
    (ha : aggregate txs = .ok a) (hv : validateRawTx c w a = none) : NetOK (utxoIds c) txs := by
  intro o
  obtain ⟨h1, h2, h3⟩ := validateRawTx_counts hv o
  have hn := aggregate_net ha o
  omega

theorem netOK_unfold_aggregate {utxo : List Nat} {pre grp : List Tx} {a : Tx}
    (ha : aggregate grp = .ok a) (h : NetOK utxo (pre ++ [a])) : NetOK utxo (pre ++ grp) := by
  intro o
  have hn := aggregate_net ha o
  have := h o
  simp only [allIns_append, allOuts_append, List.count_append, allIns_single, allOuts_single] at this ⊢
  omega

theorem netOK_remove {utxo : List Nat} {rest removed : List Tx}
    (h : NetOK utxo (rest ++ removed))
    (hout : ∀ o ∈ allOuts removed, o ∉ allIns rest ∧ o ∉ allIns removed)
    (hin : ∀ i ∈ allIns removed, i ∉ allOuts rest) : NetOK utxo rest := by
  intro o
  have := h o
  have hu := unspentCount_le utxo o
  simp only [allIns_append, allOuts_append, List.count_append] at this
  by_cases h1 : o ∈ allOuts removed
  · obtain ⟨a, b⟩ := hout o h1
    rw [List.count_eq_zero.mpr a, List.count_eq_zero.mpr b] at this
    rw [List.count_eq_zero.mpr a]
    omega
  · by_cases h2 : o ∈ allIns removed
    · have a := hin o h2
      rw [List.count_eq_zero.mpr a, List.count_eq_zero.mpr h1] at this
      rw [List.count_eq_zero.mpr a]
      omega
    · rw [List.count_eq_zero.mpr h1, List.count_eq_zero.mpr h2] at this
      omega

/-! removing every copy of one transaction (what `Pool::evict_transaction` does to the list) -/

theorem netOK_filter_ne {utxo : List Nat} {txs : List Tx} {t : Tx} (h : NetOK utxo txs)
    (hself : ∀ o ∈ t.outs, o ∉ t.ins)
    (hout : ∀ o ∈ t.outs, o ∉ allIns (txs.filter (fun x => x != t)))
    (hin : ∀ i ∈ t.ins, i ∉ allOuts (txs.filter (fun x => x != t))) :
    NetOK utxo (txs.filter (fun x => x != t)) := by
  have hrem : ∀ x ∈ txs.filter (fun x => !(x != t)), x = t := by
    intro x hx
    have := (List.mem_filter.mp hx).2
    simpa using this
  have hmemI : ∀ o ∈ allIns (txs.filter (fun x => !(x != t))), o ∈ t.ins := by
    intro o ho
    simp only [allIns, List.mem_flatMap] at ho
    obtain ⟨x, hx, hox⟩ := ho
    rw [hrem x hx] at hox; exact hox
  have hmemO : ∀ o ∈ allOuts (txs.filter (fun x => !(x != t))), o ∈ t.outs := by
    intro o ho
    simp only [allOuts, List.mem_flatMap] at ho
    obtain ⟨x, hx, hox⟩ := ho
    rw [hrem x hx] at hox; exact hox
  apply netOK_remove (removed := txs.filter (fun x => !(x != t)))
  · refine netOK_congr ?_ ?_ h
    · intro o
      simp only [allIns_append, List.count_append]
      exact count_filter_split o (·.ins) (fun x => x != t) txs
    · intro o
      simp only [allOuts_append, List.count_append]
      exact count_filter_split o (·.outs) (fun x => x != t) txs
  · intro o ho
    exact ⟨hout o (hmemO o ho), fun hi => hself o (hmemO o ho) (hmemI o hi)⟩
  · intro i hi
    exact hin i (hmemI i hi)

/-! ## the invariant and the pool-level operations -/

/-- keep, in order, each candidate that `ok` accepts together with those kept so far -/
def greedy {α : Type} (ok : List α → α → Bool) (l init : List α) : List α :=
  l.foldl (fun acc x => if ok acc x then acc ++ [x] else acc) init

section
variable {α : Type} (ok : List α → α → Bool)

theorem greedy_cons (x : α) (l init : List α) :
    greedy ok (x :: l) init = greedy ok l (if ok init x then init ++ [x] else init) := rfl

theorem greedy_append (a b init : List α) : greedy ok (a ++ b) init = greedy ok b (greedy ok a init) :=
  List.foldl_append ..

theorem greedy_ind {I : List α → Prop} {l init : List α} (h0 : I init)
    (hstep : ∀ acc x, x ∈ l → I acc → ok acc x = true → I (acc ++ [x])) : I (greedy ok l init) := by
  induction l generalizing init with
  | nil => exact h0
  | cons x rest ih =>
    rw [greedy_cons]
    refine ih ?_ fun acc y hy => hstep acc y (List.mem_cons_of_mem _ hy)
    split
    · exact hstep init x (List.mem_cons_self ..) h0 ‹_›
    · exact h0

theorem greedy_extends (l init : List α) : ∃ more, greedy ok l init = init ++ more ∧ more.Sublist l := by
  induction l generalizing init with
  | nil => exact ⟨[], (List.append_nil _).symm, .slnil⟩
  | cons x rest ih =>
    rw [greedy_cons]
    split
    · obtain ⟨more, h1, h2⟩ := ih (init ++ [x])
      exact ⟨x :: more, by rw [h1]; simp, h2.cons_cons x⟩
    · obtain ⟨more, h1, h2⟩ := ih init
      exact ⟨more, h1, h2.cons x⟩

theorem greedy_maximal {pre post : List α} {t : α} (h : t ∉ greedy ok (pre ++ t :: post) []) :
    ok (greedy ok pre []) t = false := by
  cases ha : ok (greedy ok pre []) t with
  | false => rfl
  | true =>
    refine absurd ?_ h
    rw [greedy_append, greedy_cons, ha]
    obtain ⟨more, h1, _⟩ := greedy_extends ok post (greedy ok pre [] ++ [t])
    rw [if_pos rfl, h1]
    simp
end

/-- a list that is empty or whose aggregate TOGETHER WITH the extra transaction passes
`validate_raw_tx` with weighting `w` -/
def SetOK (c : Ctx) (w : Weighting) (extra : Option Tx) (txs : List Tx) : Prop :=
  txs = [] ∨ ∃ a, aggregate (extra.toList ++ txs) = .ok a ∧ validateRawTx c w a = none

theorem netOK_of_setOK {c : Ctx} {w : Weighting} {extra : Option Tx} {txs : List Tx} (h : SetOK c w extra txs) :
    txs = [] ∨ NetOK (utxoIds c) (extra.toList ++ txs) :=
  h.imp_right fun ⟨_, ha, hv⟩ => netOK_of_aggregate ha hv

/-- the txpool is empty or its aggregate passes `validate_raw_tx` against the head -/
def TxpoolOK (c : Ctx) (p : Pool) : Prop :=
  p = [] ∨ ∃ a, aggregate p.txs = .ok a ∧ validateRawTx c .noLimit a = none

/-- every entry (txpool, stempool, reorg cache) passed standalone validation as a transaction -/
def AllValid (c : Ctx) (s : TxPool) : Prop :=
  ∀ e, (e ∈ s.txpool ∨ e ∈ s.stempool ∨ e ∈ s.cache) → e.tx.validate c .asTransaction = none

/-- every entry of the txpool, the stempool and the reorg cache satisfies `P` -/
def AllE (P : Entry → Prop) (s : TxPool) : Prop :=
  ∀ e, (e ∈ s.txpool ∨ e ∈ s.stempool ∨ e ∈ s.cache) → P e

theorem allE_empty {P : Entry → Prop} : AllE P {} := fun e he => by simp at he

theorem AllValid.balanced {c : Ctx} {s : TxPool} (h : AllValid c s) {t : Tx}
    (ht : t ∈ s.txpool.txs ∨ t ∈ s.stempool.txs) : t.balanced c.outs = true := by
  simp only [Pool.txs, List.mem_map] at ht
  rcases ht with ⟨e, he, rfl⟩ | ⟨e, he, rfl⟩
  · exact validate_balanced (h e (.inl he))
  · exact validate_balanced (h e (.inr (.inl he)))

structure Inv (c : Ctx) (s : TxPool) : Prop where
  valid : AllValid c s
  txOK : TxpoolOK c s.txpool
  stem : NetOK (utxoIds c) (s.stempool.txs ++ s.txpool.txs)

@[simp] theorem txs_nil : Pool.txs [] = [] := rfl
@[simp] theorem txs_append (p q : Pool) : Pool.txs (p ++ q) = Pool.txs p ++ Pool.txs q := by
  simp [Pool.txs]
@[simp] theorem txs_single (e : Entry) : Pool.txs [e] = [e.tx] := rfl

theorem txs_filter (p : Pool) (t : Tx) :
    Pool.txs (p.filter (fun e => e.tx != t)) = (Pool.txs p).filter (fun x => x != t) := by
  simp [Pool.txs, List.filter_map, Function.comp_def]

theorem allE_of_subset {P : Entry → Prop} {s s' : TxPool} (hv : AllE P s)
    (h1 : ∀ e ∈ s'.txpool, e ∈ s.txpool ∨ P e) (h2 : ∀ e ∈ s'.stempool, e ∈ s.stempool ∨ P e)
    (h3 : ∀ e ∈ s'.cache, e ∈ s.cache ∨ P e) : AllE P s' := by
  intro e he
  rcases he with he | he | he
  · exact (h1 e he).elim (fun h => hv e (.inl h)) id
  · exact (h2 e he).elim (fun h => hv e (.inr (.inl h))) id
  · exact (h3 e he).elim (fun h => hv e (.inr (.inr h))) id

theorem txpoolOK_iff_setOK {c : Ctx} {p : Pool} : TxpoolOK c p ↔ SetOK c .noLimit none p.txs := by
  simp [TxpoolOK, SetOK, Pool.txs]

theorem netOK_of_txpoolOK {c : Ctx} {p : Pool} (h : TxpoolOK c p) : NetOK (utxoIds c) p.txs := by
  rcases netOK_of_setOK (txpoolOK_iff_setOK.mp h) with h0 | h0
  · rw [h0]; exact netOK_nil _
  · simpa using h0

theorem addToPool_ok {c : Ctx} {p p' : Pool} {e : Entry} {extra : Option Tx}
    (h : Pool.addToPool c p e extra = .ok p') :
    p' = p ++ [e] ∧ ∃ a, aggregate (p.txs ++ extra.toList ++ [e.tx]) = .ok a ∧ validateRawTx c .noLimit a = none := by
  unfold Pool.addToPool at h
  split at h
  · simp at h
  · split at h
    · simp at h
    · rename_i agg hagg
      split at h
      · simp at h
      · rename_i hv
        simp only [Except.ok.injEq] at h
        exact ⟨h.symm, agg, hagg, hv⟩

theorem txpoolOK_of_add {c : Ctx} {p p' : Pool} {e : Entry} (h : Pool.addToPool c p e none = .ok p') :
    p' = p ++ [e] ∧ TxpoolOK c p' := by
  obtain ⟨hp, a, ha, hv⟩ := addToPool_ok h
  refine ⟨hp, Or.inr ⟨a, ?_, hv⟩⟩
  subst hp
  simpa using ha

theorem netOK_of_add {c : Ctx} {p p' : Pool} {e : Entry} {extra : Option Tx}
    (h : Pool.addToPool c p e extra = .ok p') :
    p' = p ++ [e] ∧ NetOK (utxoIds c) (p'.txs ++ extra.toList) := by
  obtain ⟨hp, a, ha, hv⟩ := addToPool_ok h
  refine ⟨hp, ?_⟩
  subst hp
  have := netOK_of_aggregate ha hv
  simpa using netOK_perm3 _ _ _ this

theorem reconcile_eq_greedy (c : Ctx) (p : Pool) (extra : Option Tx) :
    Pool.reconcile c p extra = greedy (fun acc e => (Pool.addToPool c acc e extra).toBool) p [] := by
  unfold Pool.reconcile greedy
  congr 1
  funext acc e
  show reconcileStep c extra acc e = if (Pool.addToPool c acc e extra).toBool then acc ++ [e] else acc
  unfold reconcileStep
  cases h : Pool.addToPool c acc e extra with
  | error er => rfl
  | ok acc' => exact (addToPool_ok h).1

theorem reconcile_ind {I : Pool → Prop} (c : Ctx) (extra : Option Tx) (p : Pool) (h0 : I [])
    (hadd : ∀ acc e, I acc → Pool.addToPool c acc e extra = .ok (acc ++ [e]) → I (acc ++ [e])) :
    I (Pool.reconcile c p extra) := by
  rw [reconcile_eq_greedy]
  refine greedy_ind _ h0 fun acc e _ hI hok => hadd acc e hI ?_
  cases h : Pool.addToPool c acc e extra with
  | error er => rw [h] at hok; cases hok
  | ok acc' => rw [(addToPool_ok h).1]

theorem reconcile_txpoolOK (c : Ctx) (p : Pool) : TxpoolOK c (Pool.reconcile c p none) :=
  reconcile_ind (I := TxpoolOK c) c none p (.inl rfl) fun _ _ _ h => (txpoolOK_of_add h).2

theorem reconcile_netOK (c : Ctx) (extra : Option Tx) (p : Pool) :
    Pool.reconcile c p extra = [] ∨ NetOK (utxoIds c) ((Pool.reconcile c p extra).txs ++ extra.toList) :=
  reconcile_ind (I := fun r => r = [] ∨ NetOK (utxoIds c) (r.txs ++ extra.toList)) c extra p (.inl rfl)
    fun _ _ _ h => .inr (netOK_of_add h).2

theorem reconcile_subset (c : Ctx) (extra : Option Tx) (p : Pool) : ∀ e ∈ Pool.reconcile c p extra, e ∈ p := by
  obtain ⟨more, h1, h2⟩ := greedy_extends (fun acc e => (Pool.addToPool c acc e extra).toBool) p []
  rw [reconcile_eq_greedy, h1]
  exact fun e he => h2.subset he

theorem allAggregate_ok {c : Ctx} {p : Pool} {extra x : Option Tx} (h : Pool.allAggregate c p extra = .ok x) :
    (p = [] ∧ x = extra) ∨ (∃ a, aggregate (p.txs ++ extra.toList) = .ok a ∧ x = some a) := by
  unfold Pool.allAggregate at h
  split at h
  · rename_i he
    left
    simp only [Except.ok.injEq] at h
    exact ⟨by simpa using he, h.symm⟩
  · split at h
    · simp at h
    · rename_i a ha
      split at h
      · simp at h
      · simp only [Except.ok.injEq] at h
        exact Or.inr ⟨a, ha, h.symm⟩

theorem netOK_unfold_extra {c : Ctx} {tp : Pool} {x : Option Tx} {l : List Tx}
    (hx : Pool.allAggregate c tp none = .ok x) (h : NetOK (utxoIds c) (l ++ x.toList)) :
    NetOK (utxoIds c) (l ++ tp.txs) := by
  rcases allAggregate_ok hx with ⟨h1, h2⟩ | ⟨a, h1, h2⟩
  · subst h1; subst h2; simpa using h
  · subst h2
    exact netOK_unfold_aggregate (by simpa using h1) (by simpa using h)

theorem allAggregate_txpoolOK {c : Ctx} {p : Pool} (h : TxpoolOK c p) :
    (p = [] ∧ Pool.allAggregate c p none = .ok none) ∨
    (∃ a, aggregate p.txs = .ok a ∧ Pool.allAggregate c p none = .ok (some a)) := by
  rcases h with h | ⟨a, ha, hv⟩
  · subst h; left; simp [Pool.allAggregate]
  · by_cases hp : p = []
    · subst hp; left; simp [Pool.allAggregate]
    · right
      refine ⟨a, ha, ?_⟩
      have hne : p.isEmpty = false := by cases p <;> simp_all
      simp [Pool.allAggregate, hne, ha, validateRawTx_validate hv]

theorem allAggregate_ne_error {c : Ctx} {p : Pool} (h : TxpoolOK c p) (er : Err) :
    Pool.allAggregate c p none ≠ .error er := by
  intro hagg
  rcases allAggregate_txpoolOK h with ⟨_, h2⟩ | ⟨a, _, h2⟩ <;> rw [h2] at hagg <;> cases hagg

theorem stem_reconciled {c : Ctx} {tp sp : Pool} {x : Option Tx} (htp : TxpoolOK c tp)
    (hx : Pool.allAggregate c tp none = .ok x) :
    NetOK (utxoIds c) ((Pool.reconcile c sp x).txs ++ tp.txs) := by
  rcases reconcile_netOK c x sp with h | h
  · rw [h]; simpa using netOK_of_txpoolOK htp
  · exact netOK_unfold_extra hx h

theorem addToTxpool_cases (c : Ctx) (s : TxPool) (e : Entry) :
    (∃ er, s.addToTxpool c e = (s, some er)) ∨
    (∃ s', s.addToTxpool c e = (s', none) ∧ s'.txpool = s.txpool ++ [e] ∧ TxpoolOK c s'.txpool ∧
      NetOK (utxoIds c) (s'.stempool.txs ++ s'.txpool.txs) ∧ (∀ x ∈ s'.stempool, x ∈ s.stempool) ∧
      s'.cache = s.cache) := by
  unfold TxPool.addToTxpool
  split
  · rename_i er _; exact Or.inl ⟨er, rfl⟩
  · rename_i tp hadd
    obtain ⟨htp, hok⟩ := txpoolOK_of_add hadd
    split
    · rename_i er hagg
      exact absurd hagg (allAggregate_ne_error hok er)
    · rename_i agg hagg
      right
      refine ⟨_, rfl, htp, hok, ?_, ?_, rfl⟩
      · exact stem_reconciled hok hagg
      · intro x hx; exact reconcile_subset c agg s.stempool x hx

theorem addToTxpool_members (c : Ctx) (s : TxPool) (e : Entry) :
    (∀ x ∈ (s.addToTxpool c e).1.txpool, x ∈ s.txpool ∨ x = e) ∧
    (∀ x ∈ (s.addToTxpool c e).1.stempool, x ∈ s.stempool) ∧ (s.addToTxpool c e).1.cache = s.cache := by
  rcases addToTxpool_cases c s e with ⟨er, h⟩ | ⟨s2, h, h1, _, _, h4, h5⟩
  · rw [h]; exact ⟨fun x hx => Or.inl hx, fun x hx => hx, rfl⟩
  · rw [h]
    refine ⟨fun x hx => ?_, h4, h5⟩
    rw [h1] at hx
    rcases List.mem_append.mp hx with h | h
    · exact Or.inl h
    · right; simpa using h

/-- the loop of `reconcile_reorg_cache`: `add_to_txpool` for every entry in turn, the verdicts dropped -/
def replay (c : Ctx) (l : List Entry) (acc : TxPool) : TxPool :=
  l.foldl (fun acc e => (acc.addToTxpool c e).1) acc

theorem reconcileReorgCache_eq_replay (c : Ctx) (s : TxPool) : s.reconcileReorgCache c = replay c s.cache s := rfl

theorem step_reorgCache (cs : Ctx × TxPool) : step cs .reorgCache = (cs.1, replay cs.1 cs.2.cache cs.2) := rfl

theorem replay_cons (c : Ctx) (e : Entry) (l : List Entry) (acc : TxPool) :
    replay c (e :: l) acc = replay c l (acc.addToTxpool c e).1 := rfl

theorem replay_cases (c : Ctx) (l : List Entry) (acc : TxPool) :
    replay c l acc = acc ∨
    (TxpoolOK c (replay c l acc).txpool ∧
      NetOK (utxoIds c) ((replay c l acc).stempool.txs ++ (replay c l acc).txpool.txs)) := by
  induction l generalizing acc with
  | nil => exact .inl rfl
  | cons e rest ih =>
    rw [replay_cons]
    rcases ih (acc.addToTxpool c e).1 with h | h
    · rw [h]
      rcases addToTxpool_cases c acc e with ⟨er, he⟩ | ⟨s2, he, _, h2, h3, _, _⟩
      · exact .inl (by rw [he])
      · exact .inr (by rw [he]; exact ⟨h2, h3⟩)
    · exact .inr h

/-- `reconcile_reorg_cache`, from ANY state: either no cached entry went back into the txpool and
nothing changed at all, or the txpool validates on the head AND the stempool was reconciled against
it — stempool ∪ txpool is `NetOK` — after the LAST entry that went back (every replayed entry is
followed by `stempool.reconcile(txpool aggregate)`, as in `add_to_txpool`). -/
theorem foldl_addToTxpool_reconciled (c : Ctx) (l : List Entry) (acc : TxPool)
    (h : l.foldl (fun acc e => (acc.addToTxpool c e).1) acc ≠ acc) :
    TxpoolOK c (l.foldl (fun acc e => (acc.addToTxpool c e).1) acc).txpool ∧
    NetOK (utxoIds c) ((l.foldl (fun acc e => (acc.addToTxpool c e).1) acc).stempool.txs ++
      (l.foldl (fun acc e => (acc.addToTxpool c e).1) acc).txpool.txs) :=
  (replay_cases c l acc).resolve_left h

theorem replay_members (c : Ctx) (l : List Entry) (acc : TxPool) :
    (∀ x ∈ (replay c l acc).txpool, x ∈ acc.txpool ∨ x ∈ l) ∧
    (∀ x ∈ (replay c l acc).stempool, x ∈ acc.stempool) ∧ (replay c l acc).cache = acc.cache := by
  induction l generalizing acc with
  | nil => exact ⟨fun _ hx => .inl hx, fun _ hx => hx, rfl⟩
  | cons e rest ih =>
    rw [replay_cons]
    obtain ⟨m1, m2, m3⟩ := addToTxpool_members c acc e
    obtain ⟨r1, r2, r3⟩ := ih (acc.addToTxpool c e).1
    refine ⟨fun x hx => ?_, fun x hx => m2 x (r2 x hx), r3.trans m3⟩
    rcases r1 x hx with h | h
    · exact (m1 x h).imp_right fun (he : x = e) => he ▸ List.mem_cons_self ..
    · exact .inr (List.mem_cons_of_mem _ h)

theorem mem_evict {c : Ctx} {p : Pool} {e : Entry} (h : e ∈ p.evict c) : e ∈ p := by
  unfold Pool.evict at h
  split at h
  · exact h
  · exact (List.mem_filter.mp h).1

end GV.Pool
