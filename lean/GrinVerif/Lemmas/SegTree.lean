import GrinVerif.Lemmas.PmmrShape
import GrinVerif.Lemmas.BasicWrap
import GrinVerif.Lemmas.SegInj
/-! The positions of a full segment are the post-order traversal of one complete subtree:
children arithmetic of `bintree_postorder_height`, decomposition of a subtree range, the stack
depth of the loop of `Segment::root` over it, and the identifier arithmetic of a full segment
(`FullId`, against an MMR of any size) without wrap-around.
Core Lean only. -/
namespace GV.Seg
open GV GV.Pmmr

theorem children_co {n k : Nat} (hk : k < trailingOnes n) :
    mmr n + (k + 1) - 2 ^ (k + 1) = mmr (n - 2 ^ k) + k ∧ mmr n + (k + 1) - 1 = mmr n + k :=
  ⟨by rw [Co.two_pow_succ]; exact Co.left_child_pos hk, rfl⟩

/-- positions of the subtree of height `h` rooted at `p`, in post-order -/
def treeRange (h p : Nat) : List Nat := List.range' (p + 2 - 2 ^ (h + 1)) (2 ^ (h + 1) - 1)

theorem treeRange_zero (p : Nat) : treeRange 0 p = [p] := by
  simp [treeRange, List.range'_one]

theorem treeRange_succ (h p : Nat) (hb : 2 * 2 ^ (h + 1) ≤ p + 2) :
    treeRange (h + 1) p = treeRange h (p - 2 ^ (h + 1)) ++ treeRange h (p - 1) ++ [p] := by
  unfold treeRange
  have hpos : 2 ≤ 2 ^ (h + 1) := by have := Co.two_pow_succ h; have := Nat.two_pow_pos h; omega
  rw [Co.two_pow_succ (h + 1)]
  generalize 2 ^ (h + 1) = x at hb hpos ⊢
  have e1 : p - 1 + 2 - x = (p - x + 2 - x) + (x - 1) := by omega
  have e2 : [p] = List.range' ((p - x + 2 - x) + ((x - 1) + (x - 1))) 1 := by
    rw [List.range'_one]; congr 1; omega
  rw [e1, List.range'_append_1, e2, List.range'_append_1]
  congr 1 <;> omega

theorem treeRange_node {p h : Nat} (hp : height p = h + 1) :
    treeRange (h + 1) p = treeRange h (p - 2 ^ (h + 1)) ++ treeRange h (p - 1) ++ [p] :=
  treeRange_succ h p (by have := Co.height_bound p; rwa [hp] at this)

theorem node_split (p h : Nat) (hp : height p = h + 1) :
    height (p - 2 ^ (h + 1)) = h ∧ height (p - 1) = h ∧
      treeRange (h + 1) p = treeRange h (p - 2 ^ (h + 1)) ++ treeRange h (p - 1) ++ [p] := by
  obtain ⟨_, hr, hl, _, _⟩ := Co.children p h hp
  rw [← Co.two_pow_succ] at hl
  exact ⟨hl, hr, treeRange_node hp⟩

/-- the left subtree starts where the tree starts, the right one right after the left root -/
theorem node_starts (p h : Nat) (hp : height p = h + 1) :
    p - 2 ^ (h + 1) + 2 - 2 ^ (h + 1) = p + 2 - 2 ^ (h + 1 + 1) ∧
      p - 1 + 2 - 2 ^ (h + 1) = p - 2 ^ (h + 1) + 1 := by
  have hb := Co.height_bound p
  rw [hp] at hb
  constructor
  · rw [Co.two_pow_succ (h + 1)]; omega
  · have := Co.two_pow_succ h; have := Nat.two_pow_pos h; omega

theorem rootLoop_node {α H : Type} (hf : HashFn α H) (s : Segment α H) (bm : Option (Nat → Bool))
    (size : Nat) {p h : Nat} (hp : height p = h + 1) {st st1 st2 : RootSt α H}
    (h1 : rootLoop hf s bm size st (treeRange h (p - 2 ^ (h + 1))) = .ok st1)
    (h2 : rootLoop hf s bm size st1 (treeRange h (p - 1)) = .ok st2) :
    rootLoop hf s bm size st (treeRange (h + 1) p) = rootStep hf s bm size st2 p := by
  rw [treeRange_node hp, rootLoop_append, rootLoop_append, h1]
  simp only
  rw [h2]
  simp only [rootLoop]
  cases rootStep hf s bm size st2 p <;> rfl

theorem mem_treeRange_self {p h : Nat} (hp : height p = h) : p ∈ treeRange h p := by
  cases h with
  | zero => rw [treeRange_zero]; exact List.mem_singleton.2 rfl
  | succ h => rw [treeRange_node hp]; exact List.mem_append_right _ (List.mem_singleton.2 rfl)

theorem depthLoop_append : ∀ (a b : List Nat) (d : Nat),
    depthLoop d (a ++ b) = match depthLoop d a with
      | some d' => depthLoop d' b
      | none => none := by
  intro a
  induction a with
  | nil => intro b d; simp [depthLoop]
  | cons p ps ih =>
    intro b d
    simp only [List.cons_append, depthLoop]
    cases depthStep d p with
    | none => rfl
    | some d' => exact ih b d'

theorem depthLoop_tree (h : Nat) : ∀ (p d : Nat), height p = h →
    depthLoop d (treeRange h p) = some (d + 1) := by
  induction h with
  | zero =>
    intro p d hp
    simp [treeRange_zero, depthLoop, depthStep, hp]
  | succ h ih =>
    intro p d hp
    obtain ⟨hl, hr, hsplit⟩ := node_split p h hp
    rw [hsplit, depthLoop_append, depthLoop_append, ih _ d hl]
    simp only [ih _ (d + 1) hr]
    simp [depthLoop, depthStep, hp]

/-- a full segment of an MMR whose leaf count is far below the u64 range: `height < 64`, the
block of `2^height` leaves lies inside the MMR -/
structure FullId (id : Ident) (size : Nat) : Prop where
  hh : id.height < 64
  fit : (id.idx + 1) * 2 ^ id.height ≤ nLeaves size
  small : nLeaves size < 2 ^ 62

/-- last position of the full segment `id`: the subtree root above its `2^height` leaves -/
def lastOf (id : Ident) : Nat := mmr (id.idx * 2 ^ id.height + (2 ^ id.height - 1)) + id.height

/-- last leaf of the full segment `id` -/
def lastLeaf (id : Ident) : Nat := id.idx * 2 ^ id.height + (2 ^ id.height - 1)

theorem lastOf_eq (id : Ident) : lastOf id = Co.cpos (lastLeaf id, id.height) := rfl

theorem lastLeaf_valid (id : Ident) : id.height ≤ trailingOnes (lastLeaf id) :=
  Co.form_valid id.idx id.height

theorem lastLeaf_lt (id : Ident) (N : Nat) (v : FullId id (mmr N)) : lastLeaf id < N := by
  have := v.fit
  rw [Co.nLeaves_mmr, Nat.add_mul, Nat.one_mul] at this
  have hpos : 0 < 2 ^ id.height := Nat.pow_pos (by omega)
  unfold lastLeaf; omega

theorem ins2pmmrW_small (n : Nat) (hn : n < 2 ^ 63) : ins2pmmrW n = mmr n := by
  unfold ins2pmmrW mulW mmr
  have h1 := popcount_le n
  have : 2 * n % 2 ^ 64 = 2 * n := Nat.mod_eq_of_lt (by omega)
  rw [this]
  exact subW_eq (by omega) (by omega)

theorem capacity_pos (id : Ident) : 0 < id.capacity := by
  unfold Ident.capacity shlW
  have h1 : 2 ^ (id.height % 64) < 2 ^ 64 := Nat.pow_lt_pow_right (by omega) (Nat.mod_lt _ (by omega))
  have h2 : 0 < 2 ^ (id.height % 64) := Nat.pow_pos (by omega)
  rw [Nat.one_mul, Nat.mod_eq_of_lt h1]; exact h2

theorem unprunedSize_ne_zero_of_full (id : Ident) (size : Nat) (h : id.full size = true) :
    id.unprunedSize size ≠ 0 := by
  unfold Ident.full at h
  have := capacity_pos id
  simp only [beq_iff_eq] at h
  omega

theorem capacity_eq (id : Ident) (hh : id.height < 64) : id.capacity = 2 ^ id.height := by
  unfold Ident.capacity shlW
  rw [Nat.mod_eq_of_lt hh, Nat.one_mul, Nat.mod_eq_of_lt (Nat.pow_lt_pow_right (by omega) hh)]

theorem leafOffset_eq (id : Ident) (hh : id.height < 64) (h : id.idx * 2 ^ id.height < 2 ^ 64) :
    id.leafOffset = id.idx * 2 ^ id.height := by
  unfold Ident.leafOffset mulW
  rw [capacity_eq id hh]
  exact Nat.mod_eq_of_lt h

theorem full_arith (id : Ident) (size : Nat) (v : FullId id size) :
    id.full size = true ∧
    id.posRange size = (mmr (id.idx * 2 ^ id.height), lastOf id) := by
  obtain ⟨hh, fit, small⟩ := v
  have hcap := capacity_eq id hh
  rw [Nat.add_mul, Nat.one_mul] at fit
  have hoff := leafOffset_eq id hh (by omega)
  have hus : id.unprunedSize size = 2 ^ id.height := by
    unfold Ident.unprunedSize satSub
    rw [hcap, hoff]
    exact Nat.min_eq_left (Nat.le_sub_of_add_le' fit)
  have hfull : id.full size = true := by
    unfold Ident.full
    rw [hus, hcap]
    exact beq_self_eq_true _
  refine ⟨hfull, ?_⟩
  unfold Ident.posRange lastOf
  simp only [hfull, if_true, hus, hoff]
  -- `idx·2^h + (2^h − 1)`, the last leaf of the block, without wrap-around
  have hc : 2 ^ id.height = (2 ^ id.height - 1) + 1 := by have := Nat.two_pow_pos id.height; omega
  generalize 2 ^ id.height - 1 = m at hc ⊢
  have e2 : subW (addW (id.idx * 2 ^ id.height) (2 ^ id.height)) 1 = id.idx * 2 ^ id.height + m := by
    rw [addW_eq (by omega), subW_eq (by omega) (by omega), hc]
    rfl
  have hm := Co.mmr_le_two_mul (id.idx * 2 ^ id.height + m)
  rw [e2, ins2pmmrW_small _ (by omega), ins2pmmrW_small _ (by omega), addW_eq (by omega)]

theorem FullId.full {id : Ident} {size : Nat} (v : FullId id size) : id.full size = true :=
  (full_arith id size v).1

theorem FullId.posRange {id : Ident} {size : Nat} (v : FullId id size) :
    id.posRange size = (mmr (id.idx * 2 ^ id.height), lastOf id) :=
  (full_arith id size v).2

theorem height_lastOf (id : Ident) : height (lastOf id) = id.height :=
  Co.height_co _ _ (lastLeaf_valid id)

theorem lastOf_lo (id : Ident) :
    lastOf id + 2 - 2 ^ (id.height + 1) = mmr (id.idx * 2 ^ id.height) := by
  have hb := Co.mmr_of_form id.idx id.height
  have hp := Co.two_pow_succ id.height
  unfold lastOf
  omega

theorem full_positions (id : Ident) (size : Nat) (v : FullId id size) :
    id.positions size = treeRange id.height (lastOf id) := by
  unfold Ident.positions treeRange
  rw [v.posRange, lastOf_lo]
  simp only
  have hb := Co.mmr_of_form id.idx id.height
  have hp := Co.two_pow_succ id.height
  congr 1
  unfold lastOf
  omega

theorem full_positions_head (id : Ident) (size : Nat) (v : FullId id size) :
    ∃ ps, id.positions size = mmr (id.idx * 2 ^ id.height) :: ps ∧
      height (mmr (id.idx * 2 ^ id.height)) = 0 := by
  have hn : 2 ^ (id.height + 1) - 1 = (2 ^ (id.height + 1) - 2) + 1 := by
    have := Co.two_pow_succ id.height; have := Nat.two_pow_pos id.height; omega
  refine ⟨List.range' (mmr (id.idx * 2 ^ id.height) + 1) (2 ^ (id.height + 1) - 2), ?_, Co.height_mmr _⟩
  rw [full_positions id size v, treeRange, lastOf_lo, hn, List.range'_succ]

theorem root_full (hf : HashFn α H) (s : Segment α H) (size : Nat) (bm : Option (Nat → Bool))
    (v : FullId s.id size) :
    s.root hf size bm
      = rootWith hf s size bm (treeRange s.id.height (lastOf s.id)) true (s.id.peaksIn size) := by
  rw [root_of_nonempty hf s size bm (unprunedSize_ne_zero_of_full s.id size v.full),
    full_positions s.id size v, v.full]

theorem wellFormed_full (id : Ident) (size : Nat) (v : FullId id size) : WellFormedRange id size := by
  unfold WellFormedRange
  rw [full_positions id size v, v.full]
  simp only [if_true]
  exact depthLoop_tree id.height (lastOf id) 0 (height_lastOf id)

end GV.Seg
