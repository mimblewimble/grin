import GrinVerif.Lemmas.CodecRun
/-! The codec state machine never panics, never spins, and requests memory in proportion to what it
reads (C11 for `p2p/src/codec.rs`).  The termination measure `rank` with its invariant `WFc` is also what
discharges the fuel of every statement about a whole read (`CodecReads`). -/
namespace GV.Codec
open GV GV.Ser GV.Dec GV.Msg GV.Gen.Msg

variable {B H σ : Type}

theorem fill_state {ops : SockOps σ} {c c1 : Codec H} {s s1 : σ} {nl : Nat}
    (h : fill ops c s nl = some (c1, s1)) : c1.state = c.state := by
  unfold fill at h
  split at h
  · cases hr : ops.rx (nl - c.buffer.length) s with
    | none => simp [hr] at h
    | some p => obtain ⟨x, s'⟩ := p; simp only [hr, Option.some.injEq, Prod.mk.injEq] at h; rw [← h.1]
  · simp only [Option.some.injEq, Prod.mk.injEq] at h; rw [← h.1]

/-- `read_exact` returns as many bytes as were asked for -/
def SockOps.Exact (ops : SockOps σ) : Prop := ∀ n s x s', ops.rx n s = some (x, s') → x.length = n

theorem fill_some {ops : SockOps σ} {c c1 : Codec H} {s s1 : σ} {nl : Nat} (hrx : ops.Exact)
    (h : fill ops c s nl = some (c1, s1)) : nl ≤ c1.buffer.length := by
  unfold fill at h
  by_cases ht : nl - c.buffer.length > 0
  · simp only [ht, if_true] at h
    cases hr : ops.rx (nl - c.buffer.length) s with
    | none => simp [hr] at h
    | some p =>
      obtain ⟨x, s'⟩ := p
      have hx := hrx _ _ _ _ hr
      simp only [hr, Option.some.injEq, Prod.mk.injEq] at h
      rw [← h.1]
      show nl ≤ (c.buffer ++ x).length
      rw [List.length_append, hx]; omega
  · simp only [ht, if_false, Option.some.injEq, Prod.mk.injEq] at h
    rw [← h.1]
    omega

theorem flat_rx_len : ∀ n s x s', flatOps.rx n s = some (x, s') → x.length = n := by
  intro n s x s' h
  exact (splitExact_len h).1

theorem frag_rx_len : fragOps.Exact := by
  intro n s x s' h
  have hsp := readExact_spec n s
  change readExact n s = some (x, s') at h
  by_cases hn : n ≤ s.flatten.length
  · obtain ⟨s'', e, _⟩ := hsp.1 hn
    rw [e] at h
    simp only [Option.some.injEq, Prod.mk.injEq] at h
    rw [← h.1, List.length_take]; omega
  · rw [hsp.2 (by omega)] at h
    cases h

/-- **no arm of the state machine panics** once the buffer holds `next_len` bytes:
`split_to`/`advance` stay in range, `msg_len - 2` is only evaluated after two bytes were read (so
`msg_len ≥ 2`), `*left -= next_len` has `next_len ≤ left`, the header parser has no panic site -/
theorem stepState_no_panic (env : Env B H) (c : Codec H) (hb : nextLen env c.state ≤ c.buffer.length) :
    ∀ st c2 a, stepState env c (nextLen env c.state) ≠ .inl (.panic st, c2, a) := by
  intro st c2 a
  fun_cases stepState env c (nextLen env c.state) <;> rintro ⟨⟩
  all_goals try omega
  · rename_i raw _ _ hd
    have := noPanic_decHeader env.net raw
    rw [hd] at this
    cases this
  · rename_i len _ raw _ items snd hr hlen hs
    have hl := readU16_len hr
    simp only [raw, hs, nextLen, HEADERS_COUNT_LEN, if_true, List.length_take] at hl
    omega
  · rename_i left hs _ hlt
    simp only [hs, nextLen] at hlt
    omega

theorem readLoop_no_panic (env : Env B H) (ops : SockOps σ) (hrx : ops.Exact) :
    ∀ (fuel : Nat) (c : Codec H) (s : σ) (br al : Nat) (st : Site), (readLoop env ops fuel c s br al).res ≠ .panic st := by
  intro fuel c s br al st
  fun_induction readLoop env ops fuel c s br al with
  | case1 => nofun
  | case2 => nofun
  | case3 fuel c s br al nl toRead c1 s1 hf r c2 a hstep =>
    rintro ⟨⟩
    have hbuf := fill_some hrx hf
    rw [show nl = nextLen env c1.state by rw [fill_state hf]] at hstep hbuf
    exact stepState_no_panic env c1 hbuf st c2 a hstep
  | case4 _ _ _ _ _ _ _ _ _ _ _ _ _ ih => exact ih

/-- the only thing a batch in progress must satisfy: fewer than 32 headers collected so far -/
def WFc (c : Codec H) : Prop :=
  match c.state with
  | .blockHeaders _ _ hs => hs.length < 32
  | _ => True

/-- iterations a `read` can still need from this state -/
def rank (c : Codec H) : Nat :=
  match c.state with
  | .none => 34
  | .header _ => 33
  | .blockHeaders _ _ hs => 32 - hs.length
  | .attachment _ => 1

theorem rank_pos (c : Codec H) (h : WFc c) : 0 < rank c := by
  unfold rank; unfold WFc at h
  cases hs : c.state <;> simp only [hs] at h ⊢ <;> omega

theorem stepState_inr_rank (env : Env B H) (c c2 : Codec H) (nl a : Nat) (hw : WFc c)
    (h : stepState env c nl = .inr (c2, a)) : rank c2 < rank c ∧ WFc c2 := by
  revert h
  fun_cases stepState env c nl <;> rintro ⟨⟩
  -- from `None` and `Header` the rank drops by the table; the `BlockHeaders` arm goes on only when the batch is NOT yet
  -- complete (`hs'.length ≠ HEADER_BATCH_SIZE`), so the batch, one longer and below 32 before, is still below 32
  all_goals simp_all +zetaDelta [rank, WFc, HEADER_BATCH_SIZE]
  omega

theorem iter_rank {env : Env B H} {ops : SockOps σ} {c c1 c2 : Codec H} {s s1 : σ} {nl a : Nat}
    (hf : fill ops c s nl = some (c1, s1)) (hs : stepState env c1 nl = .inr (c2, a)) (hw : WFc c) :
    rank c2 < rank c ∧ WFc c2 := by
  have hst := fill_state hf
  have hr1 : rank c1 = rank c := by unfold rank; rw [hst]
  exact hr1 ▸ stepState_inr_rank env c1 c2 nl a (by unfold WFc; rw [hst]; exact hw) hs

theorem fuel_succ {c : Codec H} {fuel : Nat} (hw : WFc c) (hr : rank c ≤ fuel) : ∃ f, fuel = f + 1 :=
  ⟨fuel - 1, by have := rank_pos c hw; omega⟩

theorem stepState_inr_state (env : Env B H) (c : Codec H) (nl : Nat) (c2 : Codec H) (a : Nat)
    (h : stepState env c nl = .inr (c2, a)) : c2.state ≠ .none := by
  revert h
  fun_cases stepState env c nl <;> rintro ⟨⟩ <;> nofun

theorem stepState_not_hang (env : Env B H) (c : Codec H) (nl : Nat) :
    ∀ c2 a, stepState env c nl ≠ .inl (.hang, c2, a) := by
  intro c2 a
  fun_cases stepState env c nl <;> rintro ⟨⟩

theorem readLoop_no_hang (env : Env B H) (ops : SockOps σ) :
    ∀ (fuel : Nat) (c : Codec H) (s : σ) (br al : Nat), WFc c → rank c ≤ fuel →
      (readLoop env ops fuel c s br al).res ≠ .hang := by
  intro fuel c s br al
  fun_induction readLoop env ops fuel c s br al with
  | case1 c => intro hw h; have := rank_pos c hw; omega
  | case2 => intro _ _; nofun
  | case3 fuel c s br al nl toRead c1 s1 hf r c2 a hstep =>
    rintro _ _ ⟨⟩
    exact stepState_not_hang env c1 _ c2 a hstep
  | case4 fuel c s br al nl toRead c1 s1 hf c2 a hstep ih =>
    intro hw hr
    obtain ⟨hlt, hw2⟩ := iter_rank hf hstep hw
    exact ih hw2 (by omega)

theorem min_batch_le (x m : Nat) : min HEADER_BATCH_SIZE x * m ≤ 32 * m :=
  Nat.mul_le_mul_right _ (Nat.min_le_left _ _)

/-- extra allocation of one arm: at most one `Vec::with_capacity(min(32, _))` of headers -/
theorem stepState_inl_alloc {env : Env B H} {c c2 : Codec H} {nl a : Nat} {r : Res B H}
    (h : stepState env c nl = .inl (r, c2, a)) : a ≤ 32 * env.hdrMem := by
  revert r c2 a
  fun_cases stepState env c nl <;> rintro r c2 a ⟨⟩ <;> first | exact Nat.zero_le _ | exact min_batch_le _ _

theorem stepState_inr_alloc {env : Env B H} {c c2 : Codec H} {nl a : Nat}
    (h : stepState env c nl = .inr (c2, a)) : a ≤ 32 * env.hdrMem := by
  revert c2 a
  fun_cases stepState env c nl <;> rintro c2 a ⟨⟩ <;> first | exact Nat.zero_le _ | exact min_batch_le _ _

/-- the stream ended during a fill -/
def isConn : Res B H → Bool
  | .err .conn => true
  | _ => false

/-- **allocation of one `Codec::read`**: the bytes it pulled from the socket (`reserve(to_read)`)
plus at most one header-batch vector per loop iteration; a failed fill has requested `to_read` more,
which is bounded by the per-type limit enforced on the frame header -/
theorem readLoop_alloc_bound (env : Env B H) (ops : SockOps σ) (fuel : Nat) (c : Codec H) (s : σ) (br al : Nat) :
    (readLoop env ops fuel c s br al).alloc + br ≤
      al + (readLoop env ops fuel c s br al).bytesRead + fuel * (32 * env.hdrMem) +
        (if isConn (readLoop env ops fuel c s br al).res then
          nextLen env (readLoop env ops fuel c s br al).codec.state - (readLoop env ops fuel c s br al).codec.buffer.length
         else 0) := by
  fun_induction readLoop env ops fuel c s br al with
  | case1 => simp
  | case2 => simp only [isConn, if_true]; omega
  | case3 fuel c s br al nl toRead c1 s1 hf r c2 a hstep =>
    have := stepState_inl_alloc hstep
    rw [Nat.succ_mul]
    dsimp only
    exact Nat.le_trans (by omega) (Nat.le_add_right _ _)
  | case4 fuel c s br al nl toRead c1 s1 hf c2 a hstep ih =>
    have := stepState_inr_alloc hstep
    rw [Nat.succ_mul]
    omega

end GV.Codec
