import GrinVerif.Model.KeysMnemonic
/-! Lemmas for `Props/C20Mnemonic.lean`: `bitsOf` / `ofBits` are inverse on `w`-bit values, `chunksN`
undoes `flatMap` of equal-length pieces; the order of ASCII strings read off their UTF-8 bytes. -/
namespace GV.Mnemonic
open List

theorem bitsOf_length : ∀ (w n : Nat), (bitsOf w n).length = w
  | 0, _ => rfl
  | w + 1, n => by simp [bitsOf, bitsOf_length w n]

theorem foldl_bits (l : List Bool) : ∀ (acc : Nat),
    l.foldl (fun acc b => 2 * acc + (if b then 1 else 0)) acc = acc * 2 ^ l.length + ofBits l := by
  induction l with
  | nil => intro acc; simp [ofBits]
  | cons b t ih =>
    intro acc
    unfold ofBits
    simp only [foldl_cons, length_cons]
    rw [ih, ih (2 * 0 + if b then 1 else 0)]
    simp only [Nat.mul_zero, Nat.zero_add, Nat.pow_succ, Nat.add_mul]
    rw [Nat.add_assoc]
    congr 1
    rw [Nat.mul_comm 2 acc, Nat.mul_assoc, Nat.mul_comm 2 (2 ^ t.length)]

theorem ofBits_cons (b : Bool) (t : List Bool) : ofBits (b :: t) = (if b then 1 else 0) * 2 ^ t.length + ofBits t := by
  have := foldl_bits t (2 * 0 + if b then 1 else 0)
  unfold ofBits at this ⊢
  simp only [foldl_cons]
  rw [this]
  simp

theorem ofBits_lt : ∀ (l : List Bool), ofBits l < 2 ^ l.length
  | [] => by simp [ofBits]
  | b :: t => by
    rw [ofBits_cons, length_cons, Nat.pow_succ]
    have := ofBits_lt t
    cases b <;> simp <;> omega

theorem bitsOf_mod : ∀ (w n : Nat), bitsOf w (n % 2 ^ w) = bitsOf w n
  | 0, _ => rfl
  | w + 1, n => by
    simp only [bitsOf]
    congr 1
    · rw [Nat.testBit_mod_two_pow]; simp
    · rw [← bitsOf_mod w (n % 2 ^ (w + 1)), Nat.mod_mod_of_dvd _ (Nat.pow_dvd_pow 2 (Nat.le_succ w)),
        bitsOf_mod w n]

theorem bitsOf_ofBits : ∀ (l : List Bool), bitsOf l.length (ofBits l) = l
  | [] => rfl
  | b :: t => by
    have hlt := ofBits_lt t
    rw [ofBits_cons, length_cons]
    simp only [bitsOf]
    have e : (if b then 1 else 0) * 2 ^ t.length + ofBits t = 2 ^ t.length * (if b then 1 else 0) + ofBits t := by
      rw [Nat.mul_comm]
    rw [e]
    congr 1
    · rw [Nat.testBit_two_pow_mul_add _ hlt]
      cases b <;> simp
    · rw [← bitsOf_mod, Nat.mul_add_mod, Nat.mod_eq_of_lt hlt]; exact bitsOf_ofBits t

theorem ofBits_bitsOf : ∀ (w n : Nat), n < 2 ^ w → ofBits (bitsOf w n) = n
  | 0, n, h => by simp at h; simp [bitsOf, ofBits, h]
  | w + 1, n, h => by
    simp only [bitsOf]
    rw [ofBits_cons, bitsOf_length]
    have hm : n % 2 ^ w < 2 ^ w := Nat.mod_lt _ (Nat.pow_pos (by decide))
    have hd : n = 2 ^ w * (n / 2 ^ w) + n % 2 ^ w := (Nat.div_add_mod n (2 ^ w)).symm
    rw [← bitsOf_mod w n, ofBits_bitsOf w _ hm]
    have hq : n / 2 ^ w < 2 := by
      apply Nat.div_lt_of_lt_mul
      rw [Nat.pow_succ] at h; exact h
    rw [Nat.testBit_eq_decide_div_mod_eq]
    generalize n / 2 ^ w = q at hq hd
    generalize n % 2 ^ w = r at hd
    have : q = 0 ∨ q = 1 := by omega
    rcases this with h0 | h1
    · subst h0; simp at hd ⊢; omega
    · subst h1; simp at hd ⊢; omega

theorem chunksN_flatMap {α β : Type} (k : Nat) (f : α → List β) : ∀ (L : List α),
    (∀ x ∈ L, (f x).length = k) → chunksN k L.length (L.flatMap f) = L.map f
  | [], _ => rfl
  | x :: t, h => by
    have hx := h x mem_cons_self
    simp only [length_cons, chunksN, flatMap_cons, map_cons]
    rw [take_left' hx, drop_left' hx, chunksN_flatMap k f t (fun y hy => h y (mem_cons_of_mem _ hy))]

theorem chunksN_lengths {α : Type} (k : Nat) : ∀ (n : Nat) (l : List α), l.length = k * n →
    ∀ c ∈ chunksN k n l, c.length = k
  | 0, _, _ => by simp [chunksN]
  | n + 1, l, h => by
    intro c hc
    simp only [chunksN, mem_cons] at hc
    rcases hc with rfl | hc
    · rw [length_take]; rw [Nat.mul_succ] at h; omega
    · exact chunksN_lengths k n (l.drop k) (by rw [length_drop, h, Nat.mul_succ]; omega) c hc

theorem chunksN_flatten {α : Type} (k : Nat) : ∀ (n : Nat) (l : List α), l.length = k * n →
    (chunksN k n l).flatten = l
  | 0, l, h => by
    have : l = [] := by simpa using h
    simp [chunksN, this]
  | n + 1, l, h => by
    simp only [chunksN, flatten_cons]
    rw [chunksN_flatten k n (l.drop k) (by rw [length_drop, h, Nat.mul_succ]; omega)]
    exact take_append_drop k l

theorem chunksN_length {α : Type} (k : Nat) : ∀ (n : Nat) (l : List α), (chunksN k n l).length = n
  | 0, _ => rfl
  | n + 1, l => by simp [chunksN, chunksN_length k n]

theorem length_flatMap_bitsOf (k : Nat) (l : List Nat) : (l.flatMap (bitsOf k)).length = k * l.length := by
  induction l with
  | nil => rfl
  | cons a t ih => rw [flatMap_cons, length_append, bitsOf_length, ih, length_cons, Nat.mul_succ, Nat.add_comm]

theorem ofBits_chunksN_flatMap (k : Nat) (l : List Nat) (h : ∀ x ∈ l, x < 2 ^ k) :
    (chunksN k l.length (l.flatMap (bitsOf k))).map ofBits = l := by
  rw [chunksN_flatMap k (bitsOf k) l (fun x _ => bitsOf_length k x), map_map]
  exact (map_congr_left fun x hx => ofBits_bitsOf k x (h x hx)).trans (map_id l)

theorem flatMap_bitsOf_chunksN (k n : Nat) (bits : List Bool) (h : bits.length = k * n) :
    ((chunksN k n bits).map ofBits).flatMap (bitsOf k) = bits := by
  rw [flatMap_def, map_map]
  refine Eq.trans (congrArg flatten ?_) (chunksN_flatten k n bits h)
  refine (map_congr_left fun c hc => ?_).trans (map_id _)
  have := bitsOf_ofBits c
  rwa [chunksN_lengths k n bits h c hc] at this

theorem ofBits_inj {a b : List Bool} (hl : a.length = b.length) (h : ofBits a = ofBits b) : a = b := by
  rw [← bitsOf_ofBits a, ← bitsOf_ofBits b, hl, h]

/-- The UTF-8 bytes of a string.  `a < b` on strings is `a.toList < b.toList`, and `String.toList`
decodes UTF-8 by well-founded recursion, too slow to evaluate on 2048 words; bytes below 128 are the
characters they encode, so on such bytes the two orders agree (`lt_of_ltCodes`). -/
def codes (s : String) : List Nat := s.toByteArray.data.toList.map UInt8.toNat

/-- lexicographic `<` of byte strings, as far as bytes below 128 decide it -/
def ltCodes : List Nat → List Nat → Bool
  | [], _ :: _ => true
  | a :: l, b :: r => decide (b < 128) && (decide (a < b) || a == b && ltCodes l r)
  | _, _ => false

def incCodes : List (List Nat) → Bool
  | a :: b :: r => ltCodes a b && incCodes (b :: r)
  | _ => true

def enc (c : Char) : List Nat := (String.utf8EncodeChar c).map UInt8.toNat

theorem codes_eq (s : String) : codes s = s.toList.flatMap enc := by
  rw [codes, ← String.utf8Encode_toList, List.utf8Encode, List.toList_data_toByteArray, List.map_flatMap]
  rfl

theorem enc_head (c : Char) : ∃ x r, enc c = x :: r ∧ (x < 128 → x = c.toNat ∧ r = []) := by
  -- the first byte of a longer encoding is at least 0xc0
  have big : ∀ m, 192 ≤ m → m < 256 → ¬ (UInt8.ofNat m).toNat < 128 := by
    intro m h1 h2
    rw [UInt8.toNat_ofNat']
    omega
  unfold enc String.utf8EncodeChar Char.toNat
  simp only
  split
  · refine ⟨_, _, rfl, fun _ => ⟨?_, rfl⟩⟩
    rw [UInt8.toNat_ofNat']
    omega
  · split
    · refine ⟨_, _, rfl, fun h => ?_⟩
      exact absurd h (big _ (by omega) (by omega))
    · split
      · refine ⟨_, _, rfl, fun h => ?_⟩
        exact absurd h (big _ (by omega) (by omega))
      · refine ⟨_, _, rfl, fun h => ?_⟩
        exact absurd h (big _ (by omega) (by omega))

theorem lt_of_ltCodes_enc : ∀ (la lb : List Char),
    ltCodes (la.flatMap enc) (lb.flatMap enc) = true → la < lb
  | [], [], h => by simp [ltCodes] at h
  | [], _ :: _, _ => by simp
  | c :: la, [], h => by
    obtain ⟨x, r, ec, _⟩ := enc_head c
    simp [ec, ltCodes] at h
  | c :: la, d :: lb, h => by
    obtain ⟨x, r, ec, hc⟩ := enc_head c
    obtain ⟨y, s, ed, hd⟩ := enc_head d
    simp only [flatMap_cons, ec, ed, cons_append, ltCodes, Bool.and_eq_true, Bool.or_eq_true,
      decide_eq_true_eq, beq_iff_eq] at h
    obtain ⟨hy, hxy⟩ := h
    -- both first bytes are below 128, so they are the two characters
    obtain ⟨rfl, rfl⟩ := hd hy
    obtain ⟨rfl, rfl⟩ := hc (by omega)
    rw [cons_lt_cons_iff]
    rcases hxy with h | ⟨h, ht⟩
    · exact .inl h
    · exact .inr ⟨Char.toNat_inj.1 h, lt_of_ltCodes_enc la lb ht⟩

theorem lt_of_ltCodes {a b : String} (h : ltCodes (codes a) (codes b) = true) : a < b := by
  rw [codes_eq, codes_eq] at h
  exact lt_of_ltCodes_enc _ _ h

end GV.Mnemonic
