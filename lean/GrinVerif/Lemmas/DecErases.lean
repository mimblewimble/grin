import GrinVerif.Model.DecSer
import GrinVerif.Model.SerSeg
import GrinVerif.Lemmas.DecBound
import GrinVerif.Lemmas.UtilIte
/-! `Erases p q`: for every input the instrumented reader `p` (`Model/Dec.lean`, `Model/DecSer.lean`) never panics and, forgetting
the allocation counter, returns exactly what the plain reader `q` (`Model/Ser*.lean`) returns: same value, same unread rest,
same error kind. The last section bundles it with the two other facts C11 proves of a reader that pre-allocates nothing:
`Instr e n q p` is `Erases p q`, `Bnd 1 0 e p` and `ProgW n p`, with rules that follow a decoder's chain, and the primitive readers as `Instr`. -/
namespace GV.DecSer
open GV GV.Ser GV.Dec

variable {α β : Type}

def Erases (p : Dec α) (q : Parser α) : Prop := ∀ bs, (p bs).toExcept = some (q bs)

theorem Erases.noPanic {p : Dec α} {q : Parser α} (h : Erases p q) : NoPanic p := by
  intro bs
  have := h bs
  cases hp : p bs <;> simp [hp, Outcome.toExcept, Outcome.isPanic] at this ⊢

/-- the `Except` image of a decoder; a panic, which `NoPanic` excludes, is mapped to an arbitrary error -/
def plainOf (p : Dec α) : Parser α := fun bs =>
  match p bs with
  | .ok a r _ => .ok (a, r)
  | .err e _ => .error e
  | .panic _ _ => .error .corrupted

/-- with it the readers that are generic in a leaf reader (`Segment<T>`, `SegmentResponse<T>`) get their panic-freedom from
their erasure lemma -/
theorem _root_.GV.Dec.NoPanic.erases {p : Dec α} (h : NoPanic p) : Erases p (plainOf p) := by
  intro bs
  have := h bs
  unfold plainOf
  cases hp : p bs with
  | ok a r n => rfl
  | err e n => rfl
  | panic s n => rw [hp] at this; cases this

theorem Erases.ok {p : Dec α} {q : Parser α} (h : Erases p q) {bs : Bytes} {a : α} {r : Bytes} {n : Nat}
    (hp : p bs = .ok a r n) : q bs = .ok (a, r) := by
  have := h bs
  rw [hp] at this
  simp only [Outcome.toExcept, Option.some.injEq] at this
  exact this.symm

theorem toExcept_lift (x : Except SerErr (α × Bytes)) : (lift x).toExcept = some x := by
  cases x <;> rfl

theorem erases_lift (q : Parser α) : Erases (fun bs => lift (q bs)) q := fun bs => toExcept_lift (q bs)

theorem erases_pure (a : α) : Erases (fun bs => (.ok a bs 0 : Outcome α)) (fun bs => .ok (a, bs)) := fun _ => rfl

theorem erases_err (e : SerErr) : Erases (fun _ => (.err e 0 : Outcome α)) (fun _ => .error e) := fun _ => rfl

theorem _root_.GV.Dec.Outcome.map_id (o : Outcome α) : o.map id = o := by cases o <;> rfl

/-- the one case analysis under every `bind` rule of `Agree`, `Erases` and `ErasesVia`: first reads that agree once `g` is
applied to the value, continuations that agree up to `h` on what the first read returned -/
theorem toExcept_bind_via {γ δ : Type} (g : α → γ) (h : β → δ) {o : Outcome α} {o' : Outcome γ}
    {f : α → Bytes → Outcome β} {f' : γ → Bytes → Outcome δ} (h0 : (o.map g).toExcept = o'.toExcept)
    (hf : ∀ a r n, o = .ok a r n → ((f a r).map h).toExcept = (f' (g a) r).toExcept) :
    ((Dec.bind o f).map h).toExcept = (Dec.bind o' f').toExcept := by
  cases o <;> cases o' <;>
    simp only [Outcome.map, Outcome.toExcept, Option.some.injEq, Except.ok.injEq, Prod.mk.injEq, Except.error.injEq,
      reduceCtorEq] at h0
  · rw [bind_ok, bind_ok, map_addAlloc, toExcept_addAlloc, toExcept_addAlloc, ← h0.1, ← h0.2]
    exact hf _ _ _ rfl
  · rw [h0]; rfl
  · rfl

/-- its instance with a plain reader on the right -/
theorem toExcept_bind_lift {γ δ : Type} (g : α → γ) (h : β → δ) {o : Outcome α} {x : Except SerErr (γ × Bytes)}
    {f : α → Bytes → Outcome β} {k : γ → Bytes → Except SerErr (δ × Bytes)} (h0 : (o.map g).toExcept = some x)
    (hf : ∀ a r n, o = .ok a r n → ((f a r).map h).toExcept = some (k (g a) r)) :
    ((Dec.bind o f).map h).toExcept = some (andThen x k) := by
  rw [← toExcept_lift (andThen x k), ← bind_lift x fun _ _ => rfl]
  exact toExcept_bind_via g h (h0.trans (toExcept_lift x).symm) fun a r n ho =>
    (hf a r n ho).trans (toExcept_lift _).symm

/-- `bind` with a postcondition (Q): the continuations only have to agree on values the plain first read
can return. -/
theorem Erases.bindQ {p : Dec α} {q : Parser α} {f : α → Dec β} {g : α → Parser β}
    (hp : Erases p q) (hf : ∀ bs a r, q bs = .ok (a, r) → (f a r).toExcept = some (g a r)) :
    Erases (fun bs => Dec.bind (p bs) f) (fun bs => andThen (q bs) g) := by
  intro bs
  have := toExcept_bind_lift id id (f := f) (k := g) ((congrArg _ (Outcome.map_id _)).trans (hp bs)) fun a r n ho =>
    (congrArg _ (Outcome.map_id _)).trans (hf bs a r (hp.ok ho))
  rwa [Outcome.map_id] at this

theorem Erases.bind {p : Dec α} {q : Parser α} {f : α → Dec β} {g : α → Parser β}
    (hp : Erases p q) (hf : ∀ a, Erases (f a) (g a)) :
    Erases (fun bs => Dec.bind (p bs) f) (fun bs => andThen (q bs) g) :=
  Erases.bindQ hp fun _ a r _ => hf a r

theorem Erases.iteH {p p' : Dec α} {q q' : Parser α} (b : Prop) [Decidable b] (h1 : b → Erases p q)
    (h2 : ¬ b → Erases p' q') :
    Erases (fun bs => if b then p bs else p' bs) (fun bs => if b then q bs else q' bs) :=
  fun bs => rel_ite (fun o r => Outcome.toExcept o = some r) b (fun hb => h1 hb bs) (fun hb => h2 hb bs)

theorem Erases.ite {p p' : Dec α} {q q' : Parser α} (b : Prop) [Decidable b] (h1 : Erases p q) (h2 : Erases p' q') :
    Erases (fun bs => if b then p bs else p' bs) (fun bs => if b then q bs else q' bs) :=
  Erases.iteH b (fun _ => h1) (fun _ => h2)

theorem Erases.charge {p : Dec α} {q : Parser α} (h : Erases p q) (n : Nat) :
    Erases (fun bs => charge n (p bs)) q := by
  intro bs; show ((p bs).addAlloc n).toExcept = _; rw [toExcept_addAlloc]; exact h bs

theorem Erases.withCapacity {p : Dec α} {q : Parser α} (h : Erases p q) (n sz : Nat) (hn : n * sz ≤ ISIZE_MAX) :
    Erases (fun bs => withCapacity n sz (p bs)) q := by
  intro bs
  show (Dec.withCapacity n sz (p bs)).toExcept = some (q bs)
  unfold Dec.withCapacity
  rw [if_neg (by omega), toExcept_addAlloc]; exact h bs

theorem Erases.congr {p : Dec α} {q q' : Parser α} (h : Erases p q) (hq : ∀ bs, q bs = q' bs) : Erases p q' := by
  intro bs; rw [← hq bs]; exact h bs

/-! ### erasure up to a renaming of the value

The two models name some record types differently (`Dec.SegmentId` / `SerSeg.SegId`, `Msg.PeerAddr` / `SerMsg.PeerAddr`, …):
`ErasesVia g p q` is `Erases` after `g` has been applied to the value `p` returns. Its `bind` rules take the renaming
through the sequencing, so a chain for a renamed reader is written like one for `Erases`, with `ErasesVia.pure` at the end. -/

def ErasesVia {γ : Type} (g : α → γ) (p : Dec α) (q : Parser γ) : Prop := Erases (fun bs => (p bs).map g) q

section via
variable {γ δ : Type}

theorem ErasesVia.noPanic {p : Dec α} {g : α → γ} {q : Parser γ} (h : ErasesVia g p q) : NoPanic p :=
  fun bs => (isPanic_map (p bs) g).symm.trans (Erases.noPanic h bs)

theorem Erases.via {p : Dec α} {q : Parser α} (h : Erases p q) : ErasesVia id p q := by
  intro bs
  show ((p bs).map id).toExcept = _
  rw [Outcome.map_id]; exact h bs

theorem ErasesVia.pure {g : α → γ} {a : α} :
    ErasesVia g (fun bs => (.ok a bs 0 : Outcome α)) (fun bs => .ok (g a, bs)) := fun _ => rfl

theorem ErasesVia.err {g : α → γ} {e : SerErr} :
    ErasesVia g (fun _ => (.err e 0 : Outcome α)) (fun _ => .error e) := fun _ => rfl

theorem ErasesVia.bindP {g : α → γ} {h : β → δ} {p : Dec α} {q : Parser γ} {f : α → Dec β} {k : γ → Parser δ}
    (hp : ErasesVia g p q)
    (hf : ∀ bs a r n, p bs = .ok a r n → ((f a r).map h).toExcept = some (k (g a) r)) :
    ErasesVia h (fun bs => Dec.bind (p bs) f) (fun bs => andThen (q bs) k) :=
  fun bs => toExcept_bind_lift g h (hp bs) (hf bs)

theorem ErasesVia.bind {g : α → γ} {h : β → δ} {p : Dec α} {q : Parser γ} {f : α → Dec β} {k : γ → Parser δ}
    (hp : ErasesVia g p q) (hf : ∀ a, ErasesVia h (f a) (k (g a))) :
    ErasesVia h (fun bs => Dec.bind (p bs) f) (fun bs => andThen (q bs) k) :=
  ErasesVia.bindP hp fun _ a r _ _ => hf a r

theorem Erases.bindVP {h : β → δ} {p : Dec α} {q : Parser α} {f : α → Dec β} {k : α → Parser δ} (hp : Erases p q)
    (hf : ∀ bs a r n, p bs = .ok a r n → ((f a r).map h).toExcept = some (k a r)) :
    ErasesVia h (fun bs => Dec.bind (p bs) f) (fun bs => andThen (q bs) k) :=
  ErasesVia.bindP hp.via hf

theorem Erases.bindV {h : β → δ} {p : Dec α} {q : Parser α} {f : α → Dec β} {k : α → Parser δ} (hp : Erases p q)
    (hf : ∀ a, ErasesVia h (f a) (k a)) :
    ErasesVia h (fun bs => Dec.bind (p bs) f) (fun bs => andThen (q bs) k) :=
  Erases.bindVP hp fun _ a r _ _ => hf a r

theorem ErasesVia.iteH {g : α → γ} {p p' : Dec α} {q q' : Parser γ} (b : Prop) [Decidable b]
    (h1 : b → ErasesVia g p q) (h2 : ¬ b → ErasesVia g p' q') :
    ErasesVia g (fun bs => if b then p bs else p' bs) (fun bs => if b then q bs else q' bs) :=
  fun bs => rel_ite (fun (o : Outcome α) x => (o.map g).toExcept = some x) b (h1 · bs) (h2 · bs)

theorem ErasesVia.ite {g : α → γ} {p p' : Dec α} {q q' : Parser γ} (b : Prop) [Decidable b]
    (h1 : ErasesVia g p q) (h2 : ErasesVia g p' q') :
    ErasesVia g (fun bs => if b then p bs else p' bs) (fun bs => if b then q bs else q' bs) :=
  ErasesVia.iteH b (fun _ => h1) (fun _ => h2)

theorem ErasesVia.withCapacity {g : α → γ} {p : Dec α} {q : Parser γ} (h : ErasesVia g p q) (n sz : Nat)
    (hn : n * sz ≤ ISIZE_MAX) : ErasesVia g (fun bs => withCapacity n sz (p bs)) q := by
  intro bs
  show ((Dec.withCapacity n sz (p bs)).map g).toExcept = some (q bs)
  rw [map_withCapacity]
  exact Erases.withCapacity h n sz hn bs

end via

theorem erases_rU8 : Erases rU8 readU8 := erases_lift _
theorem erases_rU16 : Erases rU16 readU16 := erases_lift _
theorem erases_rU32 : Erases rU32 readU32 := erases_lift _
theorem erases_rU64 : Erases rU64 readU64 := erases_lift _
theorem erases_rI64 : Erases rI64 readI64 := erases_lift _
theorem erases_rFixed (rd : Rdr) (len : Nat) : Erases (rFixed rd len) (readFixed len) := by
  intro bs
  unfold rFixed readFixed
  by_cases h : len > MAX_FIXED_READ
  · simp [h, Outcome.toExcept]
  · simp only [h, if_false]
    cases splitExact len bs with
    | none => rfl
    | some v => obtain ⟨x, r⟩ := v; rfl

theorem erases_multiItem {p : Dec α} {q : Parser α} (h : Erases p q) (sz : Nat) :
    Erases (multiItem p sz) (fun bs => match q bs with | .ok v => .ok v | .error _ => .error .count) := by
  intro bs
  have hb := h bs
  show (multiItem p sz bs).toExcept = some (match q bs with | .ok v => .ok v | .error _ => .error .count)
  unfold multiItem
  cases hp : p bs <;> rw [hp] at hb <;> simp only [Outcome.toExcept, Option.some.injEq, reduceCtorEq] at hb <;>
    rw [← hb] <;> rfl

/-- the answer of the plain `read_multi` for `n + 1` items, written as the instrumented loop computes it: one item, a
failure of which is a `CountError`, then the answer for `n` items on the rest -/
theorem readMultiLoop_succ (q : Parser α) (n : Nat) (bs : Bytes) :
    (if (readMultiLoop q (n + 1) bs).1.length ≠ n + 1 then .error .count else .ok (readMultiLoop q (n + 1) bs))
      = andThen (match q bs with | .ok v => .ok v | .error _ => .error .count) fun x r =>
          andThen (if (readMultiLoop q n r).1.length ≠ n then .error .count else .ok (readMultiLoop q n r))
            fun xs r' => .ok (x :: xs, r') := by
  cases hq : q bs with
  | error e => simp [readMultiLoop, hq, andThen]
  | ok v =>
    obtain ⟨x, r⟩ := v
    simp only [readMultiLoop, hq, andThen_ok, List.length_cons, ne_eq, Nat.add_right_cancel_iff]
    split <;> rfl

/-- the instrumented loop stops at the first failing item with `CountError`; the plain `readMultiLoop` collects
what it can and `Ser.readMulti` compares the length afterwards: the same answer -/
theorem readN_multiItem_erase {p : Dec α} {q : Parser α} (h : Erases p q) (sz : Nat) :
    ∀ n, Erases (GV.Dec.readN (multiItem p sz) n)
      (fun bs => if (readMultiLoop q n bs).1.length ≠ n then .error .count else .ok (readMultiLoop q n bs))
  | 0 => fun bs => by simp [GV.Dec.readN, readMultiLoop, Outcome.toExcept]
  | n + 1 =>
    (Erases.bind (erases_multiItem h sz) fun x => Erases.bind (readN_multiItem_erase h sz n) fun xs =>
      erases_pure (x :: xs)).congr fun bs => (readMultiLoop_succ q n bs).symm

theorem erases_readMulti {p : Dec α} {q : Parser α} (h : Erases p q) (sz count : Nat) :
    Erases (readMulti p sz count) (Ser.readMulti q count) := by
  intro bs
  unfold readMulti Ser.readMulti
  by_cases hc : count > MAX_MULTI_COUNT
  · simp [hc, Outcome.toExcept]
  · simp only [hc, if_false]
    exact readN_multiItem_erase h sz count bs

theorem erases_readN {p : Dec α} {q : Parser α} (h : Erases p q) : ∀ n, Erases (GV.Dec.readN p n) (GV.SerSeg.readItems q n)
  | 0 => fun _ => rfl
  | n+1 => Erases.bind h fun _ => Erases.bind (erases_readN h n) fun _ => erases_pure _

theorem erases_readN_map {γ : Type} {p : Dec α} {g : α → γ} {q : Parser γ} (h : ErasesVia g p q) :
    ∀ n, ErasesVia (List.map g) (GV.Dec.readN p n) (GV.SerSeg.readItems q n)
  | 0 => fun _ => rfl
  | n+1 => ErasesVia.bind h fun _ => ErasesVia.bind (erases_readN_map h n) fun _ => ErasesVia.pure

end GV.DecSer

/-! ### erasure, allocation bound and progress of one reader in one statement

`Lemmas/Wire.lean` pairs it with the `Codec` of the plain reader. -/

namespace GV.Wire
open GV GV.Ser GV.Dec GV.DecSer

variable {α ρ : Type}

/-- what C11 proves of an instrumented reader `p` with plain twin `q` that pre-allocates nothing -/
structure Instr (e n : Nat) (q : Parser ρ) (p : Dec ρ) : Prop where
  erases : Erases p q
  bnd : Bnd 1 0 e p
  progW : ProgW n p

namespace Instr

/-- the continuations agree on what the plain first read can return (an unreachable panic test on the value read) -/
theorem bindQ {e1 n1 e2 n2 : Nat} {q : Parser α} {p : Dec α} {g : α → Parser ρ} {f : α → Dec ρ}
    (h1 : Instr e1 n1 q p) (he : ∀ bs a r, q bs = .ok (a, r) → (f a r).toExcept = some (g a r))
    (hb : ∀ a, Bnd 1 0 e2 (f a)) (hp : ∀ a, ProgW n2 (f a)) :
    Instr (max e1 e2) (n1 + n2) (fun bs => andThen (q bs) g) (fun bs => Dec.bind (p bs) f) :=
  ⟨h1.erases.bindQ he, h1.bnd.bind hb, h1.progW.bind hp⟩

theorem bind {e1 n1 e2 n2 : Nat} {q : Parser α} {p : Dec α} {g : α → Parser ρ} {f : α → Dec ρ}
    (h1 : Instr e1 n1 q p) (h2 : ∀ a, Instr e2 n2 (g a) (f a)) :
    Instr (max e1 e2) (n1 + n2) (fun bs => andThen (q bs) g) (fun bs => Dec.bind (p bs) f) :=
  h1.bindQ (fun _ a r _ => (h2 a).erases r) (fun a => (h2 a).bnd) fun a => (h2 a).progW

theorem pure (v : ρ) : Instr 0 0 (fun r => .ok (v, r)) (fun r => .ok v r 0) :=
  ⟨erases_pure v, Bnd.pure 1 v, ProgW.pure v⟩

theorem fail (n : Nat) (err : SerErr) : Instr 0 n (fun _ => (.error err : Except SerErr (ρ × Bytes))) (fun _ => .err err 0) :=
  ⟨erases_err err, Bnd.fail 1 err, ProgW.fail n err⟩

theorem weaken {e n e' n' : Nat} {q : Parser ρ} {p : Dec ρ} (h : Instr e n q p) (he : e ≤ e') (hn : n' ≤ n) :
    Instr e' n' q p :=
  ⟨h.erases, h.bnd.weaken (Nat.le_refl _) he, h.progW.mono hn⟩

theorem ite {e1 e2 n1 n2 : Nat} {q1 q2 : Parser ρ} {p1 p2 : Dec ρ} (b : Prop) [Decidable b]
    (h1 : b → Instr e1 n1 q1 p1) (h2 : ¬ b → Instr e2 n2 q2 p2) :
    Instr (max e1 e2) (min n1 n2) (fun bs => if b then q1 bs else q2 bs) (fun bs => if b then p1 bs else p2 bs) := by
  by_cases h : b
  · simp only [if_pos h]; exact (h1 h).weaken (Nat.le_max_left ..) (Nat.min_le_left ..)
  · simp only [if_neg h]; exact (h2 h).weaken (Nat.le_max_right ..) (Nat.min_le_right ..)

theorem of_eq {e n : Nat} {q q' : Parser ρ} {p p' : Dec ρ} (h : Instr e n q p) (hq : ∀ bs, q' bs = q bs)
    (hp : ∀ bs, p' bs = p bs) : Instr e n q' p' := by
  rw [show q' = q from funext hq, show p' = p from funext hp]; exact h

theorem lift {n : Nat} {q : Parser ρ} (hq : ∀ bs a r, q bs = .ok (a, r) → r.length + n = bs.length) :
    Instr 0 n q (fun bs => Dec.lift (q bs)) :=
  ⟨erases_lift q, Bnd.lift (fun bs a r h => by have := hq bs a r h; omega) 1, progW_lift hq⟩

end Instr

theorem instr_rU8 : Instr 0 1 readU8 rU8 := Instr.lift fun _ _ _ => readU8_len
theorem instr_rU16 : Instr 0 2 readU16 rU16 := Instr.lift fun _ _ _ => readU16_len
theorem instr_rU64 : Instr 0 8 readU64 rU64 := Instr.lift fun _ _ _ => readU64_len
theorem instr_rI64 : Instr 0 8 readI64 rI64 := Instr.lift fun _ _ _ => readI64_len
theorem instr_rEmpty (n : Nat) : Instr 0 n (readEmpty n) (rEmpty n) := Instr.lift fun _ _ _ => readEmpty_len

theorem instr_rFixed (rd : Rdr) (len : Nat) : Instr (min len MAX_FIXED_READ) len (readFixed len) (rFixed rd len) :=
  ⟨erases_rFixed rd len, bnd_rFixed rd len, progW_rFixed rd len⟩

/-- `read_fixed_bytes(n)` into a `[u8; n]`: the slice / length-mismatch panic is unreachable -/
theorem instr_rFixedArr (rd : Rdr) (n : Nat) : Instr (min n MAX_FIXED_READ) n (readFixed n) (rFixedArr rd n) :=
  ((instr_rFixed rd n).bindQ (fun _ a r h => by rw [if_neg (fun hne => hne (readFixed_ok h).2)]; rfl)
    (fun a => Bnd.ite (a.length ≠ n) (Bnd.panic0 1 .index) (Bnd.pure 1 a))
    (fun a => ProgW.ite (a.length ≠ n) (ProgW.panic 0 .index) (ProgW.pure a))).of_eq (fun _ => (andThen_ok_self _).symm)
    (fun _ => rfl) |>.weaken (he := by omega) (hn := by omega)

end GV.Wire

namespace GV.DecSer
open GV GV.Ser GV.Dec GV.Wire

theorem progW_rEmpty (n : Nat) : ProgW n (rEmpty n) := (instr_rEmpty n).progW

theorem rFixedArr_ok_length {rd : Rdr} {n : Nat} {bs a r : Bytes} {m : Nat}
    (h : rFixedArr rd n bs = .ok a r m) : a.length = n :=
  (readFixed_ok ((instr_rFixedArr rd n).erases.ok h)).2

end GV.DecSer
