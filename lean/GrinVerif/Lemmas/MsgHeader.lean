import GrinVerif.Model.Msg
import GrinVerif.Model.SerMsg
import GrinVerif.Lemmas.DecBound
/-! The frame-header reader of the p2p codec (`Model/Msg.lean`, `decHeader`) is the plain `decMsgHeader` of `Model/SerMsg.lean`
lifted: what the codec (`Lemmas/CodecRun.lean`, `Lemmas/CodecSafe.lean`) and `Props/C11.lean` need of the header. -/
namespace GV.Msg
open GV GV.Ser GV.Dec

def toCfg (c : NetCfg) : GV.SerMsg.NetCfg := { magic := c.magic, mbw := c.mbw }

def ofHdrW : GV.SerMsg.HdrW → HdrW
  | .known t len => .known t len
  | .unknown len t => .unknown len t

/-- the instrumented frame-header reader is the plain one of `Model/SerMsg.lean` (the record types of the two models differ by name
only): whatever `Props/C10Msg.lean` says of `decMsgHeader` holds of the reader the codec runs, which allocates nothing and has no
panic site -/
theorem decHeader_eq (c : NetCfg) (bs : Bytes) :
    decHeader c bs = lift (andThen (GV.SerMsg.decMsgHeader (toCfg c) bs) fun h r => .ok (ofHdrW h, r)) := by
  unfold decHeader GV.SerMsg.decMsgHeader
  simp only [andThen_assoc]
  refine bind_lift _ fun _ r => bind_lift _ fun _ r => bind_lift _ fun t r => bind_lift _ fun len r => ?_
  show _ = lift (andThen (if len > GV.SerMsg.maxLen (toCfg c) t then _ else _) _)
  simp only [andThen_ite, andThen_ok, andThen_error]
  by_cases h1 : len > maxLen c t
  · rw [if_pos h1, if_pos (show len > GV.SerMsg.maxLen (toCfg c) t from h1)]; rfl
  · rw [if_neg h1, if_neg (show ¬ len > GV.SerMsg.maxLen (toCfg c) t from h1)]
    by_cases h2 : isKnownType t = true
    · rw [if_pos h2, if_pos (show GV.SerMsg.isKnownType t = true from h2)]; rfl
    · rw [if_neg h2, if_neg (show ¬ GV.SerMsg.isKnownType t = true from h2)]; rfl

theorem noPanic_decHeader (c : NetCfg) : NoPanic (decHeader c) := fun bs => by
  rw [decHeader_eq]; exact NoPanic.lift (fun bs => andThen (GV.SerMsg.decMsgHeader (toCfg c) bs) _) bs

theorem decHeader_alloc (c : NetCfg) (bs : Bytes) : (decHeader c bs).alloc = 0 := by
  rw [decHeader_eq]; cases andThen (GV.SerMsg.decMsgHeader (toCfg c) bs) _ <;> rfl

end GV.Msg
