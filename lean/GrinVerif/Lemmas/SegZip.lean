import GrinVerif.Model.SegZip
/-! `Model/SegZip.lean`: what `Dir.put` leaves, `by_name` (an entry of that name, if there is one), `create_zip`
(listed files that exist), a successful `extract_files` step and where extracted files come from. -/
namespace GV.SegZip

theorem get_put (d : Dir) (p q : List String) (c : String) :
    (d.put p c).get q = if q = p then some c else d.get q := by
  induction d with
  | nil =>
    by_cases h : q = p
    · simp [Dir.put, Dir.get, h]
    · simp [Dir.put, Dir.get, h, Ne.symm h]
  | cons hd tl ih =>
    obtain ⟨r, c'⟩ := hd
    unfold Dir.put
    by_cases h1 : r = p
    · subst h1
      by_cases h : q = r
      · simp [Dir.get, h]
      · simp [Dir.get, h, Ne.symm h]
    · simp only [h1, if_false]
      unfold Dir.get
      by_cases h2 : r = q
      · subst h2; simp [h1]
      · simp only [h2, if_false, ih]

theorem byName_cons (x : Entry) (rest : List Entry) (n : String) :
    byName (x :: rest) n =
      match byName rest n with
      | some e' => some e'
      | none => if x.name = n then some x else none := rfl

theorem byName_spec : ∀ (a : List Entry) (n : String) (e : Entry), byName a n = some e → e ∈ a ∧ e.name = n
  | [], _, _, h => by simp [byName] at h
  | x :: rest, n, e, h => by
    rw [byName_cons] at h
    cases hr : byName rest n with
    | some e' =>
      rw [hr] at h
      simp only [Option.some.injEq] at h
      subst h
      obtain ⟨h1, h2⟩ := byName_spec rest n e' hr
      exact ⟨List.mem_cons_of_mem _ h1, h2⟩
    | none =>
      rw [hr] at h
      simp only at h
      by_cases hx : x.name = n
      · rw [if_pos hx] at h
        simp only [Option.some.injEq] at h
        subst h
        exact ⟨List.mem_cons_self, hx⟩
      · rw [if_neg hx] at h; cases h

theorem byName_none : ∀ (a : List Entry) (n : String), byName a n = none → ∀ e ∈ a, e.name ≠ n
  | [], _, _, e, he => by cases he
  | x :: rest, n, h, e, he => by
    rw [byName_cons] at h
    cases hr : byName rest n with
    | some e' => rw [hr] at h; cases h
    | none =>
      rw [hr] at h
      simp only at h
      by_cases hx : x.name = n
      · rw [if_pos hx] at h; cases h
      · rcases List.mem_cons.mp he with h1 | h1
        · subst h1; exact hx
        · exact byName_none rest n hr e h1

theorem byName_some_of_mem (a : List Entry) (n : String) (e : Entry) (he : e ∈ a) (hn : e.name = n) :
    ∃ e', byName a n = some e' := by
  cases h : byName a n with
  | some e' => exact ⟨e', rfl⟩
  | none => exact absurd hn (byName_none a n h e he)

theorem mem_createZip (nm : Names) (src : Dir) : ∀ (files : List String) (e : Entry),
    e ∈ createZip nm src files →
      ∃ x ∈ files, src.get (nm.sanitize x) = some e.content ∧ e.name = nm.pathToString x ∧ e.crcOk = true
  | [], e, h => by simp [createZip] at h
  | x :: xs, e, h => by
    unfold createZip at h
    cases hg : src.get (nm.sanitize x) with
    | some c =>
      rw [hg] at h
      simp only at h
      rcases List.mem_cons.mp h with h1 | h1
      · subst h1
        exact ⟨x, List.mem_cons_self, hg, rfl, rfl⟩
      · obtain ⟨y, hy, r⟩ := mem_createZip nm src xs e h1
        exact ⟨y, List.mem_cons_of_mem _ hy, r⟩
    | none =>
      rw [hg] at h
      simp only at h
      obtain ⟨y, hy, r⟩ := mem_createZip nm src xs e h
      exact ⟨y, List.mem_cons_of_mem _ hy, r⟩

theorem createZip_mem (nm : Names) (src : Dir) : ∀ (files : List String) (x : String) (c : String),
    x ∈ files → src.get (nm.sanitize x) = some c →
      (⟨nm.pathToString x, c, true⟩ : Entry) ∈ createZip nm src files
  | [], x, c, h, _ => by cases h
  | y :: ys, x, c, h, hg => by
    unfold createZip
    rcases List.mem_cons.mp h with h1 | h1
    · subst h1
      rw [hg]
      exact List.mem_cons_self
    · have := createZip_mem nm src ys x c h1 hg
      cases hy : src.get (nm.sanitize y) with
      | some c' => simp only; exact List.mem_cons_of_mem _ this
      | none => simp only; exact this

theorem extractFiles_cons_ok (nm : Names) (a : List Entry) (x : String) (xs : List String) (d0 d : Dir)
    (h : extractFiles nm a (x :: xs) d0 = .ok d) :
    (byName a x = none ∧ extractFiles nm a xs d0 = .ok d) ∨
    ∃ e, byName a x = some e ∧ nm.mangle e.name ≠ [] ∧ e.crcOk = true ∧
      extractFiles nm a xs (d0.put (nm.mangle e.name) e.content) = .ok d := by
  unfold extractFiles at h
  cases hb : byName a x with
  | none => rw [hb] at h; exact Or.inl ⟨rfl, h⟩
  | some e =>
    rw [hb] at h
    simp only at h
    by_cases h1 : nm.mangle e.name = []
    · rw [if_pos h1] at h; cases h
    · rw [if_neg h1] at h
      cases h2 : e.crcOk with
      | false => simp [h2] at h
      | true => exact Or.inr ⟨e, rfl, h1, h2, by simpa [h2] using h⟩

theorem extractFiles_origin (nm : Names) (a : List Entry) : ∀ (files : List String) (d0 d : Dir),
    extractFiles nm a files d0 = .ok d → ∀ p c, d.get p = some c →
      d0.get p = some c ∨
        ∃ x ∈ files, ∃ e, byName a x = some e ∧ p = nm.mangle e.name ∧ c = e.content ∧
          e.crcOk = true ∧ nm.mangle e.name ≠ []
  | [], d0, d, h, p, c, hp => by
    simp only [extractFiles, XRes.ok.injEq] at h
    subst h
    exact Or.inl hp
  | x :: xs, d0, d, h, p, c, hp => by
    rcases extractFiles_cons_ok nm a x xs d0 d h with ⟨_, h⟩ | ⟨e, hb, h1, h2, h⟩
    · rcases extractFiles_origin nm a xs d0 d h p c hp with r | ⟨y, hy, r⟩
      · exact Or.inl r
      · exact Or.inr ⟨y, List.mem_cons_of_mem _ hy, r⟩
    · rcases extractFiles_origin nm a xs _ d h p c hp with r | ⟨y, hy, r⟩
      · rw [get_put] at r
        by_cases hq : p = nm.mangle e.name
        · rw [if_pos hq] at r
          exact Or.inr ⟨x, List.mem_cons_self, e, hb, hq, (Option.some.inj r).symm, h2, h1⟩
        · rw [if_neg hq] at r
          exact Or.inl r
      · exact Or.inr ⟨y, List.mem_cons_of_mem _ hy, r⟩

end GV.SegZip
