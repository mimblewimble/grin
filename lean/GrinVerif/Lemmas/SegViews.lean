import GrinVerif.Lemmas.SegPruned
/-! Views that satisfy `PrunedView` (C16): the served states `segment_complete_pruned` is applied
to.  Nothing compacted (`spentView`: leaves spent in any pattern, hidden from `get_hash`, still on
file); `compactBelow V n0 h0` takes every position strictly below the node `(n0, h0)` off both
files (the pruned root stays), and `PrunedView` is closed under it when no leaf below the node is
marked (`PrunedView.compactBelow`; the compacted sibling pair is the case
`compactPair V n0 = compactBelow V n0 1`).
Also: why `PrunedView` has the field `data_compacted` — the record without it (`PrunedViewWeak`)
admits a view that still answers the *data* of a compacted leaf, for which `from_pmmr` fails
(`pruned_view_needs_data_compacted` in `Props/C16.lean`, kernel-evaluated on the 4-leaf MMR).  Core Lean only. -/
namespace GV.Seg
open GV GV.Pmmr

variable {α H : Type}

section Views
variable {hf : HashFn α H} {f : Nat → α} {N : Nat}

/-- nothing compacted (leaves may be spent: `get_hash` of leaves is not constrained): any bitmap -/
theorem prunedView_of_all_on_file (V : View α H) (b : Nat → Bool) (hN : N < 2 ^ 32)
    (hsize : V.size = mmr N)
    (hfile : ∀ q, q < mmr N → V.fromFile q = some (hAt hf f q))
    (hdata : ∀ q, q < mmr N → height q = 0 → V.dataFromFile q = some (dAt f q))
    (hinner : ∀ q, q < mmr N → height q ≠ 0 → V.hash q = V.fromFile q) :
    PrunedView hf f N b V where
  size := hsize
  small := hN
  file_genuine := fun q h hq hx => by rw [hfile q hq] at hx; injection hx with hx; exact hx.symm
  data_genuine := fun q d hq hl hx => by
    rw [hdata q hq hl] at hx; injection hx with hx; exact hx.symm
  data_of_file := fun q hq hl hd => by rw [hdata q hq hl] at hd; cases hd
  data_compacted := fun q hq _ hx => by rw [hfile q hq] at hx; cases hx
  hash_inner := hinner
  peaks_on_file := fun p hp => by rw [hfile p (Co.peaks_lt_size hp)]; simp
  compacted := by
    intro n k hk hn hoff
    have hp1 := Co.two_pow_succ k
    have ls := Co.left_sibling_coord (show k < trailingOnes n from hk)
    have h2 := ls.le
    have h3 := ls.pos
    have l1 : mmr n + (k + 1) < mmr N := (Co.coord_lt_iff hk).2 hn
    have l2 : mmr (n - 2 ^ k) + k < mmr N := (Co.coord_lt_iff ls.valid).2 (by omega)
    have l3 : mmr n + k < mmr N := by omega
    rw [hfile _ l1, hfile _ l2, hfile _ l3] at hoff
    rcases hoff with h | h | h <;> cases h

/-- the view after the sibling leaves `n0 - 1`, `n0` (`n0` odd) were compacted: their hashes and
data are gone from the files, their parent (the pruned root) stays -/
def compactPair (V : View α H) (n0 : Nat) : View α H where
  size := V.size
  dataFromFile := fun q => if q = mmr (n0 - 1) ∨ q = mmr n0 then none else V.dataFromFile q
  fromFile := fun q => if q = mmr (n0 - 1) ∨ q = mmr n0 then none else V.fromFile q
  hash := fun q => if q = mmr (n0 - 1) ∨ q = mmr n0 then none else V.hash q

end Views

/-- the `ReadonlyPMMR` of a backend whose leaves in `removed` are spent (`get_hash` hides them;
`get_from_file` / `get_data_from_file` still answer) and nothing is compacted -/
def spentView (hashes : List H) (d : List α) (removed : Nat → Bool) : View α H where
  size := hashes.length
  dataFromFile := (vecView hashes d).dataFromFile
  fromFile := fun p => hashes[p]?
  hash := fun p => if isLeaf p && removed p then none else hashes[p]?

theorem spentView_pruned (hf : HashFn α H) (f : Nat → α) (N : Nat) (b removed : Nat → Bool)
    (hN : N < 2 ^ 32) :
    PrunedView hf f N b (spentView (Co.allHashes hf f N) ((List.range N).map f) removed) := by
  apply prunedView_of_all_on_file _ b hN (Co.allHashes_length hf f N)
  · intro q hq; exact allHashes_hAt hf f N q hq
  · intro q hq hl; exact vecView_data hf f N q hq hl
  · intro q _ hh
    have : isLeaf q = false := by simp [isLeaf, hh]
    simp [spentView, this]

/-- `q` lies strictly below the node `(n0, h0)` -/
def below (n0 h0 q : Nat) : Bool :=
  decide ((peakMapHeight q).2 < h0) && decide (Co.up (peakMapHeight q).1 h0 = n0)

theorem below_co {n0 h0 n h : Nat} (hh : h ≤ trailingOnes n) :
    below n0 h0 (mmr n + h) = true ↔ h < h0 ∧ Co.up n h0 = n0 := by
  simp [below, Co.peakMapHeight_co n h hh]

theorem below_family {n0 h0 n k : Nat} (hk : k + 1 ≤ trailingOnes n)
    (h : below n0 h0 (mmr n + (k + 1)) = true ∨ below n0 h0 (mmr (n - 2 ^ k) + k) = true ∨
      below n0 h0 (mmr n + k) = true) :
    below n0 h0 (mmr (n - 2 ^ k) + k) = true ∧ below n0 h0 (mmr n + k) = true ∧
      ∀ j, n + 1 - 2 ^ (k + 1) ≤ j → j ≤ n → n0 + 1 - 2 ^ h0 ≤ j ∧ j ≤ n0 := by
  have c1 := (Co.left_sibling_coord (show k < trailingOnes n from hk)).valid
  have hL : ∀ h0', k + 1 ≤ h0' → Co.up (n - 2 ^ k) h0' = Co.up n h0' := by
    intro h0' hle
    rw [← Co.up_up (n - 2 ^ k) hle, Co.up_left_child (show k < trailingOnes n from hk)]
  have key : k + 1 ≤ h0 ∧ Co.up n h0 = n0 := by
    rcases h with h | h | h
    · obtain ⟨h1, h2⟩ := (below_co hk).1 h
      exact ⟨by omega, h2⟩
    · obtain ⟨h1, h2⟩ := (below_co c1).1 h
      exact ⟨h1, by rw [← hL h0 h1]; exact h2⟩
    · obtain ⟨h1, h2⟩ := (below_co (show k ≤ trailingOnes n by omega)).1 h
      exact ⟨h1, h2⟩
  obtain ⟨hle, hup⟩ := key
  refine ⟨(below_co c1).2 ⟨hle, by rw [hL h0 hle]; exact hup⟩,
    (below_co (show k ≤ trailingOnes n by omega)).2 ⟨hle, hup⟩, ?_⟩
  intro j h1 h2
  have hmono := Co.up_leftmost_mono n (h0 - (k + 1)) (k + 1)
  rw [show k + 1 + (h0 - (k + 1)) = h0 by omega, hup, Co.up_of_valid hk] at hmono
  have := Co.le_up n h0
  rw [hup] at this
  exact ⟨by omega, by omega⟩

theorem peak_not_below {N n0 h0 : Nat} (hn0 : n0 < N) (c : Nat × Nat) (hc : c ∈ Co.forest N) :
    below n0 h0 (Co.cpos c) = false := by
  cases hb : below n0 h0 (Co.cpos c) with
  | false => rfl
  | true =>
    obtain ⟨hlt, hup⟩ := (below_co (Co.forest_valid c hc).1).1 hb
    have := Co.forest_up_ge hc hlt
    omega

/-- every position strictly below `(n0, h0)` is gone from the hash file and the data file; the
pruned root `(n0, h0)` stays -/
def compactBelow (V : View α H) (n0 h0 : Nat) : View α H where
  size := V.size
  dataFromFile := fun q => if below n0 h0 q then none else V.dataFromFile q
  fromFile := fun q => if below n0 h0 q then none else V.fromFile q
  hash := fun q => if below n0 h0 q then none else V.hash q

section Views
variable {hf : HashFn α H} {f : Nat → α} {N : Nat} {b : Nat → Bool} {V : View α H}

theorem compactBelow_fromFile_none {n0 h0 q : Nat} (h : (compactBelow V n0 h0).fromFile q = none) :
    below n0 h0 q = true ∨ V.fromFile q = none := by
  simp only [compactBelow] at h
  split at h
  · exact Or.inl ‹_›
  · exact Or.inr h

theorem compactBelow_fromFile_of_below {n0 h0 q : Nat} (h : below n0 h0 q = true) :
    (compactBelow V n0 h0).fromFile q = none := by
  simp [compactBelow, h]

theorem compactBelow_fromFile_of_off {n0 h0 q : Nat} (h : V.fromFile q = none) :
    (compactBelow V n0 h0).fromFile q = none := by
  simp only [compactBelow]
  split
  · rfl
  · exact h

/-- closure under one more compaction: whatever was compacted before (nested or not), compacting
an unmarked subtree of a `PrunedView` gives a `PrunedView` -/
theorem PrunedView.compactBelow (pv : PrunedView hf f N b V) (n0 h0 : Nat) (hn0 : n0 < N)
    (hun : ∀ j, n0 + 1 - 2 ^ h0 ≤ j → j ≤ n0 → b j = false) :
    PrunedView hf f N b (compactBelow V n0 h0) where
  size := pv.size
  small := pv.small
  file_genuine := fun q h hq hx => by
    simp only [Seg.compactBelow] at hx
    split at hx
    · cases hx
    · exact pv.file_genuine q h hq hx
  data_genuine := fun q d hq hl hx => by
    simp only [Seg.compactBelow] at hx
    split at hx
    · cases hx
    · exact pv.data_genuine q d hq hl hx
  data_of_file := fun q hq hl hd => by
    simp only [Seg.compactBelow] at hd ⊢
    split
    · rfl
    · rename_i hc; rw [if_neg hc] at hd; exact pv.data_of_file q hq hl hd
  data_compacted := fun q hq hl hx => by
    simp only [Seg.compactBelow] at hx ⊢
    split
    · rfl
    · rename_i hc; rw [if_neg hc] at hx; exact pv.data_compacted q hq hl hx
  hash_inner := fun q hq hh => by
    simp only [Seg.compactBelow]
    split
    · rfl
    · exact pv.hash_inner q hq hh
  peaks_on_file := fun p hp => by
    have hon := pv.peaks_on_file p hp
    rw [Co.peaks_forest] at hp
    obtain ⟨c, hc, rfl⟩ := List.mem_map.1 hp
    simpa only [Seg.compactBelow, peak_not_below hn0 c hc, Bool.false_eq_true, if_false] using hon
  compacted := by
    intro n k hk hn hoff
    -- one of the three positions lies below `(n0, h0)`: all of the family does, and its leaves are
    -- leaves of `(n0, h0)`; otherwise all three "off file" come from `V`
    by_cases hb : below n0 h0 (mmr n + (k + 1)) = true ∨ below n0 h0 (mmr (n - 2 ^ k) + k) = true ∨
        below n0 h0 (mmr n + k) = true
    · obtain ⟨b1, b2, b3⟩ := below_family hk hb
      exact ⟨compactBelow_fromFile_of_below b1, compactBelow_fromFile_of_below b2,
        fun j h1 h2 => hun j (b3 j h1 h2).1 (b3 j h1 h2).2⟩
    · have hoffV : V.fromFile (mmr n + (k + 1)) = none ∨ V.fromFile (mmr (n - 2 ^ k) + k) = none ∨
          V.fromFile (mmr n + k) = none :=
        hoff.imp (fun h => (compactBelow_fromFile_none h).resolve_left fun hx => hb (Or.inl hx))
          (Or.imp (fun h => (compactBelow_fromFile_none h).resolve_left fun hx => hb (Or.inr (Or.inl hx)))
            (fun h => (compactBelow_fromFile_none h).resolve_left fun hx => hb (Or.inr (Or.inr hx))))
      obtain ⟨h1, h2, h3⟩ := pv.compacted n k hk hn hoffV
      exact ⟨compactBelow_fromFile_of_off h1, compactBelow_fromFile_of_off h2, h3⟩

end Views

theorem spentView_compactBelow_pruned (hf : HashFn α H) (f : Nat → α) (N : Nat) (b removed : Nat → Bool)
    (hN : N < 2 ^ 32) (n0 h0 : Nat) (hn0 : n0 < N)
    (hun : ∀ j, n0 + 1 - 2 ^ h0 ≤ j → j ≤ n0 → b j = false) :
    PrunedView hf f N b
      (compactBelow (spentView (Co.allHashes hf f N) ((List.range N).map f) removed) n0 h0) :=
  (spentView_pruned hf f N b removed hN).compactBelow n0 h0 hn0 hun

theorem compactPair_eq_compactBelow (V : View α H) {n0 : Nat} (hodd : 1 ≤ trailingOnes n0) :
    compactPair V n0 = compactBelow V n0 1 := by
  have key : ∀ q, (q = mmr (n0 - 1) ∨ q = mmr n0) ↔ below n0 1 q = true := by
    intro q
    obtain ⟨n, h, hv, rfl⟩ := Co.coord_surj q
    rw [below_co hv]
    constructor
    · rintro (hq | hq)
      · obtain ⟨rfl, rfl⟩ := Co.coord_inj hv (Nat.zero_le _) (by simpa using hq)
        exact ⟨Nat.zero_lt_one, Co.up_left_child (k := 0) hodd⟩
      · obtain ⟨rfl, rfl⟩ := Co.coord_inj hv (Nat.zero_le _) (by simpa using hq)
        exact ⟨Nat.zero_lt_one, Co.up_of_valid hodd⟩
    · rintro ⟨h0, hup⟩
      obtain rfl : h = 0 := by omega
      unfold Co.up at hup
      have : n = n0 - 1 ∨ n = n0 := by omega
      rcases this with rfl | rfl
      · exact Or.inl rfl
      · exact Or.inr rfl
  simp only [compactPair, compactBelow, key]

theorem spentView_compact_pruned (hf : HashFn α H) (f : Nat → α) (N : Nat) (b removed : Nat → Bool)
    (hN : N < 2 ^ 32) (n0 : Nat) (hodd : 1 ≤ trailingOnes n0) (hn0 : n0 < N)
    (hb1 : b (n0 - 1) = false) (hb2 : b n0 = false) :
    PrunedView hf f N b
      (compactPair (spentView (Co.allHashes hf f N) ((List.range N).map f) removed) n0) := by
  rw [compactPair_eq_compactBelow _ hodd]
  refine spentView_compactBelow_pruned hf f N b removed hN n0 1 hn0 ?_
  intro j h1 h2
  have : j = n0 - 1 ∨ j = n0 := by omega
  rcases this with rfl | rfl
  · exact hb1
  · exact hb2

/-- `PrunedView` without its field `data_compacted` -/
structure PrunedViewWeak (hf : HashFn α H) (f : Nat → α) (N : Nat) (b : Nat → Bool) (V : View α H) : Prop where
  size : V.size = mmr N
  small : N < 2 ^ 32
  file_genuine : ∀ q h, q < mmr N → V.fromFile q = some h → h = hAt hf f q
  data_genuine : ∀ q d, q < mmr N → height q = 0 → V.dataFromFile q = some d → d = dAt f q
  data_of_file : ∀ q, q < mmr N → height q = 0 → V.dataFromFile q = none → V.fromFile q = none
  hash_inner : ∀ q, q < mmr N → height q ≠ 0 → V.hash q = V.fromFile q
  peaks_on_file : ∀ p ∈ peaks (mmr N), V.fromFile p ≠ none
  compacted : ∀ n k, k + 1 ≤ trailingOnes n → n < N →
    (V.fromFile (mmr n + (k + 1)) = none ∨ V.fromFile (mmr (n - 2 ^ k) + k) = none ∨
      V.fromFile (mmr n + k) = none) →
    V.fromFile (mmr (n - 2 ^ k) + k) = none ∧ V.fromFile (mmr n + k) = none ∧
      ∀ j, n + 1 - 2 ^ (k + 1) ≤ j → j ≤ n → b j = false

theorem PrunedView.weak {hf : HashFn α H} {f : Nat → α} {N : Nat} {b : Nat → Bool} {V : View α H}
    (pv : PrunedView hf f N b V) : PrunedViewWeak hf f N b V :=
  ⟨pv.size, pv.small, pv.file_genuine, pv.data_genuine, pv.data_of_file, pv.hash_inner,
    pv.peaks_on_file, pv.compacted⟩

/-- the weak record says nothing about the data of a position that is off the hash file: the same
view with the data of every leaf still answered satisfies it too -/
theorem prunedViewWeak_keepData {hf : HashFn α H} {f : Nat → α} {N : Nat} {b : Nat → Bool}
    {V : View α H} (pv : PrunedViewWeak hf f N b V)
    (d : Nat → Option α) (hd : ∀ q, q < mmr N → height q = 0 → d q = some (dAt f q)) :
    PrunedViewWeak hf f N b { V with dataFromFile := d } where
  size := pv.size
  small := pv.small
  file_genuine := pv.file_genuine
  data_genuine := fun q x hq hl hx => by
    rw [show ({ V with dataFromFile := d } : View α H).dataFromFile q = d q from rfl, hd q hq hl] at hx
    injection hx with hx; exact hx.symm
  data_of_file := fun q hq hl hx => by
    rw [show ({ V with dataFromFile := d } : View α H).dataFromFile q = d q from rfl, hd q hq hl] at hx
    cases hx
  hash_inner := pv.hash_inner
  peaks_on_file := pv.peaks_on_file
  compacted := pv.compacted

/-- a Boolean test for `MissingHash(q)`, so that the failure of `from_pmmr` on `keepDataView` below
can be evaluated by the kernel (`pruned_view_needs_data_compacted`, `Props/C16.lean`) -/
def isMissingHash {β : Type} : Res β → Nat → Bool
  | .err (.missingHash p), q => p == q
  | _, _ => false

theorem eq_of_isMissingHash {β : Type} (r : Res β) (q : Nat) (h : isMissingHash r q = true) :
    r = .err (.missingHash q) := by
  cases r with
  | ok v => simp [isMissingHash] at h
  | panic => simp [isMissingHash] at h
  | err e =>
    cases e with
    | missingHash p => simp only [isMissingHash, beq_iff_eq] at h; rw [h]
    | missingLeaf p => simp [isMissingHash] at h
    | nonExistent => simp [isMissingHash] at h
    | mismatch => simp [isMissingHash] at h

/-- the 4-leaf MMR (size 7) over free terms, elements 10..13, every leaf spent, the whole tree
below the peak 6 compacted (positions 0..5 off the hash file) — but the data file still answers
every leaf -/
def keepDataView : View Nat (Co.HTerm Nat) :=
  { compactBelow (spentView (Co.allHashes (Co.termHF Nat) (fun i => 10 + i) 4)
      ((List.range 4).map fun i => 10 + i) (fun _ => true)) 3 2 with
    dataFromFile := (vecView (Co.allHashes (Co.termHF Nat) (fun i => 10 + i) 4)
      ((List.range 4).map fun i => 10 + i)).dataFromFile }

end GV.Seg
