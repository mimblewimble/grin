import GrinVerif.Model.Seg
/-! `SegmentProof::reconstruct_root` is one fold (C16): the family branch, the bagged peaks to the
right and the peaks to the left are hashed in the same way: take the next proof hash and hash it
with the running value at an index, on the left or on the right.  Which index and which side
depends on the positions only (`proofSteps`), so the number of hashes consumed does too
(`consumed`).  For the fold, once: injective in the start value and the hashes consumed (given
`Inj`, what collision resistance gives), hashes after the consumed ones are ignored, never a panic.
Core Lean only. -/
namespace GV.Seg
open GV GV.Pmmr

variable {α H : Type}

/-- what collision resistance of the two hash shapes gives (same index on both sides suffices) -/
structure Inj (hf : HashFn α H) : Prop where
  leaf : ∀ i x y, hf.leaf i x = hf.leaf i y → x = y
  node : ∀ i a b c d, hf.node i a b = hf.node i c d → a = c ∧ b = d

/-- one step `(index, sibling on the left, sibling position)` per proof hash: the running value is
hashed with the next proof hash; the position only names the hash that is missing -/
def hashUp (hf : HashFn α H) : H → List H → List (Nat × Bool × Nat) → Res (H × List H)
  | root, it, [] => .ok (root, it)
  | root, it, (idx, sibLeft, sibPos) :: rest =>
    match it with
    | [] => .err (.missingHash (1 + sibPos))
    | sib :: it' => hashUp hf (if sibLeft then hf.node idx sib root else hf.node idx root sib) it' rest

def proofSteps (lastPos first0 last0 upos : Nat) : List (Nat × Bool × Nat) :=
  (branchFrom last0 lastPos upos).map (fun x => (x.1, isLeftSibling x.2, x.2)) ++
  (((peaks lastPos).filter (· > branchPeak last0 lastPos)).head?.toList.map fun p => (lastPos, false, p)) ++
  ((peaks lastPos).filter (· < first0)).reverse.map fun p => (lastPos, true, p)

theorem hashUp_append (hf : HashFn α H) : ∀ (a b : List (Nat × Bool × Nat)) (root : H) (it : List H),
    hashUp hf root it (a ++ b) = match hashUp hf root it a with
      | .ok x => hashUp hf x.1 x.2 b
      | .err e => .err e
      | .panic => .panic
  | [], _, _, _ => by simp only [List.nil_append, hashUp]
  | (_, _, _) :: a, b, root, it => by
    cases it with
    | nil => simp only [List.cons_append, hashUp]
    | cons s it' => simp only [List.cons_append, hashUp]; exact hashUp_append hf a b _ it'

theorem climb_eq (hf : HashFn α H) : ∀ (br : List (Nat × Nat)) (root : H) (it : List H),
    climb hf root it br = hashUp hf root it (br.map fun x => (x.1, isLeftSibling x.2, x.2))
  | [], _, _ => by simp only [climb, List.map_nil, hashUp]
  | (_, _) :: br, root, it => by
    cases it with
    | nil => simp only [climb, List.map_cons, hashUp]
    | cons s it' => simp only [climb, List.map_cons, hashUp]; exact climb_eq hf br _ it'

theorem bagLeft_eq (hf : HashFn α H) (S : Nat) : ∀ (ps : List Nat) (root : H) (it : List H),
    bagLeft hf S root it ps = hashUp hf root it (ps.map fun p => (S, true, p))
  | [], _, _ => by simp only [bagLeft, List.map_nil, hashUp]
  | _ :: ps, root, it => by
    cases it with
    | nil => simp only [bagLeft, List.map_cons, hashUp]
    | cons s it' => simp only [bagLeft, List.map_cons, hashUp, if_true]; exact bagLeft_eq hf S ps _ it'

theorem reconstructRoot_eq (hf : HashFn α H) (proof : List H) (lastPos first0 last0 : Nat) (segRoot : H)
    (upos : Nat) :
    reconstructRoot hf proof lastPos first0 last0 segRoot upos
      = hashUp hf segRoot proof (proofSteps lastPos first0 last0 upos) := by
  unfold reconstructRoot proofSteps
  rw [hashUp_append, hashUp_append, ← climb_eq]
  cases climb hf segRoot proof (branchFrom last0 lastPos upos) with
  | err e => rfl
  | panic => rfl
  | ok x =>
    obtain ⟨root, it⟩ := x
    simp only [← bagLeft_eq]
    cases ((peaks lastPos).filter (· > branchPeak last0 lastPos)).head? with
    | none => simp only [Option.toList_none, List.map_nil, hashUp]
    | some q => cases it <;> simp [hashUp]

/-- number of proof hashes `reconstruct_root` consumes: depends on the positions only -/
def consumed (lastPos first0 last0 unprunedPos : Nat) : Nat :=
  (branchFrom last0 lastPos unprunedPos).length +
  (if ((peaks lastPos).filter (· > branchPeak last0 lastPos)).head?.isSome then 1 else 0) +
  ((peaks lastPos).filter (· < first0)).length

theorem consumed_eq (lastPos first0 last0 upos : Nat) :
    consumed lastPos first0 last0 upos = (proofSteps lastPos first0 last0 upos).length := by
  unfold consumed proofSteps
  cases ((peaks lastPos).filter (· > branchPeak last0 lastPos)).head? <;> simp <;> omega

theorem hashUp_inj (hf : HashFn α H) (inj : Inj hf) : ∀ (steps : List (Nat × Bool × Nat)) (root1 root2 : H)
    (it1 it2 : List H) (r rest1 rest2),
    hashUp hf root1 it1 steps = .ok (r, rest1) → hashUp hf root2 it2 steps = .ok (r, rest2) →
    root1 = root2 ∧ it1.take steps.length = it2.take steps.length
  | [], _, _, _, _, _, _, _, h1, h2 => by
    simp only [hashUp, Res.ok.injEq, Prod.mk.injEq] at h1 h2
    exact ⟨h1.1.trans h2.1.symm, rfl⟩
  | (idx, left, _) :: steps, root1, root2, it1, it2, r, rest1, rest2, h1, h2 => by
    match it1, it2 with
    | [], _ => simp [hashUp] at h1
    | _ :: _, [] => simp [hashUp] at h2
    | a1 :: t1, a2 :: t2 =>
      obtain ⟨hroot, htake⟩ := hashUp_inj hf inj steps _ _ t1 t2 r rest1 rest2 h1 h2
      -- the node hashed at this step: equal results ⇒ equal children, whichever side the sibling is on
      cases left <;>
      · obtain ⟨rfl, rfl⟩ := inj.node idx _ _ _ _ hroot
        exact ⟨rfl, by simp [htake]⟩

theorem reconstructRoot_inj (hf : HashFn α H) (inj : Inj hf) (pr1 pr2 : List H)
    (lastPos first0 last0 upos : Nat) (sr1 sr2 r : H) (rest1 rest2 : List H)
    (h1 : reconstructRoot hf pr1 lastPos first0 last0 sr1 upos = .ok (r, rest1))
    (h2 : reconstructRoot hf pr2 lastPos first0 last0 sr2 upos = .ok (r, rest2)) :
    sr1 = sr2 ∧
      pr1.take (consumed lastPos first0 last0 upos) = pr2.take (consumed lastPos first0 last0 upos) := by
  rw [reconstructRoot_eq] at h1 h2
  rw [consumed_eq]
  exact hashUp_inj hf inj _ _ _ _ _ _ _ _ h1 h2

theorem hashUp_extra (hf : HashFn α H) (extra : List H) : ∀ (steps : List (Nat × Bool × Nat)) (root : H)
    (it : List H) (r : H) (rest : List H), hashUp hf root it steps = .ok (r, rest) →
    hashUp hf root (it ++ extra) steps = .ok (r, rest ++ extra)
  | [], _, _, _, _, h => by
    simp only [hashUp, Res.ok.injEq, Prod.mk.injEq] at h ⊢
    exact ⟨h.1, by rw [h.2]⟩
  | (_, _, _) :: steps, root, it, r, rest, h => by
    cases it with
    | nil => simp [hashUp] at h
    | cons s it' => simp only [hashUp, List.cons_append] at h ⊢; exact hashUp_extra hf extra steps _ it' r rest h

theorem reconstructRoot_extra (hf : HashFn α H) (proof extra : List H) (lastPos first0 last0 : Nat)
    (segRoot : H) (upos : Nat) (r : H) (rest : List H)
    (h : reconstructRoot hf proof lastPos first0 last0 segRoot upos = .ok (r, rest)) :
    reconstructRoot hf (proof ++ extra) lastPos first0 last0 segRoot upos = .ok (r, rest ++ extra) := by
  rw [reconstructRoot_eq] at h ⊢
  exact hashUp_extra hf extra _ _ _ _ _ h

theorem hashUp_no_panic (hf : HashFn α H) : ∀ (steps : List (Nat × Bool × Nat)) (root : H) (it : List H),
    hashUp hf root it steps ≠ .panic
  | [], _, _ => by simp [hashUp]
  | (_, _, _) :: steps, root, it => by
    cases it with
    | nil => simp [hashUp]
    | cons s it' => simp only [hashUp]; exact hashUp_no_panic hf steps _ it'

theorem reconstructRoot_no_panic (hf : HashFn α H) (proof : List H) (lastPos first0 last0 : Nat)
    (segRoot : H) (upos : Nat) :
    reconstructRoot hf proof lastPos first0 last0 segRoot upos ≠ .panic := by
  rw [reconstructRoot_eq]
  exact hashUp_no_panic hf _ _ _

end GV.Seg
