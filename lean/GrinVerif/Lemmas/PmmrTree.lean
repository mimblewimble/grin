import GrinVerif.Lemmas.PmmrShape
import GrinVerif.Lemmas.PmmrValidate
import GrinVerif.Lemmas.UtilList
/-! The hash of every MMR node in `(n, h)` coordinates and the hash vector after `N` insertions;
`PMMR::push` computes exactly this vector (C07).  Leaf data is a function `f : Nat → α` of the leaf
index (lists of elements: `Lemmas/PmmrSpec`).  Core Lean only. -/
namespace GV.Pmmr.Co
open GV GV.Pmmr

variable {α H : Type}

/-- hash of node `(n, h)`: a leaf hashes its position and element, a parent its position and both
children; the children of `(n, h+1)` are `(n - 2^h, h)` and `(n, h)` -/
def nodeHash (hf : HashFn α H) (f : Nat → α) : Nat → Nat → H
  | n, 0 => hf.leaf (mmr n) (f n)
  | n, h+1 => hf.node (mmr n + (h+1)) (nodeHash hf f (n - 2^h) h) (nodeHash hf f n h)

/-- the hashes written by the insertion of leaf `n`: the leaf and the parents it completes -/
def emitted (hf : HashFn α H) (f : Nat → α) (n : Nat) : List H :=
  (List.range (trailingOnes n + 1)).map (nodeHash hf f n)

/-- the hash vector after `N` insertions -/
def allHashes (hf : HashFn α H) (f : Nat → α) : Nat → List H
  | 0 => []
  | N+1 => allHashes hf f N ++ emitted hf f N

theorem allHashes_length (hf : HashFn α H) (f : Nat → α) (N : Nat) :
    (allHashes hf f N).length = mmr N := by
  induction N with
  | zero => simp [allHashes, mmr_zero]
  | succ N ih => simp only [allHashes, List.length_append, ih, emitted, List.length_map,
      List.length_range, mmr_succ]; omega

theorem allHashes_getElem? (hf : HashFn α H) (f : Nat → α) (N : Nat) :
    ∀ n h, n < N → h ≤ trailingOnes n → (allHashes hf f N)[mmr n + h]? = some (nodeHash hf f n h) := by
  induction N with
  | zero => intro n h hn; omega
  | succ N ih =>
    intro n h hn hh
    rw [allHashes]
    by_cases hlt : n < N
    · have : mmr n + h < (allHashes hf f N).length := by
        rw [allHashes_length]; exact (coord_lt_iff hh).2 hlt
      rw [List.getElem?_append_left this]
      exact ih n h hlt hh
    · obtain rfl : n = N := Nat.le_antisymm (Nat.le_of_lt_succ hn) (Nat.le_of_not_lt hlt)
      have hle : (allHashes hf f n).length ≤ mmr n + h := by
        rw [allHashes_length]; exact Nat.le_add_right _ _
      rw [List.getElem?_append_right hle, allHashes_length, Nat.add_sub_cancel_left, emitted,
        List.getElem?_map, List.getElem?_range (Nat.lt_succ_of_le hh)]
      rfl

theorem allHashes_prefix (hf : HashFn α H) (f : Nat → α) {N M : Nat} (h : N ≤ M) :
    allHashes hf f N <+: allHashes hf f M := by
  induction h with
  | refl => exact List.prefix_refl _
  | step _ ih => exact List.IsPrefix.trans ih (by rw [allHashes]; exact List.prefix_append _ _)

/-- the merge loop of `push` for leaf `N`, entered at height `j` with `cur` = hash of `(N, j)`:
it appends the remaining parents `(N, j+1) … (N, trailingOnes N)` and never misses a sibling -/
theorem pushLoop_coord (hf : HashFn α H) (f : Nat → α) (N : Nat) :
    ∀ (fuel j : Nat), j ≤ trailingOnes N → trailingOnes N ≤ fuel + j →
      pushLoop hf (allHashes hf f N) N fuel j (mmr N + j) (nodeHash hf f N j)
        ((List.range (j+1)).map (nodeHash hf f N)) = some (emitted hf f N) := by
  intro fuel
  induction fuel with
  | zero =>
    intro j hj hf0
    have : j = trailingOnes N := by omega
    subst this
    simp [pushLoop, emitted]
  | succ fuel ih =>
    intro j hj hfu
    rw [pushLoop]
    rw [bitSet_coord hj]
    by_cases hlt : j < trailingOnes N
    · simp only [hlt, decide_true, if_true]
      have h1 := (left_sibling_coord hlt).valid
      have h2 := (left_sibling_coord hlt).le
      have hlt' : N - 2^j < N := Nat.sub_lt (Nat.lt_of_lt_of_le (Nat.two_pow_pos j) h2) (Nat.two_pow_pos j)
      rw [left_child_pos hlt, allHashes_getElem? hf f N (N - 2^j) j hlt' h1]
      dsimp only
      rw [show hf.node (mmr N + j + 1) (nodeHash hf f (N - 2^j) j) (nodeHash hf f N j)
          = nodeHash hf f N (j+1) from rfl, map_range_succ]
      exact ih (j+1) hlt (by omega)
    · obtain rfl : j = trailingOnes N := Nat.le_antisymm hj (Nat.le_of_not_lt hlt)
      simp [emitted]

/-- `N < 2^65`: the model's loop has fuel 65; the code's `u64` leaf count cannot exceed `2^64` -/
theorem push_coord (hf : HashFn α H) (f : Nat → α) (N : Nat) (hN : N < 2^65) :
    push hf (allHashes hf f N) (f N) = some (allHashes hf f (N+1)) := by
  have hc := peakMapHeight_leaf N
  have ht : trailingOnes N ≤ 65 := by
    have h1 := two_pow_le_of_le_trailingOnes (Nat.le_refl (trailingOnes N))
    have h2 : 2 ^ trailingOnes N ≤ 2 ^ 65 := by omega
    exact (Nat.pow_le_pow_iff_right (by omega)).1 h2
  have hl := pushLoop_coord hf f N 65 0 (Nat.zero_le _) (by omega)
  simp only [Nat.add_zero, Nat.zero_add, List.range_one, List.map_cons, List.map_nil] at hl
  simp only [push, allHashes_length, hc, ne_eq, not_true_eq_false, if_false]
  have e0 : nodeHash hf f N 0 = hf.leaf (mmr N) (f N) := rfl
  rw [e0] at hl
  rw [hl]
  rfl

theorem pushAll_coord (hf : HashFn α H) (f : Nat → α) :
    ∀ (m k : Nat), k + m ≤ 2^65 →
      pushAll hf (allHashes hf f k) ((List.range' k m).map f) = some (allHashes hf f (k + m)) := by
  intro m
  induction m with
  | zero => intro k _; simp [pushAll]
  | succ m ih =>
    intro k hk
    simp only [List.range'_succ, List.map_cons, pushAll]
    rw [push_coord hf f k (by omega)]
    dsimp only
    rw [ih (k+1) (by omega)]
    congr 2; omega

theorem pushAll_range (hf : HashFn α H) (f : Nat → α) (N : Nat) (hN : N ≤ 2^65) :
    pushAll hf [] ((List.range N).map f) = some (allHashes hf f N) := by
  have := pushAll_coord hf f N 0 (by omega)
  simpa [allHashes, List.range_eq_range'] using this

/-- the hash `push` leaves at position `p` -/
def hashAt (hf : HashFn α H) (f : Nat → α) (p : Nat) : H :=
  nodeHash hf f (peakMapHeight p).1 (peakMapHeight p).2

/-- the element whose leaf sits at position `p` -/
def dataAt (f : Nat → α) (p : Nat) : α := f (peakMapHeight p).1

theorem hashAt_co (hf : HashFn α H) (f : Nat → α) {n h : Nat} (hh : h ≤ trailingOnes n) :
    hashAt hf f (mmr n + h) = nodeHash hf f n h := by
  simp only [hashAt, peakMapHeight_co n h hh]

theorem dataAt_mmr (f : Nat → α) (n : Nat) : dataAt f (mmr n) = f n := by
  simp only [dataAt, peakMapHeight_leaf]

theorem allHashes_eq_map_hashAt (hf : HashFn α H) (f : Nat → α) (N : Nat) :
    allHashes hf f N = (List.range (mmr N)).map (hashAt hf f) := by
  apply List.ext_getElem?
  intro i
  by_cases hi : i < mmr N
  · obtain ⟨n, h, hh, rfl⟩ := coord_surj i
    rw [allHashes_getElem? hf f N n h ((coord_lt_iff hh).1 hi) hh, List.getElem?_map,
      List.getElem?_range hi, Option.map_some, hashAt_co hf f hh]
  · rw [List.getElem?_eq_none (by rw [allHashes_length]; omega),
      List.getElem?_eq_none (by simp; omega)]

theorem allHashes_getElem?_hashAt (hf : HashFn α H) (f : Nat → α) (N : Nat) {q : Nat} (hq : q < mmr N) :
    (allHashes hf f N)[q]? = some (hashAt hf f q) := by
  rw [allHashes_eq_map_hashAt, List.getElem?_map, List.getElem?_range hq]; rfl

theorem emitted_eq_map_hashAt (hf : HashFn α H) (f : Nat → α) (N : Nat) :
    emitted hf f N = (List.range' (mmr N) (trailingOnes N + 1)).map (hashAt hf f) := by
  unfold emitted
  rw [List.range'_eq_map_range, List.map_map]
  apply List.map_congr_left
  intro k hk
  exact (hashAt_co hf f (Nat.le_of_lt_succ (List.mem_range.1 hk))).symm

theorem hashAt_leaf (hf : HashFn α H) (f : Nat → α) {q : Nat} (hq : height q = 0) :
    hashAt hf f q = hf.leaf q (dataAt f q) := by
  obtain ⟨n, rfl⟩ := leaf_coord hq
  rw [dataAt_mmr, show mmr n = mmr n + 0 from rfl, hashAt_co hf f (Nat.zero_le _)]; rfl

theorem hashAt_node (hf : HashFn α H) (f : Nat → α) {q k : Nat} (hq : height q = k + 1) :
    hashAt hf f q = hf.node q (hashAt hf f (q - 2 * 2 ^ k)) (hashAt hf f (q - 1)) := by
  obtain ⟨n, hk, rfl, eR, eL, h1, _⟩ := inner_co hq
  rw [eL, eR, hashAt_co hf f hk, hashAt_co hf f h1, hashAt_co hf f (Nat.le_of_lt hk)]
  rfl

theorem nodeHash_congr (hf : HashFn α H) {f g : Nat → α} :
    ∀ (h n : Nat), (∀ i, i ≤ n → f i = g i) → nodeHash hf f n h = nodeHash hf g n h := by
  intro h
  induction h with
  | zero => intro n hfg; simp only [nodeHash]; rw [hfg n (Nat.le_refl _)]
  | succ k ih =>
    intro n hfg
    simp only [nodeHash]
    rw [ih n hfg, ih (n - 2 ^ k) (fun i hi => hfg i (Nat.le_trans hi (Nat.sub_le _ _)))]

theorem validate_allHashes [DecidableEq H] (hf : HashFn α H) (f : Nat → α) (N : Nat) :
    validate hf (allHashes hf f N) = true := by
  rw [validate_iff]
  intro n hn hpos p l r hp hl hr
  rw [allHashes_length] at hn
  obtain ⟨k, hk⟩ : ∃ k, height n = k + 1 := ⟨height n - 1, by omega⟩
  obtain ⟨c1, c2⟩ := children_lt hpos
  rw [allHashes_getElem?_hashAt hf f N hn] at hp
  rw [allHashes_getElem?_hashAt hf f N (Nat.lt_trans c1 hn)] at hl
  rw [allHashes_getElem?_hashAt hf f N (Nat.lt_trans c2 hn)] at hr
  rw [← Option.some.inj hp, ← Option.some.inj hl, ← Option.some.inj hr, hashAt_node hf f hk, hk,
    two_pow_succ]

theorem hashAt_congr (hf : HashFn α H) {f g : Nat → α} {N : Nat} (hfg : ∀ i, i < N → f i = g i)
    {p : Nat} (hp : p < mmr N) : hashAt hf f p = hashAt hf g p := by
  obtain ⟨n, h, hh, rfl⟩ := coord_surj p
  have hn := (coord_lt_iff hh).1 hp
  rw [hashAt_co hf f hh, hashAt_co hf g hh]
  exact nodeHash_congr hf h n fun i hi => hfg i (Nat.lt_of_le_of_lt hi hn)

theorem dataAt_congr {f g : Nat → α} {N : Nat} (hfg : ∀ i, i < N → f i = g i)
    {p : Nat} (hp : p < mmr N) : dataAt f p = dataAt g p := by
  obtain ⟨n, h, hh, rfl⟩ := coord_surj p
  simp only [dataAt, peakMapHeight_co n h hh]
  exact hfg n ((coord_lt_iff hh).1 hp)

/-- total version of `bag` for a non-empty list -/
def bagNE (hf : HashFn α H) (size : Nat) : H → List H → H
  | p, [] => p
  | p, q :: qs => hf.node size p (bagNE hf size q qs)

theorem bag_cons (hf : HashFn α H) (size : Nat) : ∀ ps p, bag hf size (p :: ps) = some (bagNE hf size p ps) := by
  intro ps
  induction ps with
  | nil => intro p; simp [bag, bagNE]
  | cons q qs ih => intro p; rw [bag, ih q]; rfl

theorem bag_append (hf : HashFn α H) (size : Nat) (B : List H) (b : H) (hB : bag hf size B = some b) :
    ∀ A, bag hf size (A ++ B) = some (A.foldr (fun x acc => hf.node size x acc) b) := by
  intro A
  induction A with
  | nil => simpa using hB
  | cons a A ih => simp [bag, ih]

theorem bag_append_cons (hf : HashFn α H) (size : Nat) (p : H) (B : List H) :
    ∀ A, bag hf size (A ++ p :: B) = some (A.foldr (fun x acc => hf.node size x acc) (bagNE hf size p B)) :=
  bag_append hf size (p :: B) _ (bag_cons hf size B p)

/-- `g` = one round of the `for peak in peaks.rev()` loop of `root()` / `bag_the_rhs`: any step
function with these two equations folds to `bag` -/
theorem bag_eq_foldl (hf : HashFn α H) (size : Nat) (g : Option H → H → Option H)
    (hn : ∀ p, g none p = some p) (hs : ∀ r p, g (some r) p = some (hf.node size p r)) (ps : List H) :
    bag hf size ps = ps.reverse.foldl g none := by
  rw [List.foldl_reverse]
  induction ps with
  | nil => rfl
  | cons p ps ih =>
    simp only [bag, List.foldr_cons, ← ih]
    cases bag hf size ps <;> simp only [hn, hs]

theorem bag_ne_none (hf : HashFn α H) (size : Nat) : ∀ l : List H, l ≠ [] → bag hf size l ≠ none := by
  intro l hl
  cases l with
  | nil => exact absurd rfl hl
  | cons p ps => rw [bag_cons]; exact Option.some_ne_none _

end GV.Pmmr.Co

namespace GV.Pmmr
variable {α H : Type}

theorem pushAll_app (hf : HashFn α H) : ∀ (xs ys : List α) (hs : List H),
    pushAll hf hs (xs ++ ys) = match pushAll hf hs xs with
      | none => none
      | some hs' => pushAll hf hs' ys
  | [], ys, hs => by simp [pushAll]
  | x :: xs, ys, hs => by
    simp only [List.cons_append, pushAll]
    cases push hf hs x with
    | none => rfl
    | some hs' => exact pushAll_app hf xs ys hs'

theorem pushAll_singleton (hf : HashFn α H) (hs : List H) (e : α) :
    pushAll hf hs [e] = push hf hs e := by
  simp only [pushAll]
  cases push hf hs e <;> rfl

end GV.Pmmr
