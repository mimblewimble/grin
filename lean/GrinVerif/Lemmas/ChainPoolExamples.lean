import GrinVerif.Model.ChainPool
import GrinVerif.Lemmas.ChainInv
/-! Concrete block trees for the C13 pool-facing theorems (non-vacuity examples and the
kernel-checked witnesses of the recorded defect `C13-pool-maturity-cutoff-read-from-header-fork`).

    0 ── 1 ── 2 ── 3 ── 4 ── 5        trunk y1..y5, one coinbase each (work 2..6)
          ├── 12                       x2: heavy short fork (work 500), one coinbase
          └── 22 ── 23                 z2, z3: heavier fork whose blocks have three outputs each

and, for NRD (header version 4 from height 3 on):

    0 ── 1 ── 2 ── 3                   3 carries the NRD kernel "e"
               └── 13 ── 14            heavier fork without it
-/
namespace GV.Chain.PoolEx

def P : Params := { maturity := 3, reward := 60, hfInterval := 3, maxOrphans := 100 }

def mk (id par h work ver : Nat) (outs : List (Nat × Bool)) (kers : List Ker := [.cb]) : Blk :=
  { id := id, parent := some par, h := h, work := work, ver := ver, ts := h, ins := [],
    outs := outs, kers := kers, tags := [] }

def G : Blk := { id := 0, parent := none, h := 0, work := 1, ver := 1, ts := 0, ins := [],
                 outs := [(100, false)], kers := [.cb], tags := [] }
def Y1 : Blk := mk 1 0 1 2 1 [(101, true)]
def Y2 : Blk := mk 2 1 2 3 1 [(102, true)]
def Y3 : Blk := mk 3 2 3 4 2 [(103, true)]
def Y4 : Blk := mk 4 3 4 5 2 [(104, true)]
def Y5 : Blk := mk 5 4 5 6 2 [(105, true)]
def X2 : Blk := mk 12 1 2 500 1 [(112, true)]
def Z2 : Blk := mk 22 1 2 100 1 [(122, true), (132, false), (142, false)]
def Z3 : Blk := mk 23 22 3 200 2 [(123, true), (133, false), (143, false)]

def outs : List OutDef :=
  [⟨100, false, 60⟩, ⟨101, true, 60⟩, ⟨102, true, 60⟩, ⟨103, true, 60⟩, ⟨104, true, 60⟩,
   ⟨105, true, 60⟩, ⟨112, true, 60⟩, ⟨122, true, 60⟩, ⟨123, true, 60⟩,
   ⟨201, false, 60⟩, ⟨204, false, 60⟩, ⟨206, true, 60⟩]

def N : Node := { outs := outs, blks := [G, Y1, Y2, Y3, Y4, Y5, X2, Z2, Z3] }

def trunk : List Event := [.block Y1, .block Y2, .block Y3, .block Y4, .block Y5]

def NX : Node := run P N (trunk ++ [.header X2])
def NZ : Node := run P N (trunk ++ [.header Z2, .header Z3])

def spendY1 : TxA := { ins := [101], outs := [201], kers := [.plain 0] }
def spendY4 : TxA := { ins := [104], outs := [204], kers := [.plain 0] }

def Q : Params := { maturity := 3, reward := 60, hfInterval := 1, maxOrphans := 100 }

def A1 : Blk := mk 1 0 1 2 2 [(101, true)]
def A2 : Blk := mk 2 1 2 3 3 [(102, true)]
def A3 : Blk := mk 3 2 3 4 4 [(103, true)] [.cb, .nrd 0 5 "e"]
def B3 : Blk := mk 13 2 3 4 4 [(113, true)]
def B4 : Blk := mk 14 13 4 10 5 [(114, true)]

def outsR : List OutDef :=
  [⟨100, false, 60⟩, ⟨101, true, 60⟩, ⟨102, true, 60⟩, ⟨103, true, 60⟩, ⟨113, true, 60⟩,
   ⟨114, true, 60⟩]

def R : Node := { outs := outsR, blks := [G, A1, A2, A3, B3, B4] }

def nrdTx : TxA := { ins := [100], outs := [300], kers := [.nrd 0 5 "e"] }

theorem fresh_of_genesis {n : Node} (hs : n.stored = [0]) (hh : n.head = 0) (hH : n.headers = [0])
    (ho : n.orphans = []) (hg : n.blk 0 = some G) : Fresh n :=
  ⟨hs, hh, hH, ho, fun g hg' => by rw [hg] at hg'; rw [← Option.some.inj hg']; rfl⟩

theorem fresh_N : Fresh N := fresh_of_genesis rfl rfl rfl rfl rfl

theorem fresh_R : Fresh R := fresh_of_genesis rfl rfl rfl rfl rfl

/-! ### how the facts below are evaluated

Every fact about a node reached by a history is a closed term checked by evaluation; two general lemmas keep
the evaluation small: a state is compared field by field, and the history is run once, for the two heads. -/

def sTrunk : UState :=
  { utxo := [(100, 0, false), (101, 1, true), (102, 2, true), (103, 3, true), (104, 4, true),
             (105, 5, true)], nrd := [], height := 5 }

/-- neither `Except` nor `UState` has decidable equality; the fields of the state have -/
theorem ok_of_fields {x : Except Err UState} {s : UState}
    (h : x.toOption.map (fun u => (u.utxo, u.nrd, u.height)) = some (s.utxo, s.nrd, s.height)) : x = .ok s := by
  cases x with
  | error e => cases h
  | ok s' =>
    cases s'; cases s
    simp only [Except.toOption, Option.map_some, Option.some.injEq, Prod.mk.injEq] at h
    obtain ⟨rfl, rfl, rfl⟩ := h
    rfl

/-- A history changes the dynamic fields of a node only, and `stateAt`, `path`, `poolMaturityImpl` read just the
blocks and the two heads: with the heads evaluated once, the facts below are evaluated on the FRESH node. -/
theorem node_of_heads {p : Params} {n : Node} {es : List Event} {h hh : Nat}
    (hd : (run p n es).head = h ∧ (run p n es).hhead = hh) :
    run p n es = { n with headers := (run p n es).headers, stored := (run p n es).stored, head := h, hhead := hh,
                          orphans := (run p n es).orphans } := by
  have hdef := run_defs p n es
  cases hr : run p n es
  simp only [hr] at hd hdef ⊢
  obtain ⟨rfl, rfl⟩ := hd
  obtain ⟨rfl, rfl⟩ := hdef
  rfl

theorem NX_head : NX.head = 5 ∧ NX.hhead = 12 := by decide +kernel
theorem NZ_head : NZ.head = 5 ∧ NZ.hhead = 23 := by decide +kernel
theorem NX_state : NX.stateAt P NX.head = .ok sTrunk := by
  rw [show NX = _ from node_of_heads NX_head]; exact ok_of_fields (by decide +kernel)
theorem NZ_state : NZ.stateAt P NZ.head = .ok sTrunk := by
  rw [show NZ = _ from node_of_heads NZ_head]; exact ok_of_fields (by decide +kernel)
theorem NX_impl : NX.poolMaturityImpl P spendY1 = some "Other" := by
  rw [show NX = _ from node_of_heads NX_head]; decide +kernel
theorem NZ_impl : NZ.poolMaturityImpl P spendY4 = none := by
  rw [show NZ = _ from node_of_heads NZ_head]; decide +kernel
theorem NX_spec : txMaturity P sTrunk spendY1 = none := by decide +kernel
theorem NZ_spec : txMaturity P sTrunk spendY4 = some "ImmatureCoinbase" := by decide +kernel

theorem reg_NX : Registered N (trunk ++ [.header X2]) :=
  .cons rfl (.cons rfl (.cons rfl (.cons rfl (.cons rfl (.cons rfl ((.nil _)))))))

theorem reg_trunk : Registered N trunk :=
  .cons rfl (.cons rfl (.cons rfl (.cons rfl (.cons rfl ((.nil _))))))

def esA : List Event := [.block A1, .block A2, .block A3]
def esAB : List Event := esA ++ [.block B3, .block B4]

theorem reg_esAB : Registered R esAB :=
  .cons rfl (.cons rfl (.cons rfl (.cons rfl (.cons rfl ((.nil _))))))

def sA : UState :=
  { utxo := [(100, 0, false), (101, 1, true), (102, 2, true), (103, 3, true)],
    nrd := [("e", 3)], height := 3 }
def sB : UState :=
  { utxo := [(100, 0, false), (101, 1, true), (102, 2, true), (113, 3, true), (114, 4, true)],
    nrd := [], height := 4 }

theorem RA_head : (run Q R esA).head = 3 := by decide +kernel
theorem RAB_head : (run Q R esAB).head = 14 ∧ 3 ∈ (run Q R esAB).stored := by decide +kernel
theorem RA_state : (run Q R esA).stateAt Q (run Q R esA).head = .ok sA := by
  rw [node_of_heads ⟨RA_head, rfl⟩]; exact ok_of_fields (by decide +kernel)
theorem RAB_state : (run Q R esAB).stateAt Q (run Q R esAB).head = .ok sB := by
  rw [node_of_heads ⟨RAB_head.1, rfl⟩]; exact ok_of_fields (by decide +kernel)
theorem RA_nrd : txValidate sA nrdTx = some "NRDRelativeHeight" := by decide +kernel
theorem RAB_nrd : txValidate sB nrdTx = none := by decide +kernel

theorem trunk_node : run P N trunk =
    { N with headers := (run P N trunk).headers, stored := (run P N trunk).stored, head := 5, hhead := 5,
             orphans := (run P N trunk).orphans } :=
  node_of_heads (by decide +kernel)

end GV.Chain.PoolEx
