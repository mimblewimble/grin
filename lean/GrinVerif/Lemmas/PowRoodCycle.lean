import GrinVerif.Lemmas.PowRood
/-! Cuckarood: counting facts about the direction bits, and `rood_cycle`: an accepted walk is one
simple, direction-alternating cycle through all edges. -/
namespace GV.Pow

theorem slotNode_side (ep : Nat → Nat × Nat) (ns : List Nat) (e d : Nat) (he : e < ns.length)
    (hd : d < 2) : slotNode (ns.map ep) (2 * e + d) = sideNode ep ns d e := by
  have := uvF_even ep ns e he
  have := uvF_odd ep ns e he
  unfold uvF at *
  unfold sideNode frmF toF
  by_cases hz : d = 0
  · subst hz; simpa using ‹slotNode (ns.map ep) (2 * e) = _›
  · have : d = 1 := by omega
    subst this; simpa using ‹slotNode (ns.map ep) (2 * e + 1) = _›

theorem rood_balance_iff (ns : List Nat) (ep : Nat → Nat × Nat) :
    (((ns.map (fun x => (x % 2, ep x))).filter (fun d => d.1 = 0)).length =
      ((ns.map (fun x => (x % 2, ep x))).filter (fun d => d.1 ≠ 0)).length) ↔
    RoodBalanced ns := by
  unfold RoodBalanced
  -- both sides count the even resp. odd nonces
  have h0 : cntBelow (fun e => dirF ns e == 0) ns.length = ns.countP (fun x => decide (x % 2 = 0)) :=
    cntBelow_countP (fun x => x % 2 == 0) ns
  have h1 : cntBelow (fun e => dirF ns e == 1) ns.length = ns.countP (fun x => decide (x % 2 ≠ 0)) :=
    (cntBelow_countP (fun x => x % 2 == 1) ns).trans (List.countP_congr fun x _ => by
      have := Nat.mod_two_eq_zero_or_one x
      simp only [beq_iff_eq, decide_eq_true_eq]; omega)
  rw [h0, h1, ← List.countP_eq_length_filter, ← List.countP_eq_length_filter, List.countP_map,
    List.countP_map]
  exact Iff.rfl

theorem isProofCycleCuckarood_nonces (ep : Nat → Nat × Nat) (ns : List Nat) :
    IsProofCycleCuckarood (ns.map (fun x => (x % 2, ep x))) ↔
      RoodBalanced ns ∧
      ∃ c, IsRoodCycle ep ns c := by
  have hdir : ∀ k, ((ns.map (fun x => (x % 2, ep x))).getD k (0, (0, 0))).1 = dirF ns k := by
    intro k
    unfold dirF
    rw [List.getD_eq_getElem?_getD, List.getD_eq_getElem?_getD, List.getElem?_map]
    cases ns[k]? <;> rfl
  have hes : (ns.map (fun x => (x % 2, ep x))).map (·.2) = ns.map ep := by
    simp [List.map_map, Function.comp_def]
  unfold IsProofCycleCuckarood IsRoodCycle
  simp only [hes, hdir, List.length_map, rood_balance_iff]

theorem RoodInv.balanced {P : Params} {ep : Nat → Nat × Nat} {ns : List Nat} {s : RoodSt}
    (inv : RoodInv P ep ns ns.length s) :
    RoodBalanced ns := by
  unfold RoodBalanced
  have := cntBelow_split ns ns.length
  have := inv.bal
  rw [inv.nd0, inv.nd1] at this
  omega

/-- slot 0 is the entry slot of the first direction-0 edge -/
theorem ent_zero (ns : List Nat) (hL : 0 < ns.length)
    (hbal : RoodBalanced ns) :
    ∃ e0, e0 < ns.length ∧ ent ns e0 = 0 := by
  unfold RoodBalanced at hbal
  have := cntBelow_split ns ns.length
  obtain ⟨e0, he0, hf0, hc0⟩ := cntBelow_pos (fun e => dirF ns e == 0) ns.length (by omega)
  have hd0 : dirF ns e0 = 0 := by simpa using hf0
  exact ⟨e0, he0, by unfold ent slotOf; rw [hd0, hc0]⟩

/-- edges `eo 0, eo 1, …` each followed (cyclically) by its only mate form, entered through their
entry sides, one simple direction-alternating cycle -/
theorem cycle_of_mates (ep : Nat → Nat × Nat) (ns : List Nat) (eo : Nat → Nat) (hL : 0 < ns.length)
    (hlt : ∀ t, t < ns.length → eo t < ns.length)
    (hinj : ∀ a b, a < ns.length → b < ns.length → eo a = eo b → a = b)
    (hm : ∀ t, t < ns.length → Mate ep ns (eo t) (eo ((t + 1) % ns.length)) ∧
      ∀ e', Mate ep ns (eo t) e' → e' = eo ((t + 1) % ns.length)) :
    IsRoodCycle ep ns
      ((List.range ns.length).map (fun t => 2 * eo t + dirF ns (eo t))) := by
  have hd := dirF_lt ns
  have hmod : ∀ t, (t + 1) % ns.length < ns.length := fun t => Nat.mod_lt _ hL
  refine ⟨by simp, ?_, ?_, ?_⟩
  · rw [List.map_map]
    refine (List.map_congr_left fun t _ => ?_).symm ▸ perm_range_of_inj eo _ hlt hinj
    exact two_mul_add_div _ _ (hd _)
  · intro t ht
    have m2 := (hm t ht).1.dir
    have m3 := (hm t ht).1.node
    rw [range_map_getD _ _ t ht, range_map_getD _ _ _ (hmod t),
      even_add_xor_one _ _ (by omega) (hd _),
      (eq_one_sub_of_ne (hd (eo t)) (hd _) (Ne.symm m2)).symm,
      slotNode_side ep ns _ _ (hlt t ht) (hd _), slotNode_side ep ns _ _ (hlt _ (hmod t)) (hd _),
      two_mul_add_div _ _ (hd _), two_mul_add_div _ _ (hd _)]
    exact ⟨by unfold sameSide; omega, m3.symm, fun h => m2 h.symm⟩
  · intro a b ha hb hab ⟨hs, hn⟩
    rw [range_map_getD _ _ a ha, range_map_getD _ _ b hb] at hs hn
    have hdd : dirF ns (eo b) = dirF ns (eo a) := by
      have := hd (eo a); have := hd (eo b); unfold sameSide at hs; omega
    rw [slotNode_side ep ns _ _ (hlt a ha) (hd _), slotNode_side ep ns _ _ (hlt b hb) (hd _), hdd] at hn
    obtain ⟨_, ua⟩ := hm a ha
    have b1 := (hm b hb).1.lt
    have b2 := (hm b hb).1.dir
    have b3 := (hm b hb).1.node
    rw [hdd] at b2 b3
    have := hinj _ _ (hmod b) (hmod a) (ua _ ⟨b1, b2, b3.trans hn.symm⟩)
    exact hab (succ_mod_inj _ a b hL ha hb this.symm)

theorem rood_cycle (P : Params) (ep : Nat → Nat × Nat) (ns : List Nat) (s : RoodSt)
    (hbk : ∀ x, P.bk x % 2 = x % 2) (inv : RoodInv P ep ns ns.length s) (tr : List Nat)
    (htr : Trace (roodStep P ns.length s) 0 tr) (hlen : tr.length = ns.length) :
    IsProofCycleCuckarood (ns.map (fun x => (x % 2, ep x))) := by
  have hL : 0 < ns.length := hlen ▸ htr.pos
  obtain ⟨e0, he0, hent0⟩ := ent_zero ns hL inv.balanced
  have hB : ∀ t, t < ns.length → ∃ e, e < ns.length ∧ tr.getD t 0 = ent ns e := by
    intro t
    induction t with
    | zero => intro _; exact ⟨e0, he0, by rw [htr.head, hent0]⟩
    | succ t ih =>
      intro ht
      obtain ⟨e, he, hte⟩ := ih (by omega)
      have hc := (htr.chain t (by omega)).1
      rw [hte] at hc
      obtain ⟨e2, h2, _, h6⟩ := (roodStep_ent_iff P ep ns s hbk inv e _ he).mp hc
      exact ⟨e2, h2.lt, h6⟩
  obtain ⟨eo, heo⟩ := exists_fun_lt hB
  have hinj : ∀ a b, a < ns.length → b < ns.length → eo a = eo b → a = b := fun a b ha hb h =>
    htr.inj (by omega) (by omega) (by rw [(heo a ha).2, (heo b hb).2, h])
  refine (isProofCycleCuckarood_nonces ep ns).mpr ⟨inv.balanced, _,
    cycle_of_mates ep ns eo hL (fun t ht => (heo t ht).1) hinj fun t ht => ?_⟩
  have hc := htr.cyc_chain hlen t ht
  rw [(heo t ht).2, (heo _ (Nat.mod_lt _ hL)).2] at hc
  obtain ⟨e2, h2, h3, h4⟩ := (roodStep_ent_iff P ep ns s hbk inv _ _ (heo t ht).1).mp hc
  rw [ent_inj ns _ _ h4]
  exact ⟨h2, h3⟩

end GV.Pow
