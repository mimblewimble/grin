import GrinVerif.Lemmas.StoreBitmap
import GrinVerif.Model.Store
/-! File-layer laws (`AppendOnlyFile`, `LeafSet`) and the unit-of-work laws of the backend
(`discard` undoes a unit; nothing reaches the durable parts `Backend.onDisk` before `sync`).
No Mathlib. -/
namespace GV.Store
open GV GV.Pmmr

namespace AOF
variable {E : Type}

/-- a synced file: nothing buffered, not rewound -/
def Clean (f : AOF E) : Prop := f.buffer = [] ∧ f.bak = 0 ∧ f.bsp = f.disk.length

theorem ofDisk_clean (d : List E) : Clean (ofDisk d) := ⟨rfl, rfl, rfl⟩

theorem flush_clean (f : AOF E) : Clean f.flush := ⟨rfl, rfl, rfl⟩

theorem ofDisk_of_clean {f : AOF E} (h : Clean f) : ofDisk f.disk = f := by
  obtain ⟨h1, h2, h3⟩ := h
  cases f; simp_all [ofDisk]

theorem reopen_flush (f : AOF E) : ofDisk f.flush.disk = f.flush := ofDisk_of_clean (flush_clean f)

/-- what `read` sees: the file up to `buffer_start_pos`, then the buffer -/
def view (f : AOF E) : List E := f.disk.take f.bsp ++ f.buffer

structure WF (f : AOF E) : Prop where
  le : f.bsp ≤ f.disk.length
  bak0 : f.bak = 0 → f.bsp = f.disk.length

theorem wf_of_clean {f : AOF E} (h : Clean f) : WF f ∧ view f = f.disk := by
  obtain ⟨h1, h2, h3⟩ := h
  refine ⟨⟨by omega, fun _ => h3⟩, ?_⟩
  unfold view; rw [h1, h3]; simp

theorem view_length {f : AOF E} (h : WF f) : (view f).length = f.sizeUnsyncInElmts := by
  unfold view sizeUnsyncInElmts
  rw [List.length_append, List.length_take, Nat.min_eq_left h.le]

theorem read_view {f : AOF E} (h : WF f) (i : Nat) : f.read i = (view f)[i]? := by
  unfold read
  have hl := view_length h
  unfold sizeUnsyncInElmts at *
  have hle := h.le
  split
  · rw [List.getElem?_eq_none (by omega)]
  · unfold view
    split
    · rename_i h2
      rw [List.getElem?_append_left (by rw [List.length_take]; omega), List.getElem?_take_of_lt h2]
    · rw [List.getElem?_append_right (by rw [List.length_take]; omega), List.length_take,
        Nat.min_eq_left hle]

theorem wf_extend {f : AOF E} (h : WF f) (es : List E) :
    WF (f.extend es) ∧ view (f.extend es) = view f ++ es :=
  ⟨⟨h.le, h.bak0⟩, by unfold view extend; simp⟩

theorem wf_append {f : AOF E} (h : WF f) (e : E) :
    WF (f.append e) ∧ view (f.append e) = view f ++ [e] :=
  ⟨⟨h.le, h.bak0⟩, by unfold view append; simp⟩

/-- `rewind` keeps a `_bak` that is set and sets it to `bsp` otherwise -/
theorem rewind_bak_eq_zero {f : AOF E} {p : Nat} (h : (f.rewind p).bak = 0) : f.bak = 0 ∧ f.bsp = 0 := by
  simp only [rewind] at h
  by_cases h0 : f.bak = 0
  · rw [if_pos h0] at h; exact ⟨h0, h⟩
  · rw [if_neg h0] at h; exact absurd h h0

/-- a further `rewind` inside a unit in which nothing has been appended yet (the chain rewinds
block by block) -/
theorem rewind_of_wf {f : AOF E} (h : WF f) (hb : f.buffer = []) (p : Nat) (hp : p ≤ f.bsp) :
    WF (f.rewind p) ∧ view (f.rewind p) = (view f).take p ∧ (f.rewind p).buffer = [] := by
  refine ⟨⟨Nat.le_trans hp h.le, ?_⟩, ?_, hb⟩
  · intro hb0
    obtain ⟨h0, h1⟩ := rewind_bak_eq_zero hb0
    have := h.bak0 h0
    show p = f.disk.length
    omega
  · unfold view rewind
    simp only [hb, List.append_nil, List.take_take]
    rw [Nat.min_eq_left hp]

theorem flush_of_wf {f : AOF E} (h : WF f) : f.flush.disk = view f := by
  unfold flush view
  simp only
  split
  · rfl
  · rename_i hb
    have := h.bak0 (by omega)
    rw [this]; simp

theorem read_clean {f : AOF E} (h : Clean f) (pos : Nat) : f.read pos = f.disk[pos]? := by
  obtain ⟨w, v⟩ := wf_of_clean h
  rw [read_view w, v]

theorem read_append_old (f : AOF E) (e : E) (pos : Nat) (h : pos < f.sizeUnsyncInElmts) :
    (f.append e).read pos = f.read pos := by
  obtain ⟨disk, buffer, bsp, bak⟩ := f
  have h : pos < bsp + buffer.length := h
  show (if pos ≥ bsp + (buffer ++ [e]).length then none
    else if pos < bsp then disk[pos]? else (buffer ++ [e])[pos - bsp]?) =
    (if pos ≥ bsp + buffer.length then none
    else if pos < bsp then disk[pos]? else buffer[pos - bsp]?)
  have h1 : ¬ pos ≥ bsp + (buffer ++ [e]).length := by simp; omega
  have h2 : ¬ pos ≥ bsp + buffer.length := by omega
  rw [if_neg h1, if_neg h2]
  by_cases h3 : pos < bsp
  · rw [if_pos h3, if_pos h3]
  · rw [if_neg h3, if_neg h3, List.getElem?_append_left (by omega)]

theorem read_append_of_some (f : AOF E) (e : E) {pos : Nat} {v : E} (h : f.read pos = some v) :
    (f.append e).read pos = some v := by
  by_cases hlt : pos < f.sizeUnsyncInElmts
  · rw [read_append_old f e pos hlt]; exact h
  · unfold read at h
    rw [if_pos (by omega)] at h
    exact absurd h (by simp)

theorem read1_append_of_some (f : AOF E) (e : E) {position : Nat} {v : E}
    (h : f.read1 position = some v) : (f.append e).read1 position = some v := by
  unfold read1 at h ⊢
  split at h
  · exact absurd h (by simp)
  · rename_i h0; rw [if_neg h0]; exact read_append_of_some f e h

/-- operations of one unit of work on a file -/
inductive Op (E : Type)
  | append (e : E)
  | extend (es : List E)
  | rewind (pos : Nat)

def Op.apply (f : AOF E) : Op E → AOF E
  | .append e => f.append e
  | .extend es => f.extend es
  | .rewind p => f.rewind p

/-- every rewind of the unit targets a position inside the synced file -/
def Op.Within (n : Nat) : Op E → Prop
  | .rewind p => p ≤ n
  | _ => True

/-- state of a file inside a unit that started from the synced content `d` -/
def InUnit (d : List E) (f : AOF E) : Prop :=
  f.disk = d ∧ ((f.bak = 0 ∧ f.bsp = d.length) ∨ (f.bak = d.length ∧ 0 < d.length))

theorem inUnit_iff {d : List E} {f : AOF E} :
    InUnit d f ↔ f.disk = d ∧ (f.bak = 0 → f.bsp = d.length) ∧ (0 < f.bak → f.bak = d.length) := by
  unfold InUnit
  constructor
  · rintro ⟨hd, ⟨h1, h2⟩ | ⟨h1, h2⟩⟩
    · exact ⟨hd, fun _ => h2, fun h => by omega⟩
    · exact ⟨hd, fun h => by omega, fun _ => h1⟩
  · rintro ⟨hd, h1, h2⟩
    refine ⟨hd, ?_⟩
    by_cases h0 : f.bak = 0
    · exact Or.inl ⟨h0, h1 h0⟩
    · exact Or.inr ⟨h2 (by omega), by have := h2 (by omega); omega⟩

theorem inUnit_of_clean {f : AOF E} (h : Clean f) : InUnit f.disk f :=
  ⟨rfl, Or.inl ⟨h.2.1, h.2.2⟩⟩

theorem inUnit_apply {d : List E} {f : AOF E} (h : InUnit d f) (op : Op E) (hw : op.Within d.length) :
    InUnit d (op.apply f) := by
  obtain ⟨hd, hb⟩ := h
  cases op with
  | append e => exact ⟨hd, hb⟩
  | extend es => exact ⟨hd, hb⟩
  | rewind p =>
    have hp : p ≤ d.length := hw
    refine ⟨hd, ?_⟩
    simp only [Op.apply, AOF.rewind]
    rcases hb with ⟨h1, h2⟩ | ⟨h1, h2⟩
    · by_cases hL : 0 < d.length
      · right; rw [if_pos h1]; exact ⟨h2, hL⟩
      · left; rw [if_pos h1]; exact ⟨by omega, by omega⟩
    · right
      have : ¬ f.bak = 0 := by omega
      rw [if_neg this]; exact ⟨h1, h2⟩

theorem inUnit_foldl {d : List E} (ops : List (Op E)) {f : AOF E} (h : InUnit d f)
    (hw : ∀ op ∈ ops, op.Within d.length) : InUnit d (ops.foldl Op.apply f) :=
  List.foldlRecOn ops _ h fun _ hf op hop => inUnit_apply hf op (hw op hop)

theorem discard_of_inUnit {d : List E} {f : AOF E} (h : InUnit d f) : f.discard = ofDisk d := by
  obtain ⟨hd, hb⟩ := h
  unfold discard ofDisk
  rcases hb with ⟨h1, h2⟩ | ⟨h1, h2⟩
  · simp [hd, h1, h2]
  · have hpos : f.bak > 0 := by omega
    simp only [hd, h1]
    simp [h2]

end AOF

namespace LeafSet

/-- a synced leaf set -/
def Clean (ls : LeafSet) : Prop := ls.bitmap = ls.bak

theorem flush_clean (ls : LeafSet) : Clean ls.flush := rfl
theorem reopen_flush (ls : LeafSet) : ls.flush.reopen = ls.flush := rfl
theorem discard_of_clean_bak {ls0 ls : LeafSet} (h : Clean ls0) (hb : ls.bak = ls0.bak) :
    ls.discard = ls0 := by
  cases ls0; cases ls; simp_all [discard, Clean]

theorem includes_iff {ls : LeafSet} {q : Nat} : ls.includes q = true ↔ (q + 1) ∈ ls.bitmap := by
  unfold includes; rw [contains_iff, Nat.add_comm]

theorem includes_add (ls : LeafSet) (p q : Nat) :
    (ls.add p).includes q = (decide (q = p) || ls.includes q) := by
  unfold add includes
  rw [Bool.eq_iff_iff]
  simp only [contains_iff, mem_add, Bool.or_eq_true, decide_eq_true_eq]
  constructor
  · rintro (h | h)
    · left; omega
    · right; exact h
  · rintro (h | h)
    · left; omega
    · right; exact h

theorem includes_remove (ls : LeafSet) (p q : Nat) :
    (ls.remove p).includes q = (!decide (q = p) && ls.includes q) := by
  unfold remove includes
  rw [Bool.eq_iff_iff]
  simp only [contains_iff, mem_remove, Bool.and_eq_true, Bool.not_eq_true', decide_eq_false_iff_not]
  constructor
  · rintro ⟨h1, h2⟩; exact ⟨by omega, h1⟩
  · rintro ⟨h1, h2⟩; exact ⟨h2, by omega⟩

theorem mem_rewind (ls : LeafSet) (cutoff : Nat) (rm : Bitmap) (hs : Sorted ls.bitmap) (x : Nat) :
    x ∈ (ls.rewind cutoff rm).bitmap ↔ (x ∈ ls.bitmap ∧ x ≤ cutoff) ∨ x ∈ rm := by
  unfold rewind
  simp only [mem_or, mem_removeRange]
  constructor
  · rintro (⟨h1, h2⟩ | h)
    · left; refine ⟨h1, ?_⟩
      have := le_maximum_of_sorted hs x h1
      omega
    · right; exact h
  · rintro (⟨h1, h2⟩ | h)
    · left; exact ⟨h1, by omega⟩
    · right; exact h

theorem mem_unprunedPreCutoff (cutoff : Nat) (pl : PruneList) (x : Nat) :
    x ∈ unprunedPreCutoff cutoff pl ↔
      1 ≤ x ∧ x ≤ cutoff ∧ isLeaf (x - 1) = true ∧ pl.isPruned (x - 1) = false := by
  unfold unprunedPreCutoff
  simp only [List.mem_filter, List.mem_range', Bool.and_eq_true, Bool.not_eq_true']
  constructor
  · rintro ⟨⟨i, hi, rfl⟩, h1, h2⟩
    exact ⟨by omega, by omega, h1, h2⟩
  · rintro ⟨h1, h2, h3, h4⟩
    exact ⟨⟨x - 1, by omega, by omega⟩, h3, h4⟩

/-- **compaction only ever selects spent leaves at or below the cutoff** -/
theorem mem_removedPreCutoff_iff {ls : LeafSet} {cutoff : Nat} {rm : Bitmap} {pl : PruneList} {x : Nat} :
    x ∈ ls.removedPreCutoff cutoff rm pl ↔
      1 ≤ x ∧ x ≤ cutoff ∧ x ∉ ls.bitmap ∧ x ∉ rm ∧ isLeaf (x - 1) = true ∧ pl.isPruned (x - 1) = false := by
  unfold removedPreCutoff
  rw [mem_and, mem_flip, mem_unprunedPreCutoff, mem_or, mem_removeRange]
  constructor
  · rintro ⟨⟨_, h2⟩ | ⟨_, _, h3⟩, h1, hc, hleaf, hnp⟩
    · omega
    · exact ⟨h1, hc, fun hm => h3 (Or.inl ⟨hm, by omega⟩), fun hm => h3 (Or.inr hm), hleaf, hnp⟩
  · rintro ⟨h1, h2, h3, h4, h5, h6⟩
    refine ⟨Or.inr ⟨h1, by omega, ?_⟩, h1, h2, h5, h6⟩
    rintro (⟨hm, _⟩ | hm)
    · exact h3 hm
    · exact h4 hm

end LeafSet

namespace Backend
variable {H : Type}

theorem fixed_unique {b : Backend H} {f g : AOF Bytes} (h1 : b.dataFile = .fixed f)
    (h2 : b.dataFile = .fixed g) : f = g := by
  rw [h1] at h2; exact DFile.fixed.inj h2

/-- operations of one unit of work on the backend -/
inductive Op (H : Type)
  | append (data : Bytes) (hashes : List H)
  | remove (pos0 : Nat)
  | rewind (position : Nat) (rm : Bitmap)

def Op.apply (b : Backend H) : Op H → Backend H
  | .append data hashes => (b.append data hashes).getD b
  | .remove p => b.remove p
  | .rewind p rm => b.rewind p rm

/-- a synced backend with a fixed-size data file -/
structure CleanFixed (b : Backend H) (df : AOF Bytes) : Prop where
  hash : b.hashFile.Clean
  data : b.dataFile = .fixed df
  dataClean : df.Clean
  leaf : b.leafSet.Clean

/-- the file positions a `rewind(position, _)` asks for lie inside the synced files (usage
protocol: rewind targets are earlier committed sizes not below the last compaction cutoff) -/
def Op.Within (b0 : Backend H) (df0 : AOF Bytes) : Op H → Prop
  | .rewind position _ =>
    position - (if position = 0 then 0 else b0.pruneList.getShift (position - 1)) ≤ b0.hashFile.disk.length ∧
    nLeaves position - (if position = 0 then 0 else b0.pruneList.getLeafShift position) ≤ df0.disk.length
  | _ => True

/-- what stays fixed / in-unit while a unit of work runs -/
structure InUnit (b0 : Backend H) (df0 : AOF Bytes) (b : Backend H) : Prop where
  pl : b.pruneList = b0.pruneList
  pf : b.pruneFile = b0.pruneFile
  hash : AOF.InUnit b0.hashFile.disk b.hashFile
  data : ∃ df, b.dataFile = .fixed df ∧ AOF.InUnit df0.disk df
  leaf : b.leafSet.bak = b0.leafSet.bak

theorem inUnit_apply {b0 b : Backend H} {df0 : AOF Bytes} (h : InUnit b0 df0 b) (op : Op H)
    (hw : op.Within b0 df0) : InUnit b0 df0 (op.apply b) := by
  obtain ⟨hpl, hpf, hh, ⟨df, hdf, hd⟩, hl⟩ := h
  cases op with
  | append data hashes =>
    simp only [Op.apply, Backend.append, hdf, DFile.append]
    exact ⟨hpl, hpf, AOF.inUnit_apply hh (.extend hashes) trivial,
      ⟨_, rfl, AOF.inUnit_apply hd (.append data) trivial⟩, hl⟩
  | remove p => exact ⟨hpl, hpf, hh, ⟨df, hdf, hd⟩, hl⟩
  | rewind position rm =>
    obtain ⟨hw1, hw2⟩ := hw
    simp only [Op.apply, Backend.rewind, hdf, DFile.rewind, hpl]
    exact ⟨rfl, hpf, AOF.inUnit_apply hh (.rewind _) hw1,
      ⟨_, rfl, AOF.inUnit_apply hd (.rewind _) hw2⟩, hl⟩

theorem inUnit_foldl {b0 : Backend H} {df0 : AOF Bytes} (ops : List (Op H)) {b : Backend H}
    (h : InUnit b0 df0 b) (hw : ∀ op ∈ ops, op.Within b0 df0) :
    InUnit b0 df0 (ops.foldl Op.apply b) :=
  List.foldlRecOn ops _ h fun _ hb op hop => inUnit_apply hb op (hw op hop)

theorem inUnit_refl {b : Backend H} {df : AOF Bytes} (hc : CleanFixed b df) : InUnit b df b :=
  ⟨rfl, rfl, AOF.inUnit_of_clean hc.hash, ⟨df, hc.data, AOF.inUnit_of_clean hc.dataClean⟩, rfl⟩

theorem discard_of_inUnit {b0 b : Backend H} {df0 : AOF Bytes} (hc : CleanFixed b0 df0)
    (h : InUnit b0 df0 b) : b.discard = b0 := by
  obtain ⟨df', hdf, hd⟩ := h.data
  have e1 : b.hashFile.discard = b0.hashFile :=
    (AOF.discard_of_inUnit h.hash).trans (AOF.ofDisk_of_clean hc.hash)
  have e2 : b.dataFile.discard = b0.dataFile := by
    rw [hdf, hc.data, DFile.discard, AOF.discard_of_inUnit hd, AOF.ofDisk_of_clean hc.dataClean]
  have e3 : b.leafSet.discard = b0.leafSet := LeafSet.discard_of_clean_bak hc.leaf h.leaf
  cases b0
  simp only [discard, e1, e2, e3, h.pl, h.pf]

end Backend

/-- the durable part of a data file: the file itself and, for variable-size elements, its size
file -/
def DFile.onDisk : DFile → List Bytes × List SizeEntry
  | .fixed f => (f.disk, [])
  | .var v => ([v.disk], v.sizeFile.disk)

/-- everything of a backend that is on disk: hash file, data file (+ size file), leaf-set file,
prune-list file -/
def Backend.onDisk {H : Type} (b : Backend H) : List H × (List Bytes × List SizeEntry) × Bitmap × Bitmap :=
  (b.hashFile.disk, b.dataFile.onDisk, b.leafSet.bak, b.pruneFile)

theorem DFile.onDisk_append {d d' : DFile} {e : Bytes} {n : Nat} (h : d.append e = some (d', n)) :
    d'.onDisk = d.onDisk := by
  cases d with
  | fixed f =>
    simp only [DFile.append, Option.some.injEq, Prod.mk.injEq] at h
    rw [← h.1]; rfl
  | var v =>
    simp only [DFile.append] at h
    cases hv : VarFile.append v e with
    | none => rw [hv] at h; exact absurd h (by simp)
    | some v' =>
      rw [hv] at h
      simp only [Option.some.injEq, Prod.mk.injEq] at h
      rw [← h.1]
      unfold VarFile.append at hv
      dsimp only at hv
      split at hv
      · exact absurd hv (by simp)
      · simp only [Option.some.injEq] at hv
        rw [← hv]; rfl

theorem DFile.onDisk_rewind (d : DFile) (pos : Nat) : (d.rewind pos).onDisk = d.onDisk := by
  cases d <;> rfl

theorem DFile.onDisk_discard (d : DFile) : d.discard.onDisk = d.onDisk := by
  cases d <;> rfl

namespace Backend
variable {H : Type}

theorem onDisk_apply (b : Backend H) (op : Op H) : (op.apply b).onDisk = b.onDisk := by
  cases op with
  | append data hashes =>
    simp only [Op.apply, Backend.append]
    cases ha : b.dataFile.append data with
    | none => rfl
    | some r =>
      obtain ⟨df, size⟩ := r
      simp only [Option.getD_some]
      unfold onDisk
      simp only [DFile.onDisk_append ha]
      rfl
  | remove p => rfl
  | rewind position rm =>
    simp only [Op.apply, Backend.rewind]
    unfold onDisk
    simp only [DFile.onDisk_rewind]
    rfl

theorem onDisk_discard (b : Backend H) : b.discard.onDisk = b.onDisk := by
  unfold onDisk discard
  simp only [DFile.onDisk_discard]
  rfl

end Backend
end GV.Store
