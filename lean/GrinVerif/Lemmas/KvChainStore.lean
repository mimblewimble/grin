import GrinVerif.Model.ChainStore
import GrinVerif.Lemmas.KvProg
/-! Helper lemmas for the typed layer of C18 (`chain/src/store.rs` over `store/src/lmdb.rs`):
typed keys do not alias, lowering of typed batch bodies commutes with flattening. -/
namespace GV.ChainStore
open GV GV.Kv

/-- the typed object a `(db, key)` pair addresses -/
def TKey.ofKey : Key → Option TKey
  | (0, [72]) => some .head
  | (0, [84]) => some .tail
  | (0, [71]) => some .headerHead
  | (0, [73]) => some .pibdHead
  | (d, h) =>
    if d = DB_HEADER then some (.header h) else if d = DB_BLOCK then some (.block h)
    else if d = DB_SUMS then some (.sums h) else if d = DB_SPENT then some (.spent h)
    else if d = DB_OUTPOS then some (.outPos h) else none

theorem TKey.ofKey_key (a : TKey) : TKey.ofKey a.key = some a := by
  cases a <;> rfl

theorem TKey.key_inj {a b : TKey} : a.key = b.key ↔ a = b :=
  ⟨fun h => Option.some.inj (by rw [← TKey.ofKey_key a, h, TKey.ofKey_key b]), fun e => e ▸ rfl⟩

theorem tstep_save (st : St) (k : TKey) (v : Val) : tstep st (.save k v) = step st (.put k.key v) := rfl

theorem tstep_deleteBlock (st : St) (h : Bytes) : tstep st (.deleteBlock h) =
    step (step (step st (.del (TKey.block h).key)) (.del (TKey.sums h).key)) (.del (TKey.spent h).key) := rfl

theorem prependOps_flat_lower (o : TOp) (p : Prog) : (prependOps o.lower p).flat = o.lower ++ p.flat := by
  cases o <;> simp [TOp.lower, prependOps, Prog.flat]

/-- the store-level body a typed body denotes performs exactly the operations the typed layer
executes -/
theorem flat_lower : ∀ p : TProg, p.lower.flat = p.flat
  | .done => rfl
  | .op o rest => by
    simp only [TProg.lower, TProg.flat, prependOps_flat_lower, flat_lower rest]
  | .child b c rest => by
    simp only [TProg.lower, TProg.flat, Prog.flat, flat_lower b, flat_lower rest]

theorem ttxn_eq (p : TProg) (c : Bool) : ttxn p c = txn p.lower c := by
  simp [ttxn, txn, flat_lower]

theorem stack_put (st : St) (k : Key) (v : Val) (h : st.stack ≠ []) : (step st (.put k v)).stack ≠ [] := by
  obtain ⟨c, o, s, rfl⟩ := eq_of_stack_ne_nil h
  exact List.cons_ne_nil _ _

end GV.ChainStore
