import GrinVerif.Lemmas.DesegRequest
/-! Closing the loop of the state-sync machine: the node asks (`next_desired_segments`), the peers
answer every request with a valid segment (among anything else, in any order), the node applies
(`apply_next_segments`): what a round of deliveries leaves unchanged and what it leaves in the
caches (`next_cached`), so that serving the request list gives the machine what it needs next
(`served_is_needed`). -/
namespace GV.Deseg
open GV GV.Pmmr GV.Seg

theorem Frame.heightOf {s s' : St} (f : Frame s s') (k : Kind) : s'.heightOf k = s.heightOf k := by
  cases k
  · exact f.hB
  · exact f.hO
  · exact f.hR
  · exact f.hK

theorem Frame.archiveOf {s s' : St} (f : Frame s s') (k : Kind) : s'.archiveOf k = s.archiveOf k := by
  cases k
  · exact f.bmSize
  · exact f.outSize
  · exact f.outSize
  · exact f.kerSize

theorem deliverAll_cache_sub (ds : List Delivery) (s : St) (k : Kind) (c : Cached)
    (hc : c ∈ (s.treeOf k).cache) : c ∈ ((s.deliverAll ds).treeOf k).cache :=
  List.foldlRecOn (motive := fun b => c ∈ (b.treeOf k).cache) ds St.deliver hc
    fun b hb d _ => add_cache_sub b d.kind k d.seg c hb

theorem deliverAll_cached : ∀ (ds : List Delivery) (s : St) (d : Delivery), d ∈ ds →
    d.seg.id.height = s.heightOf d.kind → d.seg.id.unprunedSize (s.archiveOf d.kind) ≠ 0 →
    d.seg.valid = true → ∃ c ∈ ((s.deliverAll ds).treeOf d.kind).cache, c.id = d.seg.id
  | [], _, _, hm, _, _, _ => by cases hm
  | d0 :: ds, s, d, hm, h1, h2, h3 => by
    show ∃ c ∈ (((s.deliver d0).deliverAll ds).treeOf d.kind).cache, c.id = d.seg.id
    rcases List.mem_cons.mp hm with he | ht
    · subst he
      have hok : (s.addSegment d.kind d.seg).2 = .ok := (addSegment_ok_iff s d.kind d.seg).mpr ⟨h1, h2, h3⟩
      obtain ⟨c, hc, hid⟩ := (hasId_iff _ _).mp (add_cached s d.kind d.seg hok)
      exact ⟨c, deliverAll_cache_sub ds _ d.kind c hc, hid⟩
    · have f : Frame s (s.deliver d0) := add_frame s d0.kind d0.seg
      refine deliverAll_cached ds _ d ht ?_ ?_ h3
      · rw [f.heightOf]; exact h1
      · rw [f.archiveOf]; exact h2

/-- the peers answer every identifier of the request list with a valid segment of that identifier
(anything else may be delivered too, in any order, any number of times) -/
def Answers (req : List (Kind × Ident)) (ds : List Delivery) : Prop :=
  ∀ x ∈ req, ∃ d ∈ ds, d.kind = x.1 ∧ d.seg.id = x.2 ∧ d.seg.valid = true

theorem next_cached (s : St) (ds : List Delivery) (req : List (Kind × Ident)) (ha : Answers req ds)
    (K : Kind) (k N : Nat) (hh : s.heightOf K ≤ 61) (hN : N < 2 ^ 62) (harch : s.archiveOf K = mmr N)
    (hlo : k * 2 ^ s.heightOf K < N)
    (hreq : hasId (s.treeOf K).cache { height := s.heightOf K, idx := k } = false →
      (K, ({ height := s.heightOf K, idx := k } : Ident)) ∈ req) :
    ∃ c ∈ ((s.deliverAll ds).treeOf K).cache, c.id.idx = k := by
  cases hc : hasId (s.treeOf K).cache { height := s.heightOf K, idx := k } with
  | true =>
    obtain ⟨c, hc1, hid⟩ := (hasId_iff _ _).mp hc
    exact ⟨c, deliverAll_cache_sub ds s K c hc1, by rw [hid]⟩
  | false =>
    obtain ⟨d, hd, hk, hid, hv⟩ := ha _ (hreq hc)
    simp only at hk hid
    have h1 : d.seg.id.height = s.heightOf d.kind := by rw [hid, hk]
    have h2 : d.seg.id.unprunedSize (s.archiveOf d.kind) ≠ 0 := by
      rw [hid, hk, harch]
      exact unprunedSize_pos ⟨s.heightOf K, k⟩ N hh hN hlo
    obtain ⟨c, hc, hcid⟩ := deliverAll_cached ds s d hd h1 h2 hv
    rw [hk] at hc
    exact ⟨c, hc, by rw [hcid, hid]⟩

theorem served_is_needed (No Nk : Nat) (s : St) (hi : Inv No Nk s) (hr : s.remaining ≠ 0)
    (max : Nat) (hm : 3 ≤ max) (ds : List Delivery) (ha : Answers (s.desired max) ds) :
    Needed No Nk (s.deliverAll ds) := by
  have f := deliverAll_frame ds s
  have hbmL : (s.deliverAll ds).bm.leaves = s.bm.leaves := congrArg nLeaves f.bm
  have hoL : (s.deliverAll ds).out.leaves = s.out.leaves := congrArg nLeaves f.out
  have hrL : (s.deliverAll ds).rp.leaves = s.rp.leaves := congrArg nLeaves f.rp
  have hkL : (s.deliverAll ds).ker.leaves = s.ker.leaves := congrArg nLeaves f.ker
  have par := hi.par
  unfold Needed
  rw [f.hB, f.hO, f.hR, f.hK, hbmL, hoL, hrL, hkL, f.bc]
  rcases next_exists No Nk s hi hr with ⟨k, p⟩ | ⟨pn, hrest⟩
  · have hbc : s.bitmapCache = false := by
      cases h : s.bitmapCache with
      | false => rfl
      | true =>
        have := hi.fin h
        have := p.lt_of_some
        omega
    refine Or.inl ⟨k, p, next_cached s ds _ ha .bitmap k (Dsg.expectedChunks No) par.hB
      (chunks_small No par.NoS) par.bms p.lo_lt (fun hc => ?_)⟩
    obtain ⟨t, ht⟩ := desired_bitmap_next No Nk s hi hbc k p hc max
    rw [ht]; exact List.mem_cons_self
  · refine Or.inr ⟨pn, ?_⟩
    cases hbc : s.bitmapCache with
    | false => exact Or.inl rfl
    | true =>
      obtain ⟨mo, mr, mk⟩ := desired_all_next No Nk s hi hbc max hm
      rcases hrest with hb | ⟨k, p⟩ | ⟨k, p⟩ | ⟨k, p⟩
      · rw [hbc] at hb; cases hb
      · exact Or.inr (Or.inl ⟨k, p, next_cached s ds _ ha .output k No par.hO par.NoS par.out
          p.lo_lt (mo k p)⟩)
      · exact Or.inr (Or.inr (Or.inl ⟨k, p, next_cached s ds _ ha .rangeproof k No par.hR par.NoS par.out
          p.lo_lt (mr k p)⟩))
      · exact Or.inr (Or.inr (Or.inr ⟨k, p, next_cached s ds _ ha .kernel k Nk par.hK par.NkS par.ker
          p.lo_lt (mk k p)⟩))

end GV.Deseg
