import GrinVerif.Lemmas.NrdSpec
import GrinVerif.Lemmas.ChainApply
/-! Connection between the NRD index specification (`Model/NrdIndex.lean`: per excess the list of
occurrences on the path) and the specification the chain model decides NRD with
(`Model/Chain.lean`: `UState.nrd`, one list of (excess, height) for the whole path, searched with
`find?` by `nrdBad`). -/
namespace GV.Nrd
open GV.Chain (Ker UState)

def nrdOfChain (b : Chain.Blk) : List (String × Nat) :=
  b.kers.filterMap fun k => match k with
    | .nrd _ rel ex => some (ex, rel)
    | _ => none

def nrdOfIdx (ks : List (Kernel String × Nat)) : List (String × Nat) :=
  ks.filterMap fun kp => kp.1.nrd.map fun rel => (kp.1.excess, rel)

structure Matches (cb : Chain.Blk) (ib : Blk String) : Prop where
  height : ib.height = cb.h
  kernels : nrdOfIdx ib.kernels = nrdOfChain cb

inductive PathMatches : List Chain.Blk → List (Blk String) → Prop
  | nil : PathMatches [] []
  | cons {cb : Chain.Blk} {ib : Blk String} {cbs : List Chain.Blk} {ibs : List (Blk String)} :
      Matches cb ib → PathMatches cbs ibs → PathMatches (cb :: cbs) (ib :: ibs)

/-- the chain model's list and the index specification agree on the height of the most recent
occurrence of every excess (all that the NRD rule reads) -/
def SameRecent (N : List (String × Nat)) (S : Spec String) : Prop :=
  ∀ ex, (N.find? (·.1 == ex)).map (·.2) = (S ex).head?.map (·.height)

theorem nrdOf_eq_map (b : Chain.Blk) : Chain.nrdOf b = (nrdOfChain b).map (fun er => (er.1, b.h)) := by
  simp only [Chain.nrdOf, nrdOfChain, List.map_filterMap]
  congr 1
  funext k
  cases k <;> rfl

theorem find_map_height (l : List (String × Nat)) (h : Nat) (ex : String) :
    ((l.map (fun er => (er.1, h))).find? (·.1 == ex)).map (·.2) =
      if ex ∈ l.map (·.1) then some h else none := by
  induction l with
  | nil => simp
  | cons a l ih =>
    by_cases ha : a.1 = ex
    · simp [ha]
    · have ha' : ¬ ex = a.1 := fun h => ha h.symm
      have hb : (a.1 == ex) = false := by simp [ha]
      simp only [List.map_cons, List.find?_cons, hb, List.mem_cons, ha', false_or]
      exact ih

theorem mem_nrdOfIdx (ks : List (Kernel String × Nat)) (ex : String) :
    ex ∈ (nrdOfIdx ks).map (·.1) ↔ ks.any (isNrdOf ex) = true := by
  simp only [nrdOfIdx, List.mem_map, List.mem_filterMap, List.any_eq_true, isNrdOf, Bool.and_eq_true,
    decide_eq_true_eq]
  constructor
  · rintro ⟨_, ⟨kp, hk, hm⟩, rfl⟩
    cases hn : kp.1.nrd with
    | none => rw [hn] at hm; cases hm
    | some rel => rw [hn] at hm; cases hm; exact ⟨kp, hk, by rw [hn]; rfl, rfl⟩
  · rintro ⟨kp, hk, hs, rfl⟩
    obtain ⟨rel, hr⟩ := Option.isSome_iff_exists.mp hs
    exact ⟨_, ⟨kp, hk, by rw [hr]; rfl⟩, rfl⟩

theorem kernelsEntries_head (h : Nat) (ks : List (Kernel String × Nat)) (ex : String) :
    (kernelsEntries h ks ex).head?.map (·.height) = if ks.any (isNrdOf ex) then some h else none := by
  induction ks with
  | nil => rfl
  | cons kp ks ih =>
    rw [kernelsEntries_cons, List.head?_append, Option.map_or, ih, List.any_cons]
    cases isNrdOf ex kp <;> cases ks.any (isNrdOf ex) <;> rfl

theorem SameRecent.effects {s : UState} {S S' : Spec String} {cb : Chain.Blk} {ib : Blk String}
    (h : SameRecent s.nrd S) (hm : Matches cb ib) (hok : sApplyBlock S ib = ⟨S', .ok ()⟩) :
    SameRecent (Chain.effects s cb).nrd S' := by
  intro ex
  rw [Chain.effects_nrd, nrdOf_eq_map, sApplyKernels_ok hok ex, List.find?_append, List.head?_append, Option.map_or,
    Option.map_or, find_map_height, kernelsEntries_head, hm.height, h ex]
  simp only [← hm.kernels, mem_nrdOfIdx]

/-- with pairwise distinct NRD excesses in the block (`verify_no_nrd_duplicates`) and kernel
positions above everything recorded, the sequential peek / check / push loop accepts the block iff
every NRD kernel passes the rule against the state *before* the block -/
theorem sApplyKernels_ok_iff (h : Nat) (ks : List (Kernel String × Nat)) (S : Spec String)
    (hnd : ((nrdOfIdx ks).map (·.1)).Nodup)
    (hpos : ∀ kp ∈ ks, kp.1.nrd.isSome → ∀ x ∈ S kp.1.excess, x.pos < kp.2) :
    (sApplyKernels S h ks).res = .ok () ↔ ∀ er ∈ nrdOfIdx ks, specNrdOk (S er.1) h er.2 = true := by
  induction ks generalizing S with
  | nil => simp [sApplyKernels, nrdOfIdx]
  | cons kp ks ih =>
    obtain ⟨k, pos⟩ := kp
    cases hn : k.nrd with
    | none =>
      have hidx : nrdOfIdx ((k, pos) :: ks) = nrdOfIdx ks := by simp [nrdOfIdx, hn]
      rw [hidx] at hnd ⊢
      simp only [sApplyKernels, sApplyKernelRules, hn]
      exact ih S hnd (fun kp hm => hpos kp (List.mem_cons_of_mem _ hm))
    | some rel =>
      have hidx : nrdOfIdx ((k, pos) :: ks) = (k.excess, rel) :: nrdOfIdx ks := by simp [nrdOfIdx, hn]
      rw [hidx] at hnd ⊢
      simp only [List.map_cons, List.nodup_cons] at hnd
      obtain ⟨hnot, hnd'⟩ := hnd
      cases hrule : specNrdOk (S k.excess) h rel with
      | false =>
        simp [sApplyKernels, sApplyKernelRules, hn, hrule]
      | true =>
        have hpush : specPushOk (S k.excess) ⟨pos, h⟩ = true := by
          have hp := hpos (k, pos) (by simp) (by simp [hn])
          cases hl : S k.excess with
          | nil => rfl
          | cons q t =>
            simp only [specPushOk, decide_eq_true_eq]
            exact hp q (by rw [hl]; simp)
        simp only [sApplyKernels, sApplyKernelRules, hn, hrule, if_true, sPush, hpush]
        have hS1 : ∀ ex, ex ≠ k.excess → upd S k.excess (⟨pos, h⟩ :: S k.excess) ex = S ex :=
          fun ex hne => upd_other S _ hne
        have hne : ∀ er ∈ nrdOfIdx ks, er.1 ≠ k.excess :=
          fun er her heq => hnot (List.mem_map.mpr ⟨er, her, heq⟩)
        -- the later NRD kernels have other excesses, so the push leaves their lists alone
        have hpos' : ∀ kp ∈ ks, kp.1.nrd.isSome →
            ∀ x ∈ upd S k.excess (⟨pos, h⟩ :: S k.excess) kp.1.excess, x.pos < kp.2 := by
          intro kp hm hs x hx
          obtain ⟨rel', hr⟩ := Option.isSome_iff_exists.mp hs
          rw [hS1 _ (hne (kp.1.excess, rel') (List.mem_filterMap.mpr ⟨kp, hm, by rw [hr]; rfl⟩))] at hx
          exact hpos kp (List.mem_cons_of_mem _ hm) hs x hx
        rw [ih _ hnd' hpos', List.forall_mem_cons]
        simp only [hrule, true_and]
        refine forall₂_congr fun er her => ?_
        rw [hS1 _ (hne er her)]

theorem nrdBad_eq (s : UState) (b : Chain.Blk) :
    Chain.nrdBad s b = (nrdOfChain b).any fun er =>
      match s.nrd.find? (·.1 == er.1) with
      | some (_, hPrev) => decide (b.h < hPrev + er.2)
      | none => false := by
  unfold Chain.nrdBad nrdOfChain
  rw [List.any_filterMap]
  congr 1
  funext k
  cases k <;> rfl

end GV.Nrd
