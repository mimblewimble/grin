import GrinVerif.Lemmas.StoreBitmap
import GrinVerif.Lemmas.PmmrShape
import GrinVerif.Lemmas.UtilList
/-! The prune-list invariant (`PruneList.Inv`): what every list built by `append`s satisfies,
and what `get_shift` / `get_leaf_shift` compute under it (DESIGN A.5). No Mathlib. -/
namespace GV.Store
open GV GV.Pmmr

/-- running sums of `f` over the 0-based roots of a 1-based bitmap, starting at `acc` -/
def scanFrom (f : Nat → Nat) : Nat → List Nat → List Nat
  | _, [] => []
  | acc, x :: xs => (acc + f (x - 1)) :: scanFrom f (acc + f (x - 1)) xs

def sumF (f : Nat → Nat) : List Nat → Nat
  | [] => 0
  | x :: xs => f (x - 1) + sumF f xs

theorem sumF_append (f : Nat → Nat) (l r : List Nat) : sumF f (l ++ r) = sumF f l + sumF f r := by
  induction l with
  | nil => simp [sumF]
  | cons a t ih => simp [sumF, ih]; omega

theorem scanFrom_length (f : Nat → Nat) (a : Nat) (l : List Nat) : (scanFrom f a l).length = l.length := by
  induction l generalizing a with
  | nil => rfl
  | cons x xs ih => simp [scanFrom, ih]

theorem scanFrom_append (f : Nat → Nat) (a : Nat) (l : List Nat) (x : Nat) :
    scanFrom f a (l ++ [x]) = scanFrom f a l ++ [a + sumF f l + f (x - 1)] := by
  induction l generalizing a with
  | nil => simp [scanFrom, sumF]
  | cons y ys ih => simp [scanFrom, sumF, ih]; omega

theorem scanFrom_take (f : Nat → Nat) (a : Nat) (l : List Nat) (k : Nat) :
    (scanFrom f a l).take k = scanFrom f a (l.take k) := by
  induction l generalizing a k with
  | nil => simp [scanFrom]
  | cons y ys ih =>
    cases k with
    | zero => simp [scanFrom]
    | succ k => simp [scanFrom, ih]

theorem scanFrom_getD (f : Nat → Nat) (a : Nat) (l : List Nat) (k : Nat) (hk : k < l.length) :
    (scanFrom f a l).getD k 0 = a + sumF f (l.take (k + 1)) := by
  induction l generalizing a k with
  | nil => simp at hk
  | cons y ys ih =>
    cases k with
    | zero => simp [scanFrom, sumF]
    | succ k =>
      have hk' : k < ys.length := by simpa using hk
      simp only [scanFrom, List.getD_cons_succ, List.take_succ_cons, sumF]
      rw [ih _ _ hk']; omega

namespace PruneList

theorem cacheAt_scan (f : Nat → Nat) (l : List Nat) (k : Nat) (hk : k ≤ l.length) :
    cacheAt (scanFrom f 0 l) k = sumF f (l.take k) := by
  unfold cacheAt
  by_cases h0 : k = 0
  · simp [h0, sumF]
  · rw [if_neg h0, scanFrom_length, Nat.min_eq_left hk, scanFrom_getD f 0 l (k - 1) (by omega)]
    have : k - 1 + 1 = k := by omega
    rw [this]; omega

/-- the cache entry `get_total_shift` / `get_total_leaf_shift` read -/
theorem cacheAt_total {bm : Bitmap} (hs : Sorted bm) (hpos : ∀ x ∈ bm, 1 ≤ x) (f : Nat → Nat) :
    cacheAt (scanFrom f 0 bm) (Bm.rank bm (1 + ((Bm.maximum bm).getD 1 - 1))) = sumF f bm := by
  rw [cacheAt_scan _ _ _ (rank_le_length _ _)]
  congr 1
  unfold Bm.rank
  rw [← filter_le_eq_take _ hs, List.filter_eq_self]
  intro x hx
  have h1 := le_maximum_of_sorted hs x hx
  cases hm : Bm.maximum bm with
  | none => rw [List.getLast?_eq_none_iff.1 hm] at hx; exact absurd hx (by simp)
  | some m =>
    rw [hm] at h1
    have := hpos m (maximum_mem hm)
    simp only [Option.getD_some] at h1 ⊢
    simp; omega

def isPrunedBm (bm : Bitmap) (pos0 : Nat) : Bool := isPruned { bitmap := bm } pos0

/-- roll-up closure: the sibling of every root is not pruned by the roots before it (otherwise
`append` would have replaced both by their parent) -/
def RollupClosed (bm : Bitmap) : Prop :=
  ∀ k, (h : k < bm.length) → isPrunedBm (bm.take k) (family (bm[k] - 1)).2 = false

/-- The invariant of a prune list built by `append`:
positions are 1-based, strictly ascending; the subtree of every root lies entirely to the right
of all earlier roots (no root inside another root's subtree, no overlap); both caches hold the
running sums of the per-root shifts; no root has a pruned sibling. -/
structure Inv (pl : PruneList) : Prop where
  pos : ∀ x ∈ pl.bitmap, 1 ≤ x
  sorted : Sorted pl.bitmap
  disj : List.Pairwise (fun a b => a ≤ bintreeLeftmost (b - 1)) pl.bitmap
  shift : pl.shiftCache = scanFrom rootShift 0 pl.bitmap
  leaf : pl.leafShiftCache = scanFrom rootLeafShift 0 pl.bitmap
  closed : RollupClosed pl.bitmap

theorem inv_empty : Inv {} :=
  ⟨by simp, List.Pairwise.nil, List.Pairwise.nil, rfl, rfl, fun k h => by simp at h⟩

theorem getShift_spec {pl : PruneList} (h : Inv pl) (pos0 : Nat) :
    getShift pl pos0 = sumF rootShift (pl.bitmap.filter (· ≤ 1 + pos0)) := by
  unfold getShift
  rw [h.shift, cacheAt_scan _ _ _ (rank_le_length _ _), filter_le_eq_take _ h.sorted]; rfl

theorem getLeafShift_spec {pl : PruneList} (h : Inv pl) (pos0 : Nat) :
    getLeafShift pl pos0 = sumF rootLeafShift (pl.bitmap.filter (· ≤ 1 + pos0)) := by
  unfold getLeafShift
  rw [h.leaf, cacheAt_scan _ _ _ (rank_le_length _ _), filter_le_eq_take _ h.sorted]; rfl

theorem inv_take {pl : PruneList} (h : Inv pl) (k : Nat) :
    Inv { bitmap := pl.bitmap.take k, shiftCache := pl.shiftCache.take k,
          leafShiftCache := pl.leafShiftCache.take k } := by
  refine ⟨fun x hx => h.pos x (List.mem_of_mem_take hx), List.Pairwise.take h.sorted,
    List.Pairwise.sublist (List.take_sublist k _) h.disj, ?_, ?_, ?_⟩
  · simp only; rw [h.shift, scanFrom_take]
  · simp only; rw [h.leaf, scanFrom_take]
  · intro j hj
    simp only [List.length_take] at hj
    have hj' : j < pl.bitmap.length := by omega
    have := h.closed j hj'
    simp only [List.take_take, List.getElem_take]
    rwa [Nat.min_eq_left (by omega)]

theorem mem_cleanup {pl : PruneList} (h : Inv pl) (p x : Nat) :
    x ∈ (cleanupSubtree pl p).bitmap ↔ x ∈ pl.bitmap ∧ x ≤ bintreeLeftmost p := by
  unfold cleanupSubtree
  simp only
  split
  · rename_i hge
    constructor
    · intro hx
      have := le_maximum_of_sorted h.sorted x hx
      exact ⟨hx, by omega⟩
    · exact fun hx => hx.1
  · rw [removeRange_to_max _ h.sorted (le_maximum_of_sorted h.sorted)]
    simp only [Bm.rank]
    rw [← filter_le_eq_take _ h.sorted]
    simp [List.mem_filter]

theorem cleanup_inv {pl : PruneList} (h : Inv pl) (pos0 : Nat) :
    Inv (cleanupSubtree pl pos0) ∧
    (∀ x ∈ (cleanupSubtree pl pos0).bitmap, x ≤ bintreeLeftmost pos0) ∧
    (∀ x ∈ (cleanupSubtree pl pos0).bitmap, x ∈ pl.bitmap) := by
  refine ⟨?_, fun x hx => ((mem_cleanup h pos0 x).1 hx).2, fun x hx => ((mem_cleanup h pos0 x).1 hx).1⟩
  unfold cleanupSubtree
  simp only
  split
  · exact h
  · rw [removeRange_to_max _ h.sorted (le_maximum_of_sorted h.sorted)]
    exact inv_take h _

theorem isPrunedBm_of_all_le {bm : Bitmap} {p : Nat} (hall : ∀ x ∈ bm, x ≤ 1 + p) :
    isPrunedBm bm p = Bm.contains bm (1 + p) := by
  unfold isPrunedBm isPruned isPrunedRoot
  simp only
  split
  · rename_i hc; simp [hc]
  · rename_i hc
    have hr : Bm.rank bm (1 + p) = bm.length := countP_eq_length_of_all_le hall
    simp [hr, Bm.select]
    simpa using hc

theorem rank_pred_getElem {l : List Nat} (hs : Sorted l) (k : Nat) (hk : k < l.length)
    (h0 : ¬ l[k] - 1 = 0) : Bm.rank l (1 + (l[k] - 1 - 1)) = k := by
  have hsplit : l = l.take k ++ l[k] :: l.drop (k + 1) := by
    rw [List.getElem_cons_drop]; simp
  have hs' := hs
  unfold Sorted at hs'
  rw [hsplit, List.pairwise_append] at hs'
  obtain ⟨_, h2, h3⟩ := hs'
  have h2' := List.pairwise_cons.1 h2
  generalize hv : l[k] = v at *
  unfold Bm.rank
  rw [hsplit, List.countP_append, List.countP_cons]
  rw [countP_eq_length_of_all_le (fun b hb => by have := h3 b hb v (by simp); omega)]
  rw [countP_eq_zero_of_all_gt (fun b hb => by have := h2'.1 b hb; omega)]
  have : ¬ (v ≤ 1 + (v - 1 - 1)) := by omega
  simp [this, List.length_take]; omega

theorem first_of_pred_zero {bm : Bitmap} (hs : Sorted bm) (hpos : ∀ x ∈ bm, 1 ≤ x) (k : Nat)
    (hk : k < bm.length) (hz : bm[k] - 1 = 0) : k = 0 := by
  cases k with
  | zero => rfl
  | succ j =>
    have hlt : bm[j] < bm[j+1] :=
      List.pairwise_iff_getElem.1 hs j (j+1) (by omega) hk (by omega)
    have := hpos _ (List.getElem_mem (show j < bm.length by omega))
    omega

/-- the left side is what `calculate_next_shift` reads for root `k` when the cache holds the
running sums of the roots before it (in `append_single` and in the cache rebuild) -/
theorem calc_at (f : Nat → Nat) {bm : Bitmap} (hs : Sorted bm) (hpos : ∀ x ∈ bm, 1 ≤ x) (c : List Nat)
    (k : Nat) (hk : k < bm.length) (hc : c = scanFrom f 0 (bm.take k)) :
    (if bm[k] - 1 = 0 then 0 else cacheAt c (Bm.rank bm (1 + (bm[k] - 1 - 1))))
      = sumF f (bm.take k) := by
  split
  · rename_i hz
    have hk0 := first_of_pred_zero hs hpos k hk hz
    subst hk0; simp [sumF]
  · rename_i hz
    rw [rank_pred_getElem hs k hk hz, hc,
      cacheAt_scan _ _ _ (by simp [List.length_take]; omega)]
    simp [List.take_take]

theorem appendSingle_inv {pl : PruneList} (h : Inv pl) (pos0 : Nat)
    (hall : ∀ x ∈ pl.bitmap, x ≤ bintreeLeftmost pos0)
    (hsib : Bm.contains pl.bitmap (1 + (family pos0).2) = false)
    (hsibpos : ∀ x ∈ pl.bitmap, x ≤ 1 + (family pos0).2) :
    Inv (appendSingle pl pos0) ∧ (appendSingle pl pos0).bitmap = pl.bitmap ++ [1 + pos0] := by
  have hlm := Co.leftmost_le pos0
  have hlt : ∀ y ∈ pl.bitmap, y < 1 + pos0 := fun y hy => by have := hall y hy; omega
  have hadd : Bm.add pl.bitmap (1 + pos0) = pl.bitmap ++ [1 + pos0] := add_eq_append hlt
  have hroot : Bm.contains (pl.bitmap ++ [1 + pos0]) (1 + pos0) = true := by simp [Bm.contains]
  have hs' : Sorted (pl.bitmap ++ [1 + pos0]) := sorted_append_singleton h.sorted hlt
  have hpos' : ∀ x ∈ pl.bitmap ++ [1 + pos0], 1 ≤ x := by
    intro x hx
    rcases List.mem_append.1 hx with hx | hx
    · exact h.pos x hx
    · simp at hx; omega
  have hprev : ∀ (f : Nat → Nat) (c : List Nat), c = scanFrom f 0 pl.bitmap →
      (if pos0 = 0 then 0 else cacheAt c (Bm.rank (pl.bitmap ++ [1 + pos0]) (1 + (pos0 - 1))))
        = sumF f pl.bitmap := by
    intro f c hc
    have := calc_at f hs' hpos' c pl.bitmap.length (by simp) (by simpa using hc)
    simpa using this
  have hbm : (appendSingle pl pos0).bitmap = pl.bitmap ++ [1 + pos0] := by
    simp [appendSingle, hadd]
  refine ⟨⟨?_, ?_, ?_, ?_, ?_, ?_⟩, hbm⟩
  · rw [hbm]; exact hpos'
  · rw [hbm]; exact hs'
  · rw [hbm, List.pairwise_append]
    refine ⟨h.disj, List.pairwise_singleton _ _, fun a ha b hb => ?_⟩
    have : b = 1 + pos0 := by simpa using hb
    subst this
    have := hall a ha
    simpa using this
  · rw [hbm, scanFrom_append]
    simp only [appendSingle, calculateNextShift, getShift, isPrunedRoot, hadd, hroot, if_true]
    rw [hprev rootShift _ h.shift, h.shift]
    simp
  · rw [hbm, scanFrom_append]
    simp only [appendSingle, calculateNextLeafShift, getLeafShift, isPrunedRoot, hadd, hroot, if_true]
    rw [hprev rootLeafShift _ h.leaf, h.leaf]
    simp
  · rw [hbm]
    intro k hk
    simp only [List.length_append, List.length_singleton] at hk
    by_cases hkl : k < pl.bitmap.length
    · rw [List.take_append_of_le_length (by omega), List.getElem_append_left hkl]
      exact h.closed k hkl
    · have hk' : k = pl.bitmap.length := by omega
      subst hk'
      rw [List.take_left, List.getElem_append_right (Nat.le_refl _)]
      simp only [Nat.sub_self, List.getElem_cons_zero, Nat.add_sub_cancel_left]
      rw [isPrunedBm_of_all_le hsibpos]; exact hsib

theorem append_nosib {pl : PruneList} (h : Inv pl) (pos0 : Nat)
    (hnp : isPruned pl (family pos0).2 = false) :
    Inv (appendSingle (cleanupSubtree pl pos0) pos0) ∧
    (appendSingle (cleanupSubtree pl pos0) pos0).bitmap = (cleanupSubtree pl pos0).bitmap ++ [1 + pos0] := by
  obtain ⟨hc, hall, hsub⟩ := cleanup_inv h pos0
  have hsibroot : Bm.contains pl.bitmap (1 + (family pos0).2) = false := by
    unfold isPruned at hnp
    by_cases hr : isPrunedRoot pl (family pos0).2 = true
    · simp [hr] at hnp
    · simpa [isPrunedRoot] using hr
  have hsib' : Bm.contains (cleanupSubtree pl pos0).bitmap (1 + (family pos0).2) = false := by
    refine Bool.eq_false_iff.2 fun hcc => ?_
    rw [contains_iff.2 (hsub _ (contains_iff.1 hcc))] at hsibroot
    exact absurd hsibroot (by simp)
  have hsibpos : ∀ x ∈ (cleanupSubtree pl pos0).bitmap, x ≤ 1 + (family pos0).2 := by
    intro x hx
    have h1 := hall x hx
    have h2 := hc.pos x hx
    have h3 := Co.leftmost_le pos0
    rcases Co.family_sibling_cases pos0 with (h4 | h4) | h4 <;> omega
  exact appendSingle_inv hc pos0 hall hsib' hsibpos

theorem appendFuel_inv (fuel : Nat) {pl : PruneList} (h : Inv pl) (pos0 : Nat) :
    Inv (appendFuel fuel pl pos0) := by
  induction fuel generalizing pos0 with
  | zero => exact h
  | succ n ih =>
    unfold appendFuel; simp only
    split
    · exact ih _
    · rename_i hnp
      exact (append_nosib h pos0 (by simpa using hnp)).1

theorem append_inv {pl : PruneList} (h : Inv pl) (pos0 : Nat) : Inv (append pl pos0) :=
  appendFuel_inv 64 h pos0

theorem new_inv (bm : Bitmap) : Inv (PruneList.new bm) := by
  unfold PruneList.new
  exact List.foldlRecOn bm _ inv_empty fun pl h x _ => append_inv h _

theorem inv_ext {a b : PruneList} (ha : Inv a) (hb : Inv b) (h : a.bitmap = b.bitmap) : a = b := by
  have h1 := ha.shift; have h2 := hb.shift; have h3 := ha.leaf; have h4 := hb.leaf
  cases a; cases b; simp_all

/-- `PruneList::append` of a new rightmost root whose sibling is not pruned: no roll-up -/
theorem append_rightmost {pl : PruneList} (h : Inv pl) {pos0 : Nat}
    (hall : ∀ y ∈ pl.bitmap, y ≤ bintreeLeftmost pos0)
    (hsib : pl.isPruned (family pos0).2 = false) :
    (pl.append pos0).bitmap = pl.bitmap ++ [pos0 + 1] ∧ (pl.append pos0).Inv := by
  have hcl : cleanupSubtree pl pos0 = pl := by
    unfold cleanupSubtree
    simp only
    rw [if_pos]
    cases hm : Bm.maximum pl.bitmap with
    | none => simp
    | some m => simpa using hall m (maximum_mem hm)
  have hstep : append pl pos0 = appendSingle pl pos0 := by
    unfold append appendFuel
    simp only [hsib, hcl, Bool.false_eq_true, if_false]
  have := append_nosib h pos0 hsib
  rw [hcl, ← hstep, Nat.add_comm 1 pos0] at this
  exact ⟨this.2, this.1⟩

/-- no roll-up and no clean-up fires -/
theorem new_of_inv : ∀ (l : List Nat) (pl : PruneList), Inv pl → pl.bitmap = l → PruneList.new l = pl := by
  apply list_snoc_induction
  · intro pl h hb
    exact inv_ext inv_empty h (by simp [PruneList.new, hb])
  · intro l x ih pl h hb
    have hlen : l.length < pl.bitmap.length := by rw [hb]; simp
    have hpre := inv_take h l.length
    have hpb : pl.bitmap.take l.length = l := by rw [hb]; simp
    have hnew := ih _ hpre hpb
    have hx : pl.bitmap[l.length] = x := by simp [hb]
    have hx1 : 1 ≤ x := h.pos x (by rw [hb]; simp)
    have hclosed := h.closed l.length hlen
    rw [hx, hpb] at hclosed
    have hall : ∀ y ∈ l, y ≤ bintreeLeftmost (x - 1) := by
      intro y hy
      have hd := h.disj
      rw [hb, List.pairwise_append] at hd
      exact hd.2.2 y hy x (by simp)
    have hstep : PruneList.new (l ++ [x]) = append (PruneList.new l) (x - 1) := by
      unfold PruneList.new
      rw [List.foldl_append]; rfl
    rw [hstep, hnew]
    obtain ⟨hbm, hinv⟩ := append_rightmost hpre (pos0 := x - 1) (by simpa [hpb] using hall)
      (show isPrunedBm _ _ = false by simpa [hpb] using hclosed)
    apply inv_ext hinv h
    rw [hbm, hb, Nat.sub_add_cancel hx1]
    simp

theorem isPrunedRoot_getElem {pl : PruneList} (h : Inv pl) (k : Nat) (hk : k < pl.bitmap.length) :
    Bm.contains pl.bitmap (1 + (pl.bitmap[k] - 1)) = true := by
  have hx1 : 1 ≤ pl.bitmap[k] := h.pos _ (List.getElem_mem hk)
  have : 1 + (pl.bitmap[k] - 1) = pl.bitmap[k] := by omega
  rw [this]; exact contains_iff.2 (List.getElem_mem hk)

/-- a cache rebuilt root by root (`set c` = the list with the cache built so far): if every step
appends the running sum of `f`, the fold leaves `scanFrom f 0` of the bitmap -/
theorem foldl_cache (f : Nat → Nat) (bm : List Nat) (set : List Nat → PruneList)
    (step : PruneList → Nat → PruneList)
    (hstep : ∀ k (hk : k < bm.length), step (set (scanFrom f 0 (bm.take k))) bm[k] =
      set (scanFrom f 0 (bm.take k) ++ [sumF f (bm.take k) + f (bm[k] - 1)])) :
    bm.foldl step (set []) = set (scanFrom f 0 bm) := by
  have key : ∀ k, k ≤ bm.length →
      (bm.take k).foldl step (set []) = set (scanFrom f 0 (bm.take k)) := by
    intro k
    induction k with
    | zero => intro _; rfl
    | succ k ih =>
      intro hk
      have hk' : k < bm.length := by omega
      rw [List.take_succ_eq_append_getElem hk', List.foldl_append, ih (by omega), scanFrom_append,
        Nat.zero_add]
      exact hstep k hk'
  have := key bm.length (Nat.le_refl _)
  rwa [List.take_length] at this

theorem buildShiftCache_inv {pl : PruneList} (h : Inv pl) : buildShiftCache pl = pl := by
  unfold buildShiftCache
  rw [foldl_cache rootShift pl.bitmap fun c => { pl with shiftCache := c }, ← h.shift]
  intro k hk
  simp only [calculateNextShift, getShift, isPrunedRoot, isPrunedRoot_getElem h k hk, if_true,
    calc_at rootShift h.sorted h.pos _ k hk rfl]

theorem buildLeafShiftCache_inv {pl : PruneList} (h : Inv pl) : buildLeafShiftCache pl = pl := by
  unfold buildLeafShiftCache
  rw [foldl_cache rootLeafShift pl.bitmap fun c => { pl with leafShiftCache := c }, ← h.leaf]
  intro k hk
  simp only [calculateNextLeafShift, getLeafShift, isPrunedRoot, isPrunedRoot_getElem h k hk, if_true,
    calc_at rootLeafShift h.sorted h.pos _ k hk rfl]

theorem initCaches_of_inv {pl : PruneList} (h : Inv pl) : initCaches pl = pl := by
  unfold initCaches
  rw [buildShiftCache_inv h, buildLeafShiftCache_inv h]

theorem openBm_of_inv {pl : PruneList} (h : Inv pl) : openBm pl.bitmap = pl := by
  unfold openBm
  rw [new_of_inv _ pl h rfl, initCaches_of_inv h]

end PruneList
end GV.Store
