import GrinVerif.Lemmas.ChainInv
/-! Parents-first delivery histories (`ParentsFirst`, `Linked`): the invariant `Settled` (the store holds
exactly the delivered valid-on-path blocks) along every such run; `run_delivered`, the induction along a
history for statements indexed by the delivered ids; the fork choice read off a characterised store
(`Ran.head_eq`, `Ran.same_head`). -/
namespace GV.Chain

/-- *settled* with respect to the set `D` of delivered block ids: the store holds only the genesis
and delivered blocks, holds every delivered block that is valid on its path, and the pool holds
only delivered blocks -/
structure Settled (p : Params) (n : Node) (D : List Nat) : Prop where
  sub : ∀ s ∈ n.stored, s = 0 ∨ s ∈ D
  complete : ∀ id, VOP p n id → id ∈ D → id ∈ n.stored
  pool : ∀ o ∈ n.orphans, o ∈ D

theorem settled_reprocess (p : Params) (n : Node) (D : List Nat) (b : Blk)
    (hd : b.id ∈ D) (hs : Settled p n D) : Settled p (processBlockSingle p n b).1 D := by
  have hdf := processBlockSingle_defs p n b
  refine ⟨?_, ?_, ?_⟩
  · intro s h
    rcases pbs_stored_sub p n b s h with h | h
    · exact hs.sub s h
    · exact Or.inr (h ▸ hd)
  · intro id hv hid
    exact pbs_stored_mono p n b id (hs.complete id ((VOP_congr hdf.2 hdf.1 p id).mp hv) hid)
  · intro o h
    rcases pbs_orphans_sub p n b o h with h | h
    · exact hs.pool o h
    · exact h ▸ hd

theorem preservedG_settled (p : Params) (D : List Nat) :
    PreservedG p (· ∈ D) (fun n => Inv p n ∧ Settled p n D) where
  single := fun n b hb hg h =>
    ⟨(preserved_inv p).single n b hb h.1, settled_reprocess p n D b hg h.2⟩
  shrink := fun n os hsub h =>
    ⟨(preserved_inv p).orphans n os h.1,
     ⟨h.2.sub, fun id hv hid => h.2.complete id (VOP_congr' (n := { n with orphans := os }) (m := n) rfl rfl p id hv) hid,
      fun o ho => h.2.pool o (hsub o ho)⟩⟩
  pool := fun _ h => h.2.pool

theorem settled_single (p : Params) (n : Node) (D : List Nat) (b : Blk) (hb : n.blk b.id = some b)
    (hpf : ∀ par, b.parent = some par → par = 0 ∨ par ∈ D)
    (hi : Inv p n) (hs : Settled p n D) : Settled p (processBlockSingle p n b).1 (b.id :: D) := by
  have hdf := processBlockSingle_defs p n b
  refine ⟨?_, ?_, ?_⟩
  · intro s h
    rcases pbs_stored_sub p n b s h with h | h
    · rcases hs.sub s h with h | h
      · exact Or.inl h
      · exact Or.inr (List.mem_cons_of_mem _ h)
    · exact Or.inr (h ▸ List.mem_cons_self ..)
  · intro id hv hid
    have hv' : VOP p n id := (VOP_congr hdf.2 hdf.1 p id).mp hv
    by_cases hin : id ∈ n.stored
    · exact pbs_stored_mono p n b id hin
    · rcases List.mem_cons.mp hid with h | h
      · subst h
        have h0 : b.id ≠ 0 := fun h => hin (h ▸ hi.closed.zero)
        obtain ⟨par, s', hpar, hvp, hok, hc⟩ := hv'.inv hb h0
        have hps : par ∈ n.stored := by
          rcases hpf par hpar with h | h
          · exact h ▸ hi.closed.zero
          · exact hs.complete par hvp h
        obtain ⟨n1, h1, hr⟩ := processBlockSingle_stores p n b par s'
          (mt (knownFull_stored hi.closed) hin) hpar hps (hi.hdr.stored par hps) hok hc
        rw [hr]; exact (storeBlock_stored_mem n1 b _).mpr (.inr rfl)
      · exact absurd (hs.complete id hv' h) hin
  · intro o h
    rcases pbs_orphans_sub p n b o h with h | h
    · exact List.mem_cons_of_mem _ (hs.pool o h)
    · exact h ▸ List.mem_cons_self ..

theorem settled_deliverBlock (p : Params) (n : Node) (D : List Nat) (b : Blk)
    (hb : n.blk b.id = some b) (hpf : ∀ par, b.parent = some par → par = 0 ∨ par ∈ D)
    (hi : Inv p n) (hs : Settled p n D) : Settled p (deliverBlock p n b).1 (b.id :: D) :=
  (deliverBlock_preservedG (preservedG_settled p (b.id :: D)) n b
    ⟨(preserved_inv p).single n b hb hi, settled_single p n D b hb hpf hi hs⟩).2

theorem settled_deliverHeader (p : Params) (n : Node) (D : List Nat) (b : Blk)
    (hs : Settled p n D) : Settled p (deliverHeader p n b).1 D := by
  have hf := CoreEq.of_deliverHeader p n b
  have hfo := deliverHeader_orphans p n b
  exact ⟨fun s h => hs.sub s (hf.stored ▸ h),
    fun id hv hid => hf.stored ▸ hs.complete id ((VOP_congr hf.outs hf.blks p id).mp hv) hid,
    fun o h => hs.pool o (hfo ▸ h)⟩

def blockIds : List Event → List Nat
  | [] => []
  | .block b :: es => b.id :: blockIds es
  | .header _ :: es => blockIds es

/-- every full block is delivered after its parent (the genesis `0` counts as delivered);
`D` = ids delivered before this history. Duplicates, header events and invalid blocks are allowed
anywhere. -/
def ParentsFirst : List Nat → List Event → Prop
  | _, [] => True
  | D, .header _ :: es => ParentsFirst D es
  | D, .block b :: es => (∀ par, b.parent = some par → par = 0 ∨ par ∈ D) ∧ ParentsFirst (b.id :: D) es

/-- `(blockIds es).reverse ++ D`: the ids delivered by `es` on top of `D`, latest first (`run_delivered`) -/
theorem mem_delivered {es : List Event} {D : List Nat} {id : Nat} :
    id ∈ (blockIds es).reverse ++ D ↔ id ∈ blockIds es ∨ id ∈ D := by
  rw [List.mem_append, List.mem_reverse]

/-- induction along a registered history for a statement `Q n D es` about the node, the ids delivered so
far and the deliveries still to come: a header delivery keeps `D`, a block delivery adds the block -/
theorem run_delivered {p : Params} {Q : Node → List Nat → List Event → Prop}
    (hdr : ∀ n D b es, n.blk b.id = some b → Q n D (.header b :: es) → Q (deliverHeader p n b).1 D es)
    (blk : ∀ n D b es, n.blk b.id = some b → Q n D (.block b :: es) →
      Q (deliverBlock p n b).1 (b.id :: D) es) :
    ∀ (es : List Event) (n : Node) (D : List Nat), Registered n es → Q n D es →
      Q (run p n es) ((blockIds es).reverse ++ D) []
  | [], _, _, _, h => h
  | .header b :: es, n, D, hreg, h =>
    run_delivered hdr blk es _ D (hreg.tail p) (hdr n D b es (hreg _ (List.mem_cons_self ..)) h)
  | .block b :: es, n, D, hreg, h => by
    have := run_delivered hdr blk es _ (b.id :: D) (hreg.tail p)
      (blk n D b es (hreg _ (List.mem_cons_self ..)) h)
    rwa [blockIds, List.reverse_cons, List.append_assoc]

theorem settled_run (p : Params) (es : List Event) (n : Node) (D : List Nat) (hreg : Registered n es)
    (hpf : ParentsFirst D es) (hi : Inv p n) (hs : Settled p n D) :
    Settled p (run p n es) ((blockIds es).reverse ++ D) :=
  (run_delivered (Q := fun n D es => ParentsFirst D es ∧ Inv p n ∧ Settled p n D)
    (fun n D b _ hb ⟨hpf, hi, hs⟩ => ⟨hpf, deliverHeader_preserved (preserved_inv p) n b hb hi,
      settled_deliverHeader p n D b hs⟩)
    (fun n D b _ hb ⟨⟨hpar, hpf⟩, hi, hs⟩ => ⟨hpf, deliverBlock_preserved (preserved_inv p) n b hb hi,
      settled_deliverBlock p n D b hb hpar hi hs⟩) es n D hreg ⟨hpf, hi, hs⟩).2.2

theorem settled_fresh (p : Params) (n : Node) (h : Fresh n) : Settled p n [] := by
  refine ⟨?_, ?_, ?_⟩
  · intro s hs
    rw [h.stored] at hs
    left; simpa using hs
  · intro _ _ hid; cases hid
  · intro o ho
    rw [h.orphans] at ho
    cases ho

theorem head_of_unique_max (n : Node) (hm : HeadMax n) (hh : n.head ∈ n.stored) (w : Nat)
    (hw : w ∈ n.stored) (hu : ∀ s ∈ n.stored, s ≠ w → n.workOf s < n.workOf w) : n.head = w := by
  by_cases h : n.head = w
  · exact h
  · have h1 := hu n.head hh h
    have h2 := hm w hw
    omega

/-- **fork choice from the store**: how the store is characterised (valid on path and delivered,
reachable within the delivered set) plays no part -/
theorem Ran.head_eq {p : Params} {N x : Node} (hx : Ran p N x) {X : Nat → Prop}
    (hX : ∀ id, id ∈ x.stored ↔ X id) {w : Nat} (hw : X w)
    (hu : ∀ id, X id → id ≠ w → N.workOf id < N.workOf w) : x.head = w := by
  refine head_of_unique_max x hx.inv.1 hx.inv.closed.head w ((hX w).mpr hw) fun s hs hne => ?_
  rw [workOf_congr hx.blks, workOf_congr hx.blks]
  exact hu s ((hX s).mp hs) hne

theorem Ran.same_head {p : Params} {N a c : Node} (ha : Ran p N a) (hc : Ran p N c)
    {A C : Nat → Prop} (hA : ∀ id, id ∈ a.stored ↔ A id) (hC : ∀ id, id ∈ c.stored ↔ C id)
    (hsub : ∀ id, C id → A id) {w : Nat} (hw : C w)
    (hu : ∀ id, A id → id ≠ w → N.workOf id < N.workOf w) :
    c.head = w ∧ a.head = w ∧ c.reportedUtxo p = a.reportedUtxo p :=
  have h1 := hc.head_eq hC hw fun id h => hu id (hsub id h)
  have h2 := ha.head_eq hA (hsub w hw) hu
  ⟨h1, h2, reportedUtxo_congr (hc.blks.trans ha.blks.symm) (h1.trans h2.symm) p⟩

def Linked (n : Node) : Nat → List Blk → Prop
  | _, [] => True
  | par, b :: bs => n.blk b.id = some b ∧ b.parent = some par ∧ Linked n b.id bs

theorem blockIds_map_block (bs : List Blk) : blockIds (bs.map Event.block) = bs.map (·.id) := by
  induction bs with
  | nil => rfl
  | cons b bs ih => simp [blockIds, ih]

theorem Linked.registered {n : Node} : ∀ {par : Nat} {bs : List Blk}, Linked n par bs →
    Registered n (bs.map Event.block) := by
  intro par bs
  induction bs generalizing par with
  | nil => intro _ e he; cases he
  | cons b bs ih =>
    intro h e he
    rcases List.mem_cons.mp he with h1 | h1
    · subst h1; exact h.1
    · exact ih h.2.2 e h1

theorem Linked.parentsFirst {n : Node} : ∀ {par : Nat} {bs : List Blk} {D : List Nat},
    Linked n par bs → (par = 0 ∨ par ∈ D) → ParentsFirst D (bs.map Event.block) := by
  intro par bs
  induction bs generalizing par with
  | nil => intro D _ _; trivial
  | cons b bs ih =>
    intro D h hp
    refine ⟨?_, ih h.2.2 (Or.inr (List.mem_cons_self ..))⟩
    intro par' hpar'
    rw [h.2.1] at hpar'
    cases hpar'
    exact hp

end GV.Chain
