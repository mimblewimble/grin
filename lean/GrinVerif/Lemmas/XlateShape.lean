import GrinVerif.Props.XlateShapeLib
/-! # The obligations over the regenerated shape tables (`Props/XlateShape{Chain,ChainApi,Core,Pool,Txhs}.lean`)

Those files are printed by tools/gen_pipeshape.py.  For every listed Rust function they state:
* `<fn>_order`  — the ORDER of the steps that can end it with an error (`?`-propagated calls, explicit
  `Err`, tail expression), by callee / error variant: a dropped, added, duplicated or moved check breaks it;
* `<fn>_propagated` — the calls to validation functions (`XlateShape.watch`) whose result is discarded are the
  reviewed list, empty but for `Pool::reconcile` (a `?` replaced by `let _ =` / `.ok();` / a bare statement breaks
  `_order` and this), and the list of all discarded calls (side-effecting helpers) is as reviewed;
* `<fn>_early_ok` — the conditions under which it returns `Ok` early, and the checks that come BEFORE the
  first early return (a new early return, or one moved in front of a check, breaks it);
* `<fn>_errors` — the explicit error variants with the innermost condition they sit under, and the variants
  introduced by `map_err` (a check weakened by changing its condition or wrapped in a new guard breaks it);
* `<fn>_depth` — the number of enclosing conditions of every step of `_order` (a check moved under a new guard
  breaks it);
* `<fn>_guard_inputs` — the principal callees of the `let`s / assignments whose value feeds a guard, in source
  order (a condition computed from something else breaks it; the initialisers themselves are in the pins).
Here: what they need beyond evaluating a table (`propagated`, `unwatched`), and `names_eval`, the evaluation of
name lists that `Props/XlateShapeModel.lean` and `Props/XlateShapeModel2.lean` share. -/
namespace GV.Props.XlateShape
open GV.Gen.PipeShape

theorem discarded_eq_filter_calls (w : List String) (f : FnShape) :
    discarded w f = (calls f).filter w.contains := by
  simp only [discarded, calls, List.filter_map, List.filter_filter, Function.comp_def, Bool.and_comm]

/-- The calls whose results the functions of all five areas discard: side-effecting helpers, and `add_to_pool`, which
`Pool::reconcile` ignores on purpose. -/
theorem unwatched :
    watch.contains "discard" = false ∧ watch.contains "push" = false ∧ watch.contains "force_rollback" = false ∧
    watch.contains "reverse" = false ∧ watch.contains "reconcile_block" = false ∧ watch.contains "extend" = false ∧
    watch.contains "crash_point" = false ∧ watch.contains "tx_accepted" = false ∧ watch.contains "sort" = false ∧
    watch.contains "log_pool_add" = false ∧ watch.contains "evict_from_txpool" = false ∧
    watch.contains "dedup" = false ∧ watch.contains "clear" = false ∧
    watch.contains "clean_txhashset_folder" = false ∧ watch.contains "check_orphans" = false ∧
    watch.contains "block_accepted" = false ∧ watch.contains "append" = false ∧
    watch.contains "add_to_reorg_cache" = false ∧ watch.contains "add" = false ∧
    watch.contains "add_to_pool" = true := by decide +kernel

theorem filter_watch_cons {n : String} (h : watch.contains n = false) (cs : List String) :
    (n :: cs).filter watch.contains = cs.filter watch.contains :=
  List.filter_cons_of_neg (by simp only [h, Bool.false_eq_true, not_false_eq_true])

theorem propagated {f : FnShape} {cs ds : List String} (hc : calls f = cs) (hd : cs.filter watch.contains = ds) :
    discarded watch f = ds ∧ calls f = cs :=
  ⟨by rw [discarded_eq_filter_calls, hc, hd], hc⟩

/-- `names_eval [defs, facts]`: one `simp only` call that unfolds `defs`, rewrites with `facts` and evaluates `filter`,
`map`, `flatMap`, `contains`, `==`, `!=` over lists of string literals and over the `Kind`s of a step table.  String
literals are compared by `String.reduceEq`, whose proof of a disequality points at one differing character (the kernel
would have to UTF-8 encode both strings).  One call, so that `↓reduceIte` picks a branch of each `filter_cons` before
the other is visited.  When the other side of the goal is not a literal (`codeNames stages`, a `take` / `drop`), the
call leaves `[the evaluated names] = that side`, which the `rfl` after it closes. -/
macro "names_eval" "[" ls:Lean.Parser.Tactic.simpLemma,* "]" : tactic =>
  `(tactic| simp only [$ls,*, List.filter_cons, List.filter_nil, List.map_cons, List.map_nil, List.flatMap_cons,
    List.flatMap_nil, List.cons_append, List.nil_append, List.contains_eq_mem, List.mem_cons, List.not_mem_nil,
    Bool.or_eq_true, Bool.and_eq_true, beq_iff_eq, bne_iff_ne, ne_eq, decide_eq_true_eq, String.reduceEq,
    reduceCtorEq, false_or, true_or, true_and, false_and, not_true_eq_false, not_false_eq_true, ↓reduceIte])

end GV.Props.XlateShape
