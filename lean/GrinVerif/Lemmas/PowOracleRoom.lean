import GrinVerif.Lemmas.PowRoomComplete
/-! Cuckaroom: the slot-level reading of a directed cycle (an undirected simple cycle on slots in
which every vertex has one `from` end and one `to` end) is the declarative `IsDirCycle` (an ordering
of the edges with `to` of each = `from` of the next).  A slot cycle is entered through ends of one
parity only; the Cuckaroom walk follows it through the `to` ends, in its order or in the reverse
order, and what the walk passes is a directed cycle. -/
namespace GV.Pow

theorem dirCycle_of_slotCycle (es : List (Nat × Nat)) (hL : 0 < es.length)
    (h : IsSlotCycleCuckaroom es) : IsProofCycleCuckaroom es := by
  obtain ⟨ns, ep, hns, hes⟩ : ∃ (ns : List Nat) (ep : Nat → Nat × Nat), ns.length = es.length ∧ ns.map ep = es :=
    ⟨List.range es.length, fun n => es.getD n (0, 0), List.length_range, map_range_getD_self (0, 0) es⟩
  subst hes
  rw [List.length_map] at hL
  let P : Params := ⟨ns.length, ns.length, ns.length, id⟩
  let s : RoomSt :=
    { frm := frmF ep ns, to := toF ep ns, xf := 0, xt := 0,
      head := fun b => lastBelow (fun t => frmF ep ns t == b) ns.length ns.length,
      prev := fun t => lastBelow (fun t' => frmF ep ns t' == frmF ep ns t) ns.length t }
  have inv : RoomInv P ep ns ns.length s :=
    ⟨⟨fun _ _ => rfl, fun _ => rfl, fun _ _ => rfl⟩, fun _ _ => rfl⟩
  obtain ⟨tr, htr, htl⟩ := room_trace_of_slotCycle P ep ns s inv hL h
  exact ⟨tr, room_cycle P ep ns s inv tr htr htl⟩

theorem slotCycle_iff_dirCycle (es : List (Nat × Nat)) (hL : 0 < es.length) :
    IsSlotCycleCuckaroom es ↔ IsProofCycleCuckaroom es :=
  ⟨dirCycle_of_slotCycle es hL, slotCycle_of_dirCycle es hL⟩

end GV.Pow
