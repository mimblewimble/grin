import GrinVerif.Model.Seg
/-! The desegmenter side of `Model/Seg.lean` (namespace `Dsg`): one tree in leaf counts with its cache — the
invariant `Inv` under every arrival sequence and `apply_next_segments`, progress when the next required
segment is cached, completion under honest delivery.  `Model/Deseg.lean` models the whole machine in MMR
sizes (`Lemmas/Deseg*.lean`; the cache-list lemmas below serve both); `Lemmas/DesegArith.lean` links
the two: in range `next_required_*` there is `Tree.next` here.
Then the number of 1024-bit chunks `BitmapAccumulator::init` builds (`Dsg.accLoop`): `top l`, as many as
the list needs, which is what `Desegmenter::calc_bitmap_mmr_sizes` expects when the last leaf is in the
list.  (`Lemmas/BitmapLoop.lean` has the same loop with its contents, `applyFrom_spec`; no theorem connects
the two.)  Core Lean only. -/
namespace GV.Seg.Dsg
open GV GV.Seg

/-- every cached segment has the height the desegmenter asks for -/
def OwnCache (t : Tree) : Prop := ∀ c ∈ t.cache, c.height = t.h

/-- where the local MMR of a tree ends: at the archive size, at a segment boundary below it, or
(output / rangeproof / kernel of a fresh chain) at the genesis leaf -/
inductive At (t : Tree) : Option Nat → Prop
  | done : t.leaves = t.total → At t none
  | boundary (k : Nat) : t.leaves = k * 2 ^ t.h → k * 2 ^ t.h < t.total →
      (t.flavor = .bitmap ∨ 1 ≤ t.h) → At t (some k)
  | genesis : t.flavor ≠ .bitmap → t.leaves = 1 → 1 ≤ t.h → 1 < t.total → At t (some 0)

theorem segCount_boundary (k h : Nat) : segCount (k * 2 ^ h) h = k := by
  unfold segCount
  have hp := Nat.two_pow_pos h
  apply Nat.div_eq_of_lt_le
  · omega
  · rw [Nat.succ_mul]; omega

theorem lt_segCount (k h total : Nat) (hlt : k * 2 ^ h < total) : k < segCount total h := by
  unfold segCount
  have hp := Nat.two_pow_pos h
  rw [Nat.lt_iff_add_one_le, Nat.le_div_iff_mul_le hp, Nat.succ_mul]
  omega

theorem next_of_at (t : Tree) (k : Nat) (h : At t (some k)) : t.next = some k := by
  cases h with
  | boundary _ hl hlt hh =>
    have hk : k < segCount t.total t.h := lt_segCount k t.h t.total hlt
    have hs : segCount t.leaves t.h = k := by rw [hl]; exact segCount_boundary k t.h
    -- off the bitmap tree `2 ≤ 2^h`, so a boundary is not the genesis leaf count 1
    have hne : t.flavor ≠ .bitmap → t.leaves ≠ 1 := by
      intro hf he
      have h2 := Nat.one_lt_two_pow (Nat.ne_of_gt (hh.resolve_left hf))
      rw [hl] at he
      cases k with
      | zero => simp at he
      | succ n => rw [Nat.succ_mul] at he; omega
    have hnl : ¬ t.leaves < k * 2 ^ t.h := by rw [hl]; exact Nat.lt_irrefl _
    unfold Tree.next
    cases hf : t.flavor with
    | bitmap => simp only [hs]; rw [if_neg (by omega)]
    | prunable =>
      simp only [hne (by rw [hf]; decide), if_false, hs]
      rw [if_neg hnl, if_neg (by omega)]
    | kernel =>
      simp only [hne (by rw [hf]; decide), if_false, hs]
      rw [if_neg (fun hx : _ ∧ _ => hnl hx.2), if_neg (by omega)]
  | genesis hf hl hh ht =>
    have hk : 0 < segCount t.total t.h := lt_segCount 0 t.h t.total (by omega)
    unfold Tree.next
    cases hfl : t.flavor with
    | bitmap => exact absurd hfl hf
    | prunable => simp only [hl, if_true, Nat.zero_mul, Nat.not_lt_zero, if_false]; rw [if_neg (by omega)]
    | kernel =>
      simp only [hl, if_true, Nat.zero_mul, Nat.not_lt_zero, and_false, if_false]
      rw [if_neg (by omega)]

/-! `cache.remove(position(..idx == n))` and `take_segment_batch` for any element with an index: both models
of the desegmenter (`Dsg` below over identifiers, `Model/Deseg.lean` over cache entries that also carry what
the segment does) transliterate these two functions. -/

def removeFirstBy {β : Type} (key : β → Nat) : List β → Nat → Option (β × List β)
  | [], _ => none
  | c :: cs, n =>
    if key c = n then some (c, cs)
    else match removeFirstBy key cs n with
      | some (x, rest) => some (x, c :: rest)
      | none => none

def takeBatchBy {β : Type} (key : β → Nat) : List β → Nat → Nat → List β × List β
  | cache, _, 0 => ([], cache)
  | cache, next, k + 1 =>
    match removeFirstBy key cache next with
    | some (s, rest) =>
      let r := takeBatchBy key rest (next + 1) k
      (s :: r.1, r.2)
    | none => ([], cache)

def ConsecBy {β : Type} (key : β → Nat) : Nat → List β → Prop
  | _, [] => True
  | m, c :: cs => key c = m ∧ ConsecBy key (m + 1) cs

theorem removeFirstBy_mem {β : Type} (key : β → Nat) (cache : List β) (n : Nat) (s : β) (rest : List β)
    (h : removeFirstBy key cache n = some (s, rest)) :
    s ∈ cache ∧ key s = n ∧ ∀ x ∈ rest, x ∈ cache := by
  induction cache generalizing rest with
  | nil => simp [removeFirstBy] at h
  | cons c cs ih =>
    simp only [removeFirstBy] at h
    split at h
    · rename_i hc
      injection h with h; injection h with h1 h2
      subst h1; subst h2
      exact ⟨List.mem_cons_self, hc, fun x hx => List.mem_cons_of_mem _ hx⟩
    · split at h
      · rename_i x rest' hr
        injection h with h; injection h with h1 h2
        subst h1; subst h2
        obtain ⟨a, b, c'⟩ := ih rest' hr
        refine ⟨List.mem_cons_of_mem _ a, b, ?_⟩
        intro y hy
        rcases List.mem_cons.mp hy with he | he
        · subst he; exact List.mem_cons_self
        · exact List.mem_cons_of_mem _ (c' y he)
      · cases h

theorem removeFirstBy_some {β : Type} (key : β → Nat) (cache : List β) (n : Nat) (h : ∃ c ∈ cache, key c = n) :
    ∃ s rest, removeFirstBy key cache n = some (s, rest) ∧ s ∈ cache ∧ key s = n ∧
      (∀ x ∈ rest, x ∈ cache) := by
  have hs : ∃ s rest, removeFirstBy key cache n = some (s, rest) := by
    induction cache with
    | nil => obtain ⟨c, hc, _⟩ := h; cases hc
    | cons c cs ih =>
      by_cases hc : key c = n
      · exact ⟨c, cs, by simp [removeFirstBy, hc]⟩
      · obtain ⟨c', hc', hi⟩ := h
        rcases List.mem_cons.mp hc' with he | he
        · subst he; exact absurd hi hc
        · obtain ⟨s, rest, hr⟩ := ih ⟨c', he, hi⟩
          exact ⟨s, c :: rest, by simp [removeFirstBy, hc, hr]⟩
  obtain ⟨s, rest, hr⟩ := hs
  exact ⟨s, rest, hr, removeFirstBy_mem key cache n s rest hr⟩

theorem takeBatchBy_spec {β : Type} (key : β → Nat) : ∀ (k : Nat) (cache : List β) (next : Nat),
    (∀ x ∈ (takeBatchBy key cache next k).1, x ∈ cache) ∧ (∀ x ∈ (takeBatchBy key cache next k).2, x ∈ cache) ∧
      ConsecBy key next (takeBatchBy key cache next k).1 := by
  intro k
  induction k with
  | zero => intro cache next; simp [takeBatchBy, ConsecBy]
  | succ k ih =>
    intro cache next
    simp only [takeBatchBy]
    cases hr : removeFirstBy key cache next with
    | none => simp [ConsecBy]
    | some p =>
      obtain ⟨s, rest⟩ := p
      obtain ⟨hs, hsi, hrest⟩ := removeFirstBy_mem key cache next s rest hr
      obtain ⟨i1, i2, i3⟩ := ih rest (next + 1)
      simp only
      refine ⟨?_, ?_, ⟨hsi, i3⟩⟩
      · intro x hx
        rcases List.mem_cons.mp hx with he | he
        · subst he; exact hs
        · exact hrest x (i1 x he)
      · intro x hx; exact hrest x (i2 x hx)

theorem removeFirstIdx_eq (cache : List Ident) (n : Nat) :
    removeFirstIdx cache n = removeFirstBy (·.idx) cache n := by
  induction cache with
  | nil => rfl
  | cons c cs ih =>
    rw [removeFirstIdx, removeFirstBy, ih]
    cases removeFirstBy (·.idx) cs n <;> rfl

theorem takeBatch_eq : ∀ (k : Nat) (cache : List Ident) (next : Nat),
    takeBatch cache next k = takeBatchBy (·.idx) cache next k
  | 0, _, _ => rfl
  | k + 1, cache, next => by
    rw [takeBatch, takeBatchBy, removeFirstIdx_eq]
    cases removeFirstBy (·.idx) cache next with
    | none => rfl
    | some p => simp only [takeBatch_eq k]

theorem takeBatch_cons (cache rest : List Ident) (n k : Nat) (s : Ident)
    (hr : removeFirstIdx cache n = some (s, rest)) :
    takeBatch cache n (k + 1) = (s :: (takeBatch rest (n + 1) k).1, (takeBatch rest (n + 1) k).2) := by
  simp [takeBatch, hr]

theorem applySeg_ge (total leaves : Nat) (s : Ident) : leaves ≤ applySeg total leaves s := by
  unfold applySeg; simp only; split <;> omega

theorem foldl_applySeg_ge (total : Nat) (l : List Ident) (leaves : Nat) :
    leaves ≤ l.foldl (applySeg total) leaves :=
  List.foldlRecOn l _ (motive := fun x => leaves ≤ x) (Nat.le_refl _)
    fun x h s _ => Nat.le_trans h (applySeg_ge total x s)

theorem removeFirstIdx_mem (cache : List Ident) (n : Nat) (s : Ident) (rest : List Ident)
    (h : removeFirstIdx cache n = some (s, rest)) :
    s ∈ cache ∧ s.idx = n ∧ ∀ x ∈ rest, x ∈ cache :=
  removeFirstBy_mem _ cache n s rest (removeFirstIdx_eq cache n ▸ h)

theorem removeFirstIdx_some (cache : List Ident) (n : Nat) (h : ∃ c ∈ cache, c.idx = n) :
    ∃ s rest, removeFirstIdx cache n = some (s, rest) ∧ s ∈ cache ∧ s.idx = n ∧
      (∀ x ∈ rest, x ∈ cache) :=
  removeFirstIdx_eq cache n ▸ removeFirstBy_some _ cache n h

theorem takeBatch_mem (k : Nat) (cache : List Ident) (next : Nat) :
    (∀ x ∈ (takeBatch cache next k).1, x ∈ cache) ∧ (∀ x ∈ (takeBatch cache next k).2, x ∈ cache) :=
  takeBatch_eq k cache next ▸ ⟨(takeBatchBy_spec _ k cache next).1, (takeBatchBy_spec _ k cache next).2.1⟩

theorem applySeg_boundary (h total leaves : Nat) (s : Ident) (hs : s.height = h)
    (hb : leaves = total ∨ ∃ k, leaves = k * 2 ^ h ∧ k * 2 ^ h < total) :
    applySeg total leaves s = total ∨
      ∃ k, applySeg total leaves s = k * 2 ^ h ∧ k * 2 ^ h < total := by
  unfold applySeg
  simp only [hs]
  split
  · by_cases hm : (s.idx + 1) * 2 ^ h < total
    · right; exact ⟨s.idx + 1, by omega, hm⟩
    · left; omega
  · exact hb

theorem foldl_applySeg_boundary (h total : Nat) (l : List Ident) (leaves : Nat)
    (hl : ∀ s ∈ l, s.height = h)
    (hb : leaves = total ∨ ∃ k, leaves = k * 2 ^ h ∧ k * 2 ^ h < total) :
    (l.foldl (applySeg total) leaves = total ∨
      ∃ k, l.foldl (applySeg total) leaves = k * 2 ^ h ∧ k * 2 ^ h < total) :=
  List.foldlRecOn l _ (motive := fun x => x = total ∨ ∃ k, x = k * 2 ^ h ∧ k * 2 ^ h < total) hb
    fun x hx s hs => applySeg_boundary h total x s (hl s hs) hx

theorem applySeg_next (t : Tree) (k : Nat) (ha : At t (some k)) (s : Ident) (hs : s.height = t.h)
    (hi : s.idx = k) :
    applySeg t.total t.leaves s = min ((k + 1) * 2 ^ t.h) t.total ∧
      t.leaves < min ((k + 1) * 2 ^ t.h) t.total := by
  have hp := Nat.two_pow_pos t.h
  unfold applySeg
  simp only [hs, hi]
  cases ha with
  | boundary _ hl hlt _ =>
    have : k * 2 ^ t.h ≤ t.leaves ∧ t.leaves < min ((k + 1) * 2 ^ t.h) t.total := by
      rw [hl, Nat.succ_mul]; omega
    rw [if_pos this]; exact ⟨rfl, this.2⟩
  | genesis _ hl hh ht =>
    have h2 := Nat.one_lt_two_pow (Nat.ne_of_gt hh)
    have : 0 * 2 ^ t.h ≤ t.leaves ∧ t.leaves < min ((0 + 1) * 2 ^ t.h) t.total := by
      rw [hl]; omega
    rw [if_pos this]; exact ⟨rfl, this.2⟩

/-- output, rangeproof, kernel: a batch per call -/
theorem apply_progress_batch (t : Tree) (k : Nat) (ha : At t (some k)) (hown : OwnCache t)
    (hc : ∃ c ∈ t.cache, c.idx = k) :
    min ((k + 1) * 2 ^ t.h) t.total ≤ t.apply.leaves ∧ t.leaves < t.apply.leaves := by
  obtain ⟨s, rest, hr, hs, hsi, _⟩ := removeFirstIdx_some t.cache k hc
  have hn := next_of_at t k ha
  unfold Tree.apply
  rw [hn]
  have hb : batchSize = 3 + 1 := rfl
  simp only [hb, takeBatch_cons t.cache rest k 3 s hr, List.foldl_cons]
  obtain ⟨e, hlt⟩ := applySeg_next t k ha s (hown s hs) hsi
  rw [e]
  have := foldl_applySeg_ge t.total (takeBatch rest (k + 1) 3).1 (min ((k + 1) * 2 ^ t.h) t.total)
  exact ⟨this, Nat.lt_of_lt_of_le hlt this⟩

/-- bitmap: one segment per call -/
theorem apply_progress_one (t : Tree) (k : Nat) (ha : At t (some k)) (hown : OwnCache t)
    (hc : ∃ c ∈ t.cache, c.idx = k) :
    t.applyOne.leaves = min ((k + 1) * 2 ^ t.h) t.total ∧ t.leaves < t.applyOne.leaves := by
  obtain ⟨s, rest, hr, hs, hsi, _⟩ := removeFirstIdx_some t.cache k hc
  have hn := next_of_at t k ha
  unfold Tree.applyOne
  rw [hn]
  simp only [hr]
  obtain ⟨e, hlt⟩ := applySeg_next t k ha s (hown s hs) hsi
  exact ⟨e, by rw [e]; exact hlt⟩

/-- the invariant of a tree that only ever receives segments of the asked height -/
structure Inv (t : Tree) : Prop where
  own : OwnCache t
  pos : ∃ o, At t o

theorem at_of_boundary (t : Tree) (hfl : t.flavor = .bitmap ∨ 1 ≤ t.h)
    (hb : t.leaves = t.total ∨ ∃ k, t.leaves = k * 2 ^ t.h ∧ k * 2 ^ t.h < t.total) :
    ∃ o, At t o := by
  rcases hb with hb | ⟨k, h1, h2⟩
  · exact ⟨none, .done hb⟩
  · exact ⟨some k, .boundary k h1 h2 hfl⟩

theorem add_leaves (t : Tree) (id : Ident) : (t.add id).leaves = t.leaves := by
  unfold Tree.add; split <;> rfl

theorem add_next (t : Tree) (id : Ident) : (t.add id).next = t.next := by
  unfold Tree.add; split <;> rfl

theorem boundary_of_at (t : Tree) (o : Option Nat) (ha : At t o) :
    (t.leaves = t.total ∨ ∃ k, t.leaves = k * 2 ^ t.h ∧ k * 2 ^ t.h < t.total) ∨
      (t.flavor ≠ .bitmap ∧ t.leaves = 1 ∧ 1 ≤ t.h ∧ 1 < t.total) := by
  cases ha with
  | done h => exact Or.inl (Or.inl h)
  | boundary k a b _ => exact Or.inl (Or.inr ⟨k, a, b⟩)
  | genesis a b c d => exact Or.inr ⟨a, b, c, d⟩

theorem flavor_side (t : Tree) (o : Option Nat) (ha : At t o) (hne : t.leaves ≠ t.total) :
    t.flavor = .bitmap ∨ 1 ≤ t.h := by
  cases ha with
  | done h => exact absurd h hne
  | boundary _ _ _ c => exact c
  | genesis _ _ c _ => exact Or.inr c

theorem add_params (t : Tree) (id : Ident) :
    (t.add id).h = t.h ∧ (t.add id).total = t.total ∧ (t.add id).flavor = t.flavor := by
  unfold Tree.add; split <;> exact ⟨rfl, rfl, rfl⟩

theorem at_add (t : Tree) (id : Ident) (o : Option Nat) (pos : At t o) : At (t.add id) o := by
  have hl := add_leaves t id
  obtain ⟨e1, e2, e3⟩ := add_params t id
  cases pos with
  | done h => exact .done (by rw [hl, e2]; exact h)
  | boundary k a b c => exact .boundary k (by rw [hl, e1]; exact a) (by rw [e1, e2]; exact b) (by rw [e1, e3]; exact c)
  | genesis a b c d => exact .genesis (by rw [e3]; exact a) (by rw [hl]; exact b) (by rw [e1]; exact c) (by rw [e2]; exact d)

theorem add_inv (t : Tree) (id : Ident) (hid : id.height = t.h) (hi : Inv t) : Inv (t.add id) := by
  obtain ⟨own, o, pos⟩ := hi
  refine ⟨?_, o, at_add t id o pos⟩
  unfold Tree.add
  split
  · exact own
  · intro c hc
    rcases List.mem_append.mp hc with h | h
    · exact own c h
    · simp only [List.mem_singleton] at h; subst h; exact hid

theorem mem_add_self (t : Tree) (id : Ident) : id ∈ (t.add id).cache := by
  unfold Tree.add
  split
  · rename_i h; simpa using h
  · simp

theorem applySeg_total (total : Nat) (s : Ident) : applySeg total total s = total := by
  unfold applySeg; simp only; split <;> omega

theorem foldl_applySeg_total (total : Nat) (l : List Ident) : l.foldl (applySeg total) total = total :=
  List.foldlRecOn l _ (motive := fun x => x = total) rfl fun x hx s _ => by rw [hx, applySeg_total]

theorem applySeg_genesis (h total : Nat) (s : Ident) (hs : s.height = h) :
    applySeg total 1 s = 1 ∨ applySeg total 1 s = total ∨
      ∃ k, applySeg total 1 s = k * 2 ^ h ∧ k * 2 ^ h < total := by
  unfold applySeg
  simp only [hs]
  split
  · by_cases hm : (s.idx + 1) * 2 ^ h < total
    · right; right; exact ⟨s.idx + 1, by omega, hm⟩
    · right; left; omega
  · left; rfl

theorem foldl_applySeg_genesis (h total : Nat) : ∀ (l : List Ident),
    (∀ s ∈ l, s.height = h) →
    (l.foldl (applySeg total) 1 = 1 ∨ l.foldl (applySeg total) 1 = total ∨
      ∃ k, l.foldl (applySeg total) 1 = k * 2 ^ h ∧ k * 2 ^ h < total) := by
  intro l
  induction l with
  | nil => intro _; left; rfl
  | cons s rest ih =>
    intro hl
    rw [List.foldl_cons]
    rcases applySeg_genesis h total s (hl s List.mem_cons_self) with e | e | ⟨k, e1, e2⟩
    · rw [e]; exact ih (fun x hx => hl x (List.mem_cons_of_mem _ hx))
    · rw [e, foldl_applySeg_total]; right; left; rfl
    · right
      rw [e1]
      exact foldl_applySeg_boundary h total rest _ (fun x hx => hl x (List.mem_cons_of_mem _ hx))
        (Or.inr ⟨k, rfl, e2⟩)

theorem fold_at (t : Tree) (o : Option Nat) (ha : At t o) (l : List Ident)
    (hl : ∀ s ∈ l, s.height = t.h) (cache' : List Ident) :
    ∃ o', At { t with leaves := l.foldl (applySeg t.total) t.leaves, cache := cache' } o' := by
  cases ha with
  | done h =>
    refine ⟨none, .done ?_⟩
    show l.foldl (applySeg t.total) t.leaves = t.total
    rw [h, foldl_applySeg_total]
  | boundary k a b c =>
    rcases foldl_applySeg_boundary t.h t.total l t.leaves hl (Or.inr ⟨k, a, b⟩) with e | ⟨k', e1, e2⟩
    · exact ⟨none, .done e⟩
    · exact ⟨some k', .boundary k' e1 e2 c⟩
  | genesis a b c d =>
    have := foldl_applySeg_genesis t.h t.total l hl
    rw [← b] at this
    rcases this with e | e | ⟨k', e1, e2⟩
    · exact ⟨some 0, .genesis a (by show l.foldl (applySeg t.total) t.leaves = 1; rw [e, b]) c d⟩
    · exact ⟨none, .done e⟩
    · exact ⟨some k', .boundary k' e1 e2 (Or.inr c)⟩

theorem apply_inv (t : Tree) (hi : Inv t) : Inv t.apply ∧ t.leaves ≤ t.apply.leaves := by
  obtain ⟨own, o, pos⟩ := hi
  unfold Tree.apply
  cases hn : t.next with
  | none =>
    simp only
    split
    · refine ⟨⟨fun c hc => (by cases hc), ?_⟩, Nat.le_refl _⟩
      cases pos with
      | done h => exact ⟨none, .done h⟩
      | boundary k a b c => exact ⟨some k, .boundary k a b c⟩
      | genesis a b c d => exact ⟨some 0, .genesis a b c d⟩
    · exact ⟨⟨own, o, pos⟩, Nat.le_refl _⟩
  | some n =>
    simp only
    obtain ⟨m1, m2⟩ := takeBatch_mem batchSize t.cache n
    refine ⟨⟨fun c hc => own c (m2 c hc), ?_⟩, foldl_applySeg_ge _ _ _⟩
    exact fold_at t o pos _ (fun s hs => own s (m1 s hs)) _

theorem applyOne_inv (t : Tree) (hi : Inv t) : Inv t.applyOne ∧ t.leaves ≤ t.applyOne.leaves := by
  obtain ⟨own, o, pos⟩ := hi
  unfold Tree.applyOne
  cases hn : t.next with
  | none => exact ⟨⟨own, o, pos⟩, Nat.le_refl _⟩
  | some n =>
    simp only
    cases hr : removeFirstIdx t.cache n with
    | none => exact ⟨⟨own, o, pos⟩, Nat.le_refl _⟩
    | some p =>
      obtain ⟨s, rest⟩ := p
      obtain ⟨hs, _, hrest⟩ := removeFirstIdx_mem t.cache n s rest hr
      simp only
      refine ⟨⟨fun c hc => own c (hrest c hc), ?_⟩, applySeg_ge _ _ _⟩
      have := fold_at t o pos [s] (fun x hx => by
        simp only [List.mem_singleton] at hx; subst hx; exact own x hs) rest
      simpa using this

theorem apply_params (t : Tree) :
    t.apply.h = t.h ∧ t.apply.total = t.total ∧ t.apply.flavor = t.flavor := by
  unfold Tree.apply
  split
  · exact ⟨rfl, rfl, rfl⟩
  · split <;> exact ⟨rfl, rfl, rfl⟩

theorem applyOne_params (t : Tree) :
    t.applyOne.h = t.h ∧ t.applyOne.total = t.total ∧ t.applyOne.flavor = t.flavor := by
  unfold Tree.applyOne
  split
  · split <;> exact ⟨rfl, rfl, rfl⟩
  · exact ⟨rfl, rfl, rfl⟩

theorem step_params (t : Tree) (e : Ev) :
    (t.step e).h = t.h ∧ (t.step e).total = t.total ∧ (t.step e).flavor = t.flavor := by
  cases e with
  | add id =>
    simp only [Tree.step, Tree.receive]
    split
    · exact ⟨rfl, rfl, rfl⟩
    · exact add_params t id
  | apply =>
    simp only [Tree.step]
    split
    · exact applyOne_params t
    · exact apply_params t

theorem receive_inv (t : Tree) (id : Ident) (hi : Inv t) :
    Inv (t.receive id true).1 ∧ (t.receive id true).1.leaves = t.leaves := by
  unfold Tree.receive
  split
  · exact ⟨hi, rfl⟩
  · rename_i hh
    simp only [if_true]
    exact ⟨add_inv t id (by simpa using hh) hi, add_leaves t id⟩

theorem step_inv (t : Tree) (e : Ev) (hi : Inv t) :
    Inv (t.step e) ∧ t.leaves ≤ (t.step e).leaves := by
  cases e with
  | add id =>
    obtain ⟨a, b⟩ := receive_inv t id hi
    exact ⟨a, by rw [show (t.step (.add id)) = (t.receive id true).1 from rfl, b]; exact Nat.le_refl _⟩
  | apply =>
    simp only [Tree.step]
    split
    · exact applyOne_inv t hi
    · exact apply_inv t hi

/-- **every** event sequence — segments of any height and index, in any order, any number of
times, interleaved with applies — keeps a tree regular and never loses leaves -/
theorem run_inv : ∀ (evs : List Ev) (t : Tree), Inv t →
    Inv (t.run evs) ∧ t.leaves ≤ (t.run evs).leaves ∧ (t.run evs).h = t.h ∧
      (t.run evs).total = t.total ∧ (t.run evs).flavor = t.flavor :=
  fun evs t hi => List.foldlRecOn evs Tree.step (motive := fun t' => Inv t' ∧ t.leaves ≤ t'.leaves ∧
      t'.h = t.h ∧ t'.total = t.total ∧ t'.flavor = t.flavor) ⟨hi, Nat.le_refl _, rfl, rfl, rfl⟩
    fun t' ⟨i, l, q1, q2, q3⟩ e _ =>
      ⟨(step_inv t' e i).1, Nat.le_trans l (step_inv t' e i).2, (step_params t' e).1.trans q1,
        (step_params t' e).2.1.trans q2, (step_params t' e).2.2.trans q3⟩

theorem at_le_total (t : Tree) (o : Option Nat) (ha : At t o) : t.leaves ≤ t.total := by
  cases ha with
  | done h => omega
  | boundary k a b _ => omega
  | genesis _ b _ d => omega

/-- one round of an honest peer: deliver the segment the tree asks for, then apply -/
def deliverNext (t : Tree) : Tree :=
  match t.next with
  | some k => (t.add ⟨t.h, k⟩).step .apply
  | none => t

def rounds : Nat → Tree → Tree
  | 0, t => t
  | n + 1, t => rounds n (deliverNext t)

theorem step_apply_progress (t : Tree) (k : Nat) (ha : At t (some k)) (hown : OwnCache t)
    (hc : ∃ c ∈ t.cache, c.idx = k) :
    t.leaves < (t.step .apply).leaves ∧ min ((k + 1) * 2 ^ t.h) t.total ≤ (t.step .apply).leaves := by
  simp only [Tree.step]
  split
  · obtain ⟨a, b⟩ := apply_progress_one t k ha hown hc
    exact ⟨b, by rw [a]; exact Nat.le_refl _⟩
  · obtain ⟨a, b⟩ := apply_progress_batch t k ha hown hc
    exact ⟨b, a⟩

theorem deliverNext_spec (t : Tree) (hi : Inv t) :
    Inv (deliverNext t) ∧ (deliverNext t).total = t.total ∧ (deliverNext t).h = t.h ∧
      (t.leaves = t.total → (deliverNext t).leaves = t.total) ∧
      (t.leaves ≠ t.total → t.leaves < (deliverNext t).leaves) := by
  obtain ⟨own, o, pos⟩ := hi
  unfold deliverNext
  cases hn : t.next with
  | none =>
    refine ⟨⟨own, o, pos⟩, rfl, rfl, fun h => h, ?_⟩
    intro hne
    cases pos with
    | done h => exact absurd h hne
    | boundary k a b c => rw [next_of_at t k (.boundary k a b c)] at hn; cases hn
    | genesis a b c d => rw [next_of_at t 0 (.genesis a b c d)] at hn; cases hn
  | some k =>
    simp only
    obtain ⟨e1, e2, _⟩ := add_params t ⟨t.h, k⟩
    have iadd : Inv (t.add ⟨t.h, k⟩) := add_inv t ⟨t.h, k⟩ rfl ⟨own, o, pos⟩
    obtain ⟨i1, l1⟩ := step_inv (t.add ⟨t.h, k⟩) .apply iadd
    obtain ⟨p1, p2, _⟩ := step_params (t.add ⟨t.h, k⟩) .apply
    rw [add_leaves] at l1
    refine ⟨i1, p2.trans e2, p1.trans e1, ?_, ?_⟩
    · intro he
      obtain ⟨_, o', pos'⟩ := i1
      have := at_le_total _ o' pos'
      rw [p2, e2] at this
      omega
    · intro hne
      cases pos with
      | done h => exact absurd h hne
      | boundary k' a b c =>
        have hk : k = k' := by
          have := next_of_at t k' (.boundary k' a b c); rw [hn] at this; injection this
        subst hk
        have := (step_apply_progress (t.add ⟨t.h, k⟩) k (at_add t _ _ (.boundary k a b c)) iadd.own
          ⟨⟨t.h, k⟩, mem_add_self t _, rfl⟩).1
        rw [add_leaves] at this; exact this
      | genesis a b c d =>
        have hk : k = 0 := by
          have := next_of_at t 0 (.genesis a b c d); rw [hn] at this; injection this
        subst hk
        have := (step_apply_progress (t.add ⟨t.h, 0⟩) 0 (at_add t _ _ (.genesis a b c d)) iadd.own
          ⟨⟨t.h, 0⟩, mem_add_self t _, rfl⟩).1
        rw [add_leaves] at this; exact this

theorem rounds_complete : ∀ (n : Nat) (t : Tree), Inv t → t.total - t.leaves ≤ n →
    (rounds n t).leaves = t.total := by
  intro n
  induction n with
  | zero =>
    intro t hi hle
    obtain ⟨_, o, pos⟩ := hi
    have := at_le_total t o pos
    simp only [rounds]; omega
  | succ n ih =>
    intro t hi hle
    obtain ⟨i1, e1, _, hdone, hprog⟩ := deliverNext_spec t hi
    simp only [rounds]
    rw [← e1]
    apply ih _ i1
    by_cases he : t.leaves = t.total
    · rw [hdone he, e1]; omega
    · have := hprog he; rw [e1]; omega

/-- at the start of a sync the request list begins with bitmap segment 0, for every chunk count
≥ 1 and every asked height: index 0 is the first candidate, every range ends at or after size 0,
and nothing is cached yet -/
theorem want_head_fresh (hb ho hr hk chunks outs kers max : Nat) (hc : 1 ≤ chunks) (hm : 1 ≤ max) :
    ((State.new hb ho hr hk chunks outs kers).want max).head? = some (0, ⟨hb, 0⟩) := by
  obtain ⟨k, hk'⟩ : ∃ k, segCount chunks hb = k + 1 :=
    Nat.exists_eq_succ_of_ne_zero (Nat.ne_of_gt (lt_segCount 0 hb chunks (by omega)))
  obtain ⟨m, rfl⟩ : ∃ m, max = m + 1 := Nat.exists_eq_succ_of_ne_zero (by omega)
  have h0 : sizeOf 0 = 0 := by simp [sizeOf, Pmmr.insertionToPmmrIndex, Pmmr.mmr, popcount]
  simp only [State.want, State.new, Bool.not_false, if_true, hk', List.range_succ_eq_map,
    List.filterMap_cons, h0, ge_iff_le, Nat.zero_le, decide_true, List.contains_nil, Bool.and_self,
    List.take_succ_cons, List.head?_cons]

theorem le_lmax : ∀ (l : List Nat) (x : Nat), x ∈ l → x ≤ lmax l := by
  intro l
  induction l with
  | nil => intro x hx; cases hx
  | cons y ys ih =>
    intro x hx
    simp only [lmax]
    rcases List.mem_cons.mp hx with h | h
    · subst h; omega
    · have := ih x h; omega

theorem lmax_le : ∀ (l : List Nat) (b : Nat), (∀ x ∈ l, x ≤ b) → lmax l ≤ b := by
  intro l
  induction l with
  | nil => intro b _; simp [lmax]
  | cons y ys ih =>
    intro b h
    simp only [lmax]
    have h1 := h y List.mem_cons_self
    have h2 := ih b (fun x hx => h x (List.mem_cons_of_mem _ hx))
    omega

/-- chunks needed to hold every index of the list -/
def top : List Nat → Nat
  | [] => 0
  | x :: xs => max (x / 1024 + 1) (top xs)

theorem top_cons (x : Nat) (xs : List Nat) :
    (top (x :: xs) = x / 1024 + 1 ∧ top xs ≤ x / 1024 + 1) ∨
    (top (x :: xs) = top xs ∧ x / 1024 + 1 ≤ top xs) := by
  rcases Nat.le_total (top xs) (x / 1024 + 1) with h | h
  · exact Or.inl ⟨Nat.max_eq_left h, h⟩
  · exact Or.inr ⟨Nat.max_eq_right h, h⟩

theorem accLoop_top : ∀ (f ci : Nat) (any : Bool) (n : Nat) (l : List Nat),
    l.length + 1 ≤ f → l.length + top l + 1 ≤ f + ci →
    (top l ≤ ci → accLoop f ci any n l = if any then n + 1 else n) ∧
    (ci < top l → accLoop f ci any n l + ci = n + top l) := by
  intro f
  induction f with
  | zero => intro ci any n l h; omega
  | succ f ih =>
    intro ci any n l hf h
    cases l with
    | nil => exact ⟨fun _ => by simp [accLoop], fun h0 => absurd h0 (Nat.not_lt_zero _)⟩
    | cons x xs =>
      simp only [accLoop, List.length_cons] at hf h ⊢
      -- `x` is seen through its chunk index only
      have e1 : x < ci * 1024 ↔ x / 1024 < ci := (Nat.div_lt_iff_lt_mul (by decide)).symm
      have e2 : x < (ci + 1) * 1024 ↔ x / 1024 < ci + 1 := (Nat.div_lt_iff_lt_mul (by decide)).symm
      simp only [e1, e2]
      clear e1 e2
      have ht := top_cons x xs
      have ih3 := ih (ci + 1) false (n + 1) (x :: xs)
      simp only [List.length_cons] at ih3
      -- from here on: linear arithmetic over `c = x / 1024`, `T = top (x :: xs)`, `t = top xs`; the three
      -- branches are the three branches of the loop (skip `x`, set a bit, next chunk). The `clear`s before
      -- `omega` take the quantified induction hypotheses, which it cannot use, out of its context.
      generalize top (x :: xs) = T at ih3 ht h ⊢
      generalize x / 1024 = c at ih3 ht ⊢
      generalize ht' : top xs = t at ht
      by_cases h1 : c < ci
      · clear ih3
        obtain ⟨iha, ihb⟩ := ih ci any n xs (by omega) (by omega)
        rw [if_pos h1]
        clear ih
        refine ⟨fun h0 => iha (by omega), fun h0 => ?_⟩
        have := ihb (by omega)
        clear iha ihb
        omega
      · rw [if_neg h1]
        by_cases h2 : c < ci + 1
        · clear ih3
          obtain ⟨iha, ihb⟩ := ih ci true n xs (by omega) (by omega)
          rw [if_pos h2]
          refine ⟨fun h0 => by omega, fun h0 => ?_⟩
          by_cases h3 : t ≤ ci
          · rw [iha (ht' ▸ h3)]; clear iha ihb ih; simp only [if_true]; omega
          · have := ihb (by omega); clear iha ihb ih; omega
        · have hf3 : xs.length + 1 + 1 ≤ f := by omega
          have h3 : xs.length + 1 + T + 1 ≤ f + (ci + 1) := by omega
          have hlt : ci + 1 < T := by omega
          have := (ih3 hf3 h3).2 hlt
          rw [if_neg h2]
          clear ih3 ih
          exact ⟨fun h0 => by omega, fun _ => by omega⟩

theorem top_eq : ∀ l : List Nat, top l = if l = [] then 0 else lmax l / 1024 + 1
  | [] => rfl
  | [x] => by simp [top, lmax]
  | x :: y :: ys => by
    have ih := top_eq (y :: ys)
    rw [if_neg (List.cons_ne_nil _ _)] at ih
    rw [top, ih, if_neg (List.cons_ne_nil _ _), show lmax (x :: y :: ys) = max x (lmax (y :: ys)) from rfl]
    -- division is monotone, so it commutes with `max`
    rcases Nat.le_total x (lmax (y :: ys)) with hle | hle
    · rw [Nat.max_eq_right hle, Nat.max_eq_right (Nat.succ_le_succ (Nat.div_le_div_right hle))]
    · rw [Nat.max_eq_left hle, Nat.max_eq_left (Nat.succ_le_succ (Nat.div_le_div_right hle))]

theorem accChunkCount_eq (idxs : List Nat) (size : Nat) :
    accChunkCount idxs size = top (idxs.filter (· < size)) := by
  unfold accChunkCount
  simp only
  obtain ⟨ha, hb⟩ := accLoop_top ((idxs.filter (· < size)).length + lmax (idxs.filter (· < size)) / 1024 + 2)
    0 false 0 (idxs.filter (· < size)) (by omega) (by rw [top_eq]; split <;> omega)
  rcases Nat.eq_zero_or_pos (top (idxs.filter (· < size))) with h0 | h0
  · rw [ha (by omega), h0]; rfl
  · have := hb h0; omega

end GV.Seg.Dsg
