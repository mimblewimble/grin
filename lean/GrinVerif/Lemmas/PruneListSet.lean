import GrinVerif.Lemmas.StoreTree
import GrinVerif.Lemmas.PruneListCount
/-! Set-level correctness of the prune-list roll-up (C08): which positions a prune list
prunes, as a set.  Under the roll-up invariant the list is *canonical*: a position is pruned iff
every leaf below it is.  `append` adds exactly the leaves below the appended position, and for
the arguments the store passes its "prune list append only" assertions never fire.
No Mathlib. -/
namespace GV.Store
open GV GV.Pmmr

/-- `q` lies in the subtree of one of the (1-based) roots of `bm` -/
def PrunedBy (bm : List Nat) (q : Nat) : Prop := ∃ x ∈ bm, Sub (x - 1) q

def Full (S : Nat → Prop) (q : Nat) : Prop := ∀ l, height l = 0 → Sub q l → S l

theorem full_leaf {S : Nat → Prop} {q : Nat} (hq : height q = 0) : Full S q ↔ S q := by
  constructor
  · intro h; exact h q hq (sub_refl q)
  · intro h l _ hs; rw [sub_leaf hq hs]; exact h

theorem full_of_sub {S : Nat → Prop} {a b : Nat} (hs : Sub a b) (h : Full S a) : Full S b :=
  fun l hl hb => h l hl (sub_trans hs hb)

theorem full_congr_sub {S T : Nat → Prop} {q : Nat}
    (h : ∀ l, height l = 0 → Sub q l → (S l ↔ T l)) : Full S q ↔ Full T q :=
  ⟨fun hf l hl hs => (h l hl hs).1 (hf l hl hs), fun hf l hl hs => (h l hl hs).2 (hf l hl hs)⟩

theorem full_congr {S T : Nat → Prop} (h : ∀ l, height l = 0 → (S l ↔ T l)) (q : Nat) :
    Full S q ↔ Full T q :=
  full_congr_sub fun l hl _ => h l hl

theorem full_parent (S : Nat → Prop) (p : Nat) :
    Full S (family p).1 ↔ Full S p ∧ Full S (family p).2 := by
  constructor
  · intro h
    exact ⟨fun l hl hs => h l hl ((sub_family p l).2 (Or.inr (Or.inl hs))),
           fun l hl hs => h l hl ((sub_family p l).2 (Or.inr (Or.inr hs)))⟩
  · rintro ⟨h1, h2⟩ l hl hs
    rcases (sub_family p l).1 hs with rfl | h | h
    · have := Co.height_family_fst p; omega
    · exact h1 l hl h
    · exact h2 l hl h

theorem full_children {S : Nat → Prop} {p h : Nat} (hp : height p = h + 1) :
    Full S p ↔ Full S (p - 2 * 2 ^ h) ∧ Full S (p - 1) := by
  obtain ⟨_, _, _, c3, _⟩ := children p h hp
  have := full_parent S (p - 1)
  rw [c3] at this
  simp only at this
  rw [this]; exact And.comm

theorem exists_leaf (q : Nat) : ∃ l, height l = 0 ∧ Sub q l :=
  ⟨bintreeLeftmost q, leftmost_isLeaf q, Nat.le_refl _, Co.leftmost_le q⟩

theorem prunedBy_of_sub {bm : List Nat} {a b : Nat} (h : PrunedBy bm a) (hs : Sub a b) :
    PrunedBy bm b := by
  obtain ⟨x, hx, h1⟩ := h
  exact ⟨x, hx, sub_trans h1 hs⟩

theorem prunedBy_append {l r : List Nat} {q : Nat} :
    PrunedBy (l ++ r) q ↔ PrunedBy l q ∨ PrunedBy r q := by
  simp only [PrunedBy, List.mem_append, or_and_right, exists_or]

theorem compactedP_iff {bm : List Nat} {q : Nat} :
    compactedP bm q = true ↔ ∃ x ∈ bm, Sub (x - 1) q ∧ q ≠ x - 1 := by
  simp only [compactedP, List.any_eq_true, interior_iff, Sub]
  constructor
  · rintro ⟨x, hx, h1, h2⟩; exact ⟨x, hx, ⟨h1, by omega⟩, by omega⟩
  · rintro ⟨x, hx, ⟨h1, h2⟩, h3⟩; exact ⟨x, hx, h1, by omega⟩

theorem compactedP_iff_parent {bm : List Nat} {q : Nat} :
    compactedP bm q = true ↔ PrunedBy bm (family q).1 := by
  rw [compactedP_iff]
  unfold PrunedBy
  exact exists_congr fun x => and_congr_right fun _ => sub_parent_iff _ _

theorem prunedBy_of_mem {bm : List Nat} {p : Nat} (h : (1 + p) ∈ bm) : PrunedBy bm p :=
  ⟨1 + p, h, by rw [Nat.add_sub_cancel_left]; exact sub_refl p⟩

theorem prunedBy_iff {bm : List Nat} (hpos : ∀ x ∈ bm, 1 ≤ x) (q : Nat) :
    PrunedBy bm q ↔ (1 + q) ∈ bm ∨ PrunedBy bm (family q).1 := by
  constructor
  · rintro ⟨x, hx, hs⟩
    by_cases he : q = x - 1
    · have := hpos x hx
      exact Or.inl (by rw [show 1 + q = x by omega]; exact hx)
    · exact Or.inr ⟨x, hx, sub_parent hs he⟩
  · rintro (h | h)
    · exact prunedBy_of_mem h
    · exact prunedBy_of_sub h (sub_parent_self q)

theorem not_compacted_of_unpruned_below {bm : List Nat} {q a : Nat} (hun : ¬ PrunedBy bm q)
    (ha : Sub (family a).1 q) : compactedP bm a = false :=
  Bool.eq_false_iff.2 fun hc => hun (prunedBy_of_sub (compactedP_iff_parent.1 hc) ha)

theorem not_compacted_of_parent_ge {bm : List Nat} {q : Nat} (h : ∀ x ∈ bm, x ≤ (family q).1) :
    compactedP bm q = false := by
  refine Bool.eq_false_iff.2 fun hc => ?_
  obtain ⟨x, hx, hs, hne⟩ := compactedP_iff.1 hc
  have h1 := ((sub_parent_iff _ _).1 ⟨hs, hne⟩).2
  have := h x hx
  have := Co.family_fst_gt q
  omega

theorem not_compacted_of_ge {bm : Bitmap} {size q : Nat} (hroots : ∀ x ∈ bm, x ≤ size)
    (hq : size ≤ q + 1) : compactedP bm q = false :=
  not_compacted_of_parent_ge fun x hx => by
    have := hroots x hx; have := Co.family_fst_gt q; omega

theorem prunedBy_snoc (bm : Bitmap) (r q : Nat) :
    PrunedBy (bm ++ [r + 1]) q ↔ PrunedBy bm q ∨ Sub r q := by
  rw [prunedBy_append]
  simp [PrunedBy]

namespace PruneList

theorem isPruned_iff_prunedBy {pl : PruneList} (h : Inv pl) (p : Nat) :
    isPruned pl p = true ↔ PrunedBy pl.bitmap p := by
  rw [isPruned_iff h, Bool.or_eq_true, compactedP_iff_parent, prunedBy_iff h.pos p]
  unfold isPrunedRoot
  rw [contains_iff]

/-- **canonical form** (two pruned siblings never coexist as roots) -/
theorem canon {pl : PruneList} (h : Inv pl) (q : Nat) (hf : Full (PrunedBy pl.bitmap) q) :
    PrunedBy pl.bitmap q := by
  generalize hh : height q = g
  induction g generalizing q with
  | zero => exact (full_leaf hh).1 hf
  | succ n ih =>
    have hq := hh
    obtain ⟨c0, c1, c2, c3, c4⟩ := children q n hq
    obtain ⟨f1, f2⟩ := (full_children hq).1 hf
    obtain ⟨x1, hx1, s1⟩ := ih _ f1 c2
    obtain ⟨x2, hx2, s2⟩ := ih _ f2 c1
    by_cases e1 : q - 2 * 2 ^ n = x1 - 1
    · by_cases e2 : q - 1 = x2 - 1
      · -- both children are roots: impossible
        exfalso
        have hp1 := h.pos x1 hx1
        have hp2 := h.pos x2 hx2
        have hpos : 0 < 2 ^ n := Nat.pow_pos (by omega)
        obtain ⟨k, hk, hk2⟩ := List.mem_iff_getElem.1 hx2
        have hcl := h.closed k hk
        rw [hk2, ← e2, c3] at hcl
        simp only at hcl
        have hmem : x1 ∈ pl.bitmap.take k := mem_take_of_lt h.sorted hk hx1 (by rw [hk2]; omega)
        have : isPrunedBm (pl.bitmap.take k) (q - 2 * 2 ^ n) = true := by
          unfold isPrunedBm isPruned isPrunedRoot
          have : 1 + (q - 2 * 2 ^ n) = x1 := by omega
          simp only [this, contains_iff.2 hmem, if_true]
        rw [this] at hcl; exact absurd hcl (by simp)
      · have := (sub_parent_iff (x2 - 1) (q - 1)).1 ⟨s2, e2⟩
        rw [c3] at this
        exact ⟨x2, hx2, this⟩
    · have := (sub_parent_iff (x1 - 1) (q - 2 * 2 ^ n)).1 ⟨s1, e1⟩
      rw [c4] at this
      exact ⟨x1, hx1, this⟩

theorem prunedBy_iff_full {pl : PruneList} (h : Inv pl) (q : Nat) :
    PrunedBy pl.bitmap q ↔ Full (PrunedBy pl.bitmap) q :=
  ⟨fun hp _ _ hs => prunedBy_of_sub hp hs, canon h q⟩

theorem prunedBy_of_leaves {pl : PruneList} (h : Inv pl) (S : Nat → Prop)
    (hl : ∀ l, height l = 0 → (PrunedBy pl.bitmap l ↔ S l)) (q : Nat) :
    PrunedBy pl.bitmap q ↔ Full S q := by
  rw [prunedBy_iff_full h, full_congr hl]

/-- what the roll-up of `append pl p` did: `pl'` is the result, `p'` the root it ended at -/
structure Rolled (pl pl' : PruneList) (p p' : Nat) : Prop where
  le : p ≤ p'
  anc : ∀ q, p ≤ q → q ≤ p' → Sub q p
  roots : ∀ y ∈ pl'.bitmap, y ≤ 1 + p'
  leaves : ∀ l, height l = 0 → (PrunedBy pl'.bitmap l ↔ PrunedBy pl.bitmap l ∨ Sub p l)

/-- a pruned sibling lies left of `p`: `p` is a right child, its parent is `p + 1` -/
theorem family_of_pruned_sibling {bm : List Nat} {p : Nat} (hsb : PrunedBy bm (family p).2)
    (hall : ∀ x ∈ bm, x ≤ 1 + p) : family p = (p + 1, p + 1 - 2 * 2 ^ height p) := by
  obtain ⟨x, hx, hxs⟩ := hsb
  have hxp := hall x hx
  rcases Co.family_cases p with ⟨hf, _⟩ | hf
  · exact hf
  · exfalso
    have hpos : 0 < 2 ^ height p := Nat.pow_pos (by omega)
    rw [hf] at hxs; simp only at hxs
    have := hxs.2; omega

/-- the roots `cleanup_subtree` removes lie below `p` -/
theorem prunedBy_cleanup_snoc {pl : PruneList} (hinv : Inv pl) {p : Nat}
    (hall : ∀ x ∈ pl.bitmap, x ≤ 1 + p) (l : Nat) :
    PrunedBy ((cleanupSubtree pl p).bitmap ++ [1 + p]) l ↔ PrunedBy pl.bitmap l ∨ Sub p l := by
  have hlm := Co.leftmost_le p
  rw [prunedBy_append]
  constructor
  · rintro (⟨x, hx, hs⟩ | ⟨x, hx, hs⟩)
    · exact Or.inl ⟨x, ((mem_cleanup hinv p x).1 hx).1, hs⟩
    · simp at hx; subst hx
      rw [Nat.add_sub_cancel_left] at hs; exact Or.inr hs
  · rintro (⟨x, hx, hs⟩ | hs)
    · by_cases hle : x ≤ bintreeLeftmost p
      · exact Or.inl ⟨x, (mem_cleanup hinv p x).2 ⟨hx, hle⟩, hs⟩
      · right
        have := hall x hx
        refine ⟨1 + p, by simp, ?_⟩
        rw [Nat.add_sub_cancel_left]
        exact sub_trans (show Sub p (x - 1) from ⟨by omega, by omega⟩) hs
    · exact Or.inr ⟨1 + p, by simp, by rw [Nat.add_sub_cancel_left]; exact hs⟩

/-- **set-level correctness of `append`**; the hypothesis on the roots is the "prune list append
only" precondition -/
theorem appendFuel_leaves : ∀ (fuel : Nat) (pl : PruneList) (p : Nat), Inv pl →
    (∀ x ∈ pl.bitmap, x ≤ 1 + p) → 64 ≤ height p + fuel → p + fuel < 2 ^ 64 →
    ∃ p', Rolled pl (appendFuel fuel pl p) p p' := by
  intro fuel
  induction fuel with
  | zero =>
    intro pl p _ _ h1 h2
    have hb := Co.height_bound p
    have : 2 ^ 64 ≤ 2 ^ height p := Nat.pow_le_pow_right (by omega) (by omega)
    omega
  | succ n ih =>
    intro pl p hinv hall h1 h2
    unfold appendFuel
    simp only
    split
    · rename_i hsp
      have hsb := (isPruned_iff_prunedBy hinv _).1 hsp
      have hfam := family_of_pruned_sibling hsb hall
      obtain ⟨x, hx, hxs⟩ := hsb
      have hpar := Co.height_family_fst p
      rw [hfam] at hpar hsp hxs ⊢
      simp only at hpar hsp hxs ⊢
      obtain ⟨p', hr⟩ := ih pl (p + 1) hinv (fun y hy => by have := hall y hy; omega)
        (by omega) (by omega)
      have hsubp : Sub (p + 1) p := by
        have := sub_parent_self p
        rw [hfam] at this; exact this
      refine ⟨p', { le := by have := hr.le; omega, anc := ?_, roots := hr.roots, leaves := ?_ }⟩
      · intro q hq1 hq2
        by_cases hq : q = p
        · rw [hq]; exact sub_refl p
        · exact sub_trans (hr.anc q (by omega) hq2) hsubp
      · intro l hl
        rw [hr.leaves l hl]
        have hsf := sub_family p l
        rw [hfam] at hsf; simp only at hsf
        constructor
        · rintro (h | h)
          · exact Or.inl h
          · rcases hsf.1 h with rfl | h | h
            · omega
            · exact Or.inr h
            · exact Or.inl ⟨x, hx, sub_trans hxs h⟩
        · rintro (h | h)
          · exact Or.inl h
          · exact Or.inr (hsf.2 (Or.inr (Or.inl h)))
    · rename_i hnp
      have hnp' : isPruned pl (family p).2 = false := by simpa using hnp
      obtain ⟨hi, hb⟩ := append_nosib hinv p hnp'
      have hlm := Co.leftmost_le p
      have hlv := fun l (_ : height l = 0) => hb ▸ prunedBy_cleanup_snoc hinv hall l
      refine ⟨p, { le := Nat.le_refl _, anc := ?_, roots := ?_, leaves := hlv }⟩
      · intro q hq1 hq2
        have : q = p := by omega
        rw [this]; exact sub_refl p
      · intro y hy
        rw [hb] at hy
        rcases List.mem_append.1 hy with hy | hy
        · have := ((mem_cleanup hinv p y).1 hy).2; omega
        · simp at hy; omega

/-- the roll-up ends at an ancestor `p'` of the appended position, and an element `≤ 1 + p'` would
have that position in its subtree -/
theorem append_roots_lt {pl : PruneList} (hinv : Inv pl) {e : Nat} {rest : List Nat}
    (he : 1 ≤ e ∧ e + 64 < 2 ^ 64) (hlt : ∀ y ∈ pl.bitmap, y < e) (hs : ∀ e' ∈ rest, e < e')
    (ha : ∀ e' ∈ rest, ¬ Sub (e' - 1) (e - 1)) :
    ∀ y ∈ (append pl (e - 1)).bitmap, ∀ e' ∈ rest, y < e' := by
  obtain ⟨p', hr⟩ := appendFuel_leaves 64 pl (e - 1) hinv
    (fun y hy => by have := hlt y hy; omega) (by omega) (by omega)
  intro y hy e' he'
  have h1 := hr.roots y hy
  have h2 := hs e' he'
  have h3 := hr.le
  apply Classical.byContradiction
  intro hc
  exact ha e' he' (hr.anc (e' - 1) (by omega) (by omega))

/-- an argument fit for `PruneList::new`: what `check_compact` builds and what a list satisfying
the invariant holds -/
structure NewArg (l : List Nat) : Prop where
  sorted : Sorted l
  bound : ∀ e ∈ l, 1 ≤ e ∧ e + 64 < 2 ^ 64
  anti : List.Pairwise (fun a b => ¬ Sub (b - 1) (a - 1)) l

theorem NewArg.tail {e : Nat} {rest : List Nat} (h : NewArg (e :: rest)) : NewArg rest :=
  ⟨(List.pairwise_cons.1 h.sorted).2, fun e' he' => h.bound e' (List.mem_cons_of_mem _ he'),
    (List.pairwise_cons.1 h.anti).2⟩

theorem NewArg.of_inv {pl : PruneList} (h : Inv pl) (hb : ∀ x ∈ pl.bitmap, x + 64 < 2 ^ 64) :
    NewArg pl.bitmap := by
  refine ⟨h.sorted, fun e he => ⟨h.pos e he, hb e he⟩, ?_⟩
  apply List.Pairwise.imp_of_mem (R := fun a c => a ≤ bintreeLeftmost (c - 1)) ?_ h.disj
  intro a c ha _ hac hsub
  have := hsub.1
  have := h.pos a ha
  omega

theorem foldl_append_leaves : ∀ (rest : List Nat) (pl : PruneList) (S : Nat → Prop), Inv pl →
    (∀ l, height l = 0 → (PrunedBy pl.bitmap l ↔ S l)) →
    (∀ y ∈ pl.bitmap, ∀ e ∈ rest, y < e) → NewArg rest →
    ∀ l, height l = 0 →
      (PrunedBy (rest.foldl (fun pl pos1 => append pl (pos1 - 1)) pl).bitmap l ↔ S l ∨ PrunedBy rest l) := by
  intro rest
  induction rest with
  | nil =>
    intro pl S _ hS _ _ l hl
    simp only [List.foldl_nil]
    rw [hS l hl]
    constructor
    · exact Or.inl
    · rintro (h | ⟨x, hx, _⟩)
      · exact h
      · simp at hx
  | cons e rest ih =>
    intro pl S hinv hS hlt harg l hl
    simp only [List.foldl_cons]
    have hs' := List.pairwise_cons.1 harg.sorted
    have ha' := List.pairwise_cons.1 harg.anti
    obtain ⟨he1, he2⟩ := harg.bound e (by simp)
    obtain ⟨_, hr⟩ := appendFuel_leaves 64 pl (e - 1) hinv
      (fun y hy => by have := hlt y hy e (by simp); omega) (by omega) (by omega)
    have := ih (append pl (e - 1)) (fun l => S l ∨ Sub (e - 1) l) (append_inv hinv _)
      (fun l hl => by
        show PrunedBy (appendFuel 64 pl (e - 1)).bitmap l ↔ _
        rw [hr.leaves l hl, hS l hl])
      (append_roots_lt hinv ⟨he1, he2⟩ (fun y hy => hlt y hy e (by simp)) hs'.1 ha'.1)
      harg.tail l hl
    rw [this, show PrunedBy (e :: rest) l ↔ Sub (e - 1) l ∨ PrunedBy rest l by simp [PrunedBy],
      or_assoc]

theorem new_leaves (l : List Nat) (harg : NewArg l) (q : Nat) (hq : height q = 0) :
    PrunedBy (PruneList.new l).bitmap q ↔ PrunedBy l q := by
  have := foldl_append_leaves l {} (fun _ => False) inv_empty
    (fun l _ => by simp [PrunedBy]) (fun y hy => by simp at hy) harg q hq
  unfold PruneList.new
  rw [this]; simp

/-! ### The "prune list append only" assertions of `store/src/prune_list.rs` never fire for the
arguments the store passes (`Model/PruneList.lean` `appendChecked` / `newChecked` = the functions
with the assertions as a `none` outcome): `append` with every root left of the position and
`PruneList::new` on an argument fit for it; the three call sites are in `Props/C08Assert.lean`. -/

theorem appendAssert_of_all_le {pl : PruneList} {pos0 : Nat} (h : ∀ y ∈ pl.bitmap, y ≤ pos0) :
    appendAssert pl pos0 = true := by
  unfold appendAssert
  cases hm : Bm.maximum pl.bitmap with
  | none => simp
  | some m => simpa using h m (maximum_mem hm)

/-- the recursion moves to the parent (further right), `cleanup_subtree` only removes roots -/
theorem appendChecked_eq : ∀ (fuel : Nat) (pl : PruneList) (pos0 : Nat), Inv pl →
    (∀ y ∈ pl.bitmap, y ≤ pos0) → appendChecked fuel pl pos0 = some (appendFuel fuel pl pos0) := by
  intro fuel
  induction fuel with
  | zero => intro pl pos0 _ _; rfl
  | succ n ih =>
    intro pl pos0 hinv hall
    unfold appendChecked appendFuel
    rw [appendAssert_of_all_le hall]
    simp only [Bool.not_true, Bool.false_eq_true, if_false]
    split
    · exact ih pl (family pos0).1 hinv (fun y hy => by
        have := hall y hy; have := Co.family_fst_gt pos0; omega)
    · obtain ⟨_, _, hsub⟩ := cleanup_inv hinv pos0
      rw [appendAssert_of_all_le (fun y hy => hall y (hsub y hy))]
      simp

theorem foldl_appendChecked : ∀ (rest : List Nat) (pl : PruneList), Inv pl →
    (∀ y ∈ pl.bitmap, ∀ e ∈ rest, y < e) → NewArg rest →
    rest.foldl (fun acc pos1 => acc.bind fun pl => appendChecked 64 pl (pos1 - 1)) (some pl) =
      some (rest.foldl (fun pl pos1 => append pl (pos1 - 1)) pl) := by
  intro rest
  induction rest with
  | nil => intro pl _ _ _; rfl
  | cons e rest ih =>
    intro pl hinv hlt harg
    have hs' := List.pairwise_cons.1 harg.sorted
    have ha' := List.pairwise_cons.1 harg.anti
    obtain ⟨he1, he2⟩ := harg.bound e (by simp)
    have hall : ∀ y ∈ pl.bitmap, y ≤ e - 1 := fun y hy => by
      have := hlt y hy e (by simp); omega
    simp only [List.foldl_cons, Option.bind_some]
    rw [appendChecked_eq 64 pl (e - 1) hinv hall]
    exact ih (append pl (e - 1)) (append_inv hinv _)
      (append_roots_lt hinv ⟨he1, he2⟩ (fun y hy => hlt y hy e (by simp)) hs'.1 ha'.1)
      harg.tail

theorem newChecked_eq (l : List Nat) (harg : NewArg l) :
    newChecked l = some (PruneList.new l) := by
  unfold newChecked PruneList.new
  have h0 : Bm.contains l 0 = false := by
    refine Bool.eq_false_iff.2 fun h => ?_
    have := harg.bound 0 (contains_iff.1 h)
    omega
  rw [h0]
  simp only [Bool.false_eq_true, if_false]
  exact foldl_appendChecked l {} inv_empty (fun y hy => by simp at hy) harg

end PruneList

end GV.Store
