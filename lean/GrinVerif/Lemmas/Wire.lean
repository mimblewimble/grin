import GrinVerif.Lemmas.WireCodec
import GrinVerif.Lemmas.DecErases
import GrinVerif.Lemmas.DecSer
/-! One statement per wire type whose two models share the value type: `Wire B S q p w P e n` is the `Codec B S q w P` of the plain
reader (`Lemmas/WireCodec.lean`) and `Instr e n q (p rd)` (`Lemmas/DecErases.lean`) of the instrumented one for both `Reader` implementations `rd`: what C10
proves of it, and of C11 erasure (hence panic-freedom and agreement of the readers), allocation bound and progress.
`Wire.step` has the shape of the plain chain `fun bs => andThen (q₁ bs) g` and of the instrumented chain
`fun rd bs => Dec.bind (p₁ rd bs) (f rd)` in its conclusion, so one term `Wire.step π₁ field₁ fun a => … Wire.pure (mk a …)` takes both
definitions apart. -/
namespace GV.Wire
open GV GV.Ser GV.Dec GV.DecSer

variable {α ρ : Type}

namespace Instr

theorem bndS_readMulti {c1 e w d sz : Nat} {q : Parser ρ} {p : Dec ρ} (h : Instr e w q p)
    (hd : GROW * sz + d ≤ c1 * w) (count : Nat) :
    BndS (1 + c1) 0 e (fun xs => d * xs.length) (DecSer.readMulti p sz count) :=
  DecSer.bndS_readMulti h.bnd h.progW hd count

theorem readMulti_progress {e w : Nat} {q : Parser ρ} {p : Dec ρ} (h : Instr e w q p) {sz count : Nat} {bs : Bytes}
    {xs : List ρ} {r : Bytes} {n : Nat} (hr : DecSer.readMulti p sz count bs = .ok xs r n) :
    xs.length = count ∧ xs.length * w + r.length ≤ bs.length :=
  DecSer.readMulti_progress h.progW hr

end Instr

structure Wire (B : Prop) (S : ρ → Prop) (q : Parser ρ) (p : Rdr → Dec ρ) (w : ρ → Bytes) (P : ρ → Prop) (e n : Nat) : Prop where
  codec : Codec B S q w P
  instr : ∀ rd, Instr e n q (p rd)

abbrev Field (B : Prop) (q : Parser α) (p : Rdr → Dec α) (w : α → Bytes) (P : α → Prop) (e n : Nat) : Prop :=
  Wire B (fun _ => True) q p w P e n

namespace Wire
variable {B : Prop} {S : ρ → Prop} {q : Parser ρ} {p : Rdr → Dec ρ} {w : ρ → Bytes} {P : ρ → Prop} {e n : Nat}

theorem rt {q : Parser α} {p : Rdr → Dec α} {w : α → Bytes} {P : α → Prop} (h : Field B q p w P e n) (x : α) (hx : P x)
    (rest : Bytes) : q (w x ++ rest) = .ok (x, rest) := Whole.rt h.codec x hx rest
theorem inv {q : Parser α} {p : Rdr → Dec α} {w : α → Bytes} {P : α → Prop} (h : Field True q p w P e n) {bs : Bytes} {x : α}
    {r : Bytes} (hb : AllBytes bs) (hq : q bs = .ok (x, r)) : bs = w x ++ r ∧ P x := Whole.inv h.codec hb hq
theorem inv' {q : Parser α} {p : Rdr → Dec α} {w : α → Bytes} {P : α → Prop} (h : Field False q p w P e n) {bs : Bytes} {x : α}
    {r : Bytes} (hq : q bs = .ok (x, r)) : bs = w x ++ r ∧ P x := Whole.inv' h.codec hq
theorem erases (h : Wire B S q p w P e n) (rd : Rdr) : Erases (p rd) q := (h.instr rd).erases
theorem bnd (h : Wire B S q p w P e n) (rd : Rdr) : Bnd 1 0 e (p rd) := (h.instr rd).bnd
theorem progW (h : Wire B S q p w P e n) (rd : Rdr) : ProgW n (p rd) := (h.instr rd).progW

theorem step {B1 B2 : Prop} {q1 : Parser α} {p1 : Rdr → Dec α} {w1 : α → Bytes} {P1 : α → Prop} {e1 n1 : Nat}
    {g : α → Parser ρ} {f : Rdr → α → Dec ρ} {w2 : α → ρ → Bytes} {P2 : α → ρ → Prop} {e2 n2 : Nat}
    (π : ρ → α) (h1 : Field B1 q1 p1 w1 P1 e1 n1)
    (h2 : ∀ a, Wire B2 (fun x => S x ∧ π x = a) (g a) (fun rd => f rd a) (w2 a) (P2 a) e2 n2) :
    Wire (B1 ∨ B2) S (fun bs => andThen (q1 bs) g) (fun rd bs => Dec.bind (p1 rd bs) (f rd))
      (fun x => w1 (π x) ++ w2 (π x) x) (fun x => P1 (π x) ∧ P2 (π x) x) (max e1 e2) (n1 + n2) :=
  ⟨Codec.step π h1.codec fun a => (h2 a).codec, fun rd => (h1.instr rd).bind fun a => (h2 a).instr rd⟩

theorem pure (v : ρ) (hS : ∀ x, S x ↔ x = v) :
    Wire False S (fun r => .ok (v, r)) (fun _ r => .ok v r 0) (fun _ => []) (fun _ => True) 0 0 :=
  ⟨Codec.pure v hS, fun _ => Instr.pure v⟩

theorem fail (err : SerErr) (n : Nat) :
    Wire False S (fun _ => .error err) (fun _ _ => .err err 0) (fun _ => []) (fun _ => False) 0 n :=
  ⟨Codec.fail err, fun _ => Instr.fail n err⟩

theorem congr {B' : Prop} {w' : ρ → Bytes} {P' : ρ → Prop} {e' n' : Nat} (h : Wire B S q p w P e n) (hB : B → B')
    (hw : ∀ x, P x → w' x = w x) (hP : ∀ x, P' x ↔ P x) (he : e ≤ e') (hn : n' ≤ n) : Wire B' S q p w' P' e' n' :=
  ⟨h.codec.congr hB hw hP, fun rd => (h.instr rd).weaken he hn⟩

theorem ite {B1 B2 : Prop} {q1 q2 : Parser ρ} {p1 p2 : Rdr → Dec ρ} {w1 w2 : ρ → Bytes} {P1 P2 : ρ → Prop}
    {e1 e2 n1 n2 : Nat} (c : Prop) [Decidable c] (h1 : c → Wire B1 S q1 p1 w1 P1 e1 n1)
    (h2 : ¬ c → Wire B2 S q2 p2 w2 P2 e2 n2) :
    Wire (B1 ∨ B2) S (fun bs => if c then q1 bs else q2 bs) (fun rd bs => if c then p1 rd bs else p2 rd bs)
      (fun x => if c then w1 x else w2 x) (fun x => if c then P1 x else P2 x) (max e1 e2) (min n1 n2) :=
  ⟨Codec.ite c (fun h => (h1 h).codec) fun h => (h2 h).codec,
   fun rd => Instr.ite c (fun h => (h1 h).instr rd) fun h => (h2 h).instr rd⟩

theorem of_eq {q' : Parser ρ} {p' : Rdr → Dec ρ} (h : Wire B S q p w P e n) (hq : ∀ bs, q' bs = q bs)
    (hp : ∀ rd bs, p' rd bs = p rd bs) : Wire B S q' p' w P e n :=
  ⟨h.codec.of_eq hq, fun rd => (h.instr rd).of_eq hq (hp rd)⟩

end Wire

theorem wire_tag : Field False readU8 (fun _ => rU8) writeU8 (fun _ => True) 0 1 := ⟨codec_tag, fun _ => instr_rU8⟩
theorem wire_u16 : Field True readU16 (fun _ => rU16) writeU16 (· < 2^16) 0 2 := ⟨codec_u16, fun _ => instr_rU16⟩
theorem wire_u64 : Field True readU64 (fun _ => rU64) writeU64 (· < 2^64) 0 8 := ⟨codec_u64, fun _ => instr_rU64⟩
theorem wire_i64 : Field True readI64 (fun _ => rI64) writeI64 (fun z => -(2^63 : Int) ≤ z ∧ z < (2^63 : Int)) 0 8 :=
  ⟨codec_i64, fun _ => instr_rI64⟩
theorem wire_empty (n : Nat) : Field False (readEmpty n) (fun _ => rEmpty n) (fun _ => writeEmpty n) (fun _ => True) 0 n :=
  ⟨codec_empty n, fun _ => instr_rEmpty n⟩
theorem wire_fixed (n : Nat) (hn : n ≤ MAX_FIXED_READ) :
    Field False (readFixed n) (fun rd => rFixed rd n) writeFixed (fun x => x.length = n) n n :=
  ⟨codec_fixed n hn, fun rd => (instr_rFixed rd n).weaken (Nat.min_le_left ..) (Nat.le_refl _)⟩
theorem wire_fixedArr (n : Nat) (hn : n ≤ MAX_FIXED_READ) :
    Field False (readFixed n) (fun rd => rFixedArr rd n) writeFixed (fun x => x.length = n) n n :=
  ⟨codec_fixed n hn, fun rd => (instr_rFixedArr rd n).weaken (Nat.min_le_left ..) (Nat.le_refl _)⟩

end GV.Wire
