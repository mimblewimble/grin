import GrinVerif.Lemmas.ChainImplBasic
import GrinVerif.Lemmas.ChainApply
/-! The effect of `applyBlockImpl` (`Extension::apply_block`) under the representation invariant: loop by
loop (`OutsApplied`, `InsApplied`), then as a whole (`BlockApplied`): what it has done if it succeeded
(`applyBlockImpl_ok`), and the conditions under which it succeeds (`applyBlockImpl_of`). -/
namespace GV.Chain
namespace TxHS

/-- the state change of `apply_output` + `save_output_pos_height` -/
def pushLeaf (S : TxHS) (c h : Nat) : TxHS :=
  ({ S with leaves := S.leaves ++ [c], leafSet := S.leafSet ++ [S.leaves.length] } : TxHS).saveOutputPos
    c ⟨S.leaves.length, h⟩

/-- under the invariant the duplicate check of `apply_output` fires exactly when the commitment
has an index entry -/
theorem applyOutput_ok {S S' : TxHS} (hi : RInv S) (c h : Nat) (hr : S.applyOutput c h = .ok S') :
    S.getOutputPos c = none ∧
    S' = S.pushLeaf c h := by
  unfold applyOutput at hr
  cases hg : S.getOutputPos c with
  | none =>
    simp only [hg] at hr
    injection hr with hr
    exact ⟨rfl, hr.symm⟩
  | some cp =>
    simp [hg, hi.getData hg] at hr

theorem applyOutput_of_none (S : TxHS) (c h : Nat) (hn : S.getOutputPos c = none) :
    S.applyOutput c h = .ok (S.pushLeaf c h) := by
  unfold applyOutput pushLeaf
  simp [hn]

theorem applyOutput_rinv {S : TxHS} (hi : RInv S) (c h : Nat) (hn : S.getOutputPos c = none) :
    RInv (S.pushLeaf c h) := by
  unfold pushLeaf
  refine ⟨?_, ?_, ?_⟩
  · intro i hi'
    simp only [saveOutputPos_leafSet, List.mem_append, List.mem_singleton] at hi'
    simp only [saveOutputPos_leaves, List.length_append, List.length_singleton]
    rcases hi' with h1 | h1
    · have := hi.bound i h1; omega
    · omega
  · intro i hi' c' hc'
    simp only [saveOutputPos_leafSet, List.mem_append, List.mem_singleton] at hi'
    simp only [saveOutputPos_leaves] at hc'
    rw [getOutputPos_save]
    rcases hi' with h1 | h1
    · have hb := hi.bound i h1
      rw [List.getElem?_append_left hb] at hc'
      obtain ⟨h', e⟩ := hi.indexed i h1 c' hc'
      have hne : c' ≠ c := by
        intro heq; subst heq; rw [hn] at e; cases e
      rw [if_neg hne]
      exact ⟨h', e⟩
    · subst h1
      rw [List.getElem?_append_right (Nat.le_refl _)] at hc'
      simp only [Nat.sub_self, List.getElem?_cons_zero, Option.some.injEq] at hc'
      subst hc'
      exact ⟨h, by simp⟩
  · intro c' cp hg
    rw [getOutputPos_save] at hg
    simp only [saveOutputPos_leafSet, saveOutputPos_leaves, List.mem_append, List.mem_singleton]
    by_cases hc : c' = c
    · subst hc
      simp only [if_true, Option.some.injEq] at hg
      subst hg
      refine ⟨Or.inr rfl, ?_⟩
      rw [List.getElem?_append_right (Nat.le_refl _)]
      simp
    · rw [if_neg hc] at hg
      obtain ⟨h1, h2⟩ := hi.points c' cp hg
      refine ⟨Or.inl h1, ?_⟩
      rw [List.getElem?_append_left (hi.bound _ h1)]
      exact h2

/-- what the output loop of `apply_block` did, given that it succeeded -/
structure OutsApplied (S S1 : TxHS) (cs : List Nat) (h : Nat) : Prop where
  rinv : RInv S1
  leaves : S1.leaves = S.leaves ++ cs
  leafSet : ∀ i, i ∈ S1.leafSet ↔ i ∈ S.leafSet ∨ (S.leaves.length ≤ i ∧ i < S.leaves.length + cs.length)
  other : ∀ c, c ∉ cs → S1.getOutputPos c = S.getOutputPos c
  fresh : ∀ c ∈ cs, S.getOutputPos c = none
  created : ∀ c ∈ cs, ∃ i, S1.getOutputPos c = some ⟨i, h⟩ ∧ S.leaves.length ≤ i
  nodup : cs.Nodup
  spentIdx : S1.spentIdx = S.spentIdx

theorem applyOutputs_ok (os : List (Nat × Bool)) (h : Nat) : ∀ {S S1 : TxHS}, RInv S →
    S.applyOutputs os h = .ok S1 → OutsApplied S S1 (os.map (·.1)) h := by
  induction os with
  | nil =>
    intro S S1 hi hr
    simp only [applyOutputs] at hr
    injection hr with hr
    subst hr
    refine ⟨hi, by simp, ?_, fun _ _ => rfl, fun c hc => (by cases hc), fun c hc => (by cases hc),
      List.nodup_nil, rfl⟩
    intro i
    constructor
    · exact Or.inl
    · rintro (h1 | h1)
      · exact h1
      · simp at h1; omega
  | cons o os ih =>
    intro S S1 hi hr
    simp only [applyOutputs] at hr
    cases h1 : S.applyOutput o.1 h with
    | error e => rw [h1] at hr; cases hr
    | ok S' =>
      rw [h1] at hr
      obtain ⟨hn, hS'⟩ := applyOutput_ok hi o.1 h h1
      have hi' : RInv S' := hS' ▸ applyOutput_rinv hi o.1 h hn
      have A := ih hi' hr
      have hl' : S'.leaves = S.leaves ++ [o.1] := by rw [hS']; rfl
      have hls' : S'.leafSet = S.leafSet ++ [S.leaves.length] := by rw [hS']; rfl
      have hg' : ∀ c, S'.getOutputPos c = if c = o.1 then some ⟨S.leaves.length, h⟩ else S.getOutputPos c := by
        intro c; rw [hS']; unfold pushLeaf; rw [getOutputPos_save]; rfl
      have hnot : o.1 ∉ os.map (·.1) := by
        intro hm
        have := A.fresh o.1 hm
        rw [hg' o.1] at this
        simp at this
      refine ⟨A.rinv, ?_, ?_, ?_, ?_, ?_, ?_, ?_⟩
      · rw [A.leaves, hl']; simp
      · intro i
        rw [A.leafSet i, hls', hl']
        simp only [List.mem_append, List.mem_singleton, List.length_append,
          List.length_map, List.map_cons, List.length_cons, List.length_nil]
        constructor
        · rintro ((h1 | h1) | h1)
          · exact Or.inl h1
          · right; omega
          · right; omega
        · rintro (h1 | h1)
          · exact Or.inl (Or.inl h1)
          · by_cases he : i = S.leaves.length
            · exact Or.inl (Or.inr he)
            · right; omega
      · intro c hc
        simp only [List.map_cons, List.mem_cons, not_or] at hc
        rw [A.other c hc.2, hg' c, if_neg hc.1]
      · intro c hc
        simp only [List.map_cons, List.mem_cons] at hc
        rcases hc with hc | hc
        · subst hc; exact hn
        · have := A.fresh c hc
          rw [hg' c] at this
          split at this
          · cases this
          · exact this
      · intro c hc
        simp only [List.map_cons, List.mem_cons] at hc
        rcases hc with hc | hc
        · subst hc
          refine ⟨S.leaves.length, ?_, Nat.le_refl _⟩
          rw [A.other _ hnot, hg' _, if_pos rfl]
        · obtain ⟨i, e, hle⟩ := A.created c hc
          refine ⟨i, e, ?_⟩
          rw [hl'] at hle
          simp at hle
          omega
      · simp only [List.map_cons]
        exact List.nodup_cons.mpr ⟨hnot, A.nodup⟩
      · rw [A.spentIdx, hS']; rfl


theorem validateInput_ok {S : TxHS} {c : Nat} {cp : CommitPos} (h : S.validateInput c = .ok cp) :
    S.getOutputPos c = some cp ∧ S.getData cp.pos = some c := by
  unfold validateInput at h
  cases hg : S.getOutputPos c with
  | none => simp [hg] at h
  | some cp' =>
    simp only [hg] at h
    cases hd : S.getData cp'.pos with
    | none => simp [hd] at h
    | some c' =>
      simp only [hd] at h
      by_cases hc : c' = c
      · subst hc
        simp at h
        subst h
        exact ⟨rfl, hd⟩
      · have : (c' == c) = false := by simpa using hc
        simp [this] at h

theorem validateInput_of {S : TxHS} (hi : RInv S) {c : Nat} {cp : CommitPos}
    (h : S.getOutputPos c = some cp) : S.validateInput c = .ok cp := by
  unfold validateInput
  simp [h, hi.getData h]

theorem validateInputs_ok {S : TxHS} : ∀ (cs : List Nat) (sp : List (Nat × CommitPos)),
    S.validateInputs cs = .ok sp →
    sp.map (·.1) = cs ∧ ∀ x ∈ sp, S.getOutputPos x.1 = some x.2 ∧ S.getData x.2.pos = some x.1 := by
  intro cs
  induction cs with
  | nil =>
    intro sp h
    simp only [validateInputs] at h
    injection h with h
    subst h
    exact ⟨rfl, fun x hx => by cases hx⟩
  | cons c cs ih =>
    intro sp h
    simp only [validateInputs] at h
    cases h1 : S.validateInput c with
    | error e => rw [h1] at h; cases h
    | ok cp =>
      rw [h1] at h
      cases h2 : S.validateInputs cs with
      | error e => rw [h2] at h; cases h
      | ok r =>
        rw [h2] at h
        injection h with h
        subst h
        obtain ⟨e, hr⟩ := ih r h2
        refine ⟨by simp [e], ?_⟩
        intro x hx
        rcases List.mem_cons.mp hx with hx | hx
        · subst hx; exact validateInput_ok h1
        · exact hr x hx

theorem validateInputs_of {S : TxHS} (hi : RInv S) : ∀ (cs : List Nat),
    (∀ c ∈ cs, (S.getOutputPos c).isSome) → ∃ sp, S.validateInputs cs = .ok sp := by
  intro cs
  induction cs with
  | nil => intro _; exact ⟨[], rfl⟩
  | cons c cs ih =>
    intro h
    obtain ⟨sp, hsp⟩ := ih (fun c' hc' => h c' (List.mem_cons_of_mem _ hc'))
    have := h c (List.mem_cons_self ..)
    cases hg : S.getOutputPos c with
    | none => rw [hg] at this; cases this
    | some cp =>
      refine ⟨(c, cp) :: sp, ?_⟩
      simp only [validateInputs, validateInput_of hi hg, hsp]

/-- the state change of `apply_input` + `delete_output_pos_height` -/
def dropLeaf (S : TxHS) (c pos : Nat) : TxHS :=
  ({ S with leafSet := S.leafSet.filter (fun i => !(i == pos)) } : TxHS).deleteOutputPos c

theorem applyInput_ok {S S' : TxHS} {c : Nat} {cp : CommitPos} (h : S.applyInput c cp = .ok S') :
    cp.pos ∈ S.leafSet ∧ S' = S.dropLeaf c cp.pos := by
  unfold applyInput at h
  by_cases hm : cp.pos ∈ S.leafSet
  · simp only [List.contains_eq_mem, hm, decide_true, if_true] at h
    injection h with h
    exact ⟨hm, h.symm⟩
  · simp [hm] at h

theorem applyInput_of {S : TxHS} {c : Nat} {cp : CommitPos} (hm : cp.pos ∈ S.leafSet) :
    S.applyInput c cp = .ok (S.dropLeaf c cp.pos) := by
  unfold applyInput dropLeaf
  simp [hm]

theorem dropLeaf_leafSet (S : TxHS) (c pos i : Nat) :
    i ∈ (S.dropLeaf c pos).leafSet ↔ i ∈ S.leafSet ∧ i ≠ pos := by
  unfold dropLeaf
  simp

theorem dropLeaf_index (S : TxHS) (c pos c' : Nat) :
    (S.dropLeaf c pos).getOutputPos c' = if c' = c then none else S.getOutputPos c' := by
  unfold dropLeaf
  rw [getOutputPos_delete]
  rfl

theorem dropLeaf_rinv {S : TxHS} (hi : RInv S) {c : Nat} {cp : CommitPos}
    (hg : S.getOutputPos c = some cp) : RInv (S.dropLeaf c cp.pos) := by
  refine ⟨?_, ?_, ?_⟩
  · intro i h
    exact hi.bound i ((dropLeaf_leafSet S c cp.pos i).mp h).1
  · intro i h c' hc'
    obtain ⟨h1, h2⟩ := (dropLeaf_leafSet S c cp.pos i).mp h
    have hc'' : S.leaves[i]? = some c' := hc'
    obtain ⟨h', e⟩ := hi.indexed i h1 c' hc''
    rw [dropLeaf_index]
    have hne : c' ≠ c := by
      intro heq; subst heq
      rw [hg] at e
      injection e with e
      exact h2 (by rw [e])
    rw [if_neg hne]
    exact ⟨h', e⟩
  · intro c' cp' hg'
    rw [dropLeaf_index] at hg'
    by_cases hc : c' = c
    · rw [if_pos hc] at hg'; cases hg'
    · rw [if_neg hc] at hg'
      obtain ⟨h1, h2⟩ := hi.points c' cp' hg'
      refine ⟨(dropLeaf_leafSet S c cp.pos cp'.pos).mpr ⟨h1, ?_⟩, h2⟩
      intro heq
      have h3 := (hi.points c cp hg).2
      rw [heq] at h2
      rw [h2] at h3
      injection h3 with h3
      exact hc h3

/-- what the input loop of `apply_block` did, given that it succeeded -/
structure InsApplied (S S2 : TxHS) (sp : List (Nat × CommitPos)) : Prop where
  rinv : RInv S2
  leaves : S2.leaves = S.leaves
  leafSet : ∀ i, i ∈ S2.leafSet ↔ i ∈ S.leafSet ∧ i ∉ sp.map (·.2.pos)
  index : ∀ c, S2.getOutputPos c = if c ∈ sp.map (·.1) then none else S.getOutputPos c
  wasUnspent : ∀ x ∈ sp, S.getOutputPos x.1 = some x.2
  nodup : (sp.map (·.1)).Nodup
  spentIdx : S2.spentIdx = S.spentIdx

/-- the second alternative of the hypothesis exists for the induction only: once a commitment of the list
is spent, a later pair with the same commitment points at a leaf that is gone, and `applyInput` fails on
it (so the list has no such pair: `nodup`); callers pass the first alternative -/
theorem applyInputs_ok (sp : List (Nat × CommitPos)) : ∀ {S S2 : TxHS}, RInv S →
    (∀ x ∈ sp, S.getOutputPos x.1 = some x.2 ∨ x.2.pos ∉ S.leafSet) →
    S.applyInputs sp = .ok S2 → InsApplied S S2 sp := by
  induction sp with
  | nil =>
    intro S S2 hi _ hr
    simp only [applyInputs] at hr
    injection hr with hr
    subst hr
    exact ⟨hi, rfl, by simp, by simp, fun x hx => (by cases hx), List.nodup_nil, rfl⟩
  | cons x xs ih =>
    intro S S2 hi hyp hr
    simp only [applyInputs] at hr
    cases h1 : S.applyInput x.1 x.2 with
    | error e => rw [h1] at hr; cases hr
    | ok S' =>
      -- the first pair is spent on `S` (`hgx`: it was unspent there, `S'` is `S` with that leaf dropped), the
      -- rest on `S'` by induction (`B`); `hne`: no later pair has the first one's commitment, else
      -- `B.wasUnspent` would find it in the index of `S'`, from which dropping removed it. Each field of
      -- `InsApplied` then is one dropped leaf on top of the same field of `B`.
      rw [h1] at hr
      obtain ⟨hm, hS'⟩ := applyInput_ok h1
      have hgx : S.getOutputPos x.1 = some x.2 := by
        rcases hyp x (List.mem_cons_self ..) with h | h
        · exact h
        · exact absurd hm h
      have hi' : RInv S' := hS' ▸ dropLeaf_rinv hi hgx
      have hyp' : ∀ y ∈ xs, S'.getOutputPos y.1 = some y.2 ∨ y.2.pos ∉ S'.leafSet := by
        intro y hy
        rw [hS', dropLeaf_index, dropLeaf_leafSet]
        rcases hyp y (List.mem_cons_of_mem _ hy) with h | h
        · by_cases hc : y.1 = x.1
          · right
            rw [hc, hgx] at h
            injection h with h
            intro hcon
            exact hcon.2 (by rw [h])
          · left; rw [if_neg hc]; exact h
        · right; exact fun hcon => h hcon.1
      have B := ih hi' hyp' hr
      have hne : ∀ y ∈ xs, y.1 ≠ x.1 := by
        intro y hy hc
        have := B.wasUnspent y hy
        rw [hS', dropLeaf_index, if_pos hc] at this
        cases this
      refine ⟨B.rinv, ?_, ?_, ?_, ?_, ?_, ?_⟩
      · rw [B.leaves, hS']; rfl
      · intro i
        rw [B.leafSet i, hS', dropLeaf_leafSet]
        simp only [List.map_cons, List.mem_cons, not_or]
        constructor
        · rintro ⟨⟨a, b⟩, c⟩; exact ⟨a, b, c⟩
        · rintro ⟨a, b, c⟩; exact ⟨⟨a, b⟩, c⟩
      · intro c
        rw [B.index c, hS', dropLeaf_index]
        simp only [List.map_cons, List.mem_cons]
        by_cases h1 : c ∈ xs.map (·.1)
        · simp [h1]
        · by_cases h2 : c = x.1
          · simp [h2]
          · simp [h1, h2]
      · intro y hy
        rcases List.mem_cons.mp hy with hy | hy
        · subst hy; exact hgx
        · have := B.wasUnspent y hy
          rw [hS', dropLeaf_index, if_neg (hne y hy)] at this
          exact this
      · simp only [List.map_cons]
        refine List.nodup_cons.mpr ⟨?_, B.nodup⟩
        intro hm'
        obtain ⟨y, hy, hyx⟩ := List.mem_map.mp hm'
        exact hne y hy hyx
      · rw [B.spentIdx, hS']; rfl

end TxHS
end GV.Chain

namespace GV.Chain
open TxHS

/-- what a successful `applyBlockImpl` did; `sp` = the (commitment, position) pairs it spent -/
structure BlockApplied (S S' : TxHS) (b : Blk) (sp : List (Nat × CommitPos)) : Prop where
  rinv : RInv S'
  spIns : sp.map (·.1) = b.ins
  wasUnspent : ∀ x ∈ sp, S.getOutputPos x.1 = some x.2
  insNodup : b.ins.Nodup
  outsNodup : (b.outs.map (·.1)).Nodup
  fresh : ∀ c ∈ b.outs.map (·.1), S.getOutputPos c = none
  leaves : S'.leaves = S.leaves ++ b.outs.map (·.1)
  leafSet : ∀ i, i ∈ S'.leafSet ↔ (i ∈ S.leafSet ∧ i ∉ sp.map (·.2.pos)) ∨
    (S.leaves.length ≤ i ∧ i < S.leaves.length + b.outs.length)
  idxIn : ∀ c ∈ b.ins, S'.getOutputPos c = none
  idxOut : ∀ c ∈ b.outs.map (·.1), ∃ i, S'.getOutputPos c = some ⟨i, b.h⟩ ∧ S.leaves.length ≤ i
  idxOther : ∀ c, c ∉ b.ins → c ∉ b.outs.map (·.1) → S'.getOutputPos c = S.getOutputPos c
  spentHere : S'.getSpentIndex b.id = some (sp.map (·.2))
  spentOther : ∀ id, id ≠ b.id → S'.getSpentIndex id = S.getSpentIndex id

theorem applyBlockImpl_ok {S S' : TxHS} {b : Blk} (hi : RInv S) (hct : cutThroughViolation b = false)
    (hr : applyBlockImpl S b = .ok S') : ∃ sp, BlockApplied S S' b sp := by
  -- three stages: the outputs (`A`, an `OutsApplied` from `S` to `S1`), `validateInputs` on `S1` (the pairs `sp`; without
  -- cut-through, `hcut`, no input is a new output, so `sp` was in the index of `S` already: `hwas`), the
  -- inputs (`B`, an `InsApplied` from `S1` to `S2`). Each field of `BlockApplied` is the same field of `B` after that of `A`.
  have hcut := (cutThrough_false_iff b).mp hct
  unfold applyBlockImpl at hr
  cases h1 : S.applyOutputs b.outs b.h with
  | error e => rw [h1] at hr; cases hr
  | ok S1 =>
    simp only [h1] at hr
    have A := applyOutputs_ok b.outs b.h hi h1
    cases h2 : S1.validateInputs b.ins with
    | error e => simp only [h2] at hr; cases hr
    | ok sp =>
      simp only [h2] at hr
      obtain ⟨hsp, hv⟩ := validateInputs_ok b.ins sp h2
      cases h3 : S1.applyInputs sp with
      | error e => simp only [h3] at hr; cases hr
      | ok S2 =>
        simp only [h3] at hr
        injection hr with hr
        have B := applyInputs_ok sp A.rinv (fun x hx => Or.inl (hv x hx).1) h3
        have hin : ∀ x ∈ sp, x.1 ∈ b.ins := by
          intro x hx; rw [← hsp]; exact List.mem_map.mpr ⟨x, hx, rfl⟩
        have hwas : ∀ x ∈ sp, S.getOutputPos x.1 = some x.2 := by
          intro x hx
          rw [← A.other x.1 (hcut x.1 (hin x hx))]
          exact (hv x hx).1
        have hposlt : ∀ x ∈ sp, x.2.pos ∈ S.leafSet := fun x hx => (hi.points x.1 x.2 (hwas x hx)).1
        refine ⟨sp, ?_⟩
        subst hr
        refine ⟨?_, hsp, hwas, hsp ▸ B.nodup, A.nodup, A.fresh, ?_, ?_, ?_, ?_, ?_, ?_, ?_⟩
        · exact ⟨B.rinv.bound, B.rinv.indexed, B.rinv.points⟩
        · show S2.leaves = _
          rw [B.leaves, A.leaves]
        · intro i
          show i ∈ S2.leafSet ↔ _
          rw [B.leafSet i, A.leafSet i]
          simp only [List.length_map]
          constructor
          · rintro ⟨h | h, hn⟩
            · exact Or.inl ⟨h, hn⟩
            · exact Or.inr h
          · rintro (⟨h, hn⟩ | h)
            · exact ⟨Or.inl h, hn⟩
            · refine ⟨Or.inr h, ?_⟩
              intro hm
              obtain ⟨x, hx, hxi⟩ := List.mem_map.mp hm
              have := hi.bound _ (hposlt x hx)
              rw [hxi] at this
              omega
        · intro c hc
          show S2.getOutputPos c = none
          rw [B.index c, hsp, if_pos hc]
        · intro c hc
          show ∃ i, S2.getOutputPos c = _ ∧ _
          have hnin : c ∉ b.ins := fun h => hcut c h hc
          rw [B.index c, hsp, if_neg hnin]
          exact A.created c hc
        · intro c h1 h2
          show S2.getOutputPos c = _
          rw [B.index c, hsp, if_neg h1, A.other c h2]
        · rw [getSpentIndex_save, if_pos rfl]
        · intro id hid
          rw [getSpentIndex_save, if_neg hid]
          unfold getSpentIndex
          rw [B.spentIdx, A.spentIdx]

theorem applyOutputs_of (os : List (Nat × Bool)) (h : Nat) : ∀ {S : TxHS},
    (os.map (·.1)).Nodup → (∀ c ∈ os.map (·.1), S.getOutputPos c = none) →
    ∃ S1, S.applyOutputs os h = .ok S1 := by
  induction os with
  | nil => intro S _ _; exact ⟨S, rfl⟩
  | cons o os ih =>
    intro S hnd hfresh
    simp only [List.map_cons, List.nodup_cons] at hnd
    have h0 := hfresh o.1 (by simp)
    have : ∀ c ∈ os.map (·.1), (S.pushLeaf o.1 h).getOutputPos c = none := by
      intro c hc
      unfold pushLeaf
      rw [getOutputPos_save]
      have hne : c ≠ o.1 := fun he => hnd.1 (he ▸ hc)
      rw [if_neg hne]
      exact hfresh c (by simp [hc])
    obtain ⟨S1, h1⟩ := ih hnd.2 this
    exact ⟨S1, by simp only [applyOutputs, applyOutput_of_none S o.1 h h0, h1]⟩

theorem applyInputs_of (sp : List (Nat × CommitPos)) : ∀ {S : TxHS}, RInv S →
    (sp.map (·.1)).Nodup → (∀ x ∈ sp, S.getOutputPos x.1 = some x.2) →
    ∃ S2, S.applyInputs sp = .ok S2 := by
  induction sp with
  | nil => intro S _ _ _; exact ⟨S, rfl⟩
  | cons x xs ih =>
    intro S hi hnd hyp
    simp only [List.map_cons, List.nodup_cons] at hnd
    have hx := hyp x (List.mem_cons_self ..)
    have hm := (hi.points x.1 x.2 hx).1
    have hi' := dropLeaf_rinv hi hx
    have hyp' : ∀ y ∈ xs, (S.dropLeaf x.1 x.2.pos).getOutputPos y.1 = some y.2 := by
      intro y hy
      rw [dropLeaf_index]
      have hne : y.1 ≠ x.1 := fun he => hnd.1 (he ▸ List.mem_map.mpr ⟨y, hy, rfl⟩)
      rw [if_neg hne]
      exact hyp y (List.mem_cons_of_mem _ hy)
    obtain ⟨S2, h2⟩ := ih hi' hnd.2 hyp'
    exact ⟨S2, by simp only [applyInputs, applyInput_of hm, h2]⟩

theorem applyBlockImpl_of {S : TxHS} {b : Blk} (hi : RInv S) (hct : cutThroughViolation b = false)
    (hin : b.ins.Nodup) (hon : (b.outs.map (·.1)).Nodup)
    (hfresh : ∀ c ∈ b.outs.map (·.1), S.getOutputPos c = none)
    (hunspent : ∀ c ∈ b.ins, (S.getOutputPos c).isSome) : ∃ S', applyBlockImpl S b = .ok S' := by
  have hcut := (cutThrough_false_iff b).mp hct
  obtain ⟨S1, h1⟩ := applyOutputs_of b.outs b.h hon hfresh
  have A := applyOutputs_ok b.outs b.h hi h1
  have hu1 : ∀ c ∈ b.ins, (S1.getOutputPos c).isSome := by
    intro c hc; rw [A.other c (hcut c hc)]; exact hunspent c hc
  obtain ⟨sp, h2⟩ := validateInputs_of A.rinv b.ins hu1
  obtain ⟨hsp, hv⟩ := validateInputs_ok b.ins sp h2
  obtain ⟨S2, h3⟩ := applyInputs_of sp A.rinv (hsp ▸ hin) (fun x hx => (hv x hx).1)
  exact ⟨S2.saveSpentIndex b.id (sp.map (·.2)), by simp only [applyBlockImpl, h1, h2, h3]⟩

end GV.Chain
