import GrinVerif.Lemmas.ChainRun
/-! The invariants of a node along every run (`Inv`), how one step acts on head and block store, and
`Ran`: what every reached node satisfies. -/
namespace GV.Chain

/-- what it means that `n` accepted `b` (a child of `par`, state `s'` after it); `x` = what the step returned -/
structure Accepted (p : Params) (n : Node) (b : Blk) (par : Nat) (s' : UState) (x : Node × DRes) : Prop where
  parent : b.parent = some par
  parStored : par = n.head ∨ par ∈ n.stored
  check : checkBlock p n b par = .ok s'
  stored : x.1.stored = n.stored ++ [b.id]
  head : (x.1.head = n.head ∧ ¬ b.work > n.workOf n.head ∧ x.2 = .okFork) ∨
    (x.1.head = b.id ∧ b.work > n.workOf n.head ∧ x.2 = .okHead)

theorem Accepted.ok {p : Params} {n : Node} {b : Blk} {par : Nat} {s' : UState} {x : Node × DRes}
    (A : Accepted p n b par s' x) (e : Err) : x.2 ≠ .err e := by
  rcases A.head with ⟨_, _, hr⟩ | ⟨_, _, hr⟩ <;> rw [hr] <;> nofun

theorem Accepted.mem_stored {p : Params} {n : Node} {b : Blk} {par : Nat} {s' : UState} {x : Node × DRes}
    (A : Accepted p n b par s' x) {s : Nat} : s ∈ x.1.stored ↔ s ∈ n.stored ∨ s = b.id := by
  rw [A.stored, List.mem_append, List.mem_singleton]

/-- a step leaves the core alone and returns an error, or accepts the block: `SingleStep` says which branch
ran, this says what it did to head and block store -/
theorem processBlockSingle_core (p : Params) (n : Node) (b : Blk) :
    (CoreEq (processBlockSingle p n b).1 n ∧ ∃ e, (processBlockSingle p n b).2 = .err e) ∨
    ∃ par s', Accepted p n b par s' (processBlockSingle p n b) := by
  have hs := processBlockSingle_step p n b
  generalize processBlockSingle p n b = x at hs ⊢
  cases hs with
  | gate e => exact .inl ⟨.refl n, e, rfl⟩
  | refuse n1 e hh => exact .inl ⟨.of_header hh, e, rfl⟩
  | park n1 hh =>
    have hc := CoreEq.of_header hh
    exact .inl ⟨⟨hc.outs, hc.blks, hc.head, hc.stored⟩, _, rfl⟩
  | store n1 par s' hh hp hk =>
    obtain ⟨hpar, hps, _⟩ := (precheck_go_iff n b par).mp hp
    have hc := CoreEq.of_header hh
    refine .inr ⟨par, s', hpar, hps, hk, ?_, ?_⟩
    · rw [storeBlock_stored, hc.stored]
    · rw [← hc.head, ← workOf_congr hc.blks]; exact storeBlock_head n1 b

theorem CoreEq.of_err {p : Params} {n : Node} {b : Blk} {e : Err}
    (h : (processBlockSingle p n b).2 = .err e) : CoreEq (processBlockSingle p n b).1 n := by
  rcases processBlockSingle_core p n b with ⟨hc, _⟩ | ⟨_, _, A⟩
  · exact hc
  · exact absurd h (A.ok e)

theorem pbs_stored_cases (p : Params) (n : Node) (b : Blk) :
    ((processBlockSingle p n b).1.stored = n.stored ∧ ∃ e, (processBlockSingle p n b).2 = .err e) ∨
    ((processBlockSingle p n b).1.stored = n.stored ++ [b.id] ∧
      ((processBlockSingle p n b).2 = .okFork ∨ (processBlockSingle p n b).2 = .okHead)) := by
  rcases processBlockSingle_core p n b with ⟨hc, he⟩ | ⟨_, _, A⟩
  · exact .inl ⟨hc.stored, he⟩
  · exact .inr ⟨A.stored, A.head.imp (·.2.2) (·.2.2)⟩

theorem pbs_stored_sub (p : Params) (n : Node) (b : Blk) (s : Nat)
    (h : s ∈ (processBlockSingle p n b).1.stored) : s ∈ n.stored ∨ s = b.id := by
  rcases processBlockSingle_core p n b with ⟨hc, _⟩ | ⟨_, _, A⟩
  · exact .inl (hc.stored ▸ h)
  · exact A.mem_stored.mp h

theorem pbs_stored_mono (p : Params) (n : Node) (b : Blk) (s : Nat) (h : s ∈ n.stored) :
    s ∈ (processBlockSingle p n b).1.stored := by
  rcases processBlockSingle_core p n b with ⟨hc, _⟩ | ⟨_, _, A⟩
  · exact hc.stored ▸ h
  · exact A.mem_stored.mpr (.inl h)

def HeadMax (n : Node) : Prop := ∀ s ∈ n.stored, n.workOf s ≤ n.workOf n.head

structure StoredClosed (n : Node) : Prop where
  zero : 0 ∈ n.stored
  head : n.head ∈ n.stored
  parent : ∀ s ∈ n.stored, ∀ b par, n.blk s = some b → b.parent = some par → par ∈ n.stored

theorem knownFull_stored {n : Node} {b : Blk} (hc : StoredClosed n) (hk : KnownFull n b) :
    b.id ∈ n.stored := by
  rcases hk with h | h | h
  · exact h ▸ hc.head
  · unfold Node.parentOf at h
    cases hh : n.blk n.head with
    | none => rw [hh] at h; cases h
    | some hb =>
      rw [hh] at h
      exact hc.parent n.head hc.head hb b.id hh h.symm
  · exact h

theorem HeadMax.congr {n m : Node} (hc : CoreEq m n) (h : HeadMax n) : HeadMax m := by
  intro s hs'
  rw [workOf_congr hc.blks, workOf_congr hc.blks, hc.head]
  exact h s (hc.stored ▸ hs')

theorem StoredClosed.congr {n m : Node} (hc : CoreEq m n) (h : StoredClosed n) : StoredClosed m := by
  refine ⟨hc.stored ▸ h.zero, by rw [hc.head, hc.stored]; exact h.head, fun s hs' b par hb' hp => ?_⟩
  rw [hc.stored] at hs' ⊢
  rw [blk_congr hc.blks] at hb'
  exact h.parent s hs' b par hb' hp

theorem Preserved.of_core {p : Params} {P : Node → Prop}
    (hcore : ∀ n m : Node, CoreEq m n → P n → P m)
    (single : ∀ n b, n.blk b.id = some b → P n → P (processBlockSingle p n b).1) : Preserved p P where
  single := single
  orphans := fun n os h => hcore n _ (.orphans n os) h
  header := fun n _ n' _ hn h => hcore n n' (.of_header hn) h

theorem preserved_headMax (p : Params) : Preserved p HeadMax := by
  refine .of_core (fun _ _ => HeadMax.congr) ?_
  intro n b hb inv
  have hd := processBlockSingle_defs p n b
  have hbw : n.workOf b.id = b.work := by simp [Node.workOf, hb]
  intro s hs
  rw [workOf_congr hd.1, workOf_congr hd.1]
  rcases processBlockSingle_core p n b with ⟨hc, _⟩ | ⟨par, s', A⟩
  · rw [hc.head]; exact inv s (hc.stored ▸ hs)
  · rcases A.mem_stored.mp hs with h | rfl
    · have := inv s h
      rcases A.head with ⟨a, c, _⟩ | ⟨a, c, _⟩
      · rw [a]; exact this
      · rw [a, hbw]; omega
    · rcases A.head with ⟨a, c, _⟩ | ⟨a, c, _⟩
      · rw [a, hbw]; omega
      · rw [a]; exact Nat.le_refl _

theorem preserved_storedClosed (p : Params) : Preserved p StoredClosed := by
  refine .of_core (fun _ _ => StoredClosed.congr) ?_
  intro n b hb inv
  have hd := processBlockSingle_defs p n b
  rcases processBlockSingle_core p n b with ⟨hc, _⟩ | ⟨par, s', A⟩
  · exact inv.congr hc
  · have hps : par ∈ n.stored := by
      rcases A.parStored with h | h
      · exact h ▸ inv.head
      · exact h
    refine ⟨A.mem_stored.mpr (.inl inv.zero), ?_, ?_⟩
    · rcases A.head with ⟨a, _, _⟩ | ⟨a, _, _⟩
      · rw [a]; exact A.mem_stored.mpr (.inl inv.head)
      · rw [a]; exact A.mem_stored.mpr (.inr rfl)
    · intro s hs b' par' hb' hp'
      rw [blk_congr hd.1] at hb'
      refine A.mem_stored.mpr (.inl ?_)
      rcases A.mem_stored.mp hs with h | rfl
      · exact inv.parent s h b' par' hb' hp'
      · rw [hb] at hb'
        cases hb'
        rw [A.parent] at hp'
        cases hp'
        exact hps

def PassedCheck (p : Params) (n : Node) (id : Nat) : Prop :=
  ∃ b par s', n.blk id = some b ∧ b.parent = some par ∧ checkBlock p n b par = .ok s'

theorem PassedCheck_congr {n m : Node} (ho : n.outs = m.outs) (hb : n.blks = m.blks) (p : Params)
    (id : Nat) : PassedCheck p n id ↔ PassedCheck p m id := by
  simp [PassedCheck, blk_congr hb, checkBlock_congr ho hb]

def HeadStep (p : Params) (n n' : Node) : Prop :=
  n.workOf n.head ≤ n.workOf n'.head ∧
  (n'.head ≠ n.head → n.workOf n.head < n.workOf n'.head ∧ PassedCheck p n n'.head)

theorem HeadStep.refl (p : Params) (n : Node) : HeadStep p n n :=
  ⟨Nat.le_refl _, fun h => absurd rfl h⟩

theorem HeadStep.trans {p : Params} {a b c : Node} (hbo : b.outs = a.outs) (hbb : b.blks = a.blks)
    (h1 : HeadStep p a b) (h2 : HeadStep p b c) : HeadStep p a c := by
  have hw : ∀ x, b.workOf x = a.workOf x := workOf_congr hbb
  obtain ⟨l1, c1⟩ := h1
  obtain ⟨l2, c2⟩ := h2
  rw [hw, hw] at l2
  refine ⟨Nat.le_trans l1 l2, ?_⟩
  intro hne
  by_cases hcb : c.head = b.head
  · rw [hcb] at hne ⊢
    exact c1 hne
  · obtain ⟨lt, pc⟩ := c2 hcb
    rw [hw, hw] at lt
    exact ⟨Nat.lt_of_le_of_lt l1 lt, (PassedCheck_congr hbo hbb p _).mp pc⟩

theorem processBlockSingle_headStep (p : Params) (n : Node) (b : Blk) (hb : n.blk b.id = some b) :
    HeadStep p n (processBlockSingle p n b).1 := by
  have hbw : n.workOf b.id = b.work := by simp [Node.workOf, hb]
  rcases processBlockSingle_core p n b with ⟨hc, _⟩ | ⟨par, s', A⟩
  · rw [HeadStep, hc.head]; exact ⟨Nat.le_refl _, fun h => absurd rfl h⟩
  · rcases A.head with ⟨a, _, _⟩ | ⟨a, c, _⟩
    · rw [HeadStep, a]; exact ⟨Nat.le_refl _, fun h => absurd rfl h⟩
    · rw [HeadStep, a, hbw]
      exact ⟨by omega, fun _ => ⟨c, b, par, s', hb, A.parent, A.check⟩⟩

theorem preserved_headStep (p : Params) (n : Node) :
    Preserved p (fun m => (m.blks = n.blks ∧ m.outs = n.outs) ∧ HeadStep p n m) where
  single := by
    intro m b hb ⟨⟨hbl, hou⟩, hst⟩
    have hd := processBlockSingle_defs p m b
    refine ⟨⟨hd.1.trans hbl, hd.2.trans hou⟩, ?_⟩
    exact HeadStep.trans hou hbl hst (processBlockSingle_headStep p m b hb)
  orphans := by intro m os h; exact h
  header := by
    intro m b m' _ hm ⟨⟨hbl, hou⟩, hst⟩
    have hf := CoreEq.of_header hm
    refine ⟨⟨hf.blks.trans hbl, hf.outs.trans hou⟩, ?_⟩
    unfold HeadStep at *
    rw [hf.head]; exact hst


/-- *valid on path*: the block and all its ancestors down to the genesis `0` are registered and
pass the header rules (`HdrOk`) and `checkBlock` against the replayed state of their own parent.
A function of the definitions (`outs`, `blks`) only. -/
inductive VOP (p : Params) (n : Node) : Nat → Prop
  | genesis : VOP p n 0
  | child (b : Blk) (par : Nat) (s' : UState) : n.blk b.id = some b → b.parent = some par →
      VOP p n par → HdrOk p n b → checkBlock p n b par = .ok s' → VOP p n b.id

theorem VOP_congr' {n m : Node} (ho : n.outs = m.outs) (hb : n.blks = m.blks) (p : Params)
    (id : Nat) (h : VOP p n id) : VOP p m id := by
  induction h with
  | genesis => exact .genesis
  | child b par s' h1 h2 _ h4 h5 ih =>
    exact .child b par s' (blk_congr hb _ ▸ h1) h2 ih ((HdrOk_congr hb p b).mp h4)
      (checkBlock_congr ho hb p b par ▸ h5)

theorem VOP_congr {n m : Node} (ho : n.outs = m.outs) (hb : n.blks = m.blks) (p : Params)
    (id : Nat) : VOP p n id ↔ VOP p m id :=
  ⟨VOP_congr' ho hb p id, VOP_congr' ho.symm hb.symm p id⟩

theorem VOP.inv {p : Params} {n : Node} {b : Blk} (h : VOP p n b.id) (hb : n.blk b.id = some b)
    (h0 : b.id ≠ 0) : ∃ par s', b.parent = some par ∧ VOP p n par ∧ HdrOk p n b ∧
      checkBlock p n b par = .ok s' := by
  generalize hid : b.id = id at h
  cases h with
  | genesis => exact absurd hid h0
  | child b' par s' h1 h2 h3 h4 h5 =>
    rw [← hid] at h1
    have : b' = b := by
      have := h1.symm.trans hb
      exact Option.some.inj this
    subst this
    exact ⟨par, s', h2, h3, h4, h5⟩


/-- a block passes its own step: header rules and `checkBlock` against its parent's replayed state -/
def ValidStep (p : Params) (n : Node) (b : Blk) (par : Nat) : Prop :=
  n.blk b.id = some b ∧ b.parent = some par ∧ HdrOk p n b ∧ ∃ s', checkBlock p n b par = .ok s'

theorem ValidStep_congr {n m : Node} (ho : n.outs = m.outs) (hb : n.blks = m.blks) (p : Params)
    (b : Blk) (par : Nat) : ValidStep p n b par ↔ ValidStep p m b par := by
  simp only [ValidStep, blk_congr hb, HdrOk_congr hb, checkBlock_congr ho hb]

theorem ValidStep.vop {p : Params} {n : Node} {b : Blk} {par : Nat} (h : ValidStep p n b par)
    (hp : VOP p n par) : VOP p n b.id :=
  have ⟨hb, hpar, hok, s', hc⟩ := h
  .child b par s' hb hpar hp hok hc

theorem VOP.validStep {p : Params} {n : Node} {b : Blk} (h : VOP p n b.id) (hb : n.blk b.id = some b)
    (h0 : b.id ≠ 0) : ∃ par, ValidStep p n b par ∧ VOP p n par :=
  have ⟨par, s', hpar, hvp, hok, hc⟩ := h.inv hb h0
  ⟨par, ⟨hb, hpar, hok, s', hc⟩, hvp⟩

theorem processBlockSingle_stores (p : Params) (n : Node) (b : Blk) (par : Nat) (s' : UState)
    (hk : ¬ KnownFull n b) (hpar : b.parent = some par) (hps : par ∈ n.stored)
    (hph : par ∈ n.headers) (hv : HdrOk p n b) (hc : checkBlock p n b par = .ok s') :
    ∃ n1, processHeader p n b = .ok n1 ∧ processBlockSingle p n b = storeBlock n1 b := by
  obtain ⟨n1, h1⟩ := processHeader_of_valid ((validateHeader_none_iff p n b).mpr ⟨hv, par, hpar, hph⟩)
  refine ⟨n1, h1, ?_⟩
  rw [processBlockSingle_of_header h1, (precheck_go_iff n b par).mpr ⟨hpar, .inr hps, hk⟩]
  simp only [hc]

theorem processBlockSingle_pools (p : Params) (n : Node) (b : Blk) (par : Nat)
    (hk : ¬ KnownFull n b) (hpar : b.parent = some par) (hps : par ∉ n.stored) (hne : par ≠ n.head)
    (hph : par ∈ n.headers) (hv : HdrOk p n b) :
    ∃ n1, processHeader p n b = .ok n1 ∧ processBlockSingle p n b = (addOrphan n1 b, .err "Orphan") := by
  obtain ⟨n1, h1⟩ := processHeader_of_valid ((validateHeader_none_iff p n b).mpr ⟨hv, par, hpar, hph⟩)
  exact ⟨n1, h1, by rw [processBlockSingle_of_header h1, precheck_orphan_of hk hpar hne hps]⟩

/-- a finer decomposition of `Preserved.single`: header step, pool change, store step -/
structure PreservedParts (p : Params) (P : Node → Prop) : Prop where
  header : ∀ n b n', n.blk b.id = some b → processHeader p n b = .ok n' → P n → P n'
  orphans : ∀ n os, P n → P { n with orphans := os }
  store : ∀ n n1 b par s', n.blk b.id = some b → processHeader p n b = .ok n1 → P n → P n1 →
    precheck n1 b = .go par → checkBlock p n1 b par = .ok s' → P (storeBlock n1 b).1

theorem PreservedParts.toPreserved {p : Params} {P : Node → Prop} (h : PreservedParts p P) :
    Preserved p P where
  header := h.header
  orphans := h.orphans
  single := by
    intro n b hb hn
    have hs := processBlockSingle_step p n b
    generalize processBlockSingle p n b = x at hs ⊢
    cases hs with
    | gate => exact hn
    | refuse n1 _ h1 => exact h.header n b n1 hb h1 hn
    | park n1 h1 => exact h.orphans n1 _ (h.header n b n1 hb h1 hn)
    | store n1 par s' h1 hg hc =>
      have hce := CoreEq.of_header h1
      exact h.store n n1 b par s' hb h1 hn (h.header n b n1 hb h1 hn) (precheck_congr hce b ▸ hg)
        (hce.checkBlock p b par ▸ hc)

structure HdrInv (p : Params) (n : Node) : Prop where
  stored : ∀ s ∈ n.stored, s ∈ n.headers
  valid : ∀ h ∈ n.headers, h = 0 ∨ ∃ b par, n.blk h = some b ∧ HdrOk p n b ∧
    b.parent = some par ∧ par ∈ n.headers

theorem header_after_gate (p : Params) (n n1 : Node) (b : Blk) (hb : n.blk b.id = some b)
    (h1 : processHeader p n b = .ok n1) (hk : ¬ KnownFull n b) (hi : HdrInv p n) :
    b.id ∈ n1.headers ∧ (b.id = 0 ∨ HdrOk p n b) := by
  rcases processHeader_ok_cases p n n1 b h1 with ⟨e, h | ⟨hm, _⟩⟩ | ⟨_, hv, e⟩
  · exact absurd h hk
  · subst e
    refine ⟨hm, ?_⟩
    rcases hi.valid b.id hm with h0 | ⟨b', par, hb', hv, _⟩
    · exact Or.inl h0
    · rw [hb] at hb'; cases hb'; exact Or.inr hv
  · subst e
    exact ⟨(hdrUpdate_headers_mem n b b.id).mpr (Or.inr rfl),
      Or.inr ((validateHeader_none_iff p n b).mp hv).1⟩

theorem parts_hdrInv (p : Params) : PreservedParts p (HdrInv p) where
  header := by
    intro n b n' hb hn hi
    rcases processHeader_ok_cases p n n' b hn with ⟨e, _⟩ | ⟨_, hv, e⟩
    · subst e; exact hi
    · subst e
      obtain ⟨hok, par, hpar, hpm⟩ := (validateHeader_none_iff p n b).mp hv
      refine ⟨?_, ?_⟩
      · intro s hs
        exact (hdrUpdate_headers_mem n b s).mpr (Or.inl (hi.stored s hs))
      · intro h hh
        rcases (hdrUpdate_headers_mem n b h).mp hh with hm | hm
        · rcases hi.valid h hm with h0 | ⟨b', par', hb', hv', hp', hpm'⟩
          · exact Or.inl h0
          · exact Or.inr ⟨b', par', hb', hv', hp', (hdrUpdate_headers_mem n b par').mpr (Or.inl hpm')⟩
        · subst hm
          exact Or.inr ⟨b, par, hb, hok, hpar, (hdrUpdate_headers_mem n b par).mpr (Or.inl hpm)⟩
  orphans := by intro n os h; exact ⟨h.stored, h.valid⟩
  store := by
    intro n n1 b par s' hb h1 hi hi1 hg _
    have hk : ¬ KnownFull n b := fun h =>
      ((precheck_go_iff n1 b par).mp hg).2.2 (((CoreEq.of_header h1).knownFull b).mpr h)
    have hh := (header_after_gate p n n1 b hb h1 hk hi).1
    have hst : (storeBlock n1 b).1.headers = n1.headers ∧ (storeBlock n1 b).1.blks = n1.blks :=
      ⟨storeBlock_headers n1 b, storeBlock_blks n1 b⟩
    refine ⟨?_, ?_⟩
    · intro s hs
      rw [hst.1]
      rcases (storeBlock_stored_mem n1 b s).mp hs with h | rfl
      · exact hi1.stored s h
      · exact hh
    · intro h hm
      rw [hst.1] at hm ⊢
      simp only [blk_congr hst.2, HdrOk_congr hst.2]
      exact hi1.valid h hm


structure StoreInv (p : Params) (n : Node) : Prop where
  closed : StoredClosed n
  hdr : HdrInv p n
  valid : ∀ s ∈ n.stored, VOP p n s
  nodup : n.stored.Nodup

/-- a saved header is a valid one (`HdrInv`), so skipping its validation loses nothing -/
theorem Resting.valid {p : Params} {n : Node} {b : Blk} (hi : StoreInv p n) (hb : n.blk b.id = some b)
    (hk : ¬ KnownFull n b) (h : Resting n b) : validateHeader p n b = none := by
  rcases hi.hdr.valid b.id h.1 with h0 | ⟨b', par', hb', hv', hp', hm'⟩
  · exact absurd (.inr (.inr (h0 ▸ hi.closed.zero))) hk
  · rw [hb] at hb'; cases hb'
    exact (validateHeader_none_iff p n b).mpr ⟨hv', par', hp', hm'⟩

theorem parts_storeInv (p : Params) : PreservedParts p (StoreInv p) where
  header := by
    intro n b n' hb hn hi
    have hf := CoreEq.of_header hn
    refine ⟨(preserved_storedClosed p).header n b n' hb hn hi.closed,
      (parts_hdrInv p).header n b n' hb hn hi.hdr, ?_, hf.stored ▸ hi.nodup⟩
    intro s hs
    exact (VOP_congr hf.outs hf.blks p s).mpr (hi.valid s (hf.stored ▸ hs))
  orphans := by
    intro n os h
    exact ⟨(preserved_storedClosed p).orphans n os h.closed, (parts_hdrInv p).orphans n os h.hdr,
      fun s hs => VOP_congr' (n := n) (m := { n with orphans := os }) rfl rfl p s (h.valid s hs), h.nodup⟩
  store := by
    intro n n1 b par s' hb h1 hi hi1 hg hc
    have hf := CoreEq.of_header h1
    obtain ⟨hpar, hp, hk1⟩ := (precheck_go_iff n1 b par).mp hg
    have hk : ¬ KnownFull n b := fun h => hk1 ((hf.knownFull b).mpr h)
    have hps : par ∈ n1.stored := by
      rcases hp with h | h
      · exact h ▸ hi1.closed.head
      · exact h
    have hb1 := hf.symm.blk_some hb
    refine ⟨?_, (parts_hdrInv p).store n n1 b par s' hb h1 hi.hdr hi1.hdr hg hc, ?_, ?_⟩
    · -- the whole step is this store step
      have hstep : processBlockSingle p n b = storeBlock n1 b := by simp only [processBlockSingle, h1, hg, hc]
      exact hstep ▸ (preserved_storedClosed p).single n b hb hi.closed
    · intro s hs
      rw [VOP_congr (storeBlock_outs n1 b) (storeBlock_blks n1 b)]
      rcases (storeBlock_stored_mem n1 b s).mp hs with h | rfl
      · exact hi1.valid s h
      · rcases (header_after_gate p n n1 b hb h1 hk hi.hdr).2 with h0 | hv
        · rw [h0]; exact .genesis
        · exact .child b par s' hb1 hpar (hi1.valid par hps) ((HdrOk_congr hf.blks p b).mpr hv) hc
    · rw [storeBlock_stored]
      have hns : b.id ∉ n1.stored := fun h => hk1 (Or.inr (Or.inr h))
      exact List.nodup_append.mpr ⟨hi1.nodup, by simp, by
        intro a ha c hc'
        have : c = b.id := by simpa using hc'
        subst this
        intro e; subst e; exact hns ha⟩

def Inv (p : Params) (n : Node) : Prop := HeadMax n ∧ StoreInv p n

theorem Inv.store {p : Params} {n : Node} (h : Inv p n) : StoreInv p n := h.2
theorem Inv.closed {p : Params} {n : Node} (h : Inv p n) : StoredClosed n := h.2.closed
theorem Inv.hdr {p : Params} {n : Node} (h : Inv p n) : HdrInv p n := h.2.hdr
theorem Inv.valid {p : Params} {n : Node} (h : Inv p n) : ∀ s ∈ n.stored, VOP p n s := h.2.valid
theorem Inv.nodup {p : Params} {n : Node} (h : Inv p n) : n.stored.Nodup := h.2.nodup

theorem preserved_inv (p : Params) : Preserved p (Inv p) :=
  (preserved_headMax p).and (parts_storeInv p).toPreserved


structure Fresh (n : Node) : Prop where
  stored : n.stored = [0]
  head : n.head = 0
  headers : n.headers = [0]
  orphans : n.orphans = []
  genesis : ∀ g, n.blk 0 = some g → g.parent = none

theorem genesis_root_of {n : Node} {G : Blk} (h : n.blk 0 = some G) (hp : G.parent = none) :
    ∀ g, n.blk 0 = some g → g.parent = none :=
  fun _ hg => Option.some.inj (h.symm.trans hg) ▸ hp

theorem Fresh.init {outs : List OutDef} {blks : List Blk}
    (hg : ∀ g, ({ outs := outs, blks := blks } : Node).blk 0 = some g → g.parent = none) :
    Fresh { outs := outs, blks := blks } := ⟨rfl, rfl, rfl, rfl, hg⟩

theorem Fresh.inv {n : Node} (p : Params) (h : Fresh n) : Inv p n := by
  refine ⟨?_, ⟨?_, ?_, ?_⟩, ⟨?_, ?_⟩, ?_, ?_⟩
  · intro s hs
    rw [h.stored] at hs
    have : s = 0 := by simpa using hs
    rw [this, h.head]; exact Nat.le_refl _
  · rw [h.stored]; simp
  · rw [h.stored, h.head]; simp
  · intro s hs b par hb hp
    rw [h.stored] at hs
    obtain rfl := List.mem_singleton.mp hs
    rw [h.genesis b hb] at hp; cases hp
  · intro s hs; rw [h.stored] at hs; rw [h.headers]; exact hs
  · intro x hx; rw [h.headers] at hx; left; simpa using hx
  · intro s hs
    rw [h.stored] at hs
    have : s = 0 := by simpa using hs
    rw [this]; exact .genesis
  · rw [h.stored]; simp

/-- what every node reached by a run over the definitions of `N` satisfies (`Ran.of_run`): it has `N`'s
definitions and all invariants -/
structure Ran (p : Params) (N n : Node) : Prop where
  blks : n.blks = N.blks
  outs : n.outs = N.outs
  inv : Inv p n

theorem Ran.of_run {p : Params} {n : Node} {es : List Event} (hreg : Registered n es) (hi : Inv p n) :
    Ran p n (run p n es) :=
  ⟨(run_defs p n es).1, (run_defs p n es).2, run_preserved (preserved_inv p) n es hreg hi⟩

theorem Fresh.ran {n : Node} (p : Params) (hf : Fresh n) {es : List Event} (hreg : Registered n es) :
    Ran p n (run p n es) := .of_run hreg (hf.inv p)

theorem Ran.single {p : Params} {N n : Node} (h : Ran p N n) {b : Blk} (hb : n.blk b.id = some b) :
    Ran p N (processBlockSingle p n b).1 :=
  have hd := processBlockSingle_defs p n b
  ⟨hd.1.trans h.blks, hd.2.trans h.outs, (preserved_inv p).single n b hb h.inv⟩

theorem Ran.header {p : Params} {N n n' : Node} (h : Ran p N n) {b : Blk} (hb : n.blk b.id = some b)
    (hn : processHeader p n b = .ok n') : Ran p N n' :=
  have hc := CoreEq.of_header hn
  ⟨hc.blks.trans h.blks, hc.outs.trans h.outs, (preserved_inv p).header n b n' hb hn h.inv⟩

theorem Ran.orphans {p : Params} {N n : Node} (h : Ran p N n) (os : List Nat) :
    Ran p N { n with orphans := os } :=
  ⟨h.blks, h.outs, (preserved_inv p).orphans n os h.inv⟩

theorem Ran.blk {p : Params} {N n : Node} (h : Ran p N n) (id : Nat) : n.blk id = N.blk id :=
  blk_congr h.blks id

theorem Ran.vop {p : Params} {N n : Node} (h : Ran p N n) (id : Nat) : VOP p n id ↔ VOP p N id :=
  VOP_congr h.outs h.blks p id

theorem Ran.stored_vop {p : Params} {N n : Node} (h : Ran p N n) {id : Nat} (hs : id ∈ n.stored) :
    VOP p N id := (h.vop id).mp (h.inv.valid id hs)

theorem Fresh.stored_vop {n : Node} (p : Params) (hf : Fresh n) {es : List Event}
    (hreg : Registered n es) {id : Nat} (hs : id ∈ (run p n es).stored) : VOP p n id :=
  (hf.ran p hreg).stored_vop hs

end GV.Chain
