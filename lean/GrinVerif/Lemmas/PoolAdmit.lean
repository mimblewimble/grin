import GrinVerif.Lemmas.PoolOps
import GrinVerif.Lemmas.PoolMine
/-! The single clauses of admission, each with what it buys over all histories.

* height: the NRD part of `validate_tx` refers to the height of the NEXT block on the BODY head
  (`c.head.height + 1`; the header head does not occur in the model at all): an NRD kernel too recent for
  that block is not admitted, on either path.  (Lock height and coinbase maturity refer to the same height;
  they are the fields `Passed.lock`, `Passed.mature` of Lemmas/PoolOps.)  A transaction without kernels is
  refused;
* fee: `is_acceptable` checks the fee before the capacity (3aef11dd9), so every entry of the txpool, the
  stempool and the reorg cache pays at least `accept_fee` for its weight after every operation -
  admissions at capacity, evictions, blocks, reorg-cache replays included;
* kernel variants: `verify_kernel_variants` looks at EVERY kernel; while `global::is_nrd_enabled()` is
  false no entry ever holds an NRD kernel (`run_noNrd`), an aggregate of such entries has none
  (`aggregate_noNrd`), and a block assembled from a body without NRD kernels passes the chain's feature-flag
  gate (`Block::verify_nrd_kernels_for_header_version`, `blockNrdGate_of_noNrd`): three steps, each a lemma. -/
namespace GV.Pool

/-! ## height -/

theorem nrdTooRecent_mono {c : Ctx} {t a : Tx} (hk : ∀ k ∈ t.kers, k ∈ a.kers) (h : nrdTooRecent c t = true) :
    nrdTooRecent c a = true := by
  unfold nrdTooRecent at h ⊢
  rw [List.any_eq_true] at h ⊢
  obtain ⟨k, hk', hp⟩ := h
  exact ⟨k, hk k hk', hp⟩

theorem addToPool_nrd_error {c : Ctx} {p : Pool} {e : Entry} {extra : Option Tx}
    (hen : c.cfg.nrdEnabled = true)
    (h : nrdTooRecent c e.tx = true) : ∃ er, Pool.addToPool c p e extra = .error er := by
  unfold Pool.addToPool
  split
  · exact ⟨_, rfl⟩
  · split
    · exact ⟨_, rfl⟩
    · rename_i agg hagg
      have hn : nrdTooRecent c agg = true :=
        nrdTooRecent_mono (fun k hk => (mem_aggregate_kers hagg).mpr ⟨e.tx, by simp, hk⟩) h
      split
      · exact ⟨_, rfl⟩
      · rename_i hv
        have := ((chainValidateTx_none_iff c agg).mp ((validateRawTx_none_iff c _ agg).mp hv).2).2.2
        simp [hn, hen] at this

/-- an entry with an NRD kernel too recent for the next block of the body head is not admitted:
`Pool::add_to_pool` fails on the pool it would go to -/
theorem admitInto_nrd_error {c : Ctx} {s : TxPool} {entry : Entry} {extra : Option Tx} (stem stemOk : Bool)
    (hvar : verifyKernelVariants c entry.tx = none) (h : nrdTooRecent c entry.tx = true) :
    ∃ er, admitInto c s entry extra stem stemOk = (s, some er) := by
  -- past `verify_kernel_variants` with an NRD kernel: the feature flag is on
  have hen : c.cfg.nrdEnabled = true := by
    cases hflag : c.cfg.nrdEnabled with
    | true => rfl
    | false => simp [verifyKernelVariants, hasNrd_of_nrdTooRecent h, hflag] at hvar
  unfold admitInto
  cases stem with
  | true =>
    obtain ⟨er, he⟩ := addToPool_nrd_error (p := s.stempool) (extra := extra) hen h
    simp only [if_true, he]
    exact ⟨er, rfl⟩
  | false =>
    obtain ⟨er, he⟩ := addToPool_nrd_error (p := s.txpool) (extra := none) hen h
    unfold admitTx TxPool.addToTxpool
    simp only [Bool.false_eq_true, if_false, he]
    exact ⟨er, rfl⟩

theorem validate_no_kernels {c : Ctx} {w : Weighting} {t : Tx} (hk : t.kers = []) : t.validate c w ≠ none := by
  intro hv
  have hempty := validate_nonempty hv
  simp [hk] at hempty

/-! ## the minimum fee -/

/-- the entry pays at least the minimum fee for its weight -/
def Paid (c : Ctx) (e : Entry) : Prop := e.tx.acceptFee c.cfg ≤ e.tx.shiftedFee

/-- every entry (txpool, stempool, reorg cache) pays at least the minimum fee for its weight -/
def AllPaid (c : Ctx) (s : TxPool) : Prop :=
  ∀ e, (e ∈ s.txpool ∨ e ∈ s.stempool ∨ e ∈ s.cache) → Paid c e

/-- whatever gets in - on the stem path, the fluff path, at capacity (with the eviction that
follows), from the reorg cache - paid the minimum fee: `is_acceptable` let it pass -/
theorem step_allPaid (cs : Ctx × TxPool) (op : Op) (hv : AllPaid cs.1 cs.2) :
    AllPaid (step cs op).1 (step cs op).2 :=
  step_allE_ctx (P := Paid) (fun _ _ _ => rfl) cs op hv fun _ _ _ _ _ _ _ _ _ hp => hp.paid

theorem run_allPaid (cs : Ctx × TxPool) (ops : List Op) (hv : AllPaid cs.1 cs.2) :
    AllPaid (run cs ops).1 (run cs ops).2 :=
  run_ind (I := fun x => AllPaid x.1 x.2) ops hv step_allPaid

/-! ## kernel variants -/

/-! ### `verify_kernel_variants` looks at every kernel -/

/-- a kernel of a variant the pool has to refuse in context `c`: an NRD kernel while the feature
flag is off, or while the head's header version is below 4 -/
def PKer.refusedVariant (c : Ctx) (k : PKer) : Bool :=
  k.isNrd && (!c.cfg.nrdEnabled || decide (c.ver < 4))

theorem hasNrd_eq_any (t : Tx) : t.hasNrd = t.kers.any PKer.isNrd := rfl

theorem hasNrd_iff (t : Tx) : t.hasNrd = true ↔ ∃ k ∈ t.kers, k.isNrd = true := by
  rw [hasNrd_eq_any, List.any_eq_true]

theorem hasNrd_false_iff (t : Tx) : t.hasNrd = false ↔ ∀ k ∈ t.kers, k.isNrd = false := by
  rw [hasNrd_eq_any, List.any_eq_false]
  constructor
  · intro h k hk; simpa using h k hk
  · intro h k hk; simp [h k hk]

/-- the gate passes exactly when NO kernel of the list — wherever it stands — is of a refused
variant -/
theorem verifyKernelVariants_none_iff (c : Ctx) (t : Tx) :
    verifyKernelVariants c t = none ↔ ∀ k ∈ t.kers, k.refusedVariant c = false := by
  unfold verifyKernelVariants
  cases hn : t.hasNrd with
  | false =>
    simp only [Bool.false_eq_true, if_false, true_iff]
    intro k hk
    have := (hasNrd_false_iff t).mp hn k hk
    simp [PKer.refusedVariant, this]
  | true =>
    obtain ⟨k, hk, hkn⟩ := (hasNrd_iff t).mp hn
    simp only [if_true]
    cases hflag : c.cfg.nrdEnabled with
    | false =>
      simp only [Bool.not_false, if_true]
      constructor
      · intro h; simp at h
      · intro h; have := h k hk; simp [PKer.refusedVariant, hkn, hflag] at this
    | true =>
      simp only [Bool.not_true, Bool.false_eq_true, if_false]
      by_cases hv : c.ver < 4
      · simp only [hv, if_true]
        constructor
        · intro h; simp at h
        · intro h; have := h k hk; simp [PKer.refusedVariant, hkn, hv] at this
      · simp only [hv, if_false, true_iff]
        intro k' _
        simp [PKer.refusedVariant, hflag, hv]

theorem verifyKernelVariants_disabled {c : Ctx} {t : Tx} (hd : c.cfg.nrdEnabled = false)
    (h : t.hasNrd = true) : verifyKernelVariants c t = some "NRDKernelNotEnabled" := by
  simp [verifyKernelVariants, h, hd]

/-- the verdict does not depend on the order of the kernels -/
theorem verifyKernelVariants_perm (c : Ctx) {t t' : Tx} (h : t.kers.Perm t'.kers) :
    verifyKernelVariants c t = verifyKernelVariants c t' := by
  have hn : t.hasNrd = t'.hasNrd := by
    rw [Bool.eq_iff_iff, hasNrd_iff, hasNrd_iff]
    constructor
    · rintro ⟨k, hk, hp⟩; exact ⟨k, h.mem_iff.mp hk, hp⟩
    · rintro ⟨k, hk, hp⟩; exact ⟨k, h.mem_iff.mpr hk, hp⟩
  unfold verifyKernelVariants
  rw [hn]

/-- a transaction whose considered form (itself on the stem path, deaggregated on the fluff path)
does not pass `verify_kernel_variants` is refused, the pool unchanged, in any fill state -/
theorem addCore_refuses_variant {c : Ctx} {s : TxPool} (src : Src) (tx : Tx) (stem stemOk : Bool)
    (hbad : ∀ e, entryOf s src tx stem = .ok e → verifyKernelVariants c e.tx ≠ none) :
    ∃ er, s.addCore c src tx stem stemOk = (s, some er) :=
  addCore_refused fun entry _ _ hp => hbad entry hp.form hp.variant

/-! ### no NRD kernel is pooled while the feature flag is off -/

/-- no entry (txpool, stempool, reorg cache) holds an NRD kernel -/
def NoNrd (s : TxPool) : Prop := AllE (fun e => e.tx.hasNrd = false) s

theorem noNrd_empty : NoNrd {} := allE_empty

theorem step_noNrd (cs : Ctx × TxPool) (op : Op) (hd : cs.1.cfg.nrdEnabled = false) (hv : NoNrd cs.2) :
    NoNrd (step cs op).2 := by
  apply step_allE cs op hv
  intro src tx stem ok _ st entry _ _ hp
  cases hn : entry.tx.hasNrd with
  | false => rfl
  | true => have := hp.variant; rw [verifyKernelVariants_disabled hd hn] at this; simp at this

theorem run_noNrd (cs : Ctx × TxPool) (ops : List Op) (hd : cs.1.cfg.nrdEnabled = false) (hv : NoNrd cs.2) :
    NoNrd (run cs ops).2 :=
  (run_ind (I := fun x => x.1.cfg.nrdEnabled = false ∧ NoNrd x.2) ops ⟨hd, hv⟩ fun x op h =>
    ⟨step_cfg x op ▸ h.1, step_noNrd x op h.1 h.2⟩).2

theorem aggregate_noNrd {txs : List Tx} {a : Tx} (h : aggregate txs = .ok a)
    (hn : ∀ t ∈ txs, t.hasNrd = false) : a.hasNrd = false := by
  rw [hasNrd_false_iff]
  intro k hk
  obtain ⟨t, ht, hkt⟩ := (mem_aggregate_kers h).mp hk
  exact (hasNrd_false_iff t).mp (hn t ht) k hkt

/-- the block assembled from a body without NRD kernels passes the feature-flag gate whatever the
flag says; with the flag on every block passes it -/
theorem blockNrdGate_of_noNrd (flag : Bool) (c : Ctx) {a : Tx} (cb : Nat) (h : a.hasNrd = false) :
    blockNrdGate flag (mkBlock c a cb) = none := by
  simp [blockNrdGate, mkBlock_any_nrd, h]

theorem blockNrdGate_enabled (b : GV.Chain.Blk) : blockNrdGate true b = none := by
  simp [blockNrdGate]

/-- the gate refuses a block built from a body WITH an NRD kernel while the flag is off -/
theorem blockNrdGate_refuses (c : Ctx) {a : Tx} (cb : Nat) (h : a.hasNrd = true) :
    blockNrdGate false (mkBlock c a cb) = some "Block:NRDKernelNotEnabled" := by
  simp [blockNrdGate, mkBlock_any_nrd, h]

end GV.Pool
