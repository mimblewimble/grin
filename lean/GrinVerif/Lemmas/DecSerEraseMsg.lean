import GrinVerif.Lemmas.DecSerEraseSeg
import GrinVerif.Model.Msg
import GrinVerif.Model.SerMsg
/-! The instrumented message bodies of `Model/Msg.lean` (property C11 / C19: both readers, allocation)
erase to the plain codecs of `Model/SerMsg.lean` (property C10), up to the renaming of the record types:
`PeerAddr`, strings, `Hand`, `Shake`, `Ping`/`Pong`, `GetPeerAddrs`, `PeerAddrs`, `PeerError`, `Locator`,
the hash bodies, `TxHashSetRequest`, `TxHashSetArchive`, `SegmentRequest`; `BanReason` through the
`BinReader` (through the `BufReader` the unread rest differs when the body is shorter than four
bytes: `agree_decBody`, and `readers_agree_on_prefixes` of C11, exclude it for that reason).

The two model files each define `cont`, `validUtf8`, `toIpv4`, `v6Result`, `capsTruncate`, `toI32`, `isKnownType`, `maxLen`: the
`_eq` lemmas below state the equality of the first five (`cont_eq`, `capsTruncate_eq` by `rfl`; the proofs cite `validUtf8_eq`,
`toIpv4_eq`, `v6Result_eq`); the last three are equal by `rfl` too (on `toCfg c` for `maxLen`) and have no lemma. -/
theorem cont_eq (b : Nat) : GV.Msg.cont b = GV.SerMsg.cont b := rfl

namespace GV.DecSer
open GV GV.Ser GV.Dec

variable {α : Type}

theorem validUtf8_eq : ∀ bs, GV.Msg.validUtf8 bs = GV.SerMsg.validUtf8 bs := by
  intro bs
  fun_induction GV.Msg.validUtf8 bs
  case case1 => rw [GV.SerMsg.validUtf8.eq_def]
  case case2 b0 r h ih => rw [GV.SerMsg.validUtf8.eq_def]; simp only []; rw [if_pos h]; exact ih
  case case3 b0 h1 h b1 r ih => rw [GV.SerMsg.validUtf8.eq_def]; simp only []; rw [if_neg h1, if_pos h, ih]; rfl
  case case4 b0 r h1 h x =>
    rw [GV.SerMsg.validUtf8.eq_def]; simp only []; rw [if_neg h1, if_pos h]
  case case5 b0 h2 h1 h b1 b2 r ih => rw [GV.SerMsg.validUtf8.eq_def]; simp only []; rw [if_neg h2, if_neg h1, if_pos h, ih]; rfl
  case case6 b0 r h2 h1 h x =>
    rw [GV.SerMsg.validUtf8.eq_def]; simp only []; rw [if_neg h2, if_neg h1, if_pos h]
  case case7 b0 h3 h2 h1 h b1 b2 b3 r ih =>
    rw [GV.SerMsg.validUtf8.eq_def]; simp only []; rw [if_neg h3, if_neg h2, if_neg h1, if_pos h, ih]; rfl
  case case8 b0 r h3 h2 h1 h x =>
    rw [GV.SerMsg.validUtf8.eq_def]; simp only []; rw [if_neg h3, if_neg h2, if_neg h1, if_pos h]
  case case9 b0 r h3 h2 h1 h => rw [GV.SerMsg.validUtf8.eq_def]; simp only []; rw [if_neg h3, if_neg h2, if_neg h1, if_neg h]

theorem erases_rBytesLenPrefix (rd : Rdr) : Erases (rBytesLenPrefix rd) readBytesLenPrefix :=
  Erases.congr (Erases.bind erases_rU64 fun len => erases_rFixed rd len) (fun bs => (readBytesLenPrefix_eq bs).symm)

theorem erases_decString (rd : Rdr) : Erases (GV.Msg.decString rd) GV.SerMsg.decString := by
  unfold GV.Msg.decString GV.SerMsg.decString
  refine Erases.bind (erases_rBytesLenPrefix rd) fun ua => ?_
  rw [validUtf8_eq]
  exact Erases.ite _ (erases_pure _) (erases_err _)

def toAddr : GV.Msg.PeerAddr → GV.SerMsg.PeerAddr
  | .v4 ip port => .v4 ip port
  | .v6 segs port => .v6 segs port 0 0

theorem toIpv4_eq (segs : List Nat) : GV.Msg.toIpv4 segs = GV.SerMsg.toIpv4 segs := by
  unfold GV.Msg.toIpv4 GV.SerMsg.toIpv4
  split
  · rename_i f ab cd
    by_cases hf : f = 0xffff
    · subst hf; simp
    · simp only [hf, if_false]
      split
      · rename_i ab' cd' heq
        simp only [List.cons.injEq, true_and] at heq
        exact absurd heq.1 hf
      · rfl
  · rename_i hno
    split
    · rename_i ab cd
      exact absurd rfl (hno 0xffff ab cd)
    · rfl

theorem v6Result_eq (segs : List Nat) (port : Nat) :
    toAddr (GV.Msg.v6Result segs port) = GV.SerMsg.v6Result segs port := by
  unfold GV.Msg.v6Result GV.SerMsg.v6Result
  rw [toIpv4_eq]
  cases GV.SerMsg.toIpv4 segs <;> rfl

theorem erases_decPeerAddr (rd : Rdr) :
    ErasesVia toAddr (GV.Msg.decPeerAddr rd) GV.SerMsg.decPeerAddr := by
  refine Erases.bindV erases_rU8 fun tag => ErasesVia.ite (tag = 0) ?_ (ErasesVia.ite (tag = 1) ?_ ErasesVia.err)
  · -- V4: `read_fixed_bytes(4)` returned four bytes
    exact Erases.bindVP (erases_rFixed rd 4) fun _ ip r _ h =>
      (Erases.bindV erases_rU16 fun port r => by dsimp only; rw [if_neg (fun hne => hne (rFixed_ok h).1)]; rfl) r
  · -- V6: the loop returned eight segments
    refine Erases.bindVP (erases_readN erases_rU16 8) fun bs segs r n h => ?_
    rw [if_neg (fun hne => hne (readN_length 8 bs segs r n h))]
    exact (Erases.bindV erases_rU16 fun port r => by
      show ((Outcome.ok (GV.Msg.v6Result segs port) r 0).map toAddr).toExcept = _
      rw [← v6Result_eq]; rfl) r

def toHand (h : GV.Msg.Hand) : GV.SerMsg.Hand :=
  { version := h.version, capabilities := h.capabilities, nonce := h.nonce, genesis := h.genesis,
    totalDifficulty := h.totalDifficulty, senderAddr := toAddr h.senderAddr,
    receiverAddr := toAddr h.receiverAddr, userAgent := h.userAgent }

def toShake (s : GV.Msg.Shake) : GV.SerMsg.Shake :=
  { version := s.version, capabilities := s.capabilities, genesis := s.genesis,
    totalDifficulty := s.totalDifficulty, userAgent := s.userAgent }

theorem capsTruncate_eq (n : Nat) : GV.Msg.capsTruncate n = GV.SerMsg.capsTruncate n := rfl

theorem erases_decHand (rd : Rdr) : ErasesVia toHand (GV.Msg.decHand rd) GV.SerMsg.decHand :=
  Erases.bindV erases_rU32 fun _ => Erases.bindV erases_rU32 fun _ =>
    Erases.bindV erases_rU64 fun _ => Erases.bindV erases_rU64 fun _ =>
    ErasesVia.bind (erases_decPeerAddr rd) fun _ => ErasesVia.bind (erases_decPeerAddr rd) fun _ =>
    Erases.bindV (erases_decString rd) fun _ => Erases.bindV (erases_rHash rd) fun _ => ErasesVia.pure

theorem erases_decShake (rd : Rdr) : ErasesVia toShake (GV.Msg.decShake rd) GV.SerMsg.decShake :=
  Erases.bindV erases_rU32 fun _ => Erases.bindV erases_rU32 fun _ =>
    Erases.bindV erases_rU64 fun _ => Erases.bindV (erases_decString rd) fun _ =>
    Erases.bindV (erases_rHash rd) fun _ => ErasesVia.pure

theorem erases_decPeerError (rd : Rdr) :
    ErasesVia (fun p => ({ code := p.1, message := p.2 } : GV.SerMsg.PeerError)) (GV.Msg.decPeerError rd)
      GV.SerMsg.decPeerError :=
  Erases.bindV erases_rU32 fun _ => Erases.bindV (erases_decString rd) fun _ => ErasesVia.pure

section bodies
variable {P : Type}

/-- what a body carries, as the plain model's types (nothing for the payload arm) -/
inductive BodyV
  | pingPong (p : GV.SerMsg.PingPong)
  | banReason (r : Nat)
  | hash (h : Bytes)
  | locator (hs : List Bytes)
  | getPeerAddrs (caps : Nat)
  | peerAddrs (l : List GV.SerMsg.PeerAddr)
  | txHashSetRequest (t : GV.SerMsg.TxHashSetRequest)
  | txHashSetArchive (t : GV.SerMsg.TxHashSetArchive)
  | segmentRequest (s : GV.SerMsg.SegmentRequest)
  | payload

def toBodyV : GV.Msg.Body P → BodyV
  | .pingPong td h => .pingPong { totalDifficulty := td, height := h }
  | .banReason r => .banReason r
  | .hash h => .hash h
  | .locator hs => .locator hs
  | .getPeerAddrs c => .getPeerAddrs c
  | .peerAddrs l => .peerAddrs (l.map toAddr)
  | .txHashSetRequest h height => .txHashSetRequest { hash := h, height := height }
  | .txHashSetArchive h height bytes => .txHashSetArchive { hash := h, height := height, bytes := bytes }
  | .segmentRequest h id => .segmentRequest { blockHash := h, id := toSegId id }
  | .payload _ => .payload

/-- the plain parser `q` with its value put into `BodyV` by `f` -/
def wrap {T : Type} (f : T → BodyV) (q : Parser T) : Parser BodyV := fun bs =>
  andThen (q bs) fun x r => .ok (f x, r)

theorem erases_body_pingPong :
    ErasesVia toBodyV (GV.Msg.decPingPong (P := P)) (wrap .pingPong GV.SerMsg.decPingPong) := by
  intro bs
  simp only [wrap, GV.SerMsg.decPingPong, andThen_assoc, andThen_ok]
  exact (Erases.bindV erases_rU64 fun _ => Erases.bindV erases_rU64 fun _ => ErasesVia.pure) bs

theorem erases_body_hash (rd : Rdr) :
    ErasesVia toBodyV (GV.Msg.decHashBody (P := P) rd) (wrap .hash decHash) :=
  Erases.bindV (erases_rHash rd) fun _ => ErasesVia.pure

theorem erases_body_getPeerAddrs :
    ErasesVia toBodyV (GV.Msg.decGetPeerAddrs (P := P)) (wrap .getPeerAddrs GV.SerMsg.decGetPeerAddrs) := by
  intro bs
  simp only [wrap, GV.SerMsg.decGetPeerAddrs, andThen_assoc, andThen_ok]
  exact (Erases.bindV erases_rU32 fun _ => ErasesVia.pure) bs

theorem erases_body_txHashSetRequest (rd : Rdr) :
    ErasesVia toBodyV (GV.Msg.decTxHashSetRequest (P := P) rd)
      (wrap .txHashSetRequest GV.SerMsg.decTxHashSetRequest) := by
  intro bs
  simp only [wrap, GV.SerMsg.decTxHashSetRequest, andThen_assoc, andThen_ok]
  exact (Erases.bindV (erases_rHash rd) fun _ => Erases.bindV erases_rU64 fun _ => ErasesVia.pure) bs

theorem erases_body_txHashSetArchive (rd : Rdr) :
    ErasesVia toBodyV (GV.Msg.decTxHashSetArchive (P := P) rd)
      (wrap .txHashSetArchive GV.SerMsg.decTxHashSetArchive) := by
  intro bs
  simp only [wrap, GV.SerMsg.decTxHashSetArchive, andThen_assoc, andThen_ok]
  exact (Erases.bindV (erases_rHash rd) fun _ => Erases.bindV erases_rU64 fun _ =>
    Erases.bindV erases_rU64 fun _ => ErasesVia.pure) bs

theorem erases_body_segmentRequest (rd : Rdr) :
    ErasesVia toBodyV (GV.Msg.decSegmentRequest (P := P) rd)
      (wrap .segmentRequest GV.SerMsg.decSegmentRequest) := by
  intro bs
  simp only [wrap, GV.SerMsg.decSegmentRequest, andThen_assoc, andThen_ok]
  exact (Erases.bindV (erases_rHash rd) fun _ => ErasesVia.bind erases_segmentId fun _ => ErasesVia.pure) bs

theorem erases_body_locator (rd : Rdr) :
    ErasesVia toBodyV (GV.Msg.decLocator (P := P) rd) (wrap .locator GV.SerMsg.decLocator) := by
  intro bs
  simp only [wrap, GV.SerMsg.decLocator, andThen_assoc, andThen_ite, andThen_error]
  refine (Erases.bindV erases_rU8 fun len => ErasesVia.iteH _ (fun _ => ErasesVia.err) fun hle =>
    ErasesVia.withCapacity (Erases.bindV (erases_readN (erases_rHash rd) len) fun _ => ErasesVia.pure) _ _ ?_) bs
  have : GV.Gen.MAX_LOCATORS % 256 ≤ 255 := by omega
  unfold ISIZE_MAX; omega

theorem erases_body_peerAddrs (rd : Rdr) :
    ErasesVia toBodyV (GV.Msg.decPeerAddrs (P := P) rd) (wrap .peerAddrs GV.SerMsg.decPeerAddrs) := by
  intro bs
  simp only [wrap, GV.SerMsg.decPeerAddrs, andThen_assoc, andThen_ite, andThen_error, andThen_ok]
  refine (Erases.bindV erases_rU32 fun count => ErasesVia.iteH _ (fun _ => ErasesVia.err) fun hle =>
    ErasesVia.ite _ ErasesVia.pure (ErasesVia.withCapacity
      (ErasesVia.bind (erases_readN_map (erases_decPeerAddr rd) count) fun _ => ErasesVia.pure) _ _ ?_)) bs
  unfold GV.Gen.MAX_PEER_ADDRS at hle
  unfold ISIZE_MAX GV.Msg.PEER_ADDR_MEM; omega

/-- `BanReason` through the `BinReader` (a failed `read_i32` is read as 0 and leaves nothing unread) -/
theorem erases_body_banReason_bin :
    ErasesVia toBodyV (GV.Msg.decBanReason (P := P) .bin) (wrap .banReason GV.SerMsg.decBanReason) := by
  intro bs
  show (((GV.Msg.decBanReason (P := P) .bin) bs).map toBodyV).toExcept = _
  unfold GV.Msg.decBanReason wrap GV.SerMsg.decBanReason GV.SerMsg.reasonOfI32
  -- both models: the value is `toI32 u`, or 0 when `read_i32` failed; the rest is what `read_i32` left, or nothing
  -- (`BinReader`) when it failed; then the same membership test on the value
  cases h : readU32 bs with
  | ok v =>
    obtain ⟨u, r⟩ := v
    simp only
    have : GV.Msg.toI32 u = GV.SerMsg.toI32 u := rfl
    rw [this]
    split <;> simp_all [Outcome.map, Outcome.toExcept, toBodyV, andThen]
  | error e =>
    simp only
    split <;> simp_all [Outcome.map, Outcome.toExcept, toBodyV, andThen]

end bodies

def toSegmentResponse (p : Bytes × GV.Dec.Segment α) : GV.SerMsg.SegmentResponse α :=
  { blockHash := p.1, segment := toSegment p.2 }

theorem erases_rSegmentResponse (rd : Rdr) {p : Dec α} {q : Parser α} (h : Erases p q) (sz : Nat)
    (hsz : 1024 * sz ≤ ISIZE_MAX) :
    ErasesVia toSegmentResponse (rSegmentResponse rd p sz) (GV.SerMsg.decSegmentResponse q) :=
  Erases.bindV (erases_rHash rd) fun _ => ErasesVia.bind (erases_segment rd h sz hsz) fun _ => ErasesVia.pure

theorem noPanic_rSegmentResponse (rd : Rdr) {p : Dec α} (hp : NoPanic p) (sz : Nat) (hsz : 1024 * sz ≤ ISIZE_MAX) :
    NoPanic (rSegmentResponse rd p sz) := (erases_rSegmentResponse rd hp.erases sz hsz).noPanic

def toOutputSegmentResponse (p : Bytes × GV.Dec.Segment OutputId × Bytes) : GV.SerMsg.OutputSegmentResponse :=
  { response := { blockHash := p.1, segment := toSegment p.2.1 }, outputBitmapRoot := p.2.2 }

theorem erases_rOutputSegmentResponse (rd : Rdr) :
    ErasesVia toOutputSegmentResponse (rOutputSegmentResponse rd) GV.SerMsg.decOutputSegmentResponse :=
  ErasesVia.bind (erases_rSegmentResponse rd (erases_rOutputId rd) _ (by decide)) fun _ =>
    Erases.bindV (erases_rHash rd) fun _ => ErasesVia.pure

def toBitmapSegmentResponse (p : Bytes × BitmapSegment × Bytes) : GV.SerMsg.OutputBitmapSegmentResponse :=
  { blockHash := p.1, segment := toBitmapSegment p.2.1, outputRoot := p.2.2 }

theorem erases_rBitmapSegmentResponse (rd : Rdr) :
    ErasesVia toBitmapSegmentResponse (rBitmapSegmentResponse rd) GV.SerMsg.decOutputBitmapSegmentResponse :=
  Erases.bindV (erases_rHash rd) fun _ => ErasesVia.bind (erases_rBitmapSegment rd) fun _ =>
    Erases.bindV (erases_rHash rd) fun _ => ErasesVia.pure

end GV.DecSer
