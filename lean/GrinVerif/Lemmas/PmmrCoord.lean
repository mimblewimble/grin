import GrinVerif.Lemmas.PmmrArith
/-! Bit-level facts behind the `(n, h)` coordinates of an MMR node (C07): node `(n, h)` is the
node of height `h` completed by the insertion of leaf `n` (0-based), `h ≤ trailingOnes n`, at
position `mmr n + h`.  Core Lean only.  Everything lives in `GV.Pmmr.Co` so that the short names
cannot collide with lemmas of other domains that `open GV.Pmmr`. -/
namespace GV.Pmmr.Co
open GV GV.Pmmr

theorem popcount_lt_two (b : Nat) (hb : b < 2) : popcount b = b := by
  have : b = 0 ∨ b = 1 := by omega
  rcases this with rfl | rfl <;> simp [popcount]

/-- with `2^h` written `q + 1` the truncated subtractions `2^h - 1`, `2·2^h - 1` reduce away -/
theorem two_pow_eq_succ (h : Nat) : ∃ q, 2^h = q + 1 := Nat.exists_eq_add_one.2 (Nat.two_pow_pos h)

theorem form_succ (a h : Nat) : a * 2^(h+1) + (2^(h+1) - 1) = 2 * (a * 2^h + (2^h - 1)) + 1 := by
  obtain ⟨q, hq⟩ := two_pow_eq_succ h
  rw [mul_two_pow_succ, Nat.mul_assoc, two_pow_succ, hq]
  show 2 * (a * (q+1)) + (2*q + 1) = 2 * (a * (q+1) + q) + 1
  omega

theorem trailingOnes_of_form (a h : Nat) : trailingOnes (a * 2^h + (2^h - 1)) = h + trailingOnes a := by
  induction h with
  | zero => simp
  | succ h ih => rw [form_succ, trailingOnes_two_mul_add_one, ih, Nat.add_right_comm]

theorem popcount_of_form (a h : Nat) : popcount (a * 2^h + (2^h - 1)) = popcount a + h := by
  induction h with
  | zero => simp
  | succ h ih => rw [form_succ, popcount_two_mul_add_one, ih]; rfl

theorem popcount_pow_sub_one (k : Nat) : popcount (2^k - 1) = k := by
  simpa [popcount] using popcount_of_form 0 k

/-- `h ≤ trailingOnes n` says that the low `h` bits of `n` are ones: `n + 1` is a multiple of `2^h` -/
theorem le_trailingOnes_iff (h : Nat) : ∀ n, h ≤ trailingOnes n ↔ ∃ a, n = a * 2^h + (2^h - 1) := by
  intro n
  constructor
  · induction h generalizing n with
    | zero => intro _; exact ⟨n, by simp⟩
    | succ h ih =>
      intro hle
      rcases binary_cases n with ⟨n', rfl⟩ | ⟨n', rfl⟩
      · rw [trailingOnes_two_mul] at hle; omega
      · rw [trailingOnes_two_mul_add_one] at hle
        obtain ⟨a, rfl⟩ := ih n' (by omega)
        exact ⟨a, (form_succ a h).symm⟩
  · rintro ⟨a, rfl⟩
    rw [trailingOnes_of_form]; exact Nat.le_add_right _ _

theorem coord_form {n h : Nat} (hh : h ≤ trailingOnes n) : ∃ a, n = a * 2^h + (2^h - 1) :=
  (le_trailingOnes_iff h n).1 hh

theorem form_valid (a h : Nat) : h ≤ trailingOnes (a * 2^h + (2^h - 1)) :=
  (le_trailingOnes_iff h _).2 ⟨a, rfl⟩

theorem form_succ_odd (b h : Nat) : b * 2^(h+1) + (2^(h+1) - 1) = (2*b+1) * 2^h + (2^h - 1) := by
  obtain ⟨q, hq⟩ := two_pow_eq_succ h
  rw [mul_two_pow_succ, Nat.add_one_mul (2*b), two_pow_succ, hq]
  show 2 * b * (q+1) + (2*q + 1) = 2 * b * (q+1) + (q+1) + q
  omega

theorem right_child_form {n h : Nat} (hlt : h < trailingOnes n) :
    ∃ b, n = (2*b+1) * 2^h + (2^h - 1) := by
  obtain ⟨b, rfl⟩ := coord_form (show h + 1 ≤ trailingOnes n from hlt)
  exact ⟨b, form_succ_odd b h⟩

theorem left_child_form {n h : Nat} (he : h = trailingOnes n) : ∃ b, n = (2*b) * 2^h + (2^h - 1) := by
  obtain ⟨a, rfl⟩ := coord_form (Nat.le_of_eq he)
  rw [trailingOnes_of_form] at he
  rcases binary_cases a with ⟨b, rfl⟩ | ⟨b, rfl⟩
  · exact ⟨b, rfl⟩
  · rw [trailingOnes_two_mul_add_one] at he; omega

theorem div_pow_of_form (a h : Nat) : (a * 2^h + (2^h - 1)) / 2^h = a := by
  have hpos := Nat.two_pow_pos h
  rw [Nat.add_comm, Nat.add_mul_div_right _ _ hpos, Nat.div_eq_of_lt (by omega), Nat.zero_add]

theorem bitSet_of_form (a h : Nat) : bitSet (a * 2^h + (2^h - 1)) h = (a % 2 == 1) := by
  simp only [bitSet, div_pow_of_form]

/-- on a node `(n, h)` the bit test of `family` / `is_left_sibling` / `push` asks whether the node
is a right child, i.e. whether leaf `n` completes a higher node as well -/
theorem bitSet_coord {n h : Nat} (hh : h ≤ trailingOnes n) : bitSet n h = decide (h < trailingOnes n) := by
  obtain ⟨a, rfl⟩ := coord_form hh
  rw [bitSet_of_form, trailingOnes_of_form]
  rcases binary_cases a with ⟨b, rfl⟩ | ⟨b, rfl⟩
  · rw [trailingOnes_two_mul, Nat.mul_mod_right]; simp
  · rw [trailingOnes_two_mul_add_one, Nat.mul_add_mod]; simp

theorem mmr_pow_sub_one (h : Nat) : mmr (2^h - 1) + h + 2 = 2 * 2^h := by
  have h1 := two_mul_eq_mmr_add (2^h - 1)
  rw [popcount_pow_sub_one] at h1
  have := Nat.two_pow_pos h
  omega

theorem mmr_pow (h : Nat) : mmr (2^h) + 1 = 2 * 2^h := by
  have h1 := mmr_mul_pow 1 h
  rwa [Nat.one_mul, popcount_one] at h1

theorem mmr_of_form (a h : Nat) : mmr (a * 2^h + (2^h - 1)) + h + 2 = mmr (a * 2^h) + 2 * 2^h := by
  have := Nat.two_pow_pos h
  rw [mmr_split h a (2^h - 1) (by omega)]
  have := mmr_pow_sub_one h
  omega

theorem mmr_mul_pow_succ (b h : Nat) : mmr ((2*b+1) * 2^h) + 1 = mmr ((2*b) * 2^h) + 2 * 2^h := by
  have m1 := mmr_mul_pow (2*b) h
  have m2 := mmr_mul_pow (2*b+1) h
  rw [popcount_two_mul] at m1
  rw [popcount_two_mul_add_one, Nat.add_one_mul (2*b)] at m2
  rw [Nat.add_one_mul (2*b)]
  omega

/-- the two children `(n - 2^h, h)` and `(n, h)` of a node `(n, h+1)` -/
theorem sibling_pair (b h : Nat) :
    (2*b+1) * 2^h + (2^h - 1) = (2*b) * 2^h + (2^h - 1) + 2^h
    ∧ mmr ((2*b) * 2^h + (2^h - 1)) + 2 * 2^h = mmr ((2*b+1) * 2^h + (2^h - 1)) + 1 := by
  have m1 := mmr_of_form (2*b) h
  have m2 := mmr_of_form (2*b+1) h
  have m3 := mmr_mul_pow_succ b h
  rw [Nat.add_one_mul (2*b)] at m2 m3 ⊢
  exact ⟨Nat.add_right_comm _ _ _, by omega⟩

/-- the left sibling `(n - 2^h, h)` of a right child `(n, h)`: it exists, sits `2·2^h - 1` positions
earlier and is a left child -/
structure LeftSib (n h : Nat) : Prop where
  valid : h ≤ trailingOnes (n - 2^h)
  le : 2^h ≤ n
  pos : mmr (n - 2^h) + 2 * 2^h = mmr n + 1
  tail : trailingOnes (n - 2^h) = h

theorem left_sibling_coord {n h : Nat} (hlt : h < trailingOnes n) : LeftSib n h := by
  obtain ⟨b, rfl⟩ := right_child_form hlt
  obtain ⟨e, hm⟩ := sibling_pair b h
  have ht : trailingOnes ((2*b) * 2^h + (2^h - 1)) = h := by
    rw [trailingOnes_of_form, trailingOnes_two_mul]; rfl
  rw [e]
  refine ⟨?_, Nat.le_add_left _ _, ?_, ?_⟩ <;> rw [Nat.add_sub_cancel]
  · exact Nat.le_of_eq ht.symm
  · exact e ▸ hm
  · exact ht

theorem left_child_pos {n h : Nat} (hlt : h < trailingOnes n) :
    mmr n + h + 1 - 2 * 2^h = mmr (n - 2^h) + h := by
  have := (left_sibling_coord hlt).pos
  omega

/-- parent of a left child: for `h = trailingOnes n` the node `(n + 2^h, h+1)` is the parent,
`(n + 2^h, h)` the right sibling, `2·2^h - 1` positions later -/
theorem right_sibling_coord {n h : Nat} (he : h = trailingOnes n) :
    h + 1 ≤ trailingOnes (n + 2^h) ∧ mmr (n + 2^h) + 1 = mmr n + 2 * 2^h := by
  obtain ⟨b, rfl⟩ := left_child_form he
  obtain ⟨e, hm⟩ := sibling_pair b h
  rw [← e, trailingOnes_of_form, trailingOnes_two_mul_add_one]
  exact ⟨by omega, hm.symm⟩

theorem leftmost_coord {n h : Nat} (hh : h ≤ trailingOnes n) :
    2^h ≤ n + 1 ∧ mmr (n + 1 - 2^h) + 2 * 2^h = mmr n + h + 2 := by
  obtain ⟨a, rfl⟩ := coord_form hh
  have e : a * 2^h + (2^h - 1) + 1 = a * 2^h + 2^h := by
    rw [Nat.add_assoc, Nat.sub_add_cancel (Nat.two_pow_pos h)]
  rw [e, Nat.add_sub_cancel]
  exact ⟨Nat.le_add_left _ _, (mmr_of_form a h).symm⟩

theorem mmr_le_mmr {a b : Nat} (h : a ≤ b) : mmr a ≤ mmr b := by
  induction h with
  | refl => exact Nat.le_refl _
  | step _ ih => rw [mmr_succ]; omega

theorem mmr_lt_mmr {a b : Nat} (h : a < b) : mmr a < mmr b := by
  have := mmr_le_mmr (show a + 1 ≤ b from h)
  rw [mmr_succ] at this; omega

theorem mmr_inj {a b : Nat} (h : mmr a = mmr b) : a = b := by
  apply Classical.byContradiction
  intro hne
  rcases Nat.lt_or_gt_of_ne hne with hlt | hlt
  · have := mmr_lt_mmr hlt; omega
  · have := mmr_lt_mmr hlt; omega

theorem mmr_le_iff {a b : Nat} : mmr a ≤ mmr b ↔ a ≤ b :=
  ⟨fun h => Nat.le_of_not_lt fun hlt => Nat.not_le.2 (mmr_lt_mmr hlt) h, mmr_le_mmr⟩

theorem mmr_lt_iff {a b : Nat} : mmr a < mmr b ↔ a < b :=
  ⟨fun h => Nat.lt_of_not_le fun hle => Nat.not_lt.2 (mmr_le_mmr hle) h, mmr_lt_mmr⟩

theorem mmr_eq_iff {a b : Nat} : mmr a = mmr b ↔ a = b := ⟨mmr_inj, congrArg mmr⟩

theorem mmr_le_two_mul (m : Nat) : mmr m ≤ 2 * m := by unfold mmr; omega

theorem mmr_zero : mmr 0 = 0 := by simp [mmr, popcount]

theorem mmr_one : mmr 1 = 1 := by simp [mmr, popcount]

theorem coord_lt_mmr_succ {n h : Nat} (hh : h ≤ trailingOnes n) : mmr n + h < mmr (n + 1) := by
  rw [mmr_succ]; omega

theorem coord_lt_iff {n h N : Nat} (hh : h ≤ trailingOnes n) : mmr n + h < mmr N ↔ n < N := by
  constructor
  · intro hlt
    apply Classical.byContradiction
    intro hc
    have := mmr_le_mmr (show N ≤ n by omega)
    omega
  · intro hlt
    have := coord_lt_mmr_succ hh
    have := mmr_le_mmr (show n + 1 ≤ N from hlt)
    omega

theorem two_pow_le_of_le_trailingOnes {n h : Nat} (hh : h ≤ trailingOnes n) : 2^h ≤ n + 1 :=
  (leftmost_coord hh).1

theorem trailingOnes_lt_of_lt {n k : Nat} (h : n + 1 < 2^k) : trailingOnes n < k :=
  Nat.lt_of_not_le fun hk => Nat.not_le.2 h (two_pow_le_of_le_trailingOnes hk)

theorem peakMapHeight_co (n h : Nat) (hh : h ≤ trailingOnes n) :
    peakMapHeight (mmr n + h) = (n, h) := by
  unfold peakMapHeight
  by_cases hz : mmr n + h = 0
  · have hn : n = 0 := by have := le_mmr n; omega
    subst hn
    have : h = 0 := by simpa [mmr, popcount] using hz
    subst this
    simp [mmr, popcount]
  · rw [if_neg hz]
    have hlt : n < 2^(bitLen (mmr n + h)) := by
      have := lt_two_pow_bitLen (mmr n + h)
      have := le_mmr n
      omega
    have := greedy_spec (bitLen (mmr n + h)) n 0 h hlt (by simpa using hh)
    simpa using this

theorem coord_surj (pos : Nat) : ∃ n h, h ≤ trailingOnes n ∧ pos = mmr n + h := by
  induction pos with
  | zero => exact ⟨0, 0, by simp [trailingOnes], by simp [mmr, popcount]⟩
  | succ p ih =>
    obtain ⟨n, h, hh, hp⟩ := ih
    by_cases hlt : h < trailingOnes n
    · exact ⟨n, h+1, by omega, by omega⟩
    · refine ⟨n+1, 0, by omega, ?_⟩
      rw [mmr_succ]; omega

theorem coord_inj {n h n' h' : Nat} (hh : h ≤ trailingOnes n) (hh' : h' ≤ trailingOnes n')
    (e : mmr n + h = mmr n' + h') : n = n' ∧ h = h' := by
  have a := peakMapHeight_co n h hh
  have b := peakMapHeight_co n' h' hh'
  rw [e] at a
  rw [a] at b
  exact ⟨by injection b, by injection b⟩

theorem height_co (n h : Nat) (hh : h ≤ trailingOnes n) : height (mmr n + h) = h := by
  simp [height, peakMapHeight_co n h hh]

theorem peakMapHeight_leaf (n : Nat) : peakMapHeight (mmr n) = (n, 0) := by
  have := peakMapHeight_co n 0 (Nat.zero_le _)
  simpa using this

/-- position of a node given by its coordinates -/
def cpos (c : Nat × Nat) : Nat := mmr c.1 + c.2

/-! ### Ancestors: `up n j` is `n` with its low `j` bits set — the last leaf below the ancestor of
height `j` of leaf `n` (or of any node `(n, h)` with `h ≤ j`). -/

def up (n j : Nat) : Nat := n / 2^j * 2^j + (2^j - 1)

theorem up_zero (n : Nat) : up n 0 = n := by simp [up]

theorem up_valid (n j : Nat) : j ≤ trailingOnes (up n j) := form_valid _ j

theorem up_of_valid {n h : Nat} (hh : h ≤ trailingOnes n) : up n h = n := by
  obtain ⟨a, rfl⟩ := coord_form hh
  simp only [up, div_pow_of_form]

theorem up_div (n j : Nat) : up n j / 2^j = n / 2^j := div_pow_of_form _ _

theorem bitSet_up (n j : Nat) : bitSet (up n j) j = bitSet n j := by
  simp only [bitSet, up_div]

theorem le_up (n j : Nat) : n ≤ up n j := by
  have hpos := Nat.two_pow_pos j
  have h1 := Nat.div_add_mod n (2^j)
  have h2 := Nat.mod_lt n hpos
  have h3 : 2^j * (n / 2^j) = n / 2^j * 2^j := Nat.mul_comm _ _
  unfold up; omega

/-- `2p - 1` low ones: `p - 1` low ones and the bit `p`, in either order -/
theorem ones_succ (x p : Nat) (hp : 0 < p) :
    x + (2 * p - 1) = x + (p - 1) + p ∧ x + (2 * p - 1) = x + p + (p - 1) := by
  obtain ⟨q, rfl⟩ := Nat.exists_eq_add_one.2 hp
  show x + (2*q + 1) = x + q + (q+1) ∧ x + (2*q + 1) = x + (q+1) + q
  omega

/-- one level up: a right child keeps its last leaf, a left child gains the `2^j` leaves of its
right sibling -/
theorem up_succ (n j : Nat) : up n (j+1) = if bitSet n j then up n j else up n j + 2^j := by
  have hdiv : n / 2^(j+1) = n / 2^j / 2 := by rw [two_pow_succ, Nat.mul_comm, Nat.div_div_eq_div_mul]
  rcases binary_cases (n / 2^j) with ⟨c, hc⟩ | ⟨c, hc⟩
  · have hb : bitSet n j = false := by rw [bitSet, hc, Nat.mul_mod_right]; rfl
    rw [hb, if_neg (by decide), up, up, hdiv, hc, Nat.mul_div_cancel_left c (by decide),
      mul_two_pow_succ, two_pow_succ]
    exact (ones_succ _ _ (Nat.two_pow_pos j)).1
  · have hb : bitSet n j = true := by rw [bitSet, hc, Nat.mul_add_mod]; rfl
    rw [hb, if_pos rfl, up, up, hdiv, hc, Nat.mul_add_div (by decide), mul_two_pow_succ, two_pow_succ,
      Nat.add_one_mul (2*c)]
    exact (ones_succ _ _ (Nat.two_pow_pos j)).2

theorem up_le_up_succ (n j : Nat) : up n j ≤ up n (j+1) := by
  rw [up_succ]; split
  · exact Nat.le_refl _
  · exact Nat.le_add_right _ _

theorem up_mono (n : Nat) {j k : Nat} (h : j ≤ k) : up n j ≤ up n k := by
  induction h with
  | refl => exact Nat.le_refl _
  | step _ ih => exact Nat.le_trans ih (up_le_up_succ n _)

theorem bitSet_up_iff (n j : Nat) : j < trailingOnes (up n j) ↔ bitSet n j = true := by
  have := bitSet_coord (up_valid n j)
  rw [bitSet_up] at this
  rw [this]; simp

end GV.Pmmr.Co
