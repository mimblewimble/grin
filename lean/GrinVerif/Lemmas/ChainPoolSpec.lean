import GrinVerif.Model.ChainPool
import GrinVerif.Lemmas.ChainApply
/-! The pool-facing admission checks of the chain (`txMaturity`, `txLock`, `txValidate` of
`Model/Chain.lean`) against the block-level rules, on an arbitrary replayed state: they are the
block rules evaluated for the block the transaction would be mined into next (`txBlock`), with
exact thresholds; and the NRD index of a replayed state is the list of NRD kernels of the path that
was replayed, most recent first. (`txBlock` puts the coinbase output and kernel first, `Pool.mkBlock`
of the pool model last: every rule involved is blind to the order.) -/
namespace GV.Chain

theorem ite_refuses_iff {p Q : Prop} [dp : Decidable p] {α} {e : α} (h : p ↔ Q) :
    ((if p then some e else none) = some e ↔ Q) ∧ ((if p then some e else none) = none ↔ ¬ Q) := by
  by_cases hp : p <;> simp [hp, ← h]

section Agreement
variable (p : Params) (s : UState) (t : TxA) (id par work ver ts cbo : Nat)

theorem txMaturity_eq_block :
    txMaturity p s t =
      if !((txBlock t id par (s.height + 1) work ver ts cbo).ins.all s.has) then some "AlreadySpent"
      else if immature p s (txBlock t id par (s.height + 1) work ver ts cbo)
        then some "ImmatureCoinbase" else none := rfl

theorem txLock_eq_block :
    txLock s t =
      if lockViolation (txBlock t id par (s.height + 1) work ver ts cbo) then some "TxLockHeight"
      else none := by
  simp [txLock, lockViolation, txBlock]

theorem dupOutput_txBlock (h : Nat) (hcbo : s.has cbo = false) :
    dupOutput s (txBlock t id par h work ver ts cbo) = t.outs.any s.has := by
  simp [dupOutput, txBlock, hcbo, List.any_map]
  rfl

theorem nrdBad_txBlock :
    nrdBad s (txBlock t id par (s.height + 1) work ver ts cbo) =
      t.kers.any (Ker.tooRecent s.nrd (s.height + 1)) := rfl

theorem txValidate_eq_block (hcbo : s.has cbo = false) :
    txValidate s t =
      if dupOutput s (txBlock t id par (s.height + 1) work ver ts cbo) then some "DuplicateCommitment"
      else if !((txBlock t id par (s.height + 1) work ver ts cbo).ins.all s.has) then some "AlreadySpent"
      else if nrdBad s (txBlock t id par (s.height + 1) work ver ts cbo) then some "NRDRelativeHeight"
      else none := by
  rw [dupOutput_txBlock s t id par work ver ts cbo _ hcbo, nrdBad_txBlock]
  rfl

theorem stateChecks_txBlock (hcbo : s.has cbo = false) :
    stateChecks p s (txBlock t id par (s.height + 1) work ver ts cbo) =
      match txMaturity p s t with
      | some e => some e
      | none => txValidate s t := by
  rw [txValidate_eq_block s t id par work ver ts cbo hcbo,
    txMaturity_eq_block p s t id par work ver ts cbo]
  unfold stateChecks
  have htag : ∀ pfx, hasTag (txBlock t id par (s.height + 1) work ver ts cbo) pfx = none := by
    intro pfx; simp [hasTag, txBlock]
  by_cases h1 : (!((txBlock t id par (s.height + 1) work ver ts cbo).ins.all s.has)) = true
  · simp [h1]
  · by_cases h2 : immature p s (txBlock t id par (s.height + 1) work ver ts cbo) = true
    · simp [h1, h2]
    · by_cases h3 : dupOutput s (txBlock t id par (s.height + 1) work ver ts cbo) = true
      · simp [h1, h2, h3]
      · simp [h1, h2, h3, htag]

theorem pool_admits_iff_block_passes (hcbo : s.has cbo = false) :
    (txMaturity p s t = none ∧ txLock s t = none ∧ txValidate s t = none) ↔
    ((∀ i ∈ t.ins, s.has i = true) ∧
     immature p s (txBlock t id par (s.height + 1) work ver ts cbo) = false ∧
     lockViolation (txBlock t id par (s.height + 1) work ver ts cbo) = false ∧
     nrdBad s (txBlock t id par (s.height + 1) work ver ts cbo) = false ∧
     dupOutput s (txBlock t id par (s.height + 1) work ver ts cbo) = false) := by
  rw [txLock_eq_block s t id par work ver ts cbo,
    txValidate_eq_block s t id par work ver ts cbo hcbo,
    txMaturity_eq_block p s t id par work ver ts cbo]
  have hins : (txBlock t id par (s.height + 1) work ver ts cbo).ins = t.ins := rfl
  rw [hins]
  rw [← List.all_eq_true]
  -- a propositional fact about five Boolean verdicts
  generalize t.ins.all s.has = b1
  generalize immature p s (txBlock t id par (s.height + 1) work ver ts cbo) = b2
  generalize lockViolation (txBlock t id par (s.height + 1) work ver ts cbo) = b3
  generalize nrdBad s (txBlock t id par (s.height + 1) work ver ts cbo) = b4
  generalize dupOutput s (txBlock t id par (s.height + 1) work ver ts cbo) = b5
  revert b1 b2 b3 b4 b5
  decide

theorem applyBlock_txBlock_iff (hcbo : s.has cbo = false) :
    applyBlock p s (txBlock t id par (s.height + 1) work ver ts cbo) =
        .ok (effects s (txBlock t id par (s.height + 1) work ver ts cbo)) ↔
      (txMaturity p s t = none ∧ txValidate s t = none) := by
  unfold applyBlock
  rw [stateChecks_txBlock p s t id par work ver ts cbo hcbo]
  cases h1 : txMaturity p s t with
  | some e => simp
  | none =>
    cases h2 : txValidate s t with
    | some e => simp
    | none => simp

theorem txMaturity_refusal_is_block_refusal (hcbo : s.has cbo = false) (e : Err)
    (h : txMaturity p s t = some e) :
    applyBlock p s (txBlock t id par (s.height + 1) work ver ts cbo) = .error e := by
  unfold applyBlock
  rw [stateChecks_txBlock p s t id par work ver ts cbo hcbo, h]

theorem txValidate_refusal_is_block_refusal (hcbo : s.has cbo = false) (e : Err)
    (h : txValidate s t = some e) :
    ∃ e', applyBlock p s (txBlock t id par (s.height + 1) work ver ts cbo) = .error e' ∧
      (txMaturity p s t = none → e' = e) := by
  unfold applyBlock
  rw [stateChecks_txBlock p s t id par work ver ts cbo hcbo, h]
  cases h1 : txMaturity p s t with
  | some e1 => exact ⟨e1, rfl, fun h => by cases h⟩
  | none => exact ⟨e, rfl, fun _ => rfl⟩

theorem txLock_refusal_is_block_refusal (outs : List OutDef) (iv : Nat) (e : Err)
    (h : txLock s t = some e) :
    validateBody p outs (txBlock t id par (s.height + 1) work ver ts cbo) iv ≠ none := by
  intro hv
  have := validateBody_lock hv
  rw [txLock_eq_block s t id par work ver ts cbo, this] at h
  simp at h

end Agreement

theorem txMaturity_single (p : Params) (s : UState) (i c : Nat) (outs : List Nat) (kers : List Ker)
    (hc : s.find i = some (i, c, true)) :
    txMaturity p s ⟨[i], outs, kers⟩ =
      if s.height + 1 < c + p.maturity then some "ImmatureCoinbase" else none := by
  simp [txMaturity, has_of_find hc, hc]

theorem txMaturity_plain (p : Params) (s : UState) (i c : Nat) (outs : List Nat) (kers : List Ker)
    (hc : s.find i = some (i, c, false)) : txMaturity p s ⟨[i], outs, kers⟩ = none := by
  simp [txMaturity, has_of_find hc, hc]

theorem mem_kers_txBlock {t : TxA} {id par h work ver ts cbo : Nat} {k : Ker} (hk : k ≠ .cb) :
    k ∈ (txBlock t id par h work ver ts cbo).kers ↔ k ∈ t.kers :=
  List.mem_cons.trans (or_iff_right hk)

theorem txLock_refuses_iff (s : UState) (t : TxA) :
    (txLock s t = some "TxLockHeight" ↔ ∃ f l, Ker.hl f l ∈ t.kers ∧ s.height + 1 < l) ∧
    (txLock s t = none ↔ ∀ f l, Ker.hl f l ∈ t.kers → l ≤ s.height + 1) := by
  rw [txLock_eq_block s t 0 0 0 0 0 0]
  exact (ite_refuses_iff (Q := ∃ f l, Ker.hl f l ∈ t.kers ∧ s.height + 1 < l)
    (lockViolation_iff.trans (exists_congr fun f => exists_congr fun l =>
      and_congr_left' (mem_kers_txBlock (k := .hl f l) nofun)))).imp id
    (·.trans (by simp only [not_exists, not_and, Nat.not_lt]))

theorem txValidate_nrd_iff (s : UState) (t : TxA) (hdup : t.outs.any s.has = false)
    (hall : ∀ i ∈ t.ins, s.has i = true) :
    (txValidate s t = some "NRDRelativeHeight" ↔
      ∃ f rel ex hPrev, Ker.nrd f rel ex ∈ t.kers ∧ s.nrd.find? (·.1 == ex) = some (ex, hPrev) ∧
        s.height + 1 < hPrev + rel) ∧
    (txValidate s t = none ↔
      ∀ f rel ex hPrev, Ker.nrd f rel ex ∈ t.kers → s.nrd.find? (·.1 == ex) = some (ex, hPrev) →
        hPrev + rel ≤ s.height + 1) := by
  have hallb : t.ins.all s.has = true := List.all_eq_true.mpr hall
  unfold txValidate
  rw [hdup, hallb]
  simp only [Bool.false_eq_true, if_false, Bool.not_true]
  exact (ite_refuses_iff (any_tooRecent_iff (N := s.nrd) (H := s.height + 1) (ks := t.kers))).imp id
    fun h => h.trans (by simp only [not_exists, not_and, Nat.not_lt])

theorem txValidate_nrd_single (s : UState) (ins outs : List Nat) (f rel : Nat) (ex : String)
    (hdup : outs.any s.has = false) (hall : ∀ i ∈ ins, s.has i = true) :
    txValidate s ⟨ins, outs, [.nrd f rel ex]⟩ =
      match s.nrd.find? (·.1 == ex) with
      | some (_, hPrev) => if s.height + 1 < hPrev + rel then some "NRDRelativeHeight" else none
      | none => none := by
  have hallb : ins.all s.has = true := List.all_eq_true.mpr hall
  simp only [txValidate, hdup, hallb, List.any_cons, List.any_nil, Bool.or_false, Bool.false_eq_true,
    if_false, Bool.not_true]
  cases s.nrd.find? (·.1 == ex) with
  | none => rfl
  | some x => simp only [decide_eq_true_eq]

def CarriesNrd (b : Blk) (ex : String) : Prop := ∃ f rel, Ker.nrd f rel ex ∈ b.kers

theorem foldl_effects_nrd (bs : List Blk) (s : UState) :
    (bs.foldl effects s).nrd = bs.reverse.flatMap nrdOf ++ s.nrd := by
  induction bs generalizing s with
  | nil => rfl
  | cons b bs ih =>
    rw [List.foldl_cons, ih, effects_nrd, List.reverse_cons, List.flatMap_append, List.flatMap_singleton,
      List.append_assoc]

theorem replay_nrd (p : Params) (bs : List Blk) (s s' : UState) (h : replay p s bs = .ok s') :
    s'.nrd = bs.reverse.flatMap nrdOf ++ s.nrd :=
  replay_ok_foldl p bs h ▸ foldl_effects_nrd bs s

theorem mem_nrdOf (b : Blk) (x : String × Nat) :
    x ∈ nrdOf b ↔ x.2 = b.h ∧ CarriesNrd b x.1 := by
  unfold nrdOf CarriesNrd
  simp only [List.mem_filterMap]
  constructor
  · rintro ⟨k, hk, hm⟩
    cases k with
    | nrd f rel ex =>
      simp only [Option.some.injEq] at hm
      subst hm
      exact ⟨rfl, f, rel, hk⟩
    | cb => simp at hm
    | plain f => simp at hm
    | hl f l => simp at hm
  · rintro ⟨hh, f, rel, hk⟩
    exact ⟨_, hk, by simp [← hh]⟩

theorem nrdOf_find (b : Blk) (ex : String) :
    (CarriesNrd b ex ∧ (nrdOf b).find? (·.1 == ex) = some (ex, b.h)) ∨
    (¬ CarriesNrd b ex ∧ (nrdOf b).find? (·.1 == ex) = none) := by
  cases hf : (nrdOf b).find? (·.1 == ex) with
  | none =>
    right
    refine ⟨?_, rfl⟩
    intro hc
    have := List.find?_eq_none.mp hf (ex, b.h) ((mem_nrdOf b _).mpr ⟨rfl, hc⟩)
    simp at this
  | some x =>
    left
    have h1 : x.1 = ex := by simpa using List.find?_some hf
    have h2 := (mem_nrdOf b x).mp (List.mem_of_find?_eq_some hf)
    obtain ⟨a, c⟩ := x
    simp only at h1 h2
    subst h1
    exact ⟨h2.2, by rw [h2.1]⟩

theorem nrd_find_tipFirst (rb : List Blk) (ex : String) :
    (∃ post b pre, rb = post ++ b :: pre ∧ (∀ b' ∈ post, ¬ CarriesNrd b' ex) ∧ CarriesNrd b ex ∧
      (rb.flatMap nrdOf).find? (·.1 == ex) = some (ex, b.h)) ∨
    ((∀ b' ∈ rb, ¬ CarriesNrd b' ex) ∧ (rb.flatMap nrdOf).find? (·.1 == ex) = none) := by
  induction rb with
  | nil => right; exact ⟨fun _ h => (by cases h), rfl⟩
  | cons a rb ih =>
    simp only [List.flatMap_cons, List.find?_append]
    rcases nrdOf_find a ex with ⟨hc, hf⟩ | ⟨hc, hf⟩
    · left
      exact ⟨[], a, rb, rfl, fun _ h => (by cases h), hc, by rw [hf]; rfl⟩
    · rw [hf]
      simp only [Option.none_or]
      rcases ih with ⟨post, b, pre, e, hpost, hb, hfind⟩ | ⟨hall, hfind⟩
      · left
        refine ⟨a :: post, b, pre, by rw [e]; rfl, ?_, hb, hfind⟩
        intro b' hb'
        rcases List.mem_cons.mp hb' with rfl | h
        · exact hc
        · exact hpost b' h
      · right
        refine ⟨?_, hfind⟩
        intro b' hb'
        rcases List.mem_cons.mp hb' with rfl | h
        · exact hc
        · exact hall b' h

/-- **NRD index = last occurrence on the replayed path.** After replaying `bs` from a state with an
empty index: looking up `ex` finds the height of the *last* block of `bs` carrying an NRD kernel
with that excess, and nothing when no block of `bs` carries one — blocks that are not in `bs`
(other forks, blocks rewound by a reorganisation) do not exist for the lookup. -/
theorem nrd_lookup_on_path (p : Params) (bs : List Blk) (s s' : UState) (hs : s.nrd = [])
    (hr : replay p s bs = .ok s') (ex : String) :
    (∃ pre b post, bs = pre ++ b :: post ∧ CarriesNrd b ex ∧ (∀ b' ∈ post, ¬ CarriesNrd b' ex) ∧
      s'.nrd.find? (·.1 == ex) = some (ex, b.h)) ∨
    ((∀ b' ∈ bs, ¬ CarriesNrd b' ex) ∧ s'.nrd.find? (·.1 == ex) = none) := by
  rw [replay_nrd p bs s s' hr, hs, List.append_nil]
  rcases nrd_find_tipFirst bs.reverse ex with ⟨post, b, pre, e, hpost, hb, hfind⟩ | ⟨hall, hfind⟩
  · left
    refine ⟨pre.reverse, b, post.reverse, ?_, hb, ?_, hfind⟩
    · have := congrArg List.reverse e
      simpa using this
    · intro b' hb'
      exact hpost b' (List.mem_reverse.mp hb')
  · right
    exact ⟨fun b' hb' => hall b' (List.mem_reverse.mpr hb'), hfind⟩

theorem replay_utxo_provenance (p : Params) (bs : List Blk) (s s' : UState)
    (h : replay p s bs = .ok s') : ∀ u ∈ s'.utxo, u ∈ s.utxo ∨ ∃ b ∈ bs, u.2.1 = b.h ∧ (u.1, u.2.2) ∈ b.outs := by
  rw [replay_ok_foldl p bs h]
  clear h
  induction bs generalizing s with
  | nil => exact fun u hu => .inl hu
  | cons b bs ih =>
    intro u hu
    rcases ih (effects s b) u hu with h2 | ⟨b', hb', h2⟩
    · simp only [effects, List.mem_append, List.mem_filter, List.mem_map] at h2
      rcases h2 with ⟨h2, _⟩ | ⟨o, ho, rfl⟩
      · exact .inl h2
      · exact .inr ⟨b, List.mem_cons_self .., rfl, ho⟩
    · exact .inr ⟨b', List.mem_cons_of_mem _ hb', h2⟩

end GV.Chain
