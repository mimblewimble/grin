import GrinVerif.Lemmas.SegInj
/-! Redundant data is not rejected (C16, the caveat in the property text): proof hashes after the
ones `reconstruct_root` consumes are ignored (the iterator is never checked for exhaustion); the
proof plays no part in `first_unpruned_parent`; every leaf the loop of `root` requires is taken
from the segment's own leaf list.  Redundant *hash entries*: entries appended to a segment never
turn a successful `root` into another result (`get_hash` returns the first match and every failed
lookup inside `root` is an error of the whole call), and they leave `first_unpruned_parent` /
`validate` / `validate_with` unchanged as long as — for a segment without a root of its own, the
only case in which a *failed* lookup is not an error — none of them sits at a position the walk up
the family branch asks for.
Two relations between segments are carried through `rootStep`, `rootLoop`, `bagPeaks`, `rootWith`,
`fupWith`: `_congr` (equal `get_hash` answers give equal results, errors included — for the segment
with another proof, where nothing changes) and `_ext` (`HashExt`, more answers: successes stay, an
error may become a success, so the first does not follow from it).  Core Lean only. -/
namespace GV.Seg
open GV GV.Pmmr

variable {α H : Type}

theorem rootStep_congr (hf : HashFn α H) (s s' : Segment α H) (hg : ∀ q, s.getHash q = s'.getHash q)
    (bm : Option (Nat → Bool)) (size : Nat) (st : RootSt α H) (p : Nat) :
    rootStep hf s bm size st p = rootStep hf s' bm size st p := by
  simp only [rootStep, hg]

theorem rootLoop_congr (hf : HashFn α H) (s s' : Segment α H) (hg : ∀ q, s.getHash q = s'.getHash q)
    (bm : Option (Nat → Bool)) (size : Nat) :
    ∀ (ps : List Nat) (st : RootSt α H), rootLoop hf s bm size st ps = rootLoop hf s' bm size st ps := by
  intro ps
  induction ps with
  | nil => intro st; rfl
  | cons p ps ih =>
    intro st
    simp only [rootLoop, rootStep_congr hf s s' hg]
    cases rootStep hf s' bm size st p with
    | ok m => exact ih m
    | err e => rfl
    | panic => rfl

theorem bagPeaks_congr (hf : HashFn α H) (s s' : Segment α H) (hg : ∀ q, s.getHash q = s'.getHash q)
    (bm : Option (Nat → Bool)) (size : Nat) :
    ∀ (pks : List Nat) (stk : List (Option H)) (acc : Option H),
      bagPeaks hf s bm size stk acc pks = bagPeaks hf s' bm size stk acc pks := by
  intro pks
  induction pks with
  | nil => intro stk acc; simp [bagPeaks]
  | cons p ps ih =>
    intro stk acc
    match stk with
    | [] => simp [bagPeaks]
    | some l :: stk' => rw [bagPeaks_cons_some, bagPeaks_cons_some]; exact ih _ _
    | none :: stk' => simp only [bagPeaks_cons_none, hg, ih]

theorem rootWith_congr (hf : HashFn α H) (s s' : Segment α H) (hg : ∀ q, s.getHash q = s'.getHash q)
    (h3 : s.leafPos = s'.leafPos) (h4 : s.leafData = s'.leafData)
    (bm : Option (Nat → Bool)) (size : Nat) (ps : List Nat) (full : Bool) (pks : List Nat) :
    rootWith hf s size bm ps full pks = rootWith hf s' size bm ps full pks := by
  unfold rootWith
  rw [rootLoop_congr hf s s' hg, h3, h4]
  have hfin : ∀ stk, rootFinish hf s bm size full pks stk = rootFinish hf s' bm size full pks stk := by
    intro stk
    unfold rootFinish
    simp only [bagPeaks_congr hf s s' hg]
  simp only [hfin]

theorem fupLoop_agree (s s' : Segment α H) (b : Nat → Bool) (nl : Nat) :
    ∀ (fb : List (Nat × Nat)) (pos0 : Nat),
      (∀ q, q = pos0 ∨ (∃ x ∈ fb, x.1 = q) → s'.getHash q = s.getHash q) →
      fupLoop s' b nl pos0 fb = fupLoop s b nl pos0 fb := by
  intro fb
  induction fb with
  | nil =>
    intro pos0 h
    simp only [fupLoop, h pos0 (Or.inl rfl)]
  | cons x rest ih =>
    intro pos0 h
    obtain ⟨p0, s0⟩ := x
    simp only [fupLoop, h pos0 (Or.inl rfl)]
    cases s.getHash pos0 with
    | ok g => rfl
    | panic => rfl
    | err e =>
      simp only
      rw [ih p0 (fun q hq => h q (by
        rcases hq with rfl | ⟨x, hx, rfl⟩
        · exact Or.inr ⟨(q, s0), List.mem_cons_self .., rfl⟩
        · exact Or.inr ⟨x, List.mem_cons_of_mem _ hx, rfl⟩))]

theorem fupWith_congr (s s' : Segment α H) (hg : ∀ q, s.getHash q = s'.getHash q)
    (size : Nat) (bm : Option (Nat → Bool)) (rootRes : Res (Option H)) (last : Nat) :
    fupWith s size bm rootRes last = fupWith s' size bm rootRes last := by
  unfold fupWith
  cases bm with
  | none => rfl
  | some b => simp only [fupLoop_agree s' s b _ _ _ fun q _ => hg q]

theorem fup_proof_irrelevant (hf : HashFn α H) (s : Segment α H) (pr : List H) (size : Nat)
    (bm : Option (Nat → Bool)) :
    Segment.firstUnprunedParent hf { s with proof := pr } size bm = s.firstUnprunedParent hf size bm := by
  unfold Segment.firstUnprunedParent Segment.root
  show fupWith { s with proof := pr } size bm
      (if s.id.unprunedSize size = 0 then .err .nonExistent
       else rootWith hf { s with proof := pr } size bm (s.id.positions size) (s.id.full size) (s.id.peaksIn size))
      (s.id.posRange size).2 = _
  rw [rootWith_congr hf { s with proof := pr } s (fun _ => rfl) rfl rfl,
    fupWith_congr { s with proof := pr } s fun _ => rfl]

theorem rootReads_required (hf : HashFn α H) (s : Segment α H) (bm : Option (Nat → Bool)) (size : Nat) :
    ∀ (ps : List Nat) (st st' : RootSt α H), rootLoop hf s bm size st ps = .ok st' →
      ∀ p ∈ ps, height p = 0 → required bm size p = true →
        ∃ x, Ev.leaf p x ∈ rootReads hf s bm size st ps := by
  intro ps
  induction ps with
  | nil => intro st st' _ p hp; cases hp
  | cons q ps ih =>
    intro st st' h p hp hh hr
    obtain ⟨m, hs, h⟩ := rootLoop_cons_ok hf s bm size q ps st st' h
    simp only [rootReads, hs]
    rcases List.mem_cons.1 hp with rfl | hp'
    · rcases rootStep_ok hf s bm size p st m hs with ⟨_, _, x, it', hfind, _⟩ | ⟨_, hr', _⟩ | ⟨hh', _⟩
      · exact ⟨x, List.mem_append_left _ (by simp [stepReads, hh, hr, hfind])⟩
      · rw [hr] at hr'; cases hr'
      · exact absurd hh hh'
    · obtain ⟨x, hx⟩ := ih m st' h p hp' hh hr
      exact ⟨x, List.mem_append_right _ hx⟩

theorem rootStep_iter_sub (hf : HashFn α H) (s : Segment α H) (bm : Option (Nat → Bool)) (size p : Nat)
    (st st' : RootSt α H) (h : rootStep hf s bm size st p = .ok st') : ∀ e ∈ st'.2, e ∈ st.2 := by
  rcases rootStep_ok hf s bm size p st st' h with
    ⟨_, _, x, it', hfind, rfl⟩ | ⟨_, _, rfl⟩ | ⟨_, r, l, rest, v, _, _, rfl⟩
  · obtain ⟨_, pre, hpre⟩ := iterFind_mem st.2 p x it' hfind
    intro e he
    rw [hpre]
    exact List.mem_append_right _ (List.mem_cons_of_mem _ he)
  · exact fun e he => he
  · exact fun e he => he

theorem rootReads_leaf_mem (hf : HashFn α H) (s : Segment α H) (bm : Option (Nat → Bool)) (size : Nat)
    (p : Nat) (x : α) : ∀ (ps : List Nat) (st : RootSt α H),
    Ev.leaf p x ∈ rootReads hf s bm size st ps → (p, x) ∈ st.2 := by
  intro ps
  induction ps with
  | nil => intro st h; simp [rootReads] at h
  | cons q ps ih =>
    intro st h
    simp only [rootReads] at h
    rcases List.mem_append.1 h with h | h
    · simp only [stepReads] at h
      by_cases hh : height q = 0
      · simp only [hh, if_true] at h
        split at h
        · cases hf' : iterFind st.2 q with
          | none => simp [hf'] at h
          | some r =>
            obtain ⟨y, rest⟩ := r
            simp only [hf', List.mem_singleton, Ev.leaf.injEq] at h
            obtain ⟨rfl, rfl⟩ := h
            exact (iterFind_mem st.2 p x rest hf').1
        · simp at h
      · simp only [hh, if_false] at h
        split at h
        · split at h
          · split at h <;> simp at h
          · split at h <;> simp at h
          · simp at h
        · simp at h
    · cases hs : rootStep hf s bm size st q with
      | err e => simp [hs] at h
      | panic => simp [hs] at h
      | ok m =>
        simp only [hs] at h
        exact rootStep_iter_sub hf s bm size q st m hs _ (ih m h)

theorem rootWith_required (hf : HashFn α H) (s : Segment α H) (bm : Option (Nat → Bool)) (size : Nat)
    (ps : List Nat) (full : Bool) (pks : List Nat) (o : Option H)
    (h : rootWith hf s size bm ps full pks = .ok o) (p : Nat) (hp : p ∈ ps) (hleaf : height p = 0)
    (hreq : required bm size p = true) :
    ∃ x, (p, x) ∈ s.leafPos.zip s.leafData ∧ Ev.leaf p x ∈ readsWith hf s size bm ps full pks := by
  obtain ⟨st, hl, _⟩ := rootWith_ok hf s size bm ps full pks o h
  obtain ⟨x, hx⟩ := rootReads_required hf s bm size _ _ st hl p hp hleaf hreq
  exact ⟨x, rootReads_leaf_mem hf s bm size p x _ _ hx, List.mem_append_left _ hx⟩

/-- `s'` answers every successful `get_hash` of `s` the same way (it may know more positions) -/
structure HashExt (s s' : Segment α H) : Prop where
  id : s'.id = s.id
  leafPos : s'.leafPos = s.leafPos
  leafData : s'.leafData = s.leafData
  get : ∀ q h, s.getHash q = .ok h → s'.getHash q = .ok h

theorem lookup_append {β : Type} : ∀ (l1 l2 : List (Nat × β)) (q : Nat),
    lookup (l1 ++ l2) q = match lookup l1 q with
      | some x => some x
      | none => lookup l2 q := by
  intro l1
  induction l1 with
  | nil => intro l2 q; rfl
  | cons a l1 ih =>
    intro l2 q
    obtain ⟨p, x⟩ := a
    simp only [List.cons_append, lookup]
    by_cases hp : p = q
    · simp [hp]
    · simp only [hp, if_false]; exact ih l2 q

theorem lookup_none_of_not_mem {β : Type} : ∀ (l : List (Nat × β)) (q : Nat),
    (∀ e ∈ l, e.1 ≠ q) → lookup l q = none := by
  intro l
  induction l with
  | nil => intro q _; rfl
  | cons a l ih =>
    intro q h
    obtain ⟨p, x⟩ := a
    have hp : p ≠ q := h (p, x) (List.mem_cons_self ..)
    simp only [lookup, hp, if_false]
    exact ih q (fun e he => h e (List.mem_cons_of_mem _ he))

def addHashes (s : Segment α H) (ep : List Nat) (eh : List H) : Segment α H :=
  { s with hashPos := s.hashPos ++ ep, hashes := s.hashes ++ eh }

theorem addHashes_getHash (s : Segment α H) (ep : List Nat) (eh : List H)
    (hlen : s.hashPos.length = s.hashes.length) (q : Nat) :
    (addHashes s ep eh).getHash q = match lookup (s.hashPos.zip s.hashes) q with
      | some h => .ok h
      | none => match lookup (ep.zip eh) q with
        | some h => .ok h
        | none => .err (.missingHash q) := by
  unfold Segment.getHash addHashes
  simp only [List.zip_append hlen, lookup_append]
  cases lookup (s.hashPos.zip s.hashes) q <;> rfl

theorem addHashes_ext (s : Segment α H) (ep : List Nat) (eh : List H)
    (hlen : s.hashPos.length = s.hashes.length) : HashExt s (addHashes s ep eh) := by
  refine ⟨rfl, rfl, rfl, ?_⟩
  intro q h hq
  rw [addHashes_getHash s ep eh hlen]
  unfold Segment.getHash at hq
  cases hl : lookup (s.hashPos.zip s.hashes) q with
  | none => rw [hl] at hq; cases hq
  | some x => rw [hl] at hq; simpa using hq

theorem addHashes_getHash_other (s : Segment α H) (ep : List Nat) (eh : List H)
    (hlen : s.hashPos.length = s.hashes.length) (q : Nat) (hq : q ∉ ep) :
    (addHashes s ep eh).getHash q = s.getHash q := by
  rw [addHashes_getHash s ep eh hlen]
  have : lookup (ep.zip eh) q = none := by
    apply lookup_none_of_not_mem
    intro e he hc
    have := (List.of_mem_zip he).1
    rw [hc] at this
    exact hq this
  rw [this]
  unfold Segment.getHash
  cases lookup (s.hashPos.zip s.hashes) q <;> rfl

theorem nodeEntry_ext (hf : HashFn α H) (s s' : Segment α H) (ext : HashExt s s')
    (bm : Option (Nat → Bool)) (p : Nat) (l r v : Option H)
    (h : nodeEntry hf s bm p l r = .ok v) : nodeEntry hf s' bm p l r = .ok v := by
  cases l <;> cases r
  · exact h
  · obtain ⟨g, hb, hg, rfl⟩ := nodeEntry_left_ok hf s bm p _ v h
    simp only [nodeEntry, hb, if_true, ext.get _ _ hg]
  · obtain ⟨g, hb, hg, rfl⟩ := nodeEntry_right_ok hf s bm p _ v h
    simp only [nodeEntry, hb, if_true, ext.get _ _ hg]
  · exact h

theorem rootStep_ext (hf : HashFn α H) (s s' : Segment α H) (ext : HashExt s s')
    (bm : Option (Nat → Bool)) (size : Nat) (st st' : RootSt α H) (p : Nat)
    (h : rootStep hf s bm size st p = .ok st') : rootStep hf s' bm size st p = .ok st' := by
  by_cases hh : height p = 0
  · simp only [rootStep, hh, if_true] at h ⊢; exact h
  · rcases rootStep_ok hf s bm size p st st' h with ⟨h0, _⟩ | ⟨h0, _⟩ | ⟨_, r, l, rest, v, hst, hn, rfl⟩
    · exact absurd h0 hh
    · exact absurd h0 hh
    · obtain ⟨stk, it⟩ := st
      simp only at hst
      subst hst
      rw [rootStep_inner hf s' bm size p hh, nodeEntry_ext hf s s' ext bm p l r v hn]

theorem rootLoop_ext (hf : HashFn α H) (s s' : Segment α H) (ext : HashExt s s')
    (bm : Option (Nat → Bool)) (size : Nat) : ∀ (ps : List Nat) (st st' : RootSt α H),
    rootLoop hf s bm size st ps = .ok st' → rootLoop hf s' bm size st ps = .ok st' := by
  intro ps
  induction ps with
  | nil => intro st st' h; exact h
  | cons p ps ih =>
    intro st st' h
    obtain ⟨m, hs, h⟩ := rootLoop_cons_ok hf s bm size p ps st st' h
    rw [rootLoop, rootStep_ext hf s s' ext bm size st m p hs]
    exact ih m st' h

theorem bagPeaks_ext (hf : HashFn α H) (s s' : Segment α H) (ext : HashExt s s')
    (bm : Option (Nat → Bool)) (size : Nat) : ∀ (pks : List Nat) (stk : List (Option H))
    (acc o : Option H), bagPeaks hf s bm size stk acc pks = .ok o →
      bagPeaks hf s' bm size stk acc pks = .ok o := by
  intro pks
  induction pks with
  | nil => intro stk acc o h; simpa [bagPeaks] using h
  | cons p ps ih =>
    intro stk acc o h
    match stk with
    | [] => simp [bagPeaks] at h
    | some l :: stk' => rw [bagPeaks_cons_some] at h ⊢; exact ih _ _ _ h
    | none :: stk' =>
      obtain ⟨g, hb, hg⟩ := bagPeaks_cons_none_ok hf s bm size stk' acc p ps o h
      rw [bagPeaks_cons_dead hf s size stk' acc p ps g hb hg] at h
      rw [bagPeaks_cons_dead hf s' size stk' acc p ps g hb (ext.get _ _ hg)]
      exact ih _ _ _ h

theorem rootWith_ext (hf : HashFn α H) (s s' : Segment α H) (ext : HashExt s s')
    (size : Nat) (bm : Option (Nat → Bool)) (ps : List Nat) (full : Bool) (pks : List Nat)
    (o : Option H) (h : rootWith hf s size bm ps full pks = .ok o) :
    rootWith hf s' size bm ps full pks = .ok o := by
  obtain ⟨st, hl, h⟩ := rootWith_ok hf s size bm ps full pks o h
  unfold rootWith
  rw [ext.leafPos, ext.leafData, rootLoop_ext hf s s' ext bm size ps _ st hl]
  cases full with
  | true => exact h
  | false =>
    obtain ⟨x, hb, rfl⟩ := rootFinish_bag_ok hf s bm size pks st.1 o h
    simp only [rootFinish, Bool.false_eq_true, if_false, bagPeaks_ext hf s s' ext bm size pks _ _ _ hb]

theorem root_ext (hf : HashFn α H) (s s' : Segment α H) (ext : HashExt s s') (size : Nat)
    (bm : Option (Nat → Bool)) (o : Option H) (h : s.root hf size bm = .ok o) :
    s'.root hf size bm = .ok o := by
  obtain ⟨hne, h⟩ := root_ok_rootWith hf s size bm o h
  rw [root_of_nonempty hf s' size bm (by rw [ext.id]; exact hne), ext.id]
  exact rootWith_ext hf s s' ext size bm _ _ _ o h

/-- `s'` answers `get_hash` like `s` at every position the walk of `first_unpruned_parent` from `last`
asks for: `last` itself and the parents on its family branch -/
def WalkAgree (s s' : Segment α H) (last size : Nat) : Prop :=
  ∀ q, q = last ∨ (∃ y ∈ familyBranch last size, y.1 = q) → s'.getHash q = s.getHash q

theorem fup_ext (hf : HashFn α H) (s s' : Segment α H) (ext : HashExt s s') (size : Nat)
    (bm : Option (Nat → Bool)) (x : H × Nat)
    (hwalk : s.root hf size bm = .ok none → WalkAgree s s' (s.id.posRange size).2 size)
    (h : s.firstUnprunedParent hf size bm = .ok x) : s'.firstUnprunedParent hf size bm = .ok x := by
  unfold Segment.firstUnprunedParent at h ⊢
  cases hr : s.root hf size bm with
  | err e => rw [hr] at h; cases h
  | panic => rw [hr] at h; cases h
  | ok o =>
    rw [hr] at h
    rw [root_ext hf s s' ext size bm o hr, ext.id]
    cases o with
    | some v => exact h
    | none =>
      unfold fupWith at h ⊢
      cases bm with
      | none => cases h
      | some b =>
        simp only at h ⊢
        rw [fupLoop_agree s s' b _ _ _ (hwalk hr)]
        exact h

theorem validate_ext (hf : HashFn α H) [DecidableEq H] (s s' : Segment α H) (ext : HashExt s s')
    (hproof : s'.proof = s.proof) (size : Nat) (bm : Option (Nat → Bool)) (mmrRoot : H)
    (hwalk : s.root hf size bm = .ok none → WalkAgree s s' (s.id.posRange size).2 size)
    (h : s.validate hf size bm mmrRoot = .ok ()) : s'.validate hf size bm mmrRoot = .ok () := by
  obtain ⟨sr, u, rest, hx, hr⟩ := (validate_ok_iff hf s size bm mmrRoot).1 h
  exact (validate_ok_iff hf s' size bm mmrRoot).2
    ⟨sr, u, rest, fup_ext hf s s' ext size bm _ hwalk hx, by rw [hproof, ext.id]; exact hr⟩

theorem validateWith_ext (hf : HashFn α H) [DecidableEq H] (s s' : Segment α H) (ext : HashExt s s')
    (hproof : s'.proof = s.proof) (size : Nat) (bm : Option (Nat → Bool)) (mmrRoot : H)
    (hlp : Nat) (other : H) (left : Bool)
    (hwalk : s.root hf size bm = .ok none → WalkAgree s s' (s.id.posRange size).2 size)
    (h : s.validateWith hf size bm mmrRoot hlp other left = .ok ()) :
    s'.validateWith hf size bm mmrRoot hlp other left = .ok () := by
  obtain ⟨sr, u, r, rest, hx, hr, hm⟩ := (validateWith_ok_iff hf s size bm mmrRoot hlp other left).1 h
  exact (validateWith_ok_iff hf s' size bm mmrRoot hlp other left).2
    ⟨sr, u, r, rest, fup_ext hf s s' ext size bm _ hwalk hx, by rw [hproof, ext.id]; exact hr, hm⟩

theorem addHashes_walk (s : Segment α H) (ep : List Nat) (eh : List H)
    (hlen : s.hashPos.length = s.hashes.length) (last size : Nat)
    (hnew : ∀ e ∈ ep, (∃ h, s.getHash e = .ok h) ∨
      (e ≠ last ∧ ∀ y ∈ familyBranch last size, y.1 ≠ e)) :
    WalkAgree s (addHashes s ep eh) last size := by
  intro q hq
  by_cases hmem : q ∈ ep
  · rcases hnew q hmem with ⟨h, hh⟩ | ⟨h1, h2⟩
    · rw [hh]; exact (addHashes_ext s ep eh hlen).get q h hh
    · rcases hq with rfl | ⟨y, hy, rfl⟩
      · exact absurd rfl h1
      · exact absurd rfl (h2 y hy)
  · exact addHashes_getHash_other s ep eh hlen q hmem

end GV.Seg
