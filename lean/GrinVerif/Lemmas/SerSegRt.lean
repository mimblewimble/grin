import GrinVerif.Lemmas.WireTx
import GrinVerif.Lemmas.UtilList
import GrinVerif.Model.SerSeg
/-! The PIBD segment types of `Model/SerSeg.lean`, both directions: round trips in the composable `++ rest` form,
refusals, and "accepted ⇒ canonical" for `SegmentIdentifier`, the item count, `SegmentProof` and `Segment<T>` (given
that the leaf decoder has that property); then `BitmapBlock` (three modes, threshold rule) and `BitmapSegment`. The value
domains the C10 theorems quantify over (`SegId.WF`, `PosOK`, `HashesWF`, `Segment.WF`, `BitmapBlock.WF`, `BitmapSegment.WF`) are
defined here. -/
-- decoder results of concrete inputs are compared by evaluation in the witnesses of `Props/C10Msg.lean`
deriving instance DecidableEq for Except

namespace GV.SerSeg
open GV GV.Ser GV.Wire

/-- 0-based positions a segment can carry: each strictly above the previous one, and `1 + pos` still
a `u64` (`last` is the previous **wire** value, 0 at the start) -/
def PosOK : Nat → List Nat → Prop
  | _, [] => True
  | last, p :: r => last < p + 1 ∧ p + 1 < 2^64 ∧ PosOK (p + 1) r

instance : (last : Nat) → (ps : List Nat) → Decidable (PosOK last ps)
  | _, [] => isTrue trivial
  | last, p :: r =>
    have := instDecidablePosOKOfNat (p + 1) r
    by unfold PosOK; infer_instance
where instDecidablePosOKOfNat : (last : Nat) → (ps : List Nat) → Decidable (PosOK last ps)
  | _, [] => isTrue trivial
  | last, p :: r =>
    have := instDecidablePosOKOfNat (p + 1) r
    by unfold PosOK; infer_instance

theorem posOK_zero_iff (ps : List Nat) :
    PosOK 0 ps ↔ ps.Pairwise (· < ·) ∧ ∀ p ∈ ps, p + 1 < 2^64 := by
  have gen : ∀ (ps : List Nat) (last : Nat),
      PosOK last ps ↔ (ps.Pairwise (· < ·) ∧ (∀ p ∈ ps, p + 1 < 2^64) ∧ ∀ p ∈ ps, last < p + 1) := by
    intro ps
    induction ps with
    | nil => intro last; simp [PosOK]
    | cons p r ih =>
      intro last
      simp only [PosOK, ih (p + 1), List.pairwise_cons, List.mem_cons, forall_eq_or_imp]
      constructor
      · rintro ⟨h1, h2, h3, h4, h5⟩
        refine ⟨⟨fun q hq => by have := h5 q hq; omega, h3⟩, ⟨h2, h4⟩, h1, fun q hq => by have := h5 q hq; omega⟩
      · rintro ⟨⟨h1, h2⟩, ⟨h3, h4⟩, h5, _⟩
        exact ⟨h5, h3, h2, h4, fun q hq => by have := h1 q hq; omega⟩
  rw [gen ps 0]
  constructor
  · rintro ⟨h1, h2, _⟩; exact ⟨h1, h2⟩
  · rintro ⟨h1, h2⟩; exact ⟨h1, h2, fun p _ => by omega⟩

/-- wire values (1-based) a reader accepts after `last` -/
def WireOK : Nat → List Nat → Prop
  | _, [] => True
  | last, w :: r => last < w ∧ WireOK w r

theorem wireOK_zero_iff (ws : List Nat) : WireOK 0 ws ↔ (0 :: ws).Pairwise (· < ·) := by
  have gen : ∀ (ws : List Nat) (last : Nat), WireOK last ws ↔ (last :: ws).Pairwise (· < ·) := by
    intro ws
    induction ws with
    | nil => intro last; simp [WireOK]
    | cons w r ih =>
      intro last
      simp only [WireOK, ih w, List.pairwise_cons, List.mem_cons, forall_eq_or_imp]
      constructor
      · rintro ⟨h1, h2, h3⟩
        exact ⟨⟨h1, fun q hq => by have := h2 q hq; omega⟩, h2, h3⟩
      · rintro ⟨⟨h1, _⟩, h2, h3⟩
        exact ⟨h1, h2, h3⟩
  exact gen ws 0

theorem wire_itemCount :
    Field True readItemCount (fun _ => GV.Dec.segItemCount) writeU64 (· ≤ MAX_SEGMENT_READ_ITEMS) 0 8 := by
  refine Wire.congr (Wire.step (S := fun _ => True) id wire_u64 fun n => Wire.ite (n > MAX_SEGMENT_READ_ITEMS)
    (fun _ => Wire.fail .tooLarge 0) fun _ => Wire.pure n (by simp)) (by simp) (fun n _ => by simp) (fun n => ?_)
    (he := by decide) (hn := by decide)
  unfold MAX_SEGMENT_READ_ITEMS GV.Gen.MAX_SEGMENT_READ_ITEMS
  simp only [id]
  constructor
  · intro h; exact ⟨by omega, by rw [if_neg (by omega)]; trivial⟩
  · rintro ⟨-, h⟩
    split at h
    · exact h.elim
    · omega

theorem readItemCount_tooLarge (n : Nat) (h64 : n < 2^64) (h : n > MAX_SEGMENT_READ_ITEMS) (rest : Bytes) :
    readItemCount (writeU64 n ++ rest) = .error .tooLarge := by
  rw [readItemCount, readU64_write _ h64, andThen_ok]
  simp [h]

theorem readPositionsLoop_write (ps : List Nat) (last : Nat) (h : PosOK last ps) (rest : Bytes) :
    readPositionsLoop ps.length last (writeMulti encPos ps ++ rest) = .ok (ps, rest) := by
  induction ps generalizing last with
  | nil => simp [readPositionsLoop, writeMulti]
  | cons p r ih =>
    obtain ⟨h1, h2, h3⟩ := h
    have e : (1 + p) = p + 1 := by omega
    have hle : ¬ (p + 1 ≤ last) := by omega
    rw [writeMulti_cons, List.length_cons, readPositionsLoop, encPos, e, readU64_write _ h2, andThen_ok]
    simp only [hle, ↓reduceIte]
    rw [ih (p + 1) h3, andThen_ok]
    simp

theorem readPositions_write (ps : List Nat) (h : PosOK 0 ps) (rest : Bytes) :
    readPositions ps.length (writeMulti encPos ps ++ rest) = .ok (ps, rest) :=
  readPositionsLoop_write ps 0 h rest

theorem readPositionsLoop_unsorted (ws : List Nat) (last : Nat) (hb : ∀ w ∈ ws, w < 2^64)
    (h : ¬ WireOK last ws) (rest : Bytes) :
    readPositionsLoop ws.length last (writeMulti writeU64 ws ++ rest) = .error .sort := by
  induction ws generalizing last with
  | nil => exact absurd trivial h
  | cons w r ih =>
    have hw : w < 2^64 := hb w (by simp)
    rw [writeMulti_cons, List.length_cons, readPositionsLoop, readU64_write _ hw, andThen_ok]
    by_cases hle : w ≤ last
    · simp [hle]
    · simp only [hle, ↓reduceIte]
      have h' : ¬ WireOK w r := fun hr => h ⟨by omega, hr⟩
      rw [ih w (fun x hx => hb x (by simp [hx])) h', andThen_error]

theorem readItems_write_norm {α : Type} (p : Parser α) (w : α → Bytes) (nm : α → α) (l : List α)
    (hrt : ∀ x ∈ l, ∀ rest, p (w x ++ rest) = .ok (nm x, rest)) (rest : Bytes) :
    readItems p l.length (writeMulti w l ++ rest) = .ok (l.map nm, rest) := by
  induction l with
  | nil => simp [readItems, writeMulti]
  | cons x l ih =>
    rw [writeMulti_cons, List.length_cons, readItems, hrt x (by simp), andThen_ok,
      ih (fun y hy => hrt y (by simp [hy])), andThen_ok]
    rfl

theorem readItems_write {α : Type} (p : Parser α) (w : α → Bytes) (l : List α)
    (hrt : ∀ x ∈ l, LeafRt p w x) (rest : Bytes) :
    readItems p l.length (writeMulti w l ++ rest) = .ok (l, rest) := by
  simpa using readItems_write_norm p w id l hrt rest

/-- the item loop accepts only what it would write; `B` says whether the leaf needs its input to be bytes for that -/
theorem readItems_canon {α : Type} {B : Prop} {p : Parser α} {w : α → Bytes} {P : α → Prop}
    (hp : ∀ {bs x r}, (B → AllBytes bs) → p bs = .ok (x, r) → bs = w x ++ r ∧ P x)
    {n : Nat} {bs : Bytes} {l : List α} {r : Bytes} (hb : B → AllBytes bs) (h : readItems p n bs = .ok (l, r)) :
    bs = writeMulti w l ++ r ∧ l.length = n ∧ ∀ x ∈ l, P x := by
  induction n generalizing bs l r with
  | zero =>
    obtain ⟨rfl, rfl⟩ := Prod.mk.inj (Except.ok.inj h)
    exact ⟨rfl, rfl, by simp⟩
  | succ n ih =>
    rw [readItems] at h
    obtain ⟨x, r1, h1, k1⟩ := andThen_inv h
    obtain ⟨xs, r2, h2, k2⟩ := andThen_inv k1
    obtain ⟨rfl, hx⟩ := hp hb h1
    obtain ⟨rfl, rfl, hxs⟩ := ih (fun b => allBytes_append_right (hb b)) h2
    obtain ⟨rfl, rfl⟩ := Prod.mk.inj (Except.ok.inj k2)
    exact ⟨by rw [writeMulti_cons], rfl, List.forall_mem_cons.mpr ⟨hx, hxs⟩⟩

theorem readItems_inv {α : Type} {p : Parser α} {w : α → Bytes} {P : α → Prop} (hp : LeafCanon p w P)
    {n : Nat} {bs : Bytes} {l : List α} {r : Bytes} (hb : AllBytes bs) (h : readItems p n bs = .ok (l, r)) :
    bs = writeMulti w l ++ r ∧ l.length = n ∧ ∀ x ∈ l, P x :=
  readItems_canon (B := True) (fun hb h => hp (hb trivial) h) (fun _ => hb) h

theorem codec_items {α : Type} {B : Prop} {p : Parser α} {w : α → Bytes} {P : α → Prop} (h : Whole B p w P) (n : Nat) :
    Whole B (readItems p n) (writeMulti w) (fun l => l.length = n ∧ ∀ x ∈ l, P x) where
  rt l _ hP rest := by
    obtain ⟨rfl, hP⟩ := hP
    exact readItems_write p w l (fun x hx => h.leafRt (hP x hx)) rest
  canon hb hq :=
    have := readItems_canon (fun hb h' => ⟨(h.canon hb h').1, (h.canon hb h').2.1⟩) hb hq
    ⟨this.1, this.2, trivial⟩

theorem readItems_length {α : Type} {p : Parser α} {n : Nat} {bs : Bytes} {l : List α} {r : Bytes}
    (h : readItems p n bs = .ok (l, r)) : l.length = n := by
  induction n generalizing bs l r with
  | zero => obtain ⟨rfl, -⟩ := Prod.mk.inj (Except.ok.inj h); rfl
  | succ n ih =>
    rw [readItems] at h
    obtain ⟨x, r1, -, h⟩ := andThen_inv h
    obtain ⟨xs, r2, h3, h⟩ := andThen_inv h
    obtain ⟨rfl, -⟩ := Prod.mk.inj (Except.ok.inj h)
    rw [List.length_cons, ih h3]

theorem readPositionsLoop_inv {n last : Nat} {bs : Bytes} {l : List Nat} {r : Bytes} (hb : AllBytes bs)
    (h : readPositionsLoop n last bs = .ok (l, r)) :
    bs = writeMulti encPos l ++ r ∧ PosOK last l ∧ l.length = n := by
  induction n generalizing last bs l r with
  | zero =>
    obtain ⟨rfl, rfl⟩ := Prod.mk.inj (Except.ok.inj h)
    exact ⟨rfl, trivial, rfl⟩
  | succ n ih =>
    rw [readPositionsLoop] at h
    obtain ⟨pos, r1, rfl, hpos, hb, h⟩ := andThen_canon readU64_inv hb h
    split at h
    · cases h
    rename_i hle
    obtain ⟨xs, r2, rfl, ⟨ok, len⟩, -, h⟩ := andThen_canon ih hb h
    obtain ⟨rfl, rfl⟩ := Prod.mk.inj (Except.ok.inj h)
    have hp1 : pos - 1 + 1 = pos := by omega
    have e : 1 + (pos - 1) = pos := by omega
    refine ⟨by rw [writeMulti_cons, encPos, e], ⟨by omega, by omega, by rw [hp1]; exact ok⟩, by simp [len]⟩

def SegId.WF (s : SegId) : Prop := s.height < 256 ∧ s.idx < 2^64
instance (s : SegId) : Decidable s.WF := by unfold SegId.WF; infer_instance

theorem codec_segId : Whole True decSegId encSegId SegId.WF := by
  refine Codec.congr (Codec.step SegId.height codec_u8 fun h => Codec.step SegId.idx codec_u64 fun i =>
    Codec.pure (SegId.mk h i) (by rintro ⟨⟩; simp)) (by simp) (fun s _ => by simp [encSegId]) (fun s => by simp [SegId.WF])

/-- hashes of a proof / a segment: 32 bytes each, at most `MAX_SEGMENT_READ_ITEMS` of them -/
def HashesWF (hs : List Bytes) : Prop :=
  (∀ h ∈ hs, h.length = HASH_SIZE) ∧ hs.length ≤ MAX_SEGMENT_READ_ITEMS

theorem codec_segProof : Whole True decSegProof encSegProof HashesWF := by
  refine Codec.congr (Codec.step List.length wire_itemCount.codec fun n => (codec_items wire_hash.codec n).ofWhole fun _ h => ⟨trivial, h.1⟩)
    (by simp) (fun _ _ => rfl) (fun hs => by simp [HashesWF, and_comm])

/-- the segments a reader returns and a writer can write: counts equal to the list lengths and within
the cap, positions strictly increasing below `2^64 - 1`, 32-byte hashes -/
def Segment.WF {α : Type} (s : Segment α) : Prop :=
  s.id.WF
  ∧ s.hashPos.length = s.hashes.length ∧ PosOK 0 s.hashPos ∧ HashesWF s.hashes
  ∧ s.leafPos.length = s.leafData.length ∧ PosOK 0 s.leafPos ∧ s.leafData.length ≤ MAX_SEGMENT_READ_ITEMS
  ∧ HashesWF s.proof

theorem decSegment_enc {α : Type} (p : Parser α) (w : α → Bytes) (s : Segment α) (h : s.WF)
    (hrt : ∀ x ∈ s.leafData, LeafRt p w x) (rest : Bytes) :
    decSegment p (encSegment w s ++ rest) = .ok (s, rest) := by
  obtain ⟨hid, hl1, hp1, hh, hl2, hp2, hc2, hpf⟩ := h
  have r1 := readPositions_write s.hashPos hp1
  have r2 := readPositions_write s.leafPos hp2
  rw [hl1] at r1
  rw [hl2] at r2
  rw [decSegment, encSegment]
  simp only [List.append_assoc]
  rw [codec_segId.rt _ hid, andThen_ok, wire_itemCount.rt _ hh.2, andThen_ok, r1, andThen_ok,
    readItems_write decHash writeFixed s.hashes (fun x hx => Wire.wire_hash.codec.leafRt (hh.1 x hx)), andThen_ok,
    wire_itemCount.rt _ hc2, andThen_ok, r2, andThen_ok,
    readItems_write p w s.leafData hrt, andThen_ok, codec_segProof.rt _ hpf, andThen_ok]

theorem decSegment_inv {α : Type} {p : Parser α} {w : α → Bytes} {P : α → Prop} (hp : LeafCanon p w P)
    {bs : Bytes} {s : Segment α} {r : Bytes} (hb : AllBytes bs) (h : decSegment p bs = .ok (s, r)) :
    bs = encSegment w s ++ r ∧ s.WF ∧ ∀ x ∈ s.leafData, P x := by
  rw [decSegment] at h
  obtain ⟨id, r1, rfl, w1, hb, h⟩ := andThen_canon codec_segId.inv hb h
  obtain ⟨nH, r2, rfl, c2, hb, h⟩ := andThen_canon wire_itemCount.inv hb h
  obtain ⟨hp', r3, rfl, ⟨ok3, l3⟩, hb, h⟩ := andThen_canon readPositionsLoop_inv hb h
  obtain ⟨hs, r4, rfl, ⟨l4, p4⟩, hb, h⟩ := andThen_canon (readItems_inv (w := writeFixed) fun _ => readFixed_ok) hb h
  obtain ⟨nL, r5, rfl, c5, hb, h⟩ := andThen_canon wire_itemCount.inv hb h
  obtain ⟨lp, r6, rfl, ⟨ok6, l6⟩, hb, h⟩ := andThen_canon readPositionsLoop_inv hb h
  obtain ⟨ld, r7, rfl, ⟨l7, p7⟩, hb, h⟩ := andThen_canon (readItems_inv hp) hb h
  obtain ⟨pf, r8, rfl, w8, hb, h⟩ := andThen_canon codec_segProof.inv hb h
  obtain ⟨rfl, rfl⟩ := Prod.mk.inj (Except.ok.inj h)
  subst l4 l7
  exact ⟨by simp only [encSegment, List.append_assoc], ⟨w1, l3, ok3, ⟨p4, c2⟩, l6, ok6, c5, w8⟩, p7⟩

theorem decSegment_hashPos_unsorted {α : Type} (p : Parser α) (id : SegId) (hid : id.WF) (ws : List Nat)
    (hc : ws.length ≤ MAX_SEGMENT_READ_ITEMS) (hb : ∀ w ∈ ws, w < 2^64) (h : ¬ WireOK 0 ws) (rest : Bytes) :
    decSegment p (encSegId id ++ (writeU64 ws.length ++ (writeMulti writeU64 ws ++ rest))) = .error .sort := by
  rw [decSegment, codec_segId.rt _ hid, andThen_ok, wire_itemCount.rt _ hc, andThen_ok, readPositions,
    readPositionsLoop_unsorted ws 0 hb h, andThen_error]

theorem decSegment_leafPos_unsorted {α : Type} (p : Parser α) (id : SegId) (hid : id.WF)
    (hp : List Nat) (hs : List Bytes) (hl : hp.length = hs.length) (hpo : PosOK 0 hp) (hh : HashesWF hs)
    (ws : List Nat) (hc : ws.length ≤ MAX_SEGMENT_READ_ITEMS) (hb : ∀ w ∈ ws, w < 2^64)
    (h : ¬ WireOK 0 ws) (rest : Bytes) :
    decSegment p (encSegId id ++ (writeU64 hs.length ++ (writeMulti encPos hp ++ (writeMulti writeFixed hs
      ++ (writeU64 ws.length ++ (writeMulti writeU64 ws ++ rest)))))) = .error .sort := by
  have r1 := readPositions_write hp hpo
  rw [hl] at r1
  rw [decSegment, codec_segId.rt _ hid, andThen_ok, wire_itemCount.rt _ hh.2, andThen_ok, r1, andThen_ok,
    readItems_write decHash writeFixed hs (fun x hx => Wire.wire_hash.codec.leafRt (hh.1 x hx)), andThen_ok,
    wire_itemCount.rt _ hc, andThen_ok, readPositions, readPositionsLoop_unsorted ws 0 hb h, andThen_error]

/-! A segment with no pruned-subtree hashes, with no leaves, or with an empty Merkle proof (what
`SegmentProof::generate` produces when the whole MMR fits into the one segment) is well-formed. -/

theorem hashesWF_nil : HashesWF [] := ⟨fun _ h => (List.not_mem_nil h).elim, Nat.zero_le _⟩

theorem hashesWF_singleton (h : Bytes) (hl : h.length = HASH_SIZE) : HashesWF [h] :=
  ⟨fun x hx => by simp only [List.mem_singleton] at hx; subst hx; exact hl,
   by simp only [List.length_singleton]; decide⟩

theorem posOK_nil : PosOK 0 [] :=
  (posOK_zero_iff []).mpr ⟨List.Pairwise.nil, fun _ h => (List.not_mem_nil h).elim⟩

/-! ## BitmapBlock, BitmapSegment -/

theorem toBE_eq_beBytes (k v : Nat) : toBE k v = beBytes k v := (beBytes_eq k v).symm

theorem toBE_ofBE (bs : Bytes) (h : AllBytes bs) : toBE bs.length (ofBE bs) = bs := by
  rw [toBE_eq_beBytes, beBytes_ofBE bs h]

theorem setPositions_lt {nbits v p : Nat} (h : p ∈ setPositions nbits v) : p < nbits := by
  simp only [setPositions, List.mem_filter, List.mem_range] at h
  exact h.1

theorem clearPositions_lt {nbits v p : Nat} (h : p ∈ clearPositions nbits v) : p < nbits := by
  simp only [clearPositions, List.mem_filter, List.mem_range] at h
  exact h.1

theorem clear_length (nbits v : Nat) :
    (clearPositions nbits v).length = nbits - (setPositions nbits v).length := by
  have := filter_length_add (fun i => bitAt nbits v i) (List.range nbits)
  simp only [List.length_range] at this
  simp only [clearPositions, setPositions]
  omega

theorem set_length_le (nbits v : Nat) : (setPositions nbits v).length ≤ nbits := by
  have := List.length_filter_le (fun i => bitAt nbits v i) (List.range nbits)
  simpa [setPositions] using this

theorem testBit_foldl_or (nbits : Nat) (ps : List Nat) (acc j : Nat) :
    (ps.foldl (fun a p => a ||| 2^(nbits - 1 - p)) acc).testBit j
      = (acc.testBit j || ps.any fun p => decide (nbits - 1 - p = j)) := by
  induction ps generalizing acc with
  | nil => simp
  | cons p r ih =>
    simp only [List.foldl_cons, ih, Nat.testBit_or, Nat.testBit_two_pow, List.any_cons, Bool.or_assoc]

theorem testBit_orBits (nbits : Nat) (ps : List Nat) (j : Nat) :
    (orBits nbits ps).testBit j = ps.any fun p => decide (nbits - 1 - p = j) := by
  simp [orBits, testBit_foldl_or]

theorem orBits_setPositions (nbits v : Nat) (h : v < 2^nbits) :
    orBits nbits (setPositions nbits v) = v := by
  apply Nat.eq_of_testBit_eq
  intro j
  rw [testBit_orBits, Bool.eq_iff_iff, List.any_eq_true]
  simp only [setPositions, List.mem_filter, List.mem_range, bitAt, decide_eq_true_eq]
  constructor
  · rintro ⟨p, ⟨-, hb⟩, rfl⟩
    exact hb
  · intro hv
    have hj : j < nbits := by
      refine Nat.lt_of_not_le fun hge => ?_
      rw [Nat.testBit_lt_two_pow (Nat.lt_of_lt_of_le h (Nat.pow_le_pow_right (by omega) hge))] at hv
      cases hv
    refine ⟨nbits - 1 - j, ⟨by omega, ?_⟩, by omega⟩
    rwa [show nbits - 1 - (nbits - 1 - j) = j by omega]

theorem clearPositions_eq (nbits v : Nat) (h : v < 2^nbits) :
    clearPositions nbits v = setPositions nbits (2^nbits - 1 - v) := by
  simp only [clearPositions, setPositions]
  apply List.filter_congr
  intro i hi
  have hi' : i < nbits := List.mem_range.mp hi
  have e : 2^nbits - 1 - v = 2^nbits - (v + 1) := by omega
  simp only [bitAt]
  rw [e, Nat.testBit_two_pow_sub_succ h]
  have : nbits - 1 - i < nbits := by omega
  simp [this]

theorem orBits_clearPositions (nbits v : Nat) (h : v < 2^nbits) :
    (2^nbits - 1) - orBits nbits (clearPositions nbits v) = v := by
  have hc : 2^nbits - 1 - v < 2^nbits := by have := Nat.pow_pos (a := 2) (n := nbits) (by omega); omega
  rw [clearPositions_eq nbits v h, orBits_setPositions nbits _ hc]
  omega

theorem readBitPositions_write (nbits : Nat) (hn : nbits ≤ 65536) (ps : List Nat)
    (h : ∀ p ∈ ps, p < nbits) (rest : Bytes) :
    readBitPositions nbits ps.length (writeMulti writeU16 ps ++ rest) = .ok (ps, rest) := by
  induction ps with
  | nil => simp [readBitPositions, writeMulti]
  | cons p r ih =>
    have hp := h p (by simp)
    have h16 : p < 2^16 := by omega
    have hge : ¬ p ≥ nbits := by omega
    rw [writeMulti_cons, List.length_cons, readBitPositions, readU16_write _ h16, andThen_ok]
    simp only [hge, ↓reduceIte]
    rw [ih (fun q hq => h q (by simp [hq])), andThen_ok]

theorem readBitPositions_out_of_range (nbits : Nat) (ps : List Nat) (h16 : ∀ p ∈ ps, p < 2^16)
    (h : ∃ p ∈ ps, p ≥ nbits) (rest : Bytes) :
    readBitPositions nbits ps.length (writeMulti writeU16 ps ++ rest) = .error .corrupted := by
  induction ps with
  | nil => obtain ⟨p, hp, _⟩ := h; simp at hp
  | cons q r ih =>
    rw [writeMulti_cons, List.length_cons, readBitPositions, readU16_write _ (h16 q (by simp)), andThen_ok]
    by_cases hq : q ≥ nbits
    · simp [hq]
    · simp only [hq, ↓reduceIte]
      have h' : ∃ p ∈ r, p ≥ nbits := by
        obtain ⟨p, hp, hge⟩ := h
        rcases List.mem_cons.mp hp with rfl | hp
        · exact absurd hge hq
        · exact ⟨p, hp, hge⟩
      rw [ih (fun p hp => h16 p (by simp [hp])) h', andThen_error]

/-- at most 64 chunks, no bits beyond the block's length -/
def BitmapBlock.WF (b : BitmapBlock) : Prop := b.nChunks ≤ BLOCK_NCHUNKS ∧ b.v < 2^b.nbits

theorem nbits_le (b : BitmapBlock) (h : b.nChunks ≤ BLOCK_NCHUNKS) : b.nbits ≤ 65536 := by
  unfold BitmapBlock.nbits CHUNK_BITS
  unfold BLOCK_NCHUNKS at h
  omega

theorem decBitmapBlock_enc (b : BitmapBlock) (h : b.WF) (rest : Bytes) :
    decBitmapBlock (encBitmapBlock b ++ rest) = .ok (b, rest) := by
  obtain ⟨nChunks, v⟩ := b
  obtain ⟨hc, hv⟩ := h
  simp only at hc
  have hn := nbits_le ⟨nChunks, v⟩ hc
  simp only [BitmapBlock.nbits] at hv hn
  have hnc : ¬ nChunks > BLOCK_NCHUNKS := by omega
  rw [decBitmapBlock, encBitmapBlock]
  simp only [BitmapBlock.nbits, List.append_assoc]
  rw [readU8_write, andThen_ok]
  simp only [hnc, ↓reduceIte]
  by_cases h1 : (setPositions (nChunks * CHUNK_BITS) v).length < BLOCK_THRESHOLD
  · -- positive indices
    have h16 : (setPositions (nChunks * CHUNK_BITS) v).length < 2^16 := by unfold BLOCK_THRESHOLD at h1; omega
    simp only [h1, ↓reduceIte, List.append_assoc]
    rw [readU8_write, andThen_ok]
    simp only [MODE_POSITIVE, MODE_RAW, show ¬ (1 = 0) by omega, ↓reduceIte]
    rw [readU16_write _ h16, andThen_ok,
      readBitPositions_write _ hn _ (fun p hp => setPositions_lt hp), andThen_ok,
      orBits_setPositions _ _ hv]
  · simp only [h1, ↓reduceIte]
    by_cases h2 : nChunks * CHUNK_BITS - (setPositions (nChunks * CHUNK_BITS) v).length < BLOCK_THRESHOLD
    · -- negative indices
      have h16 : nChunks * CHUNK_BITS - (setPositions (nChunks * CHUNK_BITS) v).length < 2^16 := by
        unfold BLOCK_THRESHOLD at h2; omega
      have hlen := clear_length (nChunks * CHUNK_BITS) v
      have rb := readBitPositions_write _ hn (clearPositions (nChunks * CHUNK_BITS) v)
        (fun p hp => clearPositions_lt hp)
      rw [hlen] at rb
      simp only [h2, ↓reduceIte, List.append_assoc]
      rw [readU8_write, andThen_ok]
      simp only [MODE_POSITIVE, MODE_RAW, MODE_NEGATIVE, show ¬ (2 = 0) by omega, show ¬ (2 = 1) by omega,
        ↓reduceIte]
      rw [readU16_write _ h16, andThen_ok, rb, andThen_ok, orBits_clearPositions _ _ hv]
    · -- raw bytes
      simp only [h2, ↓reduceIte, List.append_assoc]
      rw [readU8_write, andThen_ok]
      simp only [MODE_RAW, ↓reduceIte]
      have hk : nChunks * CHUNK_BITS / 8 = nChunks * 128 := by unfold CHUNK_BITS; omega
      have hcap : nChunks * 128 ≤ MAX_FIXED_READ := by unfold BLOCK_NCHUNKS at hc; unfold MAX_FIXED_READ; omega
      have hpow : v < 256^(nChunks * 128) := by
        rw [pow256_eq_two_pow]
        have : 8 * (nChunks * 128) = nChunks * CHUNK_BITS := by unfold CHUNK_BITS; omega
        rw [this]; exact hv
      rw [hk, toBE_eq_beBytes, readFixed_write _ _ (beBytes_length _ _) hcap, andThen_ok, ofBE_beBytes, Nat.mod_eq_of_lt hpow]

/-- the bitmap segments a reader returns: identifier within the served heights, leaf offset a `u64`,
block structure accepted by `validate_blocks` (all blocks full but the last, which is not empty; no
more chunks than `2^height`), well-formed blocks and proof -/
def BitmapSegment.WF (s : BitmapSegment) : Prop :=
  s.id.WF ∧ (∃ n, validateBlocks s.id s.blocks = .ok n) ∧ (∀ b ∈ s.blocks, b.WF) ∧ HashesWF s.proof

theorem nChunksOf_bound {blocks : List BitmapBlock} {n : Nat} (h : nChunksOf blocks = .ok n) :
    1 ≤ blocks.length ∧ BLOCK_NCHUNKS * (blocks.length - 1) + 1 ≤ n := by
  induction blocks generalizing n with
  | nil => simp [nChunksOf] at h
  | cons b r ih =>
    cases r with
    | nil =>
      simp only [nChunksOf] at h
      split at h
      · simp at h
      · simp only [Except.ok.injEq] at h
        simp only [List.length_cons, List.length_nil]
        omega
    | cons b2 r2 =>
      simp only [nChunksOf] at h
      split at h
      · simp at h
      · split at h
        · rename_i m hm
          simp only [Except.ok.injEq] at h
          have := ih hm
          simp only [List.length_cons] at this ⊢
          unfold BLOCK_NCHUNKS at this h ⊢
          omega
        · simp at h

theorem maxChunks_ok {id : SegId} {mx : Nat} (h : maxChunks id = .ok mx) :
    id.height ≤ MAX_BITMAP_SEGMENT_HEIGHT ∧ mx = 2^id.height := by
  unfold maxChunks at h
  split at h
  · cases h
  · exact ⟨by omega, (Except.ok.inj h).symm⟩

theorem validateBlocks_ok {id : SegId} {blocks : List BitmapBlock} {n : Nat}
    (h : validateBlocks id blocks = .ok n) :
    (∃ off, leafOffset id = .ok off) ∧ nChunksOf blocks = .ok n ∧ maxChunks id = .ok (2^id.height)
      ∧ id.height ≤ MAX_BITMAP_SEGMENT_HEIGHT ∧ n ≤ 2^id.height := by
  unfold validateBlocks at h
  cases hoff : leafOffset id with
  | error e => simp [hoff] at h
  | ok off =>
  cases hm : nChunksOf blocks with
  | error e => simp [hoff, hm] at h
  | ok m =>
  cases hmx : maxChunks id with
  | error e => simp [hoff, hm, hmx] at h
  | ok mx =>
  obtain ⟨hh, rfl⟩ := maxChunks_ok hmx
  simp only [hoff, hm, hmx] at h
  split at h
  · cases h
  split at h
  · cases h
  obtain rfl := Except.ok.inj h
  exact ⟨⟨off, rfl⟩, rfl, rfl, hh, by omega⟩

theorem decBitmapSegment_enc (s : BitmapSegment) (h : s.WF) (rest : Bytes) :
    decBitmapSegment (encBitmapSegment s ++ rest) = .ok (s, rest) := by
  obtain ⟨hid, ⟨n, hv⟩, hb, hpf⟩ := h
  obtain ⟨⟨off, hoff⟩, hnc, hmx, hh, hle⟩ := validateBlocks_ok hv
  obtain ⟨hl1, hl2⟩ := nChunksOf_bound hnc
  have hpow : 2^s.id.height ≤ 2^13 := Nat.pow_le_pow_right (by omega) (by unfold MAX_BITMAP_SEGMENT_HEIGHT at hh; omega)
  have hlen16 : s.blocks.length < 2^16 := by unfold BLOCK_NCHUNKS at hl2; omega
  have hne : ¬ s.blocks.length = 0 := by omega
  have hmaxb : ¬ s.blocks.length > (2^s.id.height + BLOCK_NCHUNKS - 1) / BLOCK_NCHUNKS := by
    unfold BLOCK_NCHUNKS at hl2 ⊢; omega
  rw [decBitmapSegment, encBitmapSegment]
  simp only [List.append_assoc]
  rw [codec_segId.rt _ hid, andThen_ok, readU16_write _ hlen16, andThen_ok]
  simp only [hne, ↓reduceIte, hmx, hmaxb, hoff]
  rw [readItems_write decBitmapBlock encBitmapBlock s.blocks (fun b hb' r => decBitmapBlock_enc b (hb b hb') r),
    andThen_ok]
  simp only [hv]
  rw [codec_segProof.rt _ hpf, andThen_ok]

end GV.SerSeg
