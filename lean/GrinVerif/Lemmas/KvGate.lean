import GrinVerif.Model.KvGate
import GrinVerif.Model.KvResize
/-! Lemmas about gate shapes (`Model/KvGate.lean`): the semantics of a single-exit `loop { }`,
one poll of the two loops of the code (`pollIter_enter`, `pollIter_waiter`), the covering invariant of
site programs, and `Model/KvResize.lean` read through a `ResizeShape`. -/
namespace GV.KvGate

theorem EnterShape.Ok.params {e : EnterShape} (h : e.Ok) : e.params = 0 := h.1
theorem EnterShape.Ok.ret {e : EnterShape} (h : e.Ok) : e.ret = .txCounter := h.2.1
theorem EnterShape.Ok.loop {e : EnterShape} (h : e.Ok) : e.wait.loop = .forever := h.2.2.1
theorem EnterShape.Ok.exits {e : EnterShape} (h : e.Ok) : e.wait.exits = enterExits := h.2.2.2.1
theorem ResizeShape.Ok.setResizingFirst {r : ResizeShape} (h : r.Ok) : r.setResizingFirst = true := h.1
theorem ResizeShape.Ok.deferCond {r : ResizeShape} (h : r.Ok) : r.deferCond = .countNonZero := h.2.1
theorem ResizeShape.Ok.loop {r : ResizeShape} (h : r.Ok) : r.waiter.loop = .forever := h.2.2.1
theorem ResizeShape.Ok.exits {r : ResizeShape} (h : r.Ok) : r.waiter.exits = waiterExits := h.2.2.2.1
theorem ResizeShape.Ok.post {r : ResizeShape} (h : r.Ok) :
    r.waiter.post = [.resize, .clearResizing, .clearChecking] := h.2.2.2.2.2.2.1
theorem ResizeShape.Ok.immediate {r : ResizeShape} (h : r.Ok) :
    r.immediate = [.resize, .clearResizing, .clearChecking] := h.2.2.2.2.2.2.2.2.2.1
theorem Site.Ok.gateCalls {s : Site} (h : s.Ok) : s.gateCalls = 1 := h.1
theorem Site.Ok.unconditional {s : Site} (h : s.Ok) : s.unconditional = true := h.2.1
theorem Site.Ok.question {s : Site} (h : s.Ok) : s.question = false := h.2.2.1
theorem Site.Ok.held {s : Site} (h : s.Ok) : s.held = true := h.2.2.2.1
theorem Site.Ok.txn {s : Site} (h : s.Ok) : s.txn ≠ .none := h.2.2.2.2.1
theorem Site.Ok.gateBeforeTxn {s : Site} (h : s.Ok) : s.gateBeforeTxn = true := h.2.2.2.2.2
theorem RegistryShape.Ok.elseTouches {r : RegistryShape} (h : r.Ok) : r.elseTouches = ["stores_count"] :=
  h.2.2.2.2.1
theorem RegistryShape.Ok.countWriters {r : RegistryShape} (h : r.Ok) :
    r.countWriters = ["Store::enter_tx", "TxCounter::drop"] := h.2.2.2.2.2.1

theorem pollIter_single (ρ : Env) (k : ExitKind) (g : List Atom) :
    pollIter ρ [{ kind := k, guard := g }] = if guardHolds ρ g then .exit k else .sleep := by
  simp [pollIter]

/-- a fact about the polls `i .. i+n` is the fact about poll `i` and about the polls `i+1 .. i+n` -/
theorem polls_succ {P : Nat → Prop} {i n : Nat} (h : ∀ j, i ≤ j → j < i + (n + 1) → P j) :
    P i ∧ ∀ j, i + 1 ≤ j → j < i + 1 + n → P j :=
  ⟨h i (Nat.le_refl _) (Nat.lt_add_of_pos_right (Nat.succ_pos n)),
   fun j h1 h2 => h j (Nat.le_of_succ_le h1) (Nat.add_right_comm i 1 n ▸ h2)⟩

section single
variable {w : WaitLoop} {k : ExitKind} {g : List Atom} (hl : w.loop = .forever)
  (he : w.exits = [{ kind := k, guard := g }]) (ρs : Nat → Env) (ends : Nat → Bool)
include hl he

theorem pollRun_single_succ (n i : Nat) :
    pollRun w ρs ends (n + 1) i =
      if guardHolds (ρs i) g = true then .left i k else pollRun w ρs ends n (i + 1) := by
  simp only [pollRun, hl, bne_self_eq_false, Bool.false_and, Bool.false_eq_true, if_false, he,
    pollIter_single]
  cases guardHolds (ρs i) g <;> rfl

theorem pollRun_single_waiting (n : Nat) : ∀ i,
    (∀ j, i ≤ j → j < i + n → guardHolds (ρs j) g = false) → pollRun w ρs ends n i = .waiting := by
  induction n with
  | zero => intro _ _; rfl
  | succ n ih =>
    intro i h
    rw [pollRun_single_succ hl he, (polls_succ h).1, if_neg Bool.false_ne_true]
    exact ih (i + 1) (polls_succ h).2

theorem pollRun_single_leaves (m : Nat) : ∀ n i,
    (∀ j, i ≤ j → j < i + m → guardHolds (ρs j) g = false) →
    guardHolds (ρs (i + m)) g = true → m < n → pollRun w ρs ends n i = .left (i + m) k := by
  induction m with
  | zero =>
    intro n i _ ht hn
    cases n with
    | zero => exact absurd hn (Nat.not_lt_zero _)
    | succ n => rw [pollRun_single_succ hl he]; exact if_pos ht
  | succ m ih =>
    intro n i hf ht hn
    cases n with
    | zero => exact absurd hn (Nat.not_lt_zero _)
    | succ n =>
      rw [pollRun_single_succ hl he, (polls_succ hf).1, if_neg Bool.false_ne_true]
      rw [show i + (m + 1) = i + 1 + m from (Nat.add_right_comm i 1 m).symm] at ht ⊢
      exact ih n (i + 1) (polls_succ hf).2 ht (Nat.lt_of_succ_lt_succ hn)

theorem pollRun_single_sound (n : Nat) : ∀ i, pollRun w ρs ends n i = .waiting ∨
    ∃ j, i ≤ j ∧ pollRun w ρs ends n i = .left j k ∧ guardHolds (ρs j) g = true := by
  induction n with
  | zero => intro _; exact Or.inl rfl
  | succ n ih =>
    intro i
    rw [pollRun_single_succ hl he]
    split
    · exact Or.inr ⟨i, Nat.le_refl _, rfl, ‹_›⟩
    · rcases ih (i + 1) with h | ⟨j, hj, h1, h2⟩
      · exact Or.inl h
      · exact Or.inr ⟨j, Nat.le_of_succ_le hj, h1, h2⟩

/-- the three facts together, with the guard read as conditions on what a poll finds: `W` keeps
the loop waiting, `G` lets it go -/
theorem pollRun_single_spec {W G : Env → Prop} (hW : ∀ ρ, guardHolds ρ g = false ↔ W ρ)
    (hG : ∀ ρ, guardHolds ρ g = true ↔ G ρ) :
    (∀ n i, (∀ j, i ≤ j → j < i + n → W (ρs j)) → pollRun w ρs ends n i = .waiting) ∧
    (∀ m n i, (∀ j, i ≤ j → j < i + m → W (ρs j)) → G (ρs (i + m)) → m < n →
      pollRun w ρs ends n i = .left (i + m) k) ∧
    (∀ n i, pollRun w ρs ends n i = .waiting ∨
      ∃ j, i ≤ j ∧ pollRun w ρs ends n i = .left j k ∧ G (ρs j)) := by
  refine ⟨fun n i h => pollRun_single_waiting hl he ρs ends n i (fun j h1 h2 => (hW _).2 (h j h1 h2)),
    fun m n i h ht hn => pollRun_single_leaves hl he ρs ends m n i
      (fun j h1 h2 => (hW _).2 (h j h1 h2)) ((hG _).2 ht) hn, fun n i => ?_⟩
  rcases pollRun_single_sound hl he ρs ends n i with h | ⟨j, hj, h1, h2⟩
  · exact Or.inl h
  · exact Or.inr ⟨j, hj, h1, (hG _).1 h2⟩

end single

theorem guard_enter (ρ : Env) :
    guardHolds ρ [.notResizing, .threadNested] = (!ρ.resizing || ρ.nested) := by
  simp [guardHolds, Atom.eval]

theorem guard_waiter (ρ : Env) : guardHolds ρ [.countZero] = (ρ.count == 0) := by
  simp [guardHolds, Atom.eval]

/-- a thread that is outside every transaction while a resize is pending -/
def Env.held (ρ : Env) : Prop := ρ.resizing = true ∧ ρ.nested = false

theorem guard_enter_false_iff (ρ : Env) : guardHolds ρ [.notResizing, .threadNested] = false ↔ ρ.held := by
  rw [guard_enter]
  unfold Env.held
  cases ρ.resizing <;> cases ρ.nested <;> simp

theorem guard_enter_true_iff (ρ : Env) :
    guardHolds ρ [.notResizing, .threadNested] = true ↔ (ρ.resizing = false ∨ ρ.nested = true) := by
  rw [guard_enter]
  cases ρ.resizing <;> cases ρ.nested <;> simp

theorem pollIter_enter (ρ : Env) :
    pollIter ρ enterExits = .exit .pass ↔ (!ρ.resizing || ρ.nested) = true := by
  rw [enterExits, pollIter_single, guard_enter]
  cases (!ρ.resizing || ρ.nested) <;> simp

theorem pollIter_waiter (ρ : Env) : pollIter ρ waiterExits = .exit .breakOut ↔ ρ.count = 0 := by
  rw [waiterExits, pollIter_single, guard_waiter]
  by_cases h : ρ.count = 0 <;> simp [h]

theorem coveredFrom_head (s : Lt) (l : List LAct) (h : coveredFrom s l = true) : s.live ≤ s.counted := by
  cases l with
  | nil => simpa [coveredFrom] using h
  | cons a r =>
    simp only [coveredFrom, Bool.and_eq_true, decide_eq_true_eq] at h
    exact h.1

theorem coveredFrom_tail (s : Lt) (a : LAct) (r : List LAct) (h : coveredFrom s (a :: r) = true) :
    coveredFrom (lstep s a) r = true := by
  simp only [coveredFrom, Bool.and_eq_true] at h
  exact h.2

theorem coveredFrom_nil (s : Lt) (h : s.live ≤ s.counted) : coveredFrom s [] = true := by
  simp [coveredFrom, h]

theorem site_prog_covered (site : Site) (h : site.Ok) (s : Lt) (hs : s.live ≤ s.counted) :
    coveredFrom s site.prog = true := by
  have h1 := h.gateCalls
  have h5 := h.txn
  have h6 := h.gateBeforeTxn
  have hp : site.prog = [.gate, .txnBegin, .txnEnd, .ungate] := by
    simp [Site.prog, h1, h5, h6]
  rw [hp]
  have h2 : s.live ≤ s.counted + 1 := Nat.le_succ_of_le hs
  simp [coveredFrom, lstep, hs, h2]

/-- every thread's live transactions are covered by its counters, now and for the rest of the
program it is in -/
def LInv (ths : List LThread) : Prop := ∀ th ∈ ths, coveredFrom th.st th.todo = true

theorem linv_sched (ths : List LThread) (t : Nat) (next : List LAct) (h : LInv ths)
    (hn : ∀ s : Lt, s.live ≤ s.counted → coveredFrom s next = true) : LInv (lsched ths t next) := by
  unfold lsched
  split
  · exact h                                   -- no such thread
  · rename_i th hg
    have hmem : th ∈ ths := List.mem_of_getElem? hg
    have hth := h th hmem
    have key : ∀ (a : LAct) (r : List LAct), coveredFrom th.st (a :: r) = true →
        LInv (ths.set t { st := lstep th.st a, todo := r }) := by
      intro a r hc x hx
      rcases List.mem_or_eq_of_mem_set hx with hx | rfl
      · exact h x hx
      · exact coveredFrom_tail _ _ _ hc
    split
    · rename_i a r htodo                        -- inside a program: its next step
      exact key a r (htodo ▸ hth)
    · split
      · rename_i a r                            -- idle: the first step of `next`
        exact key a r (hn th.st (coveredFrom_head _ _ hth))
      · exact h                                 -- idle and nothing to start

theorem sums_of_linv (ths : List LThread) (h : LInv ths) : liveSum ths ≤ countedSum ths := by
  induction ths with
  | nil => exact Nat.le_refl 0
  | cons th r ih =>
    exact Nat.add_le_add (coveredFrom_head _ _ (h th List.mem_cons_self))
      (ih (fun x hx => h x (List.mem_cons_of_mem _ hx)))

/-- any schedule: thread `t` steps, starting program `p` when it is idle -/
def lrun (ths : List LThread) (sched : List (Nat × List LAct)) : List LThread :=
  sched.foldl (fun ths x => lsched ths x.1 x.2) ths

theorem linv_run (sched : List (Nat × List LAct)) (ths : List LThread) (h : LInv ths)
    (hn : ∀ x ∈ sched, ∀ s : Lt, s.live ≤ s.counted → coveredFrom s x.2 = true) : LInv (lrun ths sched) :=
  List.foldlRecOn (motive := LInv) sched _ h fun ths h x hx => linv_sched ths x.1 x.2 h (hn x hx)

theorem linv_init (n : Nat) : LInv (List.replicate n {}) := by
  intro th hth
  rw [List.eq_of_mem_replicate hth]
  rfl

/-- the bookkeeping statements, applied to the protocol state (`n` = the decided size) -/
def applyEffects : List Effect → Nat → Kv.REnv → Kv.REnv
  | [], _, e => e
  | .resize :: r, n, e => applyEffects r n { e with mapSize := n }
  | .clearResizing :: r, n, e => applyEffects r n { e with resizing := false }
  | .clearChecking :: r, n, e => applyEffects r n { e with checking := false }
  | .setResizing :: r, n, e => applyEffects r n { e with resizing := true }
  | _ :: r, n, e => applyEffects r n e

/-- one poll of the waiter thread, as the shape describes it: it leaves its loop through the exit a
poll finds, then runs the statements after the loop -/
def waiterStepOf (r : ResizeShape) (e : Kv.REnv) : Kv.REnv :=
  match e.pending with
  | some n =>
    match pollIter { resizing := e.resizing, nested := false, count := e.openTxs, unknown := false } r.waiter.exits with
    | .exit .breakOut => { applyEffects r.waiter.post n e with pending := none }
    | _ => e
  | none => e

/-- one call of `maybe_resize`, as the shape describes it -/
def maybeResizeOf (r : ResizeShape) (e : Kv.REnv) (used : Nat) : Kv.REnv × Kv.Branch :=
  if e.checking then (e, .guardBusy)
  else
    let nr := Kv.needsResize e.mapSize used e.chunk
    if !nr.1 then ({ e with checking := false }, .notNeeded)
    else
      let e1 : Kv.REnv := { e with checking := true, resizing := r.setResizingFirst || e.resizing }
      let defer := match r.deferCond with
        | .countNonZero => decide (e.openTxs ≠ 0)
        | .other => false
      if defer then ({ e1 with pending := some nr.2 }, .deferred nr.2)
      else (applyEffects r.immediate nr.2 e1, .immediate nr.2)

theorem waiterStepOf_eq (r : ResizeShape) (hr : r.Ok) (e : Kv.REnv) : waiterStepOf r e = Kv.waiterStep e := by
  have hx := hr.exits
  have hp := hr.post
  unfold waiterStepOf Kv.waiterStep
  cases hpend : e.pending with
  | none => rfl
  | some n =>
    simp only [hx, waiterExits, pollIter_single, guard_waiter, hp, applyEffects]
    by_cases h0 : e.openTxs = 0
    · simp [h0]
    · have : (e.openTxs == 0) = false := by simpa using h0
      simp [h0, this]

theorem maybeResizeOf_eq (r : ResizeShape) (hr : r.Ok) (e : Kv.REnv) (used : Nat) :
    maybeResizeOf r e used = Kv.maybeResize e used := by
  have h1 := hr.setResizingFirst
  have h2 := hr.deferCond
  have hi := hr.immediate
  unfold maybeResizeOf Kv.maybeResize
  by_cases hc : e.checking = true
  · simp [hc]
  · simp only [hc, Bool.false_eq_true, if_false, h1, h2, hi, Bool.true_or, applyEffects]
    by_cases hn : (Kv.needsResize e.mapSize used e.chunk).1 = true
    · by_cases h0 : e.openTxs = 0 <;> simp [hn, h0]
    · simp [hn]

theorem storeOp_of_waiting {α : Type} {e : EnterShape} {ρs : Nat → Env} {ends : Nat → Bool} {n : Nat}
    (v : α) (h : pollRun e.wait ρs ends n 0 = .waiting) : storeOp e ρs ends n v = .blocked := by
  rw [storeOp, h]

theorem storeOp_of_pass {α : Type} {e : EnterShape} {ρs : Nat → Env} {ends : Nat → Bool} {n j : Nat}
    (v : α) (h : pollRun e.wait ρs ends n 0 = .left j .pass) : storeOp e ρs ends n v = .ok v := by
  rw [storeOp, h]

/-- `enter_tx` with a second exit: `return Err(..)` under a condition the gate does not control -/
def boundedWaitShape : EnterShape :=
  { params := 0, ret := .result,
    wait := { loop := .forever,
              exits := enterExits ++ [{ kind := .err, guard := [.other] }],
              sleepMs := [10], otherWaits := 0, timeRefs := ["Instant", "elapsed"], pre := 1, post := [],
              unwraps := ["get", "get_mut"], lockReleasedBeforeSleep := true },
    passEffects := [.incGlobal, .incThread] }

/-- `Batch::new` with `write_txn()` before `enter_tx()` -/
def swappedSite : Site :=
  { name := "Batch::new", gateCalls := 1, unconditional := true, question := false, held := true,
    txn := .write, gateBeforeTxn := false }

end GV.KvGate
