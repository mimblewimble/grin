import GrinVerif.Model.Crash
import GrinVerif.Lemmas.CrashPath
import GrinVerif.Lemmas.CrashRecover
import GrinVerif.Lemmas.CrashSteps
/-! What the steps of an acceptance keep (the files' cover of a path below the fork point, the header view, the
body view), and from it: which crash states of a plain extension pass the header check and agree with the old
consistent state. -/
namespace GV.Crash

/-- block `b` extends the stored path `O` by one block, and target `t` describes exactly that -/
structure PlainExt (tbl : List BlkInfo) (O : List BlkInfo) (b : BlkInfo) (t : Target) : Prop where
  old : pathOf tbl (tbl.length + 1) (tipOf O) [] = some O
  new : pathOf tbl (tbl.length + 1) b.id [] = some (O ++ [b])
  newPath : t.newPath = O ++ [b]
  forkLen : t.forkLen = O.length

/-- the files cover a path at or below the fork point whatever the step: a truncation cuts above it, an append writes
the new path, which extends it -/
theorem FilesCover.applyStep {Q : List BlkInfo} {t : Target} {d : Durable} (h : FilesCover Q d)
    (hQ : Q <+: t.forkPath) (s : Step) : FilesCover Q (applyStep t d s) := by
  have hN : Q <+: t.newPath := hQ.trans (List.take_prefix _ _)
  have hl : (leavesOf Q).length ≤ (leavesOf t.forkPath).length := (leavesOf_mono hQ).length_le
  have hi : (Q.map (·.id)).length ≤ t.forkLen := by
    have := hQ.length_le; simp only [Target.forkPath, List.length_take, List.length_map] at this ⊢; omega
  rw [applyStep_fields]
  exact ⟨prefix_fileStep h.outHash hl (leavesOf_mono hN) .., prefix_fileStep h.outData hl (leavesOf_mono hN) ..,
    prefix_fileStep h.kerHash hi (hN.map _) .., prefix_fileStep h.kerData hi (hN.map _) ..⟩

theorem FilesCover.crashAfter {Q : List BlkInfo} {t : Target} {d : Durable} (h : FilesCover Q d)
    (hQ : Q <+: t.forkPath) (steps : List Step) (k : Nat) : FilesCover Q (crashAfter t d steps k) := by
  unfold GV.Crash.crashAfter
  generalize steps.take k = l
  induction l generalizing d with
  | nil => exact h
  | cons s l ih => exact ih (h.applyStep hQ s)

theorem applyStep_hdrView {t : Target} {s : Step} (hs : s.hdrSide = false) (d : Durable) :
    hdrView (applyStep t d s) = hdrView d := by
  rw [applyStep_fields]; cases s <;> first | rfl | cases hs

theorem applyStep_bodyView {t : Target} {s : Step} (hs : s.hdrSide = true ∨ s = .childCommit) (d : Durable) :
    bodyView (applyStep t d s) = bodyView d := by
  rw [applyStep_fields]; cases s <;> first | rfl | (rcases hs with hs | hs <;> cases hs)

theorem HdrOk.crashAfter {tbl : List BlkInfo} {d : Durable} (h : HdrOk tbl d) (t : Target) {steps : List Step} {k : Nat}
    (hs : ∀ s ∈ steps.take k, s.hdrSide = false) : HdrOk tbl (crashAfter t d steps k) :=
  h.of_view (crashAfter_keeps hdrView fun s hm => applyStep_hdrView (hs s hm))

theorem AgreesOld.crashAfter {O : List BlkInfo} {d : Durable} (h : AgreesOld O d) (t : Target) {steps : List Step}
    {k : Nat} (hs : ∀ s ∈ steps.take k, s.hdrSide = true ∨ s = .childCommit) : AgreesOld O (crashAfter t d steps k) :=
  h.of_view (crashAfter_keeps bodyView fun s hm => applyStep_bodyView (hs s hm))

/-- the steps on the body files keep it below the fork point, up to the rename of the leaf set and the final commit -/
theorem AgreesOld.crashAfter_body {O : List BlkInfo} {d : Durable} (h : AgreesOld O d) {t : Target}
    (hO : O <+: t.forkPath) {steps : List Step} {k : Nat}
    (h1 : Step.finalCommit ∉ steps.take k) (h2 : Step.leafRename ∉ steps.take k) :
    AgreesOld O (GV.Crash.crashAfter t d steps k) :=
  ⟨by rw [crashAfter_dbHead, if_neg h1]; exact h.head, by rw [crashAfter_leaf, if_neg h2]; exact h.leaf,
   h.files.crashAfter hO _ k⟩

namespace PlainExt
variable {tbl O : List BlkInfo} {b : BlkInfo} {t : Target}

theorem forkPath (h : PlainExt tbl O b t) : t.forkPath = O := Target.forkPath_eq h.newPath h.forkLen

theorem tip (h : PlainExt tbl O b t) : t.tip = b.id := by
  rw [Target.tip_eq, h.newPath, tipOf_snoc]

theorem files (h : PlainExt tbl O b t) (k : Nat) : FilesCover O (crashAfter t (consistent O) blockSteps k) :=
  (consistent_agrees O).files.crashAfter (h.forkPath ▸ List.prefix_refl O) _ k

theorem hdrOk (h : PlainExt tbl O b t) (k : Nat) (hk : k ≤ 2 ∨ 5 ≤ k) :
    HdrOk tbl (crashAfter t (consistent O) blockSteps k) := by
  rcases hk with hk | hk
  · -- step 2 cuts the header hash file at the fork point, which is its end
    refine (consistent_hdrOk tbl O h.old).of_view ?_
    match k, hk with
    | 0, _ | 1, _ => rfl
    | 2, _ =>
      have e : (crashAfter t (consistent O) blockSteps 2).hdrHash = (O.map (·.id)).take t.forkLen := rfl
      exact congrArg (·, _, _) (e.trans (h.forkLen ▸ take_map_len O))
  · obtain ⟨e1, e2⟩ := crashAfter_hdrFiles t (consistent O) (steps := blockSteps) (a := 5) (ids := t.newPath.map (·.id))
      ⟨rfl, rfl⟩ (by decide) k hk
    refine ⟨by rw [e1, e2], ?_⟩
    rw [e2, crashAfter_dbHHead, h.newPath, h.tip, (consistent_tip O).2]
    -- `header_head` has moved to `b` or is still the old tip
    by_cases hm : Step.hdrCommit ∈ blockSteps.take k ∧ t.movesHHead = true
    · exact ⟨O ++ [b], by rw [if_pos hm.1, if_pos hm.2]; exact h.new, List.prefix_refl _⟩
    · refine ⟨O, ?_, (List.prefix_append O [b]).map _⟩
      split
      · rw [if_neg fun hmv => hm ⟨‹_›, hmv⟩]; exact h.old
      · exact h.old

theorem hdr_torn (h : PlainExt tbl O b t) (k : Nat) (hk : k = 3 ∨ k = 4) :
    (crashAfter t (consistent O) blockSteps k).hdrHash.length ≠
      (crashAfter t (consistent O) blockSteps k).hdrData.length := by
  -- the hash file holds the new path, the data file still the old one (cut at its end by step 4)
  rw [crashAfter_hdrHash, crashAfter_hdrData]
  rcases hk with rfl | rfl <;> simp [fileStep, blockSteps, consistent, h.newPath, h.forkLen]

theorem agrees (h : PlainExt tbl O b t) (k : Nat) (hk : k ≤ 11) :
    AgreesOld O (crashAfter t (consistent O) blockSteps k) :=
  -- the leaf set is renamed at step 12, the body head committed at step 17
  (consistent_agrees O).crashAfter_body (h.forkPath ▸ List.prefix_refl O)
    (not_mem_take_of_le (Nat.le_trans hk (by decide : 11 ≤ 16)) (by decide)) (not_mem_take_of_le hk (by decide))

theorem agrees_new (h : PlainExt tbl O b t) (hm : t.movesHead = true) (k : Nat) (hk : 17 ≤ k) :
    AgreesOld (O ++ [b]) (crashAfter t (consistent O) blockSteps k) := by
  rw [crashAfter_block_done t _ k hk, if_pos hm, h.tip, h.newPath]
  exact (consistent_agrees (O ++ [b])).of_view (congrArg (·, _) (tipOf_snoc O b).symm)

end PlainExt

/-- up to step 7 of a block acceptance only the header files and `header_head` have been touched -/
theorem crashAfter_block_agrees (t : Target) (O : List BlkInfo) (k : Nat) (hk : k ≤ 7) :
    AgreesOld O (crashAfter t (consistent O) blockSteps k) :=
  (consistent_agrees O).crashAfter t fun s hs =>
    (by decide : ∀ s ∈ blockSteps.take 7, s.hdrSide = true ∨ s = .childCommit) s (List.take_subset_take_left _ hk hs)

end GV.Crash
