import GrinVerif.Lemmas.StoreOps
/-! Histories of store operations against the unpruned reference (C08 `history_preserves_reference`):
the operations, the reference with its protocol bookkeeping, the usage protocol as a decidable
predicate on operation lists, and the invariant `HInv` preserved by every operation the protocol
allows; what can be read off `HInv`: the observables and whole Merkle proofs.  No Mathlib. -/
namespace GV.Store
open GV GV.Pmmr GV.Pmmr.Co

/-- the operations of a prunable MMR store -/
inductive HOp
  /-- `PMMR::push` of one leaf -/
  | push (e : Bytes)
  /-- `PMMR::prune(pos0)` (spend a leaf) -/
  | prune (pos0 : Nat)
  /-- `PMMR::rewind` to the boundary of `N'` leaves, re-adding the leaves `rm` (1-based) -/
  | rewind (N' : Nat) (rm : Bitmap)
  /-- `Backend::sync` (commit the unit of work) -/
  | sync
  /-- `Backend::discard` (drop the unit of work) -/
  | discard
  /-- `check_compact` with cutoff at the boundary of `K` leaves and `rewind_rm_pos = rm` -/
  | compact (K : Nat) (rm : Bitmap)
  /-- drop the backend and open it again from its files -/
  | reopen
deriving Repr, DecidableEq

/-- what the unpruned reference holds: the leaf history and the unspent leaf positions (0-based) -/
structure RefView where
  es : List Bytes := []
  U : List Nat := []
deriving Repr, DecidableEq

/-- the reference with the bookkeeping the usage protocol talks about: the committed view, whether
a unit of work is open (`dirty`), whether a leaf has been appended in it (`app`), the leaf
positions compacted away so far (`G`) and the leaf count of the largest compaction cutoff so far
(`C`) -/
structure RefSt where
  cur : RefView := {}
  saved : RefView := {}
  dirty : Bool := false
  /-- a leaf was pushed since the last `sync` / `discard` -/
  app : Bool := false
  G : List Nat := []
  C : Nat := 0
deriving Repr, DecidableEq

namespace RefSt

/-- the reference semantics of the operations -/
def step (r : RefSt) : HOp → RefSt
  | .push e => { r with cur := { es := r.cur.es ++ [e], U := r.cur.U ++ [mmr r.cur.es.length] }, dirty := true,
                        app := true }
  | .prune p => { r with cur := { r.cur with U := r.cur.U.filter (· != p) }, dirty := true }
  | .rewind N' rm =>
    { r with cur := { es := r.cur.es.take N', U := r.cur.U.filter (· < mmr N') ++ rm.map (· - 1) },
             dirty := true }
  | .sync => { r with saved := r.cur, dirty := false, app := false }
  | .discard => { r with cur := r.saved, dirty := false, app := false }
  | .compact K rm =>
    { r with G := r.G ++ (List.range (mmr K)).filter (fun q =>
               isLeaf q && !r.cur.U.elem q && !rm.elem (q + 1) && !r.G.elem q),
             C := max r.C K }
  | .reopen => r

/-- **the usage protocol**, one operation: sizes stay below `2^64 − 64`; `rewind` only before the
first append of a unit of work (so several rewinds in a row – the chain rewinds block by block –
and rewinds after removals are allowed), to a boundary not below the largest compaction cutoff
and not above the current size, re-adding only leaf positions of the smaller MMR that no
compaction has removed; compaction and reopen only from a synced state, the cutoff a boundary
inside the MMR -/
def ok (r : RefSt) : HOp → Prop
  | .push _ => mmr (r.cur.es.length + 1) + 64 < 2 ^ 64
  | .prune _ => True
  | .rewind N' rm => r.app = false ∧ r.C ≤ N' ∧ N' ≤ r.cur.es.length ∧
      ∀ x ∈ rm, 1 ≤ x ∧ x ≤ mmr N' ∧ isLeaf (x - 1) = true ∧ (x - 1) ∉ r.G
  | .sync => True
  | .discard => True
  | .compact K _ => r.dirty = false ∧ K ≤ r.cur.es.length
  | .reopen => r.dirty = false

instance (r : RefSt) (op : HOp) : Decidable (r.ok op) := by
  cases op <;> unfold ok <;> exact inferInstance

def Proto : RefSt → List HOp → Prop
  | _, [] => True
  | r, op :: ops => r.ok op ∧ Proto (r.step op) ops

instance : ∀ (r : RefSt) (ops : List HOp), Decidable (Proto r ops)
  | _, [] => isTrue trivial
  | r, op :: ops =>
    have := instDecidableProto (r.step op) ops
    by unfold Proto; exact inferInstance

end RefSt

def leafFn (es : List Bytes) : Nat → Bytes := fun i => es.getD i []

/-- the store side of the operations (`el` is only used by variable-size data files) -/
def bstep {H : Type} (el : Bytes → Option Nat) (hf : HashFn Bytes H) (p : PM H) : HOp → PM H
  | .push e => (PM.push hf p e).getD p
  | .prune pos => match PM.prune p pos with
    | some (p', _) => p'
    | none => p
  | .rewind N' rm => PM.rewind p (mmr N') rm
  | .sync => { p with b := p.b.sync }
  | .discard => { b := p.b.discard, size := p.b.discard.unprunedSize }
  | .compact K rm => { p with b := p.b.checkCompact el (mmr K) rm }
  | .reopen => { b := p.b.reopen el, size := (p.b.reopen el).unprunedSize }

theorem leafFn_append (es : List Bytes) (e : Bytes) :
    leafFn (es ++ [e]) es.length = e ∧ ∀ i, i < es.length → leafFn es i = leafFn (es ++ [e]) i := by
  unfold leafFn
  refine ⟨by simp [List.getD], ?_⟩
  intro i hi
  simp [List.getD, List.getElem?_append_left hi]

theorem leafFn_take (es : List Bytes) (k : Nat) :
    ∀ i, i < k → leafFn es i = leafFn (es.take k) i := by
  intro i hi
  unfold leafFn
  simp [List.getD, List.getElem?_take_of_lt hi]

/-- the store `p` agrees with the reference view `v`: in-unit reference invariant for the leaf
history, same size, same unspent set; the pruned leaves are the ghost set `G`; all pruned roots
lie below the boundary of `C` leaves -/
structure Agree {H : Type} (hf : HashFn Bytes H) (p : PM H) (v : RefView) (G : List Nat) (C : Nat)
    (df : AOF Bytes) : Prop where
  live : Live p.b v.es.length (refHash hf (leafFn v.es)) (refData (leafFn v.es)) df
  size : p.size = mmr v.es.length
  unspent : ∀ q, (q + 1) ∈ p.b.leafSet.bitmap ↔ q ∈ v.U
  pruned : ∀ l, height l = 0 → (PrunedBy p.b.pruneList.bitmap l ↔ l ∈ G)
  rootsC : ∀ x ∈ p.b.pruneList.bitmap, x ≤ mmr C
  cle : C ≤ v.es.length

/-- **the invariant of a history**: the store agrees with the current reference view; the backend
the current unit of work started from (`b0`) is synced and agrees with the committed view, and
the current backend is inside that unit; outside a unit both coincide -/
structure HInv {H : Type} (hf : HashFn Bytes H) (p : PM H) (r : RefSt) : Prop where
  cur : ∃ df, Agree hf p r.cur r.G r.C df
  saved : ∃ b0 df0, Synced b0 r.saved.es.length (refHash hf (leafFn r.saved.es))
      (refData (leafFn r.saved.es)) df0 ∧
    Agree hf { b := b0, size := mmr r.saved.es.length } r.saved r.G r.C df0 ∧
    Backend.InUnit b0 df0 p.b ∧ (r.dirty = false → p.b = b0 ∧ r.cur = r.saved)
  /-- as long as the unit has appended nothing, both buffers are empty -/
  nobuf : r.app = false → p.b.hashFile.buffer = [] ∧ ∀ df, p.b.dataFile = .fixed df → df.buffer = []

theorem hinv_of_synced {H : Type} {hf : HashFn Bytes H} {b : Backend H} {r : RefSt} {df : AOF Bytes}
    (h : Synced b r.saved.es.length (refHash hf (leafFn r.saved.es)) (refData (leafFn r.saved.es)) df)
    (ha : Agree hf { b := b, size := mmr r.saved.es.length } r.saved r.G r.C df)
    (hcs : r.cur = r.saved) : HInv hf { b := b, size := mmr r.saved.es.length } r :=
  ⟨⟨df, by rw [hcs]; exact ha⟩,
    ⟨b, df, h, ha, Backend.inUnit_refl h.cleanFixed, fun _ => ⟨rfl, hcs⟩⟩, fun _ => h.nobuf⟩

/-- under the reference invariant `PMMR::prune` is `remove`: a position that is not an unspent leaf
is not in the leaf set (which holds leaves only), so `prune` leaves the store as it is and so does
removing it -/
theorem Live.bstep_prune {H : Type} (el : Bytes → Option Nat) (hf : HashFn Bytes H) {p : PM H}
    {N : Nat} {ref : Nat → H} {dref : Nat → Bytes} {df : AOF Bytes} (h : Live p.b N ref dref df)
    (pos : Nat) : bstep el hf p (.prune pos) = { p with b := p.b.remove pos } := by
  have hid : (pos + 1) ∉ p.b.leafSet.bitmap → ({ p with b := p.b.remove pos } : PM H) = p := by
    intro hn
    have : p.b.remove pos = p.b := by
      unfold Backend.remove LeafSet.remove
      rw [remove_of_not_mem (by rwa [Nat.add_comm])]
    rw [this]
  unfold bstep PM.prune
  by_cases hleaf : isLeaf pos = true
  · simp only [hleaf, Bool.not_true, Bool.false_eq_true, if_false]
    by_cases hin : (pos + 1) ∈ p.b.leafSet.bitmap
    · rw [(h.read_unspent el pos hin).1]
    · have hnone : p.b.getHash pos = none := by
        unfold Backend.getHash
        have : p.b.leafSet.includes pos = false :=
          Bool.eq_false_iff.2 fun hc => hin (LeafSet.includes_iff.1 hc)
        simp [hleaf, this]
      rw [hnone]; exact (hid hin).symm
  · have hleaf' : isLeaf pos = false := by simpa using hleaf
    simp only [hleaf', Bool.not_false, if_true]
    refine (hid fun hm => ?_).symm
    have := (h.lsLeaf _ hm).2.2
    rw [Nat.add_sub_cancel, ← isLeaf_iff, hleaf'] at this
    exact absurd this (by simp)

/-- the ghost set follows compaction: what the list `check_compact` writes prunes on top is exactly
what `RefSt.step (.compact K rm)` adds to `G` -/
theorem compact_pruned_leaves {H : Type} {b0 : Backend H} {r : RefSt} (K : Nat) (rm : Bitmap)
    (hp : Backend.CompactPre b0 (mmr r.saved.es.length) (mmr K))
    (hun : ∀ q, (q + 1) ∈ b0.leafSet.bitmap ↔ q ∈ r.saved.U)
    (hpr0 : ∀ l, height l = 0 → (PrunedBy b0.pruneList.bitmap l ↔ l ∈ r.G))
    (hcs : r.cur = r.saved) (l : Nat) (hl : height l = 0) :
    PrunedBy (Backend.newBm b0 (mmr K) rm) l ↔ l ∈ (r.step (.compact K rm)).G := by
  rw [Backend.newBm_prunedBy hp rm l, full_leaf hl]
  unfold P0 Backend.leavesRm
  show _ ∨ (l + 1) ∈ b0.leafSet.removedPreCutoff (mmr K) rm b0.pruneList ↔ _
  rw [LeafSet.mem_removedPreCutoff_iff, hpr0 l hl]
  simp only [RefSt.step, List.mem_append, List.mem_filter, List.mem_range, Bool.and_eq_true,
    Bool.not_eq_true', List.elem_eq_mem, decide_eq_false_iff_not, Nat.add_sub_cancel]
  rw [hcs, (isLeaf_iff l).2 hl]
  have hpr : b0.pruneList.isPruned l = false ↔ l ∉ r.G := by
    rw [← hpr0 l hl, ← PruneList.isPruned_iff_prunedBy hp.inv]
    cases b0.pruneList.isPruned l <;> simp
  rw [hpr, hun l]
  constructor
  · rintro (h | ⟨_, h2, h3, h4, _, h6⟩)
    · exact Or.inl h
    · exact Or.inr ⟨by omega, ⟨⟨⟨rfl, h3⟩, h4⟩, h6⟩⟩
  · rintro (h | ⟨h1, ⟨⟨⟨_, h3⟩, h4⟩, h6⟩⟩)
    · exact Or.inl h
    · exact Or.inr ⟨by omega, by omega, h3, h4, rfl, h6⟩

theorem hinv_push {H : Type} (el : Bytes → Option Nat) (hf : HashFn Bytes H) {p : PM H} {r : RefSt}
    (h : HInv hf p r) (e : Bytes) (hok : r.ok (.push e)) :
    HInv hf (bstep el hf p (.push e)) (r.step (.push e)) := by
  obtain ⟨⟨df, hcur⟩, ⟨b0, df0, hs0, ha0, hunit, hclean⟩, hnb⟩ := h
  have hb : mmr (r.cur.es.length + 1) + 64 < 2 ^ 64 := hok
  obtain ⟨hfN, hfold⟩ := leafFn_append r.cur.es e
  have hl := hcur.live.congr hfold
  obtain ⟨b', ⟨hpush, happ, hlive, hls, hpl⟩⟩ := hl.push hcur.size hb
  rw [hfN] at hpush happ hlive
  rw [show bstep el hf p (.push e) = { b := b', size := mmr (r.cur.es.length + 1) } by
    simp only [bstep, hpush, Option.getD_some]]
  refine ⟨⟨df.append e, ⟨?_, ?_, ?_, ?_, ?_, ?_⟩⟩, ⟨b0, df0, hs0, ha0, ?_, ?_⟩,
    fun hd => absurd hd (by simp [RefSt.step])⟩
  · show Live b' (r.cur.es ++ [e]).length _ _ _
    rw [List.length_append, List.length_singleton]; exact hlive
  · show mmr (r.cur.es.length + 1) = mmr (r.cur.es ++ [e]).length
    rw [List.length_append, List.length_singleton]
  · intro q
    show (q + 1) ∈ b'.leafSet.bitmap ↔ q ∈ r.cur.U ++ [mmr r.cur.es.length]
    rw [hls, mem_add, hcur.unspent q, List.mem_append, List.mem_singleton, or_comm]
    exact or_congr_right (by omega)
  · show ∀ l, height l = 0 → (PrunedBy b'.pruneList.bitmap l ↔ l ∈ r.G)
    rw [hpl]; exact hcur.pruned
  · show ∀ x ∈ b'.pruneList.bitmap, x ≤ mmr r.C
    rw [hpl]; exact hcur.rootsC
  · show r.C ≤ (r.cur.es ++ [e]).length
    rw [List.length_append]; have := hcur.cle; omega
  · have := Backend.inUnit_apply hunit (.append e (emitted hf (leafFn (r.cur.es ++ [e])) r.cur.es.length)) trivial
    simp only [Backend.Op.apply, happ, Option.getD_some] at this
    exact this
  · intro hd; exact absurd hd (by simp [RefSt.step])

theorem hinv_rewind {H : Type} (el : Bytes → Option Nat) (hf : HashFn Bytes H) {p : PM H} {r : RefSt}
    (h : HInv hf p r) (N' : Nat) (rm : Bitmap) (hok : r.ok (.rewind N' rm)) :
    HInv hf (bstep el hf p (.rewind N' rm)) (r.step (.rewind N' rm)) := by
  obtain ⟨⟨df, hcur⟩, ⟨b0, df0, hs0, ha0, hunit, hclean⟩, hnb⟩ := h
  obtain ⟨happ, hC, hN, hrm⟩ := hok
  obtain ⟨hb1, hb2⟩ := hnb happ
  have hb2' := hb2 df hcur.live.data
  have hroots : ∀ x ∈ p.b.pruneList.bitmap, x ≤ mmr N' :=
    fun x hx => Nat.le_trans (hcur.rootsC x hx) (mmr_le_mmr hC)
  have hrm' : ∀ x ∈ rm, 1 ≤ x ∧ x ≤ mmr N' ∧ height (x - 1) = 0 ∧
      ¬ PrunedBy p.b.pruneList.bitmap (x - 1) := by
    intro x hx
    obtain ⟨a1, a2, a3, a4⟩ := hrm x hx
    have hl := (isLeaf_iff _).1 a3
    exact ⟨a1, a2, hl, fun hp => a4 ((hcur.pruned _ hl).1 hp)⟩
  obtain ⟨df', hl, hbuf1, hbuf2, hw, hmem⟩ := hcur.live.rewind hb1 hb2' hN hroots rm hrm'
  have hstep : bstep el hf p (.rewind N' rm) = { b := p.b.rewind (mmr N') rm, size := mmr N' } := by
    show PM.rewind p (mmr N') rm = _
    simp [PM.rewind, roundUpToLeafPos, insertionToPmmrIndex, peakMapHeight_leaf]
  have hlen : (r.cur.es.take N').length = N' := by rw [List.length_take]; omega
  -- the file positions lie inside the files the unit started from
  have hw0 : (Backend.Op.rewind (mmr N') rm).Within b0 df0 := by
    obtain ⟨dfx, hdx, hdu⟩ := hunit.data
    have hdd : dfx = df := Backend.fixed_unique hdx hcur.live.data
    subst hdd
    show _ ≤ _ ∧ _ ≤ _
    rw [← hunit.pl, ← hunit.hash.1, ← hdu.1]
    exact hw
  rw [hstep]
  refine ⟨⟨df', ⟨?_, ?_, ?_, hcur.pruned, hcur.rootsC, ?_⟩⟩, ⟨b0, df0, hs0, ha0, ?_, ?_⟩, ?_⟩
  · show Live _ (r.cur.es.take N').length _ _ _
    rw [hlen]; exact hl.congr (leafFn_take r.cur.es N')
  · show mmr N' = mmr (r.cur.es.take N').length
    rw [hlen]
  · intro q
    show _ ↔ q ∈ r.cur.U.filter (· < mmr N') ++ rm.map (· - 1)
    rw [hmem, List.mem_append, List.mem_filter, mem_pred (fun y hy => (hrm y hy).1),
      (hcur.unspent q)]
    simp only [decide_eq_true_eq]
    exact or_congr_left (and_congr_right fun _ => by omega)
  · show r.C ≤ (r.cur.es.take N').length
    rw [hlen]; exact hC
  · exact Backend.inUnit_apply hunit (.rewind (mmr N') rm) hw0
  · intro hd'; exact absurd hd' (by simp [RefSt.step])
  · exact fun _ => ⟨hbuf1, nobuf_of_data hl.data hbuf2⟩

theorem hinv_compact {H : Type} (el : Bytes → Option Nat) (hf : HashFn Bytes H) {p : PM H} {r : RefSt}
    (h : HInv hf p r) (K : Nat) (rm : Bitmap) (hok : r.ok (.compact K rm)) :
    HInv hf (bstep el hf p (.compact K rm)) (r.step (.compact K rm)) := by
  obtain ⟨⟨df, hcur⟩, ⟨b0, df0, hs0, ha0, hunit, hclean⟩, hnb⟩ := h
  obtain ⟨hd, hK⟩ := hok
  obtain ⟨hpb, hcs⟩ := hclean hd
  rw [hcs] at hK
  have hcut : mmr K ≤ mmr r.saved.es.length := mmr_le_mmr hK
  obtain ⟨df', hs'⟩ := hs0.checkCompact el hcut rm
  have hM : max r.C K ≤ r.saved.es.length := by have := ha0.cle; omega
  have hpM : Backend.CompactPre b0 (mmr (max r.C K)) (mmr K) :=
    ⟨hs0.inv, hs0.lsSorted,
      fun x hx => Nat.le_trans (ha0.rootsC x hx) (mmr_le_mmr (by omega)),
      mmr_le_mmr (by omega),
      by have := hs0.bound; have := mmr_le_mmr hM; omega⟩
  have hp := hs0.compactPre hcut
  have hstep : bstep el hf p (.compact K rm) =
      { b := b0.checkCompact el (mmr K) rm, size := mmr r.saved.es.length } := by
    show ({ p with b := p.b.checkCompact el (mmr K) rm } : PM H) = _
    rw [hpb, ← hcs, ← hcur.size]
  have ha : Agree hf { b := b0.checkCompact el (mmr K) rm, size := mmr r.saved.es.length } r.saved
      (r.step (.compact K rm)).G (r.step (.compact K rm)).C df' := by
    exact ⟨hs'.live, rfl, ha0.unspent, compact_pruned_leaves K rm hp ha0.unspent ha0.pruned hcs,
      fun x hx => (Backend.newBm_roots hpM rm x hx).2, hM⟩
  rw [hstep]
  exact hinv_of_synced (r := r.step (.compact K rm)) hs' ha hcs

theorem hinv_step {H : Type} (el : Bytes → Option Nat) (hf : HashFn Bytes H) (p : PM H) (r : RefSt)
    (h : HInv hf p r) (op : HOp) (hok : r.ok op) : HInv hf (bstep el hf p op) (r.step op) := by
  cases op with
  | push e => exact hinv_push el hf h e hok
  | prune pos =>
    obtain ⟨⟨df, hcur⟩, ⟨b0, df0, hs0, ha0, hunit, hclean⟩, hnb⟩ := h
    rw [hcur.live.bstep_prune el hf pos]
    refine ⟨⟨df, ⟨hcur.live.remove pos, hcur.size, ?_, hcur.pruned, hcur.rootsC, hcur.cle⟩⟩,
      ⟨b0, df0, hs0, ha0, Backend.inUnit_apply hunit (.remove pos) trivial,
        fun hd => absurd hd (by simp [RefSt.step])⟩, hnb⟩
    intro q
    show (q + 1) ∈ Bm.remove p.b.leafSet.bitmap (1 + pos) ↔ q ∈ r.cur.U.filter (· != pos)
    rw [mem_remove, hcur.unspent q, List.mem_filter, bne_iff_ne]
    exact and_congr_right fun _ => by omega
  | rewind N' rm => exact hinv_rewind el hf h N' rm hok
  | sync =>
    obtain ⟨⟨df, hcur⟩, ⟨b0, df0, hs0, ha0, hunit, hclean⟩, hnb⟩ := h
    have hsy := hcur.live.sync
    have ha : Agree hf { b := p.b.sync, size := mmr r.cur.es.length } r.cur r.G r.C df.flush :=
      ⟨hsy.live, rfl, hcur.unspent, hcur.pruned, hcur.rootsC, hcur.cle⟩
    have hstep : bstep el hf p .sync = { b := p.b.sync, size := mmr r.cur.es.length } := by
      show ({ p with b := p.b.sync } : PM H) = _
      rw [← hcur.size]
    rw [hstep]
    exact hinv_of_synced (r := r.step .sync) hsy ha rfl
  | discard =>
    obtain ⟨⟨df, hcur⟩, ⟨b0, df0, hs0, ha0, hunit, hclean⟩, hnb⟩ := h
    have hdisc := Backend.discard_of_inUnit hs0.cleanFixed hunit
    have hstep : bstep el hf p .discard = { b := b0, size := mmr r.saved.es.length } := by
      show ({ b := p.b.discard, size := p.b.discard.unprunedSize } : PM H) = _
      rw [hdisc, hs0.unprunedSize]
    rw [hstep]
    exact hinv_of_synced (r := r.step .discard) hs0 ha0 rfl
  | compact K rm => exact hinv_compact el hf h K rm hok
  | reopen =>
    obtain ⟨⟨df, hcur⟩, ⟨b0, df0, hs0, ha0, hunit, hclean⟩, hnb⟩ := h
    have hd : r.dirty = false := hok
    obtain ⟨hpb, hcs⟩ := hclean hd
    have hro := hs0.reopen el
    have hstep : bstep el hf p .reopen = p := by
      show ({ b := p.b.reopen el, size := (p.b.reopen el).unprunedSize } : PM H) = _
      rw [hpb, hro, hs0.unprunedSize, ← hcs, ← hcur.size, ← hpb]
    rw [hstep]
    exact ⟨⟨df, hcur⟩, ⟨b0, df0, hs0, ha0, hunit, hclean⟩, hnb⟩

namespace RefSt

theorem proto_append (r : RefSt) (a b : List HOp) :
    Proto r (a ++ b) ↔ Proto r a ∧ Proto (a.foldl step r) b := by
  induction a generalizing r with
  | nil => simp [Proto]
  | cons op ops ih => simp only [List.cons_append, Proto, List.foldl_cons, ih, and_assoc]

theorem prunes (r : RefSt) (ps : List Nat) :
    Proto r (ps.map HOp.prune) ∧
    ((ps.map HOp.prune).foldl step r).cur.es = r.cur.es ∧
    ((ps.map HOp.prune).foldl step r).G = r.G ∧ ((ps.map HOp.prune).foldl step r).C = r.C ∧
    ((ps.map HOp.prune).foldl step r).saved = r.saved ∧
    ∀ q, q ∈ ((ps.map HOp.prune).foldl step r).cur.U ↔ (q ∈ r.cur.U ∧ q ∉ ps) := by
  induction ps generalizing r with
  | nil => simp [Proto]
  | cons p ps ih =>
    obtain ⟨h1, h2, h3, h4, h5, h6⟩ := ih (r.step (.prune p))
    simp only [List.map_cons, List.foldl_cons, Proto]
    refine ⟨⟨trivial, h1⟩, h2, h3, h4, h5, ?_⟩
    intro q
    rw [h6 q]
    simp only [step, List.mem_filter, List.mem_cons, bne_iff_ne, ne_eq, not_or]
    exact and_assoc

end RefSt

theorem hinv_init {H : Type} (hf : HashFn Bytes H) : HInv hf ({} : PM H) ({} : RefSt) := by
  have hs : Synced ({} : Backend H) ({} : RefView).es.length (refHash hf (leafFn ({} : RefView).es))
      (refData (leafFn ({} : RefView).es)) {} := synced_empty _ _
  have ha : Agree hf ({ b := {}, size := mmr ({} : RefView).es.length } : PM H) {} [] 0 {} :=
    ⟨hs.live, rfl, fun q => by simp, fun l _ => by simp [PrunedBy],
      fun x hx => absurd hx (by simp), Nat.le_refl _⟩
  have e : ({} : PM H) = { b := {}, size := mmr ({} : RefView).es.length } := by
    show ({ b := {}, size := 0 } : PM H) = _
    rw [show ({} : RefView).es.length = 0 from rfl, mmr_zero]
  rw [e]
  exact hinv_of_synced (r := {}) hs ha rfl

theorem hinv_run {H : Type} (el : Bytes → Option Nat) (hf : HashFn Bytes H) :
    ∀ (ops : List HOp) (p : PM H) (r : RefSt), HInv hf p r → RefSt.Proto r ops →
      HInv hf (ops.foldl (bstep el hf) p) (ops.foldl RefSt.step r) := by
  intro ops
  induction ops with
  | nil => intro p r h _; exact h
  | cons op ops ih =>
    intro p r h hp
    exact ih _ _ (hinv_step el hf p r h op hp.1) hp.2

theorem HInv.not_pruned {H : Type} {hf : HashFn Bytes H} {p : PM H} {r : RefSt} (h : HInv hf p r)
    {q : Nat} (hl : isLeaf q = true) (hq : q ∉ r.G) : p.b.pruneList.isPruned q = false := by
  obtain ⟨⟨df, hc⟩, _, _⟩ := h
  refine Bool.eq_false_iff.2 fun hp => hq ?_
  exact (hc.pruned q ((isLeaf_iff q).1 hl)).1 ((PruneList.isPruned_iff_prunedBy hc.live.inv q).1 hp)

theorem hinv_of_proto {H : Type} (el : Bytes → Option Nat) (hf : HashFn Bytes H) (ops : List HOp)
    (hproto : RefSt.Proto {} ops) :
    HInv hf (ops.foldl (bstep el hf) ({} : PM H)) (ops.foldl RefSt.step {}) :=
  hinv_run el hf ops _ _ (hinv_init hf) hproto

theorem Agree.unspent_coord {H : Type} {hf : HashFn Bytes H} {p : PM H} {v : RefView} {G : List Nat}
    {C : Nat} {df : AOF Bytes} (hc : Agree hf p v G C df) {q : Nat} (hq : q ∈ v.U) :
    (q + 1) ∈ p.b.leafSet.bitmap ∧ ∃ i, i < v.es.length ∧ q = mmr i := by
  have hm := (hc.unspent q).2 hq
  obtain ⟨_, h2, h3⟩ := hc.live.lsLeaf (q + 1) hm
  rw [Nat.add_sub_cancel] at h3
  obtain ⟨i, rfl⟩ := leaf_coord h3
  exact ⟨hm, i, (mmr_lt_iff).1 (by omega), rfl⟩

/-- the observables of the store `p` are those of the unpruned reference `r` -/
structure Obs {H : Type} (el : Bytes → Option Nat) (hf : HashFn Bytes H) (p : PM H) (r : RefSt) :
    Prop where
  size : p.size = mmr r.cur.es.length
  usize : r.dirty = false → p.b.unprunedSize = mmr r.cur.es.length
  root : PM.root hf p = Pmmr.root hf (allHashes hf (leafFn r.cur.es) r.cur.es.length)
  unspent : ∀ q, (q + 1) ∈ p.b.leafSet.bitmap ↔ q ∈ r.cur.U
  leaf : ∀ q, q ∈ r.cur.U → ∃ i, i < r.cur.es.length ∧ q = mmr i ∧
      PM.getHash p q = some (refHash hf (leafFn r.cur.es) q) ∧
      (allHashes hf (leafFn r.cur.es) r.cur.es.length)[q]? = some (refHash hf (leafFn r.cur.es) q) ∧
      PM.getData el p q = some (r.cur.es.getD i [])
  path : ∀ q, q ∈ r.cur.U → ∀ a, Sub (family a).1 q → a < mmr r.cur.es.length →
      p.b.getFromFile a = some (refHash hf (leafFn r.cur.es) a)
  peak : ∀ pk ∈ peaks (mmr r.cur.es.length),
      p.b.getPeakFromFile pk = some (refHash hf (leafFn r.cur.es) pk)

theorem hinv_obs {H : Type} (el : Bytes → Option Nat) (hf : HashFn Bytes H) {p : PM H}
    {r : RefSt} (h : HInv hf p r) : Obs el hf p r := by
  obtain ⟨⟨df, hc⟩, ⟨b0, df0, hs0, _, _, hclean⟩, _⟩ := h
  have hl := hc.live
  refine ⟨hc.size, fun hd => by
    obtain ⟨e1, e2⟩ := hclean hd
    rw [e1, e2]; exact hs0.unprunedSize, ?_, hc.unspent, ?_,
    fun q hq a ha hlt => hl.read_path q ((hc.unspent q).2 hq) a ha hlt, fun pk hpk => hl.read_peak pk hpk⟩
  · have := hl.root_eq hf
    rw [allHashes_eq_ref, ← this, ← hc.size]
  · intro q hq
    obtain ⟨hm, i, hi, rfl⟩ := hc.unspent_coord hq
    obtain ⟨r1, r2⟩ := hl.read_unspent el (mmr i) hm
    have hlt : mmr i < p.size := by rw [hc.size]; exact mmr_lt_mmr hi
    have hlf : isLeaf (mmr i) = true := (isLeaf_iff _).2 (height_mmr i)
    refine ⟨i, hi, rfl, by rw [PM.getHash_leaf hlt hlf]; exact r1,
      allHashes_getElem?_ref hf _ (mmr_lt_mmr hi), ?_⟩
    rw [PM.getData_leaf el hlt hlf, r2]
    simp [refData, peakMapHeight_leaf, leafFn]

/-- the observables as one conjunction (the form the property theorems state) -/
theorem Obs.conj {H : Type} {el : Bytes → Option Nat} {hf : HashFn Bytes H} {p : PM H}
    {r : RefSt} (o : Obs el hf p r) :
    p.size = mmr r.cur.es.length ∧
    (r.dirty = false → p.b.unprunedSize = mmr r.cur.es.length) ∧
    PM.root hf p = Pmmr.root hf (allHashes hf (leafFn r.cur.es) r.cur.es.length) ∧
    (∀ q, (q + 1) ∈ p.b.leafSet.bitmap ↔ q ∈ r.cur.U) ∧
    (∀ q, q ∈ r.cur.U → ∃ i, i < r.cur.es.length ∧ q = mmr i ∧
      PM.getHash p q = some (refHash hf (leafFn r.cur.es) q) ∧
      (allHashes hf (leafFn r.cur.es) r.cur.es.length)[q]? = some (refHash hf (leafFn r.cur.es) q) ∧
      PM.getData el p q = some (r.cur.es.getD i [])) ∧
    (∀ q, q ∈ r.cur.U → ∀ a, Sub (family a).1 q → a < mmr r.cur.es.length →
      p.b.getFromFile a = some (refHash hf (leafFn r.cur.es) a)) ∧
    (∀ pk ∈ peaks (mmr r.cur.es.length),
      p.b.getPeakFromFile pk = some (refHash hf (leafFn r.cur.es) pk)) :=
  ⟨o.size, o.usize, o.root, o.unspent, o.leaf, o.path, o.peak⟩

/-! `merkle_proof` over a prunable backend: every hash it reads for an unspent leaf (path siblings,
peaks) is a position the invariant keeps. -/

theorem hinv_merkleProof {H : Type} (hf : HashFn Bytes H) {p : PM H} {r : RefSt} (h : HInv hf p r)
    (q : Nat) (hq : q ∈ r.cur.U) :
    PM.merkleProof hf p q =
      Pmmr.merkleProof hf (allHashes hf (leafFn r.cur.es) r.cur.es.length) q := by
  obtain ⟨⟨df, hc⟩, _⟩ := h
  have hl := hc.live
  obtain ⟨hm, n, hn, rfl⟩ := hc.unspent_coord hq
  have hlen := allHashes_length hf (leafFn r.cur.es) r.cur.es.length
  have hrh := fun {s} (hs : s < mmr r.cur.es.length) => allHashes_getElem?_ref hf (leafFn r.cur.es) hs
  have hsz : ∀ {s}, s < mmr r.cur.es.length → s < p.size := fun hs => hc.size ▸ hs
  unfold PM.merkleProof
  rw [hc.size, ← hlen]
  apply merkleProofG_eq hf _ _ _ _ (mmr n) (refHash hf (leafFn r.cur.es) (mmr n))
  · rw [PM.getHash_leaf (hsz (mmr_lt_mmr hn)) ((isLeaf_iff _).2 (height_mmr n))]
    -- the hash half of `read_unspent` does not read `el`
    exact (hl.read_unspent (fun _ => none) (mmr n) hm).1
  · exact hrh (mmr_lt_mmr hn)
  · intro x hx
    rw [hlen] at hx
    obtain ⟨s1, s2⟩ := familyBranch_sib n _ x hx
    rw [PM.getFromFile_of_lt (hsz s2), hrh s2]
    exact hl.read_path (mmr n) hm x.2 s1 s2
  · intro pk hpk
    rw [hlen] at hpk
    have hlt := peaks_lt_size hpk
    obtain ⟨r1, r2⟩ := hl.read_hash pk hlt (peak_not_compacted hl.roots pk hpk)
    rw [hrh hlt, PM.getPeak_of_lt (hsz hlt), PM.getFromFile_of_lt (hsz hlt)]
    exact ⟨r1, r2⟩

end GV.Store
