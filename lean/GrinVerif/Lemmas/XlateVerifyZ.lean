import GrinVerif.Lemmas.XlateVerify

/-! # Helper lemmas for `Props/XlateVerifyZ.lean` (translated Cuckarooz verifier = hand model)

Cuckarooz (`core/src/pow/cuckarooz.rs`) differs from Cuckaroo in loops 1 and 2:
* ONE `head` array, slot `u & mask` for both endpoints (model: `cfgCuckarooz.key bk _ u = bk u`), so
  the translated list `head` and the model's map `s.head` are related directly by `R`;
* ONE xor accumulator `xoruv ^= uvs[2n] ^ uvs[2n+1]` (model keeps `x0`, `x1`; invariant
  `xoruv = s.x0 ^^^ s.x1`);
* loop 2 runs over `0..2*size`, one slot per iteration (model `uCirc`: `size` iterations, two slots
  each) — `z2_eq` pairs two translated iterations with one model iteration.
Loops 3 and 4 are instances of `WalkLoop` / `FindLoop` (`z_walk`, `z_find` in `Lemmas/XlateVerify.lean`).
-/

namespace GV.Lemmas.XlateVerifyZ
open GV GV.Gen GV.Gen.Fns GV.Pow GV.Lemmas.XlateVerify

theorem z1_nil (p : CuckooParams) (nonces : List Nat) (mask : Nat) (uvs : List Nat) (x : Nat)
    (hd prev : List Nat) :
    Cuckarooz_verify_loop1 p nonces mask [] uvs x hd prev = .go (uvs, x, hd, prev) := by
  conv => lhs; unfold Cuckarooz_verify_loop1

theorem z1_cons (p : CuckooParams) (nonces : List Nat) (mask n : Nat) (rest uvs : List Nat)
    (x : Nat) (hd prev : List Nat) :
    Cuckarooz_verify_loop1 p nonces mask (n :: rest) uvs x hd prev =
      if decide (idx nonces n > p.edge_mask) then .ret none
      else if (decide (n > 0)) && (decide (idx nonces n ≤ idx nonces (subW n 1))) then .ret none
      else
        let edge := siphash_block p.siphash_keys (idx nonces n) 21 true
        let u := edge &&& p.node_mask
        let v := (shrW edge 32) &&& p.node_mask
        let uvs2 := List.set (List.set uvs (mulW 2 n) u) (addW (mulW 2 n) 1) v
        let hd1 := List.set hd (u &&& mask) (mulW 2 n)
        Cuckarooz_verify_loop1 p nonces mask rest uvs2
          (x ^^^ (idx uvs2 (mulW 2 n) ^^^ idx uvs2 (addW (mulW 2 n) 1)))
          (List.set hd1 (v &&& mask) (addW (mulW 2 n) 1))
          (List.set (List.set prev (mulW 2 n) (idx hd (u &&& mask))) (addW (mulW 2 n) 1)
            (idx hd1 (v &&& mask))) := by
  conv => lhs; unfold Cuckarooz_verify_loop1

/-- state of the translated first loop (uvs, xoruv, head, prev) vs. the model's `USt` -/
structure RelZ (st : List Nat × Nat × List Nat × List Nat) (s : USt) : Prop where
  uvs : R st.1 s.uvs
  xoruv : st.2.1 = s.x0 ^^^ s.x1
  head : R st.2.2.1 s.head
  prev : R st.2.2.2 s.prev

theorem z1_eq (p : CuckooParams) (nonces : List Nat) (mask : Nat) (P : Params) (ep : Nat → Nat × Nat)
    (hsz : nonces.length < 2^62) (hP2 : P.edgeMask = p.edge_mask) (hbk : ∀ u, P.bk u = u &&& mask)
    (hep : ∀ x, ep x = (siphash_block p.siphash_keys x 21 true &&& p.node_mask,
        shrW (siphash_block p.siphash_keys x 21 true) 32 &&& p.node_mask)) :
    ∀ (k a : Nat) (uvs : List Nat) (x : Nat) (hd prev : List Nat) (s : USt),
      a + k = nonces.length → RelZ (uvs, x, hd, prev) s →
      Cuckarooz_verify_loop1_ok p nonces mask (List.range' a k) uvs x hd prev = true →
      Agree RelZ (Cuckarooz_verify_loop1 p nonces mask (List.range' a k) uvs x hd prev)
        (uBuild cfgCuckarooz P ep (nonces.drop a) a (lastOf nonces a) s) := by
  intro k
  induction k with
  | zero =>
    intro a uvs x hd prev s hak hrel _
    rw [List.range'_zero, z1_nil, List.drop_of_length_le (by omega), uBuild]
    exact .inr ⟨_, s, rfl, rfl, hrel⟩
  | succ k ih =>
    intro a uvs x hd prev s hak hrel hok
    rw [List.range'_succ] at hok ⊢
    conv at hok => lhs; unfold Cuckarooz_verify_loop1_ok
    simp only [Bool.and_eq_true, decide_eq_true_eq] at hok
    obtain ⟨han, hok⟩ := hok
    rw [z1_cons, drop_eq_cons nonces a han, uBuild]
    refine Agree.nonceTests hP2 nonces (by omega) fun h1 h2 => ?_
    rw [if_neg h1, Bool.and_eq_true, if_neg (by simpa using h2)] at hok
    have hok' := hok.2
    simp only [Bool.and_eq_true, decide_eq_true_eq, List.length_set] at hok'
    obtain ⟨-, hu1, ⟨hub, -⟩, -, hu2, ⟨hvb, -⟩, -, -, hok'⟩ := hok'
    rw [← lastOf_succ]
    obtain ⟨r1, r2, r3, r4⟩ := hrel
    simp only [hep, hbk, cfgCuckarooz]
    simp only [GV.mulW_eq (a := 2) (b := a) (by omega), GV.addW_eq (a := 2 * a) (b := 1) (by omega)] at hok' hu1 hu2 ⊢
    refine ih (a + 1) _ _ _ _ _ (by omega) ?_ hok'
    generalize siphash_block p.siphash_keys (idx nonces a) 21 true &&& p.node_mask = U at hub ⊢
    generalize shrW (siphash_block p.siphash_keys (idx nonces a) 21 true) 32 &&& p.node_mask = V
      at hvb ⊢
    have eU : idx (List.set (List.set uvs (2 * a) U) (2 * a + 1) V) (2 * a) = U := by
      rw [idx_set _ _ _ _ (by rw [List.length_set]; exact hu1), if_neg (by omega),
        idx_set _ _ _ _ hu1, if_pos rfl]
    have eV : idx (List.set (List.set uvs (2 * a) U) (2 * a + 1) V) (2 * a + 1) = V := by
      rw [idx_set _ _ _ _ (by rw [List.length_set]; exact hu2), if_pos rfl]
    have e1 : idx hd (U &&& mask) = s.head (U &&& mask) := r3 _ hub
    have e2 : idx (List.set hd (U &&& mask) (2 * a)) (V &&& mask)
        = upd s.head (U &&& mask) (2 * a) (V &&& mask) :=
      R_set r3 _ _ _ (by rw [List.length_set]; exact hvb)
    rw [e1, e2]
    refine ⟨R_set (R_set r1 _ _) _ _, ?_, R_set (R_set r3 _ _) _ _, R_set (R_set r4 _ _) _ _⟩
    show x ^^^ (idx (List.set (List.set uvs (2 * a) U) (2 * a + 1) V) (2 * a) ^^^
        idx (List.set (List.set uvs (2 * a) U) (2 * a + 1) V) (2 * a + 1))
      = (s.x0 ^^^ U) ^^^ (s.x1 ^^^ V)
    rw [eU, eV, show x = s.x0 ^^^ s.x1 from r2]
    ac_rfl

theorem z2_nil (size : Nat) (uvs : List Nat) (mask : Nat) (hd prev : List Nat) :
    Cuckarooz_verify_loop2 size uvs mask hd [] prev = prev := by
  conv => lhs; unfold Cuckarooz_verify_loop2

theorem z2_cons (size : Nat) (uvs : List Nat) (mask : Nat) (hd : List Nat) (n : Nat)
    (rest prev : List Nat) :
    Cuckarooz_verify_loop2 size uvs mask hd (n :: rest) prev =
      Cuckarooz_verify_loop2 size uvs mask hd rest
        (if (idx prev n == mulW 2 size) = true then
          List.set prev n (idx hd ((idx uvs n) &&& mask)) else prev) := by
  conv => lhs; unfold Cuckarooz_verify_loop2

theorem range_two (a m : Nat) :
    List.range' (2 * a) (2 * (m + 1)) = (2 * a) :: (2 * a + 1) :: List.range' (2 * (a + 1)) (2 * m) := by
  rw [show 2 * (m + 1) = 2 * m + 1 + 1 by omega, List.range'_succ, List.range'_succ,
    show 2 * a + 1 + 1 = 2 * (a + 1) by omega]

theorem z2_eq (size : Nat) (uvs : List Nat) (mask : Nat) (hd : List Nat) (P : Params) (s : USt)
    (hsz : size < 2^62) (hbk : ∀ u, P.bk u = u &&& mask)
    (r1 : R uvs s.uvs) (r3 : R hd s.head) :
    ∀ (m a : Nat) (prev : List Nat) (prevf : Nat → Nat), a + m = size → R prev prevf →
      Cuckarooz_verify_loop2_ok size uvs mask hd (List.range' (2 * a) (2 * m)) prev = true →
      R (Cuckarooz_verify_loop2 size uvs mask hd (List.range' (2 * a) (2 * m)) prev)
        (uCirc cfgCuckarooz P size s m prevf) := by
  intro m
  induction m with
  | zero =>
    intro a prev prevf _ hR _
    rw [Nat.mul_zero, List.range'_zero, z2_nil, uCirc]; exact hR
  | succ m ih =>
    intro a prev prevf ham hR hok
    rw [range_two] at hok ⊢
    conv at hok => lhs; unfold Cuckarooz_verify_loop2_ok
    simp only [Bool.and_eq_true, decide_eq_true_eq] at hok
    obtain ⟨⟨h1, h2⟩, h3⟩ := hok
    conv at h3 => lhs; unfold Cuckarooz_verify_loop2_ok
    simp only [Bool.and_eq_true, decide_eq_true_eq] at h3
    obtain ⟨⟨h4, h5⟩, h6⟩ := h3
    rw [z2_cons, z2_cons, uCirc]
    simp only [GV.mulW_eq (a := 2) (b := size) (by omega)] at h1 h2 h4 h5 h6 ⊢
    have ea : size - (m + 1) = a := by omega
    simp only [ea, cfgCuckarooz, hbk]
    have hR1 := circ_step hR (2 * a) (2 * size) (idx hd (idx uvs (2 * a) &&& mask))
      (s.head (s.uvs (2 * a) &&& mask)) h1 (fun e => by
        obtain ⟨b1, b2⟩ := guarded_first_two h2 (by simpa using e)
        rw [r3 _ b2, r1 _ b1])
    have hR2 := circ_step hR1 (2 * a + 1) (2 * size) (idx hd (idx uvs (2 * a + 1) &&& mask))
      (s.head (s.uvs (2 * a + 1) &&& mask)) h4 (fun e => by
        obtain ⟨b1, b2⟩ := guarded_first_two h5 (by simpa using e)
        rw [r3 _ b2, r1 _ b1])
    exact ih (a + 1) _ _ (by omega) hR2 h6

end GV.Lemmas.XlateVerifyZ
