import GrinVerif.Lemmas.ChainInv
import GrinVerif.Lemmas.ChainApply
/-! The path of a block that is valid on its own path (`VOP`), made explicit: `Node.path` succeeds
(the fuel of `pathTo` is enough), the path is the genesis followed by blocks that each passed body
validation and `applyBlock` against the replay of the blocks before it, heights are consecutive,
and `Node.stateAt` is the replay of exactly that list. Lifted to the head of every node reached by
a delivery history: **the state every head-facing decision reads is the replay of the current
head's own path, whatever was applied, rewound or refused before.** -/
namespace GV.Chain

/-- `l` is the chain of registered definitions from a parentless block up to `id`, root first -/
inductive IsPath (n : Node) : Nat → List Blk → Prop
  | root (id : Nat) (b : Blk) : n.blk id = some b → b.parent = none → IsPath n id [b]
  | child (id : Nat) (b : Blk) (par : Nat) (l : List Blk) : n.blk id = some b →
      b.parent = some par → IsPath n par l → IsPath n id (l ++ [b])

theorem pathTo_of_isPath {n : Node} {id : Nat} {l : List Blk} (h : IsPath n id l) :
    ∀ (fuel : Nat) (acc : List Blk), l.length ≤ fuel → pathTo n fuel id acc = some (l ++ acc) := by
  induction h with
  | root id b hb hp =>
    intro fuel acc hl
    cases fuel with
    | zero => simp at hl
    | succ k => simp [pathTo, hb, hp]
  | child id b par l hb hp _ ih =>
    intro fuel acc hl
    cases fuel with
    | zero => simp at hl
    | succ k =>
      simp only [List.length_append, List.length_cons, List.length_nil] at hl
      simp only [pathTo, hb, hp]
      rw [ih k (b :: acc) (by omega)]
      simp

theorem IsPath.last {n : Node} {id : Nat} {l : List Blk} (h : IsPath n id l) :
    ∃ b, n.blk id = some b ∧ l.getLast? = some b := by
  cases h with
  | root _ b hb _ => exact ⟨b, hb, rfl⟩
  | child _ b _ l hb _ _ => exact ⟨b, hb, List.getLast?_concat⟩

theorem IsPath.registered {n : Node} {id : Nat} {l : List Blk} (h : IsPath n id l) :
    ∀ x ∈ l, n.blk x.id = some x := by
  induction h with
  | root id b hb _ =>
    intro x hx
    obtain rfl := List.mem_singleton.mp hx
    rw [blk_id hb]; exact hb
  | child id b par l hb _ _ ih =>
    intro x hx
    rcases List.mem_append.mp hx with h | h
    · exact ih x h
    · obtain rfl := List.mem_singleton.mp h
      rw [blk_id hb]; exact hb

theorem last_height {l : List Blk} {h0 : Nat} {b : Blk} (hh : l.map (·.h) = List.range' h0 l.length)
    (hl : l.getLast? = some b) : b.h + 1 = h0 + l.length := by
  have h1 : (l.map (·.h)).getLast? = some b.h := by rw [List.getLast?_map, hl]; rfl
  rw [hh, List.getLast?_range'] at h1
  split at h1
  · cases h1
  · injection h1 with h1; omega

/-- what is known about the path of a block that is valid on its own path -/
structure HeadPath (p : Params) (n : Node) (g : Blk) (id : Nat) (rest : List Blk) (s : UState) :
    Prop where
  isPath : IsPath n id (g :: rest)
  path : n.path id = some (g :: rest)
  replay : replay p (genesisState g) rest = .ok s
  state : n.stateAt p id = .ok s
  heights : (g :: rest).map (·.h) = List.range' g.h (rest.length + 1)
  valid : ∀ b ∈ rest, validateBody p n.outs b (sumVals n.outs b.ins) = none ∧ HdrOk p n b ∧
    VOP p n b.id

theorem HeadPath.rest_eq {p : Params} {n : Node} {g : Blk} {id : Nat} {rest l : List Blk} {s : UState}
    (H : HeadPath p n g id rest s) (h : n.path id = some (g :: l)) : rest = l :=
  List.tail_eq_of_cons_eq (Option.some.inj (H.path.symm.trans h))

/-- the path depends on the definitions only: any node over the same blocks reads the same state -/
theorem HeadPath.state_of {p : Params} {n N : Node} {g : Blk} {id : Nat} {rest : List Blk} {s : UState}
    (H : HeadPath p n g id rest s) (hbl : N.blks = n.blks) : N.stateAt p id = .ok s := by
  rw [stateAt_congr hbl]; exact H.state

theorem path_of_isPath {n : Node} {id : Nat} {l : List Blk} (h : IsPath n id l)
    (hh : (l.map (·.h)).Nodup) : n.path id = some l := by
  have hlen : l.length ≤ n.blks.length := by
    have := List.Nodup.length_le_of_subset hh (l₂ := n.blks.map (·.h)) (by
      intro x hx
      obtain ⟨y, hy, hyx⟩ := List.mem_map.mp hx
      exact List.mem_map.mpr ⟨y, blk_mem (h.registered y hy), hyx⟩)
    simpa using this
  have := pathTo_of_isPath h (n.blks.length + 1) [] (by omega)
  simpa [Node.path] using this

theorem stateAt_of_path {n : Node} {p : Params} {id : Nat} {g : Blk} {rest : List Blk}
    (h : n.path id = some (g :: rest)) : n.stateAt p id = replay p (genesisState g) rest := by
  simp [Node.stateAt, h]

theorem vop_headPath (p : Params) (n : Node) (g : Blk) (hg : n.blk 0 = some g)
    (hgp : g.parent = none) {id : Nat} (h : VOP p n id) : ∃ rest s, HeadPath p n g id rest s := by
  induction h with
  | genesis =>
    have hip : IsPath n 0 [g] := .root 0 g hg hgp
    have hpath : n.path 0 = some [g] := path_of_isPath hip (by simp)
    exact ⟨[], genesisState g, hip, hpath, rfl, by rw [stateAt_of_path hpath]; rfl, by simp,
      fun b hb => by cases hb⟩
  | child b par s' hb hpar hv hdr hc ih =>
    obtain ⟨rest, s, H⟩ := ih
    obtain ⟨sPar, hst, hvb, hab⟩ := checkBlock_ok p n b par s' hc
    have hs : sPar = s := by
      have := hst.symm.trans H.state
      injection this
    subst hs
    have hip : IsPath n b.id (g :: (rest ++ [b])) := .child b.id b par (g :: rest) hb hpar H.isPath
    -- the parent's definition is the last element of the parent's path: heights are consecutive
    obtain ⟨pb, hpb, hlast⟩ := H.isPath.last
    have hh := hdr.height hpar hpb
    have hpbh : pb.h = g.h + rest.length := by
      have := last_height H.heights hlast
      simp only [List.length_cons] at this
      omega
    have hheights : (g :: (rest ++ [b])).map (·.h) = List.range' g.h ((rest ++ [b]).length + 1) := by
      have e : (g :: (rest ++ [b])).map (·.h) = (g :: rest).map (·.h) ++ [b.h] := by simp
      rw [e, H.heights, List.length_append, List.length_cons, List.length_nil,
        List.range'_1_concat (n := rest.length + 1), hh, hpbh]
      simp only [Nat.add_assoc]
    have hpath : n.path b.id = some (g :: (rest ++ [b])) :=
      path_of_isPath hip (by rw [hheights]; exact List.nodup_range' 1)
    have hrep : replay p (genesisState g) (rest ++ [b]) = .ok s' := by
      rw [replay_append, H.replay]
      simp only [replay, hab]
    refine ⟨rest ++ [b], s', hip, hpath, hrep, by rw [stateAt_of_path hpath]; exact hrep, hheights,
      ?_⟩
    intro x hx
    rcases List.mem_append.mp hx with h | h
    · exact H.valid x h
    · obtain rfl := List.mem_singleton.mp h
      exact ⟨hvb, hdr, .child x par s' hb hpar hv hdr hc⟩

theorem HeadPath.height_eq {p : Params} {n : Node} {g : Blk} {id : Nat} {rest : List Blk}
    {s : UState} (H : HeadPath p n g id rest s) (hg0 : g.h = 0) : s.height = rest.length := by
  rw [replay_height p rest _ s H.replay]
  cases hl : rest.getLast? with
  | none => rw [List.getLast?_eq_none_iff.mp hl]; rfl
  | some x =>
    have hl' : (g :: rest).getLast? = some x := by
      cases rest with
      | nil => cases hl
      | cons a as => rw [List.getLast?_cons_cons, hl]
    have := last_height H.heights hl'
    simp only [List.length_cons] at this
    simp only [genesisState, Option.map_some, Option.getD_some]
    omega

theorem HeadPath.height_at {p : Params} {n : Node} {g : Blk} {id : Nat} {rest : List Blk}
    {s : UState} (H : HeadPath p n g id rest s) (k : Nat) (x : Blk)
    (hk : (g :: rest)[k]? = some x) : x.h = g.h + k := by
  have h1 : ((g :: rest).map (·.h))[k]? = some x.h := by
    rw [List.getElem?_map, hk]; rfl
  rw [H.heights] at h1
  have hlt : k < rest.length + 1 := by
    have := (List.getElem?_eq_some_iff.mp h1).1
    simpa using this
  rw [List.getElem?_range' hlt] at h1
  injection h1 with h1
  omega

theorem HeadPath.heightOf_eq {p : Params} {n : Node} {g : Blk} {id : Nat} {rest : List Blk}
    {s : UState} (H : HeadPath p n g id rest s) : n.heightOf id = g.h + rest.length := by
  obtain ⟨b, hbk, hlast⟩ := H.isPath.last
  have := last_height H.heights hlast
  simp only [List.length_cons] at this
  simp only [Node.heightOf, hbk]
  omega

/-- **the head after any delivery history**: from a fresh node over any block tree, after any
finite history of block and header deliveries (forks, reorganisations, orphans, duplicates,
refused blocks), the path of the current head is the genesis followed by blocks that each passed
validation against the replay of the blocks before them, and the state every head-facing
decision reads (`stateAt head`) is the replay of exactly that path. -/
theorem head_path_after_run (p : Params) (n : Node) (es : List Event) (hf : Fresh n)
    (hreg : Registered n es) (g : Blk) (hg : n.blk 0 = some g) :
    ∃ rest s, HeadPath p n g (run p n es).head rest s ∧
      (run p n es).stateAt p (run p n es).head = .ok s ∧
      (run p n es).path (run p n es).head = some (g :: rest) := by
  have hr := hf.ran p hreg
  obtain ⟨rest, s, H⟩ := vop_headPath p n g hg (hf.genesis g hg) (hr.stored_vop hr.inv.closed.head)
  exact ⟨rest, s, H, H.state_of hr.blks, by rw [path_congr hr.blks]; exact H.path⟩

theorem head_path_stored (p : Params) (n : Node) (es : List Event) (hf : Fresh n)
    (hreg : Registered n es) (g : Blk) (rest : List Blk) (s : UState)
    (H : HeadPath p n g (run p n es).head rest s) : ∀ b ∈ g :: rest, b.id ∈ (run p n es).stored := by
  have hr := hf.ran p hreg
  have hcl := hr.inv.closed
  -- closure under parents, walked down the path
  have key : ∀ (id : Nat) (l : List Blk), IsPath n id l → id ∈ (run p n es).stored →
      ∀ b ∈ l, b.id ∈ (run p n es).stored := by
    intro id l hp
    induction hp with
    | root id b hb _ =>
      intro hs x hx
      obtain rfl := List.mem_singleton.mp hx
      rw [blk_id hb]; exact hs
    | child id b par l hb hpar _ ih =>
      intro hs x hx
      rcases List.mem_append.mp hx with h | h
      · exact ih (hcl.parent id hs b par ((blk_congr hr.blks _).trans hb) hpar) x h
      · obtain rfl := List.mem_singleton.mp h
        rw [blk_id hb]; exact hs
  exact key _ _ H.isPath hcl.head

theorem isPath_of_pathTo {n : Node} : ∀ (fuel id : Nat) (acc r : List Blk),
    pathTo n fuel id acc = some r → ∃ l, r = l ++ acc ∧ IsPath n id l := by
  intro fuel
  induction fuel with
  | zero => intro id acc r h; simp [pathTo] at h
  | succ k ih =>
    intro id acc r h
    simp only [pathTo] at h
    cases hb : n.blk id with
    | none => rw [hb] at h; simp at h
    | some b =>
      rw [hb] at h
      simp only at h
      cases hp : b.parent with
      | none =>
        rw [hp] at h
        simp only [Option.some.injEq] at h
        exact ⟨[b], by rw [← h]; rfl, IsPath.root id b hb hp⟩
      | some par =>
        rw [hp] at h
        simp only at h
        obtain ⟨l, hl, hpath⟩ := ih par (b :: acc) r h
        exact ⟨l ++ [b], by rw [hl]; simp, IsPath.child id b par l hb hp hpath⟩

end GV.Chain
