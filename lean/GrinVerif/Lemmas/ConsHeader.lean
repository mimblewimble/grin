import GrinVerif.Model.Cons
import GrinVerif.Lemmas.UtilIte
/-! Definitions used to *state* the `validate_header` theorems of `Props/C04.lean` (the rules as
propositions, the order of the checks), the `!SKIP_POW` block (`validateDifficulty`) read check by check,
and acceptance: `validate_header` accepts exactly the headers that obey every rule. -/
namespace GV.Cons

/-- results of `validateHeader` can be compared (used by the `decide` examples) -/
instance : DecidableEq (Except Err Unit) := fun a b =>
  match a, b with
  | .ok (), .ok () => isTrue rfl
  | .error e, .error f =>
    if h : e = f then isTrue (by rw [h]) else isFalse (by intro hh; cases hh; exact h rfl)
  | .ok (), .error _ => isFalse (by intro h; cases h)
  | .error _, .ok () => isFalse (by intro h; cases h)

/-- The proof-of-work / difficulty rules (the block of `validate_header` guarded by
`!SKIP_POW`): the edge bits are an allowed size, the cycle verifier accepted, the claimed total
difficulty exceeds the parent's by **exactly** the network difficulty computed from the
preceding headers, the proof's own difficulty reaches it, and before header version 5 the
secondary scaling is the computed one. -/
def DifficultyRules (c : Ctx) (prev h : Hdr) : Prop :=
  (isPrimary c.ct h.edgeBits = true ∨ isSecondary h.edgeBits = true) ∧ c.powOk = true ∧
  prev.totalDiff < h.totalDiff ∧
  ∃ next, nextDifficulty c.ct h.height c.window = some next ∧
    h.totalDiff - prev.totalDiff = next.diff ∧
    next.diff ≤ toDifficulty c.ct h.height h.edgeBits h.secondaryScaling h.hash64 ∧
    (h.version < 5 → h.secondaryScaling = next.scaling)

theorem lowEdgeBits_iff (ct : ChainType) (e : Nat) :
    (!isPrimary ct e && !isSecondary e) = true ↔ ¬ (isPrimary ct e = true ∨ isSecondary e = true) := by
  cases isPrimary ct e <;> cases isSecondary e <;> simp

/-- The header rules: not denied, extends a known header at height + 1, scheduled version,
strictly later timestamp, both MMR leaf counts grew, the implied minimum weight fits a block,
and (unless `SKIP_POW`) the difficulty rules. -/
def HeaderRules (c : Ctx) (h : Hdr) : Prop :=
  c.denied = false ∧ ∃ prev, c.prev = some prev ∧
    h.height = addW prev.height 1 ∧
    h.version = headerVersion c.ct h.height ∧
    prev.ts < h.ts ∧
    Pmmr.nLeaves prev.outputMmrSize < Pmmr.nLeaves h.outputMmrSize ∧
    Pmmr.nLeaves prev.kernelMmrSize < Pmmr.nLeaves h.kernelMmrSize ∧
    weightByIok 0 (Pmmr.nLeaves h.outputMmrSize - Pmmr.nLeaves prev.outputMmrSize)
      (Pmmr.nLeaves h.kernelMmrSize - Pmmr.nLeaves prev.kernelMmrSize) ≤ maxBlockWeight c.ct ∧
    (c.skipPow = false → DifficultyRules c prev h)

theorem HeaderRules.parent {c : Ctx} {h : Hdr} (hr : HeaderRules c h) :
    ∃ prev, c.prev = some prev ∧ h.height = addW prev.height 1 ∧ h.version = headerVersion c.ct h.height ∧
      prev.ts < h.ts ∧ (c.skipPow = false → DifficultyRules c prev h) := by
  obtain ⟨_, prev, hp, hh, hv, ht, _, _, _, hd⟩ := hr
  exact ⟨prev, hp, hh, hv, ht, hd⟩

theorem powOk_of_headerRules {c : Ctx} {h : Hdr} (hr : HeaderRules c h) (hs : c.skipPow = false) :
    c.powOk = true := by
  obtain ⟨_, _, _, _, _, hd⟩ := hr.parent
  exact (hd hs).2.1

/-- position of each error's check in `validate_header` (the order of the code) -/
def errRank : Err → Nat
  | .Denied => 0 | .Orphan => 1 | .InvalidBlockHeight => 2 | .InvalidBlockVersion => 3
  | .InvalidBlockTime => 4 | .InvalidMMRSize => 5 | .TooHeavy => 6 | .LowEdgebits => 7
  | .InvalidPow => 8 | .DifficultyTooLow => 9 | .Panic => 10 | .WrongTotalDifficulty => 11
  | .InvalidScaling => 12 | .InvalidRoot => 13

/-- the result is acceptance or an error raised by a check later than check number `k` -/
def passedBeyond (r : Except Err Unit) (k : Nat) : Prop :=
  match r with
  | .ok _ => True
  | .error e => k < errRank e

section check
variable {c : Prop} [Decidable c] {e : Err} {r : Except Err Unit} {k : Nat}

theorem passedBeyond_ok (u : Unit) : passedBeyond (.ok u) k ↔ True := Iff.rfl

theorem passedBeyond_error : passedBeyond (.error e) k ↔ k < errRank e := Iff.rfl

theorem passedBeyond_check :
    passedBeyond (if c then .error e else r) k ↔ (c → k < errRank e) ∧ (¬ c → passedBeyond r k) := by
  by_cases hc : c <;> simp [hc, passedBeyond]

end check

/-- `validate_pow_only` inlined: the `!SKIP_POW` block as one sequence of checks -/
theorem validateDifficulty_eq (c : Ctx) (prev h : Hdr) :
    validateDifficulty c prev h =
      if ¬ (isPrimary c.ct h.edgeBits = true ∨ isSecondary h.edgeBits = true) then .error .LowEdgebits else
      if ¬ c.powOk = true then .error .InvalidPow else
      if h.totalDiff ≤ prev.totalDiff then .error .DifficultyTooLow else
      if toDifficulty c.ct h.height h.edgeBits h.secondaryScaling h.hash64 < h.totalDiff - prev.totalDiff then
        .error .DifficultyTooLow
      else
        match nextDifficulty c.ct h.height c.window with
        | none => .error .Panic
        | some next =>
          if h.totalDiff - prev.totalDiff ≠ next.diff then .error .WrongTotalDifficulty else
          if h.version < 5 ∧ h.secondaryScaling ≠ next.scaling then .error .InvalidScaling
          else .ok () := by
  unfold validateDifficulty validatePowOnly
  cases isPrimary c.ct h.edgeBits <;> cases isSecondary h.edgeBits <;> cases c.powOk <;> rfl

theorem validate_difficulty_iff (c : Ctx) (prev h : Hdr) :
    validateDifficulty c prev h = .ok () ↔ DifficultyRules c prev h := by
  rw [validateDifficulty_eq, DifficultyRules]
  cases nextDifficulty c.ct h.height c.window with
  | none => simp only [ite_eq_iff_of_ne, ne_eq, not_false_eq_true, reduceCtorEq, and_false, false_and, exists_false]
  | some next =>
    simp only [ite_eq_iff_of_ne, ne_eq, reduceCtorEq, not_false_eq_true, Option.some.injEq, exists_eq_left', Classical.not_not, and_true, Nat.not_le, Nat.not_lt,
      not_and, and_congr_right_iff]
    -- the code tests `to_difficulty ≥ target` before `target = next.diff`; the rule states the second first
    -- and the first as `next.diff ≤ to_difficulty`
    exact fun _ _ _ => ⟨fun ⟨h1, h2, h3⟩ => ⟨h2, h2 ▸ h1, h3⟩, fun ⟨h1, h2, h3⟩ => ⟨h1 ▸ h2, h1, h3⟩⟩

theorem difficulty_rules_of_passed (c : Ctx) (prev h : Hdr) :
    (passedBeyond (validateDifficulty c prev h) (errRank .LowEdgebits) →
      isPrimary c.ct h.edgeBits = true ∨ isSecondary h.edgeBits = true) ∧
    (passedBeyond (validateDifficulty c prev h) (errRank .InvalidPow) → c.powOk = true) ∧
    (passedBeyond (validateDifficulty c prev h) (errRank .DifficultyTooLow) → prev.totalDiff < h.totalDiff ∧
      h.totalDiff - prev.totalDiff ≤ toDifficulty c.ct h.height h.edgeBits h.secondaryScaling h.hash64) ∧
    (passedBeyond (validateDifficulty c prev h) (errRank .Panic) → nextDifficulty c.ct h.height c.window ≠ none) ∧
    (∀ next, nextDifficulty c.ct h.height c.window = some next →
      (passedBeyond (validateDifficulty c prev h) (errRank .WrongTotalDifficulty) → h.totalDiff - prev.totalDiff = next.diff) ∧
      (passedBeyond (validateDifficulty c prev h) (errRank .InvalidScaling) → h.version < 5 → h.secondaryScaling = next.scaling)) := by
  rw [validateDifficulty_eq]
  cases nextDifficulty c.ct h.height c.window <;>
    simp only [passedBeyond_check, passedBeyond_error, passedBeyond_ok, errRank, Nat.reduceLT, Nat.lt_irrefl,
      imp_false, and_self_imp, implies_true, and_true, true_and, Classical.not_not, Nat.not_le, Nat.not_lt,
      ne_eq, not_and, reduceCtorEq, not_true_eq_false, not_false_eq_true, false_implies, Option.some.injEq, forall_eq']
  -- each clause now reads: edge bits ok ∧ verifier ok ∧ more work ∧ proof difficulty reaches it ∧ exact
  -- network difficulty ∧ scaling (as far as the checks numbered up to `k` go) → the clause's rule
  · exact ⟨id, fun ⟨_, hpow⟩ => hpow, fun ⟨_, _, hwork⟩ => hwork, fun h => by omega⟩
  · exact ⟨id, fun ⟨_, hpow⟩ => hpow, fun ⟨_, _, hwork⟩ => hwork, fun ⟨_, _, _, _, hnet⟩ => hnet,
      fun ⟨_, _, _, _, _, hscal⟩ => hscal⟩

theorem difficulty_panic (c : Ctx) (prev h : Hdr)
    (hv : validateDifficulty c prev h = .error .Panic) :
    nextDifficulty c.ct h.height c.window = none := by
  rw [validateDifficulty_eq] at hv
  cases hn : nextDifficulty c.ct h.height c.window with
  | none => rfl
  | some next =>
    rw [hn] at hv
    simp only [ite_eq_iff_of_ne, ne_eq, Except.error.injEq, reduceCtorEq, not_false_eq_true, and_false] at hv

theorem rejected_iff {r : Except Err Unit} {k : Nat} :
    (∃ e, r = .error e ∧ errRank e ≤ k) ↔ ¬ passedBeyond r k := by
  cases r <;> simp [passedBeyond]

theorem numNew_eq (s p : Nat) : numNew s p = Pmmr.nLeaves s - Pmmr.nLeaves p := rfl

theorem validateHeader_ok_iff (c : Ctx) (h : Hdr) : validateHeader c h = .ok () ↔ HeaderRules c h := by
  unfold validateHeader HeaderRules
  cases c.prev with
  | none => simp only [ite_eq_iff_of_ne, ne_eq, not_false_eq_true, reduceCtorEq, and_false, false_and, exists_false]
  | some prev =>
    -- first the checks in the code's order, only then each condition in the form the rules state it
    -- (rewritten inside the `if`s, the conditions would no longer fit their `Decidable` instances)
    simp only [ite_eq_iff_of_ne, ne_eq, reduceCtorEq, not_false_eq_true]
    simp only [validHeaderVersion, numNew_eq, Option.some.injEq, exists_eq_left', Bool.not_eq_true,
      Classical.not_not, Bool.not_eq_true', beq_eq_false_iff_ne, ne_eq, not_or, Int.not_le,
      Nat.sub_eq_zero_iff_le, Nat.not_le, Nat.not_lt, and_assoc, and_congr_right_iff]
    intro _ _ _ _ _ _ _
    cases c.skipPow
    · simp only [Bool.false_eq_true, if_false, validate_difficulty_iff, true_implies]
    · simp only [if_true, reduceCtorEq, false_implies]

end GV.Cons
