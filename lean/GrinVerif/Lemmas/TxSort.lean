import GrinVerif.Model.Tx
/-! Lemmas about `sortBy` (merge sort by a natural-number key), adjacent duplicates (`adjDup`) and the check
`verify_sorted_and_unique` (`sortedUnique`), used by C12. -/
namespace GV.Tx
open List

def KeyLe (key : Nat → Nat) (a b : Nat) : Prop := key a ≤ key b

/-- `key` does not identify two different elements of `l` -/
def InjOn (key : Nat → Nat) (l : List Nat) : Prop :=
  ∀ a b, a ∈ l → b ∈ l → key a = key b → a = b

theorem InjOn.of_subset {key l₁ l₂} (h : InjOn key l₁) (s : ∀ a, a ∈ l₂ → a ∈ l₁) : InjOn key l₂ :=
  fun a b ha hb => h a b (s a ha) (s b hb)

theorem InjOn.of_perm {key l₁ l₂} (h : InjOn key l₁) (p : l₁ ~ l₂) : InjOn key l₂ :=
  h.of_subset fun _ => p.mem_iff.2

theorem injOn_id (l : List Nat) : InjOn id l := fun _ _ _ _ h => h

theorem sortBy_perm (key : Nat → Nat) (l : List Nat) : sortBy key l ~ l :=
  mergeSort_perm l _

theorem mem_sortBy {key : Nat → Nat} {l : List Nat} {a : Nat} : a ∈ sortBy key l ↔ a ∈ l :=
  (sortBy_perm key l).mem_iff

theorem count_sortBy (key : Nat → Nat) (l : List Nat) (a : Nat) : (sortBy key l).count a = l.count a :=
  (sortBy_perm key l).count_eq a

theorem nodup_sortBy {key : Nat → Nat} {l : List Nat} : (sortBy key l).Nodup ↔ l.Nodup :=
  (sortBy_perm key l).nodup_iff

private theorem le_trans' (key : Nat → Nat) (a b c : Nat) :
    decide (key a ≤ key b) = true → decide (key b ≤ key c) = true → decide (key a ≤ key c) = true := by
  simp only [decide_eq_true_eq]; omega

private theorem le_total' (key : Nat → Nat) (a b : Nat) :
    (decide (key a ≤ key b) || decide (key b ≤ key a)) = true := by
  simp only [Bool.or_eq_true, decide_eq_true_eq]; omega

theorem sortBy_sorted (key : Nat → Nat) (l : List Nat) : (sortBy key l).Pairwise (KeyLe key) :=
  (pairwise_mergeSort (le_trans' key) (le_total' key) l).imp fun {a b} h => (of_decide_eq_true h : key a ≤ key b)

theorem head_le_of_sorted {key : Nat → Nat} {y b : Nat} {ys : List Nat} (s : (y :: ys).Pairwise (KeyLe key))
    (hb : b ∈ y :: ys) : key y ≤ key b := by
  rcases mem_cons.1 hb with rfl | hb
  · exact Nat.le_refl _
  · exact (pairwise_cons.1 s).1 b hb

theorem sortBy_of_sorted {key : Nat → Nat} {l : List Nat} (h : l.Pairwise (KeyLe key)) :
    sortBy key l = l :=
  mergeSort_of_pairwise (h.imp fun {a b} (h : key a ≤ key b) => decide_eq_true h)

theorem sortBy_idem (key : Nat → Nat) (l : List Nat) : sortBy key (sortBy key l) = sortBy key l :=
  sortBy_of_sorted (sortBy_sorted key l)

theorem sortBy_nil (key : Nat → Nat) : sortBy key [] = [] := mergeSort_nil

theorem sortBy_singleton (key : Nat → Nat) (x : Nat) : sortBy key [x] = [x] :=
  sortBy_of_sorted (pairwise_singleton _ _)

theorem eq_of_sorted_perm {key : Nat → Nat} {l₁ l₂ : List Nat} (inj : InjOn key l₁)
    (s₁ : l₁.Pairwise (KeyLe key)) (s₂ : l₂.Pairwise (KeyLe key)) (p : l₁ ~ l₂) : l₁ = l₂ :=
  p.eq_of_pairwise (le := KeyLe key)
    (fun a b ha hb h1 h2 => inj a b ha (p.mem_iff.2 hb) (Nat.le_antisymm h1 h2)) s₁ s₂

theorem sortBy_congr {key : Nat → Nat} {l₁ l₂ : List Nat} (inj : InjOn key l₁) (p : l₁ ~ l₂) :
    sortBy key l₁ = sortBy key l₂ :=
  eq_of_sorted_perm (inj.of_perm (sortBy_perm key l₁).symm) (sortBy_sorted _ _) (sortBy_sorted _ _)
    ((sortBy_perm key l₁).trans (p.trans (sortBy_perm key l₂).symm))

/- `List.mergeSort` is defined by well-founded recursion and does not reduce; the insertion sort does,
so closed instances of the model can be evaluated through `sortBy_eq_foldr` (`tx_eval`, `tx_eval_b`,
`val_eval`). -/

/-- `x` put into `l` in front of the first element whose key is not smaller -/
def insertKey (key : Nat → Nat) (x : Nat) (l : List Nat) : List Nat :=
  l.takeWhile (fun y => decide (key y < key x)) ++ x :: l.dropWhile (fun y => decide (key y < key x))

theorem sortBy_cons (key : Nat → Nat) (a : Nat) (l : List Nat) :
    sortBy key (a :: l) = insertKey key a (sortBy key l) := by
  obtain ⟨l₁, l₂, h1, h2, h3⟩ := mergeSort_cons (le_trans' key) (le_total' key) a l
  have s := sortBy_sorted key (a :: l)
  unfold sortBy insertKey at *
  rw [h1] at s ⊢
  rw [h2]
  have hl1 : ∀ b ∈ l₁, decide (key b < key a) = true := fun b hb => by
    have := h3 b hb
    simp only [Bool.not_eq_true', decide_eq_false_iff_not] at this
    exact decide_eq_true (by omega)
  have hl2 : l₂.takeWhile (fun y => decide (key y < key a)) = [] ∧
      l₂.dropWhile (fun y => decide (key y < key a)) = l₂ := by
    cases l₂ with
    | nil => exact ⟨rfl, rfl⟩
    | cons c t =>
      have hc : ¬ decide (key c < key a) = true := by
        have : KeyLe key a c := (pairwise_cons.1 (pairwise_append.1 s).2.1).1 c mem_cons_self
        simp only [decide_eq_true_eq]
        exact Nat.not_lt.2 this
      exact ⟨takeWhile_cons_of_neg hc, dropWhile_cons_of_neg hc⟩
  rw [takeWhile_append_of_pos hl1, dropWhile_append_of_pos hl1, hl2.1, hl2.2, append_nil]

theorem sortBy_eq_foldr (key : Nat → Nat) (l : List Nat) : sortBy key l = l.foldr (insertKey key) [] := by
  induction l with
  | nil => exact sortBy_nil key
  | cons a t ih => rw [sortBy_cons, ih, foldr_cons]

-- lets `decide` compare results of the model in those evaluations
deriving instance DecidableEq for Except

theorem adjDup_false_iff {key : Nat → Nat} : ∀ {l : List Nat}, InjOn key l → l.Pairwise (KeyLe key) →
    (adjDup l = false ↔ l.Nodup)
  | [], _, _ => by simp [adjDup]
  | [a], _, _ => by simp [adjDup]
  | a :: b :: t, inj, s => by
    have s' : (b :: t).Pairwise (KeyLe key) := (pairwise_cons.1 s).2
    -- an element behind `a` that equals `a` can only be its neighbour
    have hmem : a ∈ b :: t ↔ a = b := by
      refine ⟨fun h => ?_, fun e => e ▸ mem_cons_self⟩
      exact inj a b mem_cons_self (mem_cons_of_mem _ mem_cons_self)
        (Nat.le_antisymm (head_le_of_sorted s (mem_cons_of_mem _ mem_cons_self)) (head_le_of_sorted s' h))
    rw [nodup_cons, hmem, ← adjDup_false_iff (inj.of_subset fun x hx => mem_cons_of_mem _ hx) s']
    simp only [adjDup, Bool.or_eq_false_iff, beq_eq_false_iff_ne, ne_eq]

theorem adjDup_sortBy {key : Nat → Nat} {l : List Nat} (inj : InjOn key l) :
    adjDup (sortBy key l) = false ↔ l.Nodup := by
  rw [adjDup_false_iff (inj.of_perm (sortBy_perm key l).symm) (sortBy_sorted key l), nodup_sortBy]

theorem injOn_of_nodup_map {f : Nat → Nat} : ∀ {l : List Nat}, (l.map f).Nodup → InjOn f l
  | [], _, _, _, ha, _, _ => by cases ha
  | x :: t, nd, a, b, ha, hb, e => by
    rw [map_cons, nodup_cons] at nd
    rcases mem_cons.1 ha with rfl | ha' <;> rcases mem_cons.1 hb with rfl | hb'
    · rfl
    · exact absurd (mem_map.2 ⟨b, hb', e.symm⟩) nd.1
    · exact absurd (mem_map.2 ⟨a, ha', e⟩) nd.1
    · exact injOn_of_nodup_map nd.2 a b ha' hb' e

theorem nodup_of_nodup_map (f : Nat → Nat) {l : List Nat} (h : (l.map f).Nodup) : l.Nodup :=
  (pairwise_map.1 h).imp fun h e => h (congrArg f e)

theorem nodup_map_of_injOn {f : Nat → Nat} : ∀ {l : List Nat}, InjOn f l → l.Nodup → (l.map f).Nodup
  | [], _, _ => by simp
  | x :: t, inj, nd => by
    rw [nodup_cons] at nd
    rw [map_cons, nodup_cons]
    refine ⟨?_, nodup_map_of_injOn (inj.of_subset fun a ha => mem_cons_of_mem _ ha) nd.2⟩
    intro hm
    obtain ⟨y, hy, e⟩ := mem_map.1 hm
    exact nd.1 (inj y x (mem_cons_of_mem _ hy) mem_cons_self e ▸ hy)

theorem count_map_of_injOn {f : Nat → Nat} {L l : List Nat} {x : Nat} (inj : InjOn f L)
    (hl : ∀ a ∈ l, a ∈ L) (hx : x ∈ L) : (l.map f).count (f x) = l.count x := by
  rw [count_eq_countP, countP_map, count_eq_countP]
  apply countP_congr
  intro a ha
  simp only [Function.comp, beq_iff_eq]
  exact ⟨fun e => inj a x (hl a ha) hx e, fun e => e ▸ rfl⟩

theorem count_map_le_one {f : Nat → Nat} {l : List Nat} (inj : InjOn f l) (nd : l.Nodup) (c : Nat) :
    (l.map f).count c ≤ 1 := by
  by_cases hc : c ∈ l.map f
  · obtain ⟨x, hx, rfl⟩ := mem_map.1 hc
    rw [count_map_of_injOn inj (fun _ h => h) hx]
    exact nodup_iff_count.1 nd x
  · rw [count_eq_zero.2 hc]; omega

theorem sortedUnique_of_sorted {key : Nat → Nat} : ∀ {l : List Nat}, l.Pairwise (KeyLe key) →
    sortedUnique key l = if adjDup l then some .dup else none
  | [], _ => rfl
  | [_], _ => rfl
  | a :: b :: t, s => by
    have hab : ¬ key a > key b := Nat.not_lt.2 ((pairwise_cons.1 s).1 b mem_cons_self)
    have ih := sortedUnique_of_sorted (pairwise_cons.1 s).2
    by_cases e : a = b
    · subst e; simp [sortedUnique, adjDup]
    · have hne : (a == b) = false := by simpa using e
      simp only [sortedUnique, adjDup, hab, hne, ih, if_false, Bool.false_eq_true, Bool.false_or]

theorem sortedUnique_none {key : Nat → Nat} {l : List Nat} (s : l.Pairwise (KeyLe key)) (d : adjDup l = false) :
    sortedUnique key l = none := by
  rw [sortedUnique_of_sorted s, d]; rfl

theorem sortedUnique_dup {key : Nat → Nat} {l : List Nat} (s : l.Pairwise (KeyLe key)) (d : adjDup l = true) :
    sortedUnique key l = some .dup := by
  rw [sortedUnique_of_sorted s, d]; rfl

end GV.Tx
