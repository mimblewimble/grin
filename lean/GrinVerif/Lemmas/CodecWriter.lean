import GrinVerif.Model.CodecConn
/-! The handshake's memory and the writer: the two bounded rings of `handshake.rs` (own nonces, own addresses) as one
bounded queue holding the last `min(n, cap - 1)` entries, the pieces `write_message` writes an attachment in, and the
accepting arm of `Handshake::accept` / `initiate` as one equation each (`acceptFull_ok`, `initiateFull_ok`).
The rings: `next_nonce` = `push_back`, then `pop_front` when `len >= NONCES_CAP`; likewise the own addresses with
`ADDRS_CAP`.  The writer: the attachment loop of `msg::write_message` (`attWrites`). -/
namespace GV.Codec
open GV GV.Ser GV.Dec GV.Msg GV.Gen.Msg GV.Gen.CodecConn

theorem NONCES_CAP_ge : 2 ≤ NONCES_CAP := by decide

section Ring
variable {α : Type} {cap : Nat} {push : List α → α → List α}

theorem ringPush_eq
    (hp : ∀ ring a, push ring a = if (ring ++ [a]).length ≥ cap then (ring ++ [a]).drop 1 else ring ++ [a])
    (ring : List α) (a : α) (h : ring.length ≤ cap - 1) :
    push ring a = (ring ++ [a]).drop (ring.length + 1 - (cap - 1)) := by
  rw [hp, List.length_append, List.length_singleton]
  by_cases hf : ring.length + 1 ≥ cap
  · rw [if_pos hf, show ring.length + 1 - (cap - 1) = 1 by omega]
  · rw [if_neg hf, show ring.length + 1 - (cap - 1) = 0 by omega, List.drop_zero]

theorem foldl_ringPush
    (hp : ∀ ring a, push ring a = if (ring ++ [a]).length ≥ cap then (ring ++ [a]).drop 1 else ring ++ [a])
    (xs : List α) : ∀ ring : List α, ring.length ≤ cap - 1 →
    xs.foldl push ring = (ring ++ xs).drop ((ring ++ xs).length - (cap - 1)) := by
  induction xs with
  | nil =>
    intro ring h
    rw [List.append_nil, show ring.length - (cap - 1) = 0 by omega]
    rfl
  | cons a xs ih =>
    intro ring h
    have hlen : (push ring a).length ≤ cap - 1 := by
      rw [ringPush_eq hp ring a h, List.length_drop, List.length_append, List.length_singleton]
      omega
    rw [List.foldl_cons, ih _ hlen, ringPush_eq hp ring a h]
    generalize hk : ring.length + 1 - (cap - 1) = k
    have hkl : k ≤ (ring ++ [a]).length := by
      rw [List.length_append, List.length_singleton]; omega
    rw [← List.drop_append_of_le_length hkl, List.append_assoc, List.singleton_append, List.drop_drop]
    congr 1
    rw [List.length_drop, List.length_append, List.length_cons]
    omega

theorem mem_drop_recent (older recent : List α) {k : Nat} (h : recent.length ≤ k) :
    ∀ n ∈ recent, n ∈ (older ++ recent).drop ((older ++ recent).length - k) := by
  intro n hn
  have hle : (older ++ recent).length - k ≤ older.length := by rw [List.length_append]; omega
  rw [List.drop_append_of_le_length hle]
  exact List.mem_append_right _ hn

end Ring

theorem foldl_pushNonce (ns : List Nat) : ∀ ring : List Nat, ring.length ≤ NONCES_CAP - 1 →
    ns.foldl pushNonce ring = (ring ++ ns).drop ((ring ++ ns).length - (NONCES_CAP - 1)) :=
  foldl_ringPush (fun _ _ => rfl) ns

theorem ringAfter_eq (ns : List Nat) : ringAfter ns = ns.drop (ns.length - (NONCES_CAP - 1)) := by
  have := foldl_pushNonce ns [] (by simp)
  simpa [ringAfter] using this

theorem ringAfter_length (ns : List Nat) : (ringAfter ns).length = min ns.length (NONCES_CAP - 1) := by
  rw [ringAfter_eq, List.length_drop]; omega

theorem ringAfter_recent (older recent : List Nat) (h : recent.length ≤ NONCES_CAP - 1) :
    ∀ n ∈ recent, n ∈ ringAfter (older ++ recent) := by
  rw [ringAfter_eq]
  exact mem_drop_recent older recent h

theorem ringAfter_evicted (older recent : List Nat) (h : recent.length = NONCES_CAP - 1) :
    ringAfter (older ++ recent) = recent := by
  rw [ringAfter_eq, show (older ++ recent).length - (NONCES_CAP - 1) = older.length by rw [List.length_append]; omega,
    List.drop_left]

theorem ADDRS_CAP_ge : 2 ≤ ADDRS_CAP := by decide

theorem foldl_pushAddr (as : List SockAddr) : ∀ ring : List SockAddr, ring.length ≤ ADDRS_CAP - 1 →
    as.foldl pushAddr ring = (ring ++ as).drop ((ring ++ as).length - (ADDRS_CAP - 1)) :=
  foldl_ringPush (fun _ _ => rfl) as

theorem WRITE_ATTACHMENT_BUF_pos : 1 ≤ WRITE_ATTACHMENT_BUF := by decide

theorem readSize_pos (buf r rem : Nat) (hb : 1 ≤ buf) (hr : 1 ≤ rem) : 1 ≤ readSize buf r rem := by
  unfold readSize; omega

theorem readSize_le_buf (buf r rem : Nat) : readSize buf r rem ≤ buf := by
  unfold readSize; omega

theorem readSize_le_rem (buf r rem : Nat) : readSize buf r rem ≤ rem := by
  unfold readSize; omega

theorem attWrites_flatten (buf : Nat) (hb : 1 ≤ buf) : ∀ (f : Nat) (rs : List Nat) (data : Bytes),
    data.length ≤ f → (attWrites buf f rs data).flatten = data := by
  intro f
  induction f with
  | zero =>
    intro rs data h
    have : data = [] := List.eq_nil_of_length_eq_zero (by omega)
    subst this; rfl
  | succ f ih =>
    intro rs data h
    unfold attWrites
    by_cases he : data.isEmpty = true
    · rw [if_pos he]
      have : data = [] := by simpa using he
      subst this; rfl
    · rw [if_neg he]
      have hne : 1 ≤ data.length := by
        cases data with
        | nil => simp at he
        | cons a t => simp
      have hp := readSize_pos buf (rs.headD buf) data.length hb hne
      rw [List.flatten_cons, ih rs.tail _ (by rw [List.length_drop]; omega), List.take_append_drop]

theorem attWrites_pieces (buf : Nat) (hb : 1 ≤ buf) : ∀ (f : Nat) (rs : List Nat) (data : Bytes),
    ∀ p ∈ attWrites buf f rs data, 1 ≤ p.length ∧ p.length ≤ buf := by
  intro f
  induction f with
  | zero => intro rs data p hp; simp [attWrites] at hp
  | succ f ih =>
    intro rs data p hp
    unfold attWrites at hp
    by_cases he : data.isEmpty = true
    · rw [if_pos he] at hp; cases hp
    · rw [if_neg he] at hp
      have hne : 1 ≤ data.length := by
        cases data with
        | nil => simp at he
        | cons a t => simp
      rcases List.mem_cons.mp hp with rfl | hp'
      · rw [List.length_take]
        have h1 := readSize_pos buf (rs.headD buf) data.length hb hne
        have h2 := readSize_le_buf buf (rs.headD buf) data.length
        have h3 := readSize_le_rem buf (rs.headD buf) data.length
        omega
      · exact ih _ _ p hp'

theorem acceptFull_ok (net : NetCfg) (n : Node) {nonces : List Nat} (addrs : List SockAddr)
    (peer : Option SockAddr) (adv : SockAddr) {h : Hand} (hg : h.genesis = n.genesis) (hn : h.nonce ∉ nonces)
    (hd : isDenied n.deny n.allow (resolvePeerAddr adv.port peer adv) = false) :
    acceptFull net n nonces addrs peer adv h =
      { res := .ok { capabilities := h.capabilities, userAgent := h.userAgent,
                     addr := resolvePeerAddr adv.port peer adv, version := negotiate n.version h.version,
                     totalDifficulty := h.totalDifficulty, inbound := true },
        wrote := some (writeMessage net T_Shake (encShake (mkShake n)) []), addrs := addrs } := by
  have hc : nonces.contains h.nonce = false := by simpa using hn
  simp only [acceptFull, hg, ne_eq, not_true_eq_false, if_false, hc, hd, Bool.false_eq_true]

theorem initiateFull_ok (n : Node) (pa : SockAddr) {s : Shake} (hg : s.genesis = n.genesis)
    (hd : isDenied n.deny n.allow pa = false) :
    initiateFull n pa s =
      .ok { capabilities := s.capabilities, userAgent := s.userAgent, addr := pa,
            version := negotiate n.version s.version, totalDifficulty := s.totalDifficulty, inbound := false } := by
  simp only [initiateFull, hg, ne_eq, not_true_eq_false, if_false, hd, Bool.false_eq_true]

end GV.Codec
