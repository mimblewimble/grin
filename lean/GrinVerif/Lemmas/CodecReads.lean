import GrinVerif.Lemmas.CodecSafe
/-! What ONE `Codec::read` can do, as a relation without fuel and without the running counters: a sequence of
fill + arm iterations that ends when an arm returns or a fill meets the end of the stream.  The fuel loop `readLoop`
computes what a derivation says once it has fuel for the `rank` of the state it starts in (`Reads.sound`), so what a
read does on a given stream is shown by composing derivations, with neither fuel nor counters in sight; statements about
a read that did not meet the end of the stream go by induction on its derivation. -/
namespace GV.Codec
open GV GV.Ser GV.Dec GV.Msg GV.Gen.Msg

variable {B H σ : Type}

/-- `Reads env ops c s r c' s' n a`: from codec `c` and socket `s` one `read` returns `r`, leaves `c'` and `s'`,
has pulled `n` bytes and requested `a` bytes from the allocator -/
inductive Reads (env : Env B H) (ops : SockOps σ) : Codec H → σ → Res B H → Codec H → σ → Nat → Nat → Prop
  | eof {c : Codec H} {s : σ} : fill ops c s (nextLen env c.state) = none →
      Reads env ops c s (.err .conn) c (ops.drain s) 0 (nextLen env c.state - c.buffer.length)
  | ret {c c1 c2 : Codec H} {s s1 : σ} {r : Res B H} {a : Nat} :
      fill ops c s (nextLen env c.state) = some (c1, s1) → stepState env c1 (nextLen env c.state) = .inl (r, c2, a) →
      Reads env ops c s r c2 s1 (nextLen env c.state - c.buffer.length) (nextLen env c.state - c.buffer.length + a)
  | cont {c c1 c2 c' : Codec H} {s s1 s' : σ} {r : Res B H} {a n m : Nat} :
      fill ops c s (nextLen env c.state) = some (c1, s1) → stepState env c1 (nextLen env c.state) = .inr (c2, a) →
      Reads env ops c2 s1 r c' s' n m →
      Reads env ops c s r c' s' (nextLen env c.state - c.buffer.length + n)
        (nextLen env c.state - c.buffer.length + a + m)

/-- the fuel is discharged by the termination measure, not by counting iterations -/
theorem Reads.sound {env : Env B H} {ops : SockOps σ} {c c' : Codec H} {s s' : σ} {r : Res B H} {n m : Nat}
    (h : Reads env ops c s r c' s' n m) : WFc c → ∀ fuel, rank c ≤ fuel → ∀ br al,
    readLoop env ops fuel c s br al = { res := r, bytesRead := br + n, alloc := al + m, codec := c', sock := s' } := by
  induction h with
  | eof hf =>
    intro hw fuel hr br al
    obtain ⟨f, rfl⟩ := fuel_succ hw hr
    simp only [readLoop, hf, Nat.add_zero]
  | ret hf hs =>
    intro hw fuel hr br al
    obtain ⟨f, rfl⟩ := fuel_succ hw hr
    simp only [readLoop, hf, hs, Nat.add_assoc]
  | cont hf hs _ ih =>
    intro hw fuel hr br al
    obtain ⟨f, rfl⟩ := fuel_succ hw hr
    obtain ⟨hlt, hw2⟩ := iter_rank hf hs hw
    simp only [readLoop, hf, hs, ih hw2 f (by omega), Nat.add_assoc]

theorem READ_FUEL_eq : READ_FUEL = 34 + 2 := by decide

theorem rank_le_fuel (c : Codec H) : rank c ≤ READ_FUEL := by
  unfold rank
  cases c.state <;> simp only [READ_FUEL_eq] <;> omega

theorem Reads.read {env : Env B H} {ops : SockOps σ} {c c' : Codec H} {s s' : σ} {r : Res B H} {n m : Nat}
    (h : Reads env ops c s r c' s' n m) (hw : WFc c) :
    Codec.read env ops c s = { res := r, bytesRead := n, alloc := m, codec := c', sock := s' } := by
  rw [Codec.read, h.sound hw READ_FUEL (rank_le_fuel c) 0 0, Nat.zero_add, Nat.zero_add]

theorem Reads.read_frag {env : Env B H} {c c' : Codec H} {s s' : Bytes} {r : Res B H} {n m : Nat}
    (h : Reads env flatOps c s r c' s' n m) (hw : WFc c) {frags : List Bytes} (hfr : frags.flatten = s) :
    (Codec.read env fragOps c frags).res = r ∧ (Codec.read env fragOps c frags).bytesRead = n ∧
    (Codec.read env fragOps c frags).alloc = m ∧ (Codec.read env fragOps c frags).codec = c' ∧
    (Codec.read env fragOps c frags).sock.flatten = s' := by
  have := read_sim env sim_frag_flat c frags s hfr
  rwa [h.read hw] at this

theorem Reads.flat_ret {env : Env B H} {st : State H} {x rest : Bytes} {nl : Nat} {r : Res B H} {c2 : Codec H} {a : Nat}
    (hnl : nextLen env st = nl) (hx : x.length = nl)
    (hs : stepState env ({ buffer := x, state := st } : Codec H) nl = .inl (r, c2, a)) :
    Reads env flatOps { buffer := [], state := st } (x ++ rest) r c2 rest x.length (x.length + a) := by
  subst hnl
  have := Reads.ret (ops := flatOps) (fill_flat st [] x rest _ hx) hs
  rwa [← hx] at this

theorem Reads.flat_cont {env : Env B H} {st : State H} {x rest : Bytes} {nl : Nat} {r : Res B H} {c2 c' : Codec H}
    {s' : Bytes} {a n m : Nat} (hnl : nextLen env st = nl) (hx : x.length = nl)
    (hs : stepState env ({ buffer := x, state := st } : Codec H) nl = .inr (c2, a))
    (h : Reads env flatOps c2 rest r c' s' n m) :
    Reads env flatOps { buffer := [], state := st } (x ++ rest) r c' s' (x.length + n) (x.length + a + m) := by
  subst hnl
  have := Reads.cont (ops := flatOps) (fill_flat st [] x rest _ hx) hs h
  rwa [← hx] at this

theorem Reads.header_ok {env : Env B H} {hd rest s' : Bytes} {h : HdrW} {r0 : Bytes} {a0 : Nat} {r : Res B H}
    {c' : Codec H} {n m : Nat} (hl : hd.length = 11) (hdec : decHeader env.net hd = .ok h r0 a0)
    (hr : Reads env flatOps { buffer := [], state := .header h } rest r c' s' n m) :
    Reads env flatOps idle (hd ++ rest) r c' s' (11 + n) (11 + m) := by
  have hs := stepState_none (H := H) env hd hl
  rw [hdec] at hs
  have := Reads.flat_cont (nl := 11) rfl hl hs hr
  rwa [hl, Nat.add_zero] at this

theorem Reads.known_header {env : Env B H} {t len : Nat} {rest s' : Bytes} {r : Res B H} {c' : Codec H} {n m : Nat}
    (hk : isKnownType t = true) (hl : len ≤ maxLen env.net t) (h64 : len < 2^64)
    (h : Reads env flatOps { buffer := [], state := .header (.known t len) } rest r c' s' n m) :
    Reads env flatOps idle (encHeader env.net t len ++ rest) r c' s' (11 + n) (11 + m) :=
  Reads.header_ok (encHeader_length _ _ _) (decHeader_known env.net t len h64 hl hk) h

theorem Reads.header_err {env : Env B H} {hd : Bytes} (rest : Bytes) {e : SerErr} {a0 : Nat} (hl : hd.length = 11)
    (hdec : decHeader env.net hd = .err e a0) :
    Reads env flatOps (idle : Codec H) (hd ++ rest) (.err (.ser e)) idle rest 11 11 := by
  have hs := stepState_none (H := H) env hd hl
  rw [hdec] at hs
  have := Reads.flat_ret (rest := rest) (nl := 11) rfl hl hs
  rwa [hl] at this

theorem Reads.body (env : Env B H) (t : Nat) (body rest : Bytes) (ht : t ≠ T_Headers) :
    Reads env flatOps { buffer := [], state := .header (.known t body.length) } (body ++ rest)
      (match decodeMessage env t body with
        | .ok m => .msg m
        | .error e => .err e) idle rest body.length body.length :=
  Reads.flat_ret (nl := body.length) (by simp [nextLen, ht]) rfl (stepState_body env t body ht)

theorem isDispatched_known {t : Nat} (h : isDispatched t = true) : isKnownType t = true ∧ t ≠ T_Headers := by
  simp only [isDispatched, Bool.and_eq_true, bne_iff_ne, ne_eq] at h
  obtain ⟨⟨⟨⟨hk, -⟩, -⟩, -⟩, hh⟩ := h
  exact ⟨hk, hh⟩

theorem Reads.frame (env : Env B H) (t : Nat) (raw rest : Bytes) (hd : isDispatched t = true)
    (hl : raw.length ≤ maxLen env.net t) (h64 : raw.length < 2^64) :
    Reads env flatOps idle (encHeader env.net t raw.length ++ (raw ++ rest))
      (match env.decBody t raw with
        | .ok v => .msg (.body t v)
        | .error e => .err (.ser e)) idle rest (11 + raw.length) (11 + raw.length) := by
  have h := Reads.known_header (isDispatched_known hd).1 hl h64 (Reads.body env t raw rest (isDispatched_known hd).2)
  simp only [decodeMessage, hd, if_true] at h
  cases hb : env.decBody t raw <;> rw [hb] at h <;> exact h

theorem Reads.unknown (env : Env B H) (t : Nat) (body rest : Bytes) :
    Reads env flatOps { buffer := [], state := .header (.unknown body.length t) } (body ++ rest)
      (.msg (.unknown t)) idle rest body.length body.length :=
  Reads.flat_ret (nl := body.length) rfl rfl (stepState_unknown env t body)

theorem Reads.unknown_frame (env : Env B H) (t : Nat) (raw rest : Bytes) (hk : isKnownType t = false)
    (hl : raw.length ≤ maxLen env.net t) (h64 : raw.length < 2^64) :
    Reads env flatOps idle (encHeader env.net t raw.length ++ (raw ++ rest)) (.msg (.unknown t)) idle rest
      (11 + raw.length) (11 + raw.length) :=
  Reads.header_ok (encHeader_length _ _ _) (decHeader_unknown env.net t raw.length h64 hl hk) (Reads.unknown env t raw rest)

theorem Reads.attachment (env : Env B H) (left : Nat) (chunk rest : Bytes) (hc : chunk.length = min left ATTACHMENT_CHUNK) :
    Reads env flatOps { buffer := [], state := .attachment left } (chunk ++ rest)
      (.msg (.attachment chunk.length (left - chunk.length) chunk))
      { buffer := [], state := if left - chunk.length = 0 then .none else .attachment (left - chunk.length) } rest
      chunk.length chunk.length :=
  Reads.flat_ret (nl := chunk.length) (by simp [nextLen, hc]) rfl
    (stepState_attachment env left chunk (by rw [hc]; exact Nat.min_le_left _ _))

theorem Reads.idle_eof (env : Env B H) (s : Bytes) (hs : s.length < 11) :
    Reads env flatOps (idle : Codec H) s (.err .conn) idle [] 0 11 :=
  Reads.eof (ops := flatOps) (fill_flat_eof (H := H) .none [] s 11 (by simpa using hs))

theorem Reads.flat_sock {env : Env B H} {c c' : Codec H} {s s' : Bytes} {r : Res B H} {n a : Nat}
    (h : Reads env flatOps c s r c' s' n a) (hr : r ≠ .err .conn) : n ≤ s.length ∧ s' = s.drop n := by
  induction h with
  | eof _ => exact absurd rfl hr
  | ret hf _ => exact fill_flat_some hf
  | cont hf _ _ ih =>
    obtain ⟨h1, rfl⟩ := fill_flat_some hf
    obtain ⟨i1, i2⟩ := ih hr
    rw [List.length_drop] at i1
    exact ⟨by omega, by rw [i2, List.drop_drop]⟩

end GV.Codec
