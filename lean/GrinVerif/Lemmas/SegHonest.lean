import GrinVerif.Lemmas.SegTree
import GrinVerif.Lemmas.PmmrSpec
/-! The honest segment of an unpruned MMR (C16): the loop of `Segment::root` over a complete
subtree computes the committed node hash, relative to the node law of the committed MMR (every
parent hash is the hash of its two children, every leaf hash the hash of its data — what
`PMMR::validate` checks).  The hash vector `allHashes hf f N` that `PMMR::push` builds (C07)
satisfies that law: `hAt` / `dAt`, the committed hash and leaf data at a position, with the node
law discharged from the `(n, h)` coordinates, not assumed.  One step of `bag` in terms of `bagOnto`;
what `Segment::from_pmmr(.., prunable = false)` reads of a Vec backend.  Core Lean only. -/
namespace GV.Seg
open GV GV.Pmmr

variable {α H : Type}

/-- the leaf entries an honest, unpruned segment carries for the positions `ps` -/
def leavesOf (dataAt : Nat → α) (ps : List Nat) : List (Nat × α) :=
  (ps.filter fun q => height q = 0).map fun q => (q, dataAt q)

theorem leavesOf_append (dataAt : Nat → α) (a b : List Nat) :
    leavesOf dataAt (a ++ b) = leavesOf dataAt a ++ leavesOf dataAt b := by
  simp [leavesOf]

theorem leavesOf_cons (dataAt : Nat → α) (p : Nat) (ps : List Nat) :
    leavesOf dataAt (p :: ps) =
      if height p = 0 then (p, dataAt p) :: leavesOf dataAt ps else leavesOf dataAt ps := by
  by_cases hp : height p = 0 <;> simp [leavesOf, hp]

theorem rootLoop_tree_complete (hf : HashFn α H) (s : Segment α H) (size : Nat)
    (hsAt : Nat → H) (dataAt : Nat → α)
    (leafLaw : ∀ q, height q = 0 → hsAt q = hf.leaf q (dataAt q))
    (nodeLaw : ∀ q k, height q = k + 1 → hsAt q = hf.node q (hsAt (q - 2 ^ (k + 1))) (hsAt (q - 1))) :
    ∀ (h p : Nat) (stk : List (Option H)) (rest : List (Nat × α)), height p = h →
      rootLoop hf s none size (stk, leavesOf dataAt (treeRange h p) ++ rest) (treeRange h p)
        = .ok (some (hsAt p) :: stk, rest) := by
  intro h
  induction h with
  | zero =>
    intro p stk rest hp
    simp only [treeRange_zero, leavesOf, rootLoop, rootStep, hp, if_true, required,
      List.filter_cons, decide_true, List.filter_nil, List.map_cons, List.map_nil,
      List.cons_append, List.nil_append, iterFind]
    rw [leafLaw p hp]
  | succ h ih =>
    intro p stk rest hp
    obtain ⟨hl, hr, hsplit⟩ := node_split p h hp
    have e : leavesOf dataAt (treeRange (h + 1) p) =
        leavesOf dataAt (treeRange h (p - 2 ^ (h + 1))) ++ leavesOf dataAt (treeRange h (p - 1)) := by
      rw [hsplit, leavesOf_append, leavesOf_append, show leavesOf dataAt [p] = [] by simp [leavesOf, hp],
        List.append_nil]
    rw [e, List.append_assoc, rootLoop_node hf s none size hp (ih _ stk _ hl) (ih _ _ rest hr)]
    simp only [rootStep, hp, Nat.add_one_ne_zero, if_false]
    rw [nodeLaw p h hp]

theorem rootWith_tree_complete (hf : HashFn α H) (s : Segment α H) (size : Nat)
    (hsAt : Nat → H) (dataAt : Nat → α)
    (leafLaw : ∀ q, height q = 0 → hsAt q = hf.leaf q (dataAt q))
    (nodeLaw : ∀ q k, height q = k + 1 → hsAt q = hf.node q (hsAt (q - 2 ^ (k + 1))) (hsAt (q - 1)))
    (h p : Nat) (hp : height p = h) (pks : List Nat) (rest : List (Nat × α))
    (hleaves : s.leafPos.zip s.leafData = leavesOf dataAt (treeRange h p) ++ rest) :
    rootWith hf s size none (treeRange h p) true pks = .ok (some (hsAt p)) := by
  unfold rootWith
  rw [hleaves, rootLoop_tree_complete hf s size hsAt dataAt leafLaw nodeLaw h p [] rest hp]
  simp [rootFinish]

theorem root_complete_full (hf : HashFn α H) (s : Segment α H) (size : Nat)
    (hsAt : Nat → H) (dataAt : Nat → α)
    (leafLaw : ∀ q, height q = 0 → hsAt q = hf.leaf q (dataAt q))
    (nodeLaw : ∀ q k, height q = k + 1 → hsAt q = hf.node q (hsAt (q - 2 ^ (k + 1))) (hsAt (q - 1)))
    (v : FullId s.id size) (rest : List (Nat × α))
    (hleaves : s.leafPos.zip s.leafData = leavesOf dataAt (s.id.positions size) ++ rest) :
    s.root hf size none = .ok (some (hsAt (lastOf s.id))) := by
  rw [root_full hf s size none v]
  rw [full_positions s.id size v] at hleaves
  exact rootWith_tree_complete hf s size hsAt dataAt leafLaw nodeLaw _ _ (height_lastOf s.id) _ rest hleaves

/-- the hash `PMMR::push` leaves at position `q` (C07: `allHashes[q] = nodeHash (coordinates of q)`) -/
def hAt (hf : HashFn α H) (f : Nat → α) (q : Nat) : H :=
  Co.nodeHash hf f (peakMapHeight q).1 (peakMapHeight q).2

/-- the element whose leaf sits at position `q` -/
def dAt (f : Nat → α) (q : Nat) : α := f (peakMapHeight q).1

theorem hAt_coord (hf : HashFn α H) (f : Nat → α) (n h : Nat) (hh : h ≤ trailingOnes n) :
    hAt hf f (mmr n + h) = Co.nodeHash hf f n h := Co.hashAt_co hf f hh

theorem hAt_cpos (hf : HashFn α H) (f : Nat → α) (c : Nat × Nat) (hc : c.2 ≤ trailingOnes c.1) :
    hAt hf f (Co.cpos c) = Co.nh hf f c := hAt_coord hf f c.1 c.2 hc

theorem dAt_leaf (f : Nat → α) (n : Nat) : dAt f (mmr n) = f n := Co.dataAt_mmr f n

theorem hAt_leafLaw (hf : HashFn α H) (f : Nat → α) :
    ∀ q, height q = 0 → hAt hf f q = hf.leaf q (dAt f q) :=
  fun _ hq => Co.hashAt_leaf hf f hq

theorem hAt_nodeLaw (hf : HashFn α H) (f : Nat → α) :
    ∀ q k, height q = k + 1 →
      hAt hf f q = hf.node q (hAt hf f (q - 2 ^ (k + 1))) (hAt hf f (q - 1)) := by
  intro q k hq
  rw [Co.two_pow_succ]; exact Co.hashAt_node hf f hq

theorem allHashes_hAt (hf : HashFn α H) (f : Nat → α) (N q : Nat) (hq : q < mmr N) :
    (Co.allHashes hf f N)[q]? = some (hAt hf f q) := Co.allHashes_getElem?_hashAt hf f N hq

theorem bagNE_eq (hf : HashFn α H) (size : Nat) (p : H) (R : List H) :
    Co.bagNE hf size p R = bagOnto hf size p (bag hf size R) := by
  cases R with
  | nil => rfl
  | cons q qs => rw [Co.bag_cons]; rfl

theorem bag_cons_match (hf : HashFn α H) (size : Nat) (p : H) (R : List H) :
    bag hf size (p :: R) = some (bagOnto hf size p (bag hf size R)) := by
  rw [Co.bag_cons, bagNE_eq]

theorem fill_unpruned (v : View α H) (dataAt : Nat → α) : ∀ (ps : List Nat),
    (∀ p ∈ ps, height p = 0 → v.dataFromFile p = some (dataAt p)) →
    fill v false ps = .ok ([], leavesOf dataAt ps) := by
  intro ps
  induction ps with
  | nil => intro _; rfl
  | cons p ps ih =>
    intro h
    have ih' := ih (fun q hq => h q (List.mem_cons_of_mem _ hq))
    by_cases hp : height p = 0
    · have hd := h p (List.mem_cons_self ..) hp
      have hl : isLeaf p = true := by simp [isLeaf, hp]
      simp only [fill, hl, if_true, hd, Option.isNone_some, Bool.and_false, Bool.false_and,
        Bool.false_eq_true, if_false, ih', Bool.not_false]
      simp [leavesOf, hp]
    · have hl : isLeaf p = false := by simp [isLeaf, hp]
      simp only [fill, hl, Bool.false_eq_true, if_false, Bool.false_and, ih']
      simp [leavesOf, hp]

theorem vecView_data (hf : HashFn α H) (f : Nat → α) (N p : Nat) (hp : p < mmr N) (hl : height p = 0) :
    (vecView (Co.allHashes hf f N) ((List.range N).map f)).dataFromFile p = some (dAt f p) := by
  obtain ⟨n, h, hh, rfl⟩ := Co.coord_surj p
  rw [Co.height_co n h hh] at hl
  subst hl
  simp only [Nat.add_zero] at hp ⊢
  have hn : n < N := (Co.coord_lt_iff (Nat.zero_le _)).1 (by simpa using hp)
  simp only [vecView, Co.allHashes_length, hp, if_true, Co.nLeaves_succ_mmr_sub, dAt_leaf]
  simp [hn]

theorem vecView_hash (hf : HashFn α H) (f : Nat → α) (N p : Nat) (hp : p < mmr N) (d : List α) :
    (vecView (Co.allHashes hf f N) d).hash p = some (hAt hf f p) := allHashes_hAt hf f N p hp

theorem vecView_fromFile (hf : HashFn α H) (f : Nat → α) (N p : Nat) (hp : p < mmr N) (d : List α) :
    (vecView (Co.allHashes hf f N) d).fromFile p = some (hAt hf f p) := allHashes_hAt hf f N p hp

theorem collectHashes_map (get : Nat → Option H) (g : Nat → H) : ∀ (ps : List Nat),
    (∀ p ∈ ps, get p = some (g p)) → collectHashes get ps = .ok (ps.map g) := by
  intro ps
  induction ps with
  | nil => intro _; rfl
  | cons p ps ih =>
    intro h
    simp only [collectHashes, h p (List.mem_cons_self ..),
      ih (fun q hq => h q (List.mem_cons_of_mem _ hq)), List.map_cons]

end GV.Seg
