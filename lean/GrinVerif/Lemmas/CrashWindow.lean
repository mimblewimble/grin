import GrinVerif.Model.Crash
import GrinVerif.Lemmas.CrashBasic
import GrinVerif.Lemmas.CrashPath
import GrinVerif.Lemmas.CrashRecover
import GrinVerif.Lemmas.CrashSteps
import GrinVerif.Lemmas.CrashExt
import GrinVerif.Lemmas.CrashUnspent
/-! Lost leaves: unspent on the old path, missing from the leaf set on disk (`lostIn`). For any durable state and any
loop whose validity test is `validAt`: a candidate that contains the creation of a lost leaf does not validate, the
others do (`invalid_of_lost`, `valid_of_none_lost`); the walk of the loop over such candidates (`lostIn_walk`,
`lostIn_lands`). Then its instance `InWindow`, the txhashset window of a plain extension: the leaf set on disk is already
the new block's (its spent leaves are gone) while the body head — and with it the spent index the fallback loop can
use — is still the old one. -/
namespace GV.Crash

/-- the leaves of the old unspent set that the new block's leaf set no longer has (what `b` spends) -/
def lost (O : List BlkInfo) (b : BlkInfo) : List Leaf :=
  (unspentOf O).filter fun l => !(b.ins.foldl spendOne (unspentOf O)).contains l

theorem mem_lost (O : List BlkInfo) (b : BlkInfo) (l : Leaf) :
    l ∈ lost O b ↔ l ∈ unspentOf O ∧ l ∉ b.ins.foldl spendOne (unspentOf O) := by
  simp [lost]

theorem lost_nil_of_no_inputs (O : List BlkInfo) (b : BlkInfo) (h : b.ins = []) : lost O b = [] := by
  apply List.eq_nil_iff_forall_not_mem.mpr
  intro l hl
  rw [mem_lost, h] at hl
  exact hl.2 hl.1

theorem exists_lost_of_resolves (ins : List Nat) : ∀ (u : List Leaf), u.Nodup →
    (∃ o ∈ ins, ∃ l ∈ u, l.2 = o) → ∃ l ∈ u, l ∉ ins.foldl spendOne u := by
  induction ins with
  | nil => intro u _ h; obtain ⟨o, ho, _⟩ := h; simp at ho
  | cons o' rest ih =>
    intro u hu h
    rw [List.foldl_cons]
    cases hf : u.reverse.find? (·.2 == o') with
    | some l0 =>
      have e : spendOne u o' = u.erase l0 := by simp [spendOne, hf]
      have hl0 : l0 ∈ u := by simpa using List.mem_of_find?_eq_some hf
      refine ⟨l0, hl0, ?_⟩
      intro hin
      have := foldl_spendOne_subset rest _ l0 hin
      rw [e, hu.mem_erase_iff] at this
      exact this.1 rfl
    | none =>
      have e : spendOne u o' = u := by simp [spendOne, hf]
      rw [e]
      apply ih u hu
      obtain ⟨o, ho, l, hl, hlo⟩ := h
      rcases List.mem_cons.1 ho with rfl | ho
      · exfalso
        have := List.find?_eq_none.1 hf l (by simpa using hl)
        simp [hlo] at this
      · exact ⟨o, ho, l, hl, hlo⟩

theorem lost_ne_nil (O : List BlkInfo) (b : BlkInfo) (hn : (leavesOf O).Nodup)
    (h : ∃ o ∈ b.ins, ∃ l ∈ unspentOf O, l.2 = o) : ∃ l, l ∈ lost O b := by
  obtain ⟨l, h1, h2⟩ := exists_lost_of_resolves b.ins (unspentOf O) (unspentOf_nodup O hn) h
  exact ⟨l, (mem_lost O b l).2 ⟨h1, h2⟩⟩

/-- the leaves unspent on the old path that the leaf set on disk no longer has -/
def lostIn (O : List BlkInfo) (leaf : List Leaf) : List Leaf :=
  (unspentOf O).filter fun l => !leaf.contains l

theorem mem_lostIn (O : List BlkInfo) (leaf : List Leaf) (l : Leaf) :
    l ∈ lostIn O leaf ↔ l ∈ unspentOf O ∧ l ∉ leaf := by
  simp [lostIn]

/-- Candidate `Q`, reached by undoing the blocks `R` of the old path `P` with their spent indices, the
leaf set on disk sound at `Q`. It validates if no lost leaf (unspent on `P`, missing on disk) was
created on `Q`. -/
theorem valid_of_none_lost (bc : Nat → Bool) (d : Durable) (P Q R : List BlkInfo) (hP : Q ++ R = P)
    (hfiles : FilesCover Q d) (hsound : ∀ l ∈ d.leaf, l ∈ leavesOf Q → l ∈ unspentOf Q)
    (hn : (leavesOf P).Nodup) (hwf : BlocksWF P)
    (hnone : ∀ l ∈ lostIn P d.leaf, l ∉ leavesOf Q) :
    validAt bc d (undo Q R) Q = true := by
  subst hP
  apply validAt_true_of bc d _ Q hfiles
  intro l
  constructor
  · intro hl
    have hlQ := unspentOf_subset_leaves Q l hl
    refine ⟨hlQ, ?_⟩
    rcases (rewind_exact R Q hn hwf l hlQ).1 hl with h | h
    · exact Or.inl (Classical.byContradiction fun hnot => hnone l ((mem_lostIn _ _ l).2 ⟨h, hnot⟩) hlQ)
    · exact Or.inr h
  · rintro ⟨hlQ, h | h⟩
    · exact hsound l h hlQ
    · exact (rewind_exact R Q hn hwf l hlQ).2 (Or.inr h)

/-- **A candidate that contains the creation of a lost leaf does not validate** (when its header
commits to the bitmap): the leaf is unspent there, the leaf set does not have it, and no spent
index on the old chain can bring it back. -/
theorem invalid_of_lost (bc : Nat → Bool) (d : Durable) (P Q R : List BlkInfo) (hP : Q ++ R = P)
    (hn : (leavesOf P).Nodup) (hwf : BlocksWF P)
    (hbc : bc (Q.length - 1) = true) (l : Leaf) (hl : l ∈ lostIn P d.leaf) (hlQ : l ∈ leavesOf Q) :
    validAt bc d (undo Q R) Q = false := by
  subst hP
  obtain ⟨hu, hnot⟩ := (mem_lostIn _ _ l).1 hl
  apply validAt_false_of bc d _ Q hbc l ((rewind_exact R Q hn hwf l hlQ).2 (Or.inl hu))
  rintro (h | h)
  · exact hnot h
  · exact undo_not_unspent R Q hn hwf l h hu

/-! ### The walk over candidates that created a lost leaf

For any loop whose validity test on `d` is `validAt`. The loop stands at `M ++ T` having undone `R`; no block above `M` is
missing, every candidate above `M` commits to the bitmap and contains the creation of a lost leaf. -/
section
variable {valid : List Leaf → List BlkInfo → Bool} {gone : Nat → List BlkInfo → Bool} {tbl : List BlkInfo}
  (bc : Nat → Bool) (d : Durable) (hv : ∀ r P, valid r P = validAt bc d r P) (M T R : List BlkInfo) (hM : M ≠ [])
  (hpath : pathOf tbl (tbl.length + 1) (tipOf (M ++ T)) [] = some (M ++ T))
  (hn : (leavesOf (M ++ T ++ R)).Nodup) (hwf : BlocksWF (M ++ T ++ R))
  (hg : Above M T fun Q _ => gone (tipOf Q) Q = false)
  (habove : Above M T fun Q _ => bc (Q.length - 1) = true ∧ ∃ l ∈ lostIn (M ++ T ++ R) d.leaf, l ∈ leavesOf Q)
  (fuel : Nat) (hfuel : T.length ≤ fuel)
include hv hM hpath hn hwf hg habove hfuel

/-- it continues at the tip of `M`, the blocks `T` undone -/
theorem lostIn_walk : fallbackWith valid gone tbl fuel (tipOf (M ++ T)) (undo (M ++ T) R) =
    fallbackWith valid gone tbl (fuel - T.length) (tipOf M) (undo M (T ++ R)) :=
  fallbackWith_walk M hM T R fuel hfuel hpath
    (habove.imp fun Q S e ⟨hb, l, hl, hlQ⟩ =>
      (hv _ _).trans (invalid_of_lost bc d _ Q (S ++ R) (by rw [← List.append_assoc, e]) hn hwf hb l hl hlQ)) hg

/-- … and stops there, if `M` is genesis, or its header does not commit to the bitmap, or it contains the creation of
no lost leaf (the leaf set on disk being sound at `M`) -/
theorem lostIn_lands (hfiles : FilesCover M d) (hsound : ∀ l ∈ d.leaf, l ∈ leavesOf M → l ∈ unspentOf M)
    (hstop : M.length ≤ 1 ∨ bc (M.length - 1) = false ∨ ∀ l ∈ lostIn (M ++ T ++ R) d.leaf, l ∉ leavesOf M) :
    fallbackWith valid gone tbl fuel (tipOf (M ++ T)) (undo (M ++ T) R) = .ok (tipOf M) := by
  rw [lostIn_walk bc d hv M T R hM hpath hn hwf hg habove fuel hfuel]
  apply fallbackWith_stop _ _ _ M (pathOf_prefix tbl _ M hM T _ hpath)
  rw [hv]
  rcases hstop with h1 | h1 | h1
  · exact Or.inl h1
  · exact Or.inr (validAt_true_of_not_bc bc _ _ M hfiles h1)
  · exact Or.inr (valid_of_none_lost bc d (M ++ T ++ R) M (T ++ R) (by simp) hfiles hsound hn hwf h1)

end

/-- a durable state in the txhashset window of accepting `b` on `O`: it agrees with the old consistent state but for
the leaf set, which is the new block's -/
structure InWindow (O : List BlkInfo) (b : BlkInfo) (d : Durable) : Prop where
  head : d.dbHead = tipOf O
  leaf : d.leaf = applyU (unspentOf O) b
  files : FilesCover O d

theorem window_leaf_mem (O : List BlkInfo) (b : BlkInfo) (hn : (leavesOf (O ++ [b])).Nodup) (l : Leaf)
    (hl : l ∈ leavesOf O) :
    l ∈ applyU (unspentOf O) b ↔ l ∈ b.ins.foldl spendOne (unspentOf O) := by
  unfold applyU
  rw [List.mem_append]
  constructor
  · rintro (h | h)
    · exact h
    · exfalso
      exact leavesOf_disjoint_of_nodup O [b] hn l hl (by rw [leavesOf_single]; exact h)
  · intro h; exact Or.inl h

namespace InWindow
variable {O : List BlkInfo} {b : BlkInfo} {d : Durable}

theorem lostIn_eq (hw : InWindow O b d) (hn : (leavesOf (O ++ [b])).Nodup) : lostIn O d.leaf = lost O b := by
  rw [lostIn, lost, hw.leaf]
  refine List.filter_congr fun l hu => ?_
  simp only [List.contains_eq_mem, window_leaf_mem O b hn l (unspentOf_subset_leaves O l hu)]

/-- the leaf set on disk is sound at every prefix of the old path -/
theorem sound (hw : InWindow O b d) (hn : (leavesOf (O ++ [b])).Nodup) (Q R : List BlkInfo) (hQR : Q ++ R = O) :
    ∀ l ∈ d.leaf, l ∈ leavesOf Q → l ∈ unspentOf Q := by
  intro l hl hlQ
  rw [hw.leaf, window_leaf_mem O b hn l (leavesOf_mono (hQR ▸ List.prefix_append Q R) |>.subset hlQ)] at hl
  exact unspent_of_unspent_later Q R (by rw [hQR]; exact leavesOf_nodup_left hn) l
    (by rw [hQR]; exact foldl_spendOne_subset _ _ l hl) hlQ

end InWindow

theorem window_invalid (bc : Nat → Bool) (O : List BlkInfo) (b : BlkInfo) (d : Durable) (Q R : List BlkInfo)
    (hw : InWindow O b d) (hQR : Q ++ R = O)
    (hn : (leavesOf (O ++ [b])).Nodup) (hwf : BlocksWF O)
    (hbc : bc (Q.length - 1) = true) (l : Leaf) (hl : l ∈ lost O b) (hlQ : l ∈ leavesOf Q) :
    validAt bc d (undo Q R) Q = false :=
  invalid_of_lost bc d O Q R hQR (leavesOf_nodup_left hn) hwf hbc l
    (hw.lostIn_eq hn ▸ hl) hlQ

/-! ### … in the txhashset window of a plain extension, from the head on disk with nothing undone -/
section
variable {valid : List Leaf → List BlkInfo → Bool} {gone : Nat → List BlkInfo → Bool} {tbl : List BlkInfo}
  {d : Durable} {b : BlkInfo} {M T : List BlkInfo}
  (bc : Nat → Bool) (hv : ∀ r P, valid r P = validAt bc d r P)
  (hO : pathOf tbl (tbl.length + 1) (tipOf (M ++ T)) [] = some (M ++ T)) (hw : InWindow (M ++ T) b d)
  (hn : (leavesOf (M ++ T ++ [b])).Nodup) (hwf : BlocksWF (M ++ T)) (hM : M ≠ [])
  (hg : Above M T fun Q _ => gone (tipOf Q) Q = false)
  (habove : Above M T fun Q _ => bc (Q.length - 1) = true ∧ ∃ l ∈ lost (M ++ T) b, l ∈ leavesOf Q)
include hv hO hw hn hwf hM hg habove

theorem window_walk : fallbackWith valid gone tbl (tbl.length + 1) d.dbHead [] =
    fallbackWith valid gone tbl (tbl.length + 1 - T.length) (tipOf M) (undo M T) := by
  rw [hw.head]
  rw [← hw.lostIn_eq hn, ← List.append_nil (M ++ T)] at habove
  have h := lostIn_walk bc d hv M T [] hM hO (by rw [List.append_nil]; exact leavesOf_nodup_left hn)
    (by rw [List.append_nil]; exact hwf) hg habove _ (walk_fuel_le hO)
  rwa [List.append_nil] at h

theorem window_lands (hstop : M.length ≤ 1 ∨ bc (M.length - 1) = false ∨ ∀ l ∈ lost (M ++ T) b, l ∉ leavesOf M) :
    fallbackWith valid gone tbl (tbl.length + 1) d.dbHead [] = .ok (tipOf M) := by
  rw [hw.head]
  rw [← hw.lostIn_eq hn, ← List.append_nil (M ++ T)] at habove hstop
  exact lostIn_lands bc d hv M T [] hM hO (by rw [List.append_nil]; exact leavesOf_nodup_left hn)
    (by rw [List.append_nil]; exact hwf) hg habove _ (walk_fuel_le hO) (hw.files.mono (List.prefix_append M T))
    (hw.sound hn M T rfl) hstop

end

namespace PlainExt
variable {tbl O : List BlkInfo} {b : BlkInfo} {t : Target}

theorem inWindow (h : PlainExt tbl O b t) (k : Nat) (h1 : 12 ≤ k) (h2 : k ≤ 16) :
    InWindow O b (crashAfter t (consistent O) blockSteps k) :=
  ⟨crashAfter_block_dbHead t _ h2, by rw [crashAfter_block_leaf, if_pos h1, h.newPath, unspentOf_snoc], h.files k⟩

/-- block ids on a stored path are pairwise distinct, so every leaf is created once -/
theorem leaves_nodup (h : PlainExt tbl O b t) (hwf : BlocksWF O) (hbo : b.outs.Nodup) :
    (leavesOf (O ++ [b])).Nodup := by
  apply pathOf_leaves_nodup h.new
  intro x hx
  rcases List.mem_append.1 hx with hx | hx
  · exact hwf.outs x hx
  · simp at hx; subst hx; exact hbo

end PlainExt

/-- `x` created a lost leaf and every height from `x` up commits to the bitmap: every candidate above
`M` on `M ++ x :: T` fails validation -/
theorem above_of_creator {O M T : List BlkInfo} {x b : BlkInfo} (bc : Nat → Bool) (hsplit : O = M ++ x :: T)
    (hx : ∃ l ∈ lost O b, l ∈ leavesOf [x]) (hbc : ∀ i, M.length ≤ i → i < O.length → bc i = true) :
    ∀ T1 y T2, x :: T = T1 ++ y :: T2 →
      bc (M.length + T1.length) = true ∧ ∃ l ∈ lost O b, l ∈ leavesOf (M ++ T1 ++ [y]) := by
  obtain ⟨l, hl, hlx⟩ := hx
  intro T1 y T2 e
  refine ⟨hbc _ (Nat.le_add_right _ _) (by rw [hsplit, e]; simp), l, hl, ?_⟩
  exact Above.of_cons (P := fun Q _ => l ∈ leavesOf Q) (fun Q1 _ => mem_leavesOf_of_mem hlx (by simp)) T1 y T2 e

end GV.Crash
