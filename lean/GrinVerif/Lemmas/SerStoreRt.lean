import GrinVerif.Model.SerStore
import GrinVerif.Model.DecDb
import GrinVerif.Lemmas.Wire
import GrinVerif.Lemmas.SerSegRt
import GrinVerif.Lemmas.SerHeader
/-! Lemmas about the store-side encodings of `Model/SerStore.lean`: round trips, inversion
("accepted ⇒ these were the bytes"), the `Vec<T>` reader, `SkipPow`, `MerkleProof` as a codec (`codec_merkleProof`; its path loop is the item
loop of the segment readers, `readHashes_eq`); with the value domains (`HeaderEntry.WF`, `CommitPos.WF`,
`MerkleProof.WF`) of the C10 theorems about them. -/
namespace GV.Ser
open GV GV.Wire

def HeaderEntry.WF (e : HeaderEntry) : Prop :=
  e.hash.length = HASH_SIZE ∧ e.timestamp < 2^64 ∧ e.totalDifficulty < 2^64 ∧ e.secondaryScaling < 2^32

instance (e : HeaderEntry) : Decidable e.WF := by unfold HeaderEntry.WF; infer_instance

/-- everything before the flag byte -/
def encHeaderEntryHead (e : HeaderEntry) : Bytes :=
  writeFixed e.hash ++ writeU64 e.timestamp ++ writeU64 e.totalDifficulty ++ writeU32 e.secondaryScaling

theorem encHeaderEntry_eq (e : HeaderEntry) :
    encHeaderEntry e = encHeaderEntryHead e ++ [if e.isSecondary then 1 else 0] := by
  simp [encHeaderEntry, encHeaderEntryHead, writeU8]

theorem decHeaderEntry_head (e : HeaderEntry) (h : e.WF) (b : Nat) (rest : Bytes) :
    decHeaderEntry (encHeaderEntryHead e ++ b :: rest) = .ok ({ e with isSecondary := b != 0 }, rest) := by
  obtain ⟨h1, h2, h3, h4⟩ := h
  rw [decHeaderEntry, encHeaderEntryHead]
  simp only [List.append_assoc]
  rw [wire_hash.rt _ h1, andThen_ok, readU64_write _ h2, andThen_ok, readU64_write _ h3, andThen_ok,
    readU32_write _ h4, andThen_ok]
  simp [readU8]

theorem decHeaderEntry_enc (e : HeaderEntry) (h : e.WF) (rest : Bytes) :
    decHeaderEntry (encHeaderEntry e ++ rest) = .ok (e, rest) := by
  rw [encHeaderEntry_eq, List.append_assoc, List.singleton_append, decHeaderEntry_head e h]
  cases e with
  | mk hash ts td ss sec => cases sec <;> simp

theorem encHeaderEntry_length (e : HeaderEntry) (h : e.WF) : (encHeaderEntry e).length = HEADER_ENTRY_SIZE := by
  obtain ⟨h1, _⟩ := h
  simp [encHeaderEntry, writeFixed, writeU64, writeU32, writeU8, h1, HEADER_ENTRY_SIZE, HASH_SIZE]

theorem decHeaderEntry_inv {bs : Bytes} {e : HeaderEntry} {r : Bytes} (hb : AllBytes bs)
    (h : decHeaderEntry bs = .ok (e, r)) :
    ∃ b, bs = encHeaderEntryHead e ++ b :: r ∧ e.isSecondary = (b != 0) ∧ e.WF := by
  rw [decHeaderEntry] at h
  obtain ⟨hash, r1, rfl, l1, hb, h⟩ := andThen_canon (w := writeFixed) (fun _ => readFixed_ok) hb h
  obtain ⟨ts, r2, rfl, l2, hb, h⟩ := andThen_canon readU64_inv hb h
  obtain ⟨td, r3, rfl, l3, hb, h⟩ := andThen_canon readU64_inv hb h
  obtain ⟨ss, r4, rfl, l4, hb, h⟩ := andThen_canon readU32_inv hb h
  obtain ⟨flag, r5, rfl, -, hb, h⟩ := andThen_canon readU8_inv hb h
  obtain ⟨rfl, rfl⟩ := Prod.mk.inj (Except.ok.inj h)
  exact ⟨flag, by simp [encHeaderEntryHead, writeU8], rfl, l1, l2, l3, l4⟩

theorem i64AsU64_lt (z : Int) : i64AsU64 z < 2^64 := by
  unfold i64AsU64
  have h1 : (0 : Int) ≤ z % 2^64 := Int.emod_nonneg z (by decide)
  have h2 : z % 2^64 < 2^64 := Int.emod_lt_of_pos z (by decide)
  omega

theorem asElmt_wf (H : Bytes → Bytes) (hH : ∀ b, (H b).length = HASH_SIZE) (proofSize : Nat)
    (h : BlockHeader) (hwf : h.WF proofSize) : (h.asElmt H proofSize).WF := by
  obtain ⟨_, _, _, _, _, _, _, _, _, _, _, _, hpow⟩ := hwf
  obtain ⟨h1, h2, _, _⟩ := hpow
  exact ⟨hH _, i64AsU64_lt _, h1, h2⟩

def CommitPos.WF (c : CommitPos) : Prop := c.pos < 2^64 ∧ c.height < 2^64
instance (c : CommitPos) : Decidable c.WF := by unfold CommitPos.WF; infer_instance

theorem wire_commitPos : Wire.Field True decCommitPos (fun _ => GV.DecDb.commitPosI) encCommitPos CommitPos.WF 0 16 := by
  refine Wire.congr (Wire.step CommitPos.pos wire_u64 fun p => Wire.step CommitPos.height wire_u64 fun h =>
    Wire.pure (CommitPos.mk p h) (by rintro ⟨⟩; simp))
    (by simp) (fun c _ => by simp [encCommitPos]) (fun c => by simp [CommitPos.WF]) (he := by decide) (hn := by decide)

theorem encCommitPos_length (c : CommitPos) : (encCommitPos c).length = COMMIT_POS_SIZE := rfl

theorem decCommitPos_short (bs : Bytes) (h : bs.length < COMMIT_POS_SIZE) : decCommitPos bs = .error .ioEof := by
  simp only [COMMIT_POS_SIZE] at h
  rw [decCommitPos, readU64_eq]
  by_cases h8 : bs.length < 8
  · rw [readBE_short h8, andThen_error]
  · obtain ⟨n, r, hr, hl⟩ := readBE_long (Nat.le_of_not_lt h8)
    rw [hr, andThen_ok, readU64_eq, readBE_short (by omega), andThen_error]

theorem decCommitPos_ok_of_long (bs : Bytes) (h : COMMIT_POS_SIZE ≤ bs.length) :
    ∃ c r, decCommitPos bs = .ok (c, r) ∧ r.length + COMMIT_POS_SIZE = bs.length := by
  simp only [COMMIT_POS_SIZE] at h ⊢
  obtain ⟨n1, r1, h1, l1⟩ := readBE_long (k := 8) (bs := bs) (by omega)
  obtain ⟨n2, r2, h2, l2⟩ := readBE_long (k := 8) (bs := r1) (by omega)
  exact ⟨_, r2, by rw [decCommitPos, readU64_eq, h1, andThen_ok, readU64_eq, h2, andThen_ok], by omega⟩

theorem decCommitPos_long (b0 b1 b2 b3 b4 b5 b6 b7 c0 c1 c2 c3 c4 c5 c6 c7 : Nat) (r : Bytes) :
    ∃ c, decCommitPos (b0 :: b1 :: b2 :: b3 :: b4 :: b5 :: b6 :: b7 :: c0 :: c1 :: c2 :: c3 :: c4 :: c5 :: c6 :: c7 :: r)
      = .ok (c, r) := ⟨_, rfl⟩

theorem readVecFuel_some {α : Type} (p : Parser α)
    (hprog : ∀ bs x r, p bs = .ok (x, r) → r.length < bs.length) :
    ∀ (f : Nat) (bs : Bytes), bs.length < f → readVecFuel p f bs ≠ none := by
  intro f
  induction f with
  | zero => intro bs h; omega
  | succ f ih =>
    intro bs h
    unfold readVecFuel
    cases hp : p bs with
    | error e => cases e <;> simp
    | ok v =>
      obtain ⟨x, r⟩ := v
      have hr := hprog bs x r hp
      have := ih r (by omega)
      simp only
      cases hq : readVecFuel p f r with
      | none => exact absurd hq this
      | some y => cases y <;> simp

theorem readVecFuel_mono {α : Type} (p : Parser α) :
    ∀ (f : Nat) (bs : Bytes) (y : Except SerErr (List α)), readVecFuel p f bs = some y →
      readVecFuel p (f + 1) bs = some y := by
  intro f
  induction f with
  | zero => intro bs y h; simp [readVecFuel] at h
  | succ f ih =>
    intro bs y h
    rw [readVecFuel] at h ⊢
    cases hp : p bs with
    | error e => rw [hp] at h; cases e <;> simpa using h
    | ok v =>
      obtain ⟨x, r⟩ := v
      rw [hp] at h
      simp only at h ⊢
      cases hq : readVecFuel p f r with
      | none => rw [hq] at h; simp at h
      | some z => rw [ih r z hq]; rw [hq] at h; exact h

theorem readVecFuel_mono' {α : Type} (p : Parser α) (f g : Nat) (hfg : f ≤ g) (bs : Bytes)
    (y : Except SerErr (List α)) (h : readVecFuel p f bs = some y) : readVecFuel p g bs = some y := by
  induction hfg with
  | refl => exact h
  | step _ ih => exact readVecFuel_mono p _ bs y ih

theorem readVec_write {α : Type} (p : Parser α) (w : α → Bytes) (l : List α) (tail : Bytes) (e : SerErr)
    (hrt : ∀ x ∈ l, LeafRt p w x) (hne : ∀ x ∈ l, 0 < (w x).length)
    (htail : p tail = .error e) :
    readVec p (writeMulti w l ++ tail) = some (if e = .ioEof then .ok l else .error e) := by
  unfold readVec
  induction l with
  | nil =>
    simp only [writeMulti_nil, List.nil_append]
    rw [readVecFuel, htail]
    cases e <;> simp
  | cons x l ih =>
    have hx := hrt x (by simp) (writeMulti w l ++ tail)
    rw [writeMulti_cons, readVecFuel, hx]
    have ih' := ih (fun y hy => hrt y (by simp [hy])) (fun y hy => hne y (by simp [hy]))
    have hx0 := hne x (by simp)
    have := readVecFuel_mono' p _ ((w x ++ (writeMulti w l ++ tail)).length) (by simp; omega) _ _ ih'
    by_cases he : e = .ioEof <;> simp only [this, he, ↓reduceIte]

theorem readVec_write_tail {α : Type} (p : Parser α) (w : α → Bytes) (l : List α) (tail : Bytes)
    (hrt : ∀ x ∈ l, LeafRt p w x) (hne : ∀ x ∈ l, 0 < (w x).length)
    (htail : p tail = .error .ioEof) :
    readVec p (writeMulti w l ++ tail) = some (.ok l) := by
  rw [readVec_write p w l tail _ hrt hne htail, if_pos rfl]

theorem readVec_commitPos_total : ∀ (n : Nat) (bs : Bytes), bs.length = n → AllBytes bs →
    ∃ l tail, readVec decCommitPos bs = some (.ok l) ∧ bs = encSpentIndex l ++ tail
      ∧ tail.length < COMMIT_POS_SIZE ∧ l.length = bs.length / COMMIT_POS_SIZE ∧ ∀ c ∈ l, c.WF := by
  intro n
  induction n using Nat.strongRecOn with
  | _ n ih =>
    intro bs hn hb
    by_cases hl : bs.length < COMMIT_POS_SIZE
    · refine ⟨[], bs, ?_, by simp [encSpentIndex, writeMulti], hl, ?_, by simp⟩
      · unfold readVec; rw [readVecFuel, decCommitPos_short bs hl]
      · simp only [List.length_nil]; exact (Nat.div_eq_of_lt hl).symm
    · obtain ⟨c, r, hc, hprog⟩ := decCommitPos_ok_of_long bs (by omega)
      obtain ⟨henc, hwf⟩ := wire_commitPos.inv hb hc
      have hbr := allBytes_append_right (henc ▸ hb)
      have hlen : r.length < n := by rw [← hn]; simp only [COMMIT_POS_SIZE] at hprog; omega
      obtain ⟨l, tail, h1, h2, h3, h4, h5⟩ := ih r.length hlen r rfl hbr
      refine ⟨c :: l, tail, ?_, ?_, h3, ?_, ?_⟩
      · unfold readVec at h1 ⊢
        rw [readVecFuel, hc]
        have := readVecFuel_mono' decCommitPos _ bs.length (by omega) _ _ h1
        simp only [this]
      · rw [henc]
        simp only [encSpentIndex] at h2 ⊢
        rw [writeMulti_cons, ← h2]
      · simp only [List.length_cons, h4, COMMIT_POS_SIZE] at hprog ⊢; omega
      · intro x hx
        rcases List.mem_cons.mp hx with rfl | hx
        · exact hwf
        · exact h5 x hx

theorem decProofSkip_of_full {c : Cfg} {bs : Bytes} {p : Proof} {r : Bytes} (h : decProof c bs = .ok (p, r)) :
    ∃ r', decProofSkip bs = .ok ({ p with nonces := [] }, r') := by
  rw [decProof] at h
  obtain ⟨eb, r1, h1, k1⟩ := andThen_inv h
  rw [decProofSkip, h1, andThen_ok]
  split at k1
  · simp at k1
  rename_i heb
  split at k1
  · simp at k1
  obtain ⟨bits, r2, h2, k2⟩ := andThen_inv k1
  dsimp only at k2
  split at k2
  · simp at k2
  simp only [Except.ok.injEq, Prod.mk.injEq] at k2
  obtain ⟨rfl, rfl⟩ := k2
  exact ⟨r1, by rw [if_neg heb]⟩

theorem decProofOfWorkSkip_of_full {c : Cfg} {bs : Bytes} {p : ProofOfWork} {r : Bytes}
    (h : decProofOfWork c bs = .ok (p, r)) :
    ∃ r', decProofOfWorkSkip bs = .ok ({ p with proof := { p.proof with nonces := [] } }, r') := by
  rw [decProofOfWork] at h
  obtain ⟨td, r1, h1, k1⟩ := andThen_inv h
  obtain ⟨ss, r2, h2, k2⟩ := andThen_inv k1
  obtain ⟨nonce, r3, h3, k3⟩ := andThen_inv k2
  obtain ⟨pf, r4, h4, k4⟩ := andThen_inv k3
  simp only [Except.ok.injEq, Prod.mk.injEq] at k4
  obtain ⟨rfl, rfl⟩ := k4
  obtain ⟨r', hs⟩ := decProofSkip_of_full h4
  exact ⟨r', by rw [decProofOfWorkSkip, h1, andThen_ok, h2, andThen_ok, h3, andThen_ok, hs, andThen_ok]⟩

/-- the bytes of a header up to and including the `edge_bits` byte -/
def encHeaderToEdgeBits (h : BlockHeader) : Bytes :=
  encHeaderPrePow h ++ writeU64 h.pow.totalDifficulty ++ writeU32 h.pow.secondaryScaling
  ++ writeU64 h.pow.nonce ++ writeU8 h.pow.proof.edgeBits

theorem encBlockHeader_split (proofSize : Nat) (h : BlockHeader) :
    encBlockHeader proofSize .full h = encHeaderToEdgeBits h ++ h.pow.proof.packNonces proofSize := by
  simp [encBlockHeader, encProofOfWork, encProof, encHeaderToEdgeBits]

theorem decBlockHeaderSkip_toEdgeBits (h : BlockHeader) (hwf : h.WFSkip) (rest : Bytes) :
    decBlockHeaderSkip (encHeaderToEdgeBits h ++ rest) = .ok (h.withoutNonces, rest) := by
  obtain ⟨hd, hs, hn, he1, he2⟩ := hwf.pow
  have hpw : decProofOfWorkSkip (writeU64 h.pow.totalDifficulty ++ (writeU32 h.pow.secondaryScaling ++
      (writeU64 h.pow.nonce ++ (writeU8 h.pow.proof.edgeBits ++ rest))))
      = .ok ({ h.pow with proof := { h.pow.proof with nonces := [] } }, rest) := by
    rw [decProofOfWorkSkip, readU64_write _ hd, andThen_ok, readU32_write _ hs, andThen_ok,
      readU64_write _ hn, andThen_ok, decProofSkip, readU8_write, andThen_ok, if_neg (by omega), andThen_ok]
  rw [decBlockHeaderSkip_eq, encHeaderToEdgeBits]
  simp only [List.append_assoc]
  rw [readHeaderWith_enc hwf.prePow hpw, if_neg hwf.ts]; rfl

def MerkleProof.WF (p : MerkleProof) : Prop :=
  p.mmrSize < 2^64 ∧ p.path.length < 2^64 ∧ ∀ h ∈ p.path, h.length = HASH_SIZE

theorem readHashes_eq (n : Nat) (bs : Bytes) : readHashes n bs = GV.SerSeg.readItems decHash n bs := by
  induction n generalizing bs with
  | zero => rfl
  | succ n ih => simp only [readHashes, GV.SerSeg.readItems, ih]

/-- the count is the derived field `path.length`; the list read after it has that length -/
theorem codec_merkleProof : Whole True decMerkleProof encMerkleProof MerkleProof.WF := by
  refine Codec.congr (Codec.step MerkleProof.mmrSize codec_u64 fun sz =>
    Codec.step (fun p => p.path.length) codec_u64 fun n =>
    Codec.stepP MerkleProof.path ((GV.SerSeg.codec_items wire_hash.codec n).of_eq (readHashes_eq n)) fun l hl =>
    Codec.pure (MerkleProof.mk sz l) (by rintro ⟨⟩; simp; rintro rfl rfl; exact hl.1))
    (by simp) (fun p _ => by simp [encMerkleProof]) (fun p => ⟨fun ⟨a, b, c⟩ => ⟨a, b, ⟨rfl, c⟩, trivial⟩, fun ⟨a, b, ⟨_, c⟩, _⟩ => ⟨a, b, c⟩⟩)

theorem readHashes_short : ∀ (n : Nat) (bs : Bytes), bs.length < HASH_SIZE * n → readHashes n bs = .error .ioEof := by
  intro n
  induction n with
  | zero => intro bs h; simp at h
  | succ n ih =>
    intro bs h
    rw [readHashes]
    cases h1 : decHash bs with
    | error e => rw [andThen_error, readFixed_error_eof (by decide) h1]
    | ok v =>
      obtain ⟨x, r⟩ := v
      obtain ⟨e1, l1⟩ := readFixed_ok h1
      rw [andThen_ok, ih r (by rw [e1] at h; simp at h; simp only [HASH_SIZE] at *; omega), andThen_error]

end GV.Ser
