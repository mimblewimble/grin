import GrinVerif.Lemmas.PmmrCoord
/-! The peaks of an MMR with `N` leaves in `(n, h)` coordinates (C07): `forest N` lists the perfect
trees of the binary decomposition of `N`, largest first, each as (its last leaf, its height);
`peaks (mmr N)` is the list of their positions.  `stackOf` is the same list built from the low end
(the order of the spec's stack).  Core Lean only. -/
namespace GV.Pmmr.Co
open GV GV.Pmmr

/-- trees of heights `< k` holding the `m < 2^k` leaves that follow the first `base` leaves -/
def forestFrom : Nat → Nat → Nat → List (Nat × Nat)
  | 0, _, _ => []
  | k+1, base, m =>
    if 2^k ≤ m then (base + 2^k - 1, k) :: forestFrom k (base + 2^k) (m - 2^k)
    else forestFrom k base m

/-- the peaks of the MMR with `N` leaves, left to right, as (last leaf, height); `N < 2^N` so `N`
levels are enough -/
def forest (N : Nat) : List (Nat × Nat) := forestFrom N 0 N

theorem forestFrom_fuel_add (d : Nat) : ∀ k base m, m < 2^k →
    forestFrom (k + d) base m = forestFrom k base m := by
  induction d with
  | zero => intros; rfl
  | succ d ih =>
    intro k base m hm
    have : k + (d+1) = (k + d) + 1 := by omega
    rw [this, forestFrom]
    have h1 : 2^k ≤ 2^(k+d) := Nat.pow_le_pow_right (by omega) (by omega)
    rw [if_neg (by omega), ih k base m hm]

theorem forestFrom_fuel {k k' base m : Nat} (hm : m < 2^k) (hm' : m < 2^k') :
    forestFrom k base m = forestFrom k' base m := by
  by_cases hle : k ≤ k'
  · obtain ⟨d, rfl⟩ := Nat.exists_eq_add_of_le hle
    exact (forestFrom_fuel_add d k base m hm).symm
  · obtain ⟨d, rfl⟩ := Nat.exists_eq_add_of_le (show k' ≤ k by omega)
    exact forestFrom_fuel_add d k' base m hm'

theorem forest_eq {k N : Nat} (h : N < 2^k) : forest N = forestFrom k 0 N :=
  forestFrom_fuel Nat.lt_two_pow_self h

theorem sub_pow_lt {k m : Nat} (hm : m < 2^(k+1)) : m - 2^k < 2^k := by
  rw [two_pow_succ] at hm; omega

theorem dvd_of_dvd_succ {k base : Nat} (hd : 2^(k+1) ∣ base) : 2^k ∣ base :=
  Nat.dvd_trans (Nat.pow_dvd_pow 2 (Nat.le_succ k)) hd

theorem dvd_add_pow {k base : Nat} (hd : 2^(k+1) ∣ base) : 2^k ∣ base + 2^k :=
  Nat.dvd_add (dvd_of_dvd_succ hd) (Nat.dvd_refl _)

theorem add_pow_sub_one (base k : Nat) : base + 2^k - 1 = base + (2^k - 1) :=
  Nat.add_sub_assoc (Nat.two_pow_pos k) base

theorem mmr_add_of_dvd {k base m : Nat} (hd : 2^k ∣ base) (hm : m < 2^k) :
    mmr (base + m) = mmr base + mmr m := by
  obtain ⟨a, rfl⟩ := hd
  rw [Nat.mul_comm]; exact mmr_split k a m hm

/-- the perfect tree of height `k` on the leaves `base … base + 2^k - 1`, `2^(k+1) ∣ base` (the
recursion of `forestFrom` keeps `2^k ∣ base`): its root is the last of its `2·2^k - 1` positions -/
theorem tree_positions {k base : Nat} (hd : 2^(k+1) ∣ base) :
    mmr base + (2 * 2^k - 1) - 1 = mmr (base + 2^k - 1) + k
    ∧ mmr base + (2 * 2^k - 1) = mmr (base + 2^k) := by
  have hlt : 2^k < 2^(k+1) := Nat.pow_lt_pow_right (by decide) (Nat.lt_succ_self k)
  have h1 := mmr_add_of_dvd hd (Nat.lt_of_le_of_lt (Nat.sub_le _ 1) hlt)
  have h2 := mmr_add_of_dvd hd hlt
  have h3 := mmr_pow_sub_one k
  have h4 := mmr_pow k
  rw [add_pow_sub_one, h1, h2]
  exact ⟨by rw [← h3]; exact (Nat.add_assoc _ _ _).symm, by rw [← h4]; rfl⟩

theorem trailingOnes_tree {k base : Nat} (hd : 2^(k+1) ∣ base) : trailingOnes (base + 2^k - 1) = k := by
  obtain ⟨a, rfl⟩ := hd
  rw [add_pow_sub_one, Nat.mul_comm, mul_two_pow_succ, trailingOnes_of_form, trailingOnes_two_mul]
  rfl

theorem greedySizes_spec (k : Nat) : ∀ m base, m < 2^k →
    greedySizes k (mmr m) = ((forestFrom k base m).map (fun c => 2 * 2^c.2 - 1), 0) := by
  induction k with
  | zero =>
    intro m base hm
    have : m = 0 := by simpa using hm
    subst this; simp [greedySizes, forestFrom, mmr_zero]
  | succ k ih =>
    intro m base hm
    have hp := two_pow_succ k
    rw [greedySizes, forestFrom]
    by_cases hb : 2^k ≤ m
    · obtain ⟨m', rfl⟩ := Nat.exists_eq_add_of_le hb
      have hm' : m' < 2^k := by have := sub_pow_lt hm; rwa [Nat.add_sub_cancel_left] at this
      rw [mmr_add_pow k m' hm', if_pos (Nat.le_add_right _ _), if_pos hb,
        Nat.add_sub_cancel_left, Nat.add_sub_cancel_left, ih m' (base + 2^k) hm', hp]
      rfl
    · have := mmr_le_two_mul m
      have hm' : m < 2^k := Nat.lt_of_not_le hb
      rw [if_neg (by omega), if_neg hb]
      exact ih m base hm'

theorem greedySizes_snd (k : Nat) : ∀ s pm, (greedySizes k s).2 = (greedy k s pm).2 := by
  induction k with
  | zero => intro s pm; rfl
  | succ k ih =>
    intro s pm
    rw [greedySizes, greedy]
    split
    · exact ih _ _
    · exact ih _ _

theorem scanPeaks_forest (k : Nat) : ∀ base m, 2^k ∣ base → m < 2^k →
    scanPeaks (mmr base) ((forestFrom k base m).map (fun c => 2 * 2^c.2 - 1))
      = (forestFrom k base m).map cpos := by
  induction k with
  | zero => intro base m _ _; rfl
  | succ k ih =>
    intro base m hd hm
    rw [forestFrom]
    by_cases hb : 2^k ≤ m
    · obtain ⟨h1, h2⟩ := tree_positions hd
      rw [if_pos hb, List.map_cons, scanPeaks, h1, h2, ih _ _ (dvd_add_pow hd) (sub_pow_lt hm)]
      rfl
    · rw [if_neg hb]
      exact ih base m (dvd_of_dvd_succ hd) (Nat.lt_of_not_le hb)

theorem peaks_forest (N : Nat) : peaks (mmr N) = (forest N).map cpos := by
  unfold peaks peakSizesHeight
  by_cases hz : mmr N = 0
  · have : N = 0 := by have := le_mmr N; omega
    subst this
    simp [mmr_zero, scanPeaks, forest, forestFrom]
  · rw [if_neg hz]
    have hlt : N < 2^(bitLen (mmr N)) :=
      Nat.lt_of_le_of_lt (le_mmr N) (lt_two_pow_bitLen (mmr N))
    rw [greedySizes_spec _ N 0 hlt, forest_eq hlt]
    simp only [if_true]
    have := scanPeaks_forest (bitLen (mmr N)) 0 N (Nat.dvd_zero _) hlt
    rwa [mmr_zero] at this

theorem peaks_filter_split {N : Nat} {A B : List (Nat × Nat)} (hs : forest N = A ++ B) (t : Nat)
    (hA : ∀ c ∈ A, cpos c < t) (hB : ∀ c ∈ B, t ≤ cpos c) :
    (peaks (mmr N)).filter (· < t) = A.map cpos ∧ (peaks (mmr N)).filter (t ≤ ·) = B.map cpos := by
  rw [peaks_forest, hs, List.map_append, List.filter_append, List.filter_append]
  have a1 : (A.map cpos).filter (· < t) = A.map cpos := List.filter_eq_self.2 fun p hp => by
    obtain ⟨c, hc, rfl⟩ := List.mem_map.1 hp; simpa using hA c hc
  have b1 : (B.map cpos).filter (· < t) = [] := List.filter_eq_nil_iff.2 fun p hp => by
    obtain ⟨c, hc, rfl⟩ := List.mem_map.1 hp; have := hB c hc; simp only [decide_eq_true_eq]; omega
  have a2 : (A.map cpos).filter (t ≤ ·) = [] := List.filter_eq_nil_iff.2 fun p hp => by
    obtain ⟨c, hc, rfl⟩ := List.mem_map.1 hp; have := hA c hc; simp only [decide_eq_true_eq]; omega
  have b2 : (B.map cpos).filter (t ≤ ·) = B.map cpos := List.filter_eq_self.2 fun p hp => by
    obtain ⟨c, hc, rfl⟩ := List.mem_map.1 hp; simpa using hB c hc
  rw [a1, b1, a2, b2, List.append_nil, List.nil_append]; exact ⟨rfl, rfl⟩

theorem forestFrom_bounds (k : Nat) : ∀ base m, m < 2^k → ∀ c ∈ forestFrom k base m,
    base + 2^c.2 ≤ c.1 + 1 ∧ c.1 < base + m ∧ base + m ≤ c.1 + 2^c.2 := by
  induction k with
  | zero => intro base m _ c hc; cases hc
  | succ k ih =>
    intro base m hm c hc
    rw [forestFrom] at hc
    by_cases hb : 2^k ≤ m
    · rw [if_pos hb] at hc
      have hm' := sub_pow_lt hm
      rcases List.mem_cons.1 hc with rfl | hc'
      · simp only; omega
      · have := ih _ _ hm' c hc'
        rw [Nat.add_assoc base (2^k) (m - 2^k), Nat.add_sub_cancel' hb] at this
        exact ⟨Nat.le_trans (Nat.add_le_add_right (Nat.le_add_right _ _) _) this.1, this.2⟩
    · rw [if_neg hb] at hc
      exact ih base m (Nat.lt_of_not_le hb) c hc

theorem forestFrom_trailingOnes (k : Nat) : ∀ base m, 2^k ∣ base → ∀ c ∈ forestFrom k base m,
    c.2 = trailingOnes c.1 := by
  induction k with
  | zero => intro base m _ c hc; cases hc
  | succ k ih =>
    intro base m hd c hc
    rw [forestFrom] at hc
    split at hc
    · rcases List.mem_cons.1 hc with rfl | hc'
      · exact (trailingOnes_tree hd).symm
      · exact ih _ _ (dvd_add_pow hd) c hc'
    · exact ih base m (dvd_of_dvd_succ hd) c hc

/-- every tree `(P, k)` of the forest is a peak: it is a left child (`k = trailingOnes P`) whose
right sibling would need leaves the MMR does not have -/
theorem forestFrom_mem (k : Nat) : ∀ a m, m < 2^k → ∀ c ∈ forestFrom k (a * 2^k) m,
    c.2 = trailingOnes c.1 ∧ a * 2^k + 2^c.2 ≤ c.1 + 1 ∧ c.1 < a * 2^k + m ∧ a * 2^k + m ≤ c.1 + 2^c.2 :=
  fun a m hm c hc =>
    ⟨forestFrom_trailingOnes k _ m (Nat.dvd_mul_left _ a) c hc, forestFrom_bounds k _ m hm c hc⟩

/-- every leaf lies under a peak, and that peak is one of the leaf's ancestors `up i h` -/
theorem forestFrom_cover (k : Nat) : ∀ base m i, 2^k ∣ base → m < 2^k → base ≤ i → i < base + m →
    ∃ h, (up i h, h) ∈ forestFrom k base m := by
  induction k with
  | zero =>
    intro base m i _ hm hlo hhi
    obtain rfl : m = 0 := by simpa using hm
    exact absurd hhi (Nat.not_lt.2 hlo)
  | succ k ih =>
    intro base m i hd hm hlo hhi
    rw [forestFrom]
    by_cases hb : 2^k ≤ m
    · rw [if_pos hb]
      by_cases hi : i < base + 2^k
      · refine ⟨k, List.mem_cons.2 (Or.inl ?_)⟩
        obtain ⟨a, rfl⟩ := hd
        rw [Nat.mul_comm, mul_two_pow_succ] at hlo hi ⊢
        have hdiv : i / 2^k = 2 * a := Nat.div_eq_of_lt_le hlo (by rw [Nat.add_one_mul]; exact hi)
        rw [up, hdiv, add_pow_sub_one]
      · obtain ⟨h, hh⟩ := ih (base + 2^k) (m - 2^k) i (dvd_add_pow hd) (sub_pow_lt hm)
          (Nat.le_of_not_lt hi) (by rw [Nat.add_assoc, Nat.add_sub_cancel' hb]; exact hhi)
        exact ⟨h, List.mem_cons_of_mem _ hh⟩
    · rw [if_neg hb]
      exact ih base m i (dvd_of_dvd_succ hd) (Nat.lt_of_not_le hb) hlo hhi

theorem forest_mem {N : Nat} {c : Nat × Nat} (hc : c ∈ forest N) :
    c.2 = trailingOnes c.1 ∧ c.1 < N ∧ N ≤ c.1 + 2^c.2 := by
  have := forestFrom_bounds N 0 N Nat.lt_two_pow_self c hc
  exact ⟨forestFrom_trailingOnes N 0 N (Nat.dvd_zero _) c hc, by omega, by omega⟩

theorem forest_valid {N : Nat} : ∀ c ∈ forest N, c.2 ≤ trailingOnes c.1 ∧ c.1 < N := by
  intro c hc; have := forest_mem hc; omega

theorem forestFrom_gap (k : Nat) : ∀ base m, m < 2 ^ k →
    (forestFrom k base m).Pairwise (fun c d => c.1 + 2 ^ d.2 ≤ d.1) := by
  induction k with
  | zero => intro base m _; simp [forestFrom]
  | succ k ih =>
    intro base m hm
    have hp := two_pow_succ k
    have hpos := Nat.two_pow_pos k
    rw [forestFrom]
    by_cases hb : 2 ^ k ≤ m
    · rw [if_pos hb]
      refine List.Pairwise.cons ?_ (ih (base + 2 ^ k) (m - 2 ^ k) (by omega))
      intro d hd
      have := (forestFrom_bounds k (base + 2 ^ k) (m - 2 ^ k) (by omega) d hd).1
      simp only; omega
    · rw [if_neg hb]
      exact ih base m (by omega)

theorem forest_gap (N : Nat) : (forest N).Pairwise (fun c d => c.1 + 2 ^ d.2 ≤ d.1) := by
  have := forestFrom_gap N 0 N Nat.lt_two_pow_self
  simpa [forest] using this

theorem forest_pairwise (N : Nat) : (forest N).Pairwise (fun c d => c.1 < d.1) :=
  (forest_gap N).imp fun h => Nat.lt_of_lt_of_le (Nat.lt_add_of_pos_right (Nat.two_pow_pos _)) h

theorem forest_nodup (N : Nat) : (forest N).Nodup := by
  have := forest_pairwise N
  exact this.imp (fun h he => by rw [he] at h; omega)

theorem forest_cover {N i : Nat} (hi : i < N) : ∃ h, (up i h, h) ∈ forest N :=
  forestFrom_cover N 0 N i (Nat.dvd_zero _) Nat.lt_two_pow_self (Nat.zero_le i) (by omega)

theorem cpos_lt_of_fst_lt {c d : Nat × Nat} (hc : c.2 ≤ trailingOnes c.1) (h : c.1 < d.1) :
    cpos c < cpos d := by
  have h1 := coord_lt_mmr_succ hc
  have h2 := mmr_le_mmr (show c.1 + 1 ≤ d.1 from h)
  unfold cpos; omega

theorem forest_pos_pairwise (N : Nat) : ((forest N).map cpos).Pairwise (· < ·) := by
  rw [List.pairwise_map]
  exact (forest_pairwise N).imp_of_mem fun hc _ h => cpos_lt_of_fst_lt (forest_valid _ hc).1 h

theorem forest_zero : forest 0 = [] := rfl

theorem forest_ne_nil {N : Nat} (h : 0 < N) : forest N ≠ [] := by
  obtain ⟨k, hk⟩ := forest_cover (show 0 < N from h)
  intro hc; rw [hc] at hk; simp at hk

theorem bitSet_top {k m : Nat} (hm : m < 2^(k+1)) : bitSet m k = decide (2^k ≤ m) := by
  rw [two_pow_succ] at hm
  unfold bitSet
  by_cases h : 2^k ≤ m
  · rw [Nat.div_eq_of_lt_le (k := 1) (by omega) (by omega), decide_eq_true h]; rfl
  · rw [Nat.div_eq_of_lt (by omega), decide_eq_false h]; rfl

theorem div_add_pow {k h m' : Nat} (hh : h ≤ k) : (2^k + m') / 2^h = 2^(k-h) + m' / 2^h := by
  have e : 2^k = 2^h * 2^(k-h) := by rw [← Nat.pow_add]; congr 1; omega
  rw [e, Nat.mul_add_div (Nat.two_pow_pos h)]

theorem bitSet_add_pow {k h m' : Nat} (hh : h < k) : bitSet (2^k + m') h = bitSet m' h := by
  have e : 2^(k-h) = 2 * 2^(k-h-1) := by rw [← two_pow_succ]; congr 1; omega
  rw [bitSet, bitSet, div_add_pow (Nat.le_of_lt hh), e, Nat.mul_add_mod]

theorem high_part_add_pow {k h m' : Nat} (hh : h < k) :
    (2^k + m') / 2^(h+1) * 2^(h+1) = 2^k + m' / 2^(h+1) * 2^(h+1) := by
  have e : 2^(k-(h+1)) * 2^(h+1) = 2^k := by rw [← Nat.pow_add]; congr 1; omega
  rw [div_add_pow hh, Nat.add_mul, e]

/-- the forest in bit form: one tree per set bit of the leaf count, highest bit first; the tree for
bit `h` ends at the last leaf of the leaves counted by the bits `≥ h` -/
theorem forestFrom_bits (k : Nat) : ∀ base m, m < 2^k →
    forestFrom k base m
      = ((List.range k).reverse.filter (bitSet m)).map
          (fun h => (base + m / 2^(h+1) * 2^(h+1) + 2^h - 1, h)) := by
  induction k with
  | zero => intro base m _; rfl
  | succ k ih =>
    intro base m hm
    rw [forestFrom, List.range_succ, List.reverse_append, List.reverse_singleton, List.singleton_append,
      List.filter_cons, bitSet_top hm]
    by_cases hb : 2^k ≤ m
    · obtain ⟨m', rfl⟩ := Nat.exists_eq_add_of_le hb
      have hlt : ∀ h ∈ (List.range k).reverse, h < k := fun h hh => by simpa using hh
      rw [if_pos hb, if_pos (decide_eq_true hb), List.map_cons, Nat.add_sub_cancel_left,
        ih (base + 2^k) m' (by simpa using sub_pow_lt hm),
        List.filter_congr (fun h hh => bitSet_add_pow (m' := m') (hlt h hh)),
        Nat.div_eq_of_lt hm, Nat.zero_mul, Nat.add_zero]
      congr 1
      apply List.map_congr_left
      intro h hh
      rw [high_part_add_pow (hlt h (List.mem_filter.1 hh).1), Nat.add_assoc base]
    · rw [if_neg hb, if_neg (by simpa using hb)]
      exact ih base m (Nat.lt_of_not_le hb)

theorem forest_bits (n : Nat) :
    forest n = ((List.range n).reverse.filter (bitSet n)).map
      (fun h => (n / 2^(h+1) * 2^(h+1) + 2^h - 1, h)) := by
  have := forestFrom_bits n 0 n Nat.lt_two_pow_self
  simpa [forest] using this

/-- peaks for the bits of `m`, where bit 0 of `m` stands for height `j` -/
def stackOf : Nat → Nat → List (Nat × Nat)
  | 0, _ => []
  | m+1, j =>
    if (m+1) % 2 = 1 then ((m+1) * 2^j - 1, j) :: stackOf ((m+1)/2) (j+1)
    else stackOf ((m+1)/2) (j+1)
decreasing_by all_goals exact Nat.div_lt_self (Nat.succ_pos _) (by decide)

theorem stackOf_zero (j : Nat) : stackOf 0 j = [] := by rw [stackOf]

theorem stackOf_odd (a j : Nat) : stackOf (2*a+1) j = ((2*a+1) * 2^j - 1, j) :: stackOf a (j+1) := by
  rw [stackOf, Nat.mul_add_mod, if_pos (by decide), Nat.mul_add_div (by decide)]
  rfl

theorem stackOf_even (a j : Nat) : stackOf (2*a) j = stackOf a (j+1) := by
  cases a with
  | zero => rw [Nat.mul_zero, stackOf_zero, stackOf_zero]
  | succ a =>
    rw [show 2 * (a + 1) = 2 * a + 1 + 1 from rfl, stackOf, show 2 * a + 1 + 1 = 2 * (a + 1) from rfl,
      Nat.mul_mod_right, if_neg (by decide), Nat.mul_div_cancel_left _ (by decide)]

theorem forestFrom_reverse (k : Nat) : ∀ a m, m < 2^k →
    (forestFrom k (a * 2^k) m).reverse ++ stackOf a k = stackOf (a * 2^k + m) 0 := by
  induction k with
  | zero =>
    intro a m hm
    have : m = 0 := by simpa using hm
    subst this; simp [forestFrom]
  | succ k ih =>
    intro a m hm
    rw [forestFrom, mul_two_pow_succ]
    by_cases hb : 2^k ≤ m
    · have e := Nat.add_one_mul (2*a) (2^k)
      rw [if_pos hb, List.reverse_cons, List.append_assoc, List.singleton_append, ← e, ← stackOf_odd,
        ih (2*a+1) (m - 2^k) (sub_pow_lt hm), e, Nat.add_assoc, Nat.add_sub_cancel' hb]
    · rw [if_neg hb, ← stackOf_even]
      exact ih (2*a) m (Nat.lt_of_not_le hb)

theorem forest_reverse (N : Nat) : (forest N).reverse = stackOf N 0 := by
  have := forestFrom_reverse N 0 N Nat.lt_two_pow_self
  simpa [forest, stackOf_zero] using this

theorem stackOf_mul_pow (t : Nat) : ∀ c j, stackOf (c * 2^t) j = stackOf c (j + t) := by
  induction t with
  | zero => intro c j; simp
  | succ t ih =>
    intro c j
    rw [mul_two_pow_succ, Nat.mul_assoc, stackOf_even, ih, Nat.add_right_comm, Nat.add_assoc]

theorem stackOf_height_ge (m : Nat) : ∀ j, ∀ c ∈ stackOf m j, j ≤ c.2 := by
  induction m using binary_induction with
  | zero => intro j c hc; rw [stackOf_zero] at hc; cases hc
  | even a _ ih =>
    intro j c hc
    rw [stackOf_even] at hc
    exact Nat.le_of_succ_le (ih (j+1) c hc)
  | odd a ih =>
    intro j c hc
    rw [stackOf_odd] at hc
    rcases List.mem_cons.1 hc with rfl | hc'
    · exact Nat.le_refl _
    · exact Nat.le_of_succ_le (ih (j+1) c hc')

/-- the trees of heights `< g + d` over the `q·2^g + r` leaves after `base` (`q < 2^d`, `r < 2^g`):
the trees that lie before leaf `base + q·2^g`, then the trees over the last `r` leaves -/
theorem forestFrom_split (g : Nat) : ∀ (d base q r : Nat), q < 2 ^ d → r < 2 ^ g →
    ∃ Lh, forestFrom (g + d) base (q * 2 ^ g + r)
        = Lh ++ forestFrom g (base + q * 2 ^ g) r
      ∧ ∀ c ∈ Lh, c.1 < base + q * 2 ^ g := by
  intro d
  induction d with
  | zero =>
    intro base q r hq hr
    have : q = 0 := by simpa using hq
    subst this
    exact ⟨[], by simp, by simp⟩
  | succ d ih =>
    intro base q r hq hr
    have hD := two_pow_succ d
    have hX : 2 ^ (g + d) = 2 ^ d * 2 ^ g := by rw [Nat.pow_add, Nat.mul_comm]
    have hZ := Nat.two_pow_pos (g + d)
    rw [show g + (d + 1) = (g + d) + 1 from rfl, forestFrom]
    by_cases hb : 2 ^ d ≤ q
    · -- the tree of height `g + d` is present
      obtain ⟨q', rfl⟩ : ∃ q', q = 2 ^ d + q' := ⟨q - 2 ^ d, by omega⟩
      have em : (2 ^ d + q') * 2 ^ g = 2 ^ (g + d) + q' * 2 ^ g := by rw [Nat.add_mul, hX]
      obtain ⟨Lh, hL, hlt⟩ := ih (base + 2 ^ (g + d)) q' r (by omega) hr
      rw [em, if_pos (by omega), show 2 ^ (g + d) + q' * 2 ^ g + r - 2 ^ (g + d) = q' * 2 ^ g + r by omega, hL]
      refine ⟨(base + 2 ^ (g + d) - 1, g + d) :: Lh, by rw [Nat.add_assoc base]; rfl, ?_⟩
      intro c hc
      rcases List.mem_cons.1 hc with rfl | hc'
      · simp only; omega
      · have := hlt c hc'; omega
    · have hlt : ¬ 2 ^ (g + d) ≤ q * 2 ^ g + r := by
        have : (q + 1) * 2 ^ g ≤ 2 ^ d * 2 ^ g := Nat.mul_le_mul_right _ (by omega)
        rw [Nat.add_mul, Nat.one_mul] at this
        omega
      rw [if_neg hlt]
      exact ih base q r (by omega) hr

/-- the forest of `a·2^g + r` leaves, `r < 2^g`: trees before leaf `a·2^g`, then the forest of the
last `r` leaves -/
theorem forest_split (g a r : Nat) (hr : r < 2 ^ g) :
    ∃ Lh, forest (a * 2 ^ g + r) = Lh ++ forestFrom g (a * 2 ^ g) r
      ∧ ∀ c ∈ Lh, c.1 < a * 2 ^ g := by
  have ha : a < 2 ^ a := Nat.lt_two_pow_self
  have hN : a * 2 ^ g + r < 2 ^ (g + a) := by
    rw [Nat.pow_add, Nat.mul_comm (2 ^ g)]
    have : (a + 1) * 2 ^ g ≤ 2 ^ a * 2 ^ g := Nat.mul_le_mul_right _ (by omega)
    rw [Nat.add_mul, Nat.one_mul] at this
    omega
  obtain ⟨Lh, hL, hlt⟩ := forestFrom_split g a 0 a r ha hr
  rw [Nat.zero_add] at hL hlt
  exact ⟨Lh, by rw [forest_eq hN]; exact hL, hlt⟩

theorem greedySizes_sum (k : Nat) : ∀ (s : Nat), (greedySizes k s).1.sum + (greedySizes k s).2 = s := by
  induction k with
  | zero => intro s; simp [greedySizes]
  | succ k ih =>
    intro s
    simp only [greedySizes]
    split
    · rename_i h
      have := ih (s - (2 ^ (k + 1) - 1))
      simp only [List.sum_cons]
      omega
    · exact ih s

theorem greedySizes_pos (k : Nat) : ∀ (s : Nat), ∀ x ∈ (greedySizes k s).1, 0 < x := by
  induction k with
  | zero => intro s x hx; simp [greedySizes] at hx
  | succ k ih =>
    intro s x hx
    simp only [greedySizes] at hx
    split at hx
    · rcases List.mem_cons.1 hx with rfl | h
      · have : 0 < 2 ^ k := Nat.pow_pos (by omega)
        have hp : 2 ^ (k + 1) = 2 * 2 ^ k := by rw [Nat.pow_succ]; omega
        omega
      · exact ih _ x h
    · exact ih _ x hx

theorem odd_part (n : Nat) (hn : 1 ≤ n) : ∃ a t, n = (2*a+1) * 2^t := by
  induction n using binary_induction with
  | zero => omega
  | even a ha ih =>
    obtain ⟨b, t, e⟩ := ih ha
    exact ⟨b, t+1, by rw [e, two_pow_succ]; simp [Nat.mul_comm, Nat.mul_left_comm]⟩
  | odd a _ => exact ⟨a, 0, by simp⟩

/-- the last tree of the forest ends at leaf `n - 1` -/
theorem last_peak (n : Nat) (hn : 1 ≤ n) : (peaks (mmr n)).getLast? = some (mmr n - 1) := by
  obtain ⟨a, t, e⟩ := odd_part n hn
  have hs : stackOf n 0 = (n - 1, t) :: stackOf a (t+1) := by
    rw [e, stackOf_mul_pow, Nat.zero_add, stackOf_odd]
  have hf : (forest n) = (stackOf a (t+1)).reverse ++ [(n-1, t)] := by
    rw [← List.reverse_reverse (forest n), forest_reverse, hs, List.reverse_cons]
  have hpos := Nat.two_pow_pos t
  have e1 : n - 1 = (2*a) * 2^t + (2^t - 1) := by rw [e, Nat.add_one_mul]; omega
  have ht : trailingOnes (n - 1) = t := by rw [e1, trailingOnes_of_form, trailingOnes_two_mul]; rfl
  have hm := mmr_succ (n - 1)
  rw [Nat.sub_add_cancel hn, ht] at hm
  rw [peaks_forest, hf, List.map_append, List.map_singleton, List.getLast?_concat]
  simp only [cpos]
  congr 1; omega

end GV.Pmmr.Co
