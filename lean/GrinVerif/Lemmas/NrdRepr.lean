import GrinVerif.Model.NrdIndex
import GrinVerif.Lemmas.UtilList
/-! When the store of the NRD index (`Model/NrdIndex.lean`) represents a list per excess, and what every primitive
operation of linked_list.rs does to that.

`Repr kv e l`: the records the store holds for excess `e` are exactly the encoding linked_list.rs
uses for the list `l` (most recent first): nothing for `[]`, `Single` for one element, `Multi` with
head / tail pointers and a `Head`, `Middle`…, `Tail` record per element with consistent `next` /
`prev` pointers otherwise; positions strictly decreasing.  Records under other positions (stale
`Tail` / `Head` records that `pop_pos` / `pop_pos_back` leave behind when a two-element list becomes
`Single`) are allowed: they exist in the real store and are never read. -/
namespace GV.Nrd

section AL
variable {κ ν : Type} [DecidableEq κ]

theorem alGet_alDel (l : List (κ × ν)) (k k' : κ) :
    alGet (alDel l k) k' = if k = k' then none else alGet l k' := by
  induction l with
  | nil => simp [alDel, alGet]
  | cons a r ih =>
    obtain ⟨ka, va⟩ := a
    by_cases h : ka = k
    · subst h
      simp only [alDel, if_true, ih]
      by_cases h' : ka = k'
      · simp [h']
      · simp [h', alGet]
    · simp only [alDel, h, if_false, alGet, ih]
      by_cases h' : ka = k'
      · subst h'; simp; intro hk; exact absurd hk.symm h
      · simp [h']

theorem alGet_alPut (l : List (κ × ν)) (k k' : κ) (v : ν) :
    alGet (alPut l k v) k' = if k = k' then some v else alGet l k' := by
  unfold alPut
  by_cases h : k = k'
  · simp [alGet, h]
  · simp [alGet, h, alGet_alDel]

end AL

variable {ε : Type} [DecidableEq ε]

@[simp] theorem getList_putList (kv : KV ε) (e e' : ε) (w : ListWrapper) :
    (kv.putList e w).getList e' = if e = e' then some w else kv.getList e' := by
  simp [KV.putList, KV.getList, alGet_alPut]

@[simp] theorem getList_delList (kv : KV ε) (e e' : ε) :
    (kv.delList e).getList e' = if e = e' then none else kv.getList e' := by
  simp [KV.delList, KV.getList, alGet_alDel]

@[simp] theorem getList_putEntry (kv : KV ε) (e e' : ε) (p : Nat) (en : ListEntry) :
    (kv.putEntry e p en).getList e' = kv.getList e' := rfl

@[simp] theorem getList_delEntry (kv : KV ε) (e e' : ε) (p : Nat) :
    (kv.delEntry e p).getList e' = kv.getList e' := rfl

@[simp] theorem getEntry_putList (kv : KV ε) (e e' : ε) (w : ListWrapper) (p : Nat) :
    (kv.putList e w).getEntry e' p = kv.getEntry e' p := rfl

@[simp] theorem getEntry_delList (kv : KV ε) (e e' : ε) (p : Nat) :
    (kv.delList e).getEntry e' p = kv.getEntry e' p := rfl

@[simp] theorem getEntry_putEntry (kv : KV ε) (e e' : ε) (p p' : Nat) (en : ListEntry) :
    (kv.putEntry e p en).getEntry e' p' =
      if e = e' ∧ p = p' then some en else kv.getEntry e' p' := by
  simp [KV.putEntry, KV.getEntry, alGet_alPut]

@[simp] theorem getEntry_delEntry (kv : KV ε) (e e' : ε) (p p' : Nat) :
    (kv.delEntry e p).getEntry e' p' =
      if e = e' ∧ p = p' then none else kv.getEntry e' p' := by
  simp [KV.delEntry, KV.getEntry, alGet_alDel]

@[simp] theorem getList_empty (e : ε) : ({} : KV ε).getList e = none := rfl
@[simp] theorem getEntry_empty (e : ε) (p : Nat) : ({} : KV ε).getEntry e p = none := rfl

def Frame (kv kv' : KV ε) (e : ε) : Prop :=
  ∀ e', e' ≠ e → kv'.getList e' = kv.getList e' ∧ ∀ p, kv'.getEntry e' p = kv.getEntry e' p

theorem Frame.refl (kv : KV ε) (e : ε) : Frame kv kv e := fun _ _ => ⟨rfl, fun _ => rfl⟩

theorem Frame.trans {a b c : KV ε} {e : ε} (h1 : Frame a b e) (h2 : Frame b c e) : Frame a c e :=
  fun e' h => ⟨(h2 e' h).1.trans (h1 e' h).1, fun p => ((h2 e' h).2 p).trans ((h1 e' h).2 p)⟩

theorem Frame.putList (kv : KV ε) (e : ε) (w : ListWrapper) : Frame kv (kv.putList e w) e :=
  fun _ hne => ⟨by rw [getList_putList, if_neg (Ne.symm hne)], fun _ => rfl⟩

theorem Frame.delList (kv : KV ε) (e : ε) : Frame kv (kv.delList e) e :=
  fun _ hne => ⟨by rw [getList_delList, if_neg (Ne.symm hne)], fun _ => rfl⟩

theorem Frame.putEntry (kv : KV ε) (e : ε) (p : Nat) (en : ListEntry) : Frame kv (kv.putEntry e p en) e :=
  fun _ hne => ⟨rfl, fun _ => by rw [getEntry_putEntry, if_neg fun h => hne h.1.symm]⟩

theorem Frame.delEntry (kv : KV ε) (e : ε) (p : Nat) : Frame kv (kv.delEntry e p) e :=
  fun _ hne => ⟨rfl, fun _ => by rw [getEntry_delEntry, if_neg fun h => hne h.1.symm]⟩

def Decr (l : List CommitPos) : Prop := l.Pairwise (fun a b => a.pos > b.pos)

def lastP : CommitPos → List CommitPos → CommitPos
  | p, [] => p
  | _, q :: r => lastP q r

def wrapperOf : List CommitPos → Option ListWrapper
  | [] => none
  | [p] => some (.single p)
  | p :: q :: r => some (.multi p.pos (lastP q r).pos)

/-- the record of element `p` given the positions of its neighbours (`none` = no neighbour) -/
def Cell (kv : KV ε) (e : ε) (pv : Option Nat) (p : CommitPos) (nx : Option Nat) : Prop :=
  match pv, nx with
  | none, none => True
  | none, some n => kv.getEntry e p.pos = some (.head p n)
  | some v, none => kv.getEntry e p.pos = some (.tail p v)
  | some v, some n => kv.getEntry e p.pos = some (.middle p n v)

/-- list segment: the records of the elements of `l`, the element before the segment being at
`pv`, the one after it at `nx` -/
def Seg (kv : KV ε) (e : ε) : Option Nat → List CommitPos → Option Nat → Prop
  | _, [], _ => True
  | pv, [p], nx => Cell kv e pv p nx
  | pv, p :: q :: r, nx => Cell kv e pv p (some q.pos) ∧ Seg kv e (some p.pos) (q :: r) nx

def Repr (kv : KV ε) (e : ε) (l : List CommitPos) : Prop :=
  Decr l ∧ kv.getList e = wrapperOf l ∧ Seg kv e none l none

theorem Repr.decr {kv : KV ε} {e : ε} {l : List CommitPos} (h : Repr kv e l) : Decr l := h.1
theorem Repr.wrapper {kv : KV ε} {e : ε} {l : List CommitPos} (h : Repr kv e l) : kv.getList e = wrapperOf l := h.2.1
theorem Repr.seg {kv : KV ε} {e : ε} {l : List CommitPos} (h : Repr kv e l) : Seg kv e none l none := h.2.2

theorem Decr.tail {p : CommitPos} {l : List CommitPos} (h : Decr (p :: l)) : Decr l :=
  (List.pairwise_cons.mp h).2

theorem Decr.lt {p : CommitPos} {l : List CommitPos} (h : Decr (p :: l)) :
    ∀ x ∈ l, x.pos < p.pos := (List.pairwise_cons.mp h).1

theorem Decr.length_le {p : CommitPos} {l : List CommitPos} (h : Decr (p :: l)) : l.length ≤ p.pos := by
  induction l generalizing p with
  | nil => simp
  | cons q r ih => exact Nat.lt_of_le_of_lt (ih h.tail) (h.lt q List.mem_cons_self)

theorem Decr.cons {p : CommitPos} {l : List CommitPos} (h : Decr l) (hp : specPushOk l p = true) :
    Decr (p :: l) := by
  refine List.pairwise_cons.mpr ⟨?_, h⟩
  intro x hx
  cases l with
  | nil => cases hx
  | cons q r =>
    simp only [specPushOk, decide_eq_true_eq] at hp
    rcases List.mem_cons.mp hx with rfl | hx
    · exact hp
    · exact Nat.lt_trans (h.lt x hx) hp

theorem Decr.snoc {l : List CommitPos} {z : CommitPos} (h : Decr (l ++ [z])) :
    Decr l ∧ ∀ x ∈ l, z.pos < x.pos := by
  have := List.pairwise_append.mp h
  exact ⟨this.1, fun x hx => this.2.2 x hx z (by simp)⟩

theorem lastP_snoc (p : CommitPos) (r : List CommitPos) (z : CommitPos) : lastP p (r ++ [z]) = z := by
  induction r generalizing p with
  | nil => rfl
  | cons q r ih => exact ih q

theorem wrapperOf_cons_snoc (f : CommitPos) (t : List CommitPos) (z : CommitPos) :
    wrapperOf (f :: (t ++ [z])) = some (.multi f.pos z.pos) := by
  cases t with
  | nil => rfl
  | cons q u => simp only [List.cons_append, wrapperOf, lastP_snoc]

theorem Cell.congr {kv kv' : KV ε} {e : ε} {pv nx : Option Nat} {p : CommitPos}
    (h : kv'.getEntry e p.pos = kv.getEntry e p.pos) (c : Cell kv e pv p nx) : Cell kv' e pv p nx := by
  unfold Cell at *
  cases pv <;> cases nx <;> simp_all

theorem Seg.congr {kv kv' : KV ε} {e : ε} {l : List CommitPos} {pv nx : Option Nat}
    (h : ∀ x ∈ l, kv'.getEntry e x.pos = kv.getEntry e x.pos) (s : Seg kv e pv l nx) :
    Seg kv' e pv l nx := by
  induction l generalizing pv with
  | nil => trivial
  | cons p r ih =>
    cases r with
    | nil => exact Cell.congr (h p (by simp)) s
    | cons q r =>
      exact ⟨Cell.congr (h p (by simp)) s.1, ih (fun x hx => h x (List.mem_cons_of_mem _ hx)) s.2⟩

def lastOr (l : List CommitPos) (pv : Option Nat) : Option Nat :=
  match l.getLast? with
  | some x => some x.pos
  | none => pv

@[simp] theorem lastOr_nil (pv : Option Nat) : lastOr [] pv = pv := rfl
@[simp] theorem lastOr_snoc (l : List CommitPos) (y : CommitPos) (pv : Option Nat) :
    lastOr (l ++ [y]) pv = some y.pos := by simp [lastOr]
theorem lastOr_cons (p : CommitPos) (l : List CommitPos) (pv : Option Nat) :
    lastOr (p :: l) pv = lastOr l (some p.pos) := by
  cases l with
  | nil => simp [lastOr]
  | cons q r =>
    cases h : (q :: r).getLast? with
    | none => simp at h
    | some x => simp [lastOr, List.getLast?_cons_cons, h]

theorem lastOr_cons_eq (p : CommitPos) (l : List CommitPos) (pv : Option Nat) :
    lastOr (p :: l) pv = some (lastP p l).pos := by
  induction l generalizing p pv with
  | nil => simp [lastOr, lastP]
  | cons q r ih => rw [lastOr_cons, lastP]; exact ih q _

theorem Seg.snoc (kv : KV ε) (e : ε) (pv nx : Option Nat) (l : List CommitPos) (z : CommitPos) :
    Seg kv e pv (l ++ [z]) nx ↔ Seg kv e pv l (some z.pos) ∧ Cell kv e (lastOr l pv) z nx := by
  induction l generalizing pv with
  | nil => simp [Seg]
  | cons p r ih =>
    cases r with
    | nil => simp [Seg, lastOr]
    | cons q r =>
      have := ih (some p.pos)
      simp only [List.cons_append] at this ⊢
      simp only [Seg, this, lastOr_cons, and_assoc]

theorem Repr.frame {kv kv' : KV ε} {e e' : ε} {l : List CommitPos} (h : Frame kv kv' e) (hne : e' ≠ e)
    (r : Repr kv e' l) : Repr kv' e' l :=
  ⟨r.decr, (h e' hne).1.trans r.wrapper, Seg.congr (fun x _ => (h e' hne).2 x.pos) r.seg⟩

theorem repr_empty (e : ε) : Repr ({} : KV ε) e [] := ⟨List.Pairwise.nil, rfl, trivial⟩

/-- what a successful operation on the list of excess `e` does to the store `kv`: the outcome `o` answers `a`,
the store it leaves represents `l'` for `e` and holds for every other excess what `kv` held -/
structure Out.Does {α : Type} (o : Out ε α) (kv : KV ε) (e : ε) (a : α) (l' : List CommitPos) : Prop where
  res : o.res = .ok a
  repr : Repr o.kv e l'
  frame : Frame kv o.kv e

omit [DecidableEq ε] in
theorem Out.eq_mk {α : Type} {o : Out ε α} {r : Except Err α} (h : o.res = r) : o = ⟨o.kv, r⟩ := by
  cases o; cases h; rfl

theorem Out.Does.of_eq {α : Type} {o : Out ε α} {kv kv' : KV ε} {e : ε} {a : α} {l' : List CommitPos}
    (ho : o = ⟨kv', .ok a⟩) (hr : Repr kv' e l') (hf : Frame kv kv' e) : o.Does kv e a l' := by
  subst ho; exact ⟨rfl, hr, hf⟩

/-- `pv = none → r ≠ []`: an element with neither neighbour has no record (`Cell … none p none` is `True`). -/
theorem walkFrom_seg (kv : KV ε) (e : ε) (fuel : Nat) : ∀ (r : List CommitPos) (p : CommitPos)
    (pv : Option Nat), Seg kv e pv (p :: r) none → (pv = none → r ≠ []) → r.length < fuel →
    walkFrom kv e fuel p.pos = p :: r := by
  induction fuel with
  | zero => intro r p pv _ _ hf; cases hf
  | succ f ih =>
    intro r p pv hs hpv hf
    cases r with
    | nil =>
      cases pv with
      | none => exact absurd rfl (hpv rfl)
      | some v =>
        simp only [Seg, Cell] at hs
        simp [walkFrom, hs]
    | cons q r =>
      have hrec := ih r q (some p.pos) hs.2 (by simp) (by simpa using hf)
      have hc := hs.1
      cases pv with
      | none => simp only [Cell] at hc; simp [walkFrom, hc, hrec]
      | some v => simp only [Cell] at hc; simp [walkFrom, hc, hrec]

theorem abs_repr {kv : KV ε} {e : ε} {l : List CommitPos} (h : Repr kv e l) : abs kv e = l := by
  obtain ⟨hd, hw, hs⟩ := h
  match l, hd, hw, hs with
  | [], _, hw, _ => simp [abs, hw, wrapperOf]
  | [p], _, hw, _ => simp [abs, hw, wrapperOf]
  | p :: q :: r, hd, hw, hs =>
    simp only [abs, hw, wrapperOf]
    exact walkFrom_seg kv e _ (q :: r) p none hs (by simp) (Nat.lt_succ_of_le hd.length_le)

theorem Repr.unique {kv : KV ε} {e : ε} {l l' : List CommitPos} (h : Repr kv e l) (h' : Repr kv e l') :
    l = l' := (abs_repr h).symm.trans (abs_repr h')

theorem peekPos_repr {kv : KV ε} {e : ε} {l : List CommitPos} (h : Repr kv e l) :
    peekPos kv e = .ok l.head? := by
  obtain ⟨_, hw, hs⟩ := h
  match l, hw, hs with
  | [], hw, _ => simp [peekPos, hw, wrapperOf]
  | [p], hw, _ => simp [peekPos, hw, wrapperOf]
  | p :: q :: r, hw, hs =>
    have hc : kv.getEntry e p.pos = some (.head p q.pos) := hs.1
    simp [peekPos, hw, wrapperOf, hc]

theorem Repr.ends {kv : KV ε} {e : ε} {p q : CommitPos} {r : List CommitPos}
    (h : Repr kv e (p :: q :: r)) :
    ∃ t z w, q :: r = t ++ [z] ∧ kv.getList e = some (.multi p.pos z.pos) ∧
      kv.getEntry e p.pos = some (.head p q.pos) ∧ kv.getEntry e z.pos = some (.tail z w) := by
  obtain ⟨_, hw, hs⟩ := h
  rcases eq_nil_or_snoc (q :: r) with h0 | ⟨t, z, hz⟩
  · cases h0
  · have hc : kv.getEntry e p.pos = some (.head p q.pos) := hs.1
    rw [hz] at hw hs
    rw [wrapperOf_cons_snoc] at hw
    rw [← List.cons_append, Seg.snoc] at hs
    have hcz := hs.2
    rw [lastOr_cons_eq] at hcz
    exact ⟨t, z, _, hz, hw, hc, hcz⟩

theorem getLast?_cons_snoc {p z : CommitPos} {l t : List CommitPos} (hz : l = t ++ [z]) :
    (p :: l).getLast? = some z := by
  rw [hz, ← List.cons_append, List.getLast?_append]; rfl

theorem peekBack_repr {kv : KV ε} {e : ε} {l : List CommitPos} (h : Repr kv e l) :
    peekBack kv e = .ok l.getLast? := by
  match l, h with
  | [], h => simp [peekBack, h.wrapper, wrapperOf]
  | [p], h => simp [peekBack, h.wrapper, wrapperOf]
  | p :: q :: r, h =>
    obtain ⟨t, z, w, hz, hw, _, hcz⟩ := h.ends
    simp [peekBack, hw, hcz, getLast?_cons_snoc (p := p) hz]

theorem pushPos_repr {kv : KV ε} {e : ε} {l : List CommitPos} (np : CommitPos) (h : Repr kv e l)
    (hok : specPushOk l np = true) :
    (pushPos kv e np).Does kv e () (np :: l) := by
  have hd' : Decr (np :: l) := h.decr.cons hok
  obtain ⟨hd, hw, hs⟩ := h
  match l, hd, hd', hw, hs with
  | [], _, hd', hw, _ =>
    exact .of_eq (by simp only [pushPos, hw, wrapperOf]; rfl) ⟨hd', by simp [wrapperOf], trivial⟩
      (Frame.putList _ _ _)
  | [p], _, hd', hw, _ =>
    have hlt : p.pos < np.pos := hd'.lt p List.mem_cons_self
    have hnle : ¬ np.pos ≤ p.pos := Nat.not_le.mpr hlt
    refine .of_eq (by simp only [pushPos, hw, wrapperOf, hnle, if_false]; rfl) ⟨hd', by simp [wrapperOf, lastP], ?_⟩ ?_
    · have hne : ¬ p.pos = np.pos := Nat.ne_of_lt hlt
      simp [Seg, Cell, hne]
    · exact ((Frame.putEntry _ _ _ _).trans (Frame.putEntry _ _ _ _)).trans (Frame.putList _ _ _)
  | p :: q :: r, hd, hd', hw, hs =>
    have hlt : p.pos < np.pos := hd'.lt p List.mem_cons_self
    have hnle : ¬ np.pos ≤ p.pos := Nat.not_le.mpr hlt
    have hc : kv.getEntry e p.pos = some (.head p q.pos) := hs.1
    refine .of_eq (by simp only [pushPos, hw, wrapperOf, hnle, if_false, hc]; rfl) ⟨hd', by simp [wrapperOf, lastP], ?_⟩ ?_
    · have hne : ¬ p.pos = np.pos := Nat.ne_of_lt hlt
      refine ⟨by simp [Cell, hne], by simp [Cell], ?_⟩
      refine Seg.congr (fun x hx => ?_) hs.2
      have h1 := hd.lt x hx
      simp [Nat.ne_of_gt h1, Nat.ne_of_gt (Nat.lt_trans h1 hlt)]
    · exact ((Frame.putEntry _ _ _ _).trans (Frame.putEntry _ _ _ _)).trans (Frame.putList _ _ _)

theorem pushPos_repr_err {kv : KV ε} {e : ε} {l : List CommitPos} (np : CommitPos) (h : Repr kv e l)
    (hok : specPushOk l np = false) : pushPos kv e np = ⟨kv, .error .posNotIncreasing⟩ := by
  have hw := h.wrapper
  match l, hw, hok with
  | [], _, hok => cases hok
  | p :: t, hw, hok =>
    have hle : np.pos ≤ p.pos := by simpa [specPushOk] using hok
    cases t <;> simp only [pushPos, hw, wrapperOf, hle, if_true]

theorem popPos_repr {kv : KV ε} {e : ε} {l : List CommitPos} (h : Repr kv e l) :
    (popPos kv e).Does kv e l.head? l.tail := by
  obtain ⟨hd, hw, hs⟩ := h
  match l, hd, hw, hs with
  | [], _, hw, _ =>
    exact .of_eq (by simp [popPos, hw, wrapperOf]) ⟨List.Pairwise.nil, hw, trivial⟩ (Frame.refl kv e)
  | [p], _, hw, _ =>
    exact .of_eq (by simp only [popPos, hw, wrapperOf, List.head?]) ⟨List.Pairwise.nil, by simp [wrapperOf], trivial⟩
      (Frame.delList _ _)
  | [p, q], hd, hw, hs =>
    have hc : kv.getEntry e p.pos = some (.head p q.pos) := hs.1
    have hq : kv.getEntry e q.pos = some (.tail q p.pos) := hs.2
    exact .of_eq (by simp only [popPos, hw, wrapperOf, hc, hq, List.head?]; rfl) ⟨hd.tail, by simp [wrapperOf], trivial⟩
      ((Frame.delEntry _ _ _).trans (Frame.putList _ _ _))
  | p :: q :: s :: r, hd, hw, hs =>
    have hc : kv.getEntry e p.pos = some (.head p q.pos) := hs.1
    have hq : kv.getEntry e q.pos = some (.middle q s.pos p.pos) := hs.2.1
    refine .of_eq (by simp only [popPos, hw, wrapperOf, hc, hq, List.head?]; rfl) ⟨hd.tail, by simp [wrapperOf, lastP], ?_⟩ ?_
    · refine ⟨by simp [Cell], ?_⟩
      refine Seg.congr (fun x hx => ?_) hs.2.2
      have h1 := hd.tail.lt x hx
      simp [Nat.ne_of_gt h1, Nat.ne_of_gt (Nat.lt_trans h1 (hd.lt q List.mem_cons_self))]
    · exact ((Frame.delEntry _ _ _).trans (Frame.putEntry _ _ _ _)).trans (Frame.putList _ _ _)

theorem popPosBack_repr_nil {kv : KV ε} {e : ε} (h : Repr kv e []) :
    popPosBack kv e = ⟨kv, .ok none⟩ := by
  simp [popPosBack, h.wrapper, wrapperOf]

theorem popPosBack_repr_snoc {kv : KV ε} {e : ε} {front : List CommitPos} {z : CommitPos}
    (h : Repr kv e (front ++ [z])) :
    (popPosBack kv e).Does kv e (some z) front := by
  obtain ⟨hd, hw, hs⟩ := h
  rcases eq_nil_or_snoc front with rfl | ⟨front', y, rfl⟩
  · simp only [List.nil_append, wrapperOf] at hw
    exact .of_eq (by simp only [popPosBack, hw]) ⟨List.Pairwise.nil, by simp [wrapperOf], trivial⟩
      (Frame.delList _ _)
  · obtain ⟨hd1, hz⟩ := hd.snoc
    have hzy : z.pos < y.pos := hz y (by simp)
    rw [Seg.snoc, lastOr_snoc] at hs
    have hcz : kv.getEntry e z.pos = some (.tail z y.pos) := hs.2
    cases front' with
    | nil =>
      simp only [List.nil_append] at hw hs hd1 ⊢
      have hcy : kv.getEntry e y.pos = some (.head y z.pos) := hs.1
      have hw' : kv.getList e = some (.multi y.pos z.pos) := hw
      exact .of_eq (by simp only [popPosBack, hw', hcz, hcy]; rfl) ⟨hd1, by simp [wrapperOf], trivial⟩
        ((Frame.delEntry _ _ _).trans (Frame.putList _ _ _))
    | cons f t =>
      have hw' : kv.getList e = some (.multi f.pos z.pos) := by
        rw [hw]; exact wrapperOf_cons_snoc f (t ++ [y]) z
      have hs1 := hs.1
      rw [Seg.snoc] at hs1
      have hwv := lastOr_cons_eq f t none
      have hcy : kv.getEntry e y.pos = some (.middle y z.pos (lastP f t).pos) := by
        have := hs1.2; rw [hwv] at this; exact this
      refine .of_eq (by simp only [popPosBack, hw', hcz, hcy]; rfl)
        ⟨hd1, by simp only [getList_putList, if_true, List.cons_append, wrapperOf_cons_snoc], ?_⟩ ?_
      · rw [Seg.snoc, hwv]
        refine ⟨Seg.congr (fun x hx => ?_) hs1.1, by simp [Cell]⟩
        have h1 : y.pos < x.pos := (hd1.snoc).2 x hx
        simp [Nat.ne_of_lt h1, Nat.ne_of_lt (Nat.lt_trans hzy h1)]
      · exact ((Frame.delEntry _ _ _).trans (Frame.putEntry _ _ _ _)).trans (Frame.putList _ _ _)

theorem popPosBack_repr {kv : KV ε} {e : ε} {l : List CommitPos} (h : Repr kv e l) :
    (popPosBack kv e).Does kv e l.getLast? l.dropLast := by
  rcases eq_nil_or_snoc l with rfl | ⟨front, z, rfl⟩
  · exact .of_eq (popPosBack_repr_nil h) h (Frame.refl kv e)
  · simpa using popPosBack_repr_snoc h

theorem rewindLoop_repr (e : ε) (r : Nat) (fuel : Nat) : ∀ (l : List CommitPos) (kv : KV ε),
    Repr kv e l → l.length < fuel → (rewindLoop e r fuel kv).Does kv e () (specRewind l r) := by
  induction fuel with
  | zero => intro l kv _ hf; cases hf
  | succ f ih =>
    intro l kv h hf
    match l, h, hf with
    | [], h, _ =>
      exact .of_eq (by simp [rewindLoop, peekPos_repr h]) (by simpa [specRewind] using h) (Frame.refl kv e)
    | p :: t, h, hf =>
      by_cases hp : p.pos > r
      · have d := popPos_repr h
        have g := ih t _ d.repr (by simpa using hf)
        have hl : rewindLoop e r (f + 1) kv = rewindLoop e r f (popPos kv e).kv := by
          simp only [rewindLoop, peekPos_repr h, List.head?, hp, if_true]; rw [Out.eq_mk d.res]
        rw [hl]
        exact ⟨g.res, by simpa [specRewind, hp] using g.repr, d.frame.trans g.frame⟩
      · exact .of_eq (by simp only [rewindLoop, peekPos_repr h, List.head?, hp, if_false])
          (by simpa [specRewind, hp] using h) (Frame.refl kv e)

theorem rewindFuel_repr {kv : KV ε} {e : ε} {l : List CommitPos} (h : Repr kv e l) :
    l.length < rewindFuel kv e := by
  unfold rewindFuel
  rw [peekPos_repr h]
  cases l with
  | nil => simp
  | cons p t => have := h.decr.length_le; simp; omega

theorem rewind_repr {kv : KV ε} {e : ε} {l : List CommitPos} (r : Nat) (h : Repr kv e l) :
    (rewind kv e r).Does kv e () (specRewind l r) :=
  rewindLoop_repr e r _ l kv h (rewindFuel_repr h)

theorem pruneBackLoop_repr (e : ε) (c : Nat) (fuel : Nat) : ∀ (l : List CommitPos) (kv : KV ε),
    Repr kv e l → l.length < fuel → (pruneBackLoop e c fuel kv).Does kv e () (specPrune l c) := by
  induction fuel with
  | zero => intro l kv _ hf; cases hf
  | succ f ih =>
    intro l kv h hf
    rcases eq_nil_or_snoc l with rfl | ⟨front, z, rfl⟩
    · exact .of_eq (by simp [pruneBackLoop, peekBack_repr h]) (by simpa [specPrune] using h) (Frame.refl kv e)
    · by_cases hp : z.pos < c
      · have d := popPosBack_repr_snoc h
        have g := ih front _ d.repr (by simpa using hf)
        have hl : pruneBackLoop e c (f + 1) kv = pruneBackLoop e c f (popPosBack kv e).kv := by
          simp only [pruneBackLoop, peekBack_repr h, List.getLast?_append, List.getLast?_singleton,
            Option.some_or, hp, if_true]; rw [Out.eq_mk d.res]
        rw [hl]
        exact ⟨g.res, by simpa [specPrune, hp] using g.repr, d.frame.trans g.frame⟩
      · exact .of_eq (by simp only [pruneBackLoop, peekBack_repr h, List.getLast?_append,
            List.getLast?_singleton, Option.some_or, hp, if_false])
          (by simpa [specPrune, hp] using h) (Frame.refl kv e)

theorem pruneBack_repr {kv : KV ε} {e : ε} {l : List CommitPos} (c : Nat) (h : Repr kv e l) :
    (pruneBack kv e c).Does kv e () (specPrune l c) :=
  pruneBackLoop_repr e c _ l kv h (rewindFuel_repr h)

/-- mirror image of `walkFrom_seg`: following `prev` from the record of `z`; `l = [] → nx ≠ none`
for the same reason -/
theorem walkBackFrom_seg (kv : KV ε) (e : ε) (fuel : Nat) : ∀ (l : List CommitPos) (z : CommitPos)
    (nx : Option Nat), Seg kv e none (l ++ [z]) nx → (l = [] → nx ≠ none) → l.length < fuel →
    walkBackFrom kv e fuel z.pos = z :: l.reverse := by
  induction fuel with
  | zero => intro l z nx _ _ hf; cases hf
  | succ f ih =>
    intro l z nx hs hnx hf
    rcases eq_nil_or_snoc l with rfl | ⟨l', y, rfl⟩
    · cases nx with
      | none => exact absurd rfl (hnx rfl)
      | some v =>
        simp only [List.nil_append, Seg, Cell] at hs
        simp [walkBackFrom, hs]
    · rw [Seg.snoc, lastOr_snoc] at hs
      have hrec := ih l' y (some z.pos) hs.1 (fun _ => by simp) (by simpa using hf)
      have hc := hs.2
      cases nx with
      | none => simp only [Cell] at hc; simp [walkBackFrom, hc, hrec]
      | some v => simp only [Cell] at hc; simp [walkBackFrom, hc, hrec]

theorem absBack_repr {kv : KV ε} {e : ε} {l : List CommitPos} (h : Repr kv e l) (fuel : Nat)
    (hf : l.length ≤ fuel) : absBack kv e fuel = l.reverse := by
  match l, h, hf with
  | [], h, _ => simp [absBack, h.wrapper, wrapperOf]
  | [p], h, _ => simp [absBack, h.wrapper, wrapperOf]
  | p :: q :: r, h, hf =>
    obtain ⟨t, z, w, hz, hw, _, _⟩ := h.ends
    have hs := h.seg
    rw [hz] at hs hf ⊢
    rw [← List.cons_append] at hs ⊢
    simp only [absBack, hw]
    rw [walkBackFrom_seg kv e fuel (p :: t) z none hs (by simp) (by simp at hf ⊢; omega)]
    simp

/-- the predecessor `pv` is general so that the induction over `l1` goes through -/
theorem Seg.neighbours {kv : KV ε} {e : ε} {l2 : List CommitPos} {a b : CommitPos} :
    ∀ (l1 : List CommitPos) (pv : Option Nat), Seg kv e pv (l1 ++ a :: b :: l2) none →
      Cell kv e (lastOr l1 pv) a (some b.pos) ∧
      Cell kv e (some a.pos) b (match l2 with | [] => none | c :: _ => some c.pos) := by
  intro l1
  induction l1 with
  | nil =>
    intro pv hs
    cases l2 with
    | nil => exact ⟨hs.1, hs.2⟩
    | cons c l2 => exact ⟨hs.1, hs.2.1⟩
  | cons x l1 ih =>
    intro pv hs
    rw [lastOr_cons]
    cases l1 with
    | nil => exact ih (some x.pos) hs.2
    | cons y l1 => exact ih (some x.pos) hs.2

theorem Repr.neighbours {kv : KV ε} {e : ε} {l1 l2 : List CommitPos} {a b : CommitPos}
    (h : Repr kv e (l1 ++ a :: b :: l2)) :
    (∃ en, kv.getEntry e a.pos = some en ∧ en.getPos = a ∧
        ((∃ n, en = .head a n ∧ n = b.pos) ∨ (∃ n v, en = .middle a n v ∧ n = b.pos))) ∧
    (∃ en, kv.getEntry e b.pos = some en ∧ en.getPos = b ∧
        ((∃ v, en = .tail b v ∧ v = a.pos) ∨ (∃ n v, en = .middle b n v ∧ v = a.pos))) := by
  obtain ⟨ca, cb⟩ := Seg.neighbours l1 none h.seg
  constructor
  · cases hl : lastOr l1 none with
    | none => rw [hl] at ca; simp only [Cell] at ca; exact ⟨_, ca, rfl, Or.inl ⟨_, rfl, rfl⟩⟩
    | some v => rw [hl] at ca; simp only [Cell] at ca; exact ⟨_, ca, rfl, Or.inr ⟨_, _, rfl, rfl⟩⟩
  · cases l2 with
    | nil => simp only [Cell] at cb; exact ⟨_, cb, rfl, Or.inl ⟨_, rfl, rfl⟩⟩
    | cons c l2 => simp only [Cell] at cb; exact ⟨_, cb, rfl, Or.inr ⟨_, _, rfl, rfl⟩⟩

end GV.Nrd
