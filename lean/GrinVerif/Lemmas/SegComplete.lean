import GrinVerif.Lemmas.SegProof
import GrinVerif.Lemmas.SegLive
/-! **Completeness of segments of an unpruned MMR** (C16): for every identifier whose range
intersects the MMR, `Segment::from_pmmr` over the Vec-backed view of the hash vector `PMMR::push`
builds yields the expected leaf list, its `root` is the committed subtree hash (or the bagged peaks
of the final segment), its `SegmentProof` re-bags to the MMR root, hence `validate` and
`validate_with` accept.  Then the bridge to lists: the
leaf list (`expectedLeaves`) and segment root (`expectedSegRoot`) an honest segment has, read off
the elements and the hash vector, agree with `leavesOf` / `segRootOf` (the list-level theorem is
`Props/C16.segment_complete`).  Core Lean only. -/
namespace GV.Seg
open GV GV.Pmmr

variable {α H : Type}

/-- the segment `from_pmmr(.., prunable = false)` builds: every leaf of the range, no hashes -/
def honestSeg (id : Ident) (dataAt : Nat → α) (ps : List Nat) (proof : List H) : Segment α H :=
  { id := id, hashPos := [], hashes := [],
    leafPos := (leavesOf dataAt ps).map (·.1), leafData := (leavesOf dataAt ps).map (·.2),
    proof := proof }

theorem honestSeg_leaves (id : Ident) (dataAt : Nat → α) (ps : List Nat) (proof : List H) :
    (honestSeg id dataAt ps proof).leafPos.zip (honestSeg id dataAt ps proof).leafData
      = leavesOf dataAt ps := (List.zip_of_prod rfl rfl).symm

theorem fromPmmrWith_unpruned (hf : HashFn α H) (v : View α H) (id : Ident) (ps : List Nat)
    (first last : Nat) (dataAt : Nat → α) (p0 : Nat) (ps' : List Nat) (hps : ps = p0 :: ps')
    (hleaf : height p0 = 0)
    (hdata : ∀ p ∈ ps, height p = 0 → v.dataFromFile p = some (dataAt p))
    (proof : List H) (hgen : generate hf v (1 + first) (1 + last) none = .ok proof) :
    fromPmmrWith hf v id false ps first last = .ok (honestSeg id dataAt ps proof) := by
  have hfill := fill_unpruned v dataAt ps hdata
  have hnil : (leavesOf dataAt ps).isEmpty = false := by
    rw [hps, leavesOf_cons, if_pos hleaf]; rfl
  unfold fromPmmrWith
  rw [hfill]
  simp only [hnil, Bool.false_and, Bool.false_eq_true, if_false, hgen, List.map_nil]
  rfl

theorem fromPmmr_unpruned (hf : HashFn α H) (v : View α H) (id : Ident) (N : Nat) (fit : FitId id N)
    (dataAt : Nat → α) (hsize : v.size = mmr N)
    (hdata : ∀ p, p < mmr N → height p = 0 → v.dataFromFile p = some (dataAt p))
    (proof : List H)
    (hgen : generate hf v (1 + (id.posRange (mmr N)).1) (1 + (id.posRange (mmr N)).2) none = .ok proof) :
    fromPmmr hf v id false = .ok (honestSeg id dataAt (id.positions (mmr N)) proof) := by
  have hlt := fit.positions_lt
  obtain ⟨ps, hps⟩ := fit.positions_head
  rw [fromPmmr_fit hf v id fit hsize]
  exact fromPmmrWith_unpruned hf v id _ _ _ dataAt _ ps hps (Co.height_mmr _)
    (fun p hp hl => hdata p (hlt p hp) hl) proof hgen

theorem final_root (hf : HashFn α H) (f : Nat → α) (N : Nat) (s : Segment α H) (v : FinalId s.id N)
    (hleaves : s.leafPos.zip s.leafData = leavesOf (dAt f) (s.id.positions (mmr N)))
    (sr : H) (hb : bag hf (mmr N) ((Co.forestFrom s.id.height (s.id.idx * 2 ^ s.id.height)
        (finalLeaves s.id N)).map (Co.nh hf f)) = some sr) :
    s.root hf (mmr N) none = .ok (some sr) := by
  have hfl := v.leaves_lt
  rw [root_final hf s N none v]
  rw [final_positions s.id N v] at hleaves
  exact rootWith_tiles_none hf s (mmr N) f _
    (fun c hc => Nat.le_of_eq (final_trees_mem s.id N v c hc).1) _ _
    (forestFrom_tiles s.id.height s.id.idx (finalLeaves s.id N) hfl).symm hleaves sr hb

/-- an unpruned, readable view of the MMR of `f 0 … f (N-1)`: everything on file, nothing removed -/
structure UnprunedView (hf : HashFn α H) (f : Nat → α) (N : Nat) (V : View α H) : Prop where
  size : V.size = mmr N
  data : ∀ p, p < mmr N → height p = 0 → V.dataFromFile p = some (dAt f p)
  hash : ∀ p, p < mmr N → V.hash p = some (hAt hf f p)
  file : ∀ p, p < mmr N → V.fromFile p = some (hAt hf f p)

theorem segment_complete_view (hf : HashFn α H) [DecidableEq H] (f : Nat → α) (N : Nat) (V : View α H)
    (uv : UnprunedView hf f N V) (id : Ident) (fit : FitId id N) :
    ∃ proof r sr, fromPmmr hf V id false = .ok (honestSeg id (dAt f) (id.positions (mmr N)) proof) ∧
      rootOf hf f N = some r ∧ segRootOf hf f N id = some sr ∧
      (honestSeg id (dAt f) (id.positions (mmr N)) proof).root hf (mmr N) none = .ok (some sr) ∧
      reconstructRoot hf proof (mmr N) (id.posRange (mmr N)).1 (id.posRange (mmr N)).2 sr
        (1 + (id.posRange (mmr N)).2) = .ok (r, []) ∧
      Accepts hf (honestSeg id (dAt f) (id.positions (mmr N)) proof) (mmr N) none r := by
  have hleft : ∀ p ∈ peaks (mmr N), p < mmr (id.idx * 2 ^ id.height) → V.hash p = some (hAt hf f p) :=
    fun p hp _ => uv.hash p (Co.peaks_lt_size hp)
  -- the parts that differ between the full and the final segment
  have key : ∃ proof r sr,
      generate hf V (1 + (id.posRange (mmr N)).1) (1 + (id.posRange (mmr N)).2) none = .ok proof ∧
      rootOf hf f N = some r ∧ segRootOf hf f N id = some sr ∧
      (∀ s : Segment α H, s.id = id →
        s.leafPos.zip s.leafData = leavesOf (dAt f) (id.positions (mmr N)) →
        s.root hf (mmr N) none = .ok (some sr)) ∧
      reconstructRoot hf proof (mmr N) (id.posRange (mmr N)).1 (id.posRange (mmr N)).2 sr
        (1 + (id.posRange (mmr N)).2) = .ok (r, []) := by
    rcases fit_cases id N fit with h | h
    · have hr := h.posRange
      obtain ⟨k, L, R, c⟩ := Co.exists_peakCtx (lastLeaf_lt id N h)
      obtain ⟨proof, r, hgen, hroot, hrec⟩ := branch_generate_reconstruct hf f N id V uv.size c
        id.height (Nat.le_refl _) (c.height_le (lastLeaf_valid id)) none (Or.inr ⟨rfl, rfl⟩)
        (fun j _ hjk => uv.hash _ ((Co.coord_lt_iff (Co.sibCo_valid _ j)).2 (c.sib_lt hjk)))
        (fun p hp => uv.file p (Co.peaks_lt_size hp)) hleft
      rw [anc_lastLeaf] at hrec
      have hfit := h.fits
      rw [hr]
      refine ⟨proof, r, hAt hf f (lastOf id), hgen, hroot, ?_, ?_, hrec⟩
      · exact segRootOf_full hf f h
      · intro s hid hl
        subst hid
        exact root_complete_full hf s (mmr N) (hAt hf f) (dAt f) (hAt_leafLaw hf f) (hAt_nodeLaw hf f)
          h [] (by rw [hl, List.append_nil])
    · have hr := h.posRange
      have hnfit : ¬ (id.idx + 1) * 2 ^ id.height ≤ N := by have := h.hi; omega
      have hne : (Co.forestFrom id.height (id.idx * 2 ^ id.height) (finalLeaves id N)).map (Co.nh hf f) ≠ [] := by
        simpa using final_forest_ne_nil id N h
      cases hb : bag hf (mmr N) ((Co.forestFrom id.height (id.idx * 2 ^ id.height)
          (finalLeaves id N)).map (Co.nh hf f)) with
      | none => exact absurd hb (Co.bag_ne_none hf (mmr N) _ hne)
      | some sr =>
        obtain ⟨proof, r, hgen, hroot, hrec⟩ := final_generate_reconstruct hf f N id h V uv.size hleft sr hb
        rw [hr]
        refine ⟨proof, r, sr, hgen, hroot, ?_, ?_, hrec⟩
        · rw [segRootOf_final hf f h]; exact hb
        · intro s hid hl
          subst hid
          exact final_root hf f N s h hl sr hb
  obtain ⟨proof, r, sr, hgen, hroot, hsr, hsroot, hrec⟩ := key
  have hfrom := fromPmmr_unpruned hf V id N fit (dAt f) uv.size uv.data proof hgen
  have hroot' := hsroot (honestSeg id (dAt f) (id.positions (mmr N)) proof) rfl (honestSeg_leaves ..)
  have hfup := fup_of_root_some hf _ (mmr N) none sr hroot'
  exact ⟨proof, r, sr, hfrom, hroot, hsr, hroot', hrec,
    validate_of_parts hf (honestSeg id (dAt f) (id.positions (mmr N)) proof) (mmr N) none sr r _ [] hfup hrec⟩

theorem vecView_unpruned (hf : HashFn α H) (f : Nat → α) (N : Nat) :
    UnprunedView hf f N (vecView (Co.allHashes hf f N) ((List.range N).map f)) where
  size := Co.allHashes_length hf f N
  data := fun p hp hl => vecView_data hf f N p hp hl
  hash := fun p hp => vecView_hash hf f N p hp _
  file := fun p hp => vecView_fromFile hf f N p hp _

/-- the leaf entry of one position: `(q, xs[j])` when `q` is the position of leaf `j` -/
def expectedLeaf (xs : List α) (q : Nat) : Option (Nat × α) :=
  match pmmrLeafToInsertionIndex q with
  | some j => xs[j]?.map fun x => (q, x)
  | none => none

/-- the leaf entries an honest segment carries for the positions `ps` of the MMR of `xs`:
`(position, xs[insertion index])` for every leaf position -/
def expectedLeaves (xs : List α) (ps : List Nat) : List (Nat × α) :=
  ps.filterMap (expectedLeaf xs)

/-- the root an honest segment has: the committed hash at its last position when it is full, the
hashes of the peaks inside its range bagged right to left (with the MMR size) when it is not -/
def expectedSegRoot (hf : HashFn α H) (hashes : List H) (id : Ident) : Option H :=
  if id.full hashes.length then hashes[(id.posRange hashes.length).2]?
  else bag hf hashes.length ((id.peaksIn hashes.length).reverse.filterMap fun p => hashes[p]?)

theorem expectedLeaf_spec (xs : List α) (f : Nat → α) (hf' : ∀ i (hi : i < xs.length), f i = xs[i])
    (q : Nat) (hq : q < mmr xs.length) :
    expectedLeaf xs q = if height q = 0 then some (q, dAt f q) else none := by
  obtain ⟨n, k, hk, rfl⟩ := Co.coord_surj q
  have hn : n < xs.length := (Co.coord_lt_iff hk).1 hq
  have hpm := Co.peakMapHeight_co n k hk
  have hh := Co.height_co n k hk
  unfold expectedLeaf pmmrLeafToInsertionIndex dAt
  rw [hpm, hh]
  by_cases hz : k = 0
  · simp [hz, hn, hf' n hn]
  · simp [hz]

theorem leavesOf_expected (xs : List α) (f : Nat → α) (hf' : ∀ i (hi : i < xs.length), f i = xs[i]) :
    ∀ (ps : List Nat), (∀ p ∈ ps, p < mmr xs.length) → leavesOf (dAt f) ps = expectedLeaves xs ps := by
  intro ps
  induction ps with
  | nil => intro _; rfl
  | cons p ps ih =>
    intro h
    have ih' := ih (fun q hq => h q (List.mem_cons_of_mem _ hq))
    have hp := expectedLeaf_spec xs f hf' p (h p (List.mem_cons_self ..))
    rw [leavesOf_cons, ih']
    unfold expectedLeaves
    rw [List.filterMap_cons, hp]
    by_cases hz : height p = 0 <;> simp [hz]

theorem expectedSegRoot_eq (hf : HashFn α H) (f : Nat → α) (N : Nat) (id : Ident) (fit : FitId id N) :
    expectedSegRoot hf (Co.allHashes hf f N) id = segRootOf hf f N id := by
  unfold expectedSegRoot segRootOf
  rw [Co.allHashes_length]
  rcases fit_cases id N fit with h | h
  · have hfull := h.full
    have hr := h.posRange
    have hfit := h.fits
    have hlt : lastOf id < mmr N := (Co.coord_lt_iff (lastLeaf_valid id)).2 (lastLeaf_lt id N h)
    rw [hfull, hr, if_pos hfit]
    simp only [if_true]
    exact allHashes_hAt hf f N _ hlt
  · have hfull := h.not_full
    have hnfit : ¬ (id.idx + 1) * 2 ^ id.height ≤ N := by have := h.hi; omega
    rw [hfull, if_neg hnfit, final_peaksIn id N h, List.reverse_reverse]
    simp only [Bool.false_eq_true, if_false]
    congr 1
    exact Co.filterMap_forest hf f N _ (fun c hc => by
      have := final_trees_mem id N h c hc; omega)

/-- a list that has a fitting identifier is not empty, hence `(List.range N).map f`; `N` is left
free of `xs.length` so that a caller can substitute `xs` away (`obtain ⟨N, f, rfl⟩`) -/
theorem exists_fn_of_fit {xs : List α} {id : Ident} (fit : FitId id xs.length) :
    ∃ N f, xs = (List.range N).map f := by
  have hne : xs ≠ [] := by
    intro h; have := fit.lo; rw [h] at this; simp at this
  obtain ⟨f, hxs, _⟩ := Co.list_as_fn xs hne
  exact ⟨xs.length, f, hxs⟩

end GV.Seg
