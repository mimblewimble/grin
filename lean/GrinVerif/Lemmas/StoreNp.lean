import GrinVerif.Lemmas.StoreHistory
import GrinVerif.Model.StoreExt
/-! The NON-PRUNABLE backend (`PMMRBackend::new(.., prunable = false, ..)`: the kernel MMR – variable
size elements – and the header MMR; the `else` side of every `if self.prunable` in
`store/src/pmmr.rs`, `Model/StoreExt.lean` `np*`) along histories of `push` / `rewind` / `sync` /
`discard` / `reopen`: step by step it is the prunable backend of the history theorems run on the same
operations, with the leaf set left empty.  Since such a history never removes a leaf, the prunable
run has every leaf unspent, so its observables are those of ALL leaves.  No Mathlib. -/
namespace GV.Store
open GV GV.Pmmr GV.Pmmr.Co

/-- the operations a non-prunable backend supports (`PMMR::prune` ends in `Backend::remove`'s
`assert!(self.prunable)`, `check_compact` asserts as well) -/
def HOp.np : HOp → Bool
  | .push _ => true
  | .rewind _ rm => rm == []
  | .sync => true
  | .discard => true
  | .reopen => true
  | _ => false

/-- the store side of the operations on a non-prunable backend; the handle is re-created at
`unpruned_size` after `discard` / `reopen` as `PMMRHandle` does -/
def npstep {H : Type} (el : Bytes → Option Nat) (hf : HashFn Bytes H) (p : PM H) : HOp → PM H
  | .push e => (PM.npPush hf p e).getD p
  | .rewind N' _ => PM.npRewind p (mmr N')
  | .sync => { p with b := p.b.npSync }
  | .discard => { b := p.b.discard, size := p.b.discard.unprunedSize }
  | .reopen => { b := p.b.reopen el, size := (p.b.reopen el).unprunedSize }
  | _ => p

/-- `pn` is the prunable `pp` with the leaf set never written: empty prune list on both sides -/
def NSim {H : Type} (pn pp : PM H) : Prop :=
  pn = { b := { pp.b with leafSet := {} }, size := pp.size } ∧ pp.b.pruneList = {} ∧ pp.b.pruneFile = []

theorem openBm_nil : PruneList.openBm [] = {} := PruneList.openBm_of_inv PruneList.inv_empty

namespace NSim
variable {H : Type} {el : Bytes → Option Nat} {hf : HashFn Bytes H} {pn pp : PM H}

theorem step (h : NSim pn pp) (op : HOp) (hop : op.np = true) :
    NSim (npstep el hf pn op) (bstep el hf pp op) := by
  obtain ⟨e0, hpl, hpf⟩ := h
  subst e0
  cases op with
  | push e =>
    -- `push` reads the backend through `get_peak_from_file` (hash file, prune list) and appends
    simp only [npstep, bstep, PM.npPush, PM.push,
      show ({ pp.b with leafSet := {} } : Backend H).getPeakFromFile = pp.b.getPeakFromFile from rfl]
    cases pushHashes hf pp.b.getPeakFromFile pp.size e with
    | none => exact ⟨rfl, hpl, hpf⟩
    | some hashes =>
      simp only [Backend.npAppend, Backend.append]
      cases pp.b.dataFile.append e with
      | none => exact ⟨rfl, hpl, hpf⟩
      | some r => exact ⟨rfl, hpl, hpf⟩
  | prune p => exact absurd hop (by simp [HOp.np])
  | rewind N' rm =>
    simp only [npstep, bstep, PM.npRewind, PM.rewind, Backend.npRewind, Backend.rewind]
    exact ⟨rfl, hpl, hpf⟩
  | sync => exact ⟨rfl, hpl, by show pp.b.pruneList.bitmap = []; rw [hpl]⟩
  | discard => exact ⟨rfl, hpl, hpf⟩
  | compact K rm => exact absurd hop (by simp [HOp.np])
  | reopen =>
    simp only [npstep, bstep, Backend.reopen, hpf, openBm_nil]
    exact ⟨rfl, rfl, rfl⟩

theorem run : ∀ (ops : List HOp) (pn pp : PM H), NSim pn pp → (∀ op ∈ ops, op.np = true) →
    NSim (ops.foldl (npstep el hf) pn) (ops.foldl (bstep el hf) pp) := by
  intro ops
  induction ops with
  | nil => intro pn pp h _; exact h
  | cons op ops ih =>
    intro pn pp h hall
    exact ih _ _ (h.step op (hall op List.mem_cons_self)) (fun o ho => hall o (List.mem_cons_of_mem _ ho))

theorem init : NSim ({} : PM H) ({} : PM H) := ⟨rfl, rfl, rfl⟩

theorem initVar : NSim ({ b := { dataFile := .var {} }, size := 0 } : PM H)
    ({ b := { dataFile := .var {} }, size := 0 } : PM H) := ⟨rfl, rfl, rfl⟩

theorem size (h : NSim pn pp) : pn.size = pp.size := by
  obtain ⟨e, _, _⟩ := h; rw [e]

theorem unprunedSize (h : NSim pn pp) : pn.b.unprunedSize = pp.b.unprunedSize := by
  obtain ⟨e, _, _⟩ := h; rw [e]; rfl

theorem getPeakFromFile (h : NSim pn pp) : pn.b.getPeakFromFile = pp.b.getPeakFromFile := by
  obtain ⟨e, _, _⟩ := h; rw [e]; rfl

/-- `root` over a non-prunable backend (`ReadablePMMR::root` through `get_peak_from_file`) -/
theorem root (h : NSim pn pp) : rootG hf pn.size pn.npGetPeak = PM.root hf pp := by
  obtain ⟨e, _, _⟩ := h; rw [e]; rfl

theorem getFromFile (h : NSim pn pp) (q : Nat) : pn.b.getFromFile q = pp.b.getFromFile q := by
  obtain ⟨e, hpl, _⟩ := h
  rw [e]
  unfold Backend.getFromFile
  rw [Backend.isCompacted_false hpl, Backend.isCompacted_false (b := { pp.b with leafSet := {} }) hpl]

theorem getHash (h : NSim pn pp) (q : Nat) (hq : (q + 1) ∈ pp.b.leafSet.bitmap) :
    PM.npGetHash pn q = PM.getHash pp q := by
  have hg := h.getFromFile q
  have hs := h.size
  unfold PM.npGetHash PM.getHash Backend.npGetHash Backend.getHash
  rw [hs, hg]
  have hinc : pp.b.leafSet.includes q = true := LeafSet.includes_iff.2 hq
  simp [hinc]

theorem getData (h : NSim pn pp) (q : Nat) (hq : (q + 1) ∈ pp.b.leafSet.bitmap) :
    PM.npGetData el pn q = PM.getData el pp q := by
  obtain ⟨e, hpl, hpf⟩ := h
  have hinc : pp.b.leafSet.includes q = true := LeafSet.includes_iff.2 hq
  rw [e]
  unfold PM.npGetData PM.getData Backend.npGetData Backend.getData Backend.getDataFromFile
  rw [Backend.isCompacted_false hpl, Backend.isCompacted_false (b := { pp.b with leafSet := {} }) hpl]
  simp only [hinc]
  rfl

end NSim

def RefView.AllUnspent (v : RefView) : Prop := ∀ i, i < v.es.length → mmr i ∈ v.U

theorem allUnspent_step (r : RefSt) (op : HOp) (hop : op.np = true) (hok : r.ok op)
    (h1 : r.cur.AllUnspent) (h2 : r.saved.AllUnspent) :
    (r.step op).cur.AllUnspent ∧ (r.step op).saved.AllUnspent := by
  cases op with
  | push e =>
    refine ⟨?_, h2⟩
    intro i hi
    simp only [RefSt.step, List.length_append, List.length_cons, List.length_nil] at hi ⊢
    rw [List.mem_append]
    by_cases hlt : i < r.cur.es.length
    · exact Or.inl (h1 i hlt)
    · have : i = r.cur.es.length := by omega
      right; rw [this]; simp
  | prune p => exact absurd hop (by simp [HOp.np])
  | rewind N' rm =>
    obtain ⟨_, _, hN, _⟩ := hok
    refine ⟨?_, h2⟩
    intro i hi
    simp only [RefSt.step, List.length_take] at hi ⊢
    rw [List.mem_append]
    left
    rw [List.mem_filter]
    have hi1 : i < N' := by omega
    have hi2 : i < r.cur.es.length := by omega
    exact ⟨h1 i hi2, by simpa using mmr_lt_mmr hi1⟩
  | sync => exact ⟨h1, h1⟩
  | discard => exact ⟨h2, h2⟩
  | compact K rm => exact absurd hop (by simp [HOp.np])
  | reopen => exact ⟨h1, h2⟩

theorem allUnspent_run : ∀ (ops : List HOp) (r : RefSt), (∀ op ∈ ops, op.np = true) → RefSt.Proto r ops →
    r.cur.AllUnspent → r.saved.AllUnspent → (ops.foldl RefSt.step r).cur.AllUnspent := by
  intro ops
  induction ops with
  | nil => intro r _ _ h _; exact h
  | cons op ops ih =>
    intro r hall hp h1 h2
    obtain ⟨a, b⟩ := allUnspent_step r op (hall op List.mem_cons_self) hp.1 h1 h2
    exact ih _ (fun o ho => hall o (List.mem_cons_of_mem _ ho)) hp.2 a b

theorem np_of_prunable {H : Type} {el : Bytes → Option Nat} {hf : HashFn Bytes H}
    {pn pp : PM H} {r : RefSt} (hs : NSim pn pp) (hall : r.cur.AllUnspent) (o : Obs el hf pp r) :
    pn.size = mmr r.cur.es.length ∧
    (r.dirty = false → pn.b.unprunedSize = mmr r.cur.es.length) ∧
    rootG hf pn.size pn.npGetPeak = Pmmr.root hf (allHashes hf (leafFn r.cur.es) r.cur.es.length) ∧
    pn.b.leafSet = {} ∧
    (∀ i, i < r.cur.es.length →
      PM.npGetHash pn (mmr i) = some (refHash hf (leafFn r.cur.es) (mmr i)) ∧
      PM.npGetData el pn (mmr i) = some (r.cur.es.getD i [])) ∧
    (∀ pk ∈ peaks (mmr r.cur.es.length),
      pn.b.getPeakFromFile pk = some (refHash hf (leafFn r.cur.es) pk)) := by
  refine ⟨hs.size.trans o.size, fun hd => hs.unprunedSize.trans (o.usize hd), hs.root.trans o.root,
    by rw [hs.1], ?_, fun pk hpk => by rw [hs.getPeakFromFile]; exact o.peak pk hpk⟩
  intro i hi
  have hu := hall i hi
  have hm := (o.unspent (mmr i)).2 hu
  obtain ⟨j, hj, hij, a3, _, a5⟩ := o.leaf (mmr i) hu
  have : i = j := mmr_inj hij
  subst this
  exact ⟨by rw [hs.getHash _ hm]; exact a3, by rw [hs.getData _ hm]; exact a5⟩

end GV.Store
