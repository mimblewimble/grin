import GrinVerif.Model.CrashAof
import GrinVerif.Lemmas.Bytes
import GrinVerif.Lemmas.UtilList
/-! Lemmas for the byte-level `AppendOnlyFile` model: the `SizeEntry` codec round-trips, fixed-size
chunk arithmetic on the size file, canonical offsets. -/
namespace GV.CrashAof

theorem ofBE_beBytes (w n : Nat) : ofBE (beBytes w n) = n % 256 ^ w := GV.ofBE_beBytes w n

theorem encEntry_length (e : Nat × Nat) : (encEntry e).length = 10 := by
  simp [encEntry, beBytes_length]

/-- decoding what `SizeEntry::write` wrote -/
def decEntry (b : Bytes) : Nat × Nat := (ofBE (b.take 8), ofBE ((b.drop 8).take 2))

theorem decEntry_enc (e : Nat × Nat) (h1 : e.1 < 2 ^ 64) (h2 : e.2 < 2 ^ 16) : decEntry (encEntry e) = e := by
  unfold decEntry encEntry
  have l8 : (beBytes 8 e.1).length = 8 := beBytes_length _ _
  have l2 : (beBytes 2 e.2).length = 2 := beBytes_length _ _
  rw [List.take_left' l8, List.drop_left' l8, List.take_of_length_le (by omega)]
  rw [ofBE_beBytes, ofBE_beBytes]
  have a : e.1 % 256 ^ 8 = e.1 := Nat.mod_eq_of_lt (by simpa using h1)
  have b : e.2 % 256 ^ 2 = e.2 := Nat.mod_eq_of_lt (by simpa using h2)
  rw [a, b]

def entBytes (L : List (Nat × Nat)) : Bytes := L.flatMap encEntry

theorem entBytes_length (L : List (Nat × Nat)) : (entBytes L).length = 10 * L.length := by
  induction L with
  | nil => rfl
  | cons a L ih => simp [entBytes, List.flatMap_cons, encEntry_length] at ih ⊢; omega

theorem entBytes_append (A B : List (Nat × Nat)) : entBytes (A ++ B) = entBytes A ++ entBytes B := by
  simp [entBytes]

theorem entBytes_drop (L : List (Nat × Nat)) (i : Nat) : (entBytes L).drop (i * 10) = entBytes (L.drop i) :=
  flatMap_drop_chunks encEntry 10 encEntry_length L i

theorem entBytes_take (L : List (Nat × Nat)) (i : Nat) : (entBytes L).take (i * 10) = entBytes (L.take i) :=
  flatMap_take_chunks encEntry 10 encEntry_length L i

/-- a synced fixed-size file holding exactly `disk` -/
def syncedRaw (s : Nat) (disk : Bytes) (n : Nat) : Raw :=
  { s := s, disk := disk, buf := [], bsp := n, bak := 0, mmap := if disk.length = 0 then none else some disk }

theorem read_mapped (f : Raw) (m : Bytes) (i : Nat) (hm : f.mmap = some m) (hi : i < f.bsp)
    (hlen : i * f.s + f.s ≤ m.length) : f.read i = (m.drop (i * f.s)).take f.s := by
  unfold Raw.read Raw.sizeUnsync Raw.readMmap
  have hq : i < f.bsp + f.buf.length / f.s := Nat.lt_of_lt_of_le hi (Nat.le_add_right _ _)
  rw [if_neg (Nat.not_le.mpr hq), if_pos hi, hm]
  simp only []
  rw [if_neg (Nat.not_lt.mpr hlen)]

theorem read_buffered (f : Raw) (j : Nat) (hs : 0 < f.s) (hlen : j * f.s + f.s ≤ f.buf.length) :
    f.read (f.bsp + j) = (f.buf.drop (j * f.s)).take f.s := by
  unfold Raw.read Raw.sizeUnsync Raw.readBuf
  have hq : j < f.buf.length / f.s :=
    Nat.lt_of_lt_of_le (Nat.lt_succ_self j) ((Nat.le_div_iff_mul_le hs).2 (by rwa [Nat.succ_mul]))
  rw [if_neg (Nat.not_le.2 (Nat.add_lt_add_left hq _)), if_neg (Nat.not_lt.2 (Nat.le_add_right _ _)),
    Nat.add_mul, Nat.add_sub_cancel_left, if_neg (Nat.not_lt.mpr hlen)]

theorem readEntry_of_read (f : Raw) (i : Nat) (e : Nat × Nat) (hb : f.read i = encEntry e)
    (h1 : e.1 < 2 ^ 64) (h2 : e.2 < 2 ^ 16) : f.readEntry i = some e := by
  unfold Raw.readEntry
  simp only [hb, encEntry_length]
  have := decEntry_enc e h1 h2
  unfold decEntry at this
  simp [this]

theorem entBytes_get (L : List (Nat × Nat)) (i : Nat) (e : Nat × Nat) (hL : L[i]? = some e) :
    ((entBytes L).drop (i * 10)).take 10 = encEntry e := by
  obtain ⟨hil, rfl⟩ := List.getElem?_eq_some_iff.mp hL
  rw [entBytes_drop, List.drop_eq_getElem_cons hil]
  simp only [entBytes, List.flatMap_cons]
  exact List.take_left' (encEntry_length _)

theorem readEntry_mapped (f : Raw) (L : List (Nat × Nat)) (i : Nat) (e : Nat × Nat)
    (hs : f.s = 10) (hm : f.mmap = some (entBytes L)) (hi : i < f.bsp) (hL : L[i]? = some e)
    (h1 : e.1 < 2 ^ 64) (h2 : e.2 < 2 ^ 16) : f.readEntry i = some e := by
  have hil : i < L.length := (List.getElem?_eq_some_iff.mp hL).1
  apply readEntry_of_read f i e _ h1 h2
  rw [read_mapped f _ i hm hi (by rw [entBytes_length, hs]; omega), hs, entBytes_get L i e hL]

theorem readEntry_buffered (f : Raw) (B : List (Nat × Nat)) (j : Nat) (e : Nat × Nat)
    (hs : f.s = 10) (hb : f.buf = entBytes B) (hB : B[j]? = some e)
    (h1 : e.1 < 2 ^ 64) (h2 : e.2 < 2 ^ 16) : f.readEntry (f.bsp + j) = some e := by
  have hil : j < B.length := (List.getElem?_eq_some_iff.mp hB).1
  apply readEntry_of_read f _ e _ h1 h2
  rw [read_buffered f j (by omega) (by rw [hb, entBytes_length, hs]; omega), hs, hb, entBytes_get B _ e hB]

/-- canonical entries of a list of element encodings (`offset` = bytes before, `size` = own length) -/
def offs : List Bytes → Nat → List (Nat × Nat)
  | [], _ => []
  | e :: es, off => (off, e.length) :: offs es (off + e.length)

theorem offs_length (es : List Bytes) : ∀ off, (offs es off).length = es.length := by
  induction es with
  | nil => intro off; rfl
  | cons e es ih => intro off; simp [offs, ih]

theorem offs_append (A B : List Bytes) : ∀ off,
    offs (A ++ B) off = offs A off ++ offs B (off + A.flatten.length) := by
  induction A with
  | nil => intro off; simp [offs]
  | cons a A ih =>
    intro off
    simp only [List.cons_append, offs, List.flatten_cons, List.length_append, List.cons.injEq, true_and]
    rw [ih]; congr 2; omega

theorem offs_take (es : List Bytes) : ∀ (p off : Nat), offs (es.take p) off = (offs es off).take p := by
  induction es with
  | nil => intro p off; simp [offs]
  | cons e es ih =>
    intro p off
    cases p with
    | zero => simp [offs]
    | succ p => simp [offs, ih]

theorem offs_get (es : List Bytes) : ∀ (i off : Nat) (x : Bytes), es[i]? = some x →
    (offs es off)[i]? = some (off + (es.take i).flatten.length, x.length) := by
  induction es with
  | nil => intro i off x h; simp at h
  | cons e es ih =>
    intro i off x h
    cases i with
    | zero => simp at h; subst h; simp [offs]
    | succ i =>
      simp only [List.getElem?_cons_succ] at h
      simp only [offs, List.getElem?_cons_succ, List.take_succ_cons, List.flatten_cons, List.length_append]
      rw [ih i (off + e.length) x h]
      congr 2; omega

end GV.CrashAof
