import GrinVerif.Lemmas.PmmrBranch
import GrinVerif.Lemmas.PmmrSpec
/-! `merkle_proof` and `MerkleProof::verify` (C07).  Completeness along the coordinate path of a
leaf: the canonical path, and the produced proof verifies.  Soundness for collision-free hash
functions: a proof that verifies against the root of an MMR for a leaf position inside it carries
the element stored at that position and is the canonical path.  Core Lean only. -/
namespace GV.Pmmr.Co
open GV GV.Pmmr

variable {α H : Type}

/-- sibling hashes of levels `j … j+d-1` on the way up from leaf `i` -/
def treePath (hf : HashFn α H) (f : Nat → α) (i j d : Nat) : List H :=
  (List.range' j d).map fun j => nh hf f (sibCo i j)

/-- the part of the path above the peak: the bagged peaks to the right (if any), then the peaks to
the left from right to left -/
def peakPart (hf : HashFn α H) (f : Nat → α) (size : Nat) (L R : List (Nat × Nat)) : List H :=
  (match bag hf size (R.map (nh hf f)) with
    | some r => [r]
    | none => []) ++ (L.map (nh hf f)).reverse

/-- the root in terms of the split forest -/
def rootAt (hf : HashFn α H) (f : Nat → α) (size : Nat) (L : List (Nat × Nat)) (p : Nat × Nat)
    (R : List (Nat × Nat)) : H :=
  (L.map (nh hf f)).foldr (fun x acc => hf.node size x acc) (bagNE hf size (nh hf f p) (R.map (nh hf f)))

theorem peakPart_nil (hf : HashFn α H) (f : Nat → α) (size : Nat) (L : List (Nat × Nat)) :
    peakPart hf f size L [] = (L.map (nh hf f)).reverse := rfl

theorem peakPart_cons (hf : HashFn α H) (f : Nat → α) (size : Nat) (L : List (Nat × Nat))
    (r : Nat × Nat) (R : List (Nat × Nat)) :
    peakPart hf f size L (r :: R)
      = bagNE hf size (nh hf f r) (R.map (nh hf f)) :: (L.map (nh hf f)).reverse := by
  simp only [peakPart, List.map_cons, bag_cons, List.singleton_append]

theorem treePath_succ (hf : HashFn α H) (f : Nat → α) (i j d : Nat) :
    treePath hf f i j (d+1) = nh hf f (sibCo i j) :: treePath hf f i (j+1) d := by
  simp only [treePath, List.range'_succ, List.map_cons]

theorem bag_forest {N i k : Nat} {L R : List (Nat × Nat)} (c : PeakCtx N i k L R)
    (hf : HashFn α H) (f : Nat → α) (size : Nat) :
    bag hf size ((forest N).map (nh hf f)) = some (rootAt hf f size L (up i k, k) R) := by
  rw [c.split, List.map_append, List.map_cons, bag_append_cons]; rfl

theorem filterMap_branchCo {N i k : Nat} {L R : List (Nat × Nat)} (c : PeakCtx N i k L R)
    (hf : HashFn α H) (f : Nat → α) : ∀ d j, j + d ≤ k →
      (branchCo i j d).filterMap (fun x => (allHashes hf f N)[x.2]?) = treePath hf f i j d := by
  intro d
  induction d with
  | zero => intro j _; simp [branchCo, treePath]
  | succ d ih =>
    intro j hj
    have hs := allHashes_getElem? hf f N (sibCo i j).1 (sibCo i j).2 (c.sib_lt (Nat.lt_of_lt_of_le (Nat.lt_add_of_pos_right (Nat.succ_pos d)) hj)) (sibCo_valid i j)
    have := ih (j+1) (by rw [Nat.add_right_comm]; exact hj)
    simp only [branchCo, treePath, List.range'_succ, List.map_cons, List.filterMap_cons] at this ⊢
    simp only [cpos] at hs ⊢
    rw [hs]
    simp only [List.cons.injEq, true_and]
    exact this

theorem branchCo_getLast? (i k : Nat) :
    (branchCo i 0 (k+1)).getLast? = some (cpos (up i (k+1), k+1), cpos (sibCo i k)) := by
  simp only [branchCo, List.range'_1_concat, List.map_append, List.map_cons, List.map_nil,
    List.getLast?_concat, Nat.zero_add]

theorem peakPath_coord {N i k : Nat} {L R : List (Nat × Nat)} (c : PeakCtx N i k L R)
    (hf : HashFn α H) (f : Nat → α) :
    peakPath hf (allHashes hf f N) (cpos (up i k, k)) = peakPart hf f (mmr N) L R := by
  simp only [peakPath, bagTheRhs, allHashes_length, c.filter_lt, c.filter_gt,
    filterMap_forest hf f N L c.left_valid, filterMap_forest hf f N R c.right_valid]
  simp only [peakPart]
  cases bag hf (mmr N) (R.map (nh hf f)) with
  | none => simp
  | some r => simp

theorem merkleProof_coord {N i k : Nat} {L R : List (Nat × Nat)} (c : PeakCtx N i k L R)
    (hf : HashFn α H) (f : Nat → α) :
    merkleProof hf (allHashes hf f N) (mmr i)
      = some (mmr N, treePath hf f i 0 k ++ peakPart hf f (mmr N) L R) := by
  have hleaf := isLeaf_mmr i
  have hget := allHashes_getElem? hf f N i 0 c.i_lt (Nat.zero_le _)
  simp only [Nat.add_zero] at hget
  have hpp := peakPath_coord c hf f
  simp only [merkleProof, hleaf, Bool.not_true, Bool.false_eq_true, if_false, hget,
    allHashes_length, familyBranch_leaf c, filterMap_branchCo c hf f k 0 (Nat.le_of_eq (Nat.zero_add k))]
  cases k with
  | zero =>
    simp only [cpos, up_zero, Nat.add_zero] at hpp
    simp only [branchCo, List.range'_zero, List.map_nil, List.getLast?_nil, hpp]
  | succ k =>
    simp only [branchCo_getLast?, hpp]

section verify
variable [DecidableEq H]

theorem va_nil (hf : HashFn α H) {root : H} {size : Nat} {pks : List Nat} {eh : Nat → H} {pos : Nat}
    (hlt : pos < size) : verifyAux hf root size pks [] eh pos = (root == eh pos) := by
  rw [verifyAux, if_neg (Nat.not_le.2 hlt)]

/-- once past the size, every remaining path hash is bagged onto the left -/
theorem va_beyond (hf : HashFn α H) (root : H) (N : Nat) :
    ∀ (path : List H) (eh : Nat → H) (pos : Nat), mmr N ≤ pos →
      verifyAux hf root (mmr N) (peaks (mmr N)) path eh pos
        = (root == path.foldl (fun acc s => hf.node (mmr N) s acc) (eh (mmr N))) := by
  intro path
  induction path with
  | nil => intro eh pos hge; rw [verifyAux, if_pos hge]; rfl
  | cons sib rest ih =>
    intro eh pos hge
    rw [verifyAux]
    have hnone : findIdx (peaks (mmr N)) pos = none :=
      findIdx_none _ _ (fun h => by have := peaks_lt_size h; omega)
    have hfam := family_fst_gt pos
    simp only [hnone, if_pos hge]
    rw [if_pos (by omega), ih _ _ (by omega)]
    rfl

variable {N i k : Nat} {L R : List (Nat × Nat)}

/-- the next running hash of `verify_consume`: for a right child the sibling goes to the left -/
def joinAt (hf : HashFn α H) : Bool → H → H → Nat → H
  | true, sib, cur => fun t => hf.node t sib cur
  | false, sib, cur => fun t => hf.node t cur sib

/-- below the peak: hash with the sibling on the side the tree says -/
theorem va_tree (c : PeakCtx N i k L R) (hf : HashFn α H) (root : H) {j : Nat} (hj : j < k)
    (sib : H) (rest : List H) (eh : Nat → H) :
    verifyAux hf root (mmr N) (peaks (mmr N)) (sib :: rest) eh (cpos (up i j, j))
      = verifyAux hf root (mmr N) (peaks (mmr N)) rest
          (joinAt hf (bitSet i j) sib (eh (cpos (up i j, j)))) (cpos (up i (j+1), j+1)) := by
  have h1 := c.cpos_lt (Nat.le_of_lt hj)
  have h2 := c.cpos_lt (show j + 1 ≤ k from hj)
  have n1 : ¬ (cpos (up i j, j) ≥ mmr N) := Nat.not_le.2 h1
  have n2 : ¬ (cpos (up i (j+1), j+1) ≥ mmr N) := Nat.not_le.2 h2
  rw [verifyAux]
  simp only [family_up, c.findIdx_below hj, isLeftSibling_sibCo, n1, n2, if_false]
  cases bitSet i j <;> simp [joinAt]

/-- at the peak: the first path hash is the left neighbour (last peak) or the bag to the right -/
theorem va_peak (c : PeakCtx N i k L R) (hf : HashFn α H) (root : H)
    (sib : H) (rest : List H) (eh : Nat → H) :
    verifyAux hf root (mmr N) (peaks (mmr N)) (sib :: rest) eh (cpos (up i k, k))
      = verifyAux hf root (mmr N) (peaks (mmr N)) rest
          (joinAt hf R.isEmpty sib (eh (cpos (up i k, k)))) (cpos (up i (k+1), k+1)) := by
  have n1 : ¬ (cpos (up i k, k) ≥ mmr N) := Nat.not_le.2 (c.cpos_lt (Nat.le_refl k))
  have hlen := c.peaks_length
  rw [verifyAux]
  simp only [family_up, c.findIdx_peak, n1, if_false]
  cases R with
  | nil => rw [if_pos (by simpa using hlen.symm)]; rfl
  | cons r R' => rw [if_neg (by simp at hlen; omega)]; rfl

omit [DecidableEq H] in
/-- the hash of the next ancestor, in the orientation `verify_consume` builds it -/
theorem nodeHash_up (hf : HashFn α H) (f : Nat → α) (i j : Nat) :
    nodeHash hf f (up i (j+1)) (j+1)
      = joinAt hf (bitSet i j) (nh hf f (sibCo i j)) (nodeHash hf f (up i j) j)
          (cpos (up i (j+1), j+1)) := by
  cases hb : bitSet i j with
  | true =>
    simp only [joinAt, nh, (step_right hb).sib, (step_right hb).up_succ]
    rfl
  | false =>
    simp only [joinAt, nh, (step_left hb).sib]
    rw [nodeHash, (step_left hb).up_succ, Nat.add_sub_cancel]
    rfl

/-- at the peak the peak part of the path rebuilds the bagged root -/
theorem complete_peak (c : PeakCtx N i k L R) (hf : HashFn α H) (f : Nat → α) (eh : Nat → H)
    (heh : eh (cpos (up i k, k)) = nodeHash hf f (up i k) k) :
    verifyAux hf (rootAt hf f (mmr N) L (up i k, k) R) (mmr N) (peaks (mmr N))
      (peakPart hf f (mmr N) L R) eh (cpos (up i k, k)) = true := by
  have hlt := c.cpos_lt (Nat.le_refl k)
  have hge := c.parent_ge
  cases R with
  | nil =>
    simp only [peakPart_nil, List.map_nil, rootAt, bagNE]
    rcases List.eq_nil_or_concat L with rfl | ⟨L', l, rfl⟩
    · simp only [List.map_nil, List.reverse_nil, List.foldr_nil]
      rw [va_nil hf hlt, heh]; simp
    · rw [List.concat_eq_append, List.map_append, List.reverse_append]
      simp only [List.map_cons, List.map_nil, List.reverse_cons, List.reverse_nil, List.nil_append,
        List.singleton_append, List.foldr_append, List.foldr_cons, List.foldr_nil]
      rw [va_peak c, va_beyond hf _ N _ _ _ hge, List.foldl_reverse]
      simp only [List.isEmpty, joinAt, heh]
      simp
  | cons r R' =>
    simp only [peakPart_cons, rootAt, List.map_cons, bagNE]
    rw [va_peak c, va_beyond hf _ N _ _ _ hge, List.foldl_reverse]
    simp only [List.isEmpty, joinAt, heh]
    simp

/-- below the peak, by induction on the levels left: each sibling hash rebuilds the next ancestor -/
theorem complete_tree (c : PeakCtx N i k L R) (hf : HashFn α H) (f : Nat → α) :
    ∀ d j (eh : Nat → H), j + d = k → eh (cpos (up i j, j)) = nodeHash hf f (up i j) j →
      verifyAux hf (rootAt hf f (mmr N) L (up i k, k) R) (mmr N) (peaks (mmr N))
        (treePath hf f i j d ++ peakPart hf f (mmr N) L R) eh (cpos (up i j, j)) = true := by
  intro d
  induction d with
  | zero =>
    intro j eh hj heh
    obtain rfl : j = k := hj
    simpa [treePath] using complete_peak c hf f eh heh
  | succ d ih =>
    intro j eh hj heh
    rw [treePath_succ, List.cons_append, va_tree c hf _ (hj ▸ Nat.lt_add_of_pos_right (Nat.succ_pos d))]
    apply ih (j+1) _ ((Nat.add_right_comm j 1 d).trans hj)
    rw [nodeHash_up, heh]

theorem verify_complete (c : PeakCtx N i k L R) (hf : HashFn α H) (f : Nat → α) :
    verify hf (rootAt hf f (mmr N) L (up i k, k) R) (mmr N)
      (treePath hf f i 0 k ++ peakPart hf f (mmr N) L R) (f i) (mmr i) = true := by
  have := complete_tree c hf f k 0 (fun t => hf.leaf t (f i)) (Nat.zero_add k)
    (by simp [cpos, up_zero, nodeHash])
  simpa [verify, cpos, up_zero] using this

end verify

/-- collision-freedom, stated the way it is used: the two hash shapes are injective in all their
arguments and never coincide.  Holds literally for the free term algebra (`HTerm` below); for the
real Blake2b-based hashes it is the standard idealisation. -/
structure CollisionFree (hf : HashFn α H) : Prop where
  leaf_inj : ∀ {i e i' e'}, hf.leaf i e = hf.leaf i' e' → i = i' ∧ e = e'
  node_inj : ∀ {i a b i' a' b'}, hf.node i a b = hf.node i' a' b' → i = i' ∧ a = a' ∧ b = b'
  leaf_ne_node : ∀ {i e j a b}, hf.leaf i e ≠ hf.node j a b

/-- the free term algebra of hashes -/
inductive HTerm (α : Type) where
  | leaf (i : Nat) (e : α)
  | node (i : Nat) (l r : HTerm α)
deriving DecidableEq, Repr

def termHF (α : Type) : HashFn α (HTerm α) := ⟨HTerm.leaf, HTerm.node⟩

theorem termHF_collisionFree (α : Type) : CollisionFree (termHF α) where
  leaf_inj := by intro i e i' e' h; injection h with h1 h2; exact ⟨h1, h2⟩
  node_inj := by intro i a b i' a' b' h; injection h with h1 h2 h3; exact ⟨h1, h2, h3⟩
  leaf_ne_node := by intro i e j a b h; cases h

/-- `x` is a hash made with index `t` -/
def HasIdx (hf : HashFn α H) (x : H) (t : Nat) : Prop :=
  (∃ e, x = hf.leaf t e) ∨ (∃ a b, x = hf.node t a b)

theorem HasIdx.unique {hf : HashFn α H} (cf : CollisionFree hf) {x : H} {s t : Nat}
    (hs : HasIdx hf x s) (ht : HasIdx hf x t) : s = t := by
  rcases hs with ⟨e, rfl⟩ | ⟨a, b, rfl⟩ <;> rcases ht with ⟨e', h⟩ | ⟨a', b', h⟩
  · exact (cf.leaf_inj h).1
  · exact absurd h cf.leaf_ne_node
  · exact absurd h.symm cf.leaf_ne_node
  · exact (cf.node_inj h).1

theorem nodeHash_hasIdx (hf : HashFn α H) (f : Nat → α) (n h : Nat) :
    HasIdx hf (nodeHash hf f n h) (mmr n + h) := by
  cases h with
  | zero => exact Or.inl ⟨f n, rfl⟩
  | succ h => exact Or.inr ⟨_, _, rfl⟩

/-- whatever index the running hash of `verify_consume` is given, the result carries that index -/
def Indexed (hf : HashFn α H) (eh : Nat → H) : Prop := ∀ t, HasIdx hf (eh t) t

theorem indexed_leaf (hf : HashFn α H) (e : α) : Indexed hf (fun t => hf.leaf t e) :=
  fun _ => Or.inl ⟨e, rfl⟩

theorem indexed_joinAt (hf : HashFn α H) (b : Bool) (s c : H) : Indexed hf (joinAt hf b s c) := by
  cases b <;> exact fun _ => Or.inr ⟨_, _, rfl⟩

theorem joinAt_inj {hf : HashFn α H} (cf : CollisionFree hf) {b : Bool} {s c s' c' : H} {t : Nat}
    (h : joinAt hf b s c t = joinAt hf b s' c' t) : c = c' ∧ s = s' := by
  cases b
  · exact ⟨(cf.node_inj h).2.1, (cf.node_inj h).2.2⟩
  · exact ⟨(cf.node_inj h).2.2, (cf.node_inj h).2.1⟩

theorem nh_ne_node_size {hf : HashFn α H} (cf : CollisionFree hf) (f : Nat → α) {N : Nat} {c : Nat × Nat}
    (hc : c.2 ≤ trailingOnes c.1 ∧ c.1 < N) (a b : H) : nh hf f c ≠ hf.node (mmr N) a b := by
  intro h
  have h1 := nodeHash_hasIdx hf f c.1 c.2
  have h2 : HasIdx hf (nh hf f c) (mmr N) := Or.inr ⟨a, b, h⟩
  have := HasIdx.unique cf h1 h2
  have := (coord_lt_iff hc.1).2 hc.2
  omega

/-- a chain of hashes over the size around `C'`, itself one, equals a bag of hashes none of which is
one only if the chain holds the first hashes of the bag and `C'` bags the rest -/
theorem peel {hf : HashFn α H} (cf : CollisionFree hf) (size : Nat) (C' : H)
    (hC : ∃ a b, C' = hf.node size a b) :
    ∀ (q : List H) (P : H) (Ps : List H),
      q.foldr (fun s acc => hf.node size s acc) C' = bagNE hf size P Ps →
      (∀ x ∈ P :: Ps, ∀ a b, x ≠ hf.node size a b) →
      ∃ A R0 R1 R', P :: Ps = A ++ R0 :: R1 :: R' ∧ q = A ∧ C' = hf.node size R0 (bagNE hf size R1 R') := by
  intro q
  induction q with
  | nil =>
    intro P Ps h hP
    simp only [List.foldr_nil] at h
    cases Ps with
    | nil =>
      obtain ⟨a, b, hab⟩ := hC
      exact absurd (by rw [← hab, h]; rfl) (hP P (List.mem_cons_self ..) a b)
    | cons P1 Ps' => exact ⟨[], P, P1, Ps', rfl, rfl, h⟩
  | cons s q' ih =>
    intro P Ps h hP
    simp only [List.foldr_cons] at h
    cases Ps with
    | nil => exact absurd h.symm (hP P (List.mem_cons_self ..) _ _)
    | cons P1 Ps' =>
      simp only [bagNE] at h
      obtain ⟨_, h2, h3⟩ := cf.node_inj h
      obtain ⟨A, R0, R1, R', e1, e2, e3⟩ := ih P1 Ps' h3 (fun x hx => hP x (List.mem_cons_of_mem _ hx))
      exact ⟨P :: A, R0, R1, R', by rw [e1]; rfl, by rw [h2, e2], e3⟩

section sound
variable [DecidableEq H] {N i k : Nat} {L R : List (Nat × Nat)}

omit [DecidableEq H] in
theorem forest_map_eq {hf : HashFn α H} (cf : CollisionFree hf) (c : PeakCtx N i k L R) (f : Nat → α) :
    ∃ P Ps, (forest N).map (nh hf f) = P :: Ps
      ∧ rootAt hf f (mmr N) L (up i k, k) R = bagNE hf (mmr N) P Ps
      ∧ ∀ x ∈ P :: Ps, ∀ a b, x ≠ hf.node (mmr N) a b := by
  have h1 := bag_forest c hf f (mmr N)
  cases hfm : (forest N).map (nh hf f) with
  | nil => rw [c.split] at hfm; simp at hfm
  | cons P Ps =>
    rw [hfm, bag_cons] at h1
    refine ⟨P, Ps, rfl, by injection h1 with h; exact h.symm, ?_⟩
    intro x hx a b
    rw [← hfm] at hx
    obtain ⟨d, hd, rfl⟩ := List.mem_map.1 hx
    exact nh_ne_node_size cf f (forest_valid d hd) a b

omit [DecidableEq H] in
/-- the root carries the size as index unless there is a single peak -/
theorem root_eq_indexed {hf : HashFn α H} (cf : CollisionFree hf) (c : PeakCtx N i k L R)
    (f : Nat → α) {x : H} {t : Nat} (hx : HasIdx hf x t) (ht : t < mmr N)
    (h : rootAt hf f (mmr N) L (up i k, k) R = x) : L = [] ∧ R = [] ∧ t = cpos (up i k, k) := by
  cases L with
  | cons l L' =>
    have : HasIdx hf (rootAt hf f (mmr N) (l :: L') (up i k, k) R) (mmr N) := Or.inr ⟨_, _, rfl⟩
    rw [h] at this
    have := HasIdx.unique cf hx this; omega
  | nil =>
    cases R with
    | cons r R' =>
      have : HasIdx hf (rootAt hf f (mmr N) [] (up i k, k) (r :: R')) (mmr N) := Or.inr ⟨_, _, rfl⟩
      rw [h] at this
      have := HasIdx.unique cf hx this; omega
    | nil =>
      have : HasIdx hf (rootAt hf f (mmr N) [] (up i k, k) []) (cpos (up i k, k)) :=
        nodeHash_hasIdx hf f (up i k) k
      rw [h] at this
      exact ⟨rfl, rfl, HasIdx.unique cf hx this⟩

omit [DecidableEq H] in
theorem peel_root {hf : HashFn α H} (cf : CollisionFree hf) (c : PeakCtx N i k L R) (f : Nat → α)
    (rest : List H) (a b : H)
    (h : rootAt hf f (mmr N) L (up i k, k) R
      = rest.foldl (fun acc s => hf.node (mmr N) s acc) (hf.node (mmr N) a b)) :
    ∃ A R1 R', (forest N).map (nh hf f) = A ++ a :: R1 :: R' ∧ rest = A.reverse
      ∧ b = bagNE hf (mmr N) R1 R' := by
  obtain ⟨P, Ps, hPs, hroot, hne⟩ := forest_map_eq cf c f
  rw [hroot, ← List.foldr_reverse] at h
  obtain ⟨A, R0, R1, R', e1, e2, e3⟩ := peel cf (mmr N) _ ⟨_, _, rfl⟩ rest.reverse P Ps h.symm hne
  obtain ⟨_, h2, h3⟩ := cf.node_inj e3
  exact ⟨A, R1, R', by rw [hPs, e1, h2], by rw [← e2, List.reverse_reverse], h3⟩

omit [DecidableEq H] in
theorem peak_hash_idx (hf : HashFn α H) (f : Nat → α) {N : Nat} {x : H}
    (hx : x ∈ (forest N).map (nh hf f)) : ∃ t, t < mmr N ∧ HasIdx hf x t := by
  obtain ⟨d, hd, rfl⟩ := List.mem_map.1 hx
  have hv := forest_valid d hd
  exact ⟨mmr d.1 + d.2, (coord_lt_iff hv.1).2 hv.2, nodeHash_hasIdx hf f d.1 d.2⟩

omit [DecidableEq H] in
theorem split_at_peak {hf : HashFn α H} (cf : CollisionFree hf) (c : PeakCtx N i k L R) (f : Nat → α)
    {A B : List H} {x : H} (hx : HasIdx hf x (cpos (up i k, k)))
    (h : (forest N).map (nh hf f) = A ++ x :: B) :
    A = L.map (nh hf f) ∧ x = nh hf f (up i k, k) ∧ B = R.map (nh hf f) := by
  obtain ⟨cA, cB, hsplit, hA, hB⟩ := List.map_eq_append_iff.1 h
  obtain ⟨c0, cR, rfl, hc0, hcR⟩ := List.map_eq_cons_iff.1 hB
  have hval := forest_valid c0 (by rw [hsplit]; simp)
  have hpos := HasIdx.unique cf hx
    (show HasIdx hf x (cpos c0) by rw [← hc0]; exact nodeHash_hasIdx hf f c0.1 c0.2)
  obtain ⟨h1, h2⟩ := coord_inj (up_valid i k) hval.1 hpos
  obtain rfl : c0 = (up i k, k) := Prod.ext h1.symm h2.symm
  have hnd := forest_nodup N
  rw [hsplit] at hnd
  obtain ⟨rfl, rfl⟩ := split_unique _ cA L cR R hnd (by rw [← hsplit, c.split])
  exact ⟨hA.symm, hc0.symm, hcR.symm⟩

/-- at the peak: a verifying path is the peak part of the canonical path and the running hash is the
peak's hash -/
theorem sound_peak {hf : HashFn α H} (cf : CollisionFree hf) (c : PeakCtx N i k L R) (f : Nat → α)
    (eh : Nat → H) (hidx : Indexed hf eh) (path : List H)
    (hv : verifyAux hf (rootAt hf f (mmr N) L (up i k, k) R) (mmr N) (peaks (mmr N)) path eh
      (cpos (up i k, k)) = true) :
    eh (cpos (up i k, k)) = nodeHash hf f (up i k) k ∧ path = peakPart hf f (mmr N) L R := by
  have hlt := c.cpos_lt (Nat.le_refl k)
  have hge := c.parent_ge
  have hcur := hidx (cpos (up i k, k))
  cases path with
  | nil =>
    rw [va_nil hf hlt] at hv
    have hroot := eq_of_beq hv
    obtain ⟨rfl, rfl, _⟩ := root_eq_indexed cf c f hcur hlt hroot
    exact ⟨hroot.symm, rfl⟩
  | cons sib rest =>
    cases R with
    | nil =>
      rw [va_peak c, va_beyond hf _ N _ _ _ hge] at hv
      obtain ⟨A, R1, R', e1, hrest, h3⟩ := peel_root cf c f rest sib _ (eq_of_beq hv)
      -- the running hash has an index below the size, so nothing is left to bag to its right
      cases R' with
      | cons r R'' =>
        have : HasIdx hf (bagNE hf (mmr N) R1 (r :: R'')) (mmr N) := Or.inr ⟨_, _, rfl⟩
        rw [← h3] at this
        have := HasIdx.unique cf hcur this; omega
      | nil =>
        simp only [bagNE] at h3
        rw [List.append_cons] at e1
        obtain ⟨hL, hp, _⟩ := split_at_peak cf c f (h3 ▸ hcur) e1
        refine ⟨h3.trans hp, ?_⟩
        simp [peakPart_nil, ← hL, hrest]
    | cons r Rr =>
      rw [va_peak c, va_beyond hf _ N _ _ _ hge] at hv
      obtain ⟨A, R1, R', e1, hrest, h3⟩ := peel_root cf c f rest _ sib (eq_of_beq hv)
      obtain ⟨hL, hp, hR⟩ := split_at_peak cf c f hcur e1
      refine ⟨hp, ?_⟩
      rw [List.map_cons] at hR
      rw [peakPart_cons, hrest, h3, hL, (List.cons.inj hR).1, (List.cons.inj hR).2]

/-- below the peak, by induction on the levels left: each parent hash fixes the sibling and the child -/
theorem sound_tree {hf : HashFn α H} (cf : CollisionFree hf) (c : PeakCtx N i k L R) (f : Nat → α) :
    ∀ d j (eh : Nat → H) (path : List H), j + d = k → Indexed hf eh →
      verifyAux hf (rootAt hf f (mmr N) L (up i k, k) R) (mmr N) (peaks (mmr N)) path eh
        (cpos (up i j, j)) = true →
      eh (cpos (up i j, j)) = nodeHash hf f (up i j) j
        ∧ path = treePath hf f i j d ++ peakPart hf f (mmr N) L R := by
  intro d
  induction d with
  | zero =>
    intro j eh path hj hidx hv
    obtain rfl : j = k := hj
    simpa [treePath] using sound_peak cf c f eh hidx path hv
  | succ d ih =>
    intro j eh path hj hidx hv
    have hjk : j < k := hj ▸ Nat.lt_add_of_pos_right (Nat.succ_pos d)
    have hlt := c.cpos_lt (Nat.le_of_lt hjk)
    cases path with
    | nil =>
      rw [va_nil hf hlt] at hv
      obtain ⟨_, _, hpos⟩ := root_eq_indexed cf c f (hidx _) hlt (eq_of_beq hv)
      have := (coord_inj (up_valid i j) (up_valid i k) hpos).2
      omega
    | cons sib rest =>
      rw [va_tree c hf _ hjk] at hv
      obtain ⟨h1, h2⟩ := ih (j+1) _ rest ((Nat.add_right_comm j 1 d).trans hj) (indexed_joinAt hf _ _ _) hv
      rw [nodeHash_up] at h1
      obtain ⟨hc, hs⟩ := joinAt_inj cf h1
      refine ⟨hc, ?_⟩
      rw [hs, h2, treePath_succ, List.cons_append]

theorem verify_sound {hf : HashFn α H} (cf : CollisionFree hf) (c : PeakCtx N i k L R) (f : Nat → α)
    (e : α) (path : List H)
    (hv : verify hf (rootAt hf f (mmr N) L (up i k, k) R) (mmr N) path e (mmr i) = true) :
    e = f i ∧ path = treePath hf f i 0 k ++ peakPart hf f (mmr N) L R := by
  have h0 : cpos (up i 0, 0) = mmr i := by simp [cpos, up_zero]
  rw [verify, ← h0] at hv
  obtain ⟨h1, h2⟩ := sound_tree cf c f k 0 _ path (Nat.zero_add k) (indexed_leaf hf e) hv
  refine ⟨?_, h2⟩
  simp only [up_zero, nodeHash] at h1
  exact (cf.leaf_inj h1).2

end sound

/-- the hash `verify_consume` works with at `pos` -/
def curAt (size : Nat) (eh : Nat → H) (pos : Nat) : H := if pos ≥ size then eh size else eh pos

theorem curAt_eq (size : Nat) (eh : Nat → H) (pos : Nat) :
    curAt size eh pos = eh (if pos ≥ size then size else pos) := by
  unfold curAt; split <;> rfl

/-- two node hashes over the same sibling, in whatever orientations, are equal only if the other child is the same:
with opposite orientations both children equal the sibling -/
theorem joinAt_cur_eq {hf : HashFn α H} (cf : CollisionFree hf) {b b' : Bool} {s v v' : H} {t t' : Nat}
    (h : joinAt hf b s v t = joinAt hf b' s v' t') : v = v' := by
  cases b <;> cases b' <;> have := cf.node_inj h
  · exact this.2.1
  · exact this.2.1.trans this.2.2
  · exact this.2.2.trans this.2.1
  · exact this.2.2

section unique
variable [DecidableEq H]

/-- one step of `verify_consume`, whatever the orientation: the next running hash is a node hash over the
sibling and the current hash, in one order or the other -/
theorem verifyAux_cons (hf : HashFn α H) (root : H) (size : Nat) (pks : List Nat) (sib : H) (rest : List H)
    (eh : Nat → H) (pos : Nat) :
    ∃ left : Bool, verifyAux hf root size pks (sib :: rest) eh pos
      = verifyAux hf root size pks rest (joinAt hf left sib (curAt size eh pos)) (family pos).1 := by
  rw [verifyAux]
  cases findIdx pks pos with
  | some x =>
    by_cases hx : x + 1 = pks.length
    · exact ⟨true, if_pos hx⟩
    · exact ⟨false, if_neg hx⟩
  | none =>
    by_cases h1 : (family pos).1 ≥ size
    · exact ⟨true, if_pos h1⟩
    · by_cases h2 : isLeftSibling (family pos).2 = true
      · exact ⟨true, (if_neg h1).trans (if_pos h2)⟩
      · exact ⟨false, (if_neg h1).trans (if_neg h2)⟩

/-- **a path verifies from at most one current hash**: two runs of `verify_consume` over the same path against
the same root start from the same hash. No position arithmetic: each step wraps the current hash and the
sibling into a node hash, and node hashes are injective. -/
theorem verifyAux_unique {hf : HashFn α H} (cf : CollisionFree hf) (root : H) (size : Nat) (pks : List Nat) :
    ∀ (path : List H) (eh eh' : Nat → H) (pos pos' : Nat),
      verifyAux hf root size pks path eh pos = true → verifyAux hf root size pks path eh' pos' = true →
      curAt size eh pos = curAt size eh' pos' := by
  intro path
  induction path with
  | nil =>
    intro eh eh' pos pos' h h'
    rw [verifyAux] at h h'
    exact (eq_of_beq h).symm.trans (eq_of_beq h')
  | cons sib rest ih =>
    intro eh eh' pos pos' h h'
    obtain ⟨b, e⟩ := verifyAux_cons hf root size pks sib rest eh pos
    obtain ⟨b', e'⟩ := verifyAux_cons hf root size pks sib rest eh' pos'
    rw [e] at h; rw [e'] at h'
    have := ih _ _ _ _ h h'
    rw [curAt_eq size (joinAt hf b _ _), curAt_eq size (joinAt hf b' _ _)] at this
    exact joinAt_cur_eq cf this

/-- **a proof verifies for at most one position inside the claimed size and one element** — against any root,
for any claimed size -/
theorem verify_unique {hf : HashFn α H} (cf : CollisionFree hf) (root : H) (size : Nat) (path : List H)
    {e e' : α} {pos pos' : Nat} (hp : pos < size) (hp' : pos' < size)
    (h : verify hf root size path e pos = true) (h' : verify hf root size path e' pos' = true) :
    pos = pos' ∧ e = e' := by
  have := verifyAux_unique cf root size _ path _ _ pos pos' h h'
  rw [curAt, curAt, if_neg (Nat.not_le.2 hp), if_neg (Nat.not_le.2 hp')] at this
  exact cf.leaf_inj this

end unique

section wrongpos
variable [DecidableEq H] {N i k : Nat} {L R : List (Nat × Nat)}

theorem sound_beyond {hf : HashFn α H} (cf : CollisionFree hf) (c : PeakCtx N i k L R) (f : Nat → α)
    (e : α) (path : List H) (pos : Nat) (hge : mmr N ≤ pos) :
    verify hf (rootAt hf f (mmr N) L (up i k, k) R) (mmr N) path e pos = false := by
  apply Bool.eq_false_iff.2
  intro hv
  rw [verify, va_beyond hf _ N _ _ _ hge] at hv
  have hroot := eq_of_beq hv
  have hleafidx : HasIdx hf (hf.leaf (mmr N) e) (mmr N) := Or.inl ⟨e, rfl⟩
  cases path with
  | nil =>
    obtain ⟨P, Ps, hPs, hbag, _⟩ := forest_map_eq cf c f
    rw [hbag] at hroot
    cases Ps with
    | nil =>
      obtain ⟨t, ht, hidx⟩ := peak_hash_idx hf f (hPs ▸ List.mem_cons_self ..)
      rw [show P = hf.leaf (mmr N) e from hroot] at hidx
      have := HasIdx.unique cf hidx hleafidx; omega
    | cons P1 Ps' => exact absurd hroot.symm cf.leaf_ne_node
  | cons s1 rest =>
    obtain ⟨A, R1, R', e1, _, h3⟩ := peel_root cf c f rest s1 _ hroot
    cases R' with
    | cons r R'' => exact absurd h3 cf.leaf_ne_node
    | nil =>
      obtain ⟨t, ht, hidx⟩ := peak_hash_idx hf f (x := R1) (by rw [e1]; simp)
      rw [show R1 = hf.leaf (mmr N) e from h3.symm] at hidx
      have := HasIdx.unique cf hidx hleafidx; omega

/-- an inner node position never verifies (the element would have to hash like a parent) -/
theorem sound_nonleaf {hf : HashFn α H} (cf : CollisionFree hf) (c : PeakCtx N i k L R) (f : Nat → α)
    (e : α) (path : List H) (h : Nat) (hh : h + 1 ≤ trailingOnes i) :
    verify hf (rootAt hf f (mmr N) L (up i k, k) R) (mmr N) path e (mmr i + (h+1)) = false := by
  apply Bool.eq_false_iff.2
  intro hv
  have hle := c.height_le hh
  have hup := up_of_valid hh
  have h0 : cpos (up i (h+1), h+1) = mmr i + (h+1) := by simp [cpos, hup]
  rw [verify, ← h0] at hv
  obtain ⟨h1, _⟩ := sound_tree cf c f (k - (h+1)) (h+1) _ path (by omega) (indexed_leaf hf e) hv
  rw [nodeHash] at h1
  exact cf.leaf_ne_node h1

end wrongpos

/-- any list is `f 0, …, f (len-1)` for a function `f`, which is how the lemma files index leaves -/
theorem list_as_fn (xs : List α) (hne : xs ≠ []) :
    ∃ f : Nat → α, xs = (List.range xs.length).map f ∧ ∀ i (hi : i < xs.length), f i = xs[i] := by
  obtain ⟨x0, _⟩ := List.exists_mem_of_ne_nil xs hne
  refine ⟨fun i => xs.getD i x0, (map_range_getD_self x0 xs).symm, ?_⟩
  intro i hi
  simp [List.getD_eq_getElem?_getD, List.getElem?_eq_getElem hi]

theorem hashes_as_fn (hf : HashFn α H) (xs : List α) (hne : xs ≠ []) :
    ∃ f : Nat → α, xs = (List.range xs.length).map f ∧ (∀ i (hi : i < xs.length), f i = xs[i])
      ∧ Spec.Mmr.hashes hf xs = allHashes hf f xs.length := by
  obtain ⟨f, hxs, hfi⟩ := list_as_fn xs hne
  refine ⟨f, hxs, hfi, ?_⟩
  conv => lhs; rw [hxs]
  exact spec_hashes hf f xs.length

theorem leaf_ctx (hf : HashFn α H) (xs : List α) (i : Nat) (hi : i < xs.length) :
    ∃ (f : Nat → α) (k : Nat) (L R : List (Nat × Nat)) (_ : PeakCtx xs.length i k L R),
      f i = xs[i]
      ∧ Spec.Mmr.hashes hf xs = allHashes hf f xs.length
      ∧ Spec.Mmr.root hf xs = some (rootAt hf f (mmr xs.length) L (up i k, k) R) := by
  obtain ⟨f, hxs, hf_i, hh⟩ := hashes_as_fn hf xs (List.ne_nil_of_length_pos (Nat.zero_lt_of_lt hi))
  obtain ⟨k, L, R, c⟩ := exists_peakCtx hi
  refine ⟨f, k, L, R, c, hf_i i hi, hh, ?_⟩
  conv => lhs; rw [hxs]
  rw [spec_root]
  exact bag_forest c hf f (mmr xs.length)

end GV.Pmmr.Co
