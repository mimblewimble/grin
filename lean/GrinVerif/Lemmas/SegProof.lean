import GrinVerif.Lemmas.SegHonest
import GrinVerif.Lemmas.SegForest
import GrinVerif.Lemmas.UtilList
import GrinVerif.Lemmas.PmmrSound
/-! The `SegmentProof` of an honest segment re-bags to the MMR root (C16): `SegmentProof::generate`
followed by `SegmentProof::reconstruct_root`, for any view that holds the sibling hashes of the
family branch and the peak hashes; the family branch of a full segment's subtree root in `(n, h)`
coordinates (from any level `m` on: `m = height` for a segment with a root of its own, higher for
the completely pruned one), the peaks to its left and right; the final segment, whose root is the
bag of the peaks inside it; `validate` / `validate_with` from `first_unpruned_parent` and
`reconstruct_root`.  Core Lean only. -/
namespace GV.Seg
open GV GV.Pmmr

variable {α H : Type}

theorem filter_const_true {β : Type} (l : List β) : l.filter (fun _ => true) = l :=
  List.filter_eq_self.2 (fun _ _ => rfl)

theorem bagLeft_map (hf : HashFn α H) (S : Nat) (hp : Nat → H) : ∀ (ps : List Nat) (root : H)
    (rest : List H),
    bagLeft hf S root (ps.map hp ++ rest) ps
      = .ok (ps.foldl (fun acc p => hf.node S (hp p) acc) root, rest) := by
  intro ps
  induction ps with
  | nil => intro root rest; simp [bagLeft]
  | cons p ps ih =>
    intro root rest
    simp only [List.map_cons, List.cons_append, bagLeft, List.foldl_cons]
    exact ih _ rest

/-- `upos` is the unpruned position the segment root belongs to (`1 + last` for a segment with a
root of its own, `start_pos` for a completely pruned one) -/
theorem generate_reconstruct (hf : HashFn α H) (v : View α H) (S first0 last0 upos : Nat)
    (startPos : Option Nat) (segRoot pkHash : H) (hp : Nat → H) (sibs : List H)
    (hsize : v.size = S)
    (hst : startPos = some upos ∨ (startPos = none ∧ familyBranch last0 S = branchFrom last0 S upos))
    (hsib : collectHashes v.hash ((branchFrom last0 S upos).map (·.2)) = .ok sibs)
    (hclimb : ∀ rest, climb hf segRoot (sibs ++ rest) (branchFrom last0 S upos) = .ok (pkHash, rest))
    (hR : ∀ p ∈ (peaks S).filter (· > branchPeak last0 S), v.fromFile p = some (hp p))
    (hL : ∀ p ∈ (peaks S).filter (· < first0), v.hash p = some (hp p)) :
    ∃ proof, generate hf v (1 + first0) (1 + last0) startPos = .ok proof ∧
      reconstructRoot hf proof S first0 last0 segRoot upos =
        .ok ((((peaks S).filter (· < first0)).map hp).foldr (fun x acc => hf.node S x acc)
          (bagOnto hf S pkHash (bag hf S (((peaks S).filter (· > branchPeak last0 S)).map hp))), []) := by
  have hleft : (peaks S).filter (fun x => decide (1 + x < 1 + first0)) = (peaks S).filter (· < first0) := by
    apply List.filter_congr
    intro x _
    simp only [decide_eq_decide]
    omega
  have hcl : collectHashes v.hash ((peaks S).filter (· < first0)).reverse
      = .ok (((peaks S).filter (· < first0)).reverse.map hp) :=
    collectHashes_map v.hash hp _ (fun p hpm => hL p (List.mem_reverse.1 hpm))
  have hrhs : bagTheRhs hf v (branchPeak last0 S)
      = bag hf S (((peaks S).filter (· > branchPeak last0 S)).map hp) := by
    unfold bagTheRhs
    rw [hsize, filterMap_eq_map_of_mem v.fromFile hp _ hR]
  have e1 : 1 + last0 - 1 = last0 := by omega
  -- the part of the family branch `generate` walks is the part `reconstruct_root` walks
  have hbr : (match startPos with
      | some s => (familyBranch last0 S).filter (fun x => decide (x.1 ≥ s))
      | none => familyBranch last0 S) = branchFrom last0 S upos := by
    rcases hst with rfl | ⟨rfl, hfb⟩
    · rfl
    · exact hfb
  unfold generate reconstructRoot
  cases startPos
  all_goals
    simp only [] at hbr
    simp only [filter_const_true, hsize, e1, hbr, hsib, hrhs, hleft, hcl]
    cases hRp : (peaks S).filter (· > branchPeak last0 S) with
    | nil =>
      simp only [List.map_nil, bag, List.head?_nil, bagOnto_none]
      refine ⟨_, rfl, ?_⟩
      rw [hclimb]
      simp only
      have := bagLeft_map hf S hp ((peaks S).filter (· < first0)).reverse pkHash []
      rw [List.append_nil] at this
      rw [this, List.foldl_reverse, List.foldr_map]
    | cons r0 Rp =>
      simp only [List.map_cons, bag_cons_match, List.head?_cons, bagOnto_some]
      refine ⟨_, rfl, ?_⟩
      rw [List.append_assoc, hclimb]
      simp only [List.singleton_append]
      have := bagLeft_map hf S hp ((peaks S).filter (· < first0)).reverse
        (hf.node S pkHash (bagOnto hf S (hp r0) (bag hf S (Rp.map hp)))) []
      rw [List.append_nil] at this
      rw [this, List.foldl_reverse, List.foldr_map]

/-- position of the level-`j` ancestor of leaf `n` -/
def anc (n j : Nat) : Nat := Co.cpos (Co.up n j, j)

theorem anc_eq (n j : Nat) : anc n j = mmr (Co.up n j) + j := rfl

theorem anc_mono (n : Nat) {j k : Nat} (h : j ≤ k) : anc n j ≤ anc n k := Co.cpos_up_le n h

theorem anc_strict (n : Nat) {j k : Nat} (h : j < k) : anc n j < anc n k := Co.cpos_up_lt n h

theorem hAt_anc (hf : HashFn α H) (f : Nat → α) (n j : Nat) :
    hAt hf f (anc n j) = Co.nodeHash hf f (Co.up n j) j := hAt_cpos hf f _ (Co.up_valid n j)

theorem climb_tree (hf : HashFn α H) (f : Nat → α) (i : Nat) : ∀ (d j : Nat) (rest : List H),
    climb hf (Co.nodeHash hf f (Co.up i j) j) (Co.treePath hf f i j d ++ rest) (Co.branchCo i j d)
      = .ok (Co.nodeHash hf f (Co.up i (j + d)) (j + d), rest) := by
  intro d
  induction d with
  | zero => intro j rest; simp [Co.treePath, Co.branchCo, climb]
  | succ d ih =>
    intro j rest
    simp only [Co.treePath, Co.branchCo, List.range'_succ, List.map_cons, List.cons_append, climb,
      Co.isLeftSibling_sibCo]
    have e : j + (d + 1) = j + 1 + d := by omega
    rw [e]
    have key : (if bitSet i j = true then
          hf.node (Co.cpos (Co.up i (j + 1), j + 1)) (Co.nh hf f (Co.sibCo i j)) (Co.nodeHash hf f (Co.up i j) j)
        else hf.node (Co.cpos (Co.up i (j + 1), j + 1)) (Co.nodeHash hf f (Co.up i j) j) (Co.nh hf f (Co.sibCo i j)))
        = Co.nodeHash hf f (Co.up i (j + 1)) (j + 1) := by
      rw [Co.nodeHash_up]; cases bitSet i j <;> rfl
    rw [key]
    exact ih (j + 1) rest

theorem filter_left_of_split {N a : Nat} {Lh Rs : List (Nat × Nat)} (hsplit : Co.forest N = Lh ++ Rs)
    (hL : ∀ c ∈ Lh, c.1 < a) (hR : ∀ c ∈ Rs, a ≤ c.1) :
    (peaks (mmr N)).filter (· < mmr a) = Lh.map Co.cpos :=
  (Co.peaks_filter_split hsplit (mmr a)
    (fun c hc => (Co.coord_lt_iff (Co.forest_valid c (by rw [hsplit]; exact List.mem_append_left _ hc)).1).2 (hL c hc))
    (fun c hc => Nat.le_trans (Co.mmr_le_mmr (hR c hc)) (Nat.le_add_right _ _))).1

section FullCtx
variable {N k : Nat} {L R : List (Nat × Nat)} {id : Ident}

theorem full_up (id : Ident) : Co.up (lastLeaf id) id.height = lastLeaf id :=
  Co.up_of_valid (lastLeaf_valid id)

theorem anc_lastLeaf (id : Ident) : anc (lastLeaf id) id.height = lastOf id := by
  unfold anc; rw [full_up]; rfl

theorem full_familyBranch (c : Co.PeakCtx N (lastLeaf id) k L R) :
    familyBranch (lastOf id) (mmr N) = Co.branchCo (lastLeaf id) id.height (k - id.height) := by
  have hle := c.height_le (lastLeaf_valid id)
  have h := Co.familyBranchLoop_coord c (k - id.height) id.height (mmr N + 1) (by omega) (by omega)
  rw [full_up] at h
  simp only [familyBranch, lastOf_eq, Co.cpos, Co.peakMapHeight_co _ _ (lastLeaf_valid id)]
  exact h

theorem branchFrom_up (c : Co.PeakCtx N (lastLeaf id) k L R) (m : Nat) (hm1 : id.height ≤ m)
    (hm2 : m ≤ k) :
    branchFrom (lastOf id) (mmr N) (1 + anc (lastLeaf id) m)
      = Co.branchCo (lastLeaf id) m (k - m) := by
  unfold branchFrom anc
  rw [full_familyBranch c]
  unfold Co.branchCo
  rw [show k - id.height = (m - id.height) + (k - m) by omega, ← List.range'_append_1,
    show id.height + (m - id.height) = m by omega, List.map_append, List.filter_append]
  have h1 : ((List.range' id.height (m - id.height)).map fun j =>
      (Co.cpos (Co.up (lastLeaf id) (j + 1), j + 1), Co.cpos (Co.sibCo (lastLeaf id) j))).filter
      (fun x => decide (x.1 ≥ 1 + Co.cpos (Co.up (lastLeaf id) m, m))) = [] := by
    rw [List.filter_eq_nil_iff]
    intro x hx
    obtain ⟨j, hj, rfl⟩ := List.mem_map.1 hx
    rw [List.mem_range'_1] at hj
    have := Co.cpos_up_le (lastLeaf id) (show j + 1 ≤ m by omega)
    simp only [decide_eq_true_eq]
    omega
  have h2 : ((List.range' m (k - m)).map fun j =>
      (Co.cpos (Co.up (lastLeaf id) (j + 1), j + 1), Co.cpos (Co.sibCo (lastLeaf id) j))).filter
      (fun x => decide (x.1 ≥ 1 + Co.cpos (Co.up (lastLeaf id) m, m))) =
      (List.range' m (k - m)).map fun j =>
        (Co.cpos (Co.up (lastLeaf id) (j + 1), j + 1), Co.cpos (Co.sibCo (lastLeaf id) j)) := by
    rw [List.filter_eq_self]
    intro x hx
    obtain ⟨j, hj, rfl⟩ := List.mem_map.1 hx
    rw [List.mem_range'_1] at hj
    have := Co.cpos_up_lt (lastLeaf id) (show m < j + 1 by omega)
    simp only [decide_eq_true_eq]
    omega
  rw [h1, h2, List.nil_append]

theorem full_branchPeak (c : Co.PeakCtx N (lastLeaf id) k L R) :
    branchPeak (lastOf id) (mmr N) = anc (lastLeaf id) k := by
  unfold anc
  have hle := c.height_le (lastLeaf_valid id)
  unfold branchPeak
  rw [full_familyBranch c]
  obtain ⟨e, he⟩ := Nat.exists_eq_add_of_le hle
  cases e with
  | zero =>
    have : k = id.height := by omega
    subst this
    simp only [Nat.sub_self, Co.branchCo, List.range'_zero, List.map_nil, List.getLast?_nil]
    rw [full_up, lastOf_eq]
  | succ e =>
    have hk : k - id.height = e + 1 := by omega
    rw [hk]
    simp only [Co.branchCo, List.range'_1_concat, List.map_append, List.map_cons, List.map_nil,
      List.getLast?_concat]
    have : id.height + e + 1 = k := by omega
    rw [this]

theorem full_filter_left (c : Co.PeakCtx N (lastLeaf id) k L R) :
    (peaks (mmr N)).filter (· < mmr (id.idx * 2 ^ id.height)) = L.map Co.cpos := by
  obtain ⟨e, he⟩ := Nat.exists_eq_add_of_le (c.height_le (lastLeaf_valid id))
  -- the leaves of the segment lie below the peak `(up n k, k)`
  have hmono := Co.up_leftmost_mono (lastLeaf id) e id.height
  rw [← he, full_up, show lastLeaf id + 1 - 2 ^ id.height = id.idx * 2 ^ id.height by
    have := Nat.two_pow_pos id.height; unfold lastLeaf; omega] at hmono
  have hup : id.idx * 2 ^ id.height ≤ Co.up (lastLeaf id) k :=
    Nat.le_trans (Nat.le_add_right _ _) (Co.le_up (lastLeaf id) k)
  have hgap := Co.forest_gap N
  have hpw := Co.forest_pairwise N
  rw [c.split, List.pairwise_append] at hgap hpw
  have hpk := Co.two_pow_le_of_le_trailingOnes (Co.up_valid (lastLeaf id) k)
  apply filter_left_of_split c.split
  · intro d hd
    have := hgap.2.2 d hd (Co.up (lastLeaf id) k, k) (List.mem_cons_self ..)
    simp only at this
    omega
  · intro d hd
    rcases List.mem_cons.1 hd with rfl | hd
    · exact hup
    · exact Nat.le_trans hup (Nat.le_of_lt ((List.pairwise_cons.1 hpw.2.1).1 d hd))

end FullCtx

/-- `validate` accepts the segment against `r`, and `validate_with` against `r` merged with any
other root on either side -/
structure Accepts (hf : HashFn α H) [DecidableEq H] (s : Segment α H) (size : Nat)
    (bm : Option (Nat → Bool)) (r : H) : Prop where
  validate : s.validate hf size bm r = .ok ()
  validateWith : ∀ hlp other left, s.validateWith hf size bm
    (if left then hf.node hlp other r else hf.node hlp r other) hlp other left = .ok ()

theorem validate_of_parts (hf : HashFn α H) [DecidableEq H] (s : Segment α H) (size : Nat)
    (bm : Option (Nat → Bool)) (segRoot r : H) (upos : Nat) (rest : List H)
    (hfup : s.firstUnprunedParent hf size bm = .ok (segRoot, upos))
    (hrec : reconstructRoot hf s.proof size (s.id.posRange size).1 (s.id.posRange size).2 segRoot upos
      = .ok (r, rest)) :
    Accepts hf s size bm r :=
  ⟨(validate_ok_iff hf s size bm r).2 ⟨_, _, _, hfup, hrec⟩,
    fun hlp other left => (validateWith_ok_iff hf s size bm _ hlp other left).2
      ⟨_, _, _, _, hfup, hrec, rfl⟩⟩

/-- the root of the MMR of `f 0 … f (N-1)`: its peaks bagged right to left -/
def rootOf (hf : HashFn α H) (f : Nat → α) (N : Nat) : Option H :=
  bag hf (mmr N) ((Co.forest N).map (Co.nh hf f))

/-- the expected segment root: the committed hash of the subtree root for a full segment, the
bagged peaks inside the range for the final one -/
def segRootOf (hf : HashFn α H) (f : Nat → α) (N : Nat) (id : Ident) : Option H :=
  if (id.idx + 1) * 2 ^ id.height ≤ N then some (hAt hf f (lastOf id))
  else bag hf (mmr N) ((Co.forestFrom id.height (id.idx * 2 ^ id.height) (finalLeaves id N)).map (Co.nh hf f))

theorem map_hAt_cpos (hf : HashFn α H) (f : Nat → α) : ∀ (l : List (Nat × Nat)),
    (∀ c ∈ l, c.2 ≤ trailingOnes c.1) → (l.map Co.cpos).map (hAt hf f) = l.map (Co.nh hf f) := by
  intro l
  induction l with
  | nil => intro _; rfl
  | cons c l ih =>
    intro h
    simp only [List.map_cons, hAt_cpos hf f c (h c (List.mem_cons_self ..)),
      ih (fun d hd => h d (List.mem_cons_of_mem _ hd))]

theorem segRootOf_full (hf : HashFn α H) (f : Nat → α) {N : Nat} {id : Ident} (v : FullId id (mmr N)) :
    segRootOf hf f N id = some (hAt hf f (lastOf id)) := by
  unfold segRootOf; rw [if_pos v.fits]

theorem segRootOf_final (hf : HashFn α H) (f : Nat → α) {N : Nat} {id : Ident} (v : FinalId id N) :
    segRootOf hf f N id = bag hf (mmr N)
      ((Co.forestFrom id.height (id.idx * 2 ^ id.height) (finalLeaves id N)).map (Co.nh hf f)) := by
  unfold segRootOf; rw [if_neg (Nat.not_le.2 v.hi)]

/-- **generate from the level-`m` ancestor of a full segment's subtree root, then reconstruct = the
MMR root.**  `m = height`, `start_pos = None`: the segment has a root of its own; `m > height`,
`start_pos = Some(1 + ancestor)`: the completely pruned segment.  `V` is any view that holds the
sibling hashes of the family branch from level `m` on (`get_hash`), the peaks to the right
(`get_from_file`) and the peaks to the left (`get_hash`). -/
theorem branch_generate_reconstruct (hf : HashFn α H) (f : Nat → α) (N : Nat) (id : Ident)
    (V : View α H) (hsize : V.size = mmr N) {k : Nat} {L R : List (Nat × Nat)}
    (c : Co.PeakCtx N (lastLeaf id) k L R) (m : Nat) (hm1 : id.height ≤ m) (hm2 : m ≤ k)
    (startPos : Option Nat)
    (hst : startPos = some (1 + anc (lastLeaf id) m) ∨ (startPos = none ∧ m = id.height))
    (hsibs : ∀ j, m ≤ j → j < k → V.hash (Co.cpos (Co.sibCo (lastLeaf id) j))
      = some (hAt hf f (Co.cpos (Co.sibCo (lastLeaf id) j))))
    (hfile : ∀ p ∈ peaks (mmr N), V.fromFile p = some (hAt hf f p))
    (hleft : ∀ p ∈ peaks (mmr N), p < mmr (id.idx * 2 ^ id.height) → V.hash p = some (hAt hf f p)) :
    ∃ proof r, generate hf V (1 + mmr (id.idx * 2 ^ id.height)) (1 + lastOf id) startPos = .ok proof ∧
      rootOf hf f N = some r ∧
      reconstructRoot hf proof (mmr N) (mmr (id.idx * 2 ^ id.height)) (lastOf id)
        (hAt hf f (anc (lastLeaf id) m)) (1 + anc (lastLeaf id) m)
        = .ok (r, []) := by
  have hbf := branchFrom_up c m hm1 hm2
  have hk : m + (k - m) = k := by omega
  have hsibmap : ((Co.branchCo (lastLeaf id) m (k - m)).map (·.2)).map (hAt hf f)
      = Co.treePath hf f (lastLeaf id) m (k - m) := by
    simp only [Co.branchCo, Co.treePath, List.map_map]
    apply List.map_congr_left
    intro j _
    exact hAt_cpos hf f _ (Co.sibCo_valid _ j)
  have hsib : collectHashes V.hash
      ((branchFrom (lastOf id) (mmr N) (1 + anc (lastLeaf id) m)).map (·.2))
      = .ok (Co.treePath hf f (lastLeaf id) m (k - m)) := by
    rw [hbf, ← hsibmap]
    apply collectHashes_map
    intro q hq
    obtain ⟨x, hx, rfl⟩ := List.mem_map.1 hq
    simp only [Co.branchCo, List.mem_map, List.mem_range'_1] at hx
    obtain ⟨j, ⟨hj1, hj2⟩, rfl⟩ := hx
    exact hsibs j hj1 (by omega)
  have hclimb : ∀ rest, climb hf (hAt hf f (anc (lastLeaf id) m))
      (Co.treePath hf f (lastLeaf id) m (k - m) ++ rest)
      (branchFrom (lastOf id) (mmr N) (1 + anc (lastLeaf id) m))
      = .ok (Co.nodeHash hf f (Co.up (lastLeaf id) k) k, rest) := by
    intro rest
    have := climb_tree hf f (lastLeaf id) (k - m) m rest
    rw [hk] at this
    rw [hbf, hAt_anc]
    exact this
  -- with `start_pos = None` the whole family branch is walked: it starts above the subtree root
  have hstart : startPos = some (1 + anc (lastLeaf id) m) ∨ (startPos = none ∧
      familyBranch (lastOf id) (mmr N)
        = branchFrom (lastOf id) (mmr N) (1 + anc (lastLeaf id) m)) :=
    hst.imp (fun h => h) fun ⟨h1, h2⟩ => ⟨h1, by subst h2; rw [hbf, full_familyBranch c]⟩
  obtain ⟨proof, hgen, hrec⟩ := generate_reconstruct hf V (mmr N) (mmr (id.idx * 2 ^ id.height))
    (lastOf id) (1 + anc (lastLeaf id) m) startPos
    (hAt hf f (anc (lastLeaf id) m)) (Co.nodeHash hf f (Co.up (lastLeaf id) k) k)
    (hAt hf f) _ hsize hstart hsib hclimb
    (fun p hp => hfile p (List.mem_filter.1 hp).1)
    (fun p hp => hleft p (List.mem_filter.1 hp).1 (of_decide_eq_true (List.mem_filter.1 hp).2))
  refine ⟨proof, Co.rootAt hf f (mmr N) L (Co.up (lastLeaf id) k, k) R, hgen,
    Co.bag_forest c hf f (mmr N), ?_⟩
  · rw [hrec, Co.rootAt, bagNE_eq, full_filter_left c, full_branchPeak c, anc, c.filter_gt,
      map_hAt_cpos hf f L (fun d hd => (c.left_valid d hd).1),
      map_hAt_cpos hf f R (fun d hd => (c.right_valid d hd).1)]

theorem familyBranch_last (S : Nat) (hS : 1 ≤ S) : familyBranch (S - 1) S = [] := by
  have : ¬ (S - 1 + 1 < S) := by omega
  simp [familyBranch, familyBranchLoop, this]

/-- `sr` = the bagged peaks inside the segment -/
theorem final_generate_reconstruct (hf : HashFn α H) (f : Nat → α) (N : Nat) (id : Ident)
    (v : FinalId id N) (V : View α H) (hsize : V.size = mmr N)
    (hleft : ∀ p ∈ peaks (mmr N), p < mmr (id.idx * 2 ^ id.height) → V.hash p = some (hAt hf f p))
    (sr : H)
    (hsr : bag hf (mmr N) ((Co.forestFrom id.height (id.idx * 2 ^ id.height) (finalLeaves id N)).map
      (Co.nh hf f)) = some sr) :
    ∃ proof r, generate hf V (1 + mmr (id.idx * 2 ^ id.height)) (1 + (mmr N - 1)) none = .ok proof ∧
      rootOf hf f N = some r ∧
      reconstructRoot hf proof (mmr N) (mmr (id.idx * 2 ^ id.height)) (mmr N - 1) sr
        (1 + (mmr N - 1)) = .ok (r, []) := by
  obtain ⟨Lh, hL, hlt⟩ := final_forest id N v
  have hS : 1 ≤ mmr N := by have := le_mmr N; have := v.lo; omega
  have hfb := familyBranch_last (mmr N) hS
  have hbf : branchFrom (mmr N - 1) (mmr N) (1 + (mmr N - 1)) = [] := by
    unfold branchFrom; rw [hfb]; rfl
  have hpk : branchPeak (mmr N - 1) (mmr N) = mmr N - 1 := by
    unfold branchPeak; rw [hfb]; rfl
  have hright : (peaks (mmr N)).filter (· > branchPeak (mmr N - 1) (mmr N)) = [] := by
    rw [hpk, List.filter_eq_nil_iff]
    intro p hp hc
    have := Co.peaks_lt_size hp
    have := of_decide_eq_true hc
    omega
  obtain ⟨proof, hgen, hrec⟩ := generate_reconstruct hf V (mmr N) (mmr (id.idx * 2 ^ id.height))
    (mmr N - 1) (1 + (mmr N - 1)) none sr sr (hAt hf f) [] hsize (Or.inr ⟨rfl, by rw [hbf, hfb]⟩)
    (by rw [hbf]; rfl) (by intro rest; rw [hbf]; simp [climb])
    (fun p hp => by rw [hright] at hp; cases hp)
    (fun p hp => hleft p (List.mem_filter.1 hp).1 (of_decide_eq_true (List.mem_filter.1 hp).2))
  refine ⟨proof, (Lh.map (Co.nh hf f)).foldr (fun x acc => hf.node (mmr N) x acc) sr, hgen, ?_, ?_⟩
  · rw [rootOf, hL, List.map_append]; exact Co.bag_append hf (mmr N) _ sr hsr _
  · have hv : ∀ d ∈ Lh, d.2 ≤ trailingOnes d.1 := by
      intro d hd
      have := Co.forest_mem (show d ∈ Co.forest N by rw [hL]; exact List.mem_append_left _ hd)
      omega
    rw [hrec, hright, filter_left_of_split hL hlt (fun c hc => (final_trees_mem id N v c hc).2.1),
      map_hAt_cpos hf f Lh hv]
    rfl

end GV.Seg
