import GrinVerif.Model.TxCount
/-! The open-transaction counter protocol of `store/src/lmdb.rs` (`Model/TxCount.lean`): its invariant along checked
runs, the per-thread nesting depth, what holders of a transaction can do while a resize is pending, and the stuck
state of `lost_decrement_witness` and `lost_nesting_witness`. -/
namespace GV.TxCount

def total (l : List Th) : Nat := (l.map (·.opened)).sum

theorem total_cons (x : Th) (r : List Th) : total (x :: r) = x.opened + total r := rfl

theorem total_replicate (n : Nat) : total (List.replicate n ({} : Th)) = 0 := by
  induction n with
  | zero => rfl
  | succ n ih => rw [List.replicate_succ, total_cons, ih]

/-- stated with both old and new count added so that no truncated subtraction appears -/
theorem total_setTh (t : Nat) (y : Th) (l : List Th) (h : t < l.length) :
    total (setTh t y l) + (thOf t l).opened = total l + y.opened := by
  induction l generalizing t with
  | nil => exact absurd h (Nat.not_lt_zero _)
  | cons x r ih =>
    cases t with
    | zero =>
      rw [setTh, thOf, total_cons, total_cons]
      omega
    | succ t =>
      rw [setTh, thOf, total_cons, total_cons, Nat.add_assoc, ih t (Nat.lt_of_succ_lt_succ h), Nat.add_assoc]

theorem opened_le_total : ∀ (t : Nat) (l : List Th), (thOf t l).opened ≤ total l
  | _, [] => by simp [thOf, total]
  | 0, x :: r => by simp [thOf, total]
  | t+1, x :: r => by
    have := opened_le_total t r
    rw [thOf, total_cons]
    omega

/-! `thOf` / `setTh` are the list's `getD` / `set`; their read-after-write facts come from the core library. -/

theorem thOf_eq : ∀ (t : Nat) (l : List Th), thOf t l = l.getD t {}
  | _, [] => by simp [thOf]
  | 0, _ :: _ => rfl
  | t + 1, _ :: r => by simp [thOf, thOf_eq t r]

theorem setTh_eq : ∀ (t : Nat) (y : Th) (l : List Th), setTh t y l = l.set t y
  | _, _, [] => by simp [setTh]
  | 0, _, _ :: _ => rfl
  | t + 1, y, _ :: r => by simp [setTh, setTh_eq t y r]

theorem length_setTh (t : Nat) (y : Th) (l : List Th) : (setTh t y l).length = l.length := by
  rw [setTh_eq, List.length_set]

theorem mem_setTh (t : Nat) (y : Th) (l : List Th) (x : Th) (h : x ∈ setTh t y l) : x = y ∨ x ∈ l := by
  rw [setTh_eq] at h; exact (List.mem_or_eq_of_mem_set h).symm

theorem thOf_mem (t : Nat) (l : List Th) (h : t < l.length) : thOf t l ∈ l := by
  rw [thOf_eq, List.getD_eq_getElem?_getD, List.getElem?_eq_getElem h]; exact List.getElem_mem h

theorem thOf_setTh_same (t : Nat) (y : Th) (l : List Th) (h : t < l.length) : thOf t (setTh t y l) = y := by
  rw [thOf_eq, setTh_eq, List.getD_eq_getElem?_getD, List.getElem?_set_self h]; rfl

theorem thOf_setTh_ne (t u : Nat) (y : Th) (l : List Th) (h : t ≠ u) : thOf t (setTh u y l) = thOf t l := by
  rw [thOf_eq, thOf_eq, setTh_eq, List.getD_eq_getElem?_getD, List.getD_eq_getElem?_getD,
    List.getElem?_set_ne h.symm]

theorem setTh_setTh (t : Nat) (y z : Th) (l : List Th) : setTh t z (setTh t y l) = setTh t z l := by
  rw [setTh_eq, setTh_eq, setTh_eq, List.set_set]

theorem setTh_self (t : Nat) (l : List Th) : setTh t (thOf t l) l = l := by
  rw [setTh_eq, thOf_eq]
  by_cases h : t < l.length
  · rw [List.getD_eq_getElem?_getD, List.getElem?_eq_getElem h]; exact List.set_getElem_self h
  · rw [List.set_eq_of_length_le (Nat.le_of_not_lt h)]

theorem thOf_replicate (t n : Nat) : thOf t (List.replicate n ({} : Th)) = {} := by
  rw [thOf_eq, List.getD_eq_getElem?_getD, List.getElem?_replicate]
  split <;> rfl

/-- the invariant of the atomic protocol: the counter is the number of open transactions and no
decrement is ever half done -/
structure Inv (s : St) : Prop where
  count : s.counter = total s.ths
  noreg : ∀ th ∈ s.ths, th.reg = none

theorem inv_init (n : Nat) : Inv (init n) :=
  ⟨(total_replicate n).symm, fun th h => by rw [(List.mem_replicate.mp h).2]⟩

theorem Inv.reg_none {s : St} (inv : Inv s) {t : Nat} (ht : t < s.ths.length) : (thOf t s.ths).reg = none :=
  inv.noreg _ (thOf_mem t s.ths ht)

theorem noreg_setTh {t : Nat} {y : Th} {l : List Th} (h : ∀ th ∈ l, th.reg = none) (hy : y.reg = none) :
    ∀ th ∈ setTh t y l, th.reg = none :=
  fun th hm => (mem_setTh t y l th hm).elim (fun e => e ▸ hy) (h th)

theorem inv_step (s : St) (a : Act) (inv : Inv s) (ha : a.atomic = true) (he : enabled s a = true) :
    Inv (step s a) := by
  cases a with
  | enter t =>
    simp only [enabled, Bool.and_eq_true, decide_eq_true_eq] at he
    have hs := total_setTh t { thOf t s.ths with opened := (thOf t s.ths).opened + 1 } s.ths he.1
    refine ⟨?_, noreg_setTh inv.noreg (inv.reg_none he.1)⟩
    show s.counter + 1 = total (setTh t _ s.ths)
    rw [inv.count]
    exact (Nat.add_right_cancel (hs.trans (Nat.add_right_comm _ 1 _).symm)).symm
  | leave t =>
    simp only [enabled, Bool.and_eq_true, decide_eq_true_eq] at he
    have hs := total_setTh t { thOf t s.ths with opened := (thOf t s.ths).opened - 1 } s.ths he.1.1
    refine ⟨?_, noreg_setTh inv.noreg (inv.reg_none he.1.1)⟩
    show s.counter - 1 = total (setTh t _ s.ths)
    have h1 : total (setTh t { thOf t s.ths with opened := (thOf t s.ths).opened - 1 } s.ths) + 1 +
        (thOf t s.ths).opened = total s.ths + (thOf t s.ths).opened := by
      rw [Nat.add_right_comm, hs, Nat.add_assoc, Nat.sub_add_cancel he.1.2]
    rw [inv.count, ← Nat.add_right_cancel h1, Nat.add_sub_cancel]
  | load t => cases ha
  | store t => cases ha
  | leaveForget t => cases ha
  | request => exact ⟨inv.count, inv.noreg⟩
  | resize => exact ⟨inv.count, inv.noreg⟩

theorem runChecked_cons_eq_some {s s' : St} {a : Act} {r : List Act} :
    runChecked s (a :: r) = some s' ↔ enabled s a = true ∧ runChecked (step s a) r = some s' := by
  rw [runChecked]
  split <;> simp [*]

theorem runChecked_induction {P : St → Prop} {ok : Act → Prop}
    (hstep : ∀ s a, P s → ok a → enabled s a = true → P (step s a)) :
    ∀ (acts : List Act) (s s' : St), P s → (∀ a ∈ acts, ok a) → runChecked s acts = some s' → P s'
  | [], s, s', h, _, hr => by
    simp only [runChecked, Option.some.injEq] at hr
    exact hr ▸ h
  | a :: r, s, s', h, hok, hr => by
    obtain ⟨he, hr⟩ := runChecked_cons_eq_some.mp hr
    exact runChecked_induction hstep r _ s' (hstep s a h (hok a List.mem_cons_self) he)
      (fun b hb => hok b (List.mem_cons_of_mem _ hb)) hr

theorem inv_run (acts : List Act) (s s' : St) (inv : Inv s) (hat : ∀ a ∈ acts, a.atomic = true)
    (hr : runChecked s acts = some s') : Inv s' :=
  runChecked_induction (fun s a => inv_step s a) acts s s' inv hat hr

theorem total_zero_of_quiescent : ∀ (l : List Th), l.all (fun th => th.opened == 0 && th.reg.isNone) = true →
    total l = 0
  | [], _ => rfl
  | x :: r, h => by
    simp only [List.all_cons, Bool.and_eq_true, beq_iff_eq] at h
    rw [total_cons, total_zero_of_quiescent r h.2, h.1.1]

/-- no thread counts as inside a transaction, the counter says one is open, a resize has been requested: the end
state of the lost-update schedule (`lost_decrement_witness`: both readers are gone) and of the forgotten nesting
(`lost_nesting_witness`: the holder counts as outside) -/
def stuckState : St :=
  { counter := 1, resizing := true, resizes := 0, ths := [{}, {}] }

theorem thOf_two_default (t : Nat) : thOf t [({} : Th), {}] = {} := thOf_replicate t 2

/-- in `stuckState` nothing can move: nobody can enter (a resize is pending), nobody has anything
to leave, and the resize waits for a counter that no transition will ever change -/
theorem stuckState_dead (a : Act) : enabled stuckState a = false := by
  cases a <;> simp [enabled, stuckState, thOf_two_default]

theorem length_step (s : St) (a : Act) : (step s a).ths.length = s.ths.length := by
  cases a <;> simp only [step, length_setTh]
  case store t =>
    cases (thOf t s.ths).reg <;> simp [length_setTh]

theorem length_run (acts : List Act) (s s' : St) (hr : runChecked s acts = some s') :
    s'.ths.length = s.ths.length :=
  runChecked_induction (P := fun x => x.ths.length = s.ths.length) (ok := fun _ => True)
    (fun x a h _ _ => (length_step x a).trans h) acts s s' rfl (fun _ _ => trivial) hr

theorem depth_step (s : St) (a : Act) (t : Nat) (ha : a.atomic = true) (he : enabled s a = true) :
    depth (step s a) t = opensFrom t (depth s t) [a] := by
  cases a with
  | enter u =>
    simp only [enabled, Bool.and_eq_true, decide_eq_true_eq] at he
    by_cases hu : u = t
    · subst hu
      simp [depth, step, opensFrom, thOf_setTh_same _ _ _ he.1]
    · have : t ≠ u := fun h => hu h.symm
      simp [depth, step, opensFrom, hu, thOf_setTh_ne _ _ _ _ this]
  | leave u =>
    simp only [enabled, Bool.and_eq_true, decide_eq_true_eq] at he
    by_cases hu : u = t
    · subst hu
      simp [depth, step, opensFrom, thOf_setTh_same _ _ _ he.1.1]
    · have : t ≠ u := fun h => hu h.symm
      simp [depth, step, opensFrom, hu, thOf_setTh_ne _ _ _ _ this]
  | load u => cases ha
  | store u => cases ha
  | leaveForget u => cases ha
  | request => simp [depth, step, opensFrom]
  | resize => simp [depth, step, opensFrom]

theorem opensFrom_cons (t k : Nat) (a : Act) (r : List Act) :
    opensFrom t k (a :: r) = opensFrom t (opensFrom t k [a]) r := by
  cases a <;> simp [opensFrom]

theorem depth_run : ∀ (acts : List Act) (s s' : St) (t : Nat), (∀ a ∈ acts, a.atomic = true) →
    runChecked s acts = some s' → depth s' t = opensFrom t (depth s t) acts
  | [], s, s', t, _, h => by
    simp only [runChecked, Option.some.injEq] at h
    rw [← h]; rfl
  | a :: r, s, s', t, hat, h => by
    obtain ⟨he, h⟩ := runChecked_cons_eq_some.mp h
    rw [depth_run r (step s a) s' t (fun b hb => hat b (by simp [hb])) h,
      depth_step s a t (hat a (by simp)) he, ← opensFrom_cons]

theorem depth_init (n t : Nat) : depth (init n) t = 0 := by
  rw [depth, init, thOf_replicate]

theorem exists_pos_of_total_pos : ∀ (l : List Th), 0 < total l → ∃ t, t < l.length ∧ (thOf t l).opened > 0
  | [], h => by simp [total] at h
  | x :: r, h => by
    by_cases hx : x.opened > 0
    · exact ⟨0, by simp, by simpa [thOf] using hx⟩
    · have hr : 0 < total r := by
        rw [total_cons] at h
        omega
      obtain ⟨t, ht, hp⟩ := exists_pos_of_total_pos r hr
      exact ⟨t + 1, by simpa using ht, by simpa [thOf] using hp⟩

theorem pair_restores (s : St) (t : Nat) (ht : t < s.ths.length) :
    step (step s (.enter t)) (.leave t) = s := by
  have h1 : thOf t (setTh t { thOf t s.ths with opened := (thOf t s.ths).opened + 1 } s.ths)
      = { thOf t s.ths with opened := (thOf t s.ths).opened + 1 } := thOf_setTh_same _ _ _ ht
  cases s with
  | mk counter resizing resizes ths =>
    simp only [step] at h1 ⊢
    rw [h1]
    simp only [setTh_setTh, Nat.add_sub_cancel]
    congr 1
    exact setTh_self t ths

/-- `k` consecutive nested operations (each a complete enter/leave pair) of thread `t` -/
def nestedPairs (t : Nat) : Nat → List Act
  | 0 => []
  | k+1 => .enter t :: .leave t :: nestedPairs t k

theorem enter_enabled_of_depth {s : St} {t : Nat} (ht : t < s.ths.length) (hd : 0 < depth s t) :
    enabled s (.enter t) = true := by
  simp only [enabled, Bool.and_eq_true, decide_eq_true_eq, Bool.or_eq_true, Bool.not_eq_true']
  exact ⟨ht, Or.inr hd⟩

theorem run_nestedPairs (s : St) (t : Nat) (ht : t < s.ths.length) (hd : 0 < depth s t)
    (hreg : (thOf t s.ths).reg = none) : ∀ k, runChecked s (nestedPairs t k) = some s
  | 0 => rfl
  | k+1 => by
    have he1 := enter_enabled_of_depth ht hd
    have hth : thOf t (step s (.enter t)).ths = { thOf t s.ths with opened := (thOf t s.ths).opened + 1 } := by
      simp only [step]; exact thOf_setTh_same _ _ _ ht
    have he2 : enabled (step s (.enter t)) (.leave t) = true := by
      simp only [enabled, hth, length_step, Bool.and_eq_true, decide_eq_true_eq]
      exact ⟨⟨ht, by omega⟩, by simp [hreg]⟩
    simp only [nestedPairs, runChecked, he1, he2, if_true, pair_restores s t ht]
    exact run_nestedPairs s t ht hd hreg k

theorem runChecked_append : ∀ (a b : List Act) (s : St),
    runChecked s (a ++ b) = (runChecked s a).bind (fun s' => runChecked s' b)
  | [], _, _ => rfl
  | x :: r, b, s => by
    simp only [List.cons_append, runChecked]
    by_cases he : enabled s x = true
    · simp only [he, if_true]; exact runChecked_append r b _
    · simp [he]

theorem step_resizing_of_ne_resize (s : St) (a : Act) (ha : a ≠ .resize) (hr : s.resizing = true) :
    (step s a).resizing = true := by
  cases a with
  | resize => exact absurd rfl ha
  | store t =>
    simp only [step]
    cases (thOf t s.ths).reg <;> simp [hr]
  | _ => simp [step, hr]

theorem resizing_kept (acts : List Act) (s s' : St) (h : runChecked s acts = some s')
    (hr : s.resizing = true) (hn : ∀ a ∈ acts, a ≠ .resize) : s'.resizing = true :=
  runChecked_induction (P := (·.resizing = true)) (ok := (· ≠ .resize))
    (fun s a hr ha _ => step_resizing_of_ne_resize s a ha hr) acts s s' hr hn h

theorem opensFrom_no_enter (x : Nat) (acts : List Act) (h : ∀ a ∈ acts, a ≠ Act.enter x) :
    opensFrom x 0 acts = 0 := by
  induction acts with
  | nil => rfl
  | cons a r ih =>
    have ih := ih (fun b hb => h b (List.mem_cons_of_mem _ hb))
    cases a with
    | enter u =>
      have hu : u ≠ x := fun e => h (.enter u) List.mem_cons_self (e ▸ rfl)
      rw [opensFrom, if_neg hu, ih]
    | leave u => rw [opensFrom]; split <;> exact ih
    | _ => exact ih

theorem length_of_reachable {threads : Nat} {acts : List Act} {s : St}
    (hrun : runChecked (init threads) acts = some s) : s.ths.length = threads := by
  rw [length_run acts _ s hrun, init, List.length_replicate]

theorem reachable_inv {threads : Nat} {acts : List Act} {s : St} (hat : ∀ a ∈ acts, a.atomic = true)
    (hrun : runChecked (init threads) acts = some s) : Inv s ∧ s.ths.length = threads :=
  ⟨inv_run acts _ s (inv_init threads) hat hrun, length_of_reachable hrun⟩

theorem holder_enabled (s : St) (inv : Inv s) (t : Nat) (ht : t < s.ths.length)
    (hd : 0 < depth s t) : enabled s (.enter t) = true ∧ enabled s (.leave t) = true := by
  refine ⟨enter_enabled_of_depth ht hd, ?_⟩
  simp only [enabled, Bool.and_eq_true, decide_eq_true_eq]
  exact ⟨⟨ht, hd⟩, by rw [inv.reg_none ht]; rfl⟩

theorem exists_holder (s : St) (inv : Inv s) (hc : s.counter ≠ 0) :
    ∃ t, t < s.ths.length ∧ 0 < depth s t :=
  exists_pos_of_total_pos s.ths (by rw [← inv.count]; exact Nat.pos_of_ne_zero hc)

/-- from every state of the atomic protocol the holders can close all their transactions, by leaves
alone -/
theorem holders_can_close (n : Nat) : ∀ (s : St), Inv s → s.counter = n →
    ∃ acts s', (∀ a ∈ acts, ∃ t, a = Act.leave t) ∧ runChecked s acts = some s' ∧ s'.counter = 0 ∧
      s'.resizing = s.resizing ∧ s'.resizes = s.resizes := by
  induction n with
  | zero => exact fun s _ h => ⟨[], s, nofun, rfl, h, rfl, rfl⟩
  | succ n ih =>
    intro s inv h
    obtain ⟨t, ht, hp⟩ := exists_holder s inv (by rw [h]; exact Nat.succ_ne_zero n)
    have he := (holder_enabled s inv t ht hp).2
    obtain ⟨acts, s', h1, h2, h3, h4, h5⟩ :=
      ih (step s (.leave t)) (inv_step s (.leave t) inv rfl he)
        (by show s.counter - 1 = n; rw [h]; rfl)
    refine ⟨.leave t :: acts, s', List.forall_mem_cons.2 ⟨⟨t, rfl⟩, h1⟩, ?_, h3, h4, h5⟩
    rw [runChecked, if_pos he]; exact h2

end GV.TxCount
