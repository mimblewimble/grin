import GrinVerif.Model.ChainFull
/-! Lemmas on full-state validation (`Model/ChainFull.lean`): the two batching loops verify every
item, whatever the batch size, the count and the interleaving of leaves and parents. -/
namespace GV.Chain

/-- what `verify_kernel_signatures` must establish about one position -/
def KPos.good : KPos → Prop
  | .parent => True
  | .leaf k => k.sigBad = false
  | .missing => False

/-- what `verify_rangeproofs` must establish about one unspent output -/
def OItem.good (o : OItem) : Prop :=
  o.outMissing = false ∧ o.proofMissing = false ∧ o.proofBad = false

theorem batchSigVerify_iff (b : List KItem) :
    batchSigVerify b = true ↔ ∀ k ∈ b, k.sigBad = false := by
  simp [batchSigVerify, List.all_eq_true]

theorem batchProofVerify_iff (b : List OItem) :
    batchProofVerify b = true ↔ ∀ o ∈ b, o.proofBad = false := by
  simp [batchProofVerify, List.all_eq_true]

theorem accAfter_none (p : KPos) (acc : List KItem) : accAfter p acc = none ↔ p = .missing := by
  cases p <;> simp [accAfter]

theorem accAfter_some (p : KPos) (acc acc' : List KItem) (h : accAfter p acc = some acc') :
    ((∀ k ∈ acc', k.sigBad = false) ↔ (∀ k ∈ acc, k.sigBad = false) ∧ p.good) := by
  cases p with
  | parent =>
    simp only [accAfter, Option.some.injEq] at h
    subst h
    simp [KPos.good]
  | leaf k =>
    simp only [accAfter, Option.some.injEq] at h
    subst h
    rw [List.forall_mem_append, List.forall_mem_singleton, KPos.good]
  | missing => simp [accAfter] at h

/-- **The kernel loop verifies every kernel.** For every batch size, every list of positions
(any count, any interleaving of leaves and parents, the last position a leaf or a parent) and every
pending batch: the loop passes iff every position is a parent or a readable leaf without a
signature fault, and — when there is at least one position left — the pending batch is clean. -/
theorem sigLoop_none_iff (B : Nat) (l : List KPos) (acc : List KItem) :
    sigLoop B l acc = none ↔
      (l ≠ [] → ∀ k ∈ acc, k.sigBad = false) ∧ ∀ p ∈ l, p.good := by
  induction l generalizing acc with
  | nil => simp [sigLoop]
  | cons p rest ih =>
    unfold sigLoop
    cases ha : accAfter p acc with
    | none =>
      have hp := (accAfter_none p acc).mp ha
      subst hp
      simp [KPos.good]
    | some acc' =>
      have hacc := accAfter_some p acc acc' ha
      simp only [ne_eq, reduceCtorEq, not_false_eq_true, forall_const, List.mem_cons,
        forall_eq_or_imp]
      by_cases hflush : B ≤ acc'.length ∨ rest.isEmpty = true
      · rw [if_pos hflush]
        by_cases hb : batchSigVerify acc' = true
        · rw [if_pos hb, ih []]
          have := (batchSigVerify_iff acc').mp hb
          have h2 := hacc.mp this
          simp only [List.not_mem_nil, false_imp_iff, implies_true, true_and]
          constructor
          · intro hr; exact ⟨h2.1, h2.2, hr⟩
          · intro hr; exact hr.2.2
        · rw [if_neg hb]
          simp only [reduceCtorEq, false_iff, not_and]
          intro h1 h2
          exact fun _ => hb ((batchSigVerify_iff acc').mpr (hacc.mpr ⟨h1, h2⟩))
      · rw [if_neg hflush, ih acc']
        have hne : rest ≠ [] := by
          intro h
          apply hflush
          right
          simp [h]
        constructor
        · rintro ⟨h1, h2⟩
          have := hacc.mp (h1 hne)
          exact ⟨this.1, this.2, h2⟩
        · rintro ⟨h1, h2, h3⟩
          exact ⟨fun _ => hacc.mpr ⟨h1, h2⟩, h3⟩

/-- **The range-proof loop verifies every unspent output.** For every batch size, every list of
unspent outputs and every pending batch: the loop passes iff every output and proof is readable
and no proof — pending or still to come — carries a fault. -/
theorem proofLoop_none_iff (B : Nat) (l : List OItem) (acc : List OItem) :
    proofLoop B l acc = none ↔
      (∀ o ∈ acc, o.proofBad = false) ∧ ∀ o ∈ l, o.good := by
  induction l generalizing acc with
  | nil =>
    unfold proofLoop
    by_cases he : acc.isEmpty = true
    · rw [if_pos he]
      have : acc = [] := by simpa using he
      subst this
      simp
    · rw [if_neg he]
      by_cases hb : batchProofVerify acc = true
      · rw [if_pos hb]
        simp only [List.not_mem_nil, false_imp_iff, implies_true, and_true, true_iff]
        exact (batchProofVerify_iff acc).mp hb
      · rw [if_neg hb]
        simp only [reduceCtorEq, List.not_mem_nil, false_imp_iff, implies_true, and_true,
          false_iff]
        exact fun h => hb ((batchProofVerify_iff acc).mpr h)
  | cons o rest ih =>
    unfold proofLoop
    simp only [List.mem_cons, forall_eq_or_imp, OItem.good]
    by_cases h1 : o.outMissing = true
    · rw [if_pos h1]; simp [h1]
    · rw [if_neg h1]
      by_cases h2 : o.proofMissing = true
      · rw [if_pos h2]; simp [h2]
      · rw [if_neg h2]
        have h1' : o.outMissing = false := by simpa using h1
        have h2' : o.proofMissing = false := by simpa using h2
        have happ : (∀ x ∈ acc ++ [o], x.proofBad = false) ↔
            (∀ x ∈ acc, x.proofBad = false) ∧ o.proofBad = false := by
          rw [List.forall_mem_append, List.forall_mem_singleton]
        by_cases hflush : B ≤ (acc ++ [o]).length
        · rw [if_pos hflush]
          by_cases hb : batchProofVerify (acc ++ [o]) = true
          · rw [if_pos hb, ih []]
            have := happ.mp ((batchProofVerify_iff _).mp hb)
            simp only [List.not_mem_nil, false_imp_iff, implies_true, true_and, OItem.good]
            constructor
            · intro hr; exact ⟨this.1, ⟨h1', h2', this.2⟩, hr⟩
            · intro hr; exact hr.2.2
          · rw [if_neg hb]
            simp only [reduceCtorEq, false_iff, not_and]
            intro ha hb' _
            exact hb ((batchProofVerify_iff _).mpr (happ.mpr ⟨ha, hb'.2.2⟩))
        · rw [if_neg hflush, ih (acc ++ [o])]
          simp only [OItem.good]
          constructor
          · rintro ⟨ha, hr⟩
            have := happ.mp ha
            exact ⟨this.1, ⟨h1', h2', this.2⟩, hr⟩
          · rintro ⟨ha, hb, hr⟩
            exact ⟨happ.mpr ⟨ha, hb.2.2⟩, hr⟩

theorem layoutFrom_good (i : Nat) (ks : List KItem) :
    (∀ p ∈ layoutFrom i ks, p.good) ↔ ∀ k ∈ ks, k.sigBad = false := by
  induction ks generalizing i with
  | nil => simp [layoutFrom]
  | cons k ks ih =>
    simp only [layoutFrom, List.cons_append, List.mem_cons, List.mem_append, List.mem_replicate,
      forall_eq_or_imp]
    constructor
    · rintro ⟨hk, hr⟩
      refine ⟨hk, (ih (i + 1)).mp (fun p hp => hr p (Or.inr hp))⟩
    · rintro ⟨hk, hr⟩
      refine ⟨hk, ?_⟩
      rintro p (⟨_, rfl⟩ | hp)
      · trivial
      · exact (ih (i + 1)).mpr hr p hp

/-! concrete states for the non-vacuity examples of `Props/C01.lean` -/
namespace FullEx
def exP : Params := { reward := 60 }
def exUtxo : List OItem := [{ v := 60 }, { v := 50 }, { v := 70 }]
def exState (ks : List KItem) (u : List OItem) : FullState :=
  { height := 2, kernelMmr := kernelLayout ks, utxo := u }
end FullEx

end GV.Chain
