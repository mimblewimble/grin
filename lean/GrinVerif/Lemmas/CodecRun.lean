import GrinVerif.Model.CodecSpec
import GrinVerif.Lemmas.MsgHeader
import GrinVerif.Lemmas.SerMsgRt
/-! What the read loop of the codec is made of: sockets (fragments read like the flat stream), the reader loop over
any reader (`runG`), and on the flat stream the frame header, one iteration, filling and the arms on exact buffers.
`read_exact` over fragments is `read_exact` over the concatenated stream, so nothing above it sees the fragmentation;
`run` and `runT` are the instances of `runG`, which follows `tryBreak` (the `try_break!` of `conn::poll`). -/
namespace GV.Codec
open GV GV.Ser GV.Msg

theorem readExact_spec (n : Nat) (s : List Bytes) :
    (n ≤ s.flatten.length → ∃ s', readExact n s = some (s.flatten.take n, s') ∧ s'.flatten = s.flatten.drop n) ∧
    (s.flatten.length < n → readExact n s = none) := by
  induction s generalizing n with
  | nil =>
    constructor
    · intro h
      have : n = 0 := by simpa using h
      subst this; exact ⟨[], by simp [readExact], by simp⟩
    · intro h
      have : n ≠ 0 := by simp at h; omega
      simp [readExact, this]
  | cons f s ih =>
    simp only [List.flatten_cons, List.length_append]
    by_cases hn : n ≤ f.length
    · constructor
      · intro _
        refine ⟨f.drop n :: s, by simp [readExact, hn, List.take_append_of_le_length hn], ?_⟩
        simp [List.drop_append_of_le_length hn]
      · intro h; omega
    · have hn' : f.length < n := by omega
      obtain ⟨ih1, ih2⟩ := ih (n - f.length)
      constructor
      · intro h
        obtain ⟨s', h1, h2⟩ := ih1 (by omega)
        refine ⟨s', ?_, ?_⟩
        · simp only [readExact, hn, if_false, h1]
          rw [List.take_append]
          simp [List.take_of_length_le (Nat.le_of_lt hn')]
        · rw [h2, List.drop_append]
          simp [List.drop_of_length_le (Nat.le_of_lt hn')]
      · intro h
        simp only [readExact, hn, if_false, ih2 (by omega)]

/-- two sockets that behave alike under `read_exact` -/
structure Sim {σ1 σ2 : Type} (ops1 : SockOps σ1) (ops2 : SockOps σ2) (R : σ1 → σ2 → Prop) : Prop where
  rx : ∀ n s b, R s b →
    (ops1.rx n s = none ∧ ops2.rx n b = none) ∨
    (∃ x s' b', ops1.rx n s = some (x, s') ∧ ops2.rx n b = some (x, b') ∧ R s' b')
  drain : ∀ s b, R s b → R (ops1.drain s) (ops2.drain b)

theorem sim_frag_flat : Sim fragOps flatOps (fun s b => s.flatten = b) where
  rx := by
    intro n s b h
    subst h
    obtain ⟨h1, h2⟩ := readExact_spec n s
    by_cases hn : n ≤ s.flatten.length
    · obtain ⟨s', e1, e2⟩ := h1 hn
      right
      refine ⟨s.flatten.take n, s', s.flatten.drop n, e1, ?_, e2⟩
      show splitExact n s.flatten = _
      rw [splitExact_eq, if_pos hn]
    · left
      refine ⟨h2 (by omega), ?_⟩
      show splitExact n s.flatten = _
      rw [splitExact_eq, if_neg hn]
  drain := by intro s b _; simp [fragOps, flatOps]

theorem sim_frag_frag : Sim fragOps fragOps (fun s b => s.flatten = b.flatten) where
  rx := by
    intro n s b h
    rcases sim_frag_flat.rx n s s.flatten rfl with ⟨e1, e2⟩ | ⟨x, s', f', e1, e2, hr⟩ <;>
      rcases sim_frag_flat.rx n b s.flatten h.symm with ⟨e3, e4⟩ | ⟨x', b', f'', e3, e4, hr'⟩
    · exact .inl ⟨e1, e3⟩
    · rw [e2] at e4; cases e4
    · rw [e2] at e4; cases e4
    · rw [e2] at e4; cases e4
      exact .inr ⟨x, s', b', e1, e3, hr.trans hr'.symm⟩
  drain := by intro s b _; rfl

variable {B H σ1 σ2 : Type}

def OutRel (R : σ1 → σ2 → Prop) (o1 : ReadOut B H σ1) (o2 : ReadOut B H σ2) : Prop :=
  o1.res = o2.res ∧ o1.bytesRead = o2.bytesRead ∧ o1.alloc = o2.alloc ∧ o1.codec = o2.codec ∧ R o1.sock o2.sock

theorem fill_sim {ops1 : SockOps σ1} {ops2 : SockOps σ2} {R : σ1 → σ2 → Prop} (hs : Sim ops1 ops2 R)
    (c : Codec H) (s : σ1) (b : σ2) (nl : Nat) (h : R s b) :
    (fill ops1 c s nl = none ∧ fill ops2 c b nl = none) ∨
    (∃ c1 s1 b1, fill ops1 c s nl = some (c1, s1) ∧ fill ops2 c b nl = some (c1, b1) ∧ R s1 b1) := by
  unfold fill
  by_cases ht : nl - c.buffer.length > 0
  · simp only [ht, if_true]
    rcases hs.rx (nl - c.buffer.length) s b h with ⟨e1, e2⟩ | ⟨x, s', b', e1, e2, hr⟩
    · left; simp [e1, e2]
    · right; exact ⟨{ c with buffer := c.buffer ++ x }, s', b', by simp [e1], by simp [e2], hr⟩
  · simp only [ht, if_false]
    right; exact ⟨c, s, b, rfl, rfl, h⟩

theorem readLoop_sim (env : Env B H) {ops1 : SockOps σ1} {ops2 : SockOps σ2} {R : σ1 → σ2 → Prop}
    (hs : Sim ops1 ops2 R) :
    ∀ (fuel : Nat) (c : Codec H) (s : σ1) (b : σ2) (br al : Nat), R s b →
      OutRel R (readLoop env ops1 fuel c s br al) (readLoop env ops2 fuel c b br al) := by
  intro fuel
  induction fuel with
  | zero => intro c s b br al h; exact ⟨rfl, rfl, rfl, rfl, h⟩
  | succ fuel ih =>
    intro c s b br al h
    simp only [readLoop]
    rcases fill_sim hs c s b (nextLen env c.state) h with ⟨e1, e2⟩ | ⟨c1, s1, b1, e1, e2, hr⟩
    · rw [e1, e2]
      exact ⟨rfl, rfl, rfl, rfl, hs.drain s b h⟩
    · rw [e1, e2]
      simp only []
      cases hst : stepState env c1 (nextLen env c.state) with
      | inl r => obtain ⟨r, c2, a⟩ := r; exact ⟨rfl, rfl, rfl, rfl, hr⟩
      | inr r => obtain ⟨c2, a⟩ := r; exact ih c2 s1 b1 _ _ hr

theorem read_sim (env : Env B H) {ops1 : SockOps σ1} {ops2 : SockOps σ2} {R : σ1 → σ2 → Prop}
    (hs : Sim ops1 ops2 R) (c : Codec H) (s : σ1) (b : σ2) (h : R s b) :
    OutRel R (read env ops1 c s) (read env ops2 c b) :=
  readLoop_sim env hs READ_FUEL c s b 0 0 h

theorem run_sim (env : Env B H) {ops1 : SockOps σ1} {ops2 : SockOps σ2} {R : σ1 → σ2 → Prop}
    (hs : Sim ops1 ops2 R) (attach : Message B H → Option Nat) :
    ∀ (fuel : Nat) (c : Codec H) (s : σ1) (b : σ2), R s b →
      (run env ops1 attach fuel c s).1 = (run env ops2 attach fuel c b).1 ∧
      (run env ops1 attach fuel c s).2.1 = (run env ops2 attach fuel c b).2.1 ∧
      (run env ops1 attach fuel c s).2.2.1 = (run env ops2 attach fuel c b).2.2.1 ∧
      R (run env ops1 attach fuel c s).2.2.2 (run env ops2 attach fuel c b).2.2.2 := by
  intro fuel
  induction fuel with
  | zero => intro c s b h; exact ⟨rfl, rfl, rfl, h⟩
  | succ fuel ih =>
    intro c s b h
    obtain ⟨e1, _, _, e4, e5⟩ := read_sim env hs c s b h
    simp only [run]
    rw [e1, e4]
    cases hres : (read env ops2 c b).res with
    | msg m =>
      simp only
      cases hc : nextCodec attach (read env ops2 c b).codec m with
      | none => exact ⟨rfl, rfl, rfl, e5⟩
      | some c' =>
        obtain ⟨i1, i2, i3, i4⟩ := ih c' _ _ e5
        exact ⟨by simp only [i1], i2, i3, i4⟩
    | err e => exact ⟨rfl, rfl, rfl, e5⟩
    | panic st => exact ⟨rfl, rfl, rfl, e5⟩
    | hang => exact ⟨rfl, rfl, rfl, e5⟩

/-- the framing loop over any reader (`run` over `read env ops`, `runT` over `readT env`); `retry`: a read
that timed out is read again -/
def runG {σ : Type} (rd : Codec H → σ → ReadOut B H σ) (retry : Bool) (attach : Message B H → Option Nat) :
    Nat → Codec H → σ → List (Message B H) × Res B H × Codec H × σ
  | 0, c, s => ([], .hang, c, s)
  | fuel+1, c, s =>
    match (rd c s).res with
    | .msg m =>
      match nextCodec attach (rd c s).codec m with
      | none => ([m], .panic .assertion, (rd c s).codec, (rd c s).sock)
      | some c' =>
        (m :: (runG rd retry attach fuel c' (rd c s).sock).1, (runG rd retry attach fuel c' (rd c s).sock).2)
    | .err e =>
      if retry ∧ e = .timedOut then runG rd retry attach fuel (rd c s).codec (rd c s).sock
      else ([], .err e, (rd c s).codec, (rd c s).sock)
    | .panic st => ([], .panic st, (rd c s).codec, (rd c s).sock)
    | .hang => ([], .hang, (rd c s).codec, (rd c s).sock)

theorem run_eq_runG {σ : Type} (env : Env B H) (ops : SockOps σ) (attach : Message B H → Option Nat) :
    ∀ (fuel : Nat) (c : Codec H) (s : σ), run env ops attach fuel c s = runG (read env ops) false attach fuel c s := by
  intro fuel
  induction fuel with
  | zero => intro c s; rfl
  | succ fuel ih =>
    intro c s
    simp only [run, runG]
    cases (read env ops c s).res with
    | msg m => cases nextCodec attach (read env ops c s).codec m <;> simp only [ih] <;> rfl
    | err e => simp
    | panic st => rfl
    | hang => rfl

theorem runT_eq_runG (env : Env B H) (attach : Message B H → Option Nat) :
    ∀ (fuel : Nat) (c : Codec H) (s : TStream), runT env attach fuel c s = runG (readT env) true attach fuel c s := by
  intro fuel
  induction fuel with
  | zero => intro c s; rfl
  | succ fuel ih =>
    intro c s
    simp only [runT, runG]
    cases (readT env c s).res with
    | msg m => cases nextCodec attach (readT env c s).codec m <;> simp only [ih] <;> rfl
    | err e => simp only [ih, true_and]
    | panic st => rfl
    | hang => rfl

section
variable {σ : Type} (rd : Codec H → σ → ReadOut B H σ) (retry : Bool) (attach : Message B H → Option Nat)
  (fuel : Nat) (c : Codec H) (s : σ)

theorem runG_msg {c' : Codec H} {m : Message B H} (hr : (rd c s).res = .msg m)
    (hn : nextCodec attach (rd c s).codec m = some c') :
    runG rd retry attach (fuel + 1) c s =
      (m :: (runG rd retry attach fuel c' (rd c s).sock).1, (runG rd retry attach fuel c' (rd c s).sock).2) := by
  simp only [runG, hr, hn]

theorem runG_msg_none (m : Message B H) (hr : (rd c s).res = .msg m)
    (hn : nextCodec attach (rd c s).codec m = none) :
    (runG rd retry attach (fuel + 1) c s).2.1 = .panic .assertion := by
  simp only [runG, hr, hn]

theorem runG_err_retry (e : Err) (hr : (rd c s).res = .err e) (he : retry = true ∧ e = .timedOut) :
    runG rd retry attach (fuel + 1) c s = runG rd retry attach fuel (rd c s).codec (rd c s).sock := by
  simp only [runG, hr, he, and_self, if_true]

theorem runG_err_leave (e : Err) (hr : (rd c s).res = .err e) (he : ¬ (retry = true ∧ e = .timedOut)) :
    runG rd retry attach (fuel + 1) c s = ([], .err e, (rd c s).codec, (rd c s).sock) := by
  simp only [runG, hr, he, if_false]

theorem tryBreak_err (e : Err) : tryBreak (.err e : Res B H) = if e = .timedOut then .retry else .leave := rfl

theorem runG_leave (h : tryBreak (rd c s).res ≠ .deliver) (hr : retry = true → tryBreak (rd c s).res ≠ .retry) :
    runG rd retry attach (fuel + 1) c s = ([], (rd c s).res, (rd c s).codec, (rd c s).sock) := by
  cases hres : (rd c s).res with
  | msg m => rw [hres] at h; exact absurd rfl h
  | err e =>
    refine runG_err_leave rd retry attach fuel c s e hres fun he => ?_
    rw [hres, tryBreak_err, if_pos he.2] at hr
    exact hr he.1 rfl
  | panic st => simp only [runG, hres]
  | hang => simp only [runG, hres]

theorem runG_retry (hr : retry = true) (h : tryBreak (rd c s).res = .retry) :
    runG rd retry attach (fuel + 1) c s = runG rd retry attach fuel (rd c s).codec (rd c s).sock := by
  cases hres : (rd c s).res with
  | err e =>
    refine runG_err_retry rd retry attach fuel c s e hres ⟨hr, ?_⟩
    rw [hres, tryBreak_err] at h
    by_cases he : e = .timedOut
    · exact he
    · rw [if_neg he] at h; cases h
  | _ => rw [hres] at h; cases h

end

theorem AttachOK.unknown {attach : Message B H → Option Nat} (h : AttachOK attach) (t : Nat) :
    attach (.unknown t) = none := h.1 t

theorem AttachOK.headers {attach : Message B H → Option Nat} (h : AttachOK attach) (hs : List H) (r : Nat) :
    attach (.headers hs r) = none := h.2.1 hs r

theorem AttachOK.attachment {attach : Message B H → Option Nat} (h : AttachOK attach) (a b : Nat) (c : Bytes) :
    attach (.attachment a b c) = none := h.2.2 a b c

theorem nextCodec_none {attach : Message B H → Option Nat} (c : Codec H) (m : Message B H)
    (h : attach m = none) : nextCodec attach c m = some c := by
  simp [nextCodec, h]

theorem run_msg {σ : Type} (env : Env B H) (ops : SockOps σ) (attach : Message B H → Option Nat) (fuel : Nat)
    (c : Codec H) (s : σ) {c' : Codec H} {m : Message B H} (hr : (read env ops c s).res = .msg m)
    (hn : nextCodec attach (read env ops c s).codec m = some c') :
    run env ops attach (fuel + 1) c s =
      (m :: (run env ops attach fuel c' (read env ops c s).sock).1, (run env ops attach fuel c' (read env ops c s).sock).2) := by
  rw [run_eq_runG, run_eq_runG]
  exact runG_msg _ _ attach fuel c s hr hn

theorem runT_msg (env : Env B H) (attach : Message B H → Option Nat) (fuel : Nat) (c : Codec H) (ts : TStream)
    {c' : Codec H} {m : Message B H} (hr : (readT env c ts).res = .msg m)
    (hn : nextCodec attach (readT env c ts).codec m = some c') :
    runT env attach (fuel + 1) c ts =
      (m :: (runT env attach fuel c' (readT env c ts).sock).1, (runT env attach fuel c' (readT env c ts).sock).2) := by
  rw [runT_eq_runG, runT_eq_runG]
  exact runG_msg _ _ attach fuel c ts hr hn

theorem run_leave {σ : Type} (env : Env B H) (ops : SockOps σ) (attach : Message B H → Option Nat)
    (fuel : Nat) (c : Codec H) (s : σ) (h : tryBreak (read env ops c s).res ≠ .deliver) :
    run env ops attach (fuel + 1) c s = ([], (read env ops c s).res, (read env ops c s).codec, (read env ops c s).sock) := by
  rw [run_eq_runG]
  exact runG_leave _ _ attach fuel c s h nofun

theorem runT_leave (env : Env B H) (attach : Message B H → Option Nat) (fuel : Nat) (c : Codec H) (s : TStream)
    (h : tryBreak (readT env c s).res = .leave) :
    runT env attach (fuel + 1) c s = ([], (readT env c s).res, (readT env c s).codec, (readT env c s).sock) := by
  rw [runT_eq_runG]
  exact runG_leave _ _ attach fuel c s (by rw [h]; nofun) (fun _ => by rw [h]; nofun)

theorem runT_retry (env : Env B H) (attach : Message B H → Option Nat) (fuel : Nat) (c : Codec H) (s : TStream)
    (h : tryBreak (readT env c s).res = .retry) :
    runT env attach (fuel + 1) c s = runT env attach fuel (readT env c s).codec (readT env c s).sock := by
  rw [runT_eq_runG, runT_eq_runG]
  exact runG_retry _ _ attach fuel c s rfl h

end GV.Codec

namespace GV.Codec
open GV GV.Ser GV.Dec GV.Msg GV.Gen.Msg

variable {B H : Type}

def idle : Codec H := { buffer := [], state := .none }

theorem encHeader_length (c : NetCfg) (t len : Nat) : (encHeader c t len).length = 11 := by
  simp [encHeader, writeU8, writeU64]

/-- the announced length is a `u64` -/
structure HdrWF (c : NetCfg) (t len : Nat) : Prop where
  len64 : len < 2^64

theorem rU8_cons (b : Nat) (rest : Bytes) : rU8 (b :: rest) = .ok b rest 0 := by
  simp [rU8, readU8, GV.Dec.lift]

/-- `MsgHeaderWrapper::read` on a header written by `MsgHeader::write` -/
theorem decHeader_encHeader (c : NetCfg) (t len : Nat) (hl : len < 2^64) (rest : Bytes) :
    decHeader c (encHeader c t len ++ rest) =
      if len > maxLen c t then .err .tooLarge 0
      else if isKnownType t then .ok (.known t len) rest 0
      else .ok (.unknown len t) rest 0 := by
  rw [decHeader_eq, show encHeader c t len = GV.SerMsg.encMsgHeader (toCfg c) t len from rfl, GV.SerMsg.decMsgHeader_enc _ _ _ hl]
  show lift (andThen (if len > maxLen c t then _ else if isKnownType t = true then _ else _) _) = _
  split
  · rfl
  · split <;> rfl

theorem decHeader_wrong_magic1 (c : NetCfg) (b : Nat) (rest : Bytes) (h : b ≠ c.magic.1) :
    decHeader c (b :: rest) = .err .unexpectedData 0 := by
  rw [decHeader_eq, GV.SerMsg.decMsgHeader_magic1 (toCfg c) b h]; rfl

theorem decHeader_wrong_magic2 (c : NetCfg) (b : Nat) (rest : Bytes) (h : b ≠ c.magic.2) :
    decHeader c (c.magic.1 :: b :: rest) = .err .unexpectedData 0 := by
  rw [decHeader_eq, show c.magic.1 = (toCfg c).magic.1 from rfl, GV.SerMsg.decMsgHeader_magic2 (toCfg c) b h]; rfl

theorem decHeader_wrong_magic (c : NetCfg) (b0 b1 : Nat) (tail : Bytes) (hm : b0 ≠ c.magic.1 ∨ b1 ≠ c.magic.2) :
    decHeader c (b0 :: b1 :: tail) = .err .unexpectedData 0 := by
  by_cases h0 : b0 = c.magic.1
  · subst h0
    exact decHeader_wrong_magic2 c b1 tail (hm.resolve_left (fun h => h rfl))
  · exact decHeader_wrong_magic1 c b0 (b1 :: tail) h0

theorem decHeader_encHeader_nil (c : NetCfg) (t len : Nat) (hl : len < 2^64) :
    decHeader c (encHeader c t len) =
      if len > maxLen c t then .err .tooLarge 0
      else if isKnownType t then .ok (.known t len) [] 0
      else .ok (.unknown len t) [] 0 := by
  have := decHeader_encHeader c t len hl []
  rwa [List.append_nil] at this

theorem decHeader_known (c : NetCfg) (t len : Nat) (h64 : len < 2^64) (hl : len ≤ maxLen c t)
    (hk : isKnownType t = true) : decHeader c (encHeader c t len) = .ok (.known t len) [] 0 := by
  rw [decHeader_encHeader_nil c t len h64, if_neg (by omega), if_pos hk]

theorem decHeader_unknown (c : NetCfg) (t len : Nat) (h64 : len < 2^64) (hl : len ≤ maxLen c t)
    (hk : isKnownType t = false) : decHeader c (encHeader c t len) = .ok (.unknown len t) [] 0 := by
  rw [decHeader_encHeader_nil c t len h64, if_neg (by omega), if_neg (by simp [hk])]

theorem decHeader_too_large (c : NetCfg) (t len : Nat) (h64 : len < 2^64) (hbig : len > maxLen c t) :
    decHeader c (encHeader c t len) = .err .tooLarge 0 := by
  rw [decHeader_encHeader_nil c t len h64, if_pos hbig]

theorem readLoop_inl {σ : Type} (env : Env B H) (ops : SockOps σ) (fuel : Nat) (c c1 c2 : Codec H) (s s1 : σ)
    (br al a : Nat) (r : Res B H)
    (hf : fill ops c s (nextLen env c.state) = some (c1, s1))
    (hs : stepState env c1 (nextLen env c.state) = .inl (r, c2, a)) :
    readLoop env ops (fuel + 1) c s br al =
      { res := r, bytesRead := br + (nextLen env c.state - c.buffer.length),
        alloc := al + (nextLen env c.state - c.buffer.length) + a, codec := c2, sock := s1 } := by
  simp only [readLoop, hf, hs]

theorem readLoop_inr {σ : Type} (env : Env B H) (ops : SockOps σ) (fuel : Nat) (c c1 c2 : Codec H) (s s1 : σ)
    (br al a : Nat)
    (hf : fill ops c s (nextLen env c.state) = some (c1, s1))
    (hs : stepState env c1 (nextLen env c.state) = .inr (c2, a)) :
    readLoop env ops (fuel + 1) c s br al =
      readLoop env ops fuel c2 s1 (br + (nextLen env c.state - c.buffer.length))
        (al + (nextLen env c.state - c.buffer.length) + a) := by
  simp only [readLoop, hf, hs]

theorem readLoop_eof {σ : Type} (env : Env B H) (ops : SockOps σ) (fuel : Nat) (c : Codec H) (s : σ) (br al : Nat)
    (hf : fill ops c s (nextLen env c.state) = none) :
    readLoop env ops (fuel + 1) c s br al =
      { res := .err .conn, bytesRead := br, alloc := al + (nextLen env c.state - c.buffer.length),
        codec := c, sock := ops.drain s } := by
  simp only [readLoop, hf]

theorem fill_flat (st : State H) (pre x rest : Bytes) (nl : Nat) (hx : x.length = nl - pre.length) :
    fill flatOps ({ buffer := pre, state := st } : Codec H) (x ++ rest) nl =
      some ({ buffer := pre ++ x, state := st }, rest) := by
  unfold fill
  by_cases h : nl - pre.length > 0
  · simp only [h, if_true]
    have : flatOps.rx (nl - pre.length) (x ++ rest) = some (x, rest) := by
      show splitExact (nl - pre.length) (x ++ rest) = _
      rw [← hx]; exact splitExact_append x rest
    rw [this]
  · simp only [h, if_false]
    have : x = [] := List.eq_nil_of_length_eq_zero (by omega)
    subst this; simp

theorem fill_flat_prefix (st : State H) (I rest : Bytes) (p nl : Nat) (hp : p ≤ nl) (hnl : nl ≤ I.length) :
    fill flatOps ({ buffer := I.take p, state := st } : Codec H) (I.drop p ++ rest) nl =
      some ({ buffer := I.take nl, state := st }, I.drop nl ++ rest) := by
  have hd : (I.drop p).drop (nl - p) = I.drop nl := by rw [List.drop_drop, Nat.add_sub_cancel' hp]
  have h := fill_flat (H := H) st (I.take p) ((I.drop p).take (nl - p)) ((I.drop p).drop (nl - p) ++ rest) nl
    (by rw [List.length_take, List.length_drop, List.length_take]; omega)
  rwa [← List.take_add, Nat.add_sub_cancel' hp, ← List.append_assoc, List.take_append_drop, hd] at h

theorem fill_flat_eof (st : State H) (pre s : Bytes) (nl : Nat) (h : s.length < nl - pre.length) :
    fill flatOps ({ buffer := pre, state := st } : Codec H) s nl = none := by
  unfold fill
  have h0 : nl - pre.length > 0 := by omega
  simp only [h0, if_true]
  have : flatOps.rx (nl - pre.length) s = none := by
    show splitExact (nl - pre.length) s = none
    rw [splitExact_eq, if_neg (by omega)]
  rw [this]

theorem fill_flat_some {c c1 : Codec H} {s s1 : Bytes} {nl : Nat} (h : fill flatOps c s nl = some (c1, s1)) :
    nl - c.buffer.length ≤ s.length ∧ s1 = s.drop (nl - c.buffer.length) := by
  unfold fill at h
  by_cases ht : nl - c.buffer.length > 0
  · have hrx : flatOps.rx (nl - c.buffer.length) s = splitExact (nl - c.buffer.length) s := rfl
    rw [if_pos ht, hrx, splitExact_eq] at h
    by_cases hn : nl - c.buffer.length ≤ s.length
    · rw [if_pos hn] at h; cases h; exact ⟨hn, rfl⟩
    · rw [if_neg hn] at h; cases h
  · rw [if_neg ht] at h
    cases h
    rw [show nl - c.buffer.length = 0 by omega]
    exact ⟨Nat.zero_le _, rfl⟩

theorem stepState_none (env : Env B H) (hd : Bytes) (hl : hd.length = 11) :
    stepState env ({ buffer := hd, state := .none } : Codec H) 11 =
      match decHeader env.net hd with
      | .ok h _ _ => .inr ({ buffer := [], state := .header h }, 0)
      | .err e _ => .inl (.err (.ser e), idle, 0)
      | .panic s _ => .inl (.panic s, idle, 0) := by
  have ht : hd.take 11 = hd := by rw [← hl]; exact List.take_length
  have hdp : hd.drop 11 = [] := by rw [← hl]; exact List.drop_length
  simp only [stepState, hl, Nat.lt_irrefl, if_false, ht, hdp]
  cases decHeader env.net hd <;> rfl

theorem stepState_body (env : Env B H) (t : Nat) (body : Bytes) (ht : t ≠ T_Headers) :
    stepState env ({ buffer := body, state := .header (.known t body.length) } : Codec H) body.length =
      .inl ((match decodeMessage env t body with
              | .ok m => .msg m
              | .error e => .err e), idle, 0) := by
  simp only [stepState, Nat.lt_irrefl, if_false, ht, List.take_length, List.drop_length]
  cases decodeMessage env t body <;> rfl

theorem stepState_unknown (env : Env B H) (t : Nat) (body : Bytes) :
    stepState env ({ buffer := body, state := .header (.unknown body.length t) } : Codec H) body.length =
      .inl (.msg (.unknown t), idle, 0) := by
  simp only [stepState, Nat.lt_irrefl, if_false, List.drop_length]
  rfl

theorem stepState_attachment (env : Env B H) (left : Nat) (chunk : Bytes) (hle : chunk.length ≤ left) :
    stepState env ({ buffer := chunk, state := .attachment left } : Codec H) chunk.length =
      .inl (.msg (.attachment chunk.length (left - chunk.length) chunk),
            { buffer := [], state := if left - chunk.length = 0 then .none else .attachment (left - chunk.length) }, 0) := by
  have : ¬ left < chunk.length := by omega
  simp only [stepState, Nat.lt_irrefl, if_false, this, List.take_length, List.drop_length]

/-- the guard `if *bytes_left == 0 || *items_left == 0` of the `BlockHeaders` arm -/
theorem stepState_guard (env : Env B H) (bl il : Nat) (hs : List H) (buffer : Bytes) (nl : Nat) (h : bl = 0 ∨ il = 0) :
    stepState env ({ buffer := buffer, state := .blockHeaders bl il hs } : Codec H) nl =
      .inl (.err .badMessage, { buffer := buffer, state := .none }, 0) := by
  simp only [stepState, h, if_true]

theorem nextLen_none (env : Env B H) : nextLen env (State.none : State H) = 11 := rfl

end GV.Codec
