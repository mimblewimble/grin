/-! Arithmetic modulo any `n` that the kernel-offset and blinding-factor lemmas of C12 and C20 share: adding the
unreduced complement `n − x % n` of `x` to a sum takes `x` out; keys that cancel, plus one, sum to one.  Import-free. -/
namespace GV

theorem add_mod_cancel_of_compl {n SA SB k : Nat} (hk : SA % n + k = n) :
    ((SA + SB) % n + k) % n = SB % n := by
  have e : SA + SB + k = SB + n * (SA / n + 1) := by
    have := Nat.div_add_mod SA n
    rw [Nat.mul_add, Nat.mul_one]
    omega
  rw [Nat.mod_add_mod, e, Nat.add_mul_mod_self_left]

/-- a sum that is zero modulo `n`, with one more added, is one: what `blind_sum_or_zero` relies on when
it adds `ONE_KEY` to keys that cancel -/
theorem add_one_of_mod_eq_zero {n s : Nat} (hn : 1 < n) (h : s % n = 0) : (s + 1) % n = 1 := by
  rw [Nat.add_mod, h, Nat.zero_add, Nat.mod_mod, Nat.mod_eq_of_lt hn]

end GV
