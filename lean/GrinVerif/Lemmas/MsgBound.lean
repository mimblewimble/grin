import GrinVerif.Lemmas.DecMerkle
import GrinVerif.Model.Msg
import GrinVerif.Lemmas.UtilIte
/-! Allocation bounds of the p2p message decoders (`Model/Msg.lean`), assembled with the calculus of
`Lemmas/DecBound.lean`; panic-freedom of `BanReason` (the other bodies: by erasure to the plain codecs,
`Lemmas/DecSerEraseMsg.lean`; the frame header: `Lemmas/MsgHeader.lean`). -/
namespace GV.Msg
open GV GV.Ser GV.Dec GV.Gen.Msg

theorem bnd_peerAddrTail (rd : Rdr) (tag : Nat) : Bnd 1 0 4 fun r =>
    if tag = 0 then
      bind (rFixed rd 4 r) fun ip r => bind (rU16 r) fun port r =>
        if ip.length ≠ 4 then .panic .index 0 else .ok (.v4 ip port) r 0
    else if tag = 1 then
      bind (readN rU16 8 r) fun segs r =>
        if segs.length ≠ 8 then .panic .index 0 else bind (rU16 r) fun port r => .ok (v6Result segs port) r 0
    else .err .corrupted 0 :=
  Bnd.ite _
    (Bnd.seqE (bnd_rFixed rd 4) fun ip => Bnd.seq (bnd_rU16 1) fun port => Bnd.ite _ Bnd.unreachable Bnd.ret)
    (Bnd.ite _
      (Bnd.seq (Bnd.readN (bnd_rU16 1) 8) fun segs =>
        Bnd.ite _ Bnd.unreachable (Bnd.seq (bnd_rU16 1) fun port => Bnd.ret))
      Bnd.err)

theorem bnd_decPeerAddr (rd : Rdr) : Bnd 1 0 4 (decPeerAddr rd) :=
  Bnd.seq (bnd_rU8 1) (bnd_peerAddrTail rd)

open GV.DecSer in
theorem progW_decPeerAddr (rd : Rdr) : ProgW 1 (decPeerAddr rd) :=
  ProgW.bind progW_rU8 fun tag => Bnd.progW0 (bnd_peerAddrTail rd tag)

theorem bnd_decString (rd : Rdr) : Bnd 1 0 MAX_FIXED_READ (decString rd) :=
  Bnd.seqE (bnd_rBytesLenPrefix rd) fun ua => Bnd.ite _ Bnd.ret Bnd.err

/-- the slack is the `read_fixed_bytes` cap: a `BinReader` allocates the announced user-agent length (≤ 100 000) before
it finds the input too short -/
theorem bnd_decHand (rd : Rdr) : Bnd 1 0 MAX_FIXED_READ (decHand rd) :=
  Bnd.seq (bnd_rU32 1) fun _ => Bnd.seq (bnd_rU32 1) fun _ => Bnd.seq (bnd_rU64 1) fun _ => Bnd.seq (bnd_rU64 1) fun _ =>
    Bnd.seqE (bnd_decPeerAddr rd) (fun _ => Bnd.seqE (bnd_decPeerAddr rd) (fun _ =>
    Bnd.seqE (bnd_decString rd) fun _ => Bnd.seqE (bnd_rHash rd) (fun _ => Bnd.ret) (by decide)) (by decide)) (by decide)

theorem bnd_decShake (rd : Rdr) : Bnd 1 0 MAX_FIXED_READ (decShake rd) :=
  Bnd.seq (bnd_rU32 1) fun _ => Bnd.seq (bnd_rU32 1) fun _ => Bnd.seq (bnd_rU64 1) fun _ =>
    Bnd.seqE (bnd_decString rd) fun _ => Bnd.seqE (bnd_rHash rd) (fun _ => Bnd.ret) (by decide)

theorem bnd_decPeerError (rd : Rdr) : Bnd 1 0 MAX_FIXED_READ (decPeerError rd) :=
  Bnd.seq (bnd_rU32 1) fun _ => Bnd.seqE (bnd_decString rd) fun _ => Bnd.ret

variable {P : Type}

theorem bnd_decPingPong : Bnd 1 0 0 (decPingPong (P := P)) :=
  Bnd.seq (bnd_rU64 1) fun _ => Bnd.seq (bnd_rU64 1) fun _ => Bnd.ret

theorem bnd_decBanReason (rd : Rdr) : Bnd 1 0 0 (decBanReason (P := P) rd) := by
  intro bs
  unfold decBanReason
  cases h : readU32 bs with
  | error e => simp only; split <;> cases rd <;> simp
  | ok p =>
    obtain ⟨u, r⟩ := p
    have := readU32_len h
    simp only; split
    · simp only [OBnd_ok]; omega
    · simp

theorem noPanic_decBanReason (rd : Rdr) : NoPanic (decBanReason (P := P) rd) := by
  intro bs
  unfold decBanReason
  simp only []
  repeat' split
  all_goals rfl

theorem bnd_decHashBody (rd : Rdr) : Bnd 1 0 32 (decHashBody (P := P) rd) :=
  Bnd.seqE (bnd_rHash rd) fun h => Bnd.ret

/-- `Locator`: the pre-allocation is at most `MAX_LOCATORS` hashes = 640 bytes -/
theorem bnd_decLocator (rd : Rdr) : Bnd 1 640 32 (decLocator (P := P) rd) :=
  Bnd.seq (bnd_rU8 1) fun len =>
    Bnd.iteH _ (fun _ => Bnd.err) fun hl =>
      Bnd.cap len 32
        (by have : GV.Gen.MAX_LOCATORS % 256 = 20 := by decide
            omega)
        (Bnd.seqE (Bnd.readN (bnd_rHash rd) len) fun hs => Bnd.ret)

theorem bnd_decGetPeerAddrs : Bnd 1 0 0 (decGetPeerAddrs (P := P)) :=
  Bnd.seq (bnd_rU32 1) fun _ => Bnd.ret

/-- `PeerAddrs`: the pre-allocation is at most `MAX_PEER_ADDRS` socket addresses = 8192 bytes -/
theorem bnd_decPeerAddrs (rd : Rdr) : Bnd 1 8192 4 (decPeerAddrs (P := P) rd) :=
  Bnd.seq (bnd_rU32 1) fun count =>
    Bnd.iteH _ (fun _ => Bnd.err) fun hl =>
      Bnd.ite _ Bnd.ret
        (Bnd.cap count PEER_ADDR_MEM
          (by have : GV.Gen.MAX_PEER_ADDRS = 256 := by decide
              rw [show PEER_ADDR_MEM = 32 from rfl]
              omega)
          (Bnd.seqE (Bnd.readN (bnd_decPeerAddr rd) count) fun ps => Bnd.ret))

theorem bnd_decTxHashSetRequest (rd : Rdr) : Bnd 1 0 32 (decTxHashSetRequest (P := P) rd) :=
  Bnd.seqE (bnd_rHash rd) fun h => Bnd.seq (bnd_rU64 1) fun height => Bnd.ret

theorem bnd_decTxHashSetArchive (rd : Rdr) : Bnd 1 0 32 (decTxHashSetArchive (P := P) rd) :=
  Bnd.seqE (bnd_rHash rd) fun h => Bnd.seq (bnd_rU64 1) fun height => Bnd.seq (bnd_rU64 1) fun bytes => Bnd.ret

theorem bnd_decSegmentRequest (rd : Rdr) : Bnd 1 0 32 (decSegmentRequest (P := P) rd) :=
  Bnd.seqE (bnd_rHash rd) fun h => Bnd.seq bnd_segmentId fun id => Bnd.ret

/-- a relation that holds arm by arm holds between two instances of `decBody`. The `BanReason` arm may use
`t = T_BanReason`: reader agreement excludes that type byte (its reader swallows a failed `read_i32`). For a
property of one decoder take `R := fun p _ => …` and the same arguments twice. -/
theorem decBody_cases (R : Dec (Body P) → Dec (Body P) → Prop) (pl pl' : Payload P) (a b : Rdr) (t : Nat)
    (pingPong : R decPingPong decPingPong) (banReason : t = T_BanReason → R (decBanReason a) (decBanReason b))
    (hashBody : R (decHashBody a) (decHashBody b)) (locator : R (decLocator a) (decLocator b))
    (getPeerAddrs : R decGetPeerAddrs decGetPeerAddrs) (peerAddrs : R (decPeerAddrs a) (decPeerAddrs b))
    (txHashSetRequest : R (decTxHashSetRequest a) (decTxHashSetRequest b))
    (txHashSetArchive : R (decTxHashSetArchive a) (decTxHashSetArchive b))
    (segmentRequest : R (decSegmentRequest a) (decSegmentRequest b))
    (payload : R (fun bs => (pl t bs).map .payload) (fun bs => (pl' t bs).map .payload)) :
    R (decBody pl a t) (decBody pl' b t) :=
  rel_ite R _ (fun _ => pingPong) fun _ => rel_ite R _ banReason fun _ => rel_ite R _ (fun _ => hashBody) fun _ =>
  rel_ite R _ (fun _ => locator) fun _ => rel_ite R _ (fun _ => getPeerAddrs) fun _ =>
  rel_ite R _ (fun _ => peerAddrs) fun _ => rel_ite R _ (fun _ => txHashSetRequest) fun _ =>
  rel_ite R _ (fun _ => txHashSetArchive) fun _ => rel_ite R _ (fun _ => segmentRequest) fun _ => payload

/-- every arm of `decode_message`, given the same facts about the payload decoders of the other
domains (`c ≥ 1`, constants at least those of the native bodies) -/
theorem bnd_decBody (pl : Payload P) (rd : Rdr) (c k e : Nat) (hc : 1 ≤ c) (hk : 8192 ≤ k) (he : 32 ≤ e)
    (hpl : ∀ t, Bnd c k e (pl t)) (t : Nat) : Bnd c k e (decBody pl rd t) :=
  decBody_cases (fun p _ => Bnd c k e p) pl pl rd rd t
    (bnd_decPingPong.mono hc (Nat.zero_le _) (Nat.zero_le _))
    (fun _ => (bnd_decBanReason rd).mono hc (Nat.zero_le _) (Nat.zero_le _))
    ((bnd_decHashBody rd).mono hc (Nat.zero_le _) he)
    ((bnd_decLocator rd).mono hc (by omega) he)
    (bnd_decGetPeerAddrs.mono hc (Nat.zero_le _) (Nat.zero_le _))
    ((bnd_decPeerAddrs rd).mono hc hk (by omega))
    ((bnd_decTxHashSetRequest rd).mono hc (Nat.zero_le _) he)
    ((bnd_decTxHashSetArchive rd).mono hc (Nat.zero_le _) he)
    ((bnd_decSegmentRequest rd).mono hc (Nat.zero_le _) he)
    (Bnd.map (hpl t) Body.payload)

end GV.Msg
