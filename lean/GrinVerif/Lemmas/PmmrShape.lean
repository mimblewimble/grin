import GrinVerif.Lemmas.PmmrCoord
/-! The `(n, h)` coordinates as C07's path lemmas, seg, deseg, store and the translated code use
them: `family` one step up from an ancestor of a leaf, the order of positions, the facts in
`height p` form, and containment — node `(m, k)` holds node `(n, h)` iff `h ≤ k ∧ up n k = m` iff the
position lies in `[bintreeLeftmost, root]`: subtrees are aligned blocks of leaves, nested or
disjoint.  At the end: how far `peakMapHeight` stays inside the u64 range.  Core Lean only. -/
namespace GV.Pmmr.Co
open GV GV.Pmmr

/-- coordinates of the sibling of the level-`j` ancestor of leaf `i` -/
def sibCo (i j : Nat) : Nat × Nat :=
  if bitSet i j then (up i j - 2^j, j) else (up i j + 2^j, j)

theorem trailingOnes_up_of_clear {i j : Nat} (hb : bitSet i j = false) : j = trailingOnes (up i j) := by
  have h1 := up_valid i j
  have h2 := bitSet_up_iff i j
  rw [hb] at h2
  have : ¬ j < trailingOnes (up i j) := fun hc => by have := h2.1 hc; simp at this
  omega

/-- one step up from a right child: the parent keeps the last leaf, the sibling is `2^j` leaves back -/
structure StepRight (i j : Nat) : Prop where
  up_succ : up i (j+1) = up i j
  sib : sibCo i j = (up i j - 2^j, j)
  parent : cpos (up i (j+1), j+1) = cpos (up i j, j) + 1
  sib_pos : cpos (sibCo i j) + 2 * 2^j = cpos (up i j, j) + 1
  sib_valid : j ≤ trailingOnes (up i j - 2^j)
  sib_tail : trailingOnes (up i j - 2^j) = j
  sib_lt : up i j - 2^j < up i j

theorem step_right {i j : Nat} (hb : bitSet i j = true) : StepRight i j := by
  have hlt := (bitSet_up_iff i j).2 hb
  obtain ⟨h1, h2, h3, h4⟩ := left_sibling_coord hlt
  have hpos := Nat.two_pow_pos j
  have hu : up i (j+1) = up i j := by rw [up_succ, hb]; rfl
  have hs : sibCo i j = (up i j - 2^j, j) := by simp [sibCo, hb]
  refine ⟨hu, hs, ?_, ?_, h1, h4, Nat.sub_lt (Nat.lt_of_lt_of_le hpos h2) hpos⟩
  · rw [hu]; rfl
  · rw [hs]
    show mmr (up i j - 2^j) + j + 2 * 2^j = mmr (up i j) + j + 1
    rw [Nat.add_right_comm, h3, Nat.add_right_comm]

/-- one step up from a left child: the parent ends `2^j` leaves on, at the sibling's last leaf -/
structure StepLeft (i j : Nat) : Prop where
  up_succ : up i (j+1) = up i j + 2^j
  sib : sibCo i j = (up i (j+1), j)
  parent : cpos (up i (j+1), j+1) = cpos (up i j, j) + 2 * 2^j
  sib_pos : cpos (sibCo i j) + 1 = cpos (up i j, j) + 2 * 2^j
  parent_valid : j + 1 ≤ trailingOnes (up i (j+1))

theorem step_left {i j : Nat} (hb : bitSet i j = false) : StepLeft i j := by
  have he := trailingOnes_up_of_clear hb
  obtain ⟨h1, h2⟩ := right_sibling_coord he
  have hu : up i (j+1) = up i j + 2^j := by rw [up_succ, hb]; rfl
  have hs : sibCo i j = (up i (j+1), j) := by simp [sibCo, hb, hu]
  have hp : mmr (up i j + 2^j) + j + 1 = mmr (up i j) + j + 2 * 2^j := by
    rw [Nat.add_right_comm, h2, Nat.add_right_comm]
  refine ⟨hu, hs, ?_, ?_, by rw [hu]; exact h1⟩
  · rw [hu]; exact hp
  · rw [hs, hu]; exact hp

theorem sibCo_snd (i j : Nat) : (sibCo i j).2 = j := by
  unfold sibCo; split <;> rfl

theorem sibCo_valid (i j : Nat) : (sibCo i j).2 ≤ trailingOnes (sibCo i j).1 := by
  cases hb : bitSet i j with
  | true => rw [(step_right hb).sib]; exact (step_right hb).sib_valid
  | false => have := (step_left hb).parent_valid; rw [(step_left hb).sib]; simp only; omega

theorem sibCo_fst_le (i j : Nat) : (sibCo i j).1 ≤ up i (j+1) := by
  cases hb : bitSet i j with
  | true => have := (step_right hb).sib_lt; rw [(step_right hb).sib, (step_right hb).up_succ]; simp only; omega
  | false => rw [(step_left hb).sib]; exact Nat.le_refl _

theorem cpos_up_lt_succ (i j : Nat) : cpos (up i j, j) < cpos (up i (j+1), j+1) := by
  have hpos := Nat.two_pow_pos j
  cases hb : bitSet i j with
  | true => have := (step_right hb).parent; omega
  | false => have := (step_left hb).parent; omega

theorem family_co (n h : Nat) (hh : h ≤ trailingOnes n) :
    family (mmr n + h) =
      if h < trailingOnes n then (mmr n + (h+1), mmr (n - 2^h) + h)
      else (mmr (n + 2^h) + (h+1), mmr (n + 2^h) + h) := by
  simp only [family, peakMapHeight_co n h hh, bitSet_coord hh, decide_eq_true_eq]
  by_cases hlt : h < trailingOnes n
  · rw [if_pos hlt, if_pos hlt, left_child_pos hlt]
    rfl
  · obtain ⟨_, h2⟩ := right_sibling_coord (Nat.le_antisymm hh (Nat.le_of_not_lt hlt))
    rw [if_neg hlt, if_neg hlt, Nat.add_right_comm, ← h2, Nat.add_right_comm]
    rfl

theorem family_up (i j : Nat) :
    family (cpos (up i j, j)) = (cpos (up i (j+1), j+1), cpos (sibCo i j)) := by
  rw [cpos, family_co _ _ (up_valid i j), up_succ, sibCo]
  cases hb : bitSet i j with
  | true => rw [if_pos ((bitSet_up_iff i j).2 hb)]; rfl
  | false => rw [if_neg (fun h => by rw [(bitSet_up_iff i j).1 h] at hb; cases hb)]; rfl

/-- the sibling of a right child is a left sibling and vice versa -/
theorem isLeftSibling_sibCo (i j : Nat) : isLeftSibling (cpos (sibCo i j)) = bitSet i j := by
  cases hb : bitSet i j with
  | true =>
    have s := step_right hb
    simp only [isLeftSibling, cpos, s.sib, peakMapHeight_co _ _ s.sib_valid, bitSet_coord s.sib_valid,
      s.sib_tail]
    simp
  | false =>
    have s := step_left hb
    have hv : j ≤ trailingOnes (up i (j+1)) := Nat.le_of_succ_le s.parent_valid
    have := s.parent_valid
    simp only [isLeftSibling, cpos, s.sib, peakMapHeight_co _ _ hv, bitSet_coord hv]
    simp; omega

theorem family_fst_gt (pos : Nat) : pos < (family pos).1 := by
  have hpos := Nat.two_pow_pos (peakMapHeight pos).2
  simp only [family]
  split <;> simp only <;> omega

theorem mmr_le_coord_iff {a n h : Nat} (hh : h ≤ trailingOnes n) : mmr a ≤ mmr n + h ↔ a ≤ n := by
  have := coord_lt_iff (N := a) hh
  omega

theorem coord_le_coord_iff {n h m k : Nat} (hh : h ≤ trailingOnes n) (hk : k ≤ trailingOnes m) :
    mmr n + h ≤ mmr m + k ↔ n < m ∨ (n = m ∧ h ≤ k) := by
  have h1 := coord_lt_iff (N := m) hh
  have h2 := coord_lt_iff (N := n) hk
  by_cases hnm : n = m
  · subst hnm; omega
  · omega

theorem cpos_up_le (n : Nat) {j k : Nat} (h : j ≤ k) : cpos (up n j, j) ≤ cpos (up n k, k) :=
  (coord_le_coord_iff (up_valid n j) (up_valid n k)).2 (by have := up_mono n h; omega)

theorem cpos_up_lt (n : Nat) {j k : Nat} (h : j < k) : cpos (up n j, j) < cpos (up n k, k) :=
  Nat.lt_of_lt_of_le (cpos_up_lt_succ n j) (cpos_up_le n h)

theorem height_mmr (n : Nat) : height (mmr n) = 0 := height_co n 0 (Nat.zero_le _)

theorem isLeaf_co {n h : Nat} (hh : h ≤ trailingOnes n) : isLeaf (mmr n + h) = (h == 0) := by
  unfold isLeaf; rw [height_co n h hh]

theorem isLeaf_mmr (n : Nat) : isLeaf (mmr n) = true := isLeaf_co (Nat.zero_le _)

theorem leaf_coord {q : Nat} (hq : height q = 0) : ∃ n, q = mmr n := by
  obtain ⟨n, h, hh, rfl⟩ := coord_surj q
  rw [height_co n h hh] at hq
  exact ⟨n, by rw [hq]; rfl⟩

theorem leftmost_co {n h : Nat} (hh : h ≤ trailingOnes n) :
    bintreeLeftmost (mmr n + h) = mmr (n + 1 - 2 ^ h) := by
  rw [bintreeLeftmost, height_co n h hh]
  exact Nat.sub_eq_of_eq_add (leftmost_coord hh).2.symm

theorem rightmost_co {n h : Nat} (hh : h ≤ trailingOnes n) : bintreeRightmost (mmr n + h) = mmr n := by
  unfold bintreeRightmost
  rw [height_co n h hh]; omega

/-- every node has its whole subtree to its left -/
theorem height_bound (p : Nat) : 2 * 2 ^ height p ≤ p + 2 := by
  obtain ⟨n, h, hh, rfl⟩ := coord_surj p
  rw [height_co n h hh]
  have := (leftmost_coord hh).2
  omega

theorem leftmost_le (p : Nat) : bintreeLeftmost p ≤ p := by
  have := Nat.two_pow_pos (height p)
  unfold bintreeLeftmost; omega

theorem leafIndex_co {n h : Nat} (hh : h ≤ trailingOnes n) :
    pmmrLeafToInsertionIndex (mmr n + h) = if h = 0 then some n else none := by
  simp only [pmmrLeafToInsertionIndex, peakMapHeight_co n h hh]

theorem leafIndex_eq_some (pos i : Nat) : pmmrLeafToInsertionIndex pos = some i ↔ pos = mmr i := by
  obtain ⟨n, h, hh, rfl⟩ := coord_surj pos
  rw [leafIndex_co hh]
  constructor
  · intro e
    split at e
    · rename_i h0; rw [h0, Option.some.inj e]; rfl
    · cases e
  · intro e
    obtain ⟨rfl, rfl⟩ := coord_inj hh (Nat.zero_le (trailingOnes i)) e
    rfl

theorem interior_width (p : Nat) : p - bintreeLeftmost p = 2 * (2 ^ height p - 1) := by
  have := height_bound p
  have := Nat.two_pow_pos (height p)
  unfold bintreeLeftmost; omega

theorem height_lt_of_lt {p k : Nat} (h : p + 2 < 2 * 2 ^ k) : height p < k := by
  have hb := height_bound p
  exact (Nat.pow_lt_pow_iff_right (a := 2) (by omega)).1 (by omega)

theorem lt_size_of_rightmost {p N : Nat} (h : p - height p < mmr N) : p < mmr N := by
  obtain ⟨n, k, hk, rfl⟩ := coord_surj p
  rw [height_co n k hk, Nat.add_sub_cancel, mmr_lt_iff] at h
  exact (coord_lt_iff hk).2 h

theorem nLeaves_mmr (n : Nat) : nLeaves (mmr n) = n := by
  simp [nLeaves, peakMapHeight_leaf]

theorem nLeaves_inner {n h : Nat} (hh : h ≤ trailingOnes n) (hpos : 0 < h) :
    nLeaves (mmr n + h) = n + 1 := by
  unfold nLeaves
  rw [peakMapHeight_co n h hh, if_neg (by simp only; omega)]

theorem nLeaves_mmr_succ (n : Nat) : nLeaves (mmr n + 1) = n + 1 := by
  by_cases ht : trailingOnes n = 0
  · rw [show mmr n + 1 = mmr (n + 1) by rw [mmr_succ]; omega, nLeaves_mmr]
  · exact nLeaves_inner (by omega) Nat.one_pos

theorem isLeftSibling_co {n h : Nat} (hh : h ≤ trailingOnes n) :
    isLeftSibling (mmr n + h) = decide (h = trailingOnes n) := by
  simp only [isLeftSibling, peakMapHeight_co n h hh, bitSet_coord hh]
  by_cases hlt : h < trailingOnes n
  · simp [hlt]; omega
  · simp [hlt]; omega

theorem roundUp_co {n h : Nat} (hh : h ≤ trailingOnes n) :
    roundUpToLeafPos (mmr n + h) = if h = 0 then mmr n else mmr (n + 1) := by
  simp [roundUpToLeafPos, insertionToPmmrIndex, peakMapHeight_co n h hh]
  split <;> rfl

/-- the positions from leaf `n` up to the next leaf are `(n, 0) … (n, trailingOnes n)` -/
theorem block_coord {n q : Nat} (h1 : mmr n ≤ q) (h2 : q < mmr (n + 1)) :
    ∃ g, g ≤ trailingOnes n ∧ q = mmr n + g := by
  rw [mmr_succ] at h2
  exact ⟨q - mmr n, by omega, by omega⟩

theorem nLeaves_succ (p : Nat) : nLeaves (p + 1) = nLeaves p + if isLeaf p then 1 else 0 := by
  obtain ⟨n, h, hh, rfl⟩ := coord_surj p
  have e : nLeaves (mmr n + h + 1) = n + 1 := by
    by_cases hlt : h < trailingOnes n
    · exact nLeaves_inner (h := h + 1) hlt (Nat.succ_pos h)
    · rw [show mmr n + h + 1 = mmr (n + 1) by rw [mmr_succ]; omega, nLeaves_mmr]
  rw [e, isLeaf_co hh]
  cases h with
  | zero => simp [nLeaves_mmr]
  | succ h => rw [nLeaves_inner hh (Nat.succ_pos h)]; simp

theorem countP_isLeaf (p : Nat) : (List.range p).countP isLeaf = nLeaves p := by
  induction p with
  | zero => rfl
  | succ p ih =>
    rw [List.range_succ, List.countP_append, ih, nLeaves_succ]
    cases hl : isLeaf p <;> simp [hl]

/-- the data index of leaf `i` as `get_data_from_file` computes it -/
theorem nLeaves_succ_mmr_sub (i : Nat) : nLeaves (1 + mmr i) - 1 = i := by
  rw [Nat.add_comm, nLeaves_mmr_succ]; rfl

theorem family_cases (p : Nat) :
    (family p = (p + 1, p + 1 - 2 * 2 ^ height p) ∧ 2 * 2 ^ height p ≤ p + 1) ∨
      family p = (p + 2 * 2 ^ height p, p + 2 * 2 ^ height p - 1) := by
  obtain ⟨n, h, hh, rfl⟩ := coord_surj p
  rw [family_co n h hh, height_co n h hh]
  by_cases hlt : h < trailingOnes n
  · have l3 := (left_sibling_coord hlt).pos
    rw [if_pos hlt, ← left_child_pos hlt]
    exact Or.inl ⟨rfl, by omega⟩
  · obtain ⟨_, r2⟩ := right_sibling_coord (show h = trailingOnes n by omega)
    rw [if_neg hlt]
    refine Or.inr (Prod.ext ?_ ?_) <;> simp only <;> omega

theorem family_children (p : Nat) :
    (p = (family p).1 - 1 ∧ (family p).2 = (family p).1 - 2 * 2 ^ height p) ∨
    (p = (family p).1 - 2 * 2 ^ height p ∧ (family p).2 = (family p).1 - 1) := by
  rcases family_cases p with ⟨hf, _⟩ | hf <;> rw [hf]
  · exact Or.inl ⟨rfl, rfl⟩
  · exact Or.inr ⟨(Nat.add_sub_cancel _ _).symm, rfl⟩

theorem height_family_fst (p : Nat) : height (family p).1 = height p + 1 := by
  obtain ⟨n, h, hh, rfl⟩ := coord_surj p
  rw [family_co n h hh, height_co n h hh]
  split
  · rename_i hlt; exact height_co n (h + 1) hlt
  · rename_i hlt
    exact height_co _ (h + 1) (right_sibling_coord (show h = trailingOnes n by omega)).1

theorem family_sibling_cases (p : Nat) :
    ((family p).2 + 1 = bintreeLeftmost p ∨ (bintreeLeftmost p = 0 ∧ (family p).2 = 0)) ∨
    p < (family p).2 := by
  -- a right child has its sibling right before its own subtree (of `2·(2^h − 1)` positions below it)
  have hw := interior_width p
  have hl := leftmost_le p
  have hpos := Nat.two_pow_pos (height p)
  rcases family_cases p with ⟨hf, hle⟩ | hf <;> rw [hf] <;> simp only <;> omega

theorem inner_co {p h : Nat} (hp : height p = h + 1) :
    ∃ n, h < trailingOnes n ∧ p = mmr n + (h + 1) ∧ p - 1 = mmr n + h ∧
      p - 2 * 2 ^ h = mmr (n - 2 ^ h) + h ∧ h ≤ trailingOnes (n - 2 ^ h) ∧ 2 ^ h ≤ n := by
  obtain ⟨n, k, hk, rfl⟩ := coord_surj p
  rw [height_co n k hk] at hp
  subst hp
  have s := left_sibling_coord (show h < trailingOnes n from hk)
  exact ⟨n, hk, rfl, rfl, left_child_pos hk, s.valid, s.le⟩

theorem children (p h : Nat) (hp : height p = h + 1) :
    2 * 2 ^ h ≤ p ∧ height (p - 1) = h ∧ height (p - 2 * 2 ^ h) = h ∧
    family (p - 1) = (p, p - 2 * 2 ^ h) ∧ family (p - 2 * 2 ^ h) = (p, p - 1) := by
  obtain ⟨n, hk, rfl, e1, e2, l1, l2⟩ := inner_co hp
  have l3 := (left_sibling_coord hk).pos
  have hr : ¬ h < trailingOnes (n - 2 ^ h) := by
    rw [(left_sibling_coord hk).tail]; exact Nat.lt_irrefl _
  rw [e1, e2, family_co n h (Nat.le_of_lt hk), if_pos hk, family_co _ h l1, if_neg hr,
    Nat.sub_add_cancel l2]
  exact ⟨by omega, height_co n h (Nat.le_of_lt hk), height_co _ h l1, rfl, rfl⟩

theorem up_div_ge (x : Nat) {j h : Nat} (hjh : j ≤ h) : up x j / 2 ^ h = x / 2 ^ h := by
  obtain ⟨d, rfl⟩ := Nat.exists_eq_add_of_le hjh
  rw [Nat.pow_add, ← Nat.div_div_eq_div_mul, ← Nat.div_div_eq_div_mul, up_div]

theorem up_up (x : Nat) {j h : Nat} (hjh : j ≤ h) : up (up x j) h = up x h := by
  show up x j / 2 ^ h * 2 ^ h + (2 ^ h - 1) = x / 2 ^ h * 2 ^ h + (2 ^ h - 1)
  rw [up_div_ge x hjh]

/-- the leaves under node `(m, k)` are the block `m + 1 - 2^k … m`: those whose ancestor of
height `k` ends at `m` -/
theorem up_eq_iff {m k : Nat} (hk : k ≤ trailingOnes m) (n : Nat) :
    up n k = m ↔ m + 1 - 2 ^ k ≤ n ∧ n ≤ m := by
  obtain ⟨a, rfl⟩ := coord_form hk
  have hpos := Nat.two_pow_pos k
  unfold up
  rw [Nat.add_right_cancel_iff, Nat.mul_right_cancel_iff hpos, Nat.div_eq_iff hpos]
  omega

theorem lt_of_up_eq {n h m k : Nat} (hh : h ≤ trailingOnes n) (hu : up n k = m) (hne : n ≠ m) : h < k := by
  apply Classical.byContradiction
  intro hc
  obtain ⟨a, rfl⟩ := coord_form (show k ≤ trailingOnes n by omega)
  exact hne (by rw [← hu, up, div_pow_of_form])

/-- node `(m, k)` holds node `(n, h)`: it is at least as high and is its ancestor of height `k` -/
structure Under (m k n h : Nat) : Prop where
  le : h ≤ k
  up_eq : up n k = m

theorem under_iff {m k n h : Nat} : Under m k n h ↔ h ≤ k ∧ up n k = m :=
  ⟨fun u => ⟨u.le, u.up_eq⟩, fun ⟨a, b⟩ => ⟨a, b⟩⟩

theorem Under.trans {l j m k n h : Nat} (a : Under l j m k) (b : Under m k n h) : Under l j n h :=
  ⟨Nat.le_trans b.le a.le, by rw [← up_up n a.le, b.up_eq, a.up_eq]⟩

theorem range_iff {m k n h : Nat} (hk : k ≤ trailingOnes m) (hh : h ≤ trailingOnes n) :
    (bintreeLeftmost (mmr m + k) ≤ mmr n + h ∧ mmr n + h ≤ mmr m + k) ↔ Under m k n h := by
  rw [under_iff, leftmost_co hk, mmr_le_coord_iff hh, coord_le_coord_iff hh hk, up_eq_iff hk]
  have key : m + 1 - 2 ^ k ≤ n → n < m → h < k := fun a b =>
    lt_of_up_eq hh ((up_eq_iff hk n).2 ⟨a, Nat.le_of_lt b⟩) (Nat.ne_of_lt b)
  omega

/-- the block of `(P, k+1)` is the block of its right child `(P, k)` and of its left child
`(P - 2^k, k)` -/
theorem up_succ_eq_iff {P k : Nat} (hP : k + 1 ≤ trailingOnes P) (n : Nat) :
    up n (k + 1) = P ↔ (up n k = P ∨ up n k = P - 2 ^ k) := by
  have l1 := (left_sibling_coord (show k < trailingOnes P from hP)).valid
  have l2 := (left_sibling_coord (show k < trailingOnes P from hP)).le
  have h1 := two_pow_le_of_le_trailingOnes hP
  have h2 := two_pow_succ k
  rw [up_eq_iff hP, up_eq_iff (Nat.le_of_succ_le hP), up_eq_iff l1]
  omega

theorem up_left_child {n k : Nat} (hk : k < trailingOnes n) : up (n - 2 ^ k) (k + 1) = n :=
  (up_succ_eq_iff hk _).2 (Or.inr (up_of_valid (left_sibling_coord hk).valid))

/-- going up, the first leaf under the ancestor only moves left -/
theorem up_leftmost_mono (n : Nat) : ∀ (d j : Nat),
    up n (j + d) + 1 - 2 ^ (j + d) ≤ up n j + 1 - 2 ^ j := by
  intro d j
  have hpos := Nat.two_pow_pos j
  -- the first leaf under `(up n j, j)` has the same ancestors from height `j` on
  have hx : up (up n j + 1 - 2 ^ j) j = up n j :=
    (up_eq_iff (up_valid n j) _).2 ⟨Nat.le_refl _, by omega⟩
  have hle := Nat.le_add_right j d
  exact ((up_eq_iff (up_valid n (j + d)) _).1 (by rw [← up_up _ hle, hx, up_up _ hle])).1

/-- subtrees are nested or disjoint, one level -/
theorem range_children {P k n h : Nat} (hP : k + 1 ≤ trailingOnes P) (hh : h ≤ trailingOnes n) :
    (Under P (k + 1) n h ↔ ((n = P ∧ h = k + 1) ∨ Under P k n h ∨ Under (P - 2 ^ k) k n h)) ∧
    ¬ (Under P k n h ∧ Under (P - 2 ^ k) k n h) := by
  have hpos := Nat.two_pow_pos k
  have hle := (left_sibling_coord (show k < trailingOnes P from hP)).le
  refine ⟨?_, fun ⟨a, b⟩ => by have := a.up_eq; have := b.up_eq; omega⟩
  simp only [under_iff, up_succ_eq_iff hP]
  constructor
  · rintro ⟨h1, h2⟩
    by_cases hk : h ≤ k
    · exact Or.inr (h2.imp (⟨hk, ·⟩) (⟨hk, ·⟩))
    · have he : h = k + 1 := by omega
      subst he
      have hu := (up_succ_eq_iff hP n).2 h2
      rw [up_of_valid hh] at hu
      exact Or.inl ⟨hu, rfl⟩
  · rintro (⟨rfl, rfl⟩ | ⟨h1, h2⟩ | ⟨h1, h2⟩)
    · exact ⟨Nat.le_refl _, Or.inl (up_of_valid (Nat.le_of_succ_le hh))⟩
    · exact ⟨by omega, Or.inl h2⟩
    · exact ⟨by omega, Or.inr h2⟩

theorem peakMap_le (pos : Nat) : (peakMapHeight pos).1 ≤ pos := by
  obtain ⟨n, h, hh, rfl⟩ := coord_surj pos
  rw [peakMapHeight_co n h hh]
  have := le_mmr n
  simp only; omega

/-- a non-leaf has its left subtree before it -/
theorem peakMap_succ_le (pos : Nat) (hz : (peakMapHeight pos).2 ≠ 0) : (peakMapHeight pos).1 + 1 ≤ pos := by
  obtain ⟨n, h, hh, rfl⟩ := coord_surj pos
  rw [peakMapHeight_co n h hh] at hz ⊢
  have := le_mmr n
  simp only at hz ⊢; omega

theorem height_lt_64 {pos : Nat} (h : pos < 2^64) : (peakMapHeight pos).2 < 64 :=
  height_lt_of_lt (k := 64) (by omega)

theorem height_le_pos (pos : Nat) : (peakMapHeight pos).2 ≤ pos := by
  have b : 2 * 2^(peakMapHeight pos).2 ≤ pos + 2 := height_bound pos
  have := @Nat.lt_two_pow_self (peakMapHeight pos).2
  omega

/-- in the right-child case the left sibling exists: `2·2^h ≤ pos + 1` -/
theorem right_child_room {pos : Nat} (hb : bitSet (peakMapHeight pos).1 (peakMapHeight pos).2 = true) :
    2 * 2^(peakMapHeight pos).2 ≤ pos + 1 := by
  obtain ⟨n, h, hh, rfl⟩ := coord_surj pos
  rw [peakMapHeight_co n h hh] at hb ⊢
  simp only at hb ⊢
  rw [bitSet_coord hh] at hb
  have hlt : h < trailingOnes n := by simpa using hb
  have := (left_sibling_coord hlt).pos
  omega

/-- the level-`j` ancestor sits above a full subtree: `2·2^j ≤ pos + 2` -/
theorem cpos_up_room (n j : Nat) : 2 * 2^j ≤ cpos (up n j, j) + 2 := by
  have := height_bound (cpos (up n j, j))
  rwa [show height (cpos (up n j, j)) = j from height_co _ _ (up_valid n j)] at this

end GV.Pmmr.Co
