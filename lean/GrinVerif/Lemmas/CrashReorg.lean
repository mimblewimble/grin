import GrinVerif.Model.Crash
import GrinVerif.Lemmas.CrashPath
import GrinVerif.Lemmas.CrashRecover
import GrinVerif.Lemmas.CrashSteps
import GrinVerif.Lemmas.CrashExt
import GrinVerif.Lemmas.CrashUnspent
import GrinVerif.Lemmas.CrashWindow
/-! Reorganisations. Of the header chain (`HdrReorg`): what the header check reads between the first file step and the
commit, and that it passes at both ends. Of the body chain by a block (`BlockReorg`): old path `F ++ x :: O1`, new path
`F ++ y :: N1` (common prefix `F`, first blocks after it differ); what its crash states keep, and what the fallback loop
sees in the txhashset phase: above the fork point the truncated / re-extended output files no longer match the old fork;
at and below the fork point the leaf set decides. -/
namespace GV.Crash

/-- a header whose stored path is `N` is accepted while the header head is the tip of `O`; the two
paths part after `t.forkLen` blocks, strictly inside both (a reorganisation of the header chain) -/
structure HdrReorg (tbl : List BlkInfo) (O N : List BlkInfo) (t : Target) : Prop where
  old : pathOf tbl (tbl.length + 1) (tipOf O) [] = some O
  new : pathOf tbl (tbl.length + 1) (tipOf N) [] = some N
  newPath : t.newPath = N
  lt_old : t.forkLen < O.length
  lt_new : t.forkLen < N.length
  diverge : (O.map (·.id))[t.forkLen]? ≠ (N.map (·.id))[t.forkLen]?

/-- what the header check reads at the four crash points of a header acceptance between the first file step and
the commit: hash file cut (2) / rewritten (3), data file cut (4) / rewritten (5), `header_head` still the old tip -/
theorem headerSteps_view (t : Target) (O : List BlkInfo) (k : Nat) (h2 : 2 ≤ k) (h5 : k ≤ 5) :
    (crashAfter t (consistent O) headerSteps k).hdrHash =
      (if 3 ≤ k then t.newPath.map (·.id) else (O.map (·.id)).take t.forkLen) ∧
    (crashAfter t (consistent O) headerSteps k).hdrData =
      (if 5 ≤ k then t.newPath.map (·.id) else if 4 ≤ k then (O.map (·.id)).take t.forkLen else O.map (·.id)) ∧
    (crashAfter t (consistent O) headerSteps k).dbHHead = tipOf O := by
  obtain rfl | rfl | rfl | rfl : k = 2 ∨ k = 3 ∨ k = 4 ∨ k = 5 := by omega
  all_goals exact ⟨rfl, rfl, rfl⟩

/-- for any step list whose first step is not on the header side, which has written the new path to both header files
by step 5 and writes no header file later, and whose commit of `header_head` is among the first 6 (`headerSteps`,
`blockSteps`) -/
theorem HdrReorg.hdrOk_ends {tbl O N : List BlkInfo} {t : Target} (h : HdrReorg tbl O N t) (hm : t.movesHHead = true)
    {steps : List Step} (h1 : ∀ s ∈ steps.take 1, s.hdrSide = false)
    (h5 : (crashAfter t (consistent O) steps 5).hdrHash = t.newPath.map (·.id) ∧
      (crashAfter t (consistent O) steps 5).hdrData = t.newPath.map (·.id))
    (hs5 : ∀ s ∈ steps.drop 5, s.hdrFile = false)
    (hc : Step.hdrCommit ∈ steps.take 6) (k : Nat) (hk : k ≤ 1 ∨ 6 ≤ k) :
    HdrOk tbl (crashAfter t (consistent O) steps k) := by
  rcases hk with hk | hk
  · exact (consistent_hdrOk tbl O h.old).crashAfter t fun s hs => h1 s (List.take_subset_take_left _ hk hs)
  · obtain ⟨e1, e2⟩ := crashAfter_hdrFiles t (consistent O) h5 hs5 k (Nat.le_trans (by decide) hk)
    refine .of_files N (e1.trans (congrArg _ h.newPath)) (e2.trans (congrArg _ h.newPath)) ?_ (List.prefix_refl _)
    rw [crashAfter_dbHHead, if_pos (List.take_subset_take_left _ hk hc), if_pos hm, Target.tip_eq, h.newPath]
    exact h.new

theorem headerSteps_agrees (t : Target) (O : List BlkInfo) (k : Nat) :
    AgreesOld O (crashAfter t (consistent O) headerSteps k) :=
  (consistent_agrees O).crashAfter t fun s hs =>
    (by decide : ∀ s ∈ headerSteps, s.hdrSide = true ∨ s = .childCommit) s (List.take_subset _ _ hs)

/-- a block acceptance that reorganises the body chain from `F ++ x :: O1` onto `F ++ y :: N1` -/
structure BlockReorg (tbl F : List BlkInfo) (x : BlkInfo) (O1 : List BlkInfo) (y : BlkInfo)
    (N1 : List BlkInfo) (t : Target) : Prop where
  old : pathOf tbl (tbl.length + 1) (tipOf (F ++ x :: O1)) [] = some (F ++ x :: O1)
  new : pathOf tbl (tbl.length + 1) (tipOf (F ++ y :: N1)) [] = some (F ++ y :: N1)
  newPath : t.newPath = F ++ y :: N1
  forkLen : t.forkLen = F.length
  forkNe : F ≠ []
  diverge : x.id ≠ y.id
  mvHH : t.movesHHead = true
  mvH : t.movesHead = true

theorem BlockReorg.toHdrReorg {tbl F : List BlkInfo} {x : BlkInfo} {O1 : List BlkInfo} {y : BlkInfo}
    {N1 : List BlkInfo} {t : Target} (h : BlockReorg tbl F x O1 y N1 t) :
    HdrReorg tbl (F ++ x :: O1) (F ++ y :: N1) t := by
  refine ⟨h.old, h.new, h.newPath, by rw [h.forkLen]; simp, by rw [h.forkLen]; simp, ?_⟩
  rw [h.forkLen]
  simp only [List.map_append, List.map_cons]
  rw [List.getElem?_append_right (by simp), List.getElem?_append_right (by simp)]
  simp [h.diverge]

theorem BlockReorg.new_ids_ne {tbl F : List BlkInfo} {x : BlkInfo} {O1 : List BlkInfo} {y : BlkInfo}
    {N1 : List BlkInfo} {t : Target} (h : BlockReorg tbl F x O1 y N1 t) :
    ∀ z ∈ y :: N1, z.id ≠ x.id := by
  intro z hz heq
  obtain ⟨A, B, hAB⟩ := List.append_of_mem hz
  -- path of z.id read off the new path, path of x.id read off the old path
  have pz := pathOf_prefix tbl _ (F ++ A ++ [z]) (List.concat_ne_nil _ _) B _
    (by rw [show F ++ A ++ [z] ++ B = F ++ y :: N1 by rw [hAB]; simp]; exact h.new)
  have px := pathOf_prefix tbl _ (F ++ [x]) (List.concat_ne_nil _ _) O1 _
    (by rw [show F ++ [x] ++ O1 = F ++ x :: O1 by simp]; exact h.old)
  rw [tipOf_snoc] at pz px
  rw [heq] at pz
  have e := pathOf_det tbl _ _ _ _ _ pz px
  have hl := congrArg List.length e
  simp only [List.length_append, List.length_singleton] at hl
  have hA : A = [] := List.length_eq_zero_iff.mp (by omega)
  subst hA
  simp only [List.append_nil] at e
  have hzx : z = x := by
    have := List.append_inj' e rfl
    simpa using this.2
  have : y = z := by
    simp at hAB
    exact hAB.1
  exact h.diverge (by rw [this, hzx])

/-- candidate `F ++ x :: Q1` on the old fork, against an output hash file that holds `leavesOf F`
only, or `leavesOf (F ++ N')` with no block of `N'` carrying `x`'s id -/
theorem outHash_mismatch (F : List BlkInfo) (x : BlkInfo) (Q1 N' : List BlkInfo) (hx : x.outs ≠ [])
    (hid : ∀ z ∈ N', z.id ≠ x.id) (f : List Leaf)
    (hf : f = leavesOf F ∨ f = leavesOf (F ++ N')) :
    f.take (leavesOf (F ++ x :: Q1)).length ≠ leavesOf (F ++ x :: Q1) := by
  obtain ⟨o, os, ho⟩ := List.exists_cons_of_ne_nil hx
  have hL : leavesOf (F ++ x :: Q1) = leavesOf F ++ ((x.id, o) :: (os.map (fun o => (x.id, o)) ++ leavesOf Q1)) := by
    rw [leavesOf_append]
    simp [leavesOf, ho]
  rcases hf with rfl | rfl
  · intro e
    have := congrArg List.length e
    rw [hL] at this
    simp at this
  · intro e
    rw [hL, leavesOf_append] at e
    rw [List.length_append, List.take_append, List.take_of_length_le (by omega)] at e
    have e2 := List.append_cancel_left e
    simp only [Nat.add_sub_cancel_left] at e2
    -- the first leaf of the right-hand side is created by x, so x's id occurs in N'
    have hmem : (x.id, o) ∈ leavesOf N' := by
      have : (x.id, o) ∈ List.take ((x.id, o) :: (os.map (fun o => (x.id, o)) ++ leavesOf Q1)).length (leavesOf N') := by
        rw [e2]; simp
      exact List.mem_of_mem_take this
    obtain ⟨z, hz, hzid, _⟩ := (mem_leavesOf N' _).1 hmem
    exact hid z hz hzid

/-- with the old leaf set still on disk, the fork point validates (rewinding with the spent index of
the old fork is exact) -/
theorem fork_valid_old_leaf (bc : Nat → Bool) (F O' : List BlkInfo) (d : Durable)
    (hfiles : FilesCover F d) (hleaf : d.leaf = unspentOf (F ++ O'))
    (hn : (leavesOf (F ++ O')).Nodup) (hwf : BlocksWF (F ++ O')) :
    validAt bc d (undo F O') F = true := by
  apply valid_of_none_lost bc d _ F O' rfl hfiles _ hn hwf
  · intro l hl; rw [mem_lostIn, hleaf] at hl; exact absurd hl.1 hl.2
  · intro l hl hlF; rw [hleaf] at hl; exact unspent_of_unspent_later F O' hn l hl hlF

namespace BlockReorg
variable {tbl F : List BlkInfo} {x : BlkInfo} {O1 : List BlkInfo} {y : BlkInfo} {N1 : List BlkInfo} {t : Target}

theorem forkPath (h : BlockReorg tbl F x O1 y N1 t) : t.forkPath = F := Target.forkPath_eq h.newPath h.forkLen

theorem files (h : BlockReorg tbl F x O1 y N1 t) (k : Nat) :
    FilesCover F (crashAfter t (consistent (F ++ x :: O1)) blockSteps k) :=
  ((consistent_agrees _).files.mono (List.prefix_append F _)).crashAfter (h.forkPath ▸ List.prefix_refl F) _ k

theorem hdrOk (h : BlockReorg tbl F x O1 y N1 t) (k : Nat) (hk : k ≤ 1 ∨ 6 ≤ k) :
    HdrOk tbl (crashAfter t (consistent (F ++ x :: O1)) blockSteps k) :=
  h.toHdrReorg.hdrOk_ends h.mvHH (by decide) ⟨rfl, rfl⟩ (by decide) (by decide) k hk

theorem completed (h : BlockReorg tbl F x O1 y N1 t) (k : Nat) (hk : 17 ≤ k) :
    crashAfter t (consistent (F ++ x :: O1)) blockSteps k = consistent (F ++ y :: N1) := by
  rw [crashAfter_block_done t _ k hk, if_pos h.mvH, if_pos h.mvHH, Target.tip, h.newPath]
  rfl

theorem head_leaf (h : BlockReorg tbl F x O1 y N1 t) (k : Nat) (hk : k ≤ 16) :
    (crashAfter t (consistent (F ++ x :: O1)) blockSteps k).dbHead = tipOf (F ++ x :: O1) ∧
    (crashAfter t (consistent (F ++ x :: O1)) blockSteps k).leaf =
      if 12 ≤ k then unspentOf (F ++ y :: N1) else unspentOf (F ++ x :: O1) :=
  ⟨crashAfter_block_dbHead t _ hk, by rw [crashAfter_block_leaf, h.newPath]; rfl⟩

theorem above_fork_invalid (h : BlockReorg tbl F x O1 y N1 t) (hx : x.outs ≠ []) (bc : Nat → Bool)
    (k : Nat) (hk : 8 ≤ k) (r : List Leaf) (Q1 : List BlkInfo) :
    validAt bc (crashAfter t (consistent (F ++ x :: O1)) blockSteps k) r (F ++ x :: Q1) = false := by
  apply validAt_false_of_outHash
  apply outHash_mismatch F x Q1 (y :: N1) hx h.new_ids_ne
  -- step 8 cuts the output hash file at the fork point, step 9 writes the new path, nothing later touches it
  rcases Nat.eq_or_lt_of_le hk with rfl | h9
  · left
    rw [crashAfter_outHash]
    exact (congrArg (fun P => List.take (leavesOf P).length _) h.forkPath).trans (take_leaves_left F _)
  · right
    have hd : ∀ s ∈ blockSteps.drop 9, s ≠ .outHashTrunc ∧ s ≠ .outHashApp := by decide
    rw [crashAfter_from (·.outHash) t _ (a := 9) (fun s hs => applyStep_outHash (hd s hs).1 (hd s hs).2) h9,
      ← h.newPath]
    rfl

/-- from step 8 on every candidate above the fork point fails on the output hash file: the loop walks down to `F` -/
theorem walk_to_fork (h : BlockReorg tbl F x O1 y N1 t) (hx : x.outs ≠ []) (bc : Nat → Bool) (k : Nat) (hk : 8 ≤ k) :
    fallbackWith (validAt bc (crashAfter t (consistent (F ++ x :: O1)) blockSteps k)) (fun _ _ => false) tbl
        (tbl.length + 1) (tipOf (F ++ x :: O1)) [] =
      fallbackWith (validAt bc (crashAfter t (consistent (F ++ x :: O1)) blockSteps k)) (fun _ _ => false) tbl
        (tbl.length + 1 - (x :: O1).length) (tipOf F) (undo F (x :: O1)) := by
  have := fallbackWith_walk (valid := validAt bc (crashAfter t (consistent (F ++ x :: O1)) blockSteps k))
    (gone := fun _ _ => false) F h.forkNe (x :: O1) [] (tbl.length + 1) (walk_fuel_le h.old) h.old
    (Above.of_cons fun Q1 _ => h.above_fork_invalid hx bc k hk _ Q1) (.of_forall fun _ _ _ => rfl)
  simpa [undo] using this

end BlockReorg

end GV.Crash
