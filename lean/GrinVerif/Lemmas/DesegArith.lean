import GrinVerif.Model.Deseg
import GrinVerif.Lemmas.SegForest
import GrinVerif.Lemmas.SegDsg
/-! Arithmetic bridge for the desegmenter model (`Model/Deseg.lean`): under the range hypotheses
(`height ≤ 61`, leaf counts `< 2^62`) the wrapped u64 / usize expressions of
`next_required_*_segment_index`, `count_segments_required`, `pmmr_size`, `segment_unpruned_size`
and `segment_pos_range` equal the plain leaf-count arithmetic, and the values of the four
`next_required_*` flavours at every position a local MMR can be in (`Pos`). -/
namespace GV.Deseg
open GV GV.Pmmr GV.Seg

theorem pow_pos' (h : Nat) : 0 < 2 ^ h := Nat.two_pow_pos h

theorem pow_lt_62 (h : Nat) (hh : h ≤ 61) : 2 ^ h < 2 ^ 62 := Nat.pow_lt_pow_right (by omega) (by omega)

theorem nLeaves_mmr (n : Nat) : nLeaves (mmr n) = n := Co.nLeaves_mmr n

theorem mmr_one : mmr 1 = 1 := Co.mmr_one

theorem mmr_eq_iff {a b : Nat} : mmr a = mmr b ↔ a = b := Co.mmr_eq_iff

theorem mmr_eq_one {n : Nat} : mmr n = 1 ↔ n = 1 := by
  have := Co.mmr_eq_iff (a := n) (b := 1); rwa [Co.mmr_one] at this

theorem csr_mmr (n h : Nat) (hh : h ≤ 61) (hn : n < 2 ^ 62) :
    Ident.countSegmentsRequired (mmr n) h = Dsg.segCount n h := by
  have hp := pow_lt_62 h hh
  have hpos := Nat.two_pow_pos h
  unfold Ident.countSegmentsRequired Dsg.segCount
  simp only [Co.nLeaves_mmr, shlW_one_left (s := h) (by omega)]
  rw [addW_eq (by omega), subW_eq (by omega) (by omega)]

theorem pmmrSize_eq (c h : Nat) (hh : h ≤ 61) (hc : c * 2 ^ h < 2 ^ 63) :
    pmmrSize c h = mmr (c * 2 ^ h) := by
  unfold pmmrSize
  rw [shlW_one_left (s := h) (by omega)]
  rw [mulW_eq (by omega), ins2pmmrW_small _ hc]

theorem segCount_le (n h : Nat) : Dsg.segCount n h * 2 ^ h < n + 2 ^ h := by
  unfold Dsg.segCount
  have hp := Nat.two_pow_pos h
  have := Nat.div_mul_le_self (n + 2 ^ h - 1) (2 ^ h)
  omega

theorem segCount_ge (n h : Nat) : n ≤ Dsg.segCount n h * 2 ^ h := by
  unfold Dsg.segCount
  have hp := Nat.two_pow_pos h
  have h1 := Nat.div_add_mod (n + 2 ^ h - 1) (2 ^ h)
  have h2 := Nat.mod_lt (n + 2 ^ h - 1) hp
  rw [Nat.mul_comm] at h1
  omega

theorem segCount_pos (n h : Nat) (hn : 0 < n) : 0 < Dsg.segCount n h :=
  Dsg.lt_segCount 0 h n (by omega)

theorem idx_lt_segCount_iff (idx n h : Nat) : idx < Dsg.segCount n h ↔ idx * 2 ^ h < n := by
  constructor
  · intro hlt
    have hp := Nat.two_pow_pos h
    have h1 := segCount_le n h
    have : (idx + 1) * 2 ^ h ≤ Dsg.segCount n h * 2 ^ h := Nat.mul_le_mul_right _ hlt
    rw [Nat.succ_mul] at this
    omega
  · exact Dsg.lt_segCount idx h n

theorem unprunedSize_mmr (id : Ident) (N : Nat) (hh : id.height < 64)
    (hoff : id.idx * 2 ^ id.height < 2 ^ 64) :
    id.unprunedSize (mmr N) = min (2 ^ id.height) (N - id.idx * 2 ^ id.height) := by
  unfold Ident.unprunedSize Ident.leafOffset satSub mulW
  rw [capacity_eq id hh, Co.nLeaves_mmr, Nat.mod_eq_of_lt hoff]

/-- a segment whose first leaf exists passes the `NonExistent` test of `Segment::root` -/
theorem unprunedSize_pos (id : Ident) (N : Nat) (hh : id.height ≤ 61) (hN : N < 2 ^ 62)
    (hlo : id.idx * 2 ^ id.height < N) : id.unprunedSize (mmr N) ≠ 0 := by
  rw [unprunedSize_mmr id N (by omega) (by omega)]
  have hp := Nat.two_pow_pos id.height
  have hd : 0 < N - id.idx * 2 ^ id.height := Nat.sub_pos_of_lt hlo
  exact Nat.ne_of_gt (Nat.lt_min.mpr ⟨hp, hd⟩)

/-- a segment beyond the MMR (no wrap-around) does not -/
theorem unprunedSize_zero (id : Ident) (N : Nat) (hh : id.height < 64)
    (hoff : id.idx * 2 ^ id.height < 2 ^ 64) (hlo : N ≤ id.idx * 2 ^ id.height) :
    id.unprunedSize (mmr N) = 0 := by
  rw [unprunedSize_mmr id N hh hoff, Nat.sub_eq_zero_of_le hlo]
  exact Nat.min_zero _

/-- where a local MMR with `n` leaves stands relative to an archive MMR of `N` leaves cut into
segments of height `h`, and the segment index that comes next: at the archive size, at a segment
boundary below it, or (`gen`: output / rangeproof / kernel of a fresh chain) at the genesis leaf -/
inductive Pos (gen : Bool) (h N : Nat) : Nat → Option Nat → Prop
  | done : Pos gen h N N none
  | boundary (k : Nat) : k * 2 ^ h < N → Pos gen h N (k * 2 ^ h) (some k)
  | genesis : gen = true → 1 < N → Pos gen h N 1 (some 0)

theorem Pos.le {gen : Bool} {h N n : Nat} {o : Option Nat} (p : Pos gen h N n o) : n ≤ N := by
  cases p with
  | done => exact Nat.le_refl _
  | boundary k hk => omega
  | genesis _ h1 => omega

theorem Pos.lt_of_some {gen : Bool} {h N n k : Nat} (p : Pos gen h N n (some k)) : n < N := by
  cases p with
  | boundary k hk => exact hk
  | genesis _ h1 => exact h1

theorem Pos.eq_of_none {gen : Bool} {h N n : Nat} (p : Pos gen h N n none) : n = N := by
  cases p; rfl

theorem Pos.eq_boundary {h N n k : Nat} (p : Pos false h N n (some k)) : n = k * 2 ^ h := by
  cases p with
  | boundary k hk => rfl
  | genesis hg _ => cases hg

theorem Pos.zero {gen : Bool} {h N : Nat} (hN : 0 < N) : Pos gen h N 0 (some 0) := by
  have := Pos.boundary (gen := gen) (h := h) (N := N) 0 (by omega)
  rw [Nat.zero_mul] at this
  exact this

theorem Pos.lo_lt {gen : Bool} {h N n k : Nat} (p : Pos gen h N n (some k)) : k * 2 ^ h < N := by
  cases p with
  | boundary k hk => exact hk
  | genesis _ h1 => omega

theorem Pos.bounds {gen : Bool} {h N n k : Nat} (p : Pos gen h N n (some k)) (hh : gen = true → 1 ≤ h) :
    k * 2 ^ h ≤ n ∧ n < (k + 1) * 2 ^ h ∧ k * 2 ^ h < N := by
  have hp := Nat.two_pow_pos h
  cases p with
  | boundary k hk => rw [Nat.succ_mul]; omega
  | genesis hg h1 =>
    have := Nat.one_lt_two_pow (Nat.ne_of_gt (hh hg))
    omega

theorem optIdx_ne {cur total : Nat} (h : cur ≠ total) : optIdx cur total = some cur := by
  unfold optIdx; rw [if_neg h]

theorem optIdx_self (c : Nat) : optIdx c c = none := by
  unfold optIdx; rw [if_pos rfl]

theorem curSegmentCount_mmr (n h : Nat) (hh : h ≤ 61) (hn : n < 2 ^ 62) :
    curSegmentCount (mmr n) h = if n = 1 then 0 else Dsg.segCount n h := by
  unfold curSegmentCount
  simp only [mmr_eq_one, csr_mmr n h hh hn]

theorem resumeAdjust_mmr (n c h : Nat) (hh : h ≤ 61) (hc : c * 2 ^ h < 2 ^ 63) :
    resumeAdjust (mmr n) c h = if n < c * 2 ^ h then c - 1 else c := by
  unfold resumeAdjust
  rw [pmmrSize_eq c h hh hc]
  by_cases hlt : n < c * 2 ^ h
  · rw [if_pos (Co.mmr_lt_iff.mpr hlt), if_pos hlt]
    have hp := Nat.two_pow_pos h
    have hc1 : 1 ≤ c := by
      cases c with
      | zero => simp at hlt
      | succ m => omega
    have : c ≤ c * 2 ^ h := Nat.le_mul_of_pos_right _ hp
    exact subW_eq (by omega) hc1
  · rw [if_neg (fun hx => hlt (Co.mmr_lt_iff.mp hx)), if_neg hlt]

/-! `Dsg` (`Model/Seg.lean`) models one tree of the same `desegmenter.rs` in leaf counts; in range the three
flavours of `next_required_*_segment_index` of this model ARE `Dsg.Tree.next`, and a `Pos` is a `Dsg.At` of
the tree with these parameters: the next index at a missing segment is `Dsg.next_of_at`. -/

theorem Pos.toAt {gen : Bool} {h N n : Nat} {o : Option Nat} (p : Pos gen h N n o) (fl : Dsg.Flavor)
    (hfl : fl = .bitmap ∨ 1 ≤ h) (hg : gen = true → fl ≠ .bitmap) : Dsg.At ⟨fl, h, N, n, []⟩ o := by
  cases p with
  | done => exact .done rfl
  | boundary k hk => exact .boundary k rfl hk hfl
  | genesis hg' h1 => exact .genesis (hg hg') rfl (hfl.resolve_left (hg hg')) h1

theorem cur_small (n h : Nat) (hn : n < 2 ^ 62) (hh : h ≤ 61) :
    (if n = 1 then 0 else Dsg.segCount n h) * 2 ^ h < 2 ^ 63 := by
  have := segCount_le n h
  have := pow_lt_62 h hh
  split <;> omega

theorem nextBitmap_eq (h N n : Nat) (hh : h ≤ 61) (hN : N < 2 ^ 62) (hn : n < 2 ^ 62) :
    nextRequiredBitmap h (mmr N) (mmr n) = (Dsg.Tree.mk .bitmap h N n []).next := by
  unfold nextRequiredBitmap Dsg.Tree.next optIdx
  rw [csr_mmr n h hh hn, csr_mmr N h hh hN]

theorem nextPrunable_eq (h N n : Nat) (hh : h ≤ 61) (hN : N < 2 ^ 62) (hn : n < 2 ^ 62) :
    nextRequiredPrunable h (mmr N) (mmr n) = (Dsg.Tree.mk .prunable h N n []).next := by
  unfold nextRequiredPrunable Dsg.Tree.next optIdx
  rw [csr_mmr N h hh hN, curSegmentCount_mmr n h hh hn, resumeAdjust_mmr n _ h hh (cur_small n h hn hh)]

theorem nextKernel_eq (h N n : Nat) (hh : h ≤ 61) (hN : N < 2 ^ 62) (hn : n < 2 ^ 62) :
    nextRequiredKernel h (mmr N) (mmr n) = (Dsg.Tree.mk .kernel h N n []).next := by
  unfold nextRequiredKernel Dsg.Tree.next optIdx
  simp only [csr_mmr N h hh hN, curSegmentCount_mmr n h hh hn, resumeAdjust_mmr n _ h hh (cur_small n h hn hh)]
  by_cases hne : Dsg.segCount N h ≠ (if n = 1 then 0 else Dsg.segCount n h)
  · simp only [hne, true_and, if_true, ne_eq, not_false_eq_true]
  · simp only [hne, false_and, if_false]

theorem nextBitmap_pos (h N n : Nat) (o : Option Nat) (hh : h ≤ 61) (hN : N < 2 ^ 62)
    (p : Pos false h N n o) : nextRequiredBitmap h (mmr N) (mmr n) = o := by
  cases o with
  | none => rw [p.eq_of_none]; exact optIdx_self _
  | some k =>
    rw [nextBitmap_eq h N n hh hN (Nat.lt_of_le_of_lt p.le hN)]
    exact Dsg.next_of_at _ k (p.toAt .bitmap (Or.inl rfl) (fun hg => nomatch hg))

/-- `2 ≤ N`: with a single kernel the code names segment 0 again when the tree is complete -/
theorem nextKernel_pos (h N n : Nat) (o : Option Nat) (hh : h ≤ 61) (h1 : 1 ≤ h) (hN : N < 2 ^ 62)
    (hN2 : 2 ≤ N) (p : Pos true h N n o) : nextRequiredKernel h (mmr N) (mmr n) = o := by
  cases o with
  | none =>
    have := p.eq_of_none; subst this
    unfold nextRequiredKernel
    have e : (if n = 1 then 0 else Dsg.segCount n h) = Dsg.segCount n h := if_neg (by omega)
    simp only [csr_mmr n h hh hN]
    rw [curSegmentCount_mmr n h hh hN, e, if_neg (fun hx => hx rfl)]
    exact optIdx_self _
  | some k =>
    rw [nextKernel_eq h N n hh hN (Nat.lt_of_le_of_lt p.le hN)]
    exact Dsg.next_of_at _ k (p.toAt .kernel (Or.inr h1) (fun _ => by decide))

theorem nextPrunable_pos (h N n k : Nat) (hh : h ≤ 61) (h1 : 1 ≤ h) (hN : N < 2 ^ 62)
    (p : Pos true h N n (some k)) : nextRequiredPrunable h (mmr N) (mmr n) = some k := by
  rw [nextPrunable_eq h N n hh hN (Nat.lt_of_le_of_lt p.le hN)]
  exact Dsg.next_of_at _ k (p.toAt .prunable (Or.inr h1) (fun _ => by decide))

/-- once the tree is complete: nothing if the last segment is full; otherwise the code keeps naming the
last segment -/
theorem nextPrunable_done (h N : Nat) (hh : h ≤ 61) (h1 : 1 ≤ h) (hN : N < 2 ^ 62) (hN1 : 1 ≤ N) :
    (nextRequiredPrunable h (mmr N) (mmr N) = none ∧ N = Dsg.segCount N h * 2 ^ h) ∨
    (nextRequiredPrunable h (mmr N) (mmr N) = some (Dsg.segCount N h - 1) ∧
      (Dsg.segCount N h - 1) * 2 ^ h < N ∧ N < Dsg.segCount N h * 2 ^ h) := by
  have hpos := segCount_pos N h hN1
  have hge := segCount_ge N h
  have hlt := segCount_le N h
  have h2 := Nat.one_lt_two_pow (Nat.ne_of_gt h1)
  have hp := pow_lt_62 h hh
  unfold nextRequiredPrunable
  rw [csr_mmr N h hh hN, curSegmentCount_mmr N h hh hN]
  by_cases hone : N = 1
  · subst hone
    right
    have hs : Dsg.segCount 1 h = 1 := by
      unfold Dsg.segCount
      rw [Nat.add_sub_cancel_left, Nat.div_self (Nat.two_pow_pos h)]
    rw [if_pos rfl, resumeAdjust_mmr 1 0 h hh (by rw [Nat.zero_mul]; decide), Nat.zero_mul,
      if_neg (Nat.not_lt_zero 1), hs]
    exact ⟨optIdx_ne Nat.zero_ne_one, by rw [Nat.sub_self, Nat.zero_mul]; exact Nat.one_pos,
      by rw [Nat.one_mul]; exact h2⟩
  · rw [if_neg hone, resumeAdjust_mmr N _ h hh (by omega)]
    by_cases hfull : N = Dsg.segCount N h * 2 ^ h
    · left
      rw [if_neg (fun hx => Nat.ne_of_lt hx hfull)]
      exact ⟨optIdx_self _, hfull⟩
    · right
      have hnot : N < Dsg.segCount N h * 2 ^ h := Nat.lt_of_le_of_ne hge hfull
      rw [if_pos hnot]
      refine ⟨optIdx_ne (Nat.ne_of_lt (Nat.sub_lt hpos Nat.one_pos)), ?_, hnot⟩
      rw [Nat.sub_mul, Nat.one_mul]
      omega

/-- `pmmr_size(0, h) = 0`: the resume adjustment is never taken at `cur_segment_count = 0` -/
theorem pmmrSize_zero (h : Nat) : pmmrSize 0 h = 0 := by
  unfold pmmrSize mulW ins2pmmrW mulW subW
  simp [popcount]

theorem lastOf_lt (id : Ident) : lastOf id < mmr ((id.idx + 1) * 2 ^ id.height) := by
  unfold lastOf
  have hpos := Nat.two_pow_pos id.height
  have e : (id.idx + 1) * 2 ^ id.height = (id.idx * 2 ^ id.height + (2 ^ id.height - 1)) + 1 := by
    rw [Nat.succ_mul]; omega
  have ht := Co.form_valid id.idx id.height
  rw [e, mmr_succ]
  omega

theorem posRange_last_full (id : Ident) (N : Nat) (hh : id.height ≤ 61) (hN : N < 2 ^ 62)
    (hfit : (id.idx + 1) * 2 ^ id.height ≤ N) : (id.posRange (mmr N)).2 = lastOf id := by
  have v : FullId id (mmr N) := ⟨by omega, by rw [Co.nLeaves_mmr]; exact hfit, by rw [Co.nLeaves_mmr]; exact hN⟩
  rw [v.posRange]

theorem posRange_last_final (id : Ident) (N : Nat) (hh : id.height ≤ 61) (hN : N < 2 ^ 62)
    (hlo : id.idx * 2 ^ id.height < N) (hhi : N < (id.idx + 1) * 2 ^ id.height) :
    (id.posRange (mmr N)).2 = mmr N - 1 := by
  have v : FinalId id N := ⟨by omega, hlo, hhi, hN⟩
  rw [v.posRange]

theorem posRange_last_lt (id : Ident) (N m : Nat) (hh : id.height ≤ 61) (hN : N < 2 ^ 62)
    (hm : (id.idx + 1) * 2 ^ id.height ≤ m) (hmN : m ≤ N) : (id.posRange (mmr N)).2 < mmr m := by
  rw [posRange_last_full id N hh hN (by omega)]
  exact Nat.lt_of_lt_of_le (lastOf_lt id) (Co.mmr_le_mmr hm)

/-- height ≥ 1: the segment has a root above its leaves -/
theorem posRange_last_gt_full (id : Ident) (N n : Nat) (hh : id.height ≤ 61) (h1 : 1 ≤ id.height)
    (hN : N < 2 ^ 62) (hfit : (id.idx + 1) * 2 ^ id.height ≤ N) (hn : n < (id.idx + 1) * 2 ^ id.height) :
    mmr n < (id.posRange (mmr N)).2 := by
  rw [posRange_last_full id N hh hN hfit]
  have : n ≤ id.idx * 2 ^ id.height + (2 ^ id.height - 1) := by
    rw [Nat.succ_mul] at hn; omega
  have := Co.mmr_le_mmr this
  unfold lastOf
  omega

theorem posRange_last_ge (id : Ident) (N : Nat) (hh : id.height ≤ 61) (hN : N < 2 ^ 62)
    (hlo : id.idx * 2 ^ id.height < N) : mmr (id.idx * 2 ^ id.height) ≤ (id.posRange (mmr N)).2 := by
  by_cases hfit : (id.idx + 1) * 2 ^ id.height ≤ N
  · rw [posRange_last_full id N hh hN hfit]
    exact Nat.le_trans (Co.mmr_le_mmr (Nat.le_add_right _ _)) (Nat.le_add_right _ _)
  · rw [posRange_last_final id N hh hN hlo (by omega)]
    have := Co.mmr_lt_mmr hlo
    omega

end GV.Deseg
