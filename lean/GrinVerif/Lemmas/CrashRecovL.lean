import GrinVerif.Model.CrashRecov
import GrinVerif.Lemmas.CrashRecover
/-! Lemmas about the start-up recovery as a sequence of durable writes (`Model/CrashRecov.lean`):
`validAt` depends on the files only through their prefixes and on the leaf set only through
membership; what one `sync` of a rewound extension does to `validAt`; the loop acting on its own
writes (`fallbackS`) decides like the net-effect loop (`fallback`). Then, in namespace `GV.Props.C09Recov`
(whose theorems are stated with `TxOnly` and `Kept`): the loop writes txhashset steps only, which keep the header side;
where it stops the files validate (`fallbackS_final`); the writes of a restart that finds its head valid (`Good`) keep
header files, heads and validity (`Kept`, `kept_run`). -/
namespace GV.Crash

/-- validity looks at the file prefixes and at the members of the rewound leaf set only -/
theorem validAt_congr (bc : Nat → Bool) (d1 d2 : Durable) (s1 s2 : List Leaf) (P : List BlkInfo)
    (h1 : d1.outHash.take (leavesOf P).length = d2.outHash.take (leavesOf P).length)
    (h2 : d1.outData.take (leavesOf P).length = d2.outData.take (leavesOf P).length)
    (h3 : d1.kerHash.take P.length = d2.kerHash.take P.length)
    (h4 : d1.kerData.take P.length = d2.kerData.take P.length)
    (hl : ∀ l, l ∈ leavesOf P → ((l ∈ d1.leaf ∨ l ∈ s1) ↔ (l ∈ d2.leaf ∨ l ∈ s2))) :
    validAt bc d1 s1 P = validAt bc d2 s2 P := by
  rw [validAt_eq, validAt_eq, h1, h2, h3, h4]
  have hb : ((unspentOf P).all (fun l => (leafAt d1.leaf s1 P).contains l) &&
          (leafAt d1.leaf s1 P).all (fun l => (unspentOf P).contains l)) =
        ((unspentOf P).all (fun l => (leafAt d2.leaf s2 P).contains l) &&
          (leafAt d2.leaf s2 P).all (fun l => (unspentOf P).contains l)) := by
    rw [Bool.eq_iff_iff, bitmapOk_iff, bitmapOk_iff]
    have hm : ∀ l, l ∈ leafAt d1.leaf s1 P ↔ l ∈ leafAt d2.leaf s2 P := by
      intro l
      rw [mem_leafAt, mem_leafAt]
      constructor
      · rintro ⟨a, b⟩; exact ⟨a, (hl l a).1 b⟩
      · rintro ⟨a, b⟩; exact ⟨a, (hl l a).2 b⟩
    constructor
    · intro h l; rw [h l]; exact hm l
    · intro h l; rw [h l]; exact (hm l).symm
  rw [hb]

/-- what the three `backend.sync()`s of a committed rewind to `P` leave on disk -/
theorem runIns_sync (d : Durable) (P : List BlkInfo) (t : List Leaf) :
    runIns d (syncIns P t) =
      { d with outHash := d.outHash.take (leavesOf P).length, outData := d.outData.take (leavesOf P).length,
               leaf := leafAt d.leaf t P,
               kerHash := d.kerHash.take P.length, kerData := d.kerData.take P.length } := by
  -- on a variable the five nested updates are unfolded again for every field
  cases d; rfl

theorem validAt_sync (bc : Nat → Bool) (d : Durable) (P Q : List BlkInfo) (t s : List Leaf)
    (hQ : Q <+: P) :
    validAt bc (runIns d (syncIns P t)) s Q = validAt bc d (t ++ s) Q := by
  rw [runIns_sync]
  have hlen := (leavesOf_mono hQ).length_le
  have hlen2 : Q.length ≤ P.length := hQ.length_le
  apply validAt_congr
  · exact take_take_le _ _ _ hlen
  · exact take_take_le _ _ _ hlen
  · exact take_take_le _ _ _ hlen2
  · exact take_take_le _ _ _ hlen2
  · intro l hl
    have hP := (leavesOf_mono hQ).subset hl
    simp only [mem_leafAt, List.mem_append]
    constructor
    · rintro (⟨_, a | a⟩ | a)
      · exact Or.inl a
      · exact Or.inr (Or.inl a)
      · exact Or.inr (Or.inr a)
    · rintro (a | a | a)
      · exact Or.inl ⟨hP, Or.inl a⟩
      · exact Or.inl ⟨hP, Or.inr a⟩
      · exact Or.inr a

/-- **The loop on its own writes decides like the net-effect loop.** If judging any prefix of the
candidate's path on the current files `d'` is judging the original files `d` with `r` re-added,
`fallbackS` on `d'` and `fallback` on `(d, r)` end alike. -/
theorem fallbackS_outcome (bc : Nat → Bool) (tbl : List BlkInfo) :
    ∀ (fuel : Nat) (d' d : Durable) (r : List Leaf) (h : Nat),
      (∀ P, pathOf tbl (tbl.length + 1) h [] = some P → ∀ Q, Q <+: P → ∀ s,
          validAt bc d' s Q = validAt bc d (r ++ s) Q) →
      (fallbackS bc tbl fuel d' h).2 = fallback bc tbl d fuel h r := by
  intro fuel
  induction fuel with
  | zero => intro d' d r h _; rfl
  | succ fuel ih =>
    intro d' d r h hinv
    unfold fallbackS fallback
    cases hp : pathOf tbl (tbl.length + 1) h [] with
    | none => rfl
    | some path =>
      simp only []
      by_cases hl : path.length ≤ 1
      · simp [hl]
      · have hv : validAt bc d' [] path = validAt bc d r path := by
          have := hinv path hp path (List.prefix_refl _) []
          simpa using this
        simp only [hl, if_false, hv]
        by_cases hval : validAt bc d r path = true
        · simp [hval]
        · simp only [hval, Bool.false_eq_true, if_false]
          apply ih
          intro P' hP' Q hQ s
          have hpar := pathOf_dropLast tbl (tbl.length + 1) h path hp hl
          have hPe : P' = path.dropLast := (Option.some.inj (hpar.symm.trans hP')).symm
          subst hPe
          rw [validAt_sync bc d' path.dropLast Q _ s hQ]
          have := hinv path hp Q (hQ.trans (List.dropLast_prefix path))
            (spentLeaves (unspentOf path.dropLast) path.getLast! ++ s)
          rw [this, List.append_assoc]

theorem validAt_hdrIns (bc : Nat → Bool) (d : Durable) (hp : List BlkInfo) (s : List Leaf) (Q : List BlkInfo) :
    validAt bc (runIns d (hdrIns hp)) s Q = validAt bc d s Q := rfl

/-- past the header check, the writes of a recovery: the header truncations, the loop's own writes, and the commit
of the head it found -/
theorem recoverS_of_hdr (bc : Nat → Bool) (tbl : List BlkInfo) (d : Durable) (hp : List BlkInfo)
    (hl : d.hdrHash.length = d.hdrData.length) (hpath : pathOf tbl (tbl.length + 1) d.dbHHead [] = some hp)
    (hdata : d.hdrData.take hp.length = hp.map (·.id)) :
    recoverS bc tbl d =
      match (fallbackS bc tbl (tbl.length + 1) (runIns d (hdrIns hp)) d.dbHead).2 with
      | .ok h => (hdrIns hp ++ (fallbackS bc tbl (tbl.length + 1) (runIns d (hdrIns hp)) d.dbHead).1 ++
          [{ step := .headCommit, path := [], readd := [], head := h }], .ok h)
      | .openFail w => (hdrIns hp ++ (fallbackS bc tbl (tbl.length + 1) (runIns d (hdrIns hp)) d.dbHead).1,
          .openFail w) := by
  unfold recoverS
  rw [if_neg (by simpa using hl), hpath]
  simp only []
  rw [if_neg (by simpa using hdata)]
  cases (fallbackS bc tbl (tbl.length + 1) (runIns d (hdrIns hp)) d.dbHead).2 <;> rfl

theorem recoverS_outcome (bc : Nat → Bool) (tbl : List BlkInfo) (d : Durable) :
    (recoverS bc tbl d).2 = recover bc tbl d := by
  by_cases h1 : d.hdrHash.length ≠ d.hdrData.length
  · simp [recoverS, recover, h1]
  · cases hp : pathOf tbl (tbl.length + 1) d.dbHHead [] with
    | none => simp [recoverS, recover, h1, hp]
    | some hpath =>
      by_cases h2 : d.hdrData.take hpath.length ≠ hpath.map (·.id)
      · simp [recoverS, recover, h1, hp, h2]
      · rw [recoverS_of_hdr bc tbl d hpath (by simpa using h1) hp (by simpa using h2)]
        simp only [recover, h1, if_false, hp, h2]
        have hout := fallbackS_outcome bc tbl (tbl.length + 1) (runIns d (hdrIns hpath)) d [] d.dbHead
          (by intro P _ Q _ s; rw [validAt_hdrIns]; rfl)
        rw [← hout]
        cases (fallbackS bc tbl (tbl.length + 1) (runIns d (hdrIns hpath)) d.dbHead).2 <;> rfl

end GV.Crash

namespace GV.Props.C09Recov
open GV.Crash

/-- the writes of the loop touch neither the header files nor the database heads -/
def TxOnly (ins : List RIns) : Prop :=
  ∀ i ∈ ins, i.step = .outHashTrunc ∨ i.step = .outDataTrunc ∨ i.step = .leafRename ∨
    i.step = .kerHashTrunc ∨ i.step = .kerDataTrunc

theorem txOnly_sync (P : List BlkInfo) (t : List Leaf) : TxOnly (syncIns P t) := by
  intro i hi
  simp only [syncIns, List.mem_cons, List.mem_nil_iff, or_false] at hi
  rcases hi with rfl | rfl | rfl | rfl | rfl <;> simp

theorem txOnly_append {a b : List RIns} (ha : TxOnly a) (hb : TxOnly b) : TxOnly (a ++ b) := by
  intro i hi
  rcases List.mem_append.mp hi with h | h
  · exact ha i h
  · exact hb i h

theorem txOnly_fallbackS (bc : Nat → Bool) (tbl : List BlkInfo) :
    ∀ (fuel : Nat) (d : Durable) (h : Nat), TxOnly (fallbackS bc tbl fuel d h).1 := by
  intro fuel
  induction fuel with
  | zero => intro d h i hi; simp [fallbackS] at hi
  | succ fuel ih =>
    intro d h
    unfold fallbackS
    cases pathOf tbl (tbl.length + 1) h [] with
    | none => intro i hi; simp at hi
    | some path =>
      simp only []
      split
      · exact txOnly_sync _ _
      · split
        · exact txOnly_sync _ _
        · exact txOnly_append (txOnly_sync _ _) (ih _ _)

theorem applyRIns_tx_keeps (d : Durable) (i : RIns)
    (h : i.step = .outHashTrunc ∨ i.step = .outDataTrunc ∨ i.step = .leafRename ∨
      i.step = .kerHashTrunc ∨ i.step = .kerDataTrunc) :
    (applyRIns d i).hdrHash = d.hdrHash ∧ (applyRIns d i).hdrData = d.hdrData ∧
    (applyRIns d i).dbHHead = d.dbHHead ∧ (applyRIns d i).dbHead = d.dbHead := by
  unfold applyRIns
  rcases h with h | h | h | h | h <;> simp [h]

theorem runIns_tx_keeps : ∀ (ins : List RIns) (d : Durable), TxOnly ins →
    (runIns d ins).hdrHash = d.hdrHash ∧ (runIns d ins).hdrData = d.hdrData ∧
    (runIns d ins).dbHHead = d.dbHHead ∧ (runIns d ins).dbHead = d.dbHead := by
  intro ins d h
  have e := foldl_keeps applyRIns (fun d => (d.hdrHash, d.hdrData, d.dbHHead, d.dbHead)) ins d fun i hi d => by
    obtain ⟨h1, h2, h3, h4⟩ := applyRIns_tx_keeps d i (h i hi)
    simp only [h1, h2, h3, h4]
  simpa [runIns] using e

theorem runIns_append (d : Durable) (a b : List RIns) : runIns d (a ++ b) = runIns (runIns d a) b := by
  simp [runIns, List.foldl_append]

/-- where the loop stops, the files it leaves validate at the head it stops on -/
theorem fallbackS_final (bcf : Nat → Bool) (tbl : List BlkInfo) :
    ∀ (fuel : Nat) (d : Durable) (h hf : Nat) (P : List BlkInfo),
      pathOf tbl (tbl.length + 1) h [] = some P → P.length ≤ fuel →
      (fallbackS bcf tbl fuel d h).2 = .ok hf →
      ∃ PF, pathOf tbl (tbl.length + 1) hf [] = some PF ∧
        (PF.length ≤ 1 ∨ validAt bcf (runIns d (fallbackS bcf tbl fuel d h).1) [] PF = true) := by
  intro fuel
  induction fuel with
  | zero =>
    intro d h hf P hp hl _
    have := pathOf_ne_nil tbl _ h P hp
    have : P.length ≠ 0 := fun e => this (List.length_eq_zero_iff.mp e)
    omega
  | succ fuel ih =>
    intro d h hf P hp hl hok
    unfold fallbackS at hok ⊢
    simp only [hp] at hok ⊢
    by_cases h1 : P.length ≤ 1
    · simp only [h1, if_true] at hok ⊢
      have e : h = hf := by simpa using hok
      subst e
      exact ⟨P, hp, Or.inl h1⟩
    · simp only [h1, if_false] at hok ⊢
      by_cases hv : validAt bcf d [] P = true
      · simp only [hv, if_true] at hok ⊢
        have e : h = hf := by simpa using hok
        subst e
        refine ⟨P, hp, Or.inr ?_⟩
        rw [validAt_sync bcf d P P [] [] (List.prefix_refl _)]
        simpa using hv
      · simp only [hv, Bool.false_eq_true, if_false] at hok ⊢
        have hpar := pathOf_dropLast tbl (tbl.length + 1) h P hp h1
        have hlen : P.dropLast.length ≤ fuel := by simp; omega
        obtain ⟨PF, hPF, hfin⟩ := ih _ _ hf P.dropLast hpar hlen hok
        refine ⟨PF, hPF, ?_⟩
        rw [runIns_append]
        exact hfin

/-- a sync step at `P` that re-adds nothing rewrites one file with what validity at `P` reads of it -/
theorem validAt_applyRIns_stays (bcf : Nat → Bool) (d : Durable) (i : RIns)
    (h : i.step = .outHashTrunc ∨ i.step = .outDataTrunc ∨ i.step = .leafRename ∨
      i.step = .kerHashTrunc ∨ i.step = .kerDataTrunc) (hr : i.readd = []) :
    validAt bcf (applyRIns d i) [] i.path = validAt bcf d [] i.path := by
  have tt : ∀ (l : List Leaf) n, (l.take n).take n = l.take n := fun l n => take_take_le l n n (Nat.le_refl _)
  have tn : ∀ (l : List Nat) n, (l.take n).take n = l.take n := fun l n => take_take_le l n n (Nat.le_refl _)
  have same : ∀ l, l ∈ leavesOf i.path → ((l ∈ d.leaf ∨ l ∈ []) ↔ (l ∈ d.leaf ∨ l ∈ [])) := fun _ _ => Iff.rfl
  unfold applyRIns
  rcases h with h | h | h | h | h <;> rw [h] <;> simp only []
  · exact validAt_congr bcf _ _ _ _ _ (tt _ _) rfl rfl rfl same
  · exact validAt_congr bcf _ _ _ _ _ rfl (tt _ _) rfl rfl same
  · refine validAt_congr bcf _ _ _ _ _ rfl rfl rfl rfl fun l hl => ?_
    rw [hr]
    simp only [mem_leafAt, List.not_mem_nil, or_false]
    exact ⟨fun a => a.2, fun a => ⟨hl, a⟩⟩
  · exact validAt_congr bcf _ _ _ _ _ rfl rfl (tn _ _) rfl same
  · exact validAt_congr bcf _ _ _ _ _ rfl rfl rfl (tn _ _) same

/-- a write of a recovery of `d` that finds its stored head valid: header truncation at the header
head's length, a sync that stays at the head's path `P`, or the commit of the unchanged head -/
inductive Good (d : Durable) (hp P : List BlkInfo) (i : RIns) : Prop
  | hdr : i.step = .hdrHashTrunc ∨ i.step = .hdrDataTrunc → i.path = hp → Good d hp P i
  | sync : i.step = .outHashTrunc ∨ i.step = .outDataTrunc ∨ i.step = .leafRename ∨
      i.step = .kerHashTrunc ∨ i.step = .kerDataTrunc → i.path = P → i.readd = [] → Good d hp P i
  | commit : i.step = .headCommit → i.head = d.dbHead → Good d hp P i

/-- what such writes preserve -/
structure Kept (bcf : Nat → Bool) (d : Durable) (P : List BlkInfo) (d' : Durable) : Prop where
  hh : d'.hdrHash = d.hdrHash
  hd : d'.hdrData = d.hdrData
  hhead : d'.dbHHead = d.dbHHead
  head : d'.dbHead = d.dbHead
  valid : validAt bcf d' [] P = validAt bcf d [] P

theorem Kept.hdrOk {bcf : Nat → Bool} {d : Durable} {P : List BlkInfo} {d' : Durable} (hk : Kept bcf d P d')
    {tbl : List BlkInfo} (h : HdrOk tbl d) : HdrOk tbl d' :=
  h.of_view (by simp only [hdrView, hk.hh, hk.hd, hk.hhead])

theorem kept_step (bcf : Nat → Bool) (d : Durable) (hp P : List BlkInfo)
    (hl1 : d.hdrHash.length ≤ hp.length) (hl2 : d.hdrData.length ≤ hp.length)
    (d' : Durable) (i : RIns) (hk : Kept bcf d P d') (hi : Good d hp P i) :
    Kept bcf d P (applyRIns d' i) := by
  cases hi with
  | hdr h hP =>
    subst hP
    rcases h with h | h
    · -- the hash file is cut at its own length or beyond
      rw [show applyRIns d' i = { d' with hdrHash := d'.hdrHash.take i.path.length } by simp only [applyRIns, h]]
      exact ⟨(congrArg (List.take i.path.length) hk.hh).trans (List.take_of_length_le hl1), hk.hd, hk.hhead, hk.head,
        hk.valid⟩
    · rw [show applyRIns d' i = { d' with hdrData := d'.hdrData.take i.path.length } by simp only [applyRIns, h]]
      exact ⟨hk.hh, (congrArg (List.take i.path.length) hk.hd).trans (List.take_of_length_le hl2), hk.hhead, hk.head,
        hk.valid⟩
  | sync h hP hr =>
    obtain ⟨k1, k2, k3, k4⟩ := applyRIns_tx_keeps d' i h
    exact ⟨k1.trans hk.hh, k2.trans hk.hd, k3.trans hk.hhead, k4.trans hk.head,
      (hP ▸ validAt_applyRIns_stays bcf d' i h hr).trans hk.valid⟩
  | commit h hh =>
    rw [show applyRIns d' i = { d' with dbHead := i.head } by simp only [applyRIns, h]]
    exact ⟨hk.hh, hk.hd, hk.hhead, hh, hk.valid⟩

theorem kept_run (bcf : Nat → Bool) (d : Durable) (hp P : List BlkInfo)
    (hl1 : d.hdrHash.length ≤ hp.length) (hl2 : d.hdrData.length ≤ hp.length) :
    ∀ (ins : List RIns) (d' : Durable), Kept bcf d P d' → (∀ i ∈ ins, Good d hp P i) →
      Kept bcf d P (runIns d' ins) := by
  intro ins
  induction ins with
  | nil => intro d' hk _; exact hk
  | cons i rest ih =>
    intro d' hk hg
    simp only [runIns, List.foldl_cons]
    exact ih _ (kept_step bcf d hp P hl1 hl2 d' i hk (hg i List.mem_cons_self))
      (fun j hj => hg j (List.mem_cons_of_mem _ hj))

end GV.Props.C09Recov
