import GrinVerif.Model.Pow
import GrinVerif.Gen.FnsVerify
import GrinVerif.Lemmas.BasicWrap
import GrinVerif.Lemmas.UtilIte

/-! # Translated cycle verifiers = hand model: what `Props/XlateVerify*.lean` share

The translation works on list arrays, the model on function arrays (`R`; `RK g` through an injective re-indexing,
because the model packs the two head arrays `headu`, `headv` of the Rust code into one map keyed `2*b` / `2*b+1`).
A generated loop is determined by its recursion equations: the loops that Cuckaroo / Cuckatoo (all four) and
Cuckarooz (the last two) share are stated as such equations, the tie to the model is proved once for any functions
satisfying them, and the generated functions satisfy them by unfolding. -/

namespace GV.Lemmas.XlateVerify
open GV GV.Gen GV.Gen.Fns GV.Pow

def R (l : List Nat) (f : Nat → Nat) : Prop := ∀ i, i < l.length → idx l i = f i

def RK (g : Nat → Nat) (l : List Nat) (f : Nat → Nat) : Prop :=
  ∀ i, i < l.length → idx l i = f (g i)

theorem idx_set {α : Type} [Inhabited α] (l : List α) (i : Nat) (v : α) (j : Nat) (hj : j < l.length) :
    idx (l.set i v) j = if j = i then v else idx l j := by
  unfold idx
  rw [List.getD_eq_getElem?_getD, List.getD_eq_getElem?_getD, List.getElem?_set]
  by_cases h : i = j
  · subst h; simp [hj]
  · have h' : ¬ j = i := fun e => h e.symm
    simp [h, h']

theorem R_same {l : List Nat} {f : Nat → Nat} (h : R l f) (i : Nat) :
    R l (upd f i (f i)) := by
  intro j hj
  unfold upd
  by_cases e : j = i
  · simp [e]; rw [← e]; exact h j hj
  · simp [e, h j hj]

theorem RK_set {g : Nat → Nat} (hg : ∀ a b, g a = g b → a = b) {l : List Nat} {f : Nat → Nat}
    (h : RK g l f) (i v : Nat) : RK g (l.set i v) (upd f (g i) v) := by
  intro j hj
  rw [List.length_set] at hj
  rw [idx_set l i v j hj]
  unfold upd
  by_cases e : j = i
  · simp [e]
  · have : ¬ g j = g i := fun e' => e (hg _ _ e')
    simp [e, this, h j hj]

/-- `R` is `RK id` -/
theorem R_set {l : List Nat} {f : Nat → Nat} (h : R l f) (i v : Nat) :
    R (l.set i v) (upd f i v) := RK_set (g := id) (fun _ _ e => e) h i v

theorem RK_other {g : Nat → Nat} {l : List Nat} {f : Nat → Nat} (h : RK g l f) (k v : Nat)
    (hk : ∀ b, g b ≠ k) : RK g l (upd f k v) := by
  intro j hj
  unfold upd
  simp [hk j, h j hj]

theorem idx_replicate {α : Type} [Inhabited α] (n : Nat) (v : α) (i : Nat) (hi : i < n) :
    idx (List.replicate n v) i = v := by
  unfold idx
  rw [List.getD_eq_getElem?_getD, List.getElem?_replicate]
  simp [hi]

theorem idx_set_self {α : Type} [Inhabited α] (l : List α) (i : Nat) (v : α) (hi : i < l.length) :
    idx (l.set i v) i = v := by
  rw [idx_set l i v i hi, if_pos rfl]

theorem R_replicate (n v : Nat) : R (List.replicate n v) (fun _ => v) :=
  fun i hi => idx_replicate n v i (by rwa [List.length_replicate] at hi)

theorem RK_replicate (g : Nat → Nat) (n v : Nat) : RK g (List.replicate n v) (fun _ => v) := by
  intro i hi
  exact R_replicate n v i hi

/-- the translated verifier (`Ok(())` = `some ()`, `Err(_)` = `none`) and the model agree -/
def SameVerdict (o : Option Unit) (m : Except Err Unit) : Prop :=
  (o = some () ∧ m = .ok ()) ∨ (o = none ∧ ∃ e, m = .error e)

theorem SameVerdict.some_iff {o : Option Unit} {m : Except Err Unit} (h : SameVerdict o m) :
    o = some () ↔ m = .ok () := by
  rcases h with ⟨a, b⟩ | ⟨a, e, b⟩
  · exact ⟨fun _ => b, fun _ => a⟩
  · rw [a, b]; exact ⟨fun h => (by cases h), fun h => (by cases h)⟩

theorem SameVerdict.none_iff {o : Option Unit} {m : Except Err Unit} (h : SameVerdict o m) :
    o = none ↔ ∃ e, m = .error e := by
  rcases h with ⟨a, b⟩ | ⟨a, e, b⟩
  · rw [a, b]; exact ⟨fun h => (by cases h), fun ⟨_, h⟩ => (by cases h)⟩
  · exact ⟨fun _ => ⟨e, b⟩, fun _ => a⟩

theorem SameVerdict.ite {c : Bool} {p : Prop} [Decidable p] (h : c = true ↔ p) (e : Err)
    {o : Option Unit} {m : Except Err Unit} (hn : ¬ p → SameVerdict o m) :
    SameVerdict (if c = true then none else o) (if p then .error e else m) :=
  rel_ite_iff SameVerdict h (fun _ => .inr ⟨rfl, e, rfl⟩) hn

theorem SameVerdict.final {c : Bool} {p : Prop} [Decidable p] (h : c = true ↔ p) (e : Err) :
    SameVerdict (if c = true then some () else none) (if p then .ok () else .error e) :=
  rel_ite_iff SameVerdict h (fun _ => .inl ⟨rfl, rfl⟩) (fun _ => .inr ⟨rfl, e, rfl⟩)

/-- a translated loop (`.ret none`: it returned `Err`) and its model -/
def Agree {α β : Type} (Rel : α → β → Prop) (r : Flow (Option Unit) α) (m : Except Err β) : Prop :=
  (r = .ret none ∧ ∃ e, m = .error e) ∨ ∃ a b, r = .go a ∧ m = .ok b ∧ Rel a b

theorem Agree.ite {α β : Type} {Rel : α → β → Prop} {c : Bool} {p : Prop} [Decidable p]
    (h : c = true ↔ p) (e : Err) {r : Flow (Option Unit) α} {m : Except Err β}
    (hn : ¬ p → Agree Rel r m) :
    Agree Rel (if c = true then .ret none else r) (if p then .error e else m) :=
  rel_ite_iff (Agree Rel) h (fun _ => .inl ⟨rfl, e, rfl⟩) hn

theorem Agree.ite_go {α β : Type} {Rel : α → β → Prop} {c : Bool} {p : Prop} [Decidable p]
    (h : c = true ↔ p) {a : α} {b : β} (hab : Rel a b) {r : Flow (Option Unit) α} {m : Except Err β}
    (hn : ¬ p → Agree Rel r m) :
    Agree Rel (if c = true then .go a else r) (if p then .ok b else m) :=
  rel_ite_iff (Agree Rel) h (fun _ => .inr ⟨a, b, rfl, rfl, hab⟩) hn

theorem proofsize_le (ct : ChainTypes) : proofsize ct ≤ 42 := by
  cases ct <;> decide

theorem drop_eq_cons (l : List Nat) (a : Nat) (h : a < l.length) :
    l.drop a = idx l a :: l.drop (a + 1) := by
  unfold idx
  rw [List.getD_eq_getElem?_getD, List.getElem?_eq_getElem h, Option.getD_some]
  exact List.drop_eq_getElem_cons h

def k0 (b : Nat) : Nat := 2 * b
def k1 (b : Nat) : Nat := 2 * b + 1
theorem k0_inj (a b : Nat) (h : k0 a = k0 b) : a = b := by unfold k0 at h; omega
theorem k1_inj (a b : Nat) (h : k1 a = k1 b) : a = b := by unfold k1 at h; omega
theorem k0_ne_k1 (a b : Nat) : k0 a ≠ k1 b := by unfold k0 k1; omega
theorem k1_ne_k0 (a b : Nat) : k1 a ≠ k0 b := by unfold k0 k1; omega

/-- `nonces[a-1]` as the model's `last` -/
def lastOf (nonces : List Nat) (a : Nat) : Option Nat :=
  if a = 0 then none else some (idx nonces (a - 1))

theorem lastOf_succ (nonces : List Nat) (a : Nat) : lastOf nonces (a + 1) = some (idx nonces a) := by
  simp [lastOf]

theorem notAsc_lastOf (nonces : List Nat) (a x : Nat) (ha : a < 2^63) :
    (notAsc (lastOf nonces a) x = true) ↔ (a > 0 ∧ x ≤ idx nonces (subW a 1)) := by
  unfold lastOf
  by_cases h : a = 0
  · simp [h, notAsc]
  · rw [if_neg h, GV.subW_eq (a := a) (b := 1) (by omega) (by omega)]; simp [notAsc]; omega

theorem Agree.nonceTests {α β : Type} {Rel : α → β → Prop} {P : Params} {emask : Nat} (hP2 : P.edgeMask = emask)
    (nonces : List Nat) {a : Nat} (ha : a < 2^63) {r : Flow (Option Unit) α} {m : Except Err β}
    (h : ¬ idx nonces a > emask → ¬ (a > 0 ∧ idx nonces a ≤ idx nonces (subW a 1)) → Agree Rel r m) :
    Agree Rel
      (if decide (idx nonces a > emask) then .ret none
        else if (decide (a > 0)) && (decide (idx nonces a ≤ idx nonces (subW a 1))) then .ret none else r)
      (if idx nonces a > P.edgeMask then .error .tooBig
        else if notAsc (lastOf nonces a) (idx nonces a) then .error .notAscending else m) := by
  refine Agree.ite (by rw [hP2, decide_eq_true_eq]) _ fun h1 => ?_
  refine Agree.ite (by rw [notAsc_lastOf nonces a _ ha]; simp) _ fun h2 => ?_
  exact h (hP2 ▸ h1) (fun hh => h2 ((notAsc_lastOf nonces a _ ha).2 hh))

theorem SameVerdict.sizeTest {ct : ChainTypes} {P : Params} {len : Nat} (hP1 : P.proofsize = proofsize ct)
    {o : Option Unit} {m : Except Err Unit} (h : len = proofsize ct → len ≤ 42 → SameVerdict o m) :
    SameVerdict (if (len != proofsize ct) = true then none else o)
      (if len ≠ P.proofsize then .error .wrongLen else m) :=
  SameVerdict.ite (by rw [hP1]; simp) _ fun hs =>
    h (hP1 ▸ Decidable.of_not_not hs) (by rw [Decidable.of_not_not hs, hP1]; exact proofsize_le ct)

structure RelU (st : List Nat × Nat × Nat × List Nat × List Nat × List Nat) (s : USt) : Prop where
  uvs : R st.1 s.uvs
  x0 : st.2.1 = s.x0
  x1 : st.2.2.1 = s.x1
  headu : RK k0 st.2.2.2.1 s.head
  headv : RK k1 st.2.2.2.2.1 s.head
  prev : R st.2.2.2.2.2 s.prev

/-- The first `for` of Cuckaroo / Cuckatoo `verify` is the same text up to how the endpoints of edge `x` are obtained
(`e x`) and the bucket of an endpoint (`bkt`): `L` satisfies its two equations, and `Ok = true` gives the index facts
the proof reads. -/
structure Build2 (emask : Nat) (nonces : List Nat) (e : Nat → Nat × Nat) (bkt : Nat → Nat)
    (L : List Nat → List Nat → Nat → Nat → List Nat → List Nat → List Nat →
      Flow (Option Unit) (List Nat × Nat × Nat × List Nat × List Nat × List Nat))
    (Ok : List Nat → List Nat → Nat → Nat → List Nat → List Nat → List Nat → Bool) : Prop where
  nil : ∀ uvs x0 x1 hu hv prev, L [] uvs x0 x1 hu hv prev = .go (uvs, x0, x1, hu, hv, prev)
  cons : ∀ n rest uvs x0 x1 hu hv prev, L (n :: rest) uvs x0 x1 hu hv prev =
    if decide (idx nonces n > emask) then .ret none
    else if (decide (n > 0)) && (decide (idx nonces n ≤ idx nonces (subW n 1))) then .ret none
    else
      L rest (List.set (List.set uvs (mulW 2 n) (e (idx nonces n)).1) (addW (mulW 2 n) 1) (e (idx nonces n)).2)
        (x0 ^^^ (e (idx nonces n)).1) (x1 ^^^ (e (idx nonces n)).2)
        (List.set hu (bkt (e (idx nonces n)).1) (mulW 2 n))
        (List.set hv (bkt (e (idx nonces n)).2) (addW (mulW 2 n) 1))
        (List.set (List.set prev (mulW 2 n) (idx hu (bkt (e (idx nonces n)).1))) (addW (mulW 2 n) 1)
          (idx hv (bkt (e (idx nonces n)).2)))
  ok_cons : ∀ n rest uvs x0 x1 hu hv prev, Ok (n :: rest) uvs x0 x1 hu hv prev = true →
    n < nonces.length ∧ (¬ idx nonces n > emask → ¬ (n > 0 ∧ idx nonces n ≤ idx nonces (subW n 1)) →
      bkt (e (idx nonces n)).1 < hu.length ∧ bkt (e (idx nonces n)).2 < hv.length ∧
      Ok rest (List.set (List.set uvs (mulW 2 n) (e (idx nonces n)).1) (addW (mulW 2 n) 1) (e (idx nonces n)).2)
        (x0 ^^^ (e (idx nonces n)).1) (x1 ^^^ (e (idx nonces n)).2)
        (List.set hu (bkt (e (idx nonces n)).1) (mulW 2 n))
        (List.set hv (bkt (e (idx nonces n)).2) (addW (mulW 2 n) 1))
        (List.set (List.set prev (mulW 2 n) (idx hu (bkt (e (idx nonces n)).1))) (addW (mulW 2 n) 1)
          (idx hv (bkt (e (idx nonces n)).2))) = true)

theorem Build2.eq {emask : Nat} {nonces : List Nat} {e : Nat → Nat × Nat} {bkt : Nat → Nat}
    {L : List Nat → List Nat → Nat → Nat → List Nat → List Nat → List Nat →
      Flow (Option Unit) (List Nat × Nat × Nat × List Nat × List Nat × List Nat)}
    {Ok : List Nat → List Nat → Nat → Nat → List Nat → List Nat → List Nat → Bool}
    (hL : Build2 emask nonces e bkt L Ok) (C : UCfg) (P : Params) (ep : Nat → Nat × Nat)
    (hsz : nonces.length < 2^62) (hP2 : P.edgeMask = emask)
    (hkey : ∀ side u, C.key P.bk side u = 2 * bkt u + side) (hep : ∀ x, ep x = e x) :
    ∀ (k a : Nat) (uvs : List Nat) (x0 x1 : Nat) (hu hv prev : List Nat) (s : USt),
      a + k = nonces.length → RelU (uvs, x0, x1, hu, hv, prev) s →
      Ok (List.range' a k) uvs x0 x1 hu hv prev = true →
      Agree RelU (L (List.range' a k) uvs x0 x1 hu hv prev)
        (uBuild C P ep (nonces.drop a) a (lastOf nonces a) s) := by
  intro k
  induction k with
  | zero =>
    intro a uvs x0 x1 hu hv prev s hak hrel _
    rw [List.range'_zero, hL.nil, List.drop_of_length_le (by omega), uBuild]
    exact .inr ⟨_, s, rfl, rfl, hrel⟩
  | succ k ih =>
    intro a uvs x0 x1 hu hv prev s hak hrel hok
    rw [List.range'_succ] at hok ⊢
    obtain ⟨han, hok⟩ := hL.ok_cons _ _ _ _ _ _ _ _ hok
    rw [hL.cons, drop_eq_cons nonces a han, uBuild]
    refine Agree.nonceTests hP2 nonces (by omega) fun h1 h2 => ?_
    obtain ⟨hub, hvb, hok⟩ := hok h1 h2
    rw [← lastOf_succ]
    obtain ⟨ruvs, rx0, rx1, rhu, rhv, rprev⟩ := hrel
    simp only [hep, hkey]
    simp only [GV.mulW_eq (a := 2) (b := a) (by omega), GV.addW_eq (a := 2 * a) (b := 1) (by omega)] at hok ⊢
    refine ih (a + 1) _ _ _ _ _ _ _ (by omega) ?_ hok
    generalize (e (idx nonces a)).1 = U at hub ⊢
    generalize (e (idx nonces a)).2 = V at hvb ⊢
    have e1 : idx hu (bkt U) = s.head (2 * bkt U + 0) := rhu _ hub
    have e2 : idx hv (bkt V) = upd s.head (2 * bkt U + 0) (2 * a) (2 * bkt V + 1) := by
      rw [rhv _ hvb]; unfold upd k1; rw [if_neg (by omega)]
    rw [e1, e2]
    refine ⟨R_set (R_set ruvs _ _) _ _, ?_, ?_, ?_, ?_, R_set (R_set rprev _ _) _ _⟩
    · exact congrArg (· ^^^ U) rx0
    · exact congrArg (· ^^^ V) rx1
    · exact RK_other (RK_set k0_inj rhu _ _) _ _ (fun b => k0_ne_k1 b _)
    · exact RK_set k1_inj (RK_other rhv _ _ (fun b => k1_ne_k0 b _)) _ _

theorem c_build (p : CuckooParams) (nonces : List Nat) (mask : Nat) :
    Build2 p.edge_mask nonces
      (fun x => (siphash_block p.siphash_keys x 21 false &&& p.node_mask,
        shrW (siphash_block p.siphash_keys x 21 false) 32 &&& p.node_mask)) (· &&& mask)
      (Cuckaroo_verify_loop1 p nonces mask) (Cuckaroo_verify_loop1_ok p nonces mask) := by
  refine ⟨fun _ _ _ _ _ _ => rfl, fun _ _ _ _ _ _ _ _ => rfl, ?_⟩
  intro n rest uvs x0 x1 hu hv prev hok
  conv at hok => lhs; unfold Cuckaroo_verify_loop1_ok
  simp only [Bool.and_eq_true, decide_eq_true_eq] at hok
  refine ⟨hok.1, fun h1 h2 => ?_⟩
  have hok' := hok.2
  rw [if_neg h1, Bool.and_eq_true, if_neg (by simpa using h2)] at hok'
  have hok'' := hok'.2
  simp only [Bool.and_eq_true, decide_eq_true_eq] at hok''
  obtain ⟨-, -, ⟨hub, -⟩, -, -, ⟨hvb, -⟩, -, hok''⟩ := hok''
  exact ⟨hub, hvb, hok''⟩

theorem t_build (p : CuckooParams) (nonces : List Nat) (mask : Nat) :
    Build2 p.edge_mask nonces
      (fun x => (siphash24 p.siphash_keys (addW (mulW 2 x) 0) &&& p.node_mask,
        siphash24 p.siphash_keys (addW (mulW 2 x) 1) &&& p.node_mask)) (fun u => shrW u 1 &&& mask)
      (Cuckatoo_verify_loop1 p nonces mask) (Cuckatoo_verify_loop1_ok p nonces mask) := by
  refine ⟨fun _ _ _ _ _ _ => rfl, fun _ _ _ _ _ _ _ _ => rfl, ?_⟩
  intro n rest uvs x0 x1 hu hv prev hok
  conv at hok => lhs; unfold Cuckatoo_verify_loop1_ok
  simp only [Bool.and_eq_true, decide_eq_true_eq] at hok
  refine ⟨hok.1, fun h1 h2 => ?_⟩
  have hok' := hok.2
  rw [if_neg h1, Bool.and_eq_true, if_neg (by simpa using h2)] at hok'
  have hok'' := hok'.2
  simp only [CuckooParams_sipnode, Bool.and_eq_true, decide_eq_true_eq] at hok''
  obtain ⟨-, -, -, ⟨hub, -⟩, -, -, ⟨hvb, -⟩, -, hok''⟩ := hok''
  exact ⟨hub, hvb, hok''⟩

theorem circ_step {prev : List Nat} {prevf : Nat → Nat} (hR : R prev prevf) (i nil v w : Nat)
    (hi : i < prev.length) (hv : idx prev i = nil → v = w) :
    R (if (idx prev i == nil) = true then prev.set i v else prev)
      (upd prevf i (circVal nil prevf i w)) := by
  unfold circVal
  rw [← hR i hi]
  by_cases h : idx prev i = nil
  · rw [if_pos (by simpa using h), if_pos h, hv h]; exact R_set hR _ _
  · rw [if_neg (by simpa using h), if_neg h, hR i hi]; exact R_same hR _

/-- a generated `_ok` function writes the index checks of `if test { a[i] … b[j] … }` as
`if test then decide (i < a.len) && (decide (j < b.len) && …) else true`; under the test the first two hold -/
theorem guarded_first_two {c : Bool} {p q r : Prop} [Decidable p] [Decidable q] [Decidable r]
    (h : (if c = true then (decide p && (decide q && decide r)) else true) = true) (hc : c = true) :
    p ∧ q := by
  rw [if_pos hc] at h
  simp only [Bool.and_eq_true, decide_eq_true_eq] at h
  exact ⟨h.1, h.2.1⟩

/-- The second `for` ("make prev lists circular") of Cuckaroo / Cuckatoo, the same text up to the bucket `bkt` -/
structure Circ2 (size : Nat) (uvs hu hv : List Nat) (bkt : Nat → Nat)
    (L : List Nat → List Nat → List Nat) (Ok : List Nat → List Nat → Bool) : Prop where
  nil : ∀ prev, L [] prev = prev
  cons : ∀ n rest prev, L (n :: rest) prev =
    let prev1 := if (idx prev (mulW 2 n) == mulW 2 size) = true then
        List.set prev (mulW 2 n) (idx hu (bkt (idx uvs (mulW 2 n)))) else prev
    let prev2 := if (idx prev1 (addW (mulW 2 n) 1) == mulW 2 size) = true then
        List.set prev1 (addW (mulW 2 n) 1) (idx hv (bkt (idx uvs (addW (mulW 2 n) 1)))) else prev1
    L rest prev2
  ok_cons : ∀ n rest prev, Ok (n :: rest) prev =
    ((decide (mulW 2 n < List.length prev)) &&
    (if (idx prev (mulW 2 n)) == (mulW 2 size) then
        (decide (mulW 2 n < List.length uvs)) &&
          ((decide (bkt (idx uvs (mulW 2 n)) < List.length hu)) && (decide (mulW 2 n < List.length prev)))
      else true) &&
    (let prev1 := (if (idx prev (mulW 2 n)) == (mulW 2 size) then
          List.set prev (mulW 2 n) (idx hu (bkt (idx uvs (mulW 2 n)))) else prev);
      (decide (addW (mulW 2 n) 1 < List.length prev1)) &&
      (if (idx prev1 (addW (mulW 2 n) 1)) == (mulW 2 size) then
          (decide (addW (mulW 2 n) 1 < List.length uvs)) &&
            ((decide (bkt (idx uvs (addW (mulW 2 n) 1)) < List.length hv)) &&
              (decide (addW (mulW 2 n) 1 < List.length prev1)))
        else true) &&
      (let prev2 := (if (idx prev1 (addW (mulW 2 n) 1)) == (mulW 2 size) then
            List.set prev1 (addW (mulW 2 n) 1) (idx hv (bkt (idx uvs (addW (mulW 2 n) 1)))) else prev1);
        Ok rest prev2)))

theorem Circ2.eq {size : Nat} {uvs hu hv : List Nat} {bkt : Nat → Nat}
    {L : List Nat → List Nat → List Nat} {Ok : List Nat → List Nat → Bool}
    (hL : Circ2 size uvs hu hv bkt L Ok) (C : UCfg) (P : Params) (s : USt)
    (hsz : size < 2^62) (hkey : ∀ side u, C.key P.bk side u = 2 * bkt u + side)
    (r1 : R uvs s.uvs) (r4 : RK k0 hu s.head) (r5 : RK k1 hv s.head) :
    ∀ (m a : Nat) (prev : List Nat) (prevf : Nat → Nat), a + m = size → R prev prevf →
      Ok (List.range' a m) prev = true →
      R (L (List.range' a m) prev) (uCirc C P size s m prevf) := by
  intro m
  induction m with
  | zero =>
    intro a prev prevf _ hR _
    rw [List.range'_zero, hL.nil, uCirc]; exact hR
  | succ m ih =>
    intro a prev prevf ham hR hok
    rw [List.range'_succ] at hok ⊢
    rw [hL.ok_cons] at hok
    rw [hL.cons, uCirc]
    simp only [Bool.and_eq_true, decide_eq_true_eq, GV.mulW_eq (a := 2) (b := a) (by omega), GV.addW_eq (a := 2 * a) (b := 1) (by omega),
      GV.mulW_eq (a := 2) (b := size) (by omega)] at hok ⊢
    obtain ⟨⟨h1, h2⟩, ⟨h3, h4⟩, h5⟩ := hok
    have ea : size - (m + 1) = a := by omega
    simp only [ea, hkey]
    have hR1 := circ_step hR (2 * a) (2 * size) (idx hu (bkt (idx uvs (2 * a))))
      (s.head (2 * bkt (s.uvs (2 * a)) + 0)) h1 (fun e => by
        obtain ⟨b1, b2⟩ := guarded_first_two h2 (by simpa using e)
        rw [r4 _ b2, r1 _ b1]; rfl)
    have hR2 := circ_step hR1 (2 * a + 1) (2 * size) (idx hv (bkt (idx uvs (2 * a + 1))))
      (s.head (2 * bkt (s.uvs (2 * a + 1)) + 1)) h3 (fun e => by
        obtain ⟨b1, b2⟩ := guarded_first_two h4 (by simpa using e)
        rw [r5 _ b2, r1 _ b1]; rfl)
    exact ih (a + 1) _ _ (by omega) hR2 h5

theorem c_circ (size : Nat) (uvs : List Nat) (mask : Nat) (hu hv : List Nat) :
    Circ2 size uvs hu hv (· &&& mask) (Cuckaroo_verify_loop2 size uvs mask hu hv)
      (Cuckaroo_verify_loop2_ok size uvs mask hu hv) :=
  ⟨fun _ => rfl, fun _ _ _ => rfl, fun _ _ _ => rfl⟩

theorem t_circ (size : Nat) (uvs : List Nat) (mask : Nat) (hu hv : List Nat) :
    Circ2 size uvs hu hv (fun u => shrW u 1 &&& mask) (Cuckatoo_verify_loop2 size uvs mask hu hv)
      (Cuckatoo_verify_loop2_ok size uvs mask hu hv) :=
  ⟨fun _ => rfl, fun _ _ _ => rfl, fun _ _ _ => rfl⟩

/-- `L`, `X` satisfy the recursion equations of the inner `loop` of Cuckaroo / Cuckarooz / Cuckatoo `verify`
(searching from slot `i`) and of its `_exits` companion; the three differ in the endpoint test `C.mt` only. -/
structure FindLoop (C : UCfg) (uvs prev : List Nat) (i : Nat)
    (L : Nat → Nat → Nat → Flow (Option Unit) (Nat × Nat)) (X : Nat → Nat → Nat → Bool) : Prop where
  exits_zero : ∀ j k, X 0 j k = false
  succ : ∀ f j k, L (f+1) j k =
    if idx prev k == i then .go (j, idx prev k)
    else if C.mt (idx uvs (idx prev k)) (idx uvs i) then
      if j != i then .ret none else L f (idx prev k) (idx prev k)
    else L f j (idx prev k)
  exits_succ : ∀ f j k, X (f+1) j k =
    (decide (k < prev.length) &&
      if idx prev k == i then true
      else
        (decide (idx prev k < uvs.length) && decide (i < uvs.length)) &&
          if C.mt (idx uvs (idx prev k)) (idx uvs i) then
            if j != i then true else X f (idx prev k) (idx prev k)
          else X f j (idx prev k))

theorem FindLoop.eq {C : UCfg} {uvs prev : List Nat} {i : Nat}
    {L : Nat → Nat → Nat → Flow (Option Unit) (Nat × Nat)} {X : Nat → Nat → Nat → Bool}
    (hL : FindLoop C uvs prev i L X) {uvsf prevf : Nat → Nat} (r1 : R uvs uvsf) (r6 : R prev prevf) :
    ∀ (f j k : Nat), X f j k = true →
      (L f j k = .ret none ∧ uFind C uvsf prevf i f k j = .error .branch) ∨
      (∃ j' k', L f j k = .go (j', k') ∧ uFind C uvsf prevf i f k j = .ok j') := by
  intro f
  induction f with
  | zero => intro j k h; rw [hL.exits_zero] at h; cases h
  | succ f ih =>
    intro j k h
    rw [hL.exits_succ, Bool.and_eq_true, decide_eq_true_eq] at h
    obtain ⟨hk, h⟩ := h
    rw [hL.succ, uFind, ← r6 k hk]
    by_cases e1 : idx prev k = i
    · right
      rw [if_pos (by simpa using e1), if_pos e1]
      exact ⟨_, _, rfl, rfl⟩
    · rw [if_neg (by simpa using e1)] at h
      simp only [Bool.and_eq_true, decide_eq_true_eq] at h
      obtain ⟨⟨hk', hi⟩, h⟩ := h
      rw [if_neg (by simpa using e1), if_neg e1, ← r1 _ hk', ← r1 _ hi]
      by_cases e2 : C.mt (idx uvs (idx prev k)) (idx uvs i) = true
      · rw [if_pos e2] at h ⊢
        rw [if_pos e2]
        by_cases e3 : j = i
        · rw [if_neg (by simpa using e3)] at h
          rw [if_neg (by simpa using e3), if_neg (by simpa using e3)]
          exact ih _ _ h
        · left
          rw [if_pos (by simpa using e3), if_pos (by simpa using e3)]
          exact ⟨rfl, rfl⟩
      · rw [if_neg e2] at h ⊢
        rw [if_neg e2]
        exact ih _ _ h

/-- the dead-end test of the outer `loop`; Cuckatoo's has the extra `|| uvs[j] == uvs[i]` (`C.deadSame`) -/
def deadL (C : UCfg) (uvs : List Nat) (i j : Nat) : Bool :=
  bif C.deadSame then j == i || idx uvs j == idx uvs i else j == i

def deadLOk (C : UCfg) (uvs : List Nat) (i j : Nat) : Bool :=
  bif C.deadSame then j == i || (decide (j < uvs.length) && decide (i < uvs.length)) else true

structure WalkLoop (C : UCfg) (size : Nat) (uvs prev : List Nat)
    (L4 : Nat → Nat → Nat → Nat → Flow (Option Unit) (Nat × Nat)) (X4 : Nat → Nat → Nat → Nat → Bool)
    (L3 : Nat → Nat → Nat → Nat → Flow (Option Unit) (Nat × Nat × Nat))
    (X3 : Nat → Nat → Nat → Nat → Bool) : Prop where
  find : ∀ i, FindLoop C uvs prev i (L4 i) (X4 i)
  exits_zero : ∀ n i j, X3 0 n i j = false
  succ : ∀ f n i j, L3 (f+1) n i j =
    match L4 i (2 * size + 1) i i with
    | .ret r => .ret r
    | .go st =>
      if deadL C uvs i st.1 then .ret none
      else if st.1 ^^^ 1 == 0 then .go (addW n 1, st.1 ^^^ 1, st.1)
      else L3 f (addW n 1) (st.1 ^^^ 1) st.1
  exits_succ : ∀ f n i j, X3 (f+1) n i j =
    (X4 i (2 * size + 1) i i &&
      match L4 i (2 * size + 1) i i with
      | .ret _ => true
      | .go st =>
        deadLOk C uvs i st.1 &&
          if deadL C uvs i st.1 then true
          else if st.1 ^^^ 1 == 0 then true
          else X3 f (addW n 1) (st.1 ^^^ 1) st.1)

theorem WalkLoop.eq {C : UCfg} {size : Nat} {uvs prev : List Nat}
    {L4 : Nat → Nat → Nat → Nat → Flow (Option Unit) (Nat × Nat)} {X4 : Nat → Nat → Nat → Nat → Bool}
    {L3 : Nat → Nat → Nat → Nat → Flow (Option Unit) (Nat × Nat × Nat)} {X3 : Nat → Nat → Nat → Nat → Bool}
    (hL : WalkLoop C size uvs prev L4 X4 L3 X3) {uvsf prevf : Nat → Nat} (r1 : R uvs uvsf) (r6 : R prev prevf) :
    ∀ (f n i j : Nat), n + f < 2^63 → X3 f n i j = true →
      Agree (fun st n' => st.1 = n') (L3 f n i j) (uWalk (uStep C size uvsf prevf) f i n) := by
  intro f
  induction f with
  | zero => intro n i j _ h; rw [hL.exits_zero] at h; cases h
  | succ f ih =>
    intro n i j hn h
    rw [hL.exits_succ, Bool.and_eq_true] at h
    obtain ⟨h4, h⟩ := h
    rw [hL.succ, uWalk, uStep]
    rcases (hL.find i).eq r1 r6 _ _ _ h4 with ⟨e1, e2⟩ | ⟨j', k', e1, e2⟩
    · rw [e1, e2]
      exact .inl ⟨rfl, _, rfl⟩
    · rw [e1] at h ⊢
      rw [e2]
      dsimp only at h ⊢
      rw [Bool.and_eq_true] at h
      obtain ⟨hb, h⟩ := h
      -- the dead-end tests agree: `uvs` is read only where `_exits` has checked the indices
      have hdead : deadL C uvs i j' = (decide (j' = i) || (C.deadSame && uvsf j' == uvsf i)) := by
        unfold deadL
        unfold deadLOk at hb
        rw [Bool.eq_iff_iff]
        cases hds : C.deadSame
        · simp
        · rw [hds] at hb
          by_cases hji : j' = i
          · simp [hji]
          · have hb' : j' < uvs.length ∧ i < uvs.length := by simpa [hji] using hb
            rw [cond_true, r1 _ hb'.1, r1 _ hb'.2]; simp
      rw [hdead] at h ⊢
      by_cases c1 : (decide (j' = i) || (C.deadSame && uvsf j' == uvsf i)) = true
      · rw [if_pos c1, if_pos c1]
        exact .inl ⟨rfl, _, rfl⟩
      · rw [if_neg c1] at h
        rw [if_neg c1, if_neg c1]
        dsimp only
        rw [GV.addW_eq (a := n) (b := 1) (by omega)] at h ⊢
        by_cases c2 : j' ^^^ 1 = 0
        · rw [if_pos (by simpa using c2), if_pos c2]
          exact .inr ⟨_, _, rfl, rfl, rfl⟩
        · rw [if_neg (by simpa using c2)] at h
          rw [if_neg (by simpa using c2), if_neg c2]
          exact ih _ _ _ (by omega) h

theorem c4_zero (uvs prev : List Nat) (i j k : Nat) :
    Cuckaroo_verify_loop4 uvs prev i 0 j k = .go (j, k) := by
  conv => lhs; unfold Cuckaroo_verify_loop4

theorem z4_zero (uvs prev : List Nat) (i j k : Nat) :
    Cuckarooz_verify_loop4 uvs prev i 0 j k = .go (j, k) := by
  conv => lhs; unfold Cuckarooz_verify_loop4

theorem t4_zero (uvs prev : List Nat) (i j k : Nat) :
    Cuckatoo_verify_loop4 uvs prev i 0 j k = .go (j, k) := by
  conv => lhs; unfold Cuckatoo_verify_loop4

theorem c_find (uvs prev : List Nat) (i : Nat) :
    FindLoop cfgCuckaroo uvs prev i (Cuckaroo_verify_loop4 uvs prev i) (Cuckaroo_verify_loop4_exits uvs prev i) :=
  ⟨fun _ _ => rfl, fun _ _ _ => rfl, fun _ _ _ => rfl⟩

theorem c_walk (size : Nat) (uvs prev : List Nat) :
    WalkLoop cfgCuckaroo size uvs prev (Cuckaroo_verify_loop4 uvs prev) (Cuckaroo_verify_loop4_exits uvs prev)
      (Cuckaroo_verify_loop3 size uvs prev) (Cuckaroo_verify_loop3_exits size uvs prev) :=
  ⟨c_find uvs prev, fun _ _ _ => rfl, fun _ _ _ _ => rfl, fun _ _ _ _ => rfl⟩

theorem z_find (uvs prev : List Nat) (i : Nat) :
    FindLoop cfgCuckarooz uvs prev i (Cuckarooz_verify_loop4 uvs prev i) (Cuckarooz_verify_loop4_exits uvs prev i) :=
  ⟨fun _ _ => rfl, fun _ _ _ => rfl, fun _ _ _ => rfl⟩

theorem z_walk (size : Nat) (uvs prev : List Nat) :
    WalkLoop cfgCuckarooz size uvs prev (Cuckarooz_verify_loop4 uvs prev) (Cuckarooz_verify_loop4_exits uvs prev)
      (Cuckarooz_verify_loop3 size uvs prev) (Cuckarooz_verify_loop3_exits size uvs prev) :=
  ⟨z_find uvs prev, fun _ _ _ => rfl, fun _ _ _ _ => rfl, fun _ _ _ _ => rfl⟩

theorem t_find (uvs prev : List Nat) (i : Nat) :
    FindLoop cfgCuckatoo uvs prev i (Cuckatoo_verify_loop4 uvs prev i) (Cuckatoo_verify_loop4_exits uvs prev i) :=
  ⟨fun _ _ => rfl, fun _ _ _ => rfl, fun _ _ _ => rfl⟩

theorem t_walk (size : Nat) (uvs prev : List Nat) :
    WalkLoop cfgCuckatoo size uvs prev (Cuckatoo_verify_loop4 uvs prev) (Cuckatoo_verify_loop4_exits uvs prev)
      (Cuckatoo_verify_loop3 size uvs prev) (Cuckatoo_verify_loop3_exits size uvs prev) :=
  ⟨t_find uvs prev, fun _ _ _ => rfl, fun _ _ _ _ => rfl, fun _ _ _ _ => rfl⟩

/-- The bodies of Cuckaroo's and Cuckatoo's `verify` are the same text over their four loops, up to the initial value
`xi size` of the two xor accumulators; `V`, `Vok` satisfy that text as an equation. -/
structure Verify2 (xi : Nat → Nat)
    (V : ChainTypes → CuckooParams → Proof → Option Unit) (Vok : ChainTypes → CuckooParams → Proof → Bool)
    (L1 : CuckooParams → List Nat → Nat → List Nat → List Nat → Nat → Nat → List Nat → List Nat → List Nat →
      Flow (Option Unit) (List Nat × Nat × Nat × List Nat × List Nat × List Nat))
    (Ok1 : CuckooParams → List Nat → Nat → List Nat → List Nat → Nat → Nat → List Nat → List Nat → List Nat → Bool)
    (L2 : Nat → List Nat → Nat → List Nat → List Nat → List Nat → List Nat → List Nat)
    (Ok2 : Nat → List Nat → Nat → List Nat → List Nat → List Nat → List Nat → Bool)
    (L3 : Nat → List Nat → List Nat → Nat → Nat → Nat → Nat → Flow (Option Unit) (Nat × Nat × Nat))
    (X3 : Nat → List Nat → List Nat → Nat → Nat → Nat → Nat → Bool) : Prop where
  eq : ∀ ct p proof, V ct p proof =
    let size := proof.nonces.length
    let mask := shrW 18446744073709551615 (leadingZeros64 size)
    if size != proofsize ct then none
    else
      match L1 p proof.nonces mask (List.range' 0 (size - 0)) (List.replicate (mulW 2 size) 0) (xi size) (xi size)
          (List.replicate (addW 1 mask) (mulW 2 size)) (List.replicate (addW 1 mask) (mulW 2 size))
          (List.replicate (mulW 2 size) 0) with
      | .ret r => r
      | .go st =>
        if (st.2.1 ||| st.2.2.1) != 0 then none
        else
          match L3 size st.1 (L2 size st.1 mask st.2.2.2.1 st.2.2.2.2.1 (List.range' 0 (size - 0)) st.2.2.2.2.2)
              (2 * size + 1) 0 0 0 with
          | .ret r => r
          | .go st' => if st'.1 == size then some () else none
  ok_eq : ∀ ct p proof, Vok ct p proof =
    let size := proof.nonces.length
    let mask := shrW 18446744073709551615 (leadingZeros64 size)
    if size != proofsize ct then true
    else
      Ok1 p proof.nonces mask (List.range' 0 (size - 0)) (List.replicate (mulW 2 size) 0) (xi size) (xi size)
          (List.replicate (addW 1 mask) (mulW 2 size)) (List.replicate (addW 1 mask) (mulW 2 size))
          (List.replicate (mulW 2 size) 0) &&
        match L1 p proof.nonces mask (List.range' 0 (size - 0)) (List.replicate (mulW 2 size) 0) (xi size) (xi size)
            (List.replicate (addW 1 mask) (mulW 2 size)) (List.replicate (addW 1 mask) (mulW 2 size))
            (List.replicate (mulW 2 size) 0) with
        | .ret _ => true
        | .go st =>
          if (st.2.1 ||| st.2.2.1) != 0 then true
          else
            Ok2 size st.1 mask st.2.2.2.1 st.2.2.2.2.1 (List.range' 0 (size - 0)) st.2.2.2.2.2 &&
              X3 size st.1 (L2 size st.1 mask st.2.2.2.1 st.2.2.2.2.1 (List.range' 0 (size - 0)) st.2.2.2.2.2)
                (2 * size + 1) 0 0 0

theorem Verify2.rel {xi V Vok L1 Ok1 L2 Ok2 L3 X3} (hV : Verify2 xi V Vok L1 Ok1 L2 Ok2 L3 X3)
    {C : UCfg} {e : CuckooParams → Nat → Nat × Nat} {bkt : Nat → Nat → Nat}
    {L4 : List Nat → List Nat → Nat → Nat → Nat → Nat → Flow (Option Unit) (Nat × Nat)}
    {X4 : List Nat → List Nat → Nat → Nat → Nat → Nat → Bool}
    (hB : ∀ p nonces mask, Build2 p.edge_mask nonces (e p) (bkt mask) (L1 p nonces mask) (Ok1 p nonces mask))
    (hCi : ∀ size uvs mask hu hv, Circ2 size uvs hu hv (bkt mask) (L2 size uvs mask hu hv) (Ok2 size uvs mask hu hv))
    (hW : ∀ size uvs prev, WalkLoop C size uvs prev (L4 uvs prev) (X4 uvs prev) (L3 size uvs prev) (X3 size uvs prev))
    (hC1 : C.jointXor = false) (hC2 : C.useCtxSize = false) (hxi : ∀ size, xi size = C.xinit size)
    (ct : ChainTypes) (params : CuckooParams) (proof : Proof) (P : Pow.Params) (ep : Nat → Nat × Nat)
    (hP1 : P.proofsize = proofsize ct) (hP2 : P.edgeMask = params.edge_mask)
    (hkey : ∀ side u, C.key P.bk side u
      = 2 * bkt (shrW 18446744073709551615 (leadingZeros64 proof.nonces.length)) u + side)
    (hep : ∀ x, ep x = e params x) (hok : Vok ct params proof = true) :
    SameVerdict (V ct params proof) (verifyU C P ep proof.nonces) := by
  rw [hV.ok_eq] at hok
  rw [hV.eq]
  unfold verifyU
  dsimp only at hok ⊢
  refine SameVerdict.sizeTest hP1 fun hs h42 => ?_
  rw [if_neg (by simp [hs]), Bool.and_eq_true] at hok
  simp only [Nat.sub_zero, GV.mulW_eq (a := 2) (b := proof.nonces.length) (by omega)] at hok ⊢
  have hinit : RelU (List.replicate (2 * proof.nonces.length) 0, xi proof.nonces.length, xi proof.nonces.length,
      List.replicate (addW 1 (shrW 18446744073709551615 (leadingZeros64 proof.nonces.length)))
        (2 * proof.nonces.length),
      List.replicate (addW 1 (shrW 18446744073709551615 (leadingZeros64 proof.nonces.length)))
        (2 * proof.nonces.length),
      List.replicate (2 * proof.nonces.length) 0) (USt.init C proof.nonces.length) :=
    ⟨R_replicate _ _, hxi _, hxi _, RK_replicate _ _ _, RK_replicate _ _ _, R_replicate _ _⟩
  have h1 := (hB params proof.nonces _).eq C P ep (by omega) hP2 hkey hep proof.nonces.length 0
    _ _ _ _ _ _ _ (by omega) hinit hok.1
  rw [List.drop_zero, show lastOf proof.nonces 0 = none from rfl] at h1
  -- first `for`: both reject, or the states `(uvs, x0, x1, hu, hv, prev)` and `s'` are related
  rcases h1 with ⟨e1, e, e2⟩ | ⟨⟨uvs, x0, x1, hu, hv, prev⟩, s', e1, e2, ruvs, rx0, rx1, rhu, rhv, rprev⟩
  · rw [e1, e2]
    exact .inr ⟨rfl, _, rfl⟩
  have hok2 := hok.2
  rw [e1] at hok2 ⊢
  rw [e2]
  dsimp only at hok2 ruvs rx0 rx1 rhu rhv rprev ⊢
  rw [hC1, hC2, if_neg Bool.false_ne_true, if_neg Bool.false_ne_true, ← rx0, ← rx1]
  refine SameVerdict.ite (by simp) _ fun hx => ?_
  rw [if_neg (by simpa using hx), Bool.and_eq_true] at hok2
  -- second `for`: the circular `prev` lists agree; then the walk and the last comparison
  have hR := (hCi proof.nonces.length uvs _ hu hv).eq C P s' (by omega) hkey
    ruvs rhu rhv proof.nonces.length 0 prev s'.prev (by omega) rprev hok2.1
  rcases (hW proof.nonces.length uvs _).eq ruvs hR (2 * proof.nonces.length + 1)
      0 0 0 (by omega) hok2.2 with ⟨f1, e, f2⟩ | ⟨st, n', f1, f2, rfl⟩
  · rw [f1, f2]
    exact .inr ⟨rfl, _, rfl⟩
  rw [f1, f2]
  exact SameVerdict.final (by simp) _

theorem c_verify : Verify2 (fun _ => 0) Cuckaroo_verify Cuckaroo_verify_ok Cuckaroo_verify_loop1
    Cuckaroo_verify_loop1_ok Cuckaroo_verify_loop2 Cuckaroo_verify_loop2_ok Cuckaroo_verify_loop3
    Cuckaroo_verify_loop3_exits :=
  ⟨fun _ _ _ => rfl, fun _ _ _ => rfl⟩

theorem t_verify : Verify2 (fun size => (size / 2) &&& 1) Cuckatoo_verify Cuckatoo_verify_ok Cuckatoo_verify_loop1
    Cuckatoo_verify_loop1_ok Cuckatoo_verify_loop2 Cuckatoo_verify_loop2_ok Cuckatoo_verify_loop3
    Cuckatoo_verify_loop3_exits :=
  ⟨fun _ _ _ => rfl, fun _ _ _ => rfl⟩

end GV.Lemmas.XlateVerify
