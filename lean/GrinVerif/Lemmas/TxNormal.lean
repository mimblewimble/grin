import GrinVerif.Lemmas.TxAgg
/-! Definitions used in the statements of the C12 theorems (`KInj`, `Normal`, `Plain`, `WF`) and the
helper lemmas around them; concrete example transactions for the non-vacuity witnesses. -/
namespace GV.Tx
open List

/-- injective hash orders (blake2b collision resistance, as data) -/
def KInj (K : Keys) : Prop :=
  (∀ a b, K.ik a = K.ik b → a = b) ∧ (∀ a b, K.ok a = K.ok b → a = b) ∧ (∀ a b, K.kk a = K.kk b → a = b)

theorem KInj.ik {K : Keys} (h : KInj K) (l : List Nat) : InjOn K.ik l := fun a b _ _ e => h.1 a b e
theorem KInj.ok {K : Keys} (h : KInj K) (l : List Nat) : InjOn K.ok l := fun a b _ _ e => h.2.1 a b e
theorem KInj.kk {K : Keys} (h : KInj K) (l : List Nat) : InjOn K.kk l := fun a b _ _ e => h.2.2 a b e

/-- output codes without the coinbase flag are determined by their commitment (`verify_features`
refuses coinbase outputs in a transaction, so this covers everything a valid transaction carries) -/
theorem injOn_outCommit_of_plain {l : List Nat} (h : ∀ o ∈ l, isCoinbase o = false) : InjOn outCommit l := by
  intro a b ha hb e
  have even : ∀ o ∈ l, o % 2 = 0 := fun o ho =>
    (Nat.mod_two_eq_zero_or_one o).resolve_right (by simpa [isCoinbase] using h o ho)
  rw [← Nat.div_add_mod a 2, ← Nat.div_add_mod b 2, even a ha, even b hb, show a / 2 = b / 2 from e]

/-- a transaction in the normal form `aggregate` produces: commit-only inputs, everything in
hash order, no input/output pair left to cut, offset a reduced scalar — i.e. pushing it through
the general path of `aggregate` on its own gives it back.  Every transaction with the properties
`WF` lists is of this kind (`Props/C12.lean: normal_of_wf`). -/
def Normal (K : Keys) (t : Tx) : Prop := aggregateFull K [t] = .ok t

theorem aggregateFull_nil (K : Keys) : aggregateFull K [] = .ok Tx.empty := by
  rw [aggregateFull_eq]
  simp [cutOf, allIns, allOuts, allKers, allOffs, merged, sortBy_nil, cutMerge, adjDup, toSecrets, Tx.empty]

/-- on normal transactions the shortcuts of `aggregate` are not observable -/
theorem aggregate_eq_full {K : Keys} {txs : List Tx} (hn : ∀ t ∈ txs, Normal K t) :
    aggregate K txs = aggregateFull K txs := by
  match txs, hn with
  | [], _ => rw [aggregateFull_nil]; rfl
  | [t], hn => exact (hn t mem_cons_self).symm
  | _ :: _ :: _, _ => rfl

theorem normal_of_aggregateFull {K : Keys} {g : List Tx} {t : Tx} (kinj : KInj K)
    (ic : InjOn outCommit (allOuts g)) (h : aggregateFull K g = .ok t) : Normal K t := by
  have := aggregateFull_groups (K := K) (groups := [g]) (ts := [t]) (.cons h .nil)
    (kinj.ik _) (kinj.ok _) (kinj.kk _) (by simpa using ic)
  simp only [flatten_cons, flatten_nil, append_nil] at this
  exact this.trans h

theorem groups_full {K : Keys} {groups : List (List Tx)} {ts : List Tx} (kinj : KInj K)
    (hn : ∀ g ∈ groups, ∀ t ∈ g, Normal K t)
    (ic : InjOn outCommit (allOuts groups.flatten))
    (h : AllRel (fun g t => aggregate K g = .ok t) groups ts) :
    AllRel (fun g t => aggregateFull K g = .ok t) groups ts ∧ ∀ t ∈ ts, Normal K t := by
  induction h with
  | nil => exact ⟨.nil, by simp⟩
  | @cons g t gs ts hg _ ih =>
    have hg' : aggregateFull K g = .ok t := by
      rw [← aggregate_eq_full (hn g mem_cons_self)]; exact hg
    have icg : InjOn outCommit (allOuts g) := ic.of_subset (fun o ho => by
      rw [flatten_cons, allOuts_append]; exact mem_append_left _ ho)
    have icr : InjOn outCommit (allOuts gs.flatten) := ic.of_subset (fun o ho => by
      rw [flatten_cons, allOuts_append]; exact mem_append_right _ ho)
    obtain ⟨r1, r2⟩ := ih (fun g' hg' => hn g' (mem_cons_of_mem _ hg')) icr
    refine ⟨.cons hg' r1, ?_⟩
    intro t' ht'
    rcases mem_cons.1 ht' with rfl | ht'
    · exact normal_of_aggregateFull kinj icg hg'
    · exact r2 t' ht'

/-- `verify_features`: a transaction carries no coinbase output and no coinbase kernel -/
def Plain (t : Tx) : Prop :=
  (∀ o ∈ t.outputs, isCoinbase o = false) ∧ (∀ k ∈ t.kernels, isCoinbase k = false)

theorem plain_allOuts {txs : List Tx} (hp : ∀ t ∈ txs, Plain t) : ∀ o ∈ allOuts txs, isCoinbase o = false := by
  intro o ho
  obtain ⟨t, ht, hot⟩ := mem_allOuts.1 ho
  exact (hp t ht).1 o hot

theorem plain_allKers {txs : List Tx} (hp : ∀ t ∈ txs, Plain t) : ∀ k ∈ allKers txs, isCoinbase k = false := by
  intro k hk
  obtain ⟨t, ht, hkt⟩ := mem_allKers.1 hk
  exact (hp t ht).2 k hkt

/-- `aggregate` of normal transactions that share nothing (no common input, output or kernel) and
do not spend each other's outputs: always succeeds (whatever the offsets are, also when they cancel),
plain sorted union, offsets summed. -/
theorem aggregate_disjoint {K : Keys} {txs : List Tx} (kinj : KInj K) (hn : ∀ t ∈ txs, Normal K t)
    (ndI : (allIns K txs).Nodup) (ndO : (allOuts txs).Nodup)
    (hdis : ∀ x ∈ allIns K txs, x ∉ (allOuts txs).map outCommit) :
    aggregate K txs =
      .ok ⟨(toSecrets (allOffs txs)).sum % N, false, sortBy K.ik (allIns K txs), sortBy K.ok (allOuts txs),
        sortBy K.kk (allKers txs)⟩ := by
  rw [aggregate_eq_full hn]
  exact aggregateFull_disjoint (kinj.ik _) (kinj.ok _) ndI ndO hdis

theorem aggregate_disjoint_parts {K : Keys} {A B : List Tx} (kinj : KInj K) (hn : ∀ t ∈ A ++ B, Normal K t)
    (ndI : (allIns K (A ++ B)).Nodup) (ndO : (allOuts (A ++ B)).Nodup)
    (hdis : ∀ x ∈ allIns K (A ++ B), x ∉ (allOuts (A ++ B)).map outCommit) :
    aggregate K A =
      .ok ⟨(toSecrets (allOffs A)).sum % N, false, sortBy K.ik (allIns K A), sortBy K.ok (allOuts A),
        sortBy K.kk (allKers A)⟩ ∧
    aggregate K B =
      .ok ⟨(toSecrets (allOffs B)).sum % N, false, sortBy K.ik (allIns K B), sortBy K.ok (allOuts B),
        sortBy K.kk (allKers B)⟩ := by
  rw [allIns_append] at ndI hdis
  rw [allOuts_append] at ndO hdis
  rw [map_append] at hdis
  exact ⟨aggregate_disjoint kinj (fun t ht => hn t (mem_append_left _ ht)) (nodup_append.1 ndI).1
      (nodup_append.1 ndO).1 fun x hx hm => hdis x (mem_append_left _ hx) (mem_append_left _ hm),
    aggregate_disjoint kinj (fun t ht => hn t (mem_append_right _ ht)) (nodup_append.1 ndI).2.1
      (nodup_append.1 ndO).2.1 fun x hx hm => hdis x (mem_append_right _ hx) (mem_append_right _ hm)⟩

/-- the conditions `Transaction::validate_read` checks of a commit-only transaction (sorted, unique,
no input spending an own output), and a valid offset, as propositions (that `validateRead K t = none`
implies them is not proved anywhere) -/
structure WF (K : Keys) (t : Tx) : Prop where
  v2 : t.v2 = false
  insSorted : t.inputs.Pairwise (KeyLe K.ik)
  insNodup : t.inputs.Nodup
  outsSorted : t.outputs.Pairwise (KeyLe K.ok)
  outsNodup : t.outputs.Nodup
  kersSorted : t.kernels.Pairwise (KeyLe K.kk)
  noSelfSpend : ∀ x ∈ t.inputs, x ∉ t.outputs.map outCommit
  offset : t.offset < N

namespace Ex
/-- identity hash orders -/
def K0 : Keys := ⟨id, id, id⟩
theorem kinj0 : KInj K0 := ⟨fun _ _ h => h, fun _ _ h => h, fun _ _ h => h⟩

/-- `t1` spends commitment 1 and creates commitment 5 (output code 10); `t2` and `t3` both spend
commitment 5; `t4` is unrelated and has a zero offset; `t5` has the offset `N - 2`. -/
def t1 : Tx := ⟨1, false, [1], [10], [0]⟩
def t2 : Tx := ⟨2, false, [5], [12], [2]⟩
def t3 : Tx := ⟨3, false, [5], [14], [4]⟩
def t4 : Tx := ⟨0, false, [20], [44], [6]⟩
def t5 : Tx := ⟨N - 2, false, [30], [64], [8]⟩

/-- evaluation of the model on concrete data -/
macro "tx_eval" : tactic => `(tactic|
  (simp only [aggregate, aggregateFull, deaggregate, fromReward, hydrateFrom, compact, cutThrough, Tx.inputsCO,
     sortBy_eq_foldr]
   decide +kernel))

theorem normal1 : Normal K0 t1 := by unfold Normal; tx_eval
theorem normal2 : Normal K0 t2 := by unfold Normal; tx_eval
theorem normal3 : Normal K0 t3 := by unfold Normal; tx_eval
theorem normal4 : Normal K0 t4 := by unfold Normal; tx_eval
theorem normal5 : Normal K0 t5 := by unfold Normal; tx_eval

theorem aggregate_t1_t2 : aggregate K0 [t1, t2] = .ok ⟨3, false, [1], [12], [0, 2]⟩ := by tx_eval

theorem fromReward_t1_t2_cancel :
    fromReward K0 (N - 3) [t1, t2] 101 7 = .ok ⟨0, false, [1], [12, 101], [0, 2, 7]⟩ := by tx_eval

end Ex

end GV.Tx
