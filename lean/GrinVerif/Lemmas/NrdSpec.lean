import GrinVerif.Model.NrdIndex
/-! The specification of the NRD index (`Model/NrdIndex.lean`: per excess the list of occurrences) along block
paths: what applying blocks builds, that rewinding a block undoes its application, and the rebuild over a
window.  Pure list reasoning; the store-level statements follow through `Lemmas/NrdSim.lean`. -/
namespace GV.Nrd
variable {ε : Type} [DecidableEq ε]
set_option linter.unusedSectionVars false

@[simp] theorem upd_same (S : Spec ε) (e : ε) (l : List CommitPos) : upd S e l e = l := by simp [upd]
theorem upd_other (S : Spec ε) {e e' : ε} (l : List CommitPos) (h : e' ≠ e) : upd S e l e' = S e' := by
  simp [upd, h]

theorem upd_self (S : Spec ε) (e : ε) : upd S e (S e) = S := by
  funext e'; by_cases h : e' = e
  · subst h; simp
  · simp [upd, h]

def isNrdOf (e : ε) (kp : Kernel ε × Nat) : Bool := kp.1.nrd.isSome && decide (kp.1.excess = e)

/-- occurrences of `e` among the NRD kernels `ks` of a block at `height`, most recent first -/
def kernelsEntries (height : Nat) (ks : List (Kernel ε × Nat)) (e : ε) : List CommitPos :=
  ((ks.filter (isNrdOf e)).map fun kp => (⟨kp.2, height⟩ : CommitPos)).reverse

def blockEntries (b : Blk ε) (e : ε) : List CommitPos := kernelsEntries b.height b.kernels e

/-- the path-search specification: the occurrences of `e` in NRD kernels along the path `bs`
(oldest block first), most recent first -/
def pathEntries : List (Blk ε) → ε → List CommitPos
  | [], _ => []
  | b :: bs, e => pathEntries bs e ++ blockEntries b e

theorem kernelsEntries_cons (h : Nat) (kp : Kernel ε × Nat) (ks : List (Kernel ε × Nat)) (e : ε) :
    kernelsEntries h (kp :: ks) e =
      kernelsEntries h ks e ++ (if isNrdOf e kp then [(⟨kp.2, h⟩ : CommitPos)] else []) := by
  unfold kernelsEntries
  by_cases hk : isNrdOf e kp = true
  · simp [hk]
  · simp [hk]

theorem pathEntries_append (a b : List (Blk ε)) (e : ε) :
    pathEntries (a ++ b) e = pathEntries b e ++ pathEntries a e := by
  induction a with
  | nil => simp [pathEntries]
  | cons x a ih => simp [pathEntries, ih]

theorem kernelsEntries_pos {h : Nat} {ks : List (Kernel ε × Nat)} {e : ε} {x : CommitPos}
    (hx : x ∈ kernelsEntries h ks e) : ∃ kp ∈ ks, x.pos = kp.2 := by
  unfold kernelsEntries at hx
  simp only [List.mem_reverse, List.mem_map, List.mem_filter] at hx
  obtain ⟨kp, ⟨hm, _⟩, rfl⟩ := hx
  exact ⟨kp, hm, rfl⟩

theorem kernelsEntries_eq_nil {h : Nat} {ks : List (Kernel ε × Nat)} {e : ε}
    (hn : ks.any (isNrdOf e) = false) : kernelsEntries h ks e = [] := by
  unfold kernelsEntries
  have : ks.filter (isNrdOf e) = [] := by
    rw [List.filter_eq_nil_iff]
    intro a ha
    have := List.any_eq_false.mp hn a ha
    simpa using this
  simp [this]

theorem sApplyKernelRules_ok_iff {S S' : Spec ε} {k : Kernel ε} {p : CommitPos} :
    sApplyKernelRules S k p = ⟨S', .ok ()⟩ ↔
      (k.nrd = none ∧ S' = S) ∨
      ∃ rel, k.nrd = some rel ∧ specNrdOk (S k.excess) p.height rel = true ∧
        specPushOk (S k.excess) p = true ∧ S' = upd S k.excess (p :: S k.excess) := by
  unfold sApplyKernelRules sPush
  cases k.nrd with
  | none => simp only [SOut.mk.injEq, and_true, true_and, reduceCtorEq, false_and, exists_false, or_false]; exact eq_comm
  | some rel =>
    simp only [reduceCtorEq, false_and, false_or, Option.some.injEq, exists_eq_left']
    cases specNrdOk (S k.excess) p.height rel <;> cases specPushOk (S k.excess) p <;>
      simp only [if_true, if_false, Bool.false_eq_true, SOut.mk.injEq, and_true, true_and, false_and, reduceCtorEq,
        and_false]
    exact eq_comm

theorem sApplyKernelRules_ok {S S' : Spec ε} {k : Kernel ε} {p : CommitPos}
    (h : sApplyKernelRules S k p = ⟨S', .ok ()⟩) :
    S' = if k.nrd.isSome then upd S k.excess (p :: S k.excess) else S := by
  rcases sApplyKernelRules_ok_iff.mp h with ⟨hn, rfl⟩ | ⟨rel, hn, _, _, rfl⟩ <;> simp [hn]

/-- the `match` is one round of a loop with `?` -/
theorem SOut.bind_ok {o : SOut ε Unit} {f : Spec ε → SOut ε Unit} {T : Spec ε}
    (h : (match o with
      | ⟨S', .error err⟩ => (⟨S', .error err⟩ : SOut ε Unit)
      | ⟨S', .ok _⟩ => f S') = ⟨T, .ok ()⟩) :
    ∃ S1, o = ⟨S1, .ok ()⟩ ∧ f S1 = ⟨T, .ok ()⟩ := by
  obtain ⟨S1, r1⟩ := o
  cases r1 with
  | error err => simp at h
  | ok u => exact ⟨S1, rfl, h⟩

theorem sApplyKernels_cons_ok {S S' : Spec ε} {h : Nat} {kp : Kernel ε × Nat}
    {ks : List (Kernel ε × Nat)} (hok : sApplyKernels S h (kp :: ks) = ⟨S', .ok ()⟩) :
    ∃ S1, sApplyKernelRules S kp.1 ⟨kp.2, h⟩ = ⟨S1, .ok ()⟩ ∧ sApplyKernels S1 h ks = ⟨S', .ok ()⟩ :=
  SOut.bind_ok hok

theorem sApplyKernels_ok {S S' : Spec ε} {h : Nat} {ks : List (Kernel ε × Nat)}
    (hok : sApplyKernels S h ks = ⟨S', .ok ()⟩) : ∀ e, S' e = kernelsEntries h ks e ++ S e := by
  induction ks generalizing S with
  | nil =>
    cases hok
    intro e; simp [kernelsEntries]
  | cons kp ks ih =>
    obtain ⟨S1, h1, h2⟩ := sApplyKernels_cons_ok hok
    have hS1 := sApplyKernelRules_ok h1
    intro e
    rw [ih h2 e, kernelsEntries_cons, List.append_assoc, hS1]
    congr 1
    unfold isNrdOf
    cases hn : kp.1.nrd with
    | none => simp
    | some rel =>
      by_cases he : e = kp.1.excess
      · subst he; simp
      · simp [upd_other _ _ he, Ne.symm he]

theorem sApplyBlocks_cons_ok {S S' : Spec ε} {b : Blk ε} {bs : List (Blk ε)}
    (hok : sApplyBlocks S (b :: bs) = ⟨S', .ok ()⟩) :
    ∃ S1, sApplyBlock S b = ⟨S1, .ok ()⟩ ∧ sApplyBlocks S1 bs = ⟨S', .ok ()⟩ :=
  SOut.bind_ok hok

theorem sApplyBlocks_ok {S S' : Spec ε} {bs : List (Blk ε)}
    (hok : sApplyBlocks S bs = ⟨S', .ok ()⟩) : ∀ e, S' e = pathEntries bs e ++ S e := by
  induction bs generalizing S with
  | nil =>
    cases hok
    intro e; simp [pathEntries]
  | cons b bs ih =>
    obtain ⟨S1, h1, h2⟩ := sApplyBlocks_cons_ok hok
    intro e
    rw [ih h2 e, sApplyKernels_ok h1 e, pathEntries, blockEntries, List.append_assoc]

theorem sApplyBlocks_append (S : Spec ε) (a b : List (Blk ε)) :
    sApplyBlocks S (a ++ b) =
      match sApplyBlocks S a with
      | ⟨S', .error err⟩ => ⟨S', .error err⟩
      | ⟨S', .ok _⟩ => sApplyBlocks S' b := by
  induction a generalizing S with
  | nil => simp [sApplyBlocks]
  | cons x a ih =>
    simp only [List.cons_append, sApplyBlocks]
    generalize sApplyBlock S x = o
    obtain ⟨S1, r1⟩ := o
    cases r1 with
    | error err => rfl
    | ok u => exact ih S1

theorem sApplyBlocks_append_ok {S S' : Spec ε} {a b : List (Blk ε)}
    (hok : sApplyBlocks S (a ++ b) = ⟨S', .ok ()⟩) :
    ∃ S1, sApplyBlocks S a = ⟨S1, .ok ()⟩ ∧ sApplyBlocks S1 b = ⟨S', .ok ()⟩ := by
  rw [sApplyBlocks_append] at hok
  exact SOut.bind_ok hok

theorem specRewind_idem (l : List CommitPos) (c : Nat) : specRewind (specRewind l c) c = specRewind l c := by
  unfold specRewind
  induction l with
  | nil => rfl
  | cons p t ih =>
    by_cases h : p.pos > c
    · simp [h, ih]
    · simp [h]

theorem sRewindKernels_eq (c : Nat) (ks : List (Kernel ε × Nat)) (S : Spec ε) (e : ε) :
    sRewindKernels S c ks e = if ks.any (isNrdOf e) then specRewind (S e) c else S e := by
  induction ks generalizing S with
  | nil => simp [sRewindKernels]
  | cons kp ks ih =>
    obtain ⟨k, pos⟩ := kp
    cases hn : k.nrd with
    | none =>
      have h0 : isNrdOf e (k, pos) = false := by simp [isNrdOf, hn]
      simp only [sRewindKernels, hn, ih, List.any_cons, h0, Bool.false_or]
    | some rel =>
      by_cases he : e = k.excess
      · have h0 : isNrdOf e (k, pos) = true := by simp [isNrdOf, hn, he]
        simp only [sRewindKernels, hn, ih, sRewind, List.any_cons, h0, Bool.true_or, if_true]
        subst he; simp [specRewind_idem]
      · have h0 : isNrdOf e (k, pos) = false := by simp [isNrdOf, hn, Ne.symm he]
        simp only [sRewindKernels, hn, ih, sRewind, List.any_cons, h0, Bool.false_or, upd_other _ _ he]

def Below (S : Spec ε) (c : Nat) : Prop := ∀ e, ∀ x ∈ S e, x.pos ≤ c

theorem specRewind_append {ent l : List CommitPos} {c : Nat} (h1 : ∀ x ∈ ent, c < x.pos)
    (h2 : ∀ x ∈ l, x.pos ≤ c) : specRewind (ent ++ l) c = l := by
  unfold specRewind
  induction ent with
  | nil =>
    cases l with
    | nil => rfl
    | cons p t =>
      have := h2 p (by simp)
      have hp : ¬ p.pos > c := by omega
      simp [hp]
  | cons p t ih =>
    have hp : p.pos > c := h1 p (by simp)
    simp only [List.cons_append, List.dropWhile_cons, hp, decide_true, if_true]
    exact ih (fun x hx => h1 x (List.mem_cons_of_mem _ hx))

theorem specRewind_eq_filter {l : List CommitPos} {r : Nat} (hd : l.Pairwise (fun a b => a.pos > b.pos)) :
    specRewind l r = l.filter (fun p => decide (p.pos ≤ r)) := by
  unfold specRewind
  induction l with
  | nil => rfl
  | cons p t ih =>
    obtain ⟨hp1, hp2⟩ := List.pairwise_cons.mp hd
    by_cases hp : p.pos > r
    · have hnle : ¬ p.pos ≤ r := Nat.not_le.mpr hp
      simp only [List.dropWhile_cons, hp, decide_true, if_true, List.filter_cons, hnle, decide_false]
      exact ih hp2
    · have hle : p.pos ≤ r := Nat.le_of_not_lt hp
      have hfil : t.filter (fun p => decide (p.pos ≤ r)) = t := by
        rw [List.filter_eq_self]
        exact fun x hx => decide_eq_true (Nat.le_trans (Nat.le_of_lt (hp1 x hx)) hle)
      simp [hp, hle, hfil]

/-- `rewind_single_block` undoes `apply_block` (on the index) -/
theorem sRewindSingleBlock_apply {S S' : Spec ε} {b : Blk ε} (hb : Below S b.prevSize)
    (hk : ∀ kp ∈ b.kernels, b.prevSize < kp.2) (hok : sApplyBlock S b = ⟨S', .ok ()⟩) :
    sRewindSingleBlock S' b = S := by
  funext e
  have hS' := sApplyKernels_ok hok e
  unfold sRewindSingleBlock
  rw [sRewindKernels_eq]
  cases ha : b.kernels.any (isNrdOf e) with
  | true =>
    simp only [if_true, hS']
    refine specRewind_append (fun x hx => ?_) (hb e)
    obtain ⟨kp, hm, hp⟩ := kernelsEntries_pos hx
    rw [hp]; exact hk kp hm
  | false =>
    simp [hS', kernelsEntries_eq_nil ha]

theorem sRewindBlocks_append (S : Spec ε) (a b : List (Blk ε)) :
    sRewindBlocks S (a ++ b) = sRewindBlocks (sRewindBlocks S a) b := by
  induction a generalizing S with
  | nil => rfl
  | cons x a ih => simp [sRewindBlocks, ih]

/-- positions along a path: every block's kernels lie above the kernel MMR size of its
predecessor (`prevSize`) and within its own (`size`), and sizes do not shrink (`c ≤ b.size`: said
separately for blocks without kernels); `c` = size before the first block -/
def PathOK : Nat → List (Blk ε) → Prop
  | _, [] => True
  | c, b :: bs => b.prevSize = c ∧ (∀ kp ∈ b.kernels, c < kp.2 ∧ kp.2 ≤ b.size) ∧ c ≤ b.size ∧
      PathOK b.size bs

instance decPathOK : (c : Nat) → (bs : List (Blk ε)) → Decidable (PathOK c bs)
  | _, [] => isTrue trivial
  | c, b :: bs =>
    have := decPathOK b.size bs
    (inferInstance : Decidable (b.prevSize = c ∧ (∀ kp ∈ b.kernels, c < kp.2 ∧ kp.2 ≤ b.size) ∧
      c ≤ b.size ∧ PathOK b.size bs))

/-- kernel MMR size at the end of the path -/
def endSize : Nat → List (Blk ε) → Nat
  | c, [] => c
  | _, b :: bs => endSize b.size bs

theorem PathOK.append {c : Nat} {a b : List (Blk ε)} (h : PathOK c (a ++ b)) :
    PathOK c a ∧ PathOK (endSize c a) b := by
  induction a generalizing c with
  | nil => exact ⟨trivial, h⟩
  | cons x a ih =>
    obtain ⟨h1, h2, h3, h4⟩ := h
    obtain ⟨g1, g2⟩ := ih h4
    exact ⟨⟨h1, h2, h3, g1⟩, g2⟩

theorem PathOK.of_append {c : Nat} {a b : List (Blk ε)} (ha : PathOK c a) (hb : PathOK (endSize c a) b) :
    PathOK c (a ++ b) := by
  induction a generalizing c with
  | nil => exact hb
  | cons x a ih => exact ⟨ha.1, ha.2.1, ha.2.2.1, ih ha.2.2.2 hb⟩

theorem Below.mono {S : Spec ε} {c c' : Nat} (h : Below S c) (hc : c ≤ c') : Below S c' :=
  fun e x hx => Nat.le_trans (h e x hx) hc

theorem Below.applyBlock {S S' : Spec ε} {b : Blk ε} (hb : Below S b.prevSize)
    (hk : ∀ kp ∈ b.kernels, b.prevSize < kp.2 ∧ kp.2 ≤ b.size) (hs : b.prevSize ≤ b.size)
    (hok : sApplyBlock S b = ⟨S', .ok ()⟩) : Below S' b.size := by
  intro e x hx
  rw [sApplyKernels_ok hok e] at hx
  rcases List.mem_append.mp hx with hx | hx
  · obtain ⟨kp, hm, hp⟩ := kernelsEntries_pos hx
    rw [hp]; exact (hk kp hm).2
  · exact Nat.le_trans (hb e x hx) hs

theorem Below.applyBlocks {S S' : Spec ε} {c : Nat} {bs : List (Blk ε)} (hb : Below S c)
    (hp : PathOK c bs) (hok : sApplyBlocks S bs = ⟨S', .ok ()⟩) : Below S' (endSize c bs) := by
  induction bs generalizing S c with
  | nil =>
    cases hok
    exact hb
  | cons b bs ih =>
    obtain ⟨S1, h1, h2⟩ := sApplyBlocks_cons_ok hok
    obtain ⟨p1, p2, p3, p4⟩ := hp
    subst p1
    exact ih (hb.applyBlock p2 p3 h1) p4 h2

/-- rewinding the blocks just applied, newest first, restores the state exactly -/
theorem sRewindBlocks_apply {S S' : Spec ε} {c : Nat} {a : List (Blk ε)} (hb : Below S c)
    (hp : PathOK c a) (hok : sApplyBlocks S a = ⟨S', .ok ()⟩) : sRewindBlocks S' a.reverse = S := by
  induction a generalizing S c with
  | nil =>
    cases hok
    rfl
  | cons b a ih =>
    obtain ⟨S1, h1, h2⟩ := sApplyBlocks_cons_ok hok
    obtain ⟨p1, p2, p3, p4⟩ := hp
    subst p1
    rw [List.reverse_cons, sRewindBlocks_append, ih (hb.applyBlock p2 p3 h1) p4 h2]
    simp only [sRewindBlocks]
    exact sRewindSingleBlock_apply hb (fun kp hm => (p2 kp hm).1) h1

theorem below_empty (c : Nat) : Below (fun _ => [] : Spec ε) c := fun _ _ hx => by cases hx

def aboveCut (l : List CommitPos) (c : Nat) : List CommitPos := l.takeWhile fun p => decide (p.pos > c)

theorem aboveCut_below {l : List CommitPos} {c : Nat} (h : ∀ x ∈ l, x.pos ≤ c) : aboveCut l c = [] := by
  cases l with
  | nil => rfl
  | cons p t =>
    have := h p (by simp)
    have hp : ¬ p.pos > c := by omega
    simp [aboveCut, hp]

theorem aboveCut_cons {l : List CommitPos} {p : CommitPos} {c : Nat} (h : c < p.pos) :
    aboveCut (p :: l) c = p :: aboveCut l c := by
  simp [aboveCut, h]

theorem specNrdOk_aboveCut {l : List CommitPos} {c h rel : Nat} (hok : specNrdOk l h rel = true) :
    specNrdOk (aboveCut l c) h rel = true := by
  cases l with
  | nil => rfl
  | cons p t =>
    by_cases hp : p.pos > c
    · rw [aboveCut_cons hp]; exact hok
    · simp [aboveCut, hp, specNrdOk]

theorem specPushOk_aboveCut {l : List CommitPos} {c : Nat} {np : CommitPos}
    (hok : specPushOk l np = true) : specPushOk (aboveCut l c) np = true := by
  cases l with
  | nil => rfl
  | cons p t =>
    by_cases hp : p.pos > c
    · rw [aboveCut_cons hp]; exact hok
    · simp [aboveCut, hp, specPushOk]

def cutSpec (S : Spec ε) (c : Nat) : Spec ε := fun e => aboveCut (S e) c

theorem cutSpec_upd (S : Spec ε) (e : ε) (p : CommitPos) (l : List CommitPos) {c : Nat} (hc : c < p.pos) :
    cutSpec (upd S e (p :: l)) c = upd (cutSpec S c) e (p :: aboveCut l c) := by
  funext e'
  by_cases he : e' = e
  · subst he; simp [cutSpec, aboveCut_cons hc]
  · simp [cutSpec, upd_other _ _ he]

theorem sApplyKernelRules_cut {S S' : Spec ε} {k : Kernel ε} {p : CommitPos} {c : Nat} (hc : c < p.pos)
    (hok : sApplyKernelRules S k p = ⟨S', .ok ()⟩) :
    sApplyKernelRules (cutSpec S c) k p = ⟨cutSpec S' c, .ok ()⟩ := by
  rcases sApplyKernelRules_ok_iff.mp hok with ⟨hn, rfl⟩ | ⟨rel, hn, h1, h2, rfl⟩
  · exact sApplyKernelRules_ok_iff.mpr (Or.inl ⟨hn, rfl⟩)
  · exact sApplyKernelRules_ok_iff.mpr
      (Or.inr ⟨rel, hn, specNrdOk_aboveCut h1, specPushOk_aboveCut h2, cutSpec_upd S _ p _ hc⟩)

theorem sApplyKernels_cut {S S' : Spec ε} {h c : Nat} {ks : List (Kernel ε × Nat)}
    (hc : ∀ kp ∈ ks, c < kp.2) (hok : sApplyKernels S h ks = ⟨S', .ok ()⟩) :
    sApplyKernels (cutSpec S c) h ks = ⟨cutSpec S' c, .ok ()⟩ := by
  induction ks generalizing S with
  | nil =>
    cases hok
    rfl
  | cons kp ks ih =>
    obtain ⟨S1, h1, h2⟩ := sApplyKernels_cons_ok hok
    obtain ⟨k, pos⟩ := kp
    have g1 := sApplyKernelRules_cut (c := c) (hc (k, pos) (by simp)) h1
    simp only [sApplyKernels, g1]
    exact ih (fun kp hm => hc kp (List.mem_cons_of_mem _ hm)) h2

theorem PathOK.above {c c' : Nat} {bs : List (Blk ε)} (hp : PathOK c bs) (hc : c' ≤ c) :
    ∀ b ∈ bs, ∀ kp ∈ b.kernels, c' < kp.2 := by
  induction bs generalizing c with
  | nil => intro b hb; cases hb
  | cons x bs ih =>
    obtain ⟨p1, p2, p3, p4⟩ := hp
    intro b hb kp hk
    rcases List.mem_cons.mp hb with rfl | hb
    · exact Nat.lt_of_le_of_lt hc (p2 kp hk).1
    · exact ih p4 (Nat.le_trans hc p3) b hb kp hk

theorem sApplyBlocks_cut {S S' : Spec ε} {c : Nat} {bs : List (Blk ε)}
    (hc : ∀ b ∈ bs, ∀ kp ∈ b.kernels, c < kp.2) (hok : sApplyBlocks S bs = ⟨S', .ok ()⟩) :
    sApplyBlocks (cutSpec S c) bs = ⟨cutSpec S' c, .ok ()⟩ := by
  induction bs generalizing S with
  | nil =>
    cases hok
    rfl
  | cons b bs ih =>
    obtain ⟨S1, h1, h2⟩ := sApplyBlocks_cons_ok hok
    have g1 : sApplyBlock (cutSpec S c) b = ⟨cutSpec S1 c, .ok ()⟩ :=
      sApplyKernels_cut (hc b (by simp)) h1
    simp only [sApplyBlocks, g1]
    exact ih (fun b' hm => hc b' (List.mem_cons_of_mem _ hm)) h2

theorem cutSpec_below {S : Spec ε} {c : Nat} (h : Below S c) : cutSpec S c = fun _ => [] := by
  funext e; exact aboveCut_below (h e)

end GV.Nrd
