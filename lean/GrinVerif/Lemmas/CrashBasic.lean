import GrinVerif.Model.Crash
/-! Lemmas for the crash model about `leavesOf` and `unspentOf`: how they split along a path, and that the unspent set
of a path is a sublist of the leaves it created. -/
namespace GV.Crash

theorem leavesOf_cons (b : BlkInfo) (bs : List BlkInfo) :
    leavesOf (b :: bs) = (b.outs.map fun o => (b.id, o)) ++ leavesOf bs := by simp [leavesOf]

theorem leavesOf_append (P Q : List BlkInfo) : leavesOf (P ++ Q) = leavesOf P ++ leavesOf Q := by
  simp [leavesOf]

theorem leavesOf_nodup_left {P Q : List BlkInfo} (h : (leavesOf (P ++ Q)).Nodup) : (leavesOf P).Nodup := by
  rw [leavesOf_append] at h; exact (List.nodup_append.1 h).1

theorem take_leaves_left (T R : List BlkInfo) :
    List.take (leavesOf T).length (leavesOf (T ++ R)) = leavesOf T := by
  rw [leavesOf_append]; exact List.take_left

theorem unspentOf_snoc (P : List BlkInfo) (b : BlkInfo) : unspentOf (P ++ [b]) = applyU (unspentOf P) b := by
  simp [unspentOf]

theorem leavesOf_prefix (Q S : List BlkInfo) : leavesOf Q <+: leavesOf (Q ++ S) := by
  rw [leavesOf_append]; exact List.prefix_append _ _

theorem leavesOf_mono {Q P : List BlkInfo} (h : Q <+: P) : leavesOf Q <+: leavesOf P := by
  obtain ⟨S, rfl⟩ := h; exact leavesOf_prefix Q S

theorem mem_leavesOf (P : List BlkInfo) (l : Leaf) :
    l ∈ leavesOf P ↔ ∃ x ∈ P, x.id = l.1 ∧ l.2 ∈ x.outs := by
  simp only [leavesOf, List.mem_flatMap, List.mem_map]
  constructor
  · rintro ⟨x, hx, o, ho, rfl⟩; exact ⟨x, hx, rfl, ho⟩
  · rintro ⟨x, hx, h1, h2⟩; exact ⟨x, hx, l.2, h2, by rw [h1]⟩

theorem unspentOf_append (Q R : List BlkInfo) : unspentOf (Q ++ R) = R.foldl applyU (unspentOf Q) := by
  simp [unspentOf]

theorem leavesOf_single (x : BlkInfo) : leavesOf [x] = x.outs.map (fun o => (x.id, o)) := by
  simp [leavesOf]

theorem mem_leavesOf_of_mem {x : BlkInfo} {l : Leaf} (hl : l ∈ leavesOf [x]) {Q : List BlkInfo}
    (hx : x ∈ Q) : l ∈ leavesOf Q := by
  obtain ⟨z, hz, h1, h2⟩ := (mem_leavesOf [x] l).1 hl
  rw [List.mem_singleton] at hz
  subst hz
  exact (mem_leavesOf Q l).2 ⟨z, hx, h1, h2⟩

theorem spendOne_sublist (u : List Leaf) (o : Nat) : (spendOne u o).Sublist u := by
  unfold spendOne
  split
  · exact List.erase_sublist
  · exact List.Sublist.refl _

theorem foldl_spendOne_sublist (ins : List Nat) : ∀ u : List Leaf, (ins.foldl spendOne u).Sublist u := by
  induction ins with
  | nil => intro u; exact List.Sublist.refl _
  | cons o os ih => intro u; exact (ih _).trans (spendOne_sublist u o)

theorem foldl_applyU_sublist (P : List BlkInfo) :
    ∀ u : List Leaf, (P.foldl applyU u).Sublist (u ++ leavesOf P) := by
  induction P with
  | nil => intro u; simp [leavesOf]
  | cons b bs ih =>
    intro u
    rw [List.foldl_cons, leavesOf_cons, ← List.append_assoc]
    refine (ih _).trans (List.Sublist.append ?_ (List.Sublist.refl _))
    exact List.Sublist.append (foldl_spendOne_sublist _ _) (List.Sublist.refl _)

theorem unspentOf_sublist (P : List BlkInfo) : (unspentOf P).Sublist (leavesOf P) := by
  have := foldl_applyU_sublist P []
  simpa [unspentOf] using this

theorem foldl_spendOne_subset (ins : List Nat) (u : List Leaf) : ∀ l ∈ ins.foldl spendOne u, l ∈ u :=
  fun _ hl => (foldl_spendOne_sublist ins u).subset hl

theorem foldl_applyU_subset (path : List BlkInfo) (u : List Leaf) :
    ∀ l ∈ path.foldl applyU u, l ∈ u ∨ l ∈ leavesOf path :=
  fun _ hl => List.mem_append.mp ((foldl_applyU_sublist path u).subset hl)

theorem unspentOf_subset_leaves (path : List BlkInfo) : ∀ l ∈ unspentOf path, l ∈ leavesOf path :=
  fun _ hl => (unspentOf_sublist path).subset hl

end GV.Crash
