import GrinVerif.Model.KeysBuild
import GrinVerif.Lemmas.KeysArith
/-! Lemmas about the builder fold (C20), with and without `initial_tx`: what the three key lists of
the `BlindSum` and the body look like after the fold. -/
namespace GV.Keys
open List

def inputsOf : List Step → List Opening
  | [] => []
  | .input o :: r => o :: inputsOf r
  | _ :: r => inputsOf r

def outputsOf : List Step → List Opening
  | [] => []
  | .output o :: r => o :: outputsOf r
  | _ :: r => outputsOf r

def excessesOf : List Step → List Nat
  | [] => []
  | .withExcess b :: r => b :: excessesOf r
  | _ :: r => excessesOf r

theorem inputsOf_append (a b : List Step) : inputsOf (a ++ b) = inputsOf a ++ inputsOf b := by
  induction a with
  | nil => rfl
  | cons x t ih => cases x <;> simp [inputsOf, ih]

theorem outputsOf_append (a b : List Step) : outputsOf (a ++ b) = outputsOf a ++ outputsOf b := by
  induction a with
  | nil => rfl
  | cons x t ih => cases x <;> simp [outputsOf, ih]

theorem runX_keys (st : BuildSt) (elems : List XStep) :
    (runX st elems).negK = st.negK ++ blinds (inputsOf (baseOf elems)) ∧
    (runX st elems).posK = st.posK ++ blinds (outputsOf (baseOf elems)) ∧
    (runX st elems).posB = st.posB ++ excessesOf (baseOf elems) := by
  induction elems generalizing st with
  | nil => simp [runX, baseOf, inputsOf, outputsOf, excessesOf, blinds]
  | cons e r ih =>
    obtain ⟨h1, h2, h3⟩ := ih (xstep st e)
    simp only [runX, foldl_cons] at h1 h2 h3 ⊢
    rw [h1, h2, h3]
    cases e with
    | base s => cases s <;> simp [xstep, step, baseOf, inputsOf, outputsOf, excessesOf, blinds]
    | initialTx i o => simp [xstep, baseOf]

theorem runX_body_indep (elems : List XStep) (st st' : BuildSt) (h1 : st.ins = st'.ins) (h2 : st.outs = st'.outs) :
    (runX st elems).ins = (runX st' elems).ins ∧ (runX st elems).outs = (runX st' elems).outs :=
  foldl_rel (r := fun a b : BuildSt => a.ins = b.ins ∧ a.outs = b.outs) ⟨h1, h2⟩ fun e _ a b h => by
    cases e with
    | base s => cases s <;> simp [xstep, step, h.1, h.2]
    | initialTx i o => simp [xstep]

theorem runX_base (st : BuildSt) (l : List Step) : runX st (l.map XStep.base) = runSteps st l := by
  induction l generalizing st with
  | nil => rfl
  | cons a t ih => simp only [map_cons, runX, foldl_cons, xstep, runSteps] at ih ⊢; exact ih _

theorem perm_of_cons {α β : Type} {f : List α → List β} (g : α → List β) (h0 : f [] = [])
    (hc : ∀ x l, f (x :: l) = g x ++ f l) {a b : List α} (p : a ~ b) : f a ~ f b := by
  have e : ∀ l, f l = l.flatMap g := by
    intro l
    induction l with
    | nil => exact h0
    | cons x t ih => rw [hc, ih, flatMap_cons]
  rw [e, e]
  exact p.flatMap_right g

theorem inputsOf_perm {a b : List Step} (p : a ~ b) : inputsOf a ~ inputsOf b :=
  perm_of_cons (fun | .input o => [o] | _ => []) rfl (fun x _ => by cases x <;> rfl) p

theorem outputsOf_perm {a b : List Step} (p : a ~ b) : outputsOf a ~ outputsOf b :=
  perm_of_cons (fun | .output o => [o] | _ => []) rfl (fun x _ => by cases x <;> rfl) p

theorem excessesOf_perm {a b : List Step} (p : a ~ b) : excessesOf a ~ excessesOf b :=
  perm_of_cons (fun | .withExcess e => [e] | _ => []) rfl (fun x _ => by cases x <;> rfl) p

theorem baseOf_perm {a b : List XStep} (p : a ~ b) : baseOf a ~ baseOf b :=
  perm_of_cons (fun | .base s => [s] | _ => []) rfl (fun x _ => by cases x <;> rfl) p

theorem baseOf_append (a b : List XStep) : baseOf (a ++ b) = baseOf a ++ baseOf b := by
  induction a with
  | nil => rfl
  | cons x t ih => cases x <;> simp [baseOf, ih]

theorem baseOf_map_base (l : List Step) : baseOf (l.map XStep.base) = l := by
  induction l with
  | nil => rfl
  | cons a t ih => simp [baseOf, ih]

theorem runSteps_keys (st : BuildSt) (elems : List Step) :
    (runSteps st elems).negK = st.negK ++ blinds (inputsOf elems) ∧
    (runSteps st elems).posK = st.posK ++ blinds (outputsOf elems) ∧
    (runSteps st elems).posB = st.posB ++ excessesOf elems := by
  have := runX_keys st (elems.map .base)
  rwa [runX_base, baseOf_map_base] at this

theorem runX_blindSum (st : BuildSt) (elems : List XStep) :
    kcBlindSum (runX st elems).posK (runX st elems).negK (runX st elems).posB [] =
      secpBlindSum (st.posK ++ blinds (outputsOf (baseOf elems)) ++
          (st.posB ++ excessesOf (baseOf elems)).filterMap bfSecretKey)
        (st.negK ++ blinds (inputsOf (baseOf elems))) := by
  obtain ⟨n, p, b⟩ := runX_keys st elems
  rw [n, p, b, kcBlindSum, filterMap_nil, append_nil]

theorem runSteps_blindSum (st : BuildSt) (elems : List Step) :
    kcBlindSum (runSteps st elems).posK (runSteps st elems).negK (runSteps st elems).posB [] =
      secpBlindSum (st.posK ++ blinds (outputsOf elems) ++ (st.posB ++ excessesOf elems).filterMap bfSecretKey)
        (st.negK ++ blinds (inputsOf elems)) := by
  have := runX_blindSum st (elems.map .base)
  rwa [runX_base, baseOf_map_base] at this

/-- what both builders do once they have the blind sum: split off the excess, or fail -/
def finishTx (s : SumRes) (ins outs : List Opening) (fee excess : Nat) : Option Tx :=
  match s with
  | .ok bs => match bfSplit bs excess with
    | .ok off => some ⟨ins, outs, fee, excess, off⟩
    | _ => none
  | _ => none

theorem finishTx_eq_some_iff {s : SumRes} {ins outs : List Opening} {fee excess : Nat} {tx : Tx} :
    finishTx s ins outs fee excess = some tx ↔
      ∃ bs off, s = .ok bs ∧ bfSplit bs excess = .ok off ∧ tx = ⟨ins, outs, fee, excess, off⟩ := by
  unfold finishTx
  cases s with
  | ok bs => cases hb : bfSplit bs excess <;> simp [hb, eq_comm]
  | invalidKey => simp
  | panic => simp

theorem finishTx_eq_none_iff {s : SumRes} {ins outs : List Opening} {fee excess : Nat} :
    finishTx s ins outs fee excess = none ↔ ∀ bs, s = .ok bs → bfSplit bs excess = .invalidKey := by
  unfold finishTx
  cases s with
  | ok bs =>
    have hp : bfSplit bs excess ≠ .panic := by rw [bfSplit_eq]; split <;> simp
    cases hb : bfSplit bs excess <;> simp_all
  | invalidKey => simp
  | panic => simp

theorem finishTx_map (s : SumRes) (ins outs ins' outs' : List Opening) (fee excess : Nat) :
    finishTx s ins' outs' fee excess =
      (finishTx s ins outs fee excess).map fun t => { t with ins := ins', outs := outs' } := by
  unfold finishTx
  cases s with
  | ok bs => cases hb : bfSplit bs excess <;> simp [hb]
  | invalidKey => rfl
  | panic => rfl

theorem transactionWithKernel_eq (elems : List Step) (fee excess : Nat) :
    transactionWithKernel elems fee excess =
      finishTx (secpBlindSum (blinds (outputsOf elems) ++ (excessesOf elems).filterMap bfSecretKey)
          (blinds (inputsOf elems))) (runSteps {} elems).ins (runSteps {} elems).outs fee excess := by
  unfold transactionWithKernel
  simp only [runSteps_blindSum, nil_append]
  rfl

theorem xTransactionWithKernel_eq_finish (elems : List XStep) (fee excess : Nat) :
    xTransactionWithKernel elems fee excess =
      finishTx (secpBlindSum (blinds (outputsOf (baseOf elems)) ++ (excessesOf (baseOf elems)).filterMap bfSecretKey)
          (blinds (inputsOf (baseOf elems)))) (runX {} elems).ins (runX {} elems).outs fee excess := by
  unfold xTransactionWithKernel
  simp only [runX_blindSum, nil_append]
  rfl

theorem insertUnique_new (o : Opening) (l : List Opening) (h : o ∉ l) : insertUnique o l = l ++ [o] := by
  simp [insertUnique, h]

theorem insertUnique_old (o : Opening) (l : List Opening) (h : o ∈ l) : insertUnique o l = l := by
  simp [insertUnique, h]

theorem runSteps_body (st : BuildSt) (elems : List Step) (hi : (st.ins ++ inputsOf elems).Nodup)
    (ho : (st.outs ++ outputsOf elems).Nodup) :
    (runSteps st elems).ins = st.ins ++ inputsOf elems ∧ (runSteps st elems).outs = st.outs ++ outputsOf elems := by
  induction elems generalizing st with
  | nil => simp [runSteps, inputsOf, outputsOf]
  | cons e r ih =>
    cases e with
    | input o =>
      have hs : (step st (.input o)).ins = st.ins ++ [o] :=
        insertUnique_new o st.ins fun hm => (nodup_append.1 hi).2.2 o hm o mem_cons_self rfl
      have := ih (step st (.input o)) (by rw [hs, append_assoc]; exact hi) ho
      rwa [hs, append_assoc] at this
    | output o =>
      have hs : (step st (.output o)).outs = st.outs ++ [o] :=
        insertUnique_new o st.outs fun hm => (nodup_append.1 ho).2.2 o hm o mem_cons_self rfl
      have := ih (step st (.output o)) hi (by rw [hs, append_assoc]; exact ho)
      rwa [hs, append_assoc] at this
    | withExcess b => exact ih (step st (.withExcess b)) hi ho

theorem txBalances_iff {tx : Tx} (he : tx.excess < N) (ho : tx.offset < N) :
    txBalances tx = true ↔ (sumValues tx.outs + tx.fee) % N = sumValues tx.ins % N ∧
      rawSum (blinds tx.outs) (blinds tx.ins) = (tx.excess + tx.offset) % N := by
  simp only [txBalances, acc_eq_rawSum, sadd, Nat.mod_eq_of_lt he, Nat.mod_eq_of_lt ho, Bool.and_eq_true,
    beq_iff_eq]

/-- `with_excess` elements -/
def isExcess : XStep → Bool
  | .base (.withExcess _) => true
  | _ => false

end GV.Keys
