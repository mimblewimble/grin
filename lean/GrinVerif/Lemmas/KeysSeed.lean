import GrinVerif.Lemmas.KeysView
/-! Seeds (C20): the collision-freedom hypotheses about the seed → master-key map (HMAC-SHA512 over
the whole seed), the switch-commitment blinding and the rewind-nonce hash, what follows from them,
and a term instance that satisfies all three (non-vacuity). -/
namespace GV.Keys

variable {K : Type}

/-- Collision-freedom of the key material (HMAC-SHA512 / BIP32, cryptographic assumption — an
explicit hypothesis): a derived secret scalar determines the **whole seed**, of whatever length, and
the path below the master key. -/
def SeedInj (sd : SeedDeriv K) : Prop :=
  ∀ s s' cs cs' k k', ckdAll (sd.kd s) (sd.masterOf s) cs = some k →
    ckdAll (sd.kd s') (sd.masterOf s') cs' = some k' → sd.secret k = sd.secret k' → s = s' ∧ cs = cs'

/-- `blind_switch(amount, ·)` is injective in the key (it adds a hash of the commitment points) -/
def SwitchInj (sd : SeedDeriv K) : Prop := ∀ a k k', sd.blindSwitch a k = sd.blindSwitch a k' → k = k'

/-- the rewind-nonce hash is collision-free in the key material, for a fixed commitment -/
def NonceInj (sd : SeedDeriv K) : Prop := ∀ m m' c, sd.nonceOf m c = sd.nonceOf m' c → m = m'

theorem master_ne (sd : SeedDeriv K) (hinj : SeedInj sd) (s s' : Bytes) (hne : s ≠ s') :
    sd.secret (sd.masterOf s) ≠ sd.secret (sd.masterOf s') := by
  intro h
  exact hne (hinj s s' [] [] _ _ rfl rfl h).1

theorem commit_ne (sd : SeedDeriv K) (hinj : SeedInj sd) (hsw : SwitchInj sd) (s s' : Bytes)
    (hne : s ≠ s') (amount : Nat) (id : Ident) (sw : Switch) (c c' : Opening)
    (h : commit (sd.kd s) amount id sw = .ok c)
    (h' : commit (sd.kd s') amount id sw = .ok c') : c ≠ c' := by
  obtain ⟨k, hk, rfl⟩ := commit_inv h
  obtain ⟨k', hk', rfl⟩ := commit_inv h'
  intro he
  have hb : keyOf (sd.kd s) sw amount k = keyOf (sd.kd s') sw amount k' := by injection he
  have hs : sd.secret k = sd.secret k' := by
    cases sw with
    | regular => exact hsw _ _ _ hb
    | none => exact hb
  exact hne (hinj s s' _ _ k k' hk hk' hs).1

theorem nonce_ne (sd : SeedDeriv K) (hinj : SeedInj sd) (hn : NonceInj sd) (s s' : Bytes)
    (hne : s ≠ s') (c : Opening) : sd.rn s c ≠ sd.rn s' c := by
  intro h
  exact master_ne sd hinj s s' hne (hn _ _ c h)

/-- injective code of a byte string (any length) -/
def bytesCode : Bytes → Nat
  | [] => 0
  | b :: bs => pairCode b (bytesCode bs)

theorem bytesCode_inj : ∀ (l l' : Bytes), bytesCode l = bytesCode l' → l = l' :=
  listCode_inj id (fun _ _ h => h) bytesCode rfl (fun _ _ => rfl)

/-- the term model: a key *is* (seed, path); its secret is the injective code of the pair;
`blind_switch` is an injective pairing, the nonce "hash" is the key material itself (codes are kept
small enough for the kernel to evaluate the examples) -/
def termSD : SeedDeriv (Bytes × List ChildNumber) where
  masterOf := fun s => (s, [])
  ckd := fun k c => some (k.1, k.2 ++ [c])
  secret := fun k => pairCode (wordsCode k.2) (bytesCode k.1)
  blindSwitch := fun amount key => pairCode amount key
  nonceOf := fun m _ => m

theorem termSD_ckdAll (seed : Bytes) : ∀ (cs : List ChildNumber) (k : Bytes × List ChildNumber),
    ckdAll (termSD.kd seed) k cs = some (k.1, k.2 ++ cs) := by
  intro cs
  induction cs with
  | nil => intro k; simp [ckdAll]
  | cons c cs ih =>
    intro k
    simp only [ckdAll]
    show ckdAll (termSD.kd seed) (k.1, k.2 ++ [c]) cs = _
    rw [ih]; simp

theorem termSD_seedInj : SeedInj termSD := by
  intro s s' cs cs' k k' h h' hs
  have e : termSD.masterOf s = (s, []) := rfl
  have e' : termSD.masterOf s' = (s', []) := rfl
  rw [e, termSD_ckdAll] at h
  rw [e', termSD_ckdAll] at h'
  simp only [List.nil_append, Option.some.injEq] at h h'
  subst h; subst h'
  have := pairCode_inj _ _ _ _ (show pairCode (wordsCode cs) (bytesCode s) =
    pairCode (wordsCode cs') (bytesCode s') from hs)
  exact ⟨bytesCode_inj _ _ this.2, wordsCode_inj _ _ this.1⟩

theorem termSD_switchInj : SwitchInj termSD := by
  intro a k k' h
  exact (pairCode_inj _ _ _ _ (show pairCode a k = pairCode a k' from h)).2

theorem termSD_nonceInj : NonceInj termSD := by
  intro m m' c h
  exact h

end GV.Keys
