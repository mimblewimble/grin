import GrinVerif.Lemmas.WireTx
import GrinVerif.Lemmas.SerHeader
import GrinVerif.Lemmas.Kv
import GrinVerif.Lemmas.TxBlockVal
/-! # The instrumented decoders of C11 erase to the plain decoders of C10

`Model/DecSer.lean` (value | error | panic site, allocation counter, both `Reader` implementations) and
`Model/Ser*.lean` (`Except`) are two transliterations of the same Rust readers. `Erases p q` (`Lemmas/DecErases.lean`) says:
for every input the instrumented reader `p` never panics and, forgetting the allocation counter,
returns exactly what the plain reader `q` returns — same value, same unread rest, same error kind.
Here: `Inputs`, `TransactionBody`, `CompactBlockBody`, `Proof`, `ProofOfWork`, `BlockHeader`, `validate_read` (with
what its cut-through check needs: `bytesLt` is a total order, the insertion sort sorts and permutes), `Transaction`, and
what the untrusted readers accept (the item types `TxKernel`, `Input`, `OutputIdentifier`, `RangeProof`,
`Output`, `ShortId`: `Lemmas/WireTx.lean`), for BOTH readers: every C10 theorem about a plain decoder (round trip,
accepted ⇒ canonical, refusals) holds for the `BinReader` and for the `BufReader` path; and since a plain reader cannot
panic, the C11 panic-freedom of these decoders (`Lemmas/DecSerBound.lean`) and, for the transaction objects, their
independence of the reader (`DecSerAgree.lean`) are corollaries. -/
namespace GV.DecSer
open GV GV.Ser GV.Dec

variable {α : Type}

/-- a `Chk` without panic as an `Except` -/
def chkOf : Except SerErr Unit → Chk
  | .ok _ => .ok
  | .error e => .err e

theorem chkOf_ne_panic (x : Except SerErr Unit) (s : Site) : chkOf x ≠ .panic s := by
  cases x <;> simp [chkOf]

theorem verifySortedP_eq : ∀ (l : List Nat), verifySortedP l = chkOf (verifySortedUnique l)
  | [] => rfl
  | [_] => rfl
  | a :: b :: r => by
    have ih := verifySortedP_eq (b :: r)
    unfold verifySortedP at ih ⊢
    simp only [windows2, sortedLoop, verifySortedUnique, List.getElem?_cons_zero, List.getElem?_cons_succ]
    by_cases h1 : a > b
    · simp [h1, chkOf]
    · by_cases h2 : a = b
      · simp [h2, chkOf]
      · simp only [h1, h2, if_false]; exact ih

theorem chkOf_andThen (x y : Except SerErr Unit) :
    (chkOf x).andThen (chkOf y) = chkOf (match x with | .error e => .error e | .ok _ => y) := by
  cases x <;> rfl

theorem bodyVerifySortedP_eq (key : Bytes → Nat) (b : TxBody) :
    bodyVerifySortedP key b = chkOf (b.verifySorted key) := by
  unfold bodyVerifySortedP TxBody.verifySorted
  rw [verifySortedP_eq, verifySortedP_eq, verifySortedP_eq, chkOf_andThen, chkOf_andThen]
  cases verifySortedUnique (b.inputs.keys key) <;> rfl

theorem compactVerifySortedP_eq (key : Bytes → Nat) (b : CompactBlockBody) :
    compactVerifySortedP key b = chkOf (b.verifySorted key) := by
  unfold compactVerifySortedP CompactBlockBody.verifySorted
  rw [verifySortedP_eq, verifySortedP_eq, verifySortedP_eq, chkOf_andThen, chkOf_andThen]
  cases verifySortedUnique (b.outFull.map fun o => key o.hashBytes) <;> rfl

theorem erases_corrupt (x : Except SerErr Unit) (a : α) :
    Erases (fun r => (chkOf x).corrupt (.ok a r 0))
      (fun r => match x with | .error _ => .error .corrupted | .ok _ => .ok (a, r)) := by
  intro r; cases x <;> rfl

theorem erases_rInputs (rd : Rdr) (ver ni : Nat) : Erases (rInputs rd ver ni) (decInputs ver ni) := by
  unfold rInputs decInputs
  by_cases h : ver ≤ 2
  · simp only [h, if_true]
    exact Erases.bind (erases_readMulti (erases_rInput rd) _ _) fun l => Erases.charge (erases_pure _) _
  · simp only [h, if_false]
    exact Erases.bind (erases_readMulti (Wire.wire_commit.erases rd) _ _) fun l => Erases.charge (erases_pure _) _

theorem erases_rTxBody (rd : Rdr) (c : Cfg) : Erases (rTxBody rd c) (decTxBody c) := by
  unfold rTxBody decTxBody
  refine Erases.bind erases_rU64 fun ni => Erases.bind erases_rU64 fun no => Erases.bind erases_rU64 fun nk => ?_
  refine Erases.ite _ (erases_err _) ?_
  refine Erases.bind (erases_rInputs rd c.ver ni) fun ins => ?_
  refine Erases.bind (erases_readMulti (erases_rOutput rd) _ _) fun outs => ?_
  refine Erases.bind (erases_readMulti (erases_rTxKernel rd c) _ _) fun kers => ?_
  refine Erases.charge ?_ _
  rw [bodyVerifySortedP_eq]
  exact erases_corrupt _ _

theorem erases_rCompactBody (rd : Rdr) (c : Cfg) : Erases (rCompactBody rd c) (decCompactBody c) := by
  unfold rCompactBody decCompactBody
  refine Erases.bind erases_rU64 fun no => Erases.bind erases_rU64 fun nk => Erases.bind erases_rU64 fun ni => ?_
  refine Erases.bind (erases_readMulti (erases_rOutput rd) _ _) fun outs => ?_
  refine Erases.bind (erases_readMulti (erases_rTxKernel rd c) _ _) fun kers => ?_
  refine Erases.bind (erases_readMulti (Wire.wire_shortId.erases rd) _ _) fun ids => ?_
  rw [compactVerifySortedP_eq]
  exact erases_corrupt _ _

theorem extractBitsP_val {bits : Bytes} {s c rf : Nat} (h1 : rf + 8 ≤ bits.length) (h2 : c ≤ 64)
    (h3 : rf * 8 ≤ s) (h4 : s - rf * 8 < 64) : extractBitsP bits s c rf = .ok (extractBits bits s c rf) := by
  unfold extractBitsP extractBits
  rw [if_neg (by omega)]
  by_cases hc : c = 64
  · rw [if_pos hc, if_pos hc]
  · rw [if_neg hc, if_neg hc, if_neg (by omega), if_neg (by omega), if_neg (by omega)]

theorem readNumberP_val {bits : Bytes} {s c : Nat} (hl : 8 ≤ bits.length) (hs : s + c ≤ bits.length * 8)
    (hc : c ≤ 63) : readNumberP bits s c = .ok (readNumber bits s c) := by
  unfold readNumberP readNumber
  by_cases h0 : c = 0
  · rw [if_pos h0, if_pos h0]
  · rw [if_neg h0, if_neg h0]
    simp only
    rw [if_neg (by omega)]
    by_cases hmv : s / 8 + 8 > bits.length
    · -- moved back to the last 8 bytes: everything fits in one read
      rw [if_pos hmv, if_pos (by omega), if_pos (by omega)]
      exact extractBitsP_val (by omega) (by omega) (by omega) (by omega)
    · rw [if_neg hmv]
      by_cases hone : s + c ≤ (s / 8 + 8) * 8
      · rw [if_pos hone, if_pos hone]
        exact extractBitsP_val (by omega) (by omega) (by omega) (by omega)
      · rw [if_neg hone, if_neg hone, if_neg (by omega),
          extractBitsP_val (bits := bits) (s := s) (c := 8) (rf := s / 8) (by omega) (by omega) (by omega) (by omega),
          extractBitsP_val (bits := bits) (s := s + 8) (c := c - 8) (rf := s / 8 + 1) (by omega) (by omega) (by omega)
            (by omega)]

theorem nonceLoop_val {bits : Bytes} {eb : Nat} (hl : 8 ≤ bits.length) (heb : eb ≤ 63) :
    ∀ (k n : Nat), (n + k) * eb ≤ bits.length * 8 →
      nonceLoop bits eb k n = .ok ((List.range' n k).map fun i => readNumber bits (i * eb) eb)
  | 0, _, _ => rfl
  | k+1, n, h => by
    have h1 : (n + 1) * eb ≤ (n + (k + 1)) * eb := Nat.mul_le_mul_right eb (by omega)
    have h2 : (n + 1) * eb = n * eb + eb := by rw [Nat.add_mul, Nat.one_mul]
    simp only [nonceLoop, readNumberP_val (bits := bits) (s := n * eb) (c := eb) hl (by omega) heb,
      nonceLoop_val hl heb k (n + 1) (by rw [show n + 1 + k = n + (k + 1) by omega]; exact h)]
    rfl

theorem packLen_mul8 (ps eb : Nat) : ps * eb ≤ packLen ps eb * 8 := by
  unfold packLen
  rw [Nat.mul_comm ps eb]
  omega

theorem erases_proofFromBits (c : Cfg) {eb : Nat} (heb : eb ≤ 63) (hpl : 8 ≤ packLen c.proofSize eb)
    {bits : Bytes} (hb : bits.length = packLen c.proofSize eb) :
    Erases (proofFromBits c eb bits) (fun r =>
      if readNumber bits (c.proofSize * eb) (packLen c.proofSize eb * 8 - c.proofSize * eb) ≠ 0 then .error .corrupted
      else .ok ({ edgeBits := eb, nonces := (List.range c.proofSize).map fun n => readNumber bits (n * eb) eb }, r)) := by
  intro r
  have hm := packLen_mul8 c.proofSize eb
  unfold proofFromBits
  simp only [nonceLoop_val (bits := bits) (eb := eb) (by omega) heb c.proofSize 0 (by rw [Nat.zero_add, hb]; exact hm),
    readNumberP_val (bits := bits) (s := c.proofSize * eb) (c := packLen c.proofSize eb * 8 - c.proofSize * eb)
      (by omega) (by rw [hb]; omega) (by unfold packLen at hm ⊢; rw [Nat.mul_comm c.proofSize eb]; omega)]
  rw [if_neg (by omega), List.range_eq_range']
  split <;> rfl

theorem erases_rProof (rd : Rdr) (c : Cfg) (hps : c.proofSize * 8 ≤ ISIZE_MAX) : Erases (rProof rd c) (decProof c) :=
  Erases.bind erases_rU8 fun eb =>
    Erases.iteH _ (fun _ => erases_err _) fun hbad =>
      Erases.withCapacity
        (Erases.iteH _ (fun _ => erases_err _) fun hpl =>
          Erases.bindQ (erases_rFixed rd (packLen c.proofSize eb)) fun _ bits r h =>
            erases_proofFromBits c (by omega) (by omega) (readFixed_ok h).2 r)
        _ _ hps

theorem erases_rProofOfWork (rd : Rdr) (c : Cfg) (hps : c.proofSize * 8 ≤ ISIZE_MAX) :
    Erases (rProofOfWork rd c) (decProofOfWork c) :=
  Erases.bind erases_rU64 fun _ => Erases.bind erases_rU32 fun _ => Erases.bind erases_rU64 fun _ =>
    Erases.bind (erases_rProof rd c hps) fun _ => erases_pure _

theorem erases_rBlockHeader (rd : Rdr) (c : Cfg) (hps : c.proofSize * 8 ≤ ISIZE_MAX) :
    Erases (rBlockHeader rd c) (decBlockHeader c) := by
  rw [rBlockHeader_eq, decBlockHeader_eq]
  exact Erases.bind ((wire_prePow noPow).erases rd) fun _ => Erases.bind (erases_rProofOfWork rd c hps) fun _ =>
    Erases.ite _ (erases_err _) (erases_pure _)

/-! ### the lexicographic order of `Commitment([u8; 33])` -/

/-- the same function as the key order of the LMDB model, whose order facts (`Lemmas/Kv.lean`) are used -/
theorem bytesLt_eq_kv : ∀ x y : Bytes, bytesLt x y = GV.Kv.bytesLt x y
  | [], [] => rfl
  | [], _ :: _ => rfl
  | _ :: _, [] => rfl
  | a :: r, b :: s => by simp only [bytesLt, GV.Kv.bytesLt, bytesLt_eq_kv r s, gt_iff_lt]

theorem bytesLt_irrefl (x : Bytes) : bytesLt x x = false := by
  rw [bytesLt_eq_kv]; exact GV.Kv.bytesLt_irrefl x

theorem bytesLt_antisymm (x y : Bytes) (h1 : bytesLt x y = false) (h2 : bytesLt y x = false) : x = y :=
  GV.Kv.bytesLt_total x y (bytesLt_eq_kv x y ▸ h1) (bytesLt_eq_kv y x ▸ h2)

theorem bytesLt_trans (x y z : Bytes) (h1 : bytesLt x y = true) (h2 : bytesLt y z = true) : bytesLt x z = true := by
  rw [bytesLt_eq_kv] at *; exact GV.Kv.bytesLt_trans x y z h1 h2

/-- `x ≤ y` -/
def bytesLe (x y : Bytes) : Prop := bytesLt y x = false

theorem bytesLe_total (x y : Bytes) : bytesLe x y ∨ bytesLe y x := by
  unfold bytesLe
  cases h : bytesLt y x with
  | false => exact Or.inl rfl
  | true =>
    right
    cases h2 : bytesLt x y with
    | false => rfl
    | true => have := bytesLt_trans _ _ _ h h2; rw [bytesLt_irrefl] at this; simp at this

theorem bytesLe_trans {x y z : Bytes} (h1 : bytesLe x y) (h2 : bytesLe y z) : bytesLe x z := by
  unfold bytesLe at *
  cases h : bytesLt z x with
  | false => rfl
  | true =>
    -- z < x ≤ y: either x < y, then z < y, or x = y; both contradict y ≤ z
    cases hxy : bytesLt x y with
    | true => have := bytesLt_trans _ _ _ h hxy; rw [h2] at this; simp at this
    | false =>
      have := bytesLt_antisymm x y hxy h1
      subst this; rw [h2] at h; simp at h

/-- the sort is the insertion sort of `Model/TxBlock.lean` under the test `bytesLt`, whose permutation and order lemmas
(`Lemmas/TxBlockVal.lean`) are used -/
theorem insertBytes_eq (x : Bytes) : ∀ l, insertBytes x l = GV.Tx.insertByLe bytesLt x l
  | [] => rfl
  | y :: r => by simp only [insertBytes, GV.Tx.insertByLe, insertBytes_eq x r]

theorem sortBytes_eq : ∀ l, sortBytes l = GV.Tx.sortByLe bytesLt l
  | [] => rfl
  | x :: r => by simp only [sortBytes, GV.Tx.sortByLe, sortBytes_eq r, insertBytes_eq]

theorem sortBytes_perm (l : List Bytes) : (sortBytes l).Perm l := sortBytes_eq l ▸ GV.Tx.sortByLe_perm bytesLt l

theorem sortBytes_sorted (l : List Bytes) : (sortBytes l).Pairwise bytesLe :=
  sortBytes_eq l ▸ GV.Tx.sortByLe_pairwise bytesLt
    (fun x y hlt => (bytesLe_total x y).resolve_right fun h => by rw [bytesLe, hlt] at h; cases h)
    (fun _ _ h => h) (fun _ _ _ => bytesLe_trans) l

/-! ### `windows(2)` over a sorted list finds a duplicate iff there is one -/

theorem cutThroughLoop_sorted : ∀ l : List Bytes, l.Pairwise bytesLe →
    cutThroughLoop (windows2 l) = if l.Nodup then .ok else .err .corrupted
  | [], _ => rfl
  | [_], _ => by simp [windows2, cutThroughLoop]
  | a :: b :: r, h => by
    have hp := List.pairwise_cons.mp h
    have ih := cutThroughLoop_sorted (b :: r) hp.2
    simp only [windows2, cutThroughLoop, List.getElem?_cons_zero, List.getElem?_cons_succ]
    by_cases hab : a = b
    · subst hab; simp
    · simp only [hab, if_false, ih]
      have hnot : a ∉ b :: r := by
        intro hmem
        -- every later element is ≥ b ≥ a and a ≤ it; an equal one would force a = b
        have hb := hp.1 b (by simp)
        rcases List.mem_cons.mp hmem with rfl | hr
        · exact hab rfl
        · have hpb := List.pairwise_cons.mp hp.2
          have h1 : bytesLe b a := hpb.1 a hr
          exact hab (bytesLt_antisymm a b h1 hb)
      simp [List.nodup_cons, hnot]

theorem allDistinct_iff_nodup : ∀ l : List Bytes, allDistinct l = true ↔ l.Nodup
  | [] => by simp [allDistinct]
  | x :: r => by
    simp only [allDistinct, Bool.and_eq_true, Bool.not_eq_true', List.nodup_cons, allDistinct_iff_nodup r]
    constructor
    · rintro ⟨h1, h2⟩; exact ⟨by simpa using h1, h2⟩
    · rintro ⟨h1, h2⟩; exact ⟨by simpa using h1, h2⟩

theorem cutThrough_eq (l : List Bytes) :
    cutThroughLoop (windows2 (sortBytes l)) = if allDistinct l then .ok else .err .corrupted := by
  rw [cutThroughLoop_sorted _ (sortBytes_sorted l)]
  have : (sortBytes l).Nodup ↔ l.Nodup := (sortBytes_perm l).nodup_iff
  by_cases h : l.Nodup
  · simp [this.mpr h, (allDistinct_iff_nodup l).mpr h]
  · have h2 : ¬ allDistinct l = true := fun hh => h ((allDistinct_iff_nodup l).mp hh)
    simp [mt this.mp h, h2]

theorem erases_validateReadBody (c : Cfg) (maxW : Nat) (b : TxBody) :
    Erases (validateReadBody c maxW b)
      (fun r => if b.validateRead c maxW then .ok ((), r) else .error .corrupted) := by
  intro r
  unfold validateReadBody TxBody.validateRead
  by_cases hw : b.weight > maxW
  · have : ¬ b.weight ≤ maxW := by omega
    simp [hw, this, Outcome.toExcept]
  · have hw' : b.weight ≤ maxW := by omega
    simp only [hw, if_false, charge, toExcept_addAlloc, hw', decide_true, Bool.true_and]
    -- the instrumented `if c.nrd && !d then err` is the plain `(!c.nrd || d) && …`
    have hnd : ∀ d : Bool, (!c.nrd || d) = !(c.nrd && !d) := fun d => by cases c.nrd <;> cases d <;> rfl
    rw [hnd]
    by_cases hn : (c.nrd && !allDistinct ((b.kernels.filter (·.features.isNrd)).map (·.excess))) = true
    · simp [hn, Outcome.toExcept]
    · simp only [hn, Bool.not_false, Bool.true_and, bodyVerifySortedP_eq, cutThrough_eq, Bool.false_eq_true, if_false]
      cases hs : b.verifySorted c.key with
      | error e => simp [chkOf, Chk.corrupt, Outcome.toExcept]
      | ok u =>
        simp only [chkOf, Chk.corrupt, toExcept_addAlloc, Bool.true_and]
        by_cases hd : allDistinct (b.inputs.commits ++ b.outputs.map (·.id.commit)) = true
        · simp [hd, Outcome.toExcept]
        · simp [hd, Outcome.toExcept]

theorem erases_rTransaction (rd : Rdr) (c : Cfg) : Erases (rTransaction rd c) (decTransaction c) :=
  Erases.bind (erases_rBlind rd) fun off => Erases.bind (erases_rTxBody rd c) fun body r => by
    -- `validate_read` and `verify_features` are two reads one after the other here, one `&&` in the plain decoder
    rw [(erases_validateReadBody c _ body).bind (fun _ =>
      Erases.ite _ (erases_pure (Transaction.mk off body)) (erases_err _)) r]
    cases body.validateRead c (maxTxWeight c.maxWeight) <;> cases body.verifyFeatures <;> rfl

/-! ### from an accepted instrumented read to the plain decoder -/

theorem untrustedChecks_ok {e : Env} {h h' : BlockHeader} {r r' : Bytes} {n : Nat}
    (hc : untrustedChecks e h r = .ok h' r' n) : h' = h ∧ r' = r := by
  unfold untrustedChecks at hc
  simp only at hc
  cases hx : GV.Cons.untrustedHeaderCheck e.ct e.now e.ftl (e.powOk h) (toHdr h) with
  | error x => rw [hx] at hc; cases x <;> simp [charge, Outcome.addAlloc] at hc
  | ok u =>
    rw [hx] at hc
    simp only [charge, Outcome.addAlloc, Outcome.ok.injEq] at hc
    exact ⟨hc.1.symm, hc.2.1.symm⟩

/-- `UntrustedBlockHeader::read` only adds checks: what it accepts, `read_block_header` accepts with the
same value and the same unread rest -/
theorem rUntrustedHeader_ok (rd : Rdr) (e : Env) (hps : e.cfg.proofSize * 8 ≤ ISIZE_MAX)
    {bs : Bytes} {h : BlockHeader} {r : Bytes} {n : Nat} (hr : rUntrustedHeader rd e bs = .ok h r n) :
    decBlockHeader e.cfg bs = .ok (h, r) := by
  unfold rUntrustedHeader at hr
  obtain ⟨h0, r0, n1, n2, h1, h2, _⟩ := bind_ok_inv hr
  obtain ⟨rfl, rfl⟩ := untrustedChecks_ok h2
  exact (erases_rBlockHeader rd e.cfg hps).ok h1

theorem corrupt_ok {ch : Chk} {k : Outcome α} {a : α} {r : Bytes} {n : Nat} (h : ch.corrupt k = .ok a r n) :
    k = .ok a r n := by
  cases ch <;> simp [Chk.corrupt] at h; exact h

/-- an outcome that, when it is a success, leaves exactly `r` unread -/
def RestIs (r : Bytes) (o : Outcome α) : Prop := ∀ a r' n, o = .ok a r' n → r' = r

theorem RestIs.err (r : Bytes) (e : SerErr) (n : Nat) : RestIs r (.err e n : Outcome α) := by
  intro a' r' n' h; simp at h
theorem RestIs.corrupt {r : Bytes} {o : Outcome α} (h : RestIs r o) (ch : Chk) : RestIs r (ch.corrupt o) := by
  cases ch with
  | ok => exact h
  | err e => exact RestIs.err r _ _
  | panic s => intro a' r' n' hh; simp [Chk.corrupt] at hh

theorem validateReadBody_ok {c : Cfg} {maxW : Nat} {b : TxBody} {r r' : Bytes} {n : Nat}
    (h : validateReadBody c maxW b r = .ok () r' n) : r' = r := by
  have h' := (erases_validateReadBody c maxW b).ok h
  split at h'
  · cases h'; rfl
  · cases h'

/-- `UntrustedBlock::read` only adds checks to `Block::read` -/
theorem rUntrustedBlock_ok (rd : Rdr) (e : Env) (hps : e.cfg.proofSize * 8 ≤ ISIZE_MAX)
    {bs : Bytes} {b : Block} {r : Bytes} {n : Nat} (hr : rUntrustedBlock rd e bs = .ok b r n) :
    decBlock e.cfg bs = .ok (b, r) := by
  unfold rUntrustedBlock at hr
  obtain ⟨h0, r0, n1, n2, h1, h2, _⟩ := bind_ok_inv hr
  obtain ⟨body, r1, n3, n4, h3, h4, _⟩ := bind_ok_inv h2
  obtain ⟨u, r2, n5, n6, h5, h6, _⟩ := bind_ok_inv h4
  have hr2 := validateReadBody_ok h5
  simp only [Outcome.ok.injEq] at h6
  obtain ⟨rfl, rfl, _⟩ := h6
  subst hr2
  have hh := rUntrustedHeader_ok rd e hps h1
  have hb := (erases_rTxBody rd e.cfg).ok h3
  unfold decBlock
  rw [hh, andThen_ok, hb, andThen_ok]

/-- `UntrustedCompactBlock::read` only adds checks to `CompactBlock::read` -/
theorem rUntrustedCompactBlock_ok (rd : Rdr) (e : Env) (hps : e.cfg.proofSize * 8 ≤ ISIZE_MAX)
    {bs : Bytes} {b : CompactBlock} {r : Bytes} {n : Nat} (hr : rUntrustedCompactBlock rd e bs = .ok b r n) :
    decCompactBlock e.cfg bs = .ok (b, r) := by
  unfold rUntrustedCompactBlock at hr
  obtain ⟨h0, r0, n1, n2, h1, h2, _⟩ := bind_ok_inv hr
  obtain ⟨nonce, r1, n3, n4, h3, h4, _⟩ := bind_ok_inv h2
  obtain ⟨body, r2, n5, n6, h5, h6, _⟩ := bind_ok_inv h4
  have h7 := corrupt_ok h6
  simp only [Outcome.ok.injEq] at h7
  obtain ⟨rfl, rfl, _⟩ := h7
  have hh := rUntrustedHeader_ok rd e hps h1
  have hn := erases_rU64.ok h3
  have hb := (erases_rCompactBody rd e.cfg).ok h5
  unfold decCompactBlock
  rw [hh, andThen_ok, hn, andThen_ok, hb, andThen_ok]

end GV.DecSer
