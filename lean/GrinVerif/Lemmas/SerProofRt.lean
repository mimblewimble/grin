import GrinVerif.Lemmas.WireCodec
import GrinVerif.Model.SerSpec
/-! The packed proof-of-work nonces (`pack_bits` / `read_number` of `core/src/pow/types.rs`):
bridge to `Nat` ("the packed bytes are the little-endian bytes of `Σ nᵢ·2^(i·w)`"), bit-window
reads as division / remainder, the `Proof` round trip (DESIGN Appendix A.4) and its converse: every accepted byte
string is the encoding of the returned proof (`codec_proof`: both together). -/
namespace GV.Ser
open GV GV.Wire

/-- the number whose little-endian bit string is the packed nonces: nonce `i` at bits `i*w ..` -/
def packNat (w : Nat) : List Nat → Nat
  | [] => 0
  | n :: r => n + 2^w * packNat w r

/-! One step of `pack_bits` on numbers. With `f` bits `m` in the mini buffer, `V = m + 2^f * el` is the buffer
with the next nonce on top (up to 127 bits): the Rust's `mini | (el << f)` keeps `V % 2^64`, its `el >> rem`
(`rem = 64 - f`) is `V / 2^64`, and a chunk is complete exactly when `V` has reached `2^64`. -/

theorem buf_lt {m el f w : Nat} (hm : m < 2^f) (hel : el < 2^w) : m + 2^f * el < 2^(f + w) := by
  have : m + 2^f * el < 2^f * (el + 1) := by rw [Nat.mul_add]; omega
  rw [Nat.pow_add]
  exact Nat.lt_of_lt_of_le this (Nat.mul_le_mul_left _ hel)

theorem buf_or {m f : Nat} (hm : m < 2^f) (hf : f ≤ 64) (el : Nat) :
    m ||| (el * 2^f) % 2^64 = (m + 2^f * el) % 2^64 := by
  have h64 : (2:Nat)^64 = 2^f * 2^(64 - f) := by rw [← Nat.pow_add]; congr 1; omega
  rw [h64, Nat.mul_comm el, Nat.mul_mod_mul_left, Nat.or_comm, ← Nat.two_pow_add_eq_or_of_lt hm, Nat.mod_mul,
    Nat.add_mul_mod_self_left, Nat.mod_eq_of_lt hm, Nat.add_mul_div_left _ _ (Nat.pow_pos (by omega)),
    Nat.div_eq_of_lt hm, Nat.zero_add, Nat.add_comm]

theorem buf_div {m f : Nat} (hm : m < 2^f) (hf : f ≤ 64) (el : Nat) :
    el / 2^(64 - f) = (m + 2^f * el) / 2^64 := by
  have h64 : (2:Nat)^64 = 2^f * 2^(64 - f) := by rw [← Nat.pow_add]; congr 1; omega
  rw [h64, ← Nat.div_div_eq_div_mul, Nat.add_mul_div_left _ _ (Nat.pow_pos (by omega)),
    Nat.div_eq_of_lt hm, Nat.zero_add]

theorem flush_chunk (V R k : Nat) (acc : Bytes) :
    ((V + 2^64 * R) / 2^(64 * (k + 1)), acc ++ leBytes (8 * (k + 1)) (V + 2^64 * R))
      = ((V / 2^64 + R) / 2^(64 * k), acc ++ leBytes 8 (V % 2^64) ++ leBytes (8 * k) (V / 2^64 + R)) := by
  have h256 : (256:Nat)^8 = 2^64 := by rfl
  have hdiv : (V + 2^64 * R) / 2^64 = V / 2^64 + R := Nat.add_mul_div_left _ _ (Nat.pow_pos (by omega))
  have hlow : leBytes 8 (V + 2^64 * R) = leBytes 8 (V % 2^64) := by
    conv => lhs; rw [← Nat.mod_add_div V (2^64), Nat.add_assoc, ← Nat.mul_add, ← h256, leBytes_add_mul]
  rw [Nat.mul_add 64, Nat.mul_one, Nat.add_comm (64 * k), Nat.pow_add, ← Nat.div_div_eq_div_mul, hdiv,
    Nat.mul_add 8, Nat.mul_one, Nat.add_comm (8 * k), leBytes_add, h256, hdiv, hlow, List.append_assoc]

theorem packLoop_eq (w : Nat) (hw : w ≤ 63) :
    ∀ (ns : List Nat) (mini f : Nat) (acc : Bytes), (∀ n ∈ ns, n < 2^w) → f < 64 → mini < 2^f →
    packLoop w ns mini (64 - f) acc
      = ((mini + 2^f * packNat w ns) / 2^(64 * ((f + w * ns.length) / 64)),
         acc ++ leBytes (8 * ((f + w * ns.length) / 64)) (mini + 2^f * packNat w ns)) := by
  intro ns
  induction ns with
  | nil =>
    intro mini f acc _ hf _
    simp [packLoop, packNat, Nat.div_eq_of_lt hf, leBytes_zero]
  | cons el r ih =>
    intro mini f acc hns hf hm
    have hV := buf_lt hm (hns el (by simp))
    have hr : ∀ n ∈ r, n < 2^w := fun n hn => hns n (by simp [hn])
    have e : 64 - (64 - f) = f := by omega
    have hT : mini + 2^f * packNat w (el :: r) = mini + 2^f * el + 2^(f + w) * packNat w r := by
      rw [packNat, Nat.mul_add, Nat.pow_add, Nat.mul_assoc, Nat.add_assoc]
    rw [packLoop, e, buf_or hm (by omega), buf_div hm (by omega) el, hT, List.length_cons, Nat.mul_succ,
      ← Nat.add_assoc f]
    generalize mini + 2^f * el = V at hV ⊢
    split
    · -- the nonce fits into the buffer
      rw [Nat.mod_eq_of_lt (Nat.lt_of_lt_of_le hV (Nat.pow_le_pow_right (by omega) (by omega))),
        show 64 - f - w = 64 - (f + w) by omega, ih V (f + w) acc hr (by omega) hV, Nat.add_right_comm]
    · -- a chunk is complete: `f + w = 64 + g`, and `g` bits stay
      obtain ⟨g, hg⟩ : ∃ g, f + w = 64 + g := ⟨f + w - 64, by omega⟩
      rw [hg, Nat.pow_add] at hV
      rw [show 64 + (64 - f) - w = 64 - g by omega,
        ih _ g _ hr (by omega) (Nat.div_lt_of_lt_mul hV), Nat.add_right_comm, hg, Nat.pow_add, Nat.mul_assoc,
        show (64 + g + w * r.length) / 64 = (g + w * r.length) / 64 + 1 by omega, flush_chunk]

theorem packNat_lt (w : Nat) (ns : List Nat) (h : ∀ n ∈ ns, n < 2^w) :
    packNat w ns < 2^(w * ns.length) := by
  induction ns with
  | nil => simp [packNat]
  | cons n r ih =>
    rw [packNat, List.length_cons, Nat.mul_succ, Nat.add_comm (w * r.length)]
    exact buf_lt (h n (by simp)) (ih fun m hm => h m (by simp [hm]))

theorem packBits_eq (w P : Nat) (hw : w ≤ 63) (ns : List Nat) (hlen : ns.length = P)
    (h : ∀ n ∈ ns, n < 2^w) :
    packBits w ns (packLen P w) = leBytes (packLen P w) (packNat w ns) := by
  have hN := packNat_lt w ns h
  have hloop := packLoop_eq w hw ns 0 0 [] h (by omega) (by omega)
  rw [hlen] at hN hloop
  rw [packBits, hloop, packLen]
  simp only [Nat.pow_zero, Nat.one_mul, Nat.zero_add, List.nil_append, leBytes_length]
  generalize packNat w ns = N at hN ⊢
  generalize w * P = B at hN ⊢
  obtain ⟨a, ha, ha8⟩ : ∃ a, (B + 7) / 8 = 8 * (B / 64) + a ∧ a ≤ 8 := ⟨(B + 7) / 8 - 8 * (B / 64), by omega, by omega⟩
  have hrest : N / 2^(64 * (B / 64)) < 256^a := by
    rw [pow256_eq_two_pow, Nat.div_lt_iff_lt_mul (Nat.pow_pos (by omega)), ← Nat.pow_add]
    exact Nat.lt_of_lt_of_le hN (Nat.pow_le_pow_right (by omega) (by omega))
  have h256 : (256:Nat)^(8 * (B / 64)) = 2^(64 * (B / 64)) := by rw [pow256_eq_two_pow]; congr 1; omega
  rw [ha, leBytes_add, h256, Nat.add_sub_cancel_left]
  congr 1
  split
  · have : a ≠ 0 := by rintro rfl; rw [Nat.pow_zero] at hrest; omega
    rw [show (if a % 8 = 0 then 8 else a % 8) = a by split <;> omega, take_leBytes _ _ _ ha8]
  · rename_i h0
    rw [Nat.eq_zero_of_not_pos h0, leBytes_of_zero]

theorem leU64At_eq (bits : Bytes) (h : AllBytes bits) (rf : Nat) (hrf : rf + 8 ≤ bits.length) :
    leU64At bits rf = ofLE bits / 2^(8 * rf) % 2^64 := by
  unfold leU64At
  rw [ofLE_take _ (allBytes_drop bits h rf) 8 (by rw [List.length_drop]; omega),
    ofLE_drop bits h rf (by omega), pow256_eq_two_pow]

theorem extractBits_eq (bits : Bytes) (h : AllBytes bits) (s c rf : Nat) (hrf : rf + 8 ≤ bits.length)
    (h1 : 8 * rf ≤ s) (h2 : s + c ≤ 8 * rf + 64) (hc : c ≤ 63) :
    extractBits bits s c rf = ofLE bits / 2^s % 2^c := by
  unfold extractBits
  have hne : ¬ c = 64 := by omega
  simp only [hne, ↓reduceIte]
  rw [leU64At_eq bits h rf hrf, Nat.mul_comm rf 8]
  generalize ofLE bits = X
  -- (X / 2^(8rf) % 2^64) / 2^k % 2^c  with k = s - 8rf, k + c ≤ 64
  have hk : s = 8 * rf + (s - 8 * rf) := by omega
  generalize s - 8 * rf = k at hk
  subst hk
  have h64 : (2:Nat)^64 = 2^k * 2^(64 - k) := by rw [← Nat.pow_add]; congr 1; omega
  rw [h64, Nat.mod_mul_right_div_self, Nat.pow_add, Nat.div_div_eq_div_mul]
  apply Nat.mod_mod_of_dvd
  exact Nat.pow_dvd_pow 2 (by omega)

theorem readNumber_eq (bits : Bytes) (h : AllBytes bits) (s c : Nat) (hL : 8 ≤ bits.length)
    (hend : s + c ≤ 8 * bits.length) (hc : c ≤ 63) :
    readNumber bits s c = ofLE bits / 2^s % 2^c := by
  unfold readNumber
  by_cases hc0 : c = 0
  · simp [hc0, Nat.mod_one]
  simp only [hc0, ↓reduceIte]
  by_cases hback : s / 8 + 8 > bits.length
  · -- window moved back to the last 8 bytes
    simp only [hback, ↓reduceIte]
    have hfit : s + c ≤ (bits.length - 8 + 8) * 8 := by omega
    simp only [hfit, ↓reduceIte]
    exact extractBits_eq bits h s c (bits.length - 8) (by omega) (by omega) (by omega) hc
  · simp only [hback, ↓reduceIte]
    by_cases hfit : s + c ≤ (s / 8 + 8) * 8
    · simp only [hfit, ↓reduceIte]
      exact extractBits_eq bits h s c (s / 8) (by omega) (by omega) (by omega) hc
    · -- 9-byte straddle: low 8 bits, then the rest from the next byte
      simp only [hfit, ↓reduceIte]
      rw [extractBits_eq bits h s 8 (s / 8) (by omega) (by omega) (by omega) (by omega),
        extractBits_eq bits h (s + 8) (c - 8) (s / 8 + 1) (by omega) (by omega) (by omega) (by omega)]
      generalize ofLE bits = X
      have hc8 : c = 8 + (c - 8) := by omega
      have e : X / 2^(s + 8) = X / 2^s / 2^8 := by rw [Nat.pow_add, Nat.div_div_eq_div_mul]
      rw [e]
      generalize X / 2^s = Y
      have hsplit : Y % 2^c = Y % 2^8 + 2^8 * (Y / 2^8 % 2^(c - 8)) := by
        conv => lhs; rw [hc8, Nat.pow_add]
        exact Nat.mod_mul
      have hlt : Y % 2^c < 2^64 := by
        have : Y % 2^c < 2^c := Nat.mod_lt _ (Nat.pow_pos (by omega))
        exact Nat.lt_of_lt_of_le this (Nat.pow_le_pow_right (by omega) (by omega))
      rw [hsplit] at hlt ⊢
      rw [Nat.mul_comm (Y / 2^8 % 2^(c - 8)), Nat.add_comm, Nat.mod_eq_of_lt hlt]


/-- the `P` windows of `w` bits of `X`, lowest first: what `Proof::read` reads of the packed number -/
def unpackNat (w P X : Nat) : List Nat := (List.range P).map fun i => X / 2^(i * w) % 2^w

theorem unpackNat_succ (w P X : Nat) : unpackNat w (P + 1) X = X % 2^w :: unpackNat w P (X / 2^w) := by
  rw [unpackNat, List.range_succ_eq_map, List.map_cons, List.map_map, Nat.zero_mul, Nat.pow_zero, Nat.div_one]
  congr 1
  apply List.map_congr_left
  intro i _
  simp only [Function.comp, Nat.succ_eq_add_one]
  rw [Nat.add_mul, Nat.one_mul, Nat.add_comm, Nat.pow_add, Nat.div_div_eq_div_mul]

theorem unpackNat_lt (w P X : Nat) : ∀ n ∈ unpackNat w P X, n < 2^w := by
  intro n hn
  obtain ⟨i, _, rfl⟩ := List.mem_map.mp hn
  exact Nat.mod_lt _ (Nat.pow_pos (by omega))

theorem packNat_extract (w : Nat) (ns : List Nat) (h : ∀ n ∈ ns, n < 2^w) :
    unpackNat w ns.length (packNat w ns) = ns := by
  induction ns with
  | nil => rfl
  | cons n r ih =>
    have hn : n < 2^w := h n (by simp)
    rw [List.length_cons, unpackNat_succ, packNat, Nat.add_mul_mod_self_left, Nat.mod_eq_of_lt hn,
      Nat.add_mul_div_left _ _ (Nat.pow_pos (by omega)), Nat.div_eq_of_lt hn, Nat.zero_add,
      ih fun m hm => h m (by simp [hm])]

theorem readNonces_eq (bits : Bytes) (hall : AllBytes bits) (P w : Nat) (hw : w ≤ 63)
    (hlen : bits.length = packLen P w) (h8 : 8 ≤ packLen P w) :
    (List.range P).map (fun n => readNumber bits (n * w) w) = unpackNat w P (ofLE bits) := by
  have hL : packLen P w = (w * P + 7) / 8 := rfl
  apply List.map_congr_left
  intro i hi
  have hle : (i + 1) * w ≤ P * w := Nat.mul_le_mul_right w (List.mem_range.mp hi)
  rw [Nat.add_mul, Nat.one_mul, Nat.mul_comm P] at hle
  exact readNumber_eq bits hall (i * w) w (by omega) (by omega) hw

theorem readPadding_eq (bits : Bytes) (hall : AllBytes bits) (P w : Nat) (hw : w ≤ 63)
    (hlen : bits.length = packLen P w) (h8 : 8 ≤ packLen P w) :
    readNumber bits (P * w) (packLen P w * 8 - P * w) = ofLE bits / 2^(P * w) := by
  have hL : packLen P w = (w * P + 7) / 8 := rfl
  have hXlt := ofLE_lt bits hall
  rw [hlen, pow256_eq_two_pow] at hXlt
  rw [readNumber_eq bits hall _ _ (by omega) (by rw [hlen, hL, Nat.mul_comm P w]; omega)
    (by rw [hL, Nat.mul_comm P w]; omega)]
  generalize ofLE bits = X at hXlt ⊢
  generalize hB : P * w = B
  rw [hL, Nat.mul_comm w P, hB] at hXlt ⊢
  have hsplit : (2:Nat)^(8 * ((B + 7) / 8)) = 2^B * 2^((B + 7) / 8 * 8 - B) := by
    rw [← Nat.pow_add]; congr 1; omega
  apply Nat.mod_eq_of_lt
  rw [Nat.div_lt_iff_lt_mul (Nat.pow_pos (by omega)), Nat.mul_comm, ← hsplit]
  exact hXlt

theorem decProof_enc (c : Cfg) (p : Proof) (h : p.WF c.proofSize) (rest : Bytes) :
    decProof c (encProof c.proofSize .full p ++ rest) = .ok (p, rest) := by
  obtain ⟨w, ns⟩ := p
  obtain ⟨hw1, hw, hlen, hns, hpl8, hcap⟩ := h
  simp only at hw1 hw hlen hns hpl8 hcap
  have hpk := packBits_eq w c.proofSize hw ns hlen hns
  have hNlt := packNat_lt w ns hns
  rw [hlen] at hNlt
  have hx := packNat_extract w ns hns
  rw [hlen] at hx
  generalize packNat w ns = N at hpk hNlt hx
  have hll := leBytes_length (packLen c.proofSize w) N
  have hall := leBytes_lt (packLen c.proofSize w) N
  have hof : ofLE (leBytes (packLen c.proofSize w) N) = N := by
    rw [ofLE_leBytes, Nat.mod_eq_of_lt]
    rw [pow256_eq_two_pow]
    exact Nat.lt_of_lt_of_le hNlt (Nat.pow_le_pow_right (by omega) (by unfold packLen; omega))
  have hrf := readFixed_write _ _ hll hcap rest
  have hnonces := readNonces_eq _ hall c.proofSize w hw hll hpl8
  have hpad := readPadding_eq _ hall c.proofSize w hw hll hpl8
  rw [hof] at hnonces hpad
  rw [hx] at hnonces
  rw [Nat.mul_comm c.proofSize w, Nat.div_eq_of_lt hNlt, Nat.mul_comm w] at hpad
  have h1 : ¬ (w = 0 ∨ w > 63) := by omega
  have h2 : ¬ packLen c.proofSize w < 8 := by omega
  rw [decProof, encProof]
  simp only [reduceCtorEq, ↓reduceIte, Proof.packNonces, writeU8, List.cons_append, List.nil_append,
    readU8, andThen_ok, h1, h2, hpk, writeFixed] at hrf ⊢
  simp only [hrf, andThen_ok, hnonces, hpad, ne_eq, not_true_eq_false, ↓reduceIte]

theorem packNat_windows (w : Nat) (P : Nat) (X : Nat) : packNat w (unpackNat w P X) = X % 2^(P * w) := by
  induction P generalizing X with
  | zero => simp [unpackNat, packNat, Nat.mod_one]
  | succ P ih =>
    rw [unpackNat_succ, packNat, ih, Nat.add_mul, Nat.one_mul, Nat.add_comm (P * w), Nat.pow_add]
    exact Nat.mod_mul.symm

theorem decProof_inv {c : Cfg} {bs : Bytes} {p : Proof} {r : Bytes} (hb : AllBytes bs)
    (h : decProof c bs = .ok (p, r)) : bs = encProof c.proofSize .full p ++ r ∧ p.WF c.proofSize := by
  rw [decProof] at h
  obtain ⟨eb, r1, rfl, -, hb1, h⟩ := andThen_canon readU8_inv hb h
  split at h
  · cases h
  rename_i heb
  split at h
  · cases h
  rename_i hl8
  obtain ⟨bits, r2, h2, h⟩ := andThen_inv h
  simp only at h
  split at h
  · cases h
  rename_i hpad
  obtain ⟨rfl, rfl⟩ := Prod.mk.inj (Except.ok.inj h)
  obtain ⟨rfl, l2⟩ := readFixed_ok h2
  have hcap : packLen c.proofSize eb ≤ MAX_FIXED_READ := by
    rcases Nat.lt_or_ge MAX_FIXED_READ (packLen c.proofSize eb) with hgt | hle
    · rw [readFixed_tooLarge _ hgt] at h2; cases h2
    · exact hle
  have hbits : AllBytes bits := (allBytes_append hb1).1
  have heb63 : eb ≤ 63 := by omega
  have hnon := readNonces_eq bits hbits c.proofSize eb heb63 l2 (by omega)
  -- zero padding: the packed number fits in P·w bits
  have hXsmall : ofLE bits < 2^(c.proofSize * eb) := by
    rw [readPadding_eq bits hbits c.proofSize eb heb63 l2 (by omega)] at hpad
    exact (Nat.div_eq_zero_iff_lt (Nat.pow_pos (by omega))).mp (by simpa using hpad)
  have hwf : ({ edgeBits := eb, nonces := (List.range c.proofSize).map fun n => readNumber bits (n * eb) eb } : Proof).WF c.proofSize := by
    refine ⟨(show 1 ≤ eb by omega), heb63, by simp, ?_, (show 8 ≤ packLen c.proofSize eb by omega), hcap⟩
    rw [hnon]; exact unpackNat_lt _ _ _
  refine ⟨?_, hwf⟩
  -- re-packing gives the same bytes
  have hpk : packBits eb (unpackNat eb c.proofSize (ofLE bits)) (packLen c.proofSize eb) = bits := by
    rw [packBits_eq eb c.proofSize heb63 _ (by simp [unpackNat]) (unpackNat_lt _ _ _), packNat_windows,
      Nat.mod_eq_of_lt hXsmall, ← l2, leBytes_ofLE bits hbits]
  simp only [encProof, reduceCtorEq, ↓reduceIte, Proof.packNonces, hnon, hpk, List.append_assoc]

theorem codec_proof (c : Cfg) : Whole True (decProof c) (encProof c.proofSize .full) (Proof.WF c.proofSize) :=
  .of_rt_inv (decProof_enc c) decProof_inv

end GV.Ser
