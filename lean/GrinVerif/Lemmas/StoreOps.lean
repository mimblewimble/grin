import GrinVerif.Lemmas.StoreSynced
/-! `push` and `rewind` against the reference (C08 history): `PMMR::push` over a backend that
satisfies the in-unit invariant computes the reference hashes (it only reads left siblings whose
parent is outside the MMR, which are never compacted); `rewind` to an earlier boundary at or
above every pruned root truncates both files to the layout of the smaller MMR.  No Mathlib. -/
namespace GV.Store
open GV GV.Pmmr GV.Pmmr.Co

theorem refHash_leaf {H : Type} (hf : HashFn Bytes H) (f : Nat → Bytes) (n : Nat) :
    refHash hf f (mmr n) = hf.leaf (mmr n) (f n) := hashAt_co hf f (Nat.zero_le _)

theorem refHash_parent {H : Type} (hf : HashFn Bytes H) (f : Nat → Bytes) {n g : Nat}
    (hg : g < trailingOnes n) :
    refHash hf f (mmr n + g + 1) =
      hf.node (mmr n + g + 1) (refHash hf f (mmr n + g + 1 - 2 * 2 ^ g)) (refHash hf f (mmr n + g)) :=
  hashAt_node hf f (height_co n (g + 1) hg)

theorem emitted_eq_ref {H : Type} (hf : HashFn Bytes H) (f : Nat → Bytes) (N : Nat) :
    emitted hf f N = (List.range' (mmr N) (trailingOnes N + 1)).map (refHash hf f) :=
  emitted_eq_map_hashAt hf f N

/-- the loop of `push` in coordinates, for any hashes `ref` obeying the node law along the climb -/
theorem pushLoopB_climb {H : Type} (hf : HashFn Bytes H) (getPeak : Nat → Option H) (ref : Nat → H)
    (N : Nat)
    (hnode : ∀ g, g < trailingOnes N → ref (mmr N + g + 1) =
      hf.node (mmr N + g + 1) (ref (mmr N + g + 1 - 2 * 2 ^ g)) (ref (mmr N + g)))
    (hread : ∀ g, g < trailingOnes N →
      getPeak (mmr N + g + 1 - 2 * 2 ^ g) = some (ref (mmr N + g + 1 - 2 * 2 ^ g))) :
    ∀ (m g fuel : Nat) (acc : List H), g + m = trailingOnes N → m < fuel →
      pushLoopB hf getPeak N fuel g (mmr N + g) (ref (mmr N + g)) acc =
        some (acc ++ (List.range' (mmr N + g + 1) m).map ref) := by
  intro m
  induction m with
  | zero =>
    intro g fuel acc hm hfu
    obtain ⟨f', rfl⟩ : ∃ f', fuel = f' + 1 := ⟨fuel - 1, by omega⟩
    have hbit : bitSet N g = false := by
      rw [bitSet_coord (by omega : g ≤ trailingOnes N)]; exact decide_eq_false (by omega)
    simp [pushLoopB, hbit]
  | succ m ih =>
    intro g fuel acc hm hfu
    obtain ⟨f', rfl⟩ : ∃ f', fuel = f' + 1 := ⟨fuel - 1, by omega⟩
    have hg : g < trailingOnes N := by omega
    have hbit : bitSet N g = true := by
      rw [bitSet_coord (Nat.le_of_lt hg)]; exact decide_eq_true hg
    rw [pushLoopB]
    simp only [hbit, if_true, hread g hg, ← hnode g hg]
    rw [show mmr N + g + 1 = mmr N + (g + 1) from rfl, ih (g + 1) f' _ (by omega) (by omega),
      List.range'_succ, List.map_cons, List.append_assoc]
    rfl

theorem trailingOnes_lt_of_bound {N : Nat} (h : mmr N + 64 < 2 ^ 64) : trailingOnes N < 65 :=
  trailingOnes_lt_of_lt (by have := le_mmr N; omega)

/-- beyond every root nothing is compacted -/
theorem layout_add {bm : Bitmap} {size : Nat} (hroots : ∀ x ∈ bm, x ≤ size) (k : Nat) :
    layout bm (size + k) = layout bm size ++ List.range' size k := by
  unfold layout
  rw [range_add', List.filter_append]
  congr 1
  rw [List.filter_eq_self]
  intro q hq
  simp [not_compacted_of_ge hroots (Nat.le_succ_of_le (List.mem_range'_1.1 hq).1)]

theorem dataLayout_succ {bm : Bitmap} {N : Nat} (hroots : ∀ x ∈ bm, x ≤ mmr N) :
    dataLayout bm (mmr (N + 1)) = dataLayout bm (mmr N) ++ [mmr N] := by
  unfold dataLayout
  rw [show mmr (N + 1) = mmr N + (trailingOnes N + 1) by rw [mmr_succ]; omega, range_add',
    List.filter_append, List.range'_succ, List.filter_cons]
  have h0 : (isLeaf (mmr N) && !compactedP bm (mmr N)) = true := by
    simp [isLeaf, height_mmr N, not_compacted_of_ge hroots (Nat.le_succ _)]
  rw [if_pos h0]
  congr 2
  rw [List.filter_eq_nil_iff]
  intro q hq
  obtain ⟨hq1, hq2⟩ := List.mem_range'_1.1 hq
  obtain ⟨g, rfl⟩ : ∃ g, q = mmr N + g := ⟨q - mmr N, by omega⟩
  rw [isLeaf_co (by omega), beq_false_of_ne (by omega)]
  exact Bool.false_ne_true

/-- the left siblings `push` reads: inside the MMR, never compacted -/
theorem left_sibling_ok {bm : Bitmap} {N : Nat} (hroots : ∀ x ∈ bm, x ≤ mmr N) {i : Nat}
    (hi : i < trailingOnes N) :
    mmr N + i + 1 - 2 * 2 ^ i < mmr N ∧ compactedP bm (mmr N + i + 1 - 2 * 2 ^ i) = false := by
  obtain ⟨e, l1, l2, hfam⟩ := left_sibling_geom hi
  have hp := Nat.two_pow_pos i
  rw [e]
  refine ⟨(coord_lt_iff l1).2 (by omega), not_compacted_of_parent_ge fun x hx => ?_⟩
  have := hroots x hx
  omega

namespace Live
variable {H : Type} {N : Nat} {df : AOF Bytes}

/-- what `push` of leaf `N` did to a store `p` that satisfied the in-unit invariant for `N` leaves -/
structure Pushed {H : Type} (hf : HashFn Bytes H) (f : Nat → Bytes) (p : PM H) (N : Nat)
    (df : AOF Bytes) (b' : Backend H) : Prop where
  push : PM.push hf p (f N) = some { b := b', size := mmr (N + 1) }
  append : p.b.append (f N) (emitted hf f N) = some b'
  live : Live b' (N + 1) (refHash hf f) (refData f) (df.append (f N))
  leafSet : b'.leafSet.bitmap = Bm.add p.b.leafSet.bitmap (1 + mmr N)
  pruneList : b'.pruneList = p.b.pruneList

theorem push {hf : HashFn Bytes H} {f : Nat → Bytes} {p : PM H}
    (h : Live p.b N (refHash hf f) (refData f) df) (hsz : p.size = mmr N)
    (hb : mmr (N + 1) + 64 < 2 ^ 64) : ∃ b', Pushed hf f p N df b' := by
  obtain ⟨b, sz⟩ := p
  simp only at h hsz ⊢
  subst hsz
  -- every left sibling read is a position the file keeps
  have hph : pushHashes hf b.getPeakFromFile (mmr N) (f N) = some (emitted hf f N) := by
    unfold pushHashes
    simp only [peakMapHeight_leaf, ne_eq, not_true_eq_false, if_false]
    have := pushLoopB_climb hf b.getPeakFromFile (refHash hf f) N (fun g hg => refHash_parent hf f hg)
      (fun g hg => (h.read_hash _ (left_sibling_ok h.roots hg).1 (left_sibling_ok h.roots hg).2).1)
      (trailingOnes N) 0 65 [refHash hf f (mmr N)] (by omega) (trailingOnes_lt_of_bound h.bound)
    rw [Nat.add_zero, refHash_leaf] at this
    rw [this, emitted_eq_ref, List.range'_succ, List.map_cons, refHash_leaf]
    rfl
  have hlen : (emitted hf f N).length = trailingOnes N + 1 := by simp [emitted]
  have hsz : mmr N + (emitted hf f N).length = mmr (N + 1) := by rw [hlen, mmr_succ]; omega
  have hpos : insertionToPmmrIndex ((df.append (f N)).sizeUnsyncInElmts + b.pruneList.getTotalLeafShift - 1)
      = mmr N := by
    obtain ⟨w, v⟩ := AOF.wf_append h.dataWF (f N)
    rw [← AOF.view_length w, v, List.length_append, h.dataLay, List.length_map]
    have := dataLayout_length h.inv h.roots
    unfold insertionToPmmrIndex
    congr 1
    simp only [List.length_singleton]
    omega
  refine ⟨{ b with dataFile := .fixed (df.append (f N)), hashFile := b.hashFile.extend (emitted hf f N),
                   leafSet := b.leafSet.add (mmr N) }, ?_, ?_, ?_, rfl, rfl⟩
  · unfold PM.push
    simp only [hph]
    unfold Backend.append
    simp only [h.data, DFile.append, hpos, hsz]
  · unfold Backend.append
    simp only [h.data, DFile.append, hpos]
  · -- the invariant for `N + 1` leaves
    have hmm : mmr (N + 1) = mmr N + (trailingOnes N + 1) := by rw [mmr_succ]; omega
    obtain ⟨w1, v1⟩ := AOF.wf_extend h.hashWF (emitted hf f N)
    obtain ⟨w2, v2⟩ := AOF.wf_append h.dataWF (f N)
    refine ⟨h.inv, w1, ?_, rfl, w2, ?_, sorted_add h.lsSorted, ?_, ?_, ?_, hb, h.pruneFile⟩
    · show (b.hashFile.extend (emitted hf f N)).view = _
      rw [v1, h.hashLay, hmm, layout_add h.roots, List.map_append, emitted_eq_ref]
    · rw [v2, h.dataLay, dataLayout_succ h.roots, List.map_append]
      simp [refData, peakMapHeight_leaf]
    · intro x hx
      rcases mem_add.1 hx with rfl | hx
      · refine ⟨by omega, by omega, ?_⟩
        rw [Nat.add_sub_cancel_left]; exact height_mmr N
      · obtain ⟨a1, a2, a3⟩ := h.lsLeaf x hx
        exact ⟨a1, by omega, a3⟩
    · intro x hx
      rcases mem_add.1 hx with rfl | hx
      · rw [Nat.add_sub_cancel_left]
        rintro ⟨r, hr, hs⟩
        have := h.roots r hr; have := hs.2; have := h.inv.pos r hr
        omega
      · exact h.unpruned x hx
    · intro x hx
      have := h.roots x hx; omega

end Live

theorem rewind_positions_of_inv {H : Type} {b : Backend H} (hinv : b.pruneList.Inv) {N' : Nat}
    (hroots : ∀ x ∈ b.pruneList.bitmap, x ≤ mmr N') :
    mmr N' - (if mmr N' = 0 then 0 else b.pruneList.getShift (mmr N' - 1)) =
      rk (fun x => !compactedP b.pruneList.bitmap x) (mmr N') ∧
    nLeaves (mmr N') - (if mmr N' = 0 then 0 else b.pruneList.getLeafShift (mmr N')) =
      rk (fun x => isLeaf x && !compactedP b.pruneList.bitmap x) (mmr N') := by
  have hnl := Co.nLeaves_mmr N'
  have hsplit := rk_split isLeaf (compactedP b.pruneList.bitmap) (mmr N')
  rw [rk_leaf_mmr] at hsplit
  rw [hnl]
  by_cases h0 : mmr N' = 0
  · rw [h0] at hsplit ⊢
    exact ⟨rfl, by rw [if_pos rfl]; exact hsplit.trans (Nat.zero_add _)⟩
  · obtain ⟨q, hq⟩ : ∃ q, mmr N' = q + 1 := ⟨mmr N' - 1, by omega⟩
    rw [hq] at hsplit ⊢
    have hnc : compactedP b.pruneList.bitmap q = false := not_compacted_of_ge hroots (by omega)
    have i1 := hashIdx_eq hinv q hnc
    have i2 : b.pruneList.getLeafShift (q + 1) =
        rk (fun x => isLeaf x && compactedP b.pruneList.bitmap x) q :=
      Nat.add_comm 1 q ▸ PruneList.getLeafShift_counts hinv q hnc
    have r1 := rk_succ (fun x => !compactedP b.pruneList.bitmap x) q
    have r2 := rk_succ (fun x => isLeaf x && compactedP b.pruneList.bitmap x) q
    simp only [hnc, Bool.not_false, if_true, Bool.and_false, Bool.false_eq_true, if_false,
      Nat.add_zero] at r1 r2
    rw [if_neg (Nat.succ_ne_zero q), if_neg (Nat.succ_ne_zero q), Nat.add_sub_cancel, i2, r1]
    omega


namespace Live
variable {H : Type} {b : Backend H} {N : Nat} {ref : Nat → H} {dref : Nat → Bytes} {df : AOF Bytes}

/-- a further `rewind` inside a unit of work in which nothing has been appended yet (the chain
rewinds block by block: `rewind_single_block` per block, all in one extension) -/
theorem rewind (h : Live b N ref dref df) (hb1 : b.hashFile.buffer = []) (hb2 : df.buffer = [])
    {N' : Nat} (hN : N' ≤ N)
    (hroots : ∀ x ∈ b.pruneList.bitmap, x ≤ mmr N') (rm : Bitmap)
    (hrm : ∀ x ∈ rm, 1 ≤ x ∧ x ≤ mmr N' ∧ height (x - 1) = 0 ∧ ¬ PrunedBy b.pruneList.bitmap (x - 1)) :
    ∃ df', Live (b.rewind (mmr N') rm) N' ref dref df' ∧
      (b.rewind (mmr N') rm).hashFile.buffer = [] ∧ df'.buffer = [] ∧
      (mmr N' - (if mmr N' = 0 then 0 else b.pruneList.getShift (mmr N' - 1)) ≤ b.hashFile.disk.length ∧
       nLeaves (mmr N') - (if mmr N' = 0 then 0 else b.pruneList.getLeafShift (mmr N')) ≤ df.disk.length) ∧
      ∀ x, x ∈ (b.rewind (mmr N') rm).leafSet.bitmap ↔ (x ∈ b.leafSet.bitmap ∧ x ≤ mmr N') ∨ x ∈ rm := by
  obtain ⟨p1, p2⟩ := rewind_positions_of_inv (b := b) h.inv hroots
  have hmono := mmr_le_mmr hN
  have hmem := LeafSet.mem_rewind b.leafSet (mmr N') rm h.lsSorted
  obtain ⟨w1, v1, e1, l1⟩ := AOF.rewind_kept h.hashWF hb1 h.hashLay hmono
  obtain ⟨w2, v2, e2, l2⟩ := AOF.rewind_kept h.dataWF hb2 h.dataLay hmono
  refine ⟨df.rewind (rk (fun x => isLeaf x && !compactedP b.pruneList.bitmap x) (mmr N')), ?_, ?_, e2, ?_, hmem⟩
  · refine ⟨h.inv, ?_, ?_, ?_, w2, ?_, ?_, ?_, ?_, hroots, by have := h.bound; omega, h.pruneFile⟩
    · show (b.hashFile.rewind _).WF
      rw [p1]; exact w1
    · show (b.hashFile.rewind _).view = _
      rw [p1]; exact v1
    · show b.dataFile.rewind _ = _
      rw [p2, h.data]; rfl
    · exact v2
    · exact sorted_or (sorted_removeRange h.lsSorted _ _)
    · intro x hx
      rcases (hmem x).1 hx with ⟨hx1, hx2⟩ | hx1
      · obtain ⟨a1, _, a3⟩ := h.lsLeaf x hx1
        exact ⟨a1, hx2, a3⟩
      · obtain ⟨a1, a2, a3, _⟩ := hrm x hx1
        exact ⟨a1, a2, a3⟩
    · intro x hx
      rcases (hmem x).1 hx with ⟨hx1, _⟩ | hx1
      · exact h.unpruned x hx1
      · exact (hrm x hx1).2.2.2
  · show (b.hashFile.rewind _).buffer = []
    rw [p1]; exact e1
  · rw [p1, p2]
    exact ⟨l1, l2⟩

end Live

namespace Synced
variable {H : Type} {b : Backend H} {N : Nat} {ref : Nat → H} {dref : Nat → Bytes} {df : AOF Bytes}

theorem rewind (h : Synced b N ref dref df) {N' : Nat} (hN : N' ≤ N)
    (hroots : ∀ x ∈ b.pruneList.bitmap, x ≤ mmr N') (rm : Bitmap)
    (hrm : ∀ x ∈ rm, 1 ≤ x ∧ x ≤ mmr N' ∧ height (x - 1) = 0 ∧ ¬ PrunedBy b.pruneList.bitmap (x - 1)) :
    ∃ df', Live (b.rewind (mmr N') rm) N' ref dref df' ∧
      (Backend.Op.rewind (mmr N') rm).Within b df ∧
      ∀ x, x ∈ (b.rewind (mmr N') rm).leafSet.bitmap ↔ (x ∈ b.leafSet.bitmap ∧ x ≤ mmr N') ∨ x ∈ rm := by
  obtain ⟨df', hl, _, _, hw, hmem⟩ :=
    h.live.rewind h.hashClean.1 h.dataClean.1 hN hroots rm hrm
  exact ⟨df', hl, hw, hmem⟩

end Synced
end GV.Store
