import GrinVerif.Model.Cons
import GrinVerif.Lemmas.BasicWrap
/-! Arithmetic of the retarget (property C04): values of / relations between the regenerated consensus
constants (closed by `decide`, so a changed constant re-runs them), facts about `damp`, `clamp`, the
window padding and the wrapping helpers, and the normal forms of `secondaryPowScaling`,
`nextDmaDifficulty`, `nextWtemaDifficulty`: for every input on which it does not panic each is one closed
arithmetic expression, from which the bounds in `Props/C04.lean` are read off; the wrapping difference of
two `as u64` timestamps is their true signed distance (`span_signed`). -/
namespace GV.Cons
open GV GV.Gen

theorem BLOCK_TIME_SEC_pos : 0 < BLOCK_TIME_SEC := by decide
theorem DMA_WINDOW_pos : 0 < DMA_WINDOW := by decide
theorem CLAMP_FACTOR_pos : 1 ≤ CLAMP_FACTOR := by decide
theorem DMA_DAMP_FACTOR_pos : 1 ≤ DMA_DAMP_FACTOR := by decide
theorem AR_SCALE_DAMP_FACTOR_pos : 1 ≤ AR_SCALE_DAMP_FACTOR := by decide
theorem MIN_DMA_DIFFICULTY_pos : 1 ≤ MIN_DMA_DIFFICULTY := by decide
theorem MIN_AR_SCALE_pos : 1 ≤ MIN_AR_SCALE := by decide
theorem BTW_div_clamp_pos : 1 ≤ BLOCK_TIME_WINDOW / CLAMP_FACTOR := by decide
theorem BTW_mul_clamp_lt : BLOCK_TIME_WINDOW * CLAMP_FACTOR < 2^64 := by decide
theorem damp_goal_lt : (DMA_DAMP_FACTOR - 1) * BLOCK_TIME_WINDOW < 2^64 := by decide
theorem WTEMA_gt_BTS : BLOCK_TIME_SEC < WTEMA_HALF_LIFE := by decide
theorem WTEMA_lt : WTEMA_HALF_LIFE < 2^64 := by decide
theorem hf_interval_pos : 0 < HARD_FORK_INTERVAL := by decide
theorem testing_hf_interval_pos : 0 < TESTING_HARD_FORK_INTERVAL := by decide
theorem testnet_hf_order :
    TESTNET_FIRST_HARD_FORK < TESTNET_SECOND_HARD_FORK ∧
    TESTNET_SECOND_HARD_FORK < TESTNET_THIRD_HARD_FORK ∧
    TESTNET_THIRD_HARD_FORK < TESTNET_FOURTH_HARD_FORK := by decide
theorem testnet_fourth_ge : 2 ≤ TESTNET_FOURTH_HARD_FORK := by decide

/-! ### current values: a changed constant breaks these `decide`s (and the bounds proved from those of them
that are used), which is the intended alarm -/

theorem BLOCK_TIME_SEC_val : BLOCK_TIME_SEC = 60 := by decide
theorem DMA_WINDOW_val : DMA_WINDOW = 60 := by decide
theorem BLOCK_TIME_WINDOW_val : BLOCK_TIME_WINDOW = 3600 := by decide
theorem CLAMP_FACTOR_val : CLAMP_FACTOR = 2 := by decide
theorem DMA_DAMP_FACTOR_val : DMA_DAMP_FACTOR = 3 := by decide
theorem AR_SCALE_DAMP_FACTOR_val : AR_SCALE_DAMP_FACTOR = 13 := by decide
theorem MIN_DMA_DIFFICULTY_val : MIN_DMA_DIFFICULTY = 3 := by decide
theorem MIN_AR_SCALE_val : MIN_AR_SCALE = 13 := by decide
theorem WTEMA_HALF_LIFE_val : WTEMA_HALF_LIFE = 14400 := by decide
theorem YEAR_HEIGHT_val : YEAR_HEIGHT = 524160 := by decide
theorem WEEK_HEIGHT_val : WEEK_HEIGHT = 10080 := by decide
theorem HARD_FORK_INTERVAL_val : HARD_FORK_INTERVAL = 262080 := by decide
theorem TESTING_HARD_FORK_INTERVAL_val : TESTING_HARD_FORK_INTERVAL = 3 := by decide

theorem addW_lt (a b : Nat) : addW a b < 2^64 := GV.addW_lt a b

theorem mulW_lt (a b : Nat) : mulW a b < 2^64 := GV.mulW_lt a b

theorem subW_lt (a b : Nat) : subW a b < 2^64 := GV.subW_lt a b

theorem damp_some {a g f : Nat} (hf : f ≠ 0) :
    damp a g f = some (addW a (mulW (subW f 1) g) / f) := by
  simp [damp, hf]

theorem clamp_some {a g f : Nat} (hf : f ≠ 0) :
    clamp a g f = some (max (g / f) (min a (mulW g f))) := by
  simp [clamp, hf]

theorem clamp_bounds {a g f r : Nat} (h : clamp a g f = some r) :
    g / f ≤ r ∧ r ≤ max (g / f) (mulW g f) := by
  by_cases hf : f = 0
  · simp [clamp, hf] at h
  · rw [clamp_some hf] at h
    injection h with h
    subst h
    omega

theorem clamp_mono {a a' g f r r' : Nat} (haa : a ≤ a') (h : clamp a g f = some r)
    (h' : clamp a' g f = some r') : r ≤ r' := by
  by_cases hf : f = 0
  · simp [clamp, hf] at h
  · rw [clamp_some hf] at h h'
    injection h with h; injection h' with h'
    subst h; subst h'
    omega

theorem padWindow_length (ct : ChainType) (delta diff k ts : Nat) :
    (padWindow ct delta diff k ts).length = k := by
  induction k generalizing ts with
  | zero => simp [padWindow]
  | succ k ih => simp [padWindow, ih]

theorem padWindow_diff (ct : ChainType) (delta diff k ts : Nat) :
    ∀ e ∈ padWindow ct delta diff k ts, e.diff = diff ∧ e.isSec = true ∧ e.scaling = initialGraphWeight ct := by
  induction k generalizing ts with
  | zero => simp [padWindow]
  | succ k ih =>
    intro e he
    simp only [padWindow, List.mem_cons] at he
    rcases he with rfl | he
    · simp
    · exact ih _ e he

theorem difficultyDataToVector_length (ct : ChainType) (cursor : List HDI) (hne : cursor ≠ []) :
    ∃ data, difficultyDataToVector ct cursor = some data ∧ data.length = DMA_WINDOW + 1 := by
  unfold difficultyDataToVector
  simp only
  by_cases hlt : DMA_WINDOW + 1 > (cursor.take (DMA_WINDOW + 1)).length
  · rw [if_pos hlt]
    cases hc : cursor.take (DMA_WINDOW + 1) with
    | nil =>
      cases cursor with
      | nil => exact absurd rfl hne
      | cons a t => simp [List.take] at hc
    | cons h0 rest =>
      refine ⟨_, rfl, ?_⟩
      rw [hc] at hlt
      simp only [List.length_reverse, List.length_append, padWindow_length, List.length_cons] at hlt ⊢
      omega
  · rw [if_neg hlt]
    refine ⟨_, rfl, ?_⟩
    have := List.length_take_le (DMA_WINDOW + 1) cursor
    simp only [List.length_reverse]
    omega

theorem difficultyDataToVector_some_length {ct : ChainType} {cursor data : List HDI}
    (h : difficultyDataToVector ct cursor = some data) : data.length = DMA_WINDOW + 1 := by
  cases cursor with
  | nil => simp [difficultyDataToVector] at h
  | cons a r =>
    obtain ⟨d, hd, hl⟩ := difficultyDataToVector_length ct (a :: r) (List.cons_ne_nil _ _)
    rw [hd] at h
    cases h
    exact hl

theorem difficultyDataToVector_full (ct : ChainType) (cursor : List HDI)
    (h : DMA_WINDOW + 1 ≤ cursor.length) :
    difficultyDataToVector ct cursor = some (cursor.take (DMA_WINDOW + 1)).reverse := by
  unfold difficultyDataToVector
  simp only
  have : (cursor.take (DMA_WINDOW + 1)).length = DMA_WINDOW + 1 := by
    rw [List.length_take]; omega
  rw [if_neg (by omega)]

theorem hfVersion_ge5 {h i : Nat} (hi : 0 < i) (hv : 5 ≤ hfVersion h i) : 4 * i ≤ h := by
  unfold hfVersion at hv
  have h1 : 5 ≤ (1 + h / i) % 2^16 := by omega
  have h2 : (1 + h / i) % 2^16 ≤ 1 + h / i := Nat.mod_le _ _
  have h3 : 4 ≤ h / i := by omega
  have := (Nat.le_div_iff_mul_le hi).mp h3
  omega

/-- the clamped, damped time span used by the DMA retarget:
`clamp(damp(ts_delta, BLOCK_TIME_WINDOW, DMA_DAMP_FACTOR), BLOCK_TIME_WINDOW, CLAMP_FACTOR)` -/
def dmaAdjTs (tsDelta : Nat) : Nat :=
  max (BLOCK_TIME_WINDOW / CLAMP_FACTOR)
    (min (addW tsDelta (mulW (subW DMA_DAMP_FACTOR 1) BLOCK_TIME_WINDOW) / DMA_DAMP_FACTOR)
      (mulW BLOCK_TIME_WINDOW CLAMP_FACTOR))

theorem dmaAdjTs_val (d : Nat) : dmaAdjTs d = max 1800 (min (addW d 7200 / 3) 7200) := by
  unfold dmaAdjTs
  have e1 : mulW (subW DMA_DAMP_FACTOR 1) BLOCK_TIME_WINDOW = 7200 := by decide
  have e2 : mulW BLOCK_TIME_WINDOW CLAMP_FACTOR = 7200 := by decide
  have e3 : BLOCK_TIME_WINDOW / CLAMP_FACTOR = 1800 := by decide
  rw [e1, e2, e3, DMA_DAMP_FACTOR_val]

theorem dmaAdjTs_bounds (d : Nat) :
    BLOCK_TIME_WINDOW / CLAMP_FACTOR ≤ dmaAdjTs d ∧ dmaAdjTs d ≤ BLOCK_TIME_WINDOW * CLAMP_FACTOR := by
  rw [dmaAdjTs_val, BLOCK_TIME_WINDOW_val, CLAMP_FACTOR_val]
  omega

theorem dmaAdjTs_pos (d : Nat) : 0 < dmaAdjTs d := by
  rw [dmaAdjTs_val]; omega

theorem dmaAdjTs_lower_nowrap (d : Nat) (h : d + (DMA_DAMP_FACTOR - 1) * BLOCK_TIME_WINDOW < 2^64) :
    (DMA_DAMP_FACTOR - 1) * BLOCK_TIME_WINDOW / DMA_DAMP_FACTOR ≤ dmaAdjTs d := by
  rw [dmaAdjTs_val]
  rw [DMA_DAMP_FACTOR_val, BLOCK_TIME_WINDOW_val] at *
  rw [addW_eq (by omega)]
  omega

theorem dmaAdjTs_mono {d d' : Nat} (hdd : d ≤ d')
    (h : d' + (DMA_DAMP_FACTOR - 1) * BLOCK_TIME_WINDOW < 2^64) : dmaAdjTs d ≤ dmaAdjTs d' := by
  rw [dmaAdjTs_val, dmaAdjTs_val]
  rw [DMA_DAMP_FACTOR_val, BLOCK_TIME_WINDOW_val] at h
  rw [addW_eq (by omega), addW_eq (by omega)]
  omega

/-- the DMA result as a function of the window's time span and difficulty sum -/
def dmaDiff (tsDelta diffSum : Nat) : Nat :=
  fromNum (max MIN_DMA_DIFFICULTY (mulW diffSum BLOCK_TIME_SEC / dmaAdjTs tsDelta))

theorem dmaDiff_eq (d s : Nat) :
    dmaDiff d s = max MIN_DMA_DIFFICULTY (mulW s BLOCK_TIME_SEC / dmaAdjTs d) := by
  have := MIN_DMA_DIFFICULTY_pos
  unfold dmaDiff fromNum
  omega

theorem dmaDiff_le {d s b : Nat} (hb : 0 < b) (h : b ≤ dmaAdjTs d) :
    dmaDiff d s ≤ max MIN_DMA_DIFFICULTY (mulW s BLOCK_TIME_SEC / b) := by
  have := Nat.div_le_div_left (a := mulW s BLOCK_TIME_SEC) h hb
  rw [dmaDiff_eq]
  omega

theorem le_dmaDiff {d s b : Nat} (h : dmaAdjTs d ≤ b) : mulW s BLOCK_TIME_SEC / b ≤ dmaDiff d s := by
  have := Nat.div_le_div_left (a := mulW s BLOCK_TIME_SEC) h (dmaAdjTs_pos d)
  rw [dmaDiff_eq]
  omega

/-- the clamped, damped secondary count used by `secondary_pow_scaling` -/
def arAdjCount (height : Nat) (data : List HDI) : Nat :=
  let targetCount := mulW DMA_WINDOW (secondaryPowRatio height)
  max (targetCount / CLAMP_FACTOR)
    (min (addW (arCount data) (mulW (subW AR_SCALE_DAMP_FACTOR 1) targetCount) / AR_SCALE_DAMP_FACTOR)
      (mulW targetCount CLAMP_FACTOR))

/-- the untruncated scale `scale_sum * target_pct / max(1, adj_count)` -/
def arScale (height : Nat) (data : List HDI) : Nat :=
  mulW (sumW (data.map (·.scaling))) (secondaryPowRatio height) / max 1 (arAdjCount height data)

theorem secondaryPowScaling_eq (height : Nat) (data : List HDI) :
    secondaryPowScaling height data = some (max MIN_AR_SCALE (arScale height data) % 2^32) := by
  unfold secondaryPowScaling
  have h1 : AR_SCALE_DAMP_FACTOR ≠ 0 := by decide
  have h2 : CLAMP_FACTOR ≠ 0 := by decide
  simp only [damp_some h1, clamp_some h2, arAdjCount, arScale]

theorem nextDmaDifficulty_eq (ct : ChainType) (height : Nat) (cursor : List HDI) (hne : cursor ≠ []) :
    ∃ data hi lo, difficultyDataToVector ct cursor = some data ∧ data.length = DMA_WINDOW + 1 ∧
      data[DMA_WINDOW]? = some hi ∧ data[0]? = some lo ∧
      nextDmaDifficulty ct height cursor = some
        { ts := 1
          diff := dmaDiff (subW hi.ts lo.ts) (sumW ((data.drop 1).map (·.diff)))
          scaling := max MIN_AR_SCALE (arScale height (data.drop 1)) % 2^32
          isSec := true } := by
  obtain ⟨data, hd, hl⟩ := difficultyDataToVector_length ct cursor hne
  have hw : DMA_WINDOW < data.length := by omega
  have h0 : 0 < data.length := by omega
  refine ⟨data, data[DMA_WINDOW], data[0], hd, hl, List.getElem?_eq_getElem hw,
    List.getElem?_eq_getElem h0, ?_⟩
  unfold nextDmaDifficulty
  rw [hd]
  simp only [secondaryPowScaling_eq]
  rw [List.getElem?_eq_getElem hw, List.getElem?_eq_getElem h0]
  have h1 : DMA_DAMP_FACTOR ≠ 0 := by decide
  have h2 : CLAMP_FACTOR ≠ 0 := by decide
  simp only [damp_some h1, clamp_some h2]
  have hpos := dmaAdjTs_pos (subW data[DMA_WINDOW].ts data[0].ts)
  unfold dmaAdjTs at hpos
  rw [if_neg (by omega)]
  simp [dmaDiff, dmaAdjTs]

/-- closed form of `next_wtema_difficulty` -/
def wtemaOf (ct : ChainType) (last prev : HDI) : HDI :=
  let den := addW (subW WTEMA_HALF_LIFE BLOCK_TIME_SEC) (subW last.ts prev.ts)
  { ts := 1
    diff := max (minWtemaGraphWeight ct) (fromNum (mulW last.diff WTEMA_HALF_LIFE / den))
    scaling := 0, isSec := true }

theorem max_fromNum_div_le {x d d' : Nat} (m : Nat) (hd : 0 < d) (hdd : d ≤ d') :
    max m (fromNum (x / d')) ≤ max m (fromNum (x / d)) := by
  have := Nat.div_le_div_left (a := x) hdd hd
  unfold fromNum
  omega

theorem nextWtemaDifficulty_cons (ct : ChainType) (last prev : HDI) (rest : List HDI) :
    nextWtemaDifficulty ct (last :: prev :: rest) =
      if addW (subW WTEMA_HALF_LIFE BLOCK_TIME_SEC) (subW last.ts prev.ts) = 0 then none
      else some (wtemaOf ct last prev) := by
  simp [nextWtemaDifficulty, wtemaOf]

theorem wtema_den_eq {last prev : HDI} (hle : prev.ts ≤ last.ts)
    (hr : last.ts + WTEMA_HALF_LIFE < 2^64) :
    addW (subW WTEMA_HALF_LIFE BLOCK_TIME_SEC) (subW last.ts prev.ts) =
      WTEMA_HALF_LIFE - BLOCK_TIME_SEC + (last.ts - prev.ts) := by
  have e : subW WTEMA_HALF_LIFE BLOCK_TIME_SEC = WTEMA_HALF_LIFE - BLOCK_TIME_SEC := by decide
  rw [WTEMA_HALF_LIFE_val] at hr
  rw [e, subW_eq (by omega) hle, addW_eq (by rw [WTEMA_HALF_LIFE_val, BLOCK_TIME_SEC_val]; omega)]

theorem difficultyIter_length (hs : List Hdr) : (difficultyIter hs).length = hs.length := by
  induction hs with
  | nil => rfl
  | cons a t ih => simp [difficultyIter, ih]

theorem span_signed (a b : Int) (hlt : b < a) (hd : a - b < 2^64) :
    (subW (tsU64 a) (tsU64 b) : Int) = a - b := by
  unfold subW tsU64
  have h64 : (2:Int)^64 = 18446744073709551616 := by decide
  rw [h64] at hd
  omega

end GV.Cons
