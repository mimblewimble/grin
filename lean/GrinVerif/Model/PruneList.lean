import GrinVerif.Model.Pmmr
/-! Model of `store/src/prune_list.rs` (`PruneList`) and of the roaring-bitmap operations the
store uses (`croaring::Bitmap` = finite set of `u32`, modelled as a strictly ascending list).

Positions are 0-based (`pos0`) in the API and 1-based inside the bitmap, exactly as in the code.
`as u32` casts are not modelled (positions < 2^32).  Import-free apart from `Model.Pmmr`. -/

namespace GV.Store
open GV GV.Pmmr

/-- `croaring::Bitmap`: a finite set of `u32`, kept as a strictly ascending list. -/
abbrev Bitmap := List Nat

namespace Bm

def contains (b : Bitmap) (x : Nat) : Bool := b.elem x

/-- `Bitmap::add` (sorted insert, no duplicates) -/
def add : Bitmap → Nat → Bitmap
  | [], x => [x]
  | y :: ys, x => if x < y then x :: y :: ys else if x = y then y :: ys else y :: add ys x

/-- `Bitmap::remove` -/
def remove (b : Bitmap) (x : Nat) : Bitmap := b.filter (· != x)

/-- `Bitmap::rank(x)`: number of elements `≤ x` -/
def rank (b : Bitmap) (x : Nat) : Nat := b.countP (· ≤ x)

/-- `Bitmap::select(i)`: the element of rank `i` (0-based) -/
def select (b : Bitmap) (i : Nat) : Option Nat := b[i]?

/-- `Bitmap::maximum` -/
def maximum (b : Bitmap) : Option Nat := b.getLast?

/-- `Bitmap::remove_range(lo..=hi)` (inclusive) -/
def removeRange (b : Bitmap) (lo hi : Nat) : Bitmap := b.filter fun v => !(lo ≤ v && v ≤ hi)

/-- `a.or_inplace(b)` -/
def or (a b : Bitmap) : Bitmap := b.foldl add a

/-- `a.and(b)` -/
def and (a b : Bitmap) : Bitmap := a.filter (contains b)

/-- `b.flip(lo..hi)` (half-open): membership toggled inside the range -/
def flip (b : Bitmap) (lo hi : Nat) : Bitmap :=
  b.filter (· < lo) ++ ((List.range' lo (hi - lo)).filter fun v => !contains b v) ++ b.filter (· ≥ hi)

def ofList (l : List Nat) : Bitmap := l.foldl add []

end Bm

/-- `PruneList`: bitmap of pruned subtree roots (1-based) and the two shift caches. -/
structure PruneList where
  bitmap : Bitmap := []
  shiftCache : List Nat := []
  leafShiftCache : List Nat := []
deriving Repr, DecidableEq

namespace PruneList

/-- `is_pruned_root` -/
def isPrunedRoot (pl : PruneList) (pos0 : Nat) : Bool := Bm.contains pl.bitmap (1 + pos0)

/-- `shift_cache[min(idx, len) - 1]`; an empty cache with `idx > 0` would be an index panic in
the code (never reached: the caches are as long as the rank asked for); modelled as 0. -/
def cacheAt (cache : List Nat) (idx : Nat) : Nat :=
  if idx = 0 then 0 else cache.getD (min idx cache.length - 1) 0

/-- `get_shift` -/
def getShift (pl : PruneList) (pos0 : Nat) : Nat :=
  cacheAt pl.shiftCache (Bm.rank pl.bitmap (1 + pos0))

/-- `get_leaf_shift` -/
def getLeafShift (pl : PruneList) (pos0 : Nat) : Nat :=
  cacheAt pl.leafShiftCache (Bm.rank pl.bitmap (1 + pos0))

/-- `get_total_shift`: `get_shift(maximum.unwrap_or(1) - 1)` -/
def getTotalShift (pl : PruneList) : Nat :=
  getShift pl ((Bm.maximum pl.bitmap).getD 1 - 1)

/-- `get_total_leaf_shift` -/
def getTotalLeafShift (pl : PruneList) : Nat :=
  getLeafShift pl ((Bm.maximum pl.bitmap).getD 1 - 1)

/-- the shift contributed by one pruned root: `2 * ((1 << height) - 1)` -/
def rootShift (pos0 : Nat) : Nat := 2 * (2 ^ height pos0 - 1)

/-- the leaf shift contributed by one pruned root: `if height == 0 {0} else {1 << height}` -/
def rootLeafShift (pos0 : Nat) : Nat := if height pos0 = 0 then 0 else 2 ^ height pos0

/-- `calculate_next_shift` -/
def calculateNextShift (pl : PruneList) (pos0 : Nat) : Nat :=
  let prev := if pos0 = 0 then 0 else getShift pl (pos0 - 1)
  let shift := if isPrunedRoot pl pos0 then rootShift pos0 else 0
  prev + shift

/-- `calculate_next_leaf_shift` -/
def calculateNextLeafShift (pl : PruneList) (pos0 : Nat) : Nat :=
  let prev := if pos0 = 0 then 0 else getLeafShift pl (pos0 - 1)
  let shift := if isPrunedRoot pl pos0 then rootLeafShift pos0 else 0
  prev + shift

/-- `cleanup_subtree` -/
def cleanupSubtree (pl : PruneList) (pos0 : Nat) : PruneList :=
  let lc0 := bintreeLeftmost pos0
  let size := (Bm.maximum pl.bitmap).getD 0
  if lc0 ≥ size then pl else
  let idx := Bm.rank pl.bitmap lc0
  { bitmap := Bm.removeRange pl.bitmap (lc0 + 1) size,
    shiftCache := pl.shiftCache.take idx,
    leafShiftCache := pl.leafShiftCache.take idx }

/-- `append_single` (the `assert!(pos0 >= maximum)` is a precondition, see `append`) -/
def appendSingle (pl : PruneList) (pos0 : Nat) : PruneList :=
  let pl1 := { pl with bitmap := Bm.add pl.bitmap (1 + pos0) }
  let pl2 := { pl1 with shiftCache := pl1.shiftCache ++ [calculateNextShift pl1 pos0] }
  { pl2 with leafShiftCache := pl2.leafShiftCache ++ [calculateNextLeafShift pl2 pos0] }

/-- `is_pruned` -/
def isPruned (pl : PruneList) (pos0 : Nat) : Bool :=
  if isPrunedRoot pl pos0 then true else
  match Bm.select pl.bitmap (Bm.rank pl.bitmap (1 + pos0)) with
  | some root =>
    let r := bintreeRange (root - 1)
    decide (r.1 ≤ pos0) && decide (pos0 < r.2)
  | none => false

/-- `append` with its recursion on the parent made structural by `fuel` (one level of the tree
per step, so 64 is enough for u64 positions; exhausted fuel leaves the list unchanged).
The `assert!(pos0 >= bitmap.maximum)` ("prune list append only") is not modelled: it is the
precondition under which the theorems are stated. -/
def appendFuel : Nat → PruneList → Nat → PruneList
  | 0, pl, _ => pl
  | fuel+1, pl, pos0 =>
    let fam := family pos0
    if isPruned pl fam.2 then appendFuel fuel pl fam.1
    else appendSingle (cleanupSubtree pl pos0) pos0

def append (pl : PruneList) (pos0 : Nat) : PruneList := appendFuel 64 pl pos0

/-- `PruneList::new(path, bitmap)`: append every 1-based position of `bitmap` in order. -/
def new (bitmap : Bitmap) : PruneList :=
  bitmap.foldl (fun pl pos1 => append pl (pos1 - 1)) {}

/-- loop body shared by `build_shift_cache` / `build_leaf_shift_cache`: the caches are rebuilt
from the bitmap, reading earlier entries through `get_shift` while they are being built. -/
def buildShiftCache (pl : PruneList) : PruneList :=
  pl.bitmap.foldl (fun acc pos1 =>
    { acc with shiftCache := acc.shiftCache ++ [calculateNextShift acc (pos1 - 1)] })
    { pl with shiftCache := [] }

def buildLeafShiftCache (pl : PruneList) : PruneList :=
  pl.bitmap.foldl (fun acc pos1 =>
    { acc with leafShiftCache := acc.leafShiftCache ++ [calculateNextLeafShift acc (pos1 - 1)] })
    { pl with leafShiftCache := [] }

/-- `init_caches` -/
def initCaches (pl : PruneList) : PruneList := buildLeafShiftCache (buildShiftCache pl)

/-- `PruneList::open` on the bitmap read from disk -/
def openBm (bitmap : Bitmap) : PruneList := initCaches (new bitmap)

/-! ### the assertions as panic outcomes

`append` and `append_single` both start with `assert!(pos0 >= self.bitmap.maximum().unwrap_or(0))`
("prune list append only"; a 0-based position against the 1-based maximum, i.e. strictly right of
every root), `new` / `open` with `assert!(!bitmap.contains(0))`.  `appendFuel` / `new` above leave
them out; these variants return `none` where the code panics.  `Lemmas/PruneListSet.lean` shows
they never do for the arguments the store passes. -/

/-- `pos0 >= self.bitmap.maximum().unwrap_or(0)` -/
def appendAssert (pl : PruneList) (pos0 : Nat) : Bool := decide ((Bm.maximum pl.bitmap).getD 0 ≤ pos0)

def appendChecked : Nat → PruneList → Nat → Option PruneList
  | 0, pl, _ => some pl
  | fuel+1, pl, pos0 =>
    if !appendAssert pl pos0 then none else
    let fam := family pos0
    if isPruned pl fam.2 then appendChecked fuel pl fam.1
    else
      let pl' := cleanupSubtree pl pos0
      if !appendAssert pl' pos0 then none else some (appendSingle pl' pos0)

/-- `PruneList::new` with all three assertions -/
def newChecked (bitmap : Bitmap) : Option PruneList :=
  if Bm.contains bitmap 0 then none else
  bitmap.foldl (fun acc pos1 => acc.bind fun pl => appendChecked 64 pl (pos1 - 1)) (some {})

/-- `PruneList::open` with the assertions -/
def openChecked (bitmap : Bitmap) : Option PruneList := (newChecked bitmap).map initCaches

/-- `to_vec` -/
def toVec (pl : PruneList) : List Nat := pl.bitmap

end PruneList
end GV.Store
