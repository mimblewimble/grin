import GrinVerif.Model.Kv
/-! The `f32` arithmetic `needs_resize` (`store/src/lmdb.rs`) really performs, modelled exactly:

```text
size_used as f32 / env_info.map_size as f32 > RESIZE_PERCENT            // const RESIZE_PERCENT: f32 = 0.9
size_used as f32 / tot as f32 > RESIZE_MIN_TARGET_PERCENT as f32 / 100.0 // const …: u128 = 65
```

A finite non-negative `f32` is `m · 2^e` with `2^23 ≤ m < 2^24` (all values here are normal: between
`2^-40` and `2^64`), or zero.  `usize as f32`, the literal `0.9` and `/` all round to nearest, ties to
even (IEEE 754 binary32; Rust's `as` from an integer and its literal parsing are correctly rounded).
`Model/Kv.lean` `needsResize` reads the comparisons as exact rationals; `needsResizeF32` below is
what the code computes.  They differ only when `used / map` lies within half an ulp (`2^-25`) above
`0.9` resp. `0.65`, which needs a map of at least `2^24` pages (64 GiB) resp. `2^23` pages (32 GiB) –
run `kv f32probe` checks every page-granular map size below 32 GiB exhaustively on the hardware and ties this model to the
hardware's `f32` on the boundary cases beyond. -/
namespace GV.Kv.F32

/-- `m · 2^e`, `m = 0` or `2^23 ≤ m < 2^24` -/
structure F where
  m : Nat
  e : Int
deriving Repr, DecidableEq

/-- `n · 2^k` for an integer `k`, as numerator / denominator factors -/
def shiftPair (k : Int) : Nat × Nat :=
  if k ≥ 0 then (2 ^ k.toNat, 1) else (1, 2 ^ (-k).toNat)

/-- quotient and scaled operands of `num / (den · 2^e)` -/
def scaled (num den : Nat) (e : Int) : Nat × Nat :=
  let s := shiftPair e
  (num * s.2, den * s.1)

/-- adjust the exponent until the integer part has exactly 24 bits -/
def normExp (num den : Nat) : Nat → Int → Int
  | 0, e => e
  | fuel+1, e =>
    let (n, d) := scaled num den e
    let t := n / d
    if t < 2 ^ 23 then normExp num den fuel (e - 1)
    else if t ≥ 2 ^ 24 then normExp num den fuel (e + 1)
    else e

/-- the positive rational `num / den` rounded to the nearest `f32`, ties to even -/
def round (num den : Nat) : F :=
  if num = 0 ∨ den = 0 then ⟨0, 0⟩ else
  let e0 : Int := (Nat.log2 num : Int) - (Nat.log2 den : Int) - 23
  let e := normExp num den 4 e0
  let (n, d) := scaled num den e
  let t := n / d
  let r := n % d
  let up := decide (2 * r > d) || (decide (2 * r = d) && t % 2 == 1)
  let m := if up then t + 1 else t
  if m = 2 ^ 24 then ⟨2 ^ 23, e + 1⟩ else ⟨m, e⟩

/-- `n as f32` for an unsigned integer -/
def ofNat (n : Nat) : F := round n 1

/-- `a / b` -/
def div (a b : F) : F :=
  let k := a.e - b.e
  let s := shiftPair k
  round (a.m * s.1) (b.m * s.2)

/-- `a > b` -/
def gt (a b : F) : Bool :=
  let k := a.e - b.e
  let s := shiftPair k
  decide (a.m * s.1 > b.m * s.2)

/-- the IEEE bit pattern (sign 0) -/
def bits (a : F) : Nat :=
  if a.m = 0 then 0 else ((a.e + 23 + 127).toNat) * 2 ^ 23 + (a.m - 2 ^ 23)

/-- the literal `0.9_f32` -/
def c90 : F := round 9 10
/-- `65_u128 as f32 / 100.0` -/
def c65 : F := div (ofNat 65) (ofNat 100)

/-- `used as f32 / map as f32 > 0.9` -/
def gt90 (used map : Nat) : Bool := gt (div (ofNat used) (ofNat map)) c90
/-- `used as f32 / tot as f32 > 65 as f32 / 100.0` -/
def gt65 (used tot : Nat) : Bool := gt (div (ofNat used) (ofNat tot)) c65

def growLoopF32 (used chunk : Nat) : Nat → Nat → Nat
  | 0, tot => tot
  | fuel+1, tot => if gt65 used tot then growLoopF32 used chunk fuel (tot + chunk) else tot

/-- `needs_resize(env, chunk)` as the code computes it (`mapSize = 0`: the quotient is `inf` / `NaN`,
but `map_size < alloc_chunk_size` decides) -/
def needsResizeF32 (mapSize used chunk : Nat) : Bool × Nat :=
  let resize := (mapSize ≠ 0 && gt90 used mapSize) || decide (mapSize < chunk)
  if !resize then (false, mapSize)
  else if mapSize < chunk then (true, chunk)
  else (true, growLoopF32 used chunk (used * 2 + 1) (mapSize - mapSize % chunk))

end GV.Kv.F32
