import GrinVerif.Model.Seg
/-! Model of the receiving side's state machine, `chain/src/txhashset/desegmenter.rs`
(`Desegmenter::{new, calc_bitmap_mmr_sizes, next_desired_segments, add_*_segment, cache_*_segment,
has_*_segment_with_id, next_required_*_segment_index, take_segment_batch, apply_next_segments,
apply_bitmap_segment, finalize_bitmap, is_complete, check_progress}`).

What is transliterated: every decision the desegmenter takes — the order of the checks in
`add_*_segment`, the four `next_required_*_segment_index` flavours with their release-build u64 /
usize arithmetic (`cur_segment_count -= 1`, `1 << height`, `num_segments * (1 << height)`,
`mmr_size - 1`: helpers of `Model/Basic.lean`, identifier arithmetic of `Model/Seg.lean`), the three
request loops and the three `maybe_add_to_request` steps of `next_desired_segments`, the cache
bookkeeping, `take_segment_batch`, the branches of `apply_next_segments`.

What is abstract:
* whether a segment passes `Segment::validate` / `validate_with` beyond the first test of
  `Segment::root` (`segment_unpruned_size == 0 → NonExistent`, which the model computes itself) is the
  parameter `SegIn.valid` (content dependent; `Model/Seg.lean` + `Props/C16` cover it);
* the three MMRs of the txhashset and the bitmap accumulator are their sizes.  What
  `Extension::apply_{output,rangeproof,kernel}_segment` does to the size is `applySeg`: the leaves of
  the segment are pushed where `pos0 == size` (everything already present is skipped; the genesis
  leaf of a fresh chain is skipped), and — output / rangeproof only — a completely pruned segment
  that carries the hash of its first unpruned parent *above* its own root pushes that whole subtree
  (`push_pruned_subtree`), i.e. advances by `SegIn.jump` further whole segments (content dependent,
  computed by the harness from the segment's hash positions; 0 otherwise);
* `apply_bitmap_segment` appends **every** chunk of `leaf_data`, whatever its position: a validated
  segment carries the chunks of its range (`MissingLeaf` otherwise) plus `SegIn.extra` redundant
  trailing ones that `Segment::root` never looks at (0 for a segment a node produced).

Ghost state (not in the Rust struct, used by the theorems only): `misapplied` (a segment was
handed to `apply_*_segment` although it starts beyond the local MMR — what the foreign-height defect
did) and, per tree, the log of the applications that changed the MMR. -/

namespace GV.Deseg
open GV GV.Pmmr GV.Seg

/-- `SegmentType` -/
inductive Kind
  | bitmap | output | rangeproof | kernel
deriving DecidableEq, Repr

/-- what `add_*_segment` returns -/
inductive AddRes
  /-- `Ok(())`: cached, or a segment with this identifier was cached already -/
  | ok
  /-- `Error::InvalidSegmentHeight` -/
  | invalidSegmentHeight
  /-- `Error::SegmentError(NonExistent)`: first test of `Segment::root` -/
  | nonExistent
  /-- any other `SegmentError` of `validate` / `validate_with` -/
  | invalid
deriving DecidableEq, Repr

/-- a segment handed to `add_*_segment`, as far as the state machine can tell -/
structure SegIn where
  id : Ident
  /-- verdict of `validate` / `validate_with` after the `NonExistent` test -/
  valid : Bool
  /-- output / rangeproof: further whole segments covered by the first-unpruned-parent hash -/
  jump : Nat := 0
  /-- bitmap: redundant trailing chunks in `leaf_data` -/
  extra : Nat := 0
deriving DecidableEq, Repr

/-- an entry of a `*_segment_cache` -/
structure Cached where
  id : Ident
  jump : Nat
  extra : Nat
deriving DecidableEq, Repr

/-- one local MMR (or the bitmap accumulator) with its segment cache -/
structure Tree where
  /-- `unpruned_size()` of the local MMR -/
  size : Nat
  /-- `*_segment_cache`, in insertion order -/
  cache : List Cached
  /-- ghost: the applications that changed `size`, newest first -/
  log : List Cached
deriving Repr

/-- `Desegmenter` -/
structure St where
  /-- `default_{bitmap,output,rangeproof,kernel}_segment_height` (u8) -/
  hB : Nat
  hO : Nat
  hR : Nat
  hK : Nat
  /-- `archive_header.output_mmr_size`, `.kernel_mmr_size` -/
  outSize : Nat
  kerSize : Nat
  /-- `bitmap_mmr_leaf_count`, `bitmap_mmr_size` -/
  bmLeafCount : Nat
  bmSize : Nat
  /-- `bitmap_accumulator` + `bitmap_segment_cache` -/
  bm : Tree
  out : Tree
  rp : Tree
  ker : Tree
  /-- `bitmap_cache.is_some()` -/
  bitmapCache : Bool
  /-- `all_segments_complete` -/
  allComplete : Bool
  /-- ghost -/
  misapplied : Bool
deriving Repr

/-- `pibd_params::SEGMENT_APPLY_BATCH_SIZE` -/
def batchSize : Nat := 4
/-- `pibd_params::MAX_CACHED_SEGMENTS` -/
def maxCachedSegments : Nat := 15

/-- `Desegmenter::calc_bitmap_mmr_sizes`: `(n_leaves(output_mmr_size) + 1023) / 1024` chunks
(`n_leaves ≤ 2^63`, the sum cannot wrap), `insertion_to_pmmr_index` of that -/
def calcBitmapMmrSizes (outSize : Nat) : Nat × Nat :=
  let leafCount := (nLeaves outSize + 1023) / 1024
  (leafCount, ins2pmmrW leafCount)

/-- `Desegmenter::new` for an archive header with the given MMR sizes, on a chain whose txhashset
holds MMRs of sizes `gOut` (output and rangeproof) and `gKer` (1 / 1 on a fresh chain: the genesis
output and kernel) -/
def St.new (hB hO hR hK outSize kerSize gOut gKer : Nat) : St :=
  let b := calcBitmapMmrSizes outSize
  { hB := hB, hO := hO, hR := hR, hK := hK, outSize := outSize, kerSize := kerSize
    bmLeafCount := b.1, bmSize := b.2
    bm := ⟨0, [], []⟩, out := ⟨gOut, [], []⟩, rp := ⟨gOut, [], []⟩, ker := ⟨gKer, [], []⟩
    bitmapCache := false, allComplete := false, misapplied := false }

/-- `default_*_segment_height` of a kind -/
def St.heightOf (s : St) : Kind → Nat
  | .bitmap => s.hB
  | .output => s.hO
  | .rangeproof => s.hR
  | .kernel => s.hK

/-- the MMR size a segment of this kind is validated against -/
def St.archiveOf (s : St) : Kind → Nat
  | .bitmap => s.bmSize
  | .output => s.outSize
  | .rangeproof => s.outSize
  | .kernel => s.kerSize

def St.treeOf (s : St) : Kind → Tree
  | .bitmap => s.bm
  | .output => s.out
  | .rangeproof => s.rp
  | .kernel => s.ker

def St.setTree (s : St) (k : Kind) (t : Tree) : St :=
  match k with
  | .bitmap => { s with bm := t }
  | .output => { s with out := t }
  | .rangeproof => { s with rp := t }
  | .kernel => { s with ker := t }

/-! ## caches -/

/-- `has_*_segment_with_id` -/
def hasId (cache : List Cached) (id : Ident) : Bool := cache.any fun c => decide (c.id = id)

/-- `cache_*_segment`: push unless a segment with the same identifier is cached -/
def cacheSeg (cache : List Cached) (c : Cached) : List Cached :=
  if hasId cache c.id then cache else cache ++ [c]

/-- `add_{bitmap,output,rangeproof,kernel}_segment`: height first (`InvalidSegmentHeight`,
repair 11f03601e), then `validate` / `validate_with` (whose first test is `NonExistent`), then
`cache_*_segment` -/
def St.addSegment (s : St) (k : Kind) (x : SegIn) : St × AddRes :=
  if x.id.height ≠ s.heightOf k then (s, .invalidSegmentHeight)
  else if x.id.unprunedSize (s.archiveOf k) = 0 then (s, .nonExistent)
  else if !x.valid then (s, .invalid)
  else
    let t := s.treeOf k
    (s.setTree k { t with cache := cacheSeg t.cache ⟨x.id, x.jump, x.extra⟩ }, .ok)

/-! ## `next_required_*_segment_index` -/

/-- `SegmentIdentifier::pmmr_size(num_segments, height)` -/
def pmmrSize (numSegments height : Nat) : Nat := ins2pmmrW (mulW numSegments (shlW 1 height))

/-- `if cur_segment_count == total_segment_count { None } else { Some(cur_segment_count as u64) }` -/
def optIdx (cur total : Nat) : Option Nat := if cur = total then none else some cur

/-- `let mut cur_segment_count = if local_mmr_size == 1 { 0 } else { count_segments_required(..) }`:
"if the mmr size is 1, this is a fresh chain with naught but a humble genesis block" -/
def curSegmentCount (localSize h : Nat) : Nat :=
  if localSize = 1 then 0 else Ident.countSegmentsRequired localSize h

/-- "When resuming, we need to ensure we're getting the previous segment if needed":
`if local_mmr_size < pmmr_size(cur, h) { cur_segment_count -= 1 }` (usize `-=`: wraps in release,
panics in debug; never reached at `cur_segment_count = 0`: `pmmrSize_zero`) -/
def resumeAdjust (localSize cur h : Nat) : Nat :=
  if localSize < pmmrSize cur h then subW cur 1 else cur

/-- `next_required_bitmap_segment_index`: no genesis special case, no resume adjustment -/
def nextRequiredBitmap (h bmSize localSize : Nat) : Option Nat :=
  optIdx (Ident.countSegmentsRequired localSize h) (Ident.countSegmentsRequired bmSize h)

/-- `next_required_output_segment_index` / `next_required_rangeproof_segment_index` (same code):
genesis special case, then the *unguarded* resume adjustment -/
def nextRequiredPrunable (h archiveSize localSize : Nat) : Option Nat :=
  optIdx (resumeAdjust localSize (curSegmentCount localSize h) h)
    (Ident.countSegmentsRequired archiveSize h)

/-- `next_required_kernel_segment_index`: the resume adjustment is guarded by
`total_segment_count != cur_segment_count` -/
def nextRequiredKernel (h archiveSize localSize : Nat) : Option Nat :=
  let cur0 := curSegmentCount localSize h
  let total := Ident.countSegmentsRequired archiveSize h
  optIdx (if total ≠ cur0 then resumeAdjust localSize cur0 h else cur0) total

def St.nextRequired (s : St) : Kind → Option Nat
  | .bitmap => nextRequiredBitmap s.hB s.bmSize s.bm.size
  | .output => nextRequiredPrunable s.hO s.outSize s.out.size
  | .rangeproof => nextRequiredPrunable s.hR s.outSize s.rp.size
  | .kernel => nextRequiredKernel s.hK s.kerSize s.ker.size

/-! ## `apply_next_segments` -/

/-- `cache.iter().position(|s| s.identifier().idx == next_idx)` + `cache.remove(pos)` -/
def removeFirstIdx : List Cached → Nat → Option (Cached × List Cached)
  | [], _ => none
  | c :: cs, n =>
    if c.id.idx = n then some (c, cs)
    else match removeFirstIdx cs n with
      | some (x, rest) => some (x, c :: rest)
      | none => none

/-- `take_segment_batch(cache, start_idx, max_segments)`: (taken, remaining cache) -/
def takeBatch : List Cached → Nat → Nat → List Cached × List Cached
  | cache, _, 0 => ([], cache)
  | cache, next, k + 1 =>
    match removeFirstIdx cache next with
    | some (s, rest) =>
      let r := takeBatch rest (next + 1) k
      (s :: r.1, r.2)
    | none => ([], cache)

/-- leaf range `[lo, hi)` of a segment in an MMR of `total` leaves (plain arithmetic: abstraction) -/
def segLo (c : Cached) : Nat := c.id.idx * 2 ^ c.id.height
def segHi (c : Cached) (total : Nat) : Nat := min ((c.id.idx + 1) * 2 ^ c.id.height) total

/-- `Extension::apply_{output,rangeproof,kernel}_segment` on the size of the local MMR (see the
header): `(new tree, misapplied)` -/
def applySeg (prunable : Bool) (archiveSize : Nat) (t : Tree) (c : Cached) : Tree × Bool :=
  let total := nLeaves archiveSize
  let leaves := nLeaves t.size
  if segLo c ≤ leaves ∧ leaves < segHi c total then
    let j := if prunable then c.jump else 0
    ({ t with size := insertionToPmmrIndex (min ((c.id.idx + 1 + j) * 2 ^ c.id.height) total)
              log := c :: t.log }, false)
  else
    -- nothing of the segment sits at `pos0 == size`; hashes / leaves beyond the local MMR would
    -- be pushed with a gap
    (t, decide (leaves < segLo c ∧ segLo c < total))

/-- the `for segment in segments` loop of `apply_*_segments` -/
def applyList (prunable : Bool) (archiveSize : Nat) : Tree → List Cached → Tree × Bool
  | t, [] => (t, false)
  | t, c :: cs =>
    let r := applySeg prunable archiveSize t c
    let r' := applyList prunable archiveSize r.1 cs
    (r'.1, r.2 || r'.2)

/-- one of the three main-tree parts of `apply_next_segments` -/
def applyTree (prunable : Bool) (archiveSize : Nat) (next : Option Nat) (t : Tree) : Tree × Bool :=
  match next with
  | some n =>
    let b := takeBatch t.cache n batchSize
    -- `if segments.is_empty() { waiting } else { apply_*_segments(segments) }`
    applyList prunable archiveSize { t with cache := b.2 } b.1
  | none =>
    if t.cache.length ≥ maxCachedSegments then ({ t with cache := [] }, false) else (t, false)

/-- `apply_bitmap_segment(idx)`: `for chunk in leaf_data { append_chunk(chunk) }` — every chunk -/
def applyBitmapSeg (bmSize : Nat) (t : Tree) (c : Cached) (rest : List Cached) : Tree :=
  { size := insertionToPmmrIndex (nLeaves t.size + c.id.unprunedSize bmSize + c.extra)
    cache := rest, log := c :: t.log }

/-- `apply_next_segments`, given what the four `next_required_*_segment_index` calls return (the
branching values are parameters so that no theorem has to evaluate wrapped u64 arithmetic inside a
`match` discriminant; `St.applyNextSegments` instantiates them) -/
def St.applyNextWith (s : St) (nextB nextO nextR nextK : Option Nat) : St :=
  match nextB with
  | some bmpIdx =>
    match removeFirstIdx s.bm.cache bmpIdx with
    | some (c, rest) => { s with bm := applyBitmapSeg s.bmSize s.bm c rest }
    | none => s
  | none =>
    -- `if self.bitmap_cache == None { self.finalize_bitmap()? }`
    let o := applyTree true s.outSize nextO s.out
    let r := applyTree true s.outSize nextR s.rp
    let k := applyTree false s.kerSize nextK s.ker
    { s with bitmapCache := true, out := o.1, rp := r.1, ker := k.1
             misapplied := s.misapplied || o.2 || r.2 || k.2 }

/-- `apply_next_segments` -/
def St.applyNextSegments (s : St) : St :=
  s.applyNextWith (s.nextRequired .bitmap) (s.nextRequired .output) (s.nextRequired .rangeproof)
    (s.nextRequired .kernel)

/-! ## `next_desired_segments` -/

/-- the bitmap branch: `while let Some(id) = identifier_iter.next()`, returning as soon as
`return_vec.len() >= max_elements` (tested after a push) -/
def wantBitmapLoop (s : St) (max : Nat) : List Nat → List (Kind × Ident) → List (Kind × Ident)
  | [], acc => acc
  | idx :: rest, acc =>
    let id : Ident := ⟨s.hB, idx⟩
    -- `>=` since the repair d6b49984d
    if (id.posRange s.bmSize).2 ≥ s.bm.size && !hasId s.bm.cache id then
      let acc' := acc ++ [(Kind.bitmap, id)]
      if acc'.length ≥ max then acc' else wantBitmapLoop s max rest acc'
    else wantBitmapLoop s max rest acc

/-- one of the three `while (next_idx as usize) < total_segments` loops: at most `quota`
identifiers from `idx` on whose range ends beyond the local MMR and that are not cached.
`fuel` = iterations left (`wantTree` supplies `total - idx`) -/
def wantLoop (h archiveSize localSize : Nat) (cache : List Cached) (quota total : Nat) :
    Nat → Nat → Nat → List Ident
  | _, _, 0 => []
  | idx, added, fuel + 1 =>
    if idx < total then
      if added = quota then []
      else
        let id : Ident := ⟨h, idx⟩
        if (id.posRange archiveSize).2 > localSize && !hasId cache id then
          id :: wantLoop h archiveSize localSize cache quota total (idx + 1) (added + 1) fuel
        else wantLoop h archiveSize localSize cache quota total (idx + 1) added fuel
    else []

def wantTree (h archiveSize : Nat) (t : Tree) (next : Option Nat) (quota : Nat) : List Ident :=
  let total := Ident.countSegmentsRequired archiveSize h
  match next with
  | some n => wantLoop h archiveSize t.size t.cache quota total n 0 (total - n)
  | none => []

/-- `maybe_add_to_request` -/
def maybeAdd (max : Nat) (acc : List (Kind × Ident)) (x : Kind × Ident) : List (Kind × Ident) :=
  if acc.contains x then acc
  else (if acc.length ≥ max then acc.dropLast else acc) ++ [x]

/-- "Ensure we explicitly ask for the next … segment" -/
def ensureNext (max : Nat) (acc : List (Kind × Ident)) (k : Kind) (h : Nat) (next : Option Nat)
    (cache : List Cached) : List (Kind × Ident) :=
  match next with
  | some n =>
    let id : Ident := ⟨h, n⟩
    if hasId cache id then acc else maybeAdd max acc (k, id)
  | none => acc

/-- the list `next_desired_segments(max_elements)` returns -/
def St.desired (s : St) (max : Nat) : List (Kind × Ident) :=
  if !s.bitmapCache then
    wantBitmapLoop s max (List.range (Ident.countSegmentsRequired s.bmSize s.hB)) []
  else
    let q := max / 3
    let base :=
      (wantTree s.hO s.outSize s.out (s.nextRequired .output) q).map (fun i => (Kind.output, i)) ++
      (wantTree s.hR s.outSize s.rp (s.nextRequired .rangeproof) q).map (fun i => (Kind.rangeproof, i)) ++
      (wantTree s.hK s.kerSize s.ker (s.nextRequired .kernel) q).map (fun i => (Kind.kernel, i))
    let a := ensureNext max base .output s.hO (s.nextRequired .output) s.out.cache
    let b := ensureNext max a .rangeproof s.hR (s.nextRequired .rangeproof) s.rp.cache
    ensureNext max b .kernel s.hK (s.nextRequired .kernel) s.ker.cache

/-- `next_desired_segments(max_elements)`: the list, and `all_segments_complete` is set when the
list is empty although the bitmap is finalised -/
def St.nextDesiredSegments (s : St) (max : Nat) : St × List (Kind × Ident) :=
  let l := s.desired max
  ({ s with allComplete := s.allComplete || (l.isEmpty && s.bitmapCache) }, l)

/-! ## completion -/

/-- `is_complete()`.  Never becomes true when the last output / rangeproof segment is not full
(`nextRequiredPrunable` keeps asking for it): the server uses `check_progress`. -/
def St.isComplete (s : St) : Bool := s.allComplete

/-- the decision of `check_progress` (given that `get_first_header_with` found a header, which it
does whenever the archive header is not the last header of the header chain): all three local MMR
sizes equal the archive header's and the bitmap is finalised -/
def St.checkProgress (s : St) : Bool :=
  s.ker.size == s.kerSize && s.out.size == s.outSize && s.rp.size == s.outSize && s.bitmapCache

/-- a delivery: `add_*_segment` -/
structure Delivery where
  kind : Kind
  seg : SegIn
deriving Repr

def St.deliver (s : St) (d : Delivery) : St := (s.addSegment d.kind d.seg).1

def St.deliverAll (s : St) (ds : List Delivery) : St := ds.foldl St.deliver s

/-- what is left to do, in leaves (+1 while the bitmap is not finalised): the measure of the
progress theorems -/
def St.remaining (s : St) : Nat :=
  (s.bmLeafCount - nLeaves s.bm.size) + (if s.bitmapCache then 0 else 1) +
  (nLeaves s.outSize - nLeaves s.out.size) + (nLeaves s.outSize - nLeaves s.rp.size) +
  (nLeaves s.kerSize - nLeaves s.ker.size)

end GV.Deseg
