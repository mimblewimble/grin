/-! # Model of transaction aggregation, cut-through, de-aggregation and compact-block hydration

Transliteration of
* `core/src/core/transaction.rs`: `cut_through`, `aggregate`, `deaggregate`,
  `TransactionBody::{init, sort, verify_sorted, verify_cut_through, verify_features, with_output,
  with_kernel}`, `Transaction::validate_read`
* `core/src/core/committed.rs`: `sum_kernel_offsets`, `blind_sum_or_zero`, `to_secrets`
* `core/src/core/block.rs`: `Block::from_reward`, `Block::hydrate_from`
* `core/src/core/compact_block.rs`: `From<Block> for CompactBlock`

Representation (DESIGN §2.2, §2.3).  Everything is a natural number handed over by the harness:

* an **input** is the id `c` of its commitment; ids are assigned in the byte order of the real
  33-byte commitments, so `c₁ < c₂` in the model iff `commit₁ < commit₂` in the code
  (`sort_unstable_by_key(|x| *x.as_ref())` and the `cmp` of the merge loop);
* an **output** is the code `2*c + f` with `c` the commitment id and `f = 1` for
  `OutputFeatures::Coinbase`, `0` for `Plain` (`Output: Ord/Eq` go through the identifier
  `(features, commit)`, `AsRef<Commitment>` only sees `c`);
* a **kernel** is the code `2*k + f`, `k` the rank of the kernel hash, `f = 1` for a coinbase kernel;
* `CommitWrapper`, `OutputIdentifier`, `TxKernel` are ordered **by hash** (`hashable_ord!`); the
  hash orders are supplied as data: `Keys.ik`, `Keys.ok`, `Keys.kk` (any functions; the theorems ask
  for injectivity where the code relies on "equal hash ⇒ equal element");
* a kernel offset (`BlindingFactor`, 32 bytes) is the big-endian natural number of its bytes.
  Scalars are added modulo the secp256k1 group order `N`; zero and out-of-range values are
  *skipped* (`to_secrets`).  `secp.blind_sum` itself refuses a zero *sum* (`SecretKey::from_slice`
  rejects it); `committed::blind_sum_or_zero` catches exactly that case and yields the zero
  blinding factor, so offsets that cancel are accepted (`Lemmas/TxAgg.lean: blindSumOrZero_eq`).

Import-free (core only): linked into the driver. -/
namespace GV.Tx

/-- secp256k1 group order -/
def N : Nat := 0xFFFFFFFFFFFFFFFFFFFFFFFFFFFFFFFEBAAEDCE6AF48A03BBFD25E8CD0364141

inductive Err
  /-- `Error::CutThrough` -/
  | cutThrough
  /-- `Error::Committed(Secp(InvalidSecretKey))`: the error `blind_sum_or_zero` hands on when
  `secp.blind_sum` fails for another reason than a zero sum.  Kept because the code has the
  branch; `blindSumOrZero_eq` proves that it is never taken. -/
  | secp
deriving DecidableEq, Repr

/-- hash orders supplied by the harness -/
structure Keys where
  /-- hash order of `CommitWrapper { commit }` for commitment id `c` -/
  ik : Nat → Nat
  /-- hash order of `OutputIdentifier { features, commit }` for output code `o` -/
  ok : Nat → Nat
  /-- hash order of `TxKernel` for kernel code `k` -/
  kk : Nat → Nat

/-- commitment id of an output code (`AsRef<Commitment> for Output`) -/
def outCommit (o : Nat) : Nat := o / 2
/-- `is_coinbase()` of an output / kernel code -/
def isCoinbase (code : Nat) : Bool := code % 2 == 1

/-- `sort_unstable_by_key` / `sort_unstable` (elements with equal keys are equal elements in every
use the property is about, so stability is not observable) -/
def sortBy (key : Nat → Nat) (l : List Nat) : List Nat :=
  l.mergeSort (fun a b => decide (key a ≤ key b))

/-! ## `cut_through` -/

/-- the four slices returned by `cut_through` -/
structure Cut where
  ins : List Nat
  outs : List Nat
  cutIns : List Nat
  cutOuts : List Nat
deriving DecidableEq, Repr

/-- The `while inputs_idx < inputs.len() && outputs_idx < outputs.len()` loop over the two
commitment-sorted slices plus the two drain loops.  The in-place `swap(idx - ncut, idx)` only
compacts the kept elements to the front (all four slices are re-sorted afterwards), so the
loop is modelled by what it keeps and what it cuts. -/
def cutMerge (ca cb : Nat → Nat) : List Nat → List Nat → Cut
  | [], ys => ⟨[], ys, [], []⟩
  | x :: xs, [] => ⟨x :: xs, [], [], []⟩
  | x :: xs, y :: ys =>
    if ca x < cb y then
      let r := cutMerge ca cb xs (y :: ys)
      ⟨x :: r.ins, r.outs, r.cutIns, r.cutOuts⟩
    else if cb y < ca x then
      let r := cutMerge ca cb (x :: xs) ys
      ⟨r.ins, y :: r.outs, r.cutIns, r.cutOuts⟩
    else
      let r := cutMerge ca cb xs ys
      ⟨r.ins, r.outs, x :: r.cutIns, y :: r.cutOuts⟩
termination_by xs ys => xs.length + ys.length

/-- `slice.windows(2).any(|pair| pair[0] == pair[1])` -/
def adjDup : List Nat → Bool
  | a :: b :: t => a == b || adjDup (b :: t)
  | _ => false

/-- `cut_through(inputs, outputs)`: `ca`/`cb` are the commitment of an input / output element,
`ka`/`kb` the `Ord` of the element types (hash order) used by the final `sort_unstable()`s. -/
def cutThrough (ca cb ka kb : Nat → Nat) (ins outs : List Nat) : Except Err Cut :=
  let r := cutMerge ca cb (sortBy ca ins) (sortBy cb outs)
  let ins' := sortBy ka r.ins
  let outs' := sortBy kb r.outs
  if adjDup ins' then .error .cutThrough
  else if adjDup outs' then .error .cutThrough
  else .ok ⟨ins', outs', sortBy ka r.cutIns, sortBy kb r.cutOuts⟩

/-! ## kernel offsets (`committed.rs`) -/

/-- `to_secrets`: drop zero blinding factors and those that are not valid secret keys -/
def toSecrets (l : List Nat) : List Nat := l.filter (fun x => x != 0 && decide (x < N))

/-- the scalar `Σ positive − Σ negative` modulo the group order -/
def scalarSum (pos neg : List Nat) : Nat := (pos.sum + (neg.map (fun x => N - x % N)).sum) % N

/-- `secp.blind_sum(positive, negative)`: the sum, followed by `SecretKey::from_slice`, which
refuses zero (`none` is `Err(InvalidSecretKey)`; the only way this call fails) -/
def secpBlindSum (pos neg : List Nat) : Option Nat :=
  let s := scalarSum pos neg
  if s = 0 then none else some s

/-- `committed::blind_sum_or_zero(secp, positive, negative)`: `blind_sum`, and when that fails,
once more together with `ONE_KEY`; if that gives exactly `ONE_KEY` the keys cancel and the result
is `BlindingFactor::zero()`, otherwise the first error is handed on. -/
def blindSumOrZero (pos neg : List Nat) : Except Err Nat :=
  match secpBlindSum pos neg with
  | some s => .ok s
  | none =>
    match secpBlindSum (pos ++ [1]) neg with
    | some s => if s = 1 then .ok 0 else .error .secp
    | none => .error .secp

/-- `sum_kernel_offsets(positive, negative)` with its "positive empty ⇒ zero" shortcut -/
def sumKernelOffsets (pos neg : List Nat) : Except Err Nat :=
  let p := toSecrets pos
  let n := toSecrets neg
  if p.isEmpty then .ok 0 else blindSumOrZero p n

/-! ## transactions -/

structure Tx where
  offset : Nat
  /-- `Inputs::FeaturesAndCommit` (true) or `Inputs::CommitOnly` (false) -/
  v2 : Bool
  inputs : List Nat
  outputs : List Nat
  kernels : List Nat
deriving DecidableEq, Repr

/-- `Transaction::empty()` -/
def Tx.empty : Tx := ⟨0, false, [], [], []⟩

/-- `let v: Vec<CommitWrapper> = tx.inputs().into()`: a features-and-commit vector is converted
and sorted by the `CommitWrapper` order -/
def Tx.inputsCO (K : Keys) (t : Tx) : List Nat :=
  if t.v2 then sortBy K.ik t.inputs else t.inputs

/-- the general path of `aggregate` (two or more transactions) -/
def aggregateFull (K : Keys) (txs : List Tx) : Except Err Tx :=
  let inputs := txs.flatMap (Tx.inputsCO K)
  let outputs := txs.flatMap (·.outputs)
  let kernels := txs.flatMap (·.kernels)
  match cutThrough id outCommit K.ik K.ok inputs outputs with
  | .error e => .error e
  | .ok r =>
    match sumKernelOffsets (txs.map (·.offset)) [] with
    | .error e => .error e
    | .ok off =>
      -- `Transaction::new(Inputs::from(inputs), outputs, &kernels)` sorts everything
      .ok ⟨off, false, sortBy K.ik r.ins, sortBy K.ok r.outs, sortBy K.kk kernels⟩

/-- `aggregate(txs)` -/
def aggregate (K : Keys) (txs : List Tx) : Except Err Tx :=
  match txs with
  | [] => .ok Tx.empty
  | [tx] => .ok tx
  | _ => aggregateFull K txs

/-- the three `for mk_x in …  if !tx_xs.contains(mk_x) && !xs.contains(mk_x) { xs.push(mk_x) }`
loops of `deaggregate` -/
def pushNew (other : List Nat) : List Nat → List Nat → List Nat
  | acc, [] => acc
  | acc, x :: xs =>
    if other.contains x || acc.contains x then pushNew other acc xs
    else pushNew other (acc ++ [x]) xs

/-- `deaggregate(mk_tx, txs)` -/
def deaggregate (K : Keys) (mk : Tx) (txs : List Tx) : Except Err Tx :=
  match aggregate K txs with
  | .error e => .error e
  | .ok tx =>
    let inputs := pushNew (tx.inputsCO K) [] (mk.inputsCO K)
    let outputs := pushNew tx.outputs [] mk.outputs
    let kernels := pushNew tx.kernels [] mk.kernels
    let pos := toSecrets [mk.offset]
    let neg := toSecrets [tx.offset]
    let off := if pos.isEmpty && neg.isEmpty then .ok 0 else blindSumOrZero pos neg
    match off with
    | .error e => .error e
    | .ok off => .ok ⟨off, false, sortBy K.ik inputs, sortBy K.ok outputs, sortBy K.kk kernels⟩

/-! ## structural validation (`Transaction::validate_read` without weight / NRD checks) -/

inductive VErr
  | sort | dup | cutThrough | outputFeatures | kernelFeatures
deriving DecidableEq, Repr

/-- `verify_sorted_and_unique` -/
def sortedUnique (key : Nat → Nat) : List Nat → Option VErr
  | a :: b :: t =>
    if key a > key b then some .sort
    else if a == b then some .dup
    else sortedUnique key (b :: t)
  | _ => none

/-- `verify_cut_through`: all input and output commitments sorted, no two adjacent equal -/
def verifyCutThrough (t : Tx) : Option VErr :=
  if adjDup (sortBy id (t.inputs ++ t.outputs.map outCommit)) then some .cutThrough else none

/-- `Transaction::validate_read` for a commit-only transaction: `verify_sorted`,
`verify_cut_through`, `verify_features`, in that order -/
def validateRead (K : Keys) (t : Tx) : Option VErr :=
  match sortedUnique K.ik t.inputs with
  | some e => some e
  | none =>
  match sortedUnique K.ok t.outputs with
  | some e => some e
  | none =>
  match sortedUnique K.kk t.kernels with
  | some e => some e
  | none =>
  match verifyCutThrough t with
  | some e => some e
  | none =>
  if t.outputs.any isCoinbase then some .outputFeatures
  else if t.kernels.any isCoinbase then some .kernelFeatures
  else none

/-! ## blocks (`block.rs`, `compact_block.rs`) -/

/-- a block: the header's `total_kernel_offset` and the body -/
structure Block where
  totalOffset : Nat
  v2 : Bool
  inputs : List Nat
  outputs : List Nat
  kernels : List Nat
deriving DecidableEq, Repr

/-- `with_output` / `with_kernel`: `if let Err(e) = v.binary_search(&x) { v.insert(e, x) }`
on a vector sorted by `key` -/
def insertSorted (key : Nat → Nat) (x : Nat) (l : List Nat) : List Nat :=
  if l.contains x then l
  else l.takeWhile (fun y => decide (key y < key x)) ++ x :: l.dropWhile (fun y => decide (key y < key x))

/-- `Block::from_reward(prev, txs, reward_out, reward_kern, difficulty)`: body and
`header.total_kernel_offset` -/
def fromReward (K : Keys) (prevOffset : Nat) (txs : List Tx) (rout rkern : Nat) : Except Err Block :=
  match aggregate K txs with
  | .error e => .error e
  | .ok agg =>
    match sumKernelOffsets [agg.offset, prevOffset] [] with
    | .error e => .error e
    | .ok off =>
      .ok ⟨off, agg.v2, agg.inputs, insertSorted K.ok rout agg.outputs, insertSorted K.kk rkern agg.kernels⟩

/-- compact block: header (only the offset is modelled), nonce, full coinbase outputs and
kernels, and the kernels represented by a short id.  `kernIds` records *which* kernels are
represented; the 6-byte short-id values (siphash keyed by header hash and nonce) and their order are
in `Model/TxBlock.lean` (`shortIdOf`, `kernIdsOf`). -/
structure CompactBlock where
  header : Nat
  nonce : Nat
  outFull : List Nat
  kernFull : List Nat
  kernIds : List Nat
deriving DecidableEq, Repr

/-- `impl From<Block> for CompactBlock` (with the nonce made explicit) -/
def compact (K : Keys) (nonce : Nat) (b : Block) : CompactBlock :=
  { header := b.totalOffset, nonce := nonce,
    outFull := sortBy K.ok (b.outputs.filter isCoinbase),
    kernFull := sortBy K.kk (b.kernels.filter isCoinbase),
    kernIds := b.kernels.filter (fun k => !isCoinbase k) }

/-- `Block::hydrate_from(cb, txs)` -/
def hydrateFrom (K : Keys) (cb : CompactBlock) (txs : List Tx) : Except Err Block :=
  let inputs := txs.flatMap (Tx.inputsCO K)
  let outputs := txs.flatMap (·.outputs)
  let kernels := txs.flatMap (·.kernels)
  match cutThrough id outCommit K.ik K.ok inputs outputs with
  | .error e => .error e
  | .ok r =>
    .ok ⟨cb.header, false, sortBy K.ik r.ins, sortBy K.ok (r.outs ++ cb.outFull),
         sortBy K.kk (kernels ++ cb.kernFull)⟩

/-! ## multiset specification -/

/-- spec of cut-through on multisets given as lists: `(I − O, O − I)` with truncated difference,
per element: the kept inputs contain `x` exactly `count x I − count x (O.map cb)` times
(`Props/C12.lean: cutThrough_count` writes the same difference out). -/
def specKeptIn (ins outCommits : List Nat) (x : Nat) : Nat := ins.count x - outCommits.count x

end GV.Tx
