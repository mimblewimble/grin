import GrinVerif.Model.Basic
/-! Crash model for block / header acceptance (C09).

Durable state = what survives a process death: the LMDB committed state (head, header head,
stored blocks with their spent index) and the MMR files (header MMR hash+data; output MMR
hash+data+leaf set; kernel MMR hash+data). An acceptance is a list of durable steps in the order
the code executes them (`txhashset::header_extending` / `extending`: child batch commit, file
flushes = truncate then append then fsync, leaf-set temp-file rename, then the outer LMDB
commit; chain/src/txhashset/txhashset.rs, store/src/{types,pmmr,lmdb}.rs); `crashAfter k` is the
durable state after the first `k` steps; `recover` models `Chain::init` → `setup_head`
(chain/src/chain.rs): header-MMR consistency check (`PMMRHandle::new` head hash, `init_head`),
then rewind the txhashset to the stored head, validate roots, and on failure fall back to the
previous block (`rewind_single_block` re-adds that block's spent positions from the spent
index), deleting the block, until a state validates or genesis is reached.
Range-proof files mirror the output files and are not modelled separately; compaction is
modelled on top of this file in `Model/CrashCompact.lean`. -/

namespace GV.Crash

structure BlkInfo where
  id : Nat
  parent : Option Nat
  work : Nat
  /-- created output ids, in body order -/
  outs : List Nat
  /-- spent output ids -/
  ins : List Nat
deriving Repr, DecidableEq, Inhabited

/-- an output leaf: (creating block, output id) -/
abbrev Leaf := Nat × Nat

def leavesOf (path : List BlkInfo) : List Leaf :=
  path.flatMap fun b => b.outs.map fun o => (b.id, o)

/-- remove the most recently created unspent leaf carrying output id `o` -/
def spendOne (u : List Leaf) (o : Nat) : List Leaf :=
  match u.reverse.find? (·.2 == o) with
  | some l => u.erase l
  | none => u

/-- leaves a block spends, resolved in the state `u` it is applied to -/
def spentLeaves (u : List Leaf) (b : BlkInfo) : List Leaf :=
  b.ins.filterMap fun o => u.reverse.find? (·.2 == o)

def applyU (u : List Leaf) (b : BlkInfo) : List Leaf :=
  (b.ins.foldl spendOne u) ++ b.outs.map fun o => (b.id, o)

/-- unspent leaves after replaying a path (genesis first) -/
def unspentOf (path : List BlkInfo) : List Leaf := path.foldl applyU []

structure Durable where
  dbHead : Nat
  dbHHead : Nat
  /-- header ids by height -/
  hdrHash : List Nat
  hdrData : List Nat
  outHash : List Leaf
  outData : List Leaf
  leaf : List Leaf
  /-- kernel MMR: one entry per block (the creating block id) -/
  kerHash : List Nat
  kerData : List Nat
deriving Repr, DecidableEq, Inhabited

/-- the consistent durable state of a node whose head and header head are the tip of `path` -/
def consistent (path : List BlkInfo) : Durable :=
  let tip := (path.getLast?.map (·.id)).getD 0
  { dbHead := tip, dbHHead := tip,
    hdrHash := path.map (·.id), hdrData := path.map (·.id),
    outHash := leavesOf path, outData := leavesOf path, leaf := unspentOf path,
    kerHash := path.map (·.id), kerData := path.map (·.id) }

inductive Step
  | childCommit            -- nested LMDB commit: nothing durable
  | hdrHashTrunc | hdrHashApp | hdrDataTrunc | hdrDataApp | hdrCommit
  | outHashTrunc | outHashApp | outDataTrunc | outDataApp | leafRename
  | kerHashTrunc | kerHashApp | kerDataTrunc | kerDataApp
  | finalCommit
deriving Repr, DecidableEq, Inhabited

/-- what an acceptance is heading for: the new block's path, the fork point's depth (number of
blocks shared with the old path) and whether head / header head move -/
structure Target where
  newPath : List BlkInfo
  forkLen : Nat
  movesHHead : Bool
  movesHead : Bool

def Target.tip (t : Target) : Nat := (t.newPath.getLast?.map (·.id)).getD 0
def Target.forkPath (t : Target) : List BlkInfo := t.newPath.take t.forkLen

def applyStep (t : Target) (d : Durable) : Step → Durable
  | .childCommit => d
  | .hdrHashTrunc => { d with hdrHash := d.hdrHash.take t.forkLen }
  | .hdrHashApp => { d with hdrHash := t.newPath.map (·.id) }
  | .hdrDataTrunc => { d with hdrData := d.hdrData.take t.forkLen }
  | .hdrDataApp => { d with hdrData := t.newPath.map (·.id) }
  | .hdrCommit => if t.movesHHead then { d with dbHHead := t.tip } else d
  | .outHashTrunc => { d with outHash := d.outHash.take (leavesOf t.forkPath).length }
  | .outHashApp => { d with outHash := leavesOf t.newPath }
  | .outDataTrunc => { d with outData := d.outData.take (leavesOf t.forkPath).length }
  | .outDataApp => { d with outData := leavesOf t.newPath }
  | .leafRename => { d with leaf := unspentOf t.newPath }
  | .kerHashTrunc => { d with kerHash := d.kerHash.take t.forkLen }
  | .kerHashApp => { d with kerHash := t.newPath.map (·.id) }
  | .kerDataTrunc => { d with kerData := d.kerData.take t.forkLen }
  | .kerDataApp => { d with kerData := t.newPath.map (·.id) }
  | .finalCommit => if t.movesHead then { d with dbHead := t.tip } else d

/-- the durable steps of accepting a block whose header is new and which becomes the head, in
the code's order -/
def blockSteps : List Step :=
  [.childCommit, .hdrHashTrunc, .hdrHashApp, .hdrDataTrunc, .hdrDataApp, .hdrCommit,
   .childCommit, .outHashTrunc, .outHashApp, .outDataTrunc, .outDataApp, .leafRename,
   .kerHashTrunc, .kerHashApp, .kerDataTrunc, .kerDataApp, .finalCommit]

/-- the durable steps of accepting a header only -/
def headerSteps : List Step :=
  [.childCommit, .hdrHashTrunc, .hdrHashApp, .hdrDataTrunc, .hdrDataApp, .hdrCommit]

def crashAfter (t : Target) (d : Durable) (steps : List Step) (k : Nat) : Durable :=
  (steps.take k).foldl (applyStep t) d

inductive Why
  | other      -- Error::Other ("header PMMR inconsistent" / no head hash)
  | storeErr   -- a block or header the recovery needs is not in the database
deriving Repr, DecidableEq, Inhabited

def Why.toString : Why → String
  | .other => "Other"
  | .storeErr => "StoreErr"

inductive Rec
  /-- `Chain::init` fails: the node does not open without manual repair -/
  | openFail (why : Why)
  /-- opens with this head -/
  | ok (head : Nat)
deriving Repr, DecidableEq, Inhabited

/-- the canonical path (genesis first) of a stored block, from the block table; fuel = table size -/
def pathOf (tbl : List BlkInfo) : Nat → Nat → List BlkInfo → Option (List BlkInfo)
  | 0, _, _ => none
  | fuel+1, id, acc =>
    match tbl.find? (·.id == id) with
    | none => none
    | some b => match b.parent with
      | none => some (b :: acc)
      | some p => pathOf tbl fuel p (b :: acc)

/-- does the txhashset, rewound to the candidate head with the given re-added spent leaves,
validate against that head's roots (output root + bitmap root + kernel root)? -/
def validAt (bitmapCommitted : Nat → Bool) (d : Durable) (readded : List Leaf) (path : List BlkInfo) : Bool :=
  let L := leavesOf path
  let leaf' := (d.leaf.filter fun l => L.contains l) ++ readded.filter fun l => L.contains l ∧ !d.leaf.contains l
  d.outHash.take L.length == L && d.outData.take L.length == L &&
  d.kerHash.take path.length == path.map (·.id) && d.kerData.take path.length == path.map (·.id) &&
  -- the unspent bitmap is folded into the output root only from header version 3 on
  (!bitmapCommitted (path.length - 1) ||
    ((unspentOf path).all (fun l => leaf'.contains l) && leaf'.all (fun l => (unspentOf path).contains l)))

/-- the fallback loop of `setup_head`; fuel = number of blocks; `bc h` = the header at height `h`
commits to the unspent bitmap (header version ≥ 3) -/
def fallback (bc : Nat → Bool) (tbl : List BlkInfo) (d : Durable) : Nat → Nat → List Leaf → Rec
  | 0, h, _ => .ok h
  | fuel+1, h, readded =>
    match pathOf tbl (tbl.length + 1) h [] with
    | none => .openFail .storeErr
    | some path =>
      if path.length ≤ 1 then .ok h   -- genesis: roots are not validated at height 0
      else if validAt bc d readded path then .ok h
      else
        -- undo block h: its spent leaves come back (spent index), the block is deleted
        let parentPath := path.dropLast
        let b := path.getLast!
        let readded' := readded ++ spentLeaves (unspentOf parentPath) b
        fallback bc tbl d fuel ((parentPath.getLast?.map (·.id)).getD 0) readded'

/-- `Chain::init` on a durable state -/
def recover (bc : Nat → Bool) (tbl : List BlkInfo) (d : Durable) : Rec :=
  -- PMMRHandle::new / head_hash: the data file must hold the last header the hash file counts
  if d.hdrHash.length ≠ d.hdrData.length then .openFail .other else
  -- init_head: the header MMR must hold header_head at its height
  match pathOf tbl (tbl.length + 1) d.dbHHead [] with
  | none => .openFail .storeErr
  | some hp =>
    if d.hdrData.take hp.length ≠ hp.map (·.id) then .openFail .other else
    fallback bc tbl d (tbl.length + 1) d.dbHead []

end GV.Crash
