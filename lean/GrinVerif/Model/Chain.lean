import GrinVerif.Model.Basic
import GrinVerif.Gen.Consts
/-! Specification-level chain model (serves C01, C02, C03, C06, C13).

A block tree of abstract blocks; the state of a block is defined by **replay from genesis**
(`stateAt`), validity of a block by the consensus rules evaluated on the replayed state of its
parent; the node state is (known headers, stored blocks, head, header head, orphan pool) and
`deliverBlock` / `deliverHeader` follow `Chain::process_block` / `pipe::process_block` /
`pipe::process_block_header` (chain/src/chain.rs, chain/src/pipe.rs) in the code's order.
Commitments are abstract output ids; values are the openings known to the harness
(DESIGN §2.3); signature / range-proof / blinding-level faults are carried as tags. -/

namespace GV.Chain

inductive Ker
  | cb
  | plain (fee : Nat)
  | hl (fee lock : Nat)
  | nrd (fee rel : Nat) (ex : String)
deriving Repr, DecidableEq, Inhabited

def Ker.fee : Ker → Nat
  | .cb => 0
  | .plain f => f
  | .hl f _ => f
  | .nrd f _ _ => f

structure OutDef where
  id : Nat
  cb : Bool
  v : Nat
deriving Repr, Inhabited

structure Blk where
  id : Nat
  parent : Option Nat
  h : Nat
  work : Nat
  ver : Nat
  ts : Nat
  ins : List Nat
  /-- (output id, flagged coinbase in the block) -/
  outs : List (Nat × Bool)
  kers : List Ker
  tags : List String
deriving Repr, Inhabited

/-- replayed chain state along one path -/
structure UState where
  /-- unspent outputs: (id, creation height, coinbase) -/
  utxo : List (Nat × Nat × Bool) := []
  /-- NRD kernels seen on this path: (excess, height), most recent first -/
  nrd : List (String × Nat) := []
  /-- height of the last block applied -/
  height : Nat := 0
deriving Repr, Inhabited

def UState.has (s : UState) (o : Nat) : Bool := s.utxo.any (·.1 == o)
def UState.find (s : UState) (o : Nat) : Option (Nat × Nat × Bool) := s.utxo.find? (·.1 == o)

structure Params where
  maturity : Nat := GV.Gen.AUTOMATED_TESTING_COINBASE_MATURITY
  reward : Nat := GV.Gen.REWARD
  hfInterval : Nat := GV.Gen.TESTING_HARD_FORK_INTERVAL
  maxOrphans : Nat := GV.Gen.MAX_ORPHAN_SIZE

/-- `consensus::header_version` for AutomatedTesting: a hard fork every `hfInterval` blocks up to v5 -/
def headerVersion (p : Params) (h : Nat) : Nat :=
  let v := h / p.hfInterval + 1
  if v > 5 then 5 else v

/-- error classes (names as produced by the harness from the Rust `Error`) -/
abbrev Err := String

def hasTag (b : Blk) (pfx : String) : Option String :=
  (b.tags.find? (·.startsWith pfx)).map (fun t => (t.drop pfx.length).toString)

/-- value of an output id -/
def valOf (outs : List OutDef) (o : Nat) : Nat :=
  match outs.find? (·.id == o) with
  | some d => d.v
  | none => 0

def sumVals (outs : List OutDef) (ids : List Nat) : Nat := (ids.map (valOf outs)).foldl (· + ·) 0

def Blk.fees (b : Blk) : Nat := (b.kers.map Ker.fee).foldl (· + ·) 0

/-- the block spends an output it creates itself (`verify_cut_through`) -/
def cutThroughViolation (b : Blk) : Bool := b.ins.any (fun i => b.outs.any (·.1 == i))

/-- an input or output commitment occurs twice inside the block (`verify_sorted_and_unique`) -/
def dupInBody (b : Blk) : Bool := !(decide b.ins.Nodup) || !(decide (b.outs.map (·.1)).Nodup)

/-- a height-locked kernel whose lock height is above the block height -/
def lockViolation (b : Blk) : Bool :=
  b.kers.any fun k => match k with
    | .hl _ l => decide (l > b.h)
    | _ => false

/-- NRD kernels before header version 4 -/
def nrdEraViolation (b : Blk) : Bool :=
  (b.kers.any fun k => match k with | .nrd .. => true | _ => false) && decide (b.ver < 4)

/-- `verify_coinbase`, value component: coinbase-flagged outputs must claim exactly reward + fees -/
def coinbaseMismatch (p : Params) (outs : List OutDef) (b : Blk) : Bool :=
  decide (sumVals outs ((b.outs.filter (·.2)).map (·.1)) ≠ p.reward + b.fees) ||
  (decide ((b.kers.filter (· == .cb)).length = 0) && b.outs.any (·.2))

/-- `verify_kernel_sums`, value component: Σ out = Σ in + reward -/
def valueMismatch (p : Params) (outs : List OutDef) (b : Blk) (insVals : Nat) : Bool :=
  decide (sumVals outs (b.outs.map (·.1)) ≠ insVals + p.reward)

/-- Body validation that needs no chain state (`Block::validate`): tags carry signature /
range-proof / sorting faults (`body:`) and blinding-level sum faults (`ksum:`); cut-through,
lock heights, NRD era, the coinbase claim and the value balance are computed. -/
def validateBody (p : Params) (outs : List OutDef) (b : Blk) (insVals : Nat) : Option Err :=
  match hasTag b "body:" with
  | some e => some e
  | none =>
  if dupInBody b then some "Block:Transaction:Serialization"
  else if cutThroughViolation b then some "Block:Transaction:CutThrough"
  else if lockViolation b then some "Block:KernelLockHeight"
  else if nrdEraViolation b then some "Block:NRDKernelPreHF3"
  else if coinbaseMismatch p outs b then
    -- no coinbase kernel at all: summing an empty list of excesses is a secp error
    some (if (b.kers.filter (· == .cb)).length = 0 then "Block:Secp" else "Block:CoinbaseSumMismatch")
  else if valueMismatch p outs b insVals then some "Block:KernelSumMismatch"
  else hasTag b "ksum:"

/-- some coinbase output being spent has not matured at the block's height -/
def immature (p : Params) (s : UState) (b : Blk) : Bool :=
  b.ins.any fun i => match s.find i with
    | some (_, c, true) => decide (b.h < c + p.maturity)
    | _ => false

/-- some created output duplicates a commitment that is currently unspent -/
def dupOutput (s : UState) (b : Blk) : Bool := b.outs.any (fun o => s.has o.1)

/-- some NRD kernel repeats an excess seen fewer than its relative height blocks ago on this path
(the code computes `pos.height.saturating_sub(prev.height) < relative_height`; on a path the
previous occurrence is never above the block, `hPrev ≤ b.h`, where that is `b.h < hPrev + rel`).
Two NRD kernels sharing an excess INSIDE one block are refused earlier, by
`verify_no_nrd_duplicates`: `Model/ChainNrdDup.lean`. -/
def nrdBad (s : UState) (b : Blk) : Bool :=
  b.kers.any fun k => match k with
    | .nrd _ rel ex => match s.nrd.find? (·.1 == ex) with
      | some (_, hPrev) => decide (b.h < hPrev + rel)
      | none => false
    | _ => false

/-- the state-dependent rules in the code's order: coinbase maturity (which first resolves every
input: `AlreadySpent`), duplicate outputs, inputs unspent, block sums (tag: blinding level), NRD
relative heights, then the late root/size check (tag). -/
def stateChecks (p : Params) (s : UState) (b : Blk) : Option Err :=
  if !(b.ins.all s.has) then some "AlreadySpent"
  else if immature p s b then some "ImmatureCoinbase"
  else if dupOutput s b then some "DuplicateCommitment"
  else match hasTag b "sums:" with
  | some e => some e
  | none =>
  if nrdBad s b then some "NRDRelativeHeight"
  else hasTag b "late:"

/-- the effect of a block on the replayed state: spent outputs leave, new outputs enter -/
def effects (s : UState) (b : Blk) : UState :=
  { utxo := s.utxo.filter (fun u => !b.ins.contains u.1) ++ b.outs.map (fun o => (o.1, b.h, o.2)),
    nrd := (b.kers.filterMap fun k => match k with
      | .nrd _ _ ex => some (ex, b.h)
      | _ => none) ++ s.nrd,
    height := b.h }

/-- Apply a block to the replayed state of its parent. -/
def applyBlock (p : Params) (s : UState) (b : Blk) : Except Err UState :=
  match stateChecks p s b with
  | some e => .error e
  | none => .ok (effects s b)

structure Node where
  outs : List OutDef := []
  blks : List Blk := []
  /-- header ids known (validated and saved) -/
  headers : List Nat := [0]
  /-- full blocks stored (validated in their context) -/
  stored : List Nat := [0]
  head : Nat := 0
  hhead : Nat := 0
  /-- orphan pool in insertion order -/
  orphans : List Nat := []
deriving Inhabited

def Node.blk (n : Node) (id : Nat) : Option Blk := n.blks.find? (·.id == id)

/-- path from genesis to `id` (inclusive), root first; fuel = number of blocks -/
def pathTo (n : Node) : Nat → Nat → List Blk → Option (List Blk)
  | 0, _, _ => none
  | fuel+1, id, acc =>
    match n.blk id with
    | none => none
    | some b => match b.parent with
      | none => some (b :: acc)
      | some p => pathTo n fuel p (b :: acc)

def Node.path (n : Node) (id : Nat) : Option (List Blk) := pathTo n (n.blks.length + 1) id []

/-- replay: the state a block's own ancestors lead to (genesis outputs included) -/
def replay (p : Params) : UState → List Blk → Except Err UState
  | s, [] => .ok s
  | s, b :: bs => match applyBlock p s b with
    | .error e => .error e
    | .ok s' => replay p s' bs

def genesisState (g : Blk) : UState :=
  { utxo := g.outs.map (fun o => (o.1, 0, o.2)), nrd := [], height := 0 }

def Node.stateAt (n : Node) (p : Params) (id : Nat) : Except Err UState :=
  match n.path id with
  | none => .error "NoPath"
  | some [] => .error "NoPath"
  | some (g :: rest) => replay p (genesisState g) rest

def Node.workOf (n : Node) (id : Nat) : Nat := match n.blk id with | some b => b.work | none => 0
def Node.heightOf (n : Node) (id : Nat) : Nat := match n.blk id with | some b => b.h | none => 0
def Node.parentOf (n : Node) (id : Nat) : Option Nat := match n.blk id with | some b => b.parent | none => none

/-- `validate_header` + `validate_root` of `process_block_header` (tags carry root / mmr-size faults) -/
def validateHeader (p : Params) (n : Node) (b : Blk) : Option Err :=
  match b.parent with
  | none => some "StoreErr"
  | some par =>
  if !n.headers.contains par then some "StoreErr" else
  if b.h ≠ n.heightOf par + 1 then some "InvalidBlockHeight" else
  if b.ver ≠ headerVersion p b.h then some "InvalidBlockVersion" else
  match n.blk par with
  | none => some "StoreErr"
  | some pb =>
  if b.ts ≤ pb.ts then some "InvalidBlockTime" else
  match hasTag b "hdr:" with
  | some e => some e
  | none => none

/-- `pipe::process_block_header`: returns the node (header possibly saved, header head possibly
advanced) or an error with the node unchanged. -/
def processHeader (p : Params) (n : Node) (b : Blk) : Except Err Node :=
  -- check_known against head / head.prev / stored blocks: success, nothing to do
  if b.id == n.head ∨ some b.id == n.parentOf n.head ∨ n.stored.contains b.id then .ok n else
  match b.parent with
  | none => .error "StoreErr"
  | some par =>
  if !n.headers.contains par then .error "StoreErr" else
  if n.headers.contains b.id ∧ ¬ (b.work > n.workOf n.hhead) then .ok n else
  match validateHeader p n b with
  | some e => .error e
  | none =>
    let hs := if n.headers.contains b.id then n.headers else n.headers ++ [b.id]
    let hh := if b.work > n.workOf n.hhead then b.id else n.hhead
    .ok { n with headers := hs, hhead := hh }

inductive DRes
  | okHead
  | okFork
  | err (e : Err)
deriving Repr, DecidableEq

def DRes.toString : DRes → String
  | .okHead => "ok:head"
  | .okFork => "ok:fork"
  | .err e => s!"err:{e}"

/-- outcome of the cheap pre-checks of `process_block_single` (`is_known`, `check_orphan`) and
of `check_known` in `pipe::process_block` -/
inductive Pre
  | reject (e : Err)
  | orphan
  | go (parent : Nat)
deriving Repr, DecidableEq

def precheck (n1 : Node) (b : Blk) : Pre :=
  -- is_known
  if b.id == n1.head then .reject "Unfit" else
  if b.work ≤ n1.workOf n1.head ∧ n1.stored.contains b.id then .reject "Unfit" else
  -- check_orphan
  match b.parent with
  | none => .reject "StoreErr"
  | some par =>
  if ¬ (par == n1.head ∨ n1.stored.contains par) then .orphan else
  -- pipe::process_block: check_known
  if b.id == n1.head ∨ some b.id == n1.parentOf n1.head then .reject "Unfit" else
  if n1.stored.contains b.id then
    .reject (if b.h + 50 < n1.heightOf n1.head then "OldBlock" else "Unfit")
  else .go par

/-- full validation of a block against the replayed state of its own parent: body rules
(`validate_block`), then the state-dependent rules inside the extension (`applyBlock`).
No node state is modified. Returns the state after the block. -/
def checkBlock (p : Params) (n1 : Node) (b : Blk) (par : Nat) : Except Err UState :=
  match n1.stateAt p par with
  | .error e => .error s!"ParentState:{e}"
  | .ok sPar =>
  match validateBody p n1.outs b (sumVals n1.outs b.ins) with
  | some e => .error e
  | none => applyBlock p sPar b

/-- `add_block` + `update_head` when the block has more work than the head -/
def storeBlock (n1 : Node) (b : Blk) : Node × DRes :=
  let n2 := { n1 with stored := n1.stored ++ [b.id] }
  if b.work > n1.workOf n1.head then ({ n2 with head := b.id }, .okHead)
  else (n2, .okFork)

def addOrphan (n1 : Node) (b : Blk) : Node :=
  { n1 with orphans := if n1.orphans.contains b.id then n1.orphans else n1.orphans ++ [b.id] }

/-- `Chain::process_block_single` (without the orphan re-check) -/
def processBlockSingle (p : Params) (n : Node) (b : Blk) : Node × DRes :=
  match processHeader p n b with
  | .error e => (n, .err e)
  | .ok n1 =>
  match precheck n1 b with
  | .reject e => (n1, .err e)
  | .orphan => (addOrphan n1 b, .err "Orphan")
  | .go par =>
  match checkBlock p n1 b par with
  | .error e => (n1, .err e)
  | .ok _ => storeBlock n1 b

/-- `check_orphans(height)`: take every orphan at `height`, process each; continue with the next
height while something was accepted. Fuel bounds the number of rounds. -/
def checkOrphans (p : Params) : Nat → Node → Nat → Node
  | 0, n, _ => n
  | fuel+1, n, height =>
    let (at_, rest) := n.orphans.partition (fun o => n.heightOf o == height)
    if at_.isEmpty then n else
    let n0 := { n with orphans := rest }
    let step := at_.foldl (fun (acc : Node × Option Nat) o =>
      match acc.1.blk o with
      | none => acc
      | some b =>
        let (n', r) := processBlockSingle p acc.1 b
        match r with
        | .err _ => (n', acc.2)
        | _ => (n', some b.h)) (n0, none)
    match step.2 with
    | some hAcc => checkOrphans p fuel step.1 (hAcc + 1)
    | none => step.1

/-- `Chain::process_block` -/
def deliverBlock (p : Params) (n : Node) (b : Blk) : Node × DRes :=
  let (n1, r) := processBlockSingle p n b
  match r with
  | .err _ => (n1, r)
  | _ => (checkOrphans p (n1.blks.length + 2) n1 (b.h + 1), r)

def deliverHeader (p : Params) (n : Node) (b : Blk) : Node × String :=
  match processHeader p n b with
  | .error e => (n, s!"err:{e}")
  | .ok n' => (n', "ok")

/-- the unspent set the node must report: replay of the path to its head -/
def Node.reportedUtxo (n : Node) (p : Params) : List Nat :=
  match n.stateAt p n.head with
  | .ok s => (s.utxo.map (·.1))
  | .error _ => []

/-! ### Pool-facing admission checks against the head (`Chain::verify_coinbase_maturity`,
`verify_tx_lock_height`, `validate_tx`): all are evaluated for the NEXT block height. -/

/-- a transaction as the chain sees it -/
structure TxA where
  ins : List Nat
  outs : List Nat
  kers : List Ker
deriving Repr, Inhabited

/-- `verify_coinbase_maturity(inputs)`: every input must be unspent; a coinbase among them must
be mature at the next block height -/
def txMaturity (p : Params) (s : UState) (t : TxA) : Option Err :=
  if !(t.ins.all s.has) then some "AlreadySpent"
  else if t.ins.any (fun i => match s.find i with
      | some (_, c, true) => decide (s.height + 1 < c + p.maturity)
      | _ => false) then some "ImmatureCoinbase"
  else none

/-- `verify_tx_lock_height`: the largest lock height must not exceed the next block height -/
def txLock (s : UState) (t : TxA) : Option Err :=
  if t.kers.any (fun k => match k with | .hl _ l => decide (l > s.height + 1) | _ => false)
  then some "TxLockHeight" else none

/-- `validate_tx`: outputs must not duplicate unspent commitments, inputs must be unspent, NRD
kernels must respect their relative height against this chain at the next block height -/
def txValidate (s : UState) (t : TxA) : Option Err :=
  if t.outs.any s.has then some "DuplicateCommitment"
  else if !(t.ins.all s.has) then some "AlreadySpent"
  else if t.kers.any (fun k => match k with
      | .nrd _ rel ex => match s.nrd.find? (·.1 == ex) with
        | some (_, hPrev) => decide (s.height + 1 < hPrev + rel)
        | none => false
      | _ => false) then some "NRDRelativeHeight"
  else none

end GV.Chain
