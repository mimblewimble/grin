import GrinVerif.Model.Basic
/-! Model of `core/src/core/pmmr/pmmr.rs` (pure position arithmetic), the PMMR over a Vec
backend (`vec_backend.rs`) and `merkle_proof.rs`.  Positions are 0-based as in the code.
Arithmetic is on `Nat`; it coincides with the u64 code wherever the Rust expression does not
overflow (none does for positions < 2^63; `Props/C07U64.lean` gives the exact range per function,
`Model/PmmrU64.lean` the wrapping versions the correspondence check uses beyond). -/

namespace GV.Pmmr

/-- `insertion_to_pmmr_index`: 2n - popcount n -/
def mmr (n : Nat) : Nat := 2*n - popcount n

/-- the loop of `peak_map_height` / `peak_sizes_height`, peak size `2^k - 1` downwards -/
def greedy : Nat → Nat → Nat → Nat × Nat
  | 0, s, pm => (pm, s)
  | k+1, s, pm =>
    if s ≥ 2^(k+1) - 1 then greedy k (s - (2^(k+1) - 1)) (2*pm+1)
    else greedy k s (2*pm)

/-- `peak_map_height(size)`; `ALL_ONES >> size.leading_zeros()` is `2^(bitLen size) - 1` -/
def peakMapHeight (size : Nat) : Nat × Nat :=
  if size = 0 then (0, 0) else greedy (bitLen size) size 0

def greedySizes : Nat → Nat → List Nat × Nat
  | 0, s => ([], s)
  | k+1, s =>
    if s ≥ 2^(k+1) - 1 then
      let r := greedySizes k (s - (2^(k+1) - 1))
      ((2^(k+1) - 1) :: r.1, r.2)
    else greedySizes k s

/-- `peak_sizes_height(size)` -/
def peakSizesHeight (size : Nat) : List Nat × Nat :=
  if size = 0 then ([], 0) else greedySizes (bitLen size) size

/-- running sums minus one (the `scan` in `peaks`) -/
def scanPeaks : Nat → List Nat → List Nat
  | _, [] => []
  | acc, x :: xs => (acc + x - 1) :: scanPeaks (acc + x) xs

/-- `peaks(size)` -/
def peaks (size : Nat) : List Nat :=
  let r := peakSizesHeight size
  if r.2 = 0 then scanPeaks 0 r.1 else []

/-- `n_leaves(size)` -/
def nLeaves (size : Nat) : Nat :=
  let r := peakMapHeight size
  if r.2 = 0 then r.1 else r.1 + 1

def insertionToPmmrIndex (n : Nat) : Nat := mmr n

/-- `round_up_to_leaf_pos` -/
def roundUpToLeafPos (pos : Nat) : Nat :=
  let r := peakMapHeight pos
  insertionToPmmrIndex (if r.2 = 0 then r.1 else r.1 + 1)

/-- `pmmr_leaf_to_insertion_index` -/
def pmmrLeafToInsertionIndex (pos : Nat) : Option Nat :=
  let r := peakMapHeight pos
  if r.2 = 0 then some r.1 else none

/-- `bintree_postorder_height` -/
def height (pos : Nat) : Nat := (peakMapHeight pos).2

def isLeaf (pos : Nat) : Bool := height pos == 0

/-- bit test `(peak_map & (1 << h)) != 0` -/
def bitSet (pm h : Nat) : Bool := pm / 2^h % 2 == 1

/-- `family(pos)` = (parent, sibling) -/
def family (pos : Nat) : Nat × Nat :=
  let r := peakMapHeight pos
  let peak := 2^r.2
  if bitSet r.1 r.2 then (pos + 1, pos + 1 - 2*peak)
  else (pos + 2*peak, pos + 2*peak - 1)

def isLeftSibling (pos : Nat) : Bool :=
  let r := peakMapHeight pos
  !bitSet r.1 r.2

/-- loop of `family_branch`; `h` is the current height (peak = 2^h) -/
def familyBranchLoop (pm size : Nat) : Nat → Nat → Nat → List (Nat × Nat)
  | 0, _, _ => []
  | fuel+1, cur, h =>
    if cur + 1 < size then
      let cur' := if bitSet pm h then cur + 1 else cur + 2 * 2^h
      let sib := if bitSet pm h then cur' - 2 * 2^h else cur' - 1
      if cur' ≥ size then [] else (cur', sib) :: familyBranchLoop pm size fuel cur' (h+1)
    else []

/-- `family_branch(pos, size)` -/
def familyBranch (pos size : Nat) : List (Nat × Nat) :=
  let r := peakMapHeight pos
  familyBranchLoop r.1 size (size + 1) pos r.2

def bintreeRightmost (pos : Nat) : Nat := pos - height pos
def bintreeLeftmost (pos : Nat) : Nat := pos + 2 - 2 * 2^(height pos)
/-- `bintree_range(pos)` as (start, end-exclusive) -/
def bintreeRange (pos : Nat) : Nat × Nat := (pos + 2 - 2 * 2^(height pos), pos + 1)

/-- `bintree_leaf_pos_iter(pos)` -/
def bintreeLeafPosIter (pos : Nat) : List Nat :=
  match pmmrLeafToInsertionIndex (bintreeLeftmost pos), pmmrLeafToInsertionIndex (bintreeRightmost pos) with
  | some s, some e => (List.range (e + 1 - s)).map fun i => insertionToPmmrIndex (s + i)
  | _, _ => []

/-! ### Hashing interface: the two shapes the code hashes -/

structure HashFn (α H : Type) where
  /-- `(idx, elem).hash()` -/
  leaf : Nat → α → H
  /-- `(idx, (l, r)).hash()` -/
  node : Nat → H → H → H

variable {α H : Type}

/-- inner loop of `PMMR::push`: hash with all immediately preceding peaks.
`j` is the bit index (peak = 2^j). Returns new hashes (in order) or none if a left sibling is missing. -/
def pushLoop (hf : HashFn α H) (hashes : List H) (pm : Nat) : Nat → Nat → Nat → H → List H → Option (List H)
  | 0, _, _, _, acc => some acc
  | fuel+1, j, pos, cur, acc =>
    if bitSet pm j then
      match hashes[pos + 1 - 2 * 2^j]? with
      | none => none
      | some l =>
        let cur' := hf.node (pos + 1) l cur
        pushLoop hf hashes pm fuel (j+1) (pos + 1) cur' (acc ++ [cur'])
    else some acc

/-- `PMMR::push` over a Vec backend whose `hashes` is the state (size = length). -/
def push (hf : HashFn α H) (hashes : List H) (e : α) : Option (List H) :=
  let pos := hashes.length
  let r := peakMapHeight pos
  if r.2 ≠ 0 then none else
  let cur := hf.leaf pos e
  match pushLoop hf hashes r.1 65 0 pos cur [cur] with
  | none => none
  | some new => some (hashes ++ new)

def pushAll (hf : HashFn α H) : List H → List α → Option (List H)
  | hs, [] => some hs
  | hs, e :: es => match push hf hs e with
    | none => none
    | some hs' => pushAll hf hs' es

/-- bag peak hashes right to left: `(peak, rhash).hash_with_index(size)` -/
def bag (hf : HashFn α H) (size : Nat) : List H → Option H
  | [] => none
  | p :: ps => match bag hf size ps with
    | none => some p
    | some r => some (hf.node size p r)

/-- `ReadablePMMR::peaks` (hashes of the peaks present) -/
def peakHashes (hashes : List H) : List H :=
  (peaks hashes.length).filterMap fun p => hashes[p]?

/-- `ReadablePMMR::root`; `none` = ZERO_HASH for empty; error if no peaks -/
inductive RootRes (H : Type) | zero | ok (h : H) | err
deriving DecidableEq, Repr

def root (hf : HashFn α H) (hashes : List H) : RootRes H :=
  if hashes.length = 0 then .zero else
  match bag hf hashes.length (peakHashes hashes) with
  | some h => .ok h
  | none => .err

/-- `bag_the_rhs(peak_pos)` -/
def bagTheRhs (hf : HashFn α H) (hashes : List H) (peakPos : Nat) : Option H :=
  bag hf hashes.length (((peaks hashes.length).filter (· > peakPos)).filterMap fun p => hashes[p]?)

/-- `peak_path(peak_pos)` -/
def peakPath (hf : HashFn α H) (hashes : List H) (peakPos : Nat) : List H :=
  let lhs := ((peaks hashes.length).filter (· < peakPos)).filterMap fun p => hashes[p]?
  let res := match bagTheRhs hf hashes peakPos with
    | some r => lhs ++ [r]
    | none => lhs
  res.reverse

/-- `merkle_proof(pos)`: (mmr_size, path) -/
def merkleProof (hf : HashFn α H) (hashes : List H) (pos : Nat) : Option (Nat × List H) :=
  let size := hashes.length
  if !isLeaf pos then none else
  match hashes[pos]? with
  | none => none
  | some _ =>
    let fb := familyBranch pos size
    let path := fb.filterMap fun x => hashes[x.2]?
    let peakPos := match fb.getLast? with
      | some x => x.1
      | none => pos
    some (size, path ++ peakPath hf hashes peakPos)

/-- position of `x` in a strictly ascending list (`binary_search`) -/
def findIdx (l : List Nat) (x : Nat) : Option Nat :=
  let i := l.idxOf x
  if i < l.length then some i else none

/-- `MerkleProof::verify` / `verify_consume`; `eh i` is the hash of the current node with index i. -/
def verifyAux (hf : HashFn α H) [DecidableEq H] (root : H) (mmrSize : Nat) (pks : List Nat) :
    List H → (Nat → H) → Nat → Bool
  | [], eh, pos => root == (if pos ≥ mmrSize then eh mmrSize else eh pos)
  | sib :: rest, eh, pos =>
    let nodeHash := if pos ≥ mmrSize then eh mmrSize else eh pos
    let fam := family pos
    match findIdx pks pos with
    | some x =>
      if x + 1 = pks.length then verifyAux hf root mmrSize pks rest (fun i => hf.node i sib nodeHash) fam.1
      else verifyAux hf root mmrSize pks rest (fun i => hf.node i nodeHash sib) fam.1
    | none =>
      if fam.1 ≥ mmrSize then verifyAux hf root mmrSize pks rest (fun i => hf.node i sib nodeHash) fam.1
      else if isLeftSibling fam.2 then verifyAux hf root mmrSize pks rest (fun i => hf.node i sib nodeHash) fam.1
      else verifyAux hf root mmrSize pks rest (fun i => hf.node i nodeHash sib) fam.1

def verify (hf : HashFn α H) [DecidableEq H] (root : H) (mmrSize : Nat) (path : List H) (e : α) (pos : Nat) : Bool :=
  verifyAux hf root mmrSize (peaks mmrSize) path (fun i => hf.leaf i e) pos

/-- `PMMR::validate` over the vec backend with nothing removed -/
def validate (hf : HashFn α H) [DecidableEq H] (hashes : List H) : Bool :=
  (List.range hashes.length).all fun n =>
    let h := height n
    if h > 0 then
      match hashes[n]?, hashes[n - 2^h]?, hashes[n - 1]? with
      | some p, some l, some r => hf.node n l r == p
      | _, _, _ => true
    else true

/-! ### Views at a size over a backend with a remove log

`PMMR::at(backend, size)`, `ReadonlyPMMR::at(backend, size)` and `RewindablePMMR::at / rewind`
(read through `as_readonly`) all see the same thing: the first `size` positions of the backend's
hash file, with the hash of a *leaf* hidden when the leaf is in the backend's remove log
(`VecBackend::removed`). `root`, `peaks`, `bag_the_rhs`, `peak_path` and the path of
`merkle_proof` read with `get_from_file` / `get_peak_from_file`, i.e. ignore the remove log;
only the presence test of `merkle_proof` and `prune` use `get_hash`. -/

structure VBackend (H : Type) where
  hashes : List H := []
  removed : List Nat := []

/-- `ReadablePMMR::get_hash` of a view at `size` -/
def vGetHash (b : VBackend H) (size pos : Nat) : Option H :=
  if pos ≥ size then none
  else if isLeaf pos && b.removed.contains pos then none
  else b.hashes[pos]?

/-- what `get_from_file` of a view at `size` can see -/
def vFile (b : VBackend H) (size : Nat) : List H := b.hashes.take size

def vRoot (hf : HashFn α H) (b : VBackend H) (size : Nat) : RootRes H := root hf (vFile b size)

def vPeaks (b : VBackend H) (size : Nat) : List H := peakHashes (vFile b size)

/-- `merkle_proof(pos)` of a view at `size` -/
def vProof (hf : HashFn α H) (b : VBackend H) (size pos : Nat) : Option (Nat × List H) :=
  if !isLeaf pos then none else
  match vGetHash b size pos with
  | none => none
  | some _ => merkleProof hf (vFile b size) pos

/-- `PMMR::prune(pos)` on a view at `size`: `none` = error (not a leaf) -/
def vPrune (b : VBackend H) (size pos : Nat) : Option (Bool × VBackend H) :=
  if !isLeaf pos then none else
  match vGetHash b size pos with
  | none => some (false, b)
  | some _ => some (true, { b with removed := pos :: b.removed })

/-- `RewindablePMMR::rewind(position)`: the new size of the view -/
def rewindView (position : Nat) : Nat := roundUpToLeafPos position

end GV.Pmmr
