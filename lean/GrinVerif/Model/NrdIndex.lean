import GrinVerif.Model.Basic
/-! The NRD "recent kernel" index as the node keeps it (property C13, clause "relative locks hold
on every fork"): a persistent doubly linked list per kernel excess, stored as flat records in LMDB.

Transliteration of `/repo/chain/src/linked_list.rs` (`ListWrapper`, `ListEntry`, `MultiIndex`:
`get_list`, `get_entry`, `peek_pos`, `push_pos`, `pop_pos`, `rewind`, `clear`, `prune`,
`pop_pos_back`) and of the callers in `/repo/chain/src/txhashset/txhashset.rs`
(`apply_kernel_rules`, `Extension::apply_kernels`, `Extension::rewind_single_block` (the NRD part),
`Extension::rewind` (the loop over blocks), `TxHashSet::verify_kernel_pos_index` (block-wise:
`verifyKernelPosIndex`; with its lazy header walk over the kernel MMR as written: `verifyWalk` /
`verifyKernelPosIndexWalk`, proved equal by `Lemmas/NrdWalk.verifyWalk_blocks` and
`Props/C13Nrd.rebuild_header_walk`),
`TxHashSet::init_recent_kernel_pos_index`).  Specification (`Spec`, `sPush`, … `sApplyBlocks`,
`sRewindBlocks`): per excess the list of occurrences, most recent first; histories: `Op`, `step`,
`run` and their specification twins.

Store: two key spaces of the chain db, prefix `K` (`NRD_KERNEL_LIST_PREFIX`, key = excess
commitment, value = `ListWrapper<CommitPos>`) and prefix `k` (`NRD_KERNEL_ENTRY_PREFIX`, key =
excess ‖ pos as 8 big-endian bytes, value = `ListEntry<CommitPos>`).  The key of an entry is
modelled as the pair (excess, pos) (injective for `pos < 2^64`, which `u64` guarantees).  The store
is an association list so that the driver can dump it; every proof goes through `alGet_alPut` /
`alGet_alDel` only.  `&mut Batch` becomes a returned store; the result of an operation is
`Out = (store after, Result)`: on the error paths the Rust returns *before* its first write, which
is visible here as the unchanged `kv` in the error outcomes (and is stated as a theorem,
`Props/C13Nrd.lean`); the loops (`rewind`, `apply_kernels`, …) propagate an error with `?` and so
return the store as modified so far.

Not modelled: (de)serialisation failures of `get_ser` (the store only ever holds records written
by this code), LMDB errors.  `u64` positions / heights are `Nat`; the only arithmetic is
`pos.height.saturating_sub(prev.height)` (`satSub`). -/

namespace GV.Nrd

/-- `chain/src/types.rs` `CommitPos { pos, height }` -/
structure CommitPos where
  pos : Nat
  height : Nat
deriving DecidableEq, Repr, Inhabited

/-- `linked_list.rs` `ListWrapper<T>` -/
inductive ListWrapper
  | single (pos : CommitPos)
  | multi (head tail : Nat)
deriving DecidableEq, Repr, Inhabited

/-- `linked_list.rs` `ListEntry<T>` -/
inductive ListEntry
  | head (pos : CommitPos) (next : Nat)
  | tail (pos : CommitPos) (prev : Nat)
  | middle (pos : CommitPos) (next prev : Nat)
deriving DecidableEq, Repr, Inhabited

/-- `ListIndexEntry::get_pos` -/
def ListEntry.getPos : ListEntry → CommitPos
  | .head p _ => p
  | .tail p _ => p
  | .middle p _ _ => p

/-- error outcomes: the `store::Error::OtherErr(..)` strings of linked_list.rs, `chain::Error::
NRDRelativeHeight` of `apply_kernel_rules`, `unimplemented!()` of `prune`, and `fuelOut` (the model's
loop bound was hit: the Rust `while` would still be running). -/
inductive Err
  /-- "pos must be increasing" -/
  | posNotIncreasing
  /-- "expected head to be head variant" -/
  | headNotHead
  /-- "next was unexpected" -/
  | nextUnexpected
  /-- "next missing" -/
  | nextMissing
  /-- "expected tail to be tail variant" -/
  | tailNotTail
  /-- "prev was unexpected" -/
  | prevUnexpected
  /-- "prev missing" -/
  | prevMissing
  /-- `Error::NRDRelativeHeight` -/
  | nrdRelativeHeight
  /-- `get_header_hash_by_height` found no header (`verify_kernel_pos_index`'s header walk) -/
  | headerNotFound
  /-- `unimplemented!("… pruning not yet implemented")` -/
  | panicUnimplemented
  | fuelOut
deriving DecidableEq, Repr, Inhabited

def Err.name : Err → String
  | .posNotIncreasing => "PosNotIncreasing"
  | .headNotHead => "HeadNotHead"
  | .nextUnexpected => "NextUnexpected"
  | .nextMissing => "NextMissing"
  | .tailNotTail => "TailNotTail"
  | .prevUnexpected => "PrevUnexpected"
  | .prevMissing => "PrevMissing"
  | .nrdRelativeHeight => "NRDRelativeHeight"
  | .headerNotFound => "HeaderNotFound"
  | .panicUnimplemented => "panic"
  | .fuelOut => "FuelOut"

/-! ## The key-value store (one LMDB write transaction's view) -/

section AL
variable {κ ν : Type} [DecidableEq κ]

def alGet : List (κ × ν) → κ → Option ν
  | [], _ => none
  | (k', v) :: r, k => if k' = k then some v else alGet r k

def alDel : List (κ × ν) → κ → List (κ × ν)
  | [], _ => []
  | (k', v) :: r, k => if k' = k then alDel r k else (k', v) :: alDel r k

def alPut (l : List (κ × ν)) (k : κ) (v : ν) : List (κ × ν) := (k, v) :: alDel l k

end AL

structure KV (ε : Type) where
  /-- prefix `K`: excess ↦ `ListWrapper` -/
  lists : List (ε × ListWrapper) := []
  /-- prefix `k`: (excess, pos) ↦ `ListEntry` -/
  entries : List ((ε × Nat) × ListEntry) := []
deriving Repr, Inhabited

variable {ε : Type} [DecidableEq ε]

/-- `MultiIndex::get_list` -/
def KV.getList (kv : KV ε) (e : ε) : Option ListWrapper := alGet kv.lists e
/-- `ListIndex::get_entry` (key `entry_key(commit, pos)`) -/
def KV.getEntry (kv : KV ε) (e : ε) (pos : Nat) : Option ListEntry := alGet kv.entries (e, pos)
/-- `batch.db.put_ser(list_key …)` -/
def KV.putList (kv : KV ε) (e : ε) (w : ListWrapper) : KV ε := { kv with lists := alPut kv.lists e w }
/-- `batch.db.put_ser(entry_key(commit, pos) …)` -/
def KV.putEntry (kv : KV ε) (e : ε) (pos : Nat) (en : ListEntry) : KV ε :=
  { kv with entries := alPut kv.entries (e, pos) en }
/-- `batch.delete(list_key …)` -/
def KV.delList (kv : KV ε) (e : ε) : KV ε := { kv with lists := alDel kv.lists e }
/-- `batch.delete(entry_key(commit, pos) …)` -/
def KV.delEntry (kv : KV ε) (e : ε) (pos : Nat) : KV ε :=
  { kv with entries := alDel kv.entries (e, pos) }

/-- store after the call, and the `Result` the call returned -/
structure Out (ε : Type) (α : Type) where
  kv : KV ε
  res : Except Err α

/-! ## `impl ListIndex for MultiIndex<T>` -/

/-- `MultiIndex::peek_pos` (read only) -/
def peekPos (kv : KV ε) (e : ε) : Except Err (Option CommitPos) :=
  match kv.getList e with
  | none => .ok none
  | some (.single pos) => .ok (some pos)
  | some (.multi head _) =>
    match kv.getEntry e head with
    | some (.head pos _) => .ok (some pos)
    | _ => .error .headNotHead

/-- `MultiIndex::push_pos` -/
def pushPos (kv : KV ε) (e : ε) (newPos : CommitPos) : Out ε Unit :=
  match kv.getList e with
  | none => ⟨kv.putList e (.single newPos), .ok ()⟩
  | some (.single cur) =>
    if newPos.pos ≤ cur.pos then ⟨kv, .error .posNotIncreasing⟩ else
    ⟨((kv.putEntry e newPos.pos (.head newPos cur.pos)).putEntry e cur.pos (.tail cur newPos.pos)).putList e
        (.multi newPos.pos cur.pos), .ok ()⟩
  | some (.multi head tail) =>
    if newPos.pos ≤ head then ⟨kv, .error .posNotIncreasing⟩ else
    match kv.getEntry e head with
    | some (.head cur curNext) =>
      ⟨((kv.putEntry e newPos.pos (.head newPos cur.pos)).putEntry e cur.pos
          (.middle cur curNext newPos.pos)).putList e (.multi newPos.pos tail), .ok ()⟩
    | _ => ⟨kv, .error .headNotHead⟩

/-- `MultiIndex::pop_pos`.  Note the `Tail` branch: the list becomes `Single` and the old head
record is deleted, but the `Tail` record of the remaining element stays in the store. -/
def popPos (kv : KV ε) (e : ε) : Out ε (Option CommitPos) :=
  match kv.getList e with
  | none => ⟨kv, .ok none⟩
  | some (.single pos) => ⟨kv.delList e, .ok (some pos)⟩
  | some (.multi head tail) =>
    match kv.getEntry e head with
    | some (.head cur curNext) =>
      match kv.getEntry e curNext with
      | some (.middle pos next _) =>
        ⟨((kv.delEntry e cur.pos).putEntry e pos.pos (.head pos next)).putList e (.multi pos.pos tail),
          .ok (some cur)⟩
      | some (.tail pos _) =>
        ⟨(kv.delEntry e cur.pos).putList e (.single pos), .ok (some cur)⟩
      | some (.head _ _) => ⟨kv, .error .nextUnexpected⟩
      | none => ⟨kv, .error .nextMissing⟩
    | _ => ⟨kv, .error .headNotHead⟩

/-- `impl RewindableListIndex for MultiIndex`: `rewind`'s `while` loop, `fuel` iterations at most -/
def rewindLoop (e : ε) (rewindPos : Nat) : Nat → KV ε → Out ε Unit
  | 0, kv => ⟨kv, .error .fuelOut⟩
  | fuel + 1, kv =>
    match peekPos kv e with
    | .error err => ⟨kv, .error err⟩
    | .ok none => ⟨kv, .ok ()⟩
    | .ok (some p) =>
      if p.pos > rewindPos then
        match popPos kv e with
        | ⟨kv', .error err⟩ => ⟨kv', .error err⟩
        | ⟨kv', .ok _⟩ => rewindLoop e rewindPos fuel kv'
      else ⟨kv, .ok ()⟩

/-- loop bound used by `rewind`: on a well-formed list every `pop_pos` strictly lowers the head
position, so `head position + 2` iterations always suffice (`Lemmas/NrdRepr.lean`,
`rewindLoop_repr`); the value is irrelevant otherwise. -/
def rewindFuel (kv : KV ε) (e : ε) : Nat :=
  match peekPos kv e with
  | .ok (some p) => p.pos + 2
  | _ => 1

/-- `MultiIndex::rewind(batch, commit, rewind_pos)`: pop while the head's `pos > rewind_pos` -/
def rewind (kv : KV ε) (e : ε) (rewindPos : Nat) : Out ε Unit :=
  rewindLoop e rewindPos (rewindFuel kv e) kv

/-! ## `impl PruneableListIndex for MultiIndex<T>` -/

/-- `MultiIndex::clear`: every key of both prefixes is deleted (delete errors are ignored) -/
def clear (_kv : KV ε) : Out ε Unit := ⟨{}, .ok ()⟩

/-- `MultiIndex::prune`: `unimplemented!()` — the index is rebuilt on startup / compaction instead -/
def prune (kv : KV ε) (_e : ε) (_cutoffPos : Nat) : Out ε Unit := ⟨kv, .error .panicUnimplemented⟩

/-- `MultiIndex::pop_pos_back`.  Mirror image of `pop_pos`; in the `Head` branch the `Head` record
of the remaining element stays in the store. -/
def popPosBack (kv : KV ε) (e : ε) : Out ε (Option CommitPos) :=
  match kv.getList e with
  | none => ⟨kv, .ok none⟩
  | some (.single pos) => ⟨kv.delList e, .ok (some pos)⟩
  | some (.multi head tail) =>
    match kv.getEntry e tail with
    | some (.tail cur curPrev) =>
      match kv.getEntry e curPrev with
      | some (.middle pos _ prev) =>
        ⟨((kv.delEntry e cur.pos).putEntry e pos.pos (.tail pos prev)).putList e (.multi head pos.pos),
          .ok (some cur)⟩
      | some (.head pos _) =>
        ⟨(kv.delEntry e cur.pos).putList e (.single pos), .ok (some cur)⟩
      | some (.tail _ _) => ⟨kv, .error .prevUnexpected⟩
      | none => ⟨kv, .error .prevMissing⟩
    | _ => ⟨kv, .error .tailNotTail⟩

/-- position of the oldest element, read the way a pruning loop over `pop_pos_back` has to read it
(`get_list`, then `get_entry` of the tail pointer).  NOT in the Rust: `prune` is `unimplemented!()`;
`pruneBack` is what a prune built from the existing `pop_pos_back` does (the harness runs exactly
this loop over the real `pop_pos_back`), modelled so that the tail surgery is covered by a loop
theorem as the head surgery is by `rewind`. -/
def peekBack (kv : KV ε) (e : ε) : Except Err (Option CommitPos) :=
  match kv.getList e with
  | none => .ok none
  | some (.single pos) => .ok (some pos)
  | some (.multi _ tail) =>
    match kv.getEntry e tail with
    | some (.tail pos _) => .ok (some pos)
    | _ => .error .tailNotTail

/-- harness-level prune: pop from the back while the oldest element's `pos < cutoff` -/
def pruneBackLoop (e : ε) (cutoff : Nat) : Nat → KV ε → Out ε Unit
  | 0, kv => ⟨kv, .error .fuelOut⟩
  | fuel + 1, kv =>
    match peekBack kv e with
    | .error err => ⟨kv, .error err⟩
    | .ok none => ⟨kv, .ok ()⟩
    | .ok (some p) =>
      if p.pos < cutoff then
        match popPosBack kv e with
        | ⟨kv', .error err⟩ => ⟨kv', .error err⟩
        | ⟨kv', .ok _⟩ => pruneBackLoop e cutoff fuel kv'
      else ⟨kv, .ok ()⟩

def pruneBack (kv : KV ε) (e : ε) (cutoff : Nat) : Out ε Unit :=
  pruneBackLoop e cutoff (rewindFuel kv e) kv

/-! ## Walking a list (what an observer following the pointers sees) -/

/-- follow `next` pointers from the entry at `pos` -/
def walkFrom (kv : KV ε) (e : ε) : Nat → Nat → List CommitPos
  | 0, _ => []
  | fuel + 1, pos =>
    match kv.getEntry e pos with
    | some (.head p next) => p :: walkFrom kv e fuel next
    | some (.middle p next _) => p :: walkFrom kv e fuel next
    | some (.tail p _) => [p]
    | none => []

/-- the abstract value of the list kept for `e`: head to tail (most recent first) -/
def abs (kv : KV ε) (e : ε) : List CommitPos :=
  match kv.getList e with
  | none => []
  | some (.single pos) => [pos]
  | some (.multi head _) => walkFrom kv e (head + 1) head

/-- follow `prev` pointers from the entry at `pos` (tail to head) -/
def walkBackFrom (kv : KV ε) (e : ε) : Nat → Nat → List CommitPos
  | 0, _ => []
  | fuel + 1, pos =>
    match kv.getEntry e pos with
    | some (.tail p prev) => p :: walkBackFrom kv e fuel prev
    | some (.middle p _ prev) => p :: walkBackFrom kv e fuel prev
    | some (.head p _) => [p]
    | none => []

/-- the list read backwards from the tail pointer (oldest first) -/
def absBack (kv : KV ε) (e : ε) (fuel : Nat) : List CommitPos :=
  match kv.getList e with
  | none => []
  | some (.single pos) => [pos]
  | some (.multi _ tail) => walkBackFrom kv e fuel tail

/-! ## The callers in txhashset.rs -/

/-- what the index needs to know of a `TxKernel`: its excess and, for
`KernelFeatures::NoRecentDuplicate { relative_height, .. }`, the relative height -/
structure Kernel (ε : Type) where
  excess : ε
  nrd : Option Nat
deriving Repr, Inhabited

/-- `apply_kernel_rules(kernel, pos, batch)` with the NRD feature flag on: peek, compare heights,
push. -/
def applyKernelRules (kv : KV ε) (k : Kernel ε) (pos : CommitPos) : Out ε Unit :=
  match k.nrd with
  | none => ⟨kv, .ok ()⟩
  | some rel =>
    match peekPos kv k.excess with
    | .error err => ⟨kv, .error err⟩
    | .ok (some prev) =>
      if satSub pos.height prev.height < rel then ⟨kv, .error .nrdRelativeHeight⟩
      else pushPos kv k.excess pos
    | .ok none => pushPos kv k.excess pos

/-- `Extension::apply_kernels(kernels, height, batch)`; the kernel MMR position returned by
`apply_kernel` (`kernel_pmmr.push`) is given with each kernel. -/
def applyKernels (kv : KV ε) (height : Nat) : List (Kernel ε × Nat) → Out ε Unit
  | [] => ⟨kv, .ok ()⟩
  | (k, pos) :: rest =>
    match applyKernelRules kv k ⟨pos, height⟩ with
    | ⟨kv', .error err⟩ => ⟨kv', .error err⟩
    | ⟨kv', .ok _⟩ => applyKernels kv' height rest

/-- the part of a block the index sees -/
structure Blk (ε : Type) where
  height : Nat
  /-- `prev_header.kernel_mmr_size` -/
  prevSize : Nat
  /-- `header.kernel_mmr_size` -/
  size : Nat
  /-- kernels in block order with their kernel MMR positions (1-based, as in `CommitPos.pos`) -/
  kernels : List (Kernel ε × Nat)
deriving Repr, Inhabited

/-- `Extension::apply_block`, the NRD part: `apply_kernels(b.kernels(), b.header.height, batch)` -/
def applyBlock (kv : KV ε) (b : Blk ε) : Out ε Unit := applyKernels kv b.height b.kernels

/-- `Extension::rewind_single_block`, the NRD part: for every NRD kernel of the block,
`kernel_index.rewind(batch, kernel.excess(), prev_header.kernel_mmr_size)` -/
def rewindKernels (kv : KV ε) (prevSize : Nat) : List (Kernel ε × Nat) → Out ε Unit
  | [] => ⟨kv, .ok ()⟩
  | (k, _) :: rest =>
    match k.nrd with
    | none => rewindKernels kv prevSize rest
    | some _ =>
      match rewind kv k.excess prevSize with
      | ⟨kv', .error err⟩ => ⟨kv', .error err⟩
      | ⟨kv', .ok _⟩ => rewindKernels kv' prevSize rest

def rewindSingleBlock (kv : KV ε) (b : Blk ε) : Out ε Unit := rewindKernels kv b.prevSize b.kernels

/-- `Extension::rewind`: `rewind_single_block` for the blocks from the current head down to (not
including) the block rewound to; `bs` is that list, head first. -/
def rewindBlocks (kv : KV ε) : List (Blk ε) → Out ε Unit
  | [] => ⟨kv, .ok ()⟩
  | b :: rest =>
    match rewindSingleBlock kv b with
    | ⟨kv', .error err⟩ => ⟨kv', .error err⟩
    | ⟨kv', .ok _⟩ => rewindBlocks kv' rest

/-- blocks applied in path order (`rewind_and_apply_fork`: after the rewind, the fork's blocks) -/
def applyBlocks (kv : KV ε) : List (Blk ε) → Out ε Unit
  | [] => ⟨kv, .ok ()⟩
  | b :: rest =>
    match applyBlock kv b with
    | ⟨kv', .error err⟩ => ⟨kv', .error err⟩
    | ⟨kv', .ok _⟩ => applyBlocks kv' rest

/-- `TxHashSet::verify_kernel_pos_index(from_header, …)`: `clear`, then `apply_kernel_rules` for
every kernel from `from_header` on in MMR order, each at the height of the block it belongs to.
`bs` = the blocks from `from_header` to the head, oldest first (the header walk
`while current_pos > current_header.kernel_mmr_size` that finds the height is the block
membership). -/
def verifyKernelPosIndex (kv : KV ε) (bs : List (Blk ε)) : Out ε Unit :=
  applyBlocks (clear kv).kv bs

/-- a header as `verify_kernel_pos_index` reads it: (height, kernel_mmr_size) -/
def Blk.hdr (b : Blk ε) : Nat × Nat := (b.height, b.size)

/-- the inner loop `while current_pos > current_header.kernel_mmr_size { current_header = header at
height + 1 }`; `later` = the headers above `cur` in height order; `none` =
`get_header_hash_by_height` found nothing -/
def advanceHeader : Nat × Nat → List (Nat × Nat) → Nat → Option ((Nat × Nat) × List (Nat × Nat))
  | cur, [], pos => if pos > cur.2 then none else some (cur, [])
  | cur, h :: t, pos => if pos > cur.2 then advanceHeader h t pos else some (cur, h :: t)

/-- the loop of `verify_kernel_pos_index` as written: over the kernels from `prev_size + 1` on in
MMR order, the current header advanced lazily (only when an NRD kernel lies beyond it), every NRD
kernel applied at the current header's height -/
def verifyWalk (kv : KV ε) (cur : Nat × Nat) (later : List (Nat × Nat)) :
    List (Kernel ε × Nat) → Out ε Unit
  | [] => ⟨kv, .ok ()⟩
  | (k, pos) :: rest =>
    match k.nrd with
    | none => verifyWalk kv cur later rest
    | some _ =>
      match advanceHeader cur later pos with
      | none => ⟨kv, .error .headerNotFound⟩
      | some (cur', later') =>
        match applyKernelRules kv k ⟨pos, cur'.1⟩ with
        | ⟨kv', .error err⟩ => ⟨kv', .error err⟩
        | ⟨kv', .ok _⟩ => verifyWalk kv' cur' later' rest

/-- `verify_kernel_pos_index` with its header walk: `clear`, then `verifyWalk` from `from_header`
(`Props/C13Nrd.rebuild_header_walk`, from `Lemmas/NrdWalk.verifyWalk_blocks`: equal to `verifyKernelPosIndex`
on the blocks) -/
def verifyKernelPosIndexWalk (kv : KV ε) (fromHdr : Nat × Nat) (later : List (Nat × Nat))
    (kernels : List (Kernel ε × Nat)) : Out ε Unit :=
  verifyWalk (clear kv).kv fromHdr later kernels

/-- `TxHashSet::init_recent_kernel_pos_index`: the rebuild from the cutoff header
`head.height.saturating_sub(WEEK_HEIGHT * 2)`; `path` = all blocks of the body chain, oldest
first. -/
def initRecentKernelPosIndex (kv : KV ε) (window : Nat) (headHeight : Nat) (path : List (Blk ε)) : Out ε Unit :=
  verifyKernelPosIndex kv (path.filter fun b => decide (satSub headHeight window ≤ b.height))

/-! ## Specification: per excess the occurrences on this fork, most recent first -/

/-- `rewind`: drop the prefix with `pos > rewind_pos` -/
def specRewind (l : List CommitPos) (r : Nat) : List CommitPos := l.dropWhile fun p => decide (p.pos > r)

/-- prune from the back: drop the suffix with `pos < cutoff` (on a strictly decreasing list the
elements with `pos < cutoff` are a suffix) -/
def specPrune (l : List CommitPos) (cutoff : Nat) : List CommitPos :=
  (l.reverse.dropWhile fun p => decide (p.pos < cutoff)).reverse

/-- push is defined when the new position is above the most recent one -/
def specPushOk (l : List CommitPos) (p : CommitPos) : Bool :=
  match l with
  | [] => true
  | q :: _ => decide (q.pos < p.pos)

/-- the NRD rule on the specification: the most recent occurrence on this fork must be at least
`rel` blocks below -/
def specNrdOk (l : List CommitPos) (height rel : Nat) : Bool :=
  match l with
  | [] => true
  | q :: _ => !decide (satSub height q.height < rel)

/-- specification state: for every excess the list of its occurrences -/
abbrev Spec (ε : Type) := ε → List CommitPos

def upd (S : Spec ε) (e : ε) (l : List CommitPos) : Spec ε := fun e' => if e' = e then l else S e'

structure SOut (ε : Type) (α : Type) where
  st : Spec ε
  res : Except Err α

def sPeek (S : Spec ε) (e : ε) : Option CommitPos := (S e).head?

def sPush (S : Spec ε) (e : ε) (p : CommitPos) : SOut ε Unit :=
  if specPushOk (S e) p then ⟨upd S e (p :: S e), .ok ()⟩ else ⟨S, .error .posNotIncreasing⟩

def sPop (S : Spec ε) (e : ε) : SOut ε (Option CommitPos) := ⟨upd S e (S e).tail, .ok (S e).head?⟩

def sPopBack (S : Spec ε) (e : ε) : SOut ε (Option CommitPos) :=
  ⟨upd S e (S e).dropLast, .ok (S e).getLast?⟩

def sRewind (S : Spec ε) (e : ε) (r : Nat) : SOut ε Unit := ⟨upd S e (specRewind (S e) r), .ok ()⟩

def sPruneBack (S : Spec ε) (e : ε) (c : Nat) : SOut ε Unit := ⟨upd S e (specPrune (S e) c), .ok ()⟩

def sClear (_S : Spec ε) : SOut ε Unit := ⟨fun _ => [], .ok ()⟩

/-- the NRD rule followed by the push -/
def sApplyKernelRules (S : Spec ε) (k : Kernel ε) (pos : CommitPos) : SOut ε Unit :=
  match k.nrd with
  | none => ⟨S, .ok ()⟩
  | some rel =>
    if specNrdOk (S k.excess) pos.height rel then sPush S k.excess pos
    else ⟨S, .error .nrdRelativeHeight⟩

def sApplyKernels (S : Spec ε) (height : Nat) : List (Kernel ε × Nat) → SOut ε Unit
  | [] => ⟨S, .ok ()⟩
  | (k, pos) :: rest =>
    match sApplyKernelRules S k ⟨pos, height⟩ with
    | ⟨S', .error err⟩ => ⟨S', .error err⟩
    | ⟨S', .ok _⟩ => sApplyKernels S' height rest

def sApplyBlock (S : Spec ε) (b : Blk ε) : SOut ε Unit := sApplyKernels S b.height b.kernels

def sApplyBlocks (S : Spec ε) : List (Blk ε) → SOut ε Unit
  | [] => ⟨S, .ok ()⟩
  | b :: rest =>
    match sApplyBlock S b with
    | ⟨S', .error err⟩ => ⟨S', .error err⟩
    | ⟨S', .ok _⟩ => sApplyBlocks S' rest

def sRewindKernels (S : Spec ε) (prevSize : Nat) : List (Kernel ε × Nat) → Spec ε
  | [] => S
  | (k, _) :: rest =>
    match k.nrd with
    | none => sRewindKernels S prevSize rest
    | some _ => sRewindKernels (sRewind S k.excess prevSize).st prevSize rest

def sRewindSingleBlock (S : Spec ε) (b : Blk ε) : Spec ε := sRewindKernels S b.prevSize b.kernels

def sRewindBlocks (S : Spec ε) : List (Blk ε) → Spec ε
  | [] => S
  | b :: rest => sRewindBlocks (sRewindSingleBlock S b) rest

/-! ## Histories -/

/-- one call on the index (inside one write batch) -/
inductive Op (ε : Type) where
  | push (e : ε) (p : CommitPos)
  | pop (e : ε)
  | popBack (e : ε)
  | rewind (e : ε) (r : Nat)
  | pruneBack (e : ε) (c : Nat)
  | prune (e : ε) (c : Nat)
  | clear
  /-- `apply_block` inside an extension whose child batch is dropped when the block is refused -/
  | applyBlock (b : Blk ε)
  | rewindBlock (b : Blk ε)
  /-- `verify_kernel_pos_index` over these blocks -/
  | rebuild (bs : List (Blk ε))

/-- the answer of a call -/
inductive Ans where
  | unit
  | pos (p : Option CommitPos)
  | err (e : Err)
deriving DecidableEq, Repr

def ansUnit : Except Err Unit → Ans
  | .ok _ => .unit
  | .error e => .err e

def ansPos : Except Err (Option CommitPos) → Ans
  | .ok p => .pos p
  | .error e => .err e

/-- a refused block leaves nothing behind: its batch is dropped -/
def keepIfOk (kv : KV ε) (o : Out ε Unit) : KV ε :=
  match o.res with
  | .ok _ => o.kv
  | .error _ => kv

def step (kv : KV ε) : Op ε → KV ε × Ans
  | .push e p => let o := pushPos kv e p; (o.kv, ansUnit o.res)
  | .pop e => let o := popPos kv e; (o.kv, ansPos o.res)
  | .popBack e => let o := popPosBack kv e; (o.kv, ansPos o.res)
  | .rewind e r => let o := rewind kv e r; (o.kv, ansUnit o.res)
  | .pruneBack e c => let o := pruneBack kv e c; (o.kv, ansUnit o.res)
  | .prune e c => let o := prune kv e c; (o.kv, ansUnit o.res)
  | .clear => let o := clear kv; (o.kv, ansUnit o.res)
  | .applyBlock b => let o := applyBlock kv b; (keepIfOk kv o, ansUnit o.res)
  | .rewindBlock b => let o := rewindSingleBlock kv b; (o.kv, ansUnit o.res)
  | .rebuild bs => let o := verifyKernelPosIndex kv bs; (o.kv, ansUnit o.res)

def sKeepIfOk (S : Spec ε) (o : SOut ε Unit) : Spec ε :=
  match o.res with
  | .ok _ => o.st
  | .error _ => S

/-- the same call on the specification -/
def sstep (S : Spec ε) : Op ε → Spec ε × Ans
  | .push e p => let o := sPush S e p; (o.st, ansUnit o.res)
  | .pop e => let o := sPop S e; (o.st, ansPos o.res)
  | .popBack e => let o := sPopBack S e; (o.st, ansPos o.res)
  | .rewind e r => let o := sRewind S e r; (o.st, ansUnit o.res)
  | .pruneBack e c => let o := sPruneBack S e c; (o.st, ansUnit o.res)
  | .prune _ _ => (S, .err .panicUnimplemented)
  | .clear => let o := sClear S; (o.st, ansUnit o.res)
  | .applyBlock b => let o := sApplyBlock S b; (sKeepIfOk S o, ansUnit o.res)
  | .rewindBlock b => (sRewindSingleBlock S b, .unit)
  | .rebuild bs => let o := sApplyBlocks (fun _ => []) bs; (o.st, ansUnit o.res)

/-- a history from a given store: final store and the answers in order -/
def run (kv : KV ε) : List (Op ε) → KV ε × List Ans
  | [] => (kv, [])
  | op :: ops => let (kv1, a) := step kv op; let (kv2, as) := run kv1 ops; (kv2, a :: as)

def srun (S : Spec ε) : List (Op ε) → Spec ε × List Ans
  | [] => (S, [])
  | op :: ops => let (S1, a) := sstep S op; let (S2, as) := srun S1 ops; (S2, a :: as)

end GV.Nrd
