import GrinVerif.Model.SerVersion
import GrinVerif.Model.SerTx
/-! # C10 — protocol-version dependence of every encoding, as one schema

1. `version_sites_match_source`: the places of the source tree that mention `protocol_version()`
   (regenerated, `Gen/SerImpls.versionSites`) are exactly the nine of `Model/SerVersion.lean`; four of
   them are codecs (`KernelFeatures` write / read, `Inputs` write, `TransactionBody` read), five only hand
   the version on. A new branch on the version anywhere breaks this obligation.
2. For the two codec families the EXACT difference: kernel features have two layouts split at
   version 2 and nothing else (`kernelFeatures_version_classes`, `*_differ`), inputs two forms split
   at version 3 (`inputs_version_classes`); everything built from them (`TxKernel`, `TransactionBody`,
   `Transaction`, `Block`, compact blocks with full kernels, kernel segments) inherits exactly these
   two thresholds (`txKernel_version_classes`).
3. Every other impl has no version parameter in its model (`encBlockHeader`, `encProof`,
   `encProofOfWork`, `encOutput`, `encInput`, … take none): independence is by construction and is
   compared on every `ser dec` line at versions 0, 1, 2, 3, 1000, 2^32-1. Identity hashes use the hash
   mode, which ignores the version (`hash_mode_ignores_version`). The header's proof of work does
   NOT depend on the protocol version (it depends on the header's own `version` field: C04). -/
namespace GV.Props.C10Version
open GV GV.Ser GV.SerVersion

theorem version_sites_match_source : GV.Gen.SerImpls.versionSites = sites.map Site.key := rfl

theorem codec_sites_are_four :
    (sites.filter fun s => match s.role with | .codec _ => true | _ => false).map (fun s => s.item)
      = ["implWriteableforKernelFeatures", "implReadableforKernelFeatures", "implReadableforTransactionBody",
         "implWriteableforInputs"] := rfl

/-- kernel features: two version classes, `≤ 1` and `≥ 2` -/
theorem kernelFeatures_version_classes (v1 v2 : Nat) (m : Mode) (f : KernelFeatures)
    (h : (v1 ≤ 1 ↔ v2 ≤ 1)) : encKernelFeatures v1 m f = encKernelFeatures v2 m f := by
  unfold encKernelFeatures
  by_cases hm : m = .hash
  · simp [hm]
  · by_cases h1 : v1 ≤ 1
    · simp [hm, h1, h.mp h1]
    · have : ¬ v2 ≤ 1 := fun h2 => h1 (h.mpr h2)
      simp [hm, h1, this]

/-- … and the two classes really differ (full mode), here for `Plain` and `Coinbase`: 17 bytes each in
the v1 layout, 9 and 1 in the v2 layout -/
theorem kernelFeatures_layouts_differ (fee : Nat) :
    (encKernelFeatures 1 .full (.plain fee)).length = 17 ∧ (encKernelFeatures 2 .full (.plain fee)).length = 9
    ∧ (encKernelFeatures 1 .full .coinbase).length = 17 ∧ (encKernelFeatures 2 .full .coinbase).length = 1 := by
  refine ⟨rfl, rfl, rfl, rfl⟩

/-- identity hashes: the hash mode ignores the version altogether -/
theorem hash_mode_ignores_version (v1 v2 : Nat) (f : KernelFeatures) :
    encKernelFeatures v1 .hash f = encKernelFeatures v2 .hash f := by
  simp [encKernelFeatures]

theorem txKernel_version_classes (v1 v2 : Nat) (m : Mode) (k : TxKernel) (h : (v1 ≤ 1 ↔ v2 ≤ 1)) :
    encTxKernel v1 m k = encTxKernel v2 m k := by
  unfold encTxKernel
  rw [kernelFeatures_version_classes v1 v2 m _ h]

/-- inputs: two version classes, `≤ 2` and `≥ 3` -/
theorem inputs_version_classes (key : Bytes → Nat) (v1 v2 : Nat) (m : Mode) (ins : Inputs)
    (h : (v1 ≤ 2 ↔ v2 ≤ 2)) : encInputs key v1 m ins = encInputs key v2 m ins := by
  unfold encInputs
  by_cases h1 : v1 ≤ 2
  · simp [h1, h.mp h1]
  · have : ¬ v2 ≤ 2 := fun h2 => h1 (h.mpr h2)
    simp [h1, this]

/-- in hash mode the inputs are written as held, whatever the version -/
theorem inputs_hash_mode_ignores_version (key : Bytes → Nat) (v1 v2 : Nat) (ins : Inputs) :
    encInputs key v1 .hash ins = encInputs key v2 .hash ins := by
  unfold encInputs
  simp

/-- the exact difference at the threshold: features-and-commit inputs lose their features byte -/
example : encInputs (fun _ => 0) 2 .full (.featuresAndCommit [{ features := .plain, commit := List.replicate 33 9 }])
      = .ok (0 :: List.replicate 33 9)
    ∧ encInputs (fun _ => 0) 3 .full (.featuresAndCommit [{ features := .plain, commit := List.replicate 33 9 }])
      = .ok (List.replicate 33 9)
    ∧ encInputs (fun _ => 0) 2 .full (.commitOnly [List.replicate 33 9]) = .error .unsupportedVersion := by
  refine ⟨rfl, rfl, rfl⟩

end GV.Props.C10Version
