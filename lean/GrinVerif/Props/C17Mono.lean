import GrinVerif.Lemmas.ConcCommit
/-! # C17 — "the cumulative difficulty of successively observed heads never decreases", at model level

The chain only commits a new head when the work increases (chain domain: the head moves only with more
work; for the header head `pipe::process_block_headers` / `process_block_header` call `update_header_head`
only under `has_more_work`).  Here that per-commit fact is LIFTED to the concurrent commit-protocol model of
`Model/Conc.lean` (`Conc.Commit`: any number of writer threads committing under `txhashset.write()`, any
number of readers under `txhashset.read()`, any number of lock-free readers of LMDB): in any interleaving,
the work of the heads a reader observes one after the other never decreases - whether it reads the head
under the lock (`.locked`) or lock-free from the db (`.lockfree`: `Chain::head()`, `head_header()`,
`header_head()` take no lock - `Props/C17.table_lockfree_readers`), and also across readers (the log is
global).  Harness tie: the `head work monotone per reader` oracles of `conc mix|long|race|tie`, run
`conc hdrmono` (lighter-fork header sync), run `node`. -/
namespace GV.Props.C17Mono
open GV.Conc GV.Conc.Commit
variable {D M : Type}

/-- the db half of an observation (where the head lives) -/
def obsDbOf : Obs D M → D
  | .locked d _ => d
  | .lockfree d => d

theorem obsDbOf_eq : (obsDbOf : Obs D M → D) = obsDb := by funext o; cases o <;> rfl

/-- A run in which every commit is GUARDED: an op that started from base `b` and publishes `w` only commits
when `wk b.db ≤ wk w.db` (`wk` = total difficulty of the head stored in the db part).  All other steps are
unconstrained (any private work, aborts, readers coming and going, lock-free reads at any time). -/
inductive GRun (wk : D → Nat) (s0 : Shared D M) : St D M → List (Nat × Obs D M) → Prop where
  | nil : GRun wk s0 (start s0) []
  | silent {s s' log} : GRun wk s0 s log → CStep s none s' →
      (∀ tid b w, s.wr tid = .synced b w → s'.hist = w :: s.hist → wk b.db ≤ wk w.db) → GRun wk s0 s' log
  | obs {s s' log o} : GRun wk s0 s log → CStep s (some o) s' → GRun wk s0 s' ((s.k, o) :: log)

theorem GRun.toRun {wk : D → Nat} {s0 : Shared D M} {s : St D M} {log : List (Nat × Obs D M)}
    (h : GRun wk s0 s log) : Run s0 s log := by
  induction h with
  | nil => exact Run.nil
  | silent _ hs _ ih => exact Run.silent ih hs
  | obs _ hs ih => exact Run.obs ih hs

/-- the history (newest first) has non-increasing work towards the past -/
def HistMono (wk : D → Nat) (hist : List (Shared D M)) : Prop :=
  hist.Pairwise (fun newer older => wk older.db ≤ wk newer.db)

/-- guarded commits keep the history monotone in work -/
theorem grun_hist_mono (wk : D → Nat) (s0 : Shared D M) (s : St D M) (log : List (Nat × Obs D M))
    (h : GRun wk s0 s log) : HistMono wk s.hist := by
  induction h with
  | nil => simp [HistMono, start]
  | @silent s s' log hr hs hg ih =>
    have hi := cinv_run s0 s log hr.toRun
    cases hs with
    | commit tid b w hw =>
      obtain ⟨rest, hh⟩ := hi.hist_of_synced hw
      have hgw := hg tid b w hw rfl
      rw [hh] at ih
      simp only [HistMono, hh, List.pairwise_cons] at ih ⊢
      exact ⟨fun x hx => (List.mem_cons.mp hx).elim (· ▸ hgw) fun hx => Nat.le_trans (ih.1 x hx) hgw, ih⟩
    | _ => exact ih
  | @obs s s' log o hr hs ih =>
    rw [obs_same_state _ _ _ hs]; exact ih

/-- **Observed head work never decreases.**  In any run with guarded commits - any number of writers, of
readers under the lock, of lock-free readers, any interleaving - for any two observations, the later one
(earlier in the newest-first log) reports a head with at least the work of the earlier one; both are heads of
committed states. -/
theorem observed_head_work_monotone (wk : D → Nat) (s0 : Shared D M) (s : St D M) (log : List (Nat × Obs D M))
    (h : GRun wk s0 s log) :
    log.Pairwise (fun later earlier => wk (obsDbOf earlier.2) ≤ wk (obsDbOf later.2)) := by
  rw [obsDbOf_eq]
  exact run_obs_monotone wk s0 s log h.toRun (grun_hist_mono wk s0 s log h)

/-- non-vacuity: a guarded run with two commits (work 5, then 9), a lock-free read in the
sync-commit window of the second and a locked read after it: works observed 5 then 9 -/
example : ∃ (s : St Nat Nat) (log : List (Nat × Obs Nat Nat)), GRun (fun d => d) ⟨5, 0⟩ s log ∧
    log.map (fun e => obsDbOf e.2) = [9, 5] := by
  let s0 : Shared Nat Nat := ⟨5, 0⟩
  have r0 := GRun.nil (wk := fun d : Nat => d) (s0 := s0)
  have r1 := GRun.silent r0 (CStep.wlock _ 1 rfl rfl) (by intro tid b w h; simp [start] at h)
  have r2 := GRun.silent r1 (CStep.work _ 1 s0 s0 (fun _ => ⟨9, 1⟩) rfl) (by intro tid b w h e; simp at e)
  have r3 := GRun.silent r2 (CStep.sync _ 1 s0 ⟨9, 1⟩ rfl) (by intro tid b w h e; simp at e)
  have r4 := GRun.obs r3 (CStep.lfread _)
  have r5 := GRun.silent r4 (CStep.commit _ 1 s0 ⟨9, 1⟩ rfl) (by
    intro tid b w h _
    by_cases ht : tid = 1
    · subst ht
      have h' : WPhase.synced s0 (⟨9, 1⟩ : Shared Nat Nat) = WPhase.synced b w := h
      injection h' with hb hw
      subst hb; subst hw
      decide
    · simp [ht, start] at h)
  have r6 := GRun.silent r5 (CStep.wunlock _ 1 rfl) (by intro tid b w h e; simp at e)
  have r7 := GRun.silent r6 (CStep.rlock0 _ rfl) (by intro tid b w h e; simp at e)
  have r8 := GRun.obs r7 (CStep.rread _ 1 rfl)
  exact ⟨_, _, r8, rfl⟩

end GV.Props.C17Mono
