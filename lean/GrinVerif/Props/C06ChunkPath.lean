import GrinVerif.Props.C06Chunk
import GrinVerif.Lemmas.ChainPath
import GrinVerif.Lemmas.ChainOrder
/-! The path facts H1 / H2 of `chunk_accepted_iff_given_fork_set` (Props/C06Chunk.lean), derived
from "a linked chunk of fresh headers hanging below a block whose own path is `pre`":
`path(last) = pre ++ chunk` (`isPath_append_linked`), hence the headers the MMR step re-applies are
the chunk's own plus the off-chain part of `pre` (`chunk_accepted_iff_no_root_fault`).
The fold of the single-header path over the chunk - the last step to "accepted as a chunk iff
accepted one by one" - is Props/C06ChunkSingles.lean. -/
namespace GV.Props.C06Chunk
open GV GV.Chain

/-- the own path of the last header of a linked chunk is the path of the chunk's root followed by
the chunk -/
theorem isPath_append_linked {n : Node} : ∀ (bs : List Blk) (par : Nat) (pre : List Blk),
    IsPath n par pre → Linked n par bs → bs ≠ [] →
    ∃ last, bs.getLast? = some last ∧ IsPath n last.id (pre ++ bs) := by
  intro bs
  induction bs with
  | nil => intro _ _ _ _ h; exact absurd rfl h
  | cons b rest ih =>
    intro par pre hpre hl _
    have hb : IsPath n b.id (pre ++ [b]) := IsPath.child b.id b par pre hl.1 hl.2.1 hpre
    cases rest with
    | nil => exact ⟨b, rfl, hb⟩
    | cons b' rest' =>
      obtain ⟨last, hlast, hp⟩ := ih b.id (pre ++ [b]) hb hl.2.2 (by simp)
      refine ⟨last, ?_, ?_⟩
      · simpa [List.getLast?_cons_cons] using hlast
      · simpa [List.append_assoc] using hp

theorem headerAtHeight_congr {n m : Node} (hb : n.blks = m.blks) (hh : n.hhead = m.hhead) (h : Nat) :
    n.headerAtHeight h = m.headerAtHeight h := by
  unfold Node.headerAtHeight
  rw [path_congr hb, hh]

/-- **a linked chunk of fresh headers is accepted iff none of its headers fails its root check**
(no denylist; the per-header loop through): `pre` is the own path of the block the chunk hangs
below; every chunk header is off the header chain (fresh); the off-chain blocks of `pre` - stored
fork headers - passed their root check when they were stored. H1 / H2 are proved here, not assumed. -/
theorem chunk_accepted_iff_no_root_fault (p : Params) (n n1 : Node) (bs pre : List Blk) (p0 : Nat)
    (hpre : IsPath n p0 pre) (hlink : Linked n p0 bs) (hne : bs ≠ [])
    (hheights : ((pre ++ bs).map (·.h)).Nodup)
    (hv : validateChunk p [] n bs = .ok n1)
    (hfresh : ∀ b ∈ bs, ((n.headerAtHeight b.h).map (·.id) == some b.id) = false)
    (hold : ∀ b ∈ pre, ((n.headerAtHeight b.h).map (·.id) == some b.id) = false → hasTag b "hdr:" = none) :
    (∃ n', processHeadersK p [] n bs = .ok n') ↔ ∀ b ∈ bs, hasTag b "hdr:" = none := by
  obtain ⟨last, hlast, hp⟩ := isPath_append_linked bs p0 pre hpre hlink hne
  obtain ⟨_, a2, _, a4, _, _, _, _⟩ := validateChunk_frame p [] bs n n1 hv
  have hpath : n1.path last.id = some (pre ++ bs) := by
    rw [path_congr a4]; exact path_of_isPath hp hheights
  have hfb : forkBlocks n1 last.id =
      (pre ++ bs).filter (fun b => !((n.headerAtHeight b.h).map (·.id) == some b.id)) := by
    unfold forkBlocks
    rw [hpath]
    simp only [headerAtHeight_congr a4 a2]
  apply chunk_accepted_iff_given_fork_set p n n1 bs last hlast hv
  · intro b hb
    rw [hfb]
    exact List.mem_filter.mpr ⟨List.mem_append_right _ hb, by simp [hfresh b hb]⟩
  · intro b hb hnb
    rw [hfb] at hb
    obtain ⟨hm, hoff⟩ := List.mem_filter.mp hb
    rcases List.mem_append.mp hm with h | h
    · exact hold b h (by simpa using hoff)
    · exact absurd h hnb

private def g0 : Blk := { id := 0, parent := none, h := 0, work := 1, ver := 1, ts := 0, ins := [], outs := [(0, true)], kers := [.cb], tags := [] }
private def b1 : Blk := { id := 1, parent := some 0, h := 1, work := 2, ver := 1, ts := 1, ins := [], outs := [(1, true)], kers := [.cb], tags := [] }
private def nd : Node := { blks := [g0, b1] }

/-- the hypotheses of `isPath_append_linked` / `chunk_accepted_iff_no_root_fault` are satisfiable: a
chunk of one header below the genesis -/
example : ∃ last, [b1].getLast? = some last ∧ IsPath nd last.id ([g0] ++ [b1]) :=
  isPath_append_linked [b1] 0 [g0] (IsPath.root 0 g0 (by rfl) rfl) ⟨by rfl, rfl, trivial⟩ (by simp)

end GV.Props.C06Chunk
