import GrinVerif.Model.TxBlock
import GrinVerif.Lemmas.TxSort
/-! # C12 — `Transaction::validate` against `Transaction::validate_read`: the same gates, another order

`core/src/core/transaction.rs`:

```text
Transaction::validate_read():  body.validate_read(AsTransaction)?; body.verify_features()?;
Transaction::validate(w):      body.verify_features()?; body.validate(w)?  (= validate_read(w)?, proofs, signatures);
                               verify_kernel_sums(..)?
```

`verify_features` is the LAST gate of `validate_read` and the FIRST of `validate`.  The theorems say
what that means for every transaction (model: `Model/TxBlock.lean`, `validateReadW` /
`txValidateGates`; `later` is the outcome of range proofs, kernel signatures and kernel sums):
acceptance is the same set of gates, so a transaction `validate` accepts is one `validate_read`
accepts; the two can name DIFFERENT errors exactly when a coinbase item is present and a body gate
fails as well.  The harness prints both verdicts for every operand and for transactions that carry
a coinbase item (`tx vread` / `tx val` lines). -/
namespace GV.Props.C12
open GV GV.Tx

/-- `validateReadW` for `AsTransaction` is the `validateReadFull` the other theorems speak about -/
theorem validateReadW_asTransaction (K : Keys) (M : KMeta) (ct : Cons.ChainType) (nrd : Bool) (t : Tx) :
    validateReadW K M ct nrd .asTransaction t = validateReadFull K M ct nrd t := rfl

/-- **`validate` accepts iff `validate_read` (same weighting) accepts and everything behind the
gates holds** — the order of the gates does not matter for acceptance. -/
theorem validate_none_iff (K : Keys) (M : KMeta) (ct : Cons.ChainType) (nrd : Bool) (w : Weighting) (t : Tx)
    (later : Option BErr) :
    txValidateGates K M ct nrd w t later = none ↔ validateReadW K M ct nrd w t = none ∧ later = none := by
  unfold txValidateGates validateReadW
  -- only the three verdicts matter, not what produced them
  generalize bodyValidateRead K M ct nrd w t.inputs t.outputs t.kernels = body
  generalize t.outputs.any isCoinbase = cO
  generalize t.kernels.any isCoinbase = cK
  cases body <;> cases cO <;> cases cK <;> simp

/-- … in particular: **what `validate` accepts, `validate_read` accepts** (a transaction that passed
full validation is never refused when it is read back). -/
theorem validate_ok_read_ok (K : Keys) (M : KMeta) (ct : Cons.ChainType) (nrd : Bool) (w : Weighting) (t : Tx)
    (later : Option BErr) (h : txValidateGates K M ct nrd w t later = none) :
    validateReadW K M ct nrd w t = none :=
  ((validate_none_iff K M ct nrd w t later).1 h).1

/-- without a coinbase item the order is invisible: `validate` reports what `validate_read` reports,
and if that is nothing, what lies behind the gates -/
theorem validate_eq_read_of_no_coinbase (K : Keys) (M : KMeta) (ct : Cons.ChainType) (nrd : Bool) (w : Weighting)
    (t : Tx) (later : Option BErr) (h1 : t.outputs.any isCoinbase = false) (h2 : t.kernels.any isCoinbase = false) :
    txValidateGates K M ct nrd w t later =
      match validateReadW K M ct nrd w t with
      | some e => some e
      | none => later := by
  unfold txValidateGates validateReadW
  cases hb : bodyValidateRead K M ct nrd w t.inputs t.outputs t.kernels <;> simp [h1, h2]

/-- **when do the two name different errors?**  If both refuse, either they name the same error, or
`validate` names the features error while `validate_read` names the body gate that fails as well
(weight, NRD duplicate, sort order, cut-through). -/
theorem validate_error_vs_read (K : Keys) (M : KMeta) (ct : Cons.ChainType) (nrd : Bool) (w : Weighting)
    (t : Tx) (later : Option BErr) (e e' : BErr)
    (hr : validateReadW K M ct nrd w t = some e) (hv : txValidateGates K M ct nrd w t later = some e') :
    e = e' ∨ ((e' = .outputFeatures ∨ e' = .kernelFeatures) ∧
      bodyValidateRead K M ct nrd w t.inputs t.outputs t.kernels = some e) := by
  unfold txValidateGates at hv
  unfold validateReadW at hr
  generalize bodyValidateRead K M ct nrd w t.inputs t.outputs t.kernels = body at hr hv ⊢
  generalize t.outputs.any isCoinbase = cO at hr hv
  generalize t.kernels.any isCoinbase = cK at hr hv
  cases body <;> cases cO <;> cases cK <;> simp_all

/-- evaluation of the gates on concrete data -/
macro "val_eval" : tactic => `(tactic|
  (simp only [txValidateGates, validateReadW, bodyValidateRead, verifyNoNrdDuplicates, verifyCutThrough,
     sortBy_eq_foldr]
   decide +kernel))

/-- kernel meta data of the examples: every kernel plain, no fee -/
def MV0 : KMeta := ⟨fun _ => 0, fun _ => 0, fun _ => 0, fun k => k, fun _ => 0⟩

/-- the second alternative happens (kernel-checked): a transaction whose coinbase output (code 11 =
commitment 5, coinbase) is spent by its own input 5 — `validate` says `OutputFeatures`, `validate_read`
says `CutThrough`. -/
theorem validate_and_read_name_different_errors :
    validateReadW ⟨id, id, id⟩ MV0 .automatedTesting true .asTransaction ⟨0, false, [5], [11], [0]⟩ = some .cutThrough ∧
    txValidateGates ⟨id, id, id⟩ MV0 .automatedTesting true .asTransaction ⟨0, false, [5], [11], [0]⟩ none
      = some .outputFeatures := by
  refine ⟨by val_eval, by val_eval⟩

/-- non-vacuity of the acceptance theorems: a plain one-input one-output transaction passes both -/
example : txValidateGates ⟨id, id, id⟩ MV0 .automatedTesting true .asTransaction ⟨0, false, [5], [12], [0]⟩ none = none ∧
    validateReadW ⟨id, id, id⟩ MV0 .automatedTesting true .asTransaction ⟨0, false, [5], [12], [0]⟩ = none := by
  refine ⟨by val_eval, by val_eval⟩

end GV.Props.C12
