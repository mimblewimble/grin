import GrinVerif.Lemmas.PowOracleExec
import GrinVerif.Lemmas.PowOracleRoom
import GrinVerif.Props.C05Entry
/-! # C05 — the executable cycle oracle IS the specification

`Model/PowSpec.lean oracleCycle` (degree counting + connectivity closure, written without reference
to the verifiers) is what the driver evaluates next to the verifier models on every line.  Here it is
proved equal to the declarative `IsProofCycle*` for all five graph definitions: "every vertex has
exactly two edge ends that continue into each other, and the edge set is connected" ⟺ "an ordering of all edges in which consecutive edges meet
in a vertex and no vertex repeats".  Mathematical core: `Lemmas/PowOracle.lean`
(`cycle_of_deg2_conn`: the orbit of slot 0 under "partner, other end" closes, never retraces an edge
and — by connectivity — covers everything; `deg2_conn_of_cycle`), executable side:
`Lemmas/PowOracleExec.lean` (`degreeOkG_iff`, `closureG_iff`).

With the `_iff` theorems of `Props/C05.lean` this closes a triangle — verifier model = specification =
independent oracle — so the cross-check the driver performs on every line compares two functions
that are PROVED equal: a DIFF "oracle disagrees" can then only come from
the compiled code not being the Lean definition.

Cuckarood: `oracleCycle_cuckarood` (direction bit encoded as the low bit of the vertex value, the
Cuckatoo engine).  Cuckaroom (directed): `oracleCycle_cuckaroom_slots` (slot parity as the low bit)
and `slotCycle_iff_dirCycle` (Lemmas/PowOracleRoom.lean) give `oracleCycle_cuckaroom`.  All five:
`oracleAccept_iff_all`, `verifier_eq_oracle_all`. -/
namespace GV.Props.C05Oracle
open GV GV.Pow GV.Props.C05

theorem oracleCycle_unfold (v : Variant) (hv : v ≠ .cuckarood) (es : List (Nat × Nat)) (dirs : List Nat) :
    oracleCycle v es dirs = true ↔
      (0 < es.length ∧
        degreeOkG (2 * es.length) (sameVb v (slotArray es)) (contb v (slotArray es) dirs.toArray) = true ∧
        (closureG (sameVb v (slotArray es)) es.length es.length [0]).length = es.length) := by
  simp only [oracleCycle, degreeOk, closure, slotArray_size]
  cases v <;> simp at hv ⊢ <;> exact ⟨fun ⟨⟨a, b⟩, c⟩ => ⟨a, b, c⟩, fun ⟨a, b, c⟩ => ⟨⟨a, b⟩, c⟩⟩

theorem oracleCycle_generic (v : Variant) (hv : v ≠ .cuckarood) (es : List (Nat × Nat)) (dirs : List Nat)
    (hL : 0 < es.length) {C : UCfg} (E : MtEquiv C) {key uv : Nat → Nat}
    (hsv : ∀ a b, a < 2 * es.length → b < 2 * es.length →
      (sameVb v (slotArray es) a b = true ↔ sameVG C key uv a b))
    (hcont : ∀ a b, a < 2 * es.length → b < 2 * es.length → sameVb v (slotArray es) a b = true →
      (contb v (slotArray es) dirs.toArray a b = true ↔ (C.deadSame = true → uv b ≠ uv a))) :
    oracleCycle v es dirs = true ↔ ∃ c, IsCycle es.length (adjG C key uv) (sameVG C key uv) c := by
  rw [oracleCycle_unfold _ hv, and_iff_right hL]
  exact oracle_core E hL _ _ hsv hcont

/-- **Cuckaroo: the executable oracle decides `IsProofCycleCuckaroo`.** -/
theorem oracleCycle_cuckaroo (es : List (Nat × Nat)) (dirs : List Nat) (hL : 0 < es.length) :
    oracleCycle .cuckaroo es dirs = true ↔ IsProofCycleCuckaroo es := by
  have hk : ∀ a b : Nat, slotNode es a = slotNode es b → (a % 2 = b % 2 ↔ a % 2 = b % 2) :=
    fun _ _ _ => Iff.rfl
  rw [oracleCycle_generic .cuckaroo (by decide) es dirs hL mtEquiv_cuckaroo (key := fun s => s % 2)
    (uv := slotNode es)
    (by
      intro a b _ _
      rw [sameVG_cuckaroo hk]
      simp only [sameVb, slotArray_get, sameSide, Bool.and_eq_true, beq_iff_eq])
    (by intro a b _ _ _; simp [contb, cfgCuckaroo])]
  exact cycleG_cuckaroo es hk

/-- **Cuckarooz: the executable oracle decides `IsProofCycleCuckarooz`.** -/
theorem oracleCycle_cuckarooz (es : List (Nat × Nat)) (dirs : List Nat) (hL : 0 < es.length) :
    oracleCycle .cuckarooz es dirs = true ↔ IsProofCycleCuckarooz es := by
  have hk : ∀ a b : Nat, slotNode es a = slotNode es b → (fun _ : Nat => 0) a = (fun _ : Nat => 0) b :=
    fun _ _ _ => rfl
  rw [oracleCycle_generic .cuckarooz (by decide) es dirs hL mtEquiv_cuckarooz (key := fun _ => 0)
    (uv := slotNode es)
    (by
      intro a b _ _
      rw [sameVG_cuckarooz hk]
      simp only [sameVb, slotArray_get, beq_iff_eq])
    (by intro a b _ _ _; simp [contb, cfgCuckarooz])]
  exact cycleG_cuckarooz es hk

/-- **Cuckatoo: the executable oracle decides `IsProofCycleCuckatoo`.** -/
theorem oracleCycle_cuckatoo (es : List (Nat × Nat)) (dirs : List Nat) (hL : 0 < es.length) :
    oracleCycle .cuckatoo es dirs = true ↔ IsProofCycleCuckatoo es := by
  have hk : ∀ a b : Nat, slotNode es a / 2 = slotNode es b / 2 → (a % 2 = b % 2 ↔ a % 2 = b % 2) :=
    fun _ _ _ => Iff.rfl
  rw [oracleCycle_generic .cuckatoo (by decide) es dirs hL mtEquiv_cuckatoo (key := fun s => s % 2)
    (uv := slotNode es)
    (by
      intro a b _ _
      rw [sameVG_cuckatoo hk]
      simp only [sameVb, slotArray_get, sameSide, Bool.and_eq_true, beq_iff_eq, shr_one])
    (by
      intro a b _ _ _
      simp only [contb, slotArray_get, cfgCuckatoo, bne_iff_ne, ne_eq, forall_const]
      exact ⟨fun h e => h e.symm, fun h e => h e.symm⟩)]
  exact cycleG_cuckatoo es hk

/-! ### Cuckarood: the direction bit as the low bit of the vertex value

A Cuckarood vertex is (side, node); two edge ends continue into each other iff their direction bits
differ.  With `uv s = 2·node + dir` this is the Cuckatoo engine: same vertex iff `uv >> 1` agree,
continuation iff the `uv` differ. -/

/-- direction bit at a slot -/
def dirAt (des : List (Nat × (Nat × Nat))) (s : Nat) : Nat := (des.getD (s / 2) (0, (0, 0))).1

theorem dirAt_le (des : List (Nat × (Nat × Nat))) (hd : ∀ d ∈ des, d.1 ≤ 1) (s : Nat) :
    dirAt des s ≤ 1 := by
  unfold dirAt
  rw [List.getD_eq_getElem?_getD]
  cases h : des[s / 2]? with
  | none => simp
  | some d => simpa using hd d (List.mem_of_getElem? h)

theorem dirs_get (des : List (Nat × (Nat × Nat))) (i : Nat) :
    ((des.map (·.1)).toArray)[i]! = (des.getD i (0, (0, 0))).1 := by
  simp only [getElem!_def, List.getElem?_toArray, List.getElem?_map, List.getD_eq_getElem?_getD]
  cases des[i]? <;> rfl

theorem balance_iff (des : List (Nat × (Nat × Nat))) :
    ((des.map (·.1)).filter (· == 0)).length = ((des.map (·.1)).filter (· != 0)).length ↔
      (des.filter (fun d => d.1 = 0)).length = (des.filter (fun d => d.1 ≠ 0)).length := by
  rw [List.filter_map, List.filter_map, List.length_map, List.length_map]
  have e1 : des.filter ((· == 0) ∘ (·.1)) = des.filter (fun d => d.1 = 0) := by
    apply List.filter_congr; intro d _
    by_cases h : d.1 = 0 <;> simp [h]
  have e2 : des.filter ((· != 0) ∘ (·.1)) = des.filter (fun d => d.1 ≠ 0) := by
    apply List.filter_congr; intro d _
    by_cases h : d.1 = 0 <;> simp [h]
  rw [e1, e2]

/-- **Cuckarood: the executable oracle decides `IsProofCycleCuckarood`** (direction bits 0 / 1, as
`nonce & 1` always is). -/
theorem oracleCycle_cuckarood (des : List (Nat × (Nat × Nat))) (hL : 0 < des.length)
    (hd : ∀ d ∈ des, d.1 ≤ 1) :
    oracleCycle .cuckarood (des.map (·.2)) (des.map (·.1)) = true ↔ IsProofCycleCuckarood des := by
  have hlen : (des.map (·.2)).length = des.length := List.length_map _
  have hdl := dirAt_le des hd
  have core := oracle_core (C := cfgCuckatoo) mtEquiv_cuckatoo (key := fun s => s % 2)
    (uv := fun s => 2 * slotNode (des.map (·.2)) s + dirAt des s) (L := (des.map (·.2)).length)
    (by rw [hlen]; exact hL)
    (sameVb .cuckarood (slotArray (des.map (·.2))))
    (contb .cuckarood (slotArray (des.map (·.2))) (des.map (·.1)).toArray)
    (by
      intro a b _ _
      rw [sameVG_dirbit hdl]
      simp only [sameVb, slotArray_get, Bool.and_eq_true, beq_iff_eq])
    (by
      intro a b _ _ hs
      have := hdl a; have := hdl b
      simp only [sameVb, slotArray_get, Bool.and_eq_true, beq_iff_eq] at hs
      simp only [contb, dirs_get, cfgCuckatoo, bne_iff_ne, ne_eq, forall_const]
      show ¬ dirAt des a = dirAt des b ↔ _
      constructor
      · intro h e; apply h; omega
      · intro h e; apply h; omega)
  rw [hlen] at core
  have hcyc : (∃ c, IsCycle des.length
        (adjG cfgCuckatoo (fun s => s % 2) fun s => 2 * slotNode (des.map (·.2)) s + dirAt des s)
        (sameVG cfgCuckatoo (fun s => s % 2) fun s => 2 * slotNode (des.map (·.2)) s + dirAt des s) c) ↔
      ∃ c, IsCycle des.length
        (fun a b => sameSide a b ∧ slotNode (des.map (·.2)) a = slotNode (des.map (·.2)) b ∧
          (des.getD (a / 2) (0, (0, 0))).1 ≠ (des.getD (b / 2) (0, (0, 0))).1)
        (fun a b => sameSide a b ∧ slotNode (des.map (·.2)) a = slotNode (des.map (·.2)) b) c :=
    exists_congr fun c => IsCycle.congr (adjG_dirbit hdl) (sameVG_dirbit hdl)
  unfold IsProofCycleCuckarood
  simp only [oracleCycle, degreeOk, closure, slotArray_size, hlen, Bool.and_eq_true,
    decide_eq_true_iff, beq_iff_eq, balance_iff]
  rw [← hcyc, ← core]
  exact ⟨fun ⟨⟨⟨_, a⟩, b⟩, c⟩ => ⟨b, a, c⟩, fun ⟨b, a, c⟩ => ⟨⟨⟨hL, a⟩, b⟩, c⟩⟩

/-- the oracle's call for Cuckarood in the shape of the specification's argument -/
theorem oracleCycle_cuckarood_nonces (ep : Nat → Nat × Nat) (ns : List Nat) (hL : 0 < ns.length) :
    oracleCycle .cuckarood (ns.map ep) (ns.map (· % 2)) = true ↔
      IsProofCycleCuckarood (ns.map (fun x => (x % 2, ep x))) := by
  have h := oracleCycle_cuckarood (ns.map (fun x => (x % 2, ep x))) (by rw [List.length_map]; exact hL)
    (by intro d hd; obtain ⟨x, _, rfl⟩ := List.mem_map.mp hd; show x % 2 ≤ 1; omega)
  simp only [List.map_map, Function.comp_def] at h
  exact h

/-! ### Cuckaroom: the slot parity (`from` / `to`) as the low bit of the vertex value -/

/-- **Cuckaroom: the executable oracle decides "one simple cycle through all edges in which every
vertex has one incoming and one outgoing edge end"** (the slot-level reading of a directed cycle). -/
theorem oracleCycle_cuckaroom_slots (es : List (Nat × Nat)) (dirs : List Nat) (hL : 0 < es.length) :
    oracleCycle .cuckaroom es dirs = true ↔ IsSlotCycleCuckaroom es := by
  have hp : ∀ s : Nat, s % 2 ≤ 1 := fun s => by omega
  rw [oracleCycle_generic .cuckaroom (by decide) es dirs hL mtEquiv_cuckatoo (key := fun _ => 0)
    (uv := fun s => 2 * slotNode es s + s % 2)
    (by
      intro a b _ _
      rw [sameVG_dirbit hp]
      simp only [sameVb, slotArray_get, beq_iff_eq, true_and])
    (by
      intro a b _ _ hs
      have := hp a; have := hp b
      simp only [sameVb, slotArray_get, beq_iff_eq] at hs
      simp only [contb, cfgCuckatoo, bne_iff_ne, ne_eq, forall_const]
      constructor
      · intro h e; apply h; omega
      · intro h e; apply h; omega)]
  exact (room_generic_cycle es).symm

/-- **Cuckaroom: the executable oracle decides `IsProofCycleCuckaroom`** (`oracleCycle_cuckaroom_slots`
with `Lemmas/PowOracleRoom.lean slotCycle_iff_dirCycle`: the slot cycle entered through the `to` ends
is the directed cycle, entered through the `from` ends its reversal). -/
theorem oracleCycle_cuckaroom (es : List (Nat × Nat)) (dirs : List Nat) (hL : 0 < es.length) :
    oracleCycle .cuckaroom es dirs = true ↔ IsProofCycleCuckaroom es := by
  rw [oracleCycle_cuckaroom_slots es dirs hL, slotCycle_iff_dirCycle es hL]

/-- **The whole acceptance condition of the executable oracle is the property's rule**, for all five
graph definitions: exactly `ps` nonces, within the edge mask, strictly ascending, and the selected
edges form one simple cycle through all of them. -/
theorem oracleAccept_iff_all (v : Variant)
    (ps mask : Nat) (hps : 0 < ps) (ep : Nat → Nat × Nat) (ns : List Nat) :
    oracleAccept v ps mask ep ns = true ↔
      (ns.length = ps ∧ (∀ x ∈ ns, x ≤ mask) ∧ Ascending ns ∧ IsProofCycleOf v ep ns) := by
  have hcyc : ns.length = ps →
      (oracleCycle v (ns.map ep) (ns.map (· % 2)) = true ↔ IsProofCycleOf v ep ns) := by
    intro h1
    have hL : 0 < ns.length := h1 ▸ hps
    have hL' : 0 < (ns.map ep).length := by rw [List.length_map]; exact hL
    cases v
    · exact oracleCycle_cuckatoo _ _ hL'
    · exact oracleCycle_cuckaroo _ _ hL'
    · exact oracleCycle_cuckarood_nonces ep ns hL
    · exact oracleCycle_cuckaroom _ _ hL'
    · exact oracleCycle_cuckarooz _ _ hL'
  unfold oracleAccept
  simp only [Bool.and_eq_true, beq_iff_eq, List.all_eq_true, decide_eq_true_iff, ascendingb_iff]
  exact ⟨fun ⟨⟨⟨h1, h2⟩, h3⟩, h4⟩ => ⟨h1, h2, h3, (hcyc h1).mp h4⟩,
    fun ⟨h1, h2, h3, h4⟩ => ⟨⟨⟨h1, h2⟩, h3⟩, (hcyc h1).mpr h4⟩⟩

/-- `oracleAccept_iff_all`; the hypothesis `hv` is not used. -/
theorem oracleAccept_iff (v : Variant) (hv : v ≠ .cuckaroom)
    (ps mask : Nat) (hps : 0 < ps) (ep : Nat → Nat × Nat) (ns : List Nat) :
    oracleAccept v ps mask ep ns = true ↔
      (ns.length = ps ∧ (∀ x ∈ ns, x ≤ mask) ∧ Ascending ns ∧ IsProofCycleOf v ep ns) :=
  oracleAccept_iff_all v ps mask hps ep ns

/-- **verifier model = independent oracle, for all five variants** and the parameters `verify_size`
builds: the two functions the driver compares on every line are equal. -/
theorem verifier_eq_oracle_all (v : Variant)
    (P : Params) (ep : Nat → Nat × Nat) (ns : List Nat)
    (hps : 0 < P.proofsize) (hctx : P.ctxProofSize = P.proofsize) (hbk : ∀ x, P.bk x % 2 = x % 2) :
    (verifyOf v P ep ns = .ok ()) ↔ oracleAccept v P.proofsize P.edgeMask ep ns = true := by
  rw [GV.Props.C05Entry.verifyOf_iff v P ep ns hps hctx hbk, oracleAccept_iff_all v _ _ hps]
  exact ⟨fun ⟨a, b, c, d⟩ => ⟨a, c, b, d⟩, fun ⟨a, b, c, d⟩ => ⟨a, c, b, d⟩⟩

/-- `verifier_eq_oracle_all`; the hypothesis `hv` is not used. -/
theorem verifier_eq_oracle (v : Variant) (hv : v ≠ .cuckaroom)
    (P : Params) (ep : Nat → Nat × Nat) (ns : List Nat)
    (hps : 0 < P.proofsize) (hctx : P.ctxProofSize = P.proofsize) (hbk : ∀ x, P.bk x % 2 = x % 2) :
    (verifyOf v P ep ns = .ok ()) ↔ oracleAccept v P.proofsize P.edgeMask ep ns = true :=
  verifier_eq_oracle_all v P ep ns hps hctx hbk

/-- a 4-cycle and two disjoint 2-cycles, through the oracle and hence (by the theorems) the spec -/
example : oracleCycle .cuckarooz [(1, 2), (2, 3), (3, 4), (4, 1)] [] = true := by decide
example : IsProofCycleCuckarooz [(1, 2), (2, 3), (3, 4), (4, 1)] :=
  (oracleCycle_cuckarooz _ [] (by decide)).mp (by decide)
example : ¬ IsProofCycleCuckarooz [(1, 2), (1, 2), (3, 4), (3, 4)] := by
  rw [← oracleCycle_cuckarooz _ [] (by decide)]; decide
example : IsProofCycleCuckatoo [(4, 8), (6, 9), (7, 2), (5, 3)] :=
  (oracleCycle_cuckatoo _ [] (by decide)).mp (by decide)

end GV.Props.C05Oracle
