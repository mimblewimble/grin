import GrinVerif.Lemmas.ChainBasic
import GrinVerif.Lemmas.ChainApply
import GrinVerif.Lemmas.ChainExampleFacts
import GrinVerif.Lemmas.ChainImplRefine
import GrinVerif.Lemmas.ChainPoolPos
import GrinVerif.Lemmas.ChainPoolSpec
import GrinVerif.Lemmas.ChainPoolExamples
import GrinVerif.Lemmas.ChainRefuse
/-! # C13 — coinbase maturity, lock heights and relative locks hold on every fork

Three parts. Block side (chain model, `Model/Chain.lean`): the three rules for an applied block, refusal of any
block that breaks one, and that every stored block respects them on its own fork. The incremental txhashset
(`Model/ChainImpl.lean`) records the creation heights the rules read. Pool side (`txMaturity`, `txLock`, `txValidate`):
the state the pool-facing checks read is the replay of the current head's path (reorganisation clause), and then
(a) pool and block validation agree on every reachable head, (b) each threshold is exact, (c) the position-based
maturity check of chain.rs against the height-based specification: (c-i) where its one-branch form agrees,
(c-ii) witnesses where it does not (both branches: `Props/C13PoolFork.lean`). The NRD index itself is
`Props/C13Nrd.lean`. -/
namespace GV.Props.C13
open GV GV.Chain

/-- Coinbase maturity on the block's own fork: if a block is applied successfully on the state
replayed through its own ancestors, every coinbase output it spends was created at least
`maturity` blocks below it on that path. -/
theorem maturity (p : Params) (s s' : UState) (b : Blk) (h : applyBlock p s b = .ok s')
    (i c : Nat) (hi : i ∈ b.ins) (hc : s.find i = some (i, c, true)) : c + p.maturity ≤ b.h :=
  immature_eq_false_iff.mp (applyBlock_ok p s s' b h).2.2.1 i hi c hc

/-- Height locks: a body that passes validation has no height-locked kernel whose lock height is
above the block's height. -/
theorem lock_height (p : Params) (outs : List OutDef) (b : Blk) (iv : Nat)
    (h : validateBody p outs b iv = none) :
    ∀ f l, Ker.hl f l ∈ b.kers → l ≤ b.h :=
  lockViolation_eq_false_iff.mp (validateBody_lock h)

/-- Relative locks: a block applied successfully has no NRD kernel whose excess occurred fewer
than its relative height blocks earlier on the same path. -/
theorem nrd_relative (p : Params) (s s' : UState) (b : Blk) (h : applyBlock p s b = .ok s')
    (f rel : Nat) (ex : String) (hk : Ker.nrd f rel ex ∈ b.kers) (hPrev : Nat)
    (hf : s.nrd.find? (·.1 == ex) = some (ex, hPrev)) : hPrev + rel ≤ b.h :=
  nrdBad_eq_false_iff.mp (applyBlock_ok p s s' b h).2.2.2.1 f rel ex hPrev hk hf

/-- **Any kernel locked beyond the block's height** — first, last or anywhere in the kernel list,
whatever the other kernels are (satisfied locks, NRD, plain, coinbase) — and the block is refused
by every node in every state; head, stored blocks and reported unspent set are unchanged. -/
theorem any_locked_kernel_refused (p : Params) (n : Node) (b : Blk) (f l : Nat)
    (hk : Ker.hl f l ∈ b.kers) (hl : b.h < l) : Refused p n b := by
  apply refused_of_body_fault
  intro hv
  have := lock_height p n.outs b _ hv f l hk
  omega

/-- … and the verdict of the lock check does not depend on the order of the kernels. -/
theorem lockViolation_perm (b b' : Blk) (hh : b.h = b'.h) (hp : b.kers.Perm b'.kers) :
    lockViolation b = lockViolation b' := by
  unfold lockViolation
  rw [hh]
  exact hp.any_eq

/-- **Any NRD kernel that repeats an excess too early** on the block's own path — wherever it sits
among the block's kernels — and the block is refused, nothing changed. -/
theorem any_nrd_too_recent_refused (p : Params) (n : Node) (b : Blk) (par : Nat) (sPar : UState)
    (hpar : b.parent = some par) (hst : n.stateAt p par = .ok sPar)
    (f rel : Nat) (ex : String) (hk : Ker.nrd f rel ex ∈ b.kers) (hPrev : Nat)
    (hf : sPar.nrd.find? (·.1 == ex) = some (ex, hPrev)) (hlt : b.h < hPrev + rel) :
    Refused p n b := by
  refine refused_of_state_fault_at p n b par sPar hpar hst fun hn => Nat.not_le_of_lt hlt ?_
  exact nrdBad_eq_false_iff.mp ((stateChecks_none_iff p sPar b).mp hn).2.2.2.2.1 f rel ex hPrev hk hf

/-- **Any immature coinbase among the inputs** — first, second or anywhere in the input list, next
to any number of matured ones — and the block is refused, nothing changed. -/
theorem any_immature_input_refused (p : Params) (n : Node) (b : Blk) (par : Nat) (sPar : UState)
    (hpar : b.parent = some par) (hst : n.stateAt p par = .ok sPar)
    (i c : Nat) (hi : i ∈ b.ins) (hc : sPar.find i = some (i, c, true))
    (hlt : b.h < c + p.maturity) : Refused p n b := by
  refine refused_of_state_fault_at p n b par sPar hpar hst fun hn => Nat.not_le_of_lt hlt ?_
  exact immature_eq_false_iff.mp ((stateChecks_none_iff p sPar b).mp hn).2.1 i hi c hc

/-- **Two NRD kernels sharing an excess inside one block** (`verify_no_nrd_duplicates`) — at any two
positions of the kernel list, with any fees and relative heights, whether or not the excess ever
occurred before — and the block is refused by every node in every state, nothing changed. (Kernels
that are not NRD kernels are not counted: an NRD and a plain kernel may share an excess.) -/
theorem nrd_duplicate_in_block_refused (p : Params) (n : Node) (b : Blk) (pre mid post : List Ker)
    (f1 r1 f2 r2 : Nat) (ex : String)
    (hk : b.kers = pre ++ Ker.nrd f1 r1 ex :: mid ++ Ker.nrd f2 r2 ex :: post) :
    Refused p n b.withNrdDupCheck :=
  refused_of_nrdDup p n b (nrdDupInBody_of_two b pre mid post f1 r1 f2 r2 ex hk)

/-- The NRD index after a block is the block's NRD kernels at its height in front of the path's
earlier ones, so the most recent occurrence on *this* path is the one found (re-evaluated per fork
because the state is a function of the path only). -/
theorem nrd_index_after (s : UState) (b : Blk) :
    (effects s b).nrd = (b.kers.filterMap fun k => match k with
      | .nrd _ _ ex => some (ex, b.h)
      | _ => none) ++ s.nrd := rfl

/-- **On every fork, at all times**: after any delivery history from a fresh node (forks, reorgs,
orphans re-processed later, duplicates), every stored block other than the genesis satisfies all
three rules against the replayed state `sPar` of *its own* parent — the fork it extends:
coinbase maturity for every coinbase output it spends, height locks, and NRD relative heights.
(The decision is a function of the block's own path — `C03.validity_path_determined` — so it is the
same whenever the block is re-applied during a reorganisation; the incremental txhashset that the
node actually rewinds and re-applies is shown to carry that state in `C02.fork_switch`.) -/
theorem stored_blocks_respect_locks (p : Params) (n : Node) (es : List Event) (hf : Fresh n)
    (hreg : Registered n es) (b : Blk) (hb : n.blk b.id = some b) (h0 : b.id ≠ 0)
    (hs : b.id ∈ (run p n es).stored) :
    ∃ par sPar, b.parent = some par ∧ n.stateAt p par = .ok sPar ∧
      (∀ i c, i ∈ b.ins → sPar.find i = some (i, c, true) → c + p.maturity ≤ b.h) ∧
      (∀ f l, Ker.hl f l ∈ b.kers → l ≤ b.h) ∧
      (∀ f rel ex hPrev, Ker.nrd f rel ex ∈ b.kers →
        sPar.nrd.find? (·.1 == ex) = some (ex, hPrev) → hPrev + rel ≤ b.h) := by
  have hi := run_preserved (preserved_inv p) n es hreg (hf.inv p)
  have hdf := run_defs p n es
  have hv : VOP p n b.id := (VOP_congr hdf.2 hdf.1 p b.id).mp (hi.valid b.id hs)
  obtain ⟨par, s', hpar, _, _, hc⟩ := hv.inv hb h0
  obtain ⟨sPar, hst, hvb, hab⟩ := checkBlock_ok p n b par s' hc
  exact ⟨par, sPar, hpar, hst,
    fun i c hi' hc' => maturity p sPar s' b hab i c hi' hc',
    lock_height p n.outs b _ hvb,
    fun f rel ex hPrev hk hfnd => nrd_relative p sPar s' b hab f rel ex hk hPrev hfnd⟩

open TxHS in
/-- The incremental txhashset (`Model/ChainImpl.lean`) records the right creation heights: along
any path `g :: bs` accepted by `replay`, whatever `get_unspent` returns for a commitment carries the
height at which that unspent instance was created in the replayed state — for a re-created
commitment the height of the re-creation. (The node's own maturity check compares MMR positions,
not these heights; the heights are what `get_unspent` hands to callers.) -/
theorem impl_heights_refine_replay (p : Params) (g : Blk) (bs : List Blk) (s : UState) (S : TxHS)
    (hgi : g.ins = []) (hgh : g.h = 0)
    (hct : ∀ b ∈ bs, cutThroughViolation b = false)
    (hr : replay p (genesisState g) bs = .ok s) (hS : applyBlocks {} (g :: bs) = .ok S) :
    ∀ c cp, S.getUnspent c = some cp → ∃ cb, (c, cp.height, cb) ∈ s.utxo := by
  have hctg : cutThroughViolation g = false := by
    apply (cutThrough_false_iff g).mpr; intro c hc; rw [hgi] at hc; cases hc
  simp only [applyBlocks] at hS
  cases h0 : applyBlockImpl {} g with
  | error e => simp only [h0] at hS; cases hS
  | ok S0 =>
    simp only [h0] at hS
    obtain ⟨sp, A⟩ := applyBlockImpl_ok RInv.empty hctg h0
    have ha0 : AbsH S0 (genesisState g) := by
      have := absH_step (s := {}) A (fun c cp h => by cases h)
      have e : (effects {} g).utxo = (genesisState g).utxo := by
        show g.outs.map (fun o => (o.1, g.h, o.2)) = _
        rw [hgh]; rfl
      intro c cp hg
      rw [← e]
      exact this c cp hg
    exact fun c cp hu =>
      impl_replay_heights p bs A.rinv ha0 hct hr hS c cp (getOutputPos_of_getUnspent hu)

/-! ## Pool-facing decisions (`Chain::verify_coinbase_maturity`, `verify_tx_lock_height`,
`validate_tx`; models `txMaturity`, `txLock`, `txValidate` in `Model/Chain.lean`, compared with the
real calls by the harness lines `chain txmat|txlock|txval`) -/

/-- **Reorganisation clause.** After any delivery history from a fresh node over any block tree
(forks, reorganisations in both directions, orphans connected later, duplicates, refused blocks,
headers), the state every pool-facing decision reads — `stateAt head` — is the replay of the
*current* head's own path from the genesis: that path exists, every block on it is stored and
passed body validation, and nothing of what was applied and rewound before enters. With the genesis
at height 0 the height of that state is the head's height and the k-th block of the path has
height k. -/
theorem pool_state_is_replay_of_head_path (p : Params) (n : Node) (es : List Event) (hf : Fresh n)
    (hreg : Registered n es) (g : Blk) (hg : n.blk 0 = some g) :
    ∃ rest s, (run p n es).path (run p n es).head = some (g :: rest) ∧
      replay p (genesisState g) rest = .ok s ∧
      (run p n es).stateAt p (run p n es).head = .ok s ∧
      (∀ b ∈ g :: rest, b.id ∈ (run p n es).stored) ∧
      (∀ b ∈ rest, n.blk b.id = some b ∧ validateBody p n.outs b (sumVals n.outs b.ins) = none) ∧
      (g.h = 0 → s.height = rest.length ∧ s.height = (run p n es).heightOf (run p n es).head ∧
        ∀ k (x : Blk), (g :: rest)[k]? = some x → x.h = k) := by
  obtain ⟨rest, s, H, hst, hpath⟩ := head_path_after_run p n es hf hreg g hg
  have hdf := run_defs p n es
  refine ⟨rest, s, hpath, H.replay, hst,
    head_path_stored p n es hf hreg g rest s H, ?_, ?_⟩
  · intro b hb
    exact ⟨H.isPath.registered b (List.mem_cons_of_mem _ hb), (H.valid b hb).1⟩
  · intro hg0
    refine ⟨H.height_eq hg0, ?_, ?_⟩
    · rw [H.height_eq hg0, heightOf_congr hdf.1, H.heightOf_eq, hg0]; omega
    · intro k x hk
      have := H.height_at k x hk
      omega

/-- … in particular the decisions depend on the current head only: two histories (over the same
block tree) that end on the same head read the same state, whatever either of them applied,
rewound or refused on the way. -/
theorem pool_decisions_path_determined (p : Params) (n : Node) (es₁ es₂ : List Event)
    (hh : (run p n es₁).head = (run p n es₂).head) :
    (run p n es₁).stateAt p (run p n es₁).head = (run p n es₂).stateAt p (run p n es₂).head := by
  rw [stateAt_congr (run_defs p n es₁).1, stateAt_congr (run_defs p n es₂).1, hh]

/-- (a) **Pool / block agreement on every reachable head.** `s` = the state of the head after any
delivery history. For every transaction `t` and the block `b` consisting of `t` plus a coinbase
whose commitment is not unspent, at height `s.height + 1` on that head:
* all three pool-facing checks let `t` in ⟺ every input is unspent, no coinbase input is immature
  at `b`'s height, no lock height exceeds it, no NRD kernel is too close on this path, no output
  duplicates an unspent commitment;
* `checkBlock` — the validation `process_block` runs for `b` against this head — fails with the
  body error if the body is invalid, else with `verify_coinbase_maturity`'s reason if that refuses,
  else with `validate_tx`'s reason if that refuses, and succeeds otherwise;
* a refusal by `verify_tx_lock_height` means the body of `b` is invalid. -/
theorem pool_block_agreement (p : Params) (n : Node) (es : List Event) (hf : Fresh n)
    (hreg : Registered n es) (g : Blk) (hg : n.blk 0 = some g) :
    ∃ s, (run p n es).stateAt p (run p n es).head = .ok s ∧
      ∀ (t : TxA) (id work ver ts cbo : Nat) (b : Blk), s.has cbo = false →
        b = txBlock t id (run p n es).head (s.height + 1) work ver ts cbo →
        ((txMaturity p s t = none ∧ txLock s t = none ∧ txValidate s t = none) ↔
          ((∀ i ∈ t.ins, s.has i = true) ∧ immature p s b = false ∧ lockViolation b = false ∧
            nrdBad s b = false ∧ dupOutput s b = false)) ∧
        (checkBlock p (run p n es) b (run p n es).head =
          match validateBody p (run p n es).outs b (sumVals (run p n es).outs b.ins) with
          | some e => .error e
          | none => match txMaturity p s t with
            | some e => .error e
            | none => match txValidate s t with
              | some e => .error e
              | none => .ok (effects s b)) ∧
        (txLock s t ≠ none → ∀ outs iv, validateBody p outs b iv ≠ none) := by
  obtain ⟨rest, s, _, hst, _⟩ := head_path_after_run p n es hf hreg g hg
  refine ⟨s, hst, ?_⟩
  intro t id work ver ts cbo b hcbo hb
  subst hb
  refine ⟨pool_admits_iff_block_passes p s t id _ work ver ts cbo hcbo, ?_, ?_⟩
  · unfold checkBlock
    rw [hst]
    simp only
    cases validateBody p (run p n es).outs _ _ with
    | some e => rfl
    | none =>
      simp only
      unfold applyBlock
      rw [stateChecks_txBlock p s t id _ work ver ts cbo hcbo]
      cases txMaturity p s t with
      | some e => rfl
      | none =>
        cases txValidate s t with
        | some e => rfl
        | none => rfl
  · intro hl outs iv
    cases hl' : txLock s t with
    | none => exact absurd hl' hl
    | some e => exact txLock_refusal_is_block_refusal p s t id _ work ver ts cbo outs iv e hl'

/-- (b) **Coinbase threshold, exactly.** On the head reached by any history: an unspent coinbase
`i` recorded with creation height `c` was created by the block of height `c` **on the head's own
path** (or by the genesis, `c = 0`), and a transaction spending it is refused by
`verify_coinbase_maturity` iff the next block height is below `c + maturity` — one below the
threshold refused, at the threshold admitted. A non-coinbase output is never held back. -/
theorem pool_coinbase_threshold (p : Params) (n : Node) (es : List Event) (hf : Fresh n)
    (hreg : Registered n es) (g : Blk) (hg : n.blk 0 = some g) :
    ∃ rest s, (run p n es).path (run p n es).head = some (g :: rest) ∧
      (run p n es).stateAt p (run p n es).head = .ok s ∧
      ∀ i c cb, s.find i = some (i, c, cb) →
        ((c = 0 ∧ (i, cb) ∈ g.outs) ∨ ∃ b ∈ rest, b.h = c ∧ (i, cb) ∈ b.outs) ∧
        ∀ outs kers, txMaturity p s ⟨[i], outs, kers⟩ =
          if cb = true ∧ s.height + 1 < c + p.maturity then some "ImmatureCoinbase" else none := by
  obtain ⟨rest, s, H, hst, hpath⟩ := head_path_after_run p n es hf hreg g hg
  refine ⟨rest, s, hpath, hst, ?_⟩
  intro i c cb hfi
  constructor
  · have hm : (i, c, cb) ∈ s.utxo := by
      unfold UState.find at hfi
      exact List.mem_of_find?_eq_some hfi
    rcases replay_utxo_provenance p rest _ s H.replay _ hm with h | ⟨b, hb, h1, h2⟩
    · obtain ⟨o, ho, he⟩ := List.mem_map.mp h
      cases he
      exact Or.inl ⟨rfl, ho⟩
    · exact Or.inr ⟨b, hb, h1.symm, h2⟩
  · intro outs kers
    cases cb with
    | true =>
      rw [txMaturity_single p s i c outs kers hfi]
      simp
    | false =>
      rw [txMaturity_plain p s i c outs kers hfi]
      simp

/-- (b) … for transactions with any number of inputs, all unspent: refused iff *some* coinbase
input is below its threshold. -/
theorem pool_coinbase_threshold_general (p : Params) (s : UState) (t : TxA)
    (hall : ∀ i ∈ t.ins, s.has i = true) :
    (txMaturity p s t = some "ImmatureCoinbase" ↔
      ∃ i ∈ t.ins, ∃ c, s.find i = some (i, c, true) ∧ s.height + 1 < c + p.maturity) ∧
    (txMaturity p s t = none ↔
      ∀ i ∈ t.ins, ∀ c, s.find i = some (i, c, true) → c + p.maturity ≤ s.height + 1) := by
  rw [txMaturity_spec]
  have h1 : ¬ ∃ i ∈ t.ins, s.has i = false := by
    rintro ⟨i, hi, hn⟩
    rw [hall i hi] at hn; cases hn
  rw [if_neg h1]
  refine (ite_refuses_iff (dp := _) Iff.rfl).imp id (·.trans ?_)
  simp only [not_exists, not_and, Nat.not_lt]

/-- (b) **Lock-height threshold, exactly**, on the head reached by any history (genesis at height
0): `verify_tx_lock_height` refuses iff some height-locked kernel has a lock above
`head height + 1`, i.e. the kernel is refused until the next block reaches its lock height. -/
theorem pool_lock_threshold (p : Params) (n : Node) (es : List Event) (hf : Fresh n)
    (hreg : Registered n es) (g : Blk) (hg : n.blk 0 = some g) (hg0 : g.h = 0) :
    ∃ s, (run p n es).stateAt p (run p n es).head = .ok s ∧
      s.height = (run p n es).heightOf (run p n es).head ∧
      ∀ t, (txLock s t = some "TxLockHeight" ↔
              ∃ f l, Ker.hl f l ∈ t.kers ∧ (run p n es).heightOf (run p n es).head + 1 < l) ∧
           (txLock s t = none ↔
              ∀ f l, Ker.hl f l ∈ t.kers → l ≤ (run p n es).heightOf (run p n es).head + 1) := by
  obtain ⟨rest, s, _, _, hst, _, _, hh⟩ :=
    pool_state_is_replay_of_head_path p n es hf hreg g hg
  obtain ⟨_, h2, _⟩ := hh hg0
  refine ⟨s, hst, h2, ?_⟩
  intro t
  rw [← h2]
  exact txLock_refuses_iff s t

/-- (b) **NRD threshold, exactly, on this path only.** On the head reached by any history, for
every excess `ex`: either some block of the head's own path carries an NRD kernel with that excess
— then the index lookup answers the height of the **last** such block `b` on the path, and a
transaction (inputs unspent, no duplicate output) whose only NRD kernel is `(rel, ex)` is refused
iff `next height < b.h + rel` — or no block of the path carries it — then the lookup answers
nothing and such a transaction is never refused on NRD grounds. Blocks that are stored but are not
on the head's path (another fork, a branch rewound by a reorganisation) play no role. -/
theorem pool_nrd_threshold (p : Params) (n : Node) (es : List Event) (hf : Fresh n)
    (hreg : Registered n es) (g : Blk) (hg : n.blk 0 = some g) :
    ∃ rest s, (run p n es).path (run p n es).head = some (g :: rest) ∧
      (run p n es).stateAt p (run p n es).head = .ok s ∧
      ∀ ex,
        ((∃ pre b post, rest = pre ++ b :: post ∧ CarriesNrd b ex ∧
            (∀ b' ∈ post, ¬ CarriesNrd b' ex) ∧ s.nrd.find? (·.1 == ex) = some (ex, b.h) ∧
            ∀ ins outs f rel, (∀ i ∈ ins, s.has i = true) → outs.any s.has = false →
              (txValidate s ⟨ins, outs, [.nrd f rel ex]⟩ = some "NRDRelativeHeight" ↔
                s.height + 1 < b.h + rel) ∧
              (txValidate s ⟨ins, outs, [.nrd f rel ex]⟩ = none ↔ b.h + rel ≤ s.height + 1)) ∨
         ((∀ b' ∈ rest, ¬ CarriesNrd b' ex) ∧ s.nrd.find? (·.1 == ex) = none ∧
            ∀ ins outs f rel, (∀ i ∈ ins, s.has i = true) → outs.any s.has = false →
              txValidate s ⟨ins, outs, [.nrd f rel ex]⟩ = none)) := by
  obtain ⟨rest, s, H, hst, hpath⟩ := head_path_after_run p n es hf hreg g hg
  refine ⟨rest, s, hpath, hst, ?_⟩
  intro ex
  rcases nrd_lookup_on_path p rest _ s rfl H.replay ex with
    ⟨pre, b, post, e, hb, hpost, hfind⟩ | ⟨hall, hfind⟩
  · refine Or.inl ⟨pre, b, post, e, hb, hpost, hfind, ?_⟩
    intro ins outs f rel hins hdup
    rw [txValidate_nrd_single s ins outs f rel ex hdup hins, hfind]
    exact (ite_refuses_iff Iff.rfl).imp id (·.trans Nat.not_lt)
  · refine Or.inr ⟨hall, hfind, ?_⟩
    intro ins outs f rel hins hdup
    rw [txValidate_nrd_single s ins outs f rel ex hdup hins, hfind]

/-- (b) … for transactions with any kernels (inputs unspent, no duplicate output): refused on NRD
grounds iff some NRD kernel's excess was last seen on the replayed path fewer than its relative
height blocks before the next height. -/
theorem pool_nrd_threshold_general (s : UState) (t : TxA) (hdup : t.outs.any s.has = false)
    (hall : ∀ i ∈ t.ins, s.has i = true) :
    (txValidate s t = some "NRDRelativeHeight" ↔
      ∃ f rel ex hPrev, Ker.nrd f rel ex ∈ t.kers ∧ s.nrd.find? (·.1 == ex) = some (ex, hPrev) ∧
        s.height + 1 < hPrev + rel) ∧
    (txValidate s t = none ↔
      ∀ f rel ex hPrev, Ker.nrd f rel ex ∈ t.kers → s.nrd.find? (·.1 == ex) = some (ex, hPrev) →
        hPrev + rel ≤ s.height + 1) :=
  txValidate_nrd_iff s t hdup hall

/-- (c-i) **The one-branch position-based maturity check** `Node.poolMaturityImpl` (cutoff header
always read in the header MMR of `header_head`; `Chain::verify_coinbase_maturity` in
chain/src/chain.rs has a second branch for a header chain on another fork and is modelled by
`Node.poolMaturityFixed`, `Props/C13PoolFork.lean`) **agrees with the specification while the
header chain follows the body chain.** After any history (genesis at height 0, maturity > 0): let
`hpath` be the path of `header_head` (the header MMR). If the header chain and the path of the
head agree up to the cutoff height `next height − maturity` — in particular if `header_head` is
the head or one of its descendants, or an ancestor not below the cutoff height — the
position-based check of `Model/ChainPool.lean` (largest coinbase position against the
`output_mmr_size` of the header found in the header MMR) returns exactly `txMaturity`, for every
transaction. -/
theorem pool_maturity_impl_agrees (p : Params) (n : Node) (es : List Event) (hf : Fresh n)
    (hreg : Registered n es) (g : Blk) (hg : n.blk 0 = some g) (hg0 : g.h = 0)
    (hpath : List Blk) (hH : (run p n es).path (run p n es).hhead = some hpath) :
    ∃ rest s, (run p n es).path (run p n es).head = some (g :: rest) ∧
      (run p n es).stateAt p (run p n es).head = .ok s ∧
      -- agreement up to the cutoff height
      ((p.maturity ≤ rest.length + 1 → rest.length + 1 - p.maturity < hpath.length ∧
          hpath.take (rest.length + 1 - p.maturity + 1) =
            (g :: rest).take (rest.length + 1 - p.maturity + 1)) →
        ∀ t, (run p n es).poolMaturityImpl p t = txMaturity p s t) ∧
      -- header head = head or a descendant of it
      (0 < p.maturity → (g :: rest) <+: hpath →
        ∀ t, (run p n es).poolMaturityImpl p t = txMaturity p s t) ∧
      -- header head an ancestor of the head that still reaches the cutoff height
      (hpath <+: (g :: rest) → rest.length + 1 - p.maturity < hpath.length →
        ∀ t, (run p n es).poolMaturityImpl p t = txMaturity p s t) := by
  obtain ⟨rest, s, H, hst, hP⟩ := head_path_after_run p n es hf hreg g hg
  have hdf := run_defs p n es
  have key := fun hcut t =>
    poolMaturityImpl_eq p (run p n es) n hdf.1 g rest s H hg0 hpath hH t hcut
  refine ⟨rest, s, hP, hst, key, ?_, ?_⟩
  · intro hm0 hpre
    exact key (by simpa using cut_of_prefix_left p (g :: rest) hpath hm0 hpre)
  · intro hpre hlen
    exact key (by simpa using cut_of_prefix_right p (g :: rest) hpath hpre (by simpa using hlen))

/-! ### (c-ii) negation witnesses (finding `C13-pool-maturity-cutoff-read-from-header-fork`,
`known_findings.json`): concrete, kernel-checked histories on which the one-branch check
`poolMaturityImpl` deviates from the specification because `header_head` sits on another fork (tree and histories in `Lemmas/ChainPoolExamples.lean`). -/

/-- trunk y1..y5 processed, then the header of x2 (child of y1, work 500): `header_head` = x2, the
header MMR has 3 entries, the cutoff height is 6 − 3 = 3 — the one-branch check answers
`Other` for the spend of y1's coinbase, which is mature (6 ≥ 1 + 3: the specification admits it). -/
theorem pool_maturity_header_fork_refuses_mature_witness :
    PoolEx.NX.head = 5 ∧ PoolEx.NX.hhead = 12 ∧
    PoolEx.NX.poolMaturityImpl PoolEx.P PoolEx.spendY1 = some "Other" ∧
    ∃ s, PoolEx.NX.stateAt PoolEx.P PoolEx.NX.head = .ok s ∧
      txMaturity PoolEx.P s PoolEx.spendY1 = none :=
  ⟨PoolEx.NX_head.1, PoolEx.NX_head.2, PoolEx.NX_impl, _, PoolEx.NX_state, PoolEx.NX_spec⟩

/-- trunk y1..y5 processed, then the headers of z2, z3 (fork off y1, three outputs per block, work
200): the header found at the cutoff height 3 is z3 with `output_mmr_size` 8, y4's coinbase sits at
position 5 ≤ 8 — the one-branch check admits the spend of y4's coinbase, which is
immature (6 < 4 + 3: the specification refuses it). -/
theorem pool_maturity_header_fork_admits_immature_witness :
    PoolEx.NZ.head = 5 ∧ PoolEx.NZ.hhead = 23 ∧
    PoolEx.NZ.poolMaturityImpl PoolEx.P PoolEx.spendY4 = none ∧
    ∃ s, PoolEx.NZ.stateAt PoolEx.P PoolEx.NZ.head = .ok s ∧
      txMaturity PoolEx.P s PoolEx.spendY4 = some "ImmatureCoinbase" :=
  ⟨PoolEx.NZ_head.1, PoolEx.NZ_head.2, PoolEx.NZ_impl, _, PoolEx.NZ_state, PoolEx.NZ_spec⟩

/-- … hence the one-branch check does **not** refine the specification on all reachable
nodes: the statement "for every history and transaction `poolMaturityImpl = txMaturity`" is false. -/
theorem pool_maturity_impl_not_always_spec :
    ¬ ∀ (p : Params) (n : Node) (es : List Event), Fresh n → Registered n es →
      ∀ t s, (run p n es).stateAt p (run p n es).head = .ok s →
        (run p n es).poolMaturityImpl p t = txMaturity p s t := by
  intro h
  have := h PoolEx.P PoolEx.N _ PoolEx.fresh_N PoolEx.reg_NX PoolEx.spendY1 _ PoolEx.NX_state
  rw [PoolEx.NX_spec] at this
  exact absurd (PoolEx.NX_impl.symm.trans this) (by decide)

-- non-vacuity: spending a coinbase created at height 2 in a block at height 5 with maturity 3
example : immature {} { utxo := [(7, 2, true)] }
    { id := 9, parent := some 8, h := 5, work := 2, ver := 2, ts := 1, ins := [7], outs := [], kers := [], tags := [] } = false := by
  decide +kernel

-- `stored_blocks_respect_locks`: hypotheses hold on the example tree; block 4 (height 3) spends
-- the plain output 104, block 3 (height 2) spends the plain genesis output 100
example : ∃ par sPar, Ex.B4.parent = some par ∧ Ex.N.stateAt Ex.P par = .ok sPar ∧
    (∀ i c, i ∈ Ex.B4.ins → sPar.find i = some (i, c, true) → c + Ex.P.maturity ≤ Ex.B4.h) ∧
    (∀ f l, Ker.hl f l ∈ Ex.B4.kers → l ≤ Ex.B4.h) ∧
    (∀ f rel ex hPrev, Ker.nrd f rel ex ∈ Ex.B4.kers →
      sPar.nrd.find? (·.1 == ex) = some (ex, hPrev) → hPrev + rel ≤ Ex.B4.h) :=
  stored_blocks_respect_locks Ex.P Ex.N [.block Ex.B1, .block Ex.B3, .block Ex.B4] Ex.ex_fresh
    (.cons rfl (.cons rfl (.cons rfl (.nil _))))
    Ex.B4 rfl (by decide) (by decide +kernel)

-- `impl_heights_refine_replay` on the example path 0,1,3,4: commitment 100, spent by block 3 and
-- re-created by block 4, is reported with the height of its re-creation
example : ∃ S, applyBlocks {} [Ex.G, Ex.B1, Ex.B3, Ex.B4] = .ok S ∧ S.getUnspent 100 = some ⟨5, 3⟩ :=
  ⟨_, rfl, by decide +kernel⟩

section PoolExamples
open GV.Chain.PoolEx

-- `pool_state_is_replay_of_head_path`: hypotheses hold for a history with a reorganisation
-- (a1 a2 a3, then b3 b4 take over); the head's path is the genesis, a1, a2, b3, b4 — a3, applied
-- and rewound, is stored but not on it
example : ∃ rest s, (run Q R esAB).path (run Q R esAB).head = some (G :: rest) ∧
    replay Q (genesisState G) rest = .ok s ∧ (run Q R esAB).stateAt Q (run Q R esAB).head = .ok s ∧
    (∀ b ∈ G :: rest, b.id ∈ (run Q R esAB).stored) ∧
    (∀ b ∈ rest, R.blk b.id = some b ∧ validateBody Q R.outs b (sumVals R.outs b.ins) = none) ∧
    (G.h = 0 → s.height = rest.length ∧ s.height = (run Q R esAB).heightOf (run Q R esAB).head ∧
      ∀ k (x : Blk), (G :: rest)[k]? = some x → x.h = k) :=
  pool_state_is_replay_of_head_path Q R esAB fresh_R reg_esAB G rfl
example : (run Q R esAB).path (run Q R esAB).head = some [G, A1, A2, B3, B4] ∧
    3 ∈ (run Q R esAB).stored := ⟨by rw [node_of_heads ⟨RAB_head.1, rfl⟩]; rfl, RAB_head.2⟩

-- `pool_decisions_path_determined`: the history with the reorganisation and a history that never
-- saw a3 end on the same head
example : (run Q R esAB).stateAt Q (run Q R esAB).head =
    (run Q R [.block A1, .block A2, .block B3, .block B4]).stateAt Q
      (run Q R [.block A1, .block A2, .block B3, .block B4]).head :=
  pool_decisions_path_determined Q R esAB _ (RAB_head.1.trans (by decide +kernel))

-- `pool_block_agreement` on the trunk's tip (next height 6): the block made of the spend of y1's
-- coinbase (mature) plus the coinbase 206 passes `checkBlock`; the one spending y4's (immature) is
-- refused with the pool's reason
example : sTrunk.has 206 = false := by decide
example : checkBlock P (run P N trunk) (txBlock spendY1 6 5 (sTrunk.height + 1) 7 3 6 206) 5 =
    .ok (effects sTrunk (txBlock spendY1 6 5 (sTrunk.height + 1) 7 3 6 206)) := by rw [trunk_node]; rfl
example : checkBlock P (run P N trunk) (txBlock spendY4 6 5 (sTrunk.height + 1) 7 3 6 206) 5 =
    .error "ImmatureCoinbase" := by rw [trunk_node]; rfl
example : (run P N trunk).stateAt P (run P N trunk).head = .ok sTrunk := by
  rw [trunk_node]; exact ok_of_fields (by decide +kernel)

-- thresholds, one below / at: next height 6, maturity 3 — y3's coinbase (height 3) is spendable,
-- y4's (height 4) is not; a lock at 6 passes, at 7 it does not
example : txMaturity P sTrunk ⟨[103], [], []⟩ = none ∧
    txMaturity P sTrunk ⟨[104], [], []⟩ = some "ImmatureCoinbase" := by decide +kernel
example : txLock sTrunk ⟨[], [], [.hl 0 6]⟩ = none ∧
    txLock sTrunk ⟨[], [], [.hl 0 7]⟩ = some "TxLockHeight" := by decide +kernel

-- NRD across a reorganisation: on a3 (height 3, carries "e") a kernel (rel 5, "e") is refused for
-- the next height 4 and one with rel 1 is admitted; after the reorganisation to b4 the occurrence
-- on a3 — still stored, no longer on the head's path — does not count
example : (run Q R esA).stateAt Q (run Q R esA).head = .ok sA ∧
    txValidate sA nrdTx = some "NRDRelativeHeight" ∧
    txValidate sA ⟨[100], [300], [.nrd 0 1 "e"]⟩ = none := ⟨RA_state, RA_nrd, by decide +kernel⟩
example : (run Q R esAB).stateAt Q (run Q R esAB).head = .ok sB ∧ 3 ∈ (run Q R esAB).stored ∧
    CarriesNrd A3 "e" ∧ txValidate sB nrdTx = none :=
  ⟨RAB_state, RAB_head.2, ⟨0, 5, by decide⟩, RAB_nrd⟩

-- `pool_maturity_impl_agrees`: on the trunk alone the header head is the head; the header MMR is
-- the head's path and the one-branch check answers like the specification
example : (run P N trunk).path (run P N trunk).hhead = some [G, Y1, Y2, Y3, Y4, Y5] ∧
    (run P N trunk).path (run P N trunk).head = some [G, Y1, Y2, Y3, Y4, Y5] := by
  rw [trunk_node]; exact ⟨rfl, rfl⟩
example : (run P N trunk).poolMaturityImpl P spendY4 = some "ImmatureCoinbase" ∧
    (run P N trunk).poolMaturityImpl P spendY1 = none := by rw [trunk_node]; decide +kernel

end PoolExamples

section MultiExamples
open GV.Chain.Ex2 in
-- `any_locked_kernel_refused`: on b1 (height 1) a block at height 2 with a satisfied lock (2) and a
-- still locked kernel (3): the locked kernel last …
example : Refused Ex2.P NB { Ex2.B4 with kers := [.cb, .hl 0 2, .hl 0 3] } :=
  any_locked_kernel_refused Ex2.P NB _ 0 3 (by decide) (by decide)
open GV.Chain.Ex2 in
-- … and first; the verdict of the check is the same for both orders
example : Refused Ex2.P NB { Ex2.B4 with kers := [.hl 0 3, .hl 0 2, .cb] } :=
  any_locked_kernel_refused Ex2.P NB _ 0 3 (by decide) (by decide)
open GV.Chain.Ex2 in
example : lockViolation { Ex2.B4 with kers := [.cb, .hl 0 2, .hl 0 3] } =
    lockViolation { Ex2.B4 with kers := [.hl 0 3, .hl 0 2, .cb] } :=
  lockViolation_perm _ _ rfl (by decide)
open GV.Chain.Ex2 in
-- the same kernels one block higher: every lock is satisfied
example : lockViolation { Ex2.B4 with h := 3, kers := [.hl 0 3, .hl 0 2, .cb] } = false := by decide
open GV.Chain.Ex2 in
-- mixed with an NRD and a plain kernel, the locked one in the middle
example : Refused Ex2.P NB { Ex2.B4 with kers := [.nrd 0 1 "x", .hl 0 9, .plain 0, .cb] } :=
  any_locked_kernel_refused Ex2.P NB _ 0 9 (by decide) (by decide)
open GV.Chain.Ex2 in
theorem NB_state :
    NB.stateAt Ex2.P 11 = .ok { utxo := [(100, 0, false), (121, 1, true)], nrd := [], height := 1 } := rfl
open GV.Chain.Ex2 in
-- `any_immature_input_refused`: inputs 100 (plain, fine) and 121 (coinbase of b1, created at height
-- 1, spent at 2 < 1 + 3): the immature input second … and first
example : Refused Ex2.P NB { Ex2.B4 with ins := [100, 121], outs := [(135, true)] } :=
  any_immature_input_refused Ex2.P NB _ 11 _ rfl NB_state 121 1 (by decide) (by decide) (by decide)
open GV.Chain.Ex2 in
example : Refused Ex2.P NB { Ex2.B4 with ins := [121, 100], outs := [(135, true)] } :=
  any_immature_input_refused Ex2.P NB _ 11 _ rfl NB_state 121 1 (by decide) (by decide) (by decide)
open GV.Chain.PoolEx in
-- `any_nrd_too_recent_refused`: after a1 a2 a3 (a3 carries the excess "e", relative height 5) a
-- block at height 4 with a fresh NRD excess first and "e" again last … and the other way round
example : Refused Q (run Q R esA)
    { id := 20, parent := some 3, h := 4, work := 9, ver := 5, ts := 9, ins := [], outs := [(120, true)],
      kers := [.cb, .nrd 0 1 "z", .nrd 0 5 "e"], tags := [] } :=
  any_nrd_too_recent_refused Q _ _ 3 sA rfl (RA_head ▸ RA_state) 0 5 "e" (by decide) 3 (by decide) (by decide)
open GV.Chain.PoolEx in
example : Refused Q (run Q R esA)
    { id := 20, parent := some 3, h := 4, work := 9, ver := 5, ts := 9, ins := [], outs := [(120, true)],
      kers := [.nrd 0 5 "e", .nrd 0 1 "z", .cb], tags := [] } :=
  any_nrd_too_recent_refused Q _ _ 3 sA rfl (RA_head ▸ RA_state) 0 5 "e" (by decide) 3 (by decide) (by decide)

open GV.Chain.PoolEx in
-- `nrd_duplicate_in_block_refused`: the excess "q" (never seen before) twice in one block, a plain
-- kernel between the two
example : Refused Q (run Q R esA)
    (Blk.withNrdDupCheck
      { id := 20, parent := some 3, h := 4, work := 9, ver := 5, ts := 9, ins := [],
        outs := [(120, true)], kers := [.cb, .nrd 0 1 "q", .plain 0, .nrd 0 2 "q"], tags := [] }) :=
  nrd_duplicate_in_block_refused Q _ _ [.cb] [.plain 0] [] 0 1 0 2 "q" rfl
open GV.Chain.PoolEx in
-- … while an NRD and a plain kernel are never a duplicate pair: the check leaves the block as it is
example : Blk.withNrdDupCheck
    { id := 20, parent := some 3, h := 4, work := 9, ver := 5, ts := 9, ins := [],
      outs := [(120, true)], kers := [.cb, .nrd 0 1 "q", .plain 0], tags := [] } =
    { id := 20, parent := some 3, h := 4, work := 9, ver := 5, ts := 9, ins := [],
      outs := [(120, true)], kers := [.cb, .nrd 0 1 "q", .plain 0], tags := [] } := by
  simp [Blk.withNrdDupCheck, nrdDupInBody, nrdExcesses]

end MultiExamples

end GV.Props.C13
