import GrinVerif.Lemmas.StoreFiles
import GrinVerif.Lemmas.PruneListInv
import GrinVerif.Model.StoreExt
/-! C08: closed forms at the edges of compaction's leaf selection (`store/src/leaf_set.rs`
`unpruned_pre_cutoff`, `removed_pre_cutoff`) and the prune list's shift caches rebuilt vs maintained
(`store/src/prune_list.rs` `init_caches` vs `append`). -/
namespace GV.Props.C08Cutoff
open GV GV.Pmmr GV.Store GV.Pmmr.Co

/-- **unpruned_pre_cutoff** in closed form: the 1-based leaf positions `1..=cutoff` that the prune
list does not prune (whatever the MMR size is - the function does not know it) -/
theorem unpruned_pre_cutoff_iff (cutoff : Nat) (pl : PruneList) (x : Nat) :
    x ∈ LeafSet.unprunedPreCutoff cutoff pl ↔
      1 ≤ x ∧ x ≤ cutoff ∧ isLeaf (x - 1) = true ∧ pl.isPruned (x - 1) = false :=
  LeafSet.mem_unprunedPreCutoff cutoff pl x

/-- **removed_pre_cutoff** in closed form, for EVERY leaf set, cutoff, `rewind_rm_pos` and prune
list: exactly the 1-based leaf positions at or below the cutoff that are not pruned yet, not in the
leaf set and not in `rewind_rm_pos` -/
theorem removed_pre_cutoff_iff (ls : LeafSet) (cutoff : Nat) (rm : Bitmap) (pl : PruneList) (x : Nat) :
    x ∈ ls.removedPreCutoff cutoff rm pl ↔
      1 ≤ x ∧ x ≤ cutoff ∧ x ∉ ls.bitmap ∧ x ∉ rm ∧ isLeaf (x - 1) = true ∧ pl.isPruned (x - 1) = false :=
  LeafSet.mem_removedPreCutoff_iff

/-- cutoff 0: nothing is removed, whatever the leaf set and the prune list hold -/
theorem removed_pre_cutoff_zero (ls : LeafSet) (rm : Bitmap) (pl : PruneList) :
    ls.removedPreCutoff 0 rm pl = [] := by
  apply List.eq_nil_iff_forall_not_mem.2
  intro x hx
  have := (removed_pre_cutoff_iff ls 0 rm pl x).1 hx
  omega

/-- cutoff on the LAST position of the MMR (`cutoff = size`, the boundary ends in a lone leaf): that
leaf is removed iff it is spent, not protected by `rewind_rm_pos` and not pruned yet -/
theorem removed_pre_cutoff_last (ls : LeafSet) (size : Nat) (rm : Bitmap) (pl : PruneList)
    (hs : 1 ≤ size) (hleaf : isLeaf (size - 1) = true) :
    size ∈ ls.removedPreCutoff size rm pl ↔
      size ∉ ls.bitmap ∧ size ∉ rm ∧ pl.isPruned (size - 1) = false := by
  rw [removed_pre_cutoff_iff]
  constructor
  · rintro ⟨_, _, a, b, _, c⟩; exact ⟨a, b, c⟩
  · rintro ⟨a, b, c⟩; exact ⟨hs, Nat.le_refl _, a, b, hleaf, c⟩

/-- **a cutoff BEYOND the MMR selects positions that do not exist**: every position `size < x <= cutoff`
of leaf height that is not in `rewind_rm_pos` is handed to the new prune list (it is in no leaf
set and under no pruned root).  `check_compact` has no guard of its own - the chain passes the
`output_mmr_size` of a block on the chain, and `compact_preserves` is stated for `cutoff <= size`. -/
theorem removed_pre_cutoff_beyond_size (ls : LeafSet) (size cutoff : Nat) (rm : Bitmap) (pl : PruneList)
    (hls : ∀ y ∈ ls.bitmap, y ≤ size) (x : Nat) (h1 : size < x) (h2 : x ≤ cutoff)
    (hleaf : isLeaf (x - 1) = true) (hrm : x ∉ rm) (hp : pl.isPruned (x - 1) = false) :
    x ∈ ls.removedPreCutoff cutoff rm pl := by
  rw [removed_pre_cutoff_iff]
  refine ⟨by omega, h2, ?_, hrm, hleaf, hp⟩
  intro hm
  have := hls x hm
  omega

/-- **shift caches: rebuilt = maintained.**  For every history of appends (any positions, any
order the assertion allows or not - the model's `append`), the list with its incrementally
maintained `shift_cache` / `leaf_shift_cache` is a fixed point of `init_caches` (both caches rebuilt
from the bitmap), and `PruneList::open` of its flushed bitmap gives it back. -/
theorem caches_rebuilt_eq_incremental (ps : List Nat) :
    let pl := ps.foldl PruneList.append {}
    pl.initCaches = pl ∧ PruneList.openBm pl.bitmap = pl := by
  intro pl
  have hinv : pl.Inv :=
    List.foldlRecOn ps _ PruneList.inv_empty fun p h a _ => PruneList.append_inv h a
  exact ⟨PruneList.initCaches_of_inv hinv, PruneList.openBm_of_inv hinv⟩

/-- **what compaction's clean-up may delete**: only entries that are not directories, were last
accessed more than 24 h ago and whose name starts with `pmmr_leaf.bin.` and is longer than that
prefix (the leaf-set snapshots `pmmr_leaf.bin.<header hash>`).  None of `pmmr_hash.bin`,
`pmmr_data.bin`, `pmmr_size.bin`, `pmmr_leaf.bin`, `pmmr_prun.bin` has that prefix (run `varopen`,
clean-up probe: all of them, aged 48 h, survive on the code; the model's list of deleted names is
compared). -/
theorem clean_rewind_files_deletes_only_old_snapshots (ents : List DirEnt) (n : String)
    (h : n ∈ cleanRewindFiles ents) :
    ∃ e ∈ ents, e.name = n ∧ e.isDir = false ∧ (∃ a, e.age = some a ∧ a > 86400) ∧
      n.startsWith (PMMR_LEAF_FILE ++ ".") = true ∧ n.length > (PMMR_LEAF_FILE ++ ".").length := by
  unfold cleanRewindFiles at h
  obtain ⟨e, he, rfl⟩ := List.mem_map.1 h
  obtain ⟨hmem, hd⟩ := List.mem_filter.1 he
  unfold cleanDeletes at hd
  simp only [Bool.and_eq_true, decide_eq_true_eq, Bool.not_eq_true'] at hd
  obtain ⟨⟨⟨h1, h2⟩, h3⟩, h4⟩ := hd
  refine ⟨e, hmem, rfl, h1, ?_, h3, h4⟩
  cases ha : e.age with
  | none => rw [ha] at h2; exact absurd h2 (by simp)
  | some a =>
    rw [ha] at h2
    exact ⟨a, rfl, by simpa [REWIND_FILE_CLEANUP_DURATION_SECONDS] using h2⟩

/-- non-vacuity: cutoff 5 beyond an MMR of size 3 with nothing spent: position 4 (the next leaf
position) would be "removed" -/
example : (4 : Nat) ∈ ({ bitmap := [1, 2] } : LeafSet).removedPreCutoff 5 [] {} := by
  apply removed_pre_cutoff_beyond_size _ 3 5 [] {} (by simp) 4 (by omega) (by omega)
  · have h : height 3 = 0 := by simpa [mmr, popcount] using height_co 2 0 (Nat.zero_le _)
    simp [isLeaf, h]
  · simp
  · simp [PruneList.isPruned, PruneList.isPrunedRoot, Bm.contains, Bm.select, Bm.rank]

end GV.Props.C08Cutoff
