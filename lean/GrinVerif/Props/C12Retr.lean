import GrinVerif.Lemmas.TxRetr
import GrinVerif.Lemmas.TxSort
/-! # C12 — which pool transactions the node hydrates a compact block from

Theorems about `Pool::retrieve_transactions` (`Model/TxBlock.lean: retrieveTransactions`, lemmas in
`Lemmas/TxRetr.lean`).  `sid` is the short id of a kernel under the block's hash and nonce — any
function, collisions allowed unless a hypothesis says otherwise; `ids` the `kern_ids` asked for. -/
namespace GV.Props.C12
open GV GV.Tx List

/-- **what the loops with their `break 'outer` compute, for every pool and every list of ids**: a
prefix of what the loops without the break would have found / pushed (pool order, kernel order,
one push per matching kernel), followed by `dedup` and the filter for the missing ids; the prefix
is everything unless exactly as many ids were *found* (counted with repetitions) as were asked
for. -/
theorem retrieve_spec (sid : Nat → Nat) (pool : List Tx) (ids : List Nat) :
    ∃ n, retrieveTransactions sid pool ids =
        (dedupAdjTx ((pushedAll sid ids pool).take n),
         ids.filter fun i => !((foundAll sid ids pool).take n).contains i) ∧
      ((foundAll sid ids pool).length ≤ n ∨ ((foundAll sid ids pool).take n).length = ids.length) := by
  obtain ⟨n, hf, ht, h0, h1⟩ := retrLoop_spec sid ids pool ⟨[], [], false⟩ rfl
  refine ⟨n, ?_, ?_⟩
  · simp only [retrieveTransactions, hf, ht, nil_append]
  · cases hd : (retrLoop sid ids ⟨[], [], false⟩ pool).done
    · exact Or.inl (h0 hd)
    · right
      have := h1 hd
      rw [hf, nil_append] at this
      exact this

/-- **soundness for every pool, collisions or not**: every returned transaction is a pool entry
with a kernel whose short id was asked for; every id reported missing was asked for; and every id
asked for and not reported missing is the short id of a kernel of some pool entry. -/
theorem retrieve_sound (sid : Nat → Nat) (pool : List Tx) (ids : List Nat) :
    (∀ t ∈ (retrieveTransactions sid pool ids).1, t ∈ pool ∧ ∃ k ∈ t.kernels, sid k ∈ ids) ∧
    (∀ i ∈ (retrieveTransactions sid pool ids).2, i ∈ ids) ∧
    (∀ i ∈ ids, i ∉ (retrieveTransactions sid pool ids).2 → ∃ t ∈ pool, ∃ k ∈ t.kernels, sid k = i) := by
  obtain ⟨n, he, _⟩ := retrieve_spec sid pool ids
  rw [he]
  refine ⟨?_, ?_, ?_⟩
  · intro t ht
    have h1 : t ∈ pushedAll sid ids pool := (take_sublist _ _).subset (mem_dedupAdjTx.1 ht)
    obtain ⟨hp, k, hk, hm⟩ := mem_pushedAll.1 h1
    exact ⟨hp, k, hk, by simpa using hm⟩
  · intro i hi; exact (mem_filter.1 hi).1
  · intro i hi hn
    have : i ∈ (foundAll sid ids pool).take n := by
      by_cases c : i ∈ (foundAll sid ids pool).take n
      · exact c
      · exfalso; apply hn; simp only [mem_filter]; exact ⟨hi, by simpa using c⟩
    exact (mem_foundAll.1 ((take_sublist _ _).subset this)).2

/-- **exactness for a pool without collisions and without shared kernels**: if no two kernels of
the pool share a short id, no kernel sits in two entries (or twice in one), the ids asked for are
pairwise different and each of them is the short id of some pool kernel, then nothing is reported
missing and the transactions returned are exactly the pool entries that have a kernel asked for —
each once, in pool order (the `break` and the `dedup` are not observable). -/
theorem retrieve_exact (sid : Nat → Nat) (pool : List Tx) (ids : List Nat)
    (hinj : InjOn sid (poolKers pool)) (ndK : (poolKers pool).Nodup) (ndI : ids.Nodup)
    (hcov : ∀ i ∈ ids, ∃ t ∈ pool, ∃ k ∈ t.kernels, sid k = i) :
    retrieveTransactions sid pool ids =
      (pool.filter fun tx => (matching sid ids tx.kernels).length != 0, []) := by
  obtain ⟨n, he, hn⟩ := retrieve_spec sid pool ids
  -- the ids found without the break are exactly the ids asked for
  have ndF : (foundAll sid ids pool).Nodup := by
    rw [foundAll_eq]
    exact nodup_map_of_injOn (hinj.of_subset fun a ha => (mem_matching.1 ha).1) (ndK.filter _)
  have sub1 : ∀ i ∈ foundAll sid ids pool, i ∈ ids := fun i hi => (mem_foundAll.1 hi).1
  have sub2 : ∀ i ∈ ids, i ∈ foundAll sid ids pool := fun i hi => mem_foundAll.2 ⟨hi, hcov i hi⟩
  have hlen : (foundAll sid ids pool).length = ids.length :=
    ((perm_ext_iff_of_nodup ndF ndI).2 fun i => ⟨sub1 i, sub2 i⟩).length_eq
  have hall : (foundAll sid ids pool).length ≤ n := by
    rcases hn with h | h
    · exact h
    · rw [length_take] at h; omega
  have eF : (foundAll sid ids pool).take n = foundAll sid ids pool := take_of_length_le hall
  have eT : (pushedAll sid ids pool).take n = pushedAll sid ids pool :=
    take_of_length_le (by rw [length_pushedAll]; exact hall)
  rw [he, eF, eT]
  rw [dedupAdjTx_pushedAll sid ids pool (filter_matching_pairwise_ne sid ids pool ndK)]
  congr 1
  apply filter_eq_nil_iff.2
  intro i hi
  have := sub2 i hi
  simp [this]

/-- **the node's hydration**: whenever the selection of such a pool is a list of transactions that
hydrates the compact block to `b` (by `hydrate_roundtrip`: the block's transactions in any grouping —
entries that share no kernel with the block may sit anywhere in the pool), the node's path
"`retrieve_transactions`, nothing missing, `hydrate_from`" yields `b`. -/
theorem node_hydration (K : Keys) (sid : Nat → Nat) (pool : List Tx) (cb : CompactBlock) (b : Block)
    (hinj : InjOn sid (poolKers pool)) (ndK : (poolKers pool).Nodup) (ndI : (cb.kernIds.map sid).Nodup)
    (hcov : ∀ i ∈ cb.kernIds.map sid, ∃ t ∈ pool, ∃ k ∈ t.kernels, sid k = i)
    (hh : hydrateFrom K cb (pool.filter fun tx => (matching sid (cb.kernIds.map sid) tx.kernels).length != 0) = .ok b) :
    (retrieveTransactions sid pool (cb.kernIds.map sid)).2 = [] ∧
    hydrateFrom K cb (retrieveTransactions sid pool (cb.kernIds.map sid)).1 = .ok b := by
  rw [retrieve_exact sid pool _ hinj ndK ndI hcov]
  exact ⟨rfl, hh⟩

/-! ### what goes wrong outside those hypotheses (kernel-checked witnesses) -/

def mkTx (tag : Nat) (ks : List Nat) : Tx := ⟨tag, false, [], [], ks⟩

/-- a kernel shared by two entries (a transaction and an aggregate containing it): the count of
found ids reaches the number asked for early, the `break` fires, and an id whose kernel IS in the
pool is reported missing -/
theorem shared_kernel_reports_missing :
    retrieveTransactions id [mkTx 0 [0], mkTx 1 [0, 2], mkTx 2 [4]] [0, 2, 4]
      = ([mkTx 0 [0], mkTx 1 [0, 2]], [4]) := by decide

/-- a short-id collision: the entry that merely collides is returned instead of (or along with) the
wanted one and nothing is reported missing — the hydrated block is then not the block, which the
node finds out by validating it -/
theorem collision_returns_wrong_entry :
    retrieveTransactions (fun _ => 7) [mkTx 0 [2], mkTx 1 [0]] [7] = ([mkTx 0 [2]], []) := by decide

/-- the hypotheses of `retrieve_exact` are satisfiable: two grouped entries of the block around an
unrelated one -/
example : retrieveTransactions id [mkTx 0 [0, 4], mkTx 1 [6], mkTx 2 [2]] [0, 2, 4]
    = ([mkTx 0 [0, 4], mkTx 2 [2]], []) := by decide

end GV.Props.C12
