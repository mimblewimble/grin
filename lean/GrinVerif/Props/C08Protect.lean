import GrinVerif.Model.StoreProtect
import GrinVerif.Lemmas.StoreBlocks
/-! C08, the glue between chain and store at compaction time: which positions the walk
`input_pos_to_rewind` hands to `check_compact` as `rewind_rm_pos`, which positions a compaction
removes, and hence which positions MUST be in that bitmap.

* `walk_collects`: the walk returns exactly the positions listed in the spent index of the blocks
  above the horizon height that have one (a block without a record contributes nothing - the code
  skips it silently).
* `walk_is_the_bookkeeping`: if every block above the horizon has its spent index and the index of
  a block lists exactly the outputs unspent before it and spent after it, the walk returns the
  bitmap `Book.emit (.compact c)` passes (`spentAfter`), i.e. the argument for which
  `chain_bookkeeping_conforms`, `protected_never_compacted`, `protected_never_pruned` are proved.
* `compaction_removes_exactly_unprotected`: `check_compact(cutoff, rm)` removes a leaf iff it lies
  at or below the cutoff, is spent, not yet pruned and NOT in `rm`.
* `must_protect`: hence a spent leaf at or below the cutoff survives iff it is in `rm`; every leaf a
  rewind inside the horizon may make unspent again has to be there - a leaf missing from the bitmap
  (block record missing, off-by-one at the head or at the horizon) is gone after the compaction. -/
namespace GV.Props.C08Protect
open GV GV.Pmmr GV.Store

/-- **walk_collects.**  A position is in the bitmap iff some header on the walk whose height is
above the horizon's - with all headers before it on the walk above it too - has a spent index
that lists it. -/
theorem walk_collects (h : Nat) : ∀ (path : List BlkRec) (x : Nat),
    x ∈ inputPosToRewind h path ↔
      ∃ b ∈ path.takeWhile (fun b => decide (b.height > h)), ∃ l, b.spent = some l ∧ x ∈ l := by
  intro path
  induction path with
  | nil => intro x; simp [inputPosToRewind]
  | cons b rest ih =>
    intro x
    simp only [inputPosToRewind]
    by_cases hb : b.height > h
    · rw [if_pos hb, mem_or, mem_ofList, ih x, List.takeWhile_cons_of_pos (by simpa using hb)]
      constructor
      · rintro (hx | ⟨b', hb', l, hl, hxl⟩)
        · cases hs : b.spent with
          | none => rw [hs] at hx; simp at hx
          | some l => rw [hs] at hx; exact ⟨b, List.mem_cons_self, l, hs, by simpa using hx⟩
        · exact ⟨b', List.mem_cons_of_mem _ hb', l, hl, hxl⟩
      · rintro ⟨b', hb', l, hl, hxl⟩
        rcases List.mem_cons.1 hb' with rfl | hb''
        · left; rw [hl]; simpa using hxl
        · right; exact ⟨b', hb'', l, hl, hxl⟩
    · rw [if_neg hb, List.takeWhile_cons_of_neg (by simpa using hb)]
      simp

/-- the spent-index records of the blocks between consecutive boundaries, lowest first: the block
that leads from boundary `a` to boundary `b` spent exactly the outputs unspent at `a` and not at
`b` (1-based positions); heights count up from `h + 1` -/
def blockRecs : Nat → List Bnd → List BlkRec
  | h, a :: b :: rest =>
    ⟨h + 1, some ((a.U.filter fun q => !b.U.elem q).map (· + 1))⟩ :: blockRecs (h + 1) (b :: rest)
  | _, _ => []

theorem blockRecs_heights : ∀ (l : List Bnd) (h : Nat), ∀ r ∈ blockRecs h l, r.height > h := by
  intro l
  induction l with
  | nil => intro h r hr; simp [blockRecs] at hr
  | cons a t ih =>
    intro h r hr
    cases t with
    | nil => simp [blockRecs] at hr
    | cons b rest =>
      simp only [blockRecs, List.mem_cons] at hr
      rcases hr with rfl | hr
      · simp
      · have := ih (h + 1) r hr; omega

theorem mem_blockRecs_spent : ∀ (l : List Bnd) (h : Nat) (x : Nat),
    (∃ r ∈ blockRecs h l, ∃ s, r.spent = some s ∧ x ∈ s) ↔ x ∈ (spentAfter l).map (· + 1) := by
  intro l
  induction l with
  | nil => intro h x; simp [blockRecs, spentAfter]
  | cons a t ih =>
    intro h x
    cases t with
    | nil => simp [blockRecs, spentAfter]
    | cons b rest =>
      simp only [blockRecs, spentAfter, List.map_append, List.mem_append, List.mem_cons]
      rw [← ih (h + 1) x]
      constructor
      · rintro ⟨r, (rfl | hr), s, hs, hx⟩
        · left; simp only [Option.some.injEq] at hs; rw [hs]; exact hx
        · right; exact ⟨r, hr, s, hs, hx⟩
      · rintro (hx | ⟨r, hr, s, hs, hx⟩)
        · exact ⟨_, Or.inl rfl, _, rfl, hx⟩
        · exact ⟨r, Or.inr hr, s, hs, hx⟩

/-- **walk_is_the_bookkeeping.**  Boundaries `l` = the cutoff boundary (the horizon block, height
`c`) followed by the boundaries of the blocks after it up to the head; every one of those blocks
has its spent index, listing what it spent.  Then the walk from the head down to the horizon
returns, as a set, exactly `spentAfter l` shifted to 1-based positions - the `rewind_rm_pos` of
`Book.emit (.compact c)`. -/
theorem walk_is_the_bookkeeping (c : Nat) (l : List Bnd) (x : Nat) :
    x ∈ inputPosToRewind c (blockRecs c l).reverse ↔ x ∈ (spentAfter l).map (· + 1) := by
  rw [walk_collects, ← mem_blockRecs_spent l c x]
  have hall : (blockRecs c l).reverse.takeWhile (fun b => decide (b.height > c)) = (blockRecs c l).reverse := by
    apply takeWhile_all
    intro r hr
    simpa using blockRecs_heights l c r (List.mem_reverse.1 hr)
  rw [hall]
  constructor
  · rintro ⟨b, hb, s, hs, hx⟩; exact ⟨b, List.mem_reverse.1 hb, s, hs, hx⟩
  · rintro ⟨b, hb, s, hs, hx⟩; exact ⟨b, List.mem_reverse.2 hb, s, hs, hx⟩

/-- **compaction_removes_exactly_unprotected.**  The leaves `check_compact(cutoff, rm)` removes
(`pos_to_rm(..).0`, OR-ed into the prune list): 1-based leaf positions at or below the cutoff that
are not in the leaf set, not in `rm`, and not pruned already. -/
theorem compaction_removes_exactly_unprotected {H : Type} (b : Backend H) (cutoff : Nat) (rm : Bitmap)
    (hs : Sorted b.leafSet.bitmap) (x : Nat) :
    x ∈ (b.posToRm cutoff rm).1 ↔
      1 ≤ x ∧ x ≤ cutoff ∧ x ∉ b.leafSet.bitmap ∧ x ∉ rm ∧ isLeaf (x - 1) = true ∧
        b.pruneList.isPruned (x - 1) = false :=
  LeafSet.mem_removedPreCutoff_iff

/-- **must_protect.**  A spent, not yet pruned leaf at or below the cutoff survives the compaction
(is not handed to the new prune list) iff the chain put it into `rewind_rm_pos`.  So the bitmap has
to contain every leaf at or below the cutoff that is spent now and unspent at some boundary a
rewind may still target; by `walk_is_the_bookkeeping` the walk delivers exactly the leaves spent by
the blocks above the horizon, which contains them all (`protected_never_pruned`). -/
theorem must_protect {H : Type} (b : Backend H) (cutoff : Nat) (rm : Bitmap)
    (hs : Sorted b.leafSet.bitmap) (x : Nat) (h1 : 1 ≤ x) (hc : x ≤ cutoff)
    (hspent : x ∉ b.leafSet.bitmap) (hl : isLeaf (x - 1) = true)
    (hnp : b.pruneList.isPruned (x - 1) = false) :
    x ∉ (b.posToRm cutoff rm).1 ↔ x ∈ rm := by
  rw [compaction_removes_exactly_unprotected b cutoff rm hs x]
  constructor
  · intro h
    cases Decidable.em (x ∈ rm) with
    | inl hm => exact hm
    | inr hn => exact absurd ⟨h1, hc, hspent, hn, hl, hnp⟩ h
  · intro hm h; exact h.2.2.2.1 hm

/-- three blocks above the horizon (height 10); the walk ORs their spent indices, the horizon
block's own spends (height 10) and everything below are not included -/
example : inputPosToRewind 10 [⟨13, some [4, 9]⟩, ⟨12, some []⟩, ⟨11, some [2]⟩, ⟨10, some [1]⟩, ⟨9, some [5]⟩]
    = [2, 4, 9] := by decide

/-- a block without a spent-index record is skipped silently: position 2, spent by block 11, is no
longer protected and `must_protect` says the compaction removes it -/
example : inputPosToRewind 10 [⟨13, some [4, 9]⟩, ⟨12, some []⟩, ⟨11, none⟩, ⟨10, some [1]⟩] = [4, 9] := by
  decide

/-- boundaries: 3 leaves unspent; the next block spends position 0 and adds a leaf; the next spends
position 3.  The walk from the head to the first boundary returns the 1-based positions 1 and 4. -/
example : inputPosToRewind 7 (blockRecs 7 [⟨3, [0, 1, 3]⟩, ⟨4, [1, 3, 4]⟩, ⟨4, [1, 4]⟩]).reverse = [1, 4] := by
  decide

end GV.Props.C08Protect
