import GrinVerif.Props.XlateCons
import GrinVerif.Lemmas.ConsArith
import GrinVerif.Lemmas.XlateArith
/-! # Translated difficulty adjustment (`core/src/consensus.rs`, `core/src/global.rs`,
`core/src/pow/types.rs`) = the hand-written model `Model/Cons.lean`

The definitions of `Gen/FnsCons.lean` that deal with
`HeaderDifficultyInfo`, `Difficulty`, `Proof::scaled_difficulty` and the chain-type dependent sync
parameters.  Shape of the statements (as `damp_eq`): the hand model's `none` (panic) outcome is exactly
`<fn>_ok = false` of the translation, and otherwise the values agree.  All statements are for ALL
inputs (the one range hypothesis is `scale : u64` of `scaled_difficulty`). -/

namespace GV.Props.XlateDiff
open GV GV.Gen GV.Xlate GV.Props.XlateCons

/-- reading `Option.map g model = if ok then some value else none`: the translation returns exactly when the
model does, with the same value -/
theorem map_eq_ite {α β : Type} {g : α → β} {m : Option α} {ok : Bool} {v : β}
    (h : Option.map g m = if ok = true then some v else none) :
    (ok = true ∧ ∃ d, m = some d ∧ v = g d) ∨ (ok = false ∧ m = none) := by
  cases ok <;> cases m <;> simp_all

theorem ar_damp_ne : (AR_SCALE_DAMP_FACTOR != 0) = true := by decide
theorem dma_damp_ne : (DMA_DAMP_FACTOR != 0) = true := by decide
theorem clamp_ne : (CLAMP_FACTOR != 0) = true := by decide

/-- the hand model's `HDI` as the generated `HeaderDifficultyInfo` (the `hash` field, of untranslated
type and never read by the difficulty code, is absent on both sides) -/
def ofHDI (x : GV.Cons.HDI) : Fns.HeaderDifficultyInfo :=
  { timestamp := x.ts, difficulty := x.diff, secondary_scaling := x.scaling, is_secondary := x.isSec }

def toHDI (y : Fns.HeaderDifficultyInfo) : GV.Cons.HDI :=
  { ts := y.timestamp, diff := y.difficulty, scaling := y.secondary_scaling, isSec := y.is_secondary }

@[simp] theorem toHDI_ofHDI (x : GV.Cons.HDI) : toHDI (ofHDI x) = x := rfl
@[simp] theorem ofHDI_toHDI (y : Fns.HeaderDifficultyInfo) : ofHDI (toHDI y) = y := rfl

theorem ofHDI_injective : Function.Injective ofHDI := by
  intro a b h
  have := congrArg toHDI h
  simpa using this

/-- every generated value is the image of a model value: statements about `data.map ofHDI` cover
every `Vec<HeaderDifficultyInfo>` -/
theorem ofHDI_surj (l : List Fns.HeaderDifficultyInfo) : ∃ d : List GV.Cons.HDI, d.map ofHDI = l :=
  ⟨l.map toHDI, by simp [List.map_map, Function.comp_def]⟩

@[simp] theorem ofHDI_timestamp (x : GV.Cons.HDI) : (ofHDI x).timestamp = x.ts := rfl
@[simp] theorem ofHDI_difficulty (x : GV.Cons.HDI) : (ofHDI x).difficulty = x.diff := rfl
@[simp] theorem ofHDI_scaling (x : GV.Cons.HDI) : (ofHDI x).secondary_scaling = x.scaling := rfl
@[simp] theorem ofHDI_is_secondary (x : GV.Cons.HDI) : (ofHDI x).is_secondary = x.isSec := rfl

/-- `HeaderDifficultyInfo::from_ts_diff` is the element the model's `padWindow` pushes -/
theorem from_ts_diff_eq (ct : GV.Cons.ChainType) (t d : Nat) :
    Fns.HeaderDifficultyInfo_from_ts_diff (ofCons ct) t d
      = ofHDI { ts := t, diff := d, scaling := GV.Cons.initialGraphWeight ct, isSec := true } := by
  simp [Fns.HeaderDifficultyInfo_from_ts_diff, ofHDI, initial_graph_weight_eq]

theorem from_diff_scaling_eq (d s : Nat) :
    Fns.HeaderDifficultyInfo_from_diff_scaling d s = ofHDI { ts := 1, diff := d, scaling := s, isSec := true } := rfl

/-! ## `Difficulty` (pow/types.rs) -/

theorem Difficulty_from_num_eq (n : Nat) : Fns.Difficulty_from_num n = GV.Cons.fromNum n := rfl
theorem Difficulty_to_num_eq (n : Nat) : Fns.Difficulty_to_num n = n := rfl
theorem Difficulty_zero_eq : Fns.Difficulty_zero = 0 := rfl
theorem Difficulty_min_dma_eq : Fns.Difficulty_min_dma = MIN_DMA_DIFFICULTY := rfl

theorem Difficulty_min_wtema_eq (ct : GV.Cons.ChainType) :
    Fns.Difficulty_min_wtema (ofCons ct) = GV.Cons.minWtemaGraphWeight ct := by
  simp [Fns.Difficulty_min_wtema, min_wtema_graph_weight_eq]

theorem Difficulty_min_wtema_ok (c : Fns.ChainTypes) : Fns.Difficulty_min_wtema_ok c = true := by
  simp [Fns.Difficulty_min_wtema_ok, min_wtema_graph_weight_ok]

theorem Difficulty_unit_eq (ct : GV.Cons.ChainType) :
    Fns.Difficulty_unit (ofCons ct) = GV.Cons.initialGraphWeight ct := by
  simp [Fns.Difficulty_unit, initial_graph_weight_eq]

theorem Difficulty_unit_ok (c : Fns.ChainTypes) : Fns.Difficulty_unit_ok c = true := by
  simp [Fns.Difficulty_unit_ok, initial_graph_weight_ok]

example : Fns.Difficulty_from_num 0 = 1 ∧ Fns.Difficulty_from_num 7 = 7 ∧ Fns.Difficulty_min_dma = 3
    ∧ Fns.Difficulty_min_wtema .Mainnet = 16384 ∧ Fns.Difficulty_unit .Mainnet = 1856 := by decide

/-- `(scale as u128) << 64` does not lose bits for a `u64` scale -/
theorem shl128 {scale : Nat} (h : scale < 2^64) : Fns.shlN 128 scale 64 = scale * 2^64 :=
  shlN_eq (by decide) (by omega)

/-- `Proof::scaled_difficulty(scale)` (with `hash64 = self.hash().to_u64()`) for every `u64` scale and
every hash value -/
theorem scaled_difficulty_eq (scale hash64 : Nat) (hs : scale < 2^64) :
    Fns.Proof_scaled_difficulty scale hash64 = GV.Cons.scaledDifficulty hash64 scale := by
  unfold Fns.Proof_scaled_difficulty GV.Cons.scaledDifficulty
  simp only [shl128 hs, Fns.castN, U64MAX]
  apply Nat.mod_eq_of_lt
  have : min (scale * 2^64 / max 1 hash64) 18446744073709551615 ≤ 18446744073709551615 := Nat.min_le_right _ _
  omega

theorem Proof_scaled_difficulty_ok (scale hash64 : Nat) : Fns.Proof_scaled_difficulty_ok scale hash64 = true := by
  unfold Fns.Proof_scaled_difficulty_ok
  have : max 1 hash64 ≠ 0 := by omega
  simp [this]

example : Fns.Proof_scaled_difficulty 1856 (2^60) = 29696 ∧ Fns.Proof_scaled_difficulty 1856 0 = 2^64 - 1 := by
  decide

theorem ar_count_eq (h : Nat) (data : List GV.Cons.HDI) :
    Fns.ar_count h (data.map ofHDI) = GV.Cons.arCount data := by
  unfold Fns.ar_count GV.Cons.arCount
  congr 1
  induction data with
  | nil => rfl
  | cons x xs ih =>
    simp only [List.map_cons, List.filter_cons, ofHDI_is_secondary]
    by_cases hx : x.isSec = true <;> simp [hx, ih]

example : Fns.ar_count 5 ([⟨1, 2, 3, true⟩, ⟨4, 5, 6, false⟩, ⟨7, 8, 9, true⟩].map ofHDI) = 200 := by decide

theorem scale_sum_eq (data : List GV.Cons.HDI) :
    List.foldl addW 0 (List.map (fun dd => dd.secondary_scaling) (data.map ofHDI))
      = GV.Cons.sumW (data.map (·.scaling)) := by
  simp [GV.Cons.sumW, List.map_map, Function.comp_def]

theorem diff_sum_eq (data : List GV.Cons.HDI) :
    List.foldl addW 0 (List.map (fun dd => Fns.Difficulty_to_num dd.difficulty) (data.map ofHDI))
      = GV.Cons.sumW (data.map (·.diff)) := by
  simp [GV.Cons.sumW, List.map_map, Function.comp_def, Fns.Difficulty_to_num]

/-- `secondary_pow_scaling` never panics (the damp/clamp factors are the non-zero constants 13 and 2,
the divisor is `max(1, ·)`) -/
theorem secondary_pow_scaling_ok (h : Nat) (l : List Fns.HeaderDifficultyInfo) :
    Fns.secondary_pow_scaling_ok h l = true := by
  have h3 : ∀ x : Nat, (max 1 x != 0) = true := by
    intro x; have : max 1 x ≠ 0 := by omega
    simp [this]
  simp [Fns.secondary_pow_scaling_ok, XlateCons.secondary_pow_ratio_ok, Fns.damp_ok, Fns.clamp_ok, ar_damp_ne, clamp_ne, h3]

/-- `secondary_pow_scaling(height, diff_data)` for every height and list (wrapping sum and products,
`as u32` truncation of the result on both sides) -/
theorem secondary_pow_scaling_eq (h : Nat) (data : List GV.Cons.HDI) :
    GV.Cons.secondaryPowScaling h data
      = if Fns.secondary_pow_scaling_ok h (data.map ofHDI)
        then some (Fns.secondary_pow_scaling h (data.map ofHDI)) else none := by
  rw [secondary_pow_scaling_ok]
  unfold GV.Cons.secondaryPowScaling Fns.secondary_pow_scaling
  simp only [damp_eq, clamp_eq, Fns.damp_ok, Fns.clamp_ok, ar_damp_ne, clamp_ne, if_true, scale_sum_eq, ar_count_eq,
    secondary_pow_ratio_eq, Fns.castN]

theorem secondary_pow_scaling_some (h : Nat) (data : List GV.Cons.HDI) :
    GV.Cons.secondaryPowScaling h data = some (Fns.secondary_pow_scaling h (data.map ofHDI)) := by
  rw [secondary_pow_scaling_eq, secondary_pow_scaling_ok]; rfl

example : Fns.secondary_pow_scaling 1000
    ([⟨1, 2, 1856, true⟩, ⟨1, 2, 1856, false⟩, ⟨1, 2, 1856, true⟩].map ofHDI) = 100 := by decide

/-- the padding loop: whatever list is iterated (only its length matters), the translated `for` loop
appends the model's `padWindow` -/
theorem loop1_eq (ct : GV.Cons.ChainType) (delta diff : Nat) :
    ∀ (l : List Nat) (acc : List Fns.HeaderDifficultyInfo) (ts : Nat),
      (Fns.difficulty_data_to_vector_loop1 (ofCons ct) delta diff l acc ts).1
        = acc ++ (GV.Cons.padWindow ct delta diff l.length ts).map ofHDI := by
  intro l
  induction l with
  | nil => intro acc ts; simp [Fns.difficulty_data_to_vector_loop1, GV.Cons.padWindow]
  | cons x xs ih =>
    intro acc ts
    simp only [Fns.difficulty_data_to_vector_loop1, List.length_cons, GV.Cons.padWindow, ih,
      from_ts_diff_eq, List.map_cons, List.append_assoc, List.singleton_append]

theorem loop1_ok (c : Fns.ChainTypes) (delta diff : Nat) :
    ∀ (l : List Nat) (acc : List Fns.HeaderDifficultyInfo) (ts : Nat),
      Fns.difficulty_data_to_vector_loop1_ok c delta diff l acc ts = true := by
  intro l
  induction l with
  | nil => intro acc ts; rfl
  | cons x xs ih =>
    intro acc ts
    simp only [Fns.difficulty_data_to_vector_loop1_ok, Fns.HeaderDifficultyInfo_from_ts_diff_ok,
      initial_graph_weight_ok, ih, Bool.and_self]

theorem getLast_ts (a : GV.Cons.HDI) (l : List GV.Cons.HDI) (hne : l ≠ []) :
    (Fns.unwrapD (l.map ofHDI).getLast?).timestamp = (l.getLast?.getD a).ts := by
  obtain ⟨x, hx⟩ : ∃ x, l.getLast? = some x := by
    cases h : l.getLast? with
    | none => exact absurd (List.getLast?_eq_none_iff.mp h) hne
    | some x => exact ⟨x, rfl⟩
  rw [List.getLast?_map, hx]; rfl

theorem needed_eq : addW DMA_WINDOW 1 = 61 := by decide
theorem needed_eq' : DMA_WINDOW + 1 = 61 := by decide

/-- `global::difficulty_data_to_vector(cursor)` for every cursor: the panic on an empty cursor
(`last_n[0]`) and the padded, reversed window -/
theorem difficulty_data_to_vector_eq (ct : GV.Cons.ChainType) (cursor : List GV.Cons.HDI) :
    Option.map (List.map ofHDI) (GV.Cons.difficultyDataToVector ct cursor)
      = if Fns.difficulty_data_to_vector_ok (ofCons ct) (cursor.map ofHDI)
        then some (Fns.difficulty_data_to_vector (ofCons ct) (cursor.map ofHDI)) else none := by
  unfold GV.Cons.difficultyDataToVector Fns.difficulty_data_to_vector_ok Fns.difficulty_data_to_vector
  simp only [needed_eq, needed_eq', ← List.map_take, List.length_map, loop1_ok, loop1_eq,
    List.length_range']
  generalize List.take 61 cursor = L
  by_cases hl : 61 > L.length
  · cases L with
    | nil => simp
    | cons a r =>
      cases r with
      | nil => simp [Fns.idx, Fns.unwrapD]
      | cons b rest =>
        have hlast := getLast_ts a (b :: rest) (by simp)
        simp only [List.map_cons] at hlast
        simp only [hl, if_true, decide_true]
        simp [Fns.idx, hlast]
  · simp [hl]

/-- `difficulty_data_to_vector` panics exactly on the empty cursor -/
theorem difficulty_data_to_vector_ok_iff (ct : GV.Cons.ChainType) (cursor : List GV.Cons.HDI) :
    Fns.difficulty_data_to_vector_ok (ofCons ct) (cursor.map ofHDI) = true ↔ cursor ≠ [] := by
  have hv := difficulty_data_to_vector_eq ct cursor
  cases cursor with
  | nil => simp [Fns.difficulty_data_to_vector_ok, needed_eq]
  | cons a r =>
    obtain ⟨d, hd, _⟩ := GV.Cons.difficultyDataToVector_length ct (a :: r) (List.cons_ne_nil _ _)
    rcases map_eq_ite hv with ⟨hok, _⟩ | ⟨_, hm⟩
    · exact ⟨fun _ => by simp, fun _ => hok⟩
    · rw [hd] at hm; cases hm

example : Fns.difficulty_data_to_vector_ok .Mainnet ([⟨100, 7, 3, false⟩, ⟨30, 5, 2, true⟩].map ofHDI) = true
    ∧ (Fns.difficulty_data_to_vector .Mainnet ([⟨100, 7, 3, false⟩, ⟨30, 5, 2, true⟩].map ofHDI)).length = 61
    ∧ (Fns.difficulty_data_to_vector .Mainnet ([⟨100, 7, 3, false⟩, ⟨30, 5, 2, true⟩].map ofHDI)).take 2
        = [ofHDI ⟨0, 7, 1856, true⟩, ofHDI ⟨0, 7, 1856, true⟩]
    ∧ (Fns.difficulty_data_to_vector .Mainnet ([⟨100, 7, 3, false⟩, ⟨30, 5, 2, true⟩].map ofHDI)).drop 59
        = [ofHDI ⟨30, 5, 2, true⟩, ofHDI ⟨100, 7, 3, false⟩]
    ∧ Fns.difficulty_data_to_vector_ok .Mainnet [] = false := by
  decide +kernel

/-- `next_wtema_difficulty(_height, cursor)` for every cursor: panics (`unwrap` of the first two
entries, division by the wrapped `WTEMA_HALF_LIFE - BLOCK_TIME_SEC + last_block_time = 0`) and values -/
theorem next_wtema_difficulty_eq (ct : GV.Cons.ChainType) (h : Nat) (cursor : List GV.Cons.HDI) :
    Option.map ofHDI (GV.Cons.nextWtemaDifficulty ct cursor)
      = if Fns.next_wtema_difficulty_ok (ofCons ct) h (cursor.map ofHDI)
        then some (Fns.next_wtema_difficulty (ofCons ct) h (cursor.map ofHDI)) else none := by
  unfold GV.Cons.nextWtemaDifficulty Fns.next_wtema_difficulty_ok Fns.next_wtema_difficulty
  match cursor with
  | [] => simp
  | [a] => simp
  | a :: b :: rest =>
    simp only [List.map_cons, List.head?_cons, List.tail_cons, Option.isSome_some, Bool.true_and,
      Fns.unwrapD, Option.getD_some, ofHDI_timestamp, ofHDI_difficulty, Fns.Difficulty_to_num,
      Difficulty_min_wtema_ok, Bool.and_true, Difficulty_min_wtema_eq, Difficulty_from_num_eq]
    by_cases hd : addW (subW WTEMA_HALF_LIFE BLOCK_TIME_SEC) (subW a.ts b.ts) = 0
    · simp [hd]
    · simp [hd, from_diff_scaling_eq]

example : Fns.next_wtema_difficulty_ok .AutomatedTesting 0 ([⟨120, 100, 0, true⟩, ⟨60, 1, 0, true⟩].map ofHDI) = true
    ∧ (Fns.next_wtema_difficulty .AutomatedTesting 0 ([⟨120, 100, 0, true⟩, ⟨60, 1, 0, true⟩].map ofHDI)).difficulty = 100
    ∧ (Fns.next_wtema_difficulty .AutomatedTesting 0 ([⟨180, 100, 0, true⟩, ⟨60, 1, 0, true⟩].map ofHDI)).difficulty = 99
    ∧ Fns.next_wtema_difficulty_ok .Mainnet 0 ([⟨0, 5, 0, true⟩, ⟨14340, 1, 0, true⟩].map ofHDI) = false := by
  decide

/-- exactly when `next_wtema_difficulty` returns: at least two entries and the wrapped divisor
`WTEMA_HALF_LIFE - BLOCK_TIME_SEC + (last.timestamp - prev.timestamp)` is non-zero (it is zero e.g.
for `last.timestamp = 0`, `prev.timestamp = 14340`, see the example above) -/
theorem next_wtema_difficulty_ok_iff (c : Fns.ChainTypes) (h : Nat) (cursor : List GV.Cons.HDI) :
    Fns.next_wtema_difficulty_ok c h (cursor.map ofHDI) = true ↔
      ∃ a b rest, cursor = a :: b :: rest ∧
        addW (subW WTEMA_HALF_LIFE BLOCK_TIME_SEC) (subW a.ts b.ts) ≠ 0 := by
  unfold Fns.next_wtema_difficulty_ok
  match cursor with
  | [] => simp
  | [a] => simp
  | a :: b :: rest =>
    simp only [Fns.unwrapD, Difficulty_min_wtema_ok, List.map_cons, List.head?_cons, List.tail_cons,
      Option.isSome_some, Option.getD_some, Bool.true_and, Bool.and_true, ofHDI_timestamp, bne_iff_ne]
    constructor
    · intro hne; exact ⟨a, b, rest, rfl, hne⟩
    · rintro ⟨a', b', rest', heq, hne⟩
      cases heq; exact hne

theorem idx_map {data : List GV.Cons.HDI} {i : Nat} {x : GV.Cons.HDI} (h : data[i]? = some x) :
    Fns.idx (data.map ofHDI) i = ofHDI x := by
  simp [Fns.idx, List.getD_eq_getElem?_getD, h]

/-- `next_dma_difficulty(height, cursor)` for every height and cursor: all panics (empty cursor, index
out of range, division by zero) and the value -/
theorem next_dma_difficulty_eq (ct : GV.Cons.ChainType) (h : Nat) (cursor : List GV.Cons.HDI) :
    Option.map ofHDI (GV.Cons.nextDmaDifficulty ct h cursor)
      = if Fns.next_dma_difficulty_ok (ofCons ct) h (cursor.map ofHDI)
        then some (Fns.next_dma_difficulty (ofCons ct) h (cursor.map ofHDI)) else none := by
  have hv := difficulty_data_to_vector_eq ct cursor
  unfold GV.Cons.nextDmaDifficulty Fns.next_dma_difficulty_ok Fns.next_dma_difficulty
  rcases map_eq_ite hv with ⟨hok, data, hm, hd⟩ | ⟨hok, hm⟩
  · simp only [hm, hok, hd, Bool.true_and, ← List.map_drop, secondary_pow_scaling_ok, Bool.and_true,
      secondary_pow_scaling_some, List.length_map, Fns.damp_ok, Fns.clamp_ok, dma_damp_ne, clamp_ne, diff_sum_eq,
      damp_eq, clamp_eq, if_true, Difficulty_from_num_eq]
    by_cases hlen : DMA_WINDOW < data.length
    · have hhi : data[DMA_WINDOW]? = some data[DMA_WINDOW] := List.getElem?_eq_getElem hlen
      have h0 : 0 < data.length := by omega
      have hlo : data[0]? = some data[0] := List.getElem?_eq_getElem h0
      have h1' : 1 ≤ data.length := h0
      simp only [hhi, hlo, idx_map hhi, idx_map hlo, hlen, h0, h1', decide_true, Bool.true_and,
        ofHDI_timestamp, Bool.and_true]
      split
      · rename_i hz; simp [hz]
      · rename_i hz; simp [hz, from_diff_scaling_eq]
    · simp [hlen]
  · simp [hm, hok]

set_option maxRecDepth 8000 in
example : Fns.next_dma_difficulty_ok .Mainnet 1000 ([⟨1000, 700, 1856, false⟩, ⟨900, 500, 1856, true⟩].map ofHDI) = true
    ∧ (Fns.next_dma_difficulty .Mainnet 1000 ([⟨1000, 700, 1856, false⟩, ⟨900, 500, 1856, true⟩].map ofHDI)).difficulty = 917
    ∧ (Fns.next_dma_difficulty .Mainnet 1000 ([⟨1000, 700, 1856, false⟩, ⟨900, 500, 1856, true⟩].map ofHDI)).secondary_scaling = 1843
    ∧ Fns.next_dma_difficulty_ok .Mainnet 1000 [] = false := by
  decide +kernel

/-- `next_dma_difficulty` panics exactly on the empty cursor: for a non-empty cursor the window has 61
entries, the damp/clamp factors are non-zero constants and the clamped time span is at least
`BLOCK_TIME_WINDOW / CLAMP_FACTOR = 1800` -/
theorem next_dma_difficulty_ok_iff (ct : GV.Cons.ChainType) (h : Nat) (cursor : List GV.Cons.HDI) :
    Fns.next_dma_difficulty_ok (ofCons ct) h (cursor.map ofHDI) = true ↔ cursor ≠ [] := by
  constructor
  · intro hok
    unfold Fns.next_dma_difficulty_ok at hok
    simp only [Bool.and_eq_true] at hok
    exact (difficulty_data_to_vector_ok_iff ct cursor).mp hok.1
  · intro hne
    have hok := (difficulty_data_to_vector_ok_iff ct cursor).mpr hne
    rcases map_eq_ite (difficulty_data_to_vector_eq ct cursor) with ⟨_, data, hm, hd⟩ | ⟨hno, _⟩
    · have hlen : data.length = 61 := GV.Cons.difficultyDataToVector_some_length hm
      have h3 : DMA_WINDOW < 61 := by decide
      have h4 : ∀ x, (Fns.clamp x BLOCK_TIME_WINDOW CLAMP_FACTOR != 0) = true := by
        intro x
        have hb : BLOCK_TIME_WINDOW / CLAMP_FACTOR = 1800 := by decide
        have : Fns.clamp x BLOCK_TIME_WINDOW CLAMP_FACTOR ≠ 0 := by
          unfold Fns.clamp; rw [hb]; omega
        simp [this]
      unfold Fns.next_dma_difficulty_ok
      simp [hok, hd, hlen, secondary_pow_scaling_ok, Fns.damp_ok, Fns.clamp_ok, dma_damp_ne, clamp_ne, h3, h4]
    · rw [hok] at hno; cases hno

/-- hence the model's `nextDmaDifficulty` is `none` exactly on the empty cursor -/
theorem nextDmaDifficulty_isSome_iff (ct : GV.Cons.ChainType) (h : Nat) (cursor : List GV.Cons.HDI) :
    (GV.Cons.nextDmaDifficulty ct h cursor).isSome = true ↔ cursor ≠ [] := by
  rw [← next_dma_difficulty_ok_iff ct h cursor]
  rcases map_eq_ite (next_dma_difficulty_eq ct h cursor) with ⟨hok, _, hm, _⟩ | ⟨hok, hm⟩ <;> simp [hok, hm]

/-- `next_difficulty(height, cursor)` for every chain type, height and cursor: the era switch on
`header_version(height) < HeaderVersion(5)` and both branches -/
theorem next_difficulty_eq (ct : GV.Cons.ChainType) (h : Nat) (cursor : List GV.Cons.HDI) :
    Option.map ofHDI (GV.Cons.nextDifficulty ct h cursor)
      = if Fns.next_difficulty_ok (ofCons ct) h (cursor.map ofHDI)
        then some (Fns.next_difficulty (ofCons ct) h (cursor.map ofHDI)) else none := by
  unfold GV.Cons.nextDifficulty Fns.next_difficulty_ok Fns.next_difficulty
  simp only [header_version_ok, Bool.true_and, header_version_eq]
  by_cases hv : GV.Cons.headerVersion ct h < 5
  · simp only [hv, if_true, decide_true]
    exact next_dma_difficulty_eq ct h cursor
  · simp only [hv, if_false, decide_false]
    exact next_wtema_difficulty_eq ct h cursor

set_option maxRecDepth 8000 in
example : Fns.next_difficulty_ok .Mainnet 1000 ([⟨1000, 700, 1856, false⟩, ⟨900, 500, 1856, true⟩].map ofHDI) = true
    ∧ (Fns.next_difficulty .Mainnet 1000 ([⟨1000, 700, 1856, false⟩, ⟨900, 500, 1856, true⟩].map ofHDI)).difficulty = 917
    ∧ (Fns.next_difficulty .Mainnet 2000000 ([⟨1000, 70000, 1856, false⟩, ⟨900, 500, 1856, true⟩].map ofHDI)).difficulty = 69806
    ∧ Fns.next_difficulty_ok .Mainnet 2000000 ([⟨1000, 70000, 1856, false⟩].map ofHDI) = false
    ∧ Fns.next_difficulty_ok .Mainnet 1000 ([⟨1000, 70000, 1856, false⟩].map ofHDI) = true := by
  decide +kernel

/-! ## chain-type dependent sync parameters (`global.rs`)

No hand model defines these as functions (`Model/CrashCompact.lean` takes `horizon thr ivl` as
parameters; the driver passes the AutomatedTesting values 20, 20, 10), so the closed form per chain
type is stated directly. -/

theorem cut_through_horizon_eq (ct : GV.Cons.ChainType) :
    Fns.cut_through_horizon (ofCons ct) = match ct with
      | .automatedTesting => AUTOMATED_TESTING_CUT_THROUGH_HORIZON
      | .userTesting => USER_TESTING_CUT_THROUGH_HORIZON
      | .testnet => CUT_THROUGH_HORIZON
      | .mainnet => CUT_THROUGH_HORIZON := by
  cases ct <;> rfl

theorem state_sync_threshold_eq (ct : GV.Cons.ChainType) :
    Fns.state_sync_threshold (ofCons ct) = match ct with
      | .automatedTesting => TESTING_STATE_SYNC_THRESHOLD
      | .userTesting => TESTING_STATE_SYNC_THRESHOLD
      | .testnet => STATE_SYNC_THRESHOLD
      | .mainnet => STATE_SYNC_THRESHOLD := by
  cases ct <;> rfl

theorem txhashset_archive_interval_eq (ct : GV.Cons.ChainType) :
    Fns.txhashset_archive_interval (ofCons ct) = match ct with
      | .automatedTesting => 10
      | .userTesting => 10
      | .testnet => 720
      | .mainnet => 720 := by
  cases ct <;> rfl

/-- the values the crash-recovery driver (`Drv/CrashD.lean`, compaction model) uses for
AutomatedTesting, and the mainnet values -/
theorem sync_params_values :
    Fns.cut_through_horizon .AutomatedTesting = 20 ∧ Fns.state_sync_threshold .AutomatedTesting = 20
    ∧ Fns.txhashset_archive_interval .AutomatedTesting = 10
    ∧ Fns.cut_through_horizon .Mainnet = 10080 ∧ Fns.state_sync_threshold .Mainnet = 2880
    ∧ Fns.txhashset_archive_interval .Mainnet = 720 ∧ Fns.cut_through_horizon .UserTesting = 70 := by
  decide

end GV.Props.XlateDiff
