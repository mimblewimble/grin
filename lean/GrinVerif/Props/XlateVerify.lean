import GrinVerif.Lemmas.XlateVerify

/-! # Translated cycle verifiers (`Gen/FnsVerify.lean`) = hand-written model (`Model/Pow.lean`)

`GV.Gen.Fns.Cuckaroo_verify` is regenerated from the CURRENT `core/src/pow/cuckaroo.rs` with
release-build semantics (wrapping `2 * n`, `2 * n + 1`, `n - 1`, `n += 1`; `Vec`s as lists; index
conditions and loop exits collected in `Cuckaroo_verify_ok`).  The hand model `verifyCuckaroo`
(= `verifyU cfgCuckaroo`) works on function arrays and one packed `head` map.  Under
`Cuckaroo_verify_ok = true` (the Rust function returns normally) both give the same verdict.

Array relation: `R l f` (list and function agree on the indices of the list); `headu[b] = head (2*b)`,
`headv[b] = head (2*b+1)`.  The function body over its four loops is the same text for Cuckaroo and Cuckatoo
(`Verify2` in `Lemmas/XlateVerify.lean`); `Verify2.rel` is the tie of the whole function.

The other variants: Cuckarooz is tied at full strength in `Props/XlateVerifyZ.lean` (`cuckarooz_verify_eq`), Cuckatoo in
`Props/XlateVerifyT.lean` (`cuckatoo_verify_eq`, `cuckatoo_verify_eq_sip`), Cuckarood / Cuckaroom in
`Props/XlateVerifyD.lean`.  `cuckarooz_walk_eq_partial` / `cuckatoo_find_eq_partial` below are the
Cuckarooz / Cuckatoo instances of `WalkLoop.eq` / `FindLoop.eq` (one loop of those verifiers each; the whole
functions are `cuckarooz_verify_eq`, `cuckatoo_verify_eq`, and nothing uses the two: they stand for their names). -/

namespace GV.Props.XlateVerify
open GV GV.Gen GV.Gen.Fns GV.Pow GV.Lemmas.XlateVerify

/-- Cuckaroo: the translated `verify` and the model agree on accept / reject, for every chain type,
every parameter set, every proof on which the Rust function returns normally. -/
theorem cuckaroo_verify_rel (ct : ChainTypes) (params : CuckooParams) (proof : Proof)
    (P : Pow.Params) (ep : Nat → Nat × Nat)
    (hP1 : P.proofsize = proofsize ct) (hP2 : P.edgeMask = params.edge_mask)
    (hbk : ∀ u, P.bk u = u &&& shrW (2^64-1) (leadingZeros64 proof.nonces.length))
    (hep : ∀ x, ep x = (let e := siphash_block params.siphash_keys x 21 false
                        (e &&& params.node_mask, (shrW e 32) &&& params.node_mask)))
    (hok : Cuckaroo_verify_ok ct params proof = true) :
    SameVerdict (Cuckaroo_verify ct params proof) (verifyCuckaroo P ep proof.nonces) :=
  c_verify.rel c_build c_circ c_walk rfl rfl (fun _ => rfl) ct params proof P ep hP1 hP2
    (fun side u => by show 2 * P.bk u + side = _; rw [hbk]) hep hok

theorem cuckaroo_verify_eq (ct : ChainTypes) (params : CuckooParams) (proof : Proof)
    (P : Pow.Params) (ep : Nat → Nat × Nat)
    (hP1 : P.proofsize = proofsize ct) (hP2 : P.edgeMask = params.edge_mask)
    (hbk : ∀ u, P.bk u = u &&& shrW (2^64-1) (leadingZeros64 proof.nonces.length))
    (hep : ∀ x, ep x = (let e := siphash_block params.siphash_keys x 21 false
                        (e &&& params.node_mask, (shrW e 32) &&& params.node_mask)))
    (hok : Cuckaroo_verify_ok ct params proof = true) :
    (Cuckaroo_verify ct params proof = some ()) ↔ (verifyCuckaroo P ep proof.nonces = .ok ()) :=
  SameVerdict.some_iff (cuckaroo_verify_rel ct params proof P ep hP1 hP2 hbk hep hok)

theorem cuckaroo_verify_eq_none (ct : ChainTypes) (params : CuckooParams) (proof : Proof)
    (P : Pow.Params) (ep : Nat → Nat × Nat)
    (hP1 : P.proofsize = proofsize ct) (hP2 : P.edgeMask = params.edge_mask)
    (hbk : ∀ u, P.bk u = u &&& shrW (2^64-1) (leadingZeros64 proof.nonces.length))
    (hep : ∀ x, ep x = (let e := siphash_block params.siphash_keys x 21 false
                        (e &&& params.node_mask, (shrW e 32) &&& params.node_mask)))
    (hok : Cuckaroo_verify_ok ct params proof = true) :
    (Cuckaroo_verify ct params proof = none) ↔ (∃ e, verifyCuckaroo P ep proof.nonces = .error e) :=
  SameVerdict.none_iff (cuckaroo_verify_rel ct params proof P ep hP1 hP2 hbk hep hok)

/-- Non-vacuity: `_ok` is satisfiable (wrong-length proof on Mainnet: `_ok = true`, result `none`). -/
example : Cuckaroo_verify_ok ChainTypes.Mainnet ⟨42, 0, [0, 0, 0, 0], 0, 0⟩ ⟨29, []⟩ = true ∧
    Cuckaroo_verify ChainTypes.Mainnet ⟨42, 0, [0, 0, 0, 0], 0, 0⟩ ⟨29, []⟩ = none := by
  constructor <;> rfl

/-- the Cuckarooz instance of `WalkLoop.eq` -/
theorem cuckarooz_walk_eq_partial (size : Nat) (uvs prev : List Nat) (uvsf prevf : Nat → Nat)
    (r1 : R uvs uvsf) (r6 : R prev prevf) (f n i j : Nat) (hn : n + f < 2^63)
    (h : Cuckarooz_verify_loop3_exits size uvs prev f n i j = true) :
    (Cuckarooz_verify_loop3 size uvs prev f n i j = .ret none ∧
      ∃ e, uWalk (uStep cfgCuckarooz size uvsf prevf) f i n = .error e) ∨
    (∃ n' i' j', Cuckarooz_verify_loop3 size uvs prev f n i j = .go (n', i', j') ∧
      uWalk (uStep cfgCuckarooz size uvsf prevf) f i n = .ok n') :=
  (z_walk size uvs prev).eq r1 r6 f n i j hn h |>.imp id
    fun ⟨st, _, e1, e2, e3⟩ => ⟨st.1, st.2.1, st.2.2, e1, e3 ▸ e2⟩

/-- the Cuckatoo instance of `FindLoop.eq` -/
theorem cuckatoo_find_eq_partial (uvs prev : List Nat) (uvsf prevf : Nat → Nat) (i : Nat)
    (r1 : R uvs uvsf) (r6 : R prev prevf) (f j k : Nat)
    (h : Cuckatoo_verify_loop4_exits uvs prev i f j k = true) :
    (Cuckatoo_verify_loop4 uvs prev i f j k = .ret none ∧
      uFind cfgCuckatoo uvsf prevf i f k j = .error .branch) ∨
    (∃ j' k', Cuckatoo_verify_loop4 uvs prev i f j k = .go (j', k') ∧
      uFind cfgCuckatoo uvsf prevf i f k j = .ok j') :=
  (t_find uvs prev i).eq r1 r6 f j k h

/-- non-vacuity of the loop-level hypotheses: a 2-slot self-loop exits at once -/
example : Cuckatoo_verify_loop4_exits [5, 5] [0, 0] 0 1 0 0 = true ∧ R [5, 5] (fun _ => 5) := by
  refine ⟨rfl, ?_⟩
  intro i hi
  match i, hi with
  | 0, _ => rfl
  | 1, _ => rfl

end GV.Props.XlateVerify
