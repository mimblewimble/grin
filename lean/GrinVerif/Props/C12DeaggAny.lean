import GrinVerif.Lemmas.TxDeagg
/-! # C12 — `deaggregate` on ANY multi-kernel side and ANY known list

`core/src/core/transaction.rs::deaggregate(mk_tx, txs)`.  `Props/C12.lean` (`deaggregate_inverse`)
and `Props/C12Deagg.lean` (`deaggregate_general`) describe it when `mk_tx` IS the aggregate of the
known list and a remainder.  Nothing in the function checks that: the known list may hold a
transaction that is not inside `mk_tx` (foreign), the same transaction twice, more than was
aggregated; `mk_tx` may be a single transaction or the empty one.  The theorems here hold for every
`mk` and every known list (no normal-form, no duplicate-freedom, no collision-freedom hypothesis):
the three membership loops are set differences with de-duplication, the offset is the scalar
difference, and the only error is the one `aggregate(txs)` reports.  The harness runs these shapes on
the real code (`tx deagg` lines of the odd-shape section). -/
namespace GV.Props.C12
open GV GV.Tx GV.Tx.Ex List

/-- **`deaggregate` in closed form, for every multi-kernel side and every known list**: whenever the
known list aggregates (to `a`), the call succeeds; the result is in commit-only form, each of its
three vectors is duplicate-free and holds exactly the elements of `mk` that are not in `a`; its
offset is `mk.offset − a.offset` mod n (blinding factors that are not scalars count as zero). -/
theorem deaggregate_any (K : Keys) (mk : Tx) (txs : List Tx) (a : Tx) (h : aggregate K txs = .ok a) :
    ∃ d, deaggregate K mk txs = .ok d ∧ d.v2 = false ∧
      d.inputs.Nodup ∧ (∀ x, x ∈ d.inputs ↔ x ∈ mk.inputs ∧ x ∉ a.inputs) ∧
      d.outputs.Nodup ∧ (∀ x, x ∈ d.outputs ↔ x ∈ mk.outputs ∧ x ∉ a.outputs) ∧
      d.kernels.Nodup ∧ (∀ x, x ∈ d.kernels ↔ x ∈ mk.kernels ∧ x ∉ a.kernels) ∧
      d.offset = scalarSum (toSecrets [mk.offset]) (toSecrets [a.offset]) := by
  unfold deaggregate
  simp only [h, deagg_offset_any]
  refine ⟨_, rfl, rfl, ?_, ?_, ?_, ?_, ?_, ?_, rfl⟩
  · exact nodup_sortBy.2 (pushNew_nodup _ _ _ nodup_nil)
  · intro x
    rw [mem_sortBy, mem_pushNew, Tx.mem_inputsCO, Tx.mem_inputsCO]; simp
  · exact nodup_sortBy.2 (pushNew_nodup _ _ _ nodup_nil)
  · intro x
    rw [mem_sortBy, mem_pushNew]; simp
  · exact nodup_sortBy.2 (pushNew_nodup _ _ _ nodup_nil)
  · intro x
    rw [mem_sortBy, mem_pushNew]; simp

/-- **the only error of `deaggregate` is the one of `aggregate(known list)`** (a commitment left
twice on a side after cut-through — e.g. the same transaction handed in twice); the multi-kernel
side and the offsets never make it fail. -/
theorem deaggregate_error_iff (K : Keys) (mk : Tx) (txs : List Tx) (e : Err) :
    deaggregate K mk txs = .error e ↔ aggregate K txs = .error e := by
  cases h : aggregate K txs with
  | error e' =>
    unfold deaggregate; simp only [h]
  | ok a =>
    obtain ⟨d, hd, _⟩ := deaggregate_any K mk txs a h
    rw [hd]; simp

/-- **a foreign known transaction removes nothing and is not noticed**: when no element of `mk` occurs
in the aggregate of the known list, the result keeps every input, output and kernel of `mk` — but its
offset is `mk.offset − a.offset`, so for a known list with a non-zero offset the result is `mk` with
a WRONG offset, returned as `Ok` (an observation about the code, reproduced by the harness:
`part-minus-foreign`). -/
theorem deaggregate_foreign (K : Keys) (mk : Tx) (txs : List Tx) (a : Tx) (h : aggregate K txs = .ok a)
    (hi : ∀ x ∈ mk.inputs, x ∉ a.inputs) (ho : ∀ x ∈ mk.outputs, x ∉ a.outputs)
    (hk : ∀ x ∈ mk.kernels, x ∉ a.kernels) :
    ∃ d, deaggregate K mk txs = .ok d ∧
      (∀ x, x ∈ d.inputs ↔ x ∈ mk.inputs) ∧ (∀ x, x ∈ d.outputs ↔ x ∈ mk.outputs) ∧
      (∀ x, x ∈ d.kernels ↔ x ∈ mk.kernels) ∧
      d.offset = scalarSum (toSecrets [mk.offset]) (toSecrets [a.offset]) := by
  obtain ⟨d, hd, _, _, mi, _, mo, _, mk', hoff⟩ := deaggregate_any K mk txs a h
  refine ⟨d, hd, ?_, ?_, ?_, hoff⟩
  · intro x; rw [mi]; exact ⟨fun p => p.1, fun p => ⟨p, hi x p⟩⟩
  · intro x; rw [mo]; exact ⟨fun p => p.1, fun p => ⟨p, ho x p⟩⟩
  · intro x; rw [mk']; exact ⟨fun p => p.1, fun p => ⟨p, hk x p⟩⟩

/-- **a known list that covers `mk` leaves an empty body** (everything of `mk` occurs in `a`: the
whole set, or more than was aggregated); the offset is still the difference. -/
theorem deaggregate_covered (K : Keys) (mk : Tx) (txs : List Tx) (a : Tx) (h : aggregate K txs = .ok a)
    (hi : ∀ x ∈ mk.inputs, x ∈ a.inputs) (ho : ∀ x ∈ mk.outputs, x ∈ a.outputs)
    (hk : ∀ x ∈ mk.kernels, x ∈ a.kernels) :
    ∃ d, deaggregate K mk txs = .ok d ∧ d.inputs = [] ∧ d.outputs = [] ∧ d.kernels = [] ∧
      d.offset = scalarSum (toSecrets [mk.offset]) (toSecrets [a.offset]) := by
  obtain ⟨d, hd, _, _, mi, _, mo, _, mk', hoff⟩ := deaggregate_any K mk txs a h
  refine ⟨d, hd, ?_, ?_, ?_, hoff⟩
  · exact eq_nil_iff_forall_not_mem.2 fun x hx => ((mi x).1 hx).2 (hi x ((mi x).1 hx).1)
  · exact eq_nil_iff_forall_not_mem.2 fun x hx => ((mo x).1 hx).2 (ho x ((mo x).1 hx).1)
  · exact eq_nil_iff_forall_not_mem.2 fun x hx => ((mk' x).1 hx).2 (hk x ((mk' x).1 hx).1)

/-- an empty known list: `mk` comes back de-duplicated, in commit-only form, with its own offset
(reduced to a scalar) -/
theorem deaggregate_nothing (K : Keys) (mk : Tx) :
    ∃ d, deaggregate K mk [] = .ok d ∧ d.v2 = false ∧
      (∀ x, x ∈ d.inputs ↔ x ∈ mk.inputs) ∧ (∀ x, x ∈ d.outputs ↔ x ∈ mk.outputs) ∧
      (∀ x, x ∈ d.kernels ↔ x ∈ mk.kernels) ∧ d.offset = scalarSum (toSecrets [mk.offset]) [] := by
  obtain ⟨d, hd, hv, _, mi, _, mo, _, mk', hoff⟩ := deaggregate_any K mk [] Tx.empty rfl
  refine ⟨d, hd, hv, ?_, ?_, ?_, ?_⟩
  · intro x; rw [mi]; simp [Tx.empty]
  · intro x; rw [mo]; simp [Tx.empty]
  · intro x; rw [mk']; simp [Tx.empty]
  · rw [hoff]; simp [Tx.empty, toSecrets]

/-- non-vacuity / the observation on concrete values (`t1`, `t2` of `Lemmas/TxNormal.lean`): `mk` = the
single transaction `t1`, known list = the FOREIGN transaction `t2`: the call succeeds and returns
`t1`'s body with the offset `t1.offset − t2.offset`. -/
example : ∃ d, deaggregate K0 t1 [t2] = .ok d ∧ d.inputs = t1.inputs ∧ d.outputs = t1.outputs ∧
    d.kernels = t1.kernels ∧ d.offset = (t1.offset + (N - t2.offset)) % N := by
  refine ⟨_, rfl, ?_, ?_, ?_, ?_⟩ <;> tx_eval
/-- the same transaction twice in the known list: `CutThrough` -/
example : deaggregate K0 t1 [t2, t2] = .error .cutThrough := by tx_eval

end GV.Props.C12
