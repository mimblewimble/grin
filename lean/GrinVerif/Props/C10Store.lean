import GrinVerif.Lemmas.SerStoreRt
/-! # C10 — the encodings the node keeps on disk

What a header, an output, a range proof, a kernel becomes when it is appended to an MMR data file
(`PMMRable::as_elmt` / `elmt_size`), the header MMR's `HeaderEntry`, the spent index
(`Vec<CommitPos>` through `impl Readable for Vec<T>`), headers read back with
`DeserializationMode::SkipPow`, `MerkleProof`, `Hash::from_vec` — model `Model/SerStore.lean`, tied
to `core/src/core/block.rs`, `core/src/ser.rs`, `chain/src/types.rs`, `core/src/pow/types.rs`,
`core/src/core/merkle_proof.rs`, `core/src/core/hash.rs` by the `store` run of the `ser` harness.

Same shapes as `Props/C10.lean`: round trip with any continuation, "accepted ⇒ canonical" for all
byte strings, refusals; where the code normalises instead of refusing, the theorem says exactly
what it does. None of these encodings has a protocol-version parameter: that they are the same
bytes at the db version and at every wire version is true by construction of the model and compared
on every line of the run. -/
namespace GV.Props.C10Store
open GV GV.Ser

/-! ## HeaderEntry: the element of the header MMR -/

theorem headerEntry_roundtrip (e : HeaderEntry) (h : e.WF) (rest : Bytes) :
    decHeaderEntry (encHeaderEntry e ++ rest) = .ok (e, rest) := decHeaderEntry_enc e h rest

example : ({ hash := List.replicate 32 7, timestamp := 2^64 - 1, totalDifficulty := 0,
             secondaryScaling := 2^32 - 1, isSecondary := true } : HeaderEntry).WF := by decide

/-- `elmt_size()` of `BlockHeader` is the length of every entry `as_elmt()` can produce: the data
file is addressed by `position * elmt_size`. -/
theorem headerEntry_elmt_size (e : HeaderEntry) (h : e.WF) : (encHeaderEntry e).length = HEADER_ENTRY_SIZE :=
  encHeaderEntry_length e h

/-- What `HeaderEntry::read` accepts, for ALL byte strings: the input is the entry's 52 leading
bytes, one flag byte `b` and the rest, and the flag is `b != 0`. -/
theorem headerEntry_accepts {bs : Bytes} {e : HeaderEntry} {r : Bytes} (hb : AllBytes bs)
    (h : decHeaderEntry bs = .ok (e, r)) :
    ∃ b, bs = encHeaderEntryHead e ++ b :: r ∧ e.isSecondary = (b != 0) ∧ e.WF := decHeaderEntry_inv hb h

/-- Hence an accepted input is canonical exactly when its flag byte is 0 or 1 … -/
theorem headerEntry_canonical_iff {bs : Bytes} {e : HeaderEntry} {r : Bytes} (hb : AllBytes bs)
    (h : decHeaderEntry bs = .ok (e, r)) :
    bs = encHeaderEntry e ++ r ↔ ∃ b, b ≤ 1 ∧ bs = encHeaderEntryHead e ++ b :: r := by
  obtain ⟨b, hbs, hflag, _⟩ := decHeaderEntry_inv hb h
  have hlen : ∀ (x y : Nat) (s t : Bytes), encHeaderEntryHead e ++ x :: s = encHeaderEntryHead e ++ y :: t → x = y := by
    intro x y s t hxy
    have := List.append_cancel_left hxy
    simp only [List.cons.injEq] at this
    exact this.1
  constructor
  · intro hc
    rw [encHeaderEntry_eq, List.append_assoc, List.singleton_append] at hc
    refine ⟨b, ?_, hbs⟩
    have := hlen _ _ _ _ (hbs.symm.trans hc)
    cases hs : e.isSecondary <;> simp [hs] at this <;> omega
  · rintro ⟨b', hb', hbs'⟩
    have hbb : b = b' := hlen _ _ _ _ (hbs.symm.trans hbs')
    subst hbb
    rw [encHeaderEntry_eq, List.append_assoc, List.singleton_append, hbs, hflag]
    have : b = 0 ∨ b = 1 := by omega
    rcases this with rfl | rfl <;> simp

/-- … and every other flag byte is accepted as `true` and written back as 1 (recorded finding
`C10-headerentry-flag-byte-normalised`; the file is local, the entry never travels). -/
theorem headerEntry_flag_byte_normalised (e : HeaderEntry) (h : e.WF) (b : Nat) (hb : 2 ≤ b) (rest : Bytes) :
    decHeaderEntry (encHeaderEntryHead e ++ b :: rest) = .ok ({ e with isSecondary := true }, rest)
    ∧ encHeaderEntry { e with isSecondary := true } ++ rest ≠ encHeaderEntryHead e ++ b :: rest := by
  constructor
  · rw [decHeaderEntry_head e h]
    have : (b != 0) = true := by simp; omega
    rw [this]
  · rw [encHeaderEntry_eq, List.append_assoc, List.singleton_append]
    intro hc
    have : encHeaderEntryHead { e with isSecondary := true } = encHeaderEntryHead e := rfl
    rw [this] at hc
    have := List.append_cancel_left hc
    simp at this
    omega

/-! ## as_elmt: from a header to its entry -/

/-- The entry made from any well-formed header is well-formed, hence has the fixed size and reads
back from the data file as itself. -/
theorem asElmt_roundtrip (H : Bytes → Bytes) (hH : ∀ b, (H b).length = HASH_SIZE) (proofSize : Nat)
    (h : BlockHeader) (hwf : h.WF proofSize) (rest : Bytes) :
    decHeaderEntry (encHeaderEntry (h.asElmt H proofSize) ++ rest) = .ok (h.asElmt H proofSize, rest)
    ∧ (encHeaderEntry (h.asElmt H proofSize)).length = HEADER_ENTRY_SIZE :=
  ⟨decHeaderEntry_enc _ (asElmt_wf H hH proofSize h hwf) rest,
   encHeaderEntry_length _ (asElmt_wf H hH proofSize h hwf)⟩

/-- `Hashed for HeaderEntry` answers the header's own identity hash — the hash of the hash-mode
bytes, which have no version parameter (`blockHeader_hashBytes_eq` in `Props/C10.lean`) — and still
does after the entry went through the data file. -/
theorem asElmt_identity_hash (H : Bytes → Bytes) (hH : ∀ b, (H b).length = HASH_SIZE) (proofSize : Nat)
    (h : BlockHeader) (hwf : h.WF proofSize) (rest : Bytes) :
    ∃ e, decHeaderEntry (encHeaderEntry (h.asElmt H proofSize) ++ rest) = .ok (e, rest)
      ∧ e.identityHash = H (h.hashBytes proofSize) :=
  ⟨_, decHeaderEntry_enc _ (asElmt_wf H hH proofSize h hwf) rest, rfl⟩

/-- The `as u64` cast of the timestamp loses nothing (timestamps before 1970 wrap to the top of the
u64 range and come back). -/
theorem asElmt_timestamp_recoverable (H : Bytes → Bytes) (proofSize : Nat) (h : BlockHeader)
    (hwf : h.WF proofSize) : toI64 (h.asElmt H proofSize).timestamp = h.timestamp := by
  obtain ⟨_, _, h3, h4, _⟩ := hwf
  have := ts_bounds
  exact toI64_ofI64 _ (by omega) (by omega)

/-- the other three fields are copies; the flag is `edge_bits == SECOND_POW_EDGE_BITS` -/
theorem asElmt_fields (H : Bytes → Bytes) (proofSize : Nat) (h : BlockHeader) :
    (h.asElmt H proofSize).totalDifficulty = h.pow.totalDifficulty
    ∧ (h.asElmt H proofSize).secondaryScaling = h.pow.secondaryScaling
    ∧ ((h.asElmt H proofSize).isSecondary = true ↔ h.pow.proof.edgeBits = 29) := by
  refine ⟨rfl, rfl, ?_⟩
  simp [BlockHeader.asElmt, ProofOfWork.isSecondary, GV.Gen.SECOND_POW_EDGE_BITS]

/-! ## fixed element sizes of the other MMRs -/

theorem outputId_elmt_size (o : OutputId) (h : o.WF) : (encOutputId o).length = OUTPUT_ID_SIZE := by
  unfold OutputId.WF at h
  cases hf : o.features <;> simp [encOutputId, encOutputFeatures, writeFixed, writeU8, h, hf, OUTPUT_ID_SIZE] <;> omega

/-- every range proof a decoder returns or `bullet_proof` creates (`plen = 675`) fills its slot … -/
theorem rangeProof_elmt_size (p : RangeProof) (h : p.WF) : (encRangeProof p).length = RANGE_PROOF_ELMT_SIZE := by
  obtain ⟨h1, h2⟩ := h
  simp [encRangeProof, writeBytes, writeU64, h1, h2, RANGE_PROOF_ELMT_SIZE]; omega

/-- … a shorter `plen` would not (the writer emits `8 + plen` bytes): the fixed size relies on
`RangeProof::read` forcing `plen = 675` (`rangeProof_short_length_accepted`). -/
example : (encRangeProof { plen := 10, proof := List.replicate 675 0 }).length ≠ RANGE_PROOF_ELMT_SIZE := by decide

/-- kernels have no fixed size at protocol version 2 and above (`elmt_size() = None`) -/
example : (encTxKernel 2 .full { features := .plain 1, excess := List.replicate 33 0, excessSig := List.replicate 64 0 }).length
    ≠ (encTxKernel 2 .full { features := .coinbase, excess := List.replicate 33 0, excessSig := List.replicate 64 0 }).length := by
  decide

/-! ## CommitPos and the spent index -/

theorem commitPos_roundtrip (c : CommitPos) (h : c.WF) (rest : Bytes) :
    decCommitPos (encCommitPos c ++ rest) = .ok (c, rest) := wire_commitPos.rt c h rest

theorem commitPos_accepts_only_canonical {bs : Bytes} {c : CommitPos} {r : Bytes} (hb : AllBytes bs)
    (h : decCommitPos bs = .ok (c, r)) : bs = encCommitPos c ++ r ∧ c.WF := wire_commitPos.inv hb h

example : ({ pos := 2^64 - 1, height := 0 } : CommitPos).WF := by decide

/-- `Vec<T>::read`, generically in the item codec: items that round-trip and are not empty come
back in order from their back-to-back encodings (no count field, no cap) … -/
theorem vec_roundtrip {α : Type} (p : Parser α) (w : α → Bytes) (l : List α)
    (hrt : ∀ x ∈ l, ∀ rest, p (w x ++ rest) = .ok (x, rest)) (hne : ∀ x ∈ l, 0 < (w x).length)
    (heof : p [] = .error .ioEof) :
    readVec p (writeMulti w l) = some (.ok l) := by
  have := readVec_write_tail p w l [] hrt hne heof
  simpa using this

/-- … an item cut short by the end of the source is dropped without an error (what the code does:
`UnexpectedEof` ends the loop wherever it happens) … -/
theorem vec_partial_tail_dropped {α : Type} (p : Parser α) (w : α → Bytes) (l : List α) (tail : Bytes)
    (hrt : ∀ x ∈ l, ∀ rest, p (w x ++ rest) = .ok (x, rest)) (hne : ∀ x ∈ l, 0 < (w x).length)
    (htail : p tail = .error .ioEof) :
    readVec p (writeMulti w l ++ tail) = some (.ok l) := readVec_write_tail p w l tail hrt hne htail

/-- … every other item error fails the whole vector, wherever the bad item sits … -/
theorem vec_error_propagates {α : Type} (p : Parser α) (w : α → Bytes) (l : List α) (tail : Bytes) (e : SerErr)
    (hrt : ∀ x ∈ l, ∀ rest, p (w x ++ rest) = .ok (x, rest)) (hne : ∀ x ∈ l, 0 < (w x).length)
    (htail : p tail = .error e) (he : e ≠ .ioEof) :
    readVec p (writeMulti w l ++ tail) = some (.error e) := by
  rw [readVec_write p w l tail e hrt hne htail, if_neg he]

/-- … and the loop terminates on every input provided a successful item read consumes something
(false for `BitmapChunk::read`, which reads nothing: `Vec<BitmapChunk>` must never be read). -/
theorem vec_terminates {α : Type} (p : Parser α)
    (hprog : ∀ bs x r, p bs = .ok (x, r) → r.length < bs.length) (bs : Bytes) : readVec p bs ≠ none :=
  readVecFuel_some p hprog _ bs (by omega)

/-- a reader that succeeds without consuming never leaves the loop -/
example : readVec (fun bs => (.ok ((), bs) : Except SerErr (Unit × Bytes))) [1, 2, 3] = none := by decide

theorem spentIndex_roundtrip (l : List CommitPos) (h : ∀ c ∈ l, c.WF) :
    decSpentIndex (encSpentIndex l) = .ok (l, []) := by
  have := readVec_write_tail decCommitPos encCommitPos l []
    (fun x hx => wire_commitPos.codec.leafRt (h x hx)) (fun x _ => by rw [encCommitPos_length]; decide) rfl
  simp only [List.append_nil] at this
  simp [decSpentIndex, decVec, encSpentIndex, this]

/-- The spent-index reader accepts EVERY byte string: ⌊len/16⌋ entries, re-encoding to the first
16·⌊len/16⌋ bytes; the remaining `len % 16 < 16` bytes are ignored (recorded finding
`C10-vec-trailing-partial-item-dropped`: nothing in the format could refuse them). -/
theorem spentIndex_accepts_everything (bs : Bytes) (hb : AllBytes bs) :
    ∃ l tail, decSpentIndex bs = .ok (l, []) ∧ bs = encSpentIndex l ++ tail
      ∧ tail.length < COMMIT_POS_SIZE ∧ l.length = bs.length / COMMIT_POS_SIZE := by
  obtain ⟨l, tail, h1, h2, h3, h4, _⟩ := readVec_commitPos_total bs.length bs rfl hb
  exact ⟨l, tail, by simp [decSpentIndex, decVec, h1], h2, h3, h4⟩

/-- in particular a whole number of entries is canonical -/
theorem spentIndex_canonical_of_multiple (bs : Bytes) (hb : AllBytes bs) (hm : bs.length % COMMIT_POS_SIZE = 0) :
    ∃ l, decSpentIndex bs = .ok (l, []) ∧ bs = encSpentIndex l := by
  obtain ⟨l, tail, h1, h2, h3, h4⟩ := spentIndex_accepts_everything bs hb
  have hl : (encSpentIndex l).length = COMMIT_POS_SIZE * l.length := by
    clear h1 h2 h4
    induction l with
    | nil => rfl
    | cons x l ih =>
      have : encSpentIndex (x :: l) = encCommitPos x ++ encSpentIndex l := by simp [encSpentIndex, writeMulti]
      rw [this, List.length_append, ih, encCommitPos_length, List.length_cons, Nat.mul_succ]; omega
  have : tail.length = 0 := by
    have := congrArg List.length h2
    rw [List.length_append, hl, h4] at this
    simp only [COMMIT_POS_SIZE] at *
    omega
  have ht : tail = [] := List.eq_nil_of_length_eq_zero this
  subst ht
  exact ⟨l, h1, by simpa using h2⟩

/-! ## headers read with `DeserializationMode::SkipPow` -/

/-- A `SkipPow` read of a header consumes the encoding up to and including the `edge_bits` byte and
returns every field but the nonces — whatever follows that byte (the packed nonces of a real
header; the reader never looks at them). -/
theorem header_skipPow_stops_after_edge_bits (h : BlockHeader) (hwf : h.WFSkip) (rest : Bytes) :
    decBlockHeaderSkip (encHeaderToEdgeBits h ++ rest) = .ok (h.withoutNonces, rest) :=
  decBlockHeaderSkip_toEdgeBits h hwf rest

/-- On the encoding of a well-formed header: all fields but the nonces are the written ones and
exactly the packed nonces are left unread. -/
theorem header_skipPow_roundtrip (proofSize : Nat) (h : BlockHeader) (hwf : h.WF proofSize) (rest : Bytes) :
    decBlockHeaderSkip (encBlockHeader proofSize .full h ++ rest)
      = .ok (h.withoutNonces, h.pow.proof.packNonces proofSize ++ rest) := by
  rw [encBlockHeader_split, List.append_assoc]
  exact decBlockHeaderSkip_toEdgeBits h hwf.toSkip _

/-- For ALL byte strings: whatever the full reader accepts, the `SkipPow` reader accepts with the
same fields (so the difficulty iterator sees the heights, timestamps, difficulties and edge bits
the validated header has). -/
theorem header_skipPow_agrees_with_full {c : Cfg} {bs : Bytes} {hd : BlockHeader} {r : Bytes}
    (h : decBlockHeader c bs = .ok (hd, r)) :
    ∃ r', decBlockHeaderSkip bs = .ok (hd.withoutNonces, r') := by
  rw [decBlockHeader_eq] at h
  obtain ⟨h0, r1, h1, h2, e, hts⟩ := readHeaderWith_inv h
  obtain ⟨r', hs⟩ := decProofOfWorkSkip_of_full h2
  rw [e] at hts ⊢
  exact ⟨r', by rw [decBlockHeaderSkip_eq, readHeaderWith, h1, andThen_ok, hs, andThen_ok, if_neg hts]; rfl⟩

/-- The converse is false: `SkipPow` does not see the proof, so it accepts headers the full reader
refuses (here: 8 packed bytes missing altogether). -/
example : (decBlockHeaderSkip (List.replicate 246 0 ++ [31])).toOption.isSome = true
    ∧ (decBlockHeader { ver := 1, nrd := false, maxWeight := 250, proofSize := 8, key := fun _ => 0 }
        (List.replicate 246 0 ++ [31])).toOption.isSome = false := by
  decide

/-- the identity hash of a header read under `SkipPow` is NOT the header's (the hash covers the
packed nonces): such a header must never be hashed or stored -/
example : ({ edgeBits := 8, nonces := [1, 2, 3, 4, 5, 6, 7, 8] } : Proof).hashBytes 8
    ≠ ({ edgeBits := 8, nonces := [] } : Proof).hashBytes 8 := by decide

/-! ## MerkleProof -/

theorem merkleProof_roundtrip (p : MerkleProof) (h : p.WF) (rest : Bytes) :
    decMerkleProof (encMerkleProof p ++ rest) = .ok (p, rest) := codec_merkleProof.rt p h rest

example : ({ mmrSize := 2^64 - 1, path := [List.replicate 32 1, List.replicate 32 2] } : MerkleProof).WF := by
  refine ⟨by decide, by decide, ?_⟩
  intro h hh
  simp at hh
  rcases hh with rfl | rfl <;> rfl

/-- the empty proof is sixteen bytes -/
theorem merkleProof_empty_roundtrip (size : Nat) (h : size < 2^64) (rest : Bytes) :
    decMerkleProof (writeU64 size ++ writeU64 0 ++ rest) = .ok ({ mmrSize := size, path := [] }, rest) := by
  have := codec_merkleProof.rt { mmrSize := size, path := [] } ⟨h, by simp, by simp⟩ rest
  simpa [encMerkleProof, writeMulti] using this

theorem merkleProof_accepts_only_canonical {bs : Bytes} {p : MerkleProof} {r : Bytes} (hb : AllBytes bs)
    (h : decMerkleProof bs = .ok (p, r)) : bs = encMerkleProof p ++ r ∧ p.WF := codec_merkleProof.inv hb h

/-- a path count the bytes do not cover is refused (count inconsistent with content) -/
theorem merkleProof_count_over_content (size n : Nat) (h1 : size < 2^64) (h2 : n < 2^64) (body : Bytes)
    (hshort : body.length < HASH_SIZE * n) :
    decMerkleProof (writeU64 size ++ writeU64 n ++ body) = .error .ioEof := by
  rw [decMerkleProof]
  simp only [List.append_assoc]
  rw [readU64_write _ h1, andThen_ok, readU64_write _ h2, andThen_ok, readHashes_short n body hshort, andThen_error]

/-! ## Hash::from_vec -/

theorem hashFromVec_always_32 (v : Bytes) : (hashFromVec v).length = HASH_SIZE := by
  simp [hashFromVec, HASH_SIZE]; omega
theorem hashFromVec_of_hash (v : Bytes) (h : v.length = HASH_SIZE) : hashFromVec v = v := by
  unfold hashFromVec
  rw [List.take_of_length_le (by omega), h]; simp
/-- short input is zero-padded, long input truncated: `from_vec` is not injective -/
example : hashFromVec [1, 2] = hashFromVec ([1, 2] ++ List.replicate 30 0) := by decide
example : hashFromVec (List.replicate 32 9 ++ [1]) = hashFromVec (List.replicate 32 9 ++ [2]) := by decide

end GV.Props.C10Store
