import GrinVerif.Lemmas.PoolTime
import GrinVerif.Props.C14Node
/-! C14 — the clock-dependent glue around the pool (`Model/PoolTime.lean`).

The theorems of `Props/C14.lean` / `Props/C14Node.lean` quantify over histories in which every
decision that depends on a clock is an *input* (how many cache entries a truncation drops, which
stem entries are older than a timer, whether the Dandelion epoch has run out).  Here the code that
computes those inputs is modelled with explicit clock readings, and:

* `timed_run_is_a_node_run` — every history of the node WITH its clocks (any readings, monotone or
  not, any random draws) is a history of `Model/PoolNode.lean`; the invariants proved there hold
  for it (`timed_entries_always_valid`, `timed_fees_always_paid`, `timed_pool_inv`,
  `timed_reorg_cache_bounded`);
* reorg cache: at most `max_pool_size` entries after any history (`reorg_cache_bounded`); the
  truncation loop only ever removes entries older than the cutoff (`truncate_removes_only_old`) and
  keeps every entry that is not (`truncate_keeps_recent`); with a clock that never goes back the
  cache is ordered by `tx_at` after any history and the loop removes EXACTLY the entries older
  than the cutoff (`cache_time_ordered`, `truncate_exact_after_any_history`); without that
  hypothesis it does not (`truncate_leaves_old_entry_behind_young`);
* Dandelion epoch: a new epoch object counts as expired, expiry is monotone in the clock, and
  after `next_epoch` at `now` the epoch runs for exactly `epoch_secs` whole seconds
  (`epoch_runs_exactly_epoch_secs`); the monitor changes the epoch iff it has run out, after the
  phases (`monitor_changes_epoch_iff_expired`);
* timers: `select_txs_cutoff` is monotone in the clock and antitone in the timer; below the `u16`
  wrap every embargo-expired entry is past the aggregation timer; at `embargo_secs > 65505` the
  sum `embargo_secs + gen_range(0, 31)` wraps (release) and a seconds-old entry is "expired"
  (`embargo_cutoff_wraps`). -/
namespace GV.Props.C14Time
open GV.Pool

/-! ## timed histories are node histories -/

/-- **Refinement.**  Whatever the clock readings and random draws: the pool state after a timed
history is the pool state after the untimed node history obtained by computing, step by step,
the clock-dependent inputs (`eraseAll`). -/
theorem timed_run_is_a_node_run (T : TCfg) (st : TSt) (ops : List TOp) :
    (trun T st ops).cs = nrun st.cs (eraseAll T st ops) := by
  induction ops generalizing st with
  | nil => rfl
  | cons o os ih =>
    show (trun T (tstep T st o) os).cs = nrun (nstep st.cs (eraseT T st o)) (eraseAll T (tstep T st o) os)
    rw [ih, tstep_cs]

/-- the truncation inside `block_accepted` is the operation `truncate n` of the untimed histories,
`n` being the number of leading cache entries older than `now - reorg_cache_period` minutes -/
theorem block_truncate_is_truncate (cs : Ctx × TxPool) (ats : List Int) (now : Int) (periodMin : Nat) :
    (cs.1, cs.2.blockTruncate ats now periodMin) =
      step cs (.truncate (leadingOld (reorgCutoff now periodMin) ats)) := rfl

theorem timed_entries_always_valid (T : TCfg) (c : Ctx) (ep : TEpoch) (ops : List TOp) :
    AllValid (trun T { cs := (c, {}), ep } ops).cs.1 (trun T { cs := (c, {}), ep } ops).cs.2 := by
  rw [timed_run_is_a_node_run]
  exact GV.Props.C14Node.node_entries_always_valid c _

theorem timed_fees_always_paid (T : TCfg) (c : Ctx) (ep : TEpoch) (ops : List TOp) :
    ∀ e, (e ∈ (trun T { cs := (c, {}), ep } ops).cs.2.txpool ∨ e ∈ (trun T { cs := (c, {}), ep } ops).cs.2.stempool ∨
        e ∈ (trun T { cs := (c, {}), ep } ops).cs.2.cache) →
      e.tx.weight * c.cfg.feeBase ≤ e.tx.shiftedFee := by
  rw [timed_run_is_a_node_run]
  exact GV.Props.C14Node.node_fees_always_paid c _

/-- joint validity of txpool and stempool ∪ txpool, as long as the erased history does not evict -/
theorem timed_pool_inv (T : TCfg) (c : Ctx) (ep : TEpoch) (ops : List TOp)
    (hne : NoEvict (c, {}) (flatAll (c, {}) (eraseAll T { cs := (c, {}), ep } ops))) :
    JointlyValid (trun T { cs := (c, {}), ep } ops).cs.1.outs (utxoIds (trun T { cs := (c, {}), ep } ops).cs.1)
      (trun T { cs := (c, {}), ep } ops).cs.2.txpool.txs ∧
    JointlyValid (trun T { cs := (c, {}), ep } ops).cs.1.outs (utxoIds (trun T { cs := (c, {}), ep } ops).cs.1)
      ((trun T { cs := (c, {}), ep } ops).cs.2.stempool.txs ++ (trun T { cs := (c, {}), ep } ops).cs.2.txpool.txs) := by
  rw [timed_run_is_a_node_run]
  exact GV.Props.C14Node.node_pool_inv c _ hne

/-! ## the reorg cache -/

/-- **The reorg cache never holds more than `max_pool_size` entries**, after any history -/
theorem reorg_cache_bounded (c : Ctx) (ops : List Op) :
    (run (c, {}) ops).2.cache.length ≤ c.cfg.maxPool := by
  have h := run_cacheOK (c, {}) ops (by show ([] : List Entry).length ≤ _; simp)
  unfold CacheOK at h
  rw [run_cfg] at h
  exact h

theorem timed_reorg_cache_bounded (T : TCfg) (c : Ctx) (ep : TEpoch) (ops : List TOp) :
    (trun T { cs := (c, {}), ep } ops).cs.2.cache.length ≤ c.cfg.maxPool := by
  rw [timed_run_is_a_node_run, GV.Props.C14Node.nrun_eq_run]
  exact reorg_cache_bounded c _

example : (run (({ cfg := { maxPool := 1 } } : Ctx), {})
    [.submit .broadcast { ins := [], outs := [], kers := [] } false false]).2.cache.length ≤ 1 :=
  reorg_cache_bounded _ _

/-- the loop on the cache with its `tx_at` and the operation on the untimed state agree -/
theorem truncate_at_is_the_loop (s : TxPool) (tc : TCache) (h : s.cache = tc.map (·.1)) (cutoff : Int) :
    (s.truncateAt (tc.map (·.2)) cutoff).cache = (truncLoop cutoff tc).map (·.1) := by
  unfold TxPool.truncateAt TxPool.truncateCache
  simp only []
  rw [h, truncLoop_eq_drop, List.map_drop]

/-- what `truncate_reorg_cache` removes is a prefix of entries older than the cutoff (any cache,
ordered by time or not) -/
theorem truncate_removes_only_old (cutoff : Int) (l : TCache) :
    ∃ pre, l = pre ++ truncLoop cutoff l ∧ ∀ x ∈ pre, x.2 < cutoff := by
  refine ⟨l.takeWhile fun x => decide (x.2 < cutoff), ?_, fun x hx => ?_⟩
  · rw [truncLoop_eq_dropWhile, List.takeWhile_append_dropWhile]
  · exact of_decide_eq_true (List.all_eq_true.mp List.all_takeWhile x hx)

/-- an entry that is not older than the cutoff survives (any cache) -/
theorem truncate_keeps_recent (cutoff : Int) (l : TCache) (x : Entry × Int) (hx : x ∈ l)
    (hy : cutoff ≤ x.2) : x ∈ truncLoop cutoff l := by
  obtain ⟨pre, h1, h2⟩ := truncate_removes_only_old cutoff l
  rw [h1] at hx
  rcases List.mem_append.mp hx with h | h
  · have := h2 x h; omega
  · exact h

/-- in `block_accepted`: an entry admitted less than `reorg_cache_period` minutes before the
reading survives -/
theorem block_accepted_keeps_recent (now : Int) (periodMin : Nat) (l : TCache) (x : Entry × Int)
    (hx : x ∈ l) (hy : now - x.2 ≤ (periodMin : Int) * 60000) :
    x ∈ truncLoop (reorgCutoff now periodMin) l :=
  truncate_keeps_recent _ l x hx (by unfold reorgCutoff; omega)

/-- **With a clock that never goes back the cache is ordered by `tx_at`** after any history of
admissions and truncations -/
theorem cache_time_ordered (mp : Nat) (ops : List COp) (hmono : (pushTimes ops).Pairwise (· ≤ ·)) :
    TimeSorted (crun mp [] ops) :=
  crun_sorted mp ops [] List.Pairwise.nil hmono (by simp)

/-- … and then the truncation removes exactly the entries older than the cutoff -/
theorem truncate_exact_after_any_history (mp : Nat) (ops : List COp)
    (hmono : (pushTimes ops).Pairwise (· ≤ ·)) (cutoff : Int) :
    truncLoop cutoff (crun mp [] ops) = (crun mp [] ops).filter (fun x => !decide (x.2 < cutoff)) :=
  truncLoop_sorted cutoff _ (cache_time_ordered mp ops hmono)

/-- the same bound for the cache with its `tx_at` (`crun`: admissions and truncations only) -/
theorem timed_cache_bounded (mp : Nat) (ops : List COp) : (crun mp [] ops).length ≤ mp :=
  crun_length mp ops [] (by simp)

def exE : Entry := { tx := { ins := [1], outs := [2], kers := [] }, src := .broadcast }

example : truncLoop 25 (crun 5 [] [.push exE 10, .push exE 20, .push exE 30]) = [(exE, 30)] := by decide

/-- without the hypothesis (wall clock set back between two admissions) an entry older than the
cutoff stays behind a younger one — the loop is not the filter -/
theorem truncate_leaves_old_entry_behind_young :
    let l := crun 5 [] [.push exE 30, .push exE 10]
    truncLoop 25 l = l ∧ l.filter (fun x => !decide (x.2 < 25)) = [(exE, 30)] := by decide

/-! ## a reorganisation deeper than the reorg-cache period -/

/-- **What comes back after a reorganisation.**  `block_accepted` truncates the reorg cache at
`now - reorg_cache_period` and then replays it: with a time-ordered cache every transaction the replay
puts (back) into the txpool was admitted NOT EARLIER than the cutoff.  A transaction that was confirmed
only on the abandoned branch and admitted before the cutoff is not put back into the txpool:
it is not replayed (it has to be submitted again).  Joint validity, fees, standalone validity
and the cache bound are NOT affected (`timed_pool_inv`, `timed_fees_always_paid`,
`timed_entries_always_valid`, `timed_reorg_cache_bounded` hold for every truncation): what a deep
reorganisation costs is completeness of the replay, not validity of the pool. -/
theorem deep_reorg_replays_only_recent (c : Ctx) (s : TxPool) (tc : TCache) (h : s.cache = tc.map (·.1))
    (hs : TimeSorted tc) (now : Int) (periodMin : Nat) :
    ∀ x ∈ ((s.blockTruncate (tc.map (·.2)) now periodMin).reconcileReorgCache c).txpool,
      x ∈ s.txpool ∨ ∃ a, (x, a) ∈ tc ∧ reorgCutoff now periodMin ≤ a := by
  intro x hx
  rw [reconcileReorgCache_eq_replay] at hx
  rcases (replay_members c _ _).1 x hx with h1 | h1
  · exact Or.inl h1
  · right
    have hc : (s.blockTruncate (tc.map (·.2)) now periodMin).cache =
        (truncLoop (reorgCutoff now periodMin) tc).map (·.1) :=
      truncate_at_is_the_loop s tc h _
    rw [hc, truncLoop_sorted _ _ hs] at h1
    obtain ⟨y, hy, rfl⟩ := List.mem_map.mp h1
    have := List.mem_filter.mp hy
    refine ⟨y.2, this.1, ?_⟩
    have h2 := this.2
    simp only [Bool.not_eq_eq_eq_not, Bool.not_true, decide_eq_false_iff_not, Int.not_lt] at h2
    exact h2

example : TimeSorted [(exE, 10), (exE, 2000000)] := by unfold TimeSorted; decide

/-! ## the Dandelion epoch -/

theorem fresh_epoch_is_expired (d : DCfg) (now : Int) : TEpoch.new.isExpired d now = true := rfl

/-- once expired, expired at every later reading -/
theorem expired_mono (d : DCfg) (e : TEpoch) {now now' : Int} (h : now ≤ now')
    (he : e.isExpired d now = true) : e.isExpired d now' = true := by
  unfold TEpoch.isExpired at *
  cases hs : e.start with
  | none => rfl
  | some st =>
    rw [hs] at he
    simp only [decide_eq_true_eq] at he ⊢
    have := tsOf_mono h
    omega

/-- **An epoch started by `next_epoch` at `now` runs for exactly `epoch_secs` whole seconds**:
at a reading `now'` it has expired iff more than `epoch_secs` seconds (of `timestamp()`) passed -/
theorem epoch_runs_exactly_epoch_secs (d : DCfg) (e : TEpoch) (now now' : Int) (roll : Nat) (relay : Option Bool) :
    (e.nextEpoch d now roll relay).isExpired d now' = true ↔ tsOf now' - tsOf now > (d.epochSecs : Int) := by
  simp [TEpoch.nextEpoch, TEpoch.isExpired]

example : (TEpoch.new.nextEpoch {} 5000 0 none).isExpired {} 605999 = false := by decide
example : (TEpoch.new.nextEpoch {} 5000 0 none).isExpired {} 606000 = true := by decide

/-- `stem_probability = 0`: never a stem epoch; `≥ 100`: always (the draw is below 100) -/
theorem stem_probability_extremes (d : DCfg) (e : TEpoch) (now : Int) (roll : Nat) (relay : Option Bool) :
    (d.stemProb = 0 → (e.nextEpoch d now roll relay).isStem = false) ∧
    (100 ≤ d.stemProb → roll < 100 → (e.nextEpoch d now roll relay).isStem = true) := by
  constructor
  · intro h; simp [TEpoch.nextEpoch, h]
  · intro h hr; simp only [TEpoch.nextEpoch, decide_eq_true_eq]; omega

/-- the monitor moves to the next epoch iff the current one has run out at the final reading -/
theorem monitor_changes_epoch_iff_expired (c : Ctx) (s : TxPool) (d : DCfg) (ep : TEpoch) (m : Clock)
    (i : PassIn) :
    (s.monitorPassT c d ep m i).2 =
      if ep.isExpired d i.nowN then ep.nextEpoch d i.nowN i.rollStem i.relay else ep := rfl

/-- the first pass of a fresh node starts the first timed epoch -/
theorem first_pass_starts_an_epoch (c : Ctx) (s : TxPool) (d : DCfg) (m : Clock) (i : PassIn) :
    (s.monitorPassT c d TEpoch.new m i).2.start = some (tsOf i.nowN) := rfl

/-! ## the timers -/

/-- an entry selected at a reading is selected at every later reading -/
theorem select_mono_in_time {m : Clock} {now now' : Int} {secs : Nat} {p : Pool} {e : Entry}
    (h : now ≤ now') (he : e ∈ selectCutoff m now secs p) : e ∈ selectCutoff m now' secs p := by
  rw [mem_selectCutoff] at *
  have := tsOf_mono h
  exact ⟨he.1, by omega⟩

/-- a longer timer selects fewer entries -/
theorem select_antitone_in_secs {m : Clock} {now : Int} {secs secs' : Nat} {p : Pool} {e : Entry}
    (h : secs ≤ secs') (he : e ∈ selectCutoff m now secs' p) : e ∈ selectCutoff m now secs p := by
  rw [mem_selectCutoff] at *
  exact ⟨he.1, by omega⟩

/-- the selection keeps the pool order -/
theorem select_sublist (m : Clock) (now : Int) (secs : Nat) (p : Pool) :
    (selectCutoff m now secs p).Sublist p := List.filter_sublist

/-- below the `u16` wrap the embargo timer is `embargo_secs` plus the draw -/
theorem embargo_cutoff_no_wrap (d : DCfg) (roll : Nat) (h : d.embargoSecs + roll < 65536) :
    embargoCutoff d roll = d.embargoSecs + roll := by
  unfold embargoCutoff; omega

/-- … so with `aggregation_secs ≤ embargo_secs` every entry whose embargo ran out is also past the
aggregation timer (the fluff phase of a fluff epoch sees it first) -/
theorem embargo_expired_is_aggregation_old (d : DCfg) (roll : Nat) (h : d.embargoSecs + roll < 65536)
    (hcfg : d.aggSecs ≤ d.embargoSecs) {m : Clock} {now : Int} {p : Pool} {e : Entry}
    (he : e ∈ selectCutoff m now (embargoCutoff d roll) p) : e ∈ selectCutoff m now d.aggSecs p := by
  rw [embargo_cutoff_no_wrap d roll h] at he
  exact select_antitone_in_secs (by omega) he

example : embargoCutoff {} 30 = 210 := by decide

/-- `embargo_secs` within 30 of `u16::MAX`: the release build's sum wraps to a few seconds (a
debug build panics in the monitor thread), and an entry 5 seconds old counts as embargo-expired
although neither timer has run -/
theorem embargo_cutoff_wraps :
    let d : DCfg := { embargoSecs := 65530 }
    let e : Entry := exE
    embargoCutoff d 10 = 4 ∧
    e ∈ selectCutoff [(e.tx, 95000)] 100000 (embargoCutoff d 10) [e] ∧
    e ∉ selectCutoff [(e.tx, 95000)] 100000 d.aggSecs [e] := by decide

/-- the fluff phase and the embargo pass of the timed monitor are the untimed ones on the
computed inputs -/
theorem monitor_pass_is_untimed_pass (c : Ctx) (s : TxPool) (d : DCfg) (ep : TEpoch) (m : Clock) (i : PassIn) :
    (s.monitorPassT c d ep m i).1 =
      (nstep (c, s) (eraseT { d := d } { cs := (c, s), ep := ep } (.monitor m i))).2 := by
  have := tstep_cs { d := d } { cs := (c, s), ep := ep } (.monitor m i)
  simp only [tstep] at this
  exact congrArg Prod.snd this

end GV.Props.C14Time
