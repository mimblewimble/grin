import GrinVerif.Model.CodecSend
import GrinVerif.Lemmas.CodecTimed
/-! # C19 — concurrent senders through one `ConnHandle`; the handshake within its read timeout

Model: `Model/CodecSend.lean`.

**Concurrent senders.**  Any number of threads call `ConnHandle::send` (atomic `try_send`) while the
`peer_write` thread takes and writes one whole message at a time.  For EVERY schedule of these events:

* `per_sender_order_kept` — what the writer has written, restricted to one sender, is a subsequence of
  what that sender offered, in its order (also when the channel was full and messages were dropped);
* `nothing_lost_below_capacity` — when no `send` found the channel full and everything has been taken,
  the written stream restricted to each sender is exactly that sender's list: the stream is an
  interleaving of the senders' lists;
* `no_drop_when_sends_fit` — no `send` finds the channel full when at most `SEND_CHANNEL_CAP` messages
  are offered in total (the regime of the `csend` run);
* the frames themselves are written whole and read back as typed messages by `C19Conn.writer_thread_in_order`
  and `C19Conn.written_sequence_read_back`, which hold for any message list, in particular for `written`.

**Handshake reads.**  `handshake_read_within_timeout` — if no byte of the Hand / Shake lets the reader
wait as long as the read timeout, the timed `read_message` is the untimed one on the same bytes (so all
handshake theorems of `Props/C19`, `Props/C19Conn` apply); `handshake_read_times_out` — a wait that
reaches the timeout while the frame header is being read (in particular a peer that stays silent) ends the
handshake with a connection error, `handshake_body_times_out` the same inside the announced body;
`write_stall_fails_handshake`, `accept_refusal_independent_of_write` — the write timeouts.

Also `stalled_writer_accepts_prefixes` (writer parked: every sender gets a prefix in) and
`tracker_counts_frag_irrelevant`. -/
namespace GV.Props.C19Send
open GV GV.Ser GV.Dec GV.Msg GV.Codec GV.Gen.Msg GV.Gen.CodecConn

variable {α : Type}

theorem fromSender_append (i : Nat) (a b : List (Nat × α)) :
    fromSender i (a ++ b) = fromSender i a ++ fromSender i b := by
  simp [fromSender]

theorem fromSender_snoc_same (i : Nat) (l : List (Nat × α)) (m : α) :
    fromSender i (l ++ [(i, m)]) = fromSender i l ++ [m] := by
  simp [fromSender]

theorem fromSender_snoc_other (i j : Nat) (l : List (Nat × α)) (m : α) (h : j ≠ i) :
    fromSender i (l ++ [(j, m)]) = fromSender i l := by
  simp [fromSender, h]

/-- the invariant of a concurrent execution: for every sender, its list is what it has offered so far (`done`)
followed by what is pending; what is written or queued of it is a subsequence of `done`, and all of `done`
as long as nothing was dropped -/
def CInv (lists : Nat → List α) (s : CSt α) : Prop :=
  ∀ i, ∃ done, lists i = done ++ s.pending i ∧
    (fromSender i (s.written ++ s.queue)).Sublist done ∧
    (s.dropped = 0 → fromSender i (s.written ++ s.queue) = done)

theorem cinv_init (lists : Nat → List α) : CInv lists (CSt.init lists) := by
  intro i
  exact ⟨[], by simp [CSt.init], by simp [CSt.init, fromSender], by simp [CSt.init, fromSender]⟩

theorem cinv_step (cap : Nat) (lists : Nat → List α) (s : CSt α) (h : CInv lists s) (e : CEv) :
    CInv lists (cstep cap s e) := by
  cases e with
  | take =>
    unfold cstep
    cases hq : s.queue with
    | nil => simpa [hq] using h
    | cons x q =>
      intro i
      obtain ⟨done, h1, h2, h3⟩ := h i
      have e1 : (s.written ++ [x]) ++ q = s.written ++ s.queue := by rw [hq]; simp
      exact ⟨done, h1, by simpa [e1] using h2, by simpa [e1] using h3⟩
  | send i0 =>
    unfold cstep
    cases hp : s.pending i0 with
    | nil => simpa [hp] using h
    | cons m rest =>
      simp only [hp]
      by_cases hfull : s.queue.length ≥ cap
      · rw [if_pos hfull]
        intro i
        obtain ⟨done, h1, h2, _⟩ := h i
        by_cases hi : i = i0
        · subst hi
          refine ⟨done ++ [m], ?_, ?_, ?_⟩
          · simp only [if_true]; rw [h1, hp]; simp
          · exact h2.trans (List.sublist_append_left _ _)
          · intro h0; simp at h0
        · refine ⟨done, ?_, h2, ?_⟩
          · simp only [hi, if_false]; exact h1
          · intro h0; simp at h0
      · rw [if_neg hfull]
        intro i
        obtain ⟨done, h1, h2, h3⟩ := h i
        by_cases hi : i = i0
        · subst hi
          refine ⟨done ++ [m], ?_, ?_, ?_⟩
          · simp only [if_true]; rw [h1, hp]; simp
          · rw [← List.append_assoc, fromSender_snoc_same]
            exact List.Sublist.append h2 (List.Sublist.refl _)
          · intro h0
            rw [← List.append_assoc, fromSender_snoc_same, h3 h0]
        · refine ⟨done, ?_, ?_, ?_⟩
          · simp only [hi, if_false]; exact h1
          · rw [← List.append_assoc, fromSender_snoc_other i i0 _ m (Ne.symm hi)]
            exact h2
          · intro h0
            rw [← List.append_assoc, fromSender_snoc_other i i0 _ m (Ne.symm hi)]
            exact h3 h0

theorem cinv_run (cap : Nat) (lists : Nat → List α) (evs : List CEv) (s : CSt α) (h : CInv lists s) :
    CInv lists (crun cap s evs) :=
  List.foldlRecOn evs (cstep cap) h fun s hs e _ => cinv_step cap lists s hs e

/-- **per-sender order is kept under every schedule** (and every channel capacity): what has been
written for sender `i` is a subsequence of what `i` offered, in order -/
theorem per_sender_order_kept (cap : Nat) (lists : Nat → List α) (evs : List CEv) (i : Nat) :
    (fromSender i (crun cap (CSt.init lists) evs).written).Sublist (lists i) := by
  obtain ⟨done, h1, h2, _⟩ := cinv_run cap lists evs _ (cinv_init lists) i
  rw [fromSender_append] at h2
  have h3 : (fromSender i (crun cap (CSt.init lists) evs).written).Sublist done :=
    (List.sublist_append_left _ _).trans h2
  rw [h1]
  exact h3.trans (List.sublist_append_left _ _)

/-- **nothing is lost, nothing is reordered below the capacity**: when no `send` met a full channel and
everything offered has been taken by the writer, the written stream restricted to each sender is that
sender's list — the stream is an interleaving of the senders' lists -/
theorem nothing_lost_below_capacity (cap : Nat) (lists : Nat → List α) (evs : List CEv)
    (hd : (crun cap (CSt.init lists) evs).dropped = 0) (hq : (crun cap (CSt.init lists) evs).queue = [])
    (i : Nat) (hp : (crun cap (CSt.init lists) evs).pending i = []) :
    fromSender i (crun cap (CSt.init lists) evs).written = lists i := by
  obtain ⟨done, h1, _, h3⟩ := cinv_run cap lists evs _ (cinv_init lists) i
  have := h3 hd
  rw [hq, List.append_nil] at this
  rw [h1, hp, List.append_nil, this]

/-- number of `send` events of a schedule -/
def nSends : List CEv → Nat
  | [] => 0
  | .send _ :: r => nSends r + 1
  | .take :: r => nSends r

/-- a `send` on a queue with room lengthens it by one and drops nothing (`nSends [e] = 1` pays for it); a `take` does not
lengthen it; `n` is room kept for later sends -/
theorem cstep_no_drop (cap : Nat) (s : CSt α) (e : CEv) (n : Nat) (h : s.dropped = 0)
    (hb : s.queue.length + nSends [e] + n ≤ cap) :
    (cstep cap s e).dropped = 0 ∧ (cstep cap s e).queue.length + n ≤ cap := by
  fun_cases cstep cap s e <;> simp_all [nSends] <;> omega

theorem no_drop_aux (cap : Nat) : ∀ (evs : List CEv) (s : CSt α), s.dropped = 0 →
    s.queue.length + nSends evs ≤ cap → (crun cap s evs).dropped = 0
  | [], _, h, _ => h
  | e :: evs, s, h, hb => by
    obtain ⟨h1, h2⟩ := cstep_no_drop cap s e (nSends evs) h (by cases e <;> simp [nSends] at hb ⊢ <;> omega)
    exact no_drop_aux cap evs _ h1 h2

/-- **no message is dropped when the sends fit the channel**: a schedule with at most `cap` `send` events
never meets a full channel, whatever the senders and however slow the writer -/
theorem no_drop_when_sends_fit (cap : Nat) (lists : Nat → List α) (evs : List CEv) (h : nSends evs ≤ cap) :
    (crun cap (CSt.init lists) evs).dropped = 0 :=
  no_drop_aux cap evs _ rfl (by simpa [CSt.init] using h)

/-- non-vacuity: two senders racing, the writer in between; the stream is an interleaving -/
example :
    let lists : Nat → List Nat := fun i => if i = 0 then [10, 11, 12] else if i = 1 then [20, 21] else []
    let s := crun SEND_CHANNEL_CAP (CSt.init lists) [.send 1, .send 0, .take, .send 0, .send 1, .take, .take, .send 0, .take, .take]
    s.written = [(1, 20), (0, 10), (0, 11), (1, 21), (0, 12)] ∧ s.dropped = 0 ∧ s.queue = [] ∧
    fromSender 0 s.written = [10, 11, 12] ∧ fromSender 1 s.written = [20, 21] := by decide

/-- … and with a channel of capacity 1 the second message is dropped, order still kept -/
example :
    let lists : Nat → List Nat := fun i => if i = 0 then [10, 11, 12] else []
    let s := crun 1 (CSt.init lists) [.send 0, .send 0, .take, .send 0, .take]
    s.written = [(0, 10), (0, 12)] ∧ s.dropped = 1 := by decide

/-- a schedule without `take` events -/
def noTake : List CEv → Bool
  | [] => true
  | .take :: _ => false
  | .send _ :: r => noTake r

theorem crun_cons (cap : Nat) (s : CSt α) (e : CEv) (evs : List CEv) :
    crun cap s (e :: evs) = crun cap (cstep cap s e) evs := rfl

theorem full_stays_full (cap : Nat) : ∀ (evs : List CEv) (s : CSt α), noTake evs = true → s.queue.length ≥ cap →
    (crun cap s evs).queue = s.queue ∧ (crun cap s evs).written = s.written
  | [], _, _, _ => ⟨rfl, rfl⟩
  | .take :: _, _, h, _ => by simp [noTake] at h
  | .send i :: evs, s, h, hf => by
    simp only [noTake] at h
    rw [crun_cons]
    have hs : (cstep cap s (.send i)).queue = s.queue ∧ (cstep cap s (.send i)).written = s.written := by
      unfold cstep
      cases hp : s.pending i with
      | nil => simp [hp]
      | cons m rest => simp [hp, hf]
    have := full_stays_full cap evs (cstep cap s (.send i)) h (by rw [hs.1]; exact hf)
    exact ⟨this.1.trans hs.1, this.2.trans hs.2⟩

/-- **while the writer is stalled every sender gets a PREFIX of its messages into the channel**: a message is
never accepted after an earlier message of the same sender was dropped (once full the channel stays full),
nothing is written, and what is in the channel is whole messages in per-sender order -/
theorem stalled_writer_accepts_prefixes (cap : Nat) : ∀ (evs : List CEv) (s : CSt α), noTake evs = true → ∀ i,
    ∃ pre, fromSender i (crun cap s evs).queue = fromSender i s.queue ++ pre ∧ pre <+: s.pending i ∧
      (crun cap s evs).written = s.written
  | [], s, _, i => ⟨[], by simp [crun], List.nil_prefix, rfl⟩
  | .take :: _, _, h, _ => by simp [noTake] at h
  | .send j :: evs, s, h, i => by
    simp only [noTake] at h
    rw [crun_cons]
    cases hp : s.pending j with
    | nil =>
      have e : cstep cap s (.send j) = s := by simp [cstep, hp]
      rw [e]
      exact stalled_writer_accepts_prefixes cap evs s h i
    | cons m rest =>
      by_cases hf : s.queue.length ≥ cap
      · -- dropped; the channel stays as it is
        have e : cstep cap s (.send j) = { s with pending := fun k => if k = j then rest else s.pending k, dropped := s.dropped + 1 } := by
          simp [cstep, hp, hf]
        rw [e]
        have := full_stays_full cap evs { s with pending := fun k => if k = j then rest else s.pending k, dropped := s.dropped + 1 } h hf
        exact ⟨[], by rw [this.1]; simp, List.nil_prefix, by rw [this.2]⟩
      · have e : cstep cap s (.send j) = { s with pending := fun k => if k = j then rest else s.pending k, queue := s.queue ++ [(j, m)] } := by
          simp [cstep, hp, hf]
        rw [e]
        obtain ⟨pre, h1, h2, h3⟩ := stalled_writer_accepts_prefixes cap evs
          { s with pending := fun k => if k = j then rest else s.pending k, queue := s.queue ++ [(j, m)] } h i
        by_cases hi : i = j
        · subst hi
          refine ⟨m :: pre, ?_, ?_, h3⟩
          · rw [h1, fromSender_snoc_same]; simp
          · simp only [if_true] at h2
            rw [hp]
            obtain ⟨t, ht⟩ := h2
            exact ⟨t, by simp [← ht]⟩
        · refine ⟨pre, ?_, ?_, h3⟩
          · rw [h1, fromSender_snoc_other i j _ m (Ne.symm hi)]
          · simpa [hi] using h2

/-- non-vacuity: capacity 2, the writer stalled: sender 0 gets two in, everything later is dropped -/
example :
    let lists : Nat → List Nat := fun i => if i = 0 then [10, 11, 12] else if i = 1 then [20, 21] else []
    let s := crun 2 (CSt.init lists) [.send 0, .send 0, .send 1, .send 0, .send 1]
    s.queue = [(0, 10), (0, 11)] ∧ s.dropped = 3 ∧ s.written = [] := by decide

/-- **within the read timeout the handshake reads exactly what the untimed `read_message` reads** -/
theorem handshake_read_within_timeout {β : Type} (T : Nat) (net : NetCfg) (expected : Nat) (dec : Dec β)
    (ts : TStream) (hw : WaitsBelow T ts) :
    readMessageT T net expected dec ts = .done (readMessage net expected dec (tbytes ts)) := by
  unfold readMessageT readMessage
  rw [rxT_ok T _ ts (waitsBelow_take hw _), splitExact_eq, tbytes_length]
  by_cases h11 : MSG_HEADER_LEN ≤ ts.length
  · simp only [h11, if_true, tbytes_take]
    cases hh : decHeader net ((tbytes ts).take MSG_HEADER_LEN) with
    | err e a => rfl
    | panic s a => rfl
    | ok w r a =>
      cases w with
      | known t len =>
        simp only
        by_cases ht : t = expected
        · simp only [ht, if_true]
          rw [rxT_ok T _ _ (waitsBelow_take (waitsBelow_drop hw _) _), splitExact_eq]
          simp only [List.length_drop, tbytes_length, tbytes_take, tbytes_drop]
          by_cases hl : len ≤ ts.length - MSG_HEADER_LEN
          · simp only [hl, if_true]
            cases dec (List.take len (List.drop MSG_HEADER_LEN (tbytes ts))) <;> rfl
          · simp only [hl, if_false]
        · simp only [ht, if_false]
      | unknown len t =>
        simp only
        rw [rxT_ok T _ _ (waitsBelow_take (waitsBelow_drop hw _) _), splitExact_eq]
        simp only [List.length_drop, tbytes_length]
        by_cases hl : len ≤ ts.length - MSG_HEADER_LEN
        · simp only [hl, if_true]
        · simp only [hl, if_false]
  · simp only [h11, if_false]

/-- **a pause that reaches the read timeout while the frame header is awaited ends the handshake**
(no Hand read ⇒ `accept` returns the connection error before any check and before any write; no Shake
read ⇒ `initiate` fails) -/
theorem handshake_read_times_out {β : Type} (T : Nat) (net : NetCfg) (expected : Nat) (dec : Dec β) (ts : TStream)
    (h : ∃ p ∈ ts.take MSG_HEADER_LEN, T ≤ p.1) :
    readMessageT T net expected dec ts = .timedOut := by
  obtain ⟨s, hs⟩ := rxT_timeout_of_mem T _ ts h
  unfold readMessageT
  rw [hs]

/-- a peer that connects and stays silent for `T` ms (then sends whatever it likes) -/
theorem silent_peer_times_out {β : Type} (T : Nat) (net : NetCfg) (expected : Nat) (dec : Dec β) (w b : Nat) (s : TStream)
    (h : T ≤ w) : readMessageT T net expected dec ((w, b) :: s) = .timedOut :=
  handshake_read_times_out T net expected dec _ ⟨(w, b), by simp [MSG_HEADER_LEN], h⟩

/-- **… and inside the announced body**: the header of the expected type arrived in time, then a wait
reaches the timeout before the body is complete -/
theorem handshake_body_times_out {β : Type} (T : Nat) (net : NetCfg) (expected len : Nat) (dec : Dec β) (ts : TStream)
    (hhead : WaitsBelow T (ts.take MSG_HEADER_LEN)) (h11 : MSG_HEADER_LEN ≤ ts.length)
    (hdec : ∃ r a, decHeader net ((tbytes ts).take MSG_HEADER_LEN) = .ok (.known expected len) r a)
    (h : ∃ p ∈ (ts.drop MSG_HEADER_LEN).take len, T ≤ p.1) :
    readMessageT T net expected dec ts = .timedOut := by
  obtain ⟨r, a, hd⟩ := hdec
  obtain ⟨s, hs⟩ := rxT_timeout_of_mem T _ _ h
  unfold readMessageT
  rw [rxT_ok T _ ts hhead]
  simp only [h11, if_true, tbytes_take, hd, hs]

/-- non-vacuity of the three statements at the regenerated timeout: a Ping-sized frame of the expected
type (3) whose bytes arrive with waits of 4 s is read; the same with 10 s before byte 5, or before the
last body byte, times out -/
example :
    let frame : Bytes := encHeader netAutomatedTesting 3 16 ++ List.replicate 16 7
    let T := GV.Gen.CodecDispatch.HAND_READ_TIMEOUT_MS
    (readMessageT (α := Body Unit) T netAutomatedTesting 3 decPingPong (tagSched [(4000, frame.take 5), (4000, frame.drop 5)])).okConsumed = some 27 ∧
    (readMessageT (α := Body Unit) T netAutomatedTesting 3 decPingPong (tagSched [(0, frame.take 5), (10000, frame.drop 5)])).isTimedOut = true ∧
    (readMessageT (α := Body Unit) T netAutomatedTesting 3 decPingPong (tagSched [(0, frame.take 26), (10000, frame.drop 26)])).isTimedOut = true := by
  decide

theorem runCounts_sim {B H σ1 σ2 : Type} (env : Env B H) {ops1 : SockOps σ1} {ops2 : SockOps σ2} {R : σ1 → σ2 → Prop}
    (hs : Sim ops1 ops2 R) (attach : Message B H → Option Nat) (quiet : Res B H → Bool) :
    ∀ (fuel : Nat) (c : Codec H) (s : σ1) (b : σ2), R s b →
      runCounts env ops1 attach quiet fuel c s = runCounts env ops2 attach quiet fuel c b := by
  intro fuel
  induction fuel with
  | zero => intro c s b _; rfl
  | succ fuel ih =>
    intro c s b h
    obtain ⟨e1, e2, _, e4, e5⟩ := read_sim env hs c s b h
    simp only [runCounts]
    rw [e1, e2, e4]
    cases hres : (read env ops2 c b).res with
    | msg m =>
      simp only
      cases hc : nextCodec attach (read env ops2 c b).codec m with
      | none => rfl
      | some c' => simp only [ih c' _ _ e5]
    | err e => rfl
    | panic st => rfl
    | hang => rfl

/-- **`Tracker.received_bytes` is independent of the fragmentation**: the reader loop reports the same
sequence of (bytes, counted-as-a-message?) entries - one per `codec.read()` - however the stream is cut -/
theorem tracker_counts_frag_irrelevant {B H : Type} (env : Env B H) (attach : Message B H → Option Nat)
    (quiet : Res B H → Bool) (fuel : Nat) (c : Codec H) (frags : List Bytes) :
    runCounts env fragOps attach quiet fuel c frags = runCounts env fragOps attach quiet fuel c [frags.flatten] :=
  runCounts_sim env sim_frag_frag attach quiet fuel c frags [frags.flatten] (by simp)

/-- **a remote that does not take the handshake message within the write timeout fails the handshake**
(no `PeerInfo`, so no `Peer` is created), one that takes it in time changes nothing -/
theorem write_stall_fails_handshake (v : Nat) (stall : Option Nat) :
    (acceptWithWrite stall (.ok v) = .ok v ↔ ∃ w, stall = some w ∧ w < shakeWriteTimeout) ∧
    (acceptWithWrite stall (.ok v) ≠ .ok v → acceptWithWrite stall (.ok v) = .writeTimeout) ∧
    (initiateWithWrite stall (.ok v) = .ok v ↔ ∃ w, stall = some w ∧ w < handWriteTimeout) ∧
    shakeWriteTimeout = 2000 ∧ handWriteTimeout = 2000 := by
  refine ⟨?_, ?_, ?_, rfl, rfl⟩
  iterate 2
    cases stall with
    | none => simp [acceptWithWrite, writeCompletes]
    | some w => by_cases h : w < shakeWriteTimeout <;> simp [acceptWithWrite, writeCompletes, h]
  · cases stall with
    | none => simp [initiateWithWrite, writeCompletes]
    | some w => by_cases h : w < handWriteTimeout <;> simp [initiateWithWrite, writeCompletes, h]

/-- **a refusal by `accept` does not depend on the write path** (nothing is written to a refused peer, so a
peer that never reads is refused exactly like any other); `initiate` writes before it can judge, so there
the stall wins -/
theorem accept_refusal_independent_of_write (e : HsErr) (stall : Option Nat) :
    acceptWithWrite stall (.error e) = .refused e ∧ initiateWithWrite none (.error e) = .writeTimeout := by
  simp [acceptWithWrite, initiateWithWrite, writeCompletes]

example : acceptWithWrite (some 1999) (.ok 1000) = .ok 1000 ∧ acceptWithWrite (some 2000) (.ok 1000) = .writeTimeout ∧
    acceptWithWrite none (.ok 2) = .writeTimeout := by decide

end GV.Props.C19Send
