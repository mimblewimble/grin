import GrinVerif.Model.CodecPeers
/-! # C19 — above one connection: accept-loop decisions, broadcast accounting, the peer-store state machine

Model `Model/CodecPeers.lean`; tables regenerated by `tools/gen_codec_peers.py` into `Gen/CodecPeers.lean`.

* `checkUndesirable_is_the_table` — the model's decision is, for EVERY input, the result of the one path of the
  statement walk of `Server::check_undesirable` whose conditions hold; `undesirable_iff` in closed form;
* `broadcast_count`, `broadcast_partition`, `broadcast_removes_exactly_failed`, `broadcast_skips_suppressed` —
  `Peers::broadcast` counts exactly the sends that went out, removes exactly the peers whose send failed, and
  a peer whose `send_*` suppressed the object (the source of the object) is neither counted nor removed;
* the peer store: `ban_sets_window_start`, `unban_only_banned`, `monitor_unbans_iff_window_elapsed`,
  `banned_stays_banned_within_window` (invariant over any number of monitor passes), `ban_peer_store_first`
  (the store is updated even when the call returns `PeerNotFound`), `banned_is_refused_at_accept`;
* `peer_state_only_banned` — `Peer::is_connected()` does not see a dead connection (only `set_banned` writes
  the state): recorded behaviour of the code, pinned;
* `clean_peers` / `add_connected`: `clean_tables`, `not_connected_branch_unreachable`, `clean_reason_iff`,
  `excess_outbound_bounds`, `excess_inbound_bounds`, `add_connected_rule`, `peer_locks_table`. -/
namespace GV.Props.C19Peers
open GV GV.Codec GV.Gen.CodecPeers

/-- the branch conditions of `check_undesirable` -/
inductive Cond
  | limit | sock | banned | knownTrue | knownErr | knownOther
  | not (c : Cond)
deriving DecidableEq, Repr

/-- as the source spells them -/
def Cond.render : Cond → String
  | .limit => "self.peers.iter().inbound().connected().count() as u32 >= self.config.peer_max_inbound_count() + self.config.peer_listener_buffer_count()"
  | .sock => "let Ok(peer_addr) = stream.peer_addr()"
  | .banned => "self.peers.is_banned(peer_addr)"
  | .knownTrue => "self.peers.is_known(peer_addr) => Ok(true)"
  | .knownErr => "self.peers.is_known(peer_addr) => Err(_)"
  | .knownOther => "self.peers.is_known(peer_addr) => _"
  | .not c => "!(" ++ c.render ++ ")"

/-- what they mean in the model -/
def Cond.holds (inbound maxIn buffer : Nat) (sock banned : Bool) (known : Option Bool) : Cond → Bool
  | .limit => decide (inbound ≥ (maxIn + buffer) % 2^32)
  | .sock => sock
  | .banned => banned
  | .knownTrue => known == some true
  | .knownErr => known == none
  | .knownOther => known == some false
  | .not c => !(c.holds inbound maxIn buffer sock banned known)

/-- the paths of the source, conditions as terms -/
def cuPaths : List (List Cond × Bool) :=
  [([.limit], true),
   ([.not .limit, .sock, .banned], true),
   ([.not .limit, .sock, .not .banned, .knownTrue], true),
   ([.not .limit, .sock, .not .banned, .knownErr], true),
   ([.not .limit, .sock, .not .banned, .knownOther], false),
   ([.not .limit, .not .sock], false)]

/-- the rendering of a negation, on lists of characters (`++` on strings of this length is slow to evaluate,
`String.ofList` of a literal is not) -/
theorem Cond.render_not (c : Cond) (l : List Char) (h : c.render = String.ofList l) :
    (Cond.not c).render = String.ofList ('!' :: '(' :: (l ++ [')'])) := by
  show "!(" ++ c.render ++ ")" = _
  rw [h]
  show String.ofList ['!', '('] ++ String.ofList l ++ String.ofList [')'] = _
  rw [← String.ofList_append, ← String.ofList_append]
  rfl

set_option maxRecDepth 20000 in
/-- the regenerated table IS these paths, spelt as in the source -/
theorem cuPaths_is_the_regenerated_table :
    checkUndesirablePaths = cuPaths.map fun p => (p.1.map Cond.render, p.2) := by
  simp only [cuPaths, List.map_cons, List.map_nil, Cond.render_not .limit _ rfl, Cond.render_not .sock _ rfl,
    Cond.render_not .banned _ rfl]
  rfl

/-- the result of the first path all of whose conditions hold -/
def evalPaths (holds : Cond → Bool) (paths : List (List Cond × Bool)) : Option Bool :=
  (paths.find? fun p => p.1.all holds).map (·.2)

/-- **`check_undesirable` of the model is the regenerated decision table**: for every input exactly the
result of the path of the source whose conditions hold -/
theorem checkUndesirable_is_the_table (inbound maxIn buffer : Nat) (sock banned : Bool) (known : Option Bool) :
    evalPaths (Cond.holds inbound maxIn buffer sock banned known) cuPaths =
      some (checkUndesirable inbound maxIn buffer sock banned known) := by
  unfold checkUndesirable
  simp only [evalPaths, cuPaths, List.find?, List.all_cons, List.all_nil, Cond.holds, Bool.and_true]
  by_cases hl : inbound ≥ (maxIn + buffer) % 2^32
  · simp only [hl, decide_true, if_true, Option.map_some]
  · simp only [hl, decide_false, if_false, Bool.not_false, Bool.true_and]
    cases sock <;> cases banned <;> rcases known with _ | _ | _ <;> rfl

/-- closed form: refused iff the inbound limit (+ buffer) is reached, or the socket names a peer that is
banned, already connected, or cannot be looked up -/
theorem undesirable_iff (inbound maxIn buffer : Nat) (sock banned : Bool) (known : Option Bool) :
    checkUndesirable inbound maxIn buffer sock banned known = true ↔
      inbound ≥ (maxIn + buffer) % 2^32 ∨ (sock = true ∧ (banned = true ∨ known ≠ some false)) := by
  unfold checkUndesirable
  by_cases hl : inbound ≥ (maxIn + buffer) % 2^32
  · simp only [hl, if_true, true_or]
  · simp only [hl, if_false, false_or]
    cases sock <;> cases banned <;> rcases known with _ | _ | _ <;> decide

/-- the limit as shipped: the 137th inbound connection is refused, the 136th is not; `>=` -/
example : checkUndesirable 136 PEER_MAX_INBOUND_COUNT PEER_LISTENER_BUFFER_COUNT true false (some false) = true ∧
    checkUndesirable 135 PEER_MAX_INBOUND_COUNT PEER_LISTENER_BUFFER_COUNT true false (some false) = false ∧
    inboundLimitOp = ">=" ∧ inboundLimitTerms = ["peer_max_inbound_count", "peer_listener_buffer_count"] :=
  ⟨by decide, by decide, rfl, rfl⟩

variable {α : Type}

theorem broadcast_eq : ∀ (rs : List (α × SendRes)),
    broadcast rs = ((rs.filter fun e => e.2 == .sent).length, (rs.filter fun e => e.2 == .failed).map (·.1))
  | [] => rfl
  | (p, r) :: rest => by cases r <;> simp [broadcast, broadcast_eq rest]

theorem broadcast_count : ∀ (rs : List (α × SendRes)),
    (broadcast rs).1 = (rs.filter fun e => e.2 == .sent).length :=
  fun rs => by rw [broadcast_eq]

/-- **exactly the failed sends are stopped and removed**, in order -/
theorem broadcast_removes_exactly_failed : ∀ (rs : List (α × SendRes)),
    (broadcast rs).2 = (rs.filter fun e => e.2 == .failed).map (·.1) :=
  fun rs => by rw [broadcast_eq]

/-- every connected peer is counted, suppressed or removed - exactly one of the three -/
theorem broadcast_partition (rs : List (α × SendRes)) :
    (broadcast rs).1 + (rs.filter fun e => e.2 == .suppressed).length + (broadcast rs).2.length = rs.length := by
  induction rs with
  | nil => rfl
  | cons e rest ih =>
    obtain ⟨p, r⟩ := e
    cases r <;> simp [broadcast] at ih ⊢ <;> omega

/-- **the source of an object is neither counted nor dropped**: a peer whose `send_*` answered `Ok(false)`
changes neither the count nor the removals -/
theorem broadcast_skips_suppressed (pre post : List (α × SendRes)) (p : α) :
    broadcast (pre ++ (p, .suppressed) :: post) = broadcast (pre ++ post) := by
  simp [broadcast_eq]

theorem broadcast_table :
    broadcastArms = [("Ok(true)", "count"), ("Ok(false)", "nothing"), ("Err(e)", "stop+remove")] ∧
    broadcastUsers = [("broadcast_compact_block", "send_compact_block"), ("broadcast_header", "send_header"),
                      ("broadcast_transaction", "send_transaction")] := ⟨rfl, rfl⟩

example : broadcast [(1, SendRes.sent), (2, .suppressed), (3, .failed), (4, .sent)] = (2, [3]) := by decide

theorem store_tables :
    storeStates = [PState.healthy, .banned, .defunct, .unknown].map (fun s => (s.name, s.code)) ∧
    updateStateStamps = ("Banned", "last_banned", "last_attempt") ∧ unbanTarget = PState.healthy.name ∧
    banPeerSteps = ["update_state:Banned", "send_ban_reason", "set_banned", "stop", "remove"] ∧
    unbanOp = ">=" ∧ BAN_WINDOW = 3 * 3600 := ⟨rfl, rfl, rfl, rfl, rfl, rfl⟩

/-- a ban stamps the start of the window and nothing else does -/
theorem ban_sets_window_start (now : Int) (p : PData) (s : PState) :
    (updateState now p .banned).flags = .banned ∧ (updateState now p .banned).lastBanned = now ∧
    (s ≠ .banned → (updateState now p s).lastBanned = p.lastBanned ∧ (updateState now p s).lastAttempt = now) := by
  refine ⟨by simp [updateState], by simp [updateState], fun h => by simp [updateState, h]⟩

/-- **only a banned peer can be unbanned, and it becomes Healthy** -/
theorem unban_only_banned (now : Int) (p : Option PData) :
    (∃ d', unbanPeer now p = .ok d') ↔ storeIsBanned p = true := by
  cases p with
  | none => simp [unbanPeer, storeIsBanned]
  | some d => by_cases h : d.flags = .banned <;> simp [unbanPeer, storeIsBanned, h]

theorem unban_makes_healthy (now : Int) (d d' : PData) (h : unbanPeer now (some d) = .ok d') :
    d'.flags = .healthy ∧ d'.lastBanned = d.lastBanned := by
  by_cases hb : d.flags = .banned
  · simp [unbanPeer, hb, updateState] at h; subst h; simp
  · simp [unbanPeer, hb] at h

/-- **the monitor unbans exactly when the window has elapsed** -/
theorem monitor_unbans_iff_window_elapsed (now window : Int) (d : PData) (hb : d.flags = .banned) :
    ((monitorStep now window d).flags = .healthy ↔ now - d.lastBanned ≥ window) ∧
    ((monitorStep now window d).flags = .banned ↔ now - d.lastBanned < window) := by
  by_cases h : now - d.lastBanned ≥ window
  · simp [monitorStep, hb, h, updateState]
  · simp [monitorStep, hb, h]; omega

/-- **a banned peer stays banned - and refused - throughout the window**, whatever number of monitor passes
run at whatever times inside it -/
theorem banned_stays_banned_within_window (window : Int) (d : PData) (hb : d.flags = .banned) :
    ∀ (times : List Int), (∀ t ∈ times, t - d.lastBanned < window) →
      times.foldl (fun x t => monitorStep t window x) d = d := by
  intro times
  induction times with
  | nil => intro _; rfl
  | cons t rest ih =>
    intro h
    have ht : ¬ (t - d.lastBanned ≥ window) := by have := h t (by simp); omega
    have e : monitorStep t window d = d := by simp [monitorStep, hb, ht]
    simp only [List.foldl_cons, e]
    exact ih (fun t' ht' => h t' (by simp [ht']))

/-- `ban_peer`: the store is updated first - also for a peer we are not connected to, for which the call
nevertheless returns `PeerNotFound`; with a connection the peer is told, flagged, stopped and removed -/
theorem ban_peer_store_first (now : Int) (d : PData) (connected : Bool) :
    storeIsBanned (banPeer now (some d) connected).1 = true ∧
    ((banPeer now (some d) connected).2.2 = .ok () ↔ connected = true) ∧
    (connected = true → "update_state:Banned" :: (banPeer now (some d) connected).2.1 = banPeerSteps) := by
  cases connected <;> simp [banPeer, storeIsBanned, updateState, banPeerSteps]

/-- **a banned address is refused by the accept loop before any handshake**, whatever else holds -/
theorem banned_is_refused_at_accept (now : Int) (d : PData) (inbound maxIn buffer : Nat) (known : Option Bool) :
    checkUndesirable inbound maxIn buffer true (storeIsBanned (some (updateState now d .banned))) known = true := by
  exact (undesirable_iff ..).2 (.inr ⟨rfl, .inl rfl⟩)

theorem clean_tables :
    cleanChain = [("peer.is_banned()", "", true), ("!peer.is_connected()", "", true), ("peer.is_abusive()", "Banned", true),
                  ("stuck && diff < total_difficulty", "Defunct", true)] ∧ stuckDiffOp = "<" ∧
    cleanExcess.map (·.1) = ["outbound", "inbound"] ∧
    addConnectedRule = "!enough_outbound || !peer.info.is_outbound()" ∧
    enoughOutbound = (">=", "peer_min_preferred_outbound_count") := ⟨rfl, rfl, rfl, rfl, rfl⟩

/-- **the `!is_connected()` branch of `clean_peers` is unreachable**: a peer that is not connected is a banned
one, and the banned branch comes first - a dead connection is never cleaned up by this rule -/
theorem not_connected_branch_unreachable (ourTd : Option Nat) (p : CP) :
    cleanReason ourTd p ≠ some ("not connected", none) := by
  unfold cleanReason CP.connected
  cases hb : p.banned <;> simp
  · cases p.abusive <;> simp
    cases ourTd <;> simp

/-- the per-peer chain in closed form: a peer goes iff banned, abusive, or stuck behind us (when our own
total difficulty is known); abusive ⇒ the store says Banned, stuck ⇒ Defunct -/
theorem clean_reason_iff (ourTd : Option Nat) (p : CP) :
    ((cleanReason ourTd p).isSome = true ↔
      p.banned = true ∨ p.abusive = true ∨ (∃ td, ourTd = some td ∧ p.stuck = true ∧ p.diff < td)) ∧
    (p.banned = false → p.abusive = true → cleanReason ourTd p = some ("abusive", some .banned)) := by
  constructor
  · unfold cleanReason CP.connected
    cases hb : p.banned <;> cases ha : p.abusive <;> cases ourTd <;> simp
  · intro hb ha
    simp [cleanReason, CP.connected, hb, ha]

theorem sortByDiff_length : ∀ l : List CP, (sortByDiff l).length = l.length
  | [] => rfl
  | p :: r => by
    have ins : ∀ (q : CP) (l : List CP), (insertByDiff q l).length = l.length + 1 := by
      intro q l
      induction l with
      | nil => rfl
      | cons a t ih => simp only [insertByDiff]; split <;> simp [ih]
    simp [sortByDiff, ins, sortByDiff_length r]

/-- **never more outbound peers are dropped than the excess** -/
theorem excess_outbound_bounds (maxOut : Nat) (ps : List CP) :
    (excessOutbound maxOut ps).length ≤ (ps.filter fun p => p.outbound && p.connected).length - maxOut := by
  unfold excessOutbound
  simp only [List.length_take]
  exact Nat.min_le_left _ _

theorem excess_inbound_bounds (maxIn : Nat) (ps : List CP) :
    (excessInbound maxIn ps).1 ≤ (ps.filter fun p => !p.outbound && p.connected).length - maxIn ∧
    (∀ p ∈ (excessInbound maxIn ps).2, p.preferred = false ∧ p.outbound = false) := by
  constructor
  · exact Nat.min_le_left _ _
  · intro p hp
    simp only [excessInbound, List.mem_filter] at hp
    simp at hp
    exact ⟨hp.2, hp.1.2.1⟩

/-- **the limits are counted over peers the same pass already marked**: with 3 outbound peers and a limit of 2, a stuck
peer that is also the weakest (difficulty 5) is listed twice and nobody else goes; a stuck peer that is NOT the weakest
(difficulty 50) goes AND the weakest healthy one - one outbound peer too many is dropped (the behaviour of the code;
recorded) -/
example :
    let ps : List CP := [⟨0, true, false, false, true, 5, false⟩, ⟨1, true, false, false, false, 7, false⟩, ⟨2, true, false, false, false, 9, false⟩]
    cleanDefinite 2 (some 100) ps = [0, 0] ∧
    cleanDefinite 2 (some 100) [⟨0, true, false, false, true, 50, false⟩, ⟨1, true, false, false, false, 7, false⟩, ⟨2, true, false, false, false, 9, false⟩] = [0, 1] := by
  decide

/-- `add_connected`: an inbound peer always enters the map, an outbound one only while fewer than
`peer_min_preferred_outbound_count` outbound peers are connected -/
theorem add_connected_rule (n m : Nat) (ob : Bool) :
    addConnectedInserts n m ob = true ↔ ob = false ∨ n < m := by
  cases ob <;> simp [addConnectedInserts] <;> omega

/-- **`Peer::is_connected()` is blind to a dead connection**: the per-connection state is written by
`set_banned` only (regenerated), so after a reader error, a writer error or `stop()` it still answers `true` -/
theorem peer_state_only_banned (b r w s : Bool) :
    peerStateWrites = ["Banned"] ∧ peerIsConnected b r w s = !b ∧ peerIsConnected false true true true = true := by
  exact ⟨rfl, rfl, rfl⟩

theorem peer_locks_table :
    peerLocks = [("send_handle", "lock", "try_send"), ("stop_handle", "try_lock", "stop"), ("stop_handle", "try_lock", "wait:join")] :=
  rfl

end GV.Props.C19Peers
