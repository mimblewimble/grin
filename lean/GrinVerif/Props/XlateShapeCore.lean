import GrinVerif.Gen.PipeShapeCore
import GrinVerif.Lemmas.XlateShape
/-! # Obligations about the validation pipelines (Core), stated over the REGENERATED shape tables

`Gen/PipeShapeCore.lean` is rewritten on every check run from the current Rust source by tools/gen_pipeshape.py.
What the obligations about a function say is described in `Lemmas/XlateShape.lean`.  Every observable filters the
steps of the table on their kind, so an obligation holds by `rfl` exactly when the current source still has the
reviewed value; a `_propagated` with discarded calls also looks them up in `watch` (`XlateShape.unwatched`: a
discarded call with a new name needs a conjunct there before this file is regenerated).  They do not mention
arguments or local names (the exact pins in `Props/XlateShapeCorePins.lean` do).  After a REVIEWED change
regenerate with `python3 tools/gen_pipeshape.py --obligations Core`; the ties to the hand models are in
`Props/XlateShapeModel2.lean` and `Props/C06BodyOrder.lean`. -/
namespace GV.Props.XlateShapeCore
open GV.Gen.PipeShape GV.Props.XlateShape

/-! ### `Block::validate_read (core/src/core/block.rs)` -/
theorem block_validate_read_order : readOk block_validate_read = true ∧ spine block_validate_read =
    ["validate_read", "verify_kernel_lock_heights"] := ⟨rfl, rfl⟩
theorem block_validate_read_propagated : discarded watch block_validate_read = [] ∧ calls block_validate_read = [] := propagated rfl rfl
theorem block_validate_read_early_ok : earlyOks block_validate_read = [] := by rfl
theorem block_validate_read_errors : fails block_validate_read = []
    ∧ mapped block_validate_read = [] := ⟨rfl, rfl⟩
theorem block_validate_read_depth : depths block_validate_read = [0, 0] := by rfl
theorem block_validate_read_guard_inputs : guardInputs block_validate_read = [] := by rfl

/-! ### `Block::validate (core/src/core/block.rs)` -/
theorem block_validate_order : readOk block_validate = true ∧ spine block_validate =
    ["validate", "verify_kernel_lock_heights", "verify_nrd_kernels_for_header_version", "verify_coinbase", "block_kernel_offset", "verify_kernel_sums"] := ⟨rfl, rfl⟩
theorem block_validate_propagated : discarded watch block_validate = [] ∧ calls block_validate = [] := propagated rfl rfl
theorem block_validate_early_ok : earlyOks block_validate = [] := by rfl
theorem block_validate_errors : fails block_validate = []
    ∧ mapped block_validate = [] := ⟨rfl, rfl⟩
theorem block_validate_depth : depths block_validate = [0, 0, 0, 0, 0, 0] := by rfl
theorem block_validate_guard_inputs : guardInputs block_validate = [] := by rfl

/-! ### `Block::verify_coinbase (core/src/core/block.rs)` -/
theorem block_verify_coinbase_order : readOk block_verify_coinbase = true ∧ spine block_verify_coinbase =
    ["is_coinbase", "is_coinbase", "commit_value", "commit_sum", "excess", "commit_sum", "CoinbaseSumMismatch"] := ⟨rfl, rfl⟩
theorem block_verify_coinbase_propagated : discarded watch block_verify_coinbase = [] ∧ calls block_verify_coinbase = [] := propagated rfl rfl
theorem block_verify_coinbase_early_ok : earlyOks block_verify_coinbase = [] := by rfl
theorem block_verify_coinbase_errors : fails block_verify_coinbase = [("CoinbaseSumMismatch", "($9 != $7)")]
    ∧ mapped block_verify_coinbase = [] := ⟨rfl, rfl⟩
theorem block_verify_coinbase_depth : depths block_verify_coinbase = [1, 1, 0, 0, 1, 0, 1] := by rfl
theorem block_verify_coinbase_guard_inputs : guardInputs block_verify_coinbase = ["kernels", "static_secp_instance", "lock", "commit_value", "commit_sum", "commit_sum"] := by rfl

/-! ### `Block::verify_kernel_lock_heights (core/src/core/block.rs)` -/
theorem block_verify_kernel_lock_heights_order : readOk block_verify_kernel_lock_heights = true ∧ spine block_verify_kernel_lock_heights =
    ["KernelLockHeight"] := ⟨rfl, rfl⟩
theorem block_verify_kernel_lock_heights_propagated : discarded watch block_verify_kernel_lock_heights = [] ∧ calls block_verify_kernel_lock_heights = [] := propagated rfl rfl
theorem block_verify_kernel_lock_heights_early_ok : earlyOks block_verify_kernel_lock_heights = [] := by rfl
theorem block_verify_kernel_lock_heights_errors : fails block_verify_kernel_lock_heights = [("KernelLockHeight", "($1 > self.header.height)")]
    ∧ mapped block_verify_kernel_lock_heights = [] := ⟨rfl, rfl⟩
theorem block_verify_kernel_lock_heights_depth : depths block_verify_kernel_lock_heights = [3] := by rfl
theorem block_verify_kernel_lock_heights_guard_inputs : guardInputs block_verify_kernel_lock_heights = [] := by rfl

/-! ### `Block::verify_nrd_kernels_for_header_version (core/src/core/block.rs)` -/
theorem block_verify_nrd_kernels_for_header_version_order : readOk block_verify_nrd_kernels_for_header_version = true ∧ spine block_verify_nrd_kernels_for_header_version =
    ["is_nrd", "NRDKernelNotEnabled", "NRDKernelPreHF3"] := ⟨rfl, rfl⟩
theorem block_verify_nrd_kernels_for_header_version_propagated : discarded watch block_verify_nrd_kernels_for_header_version = [] ∧ calls block_verify_nrd_kernels_for_header_version = [] := propagated rfl rfl
theorem block_verify_nrd_kernels_for_header_version_early_ok : earlyOks block_verify_nrd_kernels_for_header_version = [] := by rfl
theorem block_verify_nrd_kernels_for_header_version_errors : fails block_verify_nrd_kernels_for_header_version = [("NRDKernelNotEnabled", "!(global::is_nrd_enabled())"), ("NRDKernelPreHF3", "(self.header.version < HeaderVersion(4))")]
    ∧ mapped block_verify_nrd_kernels_for_header_version = [] := ⟨rfl, rfl⟩
theorem block_verify_nrd_kernels_for_header_version_depth : depths block_verify_nrd_kernels_for_header_version = [1, 2, 2] := by rfl
theorem block_verify_nrd_kernels_for_header_version_guard_inputs : guardInputs block_verify_nrd_kernels_for_header_version = [] := by rfl

/-! ### `<UntrustedBlockHeader as Readable>::read (core/src/core/block.rs)` -/
theorem untrusted_header_read_order : readOk untrusted_header_read = true ∧ spine untrusted_header_read =
    ["read_block_header", "CorruptedData", "InvalidBlockVersion", "CorruptedData", "CorruptedData", "CorruptedData"] := ⟨rfl, rfl⟩
theorem untrusted_header_read_propagated : discarded watch untrusted_header_read = [] ∧ calls untrusted_header_read = [] := propagated rfl rfl
theorem untrusted_header_read_early_ok : earlyOks untrusted_header_read = [] := by rfl
theorem untrusted_header_read_errors : fails untrusted_header_read = [("CorruptedData", "($1.timestamp > (Utc::now() + Duration::seconds($2 as _)))"), ("InvalidBlockVersion", "!(consensus::valid_header_version($1.height, $1.version))"), ("CorruptedData", "(!($1.pow.is_primary()) && !($1.pow.is_secondary()))"), ("CorruptedData", "verify_size(&$1) ~ Err(_)"), ("CorruptedData", "($4 > (global::max_block_weight() * ($1.height + 1)))")]
    ∧ mapped untrusted_header_read = [] := ⟨rfl, rfl⟩
theorem untrusted_header_read_depth : depths untrusted_header_read = [0, 1, 1, 1, 1, 1] := by rfl
theorem untrusted_header_read_guard_inputs : guardInputs untrusted_header_read = ["read_block_header", "get_future_time_limit", "weight_by_iok"] := by rfl

/-! ### `<UntrustedBlock as Readable>::read (core/src/core/block.rs)` -/
theorem untrusted_block_read_order : readOk untrusted_block_read = true ∧ spine untrusted_block_read =
    ["read", "read", "CorruptedData", "validate_read"] := ⟨rfl, rfl⟩
theorem untrusted_block_read_propagated : discarded watch untrusted_block_read = [] ∧ calls untrusted_block_read = [] := propagated rfl rfl
theorem untrusted_block_read_early_ok : earlyOks untrusted_block_read = [] := by rfl
theorem untrusted_block_read_errors : fails untrusted_block_read = []
    ∧ mapped untrusted_block_read = [("validate_read", "CorruptedData")] := ⟨rfl, rfl⟩
theorem untrusted_block_read_depth : depths untrusted_block_read = [0, 0, 1, 0] := by rfl
theorem untrusted_block_read_guard_inputs : guardInputs untrusted_block_read = [] := by rfl

/-! ### `TransactionBody::validate_read (core/src/core/transaction.rs)` -/
theorem body_validate_read_order : readOk body_validate_read = true ∧ spine body_validate_read =
    ["verify_weight", "verify_no_nrd_duplicates", "verify_sorted", "verify_cut_through"] := ⟨rfl, rfl⟩
theorem body_validate_read_propagated : discarded watch body_validate_read = [] ∧ calls body_validate_read = [] := propagated rfl rfl
theorem body_validate_read_early_ok : earlyOks body_validate_read = [] := by rfl
theorem body_validate_read_errors : fails body_validate_read = []
    ∧ mapped body_validate_read = [] := ⟨rfl, rfl⟩
theorem body_validate_read_depth : depths body_validate_read = [0, 0, 0, 0] := by rfl
theorem body_validate_read_guard_inputs : guardInputs body_validate_read = [] := by rfl

/-! ### `TransactionBody::validate (core/src/core/transaction.rs)` -/
theorem body_validate_order : readOk body_validate = true ∧ spine body_validate =
    ["validate_read", "batch_verify_proofs", "batch_sig_verify"] := ⟨rfl, rfl⟩
theorem body_validate_propagated : discarded watch body_validate = [] ∧ calls body_validate = ["push", "push"] :=
  propagated rfl (by simp only [filter_watch_cons, unwatched, List.filter_nil])
theorem body_validate_early_ok : earlyOks body_validate = [] := by rfl
theorem body_validate_errors : fails body_validate = []
    ∧ mapped body_validate = [] := ⟨rfl, rfl⟩
theorem body_validate_depth : depths body_validate = [0, 1, 0] := by rfl
theorem body_validate_guard_inputs : guardInputs body_validate = [] := by rfl

/-! ### `TransactionBody::verify_weight (core/src/core/transaction.rs)` -/
theorem body_verify_weight_order : readOk body_verify_weight = true ∧ spine body_verify_weight =
    ["TooHeavy"] := ⟨rfl, rfl⟩
theorem body_verify_weight_propagated : discarded watch body_verify_weight = [] ∧ calls body_verify_weight = [] := propagated rfl rfl
theorem body_verify_weight_early_ok : earlyOks body_verify_weight = [["$0 ~ Weighting::NoLimit"]]
    ∧ spineBeforeFirstEarlyOk body_verify_weight = [] := ⟨rfl, rfl⟩
theorem body_verify_weight_errors : fails body_verify_weight = [("TooHeavy", "(self.weight() > $3)")]
    ∧ mapped body_verify_weight = [] := ⟨rfl, rfl⟩
theorem body_verify_weight_depth : depths body_verify_weight = [1] := by rfl
theorem body_verify_weight_guard_inputs : guardInputs body_verify_weight = ["<match>"] := by rfl

/-! ### `TransactionBody::verify_no_nrd_duplicates (core/src/core/transaction.rs)` -/
theorem body_verify_no_nrd_duplicates_order : readOk body_verify_no_nrd_duplicates = true ∧ spine body_verify_no_nrd_duplicates =
    ["<boollit>", "<boollit>", "excess", "InvalidNRDRelativeHeight"] := ⟨rfl, rfl⟩
theorem body_verify_no_nrd_duplicates_propagated : discarded watch body_verify_no_nrd_duplicates = [] ∧ calls body_verify_no_nrd_duplicates = ["sort", "dedup"] :=
  propagated rfl (by simp only [filter_watch_cons, unwatched, List.filter_nil])
theorem body_verify_no_nrd_duplicates_early_ok : earlyOks body_verify_no_nrd_duplicates = [["!(global::is_nrd_enabled())"]]
    ∧ spineBeforeFirstEarlyOk body_verify_no_nrd_duplicates = [] := ⟨rfl, rfl⟩
theorem body_verify_no_nrd_duplicates_errors : fails body_verify_no_nrd_duplicates = [("InvalidNRDRelativeHeight", "!(($3 == $4))")]
    ∧ mapped body_verify_no_nrd_duplicates = [] := ⟨rfl, rfl⟩
theorem body_verify_no_nrd_duplicates_depth : depths body_verify_no_nrd_duplicates = [2, 2, 1, 1] := by rfl
theorem body_verify_no_nrd_duplicates_guard_inputs : guardInputs body_verify_no_nrd_duplicates = ["kernels", "len", "len"] := by rfl

/-! ### `TransactionBody::verify_sorted (core/src/core/transaction.rs)` -/
theorem body_verify_sorted_order : readOk body_verify_sorted = true ∧ spine body_verify_sorted =
    ["verify_sorted_and_unique", "verify_sorted_and_unique", "verify_sorted_and_unique"] := ⟨rfl, rfl⟩
theorem body_verify_sorted_propagated : discarded watch body_verify_sorted = [] ∧ calls body_verify_sorted = [] := propagated rfl rfl
theorem body_verify_sorted_early_ok : earlyOks body_verify_sorted = [] := by rfl
theorem body_verify_sorted_errors : fails body_verify_sorted = []
    ∧ mapped body_verify_sorted = [] := ⟨rfl, rfl⟩
theorem body_verify_sorted_depth : depths body_verify_sorted = [0, 0, 0] := by rfl
theorem body_verify_sorted_guard_inputs : guardInputs body_verify_sorted = [] := by rfl

/-! ### `TransactionBody::verify_cut_through (core/src/core/transaction.rs)` -/
theorem body_verify_cut_through_order : readOk body_verify_cut_through = true ∧ spine body_verify_cut_through =
    ["CutThrough"] := ⟨rfl, rfl⟩
theorem body_verify_cut_through_propagated : discarded watch body_verify_cut_through = [] ∧ calls body_verify_cut_through = [] := propagated rfl rfl
theorem body_verify_cut_through_early_ok : earlyOks body_verify_cut_through = [] := by rfl
theorem body_verify_cut_through_errors : fails body_verify_cut_through = [("CutThrough", "($1[0] == $1[1])")]
    ∧ mapped body_verify_cut_through = [] := ⟨rfl, rfl⟩
theorem body_verify_cut_through_depth : depths body_verify_cut_through = [2] := by rfl
theorem body_verify_cut_through_guard_inputs : guardInputs body_verify_cut_through = ["inputs_outputs_committed"] := by rfl

/-! ### `TransactionBody::verify_features (core/src/core/transaction.rs)` -/
theorem body_verify_features_order : readOk body_verify_features = true ∧ spine body_verify_features =
    ["verify_output_features", "verify_kernel_features"] := ⟨rfl, rfl⟩
theorem body_verify_features_propagated : discarded watch body_verify_features = [] ∧ calls body_verify_features = [] := propagated rfl rfl
theorem body_verify_features_early_ok : earlyOks body_verify_features = [] := by rfl
theorem body_verify_features_errors : fails body_verify_features = []
    ∧ mapped body_verify_features = [] := ⟨rfl, rfl⟩
theorem body_verify_features_depth : depths body_verify_features = [0, 0] := by rfl
theorem body_verify_features_guard_inputs : guardInputs body_verify_features = [] := by rfl

/-! ### `TransactionBody::verify_output_features (core/src/core/transaction.rs)` -/
theorem body_verify_output_features_order : readOk body_verify_output_features = true ∧ spine body_verify_output_features =
    ["is_coinbase", "InvalidOutputFeatures"] := ⟨rfl, rfl⟩
theorem body_verify_output_features_propagated : discarded watch body_verify_output_features = [] ∧ calls body_verify_output_features = [] := propagated rfl rfl
theorem body_verify_output_features_early_ok : earlyOks body_verify_output_features = [] := by rfl
theorem body_verify_output_features_errors : fails body_verify_output_features = [("InvalidOutputFeatures", "self.outputs.iter().any(|..|{..})")]
    ∧ mapped body_verify_output_features = [] := ⟨rfl, rfl⟩
theorem body_verify_output_features_depth : depths body_verify_output_features = [1, 1] := by rfl
theorem body_verify_output_features_guard_inputs : guardInputs body_verify_output_features = [] := by rfl

/-! ### `TransactionBody::verify_kernel_features (core/src/core/transaction.rs)` -/
theorem body_verify_kernel_features_order : readOk body_verify_kernel_features = true ∧ spine body_verify_kernel_features =
    ["is_coinbase", "InvalidKernelFeatures"] := ⟨rfl, rfl⟩
theorem body_verify_kernel_features_propagated : discarded watch body_verify_kernel_features = [] ∧ calls body_verify_kernel_features = [] := propagated rfl rfl
theorem body_verify_kernel_features_early_ok : earlyOks body_verify_kernel_features = [] := by rfl
theorem body_verify_kernel_features_errors : fails body_verify_kernel_features = [("InvalidKernelFeatures", "self.kernels.iter().any(|..|{..})")]
    ∧ mapped body_verify_kernel_features = [] := ⟨rfl, rfl⟩
theorem body_verify_kernel_features_depth : depths body_verify_kernel_features = [1, 1] := by rfl
theorem body_verify_kernel_features_guard_inputs : guardInputs body_verify_kernel_features = [] := by rfl

/-! ### `Transaction::validate_read (core/src/core/transaction.rs)` -/
theorem tx_validate_read_order : readOk tx_validate_read = true ∧ spine tx_validate_read =
    ["validate_read", "verify_features"] := ⟨rfl, rfl⟩
theorem tx_validate_read_propagated : discarded watch tx_validate_read = [] ∧ calls tx_validate_read = [] := propagated rfl rfl
theorem tx_validate_read_early_ok : earlyOks tx_validate_read = [] := by rfl
theorem tx_validate_read_errors : fails tx_validate_read = []
    ∧ mapped tx_validate_read = [] := ⟨rfl, rfl⟩
theorem tx_validate_read_depth : depths tx_validate_read = [0, 0] := by rfl
theorem tx_validate_read_guard_inputs : guardInputs tx_validate_read = [] := by rfl

/-! ### `Transaction::validate (core/src/core/transaction.rs)` -/
theorem tx_validate_order : readOk tx_validate = true ∧ spine tx_validate =
    ["verify_features", "validate", "verify_kernel_sums"] := ⟨rfl, rfl⟩
theorem tx_validate_propagated : discarded watch tx_validate = [] ∧ calls tx_validate = [] := propagated rfl rfl
theorem tx_validate_early_ok : earlyOks tx_validate = [] := by rfl
theorem tx_validate_errors : fails tx_validate = []
    ∧ mapped tx_validate = [] := ⟨rfl, rfl⟩
theorem tx_validate_depth : depths tx_validate = [0, 0, 0] := by rfl
theorem tx_validate_guard_inputs : guardInputs tx_validate = [] := by rfl

end GV.Props.XlateShapeCore
