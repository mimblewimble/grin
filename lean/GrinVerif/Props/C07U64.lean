import GrinVerif.Model.PmmrU64
import GrinVerif.Lemmas.PmmrShape
import GrinVerif.Lemmas.BasicWrap
/-! # C07 — the position arithmetic at the u64 limit

`Model/PmmrU64.lean` is the hand-written model of the pure position functions of `pmmr.rs` with the
arithmetic of the release build (wrapping); `Model/Pmmr.lean` is the same on unbounded naturals and is
what the theorems of `Props/C07.lean` (explicitly built tree, Merkle proofs) speak about.  This file
states, for the functions named below, the range of inputs on which the two agree — i.e. on which the code computes
the property's value — with a witness of the difference just outside where the range is exact
(`insertion_to_pmmr_index`, `family`; for `bintree_leftmost` / `bintree_range` the stated range is
sufficient only: `Props/XlatePmmr.bintree_leftmost_eq_u64` shows agreement on every u64).
The run `pmmr arith` evaluates the real functions on both sides of every bound (u64::MAX−k, 2^63±k,
2^62±k, 2^j−2 … 2^j, the roots of the perfect trees and their children).

Total on u64 (nothing can wrap, the `Nat` model IS the code): `peak_map_height`, `peak_sizes_height`,
`peaks`, `n_leaves`, `pmmr_leaf_to_insertion_index`, `bintree_postorder_height`, `is_leaf`,
`is_left_sibling`, `bintree_rightmost`, and — proven below — `round_up_to_leaf_pos`. -/
namespace GV.Props.C07U64
open GV GV.Pmmr GV.Pmmr.Co

theorem popcount_two63 : popcount (2^63) = 1 := by
  have := popcount_mul_pow 63 1
  rwa [Nat.one_mul, popcount_one] at this

theorem popcount_two63_succ : popcount (2^63 + 1) = 2 := by
  have := popcount_split 63 1 1 (by decide)
  rwa [Nat.one_mul, popcount_one] at this

theorem trailingOnes_two63 : trailingOnes (2^63) = 0 := trailingOnes_two_mul (2^62)

theorem mmr_two63_succ : mmr (2^63 + 1) = 2^64 := by
  unfold mmr; rw [popcount_two63_succ]

theorem leaf_count_bound {n k : Nat} (hk : k ≤ trailingOnes n) (h : mmr n + k < 2^64) :
    n ≤ 2^63 ∧ (k ≠ 0 → n + 1 ≤ 2^63) := by
  have hn : n ≤ 2^63 := Nat.le_of_not_lt fun hlt => by
    have := mmr_le_mmr (show 2^63 + 1 ≤ n from hlt)
    rw [mmr_two63_succ] at this
    omega
  refine ⟨hn, fun hk0 => Nat.lt_of_le_of_ne hn ?_⟩
  rintro rfl
  rw [trailingOnes_two63] at hk
  omega

/-- the peak map (number of leaves before the position) of a u64 position is at most `2^63` -/
theorem peak_map_le (pos : Nat) (h : pos < 2^64) : (peakMapHeight pos).1 ≤ 2^63 := by
  obtain ⟨n, k, hk, rfl⟩ := coord_surj pos
  rw [peakMapHeight_co n k hk]
  exact (leaf_count_bound hk h).1

/-- … and at most `2^63 − 1` when the position is not a leaf: `insert_idx + 1` never wraps -/
theorem peak_map_lt_of_node (pos : Nat) (h : pos < 2^64) (hh : (peakMapHeight pos).2 ≠ 0) :
    (peakMapHeight pos).1 + 1 ≤ 2^63 := by
  obtain ⟨n, k, hk, rfl⟩ := coord_surj pos
  rw [peakMapHeight_co n k hk] at hh ⊢
  exact (leaf_count_bound hk h).2 hh

/-- exact for `n ≤ 2^63` (below `2^63` nothing wraps, at `2^63` the two wraps cancel) -/
theorem insertion_to_pmmr_index_exact (n : Nat) (h : n ≤ 2^63) :
    U64.insertionToPmmrIndex n = insertionToPmmrIndex n := by
  unfold U64.insertionToPmmrIndex insertionToPmmrIndex mmr
  have hp := popcount_le n
  by_cases hlt : n < 2^63
  · rw [mulW_eq (by omega), subW_eq (by omega) (by omega)]
  · have hn : n = 2^63 := by omega
    subst hn
    rw [popcount_two63]; decide

/-- the bound is exact: at `2^63 + 1` the code answers 0, the definition `2^64` -/
theorem insertion_to_pmmr_index_wraps :
    U64.insertionToPmmrIndex (2^63 + 1) = 0 ∧ insertionToPmmrIndex (2^63 + 1) = 2^64 := by
  unfold U64.insertionToPmmrIndex insertionToPmmrIndex mmr
  rw [popcount_two63_succ]; decide

/-- for EVERY u64 position the code computes the definition's value (the leaf index handed to
`insertion_to_pmmr_index` is at most `2^63`), and that value is a u64 -/
theorem round_up_to_leaf_pos_total (pos : Nat) (h : pos < 2^64) :
    U64.roundUpToLeafPos pos = roundUpToLeafPos pos ∧ roundUpToLeafPos pos < 2^64 := by
  have key : ∀ n, n ≤ 2^63 → mmr n < 2^64 := by
    intro n hn
    have := mmr_lt_mmr (show n < 2^63 + 1 by omega)
    rw [mmr_two63_succ] at this; exact this
  unfold U64.roundUpToLeafPos roundUpToLeafPos
  by_cases hz : (peakMapHeight pos).2 = 0
  · simp only [hz, beq_self_eq_true, if_true]
    have b := peak_map_le pos h
    exact ⟨insertion_to_pmmr_index_exact _ b, key _ b⟩
  · simp only [beq_iff_eq, hz, if_false]
    have b := peak_map_lt_of_node pos h hz
    exact ⟨insertion_to_pmmr_index_exact _ b, key _ b⟩

/-- `family(pos0)` for `pos0 < 2^63` (the parent `pos0 + 2·2^h ≤ 2·pos0 + 2` fits a u64) -/
theorem family_exact (pos : Nat) (h : pos < 2^63) : U64.family pos = family pos := by
  unfold U64.family family
  have b : 2 * 2^(peakMapHeight pos).2 ≤ pos + 2 := height_bound pos
  have hh : (peakMapHeight pos).2 < 64 := height_lt_64 (by omega)
  simp only [shlW_one_left hh]
  rw [mulW_eq (by omega)]
  by_cases hb : bitSet (peakMapHeight pos).1 (peakMapHeight pos).2 = true
  · have r := right_child_room hb
    simp only [hb, if_true]
    rw [addW_eq (by omega), subW_eq (by omega) (by omega)]
  · simp only [hb, Bool.false_eq_true, if_false]
    rw [addW_eq (by omega), subW_eq (by omega) (by have := Nat.two_pow_pos (peakMapHeight pos).2; omega)]

/-- beyond: the first leaf after the perfect tree of `2^64 − 1` nodes, `u64::MAX`, has its parent
beyond the u64 range: the code answers `(1, 0)`, the definition `(2^64 + 1, 2^64)` -/
theorem family_wraps_at_max :
    U64.family (2^64 - 1) = (1, 0) ∧ family (2^64 - 1) = (2^64 + 1, 2^64) := by
  have m : mmr (2^63) = 2^64 - 1 := by unfold mmr; rw [popcount_two63]
  have p := peakMapHeight_co (2^63) 0 (Nat.zero_le _)
  rw [Nat.add_zero, m] at p
  unfold U64.family family
  rw [p]
  decide

/-- a position is a left sibling exactly when its sibling is the position just before the parent -/
theorem is_left_sibling_iff (pos : Nat) :
    isLeftSibling pos = true ↔ (family pos).2 + 1 = (family pos).1 := by
  unfold isLeftSibling family
  have hp := Nat.two_pow_pos (peakMapHeight pos).2
  by_cases hb : bitSet (peakMapHeight pos).1 (peakMapHeight pos).2 = true
  · have r := right_child_room hb
    simp only [hb, Bool.not_true, Bool.false_eq_true, if_true, false_iff]
    omega
  · have hb' : bitSet (peakMapHeight pos).1 (peakMapHeight pos).2 = false := by simpa using hb
    simp only [hb', Bool.not_false, Bool.false_eq_true, if_false, true_iff]
    omega

theorem height_u64 (pos : Nat) (h : pos < 2^64) : height pos ≤ 63 := by
  have := height_lt_64 h
  unfold height; omega

theorem bintree_leftmost_exact (pos : Nat) (h : pos + 2 < 2^64) :
    U64.bintreeLeftmost pos = bintreeLeftmost pos := by
  unfold U64.bintreeLeftmost bintreeLeftmost
  have b : 2 * 2^(peakMapHeight pos).2 ≤ pos + 2 := height_bound pos
  have hh : (peakMapHeight pos).2 < 64 := height_lt_64 (by omega)
  have e : shlW 2 (height pos) = 2 * 2^(height pos) := by
    unfold height; rw [shlW_eq hh (by omega)]
  rw [e, addW_eq h]
  exact subW_eq h (by unfold height; omega)

theorem bintree_range_exact (pos : Nat) (h : pos + 2 < 2^64) :
    U64.bintreeRange pos = bintreeRange pos := by
  unfold U64.bintreeRange
  rw [bintree_leftmost_exact pos h, addW_eq (by omega)]
  rfl

/-- `bintree_rightmost` is total: `pos0 - height` cannot underflow -/
theorem bintree_rightmost_total (pos : Nat) : height pos ≤ pos := height_le_pos pos

/- Not proved: `U64.bintreeLeafPosIter pos = bintreeLeafPosIter pos` for `pos + 2 < 2^64` (every leaf index
of the range is at most `2^63` by `peak_map_le`, so every `insertion_to_pmmr_index` in it is exact), and
nothing is stated about `U64.familyBranch`, `U64.bintreePosIter`; these are compared by the `pmmr arith`
run only (`leafiterw` lines for the leaf iterator). -/

end GV.Props.C07U64
