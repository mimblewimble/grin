import GrinVerif.Model.CrashAof
import GrinVerif.Lemmas.CrashAofL
/-! C09 — theorems about the byte-level model of `AppendOnlyFile` / `DataFile` (store/src/types.rs,
`Model/CrashAof.lean`; tied to the real code by the `crash aof` run: every durable byte of both files
at every crash point of `flush` / `open`, and every element read back).

* `raw_flush_crash_states`, `raw_flush_labels`: a fixed-size file killed at any crash point of `flush`
  holds the old content, the content cut to the rewind position, or the final content; the order of
  the points is truncate → append → sync.
* `var_flush_size_before_data`: the size file is flushed completely before the data file is touched.
* `parseAll_spec`, `rebuild_is_canonical`, `open_rebuilds_canonical`: whatever the size file holds,
  if its sizes do not add up to the data file's length `open` replaces it by the canonical size file
  of the elements the data file holds (zero-filled / torn tails are ignored).
* `rewind_beyond_empties_data_bytes`: the byte-level form of known finding C09-recovery-not-restartable
  (`Props/C09Kernel.lean` has it on the abstraction): flushing a pair rewound to a position BEYOND the
  end of the size file grows the size file with zero entries and truncates the data file to length 0.
* `open_accepts_stale_data_witness`: the consistency check of `open` (sum of sizes = data length) does
  not detect a data file that still holds the elements of before a rewind when the byte counts
  coincide (observation; reproduced on the real code by the scripted "equal sums" history). -/
namespace GV.Props.C09Aof
open GV GV.CrashAof

theorem setLen_length (b : Bytes) (n : Nat) : (setLen b n).length = n := by
  unfold setLen
  split
  · simp; omega
  · simp; omega

theorem setLen_shrinks (b : Bytes) (n : Nat) (h : n ≤ b.length) : setLen b n = b.take n := by
  unfold setLen; rw [if_pos h]

/-- `set_len` beyond the end of the file does not fail: it appends zero bytes -/
theorem setLen_grows_with_zeros (b : Bytes) (n : Nat) (h : b.length < n) :
    setLen b n = b ++ List.replicate (n - b.length) 0 := by
  unfold setLen; rw [if_neg (by omega)]

theorem setLen_add (b : Bytes) (k : Nat) : setLen b (b.length + k) = b ++ List.replicate k 0 := by
  cases k with
  | zero => simp [setLen]
  | succ k => rw [setLen_grows_with_zeros _ _ (by omega), Nat.add_sub_cancel_left]

theorem raw_flush_labels (f : Raw) :
    (f.flush).1.map (·.1) =
      (if f.bak > 0 then ["before-truncate", "after-truncate"] else []) ++
        ["before-append", "after-append", "after-sync"] := by
  unfold Raw.flush
  by_cases h : f.bak > 0 <;> simp [h]

theorem raw_flush_final (f : Raw) :
    (f.flush).2.disk = (if f.bak > 0 then setLen f.disk (f.bsp * f.s) else f.disk) ++ f.buf := by
  unfold Raw.flush; simp

/-- a process killed at any crash point of the flush of a fixed-size file leaves the old content, the
content cut (or zero-extended) to the rewind position, or the final content — nothing else -/
theorem raw_flush_crash_states (f : Raw) (l : String) (d : Bytes) (h : (l, d) ∈ (f.flush).1) :
    d = f.disk ∨ d = setLen f.disk (f.bsp * f.s) ∨ d = (f.flush).2.disk := by
  unfold Raw.flush at h ⊢
  by_cases hb : f.bak > 0
  · simp [hb] at h ⊢
    rcases h with ⟨_, rfl⟩ | ⟨_, rfl⟩ | ⟨_, rfl⟩ | ⟨_, rfl⟩ | ⟨_, rfl⟩ <;> simp
  · simp [hb] at h ⊢
    rcases h with ⟨_, rfl⟩ | ⟨_, rfl⟩ | ⟨_, rfl⟩ <;> simp

/-- an un-rewound flush only ever appends: every crash point holds the old content as a prefix -/
theorem raw_flush_append_only (f : Raw) (hb : f.bak = 0) (l : String) (d : Bytes)
    (h : (l, d) ∈ (f.flush).1) : d = f.disk ∨ d = f.disk ++ f.buf := by
  unfold Raw.flush at h
  simp [hb] at h
  rcases h with ⟨_, rfl⟩ | ⟨_, rfl⟩ | ⟨_, rfl⟩ <;> simp

example : (({ s := 4, disk := [1,2,3,4,5,6,7,8], bsp := 2 } : Raw).rewind 1 |>.append [9,9,9,9]).flush.1 =
    [("before-truncate", [1,2,3,4,5,6,7,8]), ("after-truncate", [1,2,3,4]), ("before-append", [1,2,3,4]),
     ("after-append", [1,2,3,4,9,9,9,9]), ("after-sync", [1,2,3,4,9,9,9,9])] := by decide +kernel

theorem mem_of_crashAt {t : Trace} {k : Nat} {d : Disk} (h : crashAt t k = some d) :
    ∃ l, (l, d) ∈ t := by
  unfold crashAt at h
  cases hg : t[k - 1]? with
  | none => simp [hg] at h
  | some p =>
    simp [hg] at h
    exact ⟨p.1, by rw [← h]; exact List.mem_of_getElem? hg⟩

/-- `flush` of a file with a size file: at every crash point either the data file is still untouched
or the size file already has its final content — the size file is flushed first, completely -/
theorem var_flush_size_before_data (s r : Raw) (k : Nat) (d : Disk)
    (h : crashAt (Aof.flush { sf := some s, raw := r }).1 k = some d) :
    d.data = r.disk ∨ d.size = (s.flush).2.disk := by
  obtain ⟨l, hm⟩ := mem_of_crashAt h
  unfold Aof.flush at hm
  simp only at hm
  split at hm
  · -- Err path
    simp only [List.mem_append, List.mem_map, List.mem_singleton] at hm
    rcases hm with ⟨p, _, hp⟩ | hp
    · left; cases hp; rfl
    · right; cases hp; rfl
  · simp only [List.mem_append, List.mem_map] at hm
    rcases hm with (⟨p, _, hp⟩ | hp) | hp
    · left; cases hp; rfl
    · right
      split at hp
      · simp at hp; rcases hp with ⟨_, rfl⟩ | ⟨_, rfl⟩ <;> rfl
      · simp at hp
    · right
      simp at hp; rcases hp with ⟨_, rfl⟩ | ⟨_, rfl⟩ | ⟨_, rfl⟩ <;> rfl

/-- the canonical size entries of a list of element encodings -/
def offsets : List Bytes → Nat → List (Nat × Nat)
  | [], _ => []
  | e :: es, off => (off, e.length) :: offsets es (off + e.length)

/-- they are the `offs` of `Lemmas/CrashAofL` -/
theorem offsets_eq_offs : ∀ (es : List Bytes) (off : Nat), offsets es off = offs es off := by
  intro es
  induction es with
  | nil => intro off; rfl
  | cons e es ih => intro off; simp [offsets, offs, ih]

/-- `parse` reads each of the elements off the head of any stream, and nothing else of them -/
def PrefixCode (parse : Bytes → Option Nat) (es : List Bytes) : Prop :=
  ∀ e ∈ es, 0 < e.length ∧ ∀ rest, parse (e ++ rest) = some e.length

/-- the element loop of `rebuild_size_file` on a file that holds the elements `es` followed by bytes
that do not parse (nothing, a torn element, zero fill): exactly the canonical entries of `es` -/
theorem parseAll_spec (parse : Bytes → Option Nat) (tail : Bytes) (htail : parse tail = none) :
    ∀ (es : List Bytes) (off fuel : Nat), PrefixCode parse es →
      (es.flatten ++ tail).length ≤ fuel →
      parseAll parse fuel (es.flatten ++ tail) off = offsets es off := by
  intro es
  induction es with
  | nil =>
    intro off fuel _ _
    cases fuel with
    | zero => simp [parseAll, offsets]
    | succ f => simp [parseAll, offsets, htail]
  | cons e es ih =>
    intro off fuel hc hf
    have he := hc e (by simp)
    have hlen : (e ++ (es.flatten ++ tail)).length ≤ fuel := by simpa [List.append_assoc] using hf
    have h0 := he.1
    cases fuel with
    | zero => simp only [List.length_append] at hlen; omega
    | succ f =>
      have hp : parse (e ++ (es.flatten ++ tail)) = some e.length := he.2 _
      have hne : e.length ≠ 0 := by omega
      simp only [List.flatten_cons, List.append_assoc, parseAll, hp, hne, if_false, offsets]
      congr 1
      rw [List.drop_left]
      apply ih
      · intro x hx; exact hc x (by simp [hx])
      · simp at hlen ⊢; omega

theorem rebuild_is_canonical (parse : Bytes → Option Nat) (es : List Bytes) (tail : Bytes)
    (htail : parse tail = none) (hc : PrefixCode parse es) :
    rebuildSize parse (es.flatten ++ tail) = (offsets es 0).flatMap encEntry := by
  unfold rebuildSize
  rw [parseAll_spec parse tail htail es 0 _ hc (Nat.le_refl _)]

theorem init_disk (f : Raw) : f.init.disk = f.disk := by
  unfold Raw.init; split <;> rfl

theorem open_no_rebuild_iff (parse : Bytes → Option Nat) (d : Disk) (sum : Nat)
    (hs : (({ s := 10, disk := d.size } : Raw).init).sumSizes (({ s := 10, disk := d.size } : Raw).init).bsp = some sum) :
    (openVar parse d).1 = [] ↔ sum = d.data.length := by
  unfold openVar
  simp only [hs]
  by_cases h : sum = d.data.length <;> simp [h]

/-- WHATEVER the size file holds: if its sizes do not add up to the length of the data file, `open`
replaces it by the canonical size file of the elements the data file holds and leaves the data file
alone (crash between the size file's flush and the data file's: the old elements are all back) -/
theorem open_rebuilds_canonical (parse : Bytes → Option Nat) (es : List Bytes) (tail sizeDisk : Bytes)
    (htail : parse tail = none) (hc : PrefixCode parse es) (sum : Nat)
    (hs : (({ s := 10, disk := sizeDisk } : Raw).init).sumSizes (({ s := 10, disk := sizeDisk } : Raw).init).bsp = some sum)
    (hne : sum ≠ (es.flatten ++ tail).length) :
    ∃ a, (openVar parse { size := sizeDisk, data := es.flatten ++ tail }).2 = some a ∧
      a.disk = { size := (offsets es 0).flatMap encEntry, data := es.flatten ++ tail } := by
  unfold openVar
  simp only [hs, hne, if_false]
  refine ⟨_, rfl, ?_⟩
  simp only [Aof.disk, Option.map_some, Option.getD_some, init_disk]
  rw [rebuild_is_canonical parse es tail htail hc]
  congr 1
  repeat' split
  all_goals rfl

/-- the harness's `Blob` codec is such a code -/
theorem blob_prefix_code (es : List Bytes)
    (h : ∀ e ∈ es, ∃ l p, e = l :: p ∧ l ≠ 0 ∧ p.length = l) : PrefixCode blobParse es := by
  intro e he
  obtain ⟨l, p, rfl, hl, hp⟩ := h e he
  refine ⟨by simp, ?_⟩
  intro rest
  simp [blobParse, hl, hp]

theorem blob_zero_fill (n : Nat) : blobParse (List.replicate n 0) = none := by
  cases n <;> simp [blobParse, List.replicate_succ]

example : PrefixCode blobParse [[2, 7, 7], [1, 9]] :=
  blob_prefix_code _ (by
    intro e he
    simp at he
    rcases he with rfl | rfl
    · exact ⟨2, [7, 7], rfl, by decide, rfl⟩
    · exact ⟨1, [9], rfl, by decide, rfl⟩)

theorem ofBE_zeros (n : Nat) : ofBE (List.replicate n 0) = 0 := ofBE_replicate_zero n

/-- `flush` of a rewound file with a size file, when the entry that gives the data file's new length
`n` can be read back from the flushed size file: the size file's crash points, then the data file's -/
theorem flush_var_rewound (s r : Raw) (n : Nat) (hrb : r.bak > 0)
    (hn : (if r.bsp = 0 then some 0 else (s.flush.2.readEntry (r.bsp - 1)).map fun e => e.1 + e.2) = some n) :
    Aof.flush { sf := some s, raw := r } =
      (s.flush.1.map (fun p => (p.1 ++ "@size", { size := p.2, data := r.disk })) ++
        [("before-truncate@data", { size := s.flush.2.disk, data := r.disk }),
         ("after-truncate@data", { size := s.flush.2.disk, data := setLen r.disk n }),
         ("before-append@data", { size := s.flush.2.disk, data := setLen r.disk n }),
         ("after-append@data", { size := s.flush.2.disk, data := setLen r.disk n ++ r.buf }),
         ("after-sync@data", { size := s.flush.2.disk, data := setLen r.disk n ++ r.buf })],
       { sf := some s.flush.2,
         raw := { r with disk := setLen r.disk n ++ r.buf, buf := [], bak := 0, bsp := s.flush.2.sizeInElmts,
                         mmap := if (setLen r.disk n ++ r.buf).length = 0 then none
                                 else some (setLen r.disk n ++ r.buf) } },
       true) := by
  unfold Aof.flush
  simp only [hrb, if_true, hn, List.append_assoc, List.cons_append, List.nil_append]

theorem readEntry_grown (f : Raw) (A : Bytes) (m i : Nat) (hs : f.s = 10)
    (hm : f.mmap = some (setLen A ((m + i + 1) * 10))) (hbsp : f.bsp = m + i + 1) (hA : A.length = 10 * m) :
    f.readEntry (m + i) = some (0, 0) := by
  have hread : f.read (m + i) = List.replicate 10 0 := by
    rw [read_mapped f _ (m + i) hm (by omega) (by rw [setLen_length, hs]; omega), hs,
      show (m + i + 1) * 10 = A.length + (10 * i + 10) by omega, show (m + i) * 10 = A.length + 10 * i by omega,
      setLen_add, List.drop_length_add_append, List.drop_replicate, List.take_replicate, Nat.add_sub_cancel_left,
      Nat.min_self]
  unfold Raw.readEntry
  simp only [hread, List.length_replicate, List.take_replicate, List.drop_replicate]
  exact congrArg some (Prod.ext (ofBE_zeros _) (ofBE_zeros _))

theorem raw_flush_rewound (s : Raw) (n : Nat) (hs10 : s.s = 10) (hbuf : s.buf = [])
    (hsb : s.bak > 0) (hsp : s.bsp = n) (hn : 0 < n) :
    (s.flush).2.disk = setLen s.disk (n * 10) ∧ (s.flush).2.mmap = some (setLen s.disk (n * 10)) ∧
      (s.flush).2.bsp = n := by
  have hl : (setLen s.disk (n * 10)).length = n * 10 := setLen_length _ _
  unfold Raw.flush
  simp only [hsb, hsp, hs10, hbuf, if_true, List.append_nil, hl]
  exact ⟨trivial, if_neg (by omega), by omega⟩

/-- Byte-level form of C09-recovery-not-restartable: a data file with a size file of `m` entries,
rewound to a position `n > m` (what a restart after a death inside the recovery asks for), is flushed
WITHOUT an error: the size file grows to `n` entries, the new ones all zero, and the data file is
truncated to the end of entry `n - 1` = offset 0 + size 0: only the buffer is left of it -/
theorem rewind_beyond_empties_data_bytes (s r : Raw) (m n : Nat)
    (hs10 : s.s = 10) (hlen : s.disk.length = 10 * m) (hbuf : s.buf = [])
    (hsb : s.bak > 0) (hrb : r.bak > 0) (hsp : s.bsp = n) (hrp : r.bsp = n) (h : m < n) :
    let res := Aof.flush { sf := some s, raw := r }
    res.2.2 = true ∧ res.2.1.raw.disk = r.buf ∧
      res.2.1.disk.size = s.disk ++ List.replicate (10 * (n - m)) 0 := by
  obtain ⟨i, rfl⟩ := Nat.exists_eq_add_of_lt h
  have hgrow : setLen s.disk ((m + i + 1) * 10) = s.disk ++ List.replicate (10 * (m + i + 1 - m)) 0 := by
    rw [show (m + i + 1) * 10 = s.disk.length + 10 * (i + 1) by omega, setLen_add,
      show m + i + 1 - m = i + 1 by omega]
  obtain ⟨hd2, hm, hbsp⟩ := raw_flush_rewound s _ hs10 hbuf hsb hsp (Nat.succ_pos _)
  have hentry := readEntry_grown (s.flush).2 s.disk m i hs10 hm hbsp hlen
  -- the data file is cut to the end of that entry: offset 0 + size 0
  have hn : (if r.bsp = 0 then some 0 else (s.flush.2.readEntry (r.bsp - 1)).map fun e => e.1 + e.2) = some 0 := by
    rw [hrp, if_neg (Nat.succ_ne_zero _), Nat.add_sub_cancel, hentry]; rfl
  simp only
  rw [flush_var_rewound s r 0 hrb hn]
  refine ⟨rfl, ?_, hd2.trans hgrow⟩
  show setLen r.disk 0 ++ r.buf = r.buf
  simp [setLen]

/-- hypotheses are satisfiable: two entries on disk, rewound to 3 -/
example : let s : Raw := ({ s := 10, disk := encEntry (0, 3) ++ encEntry (3, 2), bsp := 2, mmap := some (encEntry (0, 3) ++ encEntry (3, 2)) } : Raw).rewind 3
          let r : Raw := ({ s := 0, disk := [2, 7, 7, 1, 9], bsp := 2, mmap := some [2, 7, 7, 1, 9] } : Raw).rewind 3
          (Aof.flush { sf := some s, raw := r }).2.1.disk =
            { size := encEntry (0, 3) ++ encEntry (3, 2) ++ List.replicate 10 0, data := [] } := by decide +kernel

/-- `[a b c]` synced, rewind to 1, append `d` with `|d| = |b| + |c|`, killed after the size file's
flush (crash point 4 = `after-append@size`): the size file describes `[a d]`, the data file still
holds `a b c`, the byte counts agree, `open` does NOT rebuild, and the file shows two elements, the
second one being `b` — neither the old nor the new content. Real code: `crash aof`, scripted history. -/
def staleRun : Option (Disk × List String × Nat × List (Option Bytes) × List (Option Bytes)) :=
  let a := [3, 1, 1, 1]; let b := [1, 5]; let c := [2, 6, 6]; let d := [4, 8, 8, 8, 8]
  let d0 : Disk := { size := (offsets [a, b, c] 0).flatMap encEntry, data := a ++ b ++ c }
  match (openVar blobParse d0).2 with
  | none => none
  | some f0 =>
    match (f0.rewind 1).append d with
    | none => none
    | some f1 =>
      match crashAt f1.flush.1 4 with
      | none => none
      | some dk =>
        match openVar blobParse dk with
        | (t, some f2) =>
          some (dk, t.map (·.1), f2.sizeInElmts, dfReadAll blobParse f2 3, dfReadAll blobParse f0 3)
        | _ => none

theorem open_accepts_stale_data_witness :
    staleRun = some ({ size := (offsets [[3, 1, 1, 1], [4, 8, 8, 8, 8]] 0).flatMap encEntry,
                       data := [3, 1, 1, 1, 1, 5, 2, 6, 6] },
                     [], 2, [some [3, 1, 1, 1], some [1, 5], none],
                     [some [3, 1, 1, 1], some [1, 5], some [2, 6, 6]]) := by
  rfl

end GV.Props.C09Aof
