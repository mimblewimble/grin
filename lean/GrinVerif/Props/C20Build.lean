import GrinVerif.Lemmas.KeysBuild
import GrinVerif.Props.C20
/-! # C20 — the builder with `initial_tx` (two-party shape `tx_build_exchange`)

Theorems about `Model/KeysBuild.lean` (lemmas in `Lemmas/KeysBuild.lean`): the element list is
folded over `(Transaction, BlindSum)`; `initial_tx` replaces the transaction and keeps the sum. -/
namespace GV.Props.C20
open GV GV.Keys List

/-- **`initial_tx` keeps the sum**: whatever was accumulated in the `BlindSum` before `initial_tx`
runs (a `with_excess` factor, earlier inputs / outputs) is still there afterwards — the three key
lists after the fold are exactly the contributions of the plain combinators of the list, in order,
wherever the `initial_tx` elements stand. -/
theorem initial_tx_keeps_sum (elems : List XStep) :
    (runX {} elems).negK = blinds (inputsOf (baseOf elems)) ∧
    (runX {} elems).posK = blinds (outputsOf (baseOf elems)) ∧
    (runX {} elems).posB = excessesOf (baseOf elems) := by
  simpa using runX_keys {} elems

/-- **the blinding sum does not depend on the order of the element list**: every permutation of the
elements — `initial_tx` and `with_excess` in any relative order, before, between or after the inputs
and outputs — gives the same `keychain.blind_sum` (same key, same error). -/
theorem partial_blind_sum_perm {e e' : List XStep} (p : e ~ e') (ins outs : List Opening) :
    (xPartialTransaction ins outs e).2.2 = (xPartialTransaction ins outs e').2.2 := by
  simp only [xPartialTransaction, runX_blindSum, nil_append]
  have q := baseOf_perm p
  exact sum_perm (((outputsOf_perm q).map _).append ((excessesOf_perm q).filterMap _)) ((inputsOf_perm q).map _)

/-- … hence the finished transaction carries the same fee, excess and **offset** for every
permutation of the element list, and the builder succeeds for one order iff it does for all. -/
theorem builder_offset_perm {e e' : List XStep} (p : e ~ e') (fee excess : Nat) :
    (xTransactionWithKernel e fee excess).map (fun t => (t.fee, t.excess, t.offset)) =
      (xTransactionWithKernel e' fee excess).map (fun t => (t.fee, t.excess, t.offset)) := by
  have q := baseOf_perm p
  have hs := sum_perm (((outputsOf_perm q).map Opening.blind).append ((excessesOf_perm q).filterMap bfSecretKey))
    ((inputsOf_perm q).map Opening.blind)
  simp only [xTransactionWithKernel_eq_finish, blinds, hs,
    finishTx_map _ (runX {} e').ins (runX {} e').outs (runX {} e).ins (runX {} e).outs, Option.map_map]
  rfl

theorem xTransactionWithKernel_eq (elems : List XStep) (fee excess : Nat) :
    xTransactionWithKernel elems fee excess =
      (transactionWithKernel (baseOf elems) fee excess).map fun t =>
        { t with ins := (runX {} elems).ins, outs := (runX {} elems).outs } := by
  rw [xTransactionWithKernel_eq_finish, transactionWithKernel_eq]
  exact finishTx_map _ _ _ _ _ _ _

theorem xbuilder_sum (elems : List XStep) (fee excess : Nat) (tx : Tx)
    (h : xTransactionWithKernel elems fee excess = some tx) :
    tx.ins = (runX {} elems).ins ∧ tx.outs = (runX {} elems).outs ∧
    tx.fee = fee ∧ tx.excess = excess ∧ excess < N ∧ tx.offset < N ∧
    (tx.excess + tx.offset) % N =
      rawSum (blinds (outputsOf (baseOf elems)) ++ (excessesOf (baseOf elems)).filterMap bfSecretKey)
        (blinds (inputsOf (baseOf elems))) := by
  rw [xTransactionWithKernel_eq] at h
  cases ht : transactionWithKernel (baseOf elems) fee excess with
  | none => rw [ht] at h; cases h
  | some t =>
    rw [ht] at h
    obtain ⟨_, _, hf, he, hel, hol, hs⟩ := builder_offset_sum (baseOf elems) fee excess t ht
    obtain rfl := Option.some.inj h
    exact ⟨rfl, rfl, hf, he, hel, hol, hs⟩

/-- **everything handed in is accounted for, in every order**: when the builder succeeds, kernel
excess + offset is the blind sum of ALL plain elements of the list — Σ output keys + Σ `with_excess`
factors − Σ input keys (mod n) — including those that stand before an `initial_tx`. -/
theorem xbuilder_offset_sum (elems : List XStep) (fee excess : Nat) (tx : Tx)
    (h : xTransactionWithKernel elems fee excess = some tx) :
    tx.fee = fee ∧ tx.excess = excess ∧
    (tx.excess + tx.offset) % N =
      rawSum (blinds (outputsOf (baseOf elems)) ++ (excessesOf (baseOf elems)).filterMap bfSecretKey)
        (blinds (inputsOf (baseOf elems))) := by
  obtain ⟨_, _, hf, he, _, _, hs⟩ := xbuilder_sum elems fee excess tx h
  exact ⟨hf, he, hs⟩

/-- **the body is what the LAST `initial_tx` and the elements after it make**: inputs and outputs
handed in before an `initial_tx` are not in the finished transaction (their keys stay in the sum). -/
theorem body_after_initial_tx (st : BuildSt) (pre post : List XStep) (i o : List Opening) :
    (runX st (pre ++ .initialTx i o :: post)).ins = (runX { ins := i, outs := o } post).ins ∧
    (runX st (pre ++ .initialTx i o :: post)).outs = (runX { ins := i, outs := o } post).outs := by
  simp only [runX, foldl_append, foldl_cons]
  exact runX_body_indep post _ _ rfl rfl

/-- **the two-party shape validates wherever the `with_excess` stands**: element list
`pre ++ [initial_tx(tx₀)] ++ post` with only `with_excess` elements in `pre` (any number, also
none), anything plain in `post`; pairwise different openings, values that balance, and extra
factors that sum to the blind sum of `tx₀` (the sender's `with_excess(blind_sum₀)`, before or after
`initial_tx`).  Then the finished transaction has the body `tx₀ + post` and satisfies the kernel-sum
equation. -/
theorem exchange_balances (pre post : List Step) (i0 o0 : List Opening) (fee excess : Nat) (tx : Tx)
    (hpre : inputsOf pre = [] ∧ outputsOf pre = [])
    (h : xTransactionWithKernel (pre.map .base ++ .initialTx i0 o0 :: post.map .base) fee excess = some tx)
    (hi : (i0 ++ inputsOf post).Nodup) (ho : (o0 ++ outputsOf post).Nodup)
    (hv : sumValues (i0 ++ inputsOf post) = sumValues (o0 ++ outputsOf post) + fee)
    (hx : rawSum ((excessesOf (pre ++ post)).filterMap bfSecretKey) [] = rawSum (blinds o0) (blinds i0)) :
    tx.ins = i0 ++ inputsOf post ∧ tx.outs = o0 ++ outputsOf post ∧ txBalances tx = true := by
  obtain ⟨hti, hto, hf, he, hel, hol, hs⟩ := xbuilder_sum _ fee excess tx h
  have hb : baseOf (pre.map XStep.base ++ XStep.initialTx i0 o0 :: post.map XStep.base) = pre ++ post := by
    rw [baseOf_append]; simp [baseOf, baseOf_map_base]
  have hbody := body_after_initial_tx {} (pre.map .base) (post.map .base) i0 o0
  rw [runX_base] at hbody
  obtain ⟨b1, b2⟩ := runSteps_body { ins := i0, outs := o0 } post hi ho
  have e1 : tx.ins = i0 ++ inputsOf post := by rw [hti, hbody.1, b1]
  have e2 : tx.outs = o0 ++ outputsOf post := by rw [hto, hbody.2, b2]
  refine ⟨e1, e2, ?_⟩
  rw [hb, inputsOf_append, outputsOf_append, hpre.1, hpre.2, nil_append, nil_append] at hs
  rw [txBalances_iff (he ▸ hel) hol, e1, e2, hf, hv]
  refine ⟨rfl, ?_⟩
  -- both sides are the blind sum of `tx₀` plus that of `post`
  rw [hs, blinds, blinds, map_append, map_append, rawSum_append,
    ← append_nil (blinds (inputsOf post)), rawSum_append, hx, Nat.add_comm]
  rfl

/-- **an observation about the code: inputs / outputs handed in BEFORE `initial_tx` are lost from the
body but not from the sum**, so such an order does not validate — `[output, initial_tx]` versus
`[initial_tx, output]` (kernel-checked): same blind sum, same offset, different body, and only the
second satisfies the kernel-sum equation. -/
theorem initial_tx_after_output_drops_it :
    (xTransactionWithKernel [.base (.output ⟨5, 11⟩), .initialTx [⟨7, 3⟩] []] 2 4).map txBalances = some false ∧
    (xTransactionWithKernel [.initialTx [⟨7, 3⟩] [], .base (.output ⟨5, 11⟩), .base (.withExcess (N - 3))] 2 4).map txBalances
      = some true ∧
    (xTransactionWithKernel [.base (.withExcess (N - 3)), .initialTx [⟨7, 3⟩] [], .base (.output ⟨5, 11⟩)] 2 4).map txBalances
      = some true := by
  refine ⟨by decide, by decide, by decide⟩

/-- **`with_excess` may stand anywhere as far as the body is concerned**: the inputs and outputs of
the finished transaction are those of the list with every `with_excess` removed (and by
`builder_offset_perm` the offset does not depend on where it stands either). -/
theorem body_ignores_with_excess (elems : List XStep) (st : BuildSt) :
    (runX st elems).ins = (runX st (elems.filter (fun e => !isExcess e))).ins ∧
    (runX st elems).outs = (runX st (elems.filter (fun e => !isExcess e))).outs := by
  induction elems generalizing st with
  | nil => exact ⟨rfl, rfl⟩
  | cons e r ih =>
    cases he : isExcess e
    · simp only [runX, foldl_cons, filter_cons, he, Bool.not_false, if_true]
      exact ih (xstep st e)
    · simp only [runX, foldl_cons, filter_cons, he, Bool.not_true, Bool.false_eq_true, if_false]
      -- a `with_excess` leaves the body as it is
      have hb : (xstep st e).ins = st.ins ∧ (xstep st e).outs = st.outs := by
        cases e with
        | base s => cases s <;> simp_all [isExcess, xstep, step]
        | initialTx i o => simp [isExcess] at he
      obtain ⟨h1, h2⟩ := runX_body_indep r (xstep st e) st hb.1 hb.2
      obtain ⟨h3, h4⟩ := ih st
      exact ⟨h1.trans h3, h2.trans h4⟩

/-- **`partial_transaction(base, elems)`: the base transaction contributes nothing to the blinding
sum** — the sum returned is that of the elements alone, whatever body the fold starts from (the
blinding of the base has to be handed in with `with_excess`). -/
theorem partial_sum_ignores_base (bi bo : List Opening) (elems : List XStep) :
    (xPartialTransaction bi bo elems).2.2 = (xPartialTransaction [] [] elems).2.2 := by
  simp only [xPartialTransaction, runX_blindSum]

/-- **an `initial_tx` among the elements replaces the base as well**: the body
`partial_transaction(base, pre ++ [initial_tx(tx)] ++ post)` returns is the one
`partial_transaction(tx, post)` returns. -/
theorem partial_base_replaced (bi bo i o : List Opening) (pre post : List XStep) :
    (xPartialTransaction bi bo (pre ++ .initialTx i o :: post)).1 = (xPartialTransaction i o post).1 ∧
    (xPartialTransaction bi bo (pre ++ .initialTx i o :: post)).2.1 = (xPartialTransaction i o post).2.1 := by
  have h := body_after_initial_tx { ins := bi, outs := bo } pre post i o
  simp only [xPartialTransaction]
  exact h

/-- non-vacuity: a base with one input, elements `[with_excess, output, with_excess]` -/
example : (xPartialTransaction [⟨7, 3⟩] [] [.base (.withExcess 5), .base (.output ⟨4, 11⟩), .base (.withExcess 2)]).1 = [⟨7, 3⟩] ∧
    (xPartialTransaction [⟨7, 3⟩] [] [.base (.withExcess 5), .base (.output ⟨4, 11⟩), .base (.withExcess 2)]).2.2 = .ok 18 := by
  refine ⟨by decide, by decide⟩

/-- **the final offset is assigned, not added**: `transaction_with_kernel` gives the same transaction
— body, fee, excess and OFFSET — whatever offsets the transactions installed by `initial_tx` carry
(a partial transaction with zero offset or a finished `build::transaction` result with a random
one); only the steps matter. -/
theorem final_offset_ignores_initial_offset (elems elems' : List XElem) (fee excess : Nat)
    (h : elems.map (·.step) = elems'.map (·.step)) :
    xTransactionWithKernelO elems fee excess = xTransactionWithKernelO elems' fee excess := by
  unfold xTransactionWithKernelO; rw [h]

/-- … in particular with every initial offset replaced by zero -/
theorem final_offset_as_with_zero_initial_offset (elems : List XElem) (fee excess : Nat) :
    xTransactionWithKernelO elems fee excess =
      xTransactionWithKernelO (elems.map fun e => { e with txOffset := 0 }) fee excess :=
  final_offset_ignores_initial_offset _ _ fee excess (by simp [Function.comp_def])

/-- **the two-party shape validates whatever offset the first party's transaction carries**:
`exchange_balances` for an initial transaction with any offset `f0`. -/
theorem exchange_balances_any_initial_offset (pre post : List Step) (i0 o0 : List Opening) (f0 fee excess : Nat) (tx : Tx)
    (hpre : inputsOf pre = [] ∧ outputsOf pre = [])
    (h : xTransactionWithKernelO
      (pre.map (fun s => ⟨.base s, 0⟩) ++ ⟨.initialTx i0 o0, f0⟩ :: post.map (fun s => ⟨.base s, 0⟩)) fee excess = some tx)
    (hi : (i0 ++ inputsOf post).Nodup) (ho : (o0 ++ outputsOf post).Nodup)
    (hv : sumValues (i0 ++ inputsOf post) = sumValues (o0 ++ outputsOf post) + fee)
    (hx : rawSum ((excessesOf (pre ++ post)).filterMap bfSecretKey) [] = rawSum (blinds o0) (blinds i0)) :
    tx.ins = i0 ++ inputsOf post ∧ tx.outs = o0 ++ outputsOf post ∧ txBalances tx = true := by
  apply exchange_balances pre post i0 o0 fee excess tx hpre _ hi ho hv hx
  unfold xTransactionWithKernelO at h
  simpa [Function.comp_def] using h

/-- what `partial_transaction` hands back: the offset of the LAST `initial_tx`, the base's if there is none -/
theorem partial_offset (start : Nat) (pre post : List XElem) (i o : List Opening) (f : Nat)
    (hpost : ∀ e ∈ post, ∃ s, e.step = .base s) :
    foldTxOffset start (pre ++ ⟨.initialTx i o, f⟩ :: post) = f ∧
    (∀ (l : List XElem), (∀ e ∈ l, ∃ s, e.step = .base s) → foldTxOffset start l = start) := by
  have hbase : ∀ (l : List XElem) (st : Nat), (∀ e ∈ l, ∃ s, e.step = .base s) → foldTxOffset st l = st := by
    intro l
    induction l with
    | nil => intro st _; rfl
    | cons e r ih =>
      intro st h
      obtain ⟨s, hs⟩ := h e mem_cons_self
      obtain ⟨stp, fo⟩ := e
      simp only at hs
      subst hs
      simp only [foldTxOffset]
      exact ih st (fun x hx => h x (mem_cons_of_mem _ hx))
  refine ⟨?_, fun l hl => hbase l start hl⟩
  induction pre generalizing start with
  | nil => simp only [nil_append, foldTxOffset]; exact hbase post f hpost
  | cons e r ih =>
    obtain ⟨stp, fo⟩ := e
    cases stp with
    | base s => simp only [cons_append, foldTxOffset]; exact ih start
    | initialTx a b => simp only [cons_append, foldTxOffset]; exact ih fo

/-- non-vacuity: the same steps with initial offsets 0 and 77 give the same finished transaction -/
example : xTransactionWithKernelO [⟨.initialTx [⟨7, 3⟩] [], 77⟩, ⟨.base (.output ⟨5, 11⟩), 0⟩, ⟨.base (.withExcess (N - 3)), 0⟩] 2 4 =
    xTransactionWithKernelO [⟨.initialTx [⟨7, 3⟩] [], 0⟩, ⟨.base (.output ⟨5, 11⟩), 0⟩, ⟨.base (.withExcess (N - 3)), 0⟩] 2 4 := by
  decide

end GV.Props.C20
