import GrinVerif.Model.SerTx
import GrinVerif.Model.Pool
import GrinVerif.Gen.FnsTx
import GrinVerif.Lemmas.BasicWrap
import GrinVerif.Lemmas.XlateArith
/-! # Translated weight / fee-field helpers of `core/src/core/transaction.rs` = hand-written models

`GV.Gen.Fns.*` (file `Gen/FnsTx.lean`) is regenerated on every check run from the CURRENT Rust
source by `tools/rs2lean.py`.  `FeeFields(u64)` is a newtype: `self.0` is the parameter `self_0`. -/

namespace GV.Props.XlateTx
open GV GV.Gen GV.Xlate

/-- `TransactionBody::weight_by_iok` for all u64 counts (saturating arithmetic on both sides) -/
theorem body_weight_by_iok_eq (ni no nk : Nat) :
    Fns.TransactionBody_weight_by_iok ni no nk = GV.Ser.weightByIok ni no nk := by
  simp [Fns.TransactionBody_weight_by_iok, GV.Ser.weightByIok, Fns.satAddN, Fns.satMulN, GV.Ser.satAdd,
    GV.Ser.satMul, U64MAX]

theorem tx_weight_by_iok_eq (ni no nk : Nat) :
    Fns.Transaction_weight_by_iok ni no nk = GV.Ser.weightByIok ni no nk := by
  unfold Fns.Transaction_weight_by_iok; exact body_weight_by_iok_eq ni no nk

theorem weight_by_iok_in_range (i o k : Nat) (h : i + 21 * o + 3 * k < 2^64) :
    Fns.Transaction_weight_by_iok i o k = i + 21 * o + 3 * k := by
  have hi : INPUT_WEIGHT = 1 := by decide
  have ho : OUTPUT_WEIGHT = 21 := by decide
  have hk : KERNEL_WEIGHT = 3 := by decide
  simp only [Fns.Transaction_weight_by_iok, Fns.TransactionBody_weight_by_iok, Fns.satAddN, Fns.satMulN,
    hi, ho, hk]
  omega

/-- the pool model's unsaturated `Tx.weight` is the code's weight whenever it fits a u64 -/
theorem pool_weight_eq (t : GV.Pool.Tx)
    (h : t.ins.length * 1 + t.outs.length * 21 + t.kers.length * 3 < 2^64) :
    Fns.Transaction_weight_by_iok t.ins.length t.outs.length t.kers.length = t.weight := by
  rw [weight_by_iok_in_range _ _ _ (by omega)]
  unfold GV.Pool.Tx.weight
  omega

example : Fns.TransactionBody_weight_by_iok 2 2 1 = 47
    ∧ Fns.TransactionBody_weight_by_iok (2^64 - 1) 5 5 = 2^64 - 1 := by decide

/-! ## `FeeFields` — bit layout `{ future_use: 20, fee_shift: 4, fee: 40 }`

The pool / chain models carry `fee` and `fee_shift` of a kernel as separate fields (the harness
splits the u64); these theorems state that the code's accessors are that split. -/

theorem fee_mask_val : Fns.FeeFields_FEE_MASK = 2^40 - 1 := by decide
theorem fee_shift_mask_val : Fns.FeeFields_FEE_SHIFT_MASK = 2^4 - 1 := by decide

/-- `FeeFields::fee()` = the low 40 bits -/
theorem fee_eq (x : Nat) : Fns.FeeFields_fee x = x % 2^40 := by
  unfold Fns.FeeFields_fee
  rw [fee_mask_val, Nat.and_two_pow_sub_one_eq_mod]

/-- `FeeFields::fee_shift()` = bits 40..43 (the `as u8` truncation is vacuous) -/
theorem fee_shift_eq (x : Nat) : Fns.FeeFields_fee_shift x = x / 2^40 % 16 := by
  unfold Fns.FeeFields_fee_shift
  have hs : shrW x Fns.FeeFields_FEE_BITS = x / 2^40 := shrW_eq (s := 40) (by decide)
  rw [hs, fee_shift_mask_val, Nat.and_two_pow_sub_one_eq_mod]
  exact castN_eq (by omega)

/-- `FeeFields::is_zero()` / `as_opt()` -/
theorem as_opt_eq (x : Nat) : Fns.FeeFields_as_opt x = if x = 0 then none else some x := by
  unfold Fns.FeeFields_as_opt Fns.FeeFields_is_zero
  by_cases h : x = 0 <;> simp [h]

example : Fns.FeeFields_fee (3 * 2^40 + 500000) = 500000 ∧ Fns.FeeFields_fee_shift (3 * 2^40 + 500000) = 3
    ∧ Fns.FeeFields_as_opt 0 = none := by
  refine ⟨?_, ?_, ?_⟩
  · rw [fee_eq]
  · rw [fee_shift_eq]
  · rw [as_opt_eq]; rfl

end GV.Props.XlateTx
