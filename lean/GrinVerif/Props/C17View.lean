import GrinVerif.Lemmas.ConcCommit
/-! # C17 — "data read under one view is mutually consistent", for any number of writers and readers

The commit-protocol model of `Model/Conc.lean` (`Conc.Commit`) has any number of writer threads (by id)
and any number of readers inside the txhashset lock (`TsLock.readers n`, n unbounded).
`Props/C17.lean` proves that every single observation is a state of the commit history.  This file adds
the statement about a whole VIEW — everything any reader reads between taking `txhashset.read()` and
releasing it: while the lock is read-held no step of ANY thread (other readers arriving or leaving,
lock-free readers, writers trying) changes the shared state, the commit count or the history; hence all
reads made inside one view, by however many readers, return the same committed state.  Harness tie: the
`View` / `HeaderView` oracles of `conc mix|long|race|zipwin|resets|tie` (roots and sizes under one guard
= those of the LMDB head header read under the same guard). -/
namespace GV.Props.C17View
open GV.Conc GV.Conc.Commit
variable {D M : Type}

/-- **While a reader holds the lock nothing moves.**  In any reachable state whose txhashset lock is
read-held (by `n ≥ 1` readers), whatever step is taken next - by any thread - leaves the shared (LMDB,
MMR) state, the number of committed ops and the history unchanged, every writer is (still) idle, and
the lock is free or read-held afterwards. -/
theorem readers_freeze_state (s0 : Shared D M) (s s' : St D M) (log : List (Nat × Obs D M))
    (o : Option (Obs D M)) (hr : Run s0 s log) (n : Nat) (hts : s.ts = .readers n) (hs : CStep s o s') :
    s'.sh = s.sh ∧ s'.k = s.k ∧ s'.hist = s.hist ∧ (∀ tid, s'.wr tid = .idle) ∧
      (s'.ts = .free ∨ ∃ m, s'.ts = .readers m) := by
  have hi := cinv_run s0 s log hr
  have hall : ∀ tid, s.wr tid = .idle :=
    all_idle_of_not_writer hi (by simp [hts])
  cases hs with
  | wlock _ hfree _ | rlock0 hfree => rw [hts] at hfree; cases hfree
  | work tid _ _ _ hw | sync tid _ _ hw | commit tid _ _ hw | abort tid _ _ hw | wunlock tid hw =>
    rw [hall tid] at hw; cases hw
  | rlock m hm => exact ⟨rfl, rfl, rfl, hall, Or.inr ⟨m + 1, rfl⟩⟩
  | rread m hm => exact ⟨rfl, rfl, rfl, hall, Or.inr ⟨n, hts⟩⟩
  | runlock1 h1 => exact ⟨rfl, rfl, rfl, hall, Or.inl rfl⟩
  | runlock m hm => exact ⟨rfl, rfl, rfl, hall, Or.inr ⟨m + 1, rfl⟩⟩
  | lfread => exact ⟨rfl, rfl, rfl, hall, Or.inr ⟨n, hts⟩⟩

/-- a stretch of steps during which the lock stays read-held (one view of some reader: from a state
inside its guard to a later state inside the same guard) -/
inductive InView : St D M → St D M → Prop where
  | refl (s : St D M) : InView s s
  | step {s s1 s2 : St D M} {o : Option (Obs D M)} {n : Nat} :
      InView s s1 → s1.ts = .readers n → CStep s1 o s2 → InView s s2

/-- **One view = one committed state.**  From any reachable state, along any stretch of steps of any
threads during which the txhashset lock stays read-held, the shared state, the commit count and the
history at the end are those at the beginning. -/
theorem view_is_stable (s0 : Shared D M) (s s' : St D M) (log : List (Nat × Obs D M)) (hr : Run s0 s log)
    (hv : InView s s') : (s'.sh = s.sh ∧ s'.k = s.k ∧ s'.hist = s.hist) ∧ ∃ log', Run s0 s' log' := by
  induction hv with
  | refl => exact ⟨⟨rfl, rfl, rfl⟩, log, hr⟩
  | @step s1 s2 o n _ hts hs ih =>
    obtain ⟨⟨h1, h2, h3⟩, log1, hr1⟩ := ih
    obtain ⟨a, b, c, _, _⟩ := readers_freeze_state s0 s1 s2 log1 o hr1 n hts hs
    refine ⟨⟨a.trans h1, b.trans h2, c.trans h3⟩, ?_⟩
    cases o with
    | none => exact ⟨log1, Run.silent hr1 hs⟩
    | some ob => exact ⟨_, Run.obs hr1 hs⟩

/-- … so any two reads under the lock inside one view - by the same reader or by different readers -
return the same (LMDB, MMR) pair, and it is the state after exactly the ops committed when the view
began. -/
theorem view_reads_agree (s0 : Shared D M) (s s' t t' : St D M) (log : List (Nat × Obs D M)) (hr : Run s0 s log)
    (hv : InView s s') (d d' : D) (m m' : M)
    (h1 : CStep s (some (.locked d m)) t) (h2 : CStep s' (some (.locked d' m')) t') :
    d = d' ∧ m = m' ∧ ∃ c, s.hist.reverse[s.k]? = some c ∧ d = c.db ∧ m = c.mmr := by
  obtain ⟨⟨hsh, _, _⟩, _⟩ := view_is_stable s0 s s' log hr hv
  cases h1 with
  | rread n hn =>
    cases h2 with
    | rread n' hn' =>
      exact ⟨by rw [hsh], by rw [hsh], obs_now s0 s s _ (cinv_run s0 s log hr) (.rread s n hn)⟩

/-- **Writers never overlap**: in any reachable state at most one thread is past the lock step of a
writer op (working, synced or committed-not-yet-unlocked) - however many writer threads there are. -/
theorem two_writers_never_overlap (s0 : Shared D M) (s : St D M) (log : List (Nat × Obs D M)) (hr : Run s0 s log)
    (i j : Nat) (hi : s.wr i ≠ .idle) (hj : s.wr j ≠ .idle) : i = j :=
  only_writer (cinv_run s0 s log hr) hj hi

/-- non-vacuity: a run in which two readers are inside the lock, a lock-free reader reads in between, one
reader leaves, and the remaining reader reads again: the stretch is `InView`, both reads agree -/
example : ∃ (s s' : St Nat Nat) (log : List (Nat × Obs Nat Nat)), Run ⟨3, 4⟩ s log ∧ InView s s' ∧
    s.ts = .readers 2 ∧ s'.ts = .readers 1 ∧
    CStep s (some (.locked 3 4)) s ∧ CStep s' (some (.locked 3 4)) s' := by
  let s0 : Shared Nat Nat := ⟨3, 4⟩
  have r1 := Run.silent (Run.nil (s0 := s0)) (CStep.rlock0 _ rfl)
  have r2 := Run.silent r1 (CStep.rlock _ 1 rfl)
  have v1 := InView.step (n := 2) (InView.refl _) rfl (CStep.lfread ({ (start s0) with ts := .readers 2 }))
  have v2 := InView.step (n := 2) v1 rfl (CStep.runlock _ 0 rfl)
  exact ⟨_, _, _, r2, v2, rfl, rfl, CStep.rread _ 2 rfl, CStep.rread _ 1 rfl⟩

end GV.Props.C17View
