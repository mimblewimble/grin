import GrinVerif.Lemmas.SerBodyRt
import GrinVerif.Lemmas.SerMsgRt
/-! # C10 — MMR segments, bitmap segments, handshake and sync messages

Property theorems about `Model/SerSeg.lean` and `Model/SerMsg.lean`, which the correspondence run
(`ser seg`, `ser bitmap`, `ser msg`) ties byte for byte to `core/src/core/pmmr/segment.rs`,
`chain/src/txhashset/bitmap_accumulator.rs`, `p2p/src/msg.rs` and `p2p/src/types.rs`.

Per type `X`: `X_roundtrip : WF x → dec (enc x ++ rest) = .ok (norm x, rest)` (all values in `WF`,
every continuation; `norm` is the identity except for `PeerAddr` and what contains it — stated where);
refusal theorems for the canonical-form rules; "accepted ⇒ canonical" where the code has that
property; and, where it has **not**, a theorem that says exactly what the code does plus a
kernel-checked concrete witness (`…_witness`), each reproduced on the real decoder by the harness
(`#KNOWN-PROBE C10 …`). -/
namespace GV.Props.C10Msg
open GV GV.Ser GV.SerSeg GV.SerMsg

/-! ## SegmentIdentifier, SegmentProof -/

theorem segId_roundtrip (s : SegId) (h : s.WF) (rest : Bytes) :
    decSegId (encSegId s ++ rest) = .ok (s, rest) := codec_segId.rt s h rest

theorem segId_accepts_only_canonical {bs : Bytes} {s : SegId} {r : Bytes} (hb : AllBytes bs)
    (h : decSegId bs = .ok (s, r)) : bs = encSegId s ++ r ∧ s.WF := codec_segId.inv hb h

example : ({ height := 255, idx := 2^64 - 1 } : SegId).WF := by decide

/-- up to `MAX_SEGMENT_READ_ITEMS` hashes of 32 bytes -/
theorem segProof_roundtrip (hs : List Bytes) (h : HashesWF hs) (rest : Bytes) :
    decSegProof (encSegProof hs ++ rest) = .ok (hs, rest) := codec_segProof.rt hs h rest

theorem segProof_count_cap (n : Nat) (h64 : n < 2^64) (h : n > MAX_SEGMENT_READ_ITEMS) (rest : Bytes) :
    decSegProof (writeU64 n ++ rest) = .error .tooLarge := by
  rw [decSegProof, readItemCount_tooLarge n h64 h, andThen_error]

theorem segProof_accepts_only_canonical {bs : Bytes} {hs : List Bytes} {r : Bytes} (hb : AllBytes bs)
    (h : decSegProof bs = .ok (hs, r)) : bs = encSegProof hs ++ r ∧ HashesWF hs := codec_segProof.inv hb h

example : HashesWF [List.replicate 32 7, List.replicate 32 0] := by
  refine ⟨?_, by decide⟩
  intro h hh
  simp only [List.mem_cons, List.not_mem_nil, or_false] at hh
  rcases hh with rfl | rfl <;> rfl

/-! ## Segment<T> -/

/-- the position rule in plain words: `PosOK 0` = strictly increasing and every `1 + pos` a `u64` -/
theorem segment_positions_rule (ps : List Nat) :
    PosOK 0 ps ↔ ps.Pairwise (· < ·) ∧ ∀ p ∈ ps, p + 1 < 2^64 := posOK_zero_iff ps

/-- … and on the wire: strictly increasing 1-based values, the first above 0 -/
theorem segment_wire_positions_rule (ws : List Nat) : WireOK 0 ws ↔ (0 :: ws).Pairwise (· < ·) :=
  wireOK_zero_iff ws

/-- `Segment<T>` for any leaf type whose own codec round-trips: identifier, pruned-subtree hashes with
strictly increasing positions, leaves with strictly increasing positions, proof. -/
theorem segment_roundtrip {α : Type} (p : Parser α) (w : α → Bytes) (s : Segment α) (h : s.WF)
    (hrt : ∀ x ∈ s.leafData, ∀ rest, p (w x ++ rest) = .ok (x, rest)) (rest : Bytes) :
    decSegment p (encSegment w s ++ rest) = .ok (s, rest) := decSegment_enc p w s h hrt rest

/-- output segments (`Segment<OutputIdentifier>`) -/
theorem outputSegment_roundtrip (s : Segment OutputId) (h : s.WF) (hl : ∀ o ∈ s.leafData, o.WF) (rest : Bytes) :
    decSegment decOutputId (encSegment encOutputId s ++ rest) = .ok (s, rest) :=
  decSegment_enc _ _ s h (fun x hx => Wire.wire_outputId.codec.leafRt (hl x hx)) rest

/-- range-proof segments (`Segment<RangeProof>`, proofs with `plen = 675`) -/
theorem rangeProofSegment_roundtrip (s : Segment RangeProof) (h : s.WF) (hl : ∀ o ∈ s.leafData, o.WF) (rest : Bytes) :
    decSegment decRangeProof (encSegment encRangeProof s ++ rest) = .ok (s, rest) :=
  decSegment_enc _ _ s h (fun x hx r => decRangeProof_enc x (hl x hx) r) rest

/-- kernel segments (`Segment<TxKernel>`) under every protocol version (v1 fixed-size and v2
variable-size kernel features) and NRD flag setting -/
theorem kernelSegment_roundtrip (c : Cfg) (s : Segment TxKernel) (h : s.WF) (hl : ∀ k ∈ s.leafData, k.WF c.nrd)
    (rest : Bytes) :
    decSegment (decTxKernel c) (encSegment (encTxKernel c.ver .full) s ++ rest) = .ok (s, rest) :=
  decSegment_enc _ _ s h (fun x hx => (Wire.wire_txKernel c).codec.leafRt (hl x hx)) rest

example : ({ id := { height := 11, idx := 3 }, hashPos := [0, 6], hashes := [List.replicate 32 1, List.replicate 32 2],
             leafPos := [7, 8, 2^64 - 2],
             leafData := [⟨.plain, List.replicate 33 9⟩, ⟨.coinbase, List.replicate 33 8⟩, ⟨.plain, List.replicate 33 7⟩],
             proof := [List.replicate 32 5] } : Segment OutputId).WF := by
  refine ⟨by decide, rfl, by decide, ⟨?_, by decide⟩, rfl, by decide, by decide, ⟨?_, by decide⟩⟩
  · intro h hh
    simp only [List.mem_cons, List.not_mem_nil, or_false] at hh
    rcases hh with rfl | rfl <;> rfl
  · intro h hh
    simp only [List.mem_cons, List.not_mem_nil, or_false] at hh
    subst hh; rfl

/-- Hash positions that are not strictly increasing (or a first position of 0 on the wire) are refused
with `SortError` — not re-sorted, not de-duplicated. -/
theorem segment_hash_positions_not_increasing_refused {α : Type} (p : Parser α) (id : SegId) (hid : id.WF)
    (ws : List Nat) (hc : ws.length ≤ MAX_SEGMENT_READ_ITEMS) (hb : ∀ w ∈ ws, w < 2^64)
    (h : ¬ (0 :: ws).Pairwise (· < ·)) (rest : Bytes) :
    decSegment p (encSegId id ++ (writeU64 ws.length ++ (writeMulti writeU64 ws ++ rest))) = .error .sort :=
  decSegment_hashPos_unsorted p id hid ws hc hb (fun hw => h ((wireOK_zero_iff ws).mp hw)) rest

/-- The same for leaf positions (after a well-formed hash part). -/
theorem segment_leaf_positions_not_increasing_refused {α : Type} (p : Parser α) (id : SegId) (hid : id.WF)
    (hp : List Nat) (hs : List Bytes) (hl : hp.length = hs.length) (hpo : PosOK 0 hp) (hh : HashesWF hs)
    (ws : List Nat) (hc : ws.length ≤ MAX_SEGMENT_READ_ITEMS) (hb : ∀ w ∈ ws, w < 2^64)
    (h : ¬ (0 :: ws).Pairwise (· < ·)) (rest : Bytes) :
    decSegment p (encSegId id ++ (writeU64 hs.length ++ (writeMulti encPos hp ++ (writeMulti writeFixed hs
      ++ (writeU64 ws.length ++ (writeMulti writeU64 ws ++ rest)))))) = .error .sort :=
  decSegment_leafPos_unsorted p id hid hp hs hl hpo hh ws hc hb (fun hw => h ((wireOK_zero_iff ws).mp hw)) rest

example : ¬ (0 :: [5, 5, 9]).Pairwise (· < ·) := by decide
example : ¬ (0 :: [0, 3]).Pairwise (· < ·) := by decide

/-- Counts over `MAX_SEGMENT_READ_ITEMS` are refused before any item is read. -/
theorem segment_hash_count_cap {α : Type} (p : Parser α) (id : SegId) (hid : id.WF) (n : Nat)
    (h64 : n < 2^64) (h : n > MAX_SEGMENT_READ_ITEMS) (rest : Bytes) :
    decSegment p (encSegId id ++ (writeU64 n ++ rest)) = .error .tooLarge := by
  rw [decSegment, codec_segId.rt _ hid, andThen_ok, readItemCount_tooLarge n h64 h, andThen_error]

theorem segment_leaf_count_cap {α : Type} (p : Parser α) (id : SegId) (hid : id.WF)
    (hp : List Nat) (hs : List Bytes) (hl : hp.length = hs.length) (hpo : PosOK 0 hp) (hh : HashesWF hs)
    (n : Nat) (h64 : n < 2^64) (h : n > MAX_SEGMENT_READ_ITEMS) (rest : Bytes) :
    decSegment p (encSegId id ++ (writeU64 hs.length ++ (writeMulti encPos hp ++ (writeMulti writeFixed hs
      ++ (writeU64 n ++ rest))))) = .error .tooLarge := by
  have r1 := readPositions_write hp hpo
  rw [hl] at r1
  rw [decSegment, codec_segId.rt _ hid, andThen_ok, wire_itemCount.rt _ hh.2, andThen_ok, r1, andThen_ok,
    readItems_write decHash writeFixed hs (fun x hx => Wire.wire_hash.codec.leafRt (hh.1 x hx)), andThen_ok,
    readItemCount_tooLarge n h64 h, andThen_error]

/-- Canonical form, for **every** byte string: if the leaf reader only accepts canonical encodings then
whatever `Segment<T>::read` accepts is byte for byte the encoding of the returned segment, whose
positions are strictly increasing and whose counts are the list lengths. -/
theorem segment_accepts_only_canonical {α : Type} {p : Parser α} {w : α → Bytes} {P : α → Prop}
    (hp : ∀ bs x r, AllBytes bs → p bs = .ok (x, r) → bs = w x ++ r ∧ P x)
    {bs : Bytes} {s : Segment α} {r : Bytes} (hb : AllBytes bs) (h : decSegment p bs = .ok (s, r)) :
    bs = encSegment w s ++ r ∧ s.WF ∧ ∀ x ∈ s.leafData, P x :=
  decSegment_inv (hp _ _ _) hb h

theorem outputSegment_accepts_only_canonical {bs : Bytes} {s : Segment OutputId} {r : Bytes} (hb : AllBytes bs)
    (h : decSegment decOutputId bs = .ok (s, r)) :
    bs = encSegment encOutputId s ++ r ∧ s.WF ∧ ∀ o ∈ s.leafData, o.WF :=
  decSegment_inv (fun _ hd => Wire.wire_outputId.inv' hd) hb h

theorem kernelSegment_accepts_only_canonical {c : Cfg} {bs : Bytes} {s : Segment TxKernel} {r : Bytes}
    (hb : AllBytes bs) (h : decSegment (decTxKernel c) bs = .ok (s, r)) :
    bs = encSegment (encTxKernel c.ver .full) s ++ r ∧ s.WF ∧ ∀ k ∈ s.leafData, k.WF c.nrd :=
  decSegment_inv ((Wire.wire_txKernel c).inv) hb h

/-! ## BitmapBlock: three modes and the threshold rule -/

/-- every block of up to 64 chunks round-trips, whichever of the three modes the threshold rule picks -/
theorem bitmapBlock_roundtrip (b : BitmapBlock) (h : b.WF) (rest : Bytes) :
    decBitmapBlock (encBitmapBlock b ++ rest) = .ok (b, rest) := decBitmapBlock_enc b h rest

example : ({ nChunks := 1, v := 5 } : BitmapBlock).WF :=
  ⟨by decide, Nat.lt_of_lt_of_le (by decide : 5 < 2^3) (Nat.pow_le_pow_right (by omega) (by decide))⟩

/-- the threshold rule of the writer: positive indices iff fewer than 4096 bits are set, else negative
indices iff fewer than 4096 are clear, else raw bytes -/
theorem bitmapBlock_mode_rule (b : BitmapBlock) :
    ((encBitmapBlock b).drop 1).head? =
      some (if (setPositions b.nbits b.v).length < BLOCK_THRESHOLD then MODE_POSITIVE
            else if b.nbits - (setPositions b.nbits b.v).length < BLOCK_THRESHOLD then MODE_NEGATIVE
            else MODE_RAW) := by
  unfold encBitmapBlock
  simp only [writeU8, List.cons_append, List.nil_append, List.drop_succ_cons, List.drop_zero]
  split
  · rfl
  · split <;> rfl

theorem bitmapBlock_unknown_mode (n m : Nat) (hn : n ≤ BLOCK_NCHUNKS) (hm : 3 ≤ m) (r : Bytes) :
    decBitmapBlock (n :: m :: r) = .error .corrupted := by
  have hnc : ¬ n > BLOCK_NCHUNKS := by omega
  have h0 : ¬ m = 0 := by omega
  have h1 : ¬ m = 1 := by omega
  have h2 : ¬ m = 2 := by omega
  simp [decBitmapBlock, readU8, hnc, MODE_RAW, MODE_POSITIVE, MODE_NEGATIVE, h0, h1, h2]

theorem bitmapBlock_too_many_chunks (n : Nat) (h : n > BLOCK_NCHUNKS) (r : Bytes) :
    decBitmapBlock (n :: r) = .error .tooLarge := by
  simp [decBitmapBlock, readU8, h]

theorem bitmapBlock_index_out_of_range (n m : Nat) (hn : n ≤ BLOCK_NCHUNKS) (hm : m = 1 ∨ m = 2)
    (ps : List Nat) (hl : ps.length < 2^16) (h16 : ∀ p ∈ ps, p < 2^16)
    (h : ∃ p ∈ ps, p ≥ n * CHUNK_BITS) (rest : Bytes) :
    decBitmapBlock (n :: m :: (writeU16 ps.length ++ (writeMulti writeU16 ps ++ rest))) = .error .corrupted := by
  have hnc : ¬ n > BLOCK_NCHUNKS := by omega
  rcases hm with rfl | rfl
  · simp only [decBitmapBlock, readU8, andThen_ok, hnc, ↓reduceIte, MODE_RAW, MODE_POSITIVE,
      show ¬ (1 = 0) by omega]
    rw [readU16_write _ hl, andThen_ok, readBitPositions_out_of_range _ ps h16 h, andThen_error]
  · simp only [decBitmapBlock, readU8, andThen_ok, hnc, ↓reduceIte, MODE_RAW, MODE_POSITIVE, MODE_NEGATIVE,
      show ¬ (2 = 0) by omega, show ¬ (2 = 1) by omega]
    rw [readU16_write _ hl, andThen_ok, readBitPositions_out_of_range _ ps h16 h, andThen_error]

/-- What the reader does **not** refuse (the property as worded wants a refusal; the code normalises):
a positive index list decodes to the block with exactly those bits set, in whatever order the indices
come, with or without repetitions, and however many there are — so a block has many accepted
encodings besides the one the writer produces. -/
theorem bitmapBlock_positive_any_order (n : Nat) (hn : n ≤ BLOCK_NCHUNKS) (ps : List Nat)
    (hl : ps.length < 2^16) (hp : ∀ p ∈ ps, p < n * CHUNK_BITS) (rest : Bytes) :
    decBitmapBlock (n :: 1 :: (writeU16 ps.length ++ (writeMulti writeU16 ps ++ rest)))
      = .ok ({ nChunks := n, v := orBits (n * CHUNK_BITS) ps }, rest) := by
  have hnc : ¬ n > BLOCK_NCHUNKS := by omega
  have hnb : n * CHUNK_BITS ≤ 65536 := by unfold CHUNK_BITS; unfold BLOCK_NCHUNKS at hn; omega
  simp only [decBitmapBlock, readU8, andThen_ok, hnc, ↓reduceIte, MODE_RAW, MODE_POSITIVE,
    show ¬ (1 = 0) by omega]
  rw [readU16_write _ hl, andThen_ok, readBitPositions_write _ hnb ps hp, andThen_ok]

/-- witness: indices 5, 3 (descending) are accepted; the writer would have written 3, 5 -/
theorem bitmapBlock_unsorted_indices_accepted_witness :
    decBitmapBlock [1, 1, 0, 2, 0, 5, 0, 3] = .ok ({ nChunks := 1, v := 2^1018 + 2^1020 }, [])
    ∧ encBitmapBlock { nChunks := 1, v := 2^1018 + 2^1020 } = [1, 1, 0, 2, 0, 3, 0, 5] := by
  constructor <;> decide +kernel

/-- witness: a repeated index is accepted; the writer would have written it once -/
theorem bitmapBlock_repeated_index_accepted_witness :
    decBitmapBlock [1, 1, 0, 2, 0, 3, 0, 3] = .ok ({ nChunks := 1, v := 2^1020 }, [])
    ∧ encBitmapBlock { nChunks := 1, v := 2^1020 } = [1, 1, 0, 1, 0, 3] := by
  constructor <;> decide +kernel

/-- witness: the raw mode is accepted for a block the threshold rule writes with positive indices
(an all-zero chunk: 130 bytes in, 4 bytes out) -/
theorem bitmapBlock_raw_against_threshold_accepted_witness :
    decBitmapBlock (1 :: 0 :: List.replicate 128 0) = .ok ({ nChunks := 1, v := 0 }, [])
    ∧ encBitmapBlock { nChunks := 1, v := 0 } = [1, 1, 0, 0] := by
  constructor <;> decide +kernel

/-! ## BitmapSegment -/

theorem bitmapSegment_roundtrip (s : BitmapSegment) (h : s.WF) (rest : Bytes) :
    decBitmapSegment (encBitmapSegment s ++ rest) = .ok (s, rest) := decBitmapSegment_enc s h rest

example : ({ id := { height := 7, idx := 2 },
             blocks := [{ nChunks := 64, v := 1 }, { nChunks := 3, v := 0 }],
             proof := [] } : BitmapSegment).WF := by
  refine ⟨by decide, ⟨67, by decide +kernel⟩, ?_, ⟨by simp, by decide⟩⟩
  intro b hb
  simp only [List.mem_cons, List.not_mem_nil, or_false] at hb
  rcases hb with rfl | rfl
  · exact ⟨by decide, Nat.one_lt_two_pow (by decide)⟩
  · exact ⟨by decide, Nat.pow_pos (by omega)⟩

theorem bitmapSegment_zero_blocks (id : SegId) (hid : id.WF) (rest : Bytes) :
    decBitmapSegment (encSegId id ++ (writeU16 0 ++ rest)) = .error .corrupted := by
  rw [decBitmapSegment, codec_segId.rt _ hid, andThen_ok, readU16_write _ (by omega), andThen_ok]
  simp

theorem bitmapSegment_height_cap (id : SegId) (hid : id.WF) (hh : id.height > MAX_BITMAP_SEGMENT_HEIGHT)
    (nb : Nat) (hnb : nb < 2^16) (hnz : nb ≠ 0) (rest : Bytes) :
    decBitmapSegment (encSegId id ++ (writeU16 nb ++ rest)) = .error .tooLarge := by
  rw [decBitmapSegment, codec_segId.rt _ hid, andThen_ok, readU16_write _ hnb, andThen_ok]
  simp [hnz, maxChunks, hh]

/-- more blocks than `ceil(2^height / 64)`: refused before a block is read -/
theorem bitmapSegment_block_count_vs_identifier (id : SegId) (hid : id.WF)
    (hh : id.height ≤ MAX_BITMAP_SEGMENT_HEIGHT) (nb : Nat) (hnb : nb < 2^16)
    (hover : nb > (2^id.height + BLOCK_NCHUNKS - 1) / BLOCK_NCHUNKS) (rest : Bytes) :
    decBitmapSegment (encSegId id ++ (writeU16 nb ++ rest)) = .error .tooLarge := by
  have hnz : ¬ nb = 0 := Nat.ne_of_gt (Nat.lt_of_le_of_lt (Nat.zero_le _) hover)
  have hh' : ¬ id.height > MAX_BITMAP_SEGMENT_HEIGHT := by omega
  rw [decBitmapSegment, codec_segId.rt _ hid, andThen_ok, readU16_write _ hnb, andThen_ok]
  simp [hnz, maxChunks, hh', hover]

/-- block / chunk counts inconsistent with each other or with the identifier: the reader's answer is
`validate_blocks`' answer on the blocks it read … -/
theorem bitmapSegment_inconsistent_blocks_refused (id : SegId) (hid : id.WF) (blocks : List BitmapBlock)
    (hb : ∀ b ∈ blocks, b.WF) (hh : id.height ≤ MAX_BITMAP_SEGMENT_HEIGHT)
    (hnz : blocks.length ≠ 0) (hmax : blocks.length ≤ (2^id.height + BLOCK_NCHUNKS - 1) / BLOCK_NCHUNKS)
    (off : Nat) (hoff : leafOffset id = .ok off)
    (e : SerErr) (he : validateBlocks id blocks = .error e) (rest : Bytes) :
    decBitmapSegment (encSegId id ++ (writeU16 blocks.length ++ (writeMulti encBitmapBlock blocks ++ rest)))
      = .error e := by
  have hpow : 2^id.height ≤ 2^13 := Nat.pow_le_pow_right (by omega) (by unfold MAX_BITMAP_SEGMENT_HEIGHT at hh; omega)
  have hlen16 : blocks.length < 2^16 := by unfold BLOCK_NCHUNKS at hmax; omega
  have hh' : ¬ id.height > MAX_BITMAP_SEGMENT_HEIGHT := by omega
  have hmax' : ¬ blocks.length > (2^id.height + BLOCK_NCHUNKS - 1) / BLOCK_NCHUNKS := by omega
  rw [decBitmapSegment, codec_segId.rt _ hid, andThen_ok, readU16_write _ hlen16, andThen_ok]
  simp only [hnz, ↓reduceIte, maxChunks, hh', hmax', hoff]
  rw [readItems_write decBitmapBlock encBitmapBlock blocks (fun b hb' r => decBitmapBlock_enc b (hb b hb') r),
    andThen_ok]
  simp only [he]

/-- … which is an error when the index of the last leaf would reach 2^63 (no MMR position exists
from there on) … -/
theorem bitmapSegment_leaf_index_limit (id : SegId) (blocks : List BitmapBlock) (off n : Nat)
    (hoff : leafOffset id = .ok off) (hn : nChunksOf blocks = .ok n) (h : off + (n - 1) ≥ 2^63) :
    validateBlocks id blocks = .error .tooLarge := by
  unfold validateBlocks
  simp only [hoff, hn]
  split
  · rename_i e he
    unfold maxChunks at he
    split at he
    · simp only [Except.error.injEq] at he; rw [← he]
    · simp at he
  · split
    · rfl
    · rfl

/-- … when a block other than the last is not full … -/
theorem bitmapSegment_short_inner_block (pre : List BitmapBlock) (b : BitmapBlock) (post : List BitmapBlock)
    (hpre : ∀ x ∈ pre, x.nChunks = BLOCK_NCHUNKS) (hb : b.nChunks ≠ BLOCK_NCHUNKS) (hpost : post ≠ []) :
    nChunksOf (pre ++ b :: post) = .error .corrupted := by
  induction pre with
  | nil =>
    cases post with
    | nil => exact absurd rfl hpost
    | cons c r => simp [nChunksOf, hb]
  | cons x pre ih =>
    have hx := hpre x (by simp)
    have := ih (fun y hy => hpre y (by simp [hy]))
    cases hp : pre ++ b :: post with
    | nil => simp at hp
    | cons y ys =>
      rw [hp] at this
      simp only [List.cons_append, hp, nChunksOf, hx, ne_eq, not_true_eq_false, ↓reduceIte, this]

/-- … or the last block is empty. -/
theorem bitmapSegment_empty_last_block (pre : List BitmapBlock) (b : BitmapBlock) (hb : b.nChunks = 0) :
    nChunksOf (pre ++ [b]) = .error .corrupted := by
  induction pre with
  | nil => simp [nChunksOf, hb]
  | cons x pre ih =>
    cases hp : pre ++ [b] with
    | nil => simp at hp
    | cons y ys =>
      rw [hp] at ih
      simp only [List.cons_append, hp, nChunksOf]
      split
      · rfl
      · simp [ih]

/-! ## MsgHeader -/

theorem msgHeader_roundtrip (c : NetCfg) (t len : Nat) (hk : isKnownType t = true) (h64 : len < 2^64)
    (hl : len ≤ maxLen c t) (rest : Bytes) :
    decMsgHeader c (encMsgHeader c t len ++ rest) = .ok (.known t len, rest) := by
  rw [decMsgHeader_enc c t len h64, if_neg (Nat.not_lt.mpr hl)]
  simp [hk]

example : isKnownType GV.Gen.Msg.T_KernelSegment = true := by decide

theorem msgHeader_unknown_type (c : NetCfg) (t len : Nat) (hk : isKnownType t = false) (h64 : len < 2^64)
    (hl : len ≤ maxLen c t) (rest : Bytes) :
    decMsgHeader c (encMsgHeader c t len ++ rest) = .ok (.unknown len t, rest) := by
  rw [decMsgHeader_enc c t len h64, if_neg (Nat.not_lt.mpr hl)]
  simp [hk]

example : isKnownType 29 = false := by decide

theorem msgHeader_length_limit (c : NetCfg) (t len : Nat) (h64 : len < 2^64) (hl : len > maxLen c t) (rest : Bytes) :
    decMsgHeader c (encMsgHeader c t len ++ rest) = .error .tooLarge := by
  rw [decMsgHeader_enc c t len h64, if_pos hl]

theorem msgHeader_wrong_magic (c : NetCfg) (b0 b1 : Nat) (h : b0 ≠ c.magic.1 ∨ b1 ≠ c.magic.2) (r : Bytes) :
    decMsgHeader c (b0 :: b1 :: r) = .error .unexpectedData := by
  by_cases h0 : b0 = c.magic.1
  · subst h0
    exact decMsgHeader_magic2 c b1 (by rcases h with h | h; exact absurd rfl h; exact h) r
  · exact decMsgHeader_magic1 c b0 h0 (b1 :: r)

/-! ## PeerAddr -/

/-- Both address families. `norm` is **not** the identity: an IPv4-mapped V6 address
(`::ffff:a.b.c.d`, for which `Ipv6Addr::to_ipv4_mapped()` is `Some`) comes back as the V4 address,
and flow info / scope id of a V6 socket address are not carried. -/
theorem peerAddr_roundtrip (a : PeerAddr) (h : a.WF) (rest : Bytes) :
    decPeerAddr (encPeerAddr a ++ rest) = .ok (a.norm, rest) := decPeerAddr_enc a h rest

/-- V4 addresses, and V6 addresses that are not IPv4-mapped (flow info and scope id 0), come back
unchanged -/
theorem peerAddr_norm_id_v4 (ip : Bytes) (port : Nat) : (PeerAddr.v4 ip port).norm = .v4 ip port := rfl

theorem peerAddr_norm_id_v6 (segs : List Nat) (port : Nat) (h : toIpv4 segs = none) :
    (PeerAddr.v6 segs port 0 0).norm = .v6 segs port 0 0 := by
  simp [PeerAddr.norm, v6Result, h]

/-- `norm` changes the address itself only for the IPv4-mapped block `::ffff:0:0/96` -/
theorem peerAddr_norm_changes_only_mapped (segs : List Nat) (port fl sc : Nat) (ip : Bytes)
    (h : (PeerAddr.v6 segs port fl sc).norm = .v4 ip port) : ∃ ab cd, segs = [0, 0, 0, 0, 0, 0xffff, ab, cd] := by
  simp only [PeerAddr.norm, v6Result] at h
  split at h
  · rename_i ip' hip; exact toIpv4_some hip
  · simp at h

example : (PeerAddr.v6 [0x2001, 0xdb8, 0, 0, 0, 0, 0, 1] 3414 0 0).WF ∧ toIpv4 [0x2001, 0xdb8, 0, 0, 0, 0, 0, 1] = none := by
  decide

/-- `[::1]:3414`, `[::]:3414` and `[::10.0.0.1]:1` (IPv4-compatible, not IPv4-mapped) round-trip as themselves -/
theorem peerAddr_v6_compatible_roundtrip (rest : Bytes) :
    decPeerAddr (encPeerAddr (.v6 [0, 0, 0, 0, 0, 0, 0, 1] 3414 0 0) ++ rest) = .ok (.v6 [0, 0, 0, 0, 0, 0, 0, 1] 3414 0 0, rest)
    ∧ decPeerAddr (encPeerAddr (.v6 [0, 0, 0, 0, 0, 0, 0, 0] 3414 0 0) ++ rest) = .ok (.v6 [0, 0, 0, 0, 0, 0, 0, 0] 3414 0 0, rest)
    ∧ decPeerAddr (encPeerAddr (.v6 [0, 0, 0, 0, 0, 0, 0x0a00, 1] 1 0 0) ++ rest) = .ok (.v6 [0, 0, 0, 0, 0, 0, 0x0a00, 1] 1 0 0, rest) :=
  ⟨decPeerAddr_enc _ (by decide) rest, decPeerAddr_enc _ (by decide) rest, decPeerAddr_enc _ (by decide) rest⟩

/-- witness of this normalisation: `[::ffff:192.168.0.1]:13414` is written as 19 bytes, read
back as `192.168.0.1:13414`, and that re-encodes to 7 different bytes -/
theorem peerAddr_v6_mapped_reads_as_v4_witness :
    (PeerAddr.v6 [0, 0, 0, 0, 0, 0xffff, 0xc0a8, 1] 13414 0 0).WF
    ∧ decPeerAddr (encPeerAddr (.v6 [0, 0, 0, 0, 0, 0xffff, 0xc0a8, 1] 13414 0 0)) = .ok (.v4 [192, 168, 0, 1] 13414, [])
    ∧ encPeerAddr (.v4 [192, 168, 0, 1] 13414) ≠ encPeerAddr (.v6 [0, 0, 0, 0, 0, 0xffff, 0xc0a8, 1] 13414 0 0) := by
  refine ⟨by decide, ?_, by decide⟩
  have := decPeerAddr_enc (.v6 [0, 0, 0, 0, 0, 0xffff, 0xc0a8, 1] 13414 0 0) (by decide) []
  simpa [PeerAddr.norm, v6Result, toIpv4] using this

/-- An address family tag other than 0 (V4) and 1 (V6) is refused. -/
theorem peeraddr_unknown_tag_refused (t : Nat) (ht : 2 ≤ t) (r : Bytes) :
    decPeerAddr (t :: r) = .error .corrupted := by
  have h0 : ¬ t = 0 := by omega
  have h1 : ¬ t = 1 := by omega
  simp [decPeerAddr, readU8, h0, h1]

/-! ## Hand, Shake, GetPeerAddrs, Capabilities -/

/-- `norm` = the two addresses normalised as in `peerAddr_roundtrip`; every other field unchanged -/
theorem hand_roundtrip (h : Hand) (hwf : h.WF) (rest : Bytes) :
    decHand (encHand h ++ rest) = .ok (h.norm, rest) := decHand_enc h hwf rest

example : ({ version := 1000, capabilities := 0x5f, nonce := 2^64 - 1, genesis := List.replicate 32 4,
             totalDifficulty := 10, senderAddr := .v4 [127, 0, 0, 1] 3414,
             receiverAddr := .v6 [0x2001, 0xdb8, 0, 0, 0, 0, 0, 1] 13414 0 0,
             userAgent := [77, 87, 47, 71, 114, 105, 110, 0xc3, 0xaf] } : Hand).WF := by
  refine ⟨by decide, by decide, by decide, rfl, by decide, by decide, by decide, by decide, by decide⟩

theorem shake_roundtrip (s : Shake) (hwf : s.WF) (rest : Bytes) :
    decShake (encShake s ++ rest) = .ok (s, rest) := decShake_enc s hwf rest

theorem getPeerAddrs_roundtrip (c : Nat) (h : CapsWF c) (rest : Bytes) :
    decGetPeerAddrs (encGetPeerAddrs c ++ rest) = .ok (c, rest) := by
  rw [encGetPeerAddrs, decGetPeerAddrs_any c (capsWF_lt h), h]

example : CapsWF 0x7f := by decide

/-- Unknown capability bits are not refused: every `u32` is accepted and masked with the defined flags. -/
theorem capabilities_unknown_bits_dropped (c : Nat) (h : c < 2^32) (rest : Bytes) :
    decGetPeerAddrs (writeU32 c ++ rest) = .ok (capsTruncate c, rest) := decGetPeerAddrs_any c h rest

/-- witness: capability word `0x80` (no defined flag) is accepted as "no capabilities" -/
theorem capabilities_unknown_bit_accepted_witness :
    decGetPeerAddrs [0, 0, 0, 0x80] = .ok (0, []) ∧ encGetPeerAddrs 0 = [0, 0, 0, 0] := by
  constructor <;> decide

/-- a user agent / error message that is not UTF-8 is refused -/
theorem string_invalid_utf8_refused (s : Bytes) (hl : s.length ≤ MAX_FIXED_READ) (h : validUtf8 s = false)
    (rest : Bytes) : decString (writeBytes s ++ rest) = .error .corrupted := by
  rw [decString, readBytesLenPrefix_write s hl, andThen_ok]
  simp [h]

example : validUtf8 [0xed, 0xa0, 0x80] = false := by decide

/-! ## Ping / Pong, PeerAddrs, PeerError, Locator, Headers, BanReason, TxHashSet*, SegmentRequest -/

theorem pingPong_roundtrip (p : PingPong) (h : p.WF) (rest : Bytes) :
    decPingPong (encPingPong p ++ rest) = .ok (p, rest) := codec_pingPong.rt p h rest

theorem pingPong_accepts_only_canonical {bs : Bytes} {p : PingPong} {r : Bytes} (hb : AllBytes bs)
    (h : decPingPong bs = .ok (p, r)) : bs = encPingPong p ++ r ∧ p.WF := codec_pingPong.inv hb h

/-- up to `MAX_PEER_ADDRS` addresses; each normalised as in `peerAddr_roundtrip` -/
theorem peerAddrs_roundtrip (ps : List PeerAddr) (h : PeerAddrsWF ps) (rest : Bytes) :
    decPeerAddrs (encPeerAddrs ps ++ rest) = .ok (ps.map PeerAddr.norm, rest) := decPeerAddrs_enc ps h rest

theorem peerAddrs_count_cap (n : Nat) (h32 : n < 2^32) (h : n > GV.Gen.MAX_PEER_ADDRS) (rest : Bytes) :
    decPeerAddrs (writeU32 n ++ rest) = .error .tooLarge := by
  rw [decPeerAddrs, readU32_write _ h32, andThen_ok]
  simp [h]

theorem peerError_roundtrip (e : PeerError) (h : e.WF) (rest : Bytes) :
    decPeerError (encPeerError e ++ rest) = .ok (e, rest) := decPeerError_enc e h rest

/-- up to `MAX_LOCATORS` hashes -/
theorem locator_roundtrip (hs : List Bytes) (h : LocatorWF hs) (rest : Bytes) :
    decLocator (encLocator hs ++ rest) = .ok (hs, rest) := codec_locator.rt hs h rest

theorem locator_count_cap (n : Nat) (h : n > GV.Gen.MAX_LOCATORS % 256) (r : Bytes) :
    decLocator (n :: r) = .error .tooLarge := by
  simp [decLocator, readU8, h]

/-- The writer does not check the count it truncates to a byte: 256 hashes are written with count 0
and read back as an empty locator (all hash bytes left unread). -/
theorem locator_256_hashes_read_as_empty (hs : List Bytes) (h : hs.length = 256) (rest : Bytes) :
    decLocator (encLocator hs ++ rest) = .ok ([], writeMulti writeFixed hs ++ rest) := by
  rw [decLocator, encLocator, h]
  simp [readU8, writeU8, readItems, GV.Gen.MAX_LOCATORS]

/-- `Headers` (writer only): `u16` count then the headers, for fewer than 65536 headers … -/
theorem headers_encoding {α : Type} (hw : α → Bytes) (hs : List α) (h : hs.length < 65536) :
    encHeaders hw hs = writeU16 hs.length ++ writeMulti hw hs := encHeaders_small hw hs h

/-- … while 65536 headers are announced as 0. -/
theorem headers_count_wraps {α : Type} (hw : α → Bytes) (hs : List α) (h : hs.length = 65536) :
    encHeaders hw hs = writeU16 0 ++ writeMulti hw hs := by
  rw [encHeaders, h]

/-- all eight `ReasonForBan` discriminants -/
theorem banReason_roundtrip (r : Nat) (h : BanReasonWF r) (rest : Bytes) :
    decBanReason (encBanReason r ++ rest) = .ok (r, rest) := by
  have h32 : r < 2^32 := by unfold BanReasonWF at h; omega
  rw [decBanReason, encBanReason, readU32_write _ h32]
  simp only [reasonOfI32_some r h]

theorem banReason_unknown_refused (u : Nat) (h32 : u < 2^32) (h : 8 ≤ u) (rest : Bytes) :
    decBanReason (writeU32 u ++ rest) = .error .corrupted := by
  rw [decBanReason, readU32_write _ h32]
  simp only [reasonOfI32_toI32_none u h32 h]

/-- A body shorter than four bytes — the empty body included — is **accepted** as `ReasonForBan::None`
(the failed `read_i32` is replaced by 0) and re-encodes as `00000000`. -/
theorem banReason_short_read_accepted (bs : Bytes) (h : bs.length < 4) :
    decBanReason bs = .ok (0, []) ∧ encBanReason 0 ≠ bs := by
  refine ⟨decBanReason_short bs h, ?_⟩
  intro e
  rw [← e] at h
  simp [encBanReason, writeU32] at h

theorem txHashSetRequest_roundtrip (t : TxHashSetRequest) (h : t.WF) (rest : Bytes) :
    decTxHashSetRequest (encTxHashSetRequest t ++ rest) = .ok (t, rest) := codec_txHashSetRequest.rt t h rest

theorem txHashSetArchive_roundtrip (t : TxHashSetArchive) (h : t.WF) (rest : Bytes) :
    decTxHashSetArchive (encTxHashSetArchive t ++ rest) = .ok (t, rest) := codec_txHashSetArchive.rt t h rest

theorem segmentRequest_roundtrip (s : SegmentRequest) (h : s.WF) (rest : Bytes) :
    decSegmentRequest (encSegmentRequest s ++ rest) = .ok (s, rest) := codec_segmentRequest.rt s h rest

theorem segmentRequest_accepts_only_canonical {bs : Bytes} {s : SegmentRequest} {r : Bytes} (hb : AllBytes bs)
    (h : decSegmentRequest bs = .ok (s, r)) : bs = encSegmentRequest s ++ r ∧ s.WF := codec_segmentRequest.inv hb h

/-! ## body weight limit (`decTxBody_enc` / `decTxBody_overweight` of `Lemmas/SerBodyRt`, at the boundary) -/

/-- The weight pre-check of `TransactionBody::read` is a strict `>`: a well-formed body whose weight
(inputs·1 + outputs·21 + kernels·3) is **exactly** `max_block_weight` decodes from its own encoding,
and counts whose weight is one more are refused before anything else is read. -/
theorem body_weight_limit_boundary (c : Cfg) :
    (∀ (b : TxBody) (bs : Bytes), encTxBody c.key c.ver .full b = .ok bs → b.WF c → b.weight = c.maxWeight →
        ∀ rest, decTxBody c (bs ++ rest) = .ok (b.norm c, rest))
    ∧ (∀ ni no nk : Nat, ni < 2^64 → no < 2^64 → nk < 2^64 → weightByIok ni no nk = c.maxWeight + 1 →
        ∀ r, decTxBody c (writeU64 ni ++ (writeU64 no ++ (writeU64 nk ++ r))) = .error .tooLarge) :=
  ⟨fun b bs henc hwf _ rest => decTxBody_enc c b bs henc hwf rest,
   fun ni no nk h1 h2 h3 hw r => decTxBody_overweight c ni no nk h1 h2 h3 (by omega) r⟩

/-- the boundary compositions the harness uses: AutomatedTesting 250 and Mainnet 40000 -/
example : weightByIok 1 10 13 = GV.Gen.TESTING_MAX_BLOCK_WEIGHT ∧ weightByIok 2 10 13 = GV.Gen.TESTING_MAX_BLOCK_WEIGHT + 1
    ∧ weightByIok 19 1902 13 = GV.Gen.MAX_BLOCK_WEIGHT ∧ weightByIok 20 1902 13 = GV.Gen.MAX_BLOCK_WEIGHT + 1 := by decide

/-! ## segment responses -/

theorem kernelSegmentResponse_roundtrip (c : Cfg) (s : SegmentResponse TxKernel) (h : s.WF)
    (hl : ∀ k ∈ s.segment.leafData, k.WF c.nrd) (rest : Bytes) :
    decSegmentResponse (decTxKernel c) (encSegmentResponse (encTxKernel c.ver .full) s ++ rest) = .ok (s, rest) :=
  decSegmentResponse_enc _ _ s h (fun x hx => (Wire.wire_txKernel c).codec.leafRt (hl x hx)) rest

theorem rangeProofSegmentResponse_roundtrip (s : SegmentResponse RangeProof) (h : s.WF)
    (hl : ∀ p ∈ s.segment.leafData, p.WF) (rest : Bytes) :
    decSegmentResponse decRangeProof (encSegmentResponse encRangeProof s ++ rest) = .ok (s, rest) :=
  decSegmentResponse_enc _ _ s h (fun x hx r => decRangeProof_enc x (hl x hx) r) rest

theorem outputSegmentResponse_roundtrip (s : OutputSegmentResponse) (h : s.WF) (rest : Bytes) :
    decOutputSegmentResponse (encOutputSegmentResponse s ++ rest) = .ok (s, rest) := by
  rw [decOutputSegmentResponse, encOutputSegmentResponse, List.append_assoc,
    decSegmentResponse_enc decOutputId encOutputId _ h.1 (fun x hx => Wire.wire_outputId.codec.leafRt (h.2.1 x hx)),
    andThen_ok, Wire.wire_hash.rt _ h.2.2, andThen_ok]

theorem outputBitmapSegmentResponse_roundtrip (s : OutputBitmapSegmentResponse) (h : s.WF) (rest : Bytes) :
    decOutputBitmapSegmentResponse (encOutputBitmapSegmentResponse s ++ rest) = .ok (s, rest) := by
  rw [decOutputBitmapSegmentResponse, encOutputBitmapSegmentResponse]
  simp only [List.append_assoc]
  rw [Wire.wire_hash.rt _ h.1, andThen_ok, decBitmapSegment_enc _ h.2.1, andThen_ok, Wire.wire_hash.rt _ h.2.2, andThen_ok]

/-! ## the empty and the singleton instances

`HashesWF []`, `PosOK 0 []`, `StringWF []`, `LocatorWF []`, `PeerAddrsWF []` all hold, so the round-trip
theorems cover the empty lists; here each empty instance is stated with the bytes it is written as (a
reader that refuses a count of 0 is the usual first mistake; the harness generates these cases,
`#STAT empties …`). -/

/-- A Merkle proof of ZERO hashes — what `SegmentProof::generate` produces when the whole MMR fits into
the one segment (idx 0, `n_leaves ≤ 2^height`) and what `Segment::validate` accepts there — is
written as eight zero bytes and read back as the empty proof. -/
theorem segProof_empty_roundtrip (rest : Bytes) :
    encSegProof [] = [0, 0, 0, 0, 0, 0, 0, 0] ∧ decSegProof (encSegProof [] ++ rest) = .ok ([], rest) :=
  ⟨by decide, codec_segProof.rt [] hashesWF_nil rest⟩

/-- a proof of exactly one hash -/
theorem segProof_singleton_roundtrip (h : Bytes) (hl : h.length = HASH_SIZE) (rest : Bytes) :
    decSegProof (encSegProof [h] ++ rest) = .ok ([h], rest) :=
  codec_segProof.rt [h] (hashesWF_singleton h hl) rest

example : (List.replicate 32 7 : Bytes).length = HASH_SIZE := by decide

/-- The whole MMR in one segment: no pruned-subtree hashes, `k ≥ 0` leaves, an EMPTY proof. Nothing
is asked of the proof, and nothing of the hash part. -/
theorem segment_whole_mmr_roundtrip {α : Type} (p : Parser α) (w : α → Bytes) (id : SegId) (hid : id.WF)
    (lp : List Nat) (ld : List α) (hl : lp.length = ld.length) (hpo : PosOK 0 lp)
    (hc : ld.length ≤ MAX_SEGMENT_READ_ITEMS)
    (hrt : ∀ x ∈ ld, ∀ rest, p (w x ++ rest) = .ok (x, rest)) (rest : Bytes) :
    decSegment p (encSegment w { id := id, hashPos := [], hashes := [], leafPos := lp, leafData := ld, proof := [] } ++ rest)
      = .ok ({ id := id, hashPos := [], hashes := [], leafPos := lp, leafData := ld, proof := [] }, rest) :=
  decSegment_enc p w _ ⟨hid, rfl, posOK_nil, hashesWF_nil, hl, hpo, hc, hashesWF_nil⟩ hrt rest

/-- one output leaf at position 0 of a one-leaf MMR, identifier (0, 0): the smallest honest segment -/
example : decSegment decOutputId (encSegment encOutputId
      ({ id := { height := 0, idx := 0 }, hashPos := [], hashes := [], leafPos := [0],
         leafData := [⟨.plain, List.replicate 33 9⟩], proof := [] } : Segment OutputId))
    = .ok ({ id := { height := 0, idx := 0 }, hashPos := [], hashes := [], leafPos := [0],
             leafData := [⟨.plain, List.replicate 33 9⟩], proof := [] }, []) := by
  have h := segment_whole_mmr_roundtrip decOutputId encOutputId { height := 0, idx := 0 } (by decide) [0]
    [(⟨.plain, List.replicate 33 9⟩ : OutputId)] rfl
    ((posOK_zero_iff [0]).mpr ⟨List.pairwise_singleton _ _, by
      intro q hq; simp only [List.mem_singleton] at hq; subst hq; decide⟩)
    (by simp only [List.length_singleton]; decide)
    (fun x hx => Wire.wire_outputId.codec.leafRt (by
      simp only [List.mem_singleton] at hx; subst hx; exact List.length_replicate)) []
  simpa using h

/-- A fully pruned segment: `k ≥ 0` pruned-subtree hashes, NO leaves, an empty proof. -/
theorem segment_fully_pruned_roundtrip {α : Type} (p : Parser α) (w : α → Bytes) (id : SegId) (hid : id.WF)
    (hp : List Nat) (hs : List Bytes) (hl : hp.length = hs.length) (hpo : PosOK 0 hp) (hh : HashesWF hs)
    (rest : Bytes) :
    decSegment p (encSegment w { id := id, hashPos := hp, hashes := hs, leafPos := [], leafData := [], proof := [] } ++ rest)
      = .ok ({ id := id, hashPos := hp, hashes := hs, leafPos := [], leafData := [], proof := [] }, rest) :=
  decSegment_enc p w _ ⟨hid, hl, hpo, hh, rfl, posOK_nil, Nat.zero_le _, hashesWF_nil⟩
    (fun _ h => (List.not_mem_nil h).elim) rest

/-- The segment with nothing in it at all, whatever the leaf codec … -/
theorem segment_empty_roundtrip {α : Type} (p : Parser α) (w : α → Bytes) (id : SegId) (hid : id.WF) (rest : Bytes) :
    decSegment p (encSegment w { id := id, hashPos := [], hashes := [], leafPos := [], leafData := [], proof := [] } ++ rest)
      = .ok ({ id := id, hashPos := [], hashes := [], leafPos := [], leafData := [], proof := [] }, rest) :=
  segment_fully_pruned_roundtrip p w id hid [] [] rfl posOK_nil hashesWF_nil rest

/-- … which for the identifier (0, 0) is 33 zero bytes on the wire -/
example : encSegment encOutputId
    ({ id := { height := 0, idx := 0 }, hashPos := [], hashes := [], leafPos := [], leafData := [], proof := [] } : Segment OutputId)
      = List.replicate 33 0 := by decide

/-- A bitmap segment of exactly ONE block of ONE chunk with an EMPTY proof (up to 1024 outputs: the
whole bitmap MMR is the one leaf; identifier height 0, any index whose leaf has an MMR position). -/
theorem bitmapSegment_single_chunk_empty_proof_roundtrip (idx : Nat) (hidx : idx < 2^63)
    (b : BitmapBlock) (hb : b.WF) (h1 : b.nChunks = 1) (rest : Bytes) :
    decBitmapSegment (encBitmapSegment { id := { height := 0, idx := idx }, blocks := [b], proof := [] } ++ rest)
      = .ok ({ id := { height := 0, idx := idx }, blocks := [b], proof := [] }, rest) := by
  apply decBitmapSegment_enc
  refine ⟨⟨by simp only; decide, by simp only; omega⟩, ⟨1, ?_⟩, ?_, hashesWF_nil⟩
  · have h1' : ¬ (18446744073709551616 ≤ idx) := by omega
    have h2 : ¬ (9223372036854775808 ≤ idx) := by omega
    simp [validateBlocks, leafOffset, nChunksOf, maxChunks, MAX_BITMAP_SEGMENT_HEIGHT, h1, h1', h2]
  · intro x hx
    simp only [List.mem_singleton] at hx
    subst hx
    exact hb

/-- the all-zero single chunk is such a block -/
example : ({ nChunks := 1, v := 0 } : BitmapBlock).WF ∧ ({ nChunks := 1, v := 0 } : BitmapBlock).nChunks = 1 :=
  ⟨⟨by decide, Nat.pow_pos (by omega)⟩, rfl⟩

/-- `Locator` with no hashes: one zero byte -/
theorem locator_empty_roundtrip (rest : Bytes) :
    encLocator [] = [0] ∧ decLocator (encLocator [] ++ rest) = .ok ([], rest) :=
  ⟨by decide, codec_locator.rt [] ⟨Nat.zero_le _, fun _ h => (List.not_mem_nil h).elim⟩ rest⟩

/-- `PeerAddrs` with no addresses: four zero bytes -/
theorem peerAddrs_empty_roundtrip (rest : Bytes) :
    encPeerAddrs [] = [0, 0, 0, 0] ∧ decPeerAddrs (encPeerAddrs [] ++ rest) = .ok ([], rest) :=
  ⟨by decide, decPeerAddrs_enc [] ⟨Nat.zero_le _, fun _ h => (List.not_mem_nil h).elim⟩ rest⟩

/-- `Headers` with no headers: two zero bytes (writer only) -/
theorem headers_empty_encoding {α : Type} (hw : α → Bytes) : encHeaders hw [] = [0, 0] := by
  rw [encHeaders_small hw [] (by simp only [List.length_nil]; decide)]
  simp only [List.length_nil, writeMulti, List.map_nil, List.flatten_nil, List.append_nil]
  decide

/-- `Hand` with an EMPTY user agent: still well-formed, round-trips like any other -/
theorem hand_empty_user_agent_roundtrip (h : Hand) (hwf : h.WF) (rest : Bytes) :
    ({ h with userAgent := [] } : Hand).WF ∧
    decHand (encHand { h with userAgent := [] } ++ rest) = .ok (({ h with userAgent := [] } : Hand).norm, rest) := by
  have hw : ({ h with userAgent := [] } : Hand).WF := by
    obtain ⟨a, b, c, d, e, f, g, _⟩ := hwf
    exact ⟨a, b, c, d, e, f, g, stringWF_nil⟩
  exact ⟨hw, decHand_enc _ hw rest⟩

/-- `Shake` with an EMPTY user agent -/
theorem shake_empty_user_agent_roundtrip (s : Shake) (hwf : s.WF) (rest : Bytes) :
    decShake (encShake { s with userAgent := [] } ++ rest) = .ok ({ s with userAgent := [] }, rest) := by
  obtain ⟨a, b, c, d, _⟩ := hwf
  exact decShake_enc { s with userAgent := [] } ⟨a, b, c, d, stringWF_nil⟩ rest

/-- `PeerError` with an EMPTY message -/
theorem peerError_empty_message_roundtrip (code : Nat) (h : code < 2^32) (rest : Bytes) :
    decPeerError (encPeerError { code := code, message := [] } ++ rest) = .ok ({ code := code, message := [] }, rest) :=
  decPeerError_enc _ ⟨h, stringWF_nil⟩ rest

/-- … and at the other end: a string of the greatest length one read may have (100 000 bytes)
round-trips (one byte more is refused: `bytes_cap` in `Props/C10.lean`) -/
theorem string_max_length_roundtrip (s : Bytes) (hl : s.length = MAX_FIXED_READ) (hu : validUtf8 s = true)
    (rest : Bytes) : decString (writeBytes s ++ rest) = .ok (s, rest) :=
  decString_write s ⟨Nat.le_of_eq hl, hu⟩ rest

end GV.Props.C10Msg
