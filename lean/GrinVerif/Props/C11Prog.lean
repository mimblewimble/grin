import GrinVerif.Model.DecProg
/-! # C10 / C11 — the three readers agree on every decoder within the caps: ONE theorem

For every program over the `Reader` trait's methods (`Model/DecProg.lean`) and every input:
`BufReader` and `BinReader` return the same value, rest and error (`buf_eq_bin`), and so does
`StreamingReader` whenever the run stays within the 100 000-byte cap of `read_fixed_bytes`
(`stream_eq_bin_of_capped`) - which is ALWAYS the case for a decoder whose `read_fixed_bytes` lengths
are constants and that reads no length prefix (`capped_of_constLens`, `three_readers_agree_constLens`).
Instances: `CommitPos`, `SizeEntry`, `BlockSums` and the network payloads `Ping` / `Pong`, `TxHashSetRequest`,
`TxHashSetArchive`, each also proved to BE the plain model's decoder (`run_*_eq`); the NRD list wrapper (agreement
of the readers only). The payload decoders of `Model/DecSer.lean` are not written as programs and are not covered.
Beyond the cap the readers really differ (`bytesP_differs`). -/
namespace GV.Props.C11Prog
open GV GV.Ser GV.SerDb GV.DecProg

theorem buf_eq_bin {α : Type} (p : Prog α) : ∀ bs, run .buf p bs = run .bin p bs := by
  induction p with
  | pure a => intro bs; rfl
  | fail e => intro bs; rfl
  | u8 k ih | u16 k ih | u32 k ih | u64 k ih | fixed len k ih =>
    intro bs; simp only [run, readFixedR]
    split
    · exact ih _ _
    · rfl
  | lenPrefix k ih =>
    intro bs; simp only [run, readFixedR]
    split
    · split
      · exact ih _ _
      · rfl
    · rfl

/-- the streaming `read_fixed_bytes` is the capped one for lengths within the cap -/
theorem readFixedR_stream (len : Nat) (h : len ≤ MAX_FIXED_READ) (bs : Bytes) :
    readFixedR .stream len bs = readFixed len bs := by
  have : ¬ len > MAX_FIXED_READ := by omega
  simp only [readFixedR, readFixed, this, ↓reduceIte]
  cases splitExact len bs <;> rfl

theorem readFixedR_bin (len : Nat) (bs : Bytes) : readFixedR .bin len bs = readFixed len bs := rfl

theorem stream_eq_bin_of_capped {α : Type} (p : Prog α) :
    ∀ bs, capped p bs = true → run .stream p bs = run .bin p bs := by
  induction p with
  | pure a => intro bs _; rfl
  | fail e => intro bs _; rfl
  | u8 k ih | u16 k ih | u32 k ih | u64 k ih =>
    intro bs; simp only [run, capped]
    split
    · exact ih _ _
    · intro _; rfl
  | fixed len k ih =>
    intro bs hc
    simp only [capped, Bool.and_eq_true, decide_eq_true_eq] at hc
    simp only [run]
    rw [readFixedR_stream len hc.1, readFixedR_bin]
    have h2 := hc.2
    revert h2
    split
    · exact ih _ _
    · intro _; rfl
  | lenPrefix k ih =>
    intro bs; simp only [run, capped]
    split
    · intro hc
      simp only [Bool.and_eq_true, decide_eq_true_eq] at hc
      rw [readFixedR_stream _ hc.1, readFixedR_bin]
      have h2 := hc.2
      revert h2
      split
      · exact ih _ _
      · intro _; rfl
    · intro _; rfl

theorem capped_of_constLens {α : Type} (p : Prog α) : constLens p → ∀ bs, capped p bs = true := by
  induction p with
  | pure a => intro _ bs; rfl
  | fail e => intro _ bs; rfl
  | u8 k ih | u16 k ih | u32 k ih | u64 k ih =>
    intro hc bs; simp only [capped]
    split
    · exact ih _ (hc _) _
    · rfl
  | fixed len k ih =>
    intro hc bs
    simp only [capped, Bool.and_eq_true, decide_eq_true_eq]
    refine ⟨hc.1, ?_⟩
    split
    · exact ih _ (hc.2 _) _
    · rfl
  | lenPrefix k ih => intro hc; exact absurd hc (by simp [constLens])

/-- THE schema: a decoder with constant read lengths gives the same value, rest and error through
`BinReader`, `BufReader` and `StreamingReader`, on every input -/
theorem three_readers_agree_constLens {α : Type} (p : Prog α) (h : constLens p) (rd : Rdr3) (bs : Bytes) :
    run rd p bs = run .bin p bs := by
  cases rd with
  | bin => rfl
  | buf => exact buf_eq_bin p bs
  | stream => exact stream_eq_bin_of_capped p bs (capped_of_constLens p h bs)

/-! ## instances -/

theorem run_u16 {α : Type} (rd : Rdr3) (k : Nat → Prog α) (bs : Bytes) :
    run rd (.u16 k) bs = andThen (readU16 bs) fun x r => run rd (k x) r := by
  simp only [run]; cases readU16 bs <;> rfl

theorem run_u64 {α : Type} (rd : Rdr3) (k : Nat → Prog α) (bs : Bytes) :
    run rd (.u64 k) bs = andThen (readU64 bs) fun x r => run rd (k x) r := by
  simp only [run]; cases readU64 bs <;> rfl

theorem run_fixed_bin {α : Type} (len : Nat) (k : Bytes → Prog α) (bs : Bytes) :
    run .bin (.fixed len k) bs = andThen (readFixed len bs) fun x r => run .bin (k x) r := by
  simp only [run, readFixedR]; cases readFixed len bs <;> rfl

theorem run_commitPosP_eq (bs : Bytes) : run .bin commitPosP bs = decCommitPos bs := by
  simp only [commitPosP, run_u64, run, decCommitPos]

theorem run_sizeEntryP_eq (bs : Bytes) : run .bin sizeEntryP bs = decSizeEntry bs := by
  simp only [sizeEntryP, run_u64, run_u16, run, decSizeEntry]

theorem run_blockSumsP_eq (bs : Bytes) : run .bin blockSumsP bs = decBlockSums bs := by
  simp only [blockSumsP, run_fixed_bin, run, decBlockSums]

theorem commitPos_three_readers (rd : Rdr3) (bs : Bytes) : run rd commitPosP bs = decCommitPos bs := by
  rw [three_readers_agree_constLens commitPosP (by simp [commitPosP, constLens]) rd bs, run_commitPosP_eq]

theorem sizeEntry_three_readers (rd : Rdr3) (bs : Bytes) : run rd sizeEntryP bs = decSizeEntry bs := by
  rw [three_readers_agree_constLens sizeEntryP (by simp [sizeEntryP, constLens]) rd bs, run_sizeEntryP_eq]

theorem blockSums_three_readers (rd : Rdr3) (bs : Bytes) : run rd blockSumsP bs = decBlockSums bs := by
  rw [three_readers_agree_constLens blockSumsP
    (by simp only [blockSumsP, constLens]; exact ⟨by decide, fun _ => ⟨by decide, fun _ => trivial⟩⟩) rd bs,
    run_blockSumsP_eq]

theorem nrdList_three_readers (rd : Rdr3) (bs : Bytes) : run rd nrdListP bs = run .bin nrdListP bs :=
  three_readers_agree_constLens nrdListP (by
    simp only [nrdListP, constLens]
    intro t
    split
    · simp [constLens]
    · split <;> simp [constLens]) rd bs

/-! ### network payloads -/

theorem run_pingPongP_eq (bs : Bytes) : run .bin pingPongP bs = GV.SerMsg.decPingPong bs := by
  simp only [pingPongP, run_u64, run, GV.SerMsg.decPingPong]

/-- `Ping` / `Pong`: the same value, rest and error through all three readers, on every input -/
theorem pingPong_three_readers (rd : Rdr3) (bs : Bytes) : run rd pingPongP bs = GV.SerMsg.decPingPong bs := by
  rw [three_readers_agree_constLens pingPongP (by simp [pingPongP, constLens]) rd bs, run_pingPongP_eq]

theorem run_txHashSetRequestP_eq (bs : Bytes) :
    run .bin txHashSetRequestP bs = GV.SerMsg.decTxHashSetRequest bs := by
  simp only [txHashSetRequestP, run_fixed_bin, run_u64, run, GV.SerMsg.decTxHashSetRequest, decHash]

theorem txHashSetRequest_three_readers (rd : Rdr3) (bs : Bytes) :
    run rd txHashSetRequestP bs = GV.SerMsg.decTxHashSetRequest bs := by
  rw [three_readers_agree_constLens txHashSetRequestP
    (by simp only [txHashSetRequestP, constLens]; exact ⟨by decide, fun _ _ => trivial⟩) rd bs,
    run_txHashSetRequestP_eq]

theorem run_txHashSetArchiveP_eq (bs : Bytes) :
    run .bin txHashSetArchiveP bs = GV.SerMsg.decTxHashSetArchive bs := by
  simp only [txHashSetArchiveP, run_fixed_bin, run_u64, run, GV.SerMsg.decTxHashSetArchive, decHash]

theorem txHashSetArchive_three_readers (rd : Rdr3) (bs : Bytes) :
    run rd txHashSetArchiveP bs = GV.SerMsg.decTxHashSetArchive bs := by
  rw [three_readers_agree_constLens txHashSetArchiveP
    (by simp only [txHashSetArchiveP, constLens]; exact ⟨by decide, fun _ _ _ => trivial⟩) rd bs,
    run_txHashSetArchiveP_eq]

/-- the zero-padding check is a program over `u8`: the same for every reader -/
theorem emptyBytes_three_readers {α : Type} (n : Nat) (k : Prog α) (hk : constLens k) (rd : Rdr3) (bs : Bytes) :
    run rd (emptyBytes n k) bs = run .bin (emptyBytes n k) bs := by
  apply three_readers_agree_constLens
  induction n with
  | zero => exact hk
  | succ n ih =>
    simp only [emptyBytes, constLens]
    intro b
    split
    · trivial
    · exact ih

/-- beyond the cap the readers really differ: a length prefix of 100 001 over an empty rest is
`TooLargeReadErr` for the capped readers and an I/O error (after requesting the bytes) for the streaming one -/
theorem bytesP_differs :
    run .bin bytesP (writeU64 100001) = .error .tooLarge ∧ run .stream bytesP (writeU64 100001) = .error .ioEof := by
  constructor <;> rfl

end GV.Props.C11Prog
