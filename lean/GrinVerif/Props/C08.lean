import GrinVerif.Lemmas.StoreBlocks
/-! # C08 — pruning, compaction, rewind and reopen never change what the MMR commits to

Property theorems about the model of `store/src/{prune_list,types,leaf_set,pmmr}.rs`
(`Model/PruneList.lean`, `Model/Store.lean`).  Helper lemmas live in `Lemmas/Store*.lean`,
`Lemmas/PruneList*.lean`.  All statements are for every prune list / file / backend / operation
sequence (no size bound).

Vocabulary.  The bitmap of a prune list holds 1-based root positions `x`; the root is `x − 1`.
`sumF f bm = Σ_{x ∈ bm} f (x − 1)`.  `PruneList.Inv` is the roll-up invariant: positions ≥ 1,
strictly ascending, the subtree of every root lies entirely to the right of all earlier roots
(so no root is inside another root's subtree), both caches are the running sums of the per-root
shifts, and no root has a pruned sibling.  `compactedP bm q` = `q` lies strictly inside the
subtree of a root (its hash is gone from the hash file).  `layout bm size` = the positions
`< size` that are not compacted, ascending — the order in which the compacted hash file
stores them; `dataLayout bm size` = the leaf positions among them (the compacted data file).
`Sub r q` = `q` lies in the subtree of `r` (`bintree_leftmost r ≤ q ≤ r`); `PrunedBy bm q` = `q` lies
in the subtree of a root of `bm`; `Full S q` = every leaf below `q` satisfies `S`.
`Synced` / `Live` / `HInv` are the reference invariants of a synced backend, of a backend inside
a unit of work, and of a whole history (Lemmas/StoreSynced, StoreHistory). -/
namespace GV.Props.C08
open GV GV.Pmmr GV.Store

theorem inv_empty : PruneList.Inv {} := PruneList.inv_empty

/-- **Roll-up invariant preserved by `append`** – for every position, including the recursive
roll-up of siblings into the parent and `cleanup_subtree`. -/
theorem rollup_inv_append (pl : PruneList) (h : pl.Inv) (pos0 : Nat) : (pl.append pos0).Inv :=
  PruneList.append_inv h pos0

/-- Every prune list produced by `PruneList::new` (hence by `check_compact` and by
`PruneList::open`) satisfies the invariant. -/
theorem inv_of_new (bm : Bitmap) : (PruneList.new bm).Inv := PruneList.new_inv bm

/-! ## Prune list: what the shifts are (DESIGN A.5) -/

/-- **shift_spec.** `get_shift pos0 = Σ_{r pruned root, r ≤ pos0} 2·(2^{h(r)} − 1)`. -/
theorem shift_spec (pl : PruneList) (h : pl.Inv) (pos0 : Nat) :
    pl.getShift pos0 = sumF PruneList.rootShift (pl.bitmap.filter (· ≤ 1 + pos0)) :=
  PruneList.getShift_spec h pos0

/-- **leaf shift_spec.** `get_leaf_shift pos0 = Σ_{r pruned root, r ≤ pos0, h(r) > 0} 2^{h(r)}`. -/
theorem leaf_shift_spec (pl : PruneList) (h : pl.Inv) (pos0 : Nat) :
    pl.getLeafShift pos0 = sumF PruneList.rootLeafShift (pl.bitmap.filter (· ≤ 1 + pos0)) :=
  PruneList.getLeafShift_spec h pos0

/-- The strict interior of the subtree of any position `p` has exactly `2·(2^{h(p)} − 1)`
positions (`bintree_leftmost p .. p − 1`) – the summand of `get_shift`. -/
theorem subtree_interior_width (p : Nat) :
    p - bintreeLeftmost p = PruneList.rootShift p := Co.interior_width p

/-- **The shift counts the compacted positions.** For every position that is not itself
compacted away, `get_shift pos` is the number of positions below `pos` that are. -/
theorem shift_counts_compacted (pl : PruneList) (h : pl.Inv) (pos : Nat)
    (hnc : compactedP pl.bitmap pos = false) :
    pl.getShift pos = (List.range pos).countP (compactedP pl.bitmap) :=
  PruneList.getShift_counts h pos hnc

/-- **Hence `pos − shift` indexes the compacted file**: in the ascending list of surviving
positions, `pos` is the element with index `pos − get_shift pos`. -/
theorem shifted_index (pl : PruneList) (h : pl.Inv) (size pos : Nat) (hpos : pos < size)
    (hnc : compactedP pl.bitmap pos = false) :
    (layout pl.bitmap size)[pos - pl.getShift pos]? = some pos := by
  have := hashIdx_eq h pos hnc
  rw [show pos - pl.getShift pos = rk (fun x => !compactedP pl.bitmap x) pos by omega]
  exact filter_range_index _ size pos hpos (by simp [hnc])

/-- **Read law of the compacted hash file.** If the (synced) hash file holds the reference hashes
of exactly the surviving positions, `get_peak_from_file` – and `get_from_file` wherever
`is_compacted` is false – returns the reference hash of every surviving position. -/
theorem read_compacted_file {H : Type} (b : Backend H) (ref : Nat → H) (size : Nat)
    (hinv : b.pruneList.Inv) (hclean : b.hashFile.Clean)
    (hlay : b.hashFile.disk = (layout b.pruneList.bitmap size).map ref)
    (pos : Nat) (hpos : pos < size) (hnc : compactedP b.pruneList.bitmap pos = false) :
    b.getPeakFromFile pos = some (ref pos) ∧
    b.getFromFile pos = if b.isCompacted pos then none else some (ref pos) := by
  have h := Backend.getPeakFromFile_of_layout ref size hinv hclean hlay pos hpos hnc
  exact ⟨h, by rw [Backend.getFromFile_eq, h]⟩

/-- **`is_pruned` is exact.** Looking only at the next root to the right (as the code does) decides
membership in *any* pruned subtree: `is_pruned pos` iff `pos` is a pruned root or lies strictly
inside the subtree of some pruned root. -/
theorem is_pruned_spec (pl : PruneList) (h : pl.Inv) (pos : Nat) :
    pl.isPruned pos = (pl.isPrunedRoot pos || compactedP pl.bitmap pos) :=
  PruneList.isPruned_iff h pos

/-- … and pruned roots themselves are never compacted away (their hash stays in the file). -/
theorem pruned_root_kept (pl : PruneList) (h : pl.Inv) (x : Nat) (hx : x ∈ pl.bitmap) :
    compactedP pl.bitmap (x - 1) = false := PruneList.root_not_compacted h x hx

/-- **Read law for `get_from_file`**, with the code's own `is_compacted` test: under the layout
hypothesis, every position outside the leaf set for which `is_compacted` is false (pruned roots
included) reads the reference hash. -/
theorem get_from_file_spec {H : Type} (b : Backend H) (ref : Nat → H) (size : Nat)
    (hinv : b.pruneList.Inv) (hclean : b.hashFile.Clean)
    (hlay : b.hashFile.disk = (layout b.pruneList.bitmap size).map ref)
    (pos : Nat) (hpos : pos < size) (hl : b.leafSet.includes pos = false)
    (hnc : b.isCompacted pos = false) : b.getFromFile pos = some (ref pos) := by
  rw [Backend.getFromFile_eq, hnc]
  simp only [Bool.false_eq_true, if_false]
  apply Backend.getPeakFromFile_of_layout ref size hinv hclean hlay pos hpos
  rw [Backend.isCompacted_iff hinv pos hl] at hnc
  by_cases hr : b.pruneList.isPrunedRoot pos = true
  · have hm : (1 + pos) ∈ b.pruneList.bitmap := contains_iff.1 hr
    have := PruneList.root_not_compacted hinv (1 + pos) hm
    simpa using this
  · have hr' : b.pruneList.isPrunedRoot pos = false := by simpa using hr
    simpa [hr'] using hnc

/-- **`unpruned_size` is the size of the unpruned reference.** `hash_size + get_total_shift`
gives back `size` whenever the hash file holds exactly the surviving positions `< size` and all
pruned roots are positions of that MMR – so it cannot change under compaction as long as the
layout is maintained. -/
theorem unpruned_size_spec {H : Type} (b : Backend H) (size : Nat) (hinv : b.pruneList.Inv)
    (hlen : b.hashFile.disk.length = (layout b.pruneList.bitmap size).length)
    (hroots : ∀ x ∈ b.pruneList.bitmap, x ≤ size) : b.unprunedSize = size :=
  Backend.unprunedSize_of_layout size hinv hlen hroots

/-- **Reopen is the identity on the prune list**: flushing the bitmap and `PruneList::open`ing
it (re-append every root, rebuild both caches from scratch) yields the same list and caches. -/
theorem prune_list_reopen (pl : PruneList) (h : pl.Inv) : PruneList.openBm pl.bitmap = pl :=
  PruneList.openBm_of_inv h

/-- `read` returns an element appended to the buffer at the position `append` assigned to it. -/
theorem file_read_append {E : Type} (f : AOF E) (e : E) :
    (f.append e).read f.sizeUnsyncInElmts = some e := by
  obtain ⟨disk, buffer, bsp, bak⟩ := f
  show (if bsp + buffer.length ≥ bsp + (buffer ++ [e]).length then none
    else if bsp + buffer.length < bsp then disk[bsp + buffer.length]?
    else (buffer ++ [e])[bsp + buffer.length - bsp]?) = some e
  have h1 : ¬ bsp + buffer.length ≥ bsp + (buffer ++ [e]).length := by simp
  have h2 : ¬ bsp + buffer.length < bsp := by omega
  rw [if_neg h1, if_neg h2]
  simp

/-- … and `append` does not change what any earlier position reads. -/
theorem file_read_append_old {E : Type} (f : AOF E) (e : E) (pos : Nat)
    (h : pos < f.sizeUnsyncInElmts) : (f.append e).read pos = f.read pos :=
  AOF.read_append_old f e pos h

/-- After `rewind p` and re-appending `es` (nothing flushed yet) every read returns the rewound
and re-extended sequence: old data below `p`, the buffer from `p` on, nothing of the discarded
tail. -/
theorem file_read_after_rewind {E : Type} (f : AOF E) (h : f.Clean) (p : Nat)
    (hp : p ≤ f.disk.length) (es : List E) (i : Nat) :
    ((f.rewind p).extend es).read i = (f.disk.take p ++ es)[i]? := by
  obtain ⟨w0, v0⟩ := AOF.wf_of_clean h
  obtain ⟨w1, v1, _⟩ := AOF.rewind_of_wf w0 h.1 p (h.2.2 ▸ hp)
  obtain ⟨w2, v2⟩ := AOF.wf_extend w1 es
  rw [AOF.read_view w2, v2, v1, v0]

/-- `rewind` then `flush`: the file on disk is truncated at the rewind point, then extended. -/
theorem file_rewind_flush {E : Type} (f : AOF E) (h : f.Clean) (p : Nat) (es : List E) :
    ((f.rewind p).extend es).flush.disk = f.disk.take p ++ es := by
  obtain ⟨h1, h2, h3⟩ := h
  unfold AOF.rewind AOF.extend AOF.flush
  simp only [h1, h2, List.nil_append, if_true]
  by_cases hL : 0 < f.disk.length
  · rw [h3, if_pos hL]
  · have : f.disk = [] := List.eq_nil_of_length_eq_zero (by omega)
    rw [h3]; simp [this]

/-- `discard` after any sequence of appends and rewinds (to positions inside the file) of one
unit of work restores the synced file exactly. -/
theorem file_discard {E : Type} (f : AOF E) (h : f.Clean) (ops : List (AOF.Op E))
    (hw : ∀ op ∈ ops, op.Within f.disk.length) : (ops.foldl AOF.Op.apply f).discard = f := by
  rw [AOF.discard_of_inUnit (AOF.inUnit_foldl ops (AOF.inUnit_of_clean h) hw), AOF.ofDisk_of_clean h]

/-- A flushed file re-opened from disk is the same file. -/
theorem file_reopen {E : Type} (f : AOF E) : AOF.ofDisk f.flush.disk = f.flush := AOF.reopen_flush f

/-- `write_tmp_pruned`'s loop removes exactly the listed indices when they are ascending. -/
theorem write_tmp_pruned_spec {E : Type} (es : List E) (pp : List Nat) (hs : Sorted pp) :
    AOF.writeTmpLoop es 0 pp = keepIdx (fun i => !pp.elem i) es 0 :=
  writeTmpLoop_spec es 0 pp hs (fun _ _ => Nat.zero_le _)

/-- `LeafSet::rewind`: a position is in the rewound leaf set iff it was in the set at or below
the cutoff or is one of the re-added (`rewind_rm_pos`) positions. -/
theorem leafset_rewind_mem (ls : LeafSet) (cutoff : Nat) (rm : Bitmap) (hs : Sorted ls.bitmap)
    (x : Nat) : x ∈ (ls.rewind cutoff rm).bitmap ↔ (x ∈ ls.bitmap ∧ x ≤ cutoff) ∨ x ∈ rm :=
  LeafSet.mem_rewind ls cutoff rm hs x

/-- **`discard` ∘ (any operations of one unit of work) = identity.** From a synced backend, after
any sequence of `append` / `remove` / `rewind` whose rewinds stay inside the synced files (the
usage protocol), `discard` restores the backend state exactly – hence every observable. -/
theorem unit_discard {H : Type} (b : Backend H) (df : AOF Bytes) (hc : Backend.CleanFixed b df)
    (ops : List (Backend.Op H)) (hw : ∀ op ∈ ops, op.Within b df) :
    (ops.foldl Backend.Op.apply b).discard = b :=  Backend.discard_of_inUnit hc (Backend.inUnit_foldl ops (Backend.inUnit_refl hc) hw)

/-- **Nothing reaches the disk before `sync`; `discard` writes nothing** (rolled-back bulk
appends).  For ANY sequence of `append` / `remove` / `rewind` – no protocol hypothesis, any batch
size, fixed-size data files and variable-size data files with their size file alike – the durable
state (`Backend.onDisk`: hash file, data file, size file, leaf-set file, prune-list file) after the
sequence, and after the sequence followed by `discard`, is the durable state before.  Together
with `unit_discard` (the in-memory view is restored exactly) this is "a discarded batch leaves the
files and the view as they were". -/
theorem unit_disk_untouched {H : Type} (b : Backend H) (ops : List (Backend.Op H)) :
    (ops.foldl Backend.Op.apply b).onDisk = b.onDisk ∧
    (ops.foldl Backend.Op.apply b).discard.onDisk = b.onDisk := by
  have h : (ops.foldl Backend.Op.apply b).onDisk = b.onDisk :=
    List.foldlRecOn (motive := fun b' => b'.onDisk = b.onDisk) ops _ rfl
      fun b' hb' op _ => (Backend.onDisk_apply b' op).trans hb'
  exact ⟨h, by rw [Backend.onDisk_discard, h]⟩

/-- `sync` leaves a synced backend, so the two laws compose over histories of units. -/
theorem sync_clean {H : Type} (b : Backend H) (df : AOF Bytes) (hd : b.dataFile = .fixed df) :
    Backend.CleanFixed b.sync df.flush :=  ⟨AOF.flush_clean _, by simp [Backend.sync, hd, DFile.flush], AOF.flush_clean _, LeafSet.flush_clean _⟩

/-- **`sync` then drop + reopen is the identity** on the whole backend state (hash file, data
file, leaf set, prune list with both caches) – hence on every observable. -/
theorem sync_reopen {H : Type} (el : Bytes → Option Nat) (b : Backend H) (df : AOF Bytes)
    (hd : b.dataFile = .fixed df) (hinv : b.pruneList.Inv) : b.sync.reopen el = b.sync := by
  unfold Backend.reopen Backend.sync
  simp only [hd, DFile.flush, DFile.reopen, AOF.reopen_flush, LeafSet.flush, LeafSet.reopen,
    PruneList.openBm_of_inv hinv]

/-- Compaction then drop + reopen is the identity as well. -/
theorem compact_reopen {H : Type} (el : Bytes → Option Nat) (b : Backend H) (df : AOF Bytes)
    (hc : Backend.CleanFixed b df) (cutoff : Nat) (rm : Bitmap) :
    (b.checkCompact el cutoff rm).reopen el = b.checkCompact el cutoff rm := by
  have hinv := Backend.checkCompact_inv el b cutoff rm
  obtain ⟨⟨hb1, hb2, hb3⟩, hdata, ⟨hd1, hd2, hd3⟩, hl⟩ := hc
  unfold Backend.reopen
  unfold Backend.checkCompact at hinv ⊢
  simp only [hdata, DFile.compact, DFile.reopen, LeafSet.flush, LeafSet.reopen] at hinv ⊢
  rw [PruneList.openBm_of_inv hinv]
  simp only [AOF.replaceWith, AOF.init, AOF.ofDisk, hb1, hb2, hd1, hd2]

/-- **Compaction only selects spent leaves at or below the cutoff.** Every leaf `check_compact`
decides to remove (`pos_to_rm`'s first component, fed to the new prune list) is a leaf position
`≤ cutoff_pos` that is not in the leaf set (so it is spent), not in `rewind_rm_pos` (so it was
not spent after the cutoff and no permitted rewind can bring it back) and not pruned already. -/
theorem compaction_spares_unspent {H : Type} (b : Backend H) (cutoff : Nat) (rm : Bitmap) (x : Nat)
    (h : x ∈ (b.posToRm cutoff rm).1) :
    1 ≤ x ∧ x ≤ cutoff ∧ b.leafSet.includes (x - 1) = false ∧ x ∉ rm ∧
    isLeaf (x - 1) = true ∧ b.pruneList.isPruned (x - 1) = false := by
  obtain ⟨h1, h2, h3, h4, h5, h6⟩ := LeafSet.mem_removedPreCutoff_iff.1 (show x ∈
    b.leafSet.removedPreCutoff cutoff rm b.pruneList from h)
  refine ⟨h1, h2, Bool.eq_false_iff.2 fun hc => h3 ?_, h4, h5, h6⟩
  rw [← Nat.sub_add_cancel h1]; exact LeafSet.includes_iff.1 hc

/-! ## `check_compact` preserves the reference (DESIGN §4 C08 `compact_preserves`)

`Synced b N ref dref df` (Lemmas/StoreSynced.lean) is the reference invariant of a synced backend
whose reference MMR has `N` leaves (size `mmr N`): roll-up invariant; hash file clean and
`= (layout bitmap (mmr N)).map ref`; data file fixed-size, clean and
`= (dataLayout bitmap (mmr N)).map dref`; leaf set ascending, synced, made of leaf positions of
the MMR none of which is pruned; all pruned roots inside the MMR; `mmr N + 64 < 2^64`; the prune
file holds the bitmap.  `compact_preserves` goes through `Synced.checkCompact`, which rests on
(1′) `new_prune_list_set` – what the prune list written by `check_compact` prunes, as a set
((1) `rollup_set` / `canonical` say the same of a single `append`);
(2) `pos_to_rm_spec` – `pos_to_rm` = exactly the newly compacted positions;
(3) `leaf_shift_counts_compacted` – the leaf-shift analogue of `shift_counts_compacted`. -/

/-- **(1) set-level correctness of the roll-up.** Appending `p` to a list whose roots are all at
or before `p` (the code's "prune list append only" assertion), with `p + 64 < 2^64`: the leaves
pruned afterwards are exactly the leaves pruned before plus the leaves below `p`; since the
result satisfies the roll-up invariant, a position is pruned afterwards iff all leaves below it
are (`canonical`). -/
theorem rollup_set (pl : PruneList) (h : pl.Inv) (p : Nat) (hall : ∀ x ∈ pl.bitmap, x ≤ 1 + p)
    (hb : p + 64 < 2 ^ 64) (q : Nat) :
    PrunedBy (pl.append p).bitmap q ↔ Full (fun l => PrunedBy pl.bitmap l ∨ Sub p l) q := by
  obtain ⟨_, hr⟩ := PruneList.appendFuel_leaves 64 pl p h hall (by omega) hb
  exact PruneList.prunedBy_of_leaves (PruneList.append_inv h p) _ hr.leaves q

/-- Under the roll-up invariant the list is canonical: pruned iff every leaf below is pruned. -/
theorem canonical (pl : PruneList) (h : pl.Inv) (q : Nat) :
    PrunedBy pl.bitmap q ↔ Full (PrunedBy pl.bitmap) q := PruneList.prunedBy_iff_full h q

/-- **(1′) the prune list written by `check_compact`** prunes a position iff every leaf below it
was pruned before or is one of the leaves removed now. -/
theorem new_prune_list_set {H : Type} (el : Bytes → Option Nat) (b : Backend H) (size cutoff : Nat)
    (hp : Backend.CompactPre b size cutoff) (rm : Bitmap) (q : Nat) :
    PrunedBy (b.checkCompact el cutoff rm).pruneList.bitmap q ↔
      Full (P0 b.pruneList.bitmap (fun y => y ∈ (b.posToRm cutoff rm).1)) q :=
  Backend.newBm_prunedBy hp rm q

/-- **(2) `pos_to_rm` = the newly compacted positions**: a (1-based) position is removed from the
hash file iff it is compacted away under the new prune list and was not under the old one. -/
theorem pos_to_rm_spec {H : Type} (el : Bytes → Option Nat) (b : Backend H) (size cutoff : Nat)
    (hp : Backend.CompactPre b size cutoff) (rm : Bitmap) (y : Nat) :
    y ∈ (b.posToRm cutoff rm).2 ↔
      1 ≤ y ∧ compactedP (b.checkCompact el cutoff rm).pruneList.bitmap (y - 1) = true ∧
        compactedP b.pruneList.bitmap (y - 1) = false :=
  Backend.posToRm_spec hp rm y

/-- **(3) the leaf shift counts the compacted leaves**: for every position `q` that is not itself
compacted away, `get_leaf_shift(q + 1)` is the number of leaf positions below `q` that are;
hence `n_leaves(q+1) − get_leaf_shift(q+1) − 1` is the index of leaf `q` in the data file. -/
theorem leaf_shift_counts_compacted (pl : PruneList) (h : pl.Inv) (q : Nat)
    (hnc : compactedP pl.bitmap q = false) :
    pl.getLeafShift (1 + q) = (List.range q).countP (fun x => isLeaf x && compactedP pl.bitmap x) :=
  PruneList.getLeafShift_counts h q hnc

theorem leaf_shifted_index (pl : PruneList) (h : pl.Inv) (size q : Nat) (hq : q < size)
    (hl : isLeaf q = true) (hnc : compactedP pl.bitmap q = false) :
    (dataLayout pl.bitmap size)[nLeaves (q + 1) - pl.getLeafShift (1 + q) - 1]? = some q := by
  rw [dataIdx_eq h q ((isLeaf_iff q).1 hl) hnc, Nat.add_sub_cancel]
  exact filter_range_index _ size q hq (by simp [hl, hnc])

/-- **compact_preserves.** For a synced backend `b` satisfying the reference invariant and
`b' = b.checkCompact cutoff rm` (any `cutoff ≤ size`, any `rewind_rm_pos`):
* `b'` satisfies the reference invariant again **for the same reference**: in particular the new
  hash file and data file are the reference values laid out by the NEW prune list;
* no unspent leaf, no ancestor or Merkle-path sibling of an unspent leaf, no peak and no pruned
  root is compacted away, and all pruned roots stay inside the MMR;
* the unspent-leaf set and `unpruned_size` are unchanged (the latter is the reference size);
* hence every unspent leaf reads its reference hash and data, every position on the Merkle path
  of an unspent leaf, every peak and every pruned root reads its reference hash;
* the root over the compacted backend is the root of the unpruned reference (and of `b`). -/
theorem compact_preserves {H : Type} (el : Bytes → Option Nat) (hf : HashFn Bytes H)
    (b : Backend H) (N : Nat) (ref : Nat → H) (dref : Nat → Bytes) (df : AOF Bytes)
    (hs : Synced b N ref dref df) (cutoff : Nat) (hc : cutoff ≤ mmr N) (rm : Bitmap) :
    let b' := b.checkCompact el cutoff rm
    (∃ df', Synced b' N ref dref df') ∧
    b'.hashFile.disk = (layout b'.pruneList.bitmap (mmr N)).map ref ∧
    (∃ df', b'.dataFile = .fixed df' ∧ df'.disk = (dataLayout b'.pruneList.bitmap (mmr N)).map dref) ∧
    (∀ q, (q + 1) ∈ b.leafSet.bitmap → ∀ a, Sub (family a).1 q →
      compactedP b'.pruneList.bitmap a = false) ∧
    (∀ p ∈ peaks (mmr N), compactedP b'.pruneList.bitmap p = false) ∧
    (∀ x ∈ b'.pruneList.bitmap, compactedP b'.pruneList.bitmap (x - 1) = false ∧ x ≤ mmr N) ∧
    b'.leafPosIter = b.leafPosIter ∧ b'.nUnprunedLeaves = b.nUnprunedLeaves ∧
    b'.unprunedSize = b.unprunedSize ∧ b'.unprunedSize = mmr N ∧
    (∀ q, (q + 1) ∈ b.leafSet.bitmap →
      b'.getHash q = some (ref q) ∧ b'.getData el q = some (dref q)) ∧
    (∀ q, (q + 1) ∈ b.leafSet.bitmap → ∀ a, Sub (family a).1 q → a < mmr N →
      b'.getFromFile a = some (ref a)) ∧
    (∀ p ∈ peaks (mmr N), b'.getPeakFromFile p = some (ref p) ∧ b'.getFromFile p = some (ref p)) ∧
    (∀ x ∈ b'.pruneList.bitmap, b'.getFromFile (x - 1) = some (ref (x - 1))) ∧
    PM.root hf { b := b', size := mmr N } = Pmmr.root hf ((List.range (mmr N)).map ref) ∧
    PM.root hf { b := b', size := mmr N } = PM.root hf { b := b, size := mmr N } := by
  intro b'
  obtain ⟨df', hs'⟩ := hs.checkCompact el hc rm
  have hroots : ∀ x ∈ b'.pruneList.bitmap, compactedP b'.pruneList.bitmap (x - 1) = false ∧ x ≤ mmr N :=
    fun x hx => ⟨PruneList.root_not_compacted hs'.inv x hx, hs'.roots x hx⟩
  refine ⟨⟨df', hs'⟩, hs'.hashLay, ⟨df', hs'.data, hs'.dataLay⟩, ?_, ?_, hroots, rfl, rfl, ?_,
    hs'.unprunedSize, ?_, ?_, ?_, ?_, hs'.root_eq hf, ?_⟩
  · exact fun q hq a ha => hs'.live.needed_kept q hq a ha
  · exact fun p hp => peak_not_compacted hs'.roots p hp
  · rw [hs'.unprunedSize, hs.unprunedSize]
  · exact fun q hq => hs'.live.read_unspent el q hq
  · exact fun q hq a ha hlt => hs'.live.read_path q hq a ha hlt
  · exact fun p hp => hs'.live.read_hash p (Pmmr.Co.peaks_lt_size hp)
      (peak_not_compacted hs'.roots p hp)
  · intro x hx
    have := hs'.inv.pos x hx
    exact (hs'.live.read_hash (x - 1) (by have := (hroots x hx).2; omega) (hroots x hx).1).2
  · rw [hs'.root_eq hf, hs.root_eq hf]

/-! ## Histories (DESIGN §4 C08 `history_refinement`)

Operations `HOp` (Lemmas/StoreHistory.lean): `push e`, `prune pos`, `rewind N' rm` (to the
boundary of `N'` leaves), `sync`, `discard`, `compact K rm` (cutoff = boundary of `K` leaves),
`reopen`.  The store side is `bstep` (the model functions `PM.push`, `PM.prune`, `PM.rewind`,
`Backend.sync`, `Backend.discard`, `Backend.checkCompact`, `Backend.reopen`; after `discard` and
`reopen` the PMMR is re-created at `unpruned_size`, as `PMMRHandle` does).  The reference side is
`RefSt.step`: an unpruned leaf list, a set of unspent positions, the committed copy of both, and
the protocol's bookkeeping (`dirty`, the set `G` of leaves compacted away so far, the largest
cutoff `C`).

**Usage protocol** `RefSt.Proto r ops` – a decidable predicate on the operation list
(`RefSt.ok`, one operation): sizes stay below `2^64 − 64`; `rewind` only before the first append
of a unit of work (several rewinds in a row – the chain rewinds block by block – and rewinds after
removals are allowed), to a boundary `C ≤ N' ≤ size`, re-adding only leaf positions of the smaller
MMR that no compaction has removed (`∉ G`); `compact` and `reopen` only from a synced state, with
`K ≤ size`.  `push`, `prune`, `sync`, `discard` are unrestricted.  The theorems here are for
fixed-size data files (`.fixed`); `Props/C08Var.lean` carries them over to variable-size ones.

That the node's bookkeeping yields these conditions is `chain_bookkeeping_conforms` below: block
boundaries with their unspent sets, `rewind_rm_pos` of a rewind = unspent at the target and spent
now, `rewind_rm_pos` of a compaction = everything spent by the blocks after the cutoff boundary,
no rewind below the last cutoff. -/

/-- One operation allowed by the protocol preserves the history invariant `HInv` (store agrees
with the current reference view; the backend the open unit started from is synced, agrees with
the committed view, and the current backend is inside that unit). -/
theorem history_step {H : Type} (el : Bytes → Option Nat) (hf : HashFn Bytes H) (p : PM H)
    (r : RefSt) (h : HInv hf p r) (op : HOp) (hok : r.ok op) :
    HInv hf (bstep el hf p op) (r.step op) := hinv_step el hf p r h op hok

/-- The reference of a history is the unpruned Vec-backed MMR holding the same leaves. -/
theorem reference_is_unpruned_mmr {H : Type} (hf : HashFn Bytes H) (es : List Bytes)
    (hN : es.length ≤ 2 ^ 65) :
    Pmmr.pushAll hf [] es = some (Pmmr.Co.allHashes hf (leafFn es) es.length) := by
  have hes : es = (List.range es.length).map (leafFn es) := by
    apply List.ext_getElem?
    intro i
    by_cases hi : i < es.length
    · rw [List.getElem?_map, List.getElem?_range hi]
      simp [leafFn, List.getD, List.getElem?_eq_getElem hi]
    · rw [List.getElem?_eq_none (by omega), List.getElem?_eq_none (by simp; omega)]
  have := Pmmr.Co.pushAll_range hf (leafFn es) es.length hN
  rwa [← hes] at this

/-- **history_preserves_reference.** After ANY sequence of `push` / `prune` / `rewind` / `sync` /
`discard` / `compact` / `reopen` obeying the usage protocol, starting from the empty store:
size, root, the unspent-leaf set, the hash and data of every unspent leaf, every hash on the
Merkle path of an unspent leaf and every peak hash equal those of the unpruned reference holding
the same leaf history (`allHashes` = the hash vector of the Vec-backed MMR over the reference's
leaves, see `reference_is_unpruned_mmr`); outside a unit of work `unpruned_size` is the reference
size as well. -/
theorem history_preserves_reference {H : Type} (el : Bytes → Option Nat) (hf : HashFn Bytes H)
    (ops : List HOp) (hproto : RefSt.Proto {} ops) :
    let p := ops.foldl (bstep el hf) ({} : PM H)
    let r := ops.foldl RefSt.step {}
    let N := r.cur.es.length
    let rh := Pmmr.Co.allHashes hf (leafFn r.cur.es) N
    p.size = mmr N ∧
    (r.dirty = false → p.b.unprunedSize = mmr N) ∧
    PM.root hf p = Pmmr.root hf rh ∧
    (∀ q, (q + 1) ∈ p.b.leafSet.bitmap ↔ q ∈ r.cur.U) ∧
    (∀ q, q ∈ r.cur.U → ∃ i, i < N ∧ q = mmr i ∧
      PM.getHash p q = some (refHash hf (leafFn r.cur.es) q) ∧
      rh[q]? = some (refHash hf (leafFn r.cur.es) q) ∧
      PM.getData el p q = some (r.cur.es.getD i [])) ∧
    (∀ q, q ∈ r.cur.U → ∀ a, Store.Sub (family a).1 q → a < mmr N →
      p.b.getFromFile a = some (refHash hf (leafFn r.cur.es) a)) ∧
    (∀ pk ∈ peaks (mmr N), p.b.getPeakFromFile pk = some (refHash hf (leafFn r.cur.es) pk)) :=
  (hinv_obs el hf (hinv_of_proto el hf ops hproto)).conj

/-- **A removal-only unit followed by its rewind conforms to the protocol.**  A unit of work that
removes leaves and appends nothing leaves the MMR size unchanged; after it is committed, the
rewind to the boundary just before it has position = the *current* size and `rewind_rm_pos` = the
leaves the unit removed.  For every reference state with `C ≤` current leaf count and every list
`ps` of leaf positions of the MMR that no compaction has removed, the history
`prune p₁ … prune pₖ, sync, rewind N [p₁+1 … pₖ+1]` satisfies `RefSt.Proto`, keeps the leaf
history, and (if the `pᵢ` were unspent) restores the unspent set – so by
`history_preserves_reference` the store has the spent-then-rewound leaves unspent again, with
their data, hashes and proofs.  (Append-only, mixed and empty units and rewinds across several
units need no extra statement: `push`, `prune`, `sync` are unrestricted and `rewind` only asks for
`C ≤ N' ≤ size` from a synced state.) -/
theorem removal_only_unit_then_rewind_conforming (r : RefSt) (hC : r.C ≤ r.cur.es.length)
    (ps : List Nat)
    (hps : ∀ p ∈ ps, isLeaf p = true ∧ p + 1 ≤ mmr r.cur.es.length ∧ p ∉ r.G) :
    let ops := ps.map HOp.prune ++ [HOp.sync, HOp.rewind r.cur.es.length (ps.map (· + 1))]
    RefSt.Proto r ops ∧ (ops.foldl RefSt.step r).cur.es = r.cur.es ∧
    ((∀ p ∈ ps, p ∈ r.cur.U) → (∀ q ∈ r.cur.U, q < mmr r.cur.es.length) →
      ∀ q, q ∈ (ops.foldl RefSt.step r).cur.U ↔ q ∈ r.cur.U) := by
  intro ops
  obtain ⟨h1, h2, h3, h4, _, h6⟩ := RefSt.prunes r ps
  generalize hr' : (ps.map HOp.prune).foldl RefSt.step r = r' at *
  have hfold : ops.foldl RefSt.step r = (r'.step .sync).step (.rewind r.cur.es.length (ps.map (· + 1))) := by
    show (ps.map HOp.prune ++ _).foldl RefSt.step r = _
    rw [List.foldl_append, hr']; rfl
  refine ⟨?_, ?_, ?_⟩
  · show RefSt.Proto r (ps.map HOp.prune ++ _)
    rw [RefSt.proto_append, hr']
    refine ⟨h1, trivial, ⟨rfl, ?_, ?_, ?_⟩, trivial⟩
    · show r'.C ≤ _; rw [h4]; exact hC
    · show _ ≤ r'.cur.es.length; rw [h2]; exact Nat.le_refl _
    · intro x hx
      obtain ⟨p, hp, rfl⟩ := List.mem_map.1 hx
      obtain ⟨a, b, c⟩ := hps p hp
      refine ⟨by omega, b, by rw [Nat.add_sub_cancel]; exact a, ?_⟩
      show p + 1 - 1 ∉ r'.G
      rw [Nat.add_sub_cancel, h3]; exact c
  · rw [hfold]
    show r'.cur.es.take r.cur.es.length = _
    rw [h2, List.take_length]
  · intro hin hlt q
    rw [hfold]
    show q ∈ r'.cur.U.filter (· < mmr r.cur.es.length) ++ (ps.map (· + 1)).map (· - 1) ↔ _
    rw [List.mem_append, List.mem_filter, h6 q, List.map_map]
    have hmap : q ∈ ps.map ((· - 1) ∘ (· + 1)) ↔ q ∈ ps := by
      rw [List.mem_map]
      constructor
      · rintro ⟨p, hp, rfl⟩; simpa using hp
      · intro h; exact ⟨q, h, by simp⟩
    rw [hmap]
    simp only [decide_eq_true_eq]
    constructor
    · rintro (⟨⟨a, _⟩, _⟩ | h)
      · exact a
      · exact hin q h
    · intro h
      by_cases hq : q ∈ ps
      · exact Or.inr hq
      · exact Or.inl ⟨⟨h, hq⟩, hlt q h⟩

/-- **Merkle proofs over histories.** After any history obeying the protocol, `merkle_proof` of
every unspent leaf over the (pruned, compacted, rewound, reopened) store is the very proof value
the unpruned Vec-backed reference produces. -/
theorem history_merkle_proofs {H : Type} (el : Bytes → Option Nat) (hf : HashFn Bytes H)
    (ops : List HOp) (hproto : RefSt.Proto {} ops) :
    let p := ops.foldl (bstep el hf) ({} : PM H)
    let r := ops.foldl RefSt.step {}
    ∀ q, q ∈ r.cur.U → PM.merkleProof hf p q =
      Pmmr.merkleProof hf (Pmmr.Co.allHashes hf (leafFn r.cur.es) r.cur.es.length) q :=
  fun q hq => hinv_merkleProof hf (hinv_of_proto el hf ops hproto) q hq

/-! ## Block-level histories: the chain's bookkeeping implies the protocol

`Book` (Lemmas/StoreBlocks.lean): the boundaries the chain remembers (leaf count + unspent set at
the end of each block; working copy and committed copy), the index of the last compaction cutoff,
and the reference.  `BOp`: `rewindTo j` (one step of `Extension::rewind`: target = boundary `j`,
`rewind_rm_pos` = unspent there and spent now), `push`, `prune`, `commit` (`sync`, remember the
boundary), `rollback` (`discard`), `compact c` (`check_compact` with cutoff = boundary `c` and
`rewind_rm_pos` = every position spent by the blocks after it), `reopen`.  `Book.Ok` is the
chain's discipline: rewinds before the first append of an extension and never below the last
cutoff; compaction / reopen between extensions, the cutoff a remembered boundary not below the
previous one.  `Book.ops` flattens a block-level history to store operations. -/

/-- **The chain's bookkeeping implies the usage protocol of the store**: every block-level history
of the chain's discipline, flattened to `push` / `prune` / `rewind` / `sync` / `discard` /
`compact` / `reopen`, satisfies `RefSt.Proto` – so `history_preserves_reference` and
`history_merkle_proofs` apply to it. -/
theorem chain_bookkeeping_conforms (l : List BOp) (hok : Book.Ok {} l) :
    RefSt.Proto {} (Book.ops {} l) := (book_run binv_init l hok).1

/-- **Block-level invariant**: along every such history no leaf compacted away so far (`G`) is
unspent now or at any remembered boundary from the last compaction cutoff on – including leaves a
compaction had to protect because they were spent inside the horizon (they were in
`rewind_rm_pos`) and that a later rewind made unspent again. -/
theorem protected_never_compacted (l : List BOp) (hok : Book.Ok {} l) :
    let bk := Book.run {} l
    (∀ q ∈ bk.r.cur.U, q ∉ bk.r.G) ∧
    (∀ k t, bk.minIdx ≤ k → bk.chain[k]? = some t → ∀ q ∈ t.U, q ∉ bk.r.G) := by
  intro bk
  obtain ⟨_, h2, _⟩ := book_run binv_init l hok
  exact ⟨fun q hq => (h2.work.curU q hq).2.2, h2.work.prot⟩

/-- **No prune-list entry covers an unspent-or-protected leaf.**  After every block-level history
of the chain's discipline the prune list of the store (as `check_compact` built it from
`LeafSet::removed_pre_cutoff(cutoff_pos, rewind_rm_pos)`, cutoff position and `rewind_rm_pos`
OR-ed back exactly as the code does) prunes neither a currently unspent leaf nor a leaf that is
unspent at a boundary a rewind may still target; the prune list re-read from its file is that
list.  (The harness line `store covered` and its oracle evaluate exactly this on the
implementation.) -/
theorem protected_never_pruned {H : Type} (el : Bytes → Option Nat) (hf : HashFn Bytes H)
    (l : List BOp) (hok : Book.Ok {} l) :
    let bk := Book.run {} l
    let p := (Book.ops {} l).foldl (bstep el hf) ({} : PM H)
    (∀ q ∈ bk.r.cur.U, p.b.pruneList.isPruned q = false) ∧
    (∀ k t, bk.minIdx ≤ k → bk.chain[k]? = some t → ∀ q ∈ t.U, p.b.pruneList.isPruned q = false) ∧
    PruneList.openBm p.b.pruneFile = p.b.pruneList :=
  protected_not_pruned el hf l hok

/-- a block-level history with a protected leaf at the cutoff: three leaves (the boundary ends on a leaf: position 3 is
the third leaf and 1-based position 4 = the cutoff), commit; one more leaf, commit; the next block
spends exactly the last leaf of the first boundary, commit; compaction with the first boundary as
cutoff (the spend is inside the horizon: `rewind_rm_pos = [4]`); a fork: rewind block by block to
the boundary before the spend (the leaf is unspent again), spend its sibling (position 4), append,
commit; one more block; compaction at the head; reopen -/
def cutoffShape : List BOp :=
  [.push [1], .push [2], .push [3], .commit, .push [4], .commit, .prune 3, .commit,
   .compact 1, .rewindTo 2, .prune 4, .push [5], .commit, .push [6], .commit, .compact 4, .reopen]

/-- a prune list with one pruned root: position 2, the parent of leaves 0 and 1 -/
def plOne : PruneList :=
  { bitmap := [3], shiftCache := [PruneList.rootShift 2], leafShiftCache := [PruneList.rootLeafShift 2] }

/-- `plOne` is what `PruneList::new` builds from the bitmap `{3}` -/
theorem plOne_inv : plOne.Inv := by
  rw [show plOne = PruneList.new [3] by decide +kernel]
  exact PruneList.new_inv _

theorem height_two : height 2 = 1 := by decide +kernel

-- the invariant is inhabited by a non-empty list; its shift at position 5 is 2 (leaves 0 and 1
-- are gone from the hash file), its leaf shift is 2, and position 5 is not compacted
example : plOne.Inv ∧ plOne.getShift 5 = 2 ∧ plOne.getLeafShift 5 = 2 ∧
    compactedP plOne.bitmap 5 = false ∧ compactedP plOne.bitmap 1 = true := by
  refine ⟨plOne_inv, ?_, ?_, ?_, ?_⟩
  all_goals decide +kernel

-- the layout hypotheses of the read laws are satisfiable with a non-empty prune list: an MMR of
-- size 4 whose leaves 0 and 1 were compacted keeps positions 2 and 3 in its hash file
example : layout plOne.bitmap 4 = [2, 3] := by decide +kernel

example : ∃ b : Backend Nat, b.pruneList.Inv ∧ b.hashFile.Clean ∧
    b.hashFile.disk = (layout b.pruneList.bitmap 4).map (fun p => 100 + p) ∧
    b.hashFile.disk = [102, 103] := by
  refine ⟨{ pruneList := plOne, hashFile := AOF.ofDisk [102, 103] }, plOne_inv, AOF.ofDisk_clean _, ?_, rfl⟩
  decide +kernel

-- appending to it keeps the invariant, and any bitmap at all yields an invariant list
example : (plOne.append 7).Inv ∧ (PruneList.new [1, 2, 5, 8, 9]).Inv :=
  ⟨rollup_inv_append _ plOne_inv 7, inv_of_new _⟩

-- a synced file with content, a unit with a rewind inside it, and its discard
example : (AOF.ofDisk [10, 20, 30]).Clean ∧
    ([AOF.Op.rewind 1, AOF.Op.append 7].foldl AOF.Op.apply (AOF.ofDisk [10, 20, 30])).discard
      = AOF.ofDisk [10, 20, 30] ∧
    (((AOF.ofDisk [10, 20, 30]).rewind 1).extend [7]).read 1 = some 7 ∧
    (((AOF.ofDisk [10, 20, 30]).rewind 1).extend [7]).flush.disk = [10, 7] := by
  refine ⟨AOF.ofDisk_clean _, ?_, ?_, ?_⟩
  · exact file_discard _ (AOF.ofDisk_clean _) _ (by
      intro op hop
      simp at hop
      rcases hop with rfl | rfl
      · show 1 ≤ 3; omega
      · trivial)
  · rw [file_read_after_rewind _ (AOF.ofDisk_clean _) 1 (by simp [AOF.ofDisk])]; rfl
  · rw [file_rewind_flush _ (AOF.ofDisk_clean _)]; rfl

-- a synced backend (after `sync`) exists for every backend with a fixed-size data file, and the
-- backend-level laws apply to it, e.g. to the default backend after a push-like append
example : ∃ (b : Backend Nat) (df : AOF Bytes), Backend.CleanFixed b df ∧ b.hashFile.disk = [5] :=
  ⟨(((({} : Backend Nat).append [1,2,3,4,5,6,7,8] [5]).getD {}).sync), _,
    sync_clean _ _ (by rfl), by rfl⟩

/-! ### a concrete synced backend: 8 leaves, a pruned subtree, a lone pruned leaf

MMR of 8 leaves (15 positions).  Leaves 0 and 1 are compacted away (pruned root: position 2,
height 1); the lone leaf at position 7 is pruned but its hash and data stay (pruned root of
height 0); the leaf at position 4 is spent but not pruned yet; unspent leaves: 3, 8, 10, 11. -/

def plEx : PruneList := { bitmap := [3, 8], shiftCache := [2, 2], leafShiftCache := [2, 2] }

/-- `plEx` is what `PruneList::new` builds from the bitmap `{3, 8}` -/
theorem plEx_inv : plEx.Inv := by
  rw [show plEx = PruneList.new [3, 8] by decide +kernel]
  exact PruneList.new_inv _

/-- the concrete backend: hashes `100 + p`, data `[p]` -/
def bEx : Backend Nat :=
  { hashFile := AOF.ofDisk ((layout plEx.bitmap (mmr 8)).map (fun p => 100 + p)),
    dataFile := .fixed (AOF.ofDisk ((dataLayout plEx.bitmap (mmr 8)).map (fun p => [p]))),
    leafSet := { bitmap := [4, 9, 11, 12], bak := [4, 9, 11, 12] },
    pruneList := plEx, pruneFile := [3, 8] }

theorem bEx_synced : Synced bEx 8 (fun p => 100 + p) (fun p => [p])
    (AOF.ofDisk ((dataLayout plEx.bitmap (mmr 8)).map (fun p => [p]))) := by
  refine ⟨plEx_inv, AOF.ofDisk_clean _, rfl, rfl, AOF.ofDisk_clean _, rfl,
    by unfold Sorted; decide +kernel, rfl, ?_, ?_, ?_, by decide +kernel, rfl⟩
  · show ∀ x ∈ [4, 9, 11, 12], 1 ≤ x ∧ x ≤ mmr 8 ∧ height (x - 1) = 0
    decide +kernel
  · show ∀ x ∈ [4, 9, 11, 12], ¬ ∃ r ∈ [3, 8], Store.Sub (r - 1) (x - 1)
    decide +kernel
  · show ∀ x ∈ [3, 8], x ≤ mmr 8
    decide +kernel

-- the hash file of the concrete backend holds positions 2 … 14 (leaves 0 and 1 are gone, the lone
-- pruned leaf 7 is still there)
example : layout plEx.bitmap 15 = [2, 3, 4, 5, 6, 7, 8, 9, 10, 11, 12, 13, 14] := by decide +kernel

-- the hypotheses of `compact_preserves` are satisfiable by this backend, with a cutoff inside the
-- MMR and a non-empty `rewind_rm_pos`; the conclusion gives e.g. the data of the unspent leaf 8
example : ∃ df', Synced (bEx.checkCompact (fun _ => none) 11 [9]) 8 (fun p => 100 + p) (fun p => [p]) df' :=
  (compact_preserves (fun _ => none) ⟨fun i _ => i, fun i l r => i + l + r⟩ bEx 8 _ _ _ bEx_synced 11
    (by decide +kernel) [9]).1

example : (bEx.checkCompact (fun _ => none) 11 [9]).getData (fun _ => none) 8 = some [8] := by
  obtain ⟨_, _, _, _, _, _, _, _, _, _, hunspent, _⟩ :=
    compact_preserves (fun _ => none) ⟨fun i _ => i, fun i l r => i + l + r⟩ bEx 8 _ _ _ bEx_synced 11
      (by decide +kernel) [9]
  exact (hunspent 8 (by decide +kernel)).2

-- a history the protocol allows: three leaves, commit, spend the sibling pair, commit, compact at
-- the boundary of two leaves, reopen, one more leaf, commit, rewind to three leaves, discard
example : RefSt.Proto {} [.push [1], .push [2], .push [3], .sync, .prune 0, .prune 1, .sync,
    .compact 2 [], .reopen, .push [4], .sync, .rewind 3 [], .discard] := by
  decide +kernel

-- a removal-only unit and the rewind that undoes it: four leaves, commit; spend the leaves at
-- positions 0 and 1 (nothing appended: the size stays 7), commit; rewind to the boundary before
-- that unit - position = current size, rewind_rm_pos = {1, 2} - commit the rewind alone, reopen
example : RefSt.Proto {} [.push [1], .push [2], .push [3], .push [4], .sync, .prune 0, .prune 1,
    .sync, .rewind 4 [1, 2], .sync, .reopen] := by
  decide +kernel

-- the hypothesis of `chain_bookkeeping_conforms`, `protected_never_compacted` and
-- `protected_never_pruned` is satisfiable by that history: it obeys the chain's
-- discipline, the first compaction really passes the cutoff position in `rewind_rm_pos`, and
-- the rewind really re-adds it
theorem cutoffShape_ok : Book.Ok {} cutoffShape ∧
    (Book.ops {} cutoffShape)[8]? = some (.compact 3 [4]) ∧
    (Book.ops {} cutoffShape)[9]? = some (.rewind 4 [4]) ∧
    3 ∈ (Book.run {} cutoffShape).r.cur.U := by
  decide +kernel

-- … and the conclusion for it: the leaf at the cutoff position (position 3), protected by the
-- first compaction, un-spent by the rewind, its sibling spent and compacted, is not covered by
-- the prune list of the store, and the store still answers like the unpruned reference for it
example (hf : HashFn Bytes Nat) :
    ((Book.ops {} cutoffShape).foldl (bstep (fun _ => none) hf) ({} : PM Nat)).b.pruneList.isPruned 3 = false :=
  (protected_never_pruned (fun _ => none) hf cutoffShape cutoffShape_ok.1).1 3 cutoffShape_ok.2.2.2

example (hf : HashFn Bytes Nat) :
    let p := (Book.ops {} cutoffShape).foldl (bstep (fun _ => none) hf) ({} : PM Nat)
    let r := (Book.ops {} cutoffShape).foldl RefSt.step {}
    p.size = mmr r.cur.es.length ∧ PM.root hf p = Pmmr.root hf (Pmmr.Co.allHashes hf (leafFn r.cur.es) r.cur.es.length) :=
  let h := history_preserves_reference (fun _ => none) hf _ (chain_bookkeeping_conforms cutoffShape cutoffShape_ok.1)
  ⟨h.1, h.2.2.1⟩

-- a unit with a variable-size data file: whatever is appended / rewound, the durable state stays
example (v : VarFile) (b : Backend Nat) (ops : List (Backend.Op Nat)) (h : b.dataFile = .var v) :
    ((ops.foldl Backend.Op.apply b).discard.onDisk).2.1 = ([v.disk], v.sizeFile.disk) := by
  rw [(unit_disk_untouched b ops).2]
  simp [Backend.onDisk, h, DFile.onDisk]

end GV.Props.C08
