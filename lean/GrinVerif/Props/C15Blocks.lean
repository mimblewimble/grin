import GrinVerif.Props.C15
import GrinVerif.Model.BitmapBlocks
/-! # C15 — the chain invariant "the last output leaf is unspent" discharged from a block-history
model (`Model/BitmapBlocks.lean`: `Extension::apply_block`, `Extension::rewind` over the output
MMR's leaf set), so that path independence does not rest on an invariant proved elsewhere.

`Good s`: the leaf set is ascending, below the leaf count, the MMR is not empty and **its last
leaf is in the leaf set**.  `block_history_eq_scratch`: from any good state whose accumulator is the
from-scratch one, after EVERY history of valid blocks (≥ 1 output, inputs spend outputs unspent
before the block) and rewinds of any depth down to the base (one aggregate accumulator update per
rewind, as the code does), the state is good and the accumulator is the from-scratch accumulator of
the leaf set reached.  `own_output_spent_breaks_invariant`: what `verify_cut_through` is needed for. -/
namespace GV.Props.C15
open GV GV.Pmmr GV.Bitmap

variable {H : Type}

def Good (s : BSt) : Prop :=
  s.U.Pairwise (· < ·) ∧ (∀ x ∈ s.U, x < s.n) ∧ 0 < s.n ∧ s.n - 1 ∈ s.U ∧ s.n ≤ 2 ^ 64

theorem Good.sorted {s : BSt} (g : Good s) : s.U.Pairwise (· < ·) := g.1
theorem Good.lt {s : BSt} (g : Good s) : ∀ x ∈ s.U, x < s.n := g.2.1
theorem Good.pos {s : BSt} (g : Good s) : 0 < s.n := g.2.2.1
theorem Good.bound {s : BSt} (g : Good s) : s.n ≤ 2 ^ 64 := g.2.2.2.2
theorem Good.last {s : BSt} (g : Good s) : LastLeafUnspent s.U s.n := ⟨g.2.2.1, g.2.2.2.1⟩

theorem mem_applyBlk (s : BSt) (b : Blk) (hU : ∀ x ∈ s.U, x < s.n) (x : Nat) :
    x ∈ (applyBlk s b).U ↔ (x ∈ s.U ∨ (s.n ≤ x ∧ x < s.n + b.k)) ∧ x ∉ b.spent := by
  unfold applyBlk
  simp only [List.mem_filter, List.mem_range, Bool.and_eq_true, Bool.or_eq_true, decide_eq_true_eq,
    Bool.not_eq_true', decide_eq_false_iff_not]
  refine ⟨fun h => h.2, fun h => ⟨?_, h⟩⟩
  rcases h.1 with h1 | h1
  · exact Nat.lt_of_lt_of_le (hU x h1) (Nat.le_trans (Nat.le_add_right _ _) (Nat.le_max_left _ _))
  · exact Nat.lt_of_lt_of_le h1.2 (Nat.le_max_left _ _)

theorem mem_undoBlk (s : BSt) (r : Rec) (hsp : ∀ x ∈ r.spent, x < r.nBefore) (x : Nat) :
    x ∈ (undoBlk s r).U ↔ (x < r.nBefore ∧ x ∈ s.U) ∨ x ∈ r.spent := by
  unfold undoBlk
  simp only [List.mem_filter, List.mem_range, Bool.and_eq_true, Bool.or_eq_true, decide_eq_true_eq]
  refine ⟨fun h => h.2, fun h => ⟨?_, h⟩⟩
  rcases h with h1 | h1
  · exact Nat.lt_of_lt_of_le h1.1 (Nat.le_max_left _ _)
  · exact Nat.lt_of_lt_of_le (hsp x h1) (Nat.le_max_left _ _)

/-- **a valid block keeps the state good — in particular its last output is the last leaf and it
is unspent** (`k ≥ 1`; no input names an output of the block itself) -/
theorem good_applyBlk (s : BSt) (b : Blk) (g : Good s) (v : ValidBlk s b) : Good (applyBlk s b) := by
  obtain ⟨_, hlt, hpos, _, _⟩ := g
  obtain ⟨hk, hsp, hsz⟩ := v
  have hpos' : 0 < s.n + b.k := Nat.lt_of_lt_of_le hpos (Nat.le_add_right _ _)
  have hlast : s.n ≤ s.n + b.k - 1 := Nat.le_sub_of_add_le (Nat.add_le_add_left hk _)
  refine ⟨List.pairwise_lt_range.filter _, ?_, hpos', ?_, hsz⟩
  · intro x hx
    rcases ((mem_applyBlk s b hlt x).mp hx).1 with h | h
    · exact Nat.lt_of_lt_of_le (hlt x h) (Nat.le_add_right _ _)
    · exact h.2
  · exact (mem_applyBlk s b hlt _).mpr ⟨Or.inr ⟨hlast, Nat.sub_lt hpos' Nat.one_pos⟩,
      fun hm => absurd (hlt _ (hsp _ hm)) (Nat.not_lt.2 hlast)⟩

/-- `rewind_single_block` undoes `apply_block` on the output MMR -/
theorem undo_apply (s : BSt) (b : Blk) (g : Good s) (v : ValidBlk s b) :
    undoBlk (applyBlk s b) ⟨s.n, b.spent⟩ = s := by
  obtain ⟨hs, hlt, _, _, _⟩ := g
  obtain ⟨_, hsp, _⟩ := v
  have hsp' : ∀ x ∈ b.spent, x < s.n := fun x hx => hlt x (hsp x hx)
  have hU : (undoBlk (applyBlk s b) ⟨s.n, b.spent⟩).U = s.U := by
    refine sorted_ext _ _ (List.pairwise_lt_range.filter _) hs ?_
    intro x
    rw [mem_undoBlk _ ⟨s.n, b.spent⟩ hsp' x, mem_applyBlk s b hlt x]
    constructor
    · rintro (⟨h1, h2, _⟩ | h)
      · rcases h2 with h2 | h2
        · exact h2
        · simp only at h1; omega
      · exact hsp x h
    · intro h
      by_cases hm : x ∈ b.spent
      · exact Or.inr hm
      · exact Or.inl ⟨hlt x h, Or.inl h, hm⟩
  cases s
  simp only [undoBlk] at hU ⊢
  rw [hU]

/-- what the stack of rewindable blocks must satisfy: undoing the newest record gives a good state
again (below the current one), and so on down to the base -/
def StackOk : BSt → List Rec → Prop
  | _, [] => True
  | s, r :: rs => Good (undoBlk s r) ∧ (∀ x ∈ r.spent, x < r.nBefore) ∧ StackOk (undoBlk s r) rs

def idxOf (p : Nat) : Nat := satSub (nLeaves p) 1

theorem idxOf_pos (i : Nat) : idxOf (insertionToPmmrIndex i + 1) = i := affected_pos_index i

theorem idxOf_size (n : Nat) : idxOf (insertionToPmmrIndex n) = n - 1 := affected_size_index n

theorem idx_recAffected (r : Rec) (p : Nat) (hp : p ∈ recAffected r) :
    idxOf p ∈ r.spent ∨ idxOf p = r.nBefore - 1 := by
  unfold recAffected at hp
  rcases List.mem_append.mp hp with h | h
  · obtain ⟨i, hi, e⟩ := List.mem_map.mp h
    left; rw [← e, idxOf_pos]; exact hi
  · right
    rw [List.mem_singleton.mp h]; exact idxOf_size _

theorem undo_agree (s : BSt) (r : Rec) (hsp : ∀ x ∈ r.spent, x < r.nBefore) (y : Nat)
    (hy : ∀ p ∈ recAffected r, y < idxOf p) : y ∈ (undoBlk s r).U ↔ y ∈ s.U := by
  rw [mem_undoBlk s r hsp y]
  have hnb : y < r.nBefore - 1 := by
    have := hy (insertionToPmmrIndex r.nBefore) (List.mem_append_right _ List.mem_cons_self)
    rw [idxOf_size] at this; exact this
  have hns : y ∉ r.spent := by
    intro hm
    have := hy (insertionToPmmrIndex y + 1) (List.mem_append_left _ (List.mem_map.mpr ⟨y, hm, rfl⟩))
    rw [idxOf_pos] at this; omega
  exact ⟨fun h => h.elim And.right (fun h => absurd h hns), fun h => Or.inl ⟨by omega, h⟩⟩

theorem mem_blkAffected_first (s : BSt) (b : Blk) (hk : 1 ≤ b.k) :
    insertionToPmmrIndex s.n + 1 ∈ blkAffected s b :=
  List.mem_map.mpr ⟨s.n, List.mem_append_left _ (List.mem_range'_1.2 ⟨Nat.le_refl _, by omega⟩), rfl⟩

theorem apply_agree (s : BSt) (b : Blk) (hU : ∀ x ∈ s.U, x < s.n) (hk : 1 ≤ b.k) (y : Nat)
    (hy : ∀ p ∈ blkAffected s b, y < idxOf p) : y ∈ (applyBlk s b).U ↔ y ∈ s.U := by
  rw [mem_applyBlk s b hU y]
  have hyn : y < s.n := by
    have := hy _ (mem_blkAffected_first s b hk)
    rw [idxOf_pos] at this; exact this
  have hns : y ∉ b.spent := by
    intro hm
    have := hy (insertionToPmmrIndex y + 1) (List.mem_map.mpr ⟨y, List.mem_append_right _ hm, rfl⟩)
    rw [idxOf_pos] at this; omega
  exact ⟨fun h => h.1.elim id (fun h => by omega), fun h => ⟨Or.inl h, hns⟩⟩

theorem undoMany_cons (s : BSt) (r : Rec) (rs : List Rec) (d : Nat) :
    undoMany s (r :: rs) (d + 1) =
      ((undoMany (undoBlk s r) rs d).1, recAffected r ++ (undoMany (undoBlk s r) rs d).2) := rfl

/-- **the rewind loop**: after `d ≥ 1` rewound blocks the state is good again, the stack below is
intact, the aggregate `affected_pos` names the new last leaf, and below every affected index the
leaf set is the one before the rewind -/
theorem undoMany_spec : ∀ (d : Nat) (stack : List Rec) (s : BSt), StackOk s stack → d + 1 ≤ stack.length →
    Good (undoMany s stack (d + 1)).1 ∧ StackOk (undoMany s stack (d + 1)).1 (stack.drop (d + 1)) ∧
    (∃ p ∈ (undoMany s stack (d + 1)).2, idxOf p = (undoMany s stack (d + 1)).1.n - 1) ∧
    (∀ y, (∀ p ∈ (undoMany s stack (d + 1)).2, y < idxOf p) →
      (y ∈ (undoMany s stack (d + 1)).1.U ↔ y ∈ s.U))
  | _, [], _, _, hl => by simp at hl
  | 0, r :: rs, s, hso, _ => by
    obtain ⟨g, hsp, hrest⟩ := hso
    have e : undoMany s (r :: rs) (0 + 1) = (undoBlk s r, recAffected r ++ []) := by
      cases rs <;> rfl
    rw [e]
    refine ⟨g, hrest, ⟨insertionToPmmrIndex r.nBefore, by unfold recAffected; simp, idxOf_size _⟩, ?_⟩
    · intro y hy
      exact undo_agree s r hsp y (fun p hp => hy p (by simpa using hp))
  | d + 1, r :: rs, s, hso, hl => by
    obtain ⟨g, hsp, hrest⟩ := hso
    have hl' : d + 1 ≤ rs.length := by simp only [List.length_cons] at hl; omega
    obtain ⟨g', hst', ⟨p, hp, hpe⟩, hag⟩ := undoMany_spec d rs (undoBlk s r) hrest hl'
    have e : undoMany s (r :: rs) (d + 1 + 1) =
        ((undoMany (undoBlk s r) rs (d + 1)).1, recAffected r ++ (undoMany (undoBlk s r) rs (d + 1)).2) :=
      undoMany_cons _ _ _ _
    rw [e]
    refine ⟨g', hst', ⟨p, List.mem_append_right _ hp, hpe⟩, ?_⟩
    intro y hy
    rw [hag y (fun p hp => hy p (List.mem_append_right _ hp))]
    exact undo_agree s r hsp y (fun p hp => hy p (List.mem_append_left _ hp))

/-- `apply_to_bitmap_accumulator` = from scratch, needing only that the SMALLEST affected index lies
inside the output MMR (a rewind's aggregate also names indices of leaves that no longer exist) -/
theorem extApply_eq_scratch_min (hf : HashFn Nat H)
    (U0 : List Nat) (size0 : Nat) (st0 : Acc H) (o : OutputPmmr) (outputPos : List Nat)
    (hprev : fromScratch hf U0 size0 = some st0)
    (hs0 : U0.Pairwise (· < ·)) (hlt0 : ∀ x ∈ U0, x < size0) (hsz0 : size0 ≤ 2 ^ 64)
    (hs : o.leafSet.Pairwise (· < ·)) (hlt : ∀ x ∈ o.leafSet, x < nLeaves o.size)
    (hne : outputPos ≠ [])
    (hfrom : (affectedIdx outputPos).headD 0 < nLeaves o.size)
    (hagree : o.leafSet.filter (fun x => decide (x < chunkStartIdx ((affectedIdx outputPos).headD 0))) =
      U0.filter (fun x => decide (x < chunkStartIdx ((affectedIdx outputPos).headD 0))))
    (hlast : LastLeafUnspent o.leafSet (nLeaves o.size)) :
    extApply hf st0 o outputPos = fromScratch hf o.leafSet (nLeaves o.size) := by
  obtain ⟨t, e⟩ := extApply_eq_apply hf st0 o outputPos hne
  rw [e]
  exact apply_eq_scratch hf U0 size0 st0 o.leafSet (nLeaves o.size) _ t hprev hs0 hlt0 hsz0 hs hlt
    hagree hfrom hlast

theorem nLeaves_outOf (s : BSt) : nLeaves (outOf s).size = s.n := by
  unfold outOf insertionToPmmrIndex
  exact Co.nLeaves_mmr s.n

/-- the common part of the three cases of `step_inv` (block, rewind 0, rewind `d + 1`): a transition
from good `s` to good `s'` whose affected positions name an index inside `s'` and below whose every
index the leaf sets agree -/
theorem transition_eq_scratch (hf : HashFn Nat H) (s s' : BSt) (acc : Acc H) (aff : List Nat)
    (g : Good s) (g' : Good s') (hacc : fromScratch hf s.U s.n = some acc)
    (hin : ∃ p ∈ aff, idxOf p < s'.n)
    (hag : ∀ y, (∀ p ∈ aff, y < idxOf p) → (y ∈ s'.U ↔ y ∈ s.U)) :
    ∃ a, extApply hf acc (outOf s') aff = some a ∧ fromScratch hf s'.U s'.n = some a := by
  obtain ⟨p, hp, hlt⟩ := hin
  have hne := List.ne_nil_of_mem hp
  obtain ⟨_, hle⟩ := minIdx_is_min aff hne
  have hn := nLeaves_outOf s'
  have := extApply_eq_scratch_min hf s.U s.n acc (outOf s') aff hacc g.sorted g.lt g.bound
    g'.sorted (by rw [hn]; exact g'.lt) hne (by rw [hn]; exact Nat.lt_of_le_of_lt (hle p hp) hlt)
    (filter_lt_ext _ _ _ g'.1 g.1 fun y hy => hag y fun p hp =>
      Nat.lt_of_lt_of_le hy (Nat.le_trans (Nat.div_mul_le_self _ _) (hle p hp)))
    (by rw [hn]; exact g'.last)
  rw [hn] at this
  obtain ⟨a, ha, _⟩ := fromScratch_eq hf s'.U s'.n g'.sorted g'.lt g'.bound
  exact ⟨_, this.trans ha, ha⟩

structure CInv (hf : HashFn Nat H) (c : CSt H) : Prop where
  good : Good c.st
  acc : fromScratch hf c.st.U c.st.n = some c.acc
  stack : StackOk c.st c.stack

theorem stackOk_drop : ∀ (d : Nat) (stack : List Rec) (s : BSt), StackOk s stack → d ≤ stack.length → True :=
  fun _ _ _ _ _ => trivial

/-- **every valid operation succeeds and keeps the invariant**: afterwards the last leaf is unspent
and the accumulator is the from-scratch accumulator of the leaf set -/
theorem step_inv (hf : HashFn Nat H) (c : CSt H) (op : Op) (hi : CInv hf c) (hv : ValidOp c op) :
    ∃ c', stepOp hf c op = some c' ∧ CInv hf c' := by
  obtain ⟨g, hacc, hst⟩ := hi
  cases op with
  | block b =>
    have v : ValidBlk c.st b := hv
    have g' := good_applyBlk c.st b g v
    have hlt := g.lt
    obtain ⟨a, e1, e2⟩ := transition_eq_scratch hf c.st (applyBlk c.st b) c.acc (blkAffected c.st b) g g' hacc
      ⟨_, mem_blkAffected_first c.st b v.1, by rw [idxOf_pos]; show c.st.n < c.st.n + b.k; have := v.1; omega⟩
      (apply_agree c.st b hlt v.1)
    refine ⟨{ acc := a, st := applyBlk c.st b, stack := ⟨c.st.n, b.spent⟩ :: c.stack },
      by simp only [stepOp, e1], ⟨g', e2, ?_⟩⟩
    show Good (undoBlk (applyBlk c.st b) ⟨c.st.n, b.spent⟩) ∧ (∀ x ∈ b.spent, x < c.st.n) ∧
      StackOk (undoBlk (applyBlk c.st b) ⟨c.st.n, b.spent⟩) c.stack
    rw [undo_apply c.st b g v]
    exact ⟨g, fun x hx => hlt x (v.2.1 x hx), hst⟩
  | rewind d =>
    cases d with
    | zero =>
      obtain ⟨a, e1, e2⟩ := transition_eq_scratch hf c.st c.st c.acc [insertionToPmmrIndex c.st.n] g g hacc
        ⟨_, List.mem_singleton.mpr rfl, by rw [idxOf_size]; have := g.pos; omega⟩ (fun _ _ => Iff.rfl)
      exact ⟨{ c with acc := a }, by simp only [stepOp, e1], ⟨g, e2, hst⟩⟩
    | succ d =>
      have hl : d + 1 ≤ c.stack.length := hv
      obtain ⟨g', hst', ⟨p, hp, hpe⟩, hag⟩ := undoMany_spec d c.stack c.st hst hl
      obtain ⟨a, e1, e2⟩ := transition_eq_scratch hf c.st (undoMany c.st c.stack (d + 1)).1 c.acc
        (undoMany c.st c.stack (d + 1)).2 g g' hacc ⟨p, hp, by rw [hpe]; have := g'.pos; omega⟩ hag
      exact ⟨{ acc := a, st := (undoMany c.st c.stack (d + 1)).1, stack := c.stack.drop (d + 1) },
        by simp only [stepOp, if_neg (Nat.not_lt.2 hl), e1], ⟨g', e2, hst'⟩⟩

/-- **Path independence over block histories, with the chain invariant derived, not assumed.**
Start from any good state (e.g. the genesis output alone) whose accumulator is the from-scratch one.
After every history of valid blocks and rewinds — any depths, any interleaving, re-applying other
blocks after a rewind (reorganisation) — every operation succeeds, the last output leaf is unspent
and the bitmap accumulator is the one computed from scratch over the leaf set reached; `as_bitmap`
returns exactly that leaf set. -/
theorem block_history_eq_scratch (hf : HashFn Nat H) : ∀ (ops : List Op) (c : CSt H), CInv hf c →
    ValidOps hf c ops →
    ∃ c', runOps hf c ops = some c' ∧ LastLeafUnspent c'.st.U c'.st.n ∧
      fromScratch hf c'.st.U c'.st.n = some c'.acc ∧ asBitmap c'.acc = some c'.st.U
  | [], c, hi, _ => by
    refine ⟨c, rfl, hi.good.last, hi.acc, ?_⟩
    obtain ⟨a, ha, hb⟩ := scratch_as_bitmap hf c.st.U c.st.n hi.good.sorted hi.good.lt hi.good.bound
    rw [hi.acc] at ha; injection ha with ha; rw [ha]; exact hb
  | op :: ops, c, hi, hv => by
    obtain ⟨c1, h1, hi1⟩ := step_inv hf c op hi hv.1
    obtain ⟨c', h2, rest⟩ := block_history_eq_scratch hf ops c1 hi1 (hv.2 c1 h1)
    exact ⟨c', by simp only [runOps, h1]; exact h2, rest⟩

/-- the base: the genesis output alone -/
theorem genesis_inv (hf : HashFn Nat H) (a : Acc H) (ha : fromScratch hf [0] 1 = some a) :
    CInv hf { acc := a, st := ⟨1, [0]⟩, stack := [] } :=
  ⟨⟨List.pairwise_singleton _ _, by intro x hx; simp only [List.mem_singleton] at hx; show x < 1; omega,
    by show 0 < 1; omega, by show 1 - 1 ∈ [0]; simp, by show 1 ≤ 2 ^ 64; omega⟩, ha, trivial⟩

/-- **Why cut-through matters here**: at the level of `Extension::apply_block` a block may spend its
own last output (the inputs are looked up after the outputs were pushed); the resulting state
violates the invariant — its last leaf is spent.  (`1 ≤ k` only says that leaf `s.n + k - 1` is an output of
the block itself; the conclusion does not need it.) -/
theorem own_output_spent_breaks_invariant (s : BSt) (k : Nat) (_hk : 1 ≤ k) (hU : ∀ x ∈ s.U, x < s.n) :
    ¬ LastLeafUnspent (applyBlk s ⟨k, [s.n + k - 1]⟩).U (applyBlk s ⟨k, [s.n + k - 1]⟩).n := by
  intro h
  have hm := h.2
  have e : (applyBlk s ⟨k, [s.n + k - 1]⟩).n = s.n + k := rfl
  rw [e] at hm
  have := ((mem_applyBlk s ⟨k, [s.n + k - 1]⟩ hU _).mp hm).2
  exact this (List.mem_singleton.mpr rfl)

instance (s : BSt) (b : Blk) : Decidable (ValidBlk s b) := by unfold ValidBlk; exact inferInstance

/-- `ValidBlk` is satisfiable and the leaf-set functions compute what they should: genesis, a block of
3 outputs spending the genesis output, a block of 2 spending leaf 2, the rewind of both -/
example : ValidBlk ⟨1, [0]⟩ ⟨3, [0]⟩ ∧ ValidBlk (applyBlk ⟨1, [0]⟩ ⟨3, [0]⟩) ⟨2, [2]⟩ ∧
    (applyBlk (applyBlk ⟨1, [0]⟩ ⟨3, [0]⟩) ⟨2, [2]⟩).U = [1, 3, 4, 5] ∧
    (undoMany (applyBlk (applyBlk ⟨1, [0]⟩ ⟨3, [0]⟩) ⟨2, [2]⟩) [⟨4, [2]⟩, ⟨1, [0]⟩] 2).1.U = [0] := by
  decide +kernel

end GV.Props.C15
