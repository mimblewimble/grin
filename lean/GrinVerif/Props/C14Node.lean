import GrinVerif.Props.C14
import GrinVerif.Model.PoolNode
/-! C14, node side — the callers of the pool in a running node add no behaviour of their own, and
the reorg-cache replay keeps stempool and txpool jointly valid.

Model: `GrinVerif/Model/PoolNode.lean` (servers/src/common/adapters.rs:
`NetToChainAdapter::transaction_received`, `PoolToNetAdapter::stem_tx_accepted` + `DandelionEpoch`;
servers/src/grin/dandelion_monitor.rs: `process_fluff_phase`, `process_expired_entries`, the loop
body of `monitor_transactions`; servers/src/mining/mine_block.rs: `build_block`).

* `reorg_replay_jointly_valid` / `after_reorg_replay`: after ANY history (evictions included), a
  new head (`reconcile_block`) followed by the replay of the reorg cache
  (`reconcile_reorg_cache`: every re-added entry reconciles the stempool) leaves the txpool, and
  the stempool together with the txpool, jointly valid; `no_shared_spend` /
  `stem_never_conflicts_with_txpool` spell out what that means for a stem transaction that spends
  the output a replayed transaction spends; `replay_drops_conflicting_stem_tx` is the kernel-checked
  history (eviction, block, conflicting stem transaction, reorg, replay).
* `nstep_eq_run` / `nrun_eq_run`: every event at a node's pool — a transaction from a peer, a push
  with the relay decided by the Dandelion epoch, a pass of the Dandelion monitor (fluff phase +
  embargo) — is a (state-dependent) list of pool operations `Op`; so every node history is a pool
  history and all theorems of `Props/C14.lean` apply to it (`node_…` corollaries).
* `build_block_…`: what the miner builds from. -/
namespace GV.Props.C14Node
open GV.Pool GV.Props.C14

/-! ## the reorg-cache replay -/

/-- After ANY history — evictions at capacity and explicit ones included — a new head (next block
or reorg: `reconcile_block` with any unspent set and block content) followed by the replay of the
reorg cache (`reconcile_reorg_cache`) and by any further operations that do not evict leaves the
txpool jointly valid against the head, and the stempool together with the txpool likewise. -/
theorem reorg_replay_jointly_valid (c : Ctx) (ops : List Op) (head : GV.Chain.UState) (ver : Nat)
    (ins kers : List Nat) (more : List Op)
    (hne : NoEvict (step (run (c, {}) (ops ++ [.block head ver ins kers])) .reorgCache) more) :
    JointlyValid (run (c, {}) (ops ++ [.block head ver ins kers] ++ .reorgCache :: more)).1.outs
      (utxoIds (run (c, {}) (ops ++ [.block head ver ins kers] ++ .reorgCache :: more)).1)
      (run (c, {}) (ops ++ [.block head ver ins kers] ++ .reorgCache :: more)).2.txpool.txs ∧
    JointlyValid (run (c, {}) (ops ++ [.block head ver ins kers] ++ .reorgCache :: more)).1.outs
      (utxoIds (run (c, {}) (ops ++ [.block head ver ins kers] ++ .reorgCache :: more)).1)
      ((run (c, {}) (ops ++ [.block head ver ins kers] ++ .reorgCache :: more)).2.stempool.txs ++
       (run (c, {}) (ops ++ [.block head ver ins kers] ++ .reorgCache :: more)).2.txpool.txs) := by
  have hInv := pool_recovers_at_next_block c ops head ver ins kers
  rw [run_append]
  refine pool_inv _ _ hInv ?_
  exact ⟨fun h => h, hne⟩

/-- the state right after the replay: no side condition at all -/
theorem after_reorg_replay (c : Ctx) (ops : List Op) (head : GV.Chain.UState) (ver : Nat)
    (ins kers : List Nat) :
    JointlyValid (run (c, {}) (ops ++ [.block head ver ins kers] ++ [.reorgCache])).1.outs
      (utxoIds (run (c, {}) (ops ++ [.block head ver ins kers] ++ [.reorgCache])).1)
      ((run (c, {}) (ops ++ [.block head ver ins kers] ++ [.reorgCache])).2.stempool.txs ++
       (run (c, {}) (ops ++ [.block head ver ins kers] ++ [.reorgCache])).2.txpool.txs) :=
  (reorg_replay_jointly_valid c ops head ver ins kers [] trivial).2

/-- joint validity in plain words, part 1: an output that no transaction of the list creates is
spent by at most one of them -/
theorem no_shared_spend {outs : List GV.Chain.OutDef} {utxo : List Nat} {txs : List Tx}
    (h : JointlyValid outs utxo txs) (o : Nat) (ho : o ∉ allOuts txs) : (allIns txs).count o ≤ 1 := by
  have h1 := h.covered o
  have h2 : (allOuts txs).count o = 0 := List.count_eq_zero.mpr ho
  have h3 := unspentCount_le utxo o
  omega

/-- part 2: a stem transaction and a txpool transaction never spend the same output of the chain
(an output neither pool creates) — in particular not after the reorg cache put an evicted
transaction back next to a stem transaction on the same output -/
theorem stem_never_conflicts_with_txpool {outs : List GV.Chain.OutDef} {utxo : List Nat}
    {stem pool : List Tx} (h : JointlyValid outs utxo (stem ++ pool))
    {t u : Tx} (ht : t ∈ stem) (hu : u ∈ pool) {o : Nat} (hot : o ∈ t.ins) (hou : o ∈ u.ins) :
    o ∈ allOuts (stem ++ pool) := by
  apply Classical.byContradiction
  intro ho
  have h1 := no_shared_spend h o ho
  rw [allIns_append, List.count_append] at h1
  have h2 : 0 < (allIns stem).count o := List.count_pos_iff.mpr (mem_allIns.mpr ⟨t, ht, hot⟩)
  have h3 : 0 < (allIns pool).count o := List.count_pos_iff.mpr (mem_allIns.mpr ⟨u, hu, hou⟩)
  omega

/-! ### the history, kernel-checked

`max_pool_size = 3`.  A, B, C, X (cheapest) fill the txpool to 4; the admission of D evicts X,
which stays in the reorg cache (cache = [C, X, D]).  A block confirms A and B.  Stem transactions:
S spends output 4 — the output X spends —, U is unrelated, V spends D's output.  A sibling block
without A and B becomes the head (reorg): `reconcile_block`, then `reconcile_reorg_cache` puts X
back; S is gone, U and V are still there. -/

def rpc : Ctx where
  cfg := { maxPool := 3, maxStem := 5, feeBase := 1 }
  outs := [od 1 1000, od 2 1000, od 3 1000, od 4 1000, od 5 1000, od 6 1000,
           od 11 850, od 12 825, od 13 800, od 14 975, od 15 775, od 24 875, od 26 875, od 25 650]
  head := { utxo := [(1, 0, false), (2, 0, false), (3, 0, false), (4, 0, false), (5, 0, false), (6, 0, false)],
            nrd := [], height := 5 }
  ver := 3
def rpA : Tx := { ins := [1], outs := [11], kers := [pk 1 150] }
def rpB : Tx := { ins := [2], outs := [12], kers := [pk 2 175] }
def rpC : Tx := { ins := [3], outs := [13], kers := [pk 3 200] }
def rpX : Tx := { ins := [4], outs := [14], kers := [pk 4 25] }
def rpD : Tx := { ins := [5], outs := [15], kers := [pk 5 225] }
def rpS : Tx := { ins := [4], outs := [24], kers := [pk 6 125] }
def rpU : Tx := { ins := [6], outs := [26], kers := [pk 7 125] }
def rpV : Tx := { ins := [15], outs := [25], kers := [pk 8 125] }
/-- the head after the block confirming A and B -/
def rpHead1 : GV.Chain.UState :=
  { utxo := [(3, 0, false), (4, 0, false), (5, 0, false), (6, 0, false), (11, 6, false), (12, 6, false)],
    nrd := [], height := 6 }
/-- the head after the competing (empty) block -/
def rpHead2 : GV.Chain.UState :=
  { utxo := [(1, 0, false), (2, 0, false), (3, 0, false), (4, 0, false), (5, 0, false), (6, 0, false)],
    nrd := [], height := 6 }
def rpOps1 : List Op :=
  ([rpA, rpB, rpC, rpX, rpD].map fun t => .submit .broadcast t false true) ++ [.block rpHead1 3 [1, 2] [1, 2]]
def rpOps2 : List Op := [rpS, rpU, rpV].map fun t => .submit .pushApi t true true

theorem rp_state1 : run (rpc, {}) rpOps1 =
    ({ rpc with head := rpHead1 },
     ⟨[rpC, rpD].map (⟨·, .broadcast⟩), [], [rpC, rpX, rpD].map (⟨·, .broadcast⟩)⟩) :=
  Prod.ext rfl (by decide +kernel)

theorem rp_state2 : run (run (rpc, {}) rpOps1) rpOps2 =
    ({ rpc with head := rpHead1 },
     ⟨[rpC, rpD].map (⟨·, .broadcast⟩), [rpS, rpU, rpV].map (⟨·, .pushApi⟩),
      [rpC, rpX, rpD].map (⟨·, .broadcast⟩)⟩) := by
  rw [rp_state1]
  exact Prod.ext rfl (by decide +kernel)

theorem replay_evicts_then_recovers :
    (run (rpc, {}) rpOps1).2.txpool.txs = [rpC, rpD] ∧
    (run (rpc, {}) rpOps1).2.cache.map (·.tx) = [rpC, rpX, rpD] := by
  rw [rp_state1]
  exact ⟨rfl, rfl⟩

theorem replay_stem_admitted :
    (run (run (rpc, {}) rpOps1) rpOps2).2.stempool.txs = [rpS, rpU, rpV] ∧
    (run (run (rpc, {}) rpOps1) rpOps2).2.txpool.txs = [rpC, rpD] := by
  rw [rp_state2]
  exact ⟨rfl, rfl⟩

/-- the reorg: after `reconcile_block` S is still in the stempool (nothing conflicts with it yet);
the replay of the cache puts X back into the txpool and S is dropped; U and V survive -/
theorem replay_drops_conflicting_stem_tx :
    (step (run (run (rpc, {}) rpOps1) rpOps2) (.block rpHead2 3 [] [])).2.stempool.txs = [rpS, rpU, rpV] ∧
    (run (run (run (rpc, {}) rpOps1) rpOps2) [.block rpHead2 3 [] [], .reorgCache]).2.txpool.txs = [rpC, rpD, rpX] ∧
    (run (run (run (rpc, {}) rpOps1) rpOps2) [.block rpHead2 3 [] [], .reorgCache]).2.stempool.txs = [rpU, rpV] := by
  rw [rp_state2]
  decide +kernel

/-! ## a node history is a pool history -/

theorem run_nil (cs : Ctx × TxPool) : run cs [] = cs := rfl
theorem run_cons (cs : Ctx × TxPool) (op : Op) (ops : List Op) : run cs (op :: ops) = run (step cs op) ops := rfl

theorem step_submit (cs : Ctx × TxPool) (src : Src) (tx : Tx) (stem ok : Bool) :
    step cs (.submit src tx stem ok) = (cs.1, (cs.2.addToPool cs.1 src tx stem ok).1) := rfl

/-- `process_fluff_phase` is at most one submission on the fluff path -/
theorem fluffPhase_run (cs : Ctx × TxPool) (e a : Bool) :
    run cs (fluffOps cs.1 cs.2 e a) = (cs.1, (cs.2.fluffPhase cs.1 e a).1) := by
  unfold fluffOps TxPool.fluffPhase
  split
  · rfl
  split
  · rfl
  split
  · rfl
  split
  · rfl
  split
  · rfl
  split
  · rfl
  · rfl

theorem expire_run (c : Ctx) (s : TxPool) (l : List Entry) :
    run (c, s) (l.map fun e => .submit .embargoExpired e.tx false false) = (c, expireLoop c s l) := by
  induction l generalizing s with
  | nil => rfl
  | cons e rest ih =>
    simp only [List.map_cons, run_cons, step_submit, expireLoop]
    exact ih _

/-- every event at the pool of a node is the list of pool operations `flat` computes for it -/
theorem nstep_eq_run (cs : Ctx × TxPool) (n : NOp) : nstep cs n = run cs (flat cs n) := by
  cases n with
  | pool op => rfl
  | recv syncing ep tx stem =>
    unfold nstep flat TxPool.transactionReceived
    cases syncing with
    | true => rfl
    | false =>
      simp only [Bool.false_eq_true, if_false, run_cons, run_nil, step_submit]
      split <;> simp_all
  | push src ep tx stem => rfl
  | monitor ep oa oe =>
    unfold nstep flat TxPool.monitorPass TxPool.expireEntries
    simp only [run_append]
    cases hst : ep.isStem with
    | true =>
      simp only [Bool.not_true, Bool.false_eq_true, if_false, run_nil]
      unfold expireOps
      exact (expire_run cs.1 cs.2 _).symm
    | false =>
      simp only [Bool.not_false, if_true]
      rw [fluffPhase_run]
      unfold expireOps
      exact (expire_run _ _ _).symm

/-- **every node history is a pool history**: transactions from peers, pushes with the relay
decided by the Dandelion epoch and passes of the Dandelion monitor, interleaved in any way with
blocks, reorg replays, evictions and truncations, lead to a state that the pool operations
`flatAll` lists lead to as well -/
theorem nrun_eq_run (cs : Ctx × TxPool) (ns : List NOp) : nrun cs ns = run cs (flatAll cs ns) := by
  induction ns generalizing cs with
  | nil => rfl
  | cons n rest ih =>
    simp only [nrun, List.foldl_cons, flatAll, run_append]
    rw [← nstep_eq_run]
    exact ih _

/-! ### so the theorems over all pool histories hold for all node histories -/

/-- whatever reached the pool of a node and however (peers while syncing or not, API pushes, the
Dandelion monitor fluffing the aggregated stempool or expired entries): every entry of txpool,
stempool and reorg cache is standalone valid and within the weight limit -/
theorem node_entries_always_valid (c : Ctx) (ns : List NOp) :
    AllValid (nrun (c, {}) ns).1 (nrun (c, {}) ns).2 := by
  rw [nrun_eq_run]
  exact entries_always_valid c _

/-- …and pays at least the minimum fee for its weight — the aggregate the monitor fluffs included -/
theorem node_fees_always_paid (c : Ctx) (ns : List NOp) :
    ∀ e, (e ∈ (nrun (c, {}) ns).2.txpool ∨ e ∈ (nrun (c, {}) ns).2.stempool ∨ e ∈ (nrun (c, {}) ns).2.cache) →
      e.tx.weight * c.cfg.feeBase ≤ e.tx.shiftedFee := by
  rw [nrun_eq_run]
  exact fees_always_paid c _

/-- joint validity of txpool and of stempool ∪ txpool after any node history whose pool operations
trigger no eviction -/
theorem node_pool_inv (c : Ctx) (ns : List NOp) (hne : NoEvict (c, {}) (flatAll (c, {}) ns)) :
    JointlyValid (nrun (c, {}) ns).1.outs (utxoIds (nrun (c, {}) ns).1) (nrun (c, {}) ns).2.txpool.txs ∧
    JointlyValid (nrun (c, {}) ns).1.outs (utxoIds (nrun (c, {}) ns).1)
      ((nrun (c, {}) ns).2.stempool.txs ++ (nrun (c, {}) ns).2.txpool.txs) := by
  rw [nrun_eq_run]
  exact pool_inv_from_empty c _ hne

/-- after any node history `prepare_mineable_transactions` succeeds and returns txpool
transactions that are jointly valid on the head -/
theorem node_mineable_set_total (c : Ctx) (ns : List NOp) :
    ∃ txs, (nrun (c, {}) ns).2.prepareMineable (nrun (c, {}) ns).1 = .ok txs ∧
      (∀ t ∈ txs, t ∈ (nrun (c, {}) ns).2.txpool.txs) ∧
      JointlyValid (nrun (c, {}) ns).1.outs (utxoIds (nrun (c, {}) ns).1) txs := by
  rw [nrun_eq_run]
  exact mineable_set_total_after_any_history c _

/-! ## what the Dandelion monitor fluffs -/

/-- `GV.Pool.SetOK` (Lemmas/PoolInv) under the name the statements of this section use: `extra` is
the txpool aggregate that `process_fluff_phase` hands to `validate_raw_txs` -/
def SetOKx (c : Ctx) (w : Weighting) (extra : Option Tx) (txs : List Tx) : Prop :=
  txs = [] ∨ ∃ a, aggregate (extra.toList ++ txs) = .ok a ∧ validateRawTx c w a = none

/-- `validate_raw_txs` with an extra transaction: what it keeps comes from the candidates, and —
unless nothing is kept — aggregates with the extra transaction into something that validates on
the head -/
theorem validateRawTxs_spec_extra (c : Ctx) (w : Weighting) (extra : Option Tx)
    (txs valid res : List Tx) (hv : SetOKx c w extra valid)
    (h : validateRawTxs c w extra txs valid = .ok res) :
    SetOKx c w extra res ∧ ∀ t ∈ res, t ∈ valid ∨ t ∈ txs :=
  validateRawTxs_spec c w extra txs valid res hv h

/-- **the fluff phase**: whenever `process_fluff_phase` submits something, it is the aggregate of
stempool transactions which, together with the aggregate of the whole txpool, validate on the
head (so the set is `NetOK`: every spend covered, no duplicate) — the stem transactions that no
longer fit the txpool are left out, not fluffed -/
theorem fluff_phase_submits_what_fits_the_txpool (c : Ctx) (s : TxPool) (e a : Bool) (agg : Tx)
    (h : fluffOps c s e a = [.submit .fluff agg false false]) :
    ∃ x fl, Pool.allAggregate c s.txpool none = .ok x ∧ aggregate fl = .ok agg ∧
      (∀ t ∈ fl, t ∈ s.stempool.txs) ∧
      (fl = [] ∨ NetOK (utxoIds c) (x.toList ++ fl)) := by
  unfold fluffOps at h
  split at h
  · simp at h
  split at h
  · simp at h
  split at h
  · simp at h
  rename_i x hx
  split at h
  · simp at h
  rename_i fl hfl
  split at h
  · simp at h
  rename_i agg' hagg
  split at h
  · simp at h
  simp only [List.cons.injEq, and_true] at h
  have hag : agg' = agg := by
    injection h
  subst hag
  obtain ⟨hset, hmem⟩ := validateRawTxs_spec_extra c .noLimit x s.stempool.txs [] fl (Or.inl rfl) hfl
  refine ⟨x, fl, hx, hagg, ?_, ?_⟩
  · intro t ht
    rcases hmem t ht with h | h
    · simp at h
    · exact h
  · exact netOK_of_setOK hset

/-! ## the miner -/

/-- `build_block` never needs its fallback to an empty block after a node history: the
transactions it builds from are the mineable set — txpool transactions, jointly valid on the head -/
theorem build_block_uses_mineable_set (c : Ctx) (ns : List NOp) :
    (nrun (c, {}) ns).2.prepareMineable (nrun (c, {}) ns).1 = .ok ((nrun (c, {}) ns).2.blockTxs (nrun (c, {}) ns).1) ∧
    (∀ t ∈ (nrun (c, {}) ns).2.blockTxs (nrun (c, {}) ns).1, t ∈ (nrun (c, {}) ns).2.txpool.txs) ∧
    JointlyValid (nrun (c, {}) ns).1.outs (utxoIds (nrun (c, {}) ns).1)
      ((nrun (c, {}) ns).2.blockTxs (nrun (c, {}) ns).1) := by
  obtain ⟨txs, h1, h2, h3⟩ := node_mineable_set_total c ns
  have hb : (nrun (c, {}) ns).2.blockTxs (nrun (c, {}) ns).1 = txs := by
    unfold TxPool.blockTxs; rw [h1]
  rw [hb]
  exact ⟨h1, h2, h3⟩

/-- the builder succeeds exactly when the chain model accepts the block assembled from the
mineable set (`mineable_block_accepted` gives the side conditions under which it does) -/
theorem build_block_iff (c : Ctx) (s : TxPool) :
    (s.buildBlock c).isSome = mineVerdict c (s.blockTxs c) := by
  unfold TxPool.buildBlock
  simp only []
  cases mineVerdict c (s.blockTxs c) <;> simp

/-! ## the Dandelion relay -/

/-- without a connected relay peer `stem_tx_accepted` answers "not accepted" in a stem epoch (or
for a pushed transaction with `always_stem_our_txs`), which sends `add_to_pool` on to the txpool -/
theorem no_relay_no_stem (ep : Epoch) (src : Src) (h : ep.relay = none)
    (hs : ep.isStem = true ∨ (src.isPushed = true ∧ ep.alwaysStemOurs = true)) :
    stemTxAccepted ep src = false := by
  unfold stemTxAccepted
  rcases hs with hs | ⟨h1, h2⟩ <;> simp [*]

/-- in a fluff epoch `stem_tx_accepted` answers "accepted": `add_to_pool` stops after the stempool -/
theorem fluff_epoch_keeps_stem_tx (ep : Epoch) (src : Src) (h : ep.isStem = false)
    (hs : src.isPushed = false ∨ ep.alwaysStemOurs = false) : stemTxAccepted ep src = true := by
  unfold stemTxAccepted
  rcases hs with hs | hs <;> simp [*]

/-! ### non-vacuity: a monitor pass on a concrete node

Fluff epoch, stempool [U, V'] on top of the txpool [D]: the fluff phase submits the aggregate of U
and V' as one transaction; the stem entries are gone afterwards. -/

def mnc : Ctx := { rpc with cfg := { maxPool := 50, maxStem := 5, feeBase := 1 } }
def fluffEp : Epoch := { isStem := false, expired := false, alwaysStemOurs := false, relay := none }
def mnOps : List NOp :=
  [.recv false fluffEp rpD false, .push .pushApi fluffEp rpU true, .recv false fluffEp rpV true,
   .recv true fluffEp rpA false]

theorem mn_state : nrun (mnc, {}) mnOps =
    (mnc, ⟨[⟨rpD, .broadcast⟩], [⟨rpU, .pushApi⟩, ⟨rpV, .broadcast⟩], [⟨rpD, .broadcast⟩]⟩) :=
  Prod.ext rfl (by decide +kernel)

example : (nrun (mnc, {}) mnOps).2.stempool.txs = [rpU, rpV] ∧ (nrun (mnc, {}) mnOps).2.txpool.txs = [rpD] := by
  rw [mn_state]
  exact ⟨rfl, rfl⟩

theorem monitor_fluffs_the_aggregated_stempool :
    (nstep (nrun (mnc, {}) mnOps) (.monitor fluffEp [rpU] [])).2.stempool.txs = [] ∧
    (nstep (nrun (mnc, {}) mnOps) (.monitor fluffEp [rpU] [])).2.txpool.txs =
      [rpD, { ins := [6, 15], outs := [26, 25], kers := [pk 7 125, pk 8 125] }] ∧
    -- nothing older than the aggregation timer and the epoch still running: nothing happens
    (nstep (nrun (mnc, {}) mnOps) (.monitor fluffEp [] [])).2 = (nrun (mnc, {}) mnOps).2 ∧
    -- a stem epoch only handles the embargo: V alone runs out, U stays
    (nstep (nrun (mnc, {}) mnOps) (.monitor { fluffEp with isStem := true } [rpU, rpV] [rpV])).2.stempool.txs = [rpU] := by
  rw [mn_state]
  decide +kernel

/-- non-vacuity of `fluff_phase_submits_what_fits_the_txpool`: in this state the fluff phase makes
its one submission -/
example : (fluffOps (nrun (mnc, {}) mnOps).1 (nrun (mnc, {}) mnOps).2 false true).length = 1 := by
  rw [mn_state]
  decide +kernel

/-- the pool operations this node history amounts to: three submissions (the transaction received
while syncing is dropped) and the one fluff submission of the monitor -/
example : (flatAll (mnc, {}) (mnOps ++ [.monitor fluffEp [rpU] []])).length = 4 ∧
    NoEvict (mnc, {}) (flatAll (mnc, {}) (mnOps ++ [.monitor fluffEp [rpU] []])) := by
  decide +kernel

end GV.Props.C14Node
