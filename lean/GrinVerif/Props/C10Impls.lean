import GrinVerif.Model.SerImpls
import GrinVerif.Model.SerReaders
import GrinVerif.Model.DecDb
import GrinVerif.Lemmas.SerPrim
/-! # C10 — obligations about the inventory of `Readable` / `Writeable` impls

`Gen/SerImpls.lean` is REGENERATED from the source on every check run (tools/gen_serimpls.py): every
`impl … Readable for …` / `impl … Writeable for …` of every crate (outside `#[cfg(test)]`) with a
fingerprint of its text (comments and white space removed). `Model/SerImpls.lean` is the hand-kept
side: the fingerprint each impl had when it was read against the model, and WHAT COVERS IT.
`inventory_matches_source` decides that the two agree - a new, removed or changed impl breaks it
until the impl has been re-read and the pin updated. The other obligations say that the table is
complete and coherent (bookkeeping, not statements about grin). The driver checks at run time that
every codec name below is one its dispatch knows (`ser implcodecs` line of the `db` run).

The coverage classes: `codec` (own `ser dec` / `ser enc` lines, byte-exact), `inside` (read as a field
of the named codec), `wrapper` (read-time validation wrapper on top of the named plain codec; the
wrapper itself is a C11 model with `untrusted*_accepts_subset`), `op` (another driver op), `excluded`
(with the reason). -/
namespace GV.Props.C10Impls
open GV.SerImpls

/-- the source the check ran on has exactly the impls of the table, in the same order, each with the
text it had when it was read against the model -/
theorem inventory_matches_source :
    GV.Gen.SerImpls.parseError = none ∧ GV.Gen.SerImpls.found = table.map Impl.key := ⟨rfl, rfl⟩

/-- 72 readers and 72 writers -/
theorem inventory_size : table.length = 144 ∧ count "R" = 72 ∧ count "W" = 72 := by decide +kernel

/-- no impl is listed twice: the fingerprints of the 144 impl texts are pairwise different -/
theorem inventory_nodup : (table.map fun i => i.fp).Nodup :=
  GV.Ser.nodup_of_sorted_ok _ (by decide +kernel)

/-- the only kinds are `R` and `W` -/
theorem inventory_kinds : table.all (fun i => i.kind == "R" || i.kind == "W") = true := by decide +kernel

/-- readers without a writer of the same type in the same file: exactly the three read-time
validation wrappers and the frame-header wrapper (whose writer is `MsgHeader`) -/
def readerOnly : List String := ["UntrustedBlock", "UntrustedBlockHeader", "UntrustedCompactBlock", "MsgHeaderWrapper"]

theorem every_reader_has_a_writer :
    (table.filter fun i => i.kind == "R" && !(table.any fun j => j.kind == "W" && j.ty == i.ty && j.file == i.file)).map
      (fun i => i.ty) = ["UntrustedBlockHeader", "UntrustedBlock", "UntrustedCompactBlock", "MsgHeaderWrapper"] := by
  decide +kernel

/-- writers without a reader: `Inputs` (read inside `TransactionBody::read`), the forwarding impl for
references, `MsgHeader` (read as `MsgHeaderWrapper`), `Headers` (streamed by the codec: C19) -/
theorem every_writer_has_a_reader :
    (table.filter fun i => i.kind == "W" && !(table.any fun j => j.kind == "R" && j.ty == i.ty && j.file == i.file)).map
      (fun i => i.ty) = ["&'aA", "Inputs", "MsgHeader", "Headers"] := by
  decide +kernel

/-- the readers NOT compared byte for byte by any run, each with its reason in the table -/
theorem excluded_readers :
    (table.filter fun i => i.kind == "R" && (match i.cover with | .excluded _ => true | _ => false)).map
      (fun i => i.ty) = ["BoolFlag", "BitmapChunk"] := by
  decide +kernel

/-- a reader and the writer of the same type are covered by the same thing -/
theorem reader_and_writer_covered_alike :
    (table.filter fun i => i.kind == "R").all (fun i => (table.filter fun j => j.kind == "W").all fun j =>
      !(i.ty == j.ty && i.file == j.file) || i.cover == j.cover) = true := by
  decide +kernel

/-- every codec the table refers to is in `codecNames` (which the driver checks against its dispatch
when it answers the count line), every op in `opNames` -/
theorem cover_names_known :
    table.all (fun i => match i.cover with
      | .op n => opNames.contains n
      | .excluded _ => true
      | c => match c.ref? with
        | some n => codecNames.contains n
        | none => false) = true := by
  decide +kernel

/-- the readers that are a codec of their own (the types the harness prints `ser dec` lines for): 58 of
the 72, so that re-classifying one changes this statement -/
theorem readers_with_own_lines :
    ((table.filter fun i => i.kind == "R" && (match i.cover with | .codec _ => true | _ => false)).map
      fun i => i.ty).length = 58 := by
  decide +kernel

example : table.any (fun i => i.ty == "PeerData" && i.kind == "R") = true := by decide +kernel

/-! ## the `Reader` implementations -/

/-- the three `impl Reader for …` blocks of the tree are the pinned ones: same types, same methods
defined, same text -/
theorem reader_impls_match_source : GV.Gen.SerImpls.readerImpls = GV.SerReaders.readers := rfl

/-- the trait has eleven required methods and exactly one default, `read_empty_bytes` (it declares the
required ones in the order `BufReader` defines them in: `requiredBuf`) -/
theorem reader_trait_matches_source :
    (GV.Gen.SerImpls.readerTrait.filter fun m => m.2.2).map (fun m => m.2.1) = GV.SerReaders.defaults
    ∧ ((GV.Gen.SerImpls.readerTrait.filter fun m => !m.2.2).map fun m => m.2.1) = GV.SerReaders.requiredBuf :=
  ⟨rfl, rfl⟩

/-- NO reader overrides a method the trait gives a default for: `read_empty_bytes` (the zero-padding
check of the v1 kernel layout) is the same code for `BinReader`, `StreamingReader` and `BufReader`.
A reader-specific override breaks this obligation without any input having to hit it. -/
theorem reader_overrides_none :
    GV.Gen.SerImpls.readerImpls.all (fun r =>
      r.2.2.1.all fun m => !(GV.Gen.SerImpls.readerTrait.any fun t => t.2.1 == m && t.2.2)) = true := by
  decide +kernel

/-- every reader defines every required method (nothing is left to a default that is not there) -/
theorem reader_defines_all_required :
    GV.Gen.SerImpls.readerImpls.all (fun r =>
      (GV.Gen.SerImpls.readerTrait.filter fun t => !t.2.2).all fun t => r.2.2.1.contains t.2.1) = true := by
  decide +kernel

/-- the shared default over the model's `read_u8` IS the `readEmpty` every kernel decoder of the model
uses (`Model/Ser.lean`), for every length and input … -/
theorem readEmpty_is_the_shared_default (n : Nat) (bs : GV.Bytes) :
    GV.SerReaders.readEmptyVia GV.Ser.readU8 n bs = GV.Ser.readEmpty n bs := by
  induction n generalizing bs with
  | zero => rfl
  | succ n ih =>
    unfold GV.SerReaders.readEmptyVia GV.Ser.readEmpty
    cases h : GV.Ser.readU8 bs with
    | error e => rfl
    | ok v =>
      obtain ⟨b, r⟩ := v
      simp only
      split
      · rfl
      · exact ih r

/-- … and the three readers have the same `read_u8` / `read_fixed_bytes` within the cap (`BufReader` and
`BinReader`: `rFixed`; `StreamingReader`: `stream_eq_bin_within_cap` of `Props/C11Db.lean`), so a decoder
built from the trait's methods cannot tell them apart below 100 000 bytes per read: value, rest and
error kind. For the capped pair this is `payload_readers_agree` / `item_readers_agree` /
`segment_readers_agree` of `Props/C11Ser.lean`; the streaming reader's primitive: -/
theorem stream_u8_is_bin_u8 (bs : GV.Bytes) :
    (GV.DecDb.sFixed 1 bs).toExcept = (GV.Dec.rFixed .bin 1 bs).toExcept := by
  unfold GV.DecDb.sFixed GV.Dec.rFixed
  have h1 : ¬ 1 > GV.Dec.ISIZE_MAX := by decide +kernel
  have h2 : ¬ 1 > GV.Ser.MAX_FIXED_READ := by decide +kernel
  simp only [h1, h2, ↓reduceIte]
  cases GV.Ser.splitExact 1 bs with
  | none => rfl
  | some p => rfl

end GV.Props.C10Impls
