import GrinVerif.Lemmas.SegZip
/-! # C16 — the state archive ("txhashset zip") path

Property theorems about `Model/SegZip.lean`: `util/src/zip.rs` (`create_zip`, `extract_files`),
`file_list` and the decision logic of `Chain::txhashset_write`; tied to the real code by the run
`seg zip` (every `create_zip` / `extract_files` call on small trees and hand-written archives, the
entry names of the archive `txhashset_read` builds, the verdicts of `txhashset_write`).  Helper
lemmas about the model functions: `Lemmas/SegZip.lean`; the invariant of the transport
(`CleanName`, `transport_loop`) is here.  All theorems hold for every instantiation `nm : Names` of the two
string-to-components functions. -/
namespace GV.Props.C16Zip
open GV GV.SegZip

/-! ## receiving side: `extract_files` -/

/-- **Only listed files are written, at the sanitised form of the LISTED name**: every file found in
the destination after a successful `extract_files` was there before or is the content of the entry
`by_name` finds for a name `x` of the explicit file list, written at `mangled_name(x)` — the
archive chooses neither which files are written nor where. -/
theorem extract_writes_only_listed (nm : Names) (a : List Entry) (files : List String) (d0 d : Dir)
    (h : extractFiles nm a files d0 = .ok d) (p : List String) (c : String) (hp : d.get p = some c) :
    d0.get p = some c ∨
      ∃ x ∈ files, ∃ e ∈ a, e.name = x ∧ p = nm.mangle x ∧ c = e.content ∧ e.crcOk = true := by
  rcases extractFiles_origin nm a files d0 d h p c hp with r | ⟨x, hx, e, hb, hq, hc, hk, _⟩
  · exact Or.inl r
  · obtain ⟨he, hn⟩ := byName_spec a x e hb
    exact Or.inr ⟨x, hx, e, he, hn, by rw [hq, hn], hc, hk⟩

/-- **No path escapes the destination**: a written path consists of `Component::Normal` components
only — no `..`, no `.`, no empty (root) component — and has at least one. -/
theorem extract_paths_stay_inside (nm : Names) (a : List Entry) (files : List String) (d : Dir)
    (h : extractFiles nm a files [] = .ok d) (p : List String) (c : String) (hp : d.get p = some c) :
    p ≠ [] ∧ ∀ comp ∈ p, comp ≠ ".." ∧ comp ≠ "." ∧ comp ≠ "" := by
  rcases extractFiles_origin nm a files [] d h p c hp with r | ⟨x, _, e, _, hq, _, _, hne⟩
  · simp [Dir.get] at r
  · refine ⟨by rw [hq]; exact hne, ?_⟩
    intro comp hc
    rw [hq] at hc
    unfold Names.mangle at hc
    have := (List.mem_filter.mp hc).2
    unfold normal at this
    simp only [Bool.and_eq_true, bne_iff_ne, ne_eq] at this
    exact ⟨this.2, this.1.2, this.1.1⟩

/-- **Entries that are not on the list do not matter**: two archives that answer `by_name` alike
for the listed names are extracted alike — whatever else they contain (extra files, names with
`..`, entries with a wrong CRC). -/
theorem unlisted_entries_ignored (nm : Names) (a b : List Entry) (files : List String) (d : Dir)
    (h : ∀ x ∈ files, byName a x = byName b x) :
    extractFiles nm a files d = extractFiles nm b files d := by
  induction files generalizing d with
  | nil => simp [extractFiles]
  | cons x xs ih =>
    have ih := fun d' => ih d' (fun y hy => h y (List.mem_cons_of_mem _ hy))
    unfold extractFiles
    rw [h x List.mem_cons_self]
    cases byName b x with
    | none => exact ih d
    | some e =>
      simp only
      split
      · rfl
      · split
        · rfl
        · exact ih _

/-- in particular entries put in front of an archive never change what is extracted -/
theorem prepended_entries_ignored (nm : Names) (a : List Entry) (extra : Entry) (files : List String)
    (d : Dir) (h : extra.name ∉ files) :
    extractFiles nm (extra :: a) files d = extractFiles nm a files d := by
  apply unlisted_entries_ignored
  intro x hx
  rw [byName_cons]
  cases byName a x with
  | some e => rfl
  | none =>
    have : extra.name ≠ x := fun e => h (e ▸ hx)
    simp only
    rw [if_neg this]

/-! ## serving side: `create_zip` -/

/-- the archive holds exactly the listed files that exist, under their sanitised names, with the
content of the source directory -/
theorem create_holds_listed_existing (nm : Names) (src : Dir) (files : List String) (e : Entry) :
    e ∈ createZip nm src files ↔
      ∃ x ∈ files, src.get (nm.sanitize x) = some e.content ∧ e.name = nm.pathToString x ∧ e.crcOk = true := by
  constructor
  · exact mem_createZip nm src files e
  · rintro ⟨x, hx, hg, hn, hk⟩
    have := createZip_mem nm src files x e.content hx hg
    have he : e = ⟨nm.pathToString x, e.content, true⟩ := by
      cases e; simp_all
    rw [he]; exact this

/-! ## both sides with the same list: the files arrive -/

/-- what a name of the list must satisfy for the transport to be faithful (true for the ten names of
`file_list`; checked on the real functions by the `seg zip mk` / `seg zip x` lines): the name is its
own sanitised form, `mangled_name` of it gives the same components, and these are not empty -/
structure CleanName (nm : Names) (x : String) : Prop where
  self : nm.pathToString x = x
  mangle : nm.mangle x = nm.sanitize x
  nonempty : nm.sanitize x ≠ []

/-- everything in the target directory is a listed file of the source, with its content -/
def FromSrc (nm : Names) (src : Dir) (files : List String) (d : Dir) : Prop :=
  ∀ p c, d.get p = some c → src.get p = some c ∧ ∃ x ∈ files, p = nm.sanitize x

theorem FromSrc.put {nm : Names} {src : Dir} {files : List String} {d : Dir} (hd : FromSrc nm src files d)
    {x : String} (hx : x ∈ files) {c : String} (hg : src.get (nm.sanitize x) = some c) :
    FromSrc nm src files (d.put (nm.sanitize x) c) := by
  intro p c' hp
  rw [get_put] at hp
  by_cases hq : p = nm.sanitize x
  · rw [if_pos hq] at hp
    simp only [Option.some.injEq] at hp
    subst hq
    exact ⟨by rw [← hp]; exact hg, x, hx, rfl⟩
  · rw [if_neg hq] at hp
    exact hd p c' hp

theorem entry_of_name {nm : Names} {src : Dir} {files : List String}
    (hc : ∀ x ∈ files, CleanName nm x) {x : String} {e : Entry}
    (hb : byName (createZip nm src files) x = some e) :
    e.name = x ∧ e.crcOk = true ∧ src.get (nm.sanitize x) = some e.content := by
  obtain ⟨hmem, hname⟩ := byName_spec _ _ _ hb
  obtain ⟨y, hy, hg, hn, hk⟩ := mem_createZip nm src files e hmem
  have h3 : y = x := by rw [← (hc y hy).self, ← hn, hname]
  exact ⟨hname, hk, by rw [← h3]; exact hg⟩

/-- what `extract_files` leaves of an archive made by `create_zip` over the same list: an
invariant of the loop -/
theorem transport_loop (nm : Names) (src : Dir) (files : List String)
    (hc : ∀ x ∈ files, CleanName nm x) :
    ∀ (fs : List String) (d : Dir), (∀ x ∈ fs, x ∈ files) →
      FromSrc nm src files d →
      ∃ d', extractFiles nm (createZip nm src files) fs d = .ok d' ∧
        FromSrc nm src files d' ∧
        (∀ p c, d.get p = some c → d'.get p = some c) ∧
        (∀ x ∈ fs, ∀ c, src.get (nm.sanitize x) = some c → d'.get (nm.sanitize x) = some c)
  | [], d, _, hd => ⟨d, rfl, hd, fun _ _ h => h, fun x hx => by cases hx⟩
  | x :: xs, d, hsub, hd => by
    have hxf := hsub x List.mem_cons_self
    have hxs : ∀ y ∈ xs, y ∈ files := fun y hy => hsub y (List.mem_cons_of_mem _ hy)
    unfold extractFiles
    cases hb : byName (createZip nm src files) x with
    | none =>
      simp only
      obtain ⟨d', h1, h2, h3, h4⟩ := transport_loop nm src files hc xs d hxs hd
      refine ⟨d', h1, h2, h3, ?_⟩
      intro y hy c hg
      rcases List.mem_cons.mp hy with e | e
      · subst e
        -- the file exists in the source, so `create_zip` put an entry of that name: contradiction
        have hm := createZip_mem nm src files y c hxf hg
        rw [(hc y hxf).self] at hm
        exact absurd rfl (byName_none _ _ hb _ hm)
      · exact h4 y e c hg
    | some e =>
      simp only
      obtain ⟨hname, hk, hg'⟩ := entry_of_name hc hb
      have hmx : nm.mangle e.name = nm.sanitize x := by rw [hname]; exact (hc x hxf).mangle
      rw [if_neg (by rw [hmx]; exact (hc x hxf).nonempty)]
      have : (!e.crcOk) = false := by simp [hk]
      rw [this]
      simp only [Bool.false_eq_true, if_false]
      rw [hmx]
      have hd1 := hd.put hxf hg'
      obtain ⟨d', h1, h2, h3, h4⟩ := transport_loop nm src files hc xs _ hxs hd1
      refine ⟨d', h1, h2, ?_, ?_⟩
      · intro p c hp
        apply h3
        rw [get_put]
        by_cases hq : p = nm.sanitize x
        · rw [if_pos hq]
          have := (hd p c hp).1
          rw [hq, hg'] at this
          exact this
        · rw [if_neg hq]; exact hp
      · intro z hz c hgz
        rcases List.mem_cons.mp hz with e1 | e1
        · subst e1
          apply h3
          rw [get_put, if_pos rfl]
          rw [hg'] at hgz
          exact hgz
        · exact h4 z e1 c hgz

/-- **The listed files arrive**: an archive made by `create_zip` from a directory and extracted by
`extract_files` with the SAME list (both sides call `file_list(header)`) into an empty directory
reproduces exactly the listed files that existed, with their content, at their own paths — and
nothing else. -/
theorem archive_transports_listed_files (nm : Names) (src : Dir) (files : List String)
    (hc : ∀ x ∈ files, CleanName nm x) :
    ∃ d, extractFiles nm (createZip nm src files) files [] = .ok d ∧
      (∀ x ∈ files, d.get (nm.sanitize x) = src.get (nm.sanitize x)) ∧
      (∀ p c, d.get p = some c → ∃ x ∈ files, p = nm.sanitize x) := by
  obtain ⟨d, h1, h2, _, h4⟩ := transport_loop nm src files hc files [] (fun _ h => h)
    (fun p c h => by simp [Dir.get] at h)
  refine ⟨d, h1, ?_, fun p c h => (h2 p c h).2⟩
  intro x hx
  cases hg : src.get (nm.sanitize x) with
  | some c => exact h4 x hx c hg
  | none =>
    cases hd : d.get (nm.sanitize x) with
    | none => rfl
    | some c =>
      have := (h2 _ c hd).1
      rw [hg] at this; cases this

/-- the hypotheses are satisfiable: two clean names under the simplest instantiation (one
component per name) -/
example : ∃ d, extractFiles ⟨fun s => [s], fun s => [s], fun l => l.headD ""⟩
      (createZip ⟨fun s => [s], fun s => [s], fun l => l.headD ""⟩ [(["a"], "01"), (["c"], "02")] ["a", "b"])
      ["a", "b"] [] = .ok d ∧ d.get ["a"] = some "01" ∧ d.get ["b"] = none := by
  refine ⟨[(["a"], "01")], ?_, ?_, ?_⟩ <;> decide

/-! ## `file_list` -/

/-- ten files: data and hash file of the three MMRs, the prune lists of the two prunable ones (the
kernel MMR has none), and the two leaf sets REWOUND to the header (`pmmr_leaf.bin.<hash>`), not the
serving node's own `pmmr_leaf.bin` -/
theorem file_list_length (h : String) : (fileList h).length = 10 := rfl

theorem file_list_names (h : String) :
    fileList h = [ "kernel/pmmr_data.bin", "kernel/pmmr_hash.bin", "output/pmmr_data.bin",
      "output/pmmr_hash.bin", "output/pmmr_prun.bin", "rangeproof/pmmr_data.bin",
      "rangeproof/pmmr_hash.bin", "rangeproof/pmmr_prun.bin",
      "output/pmmr_leaf.bin." ++ h, "rangeproof/pmmr_leaf.bin." ++ h ] := rfl

/-! ## `Chain::txhashset_write` -/

section Write
variable {H : Type} [DecidableEq H]

/-- **The archive path never installs a state that commits to anything but the header**: the
node's txhashset is replaced only if the extracted state, rewound to the header, has the header's
roots and MMR sizes. -/
theorem zip_never_finalises_wrong_roots (needed known opens kh : Bool) (state hdr : Commit H) (rest : Bool)
    (h : txhashsetWrite needed known opens kh state hdr rest = .replaced) : state = hdr := by
  unfold txhashsetWrite at h
  by_cases hv : commitValidate state hdr = true
  · unfold commitValidate at hv
    exact of_decide_eq_true hv
  · cases needed <;> cases known <;> cases opens <;> cases kh <;> simp_all

/-- The archive replaces the node's txhashset exactly when the state was needed, the header is known, the archive opens, the kernel
history is the header chain's and everything validates -/
theorem zip_replaced_iff (needed known opens kh : Bool) (state hdr : Commit H) (rest : Bool) :
    txhashsetWrite needed known opens kh state hdr rest = .replaced ↔
      needed = true ∧ known = true ∧ opens = true ∧ kh = true ∧ state = hdr ∧ rest = true := by
  constructor
  · intro h
    have hs := zip_never_finalises_wrong_roots needed known opens kh state hdr rest h
    subst hs
    unfold txhashsetWrite at h
    cases needed <;> cases known <;> cases opens <;> cases kh <;> cases rest <;> simp_all
  · rintro ⟨rfl, rfl, rfl, rfl, rfl, rfl⟩
    simp [txhashsetWrite, commitValidate]

/-- an archive for an unknown header is the only "bannable" outcome, and it is tested after the
"not needed" exit -/
theorem zip_ban_iff (needed known opens kh : Bool) (state hdr : Commit H) (rest : Bool) :
    txhashsetWrite needed known opens kh state hdr rest = .ban ↔ needed = true ∧ known = false := by
  unfold txhashsetWrite
  cases needed
  · simp
  cases known
  · simp
  -- the remaining exits are `failed` and `replaced`
  have ne : ∀ (c : Prop) [Decidable c] (r : WriteRes), r ≠ .ban →
      (if c then WriteRes.failed else r) ≠ .ban := by
    intro c _ r hr
    split
    · simp
    · exact hr
  exact ⟨fun h => absurd h (ne _ _ (ne _ _ (ne _ _ (ne _ _
    (show WriteRes.replaced ≠ .ban by simp))))), fun h => by simp at h⟩

example : txhashsetWrite true true true true (⟨1, 2, 3, 7, 4⟩ : Commit Nat) ⟨1, 2, 3, 7, 4⟩ true = .replaced := by
  decide
example : txhashsetWrite true true true true (⟨1, 2, 3, 7, 4⟩ : Commit Nat) ⟨1, 2, 9, 7, 4⟩ true = .failed := by
  decide

end Write

end GV.Props.C16Zip
