import GrinVerif.Gen.PipeShapeTypes
/-! # Observables of a validation-pipeline shape (`Gen/PipeShape*.lean`)

Small executable projections of the generated step tables; the obligations in `Props/XlateShape*.lean` are
statements about them closed by evaluation.  They are insensitive to the arguments of the calls and to the numbering
of locals (unlike the exact pins in `Props/XlateShape*Pins.lean`). -/
namespace GV.Props.XlateShape
open GV.Gen.PipeShape

/-- the source was read -/
def readOk (f : FnShape) : Bool := f.parseError.isNone

/-- the steps that can end the function with an error, in evaluation order: `?`-propagated calls (`check`), explicit
`Err` (`fail`) and the tail expression (`tail`) — by principal name -/
def spine (f : FnShape) : List String :=
  (f.steps.filter fun s => s.kind == .check || s.kind == .fail || s.kind == .tail).map (·.name)

/-- calls whose result is discarded, restricted to the names in `watch` (the validation functions) -/
def discarded (watch : List String) (f : FnShape) : List String :=
  (f.steps.filter fun s => s.kind == .call && watch.contains s.name).map (·.name)

/-- all calls whose result is discarded -/
def calls (f : FnShape) : List String := (f.steps.filter fun s => s.kind == .call).map (·.name)

/-- the guards under which the function returns `Ok` early (`return Ok(..)`) -/
def earlyOks (f : FnShape) : List (List String) := (f.steps.filter fun s => s.kind == .okEarly).map (·.guard)

/-- position of the first early `Ok` in the list of all steps (`none`: there is none) and the spine names before it -/
def spineBeforeFirstEarlyOk (f : FnShape) : List String :=
  ((f.steps.takeWhile fun s => s.kind != .okEarly).filter
    fun s => s.kind == .check || s.kind == .fail || s.kind == .tail).map (·.name)

/-- the explicit error variants with the innermost guard they sit under -/
def fails (f : FnShape) : List (String × String) :=
  (f.steps.filter fun s => s.kind == .fail).map fun s => (s.name, s.guard.getLast?.getD "")

/-- the error variants `map_err` / `ok_or` introduce on `?` operands -/
def mapped (f : FnShape) : List (String × String) :=
  (f.steps.filter fun s => s.kind == .check && s.err != "").map fun s => (s.name, s.err)

/-- the names of the spine steps that sit under a guard containing `g` -/
def under (g : String) (f : FnShape) : List String :=
  (f.steps.filter fun s => (s.kind == .check || s.kind == .fail || s.kind == .tail) && s.guard.contains g).map (·.name)

/-- the number of enclosing conditions of each spine step -/
def depths (f : FnShape) : List Nat :=
  (f.steps.filter fun s => s.kind == .check || s.kind == .fail || s.kind == .tail).map (·.guard.length)

/-- the principal callees of the `let` initialisers / assignments that feed a guard (the exact initialisers, with
their arguments, are in the pins) -/
def guardInputs (f : FnShape) : List String := f.lets.map (·.name)

/-- the validation functions of the code base: a discarded call to one of these is a dropped check -/
def watch : List String :=
  ["validate", "validate_read", "validate_header", "validate_block", "validate_pow_only", "validate_header_ctx",
   "validate_header_denylist", "validate_utxo", "validate_tx", "validate_input", "validate_inputs",
   "validate_output", "validate_roots", "validate_sizes", "validate_mmrs", "validate_root",
   "validate_kernel_sums", "validate_raw_tx", "validate_raw_txs", "verify_coinbase_maturity",
   "verify_block_sums", "verify_kernel_sums", "verify_coinbase", "verify_kernel_lock_heights",
   "verify_nrd_kernels_for_header_version", "verify_weight", "verify_no_nrd_duplicates", "verify_sorted",
   "verify_cut_through", "verify_features", "verify_output_features", "verify_kernel_features",
   "verify_kernel_variants", "verify_rangeproofs", "verify_kernel_signatures", "verify_sorted_and_unique",
   "check_known", "check_known_head", "check_known_store", "apply_block", "apply_block_to_txhashset",
   "apply_header", "apply_input", "apply_output", "apply_kernel", "rewind", "rewind_and_apply_fork",
   "rewind_and_apply_header_fork", "process_block_header", "add_to_pool", "add_to_txpool", "add_to_stempool",
   "batch_verify", "verify", "verify_size", "verify_rel_height", "verify_nrd_relative_height", "commit_index",
   -- phase 5 (chain.rs API)
   "process_block", "process_block_single", "process_block_headers", "is_known", "check_orphan",
   "validate_tx_against_utxo", "validate_tx_kernels", "verify_tx_lock_height"]

/-! ## commit / discard decision of an extension wrapper (`txhashset::extending`, `header_extending`; phase 6) -/

/-- the steps that make an extension durable: the child batch `commit()` and the backends' `sync()` -/
def durable (f : FnShape) : List Step := f.steps.filter fun s => s.name == "commit" || s.name == "sync"

/-- the local that holds the closure's result (`res = inner(..)`) and the one that holds the rollback flag
(`rollback = <extension>.rollback`) with its initialiser, read from the `lets` table -/
def resultLocal (f : FnShape) : List String := ((f.lets.filter fun l => l.name == "inner").map (·.vars)).flatten
def rollbackLocal (f : FnShape) : List (List String × String) :=
  (f.lets.filter fun l => l.name == "rollback").map fun l => (l.vars, l.init)

/-- every durable step (`commit`, `sync`) and every GUARDED assignment (the writes of the new sizes / bitmap accumulator
back into the handles) sits under exactly the guard `g`, and there is at least one durable step -/
def commitsOnlyUnder (g : List String) (f : FnShape) : Bool :=
  !(durable f).isEmpty && (durable f).all (fun s => s.guard == g) &&
  (f.lets.filter fun l => !l.guard.isEmpty).all (fun l => l.guard == g)

/-- number of backend `discard()` calls under the guard `g` -/
def discardsUnder (g : List String) (f : FnShape) : Nat :=
  (f.steps.filter fun s => s.kind == .call && s.name == "discard" && s.guard == g).length

/-- the unconditional `discard()` calls of a read-only wrapper -/
def unconditionalDiscards (f : FnShape) : Nat :=
  (f.steps.filter fun s => s.kind == .call && s.name == "discard" && s.guard == []).length

end GV.Props.XlateShape
