import GrinVerif.Model.PowPack
import GrinVerif.Gen.FnsPack
import GrinVerif.Lemmas.Bytes
import GrinVerif.Lemmas.BasicWrap
import GrinVerif.Lemmas.XlateArith
/-! # The WRITE side of the nonce packing (`pack_bits`, `Proof::pack_nonces`) translated from the current source

`Gen/FnsPack.lean` (tools/rs2lean.py): `pack_bits` writes through and re-slices its `&mut [u8]` parameter
(`compressed[..8].copy_from_slice(..)`, `compressed = &mut compressed[8..]`); the translation threads the remaining slice and
the already-passed prefix and returns the final buffer.  Tied to `Pow.packLoop` / `Pow.packNonces` of `Model/PowPack.lean`
(whose `none` is the slice-index / `copy_from_slice` panic) for bit widths `w ≤ 63` (`Proof::read` refuses more; at
`w ≥ 64` the code's `el >> remaining` is a masked shift and the model does not follow it).  The read side (`read_number`,
`extract_bits`) is tied in `Props/XlatePack.lean`; the round trip `readNumber (packNonces …)` is a theorem about the model
(`Lemmas/SerProofRt.lean`). -/
namespace GV.Props.XlatePackW
open GV GV.Gen GV.Pow

/-- the state of the translated loop after running over `l` from a ZEROED remaining slice of `k` bytes: the passed prefix and
the mini buffer are the model's, the remaining slice is zeros again; the loop's `_ok` is false exactly when the model panics -/
theorem loop_eq (w : Nat) (hw : w ≤ 63) :
    ∀ (l : List Nat) (k : Nat) (out : List Nat) (mini rem : Nat), 1 ≤ rem → rem ≤ 64 →
      (Fns.pack_bits_loop1_ok w l (List.replicate k 0) out mini rem = false ∧
         packLoop w (out.length + k) l mini rem out = none) ∨
      (Fns.pack_bits_loop1_ok w l (List.replicate k 0) out mini rem = true ∧
         ∃ out' mini' rem', packLoop w (out.length + k) l mini rem out = some (out', mini') ∧
           out.length ≤ out'.length ∧ out'.length ≤ out.length + k ∧
           Fns.pack_bits_loop1 w l (List.replicate k 0) out mini rem =
             (List.replicate (out.length + k - out'.length) 0, out', mini', rem')) := by
  intro l
  induction l with
  | nil =>
    intro k out mini rem _ _
    right
    refine ⟨rfl, out, mini, rem, rfl, Nat.le_refl _, by omega, ?_⟩
    simp [Fns.pack_bits_loop1]
  | cons el t ih =>
    intro k out mini rem h1 h64
    have e64 : Fns.subN 8 64 rem = 64 - rem := Xlate.subN_eq (by omega) h64
    rw [Fns.pack_bits_loop1_ok, Fns.pack_bits_loop1, packLoop]
    simp only [e64]
    by_cases hlt : w < rem
    · have es : Fns.subN 8 rem w = rem - w := Xlate.subN_eq (by omega) (by omega)
      simp only [hlt, decide_true, if_true, Bool.true_and, es]
      exact ih k out (mini ||| shlW el (64 - rem)) (rem - w) (by omega) (by omega)
    · simp only [hlt, decide_false, Bool.false_eq_true, if_false]
      have ea : Fns.addN 8 64 rem = 64 + rem := Xlate.addN_eq (by omega)
      have es : Fns.subN 8 (64 + rem) w = 64 + rem - w := Xlate.subN_eq (by omega) (by omega)
      have esh : shrW el rem = el >>> rem := shrW_eq_shiftRight (by omega)
      by_cases hk : 8 ≤ k
      · have hnot : ¬ (out.length + 8 > out.length + k) := by omega
        have hdrop : List.drop 8 (leBytes 8 (mini ||| shlW el (64 - rem)) ++ List.drop 8 (List.replicate k 0))
            = List.replicate (k - 8) 0 := by
          rw [List.drop_left' (leBytes_length _ _)]; simp
        have htake : List.take 8 (leBytes 8 (mini ||| shlW el (64 - rem)) ++ List.drop 8 (List.replicate k 0))
            = leBytes 8 (mini ||| shlW el (64 - rem)) := by
          rw [List.take_left' (leBytes_length _ _)]
        simp only [hnot, if_false, List.length_replicate, hk, decide_true, leBytes_length, beq_self_eq_true, Bool.and_self,
          List.length_append, List.length_drop, Bool.true_and, ea, es, esh, hdrop, htake]
        have hk8 : 8 ≤ 8 + (k - 8) := by omega
        simp only [hk8, decide_true, Bool.true_and]
        have := ih (k - 8) (out ++ leBytes 8 (mini ||| shlW el (64 - rem))) (el >>> rem) (64 + rem - w) (by omega) (by omega)
        simp only [List.length_append, leBytes_length] at this
        have hlen : out.length + 8 + (k - 8) = out.length + k := by omega
        rw [hlen] at this
        rcases this with ⟨h1', h2'⟩ | ⟨h1', o', m', r', h2', h3', h4', h5'⟩
        · left; exact ⟨h1', h2'⟩
        · right
          refine ⟨h1', o', m', r', h2', by omega, by omega, ?_⟩
          rw [h5']
      · left
        have hgt : out.length + 8 > out.length + k := by omega
        simp [hgt, hk, List.length_replicate]


/-- `packNonces` with the buffer length as a parameter (`packNonces w ps = packWith w (packLen w ps)`, by `rfl`) -/
def packWith (w total : Nat) (nonces : List Nat) : Option Bytes :=
  match packLoop w total nonces 0 64 [] with
  | none => none
  | some (out, mini) =>
    let rest := total - out.length
    let remainder := if rest % 8 = 0 then 8 else rest % 8
    if mini > 0 then
      if rest = remainder then some (out ++ (leBytes 8 mini).take remainder) else none
    else some (out ++ List.replicate rest 0)

theorem packNonces_eq_packWith (w ps : Nat) (nonces : List Nat) :
    packNonces w ps nonces = packWith w (packLen w ps) nonces := rfl

/-- **`pack_bits` on a zeroed buffer = the model**: it returns normally exactly when the model does not panic, and then the
final buffer is the model's bytes -/
theorem pack_bits_eq (w : Nat) (hw : w ≤ 63) (l : List Nat) (total : Nat) :
    packWith w total l =
      if Fns.pack_bits_ok w l (List.replicate total 0) = true then some (Fns.pack_bits w l (List.replicate total 0))
      else none := by
  have h := loop_eq w hw l total [] 0 64 (by omega) (by omega)
  simp only [List.length_nil, Nat.zero_add] at h
  unfold packWith Fns.pack_bits_ok Fns.pack_bits
  rcases h with ⟨hok, hm⟩ | ⟨hok, o', m', r', hm, _, hle, hst⟩
  · simp [hok, hm]
  · simp only [hok, hm, hst, Bool.true_and, List.length_replicate]
    have hr8 : (if ((total - o'.length) % 8 == 0) = true then 8 else (total - o'.length) % 8) ≤ 8 := by
      split <;> omega
    have hre : (if ((total - o'.length) % 8 == 0) = true then 8 else (total - o'.length) % 8)
        = (if (total - o'.length) % 8 = 0 then 8 else (total - o'.length) % 8) := by
      by_cases h0 : (total - o'.length) % 8 = 0 <;> simp [h0]
    by_cases hm0 : m' > 0
    · simp only [hm0, decide_true, if_true, leBytes_length, List.length_take, hre] at hr8 ⊢
      by_cases hrest : total - o'.length = (if (total - o'.length) % 8 = 0 then 8 else (total - o'.length) % 8)
      · have hle8 : total - o'.length ≤ 8 := by
          by_cases h0 : (total - o'.length) % 8 = 0
          · simp only [h0, if_true] at hrest; omega
          · simp only [h0, if_false] at hrest; omega
        simp [← hrest]
        omega
      · have : (total - o'.length == min (if (total - o'.length) % 8 = 0 then 8 else (total - o'.length) % 8) 8) = false := by
          rw [Nat.min_eq_left hr8]; simp [hrest]
        simp [this, hrest]
    · simp [hm0]

/-- non-vacuity: two 4-bit values into one byte -/
example : Fns.pack_bits 4 [3, 10] [0] = [163] ∧ Fns.pack_bits_ok 4 [3, 10] [0] = true := by decide

end GV.Props.XlatePackW
