import GrinVerif.Lemmas.XlateVerifyD
import GrinVerif.Lemmas.PowTotal

/-! # Translated Cuckaroom / Cuckarood verifiers (`Gen/FnsVerify.lean`) = hand model (`Model/Pow.lean`)

`GV.Gen.Fns.Cuckaroom_verify` / `Cuckarood_verify` are regenerated from the CURRENT
`core/src/pow/cuckaroom.rs` / `cuckarood.rs` with release-build semantics; `…_verify_ok` = "the Rust
function returns normally" (every index in range, every `loop`/`while` exits within its fuel).
Under `…_verify_ok = true` the translation and the model give the same verdict:
`cuckaroom_verify_eq` / `_eq_none` / `_rel`, `cuckarood_verify_eq` / `_eq_none` / `_rel`.

Cuckarood: `ndir` = `[nd0, nd1]`; the wrapping key `((u << 1) | dir) & mask` = `(2*u + dir) & mask` for EVERY `u`
(`key_eq`), because the mask has at most 64 bits.

One fuel-boundary difference (not a disagreement on `verify`): the translated `while k != 2*size` with fuel `f` allows `f`
iterations followed by a false condition, the model's `roodFind` with fuel `f` allows `f - 1`; so
`d3_eq` / `d2_eq` / `cuckarood_verify_rel_hang` carry a third alternative "model = `hang`", which
`verifyCuckarood_no_hang` (`Lemmas/PowTotal.lean`) excludes at the top level (see the
last `example`).
-/

namespace GV.Props.XlateVerifyD
open GV GV.Gen GV.Gen.Fns GV.Pow GV.Lemmas.XlateVerify GV.Lemmas.XlateVerifyD

/-- Cuckaroom: the translated `verify` and the model agree on accept / reject, for every chain type,
every parameter set, every proof on which the Rust function returns normally. -/
theorem cuckaroom_verify_rel (ct : ChainTypes) (params : CuckooParams) (proof : Proof)
    (P : Pow.Params) (ep : Nat → Nat × Nat)
    (hP1 : P.proofsize = proofsize ct) (hP2 : P.edgeMask = params.edge_mask)
    (hbk : ∀ u, P.bk u = u &&& shrW (2^64-1) (leadingZeros64 proof.nonces.length))
    (hep : ∀ x, ep x = (let e := siphash_block params.siphash_keys x 21 true
                        (e &&& params.node_mask, (shrW e 32) &&& params.node_mask)))
    (hok : Cuckaroom_verify_ok ct params proof = true) :
    SameVerdict (Cuckaroom_verify ct params proof) (verifyCuckaroom P ep proof.nonces) := by
  unfold Cuckaroom_verify_ok at hok
  unfold Cuckaroom_verify verifyCuckaroom
  dsimp only [Proof_proof_size] at hok ⊢
  refine SameVerdict.sizeTest hP1 fun hs h42 => ?_
  rw [if_neg (by simp [hs]), Bool.and_eq_true, Nat.sub_zero] at hok
  rw [Nat.sub_zero]
  have hinit : RelM (List.replicate proof.nonces.length 0, List.replicate proof.nonces.length 0, 0, 0,
      List.replicate (addW 1 (shrW 18446744073709551615 (leadingZeros64 proof.nonces.length)))
        proof.nonces.length,
      List.replicate proof.nonces.length 0) (RoomSt.init proof.nonces.length) :=
    ⟨R_replicate _ _, R_replicate _ _, rfl, rfl, R_replicate _ _, R_replicate _ _⟩
  have h1 := m1_eq params proof.nonces _ P ep (by omega) hP2 hbk hep proof.nonces.length 0
    _ _ _ _ _ _ _ (by omega) hinit hok.1
  rw [List.drop_zero, show lastOf proof.nonces 0 = none from rfl] at h1
  -- first `for` (`m1_eq`): both reject, or the states `(frm, to, xf, xt, head, prev)` and `s'` are related
  rcases h1 with ⟨e1, e, e2⟩ | ⟨⟨frm, to, xf, xt, head, prev⟩, s', e1, e2, r1, r2, r3, r4, r5, r6⟩
  · rw [e1, e2]
    exact .inr ⟨rfl, _, rfl⟩
  have hok2 := hok.2
  rw [e1] at hok2 ⊢
  rw [e2]
  dsimp only at hok2 r1 r2 r3 r4 r5 r6 ⊢
  -- the test `xor_from != xor_to`, then the walk (`m2_eq`) and the last comparison
  rw [← r3, ← r4]
  refine SameVerdict.ite (by simp) _ fun hx => ?_
  rw [if_neg (by simpa using hx)] at hok2
  rcases m2_eq proof.nonces.length frm to _ head prev P s' hbk
      r1 r2 r5 r6 (proof.nonces.length + 1) _ _ 0 0 (by omega) (RB_replicate _) hok2 with
    ⟨f1, e, f2⟩ | ⟨st, n', f1, f2, rfl⟩
  · rw [f1, f2]
    exact .inr ⟨rfl, _, rfl⟩
  rw [f1, f2]
  exact SameVerdict.final (by simp) _

theorem cuckaroom_verify_eq (ct : ChainTypes) (params : CuckooParams) (proof : Proof)
    (P : Pow.Params) (ep : Nat → Nat × Nat)
    (hP1 : P.proofsize = proofsize ct) (hP2 : P.edgeMask = params.edge_mask)
    (hbk : ∀ u, P.bk u = u &&& shrW (2^64-1) (leadingZeros64 proof.nonces.length))
    (hep : ∀ x, ep x = (let e := siphash_block params.siphash_keys x 21 true
                        (e &&& params.node_mask, (shrW e 32) &&& params.node_mask)))
    (hok : Cuckaroom_verify_ok ct params proof = true) :
    (Cuckaroom_verify ct params proof = some ()) ↔ (verifyCuckaroom P ep proof.nonces = .ok ()) :=
  SameVerdict.some_iff (cuckaroom_verify_rel ct params proof P ep hP1 hP2 hbk hep hok)

theorem cuckaroom_verify_eq_none (ct : ChainTypes) (params : CuckooParams) (proof : Proof)
    (P : Pow.Params) (ep : Nat → Nat × Nat)
    (hP1 : P.proofsize = proofsize ct) (hP2 : P.edgeMask = params.edge_mask)
    (hbk : ∀ u, P.bk u = u &&& shrW (2^64-1) (leadingZeros64 proof.nonces.length))
    (hep : ∀ x, ep x = (let e := siphash_block params.siphash_keys x 21 true
                        (e &&& params.node_mask, (shrW e 32) &&& params.node_mask)))
    (hok : Cuckaroom_verify_ok ct params proof = true) :
    (Cuckaroom_verify ct params proof = none) ↔ (∃ e, verifyCuckaroom P ep proof.nonces = .error e) :=
  SameVerdict.none_iff (cuckaroom_verify_rel ct params proof P ep hP1 hP2 hbk hep hok)

/-- Non-vacuity: the hypotheses are satisfiable (wrong-length proof on Mainnet: `_ok = true`,
result `none`). -/
example : Cuckaroom_verify_ok ChainTypes.Mainnet ⟨42, 0, [0, 0, 0, 0], 0, 0⟩ ⟨29, []⟩ = true ∧
    Cuckaroom_verify ChainTypes.Mainnet ⟨42, 0, [0, 0, 0, 0], 0, 0⟩ ⟨29, []⟩ = none := by
  constructor <;> rfl

/-- Cuckarood, raw three-way form (the third alternative is excluded in `cuckarood_verify_rel`). -/
theorem cuckarood_verify_rel_hang (ct : ChainTypes) (params : CuckooParams) (proof : Proof)
    (P : Pow.Params) (ep : Nat → Nat × Nat)
    (hP1 : P.proofsize = proofsize ct) (hP2 : P.edgeMask = params.edge_mask)
    (hbk : ∀ u, P.bk u = u &&& shrW (2^64-1) (leadingZeros64 proof.nonces.length))
    (hep : ∀ x, ep x = (let e := siphash_block params.siphash_keys x 25 false
                        (e &&& params.node_mask, (shrW e 32) &&& params.node_mask)))
    (hok : Cuckarood_verify_ok ct params proof = true) :
    (Cuckarood_verify ct params proof = some () ∧ verifyCuckarood P ep proof.nonces = .ok ()) ∨
    (Cuckarood_verify ct params proof = none ∧ ∃ e, verifyCuckarood P ep proof.nonces = .error e) ∨
    verifyCuckarood P ep proof.nonces = .error .hang := by
  unfold Cuckarood_verify_ok at hok
  unfold Cuckarood_verify verifyCuckarood
  dsimp only [Proof_proof_size] at hok ⊢
  -- by hand: `SameVerdict.sizeTest` has no third (`hang`) alternative
  by_cases hs : proof.nonces.length = proofsize ct
  · have h42 : proof.nonces.length ≤ 42 := by rw [hs]; exact proofsize_le ct
    rw [if_neg (by simpa using hs), Bool.and_eq_true] at hok
    rw [if_neg (by simpa using hs), if_neg (by rw [hP1]; simpa using hs)]
    rw [Nat.sub_zero, GV.mulW_eq (a := 2) (b := proof.nonces.length) (by omega)] at hok ⊢
    obtain ⟨hok1, hok2⟩ := hok
    have hinit : RelD (List.replicate (2 * proof.nonces.length) 0, List.replicate 2 0, 0, 0,
        List.replicate (addW 1 (shrW 18446744073709551615 (leadingZeros64 proof.nonces.length)))
          (2 * proof.nonces.length),
        List.replicate (addW 1 (shrW 18446744073709551615 (leadingZeros64 proof.nonces.length)))
          (2 * proof.nonces.length),
        List.replicate (2 * proof.nonces.length) 0) (RoodSt.init proof.nonces.length) :=
      ⟨R_replicate _ _, rfl, rfl, rfl, R_replicate _ _, R_replicate _ _, R_replicate _ _⟩
    have h1 := d1_eq params proof.nonces.length proof.nonces _ P ep (by omega) (by omega)
      (mask_lt _) hP2 hbk hep proof.nonces.length 0 _ _ _ _ _ _ _ _ (by omega) hinit hok1
    rw [List.drop_zero, show lastOf proof.nonces 0 = none from rfl] at h1
    -- first `for` (`d1_eq`): both reject, or the states `(uvs, ndir, x0, x1, hu, hv, prev)` and `s'` are related
    rcases h1 with ⟨e1, e, e2⟩ | ⟨⟨uvs, ndir, x0, x1, hu, hv, prev⟩, s', e1, e2, r1, r2, r3, r4, r5, r6, r7⟩
    · right; left
      rw [e1, e2]
      exact ⟨rfl, _, rfl⟩
    · rw [e1] at hok2 ⊢
      rw [e2]
      dsimp only at hok2 r1 r2 r3 r4 r5 r6 r7 ⊢
      -- the endpoint xor test, then the walk (`d2_eq`, which may also answer `hang`) and the last comparison
      rw [← r3, ← r4]
      by_cases hx : x0 ||| x1 = 0
      · rw [if_neg (by simpa using hx)] at hok2
        rw [if_neg (by simpa using hx), if_neg (by simpa using hx)]
        have h2 := d2_eq proof.nonces.length uvs _ hu hv prev P s'
          (by omega) (mask_lt _) hbk r1 r5 r6 r7 (proof.nonces.length + 1) 0 0 0 (by omega) hok2
        rcases h2 with ⟨f1, e, f2⟩ | ⟨n', i', j', f1, f2⟩ | f2
        · right; left
          rw [f1, f2]
          exact ⟨rfl, _, rfl⟩
        · rw [f1, f2]
          dsimp only
          by_cases hn : n' = proof.nonces.length
          · left
            rw [if_pos (by simpa using hn), if_pos hn]
            exact ⟨rfl, rfl⟩
          · right; left
            rw [if_neg (by simpa using hn), if_neg hn]
            exact ⟨rfl, _, rfl⟩
        · right; right
          rw [f2]
      · right; left
        rw [if_pos (by simpa using hx), if_pos (by simpa using hx)]
        exact ⟨rfl, _, rfl⟩
  · right; left
    rw [if_pos (by simpa using hs), if_pos (by rw [hP1]; simpa using hs)]
    exact ⟨rfl, _, rfl⟩

/-- Cuckarood: the translated `verify` and the model agree on accept / reject, for every chain type,
every parameter set, every proof on which the Rust function returns normally.  (`hang` of the model
is excluded by `verifyCuckarood_no_hang`, `Lemmas/PowTotal.lean`.) -/
theorem cuckarood_verify_rel (ct : ChainTypes) (params : CuckooParams) (proof : Proof)
    (P : Pow.Params) (ep : Nat → Nat × Nat)
    (hP1 : P.proofsize = proofsize ct) (hP2 : P.edgeMask = params.edge_mask)
    (hbk : ∀ u, P.bk u = u &&& shrW (2^64-1) (leadingZeros64 proof.nonces.length))
    (hep : ∀ x, ep x = (let e := siphash_block params.siphash_keys x 25 false
                        (e &&& params.node_mask, (shrW e 32) &&& params.node_mask)))
    (hok : Cuckarood_verify_ok ct params proof = true) :
    SameVerdict (Cuckarood_verify ct params proof) (verifyCuckarood P ep proof.nonces) := by
  rcases cuckarood_verify_rel_hang ct params proof P ep hP1 hP2 hbk hep hok with h | h | h
  · exact Or.inl h
  · exact Or.inr h
  · exact absurd h (verifyCuckarood_no_hang P ep proof.nonces)

theorem cuckarood_verify_eq (ct : ChainTypes) (params : CuckooParams) (proof : Proof)
    (P : Pow.Params) (ep : Nat → Nat × Nat)
    (hP1 : P.proofsize = proofsize ct) (hP2 : P.edgeMask = params.edge_mask)
    (hbk : ∀ u, P.bk u = u &&& shrW (2^64-1) (leadingZeros64 proof.nonces.length))
    (hep : ∀ x, ep x = (let e := siphash_block params.siphash_keys x 25 false
                        (e &&& params.node_mask, (shrW e 32) &&& params.node_mask)))
    (hok : Cuckarood_verify_ok ct params proof = true) :
    (Cuckarood_verify ct params proof = some ()) ↔ (verifyCuckarood P ep proof.nonces = .ok ()) :=
  SameVerdict.some_iff (cuckarood_verify_rel ct params proof P ep hP1 hP2 hbk hep hok)

theorem cuckarood_verify_eq_none (ct : ChainTypes) (params : CuckooParams) (proof : Proof)
    (P : Pow.Params) (ep : Nat → Nat × Nat)
    (hP1 : P.proofsize = proofsize ct) (hP2 : P.edgeMask = params.edge_mask)
    (hbk : ∀ u, P.bk u = u &&& shrW (2^64-1) (leadingZeros64 proof.nonces.length))
    (hep : ∀ x, ep x = (let e := siphash_block params.siphash_keys x 25 false
                        (e &&& params.node_mask, (shrW e 32) &&& params.node_mask)))
    (hok : Cuckarood_verify_ok ct params proof = true) :
    (Cuckarood_verify ct params proof = none) ↔ (∃ e, verifyCuckarood P ep proof.nonces = .error e) :=
  SameVerdict.none_iff (cuckarood_verify_rel ct params proof P ep hP1 hP2 hbk hep hok)

/-- Non-vacuity (wrong-length proof on Mainnet: `_ok = true`, result `none`). -/
example : Cuckarood_verify_ok ChainTypes.Mainnet ⟨42, 0, [0, 0, 0, 0], 0, 0⟩ ⟨29, []⟩ = true ∧
    Cuckarood_verify ChainTypes.Mainnet ⟨42, 0, [0, 0, 0, 0], 0, 0⟩ ⟨29, []⟩ = none := by
  constructor <;> rfl

theorem lz8 : leadingZeros64 8 = 60 := by
  simp [leadingZeros64, bitLen]

/-- AutomatedTesting (proof size 8), ascending nonces `0..7`: the whole first loop runs (8 siphash
blocks), `_ok = true`, the verdict is `Err` — the hypotheses of `cuckaroom_verify_eq` hold with a
proof of the right length. -/
example : Cuckaroom_verify_ok ChainTypes.AutomatedTesting ⟨8, 0, [1, 2, 3, 4], 1023, 1023⟩
      ⟨10, [0, 1, 2, 3, 4, 5, 6, 7]⟩ = true ∧
    Cuckaroom_verify ChainTypes.AutomatedTesting ⟨8, 0, [1, 2, 3, 4], 1023, 1023⟩
      ⟨10, [0, 1, 2, 3, 4, 5, 6, 7]⟩ = none := by
  decide +kernel

/-- the same for Cuckarood (4 even + 4 odd nonces: the balance test passes on every iteration) -/
example : Cuckarood_verify_ok ChainTypes.AutomatedTesting ⟨8, 0, [1, 2, 3, 4], 1023, 511⟩
      ⟨10, [0, 1, 2, 3, 4, 5, 6, 7]⟩ = true ∧
    Cuckarood_verify ChainTypes.AutomatedTesting ⟨8, 0, [1, 2, 3, 4], 1023, 511⟩
      ⟨10, [0, 1, 2, 3, 4, 5, 6, 7]⟩ = none := by
  decide +kernel

/-- loop level, Cuckaroom: a closed 2-cycle (`7 → 9`, `9 → 7`, one bucket) is walked to the end:
`_exits = true` and the loop ends with `n = 2`, `i = 0` (hypotheses of `m2_eq`). -/
example : Cuckaroom_verify_loop2_exits 2 [7, 9] [9, 7] 1 [2, 1] [2, 0] 3 [false, false] 0 0 = true ∧
    Cuckaroom_verify_loop2 2 [7, 9] [9, 7] 1 [2, 1] [2, 0] 3 [false, false] 0 0
      = .go ([true, true], 2, 0) := ⟨rfl, rfl⟩

/-- loop level, Cuckarood: the fuel boundary behind the third alternative of `d3_eq` / `d2_eq`.
With the SAME fuel `1` the translated `while` performs one iteration and then finds its condition
false (`_exits = true`, result `.go`), the model's `roodFind` reports `hang`: the model's fuel counts
condition tests, the translation's counts iterations.  Not reachable from `verify` (a bucket chain has
at most `2*size` slots, fuel is `2*size+1`): `verifyCuckarood_no_hang`. -/
example : Cuckarood_verify_loop3_exits 1 [5, 6] [2, 2] 0 1 0 1 = true ∧
    Cuckarood_verify_loop3 1 [5, 6] [2, 2] 0 1 0 1 = .go (0, 2) ∧
    roodFind 1 { RoodSt.init 1 with uvs := fun x => 5 + x, prev := fun _ => 2 } 0 1 1 0
      = .error .hang := ⟨rfl, rfl, rfl⟩

end GV.Props.XlateVerifyD
