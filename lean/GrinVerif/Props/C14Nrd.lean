import GrinVerif.Lemmas.PoolMine
/-! C14 / C13 (pool side) — the NRD relative-height rule at pool admission, exactly.

* `nrdTooRecent_iff` — `Chain::validate_tx`'s NRD part refuses **iff** some NRD kernel of the
  transaction repeats an excess whose first entry in the head's index (the most recent instance on
  the head's path: `GV.Chain.nrd_lookup_on_path`, for the chain model, whose `nrdBad`/`txValidate` run the same
  test `GV.Chain.Ker.tooRecent` over their kernels: `GV.Pool.nrdTooRecent_eq_any`) lies fewer than
  `relative_height` blocks below the next block: admissible from exactly `h0 + rel`
  (`nrd_boundary`: at `next = h0 + rel` accepted, at `next + 1 = h0 + rel` refused);
* `nrd_rule_reads_head_index_only` — the verdict depends on the chain only through the index of the
  CURRENT head's path: after a reorganisation that moves the instance from `h1` to `h2` the
  boundary is `h2 + rel` (the instance on the abandoned branch plays no part);
* `shared_nrd_excess_refused` — one excess in two transactions that get aggregated (txpool entry and
  new fluff transaction; txpool aggregate and new stem transaction; stempool entry and the txpool
  aggregate it is reconciled against) never validates while the feature is on: the aggregate carries
  the excess twice (`aggregate_nrdExcesses`), `verify_no_nrd_duplicates` refuses whatever the
  relative heights.
Driven on the real code by the jobs `nrd-reorg-boundary-0/1` of run pool2. -/
namespace GV.Props.C14Nrd
open GV.Pool GV.Chain

theorem nrdTooRecent_iff (c : Ctx) (t : Tx) :
    nrdTooRecent c t = true ↔
      ∃ k ∈ t.kers, ∃ f rel ex, k.ker = .nrd f rel ex ∧
        ∃ p, c.head.nrd.find? (·.1 == ex) = some p ∧ c.head.height + 1 < p.2 + rel := by
  rw [nrdTooRecent_eq_any, GV.Chain.any_tooRecent_iff]
  constructor
  · rintro ⟨f, rel, ex, hPrev, hk, hf, hlt⟩
    obtain ⟨k, hk, hker⟩ := List.mem_map.mp hk
    exact ⟨k, hk, f, rel, ex, hker, _, hf, hlt⟩
  · rintro ⟨k, hk, f, rel, ex, hker, ⟨e, hPrev⟩, hf, hlt⟩
    obtain rfl : e = ex := by simpa using List.find?_some hf
    exact ⟨f, rel, e, hPrev, List.mem_map.mpr ⟨k, hk, hker⟩, hf, hlt⟩

/-- a transaction with ONE kernel, an NRD kernel: refused iff the next block is below `h0 + rel` -/
theorem nrd_boundary (c : Ctx) (kid f rel : Nat) (ex : String) (ins outs : List Nat) (e : String) (h0 : Nat)
    (hf : c.head.nrd.find? (·.1 == ex) = some (e, h0)) :
    nrdTooRecent c { ins, outs, kers := [{ kid, ker := .nrd f rel ex }] } = decide (c.head.height + 1 < h0 + rel) := by
  simp [nrdTooRecent, hf]

/-- the rule reads the index of the current head and its height, nothing else of the context -/
theorem nrd_rule_reads_head_index_only (c c' : Ctx) (t : Tx) (h1 : c.head.nrd = c'.head.nrd)
    (h2 : c.head.height = c'.head.height) : nrdTooRecent c t = nrdTooRecent c' t := by
  unfold nrdTooRecent; rw [h1, h2]

/-- after a reorganisation: same height of the head, the instance of the excess moved from `h1`
(abandoned branch) to `h2`: the verdict is the one for `h2` -/
example :
    let t : Tx := { ins := [1], outs := [2], kers := [{ kid := 1, ker := .nrd 10 3 "K" }] }
    let onA : Ctx := { head := { utxo := [], nrd := [("K", 11)], height := 13 } }
    let onB : Ctx := { head := { utxo := [], nrd := [("K", 12)], height := 13 } }
    nrdTooRecent onA t = false ∧ nrdTooRecent onB t = true := by decide

theorem aggregate_nrdExcesses {txs : List Tx} {a : Tx} (h : aggregate txs = .ok a) :
    nrdExcesses a = txs.flatMap nrdExcesses := by
  unfold nrdExcesses
  rw [aggregate_kers h, List.filterMap_flatMap]

/-- **one excess in two of the aggregated transactions**: the aggregate does not validate (feature
on, under any weighting) — whatever the relative heights and whatever the chain says -/
theorem shared_nrd_excess_refused {c : Ctx} {w : Weighting} {pre post : List Tx} {t1 t2 a : Tx} {x : String}
    (hen : c.cfg.nrdEnabled = true) (h1 : x ∈ nrdExcesses t1) (h2 : x ∈ nrdExcesses t2)
    (hagg : aggregate (pre ++ t1 :: (post ++ [t2])) = .ok a) :
    validateRawTx c w a ≠ none := by
  intro hv
  have hn := validate_nrd_nodup (validateRawTx_validate hv)
  rw [hen, Bool.true_and, Bool.not_eq_false', strNodupB_iff, aggregate_nrdExcesses hagg] at hn
  simp only [List.flatMap_append, List.flatMap_cons, List.flatMap_nil, List.append_nil] at hn
  -- `x` stands in the part of `t1` and again behind it
  exact (List.nodup_append.mp (List.nodup_append.mp hn).2.1).2.2 x h1 x (List.mem_append.mpr (.inr h2)) rfl

/-- non-vacuity: a txpool transaction and a new one sharing the excess "K" -/
example :
    let t1 : Tx := { ins := [1], outs := [11], kers := [{ kid := 1, ker := .nrd 10 2 "K" }] }
    let t2 : Tx := { ins := [2], outs := [12], kers := [{ kid := 2, ker := .nrd 10 2 "K" }] }
    ∃ a, aggregate ([] ++ t1 :: ([] ++ [t2])) = .ok a ∧ "K" ∈ nrdExcesses t1 ∧ "K" ∈ nrdExcesses t2 :=
  ⟨_, rfl, by decide, by decide⟩

end GV.Props.C14Nrd
