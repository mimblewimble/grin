import GrinVerif.Lemmas.ChainRefuse
import GrinVerif.Lemmas.ChainExampleFacts
/-! # C02, inputs in the features-and-commit form (protocol version 2 / JSON): an input spends an
existing unspent output only if it names it by its FULL identifier — features and commitment.
(`UTXOView::validate_inputs`, chain/src/txhashset/utxo_view.rs; model: `Model/ChainInputs.lean`) -/
namespace GV.Props.C02Inputs
open GV GV.Chain

/-- **Block level.** A block one of whose inputs claims the wrong features for the output it names
(plain for a coinbase, coinbase for a plain output) is refused by every node in every state; head,
stored blocks and the reported unspent set are unchanged. -/
theorem wrong_input_features_block_refused (p : Params) (n : Node) (outs : List OutDef) (b : Blk)
    (inf : List (Nat × Bool)) (h : featMismatch outs inf = true) :
    Refused p n (b.withInputFeatures outs inf) := by
  apply refused_of_state_fault
  intro par sPar _ _ hn
  exact hasTag_sums_of_mismatch outs b inf h (stateChecks_sums hn)

/-- **Transaction / pool level** (`Chain::validate_inputs`, `Chain::validate_tx`): a list of
inputs is accepted iff every input names an output that is unspent in the state **and**, where the
input carries a claim about the features, the claim is the flag of that unspent output. A wrong
claim about an existing unspent commitment is a refusal; the checks are pure (no state to change). -/
theorem inputs_accepted_iff (s : UState) (l : List (Nat × Option Bool)) :
    validateInputsFC s l = none ↔
      ∀ x ∈ l, ∃ u, s.find x.1 = some u ∧ ∀ f, x.2 = some f → f = u.2.2 := by
  induction l with
  | nil => exact ⟨fun _ _ h => (nomatch h), fun _ => rfl⟩
  | cons x rest ih =>
    obtain ⟨i, claim⟩ := x
    rw [List.forall_mem_cons, ← ih, validateInputsFC]
    cases s.find i with
    | none => exact ⟨nofun, fun ⟨⟨u, hu, _⟩, _⟩ => (nomatch hu)⟩
    | some u =>
      obtain ⟨a, h, cb⟩ := u
      cases claim with
      | none => exact ⟨fun h => ⟨⟨_, rfl, nofun⟩, h⟩, fun h => h.2⟩
      | some f =>
        simp only [ite_eq_iff_of_ne, ne_eq, reduceCtorEq, not_false_eq_true, bne_iff_ne, Decidable.not_not]
        constructor
        · rintro ⟨rfl, h⟩
          exact ⟨⟨_, rfl, fun f' hf' => (Option.some.inj hf').symm⟩, h⟩
        · rintro ⟨⟨u, hu, hc⟩, h⟩
          cases hu
          exact ⟨(hc f rfl).symm, h⟩

theorem tx_with_wrong_input_features_refused (s : UState) (t : TxA) (l : List (Nat × Option Bool))
    (i : Nat) (f : Bool) (u : Nat × Nat × Bool) (hm : (i, some f) ∈ l) (hu : s.find i = some u)
    (hf : f ≠ u.2.2) : txValidateFC s t l ≠ none := by
  intro h
  unfold txValidateFC at h
  split at h
  · cases h
  · cases hv : validateInputsFC s l with
    | some e => rw [hv] at h; cases h
    | none =>
      obtain ⟨u', hu', hc⟩ := (inputs_accepted_iff s l).mp hv _ hm
      rw [hu] at hu'
      cases hu'
      exact hf (hc f rfl)

/-! ## non-vacuity (tree of `Lemmas/ChainExampleFacts.lean`, state of b1) -/
section Examples
open GV.Chain.Ex2

example : featMismatch Ex2.outs [(100, true)] = true := by decide +kernel
example : Refused Ex2.P NB (Ex2.B2.withInputFeatures Ex2.outs [(100, true)]) :=
  wrong_input_features_block_refused Ex2.P NB Ex2.outs Ex2.B2 [(100, true)] (by decide)
-- `inputs_accepted_iff` / `tx_with_wrong_input_features_refused` on the state of b1
example : validateInputsFC { utxo := [(100, 0, false), (121, 1, true)], nrd := [], height := 1 }
    [(100, some false), (121, none), (121, some true)] = none := by decide +kernel
example : txValidateFC { utxo := [(100, 0, false), (121, 1, true)], nrd := [], height := 1 }
    { ins := [121], outs := [140], kers := [.plain 1] } [(121, some false)] ≠ none :=
  tx_with_wrong_input_features_refused _ _ _ 121 false (121, 1, true) (by decide) (by decide) (by decide)


end Examples
end GV.Props.C02Inputs
