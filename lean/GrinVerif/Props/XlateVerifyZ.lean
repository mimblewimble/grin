import GrinVerif.Lemmas.XlateVerifyZ

/-! # Translated Cuckarooz verifier (`Gen/FnsVerify.lean`) = hand-written model (`Model/Pow.lean`)

`GV.Gen.Fns.Cuckarooz_verify` is regenerated from the CURRENT `core/src/pow/cuckarooz.rs`
(`CuckaroozContext::verify`) with release-build semantics (wrapping `2 * n`, `2 * n + 1`, `n - 1`,
`n += 1`; `Vec`s as lists; index conditions and loop exits collected in `Cuckarooz_verify_ok`).  The
hand model `verifyCuckarooz` (= `verifyU cfgCuckarooz`) works on function arrays.  Under
`Cuckarooz_verify_ok = true` (the Rust function returns normally) both give the same verdict, for
every chain type, every parameter set, every proof (no size bound).

Points specific to Cuckarooz that the proof goes through: siphash with `xor_all = true`; head slot
`u & mask` for both endpoints with `mask = u64::MAX >> size.leading_zeros()` and `head.len() = 1 + mask`;
test `xoruv != 0` (model `jointXor`); last comparison `n == self.params.proof_size`
(model `useCtxSize`, hypothesis `hP3`). -/

namespace GV.Props.XlateVerifyZ
open GV GV.Gen GV.Gen.Fns GV.Pow GV.Lemmas.XlateVerify GV.Lemmas.XlateVerifyZ

/-- Cuckarooz: the translated `verify` and the model agree on accept / reject, for every chain type,
every parameter set, every proof on which the Rust function returns normally. -/
theorem cuckarooz_verify_rel (ct : ChainTypes) (params : CuckooParams) (proof : Proof)
    (P : Pow.Params) (ep : Nat → Nat × Nat)
    (hP1 : P.proofsize = proofsize ct) (hP2 : P.edgeMask = params.edge_mask)
    (hP3 : P.ctxProofSize = params.proof_size)
    (hbk : ∀ u, P.bk u = u &&& shrW (2^64-1) (leadingZeros64 proof.nonces.length))
    (hep : ∀ x, ep x = (let e := siphash_block params.siphash_keys x 21 true
                        (e &&& params.node_mask, (shrW e 32) &&& params.node_mask)))
    (hok : Cuckarooz_verify_ok ct params proof = true) :
    SameVerdict (Cuckarooz_verify ct params proof) (verifyCuckarooz P ep proof.nonces) := by
  unfold Cuckarooz_verify_ok at hok
  unfold Cuckarooz_verify verifyCuckarooz verifyU
  dsimp only [Proof_proof_size] at hok ⊢
  refine SameVerdict.sizeTest hP1 fun hs h42 => ?_
  rw [if_neg (by simp [hs]), Bool.and_eq_true] at hok
  simp only [Nat.sub_zero, GV.mulW_eq (a := 2) (b := proof.nonces.length) (by omega)] at hok ⊢
  have hinit : RelZ (List.replicate (2 * proof.nonces.length) 0, 0,
      List.replicate (addW 1 (shrW 18446744073709551615 (leadingZeros64 proof.nonces.length)))
        (2 * proof.nonces.length),
      List.replicate (2 * proof.nonces.length) 0) (USt.init cfgCuckarooz proof.nonces.length) :=
    ⟨R_replicate _ _, by show (0 : Nat) = 0 ^^^ 0; decide, R_replicate _ _, R_replicate _ _⟩
  have h1 := z1_eq params proof.nonces _ P ep (by omega) hP2 hbk hep proof.nonces.length 0
    _ _ _ _ _ (by omega) hinit hok.1
  rw [List.drop_zero, show lastOf proof.nonces 0 = none from rfl] at h1
  -- first `for` (`z1_eq`): both reject, or the states `(uvs, xoruv, head, prev)` and `s'` are related
  rcases h1 with ⟨e1, e, e2⟩ | ⟨⟨uvs, xoruv, head, prev⟩, s', e1, e2, r1, r2, r3, r4⟩
  · rw [e1, e2]
    exact .inr ⟨rfl, _, rfl⟩
  have hok2 := hok.2
  rw [e1] at hok2 ⊢
  rw [e2]
  dsimp only at hok2 r1 r2 r3 r4 ⊢
  rw [show cfgCuckarooz.jointXor = true from rfl, show cfgCuckarooz.useCtxSize = true from rfl,
    if_pos rfl, if_pos rfl, ← r2]
  refine SameVerdict.ite (by simp) _ fun hx => ?_
  rw [if_neg (by simpa using hx), Bool.and_eq_true] at hok2
  -- second `for` (`z2_eq`): the circular `prev` lists agree; then the walk (`WalkLoop.eq`) and the last comparison
  have hR := z2_eq proof.nonces.length uvs _ head P s' (by omega) hbk
    r1 r3 proof.nonces.length 0 prev s'.prev (by omega) r4 hok2.1
  rcases (z_walk proof.nonces.length uvs _).eq r1 hR (2 * proof.nonces.length + 1)
      0 0 0 (by omega) hok2.2 with ⟨f1, e, f2⟩ | ⟨st, n', f1, f2, rfl⟩
  · rw [f1, f2]
    exact .inr ⟨rfl, _, rfl⟩
  rw [f1, f2]
  exact SameVerdict.final (by rw [hP3]; simp) _

theorem cuckarooz_verify_eq (ct : ChainTypes) (params : CuckooParams) (proof : Proof)
    (P : Pow.Params) (ep : Nat → Nat × Nat)
    (hP1 : P.proofsize = proofsize ct) (hP2 : P.edgeMask = params.edge_mask)
    (hP3 : P.ctxProofSize = params.proof_size)
    (hbk : ∀ u, P.bk u = u &&& shrW (2^64-1) (leadingZeros64 proof.nonces.length))
    (hep : ∀ x, ep x = (let e := siphash_block params.siphash_keys x 21 true
                        (e &&& params.node_mask, (shrW e 32) &&& params.node_mask)))
    (hok : Cuckarooz_verify_ok ct params proof = true) :
    (Cuckarooz_verify ct params proof = some ()) ↔ (verifyCuckarooz P ep proof.nonces = .ok ()) :=
  SameVerdict.some_iff (cuckarooz_verify_rel ct params proof P ep hP1 hP2 hP3 hbk hep hok)

theorem cuckarooz_verify_eq_none (ct : ChainTypes) (params : CuckooParams) (proof : Proof)
    (P : Pow.Params) (ep : Nat → Nat × Nat)
    (hP1 : P.proofsize = proofsize ct) (hP2 : P.edgeMask = params.edge_mask)
    (hP3 : P.ctxProofSize = params.proof_size)
    (hbk : ∀ u, P.bk u = u &&& shrW (2^64-1) (leadingZeros64 proof.nonces.length))
    (hep : ∀ x, ep x = (let e := siphash_block params.siphash_keys x 21 true
                        (e &&& params.node_mask, (shrW e 32) &&& params.node_mask)))
    (hok : Cuckarooz_verify_ok ct params proof = true) :
    (Cuckarooz_verify ct params proof = none) ↔ (∃ e, verifyCuckarooz P ep proof.nonces = .error e) :=
  SameVerdict.none_iff (cuckarooz_verify_rel ct params proof P ep hP1 hP2 hP3 hbk hep hok)

/-- Non-vacuity: the hypothesis `_ok` is satisfiable (wrong-length proof on Mainnet: `_ok = true`,
result `none`). -/
example : Cuckarooz_verify_ok ChainTypes.Mainnet ⟨42, 0, [0, 0, 0, 0], 0, 0⟩ ⟨29, []⟩ = true ∧
    Cuckarooz_verify ChainTypes.Mainnet ⟨42, 0, [0, 0, 0, 0], 0, 0⟩ ⟨29, []⟩ = none := by
  constructor <;> rfl

/-- A genuine 8-cycle (AutomatedTesting proof size 8, 512 edges, siphash keys `[1,2,3,4]`): the Rust
function returns normally and accepts. -/
theorem cycle8_accepted :
    Cuckarooz_verify_ok ChainTypes.AutomatedTesting ⟨8, 512, [1, 2, 3, 4], 511, 511⟩
      ⟨9, [2, 16, 46, 179, 225, 335, 370, 418]⟩ = true ∧
    Cuckarooz_verify ChainTypes.AutomatedTesting ⟨8, 512, [1, 2, 3, 4], 511, 511⟩
      ⟨9, [2, 16, 46, 179, 225, 335, 370, 418]⟩ = some () := by
  decide +kernel

example : Cuckarooz_verify_ok ChainTypes.AutomatedTesting ⟨8, 512, [1, 2, 3, 4], 511, 511⟩
      ⟨9, [2, 16, 46, 179, 225, 335, 370, 418]⟩ = true ∧
    Cuckarooz_verify ChainTypes.AutomatedTesting ⟨8, 512, [1, 2, 3, 4], 511, 511⟩
      ⟨9, [2, 16, 46, 179, 225, 335, 370, 418]⟩ = some () :=
  cycle8_accepted

/-- All hypotheses of `cuckarooz_verify_eq` hold together for that input (concrete `P`, `ep`), and the
theorem transfers the verdict: the hand model accepts the 8-cycle. -/
example : verifyCuckarooz ⟨8, 511, 8, fun u => u &&& shrW (2^64-1) (leadingZeros64 8)⟩
    (fun x => (let e := siphash_block [1, 2, 3, 4] x 21 true
               (e &&& 511, (shrW e 32) &&& 511)))
    [2, 16, 46, 179, 225, 335, 370, 418] = .ok () :=
  (cuckarooz_verify_eq ChainTypes.AutomatedTesting ⟨8, 512, [1, 2, 3, 4], 511, 511⟩
    ⟨9, [2, 16, 46, 179, 225, 335, 370, 418]⟩
    ⟨8, 511, 8, fun u => u &&& shrW (2^64-1) (leadingZeros64 8)⟩ _
    rfl rfl rfl (fun _ => rfl) (fun _ => rfl) cycle8_accepted.1).1 cycle8_accepted.2

/-- … and on the REJECT side with all loops of the first phase run (ascending nonces that are not a
cycle: `xoruv != 0`): the model reports an error. -/
example : ∃ e, verifyCuckarooz ⟨8, 511, 8, fun u => u &&& shrW (2^64-1) (leadingZeros64 8)⟩
    (fun x => (let e := siphash_block [1, 2, 3, 4] x 21 true
               (e &&& 511, (shrW e 32) &&& 511)))
    [0, 1, 2, 3, 4, 5, 6, 7] = .error e :=
  have h : Cuckarooz_verify_ok ChainTypes.AutomatedTesting ⟨8, 512, [1, 2, 3, 4], 511, 511⟩
        ⟨9, [0, 1, 2, 3, 4, 5, 6, 7]⟩ = true ∧
      Cuckarooz_verify ChainTypes.AutomatedTesting ⟨8, 512, [1, 2, 3, 4], 511, 511⟩
        ⟨9, [0, 1, 2, 3, 4, 5, 6, 7]⟩ = none := by
    decide +kernel
  (cuckarooz_verify_eq_none ChainTypes.AutomatedTesting ⟨8, 512, [1, 2, 3, 4], 511, 511⟩
    ⟨9, [0, 1, 2, 3, 4, 5, 6, 7]⟩
    ⟨8, 511, 8, fun u => u &&& shrW (2^64-1) (leadingZeros64 8)⟩ _
    rfl rfl rfl (fun _ => rfl) (fun _ => rfl) h.1).1 h.2

/-- non-vacuity of the loop-level hypotheses (`RelZ`, `R`): the initial state of a 2-nonce run -/
example : RelZ (List.replicate 4 0, 0, List.replicate 4 4, List.replicate 4 0)
    (USt.init cfgCuckarooz 2) :=
  ⟨R_replicate _ _, by show (0 : Nat) = 0 ^^^ 0; decide, R_replicate _ _, R_replicate _ _⟩

end GV.Props.XlateVerifyZ
