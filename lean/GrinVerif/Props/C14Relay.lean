import GrinVerif.Model.PoolTime
/-! C14 — the Dandelion relay peer (`DandelionEpoch::relay_peer`, `PoolToNetAdapter::stem_tx_accepted`;
model in `Model/PoolTime.lean`, section "the Dandelion relay peer").

* `stemTxAcceptedR_is_stemTxAccepted` — the relay decision computed from the peer objects is the
  `Epoch.relay` input of `Model/PoolNode.lean`: every node-level theorem applies with that value;
* `relay_kept_while_not_banned` — the current relay is kept as long as it is not BANNED: neither the
  end of its connection nor its removal from the `Peers` map makes `relay_peer` choose another one
  (`Peer::is_connected()` only reads the ban state);
* `dead_relay_fluffs_every_stem_tx` — consequently, once the relay's connection is gone every stem
  transaction of the rest of the epoch is fluffed at once (`DandelionError` → fallback), even while
  other outbound peers are connected (`dead_relay_witness`);
* `relay_changes_only_if_none_or_banned`, `chosen_relay_is_outbound_member_unbanned`,
  `no_candidate_no_relay`, `fluff_epoch_asks_nobody`. -/
namespace GV.Props.C14Relay
open GV.Pool

/-- `e` is free on the right: `stemTxAccepted` does not read `Epoch.expired` -/
theorem stemTxAcceptedR_is_stemTxAccepted (isStem always e : Bool) (src : Src) (cur : Option Nat)
    (peers : List RPeer) (pick : Nat) :
    (stemTxAcceptedR isStem always src cur peers pick).1 =
      stemTxAccepted { isStem := isStem, expired := e, alwaysStemOurs := always,
                       relay := relayOutcome cur peers pick } src := by
  unfold stemTxAcceptedR stemTxAccepted relayOutcome
  by_cases h : (isStem || (src.isPushed && always)) = true
  · simp only [h, if_true]
    cases hr : (relayPeer cur peers pick).bind (peerById peers) with
    | none => rfl
    | some p => cases hp : p.alive <;> simp [hp]
  · simp only [h, Bool.false_eq_true, if_false]

theorem relay_kept_while_not_banned (id : Nat) (peers : List RPeer) (pick : Nat) (p : RPeer)
    (hp : peerById peers id = some p) (hb : p.banned = false) :
    relayPeer (some id) peers pick = some p.id := by
  simp [relayPeer, hp, hb]

theorem peerById_id {peers : List RPeer} {id : Nat} {p : RPeer} (h : peerById peers id = some p) : p.id = id := by
  unfold peerById at h
  have := List.find?_some h
  simpa using this

/-- the relay's connection has ended (`alive = false`) but it is not banned: in a stem epoch every
stem transaction is refused by the relay step - i.e. fluffed - and the relay stays the same -/
theorem dead_relay_fluffs_every_stem_tx (always : Bool) (src : Src) (id : Nat) (peers : List RPeer)
    (pick : Nat) (p : RPeer) (hp : peerById peers id = some p) (hb : p.banned = false)
    (hd : p.alive = false) :
    stemTxAcceptedR true always src (some id) peers pick = (false, some id) := by
  have hid := peerById_id hp
  have hr : relayPeer (some id) peers pick = some id := by
    rw [relay_kept_while_not_banned id peers pick p hp hb, hid]
  simp [stemTxAcceptedR, hr, hp, hd]

/-- … although a second, live outbound peer is connected -/
theorem dead_relay_witness :
    let peers : List RPeer := [{ id := 1, alive := false }, { id := 2 }]
    stemTxAcceptedR true true .broadcast (some 1) peers 0 = (false, some 1) ∧
    -- only a ban makes `relay_peer` move on
    stemTxAcceptedR true true .broadcast (some 1) [{ id := 1, alive := false, banned := true }, { id := 2 }] 0
      = (true, some 2) := by decide

theorem relay_changes_only_if_none_or_banned (cur : Option Nat) (peers : List RPeer) (pick : Nat)
    (h : relayPeer cur peers pick ≠ cur) :
    cur = none ∨ (∃ id, cur = some id ∧ peerById peers id = none) ∨
      ∃ id p, cur = some id ∧ peerById peers id = some p ∧ p.banned = true := by
  cases cur with
  | none => exact Or.inl rfl
  | some id =>
    right
    cases hp : peerById peers id with
    | none => exact Or.inl ⟨id, rfl, hp⟩
    | some p =>
      right
      refine ⟨id, p, rfl, hp, ?_⟩
      cases hb : p.banned with
      | true => rfl
      | false =>
        exfalso
        apply h
        rw [relay_kept_while_not_banned id peers pick p hp hb, peerById_id hp]

theorem chosen_relay_is_outbound_member_unbanned (peers : List RPeer) (pick id : Nat)
    (h : chooseRelay peers pick = some id) :
    ∃ p ∈ peers, p.id = id ∧ p.member = true ∧ p.outbound = true ∧ p.banned = false := by
  unfold chooseRelay at h
  simp only [Option.map_eq_some_iff] at h
  obtain ⟨p, hp, hid⟩ := h
  have hm := List.mem_of_getElem? hp
  have := List.mem_filter.mp hm
  refine ⟨p, this.1, hid, ?_⟩
  have h2 := this.2
  simp only [Bool.and_eq_true, Bool.not_eq_eq_eq_not, Bool.not_true] at h2
  exact ⟨h2.1.1, h2.1.2, h2.2⟩

/-- … and the specification is exactly that set: every outbound, unbanned member can be the result of
the random choice (`choose_random` over the filtered iterator) -/
theorem every_candidate_can_be_chosen (peers : List RPeer) (p : RPeer) (hp : p ∈ peers)
    (hm : p.member = true) (ho : p.outbound = true) (hb : p.banned = false) :
    ∃ pick, chooseRelay peers pick = some p.id := by
  have hc : p ∈ peers.filter (fun p => p.member && p.outbound && !p.banned) :=
    List.mem_filter.mpr ⟨hp, by simp [hm, ho, hb]⟩
  obtain ⟨i, hi, he⟩ := List.getElem_of_mem hc
  refine ⟨i, ?_⟩
  unfold chooseRelay
  simp only []
  rw [Nat.mod_eq_of_lt hi, List.getElem?_eq_getElem hi, he]
  rfl

example : ∃ pick, chooseRelay [{ id := 1, outbound := false }, { id := 2 }, { id := 3, banned := true }, { id := 4 }] pick = some 4 :=
  ⟨1, by decide⟩

/-- no outbound, unbanned member and no relay yet: a stem epoch fluffs -/
theorem no_candidate_no_relay (always : Bool) (src : Src) (peers : List RPeer) (pick : Nat)
    (h : ∀ p ∈ peers, (p.member && p.outbound && !p.banned) = false) :
    stemTxAcceptedR true always src none peers pick = (false, none) := by
  have hf : peers.filter (fun p => p.member && p.outbound && !p.banned) = [] :=
    List.filter_eq_nil_iff.mpr (fun p hp => by simp [h p hp])
  simp [stemTxAcceptedR, relayPeer, chooseRelay, hf]

/-- a fluff epoch (and a transaction that is not ours, or `always_stem_our_txs` off) asks nobody:
the stem transaction stays in the stempool for the monitor, the relay is not touched -/
theorem fluff_epoch_asks_nobody (always : Bool) (src : Src) (cur : Option Nat) (peers : List RPeer) (pick : Nat)
    (h : (src.isPushed && always) = false) :
    stemTxAcceptedR false always src cur peers pick = (true, cur) := by
  simp [stemTxAcceptedR, h]

/-- **a full send channel**: `ConnHandle::send` answers `Ok` on `TrySendError::Full` and DROPS the message, so
the relay step reports success (`alive`) and the transaction stays in the stempool although nobody received
it.  What brings it out is the embargo: at the first monitor pass at which it is older than
`embargo_secs + draw` its submission on the fluff path is in the list below, which is the list of submissions
`expireEntriesT` makes (`Model/PoolTime.lean`: the loop over `selectCutoff m now (embargoCutoff d roll) s.stempool`;
the statement itself is membership in that list, it does not run the loop)
(reasoned from p2p/src/conn.rs; not driven: the harness cannot park the writer thread of a `p2p::Peer`). -/
theorem dropped_stem_tx_leaves_by_the_embargo (m : Clock) (now : Int) (d : DCfg) (roll : Nat) (s : TxPool) (e : Entry)
    (he : e ∈ s.stempool) (hold : tsOf (atOf m e.tx) < tsOf now - ((embargoCutoff d roll : Nat) : Int)) :
    (Op.submit .embargoExpired e.tx false false) ∈
      (selectCutoff m now (embargoCutoff d roll) s.stempool).map (fun e => Op.submit .embargoExpired e.tx false false) := by
  apply List.mem_map.mpr
  refine ⟨e, ?_, rfl⟩
  unfold selectCutoff
  exact List.mem_filter.mpr ⟨he, by simpa using hold⟩

end GV.Props.C14Relay
