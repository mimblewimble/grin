import GrinVerif.Lemmas.KvResize
import GrinVerif.Gen.KvGate
import GrinVerif.Lemmas.KvGate
/-! C18: a `Store` handle opened on an environment that is already registered in `ENV_MAP`
(`store/src/lmdb.rs`, `Store::new`: the `has_env` branch) – the chain store and the peer store share
one environment, tools open further handles on a running node's directory.

Opening a handle is the identity on the environment's gate state (`open_txs_count`, `resizing`,
`resize_checking`, the pending waiter, the map size) – only `stores_count` goes up; other
environments are untouched.  Consequences stated on the resize protocol model: a resize that falls
due through the new handle while a reader of another handle is open is DEFERRED (never run under
the open read transaction) and the batch waits; a resize already pending stays pending; closing the
readers afterwards brings the counter back to 0 exactly (no underflow); dropping a handle that is
not the last one changes nothing but the count.  Run `kv rehandle` drives exactly these scenarios
on the real code (`rh-trigger`, property-fixed: `waited` iff a reader is open and the resize due). -/
namespace GV.Props.C18Handles
open GV GV.Kv GV.KvGate

/-- `Store::new` on a registered environment: the `EnvState` is the
old one with `stores_count + 1` – counter, both flags, pending waiter and map size unchanged. -/
theorem open_handle_preserves_gate (m : EnvMap) (path mapSize chunk : Nat) (s : EnvState)
    (h : envLookup m path = some s) :
    envLookup (storeNewEnv m path mapSize chunk) path = some { s with stores := s.stores + 1 } := by
  unfold storeNewEnv
  rw [h]
  exact lookup_update_same _ m path s h

/-- … and every other environment is untouched -/
theorem open_handle_other_envs (m : EnvMap) (path q mapSize chunk : Nat) (hq : q ≠ path) :
    envLookup (storeNewEnv m path mapSize chunk) q = envLookup m q := by
  unfold storeNewEnv
  cases h : envLookup m path with
  | some s => exact lookup_update_other _ m path q hq
  | none => rw [envLookup, if_neg (Ne.symm hq)]

/-- the first handle registers a fresh gate: nothing open, no flag set -/
theorem first_handle_registers (m : EnvMap) (path mapSize chunk : Nat) (h : envLookup m path = none) :
    envLookup (storeNewEnv m path mapSize chunk) path = some { gate := rinit mapSize chunk, stores := 1 } := by
  unfold storeNewEnv
  rw [h]
  simp [envLookup]

theorem rehandleTrigger_eq (m : EnvMap) (path : Nat) (s : EnvState) (used : Nat)
    (h : envLookup m path = some s) :
    rehandleTrigger m path used = match (maybeResize s.gate used).2 with
      | .deferred _ => true
      | _ => false := by
  unfold rehandleTrigger
  rw [open_handle_preserves_gate m path 0 0 s h]
  rfl

/-- **A resize falling due through the new handle while a reader is open is deferred**: whatever
the usage, `maybe_resize` never takes the immediate branch (`env.resize` under an open read
transaction) – the batch waits at the gate (`rehandleTrigger`) exactly when a resize is needed. -/
theorem new_handle_defers_under_reader (m : EnvMap) (path : Nat) (s : EnvState) (used : Nat)
    (h : envLookup m path = some s) (hopen : s.gate.openTxs ≠ 0) (hidle : s.gate.checking = false) :
    (∀ n, (maybeResize s.gate used).2 ≠ .immediate n) ∧
    rehandleTrigger m path used = (needsResize s.gate.mapSize used s.gate.chunk).1 := by
  rw [rehandleTrigger_eq m path s used h]
  rcases maybeResize_cases s.gate used with ⟨hb, _⟩ | ⟨_, hn, e⟩ | ⟨_, hn, _, e⟩ | ⟨_, _, ho, _⟩
  · rw [hidle] at hb; cases hb
  · rw [e, hn]; exact ⟨fun _ hh => Branch.noConfusion hh, rfl⟩
  · rw [e, hn]; exact ⟨fun _ hh => Branch.noConfusion hh, rfl⟩
  · exact absurd ho hopen

/-- without any open transaction the batch through the new handle never waits (a resize that is due
is done at once) -/
theorem new_handle_resizes_at_once_when_idle (m : EnvMap) (path : Nat) (s : EnvState) (used : Nat)
    (h : envLookup m path = some s) (hopen : s.gate.openTxs = 0) (hidle : s.gate.checking = false) :
    rehandleTrigger m path used = false := by
  rw [rehandleTrigger_eq m path s used h]
  rcases maybeResize_cases s.gate used with ⟨hb, _⟩ | ⟨_, _, e⟩ | ⟨_, _, ho, _⟩ | ⟨_, _, _, e⟩
  · rw [hidle] at hb; cases hb
  · rw [e]
  · exact absurd hopen ho
  · rw [e]

/-- **a pending resize survives the opening of a handle**: flags and waiter are still there, so the
parked batch stays parked and the waiter still resizes to the planned size once everything closes -/
theorem open_handle_keeps_pending_resize (m : EnvMap) (path a b : Nat) (s : EnvState) (n : Nat)
    (h : envLookup m path = some s) (hp : s.gate.pending = some n) (hr : s.gate.resizing = true) :
    ∃ s', envLookup (storeNewEnv m path a b) path = some s' ∧ s'.gate.pending = some n ∧
      s'.gate.resizing = true ∧ (settle s'.gate).mapSize = n := by
  refine ⟨_, open_handle_preserves_gate m path a b s h, hp, hr, ?_⟩
  simp [settle, waiterStep, hp]

/-- the new handle shares the counter: `k` readers closed through it count the old handle's counter
down by `k` -/
theorem readers_closed_after_open_handle (m : EnvMap) (path a b : Nat) (s : EnvState) (k : Nat)
    (h : envLookup m path = some s) (hk : k ≤ s.gate.openTxs) :
    ∃ s', envLookup (storeNewEnv m path a b) path = some s' ∧
      (rrun s'.gate (List.replicate k RAct.closeTx)).openTxs = s.gate.openTxs - k :=
  ⟨_, open_handle_preserves_gate m path a b s h, by rw [rrun_closeTx]⟩

/-- dropping a handle that is not the last one changes only the count -/
theorem drop_handle_keeps_gate (m : EnvMap) (path : Nat) (s : EnvState) (h : envLookup m path = some s)
    (h2 : 2 ≤ s.stores) :
    envLookup (storeDropEnv m path) path = some { s with stores := s.stores - 1 } := by
  unfold storeDropEnv
  rw [h]
  have : ¬ s.stores ≤ 1 := Nat.not_le.2 h2
  simp only [this, if_false]
  exact lookup_update_same _ m path s h

/-- non-vacuity: one environment with a reader open and a 1 MiB map 92 % used; a second handle is
opened; its batch has to wait, and after the reader the map is 2 MiB -/
example : rehandleTrigger [(7, { gate := { mapSize := 1048576, chunk := 1048576, openTxs := 1 } })] 7 962560 = true ∧
    rehandleMap [(7, { gate := { mapSize := 1048576, chunk := 1048576, openTxs := 1 } })] 7 962560 = 2097152 := by
  decide

/-- **No two live gate states on one database.**  Whatever spelling `Store::new` is given: it either
joins the registered environment (same key), is refused (another key resolving to a directory
whose environment is open in this process), or opens a directory nobody has open.  In particular a
handle never gets a fresh gate state for a directory that is already open (run `envkeys`: `.`, `..`,
doubled separator, symlink and relative spellings are refused; a trailing slash is the same key). -/
theorem alias_never_opens_second_gate (m : EnvMapD) (key dir : Nat)
    (hopen : m.any (fun x => x.2.1 == dir) = true) :
    storeNewOutcome m key dir ≠ .separate := by
  unfold storeNewOutcome
  rw [hopen]
  split <;> simp

theorem same_key_shares (m : EnvMapD) (key dir : Nat) (h : m.any (fun x => x.1 == key) = true) :
    storeNewOutcome m key dir = .shared := by
  unfold storeNewOutcome; simp [h]

/-! ### the registry as read from the CURRENT source (`tools/gen_kvgate.py` → `Gen/KvGate.lean`) -/

/-- In `store/src/lmdb.rs` as it is now: an `EnvState` literal
and an insert into `ENV_MAP` exist only in `Store::new`, inside `if !has_env { .. }` with
`has_env = contains_key(&full_path)`; the branch for an already registered environment mentions
`stores_count` and nothing else of the state; `open_txs_count` is written by `enter_tx` and
`TxCounter::drop` only, `resizing` by `set_resizing` and the waiter of `maybe_resize`,
`resize_checking` by its two accessors and the waiter.  That is `storeNewEnv`: a change that
re-initialises counter or flags when a handle is opened breaks this obligation (and run `rehandle`
shows the concrete history). -/
theorem registry_is_the_modelled_one : Gen.KvGate.registry.Ok :=
  ⟨rfl, rfl, rfl, rfl, rfl, rfl, rfl, rfl⟩

theorem registered_env_branch_touches_count_only :
    Gen.KvGate.registry.elseTouches = ["stores_count"] :=
  registry_is_the_modelled_one.elseTouches

theorem counter_written_by_gate_only :
    Gen.KvGate.registry.countWriters = ["Store::enter_tx", "TxCounter::drop"] :=
  registry_is_the_modelled_one.countWriters

end GV.Props.C18Handles
