import GrinVerif.Model.Pmmr
import GrinVerif.Gen.FnsPmmr
import GrinVerif.Lemmas.UtilList
import GrinVerif.Props.XlatePmmr
/-! # Translated `peaks`, `bintree_leaf_pos_iter`, `bintree_pos_iter` of `core/src/core/pmmr/pmmr.rs`
= hand-written model (`Model/Pmmr.lean`)

The three iterator-based functions of `pmmr.rs` (`Iterator::scan / map / collect`, inclusive ranges;
`Gen/FnsPmmr.lean`: `Fns.peaks` with `Fns.peaks_closure1` and `scanOpt` of `Gen/FnsPrelude.lean`,
`Fns.bintree_leaf_pos_iter`, `Fns.bintree_pos_iter`; an iterator is the `List` of the items it yields).
Same reading as in `Props/XlatePmmr.lean`: the generated definitions have release-build u64 semantics, the model is on
unbounded `Nat`; each `_eq` theorem is for every input of the stated range, each `_ok` theorem says the
Rust function returns normally there. -/

namespace GV.Props.XlatePmmr2
open GV GV.Pmmr GV.Pmmr.Co GV.Xlate GV.Xlate2
open GV.Gen
open GV.Props.XlatePmmr

/-- the lemma behind `peaks_eq`, for any list: the translated `scan … map` is `scanPeaks` when all
entries are positive and the total fits a u64 -/
theorem peaks_scan_eq (l : List Nat) (acc : Nat) (hpos : ∀ x ∈ l, 1 ≤ x) (hsum : acc + l.sum < 2^64) :
    List.map (fun x => subW x 1) (Fns.scanOpt Fns.peaks_closure1 acc l) = scanPeaks acc l := by
  induction l generalizing acc with
  | nil => simp [Fns.scanOpt, scanPeaks]
  | cons x xs ih =>
    simp only [List.sum_cons] at hsum
    have hx : 1 ≤ x := hpos x (List.mem_cons_self ..)
    have ha : addW acc x = acc + x := addW_eq (by omega)
    have hs : subW (acc + x) 1 = acc + x - 1 := subW_eq (by omega) (by omega)
    simp only [Fns.scanOpt, Fns.peaks_closure1, ha, List.map_cons, hs, scanPeaks]
    rw [ih (acc + x) (fun z hz => hpos z (List.mem_cons_of_mem _ hz)) (by omega)]

/-- `peaks(size)` for every u64 `size`: the peak sizes are positive and add up to at most `size`,
so neither `*acc += x` nor `x - 1` wraps -/
theorem peaks_eq (size : Nat) (h : size < 2^64) : Fns.peaks size = Pmmr.peaks size := by
  unfold Fns.peaks Pmmr.peaks
  rw [peak_sizes_height_eq size h]
  have hs := peakSizesHeight_sum size
  by_cases hz : (peakSizesHeight size).2 = 0
  · simp only [hz, beq_self_eq_true, if_true]
    exact peaks_scan_eq _ 0 (peakSizesHeight_pos size) (by omega)
  · simp [hz]

theorem peaks_ok (size : Nat) (h : size < 2^64) : Fns.peaks_ok size = true := by
  simp [Fns.peaks_ok, peak_sizes_height_ok size h]

/-- the hypotheses of `peaks_scan_eq` are needed: a zero entry makes `x - 1` wrap to `u64::MAX` in the code
(the model's truncated subtraction gives 0) -/
theorem peaks_scan_zero_entry :
    List.map (fun x => subW x 1) (Fns.scanOpt Fns.peaks_closure1 0 [0]) = [2^64 - 1]
      ∧ scanPeaks 0 [0] = [0] := by
  have h1 : addW 0 0 = 0 := by unfold addW; omega
  have h2 : subW 0 1 = 2^64 - 1 := by unfold subW; omega
  simp only [Fns.scanOpt, Fns.peaks_closure1, scanPeaks, h1, h2, List.map_cons, List.map_nil]
  exact ⟨trivial, trivial⟩

/-- 11 = 7 + 3 + 1 (three peaks); 12 is not a valid MMR size -/
example : Fns.peaks 11 = [6, 9, 10] ∧ Fns.peaks 12 = [] ∧ Fns.peaks_ok 11 = true := by
  rw [peaks_eq 11 (by omega), peaks_eq 12 (by omega), peaks_ok 11 (by omega)]
  simp [Pmmr.peaks, peakSizesHeight, bitLen, greedySizes, scanPeaks]

/-- `bintree_pos_iter(pos0)` = the positions `leftmost ..= pos0` (no model function: stated as the
closed form), for every u64 `pos0` -/
theorem bintree_pos_iter_eq (pos : Nat) (h : pos < 2^64) :
    Fns.bintree_pos_iter pos
      = List.range' (bintreeLeftmost pos) (pos + 1 - bintreeLeftmost pos) := by
  unfold Fns.bintree_pos_iter
  simp only [bintree_leftmost_eq_u64 pos h]

/-- the same list as `bintree_range(pos0)` (model `bintreeRange`: start, end-exclusive) -/
theorem bintree_pos_iter_eq_range (pos : Nat) (h : pos < 2^64) :
    Fns.bintree_pos_iter pos
      = List.range' (bintreeRange pos).1 ((bintreeRange pos).2 - (bintreeRange pos).1) := by
  rw [bintree_pos_iter_eq pos h]; rfl

/-- it has `2^(height+1) - 1` entries and ends in `pos0` -/
theorem bintree_pos_iter_length (pos : Nat) (h : pos < 2^64) :
    (Fns.bintree_pos_iter pos).length = 2 * 2^(height pos) - 1 := by
  rw [bintree_pos_iter_eq pos h, List.length_range']
  have b : 2 * 2^(peakMapHeight pos).2 ≤ pos + 2 := height_bound pos
  unfold bintreeLeftmost height; omega

theorem bintree_pos_iter_ok (pos : Nat) (h : pos < 2^64) : Fns.bintree_pos_iter_ok pos = true := by
  simp [Fns.bintree_pos_iter_ok, bintree_leftmost_ok pos h]

example : Fns.bintree_pos_iter 9 = [7, 8, 9] ∧ Fns.bintree_pos_iter 7 = [7] := by
  rw [bintree_pos_iter_eq 9 (by omega), bintree_pos_iter_eq 7 (by omega)]
  simp [bintreeLeftmost, height, pmh_9, pmh_7, List.range']

/-- `bintree_leaf_pos_iter(pos0)` for every u64 `pos0`: the leaf indices `start ..= end` of u64
positions are at most `2^63`, where `insertion_to_pmmr_index` agrees with the model.

Proof-engineering note: the body of `Fns.bintree_leaf_pos_iter` is (after its `let`s) a `match` on
`pmmr_leaf_to_insertion_index (bintree_leftmost pos0)`.  `unfold` / `delta` / `rw [Fns.bintree_leaf_pos_iter]`
on the *applied* constant make the kernel compare `Fns.bintree_leaf_pos_iter pos` with a matcher
application; it unfolds the matcher first (matchers are abbreviations) and then evaluates the
discriminant — wrapping arithmetic on a free variable — to weak head normal form, which runs for
minutes into `deep recursion`.  Unfolding the *unapplied* constant (`F = Fns.bintree_leaf_pos_iter`,
`delta … at`) compares a constant with a lambda instead: the constant is unfolded and the two bodies
are syntactically equal. -/
theorem bintree_leaf_pos_iter_eq (pos : Nat) (h : pos < 2^64) :
    Fns.bintree_leaf_pos_iter pos = bintreeLeafPosIter pos := by
  have key : ∀ (F : Nat → List Nat), F = Fns.bintree_leaf_pos_iter →
      F pos = bintreeLeafPosIter pos := by
    intro F hF
    delta Fns.bintree_leaf_pos_iter at hF
    subst hF
    show _ = _
    unfold bintreeLeafPosIter
    have hl : bintreeLeftmost pos < 2^64 := by have := leftmost_le pos; omega
    have hr : bintreeRightmost pos < 2^64 := by unfold bintreeRightmost; omega
    simp only [bintree_leftmost_eq_u64 pos h, bintree_rightmost_eq pos h,
      pmmr_leaf_to_insertion_index_eq _ hl, pmmr_leaf_to_insertion_index_eq _ hr]
    cases hs : pmmrLeafToInsertionIndex (bintreeLeftmost pos) with
    | none => simp
    | some s =>
      cases he : pmmrLeafToInsertionIndex (bintreeRightmost pos) with
      | none => simp
      | some e =>
        have hb := GV.Props.C07U64.peak_map_le _ hr
        have hle : e ≤ 2^63 := by
          unfold pmmrLeafToInsertionIndex at he
          simp only at he
          split at he
          · injection he with he; omega
          · cases he
        exact map_range'_eq Fns.insertion_to_pmmr_index insertionToPmmrIndex s (e + 1 - s)
          (fun i hi => insertion_to_pmmr_index_eq (s + i) (by omega))
  exact key _ rfl

theorem bintree_leaf_pos_iter_ok (pos : Nat) (h : pos < 2^64) :
    Fns.bintree_leaf_pos_iter_ok pos = true := by
  unfold Fns.bintree_leaf_pos_iter_ok
  have hl : Fns.bintree_leftmost pos < 2^64 := subW_lt _ _
  have hr : Fns.bintree_rightmost pos < 2^64 := subW_lt _ _
  simp only [bintree_leftmost_ok pos h, bintree_rightmost_ok pos h,
    pmmr_leaf_to_insertion_index_ok _ hl, pmmr_leaf_to_insertion_index_ok _ hr, Bool.and_self]

/-- the leaves below node 6 (height 2) are at 0, 1, 3, 4; below 9 (height 1): 7, 8 -/
example : Fns.bintree_leaf_pos_iter 6 = [0, 1, 3, 4] ∧ Fns.bintree_leaf_pos_iter 9 = [7, 8] := by
  have p : peakMapHeight 0 = (0, 0) ∧ peakMapHeight 4 = (3, 0) ∧ peakMapHeight 8 = (5, 0) := by
    decide +kernel
  have m : mmr 0 = 0 ∧ mmr 1 = 1 ∧ mmr 2 = 3 ∧ mmr 3 = 4 ∧ mmr 4 = 7 ∧ mmr 5 = 8 := by decide +kernel
  rw [bintree_leaf_pos_iter_eq 6 (by omega), bintree_leaf_pos_iter_eq 9 (by omega)]
  simp [bintreeLeafPosIter, bintreeLeftmost, bintreeRightmost, height, pmh_6, pmh_9,
    pmmrLeafToInsertionIndex, p, pmh_7, insertionToPmmrIndex, List.range, List.range.loop, m]

/-- the last u64 position `2^64 - 1` is leaf number `2^63`: all three functions agree with the
model there although `pos0 + 2` wraps -/
example : Fns.bintree_leftmost (2^64 - 1) = 2^64 - 1 ∧ Fns.bintree_pos_iter (2^64 - 1) = [2^64 - 1]
    ∧ Fns.bintree_leaf_pos_iter (2^64 - 1) = [2^64 - 1] := by
  have pc : popcount (2^63) = 1 := by decide +kernel
  have m : mmr (2^63) = 2^64 - 1 := by unfold mmr; rw [pc]
  have p := peakMapHeight_leaf (2^63); rw [m] at p
  have hh : height (2^64 - 1) = 0 := by simp [height, p]
  have hl : bintreeLeftmost (2^64 - 1) = 2^64 - 1 := by unfold bintreeLeftmost; rw [hh]
  have hr : bintreeRightmost (2^64 - 1) = 2^64 - 1 := by unfold bintreeRightmost; rw [hh]
  have hi : pmmrLeafToInsertionIndex (2^64 - 1) = some (2^63) := by
    simp [pmmrLeafToInsertionIndex, p]
  refine ⟨?_, ?_, ?_⟩
  · rw [bintree_leftmost_eq_u64 _ (by omega), hl]
  · rw [bintree_pos_iter_eq _ (by omega), hl]; rfl
  · rw [bintree_leaf_pos_iter_eq _ (by omega)]
    unfold bintreeLeafPosIter
    rw [hl, hr, hi]
    simp [insertionToPmmrIndex, m, List.range, List.range.loop]

end GV.Props.XlatePmmr2
