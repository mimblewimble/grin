import GrinVerif.Props.XlateShapeTxhsFacts
import GrinVerif.Gen.SyncOrder
import GrinVerif.Model.CrashRecov
/-! C09 — "a refused or rolled-back unit of work performs no durable step", discharged from the source.

The crash models list durable steps only for units of work that SUCCEED: `fallbackS`
(`Model/CrashRecov.lean`) emits no write for the candidate head whose validation fails inside
`txhashset::extending` (only for the following `extending(rewind to the previous header)`, which
returns `Ok`); a refused input (`pipe::process_block` returning `Err`) contributes no step to a
scenario; `Chain::validate`, `txhashset_read` and the other read-only extensions have no crash point.
The translator's decided shape facts
(`Props/XlateShapeTxhsFacts.lean`, regenerated from chain/src/txhashset/txhashset.rs on every run) say:
the child batch `commit()` and every backend `sync()` of the two wrappers sit ONLY under
`result ~ Ok(_)` and `!rollback`; `Err` and rollback discard every backend; the read-only wrappers make
nothing durable. `unitSteps` is the model's rule; the theorems below state it on the models and pair it
with those facts, so a `sync()` moved onto the error path breaks `wrappers_follow_the_unit_rule`. -/
namespace GV.Props.C09Discard
open GV GV.Crash GV.Gen GV.Gen.PipeShape GV.Props.XlateShape GV.Props.XlateShapeTxhsFacts

/-- the durable steps a unit of work run through an extension wrapper performs -/
def unitSteps {α : Type} (ok rollback : Bool) (steps : List α) : List α :=
  if ok && !rollback then steps else []

theorem unitSteps_err {α : Type} (r : Bool) (steps : List α) : unitSteps false r steps = [] := by
  simp [unitSteps]

theorem unitSteps_rollback {α : Type} (ok : Bool) (steps : List α) : unitSteps ok true steps = [] := by
  simp [unitSteps]

/-- **The source follows the rule** (decided, current source): in `extending` the durable calls are one
child commit and three syncs, all under `Ok ∧ ¬rollback`, in the order `Gen/SyncOrder.lean` reads;
in `header_extending` one commit and one sync under the same guard; the read-only wrappers have none -/
theorem wrappers_follow_the_unit_rule :
    commitsOnlyUnder ["$5 ~ Ok(_)", "!($6)"] txhs_extending = true ∧
    (durable txhs_extending).map (·.name) = ["commit", "sync", "sync", "sync"] ∧
    SyncOrder.extendingCommit = [20, 21, 22, 23] ∧
    commitsOnlyUnder ["$4 ~ Ok(_)", "!($5)"] txhs_header_extending = true ∧
    (durable txhs_header_extending).map (·.name) = ["commit", "sync"] ∧
    SyncOrder.headerExtendingCommit = [20, 24] ∧
    durable txhs_extending_readonly = [] ∧ durable txhs_header_extending_readonly = [] :=
  ⟨extending_never_commits_on_err_or_rollback.2.2.1, extending_never_commits_on_err_or_rollback.2.2.2, by decide +kernel,
   header_extending_never_commits_on_err_or_rollback.2.2.1, header_extending_never_commits_on_err_or_rollback.2.2.2,
   by decide +kernel, readonly_never_commit.1, readonly_never_commit.2.2.1⟩

/-- one iteration of `setup_head`'s loop whose candidate does NOT validate: the failed validation unit
writes nothing, the rewind-to-the-parent unit (which succeeds) writes its syncs — this is `fallbackS` -/
theorem fallbackS_failed_candidate_writes_nothing (bcf : Nat → Bool) (tbl : List BlkInfo) (fuel : Nat)
    (d : Durable) (h : Nat) (path : List BlkInfo)
    (hp : pathOf tbl (tbl.length + 1) h [] = some path) (hl : ¬ path.length ≤ 1)
    (hv : validAt bcf d [] path = false) :
    (fallbackS bcf tbl (fuel + 1) d h).1 =
      unitSteps false false (syncIns path []) ++
      unitSteps true false (syncIns path.dropLast (spentLeaves (unspentOf path.dropLast) path.getLast!)) ++
      (fallbackS bcf tbl fuel
        (runIns d (syncIns path.dropLast (spentLeaves (unspentOf path.dropLast) path.getLast!)))
        ((path.dropLast.getLast?.map (·.id)).getD 0)).1 := by
  rw [fallbackS]
  simp [hp, hl, hv, unitSteps]

/-- … and whose candidate validates: exactly the syncs of that one successful unit -/
theorem fallbackS_valid_candidate_writes (bcf : Nat → Bool) (tbl : List BlkInfo) (fuel : Nat)
    (d : Durable) (h : Nat) (path : List BlkInfo)
    (hp : pathOf tbl (tbl.length + 1) h [] = some path) (hl : ¬ path.length ≤ 1)
    (hv : validAt bcf d [] path = true) :
    (fallbackS bcf tbl (fuel + 1) d h).1 = unitSteps true false (syncIns path []) := by
  rw [fallbackS]
  simp [hp, hl, hv, unitSteps]

/-- a refused or rolled-back input leaves the durable state alone at every crash point -/
theorem refused_input_no_durable_step (t : Target) (d : Durable) (steps : List Crash.Step) (ok rollback : Bool)
    (h : (ok && !rollback) = false) (k : Nat) :
    crashAfter t d (unitSteps ok rollback steps) k = d := by
  simp [unitSteps, h, crashAfter]

example : unitSteps true false blockSteps = blockSteps := rfl
example : unitSteps true true blockSteps = [] := rfl

end GV.Props.C09Discard
