import GrinVerif.Lemmas.KvResize
import GrinVerif.Model.KvMigrate
/-! C18, the DEFERRED resize (`Store::maybe_resize`, branch "transactions are open"); at the end the lead
scenario of a migration into a SHARED environment evaluated (the head-room theorem is
`Props/C18Migrate.migration_headroom`).

The waiter thread a deferred resize spawns captures the size `needs_resize` planned at decision
time; it does not look at the environment again.  Threads that are allowed through the gate during
the wait (the holder's own nested operations) may commit more data - the size the waiter sets is
still the planned one: a whole number of chunks (hence of pages), strictly larger than the map,
with the usage found at decision time at most 65 % of it.  Tie: run `kv deferred`. -/
namespace GV.Props.C18Deferred
open GV GV.Kv

/-- **What a deferred decision plans.**  When `maybe_resize` takes the deferred branch, the size
handed to the waiter is the one `needs_resize` computed from the map and the usage found at that
moment: a whole number of chunks, strictly larger than the map. -/
theorem deferred_decision_planned (e : REnv) (used n : Nat) (hc : 0 < e.chunk)
    (h : (maybeResize e used).2 = .deferred n) :
    n = (needsResize e.mapSize used e.chunk).2 ∧ n % e.chunk = 0 ∧ e.mapSize < n ∧
    (maybeResize e used).1.pending = some n ∧ (maybeResize e used).1.mapSize = e.mapSize := by
  rcases maybeResize_cases e used with ⟨_, h1⟩ | ⟨_, _, h1⟩ | ⟨_, hr, _, h1⟩ | ⟨_, _, _, h1⟩
  · rw [h1] at h; simp at h
  · rw [h1] at h; simp at h
  · rw [h1] at h ⊢
    simp only [Branch.deferred.injEq] at h
    subst h
    exact ⟨rfl, (needsResize_true _ _ _ hc hr).2.1, needsResize_lt hc hr, rfl, rfl⟩
  · rw [h1] at h; simp at h

/-- one action while a resize is pending: the waiter's target does not change; the only way it
goes away is the waiter firing, and then the map IS that size and both flags are free -/
theorem pending_step (e : REnv) (inv : RInv e) (n : Nat) (hp : e.pending = some n) (a : RAct) :
    (rstep e a).pending = some n ∧ (rstep e a).mapSize = e.mapSize ∨
    a = .waiter ∧ (rstep e a).pending = none ∧ (rstep e a).mapSize = n ∧ (rstep e a).resizing = false ∧
      (rstep e a).checking = false := by
  cases a with
  | openTx => exact Or.inl ⟨hp, rfl⟩
  | closeTx => exact Or.inl ⟨hp, rfl⟩
  | call used =>
    have hck : e.checking = true := by rw [inv.guard, hp]; rfl
    rw [rstep, maybeResize_busy hck]
    exact Or.inl ⟨hp, rfl⟩
  | waiter =>
    by_cases ho : e.openTxs = 0
    · rw [rstep, waiterStep_fires hp ho]; exact Or.inr ⟨rfl, rfl, rfl, rfl, rfl⟩
    · rw [rstep, waiterStep_waits hp ho]; exact Or.inl ⟨hp, rfl⟩

/-- From the moment a resize is deferred with planned size
`n`, through ANY sequence of transactions opening and closing (threads let through the gate, with
whatever they commit), further `maybe_resize` calls of any handle and polls of the waiter: either
the resize is still pending with the same target `n` and the map untouched, or it has happened -
and at the moment it happened the map became exactly `n`. -/
theorem deferred_resize_sets_planned_size (n : Nat) :
    ∀ (as : List RAct) (e : REnv), RInv e → e.pending = some n →
      ((rrun e as).pending = some n ∧ (rrun e as).mapSize = e.mapSize) ∨
      ∃ pre post, as = pre ++ RAct.waiter :: post ∧ (rrun e pre).pending = some n ∧
        (rrun e (pre ++ [RAct.waiter])).mapSize = n ∧
        (rrun e (pre ++ [RAct.waiter])).pending = none ∧
        (rrun e (pre ++ [RAct.waiter])).resizing = false ∧
        (rrun e (pre ++ [RAct.waiter])).checking = false := by
  intro as
  induction as with
  | nil => intro e _ hp; left; exact ⟨hp, rfl⟩
  | cons a rest ih =>
    intro e inv hp
    rcases pending_step e inv n hp a with ⟨h1, h2⟩ | ⟨rfl, h1, h2, h3, h4⟩
    · rcases ih (rstep e a) (rinv_step e a inv) h1 with ⟨g1, g2⟩ | ⟨pre, post, e1, g1, g2, g3, g4, g5⟩
      · exact Or.inl ⟨g1, h2 ▸ g2⟩
      · exact Or.inr ⟨a :: pre, post, by rw [e1]; rfl, g1, g2, g3, g4, g5⟩
    · exact Or.inr ⟨[], rest, rfl, hp, h2, h1, h3, h4⟩

/-- the planned size is large enough for what was there when the decision was taken -/
theorem planned_size_sufficient (mapSize used chunk : Nat) (hc : 0 < chunk) (hm : chunk ≤ mapSize)
    (h : (needsResize mapSize used chunk).1 = true) :
    used * 100 ≤ 65 * (needsResize mapSize used chunk).2 ∧
    (needsResize mapSize used chunk).2 % chunk = 0 ∧ mapSize < (needsResize mapSize used chunk).2 := by
  obtain ⟨hlt, hmod, htarget⟩ := needsResize_true mapSize used chunk hc h
  exact ⟨htarget hm, hmod, hlt⟩

/-! ### the steps of the growth sequence the run walks through (1 MiB chunks) -/

example : (needsResize 1048576 962560 1048576) = (true, 2097152) := by decide
example : (needsResize 3145728 2846720 1048576) = (true, 5242880) := by decide
/-- the fourth step: from 5 MiB the planned size is 7 MiB -/
example : (needsResize 5242880 4726784 1048576) = (true, 7340032) := by decide

/-- a deferred decision at the fourth step, two nested transactions of the holder opening and
closing during the wait, a further `maybe_resize` call (guard busy), then everything closed and
the waiter polling: the map is the planned 7 MiB -/
example : (rrun { mapSize := 5242880, chunk := 1048576, openTxs := 1 }
    [.call 4726784, .openTx, .closeTx, .call 5100000, .openTx, .closeTx, .waiter, .closeTx, .waiter]).mapSize
    = 7340032 := by decide

/-! ### migration into a shared environment: the head-room counts both -/

/-- the lead scenario: the first store has 2 527 232 bytes in a 3 MiB map, the legacy environment
of the second store holds 942 080 bytes: the map must grow to 6 MiB before the copy; a head-room
that ignored what the shared environment already holds would leave it at 3 MiB, less than the
3 469 312 bytes both need -/
example : migrationMapSize 2527232 942080 1048576 3145728 = 6291456 ∧
    migrationMapSize 0 942080 1048576 3145728 = 3145728 ∧ 3145728 < 2527232 + 942080 := by decide

end GV.Props.C18Deferred
