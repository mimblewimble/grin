import GrinVerif.Model.CodecGlue
import GrinVerif.Gen.CodecDispatch
/-! # C19 — the dispatch above the framing layer is the regenerated table

`tools/gen_codec_dispatch.py` regenerates on every run (`Gen/CodecDispatch.lean`):
`decodeArms` (the arms of `decode_message`, codec.rs), `consumeArms` (the arms of `Protocol::consume`,
protocol.rs: message variant → adapter methods called → outcomes), `senders` (every `pub fn send_*` of
`impl Peer`, peer.rs: function → `msg::Type`, guard, side effects) and `messageVariants`.

The hand model (`Model/CodecGlue.lean`: `consumeGlue`, `sendGlue`, driven against the real `Peer` /
`Protocol` by the `glue` run) is tied to these tables for EVERY input, not for samples:

* `consume_follows_table` — for every peer state and every message the model calls adapter methods that
  are a prefix of the arm's methods in source order, the whole list when no gate returns early
  (`consume_full_path_calls_all`), and ends in one of the arm's outcomes;
* `consume_arms_are_the_message_variants`, `model_covers_every_arm` — `Protocol::consume` has exactly one
  arm per variant of `enum Message`; the model has an input for each of them except `Unknown` (dropped by
  the reader loop before the handler: `Model/CodecConn.connLoop`);
* `request_answered_with_its_response_type` — the table pairs every request with the response type the
  protocol defines (`GetBlock → Block`, … , the four segment pairs, `TxHashSetRequest →
  TxHashSetArchive+attachment`), `response_type_of_model` the same for the model, as type BYTES;
* `decode_dispatch_is_identity` — `decode_message` maps `Type::X` to `Message::X` for exactly the types the
  model dispatches (`isDispatched`), and refuses `Error | Hand | Shake | Headers`;
* `senders_follow_table`, `senders_all_modelled`, `sender_effects` — every `Peer::send_*` puts the type of
  the table on the wire (a transaction as `TransactionKernel` iff the remote announced `TX_KERNEL_HASH`),
  only the guarded ones can suppress, only `send_block_request` / `send_txhashset_request` change state;
* `model_paths_are_the_table`, `consume_is_a_path` — the model, run on one representative per path, is the
  statement walk of `consume`, and every execution is one of its paths; `error_classes`,
  `adapter_error_swallowed`, `io_error_ends_connection` — which `?` is swallowed, which ends the connection;
* `isDenied_is_the_table`, `resolve_and_negotiate_are_the_table`, `handshake_timeouts_pinned`.

A misrouted arm (e.g. `GetCompactBlock` answered with `Type::Block`, a `send_*` wrapper with the wrong
`msg::Type`, a dropped `push_req`) changes the generated table and breaks these theorems; the same
change in the hand model alone breaks them too. -/
namespace GV.Props.C19Dispatch
open GV GV.Ser GV.Msg GV.Codec GV.Gen.Msg GV.Gen.CodecConn GV.Gen.CodecDispatch

/-- no gate of the arm returns before its last adapter call -/
def fullPath (g : Glue) : In → Bool
  | .archive _ _ => g.ready && g.syncRequested
  | .txhashsetReq hdrOk _ => hdrOk
  | .attachment _ _ left => left == 0
  | _ => true

/-- **one arm per `Message` variant**: `Protocol::consume` handles every variant of `enum Message`
exactly once -/
theorem consume_arms_are_the_message_variants :
    (consumeArms.map (·.1)).length = messageVariants.length ∧ (consumeArms.map (·.1)).Nodup ∧
    (∀ v ∈ messageVariants, v ∈ consumeArms.map (·.1)) := by
  decide +kernel

/-- the request → response pairs the protocol defines -/
def requestResponse : List (String × String) :=
  [("Ping", "Response:Pong"), ("GetPeerAddrs", "Response:PeerAddrs"), ("GetHeaders", "Response:Headers"),
   ("GetBlock", "Response:Block"), ("GetCompactBlock", "Response:CompactBlock"),
   ("GetTransaction", "Response:Transaction"), ("TxHashSetRequest", "Response:TxHashSetArchive+attachment"),
   ("GetOutputBitmapSegment", "Response:OutputBitmapSegment"), ("GetOutputSegment", "Response:OutputSegment"),
   ("GetRangeProofSegment", "Response:RangeProofSegment"), ("GetKernelSegment", "Response:KernelSegment")]

/-- **every request is answered with its own response type or not at all**, and nothing else is ever
answered: the arms that can produce a `Consumed::Response` are exactly the eleven requests, each with the
type the protocol pairs it with -/
theorem request_answered_with_its_response_type :
    (∀ e ∈ consumeArms, ∀ o ∈ e.2.2, o ∈ ["None", "Disconnect", "Attachment", "Err:BadMessage"] ∨ (e.1, o) ∈ requestResponse) ∧
    (∀ p ∈ requestResponse, ∃ e ∈ consumeArms, e.1 = p.1 ∧ p.2 ∈ e.2.2) ∧
    protocolResponses = requestResponse.length := by
  decide +kernel

/-- one input of the model per arm -/
def representatives : List In :=
  [.attachment [] 0 0, .ping 0 0, .pong 0 0, .banReason, .kernel [], .getTx [] true, .tx [] false, .tx [] true,
   .getBlock [] true, .block [], .getCompactBlock [] true, .cblock [], .getHeaders 0, .header [], .headers 0,
   .getPeerAddrs 0, .peerAddrs 0, .txhashsetReq true true, .archive [] 0,
   .getSegment .bitmap true, .getSegment .output true, .getSegment .rangeproof true, .getSegment .kernel true,
   .segment .bitmap, .segment .output, .segment .rangeproof, .segment .kernel]

/-- **the model has an input for every arm** except `Unknown` (which never reaches the handler) -/
theorem model_covers_every_arm :
    representatives.map In.arm ++ ["Unknown"] = consumeArms.map (·.1) := rfl

/-- the regenerated paths, flattened: (arm, adapter calls in execution order with `?` marks, outcome) -/
def flatPaths : List (String × List String × String) :=
  consumePaths.flatMap fun e => e.2.map fun p => (e.1, p.2.1, p.2.2.2)

/-- one (ready, requested, input) per path of the table, in table order -/
def pathRepresentatives : List (Bool × Bool × In) :=
  [(false, false, .attachment [] 0 0), (false, false, .attachment [] 1 1), (false, false, .ping 0 0), (false, false, .pong 0 0),
   (false, false, .banReason), (false, false, .kernel []), (false, false, .getTx [] true), (false, false, .getTx [] false),
   (false, false, .tx [] false), (false, false, .tx [] true), (false, false, .getBlock [] true), (false, false, .getBlock [] false),
   (false, false, .block []), (false, false, .getCompactBlock [] true), (false, false, .getCompactBlock [] false),
   (false, false, .cblock []), (false, false, .getHeaders 0), (false, false, .header []), (false, false, .headers 0),
   (false, false, .getPeerAddrs 0), (false, false, .peerAddrs 0), (false, false, .txhashsetReq true true),
   (false, false, .txhashsetReq true false), (false, false, .archive [] 0), (true, true, .archive [] 0),
   (false, false, .getSegment .bitmap true), (false, false, .getSegment .bitmap false),
   (false, false, .getSegment .output true), (false, false, .getSegment .output false),
   (false, false, .getSegment .rangeproof true), (false, false, .getSegment .rangeproof false),
   (false, false, .getSegment .kernel true), (false, false, .getSegment .kernel false),
   (false, false, .segment .bitmap), (false, false, .segment .output), (false, false, .segment .rangeproof),
   (false, false, .segment .kernel)]

/-- **every path of the source is an execution of the model** (and the table has no other paths):
the model, run on one representative per path, reproduces the regenerated table path by path -/
theorem model_paths_are_the_table :
    pathRepresentatives.map (fun r =>
      let g : Glue := { Glue.new 1000 1000 0 ⟨[127, 0, 0, 1], 1⟩ 1 1 with ready := r.1, syncRequested := r.2.1 }
      (r.2.2.arm, (consumeGlue g r.2.2).2.1.map Call.tag, (consumeGlue g r.2.2).2.2.name)) ++ [("Unknown", [], "None")] = flatPaths := by
  decide +kernel

theorem consumeArms_nodup : (consumeArms.map (·.1)).Nodup := consume_arms_are_the_message_variants.2.1

theorem lookup_of_getElem? {α β : Type} [BEq α] [LawfulBEq α] {l : List (α × β)} (hn : (l.map (·.1)).Nodup)
    {i : Nat} {k : α} {v : β} (h : l[i]? = some (k, v)) : l.lookup k = some v := by
  induction l generalizing i with
  | nil => simp at h
  | cons e t ih =>
    rw [List.map_cons, List.nodup_cons] at hn
    cases i with
    | zero =>
      obtain rfl : e = (k, v) := by simpa using h
      exact List.lookup_cons_self
    | succ i =>
      rw [List.getElem?_cons_succ] at h
      have hk : (k == e.1) = false := by
        apply beq_false_of_ne
        rintro rfl
        exact hn.1 (List.mem_map.2 ⟨_, List.mem_of_getElem? h, rfl⟩)
      rw [List.lookup_cons, hk]
      exact ih hn.2 h

/-- what `flatPaths` records of one execution: arm, adapter calls with their `?` marks, outcome -/
def pathTrace (g : Glue) (m : In) : String × List String × String :=
  (m.arm, (consumeGlue g m).2.1.map Call.tag, (consumeGlue g m).2.2.name)

/-- the peer state `model_paths_are_the_table` runs a representative in -/
def repGlue (r : Bool × Bool × In) : Glue :=
  { Glue.new 1000 1000 0 ⟨[127, 0, 0, 1], 1⟩ 1 1 with ready := r.1, syncRequested := r.2.1 }

theorem path_of_rep {i : Nat} {r : Bool × Bool × In} (h : pathRepresentatives[i]? = some r) :
    flatPaths[i]? = some (pathTrace (repGlue r) r.2.2) := by
  have hi : i < (pathRepresentatives.map fun r => pathTrace (repGlue r) r.2.2).length := by
    rw [List.length_map]
    exact (List.getElem?_eq_some_iff.1 h).1
  rw [← model_paths_are_the_table]
  show ((pathRepresentatives.map fun r => pathTrace (repGlue r) r.2.2) ++ _)[i]? = _
  rw [List.getElem?_append_left hi, List.getElem?_map, h]
  rfl

/-- the arm of `m` is a row of `consumeArms` whose methods the execution calls as a prefix (all of them on a
full path) and, unless `txhashset_archive_header` fails (`?:Chain` is in neither table), its outcome is one
of the row's and the execution is a path of `flatPaths` -/
def FollowsTables (g : Glue) (m : In) : Prop :=
  ∃ calls outs, consumeArms.lookup m.arm = some (calls, outs) ∧
    (consumeGlue g m).2.1.map Call.method <+: calls ∧
    (fullPath g m = true → (consumeGlue g m).2.1.map Call.method = calls) ∧
    (((consumeGlue g m).2.2.name ∈ outs ∧ pathTrace g m ∈ flatPaths) ∨
      ((∃ f, m = .txhashsetReq false f) ∧ (consumeGlue g m).2.2 = .chainErr))

/-- An execution the path table cannot tell from the one on representative `i` is path `i` of `flatPaths`,
so the strings the model computes (`Call.tag`, `GOut.name`) are read off that literal entry and not
evaluated again; its arm is row `j` of `consumeArms`, found by position. -/
theorem followsTables_of_row {g : Glue} {m : In} (i j : Nat) {r : Bool × Bool × In} {rest outs : List String}
    {p : String × List String × String}
    (hr : pathRepresentatives[i]? = some r) (ht : pathTrace g m = pathTrace (repGlue r) r.2.2)
    (hp : flatPaths[i]? = some p)
    (ha : consumeArms[j]? = some (m.arm, (consumeGlue g m).2.1.map Call.method ++ rest, outs))
    (hf : fullPath g m = true → rest = []) (ho : p.2.2 ∈ outs) : FollowsTables g m := by
  have htp : pathTrace g m = p := Option.some.inj ((ht ▸ path_of_rep hr).symm.trans hp)
  have hn : (consumeGlue g m).2.2.name = p.2.2 := congrArg (·.2.2) htp
  exact ⟨_, _, lookup_of_getElem? consumeArms_nodup ha, ⟨rest, rfl⟩,
    fun h => by rw [hf h, List.append_nil], .inl ⟨hn ▸ ho, htp ▸ List.mem_of_getElem? hp⟩⟩

theorem consume_tables (g : Glue) (hb : g.banned = false) (m : In) : FollowsTables g m := by
  obtain ⟨ver, caps, addr, td, height, received, requested, banned, ready, sync⟩ := g
  subst hb
  cases m with
  | ping td h => exact followsTables_of_row 2 1 rfl rfl rfl rfl (fun _ => rfl) (.head _)
  | pong td h => exact followsTables_of_row 3 2 rfl rfl rfl rfl (fun _ => rfl) (.head _)
  | banReason => exact followsTables_of_row 4 3 rfl rfl rfl rfl (fun _ => rfl) (.head _)
  | kernel h => exact followsTables_of_row 5 4 rfl rfl rfl rfl (fun _ => rfl) (.head _)
  | tx k0 stem =>
    cases stem
    · exact followsTables_of_row 8 6 rfl rfl rfl rfl (fun _ => rfl) (.head _)
    · exact followsTables_of_row 9 7 rfl rfl rfl rfl (fun _ => rfl) (.head _)
  | block h => exact followsTables_of_row 12 9 rfl rfl rfl rfl (fun _ => rfl) (.head _)
  | cblock h => exact followsTables_of_row 15 11 rfl rfl rfl rfl (fun _ => rfl) (.head _)
  | header h => exact followsTables_of_row 17 13 rfl rfl rfl rfl (fun _ => rfl) (.head _)
  | getBlock h found =>
    cases found
    · exact followsTables_of_row 11 8 rfl rfl rfl rfl (fun _ => rfl) (.tail _ (.head _))
    · exact followsTables_of_row 10 8 rfl rfl rfl rfl (fun _ => rfl) (.head _)
  | getCompactBlock h found =>
    cases found
    · exact followsTables_of_row 14 10 rfl rfl rfl rfl (fun _ => rfl) (.tail _ (.head _))
    · exact followsTables_of_row 13 10 rfl rfl rfl rfl (fun _ => rfl) (.head _)
  | getTx h found =>
    cases found
    · exact followsTables_of_row 7 5 rfl rfl rfl rfl (fun _ => rfl) (.tail _ (.head _))
    · exact followsTables_of_row 6 5 rfl rfl rfl rfl (fun _ => rfl) (.head _)
  | getPeerAddrs caps => exact followsTables_of_row 19 15 rfl rfl rfl rfl (fun _ => rfl) (.head _)
  | getHeaders n => exact followsTables_of_row 16 12 rfl rfl rfl rfl (fun _ => rfl) (.head _)
  | archive h bytes =>
    cases ready <;> cases sync
    · exact followsTables_of_row 23 18 rfl rfl rfl rfl (fun h => nomatch h) (.head _)
    · exact followsTables_of_row 23 18 rfl rfl rfl rfl (fun h => nomatch h) (.head _)
    · exact followsTables_of_row 23 18 rfl rfl rfl rfl (fun h => nomatch h) (.head _)
    · exact followsTables_of_row 24 18 rfl rfl rfl rfl (fun _ => rfl) (.tail _ (.tail _ (.head _)))
  | attachment h size left =>
    cases left
    · exact followsTables_of_row 0 0 rfl rfl rfl rfl (fun _ => rfl) (.head _)
    · exact followsTables_of_row 1 0 rfl rfl rfl rfl (fun h => nomatch h) (.head _)
  | headers n => exact followsTables_of_row 18 14 rfl rfl rfl rfl (fun _ => rfl) (.head _)
  | peerAddrs n => exact followsTables_of_row 20 16 rfl rfl rfl rfl (fun _ => rfl) (.head _)
  | txhashsetReq hdrOk found =>
    cases hdrOk
    · exact ⟨_, _, lookup_of_getElem? consumeArms_nodup (i := 17) rfl,
        ⟨["txhashset_read"], rfl⟩, (fun h => nomatch h), .inr ⟨⟨found, rfl⟩, rfl⟩⟩
    · cases found
      · exact followsTables_of_row 22 17 rfl rfl rfl rfl (fun _ => rfl) (.tail _ (.head _))
      · exact followsTables_of_row 21 17 rfl rfl rfl rfl (fun _ => rfl) (.head _)
  | getSegment k found =>
    cases k <;> cases found
    · exact followsTables_of_row 26 19 rfl rfl rfl rfl (fun _ => rfl) (.tail _ (.head _))
    · exact followsTables_of_row 25 19 rfl rfl rfl rfl (fun _ => rfl) (.head _)
    · exact followsTables_of_row 28 20 rfl rfl rfl rfl (fun _ => rfl) (.tail _ (.head _))
    · exact followsTables_of_row 27 20 rfl rfl rfl rfl (fun _ => rfl) (.head _)
    · exact followsTables_of_row 30 21 rfl rfl rfl rfl (fun _ => rfl) (.tail _ (.head _))
    · exact followsTables_of_row 29 21 rfl rfl rfl rfl (fun _ => rfl) (.head _)
    · exact followsTables_of_row 32 22 rfl rfl rfl rfl (fun _ => rfl) (.tail _ (.head _))
    · exact followsTables_of_row 31 22 rfl rfl rfl rfl (fun _ => rfl) (.head _)
  | segment k =>
    cases k
    · exact followsTables_of_row 33 23 rfl rfl rfl rfl (fun _ => rfl) (.head _)
    · exact followsTables_of_row 34 24 rfl rfl rfl rfl (fun _ => rfl) (.head _)
    · exact followsTables_of_row 35 25 rfl rfl rfl rfl (fun _ => rfl) (.head _)
    · exact followsTables_of_row 36 26 rfl rfl rfl rfl (fun _ => rfl) (.head _)

/-- **`Protocol::consume` follows the regenerated table** (peer not banned; a banned peer: see
`C19Glue.banned_peer_gets_nothing`) -/
theorem consume_follows_table (g : Glue) (hb : g.banned = false) (m : In) :
    ∃ calls outs, consumeArms.lookup m.arm = some (calls, outs) ∧
      (consumeGlue g m).2.1.map Call.method <+: calls ∧
      ((consumeGlue g m).2.2.name ∈ outs ∨ (consumeGlue g m).2.2 = .chainErr) := by
  obtain ⟨calls, outs, hl, hp, -, ⟨ho, -⟩ | ⟨-, he⟩⟩ := consume_tables g hb m
  · exact ⟨calls, outs, hl, hp, .inl ho⟩
  · exact ⟨calls, outs, hl, hp, .inr he⟩

/-- … and when no gate returns early the model calls ALL the adapter methods of the arm, in source order
(so an adapter notification dropped from the model, or added to the source, breaks this) -/
theorem consume_full_path_calls_all (g : Glue) (hb : g.banned = false) (m : In) (hf : fullPath g m = true) :
    ∃ outs, consumeArms.lookup m.arm = some ((consumeGlue g m).2.1.map Call.method, outs) := by
  obtain ⟨calls, outs, hl, -, hc, -⟩ := consume_tables g hb m
  exact ⟨outs, hc hf ▸ hl⟩

/-- non-vacuity: a peer state in which every gate is open -/
example : fullPath { Glue.new 3 1000 0 ⟨[127, 0, 0, 1], 1⟩ 1 1 with ready := true, syncRequested := true }
    (.archive [1] 7) = true := rfl

/-- **`Protocol::consume` is order-exact**: for every peer state and every message whose adapter calls
succeed, the adapter methods the model calls — in ORDER, with the `?` marks — and the outcome are exactly
one path of the statement-by-statement walk of the arm in the current source (no prefix, no superset) -/
theorem consume_is_a_path (g : Glue) (hb : g.banned = false) (m : In) (hok : ∀ f, m ≠ .txhashsetReq false f) :
    (m.arm, (consumeGlue g m).2.1.map Call.tag, (consumeGlue g m).2.2.name) ∈ flatPaths := by
  obtain ⟨-, -, -, -, -, ⟨-, hp⟩ | ⟨⟨f, rfl⟩, -⟩⟩ := consume_tables g hb m
  · exact hp
  · exact absurd rfl (hok f)

/-- the request → response pairs as type bytes, for the model: whatever the peer state, a response carries the type byte paired
with the request (`GetBlock` 10 → 11, `GetCompactBlock` 12 → 13, `GetTransaction` 19 → 15,
`GetHeaders` 7 → 9, `GetPeerAddrs` 5 → 6, `TxHashSetRequest` 16 → 17, segment requests 21/23/25/27 → +1) -/
theorem response_type_of_model (g : Glue) (m : In) (t : Nat)
    (h : (consumeGlue g m).2.2 = .stored t ∨ (consumeGlue g m).2.2 = .storedAtt t) :
    (m.arm, t) ∈ [("GetBlock", 11), ("GetCompactBlock", 13), ("GetTransaction", 15), ("GetHeaders", 9), ("GetPeerAddrs", 6),
      ("TxHashSetRequest", 17), ("GetOutputBitmapSegment", 22), ("GetOutputSegment", 24),
      ("GetRangeProofSegment", 26), ("GetKernelSegment", 28)] := by
  obtain ⟨ver, caps, addr, td, height, received, requested, banned, ready, sync⟩ := g
  cases banned
  · cases m with
    | getBlock _ found => cases found <;> rcases h with h | h <;> cases h; exact List.mem_of_getElem? (i := 0) rfl
    | getCompactBlock _ found => cases found <;> rcases h with h | h <;> cases h; exact List.mem_of_getElem? (i := 1) rfl
    | getTx _ found => cases found <;> rcases h with h | h <;> cases h; exact List.mem_of_getElem? (i := 2) rfl
    | getHeaders _ => rcases h with h | h <;> cases h; exact List.mem_of_getElem? (i := 3) rfl
    | getPeerAddrs _ => rcases h with h | h <;> cases h; exact List.mem_of_getElem? (i := 4) rfl
    | txhashsetReq hdrOk found =>
      cases hdrOk <;> cases found <;> rcases h with h | h <;> cases h; exact List.mem_of_getElem? (i := 5) rfl
    | getSegment k found =>
      cases k <;> cases found <;> rcases h with h | h <;> cases h
      · exact List.mem_of_getElem? (i := 6) rfl
      · exact List.mem_of_getElem? (i := 7) rfl
      · exact List.mem_of_getElem? (i := 8) rfl
      · exact List.mem_of_getElem? (i := 9) rfl
    | archive _ _ => cases ready <;> cases sync <;> rcases h with h | h <;> cases h
    | _ => rcases h with h | h <;> cases h
  · rcases h with h | h <;> cases h

theorem truncAt_some {f : String} {cs pre : List Call} (h : truncAt f cs = some pre) :
    pre <+: cs ∧ ∃ c, pre.getLast? = some c ∧ c.fallible = true ∧ c.method = f := by
  induction cs generalizing pre with
  | nil => cases h
  | cons c r ih =>
    rw [truncAt] at h
    split at h
    · next hc =>
      cases h
      rw [Bool.and_eq_true, beq_iff_eq] at hc
      exact ⟨⟨r, rfl⟩, c, rfl, hc⟩
    · obtain ⟨p, hp, rfl⟩ := Option.map_eq_some_iff.1 h
      obtain ⟨hpre, c', hlast, hc'⟩ := ih hp
      exact ⟨List.cons_prefix_cons.2 ⟨rfl, hpre⟩, c', by rw [List.getLast?_cons, hlast]; rfl, hc'⟩

/-- **an adapter error is swallowed**: whichever `?`-call fails, the handler stops right there (the calls
made are the path up to and including the failing one), answers nothing, the error is `Error::Chain`,
which `try_break!` tolerates (the connection stays), and the peer state is the one of the successful run
(the `TrackingAdapter` remembers a hash BEFORE it hands the object to the adapter) -/
theorem adapter_error_swallowed (g : Glue) (m : In) (f : String) (pre : List Call)
    (h : truncAt f (consumeGlue g m).2.1 = some pre) :
    consumeGlueF g m f = ((consumeGlue g m).1, pre, .chainErr) ∧ pre <+: (consumeGlue g m).2.1 ∧
    (∃ c, pre.getLast? = some c ∧ c.fallible = true ∧ c.method = f) := by
  exact ⟨by simp only [consumeGlueF, h], truncAt_some h⟩

/-- … and when no `?`-call of that method is on the path nothing changes -/
theorem adapter_error_elsewhere (g : Glue) (m : In) (f : String) (h : truncAt f (consumeGlue g m).2.1 = none) :
    consumeGlueF g m f = consumeGlue g m := by
  simp only [consumeGlueF, h]

/-- the model's "no archive header" input IS the failure of `txhashset_archive_header` -/
theorem no_archive_header_is_adapter_failure (g : Glue) (found : Bool) :
    consumeGlue g (.txhashsetReq false found) = consumeGlueF g (.txhashsetReq true found) "txhashset_archive_header" := by
  obtain ⟨ver, caps, addr, td, height, received, requested, banned, ready, sync⟩ := g
  cases banned <;> rfl

/-- **an io error inside the handler ends the connection**: the only `io` point on the accepted-archive path is
the `open` of the temporary file (regenerated); when it fails the adapter calls made are those of the
successful path, the request is used up all the same, no attachment is expected (`ioErr`, not `attachment`),
and `Error::Connection` is not among the errors `try_break!` tolerates -/
theorem io_error_ends_connection (g : Glue) (hb : g.banned = false) (hr : g.ready = true) (hs : g.syncRequested = true)
    (h : Bytes) (n : Nat) :
    (consumeGlueIo g (.archive h n)).2.2 = .ioErr ∧
    (consumeGlueIo g (.archive h n)).2.1 = (consumeGlue g (.archive h n)).2.1 ∧
    (consumeGlueIo g (.archive h n)).1.syncRequested = false ∧
    (consumePaths.lookup "TxHashSetArchive").map (fun ps => ps.map (·.2.2.1)) = some [[], ["io:open"]] ∧
    ("io::Error", "Connection") ∈ errorConversions ∧ "Connection" ∉ toleratedErrors := by
  obtain ⟨ver, caps, addr, td, height, received, requested, banned, ready, sync⟩ := g
  subst hb hr hs
  exact ⟨rfl, rfl, rfl, by decide +kernel, List.mem_of_getElem? (i := 3) rfl, by decide +kernel⟩

theorem call_tag_classified (c : Call) :
    c.tag ∈ adapterMethods ∨ c.tag ∈ ["find_peer_addrs", "peer_addrs_received", "peer_difficulty"] ∨
      c.tag ∈ adapterResultMethods.map (· ++ "?") := by
  cases c with
  | peerDifficulty _ _ _ => exact .inr (.inl (List.mem_of_getElem? (i := 2) rfl))
  | totalDifficulty => exact .inr (.inr (List.mem_map.2 ⟨_, List.mem_of_getElem? (i := 0) rfl, rfl⟩))
  | totalHeight => exact .inr (.inr (List.mem_map.2 ⟨_, List.mem_of_getElem? (i := 1) rfl, rfl⟩))
  | kernel _ => exact .inr (.inr (List.mem_map.2 ⟨_, List.mem_of_getElem? (i := 3) rfl, rfl⟩))
  | tx _ _ => exact .inr (.inr (List.mem_map.2 ⟨_, List.mem_of_getElem? (i := 2) rfl, rfl⟩))
  | block _ _ => exact .inr (.inr (List.mem_map.2 ⟨_, List.mem_of_getElem? (i := 4) rfl, rfl⟩))
  | cblock _ => exact .inr (.inr (List.mem_map.2 ⟨_, List.mem_of_getElem? (i := 5) rfl, rfl⟩))
  | header _ => exact .inr (.inr (List.mem_map.2 ⟨_, List.mem_of_getElem? (i := 6) rfl, rfl⟩))
  | headers _ => exact .inr (.inr (List.mem_map.2 ⟨_, List.mem_of_getElem? (i := 7) rfl, rfl⟩))
  | peerAddrs _ => exact .inr (.inl (List.mem_of_getElem? (i := 1) rfl))
  | getBlock _ => exact .inl (List.mem_of_getElem? (i := 10) rfl)
  | getTx _ => exact .inl (List.mem_of_getElem? (i := 3) rfl)
  | findPeers _ => exact .inr (.inl (List.mem_of_getElem? (i := 0) rfl))
  | locate _ => exact .inr (.inr (List.mem_map.2 ⟨_, List.mem_of_getElem? (i := 8) rfl, rfl⟩))
  | archiveHeader => exact .inr (.inr (List.mem_map.2 ⟨_, List.mem_of_getElem? (i := 9) rfl, rfl⟩))
  | txhashsetRead => exact .inl (List.mem_of_getElem? (i := 11) rfl)
  | receiveReady => exact .inl (List.mem_of_getElem? (i := 13) rfl)
  | downloadUpdate _ _ => exact .inl (List.mem_of_getElem? (i := 14) rfl)
  | tmpfile => exact .inl (List.mem_of_getElem? (i := 17) rfl)
  | txhashsetWrite _ => exact .inr (.inr (List.mem_map.2 ⟨_, List.mem_of_getElem? (i := 10) rfl, rfl⟩))
  | getSegment k =>
    cases k
    · exact .inl (List.mem_of_getElem? (i := 19) rfl)
    · exact .inl (List.mem_of_getElem? (i := 20) rfl)
    · exact .inl (List.mem_of_getElem? (i := 21) rfl)
    · exact .inl (List.mem_of_getElem? (i := 18) rfl)
  | recvSegment k =>
    cases k
    · exact .inr (.inr (List.mem_map.2 ⟨_, List.mem_of_getElem? (i := 15) rfl, rfl⟩))
    · exact .inr (.inr (List.mem_map.2 ⟨_, List.mem_of_getElem? (i := 16) rfl, rfl⟩))
    · exact .inr (.inr (List.mem_map.2 ⟨_, List.mem_of_getElem? (i := 17) rfl, rfl⟩))
    · exact .inr (.inr (List.mem_map.2 ⟨_, List.mem_of_getElem? (i := 18) rfl, rfl⟩))

/-- **which errors are swallowed, which end the connection** (regenerated facts): every entry of a path is a `ChainAdapter` / `NetAdapter` method, and every `?` behind an
adapter call is on a method returning `Result<_, chain::Error>`; `chain::Error` becomes `Error::Chain`,
which `try_break!` tolerates; the other `?` points of the handler are `io::Error` (→ `Error::Connection`,
tolerated only for the kinds `TimedOut` / `WouldBlock`) and `ser::Error` (→ `Error::Serialization`, never
tolerated), and the explicit `return Err(Error::BadMessage)`: these end the connection -/
theorem error_classes :
    (∀ p ∈ flatPaths, ∀ c ∈ p.2.1, c ∈ adapterMethods ∨ c ∈ ["find_peer_addrs", "peer_addrs_received", "peer_difficulty"] ∨ c ∈ adapterResultMethods.map (· ++ "?")) ∧
    ("chain::Error", "Chain") ∈ errorConversions ∧ "Chain" ∈ toleratedErrors ∧
    ("io::Error", "Connection") ∈ errorConversions ∧ "Connection" ∉ toleratedErrors ∧
    ("ser::Error", "Serialization") ∈ errorConversions ∧ "Serialization" ∉ toleratedErrors ∧
    "BadMessage" ∉ toleratedErrors ∧ toleratedIoKinds = ["TimedOut", "WouldBlock"] ∧
    (consumePaths.flatMap fun e => e.2.flatMap fun p => p.2.2.1).eraseDups = ["io:open", "ser:new", "io:metadata", "ser:into_segment"] := by
  refine ⟨fun p hp c hc => ?_, by decide +kernel⟩
  -- a path is an execution of the model (`model_paths_are_the_table`), its entries are the model's calls
  rw [← model_paths_are_the_table, List.mem_append, List.mem_map] at hp
  rcases hp with ⟨r, -, rfl⟩ | hp
  · obtain ⟨call, -, rfl⟩ := List.mem_map.1 hc
    exact call_tag_classified call
  · rw [List.mem_singleton] at hp
    subst hp
    cases hc

/-- **`decode_message` is the identity on names**, dispatches exactly the types the model dispatches and
refuses exactly `Error`, `Hand`, `Shake`, `Headers` -/
theorem decode_dispatch_is_identity :
    (∀ e ∈ decodeArms, e.1 = e.2) ∧
    (∀ e ∈ typeTable, isDispatched e.2 = (decodeArms.map (·.1)).contains e.1) ∧
    (∀ e ∈ typeTable, (isKnownType e.2 && !isDispatched e.2) = decodeRefused.contains e.1) ∧
    (decodeArms.map (·.1)).Nodup ∧ decodeArms.length + decodeRefused.length = typeTable.length := by
  decide +kernel

/-- every `Message` variant other than `Unknown`, `Headers`, `Attachment` (produced by the codec's own
states) comes out of `decode_message` -/
theorem decode_produces_the_variants :
    ∀ v ∈ messageVariants, v ∈ ["Unknown", "Headers", "Attachment"] ∨ v ∈ decodeArms.map (·.2) := by
  intro v hv
  -- the variants are the decoded ones, in order, with the three others put in
  have h : messageVariants = "Unknown" :: ((decodeArms.map (·.2)).take 13 ++ "Headers" ::
      (((decodeArms.map (·.2)).drop 13).take 4 ++ "Attachment" :: (decodeArms.map (·.2)).drop 17)) := rfl
  rw [h] at hv
  simp only [List.mem_cons, List.mem_append] at hv
  rcases hv with rfl | hv | rfl | hv | rfl | hv
  · exact .inl (.head _)
  · exact .inr (List.mem_of_mem_take hv)
  · exact .inl (.tail _ (.head _))
  · exact .inr (List.mem_of_mem_drop (List.mem_of_mem_take hv))
  · exact .inl (.tail _ (.tail _ (.head _)))
  · exact .inr (List.mem_of_mem_drop hv)

/-- one request of the harness per `pub fn send_*` -/
def outRepresentatives : List Out :=
  [.ping 0 0, .banReason, .cblock [], .header [], .kernel [], .tx [], .stem, .headerReq, .txReq, .blockReq [] 0,
   .cblockReq, .peerReq, .txhashsetReq, .segReq .bitmap, .segReq .output, .segReq .rangeproof, .segReq .kernel]

/-- **every `Peer::send_*` is modelled** (and there are no others) -/
theorem senders_all_modelled : outRepresentatives.map Out.sender = senders.map (·.1) := rfl

/-- the row of `senders` for `o` carries the type `sendGlue` puts on the wire, a guard if it can suppress,
and the effects it has on the peer state -/
def SenderRow (g : Glue) (o : Out) : Prop :=
  ∃ ty guarded eff, senders.lookup o.sender = some (ty, guarded, eff) ∧
    (∀ t, (sendGlue g o).2 = some t →
      typeName t = ty ∨ (g.caps &&& TX_KERNEL_HASH ≠ 0 ∧ "delegate:send_tx_kernel_hash" ∈ eff ∧ t = T_TransactionKernel)) ∧
    ((sendGlue g o).2 = none → guarded = true) ∧
    (sendGlue g o).1.syncRequested = (g.syncRequested || eff.contains "state_sync_requested") ∧
    (eff.contains "push_req" = false → (sendGlue g o).1.requested = g.requested)

theorem senders_nodup : (senders.map (·.1)).Nodup := by decide +kernel

theorem plain_sender {g : Glue} {o : Out} (i : Nat) {t : Nat} (hs : sendGlue g o = (g, some t))
    (hl : senders[i]? = some (o.sender, typeName t, false, [])) : SenderRow g o := by
  refine ⟨_, _, _, lookup_of_getElem? senders_nodup hl, ?_, ?_, ?_, ?_⟩ <;> rw [hs]
  · rintro _ ⟨⟩
    exact .inl rfl
  · exact fun h => nomatch h
  · exact (Bool.or_false _).symm
  · exact fun _ => rfl

theorem guarded_sender {g : Glue} {o : Out} (i : Nat) (h : Bytes) {t : Nat} {ty : String} {eff : List String}
    (hs : sendGlue g o = ((hasRecv g h).2, if (hasRecv g h).1 then none else some t))
    (hl : senders[i]? = some (o.sender, ty, true, eff))
    (ht : typeName t = ty ∨ (g.caps &&& TX_KERNEL_HASH ≠ 0 ∧ "delegate:send_tx_kernel_hash" ∈ eff ∧ t = T_TransactionKernel))
    (he : eff.contains "state_sync_requested" = false) : SenderRow g o := by
  refine ⟨_, _, _, lookup_of_getElem? senders_nodup hl, ?_, fun _ => rfl, ?_, fun _ => ?_⟩ <;> rw [hs]
  · intro t' ht'
    cases hr : (hasRecv g h).1 <;> rw [hr] at ht' <;> cases ht'
    exact ht
  · rw [he, Bool.or_false]
    rfl
  · rfl

theorem sender_row (g : Glue) (o : Out) : SenderRow g o := by
  cases o with
  | ping _ _ => exact plain_sender 0 rfl rfl
  | banReason => exact plain_sender 1 rfl rfl
  | cblock h => exact guarded_sender 2 h rfl rfl (.inl rfl) rfl
  | header h => exact guarded_sender 3 h rfl rfl (.inl rfl) rfl
  | kernel h => exact guarded_sender 4 h rfl rfl (.inl rfl) rfl
  | tx k0 =>
    refine guarded_sender 5 k0 rfl rfl ?_ (by decide)
    by_cases hc : g.caps &&& TX_KERNEL_HASH ≠ 0
    · exact .inr ⟨hc, .head _, if_pos hc⟩
    · exact .inl (by rw [if_neg hc]; rfl)
  | stem => exact plain_sender 6 rfl rfl
  | headerReq => exact plain_sender 7 rfl rfl
  | txReq => exact plain_sender 8 rfl rfl
  | blockReq h opts =>
    exact ⟨_, _, _, lookup_of_getElem? senders_nodup (i := 9) rfl, by rintro _ ⟨⟩; exact .inl rfl,
      (fun h => nomatch h), by rw [show ["push_req"].contains "state_sync_requested" = false by decide, Bool.or_false]; rfl,
      fun h => absurd h (by decide)⟩
  | cblockReq => exact plain_sender 10 rfl rfl
  | peerReq => exact plain_sender 11 rfl rfl
  | txhashsetReq =>
    exact ⟨_, _, _, lookup_of_getElem? senders_nodup (i := 12) rfl, by rintro _ ⟨⟩; exact .inl rfl,
      (fun h => nomatch h), by rw [show ["state_sync_requested"].contains "state_sync_requested" = true by decide, Bool.or_true]; rfl,
      fun _ => rfl⟩
  | segReq k =>
    cases k
    · exact plain_sender 13 rfl rfl
    · exact plain_sender 14 rfl rfl
    · exact plain_sender 15 rfl rfl
    · exact plain_sender 16 rfl rfl

/-- **a `Peer::send_*` puts the type of the table on the wire**; a transaction goes out as its kernel hash
iff the remote announced `TX_KERNEL_HASH` (the table records the delegation); only the senders the table
marks as guarded can suppress the message -/
theorem senders_follow_table (g : Glue) (o : Out) :
    ∃ ty guarded eff, senders.lookup o.sender = some (ty, guarded, eff) ∧
      (∀ t, (sendGlue g o).2 = some t →
        typeName t = ty ∨ (g.caps &&& TX_KERNEL_HASH ≠ 0 ∧ "delegate:send_tx_kernel_hash" ∈ eff ∧ t = T_TransactionKernel)) ∧
      ((sendGlue g o).2 = none → guarded = true) := by
  obtain ⟨ty, guarded, eff, hl, ht, hg, -, -⟩ := sender_row g o
  exact ⟨ty, guarded, eff, hl, ht, hg⟩

/-- **side effects are the ones of the table**: the request memory changes only in the sender marked
`push_req`, the archive gate opens only in the sender marked `state_sync_requested` -/
theorem sender_effects (g : Glue) (o : Out) :
    ∃ ty guarded eff, senders.lookup o.sender = some (ty, guarded, eff) ∧
      ((sendGlue g o).1.syncRequested = (g.syncRequested || eff.contains "state_sync_requested")) ∧
      (eff.contains "push_req" = false → (sendGlue g o).1.requested = g.requested) := by
  obtain ⟨ty, guarded, eff, hl, -, -, hs, hr⟩ := sender_row g o
  exact ⟨ty, guarded, eff, hl, hs, hr⟩

/-- what a branch condition of `Peer::is_denied` (as spelt in the source) means in the model -/
def condHolds (deny allow : Option (List SockAddr)) (addr : SockAddr) (c : String) : Bool :=
  if c = "let Some(ref denied) = config.peers_deny" then deny.isSome
  else if c = "!(let Some(ref denied) = config.peers_deny)" then !deny.isSome
  else if c = "denied.peers.contains(&peer_addr)" then (deny.map (addrsContain · addr)).getD false
  else if c = "!(denied.peers.contains(&peer_addr))" then !(deny.map (addrsContain · addr)).getD false
  else if c = "let Some(ref allowed) = config.peers_allow" then allow.isSome
  else if c = "!(let Some(ref allowed) = config.peers_allow)" then !allow.isSome
  else if c = "allowed.peers.contains(&peer_addr)" then (allow.map (addrsContain · addr)).getD false
  else if c = "!(allowed.peers.contains(&peer_addr))" then !(allow.map (addrsContain · addr)).getD false
  else false

/-- the result of the first path all of whose conditions hold -/
def evalPaths (holds : String → Bool) (paths : List (List String × Bool)) : Option Bool :=
  (paths.find? fun p => p.1.all holds).map (·.2)

/-- **`Peer::is_denied` of the model is the regenerated decision table**: for every configuration and
address the first path of the source whose conditions hold gives the model's result -/
theorem isDenied_is_the_table (deny allow : Option (List SockAddr)) (addr : SockAddr) :
    evalPaths (condHolds deny allow addr) isDeniedPaths = some (isDenied deny allow addr) := by
  simp only [evalPaths, isDeniedPaths, List.find?, List.all_cons, List.all_nil, condHolds, String.reduceEq,
    ↓reduceIte, Bool.and_true]
  rcases deny with _ | d <;> rcases allow with _ | a <;>
    simp only [Option.isSome_none, Option.isSome_some, Option.map_some, Option.map_none, Option.getD_some,
      Option.getD_none, isDenied]
  · rfl
  · cases addrsContain a addr <;> rfl
  · cases addrsContain d addr <;> rfl
  · cases addrsContain d addr <;> cases addrsContain a addr <;> rfl

/-- 7 paths, 3 of them deny -/
example : isDeniedPaths.length = 7 ∧ (isDeniedPaths.filter (·.2)).length = 3 := by decide

/-- **`resolve_peer_addr` and `negotiate_protocol_version`**: the socket's ip with the ADVERTISED port (the
advertised address when the socket does not know its peer); the lower of the two versions, applied to
the version the Hand / the Shake announces -/
theorem resolve_and_negotiate_are_the_table (port : Nat) (peer adv : SockAddr) (a b : Nat) :
    resolveParts = [("port", "advertised.0.port()"), ("ok.ip", "addr.ip()"), ("ok.port", "port"), ("err", "advertised")] ∧
    resolvePeerAddr adv.port (some peer) adv = { ip := peer.ip, port := adv.port } ∧
    resolvePeerAddr port none adv = adv ∧
    negotiateExpr = "std::cmp::min(self.protocol_version, other)" ∧ negotiate a b = min a b ∧
    negotiateArgs = ["shake", "hand"] := by
  exact ⟨rfl, rfl, rfl, rfl, rfl, rfl⟩

/-- the handshake timeouts as regenerated: 10 s to read the Hand / the Shake, 2 s to write them, and which
constant `accept` / `initiate` install as read timeout -/
theorem handshake_timeouts_pinned :
    HAND_READ_TIMEOUT_MS = 10000 ∧ SHAKE_READ_TIMEOUT_MS = 10000 ∧ HAND_WRITE_TIMEOUT_MS = 2000 ∧
    SHAKE_WRITE_TIMEOUT_MS = 2000 ∧ acceptReadTimeout = "HAND_READ_TIMEOUT" ∧ initiateReadTimeout = "SHAKE_READ_TIMEOUT" := by
  decide

end GV.Props.C19Dispatch
