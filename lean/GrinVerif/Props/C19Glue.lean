import GrinVerif.Model.CodecGlue
/-! # C19, the glue above `conn` — `peer.rs` / `protocol.rs`

Model: `Model/CodecGlue.lean`; the constants, the list of `TrackingAdapter` callbacks that remember a
hash, the guarded senders, the number of responses `Protocol::consume` builds (each with
`self.peer_info.version`) and the shape of the `is_banned` / archive gates are regenerated into
`Gen/CodecConn.lean` (tools/gen_codec_conn.py stops when `Peer::new` no longer hands `info.version` to
`conn::listen` or `Peer::send` no longer serialises with it).

* `glue_version_is_negotiated`, `glue_version_stable` — `info.version` is the lower of the two announced
  versions and neither receiving nor sending changes it (the model's `consumeGlue` / `sendGlue` do not read it);
* `banned_peer_gets_nothing` — a banned peer's message reaches no adapter callback, is not answered,
  and the connection is closed;
* `received_is_not_sent_back` — a header / compact block / block / transaction kernel hash / (non-stem)
  transaction received from the peer is not sent back to it (`Ok(false)`), `stem_not_tracked`,
  `lruGet_after_insert`, `lru_bounded` — a key just inserted is found, the memory stays within its capacity;
* `requested_options_override` — a block we asked for arrives with the options of the request;
* `archive_gate` — an archive is accepted iff receive-ready and requested from this peer; the
  request is used up;
* `ping_pong_bookkeeping`, `kernel_hash_capability`, `glue_tables`. -/
namespace GV.Props.C19Glue
open GV GV.Ser GV.Msg GV.Codec GV.Gen.Msg GV.Gen.CodecConn

/-- `Peer::new` records the lower of the two announced versions -/
theorem glue_version_is_negotiated (ours theirs caps : Nat) (addr : SockAddr) (td h : Nat) :
    (Glue.new ours theirs caps addr td h).ver = min ours theirs ∧
    (Glue.new ours theirs caps addr td h).ver ≤ ours ∧ (Glue.new ours theirs caps addr td h).ver ≤ theirs := by
  exact ⟨rfl, Nat.min_le_left _ _, Nat.min_le_right _ _⟩

/-- sending and receiving never change it -/
theorem glue_version_stable (g : Glue) (m : In) (o : Out) :
    (consumeGlue g m).1.ver = g.ver ∧ (sendGlue g o).1.ver = g.ver := by
  constructor
  · obtain ⟨ver, caps, addr, td, height, received, requested, banned, ready, sync⟩ := g
    cases banned
    · cases m with
      | tx _ stem => cases stem <;> rfl
      | archive _ _ => cases ready <;> cases sync <;> rfl
      | txhashsetReq hdrOk _ => cases hdrOk <;> rfl
      | _ => rfl
    · rfl
  · cases o <;> rfl

/-- **a banned peer gets nothing**: no adapter callback, no answer, disconnected -/
theorem banned_peer_gets_nothing (g : Glue) (hb : g.banned = true) (m : In) :
    consumeGlue g m = (g, [], .disconnect) := by
  unfold consumeGlue
  rw [if_pos hb]

/-- a key just inserted is found (capacity ≥ 1) -/
theorem lruGet_after_insert {α : Type} (cap : Nat) (hc : 1 ≤ cap) (l : List (Bytes × α)) (k : Bytes) (v : α) :
    (lruGet (lruInsert cap l k v) k).1 = some v := by
  have hfind : ∀ (pre : List (Bytes × α)), (∀ e ∈ pre, (e.1 == k) = false) →
      (pre ++ [(k, v)]).find? (fun e => e.1 == k) = some (k, v) := by
    intro pre hp
    induction pre with
    | nil => simp
    | cons a t ih =>
      have ha := hp a (List.mem_cons_self)
      simp only [List.cons_append, List.find?_cons, ha]
      exact ih (fun e he => hp e (List.mem_cons_of_mem _ he))
  have hfil : ∀ e ∈ l.filter (fun e => e.1 != k), (e.1 == k) = false := by
    intro e he
    have := (List.mem_filter.mp he).2
    simpa [bne] using this
  have hins : ∃ pre, lruInsert cap l k v = pre ++ [(k, v)] ∧ ∀ e ∈ pre, (e.1 == k) = false := by
    unfold lruInsert
    simp only
    by_cases hlen : (l.filter (fun e => e.1 != k) ++ [(k, v)]).length > cap
    · rw [if_pos hlen]
      cases hf : l.filter (fun e => e.1 != k) with
      | nil =>
        rw [hf] at hlen
        simp only [List.nil_append, List.length_cons, List.length_nil] at hlen
        omega
      | cons a t =>
        refine ⟨t, by simp, fun e he => hfil e (by rw [hf]; exact List.mem_cons_of_mem _ he)⟩
    · rw [if_neg hlen]
      exact ⟨_, rfl, hfil⟩
  obtain ⟨pre, hp, hpre⟩ := hins
  rw [hp]
  unfold lruGet
  rw [hfind pre hpre]

theorem MAX_TRACK_SIZE_pos : 1 ≤ MAX_TRACK_SIZE := by decide

/-- after `push_recv(h)`, `has_recv(h)` -/
theorem hasRecv_after_push (g : Glue) (h : Bytes) : (hasRecv (pushRecv g h) h).1 = true := by
  have := lruGet_after_insert MAX_TRACK_SIZE MAX_TRACK_SIZE_pos g.received h ()
  simp only [hasRecv, pushRecv]
  rw [this]
  rfl

/-- **what the peer sent us is not sent back to it**: for a peer that is not banned, a received
header, compact block, block (as header and as compact block), transaction kernel hash or non-stem
transaction (by its first kernel, as transaction and as kernel hash) makes the matching
`Peer::send_*` return `Ok(false)` and put nothing on the wire -/
theorem received_is_not_sent_back (g : Glue) (hb : g.banned = false) (h : Bytes) :
    (sendGlue (consumeGlue g (.header h)).1 (.header h)).2 = none ∧
    (sendGlue (consumeGlue g (.cblock h)).1 (.cblock h)).2 = none ∧
    (sendGlue (consumeGlue g (.kernel h)).1 (.kernel h)).2 = none ∧
    (sendGlue (consumeGlue g (.tx h false)).1 (.tx h)).2 = none ∧
    (sendGlue (consumeGlue g (.tx h false)).1 (.kernel h)).2 = none := by
  have hp := hasRecv_after_push g h
  refine ⟨?_, ?_, ?_, ?_, ?_⟩ <;>
    simp only [consumeGlue, hb, Bool.false_eq_true, if_false, sendGlue, hp, if_true]

/-- … a received BLOCK likewise (its hash is remembered; the request table only reorders) -/
theorem received_block_not_sent_back (g : Glue) (hb : g.banned = false) (h : Bytes) :
    (sendGlue (consumeGlue g (.block h)).1 (.header h)).2 = none ∧
    (sendGlue (consumeGlue g (.block h)).1 (.cblock h)).2 = none := by
  have hp := lruGet_after_insert MAX_TRACK_SIZE MAX_TRACK_SIZE_pos g.received h ()
  constructor <;>
    simp only [consumeGlue, hb, Bool.false_eq_true, if_false, sendGlue, hasRecv, pushRecv, hp, Option.isSome_some, if_true]

/-- a stem transaction is NOT remembered (it must still be fluffed to that peer later) -/
theorem stem_not_tracked (g : Glue) (k0 : Bytes) :
    (consumeGlue g (.tx k0 true)).1.received = g.received := by
  cases hb : g.banned <;> simp only [consumeGlue, hb] <;> rfl

/-- the memory is bounded by `MAX_TRACK_SIZE` -/
theorem lru_bounded {α : Type} (cap : Nat) (l : List (Bytes × α)) (k : Bytes) (v : α) (hl : l.length ≤ cap) :
    (lruInsert cap l k v).length ≤ cap := by
  unfold lruInsert
  simp only
  have hf : (l.filter (fun e => e.1 != k)).length ≤ l.length := List.length_filter_le _ _
  split
  · rw [List.length_drop, List.length_append, List.length_singleton]; omega
  · rename_i hn; omega

/-- an LRU of capacity 3 (the code uses `MAX_TRACK_SIZE` = 30): a fourth hash pushes the oldest out,
unless a look-up (`has_recv` goes through `get_mut`) refreshed it in between -/
example :
    let l := lruInsert 3 (lruInsert 3 (lruInsert 3 ([] : List (Bytes × Unit)) [1] ()) [2] ()) [3] ()
    (lruGet (lruInsert 3 l [4] ()) [1]).1 = none ∧
    (lruGet (lruInsert 3 (lruGet l [1]).2 [4] ()) [1]).1 = some () ∧
    (lruGet (lruInsert 3 (lruGet l [1]).2 [4] ()) [2]).1 = none ∧ MAX_TRACK_SIZE = 30 := by
  decide

/-- **a block we asked for arrives with the options of the request** (`send_block_request` with
`SYNC`), any other block with `NONE` when nothing was requested -/
theorem requested_options_override (g : Glue) (hb : g.banned = false) (h : Bytes) (opts : Nat) :
    (consumeGlue (sendGlue g (.blockReq h opts)).1 (.block h)).2.1 = [.block h opts] ∧
    (g.requested = [] → (consumeGlue g (.block h)).2.1 = [.block h 0]) := by
  constructor
  · have hp := lruGet_after_insert MAX_TRACK_SIZE MAX_TRACK_SIZE_pos g.requested h opts
    simp only [sendGlue, consumeGlue, hb, Bool.false_eq_true, if_false, pushRecv, hp, Option.getD_some]
  · intro he
    simp only [consumeGlue, hb, Bool.false_eq_true, if_false, pushRecv, he, lruGet, List.find?_nil, Option.getD_none]

/-- **the gate in front of a `TxHashSetArchive`**: accepted (the attachment of `bytes` bytes is
expected) iff the peer is not banned, the node is ready to receive and asked THIS peer; the request is
used up, so a second archive is refused (`BadMessage`, which closes the connection) -/
theorem archive_gate (g : Glue) (h : Bytes) (n : Nat) :
    ((consumeGlue g (.archive h n)).2.2 = .attachment n ↔ (g.banned = false ∧ g.ready = true ∧ g.syncRequested = true)) ∧
    (g.banned = false → g.ready = true → g.syncRequested = true →
      (consumeGlue (consumeGlue g (.archive h n)).1 (.archive h n)).2.2 = .badMessage) ∧
    (g.banned = false → (g.ready = false ∨ g.syncRequested = false) →
      (consumeGlue g (.archive h n)).2.2 = .badMessage ∧ (consumeGlue g (.archive h n)).2.1 = [.receiveReady]) := by
  refine ⟨?_, ?_, ?_⟩
  · cases hb : g.banned <;> cases hr : g.ready <;> cases hs : g.syncRequested <;>
      simp [consumeGlue, hb, hr, hs]
  · intro hb hr hs
    simp [consumeGlue, hb, hr, hs]
  · intro hb hor
    rcases hor with hr | hs
    · simp [consumeGlue, hb, hr]
    · cases hr : g.ready <;> simp [consumeGlue, hb, hr, hs]

/-- `send_txhashset_request` is what opens the gate -/
example (g : Glue) (hb : g.banned = false) (hr : g.ready = true) (h : Bytes) (n : Nat) :
    (consumeGlue (sendGlue g .txhashsetReq).1 (.archive h n)).2.2 = .attachment n := by
  simp [consumeGlue, sendGlue, hb, hr]

/-- **Ping / Pong bookkeeping**: both report the peer's total difficulty and height under the peer's
address; a Ping is answered with OUR total difficulty and height, a Pong is not answered -/
theorem ping_pong_bookkeeping (g : Glue) (hb : g.banned = false) (td h : Nat) :
    consumeGlue g (.ping td h) = (g, [.peerDifficulty g.addr td h, .totalDifficulty, .totalHeight], .pong g.td g.height) ∧
    consumeGlue g (.pong td h) = (g, [.peerDifficulty g.addr td h], .none) := by
  constructor <;> simp only [consumeGlue, hb, Bool.false_eq_true, if_false]

/-- a transaction goes out as its kernel hash exactly when the remote announced `TX_KERNEL_HASH` -/
theorem kernel_hash_capability (g : Glue) (k0 : Bytes) (hn : (hasRecv g k0).1 = false) :
    (sendGlue g (.tx k0)).2 = some (if g.caps &&& TX_KERNEL_HASH ≠ 0 then T_TransactionKernel else T_Transaction) := by
  simp only [sendGlue, hn, Bool.false_eq_true, if_false]

/-- the regenerated facts the model rests on -/
theorem glue_tables :
    trackedCallbacks = ["tx_kernel_received", "transaction_received", "block_received", "compact_block_received",
                        "header_received"] ∧
    guardedSenders = ["send_compact_block", "send_header", "send_tx_kernel_hash", "send_transaction"] ∧
    hasRecvCallSites = 4 ∧ MAX_TRACK_SIZE = 30 ∧ MAX_PEER_MSG_PER_MIN = 500 :=
  ⟨rfl, rfl, rfl, rfl, rfl⟩

/-- `is_abusive`: strictly more than `MAX_PEER_MSG_PER_MIN` = 500 COUNTED entries of the receive
tracker (quiet ones - attachment chunks, header batches with more to come - never count) -/
theorem abusive_threshold (es : List (Nat × Bool)) :
    isAbusive es = true ↔ 500 < ((rcOf es).filter fun e => !e.2).length := by
  simp [isAbusive, trackedCount, MAX_PEER_MSG_PER_MIN]

example : isAbusive [(16, false), (48000, true), (48000, true)] = false := by decide

end GV.Props.C19Glue
