import GrinVerif.Model.PoolConvert
import GrinVerif.Lemmas.PoolInv
import GrinVerif.Props.C14Shape
/-! C14 — the helpers of `TransactionPool::add_to_pool` as stage lists, and `convert_tx_v2`.

`is_acceptable`, `deaggregate_tx`, `locate_spends`, `convert_tx_v2` are NOT in the function list of
`Gen/PipeShapePool.lean` (the generator reads `add_to_pool`, `add_to_stempool`, `add_to_txpool`,
`verify_kernel_variants`, `reconcile_block`, `evict_from_txpool` and the `Pool::*` functions): their
bodies have no regenerated spine to compare with.  What IS regenerated is how `add_to_pool` calls them
(`add_to_pool_calls_its_helpers_on_the_pooled_form`): `is_acceptable` on the DE-AGGREGATED transaction
and the stem flag, `convert_tx_v2` on the entry and the two lists `locate_spends` returned.  The hand
models of the helpers are shown to be stage lists (`isAcceptable_stages`, `locateSpends_stages`,
`deaggregateTx_cases`), so a change of their order in the model breaks a theorem here.

`convert_tx_v2`: `convert_after_validate` (it cannot fail for a transaction that passed the standalone
validation just before), `stored_features_are_looked_up` / `stored_inputs_pass_the_v2_lookup` (the stored
vector carries the features of the UTXO set and would pass the `FeaturesAndCommit` branch of
`validate_inputs`), `claimed_features_are_not_read` (whatever the submitter claimed),
`lying_feature_refused_if_it_reached_the_chain` (the branch that would refuse it is never reached by the
pool: `locate_spends` looks up commitments only). -/
namespace GV.Props.C14Convert
open GV GV.Pool GV.Gen.PipeShape GV.Props.XlateShape GV.Props.C14Shape

/-! ## `is_acceptable` -/

def accStages : List (String × (Ctx × TxPool × Tx × Bool → Option Err)) := [
  ("LowFeeTransaction", fun i => if i.2.2.1.shiftedFee < i.2.2.1.acceptFee i.1.cfg then some "LowFee" else none),
  ("OverCapacity", fun i => if i.2.1.txpool.length > i.1.cfg.maxPool then some "OverCapacity" else none),
  ("OverCapacity", fun i =>
    if (i.2.2.2 && decide (i.2.1.stempool.length > i.1.cfg.maxStem)) || decide (i.2.1.txpool.length > i.1.cfg.maxPool)
    then some "OverCapacity" else none) ]

theorem isAcceptable_stages (c : Ctx) (s : TxPool) (t : Tx) (stem : Bool) :
    s.isAcceptable c t stem = firstFail (c, s, t, stem) accStages := by
  unfold TxPool.isAcceptable
  simp only [accStages, firstFail]
  by_cases h1 : t.shiftedFee < t.acceptFee c.cfg
  · simp [h1]
  · simp only [h1, if_false]
    by_cases h2 : s.txpool.length > c.cfg.maxPool
    · simp [h2]
    · simp only [h2, if_false]
      split <;> rfl

/-- the fee is looked at first (3aef11dd9): a low-fee transaction never sees `OverCapacity` -/
theorem low_fee_before_capacity (c : Ctx) (s : TxPool) (t : Tx) (stem : Bool)
    (h : t.shiftedFee < t.acceptFee c.cfg) : s.isAcceptable c t stem = some "LowFee" := by
  simp [TxPool.isAcceptable, h]

/-! ## `deaggregate_tx` -/

theorem deaggregateTx_cases (s : TxPool) (e : Entry) :
    s.deaggregateTx e =
      if e.tx.kers.length ≤ 1 ∨ (s.txpool.findMatching e.tx.kers).isEmpty then .ok e
      else match deaggregate e.tx (s.txpool.findMatching e.tx.kers) with
        | .error er => .error er
        | .ok t => .ok { tx := t, src := .deaggregate } := by
  unfold TxPool.deaggregateTx
  by_cases h1 : e.tx.kers.length > 1
  · have : ¬ e.tx.kers.length ≤ 1 := by omega
    simp only [h1, if_true, this, false_or]
    by_cases h2 : (s.txpool.findMatching e.tx.kers).isEmpty = true
    · simp [h2]
    · simp only [h2, Bool.false_eq_true, if_false]
      cases deaggregate e.tx (s.txpool.findMatching e.tx.kers) <;> rfl
  · have : e.tx.kers.length ≤ 1 := by omega
    simp [h1, this]

/-! ## `locate_spends` -/

structure LIn where
  c : Ctx
  p : Pool
  t : Tx
  extra : Option Tx

def poolOuts (i : LIn) : List Nat :=
  match i.p.allAggregate i.c i.extra with
  | .ok (some a) => a.outs
  | _ => []

def locStages : List (String × (LIn → Option Err)) := [
  ("all_transactions_aggregate", fun i => match i.p.allAggregate i.c i.extra with | .error e => some e | .ok _ => none),
  ("cut_through", fun i => match cutThrough i.t.ins (poolOuts i) with | .error e => some e | .ok _ => none),
  ("validate_inputs", fun i =>
    match cutThrough i.t.ins (poolOuts i) with
    | .ok (spentUtxo, _) => validateInputsV3 i.c spentUtxo
    | .error _ => none) ]

/-- **`locate_spends` is its stage list**; when all pass: (inputs found among the pool's outputs, the rest) -/
theorem locateSpends_stages (c : Ctx) (p : Pool) (t : Tx) (extra : Option Tx) :
    p.locateSpends c t extra =
      match firstFail (⟨c, p, t, extra⟩ : LIn) locStages with
      | some e => .error e
      | none =>
        match cutThrough t.ins (poolOuts ⟨c, p, t, extra⟩) with
        | .ok (spentUtxo, _) => .ok (t.ins.filter (fun i => (poolOuts ⟨c, p, t, extra⟩).contains i), spentUtxo)
        | .error e => .error e := by
  unfold Pool.locateSpends
  simp only [locStages, firstFail, poolOuts, validateInputsV3]
  cases hagg : p.allAggregate c extra with
  | error e => rfl
  | ok agg =>
    simp only []
    cases agg with
    | none =>
      simp only []
      cases hct : cutThrough t.ins [] with
      | error e => rfl
      | ok r =>
        obtain ⟨su, x⟩ := r
        simp only []
        by_cases hh : su.all c.head.has = true
        · simp [hh]
        · simp [hh]
    | some a =>
      simp only []
      cases hct : cutThrough t.ins a.outs with
      | error e => rfl
      | ok r =>
        obtain ⟨su, x⟩ := r
        simp only []
        by_cases hh : su.all c.head.has = true
        · simp [hh]
        · simp [hh]

/-! ## `convert_tx_v2` -/

/-- a transaction that passed `tx.validate(AsTransaction)` (the check `add_to_pool` makes before) is
converted without error: the conversion's own validation adds nothing -/
theorem convert_after_validate {c : Ctx} {t : Tx} (sp su : List Nat) (h : t.validate c .asTransaction = none) :
    convertTxV2 c t sp su =
      .ok (.featuresAndCommit (su.map (fun i => (featureOf c i, i)) ++ sp.map (fun i => (false, i))), t) := by
  unfold convertTxV2
  have hk := keptTags_of_valid h
  have : ({ t with tags := keptTags t.tags } : Tx) = t := by rw [hk]
  simp only [this, h]

/-- the stored features of the inputs spent from the chain are the looked-up ones … -/
theorem stored_features_are_looked_up {c : Ctx} {t t' : Tx} {sp su : List Nat} {is : List (Bool × Nat)}
    (h : convertTxV2 c t sp su = .ok (.featuresAndCommit is, t')) :
    is = su.map (fun i => (featureOf c i, i)) ++ sp.map (fun i => (false, i)) := by
  unfold convertTxV2 at h
  simp only [] at h
  cases hv : Tx.validate c Weighting.asTransaction { t with tags := keptTags t.tags } with
  | some e => rw [hv] at h; simp at h
  | none =>
    rw [hv] at h
    simp only [Except.ok.injEq, Prod.mk.injEq, Inputs.featuresAndCommit.injEq] at h
    exact h.1.symm

/-- … so the part spent from the chain passes the `FeaturesAndCommit` branch of `validate_inputs`
(`"input mismatch"` cannot occur for a stored entry while its inputs are unspent) -/
theorem stored_inputs_pass_the_v2_lookup (c : Ctx) (su : List Nat) (h : su.all c.head.has = true) :
    validateInputsV2 c (su.map (fun i => (featureOf c i, i))) = none := by
  unfold validateInputsV2
  have : (su.map (fun i => (featureOf c i, i))).all (fun x => c.head.has x.2 && x.1 == featureOf c x.2) = true := by
    rw [List.all_eq_true] at h ⊢
    intro x hx
    obtain ⟨i, hi, rfl⟩ := List.mem_map.mp hx
    simp [h i hi]
  simp [this]

/-- the claimed features are not read: two submitted forms of one transaction that differ only in
what they claim are converted alike (and admitted alike: `form_independent_admission` of Props/C14) -/
theorem claimed_features_are_not_read (c : Ctx) (outs : List Nat) (kers : List PKer) (tags : List String)
    (is₁ is₂ : List (Bool × Nat)) (h : is₁.map (·.2) = is₂.map (·.2)) (sp su : List Nat) :
    convertTxV2 c (SubTx.tx { inputs := .featuresAndCommit is₁, outs, kers, tags }) sp su =
    convertTxV2 c (SubTx.tx { inputs := .featuresAndCommit is₂, outs, kers, tags }) sp su := by
  simp [SubTx.tx, Inputs.commits, h]

/-- had the submitted vector reached the chain's `FeaturesAndCommit` lookup, a lying feature byte would be
refused there (the output 7 is a coinbase at the head, the input claims plain) -/
theorem lying_feature_refused_if_it_reached_the_chain :
    let c : Ctx := { head := { utxo := [(7, 2, true)], nrd := [], height := 9 } }
    validateInputsV2 c [(false, 7)] = some "Other" ∧ validateInputsV2 c [(true, 7)] = none ∧
    validateInputsV3 c [7] = none := by decide

/-! ## what the regenerated shape says about the calls -/

/-- `is_acceptable` is called on `$5` = the tx of `$4` = the entry AFTER `deaggregate_tx`, with the stem flag;
`convert_tx_v2` on that entry and the two lists the `locate_spends` branch returned (`$9`, `$10`) -/
theorem add_to_pool_calls_its_helpers_on_the_pooled_form :
    (tpool_add_to_pool.lets.filter (fun l => l.name == "tx" || l.name == "is_acceptable" || l.name == "convert_tx_v2")).map
      (fun l => (l.vars, l.init)) =
      [(["$5"], "$4.tx"), (["$6"], "self.is_acceptable($5, $2)"), (["$13"], "self.convert_tx_v2($4, &$9, &$10)?")] ∧
    (tpool_add_to_pool.steps.filter (·.name == "deaggregate_tx")).map (·.what) = ["self.deaggregate_tx(PoolEntry::new($1, $0))"] := by
  decide +kernel

end GV.Props.C14Convert
