import GrinVerif.Lemmas.NrdSim
import GrinVerif.Lemmas.NrdChain
import GrinVerif.Lemmas.ChainApply
import GrinVerif.Lemmas.NrdWalk
/-! Property C13, clause "a no-recent-duplicate kernel is refused if the same excess occurred fewer
than its relative height blocks earlier **on the same fork** … re-evaluated correctly when blocks
are re-applied or rewound during a reorganisation" — for the data structure the node really uses:
the persistent per-excess linked list of chain/src/linked_list.rs (model: `Model/NrdIndex.lean`).

1. representation invariant `Inv`, for every history;
2. refinement: every operation commutes with `abs` (the list read from the head pointer) and the
   specification on per-excess lists; `peek_pos = head? ∘ abs`;
3. fork correctness: rewinding to a fork point and applying the other branch = building the other
   path from scratch = the path search `pathEntries`;
4. rebuild (`verify_kernel_pos_index` / `init_recent_kernel_pos_index`) = the lists cut at the window;
5. error branches characterised; an error of a primitive leaves the store unchanged;
6. the connection with the specification the chain model decides NRD with (`GV.Chain.nrdBad`
   over `UState.nrd`, `Model/Chain.lean`; imported, not restated).

**Finding (not a violation of C13):** "no stray records" is *not* part of the invariant because it
is false for the real code — `pop_pos` on a two-element list deletes the head record and rewrites
the list record to `Single`, leaving the `Tail` record of the surviving element in the store
(`pop_pos_back` likewise leaves the `Head` record).  `stale_record_exists` exhibits it,
`stale_records_unobservable` proves no operation can ever read such a record. -/
namespace GV.Props.C13Nrd
open GV GV.Nrd
variable {ε : Type} [DecidableEq ε]
set_option linter.unusedSectionVars false

theorem inv_empty : Inv ({} : KV ε) := sim_empty.inv

/-- every call preserves the invariant (a refused block's batch being dropped) -/
theorem inv_step {kv : KV ε} (h : Inv kv) (op : Op ε) : Inv (step kv op).1 :=
  (step_sim h.sim op).2.inv

theorem inv_history (ops : List (Op ε)) : Inv (run ({} : KV ε) ops).1 :=
  (run_sim sim_empty ops).2.inv

/-- what the invariant says, per excess: positions strictly decreasing from head to tail; no list
record iff empty; `Single` iff exactly one element; `Multi` pointers name the existing `Head` record
of the first and `Tail` record of the last element (of at least two); and walking the `prev`
pointers from the tail reads the same list backwards. -/
theorem inv_meaning {kv : KV ε} (h : Inv kv) (e : ε) :
    Decr (abs kv e) ∧
    (kv.getList e = none ↔ abs kv e = []) ∧
    (∀ p, kv.getList e = some (.single p) ↔ abs kv e = [p]) ∧
    (∀ hd tl, kv.getList e = some (.multi hd tl) →
      ∃ p q n v, (abs kv e).head? = some p ∧ (abs kv e).getLast? = some q ∧ p.pos = hd ∧ q.pos = tl ∧
        2 ≤ (abs kv e).length ∧ kv.getEntry e hd = some (.head p n) ∧ kv.getEntry e tl = some (.tail q v)) ∧
    (∀ fuel, (abs kv e).length ≤ fuel → absBack kv e fuel = (abs kv e).reverse) := by
  have hr := h.sim e
  generalize abs kv e = l at hr
  have hw := hr.wrapper
  refine ⟨hr.decr, ?_, fun p => ?_, fun hd tl hm => ?_, absBack_repr hr⟩
  · rw [hw]
    match l with
    | [] | [_] | _ :: _ :: _ => simp [wrapperOf]
  · rw [hw]
    match l with
    | [] | [_] | _ :: _ :: _ => simp [wrapperOf]
  · have hm' := hm
    rw [hw] at hm'
    match l, hr, hm' with
    | p :: q :: r, hr, _ =>
      obtain ⟨t, z, w, hz, hw', hc, hcz⟩ := hr.ends
      rw [hw'] at hm
      injection hm with hm
      injection hm with h1 h2
      exact ⟨p, z, q.pos, w, rfl, getLast?_cons_snoc hz, h1, h2, by simp, h1 ▸ hc, h2 ▸ hcz⟩

/-- neighbouring elements `a`, `b` of a list point at each other: `a`'s record (`Head` or `Middle`)
has `next = b.pos`, `b`'s record (`Tail` or `Middle`) has `prev = a.pos`. -/
theorem inv_neighbours {kv : KV ε} (h : Inv kv) (e : ε) (l1 l2 : List CommitPos) (a b : CommitPos)
    (hl : abs kv e = l1 ++ a :: b :: l2) :
    (∃ en, kv.getEntry e a.pos = some en ∧ en.getPos = a ∧
        ((∃ n, en = .head a n ∧ n = b.pos) ∨ (∃ n v, en = .middle a n v ∧ n = b.pos))) ∧
    (∃ en, kv.getEntry e b.pos = some en ∧ en.getPos = b ∧
        ((∃ v, en = .tail b v ∧ v = a.pos) ∨ (∃ n v, en = .middle b n v ∧ v = a.pos))) := by
  have hr := h.sim e
  rw [hl] at hr
  exact hr.neighbours

/-- the invariant is not vacuous: a three-element list, as linked_list.rs lays it out -/
example :
    let kv := (run ({} : KV Nat) [.push 7 ⟨3, 1⟩, .push 7 ⟨8, 2⟩, .push 7 ⟨11, 4⟩]).1
    kv.getList 7 = some (.multi 11 3) ∧
    kv.getEntry 7 11 = some (.head ⟨11, 4⟩ 8) ∧
    kv.getEntry 7 8 = some (.middle ⟨8, 2⟩ 3 11) ∧
    kv.getEntry 7 3 = some (.tail ⟨3, 1⟩ 8) ∧
    abs kv 7 = [⟨11, 4⟩, ⟨8, 2⟩, ⟨3, 1⟩] ∧ absBack kv 7 3 = [⟨3, 1⟩, ⟨8, 2⟩, ⟨11, 4⟩] := by decide +kernel

/-- **stale records exist**: after push 1, push 2, pop the list is `Single` again but the `Tail`
record written for position 1 is still in the store (the real store shows the same, run `nrdops`). -/
theorem stale_record_exists :
    let kv := (run ({} : KV Nat) [.push 0 ⟨1, 1⟩, .push 0 ⟨2, 2⟩, .pop 0]).1
    kv.getList 0 = some (.single ⟨1, 1⟩) ∧ kv.getEntry 0 1 = some (.tail ⟨1, 1⟩ 2) ∧
    abs kv 0 = [⟨1, 1⟩] := by decide +kernel

/-- … and are never observable: two stores representing the same lists (whatever stale records
they hold) answer every history identically and represent the same lists afterwards. -/
theorem stale_records_unobservable {kv1 kv2 : KV ε} (h1 : Inv kv1) (h2 : Inv kv2)
    (heq : ∀ e, abs kv1 e = abs kv2 e) (ops : List (Op ε)) :
    (run kv1 ops).2 = (run kv2 ops).2 ∧ ∀ e, abs (run kv1 ops).1 e = abs (run kv2 ops).1 e := by
  have s1 := h1.sim
  have s2 : Sim kv2 (abs kv1) := by
    have : abs kv1 = abs kv2 := funext heq
    rw [this]; exact h2.sim
  obtain ⟨a1, b1⟩ := run_sim s1 ops
  obtain ⟨a2, b2⟩ := run_sim s2 ops
  exact ⟨a1.trans a2.symm, fun e => (b1.abs e).trans (b2.abs e).symm⟩

/-- **Refinement, one call.**  Every operation (`push_pos`, `pop_pos`, `pop_pos_back`, `rewind`, the
prune loop, `clear`, `apply_block`, `rewind_single_block`, the rebuild) answers what the same
operation of the specification (`sstep`, `Model/NrdIndex.lean`) answers on the lists read from the
store, and leaves a store that satisfies the invariant and holds the specification's lists. -/
theorem step_refines {kv : KV ε} (h : Inv kv) (op : Op ε) :
    (step kv op).2 = (sstep (abs kv) op).2 ∧ Inv (step kv op).1 ∧
    ∀ e, abs (step kv op).1 e = (sstep (abs kv) op).1 e :=
  have ⟨h1, h2⟩ := step_sim h.sim op
  ⟨h1, h2.inv, h2.abs⟩

theorem peek_refines {kv : KV ε} (h : Inv kv) (e : ε) : peekPos kv e = .ok (abs kv e).head? :=
  peekPos_repr (h.sim e)

/-- since the list is strictly decreasing, the part that survives a rewind is the elements with
`pos ≤ rewind_pos` -/
theorem rewind_keeps_exactly {kv : KV ε} (h : Inv kv) (e : ε) (r : Nat) :
    abs (rewind kv e r).kv e = (abs kv e).filter (fun p => decide (p.pos ≤ r)) := by
  rw [abs_repr (rewind_repr r (h.sim e)).repr, specRewind_eq_filter (h.sim e).decr]

theorem prune_panics (kv : KV ε) (e : ε) (c : Nat) : prune kv e c = ⟨kv, .error .panicUnimplemented⟩ := rfl

theorem clear_refines (kv : KV ε) : (clear kv).res = .ok () ∧ Inv (clear kv).kv ∧ ∀ e, abs (clear kv).kv e = [] :=
  ⟨rfl, inv_empty, fun _ => rfl⟩

/-- for every history the index answers exactly what the specification answers, and the lists
read from it are the specification's lists -/
theorem history_refines (ops : List (Op ε)) :
    (run ({} : KV ε) ops).2 = (srun (fun _ => []) ops).2 ∧
    ∀ e, abs (run ({} : KV ε) ops).1 e = (srun (fun _ => []) ops).1 e := by
  obtain ⟨h1, h2⟩ := run_sim (sim_empty (ε := ε)) ops
  exact ⟨h1, h2.abs⟩

/-- a rewind that empties a list, a prune that turns `Multi` into `Single` -/
example :
    let kv := (run ({} : KV Nat) [.push 7 ⟨3, 1⟩, .push 7 ⟨8, 2⟩, .push 7 ⟨11, 4⟩]).1
    abs (rewind kv 7 2).kv 7 = [] ∧ (rewind kv 7 2).kv.getList 7 = none ∧
    abs (rewind kv 7 8).kv 7 = [⟨8, 2⟩, ⟨3, 1⟩] ∧
    abs (pruneBack kv 7 9).kv 7 = [⟨11, 4⟩] ∧ (pruneBack kv 7 9).kv.getList 7 = some (.single ⟨11, 4⟩) ∧
    ansUnit (pushPos kv 7 ⟨11, 9⟩).res = .err .posNotIncreasing := by decide +kernel

/-- the index built along a path is the path search: for every excess the occurrences in NRD
kernels of the path's blocks, most recent first -/
theorem build_is_path_search (path : List (Blk ε)) (kv : KV ε)
    (hb : applyBlocks ({} : KV ε) path = ⟨kv, .ok ()⟩) :
    Inv kv ∧ ∀ e, abs kv e = pathEntries path e := by
  obtain ⟨S, hs, h2⟩ := applyBlocks_ok_sim sim_empty hb
  exact ⟨h2.inv, fun e => by rw [h2.abs, sApplyBlocks_ok hs e, List.append_nil]⟩

/-- **Fork switch.**  Two paths `pre ++ a` and `pre ++ b` sharing the prefix `pre`.  Starting from
the index built along `pre ++ a`: `Extension::rewind` (rewind_single_block for the blocks of `a`,
newest first) succeeds and leaves exactly the path search of `pre`; applying the blocks of `b` on it
then gives the same answer (accepted, or refused with the same error) and the same lists as
building `pre ++ b` from the empty store — in particular, when accepted, the path search of
`pre ++ b`.  Nothing of `a` is ever seen by `b`. -/
theorem fork_switch (pre a b : List (Blk ε)) (hp : PathOK 0 (pre ++ a)) (kvA : KV ε)
    (hA : applyBlocks ({} : KV ε) (pre ++ a) = ⟨kvA, .ok ()⟩) :
    ∃ kvR, rewindBlocks kvA a.reverse = ⟨kvR, .ok ()⟩ ∧ Inv kvR ∧
      (∀ e, abs kvR e = pathEntries pre e) ∧
      (applyBlocks kvR b).res = (applyBlocks ({} : KV ε) (pre ++ b)).res ∧
      (∀ e, abs (applyBlocks kvR b).kv e = abs (applyBlocks ({} : KV ε) (pre ++ b)).kv e) ∧
      ((applyBlocks kvR b).res = .ok () → ∀ e, abs (applyBlocks kvR b).kv e = pathEntries (pre ++ b) e) := by
  obtain ⟨SA, hs, h2⟩ := applyBlocks_ok_sim sim_empty hA
  obtain ⟨SP, hpre, happ⟩ := sApplyBlocks_append_ok hs
  obtain ⟨p1, p2⟩ := hp.append
  have hbel : Below SP (endSize 0 pre) := (below_empty 0).applyBlocks p1 hpre
  obtain ⟨r1, r2⟩ := rewindBlocks_sim a.reverse h2
  simp only [sRewindBlocks_apply hbel p2 happ] at r2
  have hSP : ∀ e, SP e = pathEntries pre e := fun e => by rw [sApplyBlocks_ok hpre e]; simp
  obtain ⟨b1, b2⟩ := applyBlocks_sim b r2
  obtain ⟨s1, s2⟩ := applyBlocks_sim (pre ++ b) (sim_empty (ε := ε))
  rw [show sApplyBlocks (fun _ => []) (pre ++ b) = sApplyBlocks SP b by rw [sApplyBlocks_append, hpre]] at s1 s2
  refine ⟨_, Out.eq_mk r1, r2.inv, fun e => by rw [r2.abs, hSP], b1.trans s1.symm,
    fun e => (b2.abs e).trans (s2.abs e).symm, fun hok e => ?_⟩
  rw [b2.abs e, sApplyBlocks_ok (SOut.eq_mk (b1.symm.trans hok)) e, hSP, pathEntries_append]

/-- the decision on one kernel: the index's answer is the specification's answer on the lists it
represents (in particular on the path search of the fork being extended). -/
theorem nrd_decision_refines {kv : KV ε} (h : Inv kv) (k : Kernel ε) (pos : CommitPos) :
    (applyKernelRules kv k pos).res = (sApplyKernelRules (abs kv) k pos).res :=
  (applyKernelRules_sim h.sim k pos).1

/-- … and that answer is exactly the NRD rule: a kernel is refused with `NRDRelativeHeight` iff it
is an NRD kernel and the most recent occurrence of its excess on this fork is fewer than its
relative height blocks below (threshold exact; `-` is the code's `saturating_sub`, and for
`q.height ≤ pos.height` — always the case along a path — `pos.height - q.height < rel` is
`pos.height < q.height + rel`); refused with "pos must be increasing" iff the rule
passes but the position is not above the most recent one (cannot happen for kernel MMR positions). -/
theorem nrd_rule_exact (S : Spec ε) (k : Kernel ε) (pos : CommitPos) :
    ((sApplyKernelRules S k pos).res = .error .nrdRelativeHeight ↔
      ∃ rel q, k.nrd = some rel ∧ (S k.excess).head? = some q ∧ pos.height - q.height < rel) ∧
    ((sApplyKernelRules S k pos).res = .error .posNotIncreasing ↔
      ∃ rel q, k.nrd = some rel ∧ (S k.excess).head? = some q ∧ rel ≤ pos.height - q.height ∧
        pos.pos ≤ q.pos) := by
  unfold sApplyKernelRules sPush
  cases hn : k.nrd with
  | none => simp
  | some rel =>
    cases hl : S k.excess with
    | nil => simp [specNrdOk, specPushOk]
    | cons q t =>
      simp only [specNrdOk, specPushOk, satSub, List.head?_cons, Option.some.injEq, exists_and_left,
        exists_eq_left']
      by_cases h1 : pos.height - q.height < rel
      · have h2 : ¬ rel ≤ pos.height - q.height := by omega
        simp [h1, h2]
      · by_cases h2 : pos.pos ≤ q.pos
        · have : ¬ q.pos < pos.pos := by omega
          simp [h1, h2, this]; omega
        · have : q.pos < pos.pos := by omega
          simp [h1, h2, this]

/-- two forks off a common block: the same excess at the same distance is refused on the fork
where it recurred and accepted on the other (`e = 5`, relative height 3). -/
example :
    let pre : List (Blk Nat) := [⟨1, 0, 1, [(⟨5, some 3⟩, 1)]⟩]
    let a : List (Blk Nat) := [⟨2, 1, 3, [(⟨5, some 1⟩, 2)]⟩, ⟨3, 3, 4, [(⟨6, none⟩, 4)]⟩]
    let b3 : Blk Nat := ⟨2, 1, 3, [(⟨5, some 3⟩, 2)]⟩   -- on `pre`: distance 1 < 3 from height 1
    let b5 : Blk Nat := ⟨4, 1, 3, [(⟨5, some 3⟩, 2)]⟩   -- distance 3 from height 1: accepted …
    let kvA := (applyBlocks ({} : KV Nat) (pre ++ a)).kv
    ansUnit (applyBlocks ({} : KV Nat) (pre ++ a)).res = .unit ∧
    abs kvA 5 = [⟨2, 2⟩, ⟨1, 1⟩] ∧
    -- … although on the fork `a` the excess occurred at height 2 (distance 2 < 3): refused there
    ansUnit (applyBlock kvA b5).res = .err .nrdRelativeHeight ∧
    abs (rewindBlocks kvA a.reverse).kv 5 = [⟨1, 1⟩] ∧
    ansUnit (applyBlock (rewindBlocks kvA a.reverse).kv b3).res = .err .nrdRelativeHeight ∧
    ansUnit (applyBlock (rewindBlocks kvA a.reverse).kv b5).res = .unit ∧
    PathOK 0 (pre ++ a) := by decide +kernel

/-- **Rebuild over a window** (`verify_kernel_pos_index(from_header)`: `clear`, then re-apply every
kernel from `from_header` on).  For a path `old ++ win` on which the index was built block by block:
the rebuild over `win` succeeds, whatever the store held before, and represents, for every excess,
the incrementally built list cut at the kernel MMR size before `win` — which is the path search
of `win`. -/
theorem rebuild_window (old win : List (Blk ε)) (hp : PathOK 0 (old ++ win)) (kv0 kvF : KV ε)
    (hF : applyBlocks ({} : KV ε) (old ++ win) = ⟨kvF, .ok ()⟩) :
    ∃ kvW, verifyKernelPosIndex kv0 win = ⟨kvW, .ok ()⟩ ∧ Inv kvW ∧
      (∀ e, abs kvW e = (abs kvF e).takeWhile (fun p => decide (p.pos > endSize 0 old))) ∧
      (∀ e, abs kvW e = pathEntries win e) := by
  obtain ⟨SF, hs, h2⟩ := applyBlocks_ok_sim sim_empty hF
  obtain ⟨SP, hold, hwin⟩ := sApplyBlocks_append_ok hs
  obtain ⟨p1, p2⟩ := hp.append
  have hbel : Below SP (endSize 0 old) := (below_empty 0).applyBlocks p1 hold
  have hcut := sApplyBlocks_cut (p2.above (Nat.le_refl _)) hwin
  rw [cutSpec_below hbel] at hcut
  obtain ⟨w1, w2⟩ := verifyKernelPosIndex_sim kv0 win
  rw [hcut] at w1 w2
  refine ⟨_, Out.eq_mk w1, w2.inv, fun e => ?_, fun e => ?_⟩
  · rw [w2.abs e, h2.abs e]; rfl
  · rw [w2.abs e]
    have := sApplyBlocks_ok hcut e
    simpa using this

/-- **the header walk** of `verify_kernel_pos_index` (one pass over the kernel MMR from
`prev_size + 1`, the current header advanced lazily with `while current_pos >
current_header.kernel_mmr_size`, each NRD kernel applied at the current header's height) gives every
kernel the height of the block it belongs to: it equals the block-wise rebuild of
`rebuild_window`, for every path with consistent kernel MMR sizes — including blocks without NRD
kernels, over which the header is not advanced until a later NRD kernel needs it. -/
theorem rebuild_header_walk (kv : KV ε) (b : Blk ε) (bs : List (Blk ε)) (c : Nat)
    (hp : PathOK c (b :: bs)) :
    verifyKernelPosIndexWalk kv b.hdr (bs.map Blk.hdr) ((b :: bs).flatMap (·.kernels)) =
      verifyKernelPosIndex kv (b :: bs) :=
  verifyWalk_blocks (b :: bs) c hp _ _ _ (.start c b bs)

/-- three blocks, the middle one without NRD kernel: the walk jumps two headers at position 4 -/
example :
    let bs : List (Blk Nat) := [⟨5, 0, 1, [(⟨5, some 1⟩, 1)]⟩, ⟨6, 1, 3, [(⟨9, none⟩, 2)]⟩, ⟨7, 3, 4, [(⟨5, some 2⟩, 4)]⟩]
    PathOK 0 bs ∧
    abs (verifyKernelPosIndexWalk ({} : KV Nat) (5, 1) [(6, 3), (7, 4)] [(⟨5, some 1⟩, 1), (⟨9, none⟩, 2), (⟨5, some 2⟩, 4)]).kv 5
      = [⟨4, 7⟩, ⟨1, 5⟩] ∧
    advanceHeader (5, 1) [(6, 3), (7, 4)] 4 = some ((7, 4), []) := by decide +kernel

/-- `init_recent_kernel_pos_index`: the blocks at or above the cutoff height
`head.height.saturating_sub(window)` of a path whose heights are sorted are a suffix of the path,
so the rebuild is `rebuild_window` for that suffix. -/
theorem init_recent_is_window (kv0 : KV ε) (window headHeight : Nat) (old win : List (Blk ε))
    (hold : ∀ b ∈ old, b.height < satSub headHeight window)
    (hwin : ∀ b ∈ win, satSub headHeight window ≤ b.height) :
    initRecentKernelPosIndex kv0 window headHeight (old ++ win) = verifyKernelPosIndex kv0 win := by
  unfold initRecentKernelPosIndex
  have h1 : old.filter (fun b => decide (satSub headHeight window ≤ b.height)) = [] := by
    rw [List.filter_eq_nil_iff]
    intro b hb
    have := hold b hb
    simp; omega
  have h2 : win.filter (fun b => decide (satSub headHeight window ≤ b.height)) = win := by
    rw [List.filter_eq_self]
    intro b hb
    simpa using hwin b hb
  rw [List.filter_append, h1, h2, List.nil_append]

/-- decisions taken on the windowed index equal those on the full index for every kernel whose
relative height does not reach below the window: if every occurrence cut away is at least `rel`
blocks below `h`, the rule gives the same answer. (`NRDRelativeHeight::MAX` is one week, the
window two.) -/
theorem windowed_decision_agrees (l : List CommitPos) (c h rel : Nat)
    (hfar : ∀ x ∈ l, x.pos ≤ c → x.height + rel ≤ h) :
    specNrdOk (l.takeWhile (fun p => decide (p.pos > c))) h rel = specNrdOk l h rel := by
  cases l with
  | nil => rfl
  | cons p t =>
    by_cases hp : p.pos > c
    · simp [hp, specNrdOk]
    · have := hfar p List.mem_cons_self (Nat.le_of_not_lt hp)
      have hn : ¬ satSub h p.height < rel := Nat.not_lt.mpr (Nat.le_sub_of_add_le' this)
      simp [hp, specNrdOk, hn]

/-- a rebuild over the last two of three blocks: the list is the incrementally built one cut at
the window -/
example :
    let old : List (Blk Nat) := [⟨1, 0, 1, [(⟨5, some 1⟩, 1)]⟩]
    let win : List (Blk Nat) := [⟨2, 1, 3, [(⟨5, some 1⟩, 2)]⟩, ⟨3, 3, 4, [(⟨5, some 1⟩, 4)]⟩]
    PathOK 0 (old ++ win) ∧
    ansUnit (applyBlocks ({} : KV Nat) (old ++ win)).res = .unit ∧
    abs (applyBlocks ({} : KV Nat) (old ++ win)).kv 5 = [⟨4, 3⟩, ⟨2, 2⟩, ⟨1, 1⟩] ∧
    abs (verifyKernelPosIndex (applyBlocks ({} : KV Nat) (old ++ win)).kv win).kv 5 = [⟨4, 3⟩, ⟨2, 2⟩] ∧
    endSize 0 old = 1 := by decide +kernel

/-- an error of `push_pos` / `pop_pos` / `pop_pos_back` leaves the store unchanged (the Rust
returns before its first write) -/
theorem push_error_unchanged (kv : KV ε) (e : ε) (p : CommitPos) (err : Err)
    (h : (pushPos kv e p).res = .error err) : (pushPos kv e p).kv = kv := by
  revert h
  unfold pushPos
  split
  · intro h; cases h
  · split
    · intro _; rfl              --   "pos must be increasing": returns before the write
    · intro h; cases h
  · split
    · intro _; rfl              --   "pos must be increasing"
    · split
      · intro h; cases h
      · intro _; rfl            --   head pointer does not name a `Head` record

theorem pop_error_unchanged (kv : KV ε) (e : ε) (err : Err)
    (h : (popPos kv e).res = .error err) : (popPos kv e).kv = kv := by
  revert h
  unfold popPos
  split
  · intro h; cases h
  · intro h; cases h
  · split
    · split
      · intro h; cases h
      · intro h; cases h
      · intro _; rfl            --     "next was unexpected"
      · intro _; rfl            --     "next missing"
    · intro _; rfl              --   "expected head to be head variant"

theorem popBack_error_unchanged (kv : KV ε) (e : ε) (err : Err)
    (h : (popPosBack kv e).res = .error err) : (popPosBack kv e).kv = kv := by
  revert h
  unfold popPosBack
  split
  · intro h; cases h
  · intro h; cases h
  · split
    · split
      · intro h; cases h
      · intro h; cases h
      · intro _; rfl            --     "prev was unexpected"
      · intro _; rfl            --     "prev missing"
    · intro _; rfl              --   "expected tail to be tail variant"

theorem push_error_iff (kv : KV ε) (e : ε) (p : CommitPos) (err : Err) :
    (pushPos kv e p).res = .error err ↔
      (err = .posNotIncreasing ∧
        ((∃ cur, kv.getList e = some (.single cur) ∧ p.pos ≤ cur.pos) ∨
         (∃ hd tl, kv.getList e = some (.multi hd tl) ∧ p.pos ≤ hd))) ∨
      (err = .headNotHead ∧ ∃ hd tl, kv.getList e = some (.multi hd tl) ∧ hd < p.pos ∧
        ∀ c n, kv.getEntry e hd ≠ some (.head c n)) := by
  constructor
  · intro h
    unfold pushPos at h
    split at h
    · cases h
    · next cur hl =>
      split at h
      · next hle => cases h; exact Or.inl ⟨rfl, Or.inl ⟨cur, hl, hle⟩⟩
      · cases h
    · next hd tl hl =>
      split at h
      · next hle => cases h; exact Or.inl ⟨rfl, Or.inr ⟨hd, tl, hl, hle⟩⟩
      · next hlt =>
        split at h
        · cases h
        · next hno => cases h; exact Or.inr ⟨rfl, hd, tl, hl, by omega, hno⟩
  · -- the catch-all arm of the `match` on the head record is selected by `hno`
    rintro (⟨rfl, ⟨cur, hl, hle⟩ | ⟨hd, tl, hl, hle⟩⟩ | ⟨rfl, hd, tl, hl, hlt, hno⟩)
    · simp only [pushPos, hl, hle, if_true]
    · simp only [pushPos, hl, hle, if_true]
    · have hnle : ¬ p.pos ≤ hd := by omega
      simp only [pushPos, hl, hnle, if_false]

/-- "pos must be increasing" iff the list record is `Single` / `Multi` and the new position is not
above the recorded one / the head pointer -/
theorem push_posNotIncreasing_iff (kv : KV ε) (e : ε) (p : CommitPos) :
    (pushPos kv e p).res = .error .posNotIncreasing ↔
      (∃ cur, kv.getList e = some (.single cur) ∧ p.pos ≤ cur.pos) ∨
      (∃ hd tl, kv.getList e = some (.multi hd tl) ∧ p.pos ≤ hd) := by
  rw [push_error_iff]
  constructor
  · rintro (⟨_, h⟩ | ⟨h, _⟩)
    · exact h
    · cases h
  · exact fun h => Or.inl ⟨rfl, h⟩

/-- "expected head to be head variant" iff the list record is `Multi`, the position is above the
head pointer and the head pointer does not name a `Head` record -/
theorem push_headNotHead_iff (kv : KV ε) (e : ε) (p : CommitPos) :
    (pushPos kv e p).res = .error .headNotHead ↔
      ∃ hd tl, kv.getList e = some (.multi hd tl) ∧ hd < p.pos ∧
        ∀ c n, kv.getEntry e hd ≠ some (.head c n) := by
  rw [push_error_iff]
  constructor
  · rintro (⟨h, _⟩ | ⟨_, h⟩)
    · cases h
    · exact h
  · exact fun h => Or.inr ⟨rfl, h⟩

theorem push_errors_only (kv : KV ε) (e : ε) (p : CommitPos) (err : Err)
    (h : (pushPos kv e p).res = .error err) : err = .posNotIncreasing ∨ err = .headNotHead :=
  ((push_error_iff kv e p err).mp h).imp And.left And.left

/-- the errors of `pop_pos`, each with its exact condition -/
theorem pop_error_iff (kv : KV ε) (e : ε) (err : Err) :
    (popPos kv e).res = .error err ↔
      ∃ hd tl, kv.getList e = some (.multi hd tl) ∧
        ((err = .headNotHead ∧ ∀ c n, kv.getEntry e hd ≠ some (.head c n)) ∨
         (∃ c n, kv.getEntry e hd = some (.head c n) ∧
            ((err = .nextMissing ∧ kv.getEntry e n = none) ∨
             (err = .nextUnexpected ∧ ∃ c' n', kv.getEntry e n = some (.head c' n'))))) := by
  constructor
  · intro h
    unfold popPos at h
    split at h
    · cases h
    · cases h
    · next hd tl hl =>
      refine ⟨hd, tl, hl, ?_⟩
      split at h
      · next c n hc =>
        refine Or.inr ⟨c, n, hc, ?_⟩
        split at h
        · cases h
        · cases h
        · next c' n' hn => cases h; exact Or.inr ⟨rfl, c', n', hn⟩
        · next hn => cases h; exact Or.inl ⟨rfl, hn⟩
      · next hno => cases h; exact Or.inl ⟨rfl, hno⟩
  · rintro ⟨hd, tl, hl, ⟨rfl, hno⟩ | ⟨c, n, hc, ⟨rfl, hn⟩ | ⟨rfl, c', n', hn⟩⟩⟩
    · simp only [popPos, hl]
    · simp only [popPos, hl, hc, hn]
    · simp only [popPos, hl, hc, hn]

/-- the errors of `pop_pos_back`, each with its exact condition -/
theorem popBack_error_iff (kv : KV ε) (e : ε) (err : Err) :
    (popPosBack kv e).res = .error err ↔
      ∃ tl, (∃ hd, kv.getList e = some (.multi hd tl)) ∧
        ((err = .tailNotTail ∧ ∀ c v, kv.getEntry e tl ≠ some (.tail c v)) ∨
         (∃ c v, kv.getEntry e tl = some (.tail c v) ∧
            ((err = .prevMissing ∧ kv.getEntry e v = none) ∨
             (err = .prevUnexpected ∧ ∃ c' v', kv.getEntry e v = some (.tail c' v'))))) := by
  constructor
  · intro h
    unfold popPosBack at h
    split at h
    · cases h
    · cases h
    · next hd tl hl =>
      refine ⟨tl, ⟨hd, hl⟩, ?_⟩
      split at h
      · next c v hc =>
        refine Or.inr ⟨c, v, hc, ?_⟩
        split at h
        · cases h
        · cases h
        · next c' v' hv => cases h; exact Or.inr ⟨rfl, c', v', hv⟩
        · next hv => cases h; exact Or.inl ⟨rfl, hv⟩
      · next hno => cases h; exact Or.inl ⟨rfl, hno⟩
  · rintro ⟨tl, ⟨hd, hl⟩, ⟨rfl, hno⟩ | ⟨c, v, hc, ⟨rfl, hv⟩ | ⟨rfl, c', v', hv⟩⟩⟩
    · simp only [popPosBack, hl]
    · simp only [popPosBack, hl, hc, hv]
    · simp only [popPosBack, hl, hc, hv]

/-- on a well-formed store none of the structural errors can occur: `peek_pos`, `pop_pos`,
`pop_pos_back`, `rewind`, the prune loop always succeed, and `push_pos` fails only with "pos must
be increasing", exactly when the position is not above the most recent one. -/
theorem inv_no_structural_errors {kv : KV ε} (h : Inv kv) (e : ε) :
    (∃ r, peekPos kv e = .ok r) ∧ (∃ r, (popPos kv e).res = .ok r) ∧
    (∃ r, (popPosBack kv e).res = .ok r) ∧ (∀ r, (rewind kv e r).res = .ok ()) ∧
    (∀ c, (pruneBack kv e c).res = .ok ()) ∧
    (∀ p, (pushPos kv e p).res = .ok () ∨
      ((pushPos kv e p).res = .error .posNotIncreasing ∧ specPushOk (abs kv e) p = false)) := by
  have hs := h.sim
  refine ⟨⟨_, peek_refines h e⟩, ⟨_, (popPos_repr (hs e)).res⟩, ⟨_, (popPosBack_repr (hs e)).res⟩,
    fun r => (rewind_repr r (hs e)).res, fun c => (pruneBack_repr c (hs e)).res, fun p => ?_⟩
  rw [(pushPos_sim hs e p).1, sPush]
  cases specPushOk (abs kv e) p with
  | true => exact Or.inl rfl
  | false => exact Or.inr ⟨rfl, rfl⟩

/-- the structural errors are reachable on malformed stores (so the characterisations above are
not vacuous), and `rewind` — a loop with `?` — can then fail *after* having modified the store:
its atomicity is the caller's dropped batch, not its own. -/
example :
    let bad1 : KV Nat := { lists := [(0, .multi 9 4)], entries := [] }
    let bad2 : KV Nat := { lists := [(0, .multi 9 4)],
                           entries := [((0, 9), .head ⟨9, 1⟩ 7), ((0, 7), .middle ⟨7, 1⟩ 5 9)] }
    ansPos (peekPos bad1 0) = .err .headNotHead ∧ ansUnit (pushPos bad1 0 ⟨10, 1⟩).res = .err .headNotHead ∧
    ansPos (popPos bad1 0).res = .err .headNotHead ∧ ansPos (popPosBack bad1 0).res = .err .tailNotTail ∧
    ansUnit (rewind bad2 0 0).res = .err .nextMissing ∧ (rewind bad2 0 0).kv.getEntry 0 9 = none ∧
    bad2.getEntry 0 9 ≠ none ∧ ¬ Inv bad1 := by
  refine ⟨by decide, by decide, by decide, by decide, by decide, by decide, by decide, fun h => ?_⟩
  -- a well-formed store answers `peek_pos`
  cases peek_refines h 0

/-- applying a block keeps the chain model's `UState.nrd` (one list for the path, searched by
`find?`) and the index specification in step: same height of the most recent occurrence of every
excess. -/
theorem chain_spec_tracks_index {s : Chain.UState} {S S' : Spec String} {cb : Chain.Blk}
    {ib : Blk String} (h : SameRecent s.nrd S) (hm : Matches cb ib)
    (hok : sApplyBlock S ib = ⟨S', .ok ()⟩) : SameRecent (Chain.effects s cb).nrd S' :=
  h.effects hm hok

/-- … along whole paths, for the chain model's own `replay` -/
theorem replay_tracks_index (p : Chain.Params) (cbs : List Chain.Blk) (ibs : List (Blk String))
    (hm : PathMatches cbs ibs) (s0 s1 : Chain.UState) (S0 S1 : Spec String)
    (h0 : SameRecent s0.nrd S0) (hr : Chain.replay p s0 cbs = .ok s1)
    (hi : sApplyBlocks S0 ibs = ⟨S1, .ok ()⟩) : SameRecent s1.nrd S1 := by
  induction hm generalizing s0 S0 with
  | nil =>
    cases hr
    cases hi
    exact h0
  | @cons cb ib cbs' ibs' hmb _ ih =>
    obtain ⟨S', g1, g2⟩ := sApplyBlocks_cons_ok hi
    obtain ⟨s', h1, hr⟩ := Chain.replay_cons_ok hr
    exact ih _ _ (Chain.applyBlock_effects h1 ▸ h0.effects hmb g1) hr g2

/-- **the index takes the chain model's decision.**  State of the chain model `s` and index
specification `S` in step; a block whose NRD excesses are pairwise distinct (enforced before the
index is consulted: `TransactionBody::verify_no_nrd_duplicates`), whose kernel positions lie above
everything recorded (kernel MMR positions grow) and whose height is not below recorded heights:
the index's sequential peek / check / push loop accepts the block iff `Chain.nrdBad s cb = false`. -/
theorem chain_nrdBad_iff_index {s : Chain.UState} {S : Spec String} {cb : Chain.Blk} {ib : Blk String}
    (h : SameRecent s.nrd S) (hm : Matches cb ib)
    (hnd : ((nrdOfChain cb).map (·.1)).Nodup)
    (hpos : ∀ kp ∈ ib.kernels, kp.1.nrd.isSome → ∀ x ∈ S kp.1.excess, x.pos < kp.2)
    (hh : ∀ ex, ∀ x ∈ S ex, x.height ≤ cb.h) :
    (sApplyBlock S ib).res = .ok () ↔ Chain.nrdBad s cb = false := by
  unfold sApplyBlock
  rw [sApplyKernels_ok_iff ib.height ib.kernels S (by rw [hm.kernels]; exact hnd) hpos,
    nrdBad_eq, List.any_eq_false, hm.kernels, hm.height]
  refine forall₂_congr fun er _ => ?_
  -- both sides read the height of the most recent occurrence of `er.1`, which `h` equates
  have hsr := h er.1
  cases hl : S er.1 with
  | nil =>
    rw [hl] at hsr
    cases hf : s.nrd.find? (·.1 == er.1) with
    | none => simp [specNrdOk]
    | some a => rw [hf] at hsr; cases hsr
  | cons q t =>
    rw [hl] at hsr
    have hq := hh er.1 q (by rw [hl]; exact List.mem_cons_self)
    cases hf : s.nrd.find? (·.1 == er.1) with
    | none => rw [hf] at hsr; cases hsr
    | some a =>
      rw [hf] at hsr
      have ha : a.2 = q.height := Option.some.inj hsr
      have e : satSub cb.h q.height < er.2 ↔ cb.h < a.2 + er.2 := by
        rw [ha]; exact Nat.sub_lt_iff_lt_add' hq
      simp [specNrdOk, e]

/-- the same for the store: the real index, in any state reached by any history in which it
represents the lists `S`, accepts the block iff the chain model's path search does. -/
theorem index_decides_as_chain_spec {kv : KV String} (hI : Inv kv) {s : Chain.UState} {cb : Chain.Blk}
    {ib : Blk String} (h : SameRecent s.nrd (abs kv)) (hm : Matches cb ib)
    (hnd : ((nrdOfChain cb).map (·.1)).Nodup)
    (hpos : ∀ kp ∈ ib.kernels, kp.1.nrd.isSome → ∀ x ∈ abs kv kp.1.excess, x.pos < kp.2)
    (hh : ∀ ex, ∀ x ∈ abs kv ex, x.height ≤ cb.h) :
    (applyBlock kv ib).res = .ok () ↔ Chain.nrdBad s cb = false := by
  rw [(applyBlock_sim ib hI.sim).1]
  exact chain_nrdBad_iff_index h hm hnd hpos hh

/-- hypotheses of `chain_nrdBad_iff_index` are satisfiable and both answers occur: the excess
"aa" seen at height 4; a block at height 6 with relative height 3 is refused by both, with
relative height 2 accepted by both. -/
example :
    let s : Chain.UState := { nrd := [("aa", 4)] }
    let S : Spec String := fun e => if e = "aa" then [⟨7, 4⟩] else []
    let cb3 : Chain.Blk := ⟨9, some 8, 6, 1, 4, 0, [], [], [.cb, .nrd 1 3 "aa"], []⟩
    let cb2 : Chain.Blk := ⟨9, some 8, 6, 1, 4, 0, [], [], [.cb, .nrd 1 2 "aa"], []⟩
    let ib3 : Blk String := ⟨6, 8, 11, [(⟨"cc", none⟩, 9), (⟨"aa", some 3⟩, 10)]⟩
    let ib2 : Blk String := ⟨6, 8, 11, [(⟨"cc", none⟩, 9), (⟨"aa", some 2⟩, 10)]⟩
    Chain.nrdBad s cb3 = true ∧ ansUnit (sApplyBlock S ib3).res = .err .nrdRelativeHeight ∧
    Chain.nrdBad s cb2 = false ∧ ansUnit (sApplyBlock S ib2).res = .unit ∧
    nrdOfIdx ib3.kernels = nrdOfChain cb3 ∧ nrdOfIdx ib2.kernels = nrdOfChain cb2 := by decide +kernel

end GV.Props.C13Nrd
