import GrinVerif.Gen.PipeShapePool
import GrinVerif.Lemmas.XlateShape
/-! # Obligations about the validation pipelines (Pool), stated over the REGENERATED shape tables

`Gen/PipeShapePool.lean` is rewritten on every check run from the current Rust source by tools/gen_pipeshape.py.
What the obligations about a function say is described in `Lemmas/XlateShape.lean`.  Every observable filters the
steps of the table on their kind, so an obligation holds by `rfl` exactly when the current source still has the
reviewed value; a `_propagated` with discarded calls also looks them up in `watch` (`XlateShape.unwatched`: a
discarded call with a new name needs a conjunct there before this file is regenerated).  They do not mention
arguments or local names (the exact pins in `Props/XlateShapePoolPins.lean` do).  After a REVIEWED change
regenerate with `python3 tools/gen_pipeshape.py --obligations Pool`; the ties to the hand models are in
`Props/XlateShapeModel2.lean` and `Props/C14Shape.lean`. -/
namespace GV.Props.XlateShapePool
open GV.Gen.PipeShape GV.Props.XlateShape

/-! ### `TransactionPool::add_to_pool (pool/src/transaction_pool.rs)` -/
theorem tpool_add_to_pool_order : readOk tpool_add_to_pool = true ∧ spine tpool_add_to_pool =
    ["add_to_pool", "DuplicateTx", "deaggregate_tx", "verify_kernel_variants", "acceptability", "validate", "verify_tx_lock_height", "all_transactions_aggregate", "<if>", "is_coinbase", "verify_coinbase_maturity", "convert_tx_v2", "add_to_stempool", "add_to_txpool"] := ⟨rfl, rfl⟩
theorem tpool_add_to_pool_propagated : discarded watch tpool_add_to_pool = [] ∧ calls tpool_add_to_pool = ["add_to_reorg_cache", "tx_accepted", "evict_from_txpool"] :=
  propagated rfl (by simp only [filter_watch_cons, unwatched, List.filter_nil])
theorem tpool_add_to_pool_early_ok : earlyOks tpool_add_to_pool = [["$2", "self.adapter.stem_tx_accepted($13).is_ok()"]]
    ∧ spineBeforeFirstEarlyOk tpool_add_to_pool = ["add_to_pool", "DuplicateTx", "deaggregate_tx", "verify_kernel_variants", "acceptability", "validate", "verify_tx_lock_height", "all_transactions_aggregate", "<if>", "is_coinbase", "verify_coinbase_maturity", "convert_tx_v2", "add_to_stempool"] := ⟨rfl, rfl⟩
theorem tpool_add_to_pool_errors : fails tpool_add_to_pool = [("DuplicateTx", "self.txpool.contains_tx(&$1)")]
    ∧ mapped tpool_add_to_pool = [("validate", "InvalidTx")] := ⟨rfl, rfl⟩
theorem tpool_add_to_pool_depth : depths tpool_add_to_pool = [1, 2, 1, 0, 2, 0, 0, 1, 0, 1, 0, 0, 1, 0] := by rfl
theorem tpool_add_to_pool_guard_inputs : guardInputs tpool_add_to_pool = ["<if>", "tx", "is_acceptable", "<boollit>", "<boollit>", "<if>", "convert_tx_v2"] := by rfl

/-! ### `TransactionPool::add_to_stempool (pool/src/transaction_pool.rs)` -/
theorem tpool_add_to_stempool_order : readOk tpool_add_to_stempool = true ∧ spine tpool_add_to_stempool =
    ["add_to_pool"] := ⟨rfl, rfl⟩
theorem tpool_add_to_stempool_propagated : discarded watch tpool_add_to_stempool = [] ∧ calls tpool_add_to_stempool = [] := propagated rfl rfl
theorem tpool_add_to_stempool_early_ok : earlyOks tpool_add_to_stempool = [] := by rfl
theorem tpool_add_to_stempool_errors : fails tpool_add_to_stempool = []
    ∧ mapped tpool_add_to_stempool = [] := ⟨rfl, rfl⟩
theorem tpool_add_to_stempool_depth : depths tpool_add_to_stempool = [0] := by rfl
theorem tpool_add_to_stempool_guard_inputs : guardInputs tpool_add_to_stempool = [] := by rfl

/-! ### `TransactionPool::add_to_txpool (pool/src/transaction_pool.rs)` -/
theorem tpool_add_to_txpool_order : readOk tpool_add_to_txpool = true ∧ spine tpool_add_to_txpool =
    ["add_to_pool", "all_transactions_aggregate", "reconcile"] := ⟨rfl, rfl⟩
theorem tpool_add_to_txpool_propagated : discarded watch tpool_add_to_txpool = [] ∧ calls tpool_add_to_txpool = [] := propagated rfl rfl
theorem tpool_add_to_txpool_early_ok : earlyOks tpool_add_to_txpool = [] := by rfl
theorem tpool_add_to_txpool_errors : fails tpool_add_to_txpool = []
    ∧ mapped tpool_add_to_txpool = [] := ⟨rfl, rfl⟩
theorem tpool_add_to_txpool_depth : depths tpool_add_to_txpool = [0, 0, 0] := by rfl
theorem tpool_add_to_txpool_guard_inputs : guardInputs tpool_add_to_txpool = [] := by rfl

/-! ### `TransactionPool::verify_kernel_variants (pool/src/transaction_pool.rs)` -/
theorem tpool_verify_kernel_variants_order : readOk tpool_verify_kernel_variants = true ∧ spine tpool_verify_kernel_variants =
    ["is_nrd", "NRDKernelNotEnabled", "NRDKernelPreHF3"] := ⟨rfl, rfl⟩
theorem tpool_verify_kernel_variants_propagated : discarded watch tpool_verify_kernel_variants = [] ∧ calls tpool_verify_kernel_variants = [] := propagated rfl rfl
theorem tpool_verify_kernel_variants_early_ok : earlyOks tpool_verify_kernel_variants = [] := by rfl
theorem tpool_verify_kernel_variants_errors : fails tpool_verify_kernel_variants = [("NRDKernelNotEnabled", "!(global::is_nrd_enabled())"), ("NRDKernelPreHF3", "($1.version < HeaderVersion(4))")]
    ∧ mapped tpool_verify_kernel_variants = [] := ⟨rfl, rfl⟩
theorem tpool_verify_kernel_variants_depth : depths tpool_verify_kernel_variants = [1, 2, 2] := by rfl
theorem tpool_verify_kernel_variants_guard_inputs : guardInputs tpool_verify_kernel_variants = [] := by rfl

/-! ### `TransactionPool::reconcile_block (pool/src/transaction_pool.rs)` -/
theorem tpool_reconcile_block_order : readOk tpool_reconcile_block = true ∧ spine tpool_reconcile_block =
    ["reconcile", "all_transactions_aggregate", "reconcile"] := ⟨rfl, rfl⟩
theorem tpool_reconcile_block_propagated : discarded watch tpool_reconcile_block = [] ∧ calls tpool_reconcile_block = ["reconcile_block", "reconcile_block"] :=
  propagated rfl (by simp only [filter_watch_cons, unwatched, List.filter_nil])
theorem tpool_reconcile_block_early_ok : earlyOks tpool_reconcile_block = [] := by rfl
theorem tpool_reconcile_block_errors : fails tpool_reconcile_block = []
    ∧ mapped tpool_reconcile_block = [] := ⟨rfl, rfl⟩
theorem tpool_reconcile_block_depth : depths tpool_reconcile_block = [0, 0, 0] := by rfl
theorem tpool_reconcile_block_guard_inputs : guardInputs tpool_reconcile_block = [] := by rfl

/-! ### `TransactionPool::evict_from_txpool (pool/src/transaction_pool.rs)` -/
theorem tpool_evict_from_txpool_order : readOk tpool_evict_from_txpool = true ∧ spine tpool_evict_from_txpool =
    ["evict_transaction"] := ⟨rfl, rfl⟩
theorem tpool_evict_from_txpool_propagated : discarded watch tpool_evict_from_txpool = [] ∧ calls tpool_evict_from_txpool = [] := propagated rfl rfl
theorem tpool_evict_from_txpool_early_ok : earlyOks tpool_evict_from_txpool = [] := by rfl
theorem tpool_evict_from_txpool_errors : fails tpool_evict_from_txpool = []
    ∧ mapped tpool_evict_from_txpool = [] := ⟨rfl, rfl⟩
theorem tpool_evict_from_txpool_depth : depths tpool_evict_from_txpool = [0] := by rfl
theorem tpool_evict_from_txpool_guard_inputs : guardInputs tpool_evict_from_txpool = [] := by rfl

/-! ### `Pool::add_to_pool (pool/src/pool.rs)` -/
theorem pool_add_to_pool_order : readOk pool_add_to_pool = true ∧ spine pool_add_to_pool =
    ["DuplicateTx", "aggregate", "validate_raw_tx"] := ⟨rfl, rfl⟩
theorem pool_add_to_pool_propagated : discarded watch pool_add_to_pool = [] ∧ calls pool_add_to_pool = ["extend", "push", "log_pool_add", "push"] :=
  propagated rfl (by simp only [filter_watch_cons, unwatched, List.filter_nil])
theorem pool_add_to_pool_early_ok : earlyOks pool_add_to_pool = [] := by rfl
theorem pool_add_to_pool_errors : fails pool_add_to_pool = [("DuplicateTx", "$3.contains(&$0.tx)")]
    ∧ mapped pool_add_to_pool = [] := ⟨rfl, rfl⟩
theorem pool_add_to_pool_depth : depths pool_add_to_pool = [1, 1, 0] := by rfl
theorem pool_add_to_pool_guard_inputs : guardInputs pool_add_to_pool = ["all_transactions"] := by rfl

/-! ### `Pool::validate_raw_tx (pool/src/pool.rs)` -/
theorem pool_validate_raw_tx_order : readOk pool_validate_raw_tx = true ∧ spine pool_validate_raw_tx =
    ["validate", "validate_tx", "apply_tx_to_block_sums"] := ⟨rfl, rfl⟩
theorem pool_validate_raw_tx_propagated : discarded watch pool_validate_raw_tx = [] ∧ calls pool_validate_raw_tx = [] := propagated rfl rfl
theorem pool_validate_raw_tx_early_ok : earlyOks pool_validate_raw_tx = [] := by rfl
theorem pool_validate_raw_tx_errors : fails pool_validate_raw_tx = []
    ∧ mapped pool_validate_raw_tx = [] := ⟨rfl, rfl⟩
theorem pool_validate_raw_tx_depth : depths pool_validate_raw_tx = [0, 0, 0] := by rfl
theorem pool_validate_raw_tx_guard_inputs : guardInputs pool_validate_raw_tx = [] := by rfl

/-! ### `Pool::validate_raw_txs (pool/src/pool.rs)` -/
theorem pool_validate_raw_txs_order : readOk pool_validate_raw_txs = true ∧ spine pool_validate_raw_txs =
    [] := ⟨rfl, rfl⟩
theorem pool_validate_raw_txs_propagated : discarded watch pool_validate_raw_txs = [] ∧ calls pool_validate_raw_txs = ["push", "extend", "push", "push"] :=
  propagated rfl (by simp only [filter_watch_cons, unwatched, List.filter_nil])
theorem pool_validate_raw_txs_early_ok : earlyOks pool_validate_raw_txs = [] := by rfl
theorem pool_validate_raw_txs_errors : fails pool_validate_raw_txs = []
    ∧ mapped pool_validate_raw_txs = [] := ⟨rfl, rfl⟩
theorem pool_validate_raw_txs_depth : depths pool_validate_raw_txs = [] := by rfl
theorem pool_validate_raw_txs_guard_inputs : guardInputs pool_validate_raw_txs = ["<match>"] := by rfl

/-! ### `Pool::reconcile (pool/src/pool.rs)` -/
theorem pool_reconcile_order : readOk pool_reconcile = true ∧ spine pool_reconcile =
    [] := ⟨rfl, rfl⟩
/-- REVIEWED: the result of `add_to_pool` is deliberately ignored here -/
theorem pool_reconcile_propagated : discarded watch pool_reconcile = ["add_to_pool"] ∧ calls pool_reconcile = ["clear", "add_to_pool"] :=
  propagated rfl (by simp only [filter_watch_cons, List.filter_cons_of_pos, unwatched, List.filter_nil])
theorem pool_reconcile_early_ok : earlyOks pool_reconcile = [] := by rfl
theorem pool_reconcile_errors : fails pool_reconcile = []
    ∧ mapped pool_reconcile = [] := ⟨rfl, rfl⟩
theorem pool_reconcile_depth : depths pool_reconcile = [] := by rfl
theorem pool_reconcile_guard_inputs : guardInputs pool_reconcile = ["entries"] := by rfl

/-! ### `Pool::find_matching_transactions (pool/src/pool.rs)` -/
theorem pool_find_matching_transactions_order : readOk pool_find_matching_transactions = true ∧ spine pool_find_matching_transactions =
    ["found_txs"] := ⟨rfl, rfl⟩
theorem pool_find_matching_transactions_propagated : discarded watch pool_find_matching_transactions = [] ∧ calls pool_find_matching_transactions = ["push"] :=
  propagated rfl (by simp only [filter_watch_cons, unwatched, List.filter_nil])
theorem pool_find_matching_transactions_early_ok : earlyOks pool_find_matching_transactions = [] := by rfl
theorem pool_find_matching_transactions_errors : fails pool_find_matching_transactions = []
    ∧ mapped pool_find_matching_transactions = [] := ⟨rfl, rfl⟩
theorem pool_find_matching_transactions_depth : depths pool_find_matching_transactions = [0] := by rfl
theorem pool_find_matching_transactions_guard_inputs : guardInputs pool_find_matching_transactions = ["kernels", "kernels"] := by rfl

end GV.Props.XlateShapePool
