import GrinVerif.Lemmas.KvProg
/-! C18: the refinement for the FULL operation alphabet of `store/src/lmdb.rs`, arbitrary operation
sequences (not only well-nested batch bodies): `Store::batch` (`begin`), `Batch::put / put_ser /
delete`, `Batch::child`, `Batch::commit`, dropping a batch – and every read: `Batch::get_ser`,
`Batch::exists`, `Batch::iter`, `Store::get_ser`, `Store::exists`, `Store::iter`.

Specification (`Spec`): the committed database is a mathematical map `Key → Option Val`; every open
(nested) transaction has a map of its own – `begin` / `child` copy the enclosing map, a write is a
point update of the innermost one, a child's `commit` replaces the parent's map by the child's, the
outermost `commit` replaces the database, a drop forgets the innermost map.  No overlays, no
stacks of pending writes, no sorted tables.

`abs` maps the model state (sorted committed table + stack of overlays, `Model/Kv.lean`) to a
`Spec`; `refines_step` / `refines_run`: every operation commutes with `abs`; `reads_refine`: every
read of the model is the read of the specification.  An iterator is the LIST it yields, a function
of the state at its creation (`Store::iter` holds a read transaction; `Batch::iter` borrows the
batch, so the batch cannot be written while the iterator lives):
`store_iterator_unaffected_by_open_batches`. -/
namespace GV.Props.C18Full
open GV GV.Kv

/-- the sequential specification -/
structure Spec where
  committed : Map
  /-- the maps of the open transactions, innermost first -/
  views : List Map

def specStep (s : Spec) : Op → Spec
  | .begin => match s.views with
    | [] => { s with views := [s.committed] }
    | _ => s
  | .put k v => match s.views with
    | m :: r => { s with views := writeF (k, some v) m :: r }
    | [] => s
  | .del k => match s.views with
    | m :: r => { s with views := writeF (k, none) m :: r }
    | [] => s
  | .child => match s.views with
    | m :: r => { s with views := m :: m :: r }
    | [] => s
  | .commit => match s.views with
    | [] => s
    | [m] => { committed := m, views := [] }
    | c :: _ :: r => { s with views := c :: r }
  | .drop => match s.views with
    | [] => s
    | _ :: r => { s with views := r }

/-- what a read inside the innermost open batch sees (outside any batch: the database) -/
def Spec.cur (s : Spec) : Map :=
  match s.views with
  | m :: _ => m
  | [] => s.committed

def absViews : List Ov → Map → List Map
  | [], _ => []
  | o :: r, base => ovF (o :: r).flatten base :: absViews r base

/-- the abstraction function -/
def abs (st : St) : Spec :=
  { committed := den st.committed, views := absViews st.stack (den st.committed) }

theorem abs_cur (st : St) : (abs st).cur = ovF st.stack.flatten (den st.committed) := by
  unfold abs Spec.cur
  cases h : st.stack with
  | nil => simp [absViews, ovF]
  | cons o r => simp [absViews]

/-- every operation of the alphabet commutes with the abstraction -/
theorem refines_step (st : St) (op : Op) : abs (step st op) = specStep (abs st) op := by
  obtain ⟨t, stack⟩ := st
  cases op with
  | commit =>
    match stack with
    | [] => rfl
    | [o] =>
      show (⟨den (applyOv o t), []⟩ : Spec) = ⟨ovF ([o].flatten) (den t), []⟩
      rw [den_applyOv, List.flatten_cons, List.flatten_nil, List.append_nil]
    | o :: p :: s =>
      show (⟨den t, absViews ((o ++ p) :: s) (den t)⟩ : Spec) = ⟨den t, ovF (o :: p :: s).flatten (den t) :: absViews s (den t)⟩
      rw [absViews, List.flatten_cons, List.flatten_cons, List.flatten_cons, List.append_assoc]
  | _ => cases stack <;> rfl

theorem refines_run (ops : List Op) : ∀ st : St, abs (run st ops) = ops.foldl specStep (abs st) :=
  fun _ => (List.foldl_hom abs (g₁ := step) (fun st op => (refines_step st op).symm)).symm

/-- In every state the six reads answer what the specification answers -
`get` / `exists` through the innermost batch read its map, through the store the database; the
iterators list exactly the pairs of database `db` of that map, in strictly increasing byte order of
the keys (each key once), through the paging of `DatabaseIterator` -/
theorem reads_refine (st : St) (h : Sorted st.committed) :
    (∀ k, bget st k = (abs st).cur k) ∧
    (∀ k, bexists st k = ((abs st).cur k).isSome) ∧
    (∀ k, sget st k = (abs st).committed k) ∧
    (∀ k, sexists st k = ((abs st).committed k).isSome) ∧
    (∀ db, (∀ kb v, (kb, v) ∈ biter st db ↔ (abs st).cur (db, kb) = some v) ∧
      (biter st db).Pairwise (fun a b => bytesLt a.1 b.1 = true)) ∧
    (∀ db, (∀ kb v, (kb, v) ∈ siter st db ↔ (abs st).committed (db, kb) = some v) ∧
      (siter st db).Pairwise (fun a b => bytesLt a.1 b.1 = true)) := by
  have hb : ∀ k, bget st k = (abs st).cur k := by
    intro k
    rw [abs_cur, ← bget_eq_ovF]
  refine ⟨hb, fun k => by unfold bexists; rw [hb], fun _ => rfl, fun _ => rfl, ?_, ?_⟩
  · exact fun db => ⟨fun kb v => by rw [← hb]; exact (biter_correct st h db).1 kb v, (biter_correct st h db).2⟩
  · exact fun db => siter_correct st h db

/-- From the empty store, after ANY operation sequence every read is
the specification's read of the state the specification reaches by the same sequence -/
theorem full_alphabet_refinement (ops : List Op) :
    let st := run {} ops
    let s := ops.foldl specStep { committed := fun _ => none, views := [] }
    (∀ k, bget st k = s.cur k) ∧ (∀ k, sget st k = s.committed k) ∧
    (∀ db kb v, (kb, v) ∈ biter st db ↔ s.cur (db, kb) = some v) ∧
    (∀ db kb v, (kb, v) ∈ siter st db ↔ s.committed (db, kb) = some v) := by
  intro st s
  have hs : abs st = s := by
    show abs (run {} ops) = _
    rw [refines_run]
    rfl
  have hsorted : Sorted st.committed := sorted_run ops {} sorted_nil
  obtain ⟨r1, _, r3, _, r5, r6⟩ := reads_refine st hsorted
  rw [hs] at r1 r3 r5 r6
  exact ⟨r1, r3, fun db kb v => (r5 db).1 kb v, fun db kb v => (r6 db).1 kb v⟩

/-- A store-level iterator created at ANY later point
of an operation sequence that contains no outermost commit - in the middle of an open batch, after
child commits, after drops - yields the list it would have yielded before the sequence: writes are
invisible to `Store::iter` until the outermost commit.  (An iterator that already exists is the
list it was created with; `Store::iter` holds a read transaction, `Batch::iter` borrows the batch
so no write can happen while it lives.  The harness holds real iterators across later commits of
other batches and compares them with the list at creation: sampled.) -/
theorem store_iterator_unaffected_by_open_batches (st : St) (db : Nat) (later : List Op)
    (h : NoOuterCommit st later) : siter (run st later) db = siter st db :=
  congrFun (storeReads_congr (run_committed later st h)).2.2 db

/-- `delete` then `get` in one batch: gone; `put`, `delete`, `put`: the last value; the same through
a committed child; a dropped child leaves the parent's value; a parent dropped after its child
committed leaves the database as it was -/
theorem write_sequences (k : Key) (v w : Val) (t : Tbl) (h : Sorted t) :
    bget (run ⟨t, []⟩ [.begin, .put k v, .del k]) k = none ∧
    bget (run ⟨t, []⟩ [.begin, .put k v, .del k, .put k w]) k = some w ∧
    bget (run ⟨t, []⟩ [.begin, .put k v, .child, .del k, .commit]) k = none ∧
    bget (run ⟨t, []⟩ [.begin, .put k v, .child, .del k, .drop]) k = some v ∧
    sget (run ⟨t, []⟩ [.begin, .put k v, .child, .put k w, .commit, .drop]) k = tget t k ∧
    sget (run ⟨t, []⟩ [.begin, .put k v, .child, .put k w, .commit, .commit]) k = some w := by
  -- each run is a closed computation on the stack of overlays; what is left is a lookup of `k`
  have hg : ∀ (r : Option Val) (o : Ov) (s : List Ov), bget ⟨t, ((k, r) :: o) :: s⟩ k = r := by
    intro r o s
    simp only [bget, List.flatten_cons, List.cons_append, ovGet, if_true]
  refine ⟨hg _ _ _, hg _ _ _, hg _ _ _, hg _ _ _, rfl, ?_⟩
  show tget (tput k w (tput k v t)) k = some w
  rw [tget_tput, if_pos rfl]

end GV.Props.C18Full
