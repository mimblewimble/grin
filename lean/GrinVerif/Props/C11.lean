import GrinVerif.Lemmas.MsgBound
import GrinVerif.Lemmas.DecSerEraseMsg
import GrinVerif.Lemmas.MsgHeader
/-! # C11 — decoding untrusted bytes never panics, aborts, hangs or over-allocates

For every instrumented decoder `D` of `Model/Dec.lean` / `Model/Msg.lean` (transliterations of the
Rust `Readable::read` bodies with every pre-sizing allocation and every release-mode panic site
explicit):

* `D_no_panic      : ∀ bytes, (D bytes).isPanic = false`
* `D_alloc_bound   : ∀ bytes, (D bytes).alloc ≤ c * bytes.length + k`   (explicit `c`, `k`)
* progress: a loop driven by an announced count produces at most as many items as it consumed bytes
  (`readN_progress`), so no announced count makes a decoder spin on an exhausted input.

All decoders are total Lean functions by structural recursion, so "yields a value or an error" is
by construction once `no_panic` holds.  Both `Reader` implementations that see untrusted bytes
(`rd = .bin`: `ser::deserialize`; `rd = .buf`: the codec's `BufReader`) and every protocol version
(the native p2p bodies do not consult it) are covered by the quantifiers.

For `MerkleProof::read`, `MerkleProof::from_hex` and `util::from_hex` the models follow the code after
/repo 28eb6068d, 96c08899a, 67ed6aa33; the code before those commits is kept as `merkleProofUnrepaired` /
`hexLoop` without its guard, with the inputs on which the property failed (regression probes of the harness).

The codec state machine's own panic sites (`msg_len - 2`, `*items_left -= 1`, `*left -= next_len`,
`assert!(state.is_none())`) and its per-read allocation bound are in `Props/C19.lean`
(`codec_read_no_panic`, `codec_read_alloc_bound`), stated there because they need the codec model. -/
namespace GV.Props.C11
open GV GV.Ser GV.Dec GV.Msg GV.DecSer

theorem msgHeader_no_panic (c : NetCfg) (bytes : Bytes) : (decHeader c bytes).isPanic = false :=
  noPanic_decHeader c bytes

/-- `MsgHeaderWrapper::read` allocates nothing (11 bytes are read through `read_u8`/`read_u64`) -/
theorem msgHeader_alloc_bound (c : NetCfg) (bytes : Bytes) : (decHeader c bytes).alloc ≤ 1 * bytes.length + 0 := by
  rw [decHeader_alloc]; exact Nat.zero_le _

example : decHeader netMainnet [97, 61, 3, 0, 0, 0, 0, 0, 0, 0, 16] = .ok (.known 3 16) [] 0 := by decide

/-! ## handshake bodies (`BinReader`, `msg::read_body`) and `PeerAddr` -/

theorem peerAddr_no_panic (rd : Rdr) (bytes : Bytes) : (decPeerAddr rd bytes).isPanic = false :=
  (erases_decPeerAddr rd).noPanic bytes
theorem peerAddr_alloc_bound (rd : Rdr) (bytes : Bytes) : (decPeerAddr rd bytes).alloc ≤ 1 * bytes.length + 4 :=
  (bnd_decPeerAddr rd).alloc_le bytes

theorem hand_no_panic (rd : Rdr) (bytes : Bytes) : (decHand rd bytes).isPanic = false :=
  (erases_decHand rd).noPanic bytes
/-- the additive constant is the `read_fixed_bytes` cap: a `BinReader` allocates the announced
user-agent length (≤ 100 000) before it finds the input too short -/
theorem hand_alloc_bound (rd : Rdr) (bytes : Bytes) : (decHand rd bytes).alloc ≤ 1 * bytes.length + 100000 :=
  (bnd_decHand rd).alloc_le bytes

theorem shake_no_panic (rd : Rdr) (bytes : Bytes) : (decShake rd bytes).isPanic = false :=
  (erases_decShake rd).noPanic bytes
theorem shake_alloc_bound (rd : Rdr) (bytes : Bytes) : (decShake rd bytes).alloc ≤ 1 * bytes.length + 100000 :=
  (bnd_decShake rd).alloc_le bytes

theorem peerError_no_panic (rd : Rdr) (bytes : Bytes) : (decPeerError rd bytes).isPanic = false :=
  (erases_decPeerError rd).noPanic bytes
theorem peerError_alloc_bound (rd : Rdr) (bytes : Bytes) : (decPeerError rd bytes).alloc ≤ 1 * bytes.length + 100000 :=
  (bnd_decPeerError rd).alloc_le bytes

/-! ## every body `decode_message` dispatches (`p2p/src/codec.rs`), for every type byte -/

/-- no arm of `decode_message` panics, provided the payload decoders of the other domains
(`Transaction`, `UntrustedBlock`, … — parameter `pl`) do not -/
theorem body_no_panic {P : Type} (pl : Payload P) (hpl : ∀ t bytes, (pl t bytes).isPanic = false)
    (rd : Rdr) (t : Nat) (bytes : Bytes) : (decBody pl rd t bytes).isPanic = false :=
  decBody_cases (fun p _ => NoPanic p) pl pl rd rd t erases_body_pingPong.noPanic
    (fun _ => noPanic_decBanReason rd) (erases_body_hash rd).noPanic (erases_body_locator rd).noPanic
    erases_body_getPeerAddrs.noPanic (erases_body_peerAddrs rd).noPanic
    (erases_body_txHashSetRequest rd).noPanic (erases_body_txHashSetArchive rd).noPanic
    (erases_body_segmentRequest rd).noPanic
    (NoPanic.map (hpl t) Body.payload) bytes

/-- allocation of the native bodies: at most the input length plus the largest capped
pre-allocation (`PeerAddrs`: 256 socket addresses = 8192 bytes) plus one failed 32-byte read -/
theorem body_alloc_bound {P : Type} (pl : Payload P) (k e : Nat) (hk : 8192 ≤ k) (he : 32 ≤ e)
    (hpl : ∀ t, Bnd 1 k e (pl t)) (rd : Rdr) (t : Nat) (bytes : Bytes) :
    (decBody pl rd t bytes).alloc ≤ 1 * bytes.length + (k + e) :=
  (bnd_decBody pl rd 1 k e (Nat.le_refl 1) hk he hpl t).alloc_le bytes

/-- instance with no payload types at all: the native bodies alone -/
theorem nativeBody_alloc_bound (rd : Rdr) (t : Nat) (bytes : Bytes) :
    (decBody (P := Unit) (fun _ _ => .err .corrupted 0) rd t bytes).alloc ≤ 1 * bytes.length + 8224 :=
  body_alloc_bound _ 8192 32 (Nat.le_refl _) (Nat.le_refl _)
    (fun _ => Bnd.err) rd t bytes

theorem locator_no_panic (rd : Rdr) (bytes : Bytes) : (decLocator (P := Unit) rd bytes).isPanic = false :=
  (erases_body_locator rd).noPanic bytes
/-- 672 = 640 (the pre-allocated `Vec<Hash>`: 20 · 32) + 32 (one failed hash read) -/
theorem locator_alloc_bound (rd : Rdr) (bytes : Bytes) :
    (decLocator (P := Unit) rd bytes).alloc ≤ 1 * bytes.length + 672 :=
  (bnd_decLocator rd).alloc_le bytes
theorem peerAddrs_no_panic (rd : Rdr) (bytes : Bytes) : (decPeerAddrs (P := Unit) rd bytes).isPanic = false :=
  (erases_body_peerAddrs rd).noPanic bytes
/-- 8196 = 8192 (the pre-allocated `Vec<PeerAddr>`) + 4 (one failed address read) -/
theorem peerAddrs_alloc_bound (rd : Rdr) (bytes : Bytes) :
    (decPeerAddrs (P := Unit) rd bytes).alloc ≤ 1 * bytes.length + 8196 :=
  (bnd_decPeerAddrs rd).alloc_le bytes

/-- a 4-byte `PeerAddrs` body announcing 256 peers does reserve 8 KiB: the constant is attained -/
example : (decPeerAddrs (P := Unit) .buf [0, 0, 1, 0]).alloc = 8192 := by decide

/-- whatever count is announced, a loop of hash reads yields at most one item per consumed byte; in
particular it stops when the input is exhausted -/
theorem hash_loop_progress (rd : Rdr) (count : Nat) (bytes : Bytes) (xs : List Bytes) (rest : Bytes) (n : Nat)
    (h : readN (rHash rd) count bytes = .ok xs rest n) : xs.length + rest.length ≤ bytes.length :=
  readN_progress (prog_rHash rd) count bytes xs rest n h

theorem peerAddr_loop_progress (rd : Rdr) (count : Nat) (bytes : Bytes) (xs : List PeerAddr) (rest : Bytes) (n : Nat)
    (h : readN (decPeerAddr rd) count bytes = .ok xs rest n) : xs.length + rest.length ≤ bytes.length :=
  readN_progress ((progW_decPeerAddr rd).toProg (by decide)) count bytes xs rest n h

theorem segmentId_no_panic (bytes : Bytes) : (segmentId bytes).isPanic = false :=
  erases_segmentId.noPanic bytes

theorem segmentProof_no_panic (rd : Rdr) (bytes : Bytes) : (segmentProof rd bytes).isPanic = false :=
  (erases_segmentProof rd).noPanic bytes
/-- `SegmentProof::read`: pre-allocation capped at 1024 hashes -/
theorem segmentProof_alloc_bound (rd : Rdr) (bytes : Bytes) :
    (segmentProof rd bytes).alloc ≤ 1 * bytes.length + 32800 :=
  (bnd_segmentProof rd).alloc_le bytes

/-- `Segment<T>::read` never panics, for any leaf reader that does not (in-memory leaf size `sz`) -/
theorem segment_no_panic {α : Type} (rd : Rdr) (p : Dec α) (hp : ∀ bytes, (p bytes).isPanic = false)
    (sz : Nat) (hsz : 1024 * sz ≤ ISIZE_MAX) (bytes : Bytes) : (segment rd p sz bytes).isPanic = false :=
  noPanic_segment rd hp sz hsz bytes

/-- `Segment<T>::read`: pre-allocations are capped by `SEGMENT_READ_PREALLOC_ITEMS = 1024` items each,
whatever counts (≤ 1 000 000) are announced -/
theorem segment_alloc_bound {α : Type} (rd : Rdr) (p : Dec α) (e : Nat) (hp : Bnd 1 0 e p) (sz : Nat) (bytes : Bytes) :
    (segment rd p sz bytes).alloc ≤ 1 * bytes.length + (81920 + 1024 * sz + max 32 e) :=
  (bnd_segment rd hp sz).alloc_le bytes

/-- the only panic site of `read_segment_positions` is the capped `Vec::with_capacity` -/
theorem segment_positions_no_panic (count : Nat) (bytes : Bytes) : (segPositions count bytes).isPanic = false :=
  (erases_segPositions count).noPanic bytes

/-! ## Merkle proofs and hex strings

Before /repo 28eb6068d, 96c08899a, 67ed6aa33 `MerkleProof::read` pre-allocated `path_len` hashes from the wire,
`MerkleProof::from_hex` unwrapped the hex error and `util::from_hex` sliced a `&str` by byte offsets.  That
behaviour is `merkleProofUnrepaired` / `hexLoop_needs_guard`; the harness replays the witnesses. -/

theorem merkleProof_no_panic (rd : Rdr) (bytes : Bytes) : (merkleProof rd bytes).isPanic = false :=
  (erases_merkleProof rd).noPanic bytes

/-- `MerkleProof::read`: what it reads, plus at most 64 pre-allocated hashes and one failed 32-byte read -/
theorem merkleProof_alloc_bound (rd : Rdr) (bytes : Bytes) : (merkleProof rd bytes).alloc ≤ 1 * bytes.length + 2080 :=
  (bnd_merkleProof rd).alloc_le bytes

theorem merkleProof_loop_progress (rd : Rdr) (count : Nat) (bytes : Bytes) (xs : List Bytes) (rest : Bytes) (n : Nat)
    (h : readN (rHash rd) count bytes = .ok xs rest n) : 32 * xs.length ≤ 32 * (bytes.length - rest.length) := by
  have := readN_progress (prog_rHash rd) count bytes xs rest n h
  omega

/-- on the 16-byte witnesses (`path_len = 2^58` / `2^32`): an `IOErr` with ≤ 2080 bytes requested -/
theorem merkleProof_old_witnesses (rd : Rdr) :
    (merkleProof rd (mpWitness (2^58))).isPanic = false ∧ (merkleProof rd (mpWitness (2^58))).alloc ≤ 2080 ∧
    (merkleProof rd (mpWitness (2^32))).alloc ≤ 2080 := by
  rw [merkleProof_on_old_witness rd (2^58) (by decide) (by decide),
      merkleProof_on_old_witness rd (2^32) (by decide) (by decide)]
  have : MERKLE_PREALLOC = 64 := rfl
  refine ⟨rfl, ?_, ?_⟩ <;> cases rd <;> simp [Outcome.alloc, this]

/-- the reader before 28eb6068d panics on 16 bytes and asks for ≥ 128 GiB on 16 others -/
theorem merkleProof_unrepaired_failed (rd : Rdr) :
    (merkleProofUnrepaired rd (mpWitness (2^58))).isPanic = true ∧
    (merkleProofUnrepaired rd (mpWitness (2^32))).alloc ≥ 2^37 := by
  rw [merkleProofUnrepaired_on_witness rd (2^58) (by decide) (by decide), if_pos (by decide)]
  exact ⟨rfl, (merkleProofUnrepaired_alloc_witness rd).2⟩

/-- **`util::from_hex` never panics**, on any `&str` -/
theorem utilFromHex_no_panic (s : Bytes) (st : Site) : utilFromHex s ≠ .panic st := utilFromHex_noPanic s st

/-- `"€a"` is an `Err`; the slicing loop without the `is_ascii` guard panics on it -/
theorem utilFromHex_old_witness_is_err :
    utilFromHex [0xE2, 0x82, 0xAC, 0x61] = .err ∧ hexLoop [0xE2, 0x82, 0xAC, 0x61] = .panic .charBoundary :=
  ⟨utilFromHex_old_witness, hexLoop_needs_guard⟩

example : utilFromHex [0x30, 0x78, 0x30, 0x61, 0x46, 0x66] = .ok [10, 255] := by decide
/-- `from_str_radix` accepts a sign: `"+f"` decodes to `0x0f` -/
example : utilFromHex [0x2b, 0x66] = .ok [15] := by decide

/-- **`MerkleProof::from_hex` never panics** (`"zz"`, `"0"`, `"€a"` included) -/
theorem merkleProofFromHex_no_panic (s : Bytes) : (merkleProofFromHex s).isPanic = false := by
  unfold merkleProofFromHex
  cases h : utilFromHex s with
  | ok bytes => exact (isPanic_addAlloc _ _).trans ((erases_merkleProof .bin).noPanic bytes)
  | err => rfl
  | panic st => exact absurd h (utilFromHex_noPanic s st)

theorem merkleProofFromHex_alloc_bound (s : Bytes) :
    (merkleProofFromHex s).alloc ≤ (trim0x (strTrim s)).length + 2080 := by
  unfold merkleProofFromHex
  cases h : utilFromHex s with
  | ok bytes =>
    have hb := (bnd_merkleProof .bin).alloc_le bytes
    have hl : 2 * bytes.length = (trim0x (strTrim s)).length := by
      rcases utilFromHex_cases s with h' | ⟨bs, h', hl⟩
      · rw [h'] at h; cases h
      · rw [h'] at h; cases h; exact hl
    simp only
    cases hm : merkleProof .bin bytes <;> simp only [hm, Outcome.alloc, Outcome.addAlloc] at hb ⊢ <;> omega
  | err => simp only [Outcome.alloc]; omega
  | panic st => simp [Outcome.alloc]

end GV.Props.C11
