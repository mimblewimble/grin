import GrinVerif.Model.PowSelect
import GrinVerif.Gen.FnsBag
import GrinVerif.Props.XlateCons
/-! # `global::create_pow_context` translated from the current source = `Pow.selectVariant`

`Gen/FnsBag.lean` (tools/rs2lean.py): `create_pow_context` returns a boxed trait object; the translation keeps
that type ABSTRACT (`Ctx`) and takes the six constructors (`new_cuckatoo_ctx`, `new_cuckaroo_ctx`, `new_cuckarood_ctx`,
`new_cuckaroom_ctx`, `new_cuckarooz_ctx`, `no_cuckaroo_ctx`) as function-valued parameters.  Instantiating them with
"which variant was asked for" gives the hand model's dispatch table `selectVariant` — so the `edge_bits > 29` test on
the raw `u8`, the chain-type test and the `header_version` arms are those of the code.  The constructors themselves
are tied in `Props/XlateCtx.lean`, the verifiers in `Props/XlateVerify*.lean`. -/
namespace GV.Props.XlateSelect
open GV GV.Gen GV.Pow GV.Props.XlateCons

instance : Inhabited Variant := ⟨.cuckatoo⟩

/-- `consensus::header_version` on the PoW model's chain types -/
theorem header_version_eq_pow (c : Pow.ChainType) (height : Nat) :
    Fns.header_version (ofPow c) height = Pow.headerVersion c height := by
  cases c <;> simp [Fns.header_version, ofPow, Pow.headerVersion, cast16_add]

/-- the code's dispatch, with every constructor replaced by the name of the variant it builds (and arguments recorded) -/
def dispatch (c : Pow.ChainType) (height eb ps ms : Nat) : Option (Variant × Nat × Nat × Nat) :=
  Fns.create_pow_context (ofPow c) height eb ps ms
    (fun e p m => some (.cuckatoo, e, p, m)) (fun e p => some (.cuckaroo, e, p, 0))
    (fun e p => some (.cuckarood, e, p, 0)) (fun e p => some (.cuckaroom, e, p, 0))
    (fun e p => some (.cuckarooz, e, p, 0)) none

/-- **`create_pow_context` = `selectVariant`**, for every chain type, height and `edge_bits`; the constructor receives
`edge_bits` and `proof_size` unchanged (and `max_sols` for Cuckatoo); "no cuckaroo past HardFork4" is the model's `none` -/
theorem create_pow_context_eq (c : Pow.ChainType) (height eb ps ms : Nat) :
    dispatch c height eb ps ms =
      (selectVariant c height eb).map fun v => (v, eb, ps, if v = .cuckatoo then ms else 0) := by
  unfold dispatch Fns.create_pow_context selectVariant
  rw [header_version_eq_pow]
  cases c <;> simp only [ofPow] <;> (try rfl)
  all_goals
    by_cases h : eb > 29
    · simp [h]
    · simp only [h, decide_false, Bool.false_eq_true, if_false]
      generalize headerVersion _ height = v
      match v with
      | 0 => rfl
      | 1 => rfl
      | 2 => rfl
      | 3 => rfl
      | 4 => rfl
      | n + 5 => rfl

theorem create_pow_context_ok {Ctx : Type} [Inhabited Ctx] [DecidableEq Ctx] (ct : Fns.ChainTypes) (height eb ps ms : Nat)
    (a : Nat → Nat → Nat → Option Ctx) (b c d e : Nat → Nat → Option Ctx) (f : Option Ctx) :
    Fns.create_pow_context_ok ct height eb ps ms a b c d e f = true := by
  unfold Fns.create_pow_context_ok
  simp [header_version_ok]

example : dispatch .mainnet 0 29 42 4 = some (.cuckaroo, 29, 42, 0) := by rw [create_pow_context_eq]; decide
example : dispatch .mainnet 0 31 42 4 = some (.cuckatoo, 31, 42, 4) := by rw [create_pow_context_eq]; decide

end GV.Props.XlateSelect
