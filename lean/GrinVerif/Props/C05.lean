import GrinVerif.Lemmas.PowRoomComplete
import GrinVerif.Lemmas.PowTotal
import GrinVerif.Lemmas.PowRoodComplete
import GrinVerif.Model.PowDiff
import GrinVerif.Model.PowSize
/-! # C05 — PoW verification accepts exactly the simple cycles of the header-seeded graph

All theorems are about the verifier models of `Model/Pow.lean` (transliterations of the five Rust
`verify` functions) and hold for **every** endpoint function `ep` (every header seed / siphash
key, every `edge_bits`), every bucket hash `P.bk` (Cuckarood: every one that keeps the lowest
bit), every nonce list — no size bound.
`IsProofCycle*` (Model/PowSpec.lean) is the declarative "one simple cycle through all edges".

For each of the five variants: `_sound` (⇒), `_complete` (⇐), `_iff`, `_terminates`. Side conditions:
Cuckarooz — the context's proof size is the global one; Cuckarood — the bucket hash keeps bit 0.
Further sections: the specification is decidable; context histories; the node's entry point
`pow::verify_size`; difficulty (corner values in `Props/C05Diff`); reading a proof from bytes;
`set_header_nonce`; histories of a verifying thread; what is not proved. -/
namespace GV.Props.C05
open GV GV.Pow GV.Gen

/-! ## Cuckaroom -/

/-- **Soundness of the Cuckaroom verifier.** If `verify` returns `Ok` then the proof has exactly
`proofsize` nonces, strictly ascending, all `≤ edge_mask`, and the selected edges
`(from, to) = ep nonce` form one simple directed cycle through all of them. -/
theorem verifyCuckaroom_sound (P : Params) (ep : Nat → Nat × Nat) (ns : List Nat)
    (h : verifyCuckaroom P ep ns = .ok ()) :
    ns.length = P.proofsize ∧ Ascending ns ∧ (∀ x ∈ ns, x ≤ P.edgeMask) ∧
      IsProofCycleCuckaroom (ns.map ep) := by
  obtain ⟨hl, s, hb, _, hw⟩ := (verifyCuckaroom_eq P ep ns ▸ pipeline_ok_iff).mp h
  obtain ⟨inv, hmask, hasc⟩ := roomBuild_spec P ep ns s hb
  obtain ⟨tr, htr, hm⟩ := uWalk_trace _ _ _ _ _ (roomWalk_ok P ns.length s _ _ _ _ _ hw)
  exact ⟨hl, (ascChain_spec ns none hasc).1, hmask, tr, room_cycle P ep ns s inv tr htr (by omega)⟩

/-- **Completeness of the Cuckaroom verifier**: every simple directed cycle through all edges,
presented as `proofsize > 0` strictly ascending nonces within the edge mask, is accepted (in
particular the early xor test never rejects a real cycle, the bucket hash never hides a match, and
no loop of the model runs out of fuel). -/
theorem verifyCuckaroom_complete (P : Params) (ep : Nat → Nat × Nat) (ns : List Nat)
    (hps : 0 < P.proofsize) (hlen : ns.length = P.proofsize) (hasc : Ascending ns)
    (hmask : ∀ x ∈ ns, x ≤ P.edgeMask) (hc : IsProofCycleCuckaroom (ns.map ep)) :
    verifyCuckaroom P ep ns = .ok () := by
  have hL : 0 < ns.length := by omega
  -- read on slots (`to` ends are the odd slots), the directed cycle is a cycle of the generic engine
  have hc := slotCycle_of_dirCycle _ (by rw [List.length_map]; exact hL) hc
  obtain ⟨s, hb, inv, hxf, hxt⟩ := roomBuild_complete P ep ns hmask
    (ascChain_of_pairwise ns none hasc (fun y hy => by cases hy))
  have hx : s.xf = s.xt := by rw [hxf, hxt]; exact room_xor_of_slotCycle ep ns hL hc
  obtain ⟨tr, htr, htl⟩ := room_trace_of_slotCycle P ep ns s inv hL hc
  have hw := roomWalk_complete P ns.length s tr 0 (ns.length + 1) (fun _ => false) 0 htr
    (by omega) htr.nodup (fun _ _ => rfl)
  rw [htl, Nat.zero_add] at hw
  exact verifyCuckaroom_eq P ep ns ▸ pipeline_ok_iff.mpr ⟨hlen, s, hb, fun h => h hx, hw⟩

/-- **Cuckaroom: verification accepts exactly the simple directed cycles.** -/
theorem verifyCuckaroom_iff (P : Params) (ep : Nat → Nat × Nat) (ns : List Nat)
    (hps : 0 < P.proofsize) :
    verifyCuckaroom P ep ns = .ok () ↔
      (ns.length = P.proofsize ∧ Ascending ns ∧ (∀ x ∈ ns, x ≤ P.edgeMask) ∧
        IsProofCycleCuckaroom (ns.map ep)) :=
  ⟨verifyCuckaroom_sound P ep ns,
   fun ⟨h1, h2, h3, h4⟩ => verifyCuckaroom_complete P ep ns hps h1 h2 h3 h4⟩

/-- non-vacuity: a directed 4-cycle `0→1→2→3→0` is accepted -/
example : verifyCuckaroom ⟨4, 3, 4, fun x => x % 8⟩ (fun n => (n, (n + 1) % 4)) [0, 1, 2, 3] = .ok () := by
  decide +kernel

/-- … and a 6-cycle whose edges are not in cycle order, with colliding buckets -/
example : verifyCuckaroom ⟨6, 15, 6, fun x => x % 2⟩
    (fun n => match n with
      | 1 => (10, 30) | 3 => (50, 10) | 4 => (30, 20) | 7 => (20, 60) | 8 => (60, 40) | 9 => (40, 50)
      | _ => (0, 0)) [1, 3, 4, 7, 8, 9] = .ok () := by
  decide +kernel

/-! ## Cuckaroo, Cuckarooz, Cuckatoo (the shared "circular prev list" engine) -/

/-- **Soundness of the Cuckaroo verifier**: `Ok` ⟹ exactly `proofsize` nonces, strictly ascending,
all `≤ edge_mask`, and the edges form one simple cycle through all of them in the bipartite graph
(vertices = (side, node)). -/
theorem verifyCuckaroo_sound (P : Params) (ep : Nat → Nat × Nat) (ns : List Nat)
    (h : verifyCuckaroo P ep ns = .ok ()) :
    ns.length = P.proofsize ∧ Ascending ns ∧ (∀ x ∈ ns, x ≤ P.edgeMask) ∧
      IsProofCycleCuckaroo (ns.map ep) := by
  obtain ⟨h1, h2, h3, h4⟩ := verifyU_sound cfgCuckaroo mtEquiv_cuckaroo P ep ns (by simp [cfgCuckaroo]) h
  exact ⟨h1, h2, h3, (isProofCycleU_cuckaroo P ep ns).mp h4⟩

/-- **Soundness of the Cuckarooz verifier** (one node space), for a context whose `proof_size`
is the global proof size — which is how `pow::verify_size` builds it. -/
theorem verifyCuckarooz_sound (P : Params) (ep : Nat → Nat × Nat) (ns : List Nat)
    (hctx : P.ctxProofSize = P.proofsize)
    (h : verifyCuckarooz P ep ns = .ok ()) :
    ns.length = P.proofsize ∧ Ascending ns ∧ (∀ x ∈ ns, x ≤ P.edgeMask) ∧
      IsProofCycleCuckarooz (ns.map ep) := by
  obtain ⟨h1, h2, h3, h4⟩ := verifyU_sound cfgCuckarooz mtEquiv_cuckarooz P ep ns (fun _ => hctx) h
  exact ⟨h1, h2, h3, (isProofCycleU_cuckarooz P ep ns).mp h4⟩

/-- **Soundness of the Cuckatoo verifier**: vertices are (side, node >> 1); consecutive edges of
the cycle meet in nodes that differ exactly in the lowest bit. -/
theorem verifyCuckatoo_sound (P : Params) (ep : Nat → Nat × Nat) (ns : List Nat)
    (h : verifyCuckatoo P ep ns = .ok ()) :
    ns.length = P.proofsize ∧ Ascending ns ∧ (∀ x ∈ ns, x ≤ P.edgeMask) ∧
      IsProofCycleCuckatoo (ns.map ep) := by
  obtain ⟨h1, h2, h3, h4⟩ := verifyU_sound cfgCuckatoo mtEquiv_cuckatoo P ep ns (by simp [cfgCuckatoo]) h
  exact ⟨h1, h2, h3, (isProofCycleU_cuckatoo P ep ns).mp h4⟩

/-- **Completeness of the Cuckaroo verifier**: every simple cycle through all edges of the
bipartite graph, presented as `proofsize > 0` strictly ascending in-range nonces, is accepted. -/
theorem verifyCuckaroo_complete (P : Params) (ep : Nat → Nat × Nat) (ns : List Nat)
    (hps : 0 < P.proofsize) (hlen : ns.length = P.proofsize) (hasc : Ascending ns)
    (hmask : ∀ x ∈ ns, x ≤ P.edgeMask) (hc : IsProofCycleCuckaroo (ns.map ep)) :
    verifyCuckaroo P ep ns = .ok () := by
  have hG := (isProofCycleU_cuckaroo P ep ns).mpr hc
  exact verifyU_complete cfgCuckaroo mtEquiv_cuckaroo P ep ns hps hlen hasc hmask (by simp [cfgCuckaroo]) hG
    (xorAcc_cuckaroo P ep ns (hlen ▸ hps) hG)

/-- **Cuckaroo: verification accepts exactly the simple cycles.** -/
theorem verifyCuckaroo_iff (P : Params) (ep : Nat → Nat × Nat) (ns : List Nat) (hps : 0 < P.proofsize) :
    verifyCuckaroo P ep ns = .ok () ↔
      (ns.length = P.proofsize ∧ Ascending ns ∧ (∀ x ∈ ns, x ≤ P.edgeMask) ∧
        IsProofCycleCuckaroo (ns.map ep)) :=
  ⟨verifyCuckaroo_sound P ep ns,
   fun ⟨h1, h2, h3, h4⟩ => verifyCuckaroo_complete P ep ns hps h1 h2 h3 h4⟩

/-- **Completeness of the Cuckarooz verifier** (context proof size = global proof size). -/
theorem verifyCuckarooz_complete (P : Params) (ep : Nat → Nat × Nat) (ns : List Nat)
    (hps : 0 < P.proofsize) (hctx : P.ctxProofSize = P.proofsize) (hlen : ns.length = P.proofsize)
    (hasc : Ascending ns) (hmask : ∀ x ∈ ns, x ≤ P.edgeMask)
    (hc : IsProofCycleCuckarooz (ns.map ep)) :
    verifyCuckarooz P ep ns = .ok () := by
  have hG := (isProofCycleU_cuckarooz P ep ns).mpr hc
  exact verifyU_complete cfgCuckarooz mtEquiv_cuckarooz P ep ns hps hlen hasc hmask (fun _ => hctx) hG
    (xorAcc_cuckarooz P ep ns (hlen ▸ hps) hG)

/-- **Cuckarooz: verification accepts exactly the simple cycles.** -/
theorem verifyCuckarooz_iff (P : Params) (ep : Nat → Nat × Nat) (ns : List Nat)
    (hps : 0 < P.proofsize) (hctx : P.ctxProofSize = P.proofsize) :
    verifyCuckarooz P ep ns = .ok () ↔
      (ns.length = P.proofsize ∧ Ascending ns ∧ (∀ x ∈ ns, x ≤ P.edgeMask) ∧
        IsProofCycleCuckarooz (ns.map ep)) :=
  ⟨verifyCuckarooz_sound P ep ns hctx,
   fun ⟨h1, h2, h3, h4⟩ => verifyCuckarooz_complete P ep ns hps hctx h1 h2 h3 h4⟩

/-- **Completeness of the Cuckatoo verifier.** -/
theorem verifyCuckatoo_complete (P : Params) (ep : Nat → Nat × Nat) (ns : List Nat)
    (hps : 0 < P.proofsize) (hlen : ns.length = P.proofsize) (hasc : Ascending ns)
    (hmask : ∀ x ∈ ns, x ≤ P.edgeMask) (hc : IsProofCycleCuckatoo (ns.map ep)) :
    verifyCuckatoo P ep ns = .ok () := by
  have hG := (isProofCycleU_cuckatoo P ep ns).mpr hc
  exact verifyU_complete cfgCuckatoo mtEquiv_cuckatoo P ep ns hps hlen hasc hmask (by simp [cfgCuckatoo]) hG
    (xorAcc_cuckatoo P ep ns (hlen ▸ hps) hG)

/-- **Cuckatoo: verification accepts exactly the simple cycles.** -/
theorem verifyCuckatoo_iff (P : Params) (ep : Nat → Nat × Nat) (ns : List Nat) (hps : 0 < P.proofsize) :
    verifyCuckatoo P ep ns = .ok () ↔
      (ns.length = P.proofsize ∧ Ascending ns ∧ (∀ x ∈ ns, x ≤ P.edgeMask) ∧
        IsProofCycleCuckatoo (ns.map ep)) :=
  ⟨verifyCuckatoo_sound P ep ns,
   fun ⟨h1, h2, h3, h4⟩ => verifyCuckatoo_complete P ep ns hps h1 h2 h3 h4⟩

/-- non-vacuity: a 4-cycle `u0 -e0- v0 -e1- u1 -e2- v1 -e3- u0` is accepted by Cuckaroo … -/
example : verifyCuckaroo ⟨4, 7, 4, fun x => x % 8⟩
    (fun n => match n with | 0 => (5, 9) | 2 => (6, 9) | 5 => (6, 3) | 7 => (5, 3) | _ => (0, 0))
    [0, 2, 5, 7] = .ok () := by decide +kernel
/-- … by Cuckarooz (one node space, a 4-cycle `1-2-3-4-1`) … -/
example : verifyCuckarooz ⟨4, 7, 4, fun x => x % 8⟩
    (fun n => match n with | 0 => (1, 2) | 2 => (3, 2) | 5 => (3, 4) | 7 => (1, 4) | _ => (0, 0))
    [0, 2, 5, 7] = .ok () := by decide +kernel
/-- … and by Cuckatoo (edge ends pair up as `x`, `x ^ 1`). -/
example : verifyCuckatoo ⟨4, 7, 4, fun x => x % 8⟩
    (fun n => match n with | 0 => (4, 8) | 2 => (6, 9) | 5 => (7, 2) | 7 => (5, 3) | _ => (0, 0))
    [0, 2, 5, 7] = .ok () := by decide +kernel

/-- The hypothesis of `verifyCuckarooz_sound` is needed: a Cuckarooz context built with
`proof_size = 2` while `global::proofsize() = 4` accepts two disjoint 2-cycles (the real code does
the same, harness case `twohalves-ctx4`; `pow::verify_size` never builds such a context). -/
example : verifyCuckarooz ⟨4, 7, 2, fun x => x % 8⟩
    (fun n => match n with | 0 => (1, 2) | 2 => (1, 2) | 5 => (3, 4) | 7 => (3, 4) | _ => (0, 0))
    [0, 2, 5, 7] = .ok () := by decide +kernel

/-! ## Cuckarood -/

/-- **Soundness of the Cuckarood verifier**: `Ok` ⟹ exactly
`proofsize` nonces, strictly ascending, all `≤ edge_mask`, as many even as odd nonces, and the edges
form one simple cycle through all of them in which consecutive edges have opposite direction bits.
Unlike the other variants this needs one property of the bucket hash: it keeps the lowest bit
(`(node << 1 | dir) & mask` with `mask` odd does) — the direction bit is part of the hashed value
and the search relies on it to separate the two directions. -/
theorem verifyCuckarood_sound (P : Params) (ep : Nat → Nat × Nat) (ns : List Nat)
    (hbk : ∀ x, P.bk x % 2 = x % 2)
    (h : verifyCuckarood P ep ns = .ok ()) :
    ns.length = P.proofsize ∧ Ascending ns ∧ (∀ x ∈ ns, x ≤ P.edgeMask) ∧
      IsProofCycleCuckarood (ns.map (fun x => (x % 2, ep x))) := by
  obtain ⟨hl, s, hb, _, hw⟩ := (verifyCuckarood_eq P ep ns ▸ pipeline_ok_iff).mp h
  obtain ⟨inv, hmask, hasc⟩ := roodBuild_spec P ep ns s hb
  obtain ⟨tr, htr, hm⟩ := uWalk_trace _ _ _ _ _ (roodWalk_ok _ _ _ _ _ _ hw)
  exact ⟨hl, (ascChain_spec ns none hasc).1, hmask, rood_cycle P ep ns s hbk inv tr htr (by omega)⟩

/-- non-vacuity: a 4-cycle alternating even / odd nonces is accepted by Cuckarood -/
example : verifyCuckarood ⟨4, 7, 4, fun x => x % 8⟩
    (fun n => match n with | 0 => (5, 9) | 3 => (6, 9) | 4 => (6, 3) | 7 => (5, 3) | _ => (0, 0))
    [0, 3, 4, 7] = .ok () := by decide +kernel

/-- A `u` node shared by two direction-0 edges and one direction-1 edge: the step map is not
injective, the walk falls into a loop that excludes slot 0, and is refused after `size` steps. -/
example : verifyCuckarood ⟨8, 15, 8, fun x => x % 16⟩
    (fun n => match n with
      | 0 => (1, 1) | 2 => (2, 2) | 4 => (2, 3) | 6 => (2, 1)
      | 1 => (1, 2) | 3 => (2, 3) | 5 => (3, 4) | 7 => (3, 4)
      | _ => (0, 0))
    [0, 1, 2, 3, 4, 5, 6, 7] = .error .noClose := by decide +kernel

/-- **Completeness of the Cuckarood verifier**: every direction-alternating simple cycle through
all edges with as many even as odd nonces, presented as `proofsize > 0` strictly ascending in-range
nonces, is accepted (for a bucket hash that keeps the lowest bit, as `& mask` does). -/
theorem verifyCuckarood_complete (P : Params) (ep : Nat → Nat × Nat) (ns : List Nat)
    (hbk : ∀ x, P.bk x % 2 = x % 2) (hps : 0 < P.proofsize) (hlen : ns.length = P.proofsize)
    (hasc : Ascending ns) (hmask : ∀ x ∈ ns, x ≤ P.edgeMask)
    (hc : IsProofCycleCuckarood (ns.map (fun x => (x % 2, ep x)))) :
    verifyCuckarood P ep ns = .ok () := by
  have hL : 0 < ns.length := by omega
  obtain ⟨hbal, c, hc⟩ := (isProofCycleCuckarood_nonces ep ns).mp hc
  obtain ⟨s, hb, inv, hx0, hx1⟩ := roodBuild_complete P ep ns hbal hmask
    (ascChain_of_pairwise ns none hasc (fun y hy => by cases hy))
  have hx : (s.x0 ||| s.x1) = 0 := by rw [hx0, hx1]; exact rood_xor_of_cycle ep ns c hc hL
  obtain ⟨tr, htr, htl⟩ := rood_trace_of_cycle ep ns c hc hL P s inv hbk hbal
  have hw := roodWalk_of_uWalk _ ns.length _ _ _ _
    (uWalk_complete (roodStep P ns.length s) tr 0 (ns.length + 1) 0 htr (by omega)) (by omega)
  rw [htl, Nat.zero_add] at hw
  exact verifyCuckarood_eq P ep ns ▸ pipeline_ok_iff.mpr ⟨hlen, s, hb, fun h => h hx, hw⟩

/-- **Cuckarood: verification accepts exactly the direction-alternating simple cycles.** -/
theorem verifyCuckarood_iff (P : Params) (ep : Nat → Nat × Nat) (ns : List Nat)
    (hbk : ∀ x, P.bk x % 2 = x % 2) (hps : 0 < P.proofsize) :
    verifyCuckarood P ep ns = .ok () ↔
      (ns.length = P.proofsize ∧ Ascending ns ∧ (∀ x ∈ ns, x ≤ P.edgeMask) ∧
        IsProofCycleCuckarood (ns.map (fun x => (x % 2, ep x)))) :=
  ⟨verifyCuckarood_sound P ep ns hbk,
   fun ⟨h1, h2, h3, h4⟩ => verifyCuckarood_complete P ep ns hbk hps h1 h2 h3 h4⟩

/-! ## Termination

The Rust loops `loop { … }` have no syntactic bound; the models give them fuel
(`size + 1` resp. `2·size + 1` iterations) and return the distinct outcome `Err.hang` when it runs
out. These theorems say it never does: the fuel bounds are real bounds, every `verify`
terminates on every input. (For Cuckarood by the step bound of `roodWalk`; for
the circular-list variants because "partner" is an involution, so the step map is
injective and the orbit of slot 0 must close — `uWalk_no_hang`, a pigeonhole argument.) -/

theorem verifyCuckaroom_terminates (P : Params) (ep : Nat → Nat × Nat) (ns : List Nat) :
    verifyCuckaroom P ep ns ≠ .error .hang := verifyCuckaroom_no_hang P ep ns

theorem verifyCuckarood_terminates (P : Params) (ep : Nat → Nat × Nat) (ns : List Nat) :
    verifyCuckarood P ep ns ≠ .error .hang := verifyCuckarood_no_hang P ep ns

theorem verifyCuckaroo_terminates (P : Params) (ep : Nat → Nat × Nat) (ns : List Nat)
    (hps : 0 < P.proofsize) : verifyCuckaroo P ep ns ≠ .error .hang :=
  verifyU_no_hang cfgCuckaroo mtEquiv_cuckaroo P ep ns hps

theorem verifyCuckarooz_terminates (P : Params) (ep : Nat → Nat × Nat) (ns : List Nat)
    (hps : 0 < P.proofsize) : verifyCuckarooz P ep ns ≠ .error .hang :=
  verifyU_no_hang cfgCuckarooz mtEquiv_cuckarooz P ep ns hps

theorem verifyCuckatoo_terminates (P : Params) (ep : Nat → Nat × Nat) (ns : List Nat)
    (hps : 0 < P.proofsize) : verifyCuckatoo P ep ns ≠ .error .hang :=
  verifyU_no_hang cfgCuckatoo mtEquiv_cuckatoo P ep ns hps

/-! ## The specification is decidable

`IsProofCycle*` is an existential over orderings of the edges; by the `_iff` theorems it is decided
by running the verifier model on the bare edge list (nonces `0 … L-1`, `ep n` = the `n`-th edge) —
for four of the five graphs: Cuckarood's edge list carries direction bits that must agree with the
nonce parities. -/

theorem range_ascending (L : Nat) : Ascending (List.range L) := List.pairwise_lt_range

/-- the three side conditions of the `_iff` theorems hold for the nonces `0 … L-1` -/
theorem bare_list_conditions (es : List (Nat × Nat)) (Q : Prop) :
    Q ↔ ((List.range es.length).length = es.length ∧ Ascending (List.range es.length) ∧
      (∀ x ∈ List.range es.length, x ≤ es.length) ∧ Q) :=
  ⟨fun h => ⟨List.length_range, range_ascending _,
    fun x hx => Nat.le_of_lt (List.mem_range.mp hx), h⟩, fun h => h.2.2.2⟩

theorem isProofCycleCuckaroom_iff_verifier (es : List (Nat × Nat)) (hL : 0 < es.length) :
    IsProofCycleCuckaroom es ↔
      verifyCuckaroom ⟨es.length, es.length, es.length, id⟩ (fun n => es.getD n (0, 0))
        (List.range es.length) = .ok () := by
  rw [verifyCuckaroom_iff _ _ _ hL, map_range_getD_self (0, 0) es]
  exact bare_list_conditions es _

theorem isProofCycleCuckaroo_iff_verifier (es : List (Nat × Nat)) (hL : 0 < es.length) :
    IsProofCycleCuckaroo es ↔
      verifyCuckaroo ⟨es.length, es.length, es.length, id⟩ (fun n => es.getD n (0, 0))
        (List.range es.length) = .ok () := by
  rw [verifyCuckaroo_iff _ _ _ hL, map_range_getD_self (0, 0) es]
  exact bare_list_conditions es _

theorem isProofCycleCuckarooz_iff_verifier (es : List (Nat × Nat)) (hL : 0 < es.length) :
    IsProofCycleCuckarooz es ↔
      verifyCuckarooz ⟨es.length, es.length, es.length, id⟩ (fun n => es.getD n (0, 0))
        (List.range es.length) = .ok () := by
  rw [verifyCuckarooz_iff _ _ _ hL rfl, map_range_getD_self (0, 0) es]
  exact bare_list_conditions es _

theorem isProofCycleCuckatoo_iff_verifier (es : List (Nat × Nat)) (hL : 0 < es.length) :
    IsProofCycleCuckatoo es ↔
      verifyCuckatoo ⟨es.length, es.length, es.length, id⟩ (fun n => es.getD n (0, 0))
        (List.range es.length) = .ok () := by
  rw [verifyCuckatoo_iff _ _ _ hL, map_range_getD_self (0, 0) es]
  exact bare_list_conditions es _

/-! ## Non-vacuity of the specification side

The hypotheses of the `_complete` theorems are inhabited: concrete edge lists that *are* proof
cycles (obtained through `_sound` from the accepted examples above), and one that is not. -/

example : IsProofCycleCuckaroom ([0, 1, 2, 3].map (fun n => (n, (n + 1) % 4))) :=
  (verifyCuckaroom_sound ⟨4, 3, 4, fun x => x % 8⟩ _ _ (by decide +kernel)).2.2.2

example : IsProofCycleCuckaroo ([0, 2, 5, 7].map
    (fun n => match n with | 0 => (5, 9) | 2 => (6, 9) | 5 => (6, 3) | 7 => (5, 3) | _ => (0, 0))) :=
  (verifyCuckaroo_sound ⟨4, 7, 4, fun x => x % 8⟩ _ _ (by decide +kernel)).2.2.2

example : IsProofCycleCuckatoo ([0, 2, 5, 7].map
    (fun n => match n with | 0 => (4, 8) | 2 => (6, 9) | 5 => (7, 2) | 7 => (5, 3) | _ => (0, 0))) :=
  (verifyCuckatoo_sound ⟨4, 7, 4, fun x => x % 8⟩ _ _ (by decide +kernel)).2.2.2

example : IsProofCycleCuckarood ([0, 3, 4, 7].map (fun x => (x % 2,
    (match x with | 0 => (5, 9) | 3 => (6, 9) | 4 => (6, 3) | 7 => (5, 3) | _ => (0, 0) : Nat × Nat)))) :=
  (verifyCuckarood_sound ⟨4, 7, 4, fun x => x % 8⟩ _ _ (fun x => by simp) (by decide +kernel)).2.2.2

/-- two disjoint 2-cycles are *not* one cycle through all four edges (decided by the verifier) -/
example : ¬ IsProofCycleCuckarooz [(1, 2), (1, 2), (3, 4), (3, 4)] := by
  rw [isProofCycleCuckarooz_iff_verifier _ (by decide)]
  decide +kernel

/-! ## Context histories

`verify` is a function of (variant, edge_bits, proof sizes, siphash keys); the keys are a function
of the header (+ nonce) of the LAST `set_header_nonce`; `solve` flags, `find_cycles` calls and
everything before the last `set_header_nonce` are irrelevant. In the model this is immediate
(`Ctx.verify` reads `keys` only, Model/PowCtx.lean), so `verify_history_independent` is a statement
about the model's shape, not evidence about the code: this clause of the property rests on the
correspondence run over context histories (`pow hist`), where the real object's verdict after
every history is compared with this model, with a freshly created real context for the same
(header, edge_bits), and with the cycle oracle. -/

/-- header and nonce of the last `set_header_nonce` of a history -/
def lastSeed (ops : List CtxOp) : Option (Bytes × Option Nat) :=
  ops.foldl (fun acc op => match op with | .seed h n _ => some (h, n) | .find _ => acc) none

/-- the keys a context holds: those of the last seeding, or the initial ones -/
def keysAfter (k0 : Keys) : Option (Bytes × Option Nat) → Keys
  | none => k0
  | some (h, n) => keysOfHeader h n

/-- what `set_header_nonce` and `find_cycles` leave alone -/
def ctxStatic (c : Ctx) : Variant × Nat × Nat × Nat := (c.variant, c.edgeBits, c.proofsize, c.ctxProofSize)

theorem step_static (c : Ctx) (op : CtxOp) : ctxStatic (c.step op) = ctxStatic c := by
  cases op <;> simp only [Ctx.step, ctxStatic] <;> split <;> simp

theorem step_keys (c : Ctx) (op : CtxOp) :
    (c.step op).keys = match op with | .seed h n _ => keysOfHeader h n | .find _ => c.keys := by
  cases op <;> simp only [Ctx.step] <;> split <;> simp

theorem run_static (ops : List CtxOp) : ∀ c : Ctx, ctxStatic (c.run ops) = ctxStatic c := by
  induction ops with
  | nil => intro c; rfl
  | cons op r ih => intro c; exact (ih (c.step op)).trans (step_static c op)

theorem verify_static (c d : Ctx) (hs : ctxStatic c = ctxStatic d) (hk : c.keys = d.keys) (ns : List Nat) :
    c.verify ns = d.verify ns := by
  simp only [ctxStatic, Prod.mk.injEq] at hs
  simp only [Ctx.verify, hs.1, hs.2.1, hs.2.2.1, hs.2.2.2, hk]

theorem run_keys (k0 : Keys) (ops : List CtxOp) : ∀ (c : Ctx) (acc : Option (Bytes × Option Nat)),
    c.keys = keysAfter k0 acc →
    (c.run ops).keys = keysAfter k0
      (ops.foldl (fun acc op => match op with | .seed h n _ => some (h, n) | .find _ => acc) acc) := by
  induction ops with
  | nil => intro c acc h; simpa [Ctx.run] using h
  | cons op r ih =>
    intro c acc h
    simp only [Ctx.run, List.foldl_cons]
    apply ih
    rw [step_keys]
    cases op with
    | seed hd n s => simp [keysAfter]
    | find sols => simpa using h

/-- A context's verdict is a function of its construction parameters and of the header / nonce of
its LAST `set_header_nonce` — not of the `solve` flags, the `find_cycles` calls, or anything that
happened before. -/
theorem verify_history_independent (v : Variant) (eb ps cps : Nat) (ops₁ ops₂ : List CtxOp)
    (h : lastSeed ops₁ = lastSeed ops₂) (ns : List Nat) :
    ((Ctx.new v eb ps cps).run ops₁).verify ns = ((Ctx.new v eb ps cps).run ops₂).verify ns := by
  have k1 := run_keys (Ctx.new v eb ps cps).keys ops₁ (Ctx.new v eb ps cps) none rfl
  have k2 := run_keys (Ctx.new v eb ps cps).keys ops₂ (Ctx.new v eb ps cps) none rfl
  unfold lastSeed at h
  exact verify_static _ _ ((run_static ops₁ _).trans (run_static ops₂ _).symm) (by rw [k1, k2, h]) ns

/-- … in particular the verdict after any history equals that of a FRESH context seeded once,
for verification, with the last header. -/
theorem verify_eq_fresh (v : Variant) (eb ps cps : Nat) (pre post : List CtxOp)
    (hdr : Bytes) (nonce : Option Nat) (solve : Bool)
    (hpost : ∀ op ∈ post, ∃ sols, op = CtxOp.find sols) (ns : List Nat) :
    ((Ctx.new v eb ps cps).run (pre ++ CtxOp.seed hdr nonce solve :: post)).verify ns
      = ((Ctx.new v eb ps cps).step (.seed hdr nonce false)).verify ns := by
  have : ((Ctx.new v eb ps cps).step (.seed hdr nonce false))
      = (Ctx.new v eb ps cps).run [.seed hdr nonce false] := by simp [Ctx.run]
  rw [this]
  apply verify_history_independent
  have hp : ∀ (post : List CtxOp) acc, (∀ op ∈ post, ∃ sols, op = CtxOp.find sols) →
      post.foldl (fun acc op => match op with | .seed h n _ => some (h, n) | .find _ => acc) acc = acc := by
    intro post
    induction post with
    | nil => intro acc _; rfl
    | cons op r ih =>
      intro acc hh
      obtain ⟨sols, rfl⟩ := hh op (by simp)
      simp only [List.foldl_cons]
      exact ih acc (fun o ho => hh o (by simp [ho]))
  simp only [lastSeed, List.foldl_append, List.foldl_cons, List.foldl_nil]
  exact hp post _ hpost

example : lastSeed [.seed [1] none true, .find [[0]], .seed [2] (some 7) false, .find []] = some ([2], some 7) := rfl

/-! ## The node's entry point `pow::verify_size`

`verifySize` (Model/PowSize.lean) wraps the per-variant verifiers the way `pow::verify_size` does:
context selected by (chain type, height, edge_bits), created with `proof_size` = the number of
nonces the header carries, seeded with the header's `pre_pow`. "Exactly the required number of
nonces" holds at this level for every chain type, height, edge_bits (hence every variant) and every
header: `verifySize_ok_length`. Consequently a header read in the skip-proof deserialisation mode
(empty nonce vector), every strict prefix of a proof and every extension of it are refused. -/

/-- every variant's `verify` starts with the count test -/
theorem verifyOf_wrong_length (v : Variant) (P : Params) (ep : Nat → Nat × Nat) (ns : List Nat)
    (h : ns.length ≠ P.proofsize) : verifyOf v P ep ns = .error .wrongLen := by
  have hU : ∀ C, verifyU C P ep ns = .error .wrongLen := fun C => (verifyU_eq C P ep ns).trans (pipeline_wrong_len h)
  cases v
  · exact hU _
  · exact hU _
  · exact (verifyCuckarood_eq P ep ns).trans (pipeline_wrong_len h)
  · exact (verifyCuckaroom_eq P ep ns).trans (pipeline_wrong_len h)
  · exact hU _

theorem verifyOf_ok_length (v : Variant) (P : Params) (ep : Nat → Nat × Nat) (ns : List Nat)
    (h : verifyOf v P ep ns = .ok ()) : ns.length = P.proofsize := by
  apply Classical.byContradiction
  intro hne
  rw [verifyOf_wrong_length v P ep ns hne] at h
  cases h

theorem verifyOf_ok_mask (v : Variant) (P : Params) (ep : Nat → Nat × Nat) (ns : List Nat)
    (h : verifyOf v P ep ns = .ok ()) : ∀ x ∈ ns, x ≤ P.edgeMask := by
  have hU : ∀ C, verifyU C P ep ns = .ok () → ∀ x ∈ ns, x ≤ P.edgeMask := fun C h => by
    obtain ⟨_, s, hb, _⟩ := (verifyU_eq C P ep ns ▸ pipeline_ok_iff).mp h
    exact (uBuild_spec C P ep ns s hb).2.1
  cases v
  · exact hU _ h
  · exact hU _ h
  · obtain ⟨_, s, hb, _⟩ := (verifyCuckarood_eq P ep ns ▸ pipeline_ok_iff).mp h
    exact (roodBuild_spec P ep ns s hb).2.1
  · obtain ⟨_, s, hb, _⟩ := (verifyCuckaroom_eq P ep ns ▸ pipeline_ok_iff).mp h
    exact (roomBuild_spec P ep ns s hb).2.1
  · exact hU _ h

/-- a context seeded once for verification -/
theorem fresh_verify (v : Variant) (eb ps cps : Nat) (hdr : Bytes) (nonce : Option Nat) (ns : List Nat) :
    ((Ctx.new v eb ps cps).step (.seed hdr nonce false)).verify ns
      = verifyOf v (mkParams eb ps cps) (epOf v (keysOfHeader hdr nonce) eb) ns := by
  simp [Ctx.step, Ctx.new, Ctx.verify]

/-- `verify_size` accepts exactly when a context could be created for (chain type, height,
edge_bits) and that variant's `verify`, seeded with the header's `pre_pow`, accepts. -/
theorem verifySize_ok_iff (c : ChainType) (height eb : Nat) (prePow : Bytes) (ns : List Nat) :
    verifySize c height eb prePow ns = .ok () ↔
    ∃ v, selectVariant c height eb = some v ∧
      verifyOf v (mkParams eb (proofsizeOf c) ns.length) (epOf v (keysOfHeader prePow none) eb) ns = .ok () := by
  unfold verifySize
  split
  · next hv => simp [hv]
  · next v hv =>
    simp only [fresh_verify]
    constructor
    · intro h
      refine ⟨v, hv, ?_⟩
      split at h
      · next hok => exact hok
      · cases h
    · rintro ⟨v', hv', hok⟩
      rw [hv] at hv'
      cases hv'
      rw [hok]

/-- "exactly the required number of nonces", at the node's entry point: for every chain type,
height, edge_bits (hence every variant) and every header, an accepted proof has exactly
`global::proofsize()` nonces. -/
theorem verifySize_ok_length (c : ChainType) (height eb : Nat) (prePow : Bytes) (ns : List Nat)
    (h : verifySize c height eb prePow ns = .ok ()) : ns.length = proofsizeOf c := by
  obtain ⟨v, _, hok⟩ := (verifySize_ok_iff c height eb prePow ns).mp h
  exact verifyOf_ok_length v _ _ ns hok

/-- … so every other count is refused: the empty vector (a header read in the skip-proof mode),
every strict prefix, every extension -/
theorem verifySize_wrong_length_refused (c : ChainType) (height eb : Nat) (prePow : Bytes) (ns : List Nat)
    (hlen : ns.length ≠ proofsizeOf c) : verifySize c height eb prePow ns ≠ .ok () :=
  fun h => hlen (verifySize_ok_length c height eb prePow ns h)

/-- with the error kind: the count is tested before anything else -/
theorem verifySize_wrong_length_error (c : ChainType) (height eb : Nat) (prePow : Bytes) (ns : List Nat)
    (hlen : ns.length ≠ proofsizeOf c) :
    verifySize c height eb prePow ns = .error .noCtx ∨
    verifySize c height eb prePow ns = .error (.verify .wrongLen) := by
  unfold verifySize
  split
  · exact Or.inl rfl
  · next v hv =>
    right
    simp only [fresh_verify]
    rw [verifyOf_wrong_length v _ _ ns hlen]

/-- an accepted header's context was created with `proof_size = global::proofsize()`: the
hypothesis `hctx` of the Cuckarooz theorems always holds behind `verify_size` -/
theorem verifySize_ok_ctx_size (c : ChainType) (height eb : Nat) (prePow : Bytes) (ns : List Nat)
    (h : verifySize c height eb prePow ns = .ok ()) :
    (mkParams eb (proofsizeOf c) ns.length).ctxProofSize = (mkParams eb (proofsizeOf c) ns.length).proofsize := by
  have := verifySize_ok_length c height eb prePow ns h
  simpa [mkParams] using this

theorem Keys.eq_mk (k : Keys) (a b c d : UInt64) (h : k.k0 = a ∧ k.k1 = b ∧ k.k2 = c ∧ k.k3 = d) :
    k = ⟨a, b, c, d⟩ := by
  cases k
  obtain ⟨rfl, rfl, rfl, rfl⟩ := h
  rfl

/-- the siphash keys of the header mined by the repo's `pow_size` that the examples use (its
`pre_pow` bytes as observed in the `vsize` run) -/
theorem mined_header_keys : keysOfHeader [0, 1, 0, 0, 0, 0, 0, 0, 0, 0, 0, 0, 0, 0, 0, 0, 0, 0, 5, 156, 63, 119, 183, 153, 125, 96, 95, 182, 153, 68, 48, 49, 222, 211, 30, 128, 111, 33, 254, 209, 143, 20, 206, 89, 22, 34, 96, 80, 31, 110, 199, 117, 92, 148, 109, 21, 143, 117, 166, 188, 141, 81, 173, 55, 17, 247, 246, 104, 172, 95, 173, 55, 15, 160, 22, 241, 102, 176, 138, 237, 116, 81, 219, 249, 212, 232, 101, 106, 173, 154, 203, 79, 212, 151, 3, 141, 49, 177, 39, 44, 112, 245, 136, 161, 218, 62, 137, 234, 216, 249, 156, 155, 84, 109, 0, 0, 0, 0, 0, 0, 0, 0, 0, 0, 0, 0, 0, 0, 0, 0, 0, 0, 0, 0, 0, 0, 0, 0, 0, 0, 0, 0, 0, 0, 0, 0, 164, 43, 73, 128, 31, 234, 176, 65, 59, 185, 80, 137, 47, 18, 36, 23, 254, 75, 200, 195, 209, 154, 138, 75, 31, 5, 235, 77, 30, 104, 76, 167, 0, 0, 0, 0, 0, 0, 0, 0, 0, 0, 0, 0, 0, 0, 0, 0, 0, 0, 0, 0, 0, 0, 0, 0, 0, 0, 0, 0, 0, 0, 0, 0, 0, 0, 0, 0, 0, 4, 217, 56, 0, 0, 0, 0, 0, 8, 213, 104, 0, 8, 83, 13, 68, 200, 14, 188, 83, 245, 21, 65, 35, 1, 10, 200, 34, 26, 128, 183] none =
    ⟨2616484003974749214, 4911997607595936788, 14551078747060901436, 8809436808476739002⟩ :=
  Keys.eq_mk _ _ _ _ _ (by decide +kernel)

/-- non-vacuity: a header genuinely mined by the repo's `pow_size` (AutomatedTesting, height 0,
edge_bits 10; `pre_pow` bytes and nonces as observed in the `vsize` run) is accepted by the model,
blake2b and siphash included … -/
example : verifySize .automated 0 10 [0, 1, 0, 0, 0, 0, 0, 0, 0, 0, 0, 0, 0, 0, 0, 0, 0, 0, 5, 156, 63, 119, 183, 153, 125, 96, 95, 182, 153, 68, 48, 49, 222, 211, 30, 128, 111, 33, 254, 209, 143, 20, 206, 89, 22, 34, 96, 80, 31, 110, 199, 117, 92, 148, 109, 21, 143, 117, 166, 188, 141, 81, 173, 55, 17, 247, 246, 104, 172, 95, 173, 55, 15, 160, 22, 241, 102, 176, 138, 237, 116, 81, 219, 249, 212, 232, 101, 106, 173, 154, 203, 79, 212, 151, 3, 141, 49, 177, 39, 44, 112, 245, 136, 161, 218, 62, 137, 234, 216, 249, 156, 155, 84, 109, 0, 0, 0, 0, 0, 0, 0, 0, 0, 0, 0, 0, 0, 0, 0, 0, 0, 0, 0, 0, 0, 0, 0, 0, 0, 0, 0, 0, 0, 0, 0, 0, 164, 43, 73, 128, 31, 234, 176, 65, 59, 185, 80, 137, 47, 18, 36, 23, 254, 75, 200, 195, 209, 154, 138, 75, 31, 5, 235, 77, 30, 104, 76, 167, 0, 0, 0, 0, 0, 0, 0, 0, 0, 0, 0, 0, 0, 0, 0, 0, 0, 0, 0, 0, 0, 0, 0, 0, 0, 0, 0, 0, 0, 0, 0, 0, 0, 0, 0, 0, 0, 4, 217, 56, 0, 0, 0, 0, 0, 8, 213, 104, 0, 8, 83, 13, 68, 200, 14, 188, 83, 245, 21, 65, 35, 1, 10, 200, 34, 26, 128, 183] [30,397,435,521,683,836,1018,1023] = .ok () :=
  (verifySize_ok_iff _ _ _ _ _).mpr ⟨.cuckatoo, rfl, by rw [mined_header_keys]; decide +kernel⟩

/-- … and its seven-nonce prefix is refused for its length. -/
example : verifySize .automated 0 10 [0, 1, 0, 0, 0, 0, 0, 0, 0, 0, 0, 0, 0, 0, 0, 0, 0, 0, 5, 156, 63, 119, 183, 153, 125, 96, 95, 182, 153, 68, 48, 49, 222, 211, 30, 128, 111, 33, 254, 209, 143, 20, 206, 89, 22, 34, 96, 80, 31, 110, 199, 117, 92, 148, 109, 21, 143, 117, 166, 188, 141, 81, 173, 55, 17, 247, 246, 104, 172, 95, 173, 55, 15, 160, 22, 241, 102, 176, 138, 237, 116, 81, 219, 249, 212, 232, 101, 106, 173, 154, 203, 79, 212, 151, 3, 141, 49, 177, 39, 44, 112, 245, 136, 161, 218, 62, 137, 234, 216, 249, 156, 155, 84, 109, 0, 0, 0, 0, 0, 0, 0, 0, 0, 0, 0, 0, 0, 0, 0, 0, 0, 0, 0, 0, 0, 0, 0, 0, 0, 0, 0, 0, 0, 0, 0, 0, 164, 43, 73, 128, 31, 234, 176, 65, 59, 185, 80, 137, 47, 18, 36, 23, 254, 75, 200, 195, 209, 154, 138, 75, 31, 5, 235, 77, 30, 104, 76, 167, 0, 0, 0, 0, 0, 0, 0, 0, 0, 0, 0, 0, 0, 0, 0, 0, 0, 0, 0, 0, 0, 0, 0, 0, 0, 0, 0, 0, 0, 0, 0, 0, 0, 0, 0, 0, 0, 4, 217, 56, 0, 0, 0, 0, 0, 8, 213, 104, 0, 8, 83, 13, 68, 200, 14, 188, 83, 245, 21, 65, 35, 1, 10, 200, 34, 26, 128, 183] [30,397,435,521,683,836,1018] = .error (.verify .wrongLen) := by decide +kernel

example : proofsizeOf .automated = 8 ∧ proofsizeOf .mainnet = 42 := by decide

/-! ## Difficulty

"The difficulty a proof achieves is a deterministic function of its packed nonces": the model's
`toDifficulty chain height edge_bits secondary_scaling packed` takes the packed bytes only; the
theorems say WHICH function — `floor(scale · 2^64 / max(1, hash prefix))` saturating at `u64::MAX`,
at least 1 — and that the u128 arithmetic of the Rust code computes exactly that (no rounding, no
truncation) for every u64 scale, in particular the graph weights of order 2^46..2^60 that
AutomatedTesting / UserTesting reach at edge_bits 40..63. -/

/-- `Proof::scaled_difficulty`'s u128 arithmetic computes exactly
`min (floor (scale · 2^64 / max 1 h)) (2^64 − 1)` for every u64 `scale` and every `h`. -/
theorem difficulty_exact (scale h : Nat) (hs : scale < 2^64) :
    scaledDiffU128 scale h = diffExact scale h := by
  unfold scaledDiffU128 diffExact
  have h1 : scale % 2^64 = scale := Nat.mod_eq_of_lt hs
  have h2 : scale * 2^64 % 2^128 = scale * 2^64 := by
    apply Nat.mod_eq_of_lt
    have : scale * 2^64 < 2^64 * 2^64 := Nat.mul_lt_mul_of_pos_right hs (by decide)
    simpa using this
  simp only [h1, h2]
  apply Nat.mod_eq_of_lt
  have := Nat.min_le_right (scale * 2 ^ 64 / max 1 h) (2^64 - 1)
  omega

theorem diffExact_le (scale h : Nat) : diffExact scale h ≤ 2^64 - 1 := Nat.min_le_right _ _

/-- floor characterisation below saturation: `d · H ≤ scale · 2^64 < (d + 1) · H` -/
theorem diffExact_floor (scale h : Nat) (hlt : diffExact scale h < 2^64 - 1) :
    diffExact scale h * max 1 h ≤ scale * 2^64 ∧ scale * 2^64 < (diffExact scale h + 1) * max 1 h := by
  have hpos : 0 < max 1 h := by omega
  have hd : diffExact scale h = scale * 2^64 / max 1 h := by
    unfold diffExact at hlt ⊢
    omega
  rw [hd]
  constructor
  · exact Nat.div_mul_le_self _ _
  · have := Nat.lt_mul_div_succ (scale * 2^64) hpos
    rw [Nat.mul_comm (max 1 h)] at this
    exact this

/-- saturation: the result is `u64::MAX` exactly when the quotient reaches it -/
theorem diffExact_saturated_iff (scale h : Nat) :
    diffExact scale h = 2^64 - 1 ↔ (2^64 - 1) * max 1 h ≤ scale * 2^64 := by
  have hpos : 0 < max 1 h := by omega
  rw [← Nat.le_div_iff_mul_le hpos]
  unfold diffExact
  omega

/-- … which, for a 64-bit hash prefix, is exactly when the prefix does not exceed the scale -/
theorem diffExact_saturated_iff_le (scale h : Nat) (hh : h < 2^64) :
    diffExact scale h = 2^64 - 1 ↔ max 1 h ≤ scale := by
  rw [diffExact_saturated_iff]
  omega

/-- a proof always achieves a difficulty of at least 1 under a non-zero scale -/
theorem diffExact_pos (scale h : Nat) (hs : 1 ≤ scale) (hh : h < 2^64) : 1 ≤ diffExact scale h := by
  unfold diffExact
  have hpos : 0 < max 1 h := by omega
  have : 1 ≤ scale * 2^64 / max 1 h := by
    rw [Nat.le_div_iff_mul_le hpos]
    have : 1 * 2^64 ≤ scale * 2^64 := Nat.mul_le_mul_right _ hs
    omega
  omega

/-- … and 0 exactly under scale 0 (`from_num` then lifts it to 1) -/
theorem diffExact_eq_zero_iff (scale h : Nat) (hh : h < 2^64) : diffExact scale h = 0 ↔ scale = 0 := by
  constructor
  · intro h0
    rcases Nat.eq_zero_or_pos scale with hz | hp
    · exact hz
    · have := diffExact_pos scale h (by omega) hh
      omega
  · rintro rfl
    simp [diffExact]

theorem diffExact_antitone_hash (scale h h' : Nat) (hle : h ≤ h') :
    diffExact scale h' ≤ diffExact scale h := by
  unfold diffExact
  have : scale * 2^64 / max 1 h' ≤ scale * 2^64 / max 1 h :=
    Nat.div_le_div_left (by omega) (by omega)
  omega

theorem diffExact_mono_scale (scale scale' h : Nat) (hle : scale ≤ scale') :
    diffExact scale h ≤ diffExact scale' h := by
  unfold diffExact
  have : scale * 2^64 / max 1 h ≤ scale' * 2^64 / max 1 h :=
    Nat.div_le_div_right (Nat.mul_le_mul_right _ hle)
  omega

theorem graphWeight_lt (c : ChainType) (height eb : Nat) : graphWeight c height eb < 2^64 := by
  unfold graphWeight mulW
  exact Nat.mod_lt _ (by decide)

theorem xprEdgeBits_le (height eb : Nat) : xprEdgeBits height eb ≤ eb := by
  unfold xprEdgeBits satSub
  split
  · exact Nat.sub_le _ _
  · exact Nat.le_refl _

/-- in the range every chain uses (`base_edge_bits ≤ edge_bits ≤ 63`) nothing wraps:
`graph_weight = 2^(edge_bits − base + 1) · xpr_edge_bits` -/
theorem graphWeight_nowrap (c : ChainType) (height eb : Nat)
    (hb : baseEdgeBits c ≤ eb) (he : eb ≤ 63) :
    graphWeight c height eb = 2^(eb - baseEdgeBits c + 1) * xprEdgeBits height eb := by
  have hx := xprEdgeBits_le height eb
  have hbase : 10 ≤ baseEdgeBits c := by cases c <;> decide
  unfold graphWeight
  dsimp only
  have hsh : (eb % 256 + 256 - baseEdgeBits c) % 256 = eb - baseEdgeBits c := by omega
  rw [hsh]
  have hs64 : (eb - baseEdgeBits c) % 64 = eb - baseEdgeBits c := by omega
  have hpow : 2 * 2^(eb - baseEdgeBits c) = 2^(eb - baseEdgeBits c + 1) := by
    rw [Nat.pow_succ]; omega
  have hle : 2^(eb - baseEdgeBits c + 1) ≤ 2^54 := Nat.pow_le_pow_right (by decide) (by omega)
  have hshl : shlW 2 (eb - baseEdgeBits c) = 2^(eb - baseEdgeBits c + 1) := by
    unfold shlW
    rw [hs64, hpow]
    exact Nat.mod_eq_of_lt (by omega)
  rw [hshl]
  unfold mulW
  apply Nat.mod_eq_of_lt
  have : 2^(eb - baseEdgeBits c + 1) * xprEdgeBits height eb ≤ 2^54 * 63 :=
    Nat.mul_le_mul hle (by omega)
  omega

/-- `ProofOfWork::to_difficulty` is the exact definition under the scale the chain fixes,
lifted to at least 1 by `Difficulty::from_num` -/
theorem toDifficulty_exact (c : ChainType) (height eb sec : Nat) (packed : Bytes) (hsec : sec < 2^32) :
    toDifficulty c height eb sec packed
      = max (diffExact (if eb = SECOND_POW_EDGE_BITS then sec else graphWeight c height eb)
              (hashPrefix packed)) 1 := by
  unfold toDifficulty fromNum scaledDifficulty
  split
  · rw [difficulty_exact _ _ (by omega)]
  · rw [difficulty_exact _ _ (graphWeight_lt _ _ _)]

theorem toDifficulty_bounds (c : ChainType) (height eb sec : Nat) (packed : Bytes) (hsec : sec < 2^32) :
    1 ≤ toDifficulty c height eb sec packed ∧ toDifficulty c height eb sec packed ≤ 2^64 - 1 := by
  rw [toDifficulty_exact _ _ _ _ _ hsec]
  have := diffExact_le (if eb = SECOND_POW_EDGE_BITS then sec else graphWeight c height eb) (hashPrefix packed)
  omega

theorem toUnscaledDifficulty_exact (packed : Bytes) :
    toUnscaledDifficulty packed = max (diffExact 1 (hashPrefix packed)) 1 := by
  unfold toUnscaledDifficulty fromNum scaledDifficulty
  rw [difficulty_exact _ _ (by decide)]

example : diffExact 3 (2^63) = 6 := by decide
example : diffExact (2^60) (2^59) = 2^64 - 1 := by decide
example : diffExact (2^60) (2^60 + 1) = 2^64 - 1 - 15 := by decide
example : diffExact 0 5 = 0 ∧ diffExact 7 0 = 2^64 - 1 := by decide
example : diffExact (2^60) (2^60) = 2^64 - 1 ∧ diffExact (2^32 - 1) (2^32) < 2^64 - 1 := by decide
example : graphWeight .automated 0 63 = 2^54 * 63 := by decide
example : graphWeight .mainnet (YEAR_HEIGHT + 2 * WEEK_HEIGHT) 31 = 256 * 28 := by decide
example : graphWeight .mainnet 0 23 = 0 ∧ graphWeight .mainnet 0 21 = 2^62 := by decide

/-! ## Reading a proof from bytes -/

/-- **`Proof::read` refuses an edge-bits byte outside 1..=63** whatever bytes follow (the guard in
front of the nonce parsing; compared with the real reader on the bytes 0 and 64..255 in run `pack`). -/
theorem proof_read_refuses_bad_edge_bits (w ps : Nat) (bs : Bytes) (h : w = 0 ∨ 63 < w) :
    readProof w ps bs = none := by
  unfold readProof
  rw [if_pos h]

/-- a proof it accepts has legal edge bits and exactly `ps` nonces -/
theorem proof_read_ok_edge_bits (w ps : Nat) (bs : Bytes) (ns : List Nat)
    (h : readProof w ps bs = some ns) : 1 ≤ w ∧ w ≤ 63 ∧ 8 ≤ packLen w ps ∧ ns.length = ps := by
  unfold readProof at h
  split at h
  · cases h
  rename_i hw
  split at h
  · cases h
  rename_i hl
  dsimp only at h
  split at h
  · cases h
  cases h
  refine ⟨by omega, by omega, by omega, by simp⟩

example : readProof 64 8 (List.replicate 64 0) = none ∧ readProof 0 8 [] = none ∧
    readProof 10 8 (List.replicate 10 0) = some (List.replicate 8 0) := by decide +kernel

/-- **A truncated proof is refused**: with fewer bytes behind the edge-bits byte than
`pack_len(edge_bits)` nothing is read, whatever the bytes are; the empty input is refused too. -/
theorem proof_stream_truncated_refused (ps w : Nat) (rest : Bytes) (h : rest.length < packLen w ps) :
    readProofStream ps (w :: rest) = none := by
  simp only [readProofStream, h, if_true]
  split
  · rfl
  split <;> rfl

/-- an accepted stream carried legal edge bits, yielded exactly `ps` nonces and consumed exactly
`1 + pack_len(edge_bits)` bytes -/
theorem proof_stream_ok (ps : Nat) (bs : Bytes) (w : Nat) (ns : List Nat) (r : Nat)
    (h : readProofStream ps bs = some (w, ns, r)) :
    1 ≤ w ∧ w ≤ 63 ∧ ns.length = ps ∧ bs.length = 1 + packLen w ps + r ∧
    readProof w ps ((bs.drop 1).take (packLen w ps)) = some ns := by
  unfold readProofStream at h
  split at h
  · cases h
  rename_i w' rest
  split at h
  · cases h
  split at h
  · cases h
  split at h
  · cases h
  rename_i hlen
  split at h
  · cases h
  rename_i ns' hr
  cases h
  obtain ⟨h1, h2, _, h4⟩ := proof_read_ok_edge_bits _ _ _ _ hr
  refine ⟨h1, h2, h4, ?_, by simpa using hr⟩
  simp only [List.length_cons]
  omega

example : readProofStream 8 (10 :: List.replicate 9 0) = none ∧
    readProofStream 8 (10 :: List.replicate 10 0) = some (10, List.replicate 8 0, 0) ∧
    readProofStream 8 (10 :: List.replicate 12 0) = some (10, List.replicate 8 0, 2) ∧
    readProofStream 8 [] = none ∧ readProofStream 8 [10] = none := by decide +kernel

/-! ## `set_header_nonce`: the nonce is part of the seed, for every nonce value

`common::set_header_nonce(header, Some(n))` replaces the last four header bytes by `n` (little
endian) and hashes the result; `None` hashes the header as it is.  All five contexts go through it. -/

/-- **`keys(header, some n) = keys(splice header n, none)` for every `n`, `0` included.** -/
theorem setHeaderNonce (hdr : Bytes) (n : Nat) :
    keysOfHeader hdr (some n) = keysOfHeader (spliceNonce hdr n) none := rfl

/-- in particular `Some(0)` is not `None`: it seeds the graph of the header with its last four
bytes zeroed -/
theorem setHeaderNonce_zero (hdr : Bytes) :
    keysOfHeader hdr (some 0) = keysOfHeader (hdr.take (hdr.length - 4) ++ [0, 0, 0, 0]) none := rfl

/-- a context seeded with `(header, Some(n))` is the context seeded with the spliced header and no
nonce: same keys, same verdict on every proof, for each of the five graph definitions -/
theorem seed_some_eq_seed_spliced (c : Ctx) (hdr : Bytes) (n : Nat) (solve : Bool) (nonces : List Nat) :
    (c.step (.seed hdr (some n) solve)).keys = (c.step (.seed (spliceNonce hdr n) none solve)).keys ∧
    (c.step (.seed hdr (some n) solve)).verify nonces =
      (c.step (.seed (spliceNonce hdr n) none solve)).verify nonces := by
  have h : c.step (.seed hdr (some n) solve) = c.step (.seed (spliceNonce hdr n) none solve) := by
    simp only [Ctx.step, setHeaderNonce]
  rw [h]
  exact ⟨rfl, rfl⟩

/-- the spliced header has the length of the original (headers of at least four bytes) and ends in
the nonce -/
theorem spliceNonce_length (hdr : Bytes) (n : Nat) (h : 4 ≤ hdr.length) :
    (spliceNonce hdr n).length = hdr.length := by
  unfold spliceNonce
  have : (leBytes 4 n).length = 4 := by simp [leBytes]
  rw [List.length_append, List.length_take, this]
  omega

-- `Some(0)` on a header whose last four bytes are not zero seeds another graph than `None`
example : (keysOfHeader [1, 2, 3, 4, 5, 6, 7, 8] (some 0)).k0 ≠ (keysOfHeader [1, 2, 3, 4, 5, 6, 7, 8] none).k0 ∧
    (keysOfHeader [1, 2, 3, 4, 5, 6, 7, 8] (some 0)).k0 = (keysOfHeader [1, 2, 3, 4, 0, 0, 0, 0] none).k0 ∧
    (keysOfHeader [1, 2, 3, 4, 5, 6, 7, 8] (some 1)).k0 ≠ (keysOfHeader [1, 2, 3, 4, 5, 6, 7, 8] (some 0)).k0 := by
  -- the equation holds by definition (`setHeaderNonce_zero`)
  have h : (keysOfHeader [1, 2, 3, 4, 5, 6, 7, 8] (some 0)).k0 ≠ (keysOfHeader [1, 2, 3, 4, 5, 6, 7, 8] none).k0 ∧
      (keysOfHeader [1, 2, 3, 4, 5, 6, 7, 8] (some 1)).k0 ≠ (keysOfHeader [1, 2, 3, 4, 5, 6, 7, 8] (some 0)).k0 := by
    decide +kernel
  exact ⟨h.1, congrArg Keys.k0 (setHeaderNonce_zero _), h.2⟩

/-! ## a verdict does not depend on what the thread verified before -/

/-- **`verify_thread_history_independent`.**  In any sequence of verification requests handled by
one thread — any variants, headers, nonces and proofs before and after, in any order — the verdict
on a request is the verdict on that request alone: a function of (variant, edge bits, header,
nonce, proof).  (This is how the model is built; it is the specification the run `pow order`
checks on the real code, which could violate it through thread-local or static state.) -/
theorem verify_thread_history_independent (pre post : List VReq) (x : VReq) :
    (verifySeq (pre ++ x :: post))[pre.length]? = some (verifyReq x) := by
  unfold verifySeq
  rw [List.map_append, List.map_cons,
    List.getElem?_append_right (by simp), List.length_map, Nat.sub_self]
  rfl

/-- the order of two requests does not matter, nor does a repetition (A, B, A) -/
theorem verify_order_irrelevant (a b : VReq) :
    verifySeq [a, b] = [verifyReq a, verifyReq b] ∧ verifySeq [b, a] = [verifyReq b, verifyReq a] ∧
    verifySeq [a, b, a] = [verifyReq a, verifyReq b, verifyReq a] := ⟨rfl, rfl, rfl⟩

/-- two requests for the same header and nonce under different graph definitions share their
siphash keys (and only those) -/
theorem same_header_same_keys (c d : Ctx) (hdr : Bytes) (nonce : Option Nat) (s t : Bool) :
    (c.step (.seed hdr nonce s)).keys = (d.step (.seed hdr nonce t)).keys := by
  simp only [Ctx.step]
  split <;> split <;> rfl

/-! ## What is not proved (kept visible)

* `Proof` packing (`pack_bits` / `read_number`, padding check) is
  modelled bit for bit (Model/PowPack.lean) and compared on every edge_bits 1..63, but the
  round-trip `readNumber (packNonces w ns) (i*w) w = ns[i]` is not a theorem here (DESIGN A.4 puts
  it under C10).
* History independence of the real context objects is not provable from the model (where it holds
  by construction, `verify_history_independent`): it is sampled by the `hist` run.
* The hash prefix values 0 and 1 (`max(1, h)`) cannot be reached by searching nonce lists
  (probability 2^-64 per proof): `max 1 h` is in the model and in `difficulty_exact`, but the
  correspondence never exercises `h = 0`.
* siphash / blake2b are executable models compared by value; nothing is proved about them (the
  graph theorems hold for every endpoint function). -/

end GV.Props.C05
