import GrinVerif.Lemmas.KvResize
/-! C18: `needs_resize` with the `f32` arithmetic the code really performs (`Model/KvF32.lean`; tied
to the hardware's `f32` by run `kv f32probe`, which also checks exhaustively that for every
page-granular map below 32 GiB the f32 decisions equal the exact-rational ones the theorems of
`Props/C18.lean` are stated for).  What does NOT depend on how the quotient rounds: whenever the
code resizes, the new size is a whole number of chunks, at least one chunk and not below the
chunk-aligned old size; without a resize the size is unchanged. -/
namespace GV.Props.C18F32
open GV GV.Kv GV.Kv.F32

/-- Whatever the f32 comparisons answer: a resize yields a size that
is a multiple of the chunk, at least one chunk, and at least the old size rounded down to a chunk
multiple; no resize leaves the size as it is. -/
theorem needs_resize_f32_aligned (mapSize used chunk : Nat) (hc : 0 < chunk) :
    ((needsResizeF32 mapSize used chunk).1 = true →
      (needsResizeF32 mapSize used chunk).2 % chunk = 0 ∧ chunk ≤ (needsResizeF32 mapSize used chunk).2 ∧
      mapSize - mapSize % chunk ≤ (needsResizeF32 mapSize used chunk).2) ∧
    ((needsResizeF32 mapSize used chunk).1 = false →
      (needsResizeF32 mapSize used chunk).2 = mapSize ∧ chunk ≤ mapSize) := by
  rcases needsResizeF32_cases mapSize used chunk with ⟨hlt, e⟩ | ⟨hle, e⟩ | ⟨hle, e⟩
  · rw [e]
    exact ⟨fun _ => ⟨Nat.mod_self _, Nat.le_refl _, Nat.le_trans (Nat.sub_le _ _) (Nat.le_of_lt hlt)⟩,
      fun h => Bool.noConfusion h⟩
  · rw [e]
    exact ⟨fun h => Bool.noConfusion h, fun _ => ⟨rfl, hle⟩⟩
  · rw [e]
    refine ⟨fun _ => ?_, fun h => Bool.noConfusion h⟩
    -- the loop starts at the old size rounded down to whole chunks, which is at least one chunk
    have h0 : (mapSize - mapSize % chunk) % chunk = 0 := sub_mod_mod _ _
    have hge : chunk ≤ mapSize - mapSize % chunk :=
      Nat.le_of_dvd (Nat.sub_pos_of_lt (Nat.lt_of_lt_of_le (Nat.mod_lt _ hc) hle)) (Nat.dvd_of_mod_eq_zero h0)
    obtain ⟨a, b⟩ := growLoopF32_spec used chunk (used * 2 + 1) _ h0
    -- named first: closing the goal against the open term makes the unifier run the f32 loop
    generalize growLoopF32 used chunk (used * 2 + 1) (mapSize - mapSize % chunk) = new at a b ⊢
    exact ⟨a, Nat.le_trans hge b, b⟩

/-- the model reproduces the IEEE bit patterns of the two thresholds: `0.9_f32 = 0x3F666666`,
`65 as f32 / 100.0 = 0x3F266666`; and the test-mode case of every run: a 1 MiB map with 235 pages
used is above the threshold and grows to 2 MiB -/
theorem f32_constants : bits c90 = 0x3F666666 ∧ bits c65 = 0x3F266666 ∧
    needsResizeF32 1048576 962560 1048576 = (true, 2097152) := by decide +kernel

end GV.Props.C18F32
