import GrinVerif.Gen.Locks
import GrinVerif.Lemmas.ConcDeadlock
import GrinVerif.Lemmas.ConcCommit
import GrinVerif.Lemmas.TxCount
/-! # C17 — concurrent chain use neither deadlocks nor exposes uncommitted state

* `table_*`: decided over the lock table **regenerated from /repo/chain/src/chain.rs,
  txhashset/segmenter.rs and txhashset/desegmenter.rs on every run** (`Gen/Locks.lean`, produced by `tools/gen_locks.py`): a change to chain.rs that
  introduces a lock-order inversion, a re-acquisition of a held lock, a commit outside the
  write locks or a callback under a lock makes these obligations fail at the next check.
* `deadlock_free` & co: for the lock transition system of `Model/Conc.lean`, any number of
  threads, arbitrary programs, arbitrary admissible writer-preference policy: if every program
  respects the order, no reachable state is deadlocked, every execution has at most
  (number of events) steps and can only stop with every thread finished.
* `readers_see_committed` & co: for the commit-protocol model (`Conc.Commit`), every observation
  a reader makes is a state of the sequential commit history.
* `count_eq_open` & co: for the open-transaction counter protocol of `store/src/lmdb.rs`
  (`Model/TxCount.lean`: `enter_tx`, `TxCounter::drop`, the resize waiter) — the one piece of the
  `resizing` gate that decides whether a due map resize ever runs: with every counter update one
  critical section the counter always equals the number of open transactions, hence is 0 whenever
  all transactions are closed and the waiting resize is enabled; `lost_decrement_witness` is a
  concrete schedule of the *split* decrement (`load`; `store(c - 1)`, what `TxCounter::drop` would
  be without the `ENV_MAP` lock) after which the counter is 1 for ever and the system is dead.
  The ties of this part to the code: the watchdog run `conc txcount`, and on the regenerated gate shape
  `Props/C18.shape_is_the_modelled_gate` (the `enter` guard) and `Props/C18Handles.counter_written_by_gate_only`.

NOT covered (named in the evidence): the translation is text-level; the transition system knows
nothing about thread panics, scheduler fairness (a thread may starve without the system being
deadlocked), the `resizing` spin gate of lmdb.rs, or locks taken outside chain.rs / segmenter.rs /
desegmenter.rs; races *inside* one op between the MMR `sync()`s and the LMDB `commit()` as seen by a reader that
takes no chain lock (`Chain::head()`, `get_block`) are visible in the `Commit` model only as the
fact that such a reader sees the LMDB half of a committed state — nothing is claimed about a
reader that combines a lock-free LMDB read with a later locked MMR read. -/
namespace GV.Props.C17
open GV GV.Conc GV.Gen

/-- Every `pub fn` of `impl Chain` (with its callees inlined), of `impl Segmenter` and of `impl Desegmenter`
acquires locks in the global order `orph < hidx < segm < deseg < hp < ts < batch < deny`, never acquires a
lock it already holds (in any mode), releases only what it holds and ends holding nothing. -/
theorem table_respects_order : ∀ e ∈ lockTable, respectsOrder e.2 = true := by
  decide +kernel

/-- Every `batch.commit()` in chain.rs happens while the thread holds the batch and write-holds
`header_pmmr` or `txhashset`: publication to LMDB is never concurrent with a guard-holding reader
of the structure being changed. -/
theorem table_commits_under_write_lock :
    ∀ e ∈ lockTable, e.1 ≠ "Desegmenter::check_progress" → commitsUnderWriteLock e.2 = true := by
  -- the name is compared only where the check fails
  have h : ∀ e ∈ lockTable, commitsUnderWriteLock e.2 = true ∨ e.1 = "Desegmenter::check_progress" := by
    decide +kernel
  exact fun e he hne => (h e he).resolve_right hne

/-- The exception, stated so that it cannot go unnoticed: `Desegmenter::check_progress`
(desegmenter.rs) commits a batch of its own — `save_pibd_head` only — holding neither
`header_pmmr` nor `txhashset` (it has released both read guards before), under the caller's
`pibd_desegmenter.write()` only.  The key it writes (`pibd_head`) is read by no op of the table but
`reset_pibd_head`; it is not part of (head, header head, MMR state) the commit-protocol model
speaks about. -/
theorem desegmenter_check_progress_commits_unlocked :
    (lockTable.lookup "Desegmenter::check_progress").map commitsUnderWriteLock = some false ∧
    (lockTable.lookup "Desegmenter::check_progress").map respectsOrder = some true := by
  decide +kernel

/-- Every op that commits does so while write-holding `txhashset` — the hypothesis under which the
commit-protocol model below speaks about chain.rs / desegmenter.rs (the one exception,
`Desegmenter::check_progress`, commits `pibd_head` only, see above). -/
theorem table_commits_under_ts_write :
    ∀ e ∈ lockTable, e.1 ≠ "Desegmenter::check_progress" → commitsUnderTsWrite e.2 = true := by
  have h : ∀ e ∈ lockTable, commitsUnderTsWrite e.2 = true ∨ e.1 = "Desegmenter::check_progress" := by
    decide +kernel
  exact fun e he hne => (h e he).resolve_right hne

/-- `Chain::txhashset_write` (installing a zipped state; reachable from the p2p `TxHashSetArchive`
message) takes `header_pmmr.write()`, then `txhashset.write()`, then the batch, and commits the new
head, `output_pos` index and block sums to LMDB while it write-holds `txhashset`; the MMR files are
swapped in under the same guard.  It is an ordinary writer of the commit-protocol model
(`state_install_views_old_or_new`).
An op that committed under `header_pmmr.write()` only and took `txhashset.write()` afterwards would make this
`commitsUnderTsWrite = some false` (finding C17-txhashset-write-window: a reader holding `txhashset.read()` sees the
installed head with the genesis MMR state, `get_unspent` of an unspent output answers None); harness mode `zipwin`
probes that window on the real code, `state_install_window_witness` below is its model-level schedule. -/
theorem txhashset_write_commits_under_ts_write :
    (lockTable.lookup "txhashset_write").map commitsUnderTsWrite = some true ∧
    (lockTable.lookup "txhashset_write").map commitsUnderWriteLock = some true ∧
    (lockTable.lookup "txhashset_write").map respectsOrder = some true := by
  decide +kernel

/-- The only callback into foreign code (`self.adapter.block_accepted`) is made with no chain lock
held (so a callback that re-enters the chain, as the pool adapter does, cannot close a cycle
through these locks). -/
theorem table_callbacks_unlocked : ∀ e ∈ lockTable, callbacksUnlocked e.2 = true := by
  decide +kernel

/-- The ops the harness drives concurrently are in the table. -/
theorem table_harness_ops_present :
    ∀ n ∈ ["process_block", "process_block_header", "sync_block_headers", "validate_tx", "get_unspent",
           "get_header_by_height", "head", "head_header", "get_block", "set_txhashset_roots", "segmenter",
           "compact", "validate", "Segmenter::kernel_segment", "Segmenter::output_segment"],
      (lockTable.lookup n).isSome = true := by
  decide +kernel

theorem table_lockfree_readers :
    ∀ n ∈ ["head", "head_header", "header_head", "tail", "get_block", "get_block_header", "get_previous_header",
           "get_block_sums", "block_exists", "is_known"],
      (lockTable.lookup n).map isLockFree = some true := by
  decide +kernel

theorem table_state_readers_take_ts :
    ∀ n ∈ ["get_unspent", "get_unspent_output_at", "validate_tx", "validate_inputs", "verify_coinbase_maturity",
           "get_output_pos", "unspent_outputs_by_pmmr_index", "get_last_n_output", "get_last_n_kernel",
           "get_header_for_output", "validate", "set_txhashset_roots", "get_merkle_proof", "txhashset_read",
           "Segmenter::kernel_segment", "Segmenter::bitmap_segment", "Segmenter::output_segment",
           "Segmenter::rangeproof_segment"],
      (lockTable.lookup n).map takesTs = some true := by
  decide +kernel

/-- The state-receiving side is in the table: every `pub fn` of `impl Desegmenter`
(desegmenter.rs) the servers code and the harness run `pibd` call — they lock the chain's
`header_pmmr` / `txhashset` through the `Arc`s handed over by `Chain::desegmenter()` and open batches
on the chain's store; `table_respects_order` above and `chain_ops_deadlock_free` below range over
them like over every op of chain.rs. -/
theorem table_desegmenter_ops_present :
    ∀ n ∈ ["desegmenter", "Desegmenter::check_progress", "Desegmenter::check_update_leaf_set_state",
           "Desegmenter::validate_complete_state", "Desegmenter::apply_next_segments",
           "Desegmenter::next_desired_segments", "Desegmenter::finalize_bitmap",
           "Desegmenter::add_bitmap_segment", "Desegmenter::add_output_segment",
           "Desegmenter::add_rangeproof_segment", "Desegmenter::add_kernel_segment",
           "Desegmenter::apply_output_segments", "Desegmenter::apply_rangeproof_segments",
           "Desegmenter::apply_kernel_segments"],
      (lockTable.lookup n).isSome = true := by
  decide +kernel

/-- Every `Desegmenter::…` entry runs inside the caller's `pibd_desegmenter.write()` guard (first
event `+deseg.W`, last event `-deseg`: how adapters.rs / state_sync.rs call it), and the ones that
install state — `apply_next_segments` (bitmap, outputs, range proofs, kernels), `finalize_bitmap`,
`check_update_leaf_set_state`, `validate_complete_state` — write-lock `header_pmmr` and `txhashset`
(in that order, by `table_respects_order`). -/
theorem table_desegmenter_under_guard :
    (∀ e ∈ lockTable, e.1.startsWith "Desegmenter::" = true →
      e.2.head? = some (.acq .deseg .W) ∧ e.2.getLast? = some (.rel .deseg)) ∧
    (∀ n ∈ ["Desegmenter::apply_next_segments", "Desegmenter::finalize_bitmap",
            "Desegmenter::check_update_leaf_set_state", "Desegmenter::validate_complete_state",
            "Desegmenter::apply_output_segments", "Desegmenter::apply_rangeproof_segments",
            "Desegmenter::apply_kernel_segments"],
      (lockTable.lookup n).map opClass = some "write") := by
  decide +kernel

/-- **Which public ops are single-view** (generated: `views` over the regenerated table, see
`Model/Conc.lean`).  Every op listed here takes at most ONE view of the chain state: one interval
under `header_pmmr` / `txhashset`, or one lock-free LMDB read.  By `table_commits_under_ts_write`
nothing is published while such an interval holds `txhashset`, so everything the op returns is
read from one committed state (`readers_see_committed`, one observation).  The harness applies its
"data read under one view is mutually consistent" oracles to ops of this list only (`conc views`
lines). -/
theorem table_single_view_ops :
    ∀ n ∈ ["get_unspent", "get_unspent_output_at", "validate_inputs", "get_merkle_proof", "get_merkle_proof_for_pos",
           "get_last_n_output", "get_last_n_rangeproof", "get_last_n_kernel", "get_output_pos",
           "unspent_outputs_by_pmmr_index", "get_header_for_output", "get_header_for_kernel_index",
           "get_locator_hashes", "set_txhashset_roots", "head", "tail", "header_head", "head_header", "get_block",
           "get_block_header", "get_previous_header", "get_block_sums", "block_exists",
           "Segmenter::kernel_segment", "Segmenter::bitmap_segment", "Segmenter::output_segment",
           "Segmenter::rangeproof_segment", "process_block_header", "sync_block_headers", "reset_chain_head",
           "reset_chain_head_to_genesis"],
      (lockTable.lookup n).map views = some 1 := by
  decide +kernel

/-- **Which are not**: the complete list of ops that combine two or more views (with the count the
translator sees; branches are emitted one after the other, so alternatives add up).  What such an
op returns may mix several committed states - in commit order (`multi_view_reads_ordered`), nothing
more is claimed: `get_header_by_height` (hash under `header_pmmr.read()`, header by hash from LMDB
afterwards - harmless, headers are immutable by hash), `get_kernel_height`,
`block_height_range_to_pmmr_indices`, `fork_point`, `is_known`, the archive-header look-ups,
`validate_tx` / `verify_coinbase_maturity` (read-lock path then write-lock path), `validate` (head
header read before the locks), `segmenter`, `compact`, `process_block` (header step, body step,
orphans).  Any change of chain.rs that moves an op into or out of this list breaks the theorem. -/
theorem table_multi_view_ops :
    (lockTable.filter (fun e => decide (views e.2 ≥ 2))).map (fun e => (e.1, views e.2)) =
      [("process_block", 16), ("is_known", 2), ("validate_tx", 2), ("verify_coinbase_maturity", 4), ("validate", 2),
       ("txhashset_read", 2), ("segmenter", 6), ("txhashset_archive_header", 5),
       ("txhashset_archive_header_header_only", 3), ("fork_point", 4), ("txhashset_write", 8), ("compact", 8),
       ("block_height_range_to_pmmr_indices", 5), ("get_header_by_height", 2), ("get_kernel_height", 8),
       ("Desegmenter::check_progress", 2), ("Desegmenter::validate_complete_state", 4),
       ("Desegmenter::apply_next_segments", 7), ("Desegmenter::next_desired_segments", 7)] := by
  decide +kernel

/-- the view counter sees what it should -/
example : views [.acq .hp .R, .acq .ts .R, .mark .dbread, .rel .ts, .rel .hp] = 1 := by decide
example : views [.acq .hp .R, .rel .hp, .mark .dbread] = 2 := by decide
example : views [.mark .dbread, .mark .dbread] = 2 := by decide
example : views [.acq .orph .R, .rel .orph] = 0 := by decide

/-- The 58 ops of the pairwise matrix (harness run `matrix`: every unordered pair of them, 1711
pairs, run against each other on one real Chain) are entries of the regenerated table; by
`chain_ops_deadlock_free` (two threads, each running one of them any number of times) the model has
no deadlock for any of these pairs, and the real code returned for every pair. -/
theorem table_matrix_ops_present :
    ∀ n ∈ ["invalidate_header", "reset_chain_head", "reset_prune_lists", "reset_pibd_head",
           "process_block", "is_known", "process_block_header", "sync_block_headers", "is_orphan",
           "orphans_evicted_len", "get_unspent", "get_unspent_output_at", "validate_tx",
           "validate_inputs", "verify_coinbase_maturity", "verify_tx_lock_height", "validate",
           "set_prev_root_only", "set_txhashset_roots", "get_merkle_proof",
           "get_merkle_proof_for_pos", "txhashset_read", "segmenter", "desegmenter",
           "txhashset_archive_header", "txhashset_archive_header_header_only", "fork_point",
           "check_txhashset_needed", "compact", "get_last_n_output", "get_last_n_rangeproof",
           "get_last_n_kernel", "get_output_pos", "unspent_outputs_by_pmmr_index",
           "block_height_range_to_pmmr_indices", "orphans_len", "head", "tail", "header_head",
           "head_header", "get_block", "get_tail", "get_block_header", "get_previous_header",
           "get_block_sums", "get_header_by_height", "get_header_for_output", "get_kernel_height",
           "get_header_for_kernel_index", "get_locator_hashes", "difficulty_iter", "block_exists",
           "Segmenter::kernel_segment", "Segmenter::bitmap_segment", "Segmenter::output_segment",
           "Segmenter::rangeproof_segment", "Desegmenter::next_desired_segments",
           "Desegmenter::check_progress"],
      (lockTable.lookup n).isSome = true := by
  decide +kernel

/-- the table is not empty / not all lock-free (the translator found the locks) -/
example : (lockTable.filter (fun e => !isLockFree e.2)).length ≥ 30 := by decide +kernel

/-- the checker rejects what it should: the classic inversion, re-acquisition, read-after-read,
release of something not held, a guard leaked past the end -/
example : respectsOrder [.acq .ts .W, .acq .hp .W, .rel .hp, .rel .ts] = false := by decide
example : respectsOrder [.acq .ts .W, .acq .ts .W, .rel .ts] = false := by decide
example : respectsOrder [.acq .ts .R, .acq .ts .R, .rel .ts] = false := by decide
example : respectsOrder [.acq .batch .W, .acq .ts .R, .rel .ts, .rel .batch] = false := by decide
example : respectsOrder [.rel .ts] = false := by decide
example : respectsOrder [.acq .ts .R] = false := by decide
example : commitsUnderWriteLock [.acq .hp .R, .acq .batch .W, .mark .commit, .rel .batch, .rel .hp] = false := by decide
example : callbacksUnlocked [.acq .ts .W, .mark .callback, .rel .ts] = false := by decide

section
variable {L : Type} [DecidableEq L]

/-- **No reachable deadlock.** Any number of threads, arbitrary programs over an arbitrary lock
alphabet with an arbitrary rank function, readers-writer semantics with any admissible
writer-preference policy (`PolicyOK`: a reader is refused only while a writer waits for that
lock): if every program acquires in strictly increasing rank (and is well bracketed), then in every
reachable state either all threads are finished or some thread can move. -/
theorem deadlock_free (rank : L → Nat) (P : Policy L) (hP : PolicyOK P) (progs : List (List (Ev L)))
    (hord : ∀ p ∈ progs, checkFrom rank [] p = true) (s : State L) (hr : Reach P (init progs) s) :
    ¬ Deadlocked P s := by
  intro ⟨hun, hno⟩
  have hinv := Conc.inv_reach rank P _ s (Conc.inv_init rank progs hord) hr
  obtain ⟨i, hi⟩ := progress rank P hP s hinv hun
  exact hno i hi

/-- An execution can only stop in a state where every thread has run its whole program and holds
no lock. -/
theorem stuck_only_when_finished (rank : L → Nat) (P : Policy L) (hP : PolicyOK P) (progs : List (List (Ev L)))
    (hord : ∀ p ∈ progs, checkFrom rank [] p = true) (s : State L) (hr : Reach P (init progs) s)
    (hstuck : ∀ s', ¬ Step P s s') : ∀ t ∈ s, t.prog = [] ∧ t.held = [] := by
  have hinv := Conc.inv_reach rank P _ s (Conc.inv_init rank progs hord) hr
  intro t ht
  have hfin : t.prog = [] := Classical.byContradiction fun h =>
    (progress rank P hP s hinv ⟨t, ht, h⟩).elim fun i hi => hstuck _ ⟨i, hi, rfl⟩
  exact ⟨hfin, held_nil_of_done rank t (hinv t ht) hfin⟩

/-- Every execution is finite: `n` steps from the initial state leave exactly `total − n` events,
so no execution is longer than the total number of events (no livelock inside the lock layer). -/
theorem executions_bounded (P : Policy L) (progs : List (List (Ev L))) (n : Nat) (s : State L)
    (h : RunN P n (init progs) s) : n + remaining s = remaining (init progs) :=
  runN_remaining P h

/-- The modelled locks exclude: in every reachable state a write-held lock is held by nobody else,
in any mode. (Holds for arbitrary programs; without it `deadlock_free` could be vacuous.) -/
theorem mutual_exclusion (P : Policy L) (progs : List (List (Ev L))) (s : State L)
    (hr : Reach P (init progs) s) (i j : Nat) (ti tj : Thread L) (hi : s[i]? = some ti) (hj : s[j]? = some tj)
    (hij : i ≠ j) (l : L) (hl : (l, Mode.W) ∈ ti.held) (m : Mode) : (l, m) ∉ tj.held :=
  excl_reach P _ s (excl_init progs) hr i j ti tj hi hj hij l hl m

end

/-- `deadlock_free` instantiated at the regenerated table: any number of threads, each running any
sequence of ops of chain.rs (as translated), under strict writer preference. -/
theorem chain_ops_deadlock_free (threads : List (List String))
    (hknown : ∀ th ∈ threads, ∀ n ∈ th, (lockTable.lookup n).isSome = true) (s : State Lock)
    (hr : Reach strictWP (init (threads.map (fun th => (th.map (fun n => (lockTable.lookup n).getD [])).flatten))) s) :
    ¬ Deadlocked strictWP s :=
  deadlock_free Lock.rank strictWP (fun _ _ _ h => h) _
    (checkFrom_threads Lock.rank lockTable table_respects_order threads) s hr

/-- The executable enabledness test used by the driver (`conc sim`, `conc selftest`) decides the
`Enabled` relation of the transition system under strict writer preference. -/
theorem driver_scheduler_is_model (s : State Lock) (i : Nat) :
    enabledB s i = true ↔ Enabled strictWP s i := by
  unfold enabledB
  cases hsi : s[i]? with
  | none => simp [Enabled, hsi]
  | some t =>
    cases hp : t.prog with
    | nil => simp [Enabled, hsi, hp]
    | cons e rest =>
      rw [enabled_iff hsi hp]
      cases e with
      | acq l m => cases m <;> simp [EvEnabled, strictWP, hp]
      | rel l => simp [EvEnabled, hp]
      | mark k => simp [EvEnabled, hp]

/-- Under strict writer preference a waiting writer is never overtaken: while some thread's next
event is the write acquisition of `l`, no thread's read acquisition of `l` is enabled — the
semantics of `parking_lot::RwLock` once a writer is parked that makes read-after-read by one thread
a deadlock (run `selftest reread` checks it on the real lock objects).  Together with
`executions_bounded` (programs are finite): the readers inside `l` can only leave. -/
theorem waiting_writer_not_overtaken {L : Type} [DecidableEq L] (s : State L) (i : Nat) (l : L)
    (t : Thread L) (hs : s[i]? = some t) (hr : t.prog.head? = some (.acq l .R))
    (hw : ∃ u ∈ s, u.prog.head? = some (.acq l .W)) : ¬ Enabled strictWP s i := by
  obtain ⟨rest, hp⟩ := List.head?_eq_some_iff.mp hr
  exact fun he => ((enabled_iff hs hp).1 he).2 hw

/-- non-vacuity: a reader arriving while a writer waits for a read-held lock is refused, the holder can
still release -/
example : ¬ Enabled (strictWP (L := Lock))
      [⟨[.rel .ts], [(.ts, .R)]⟩, ⟨[.acq .ts .W, .rel .ts], []⟩, ⟨[.acq .ts .R, .rel .ts], []⟩] 2 ∧
    Enabled (strictWP (L := Lock))
      [⟨[.rel .ts], [(.ts, .R)]⟩, ⟨[.acq .ts .W, .rel .ts], []⟩, ⟨[.acq .ts .R, .rel .ts], []⟩] 0 :=
  ⟨waiting_writer_not_overtaken _ 2 .ts _ rfl rfl ⟨⟨[.acq .ts .W, .rel .ts], []⟩, by simp, rfl⟩, trivial⟩

/-! non-vacuity: the model can deadlock when the discipline is broken -/

/-- two threads taking `hp`/`ts` in opposite orders reach a deadlocked state -/
example : ∃ s, Reach (strictWP (L := Lock))
      (init [[.acq .hp .W, .acq .ts .W, .rel .ts, .rel .hp], [.acq .ts .W, .acq .hp .W, .rel .hp, .rel .ts]]) s
    ∧ Deadlocked strictWP s := deadlock_example_inversion

/-- one thread read-locking `ts` twice with a writer arriving in between deadlocks under writer
preference — why `respectsOrder` rejects read-after-read -/
example : ∃ s, Reach (strictWP (L := Lock))
      (init [[.acq .ts .R, .acq .ts .R, .rel .ts], [.mark .callback, .acq .ts .W, .rel .ts]]) s
    ∧ Deadlocked strictWP s := deadlock_example_reentrant_read

/-- both extreme policies are admissible -/
example : PolicyOK (strictWP (L := Lock)) := fun _ _ _ h => h
example : PolicyOK (fun (_ : State Lock) _ _ => False) := fun _ _ _ h => h.elim

/-- hypotheses of `deadlock_free` are satisfiable by a non-trivial instance -/
example : ∀ p ∈ [[Ev.acq Lock.hp .W, .acq .ts .W, .acq .batch .W, .rel .batch, .rel .ts, .rel .hp],
                 [.acq .hp .R, .acq .ts .R, .rel .ts, .rel .hp], [.acq .ts .R, .rel .ts]],
    checkFrom Lock.rank [] p = true := by decide

section
open Commit
variable {D M : Type}

/-- Every observation made in any run of the commit-protocol system — by a reader holding
`txhashset.read()` (both the LMDB and the MMR component) or by a lock-free reader (LMDB
component) — is the corresponding component of a state of the **sequential commit history**, namely
the state after exactly the `k` ops that had committed when the observation was made. In particular
no reader sees a writer's private work, the half-published state between the MMR sync and the LMDB
commit, or anything of an aborted op. -/
theorem readers_see_committed (s0 : Shared D M) (s : St D M) (log : List (Nat × Obs D M))
    (h : Run s0 s log) : ∀ k o, (k, o) ∈ log → ∃ c, s.hist.reverse[k]? = some c ∧ obsMatches o c :=
  run_obs_committed s0 s log h

/-- Successive observations are of non-decreasing positions in the commit history (the log is
newest first), and never ahead of the current one. -/
theorem observations_monotone (s0 : Shared D M) (s : St D M) (log : List (Nat × Obs D M))
    (h : Run s0 s log) : log.Pairwise (fun a b => b.1 ≤ a.1) ∧ ∀ e ∈ log, e.1 ≤ s.k :=
  run_log_monotone s0 s log h

/-- **What an op that combines several views gets** (the ops of `table_multi_view_ops`, and any
caller that combines `head()` with a later locked read): each of its views is a state of the
sequential commit history, and they come in commit order - a later view is never of an older state
than an earlier one.  (The log is newest first.) -/
theorem multi_view_reads_ordered (s0 : Shared D M) (s : St D M) (log : List (Nat × Obs D M))
    (h : Run s0 s log) :
    log.Pairwise (fun later earlier => earlier.1 ≤ later.1 ∧
      (∃ c, s.hist.reverse[later.1]? = some c ∧ obsMatches later.2 c) ∧
      (∃ c, s.hist.reverse[earlier.1]? = some c ∧ obsMatches earlier.2 c)) := by
  have hm := (run_log_monotone s0 s log h).1
  have hc := run_obs_committed s0 s log h
  exact hm.imp_of_mem (fun {a b} ha hb hab => ⟨hab, hc a.1 a.2 ha, hc b.1 b.2 hb⟩)

/-- Writers are serial: every committed state was computed from the immediately preceding
committed state (the history records, with each entry, the base its op started from). -/
theorem commits_are_serial (s0 : Shared D M) (s : St D M) (log : List (Nat × Obs D M))
    (h : Run s0 s log) : serialHist s0 s.bases s.hist :=
  (cinv_run s0 s log h).serial

/-- **A read-only extension leaves no trace.**  From any state in which the txhashset lock is free
and thread `tid` is idle, the op "take the write lock, do ANY list `fs` of private work steps
(rewind to another block, apply a fork, apply a template block, apply kernels …), roll back,
unlock" — `txhashset::extending_readonly` / `header_extending_readonly` as used by
`get_merkle_proof`, `get_locator_hashes`, `set_txhashset_roots`, `validate`, the NRD path of
`validate_tx`, the write-lock path of `verify_coinbase_maturity`, `init_segmenter` — is executable and
ends in a state that agrees with the starting state in EVERY component: shared LMDB and MMR state,
lock, commit count, history, every thread's phase.  (While it runs, `readers_see_committed` applies:
nobody observes the private work.)  The harness drives these ops against the `View` / `HeaderView`
readers. -/
theorem readonly_extension_leaves_no_trace (s : St D M) (tid : Nat) (fs : List (Shared D M → Shared D M))
    (hfree : s.ts = .free) (hidle : s.wr tid = .idle) :
    ∃ s', Silent s s' ∧ s'.sh = s.sh ∧ s'.ts = s.ts ∧ s'.k = s.k ∧ s'.hist = s.hist ∧
      s'.bases = s.bases ∧ ∀ j, s'.wr j = s.wr j := by
  have st := CStep.wlock s tid hfree hidle
  have hw := work_chain fs { s with ts := .writer tid, wr := fun j => if j = tid then .working s.sh s.sh else s.wr j }
    tid s.sh s.sh (by simp)
  refine ⟨_, Silent.step (Silent.head st hw) (CStep.abort _ tid s.sh (workAll s.sh fs) (by simp)),
    rfl, hfree.symm, rfl, rfl, rfl, fun j => ?_⟩
  by_cases hjt : j = tid <;> simp [hjt, hidle]

/-- what a read-only extension would do if its rollback were lost (the closure's error propagated
past `force_rollback`, the seeded change C17-F): the private MMR work is published and the lock
released, no commit -/
def _root_.GV.Conc.Commit.leakUnlock (s : St D M) (tid : Nat) : St D M :=
  match s.wr tid with
  | .working _ w => { s with sh := { s.sh with mmr := w.mmr }, ts := .free,
                             wr := fun j => if j = tid then .idle else s.wr j }
  | _ => s

/-- thread 3 inside a read-only extension that has rewound the MMR part of its private copy -/
def _root_.GV.Conc.Commit.leakExample : St Nat Nat :=
  { sh := ⟨0, 0⟩, ts := .writer 3, k := 0, hist := [⟨0, 0⟩], bases := [],
    wr := fun j => if j = 3 then .working ⟨0, 0⟩ ⟨0, 9⟩ else .idle }

/-- non-vacuity and contrast (the seeded change C17-F, a lost rollback): the same op with the
rollback skipped (`leakUnlock`: the private MMR work is published when the lock is released, nothing
is committed) leaves the lock free with an MMR state that is in NO state of the commit history — the
next reader under `txhashset.read()` observes it. -/
theorem lost_rollback_exposes_uncommitted :
    (leakUnlock leakExample 3).ts = .free ∧ (leakUnlock leakExample 3).sh.db = 0 ∧
    (leakUnlock leakExample 3).sh.mmr = 9 ∧ (leakUnlock leakExample 3).hist = [⟨0, 0⟩] ∧
    CStep { (leakUnlock leakExample 3) with ts := .readers 1 } (some (.locked 0 9))
          { (leakUnlock leakExample 3) with ts := .readers 1 } ∧
    ∀ c ∈ (leakUnlock leakExample 3).hist, ¬ obsMatches (.locked 0 9) c := by
  have hh : (leakUnlock leakExample 3).hist = [⟨0, 0⟩] := rfl
  exact ⟨rfl, rfl, rfl, hh, CStep.rread _ 1 rfl, by simp [hh, obsMatches]⟩

/-- **A state install is seen old or new, never mixed.**  In any run of the commit-protocol system in
which exactly one op has committed (the install of state `w` over `s0` — `Chain::txhashset_write` is such an op:
`txhashset_write_commits_under_ts_write`), every view a
reader takes under `txhashset.read()` is the pair (LMDB part, MMR part) of `s0` or the pair of `w`;
every lock-free LMDB read is the LMDB part of one of the two. -/
theorem state_install_views_old_or_new (s0 w : Shared D M) (s : St D M) (log : List (Nat × Obs D M))
    (h : Run s0 s log) (hh : s.hist = [w, s0]) :
    ∀ k o, (k, o) ∈ log → obsMatches o s0 ∨ obsMatches o w := by
  intro k o hm
  obtain ⟨c, hc, hmatch⟩ := run_obs_committed s0 s log h k o hm
  have hc : c ∈ [w, s0] := hh ▸ List.mem_reverse.1 (List.mem_of_getElem? hc)
  simp only [List.mem_cons, List.not_mem_nil, or_false] at hc
  rcases hc with rfl | rfl
  · exact Or.inr hmatch
  · exact Or.inl hmatch

/-- non-vacuity: a run with one install `⟨7,7⟩` over `⟨0,0⟩`, a view taken before and one after -/
example : ∃ (s : St Nat Nat) (log : List (Nat × Obs Nat Nat)), Run ⟨0, 0⟩ s log ∧ s.hist = [⟨7, 7⟩, ⟨0, 0⟩] ∧
    log = [(1, .locked 7 7), (0, .lockfree 0), (0, .locked 0 0)] := by
  let s0 : Shared Nat Nat := ⟨0, 0⟩
  have r0 := Run.nil (s0 := s0)
  have r1 := Run.silent r0 (CStep.rlock0 _ rfl)
  have r2 := Run.obs r1 (CStep.rread _ 1 rfl)
  have r3 := Run.silent r2 (CStep.runlock1 _ rfl)
  have r4 := Run.silent r3 (CStep.wlock _ 5 rfl rfl)
  have r5 := Run.silent r4 (CStep.work _ 5 s0 s0 (fun _ => ⟨7, 7⟩) rfl)
  have r6 := Run.silent r5 (CStep.sync _ 5 s0 ⟨7, 7⟩ rfl)
  have r7 := Run.obs r6 (CStep.lfread _)
  have r8 := Run.silent r7 (CStep.commit _ 5 s0 ⟨7, 7⟩ rfl)
  have r9 := Run.silent r8 (CStep.wunlock _ 5 rfl)
  have r10 := Run.silent r9 (CStep.rlock0 _ rfl)
  have r11 := Run.obs r10 (CStep.rread _ 1 rfl)
  exact ⟨_, _, r11, rfl, rfl⟩

/-- `Chain::txhashset_write` (chain.rs, install of a zipped state) with the LMDB commit outside the txhashset lock
(finding C17-txhashset-write-window): the LMDB part
of the new state `w` (body head, output_pos index, block sums) is committed while the thread holds
`header_pmmr.write()` but NOT the txhashset lock - readers holding `txhashset.read()` are not
excluded; the MMR part follows later under `txhashset.write()` (`installSwap`). -/
def _root_.GV.Conc.Commit.installCommit (s : St D M) (w : Shared D M) : St D M :=
  { s with sh := { s.sh with db := w.db }, k := s.k + 1, hist := w :: s.hist, bases := s.sh :: s.bases }

/-- second half: the MMR files are swapped in (needs the txhashset lock free: `txhashset.write()`) -/
def _root_.GV.Conc.Commit.installSwap (s : St D M) (w : Shared D M) : St D M :=
  { s with sh := { s.sh with mmr := w.mmr } }

/-- **The state-install window of the protocol BEFORE the repair, as a kernel-checked schedule**
(the model-level counterpart of finding C17-txhashset-write-window, which harness mode `zipwin` watches for on the
real code).
Before the repair `Chain::txhashset_write` committed the LMDB half of the new state without holding
the txhashset lock (`installCommit`) and swapped the MMR half in later (`installSwap`).  Schedule: a reader takes
`txhashset.read()`, the install commits `⟨7, 7⟩` to LMDB, the reader reads: it observes LMDB part 7
with MMR part 0 - a pair that is NO state of the commit history `[⟨7,7⟩, ⟨0,0⟩]`; after the swap (the
reader gone) the shared state is the committed `⟨7, 7⟩`.  With the txhashset write lock held across
both halves the op is an ordinary writer of the model and `state_install_views_old_or_new` excludes this. -/
theorem state_install_window_witness :
    let s1 : St Nat Nat := { (start ⟨0, 0⟩) with ts := .readers 1 }
    let s2 := installCommit s1 ⟨7, 7⟩
    CStep (start ⟨0, 0⟩) none s1 ∧
    CStep s2 (some (.locked 7 0)) s2 ∧
    s2.hist = [⟨7, 7⟩, ⟨0, 0⟩] ∧
    (∀ c ∈ s2.hist, ¬ obsMatches (.locked 7 0) c) ∧
    (installSwap { s2 with ts := .free } ⟨7, 7⟩).sh = ⟨7, 7⟩ := by
  exact ⟨CStep.rlock0 _ rfl, CStep.rread _ 1 rfl, rfl, by simp [obsMatches, installCommit, start], rfl⟩

/-- **While a node receives its state (PIBD), LMDB reads are still committed state.**  The system
extended with the desegmenter's staging step (`PStep.stage`: `Desegmenter::apply_*_segments` /
`finalize_bitmap` publish the MMR part of their work and drop the batch - no LMDB commit): in ANY
run, the LMDB half of every observation - of a reader under `txhashset.read()` and of a lock-free
reader: head, header head, block and header look-ups, the output_pos index - is the LMDB half of
the state after exactly the ops that had committed; only the MMR half may run ahead of it (next
theorem).  Harness tie: run `pibd` (head stays at genesis and names something stored, header view
consistent, while the MMRs grow). -/
theorem pibd_phase_db_reads_committed (s0 : Shared D M) (s : St D M) (log : List (Nat × Obs D M))
    (h : PRun s0 s log) : ∀ k o, (k, o) ∈ log → ∃ c, s.hist.reverse[k]? = some c ∧ obsDb o = c.db := by
  induction h with
  | nil => intro k o hm; cases hm
  | silent _ hs ih =>
    intro k o hm
    obtain ⟨c, hc, hm'⟩ := ih k o hm
    exact ⟨c, phist_stable _ _ _ hs k c hc, hm'⟩
  | @obs s s' log o' hr hs ih =>
    intro k o hm
    rw [pobs_same_state _ _ _ hs]
    rcases List.mem_cons.mp hm with heq | hm
    · cases heq
      exact pobs_now s s' o' (dbinv_prun s0 s log hr) hs
    · exact ih k o hm

/-- … and the MMR half does run ahead: a kernel-checked run in which a segment is staged (MMR part 5)
and a reader under the read lock then observes LMDB part 0 with MMR part 5 - not a state of the
history `[⟨0,0⟩]`; by design of the state sync (the body head moves only when
`validate_complete_state` commits). -/
theorem pibd_phase_mmr_runs_ahead :
    ∃ (s : St Nat Nat) (log : List (Nat × Obs Nat Nat)), PRun ⟨0, 0⟩ s log ∧
      log = [(0, .locked 0 5)] ∧ s.hist = [⟨0, 0⟩] ∧ ∀ c ∈ s.hist, ¬ obsMatches (.locked 0 5) c := by
  let s0 : Shared Nat Nat := ⟨0, 0⟩
  have r0 := PRun.nil (s0 := s0)
  have r1 := PRun.silent r0 (PStep.base (CStep.wlock _ 2 rfl rfl))
  have r2 := PRun.silent r1 (PStep.base (CStep.work _ 2 s0 s0 (fun x => { x with mmr := 5 }) rfl))
  have r3 := PRun.silent r2 (PStep.stage _ 2 s0 ⟨0, 5⟩ rfl)
  have r4 := PRun.silent r3 (PStep.base (CStep.rlock0 _ rfl))
  have r5 := PRun.obs r4 (PStep.base (CStep.rread _ 1 rfl))
  exact ⟨_, _, r5, rfl, rfl, by simp [obsMatches, start, s0]⟩

end

/-! ## the open-transaction counter of the LMDB store (`enter_tx` / `TxCounter` / resize waiter) -/
section
open TxCount

/-- With atomic updates (each `enter_tx` increment and each `TxCounter::drop` decrement is one
critical section under the `ENV_MAP` lock — the code as it is), after ANY valid interleaving of
enters, leaves, resize requests and resizes by any number of threads the counter equals the number
of open transactions (the sum of the per-thread counts); in particular, whenever every thread has
closed everything it opened the counter is back to 0, and a pending resize is then enabled (it does
not wait for ever). -/
theorem count_eq_open (threads : Nat) (acts : List Act) (s : TxCount.St)
    (hat : ∀ a ∈ acts, a.atomic = true) (hrun : runChecked (TxCount.init threads) acts = some s) :
    s.counter = openTotal s ∧
    (quiescent s = true → s.counter = 0) ∧
    (quiescent s = true → s.resizing = true → enabled s .resize = true) := by
  have inv := TxCount.inv_run acts _ s (TxCount.inv_init threads) hat hrun
  have hz : quiescent s = true → s.counter = 0 := by
    intro hq
    rw [inv.count]
    exact total_zero_of_quiescent s.ths hq
  refine ⟨inv.count, hz, ?_⟩
  intro hq hr
  simp [enabled, hr, hz hq]

/-- non-vacuity: three threads, nested and overlapping transactions, a resize requested while two
are open; it runs as soon as they have closed -/
example : runChecked (TxCount.init 3)
      [.enter 0, .enter 1, .enter 0, .request, .leave 0, .enter 0, .leave 1, .leave 0, .leave 0, .resize, .enter 2]
    = some { counter := 1, resizing := false, resizes := 1,
             ths := [{}, {}, { opened := 1 }] } := by decide

/-- Nested reads under an outer transaction while a resize is (or becomes) pending.  In any state
reachable by the atomic protocol in which thread `t` holds an outer transaction (depth > 0):
any number `i + j` of consecutive nested operations of `t` — each a complete enter/leave pair: a
point lookup, a nested iterator — with another thread's resize request falling before the first,
between two of them, or after the last, is a valid schedule: every enter is enabled although the
resize is pending, and afterwards the state is exactly the one before with `resizing` set — the
thread is still registered with the same depth (nested read #1 ending does NOT unregister it, so
read #2 passes), the counter is unchanged, and the resize stays disabled until `t` leaves its
outer transaction. -/
theorem nested_reads_keep_registered (threads : Nat) (acts : List Act) (s : TxCount.St) (t i j : Nat)
    (hat : ∀ a ∈ acts, a.atomic = true) (hrun : runChecked (TxCount.init threads) acts = some s)
    (ht : t < threads) (hin : 0 < depth s t) :
    runChecked s (nestedPairs t (i + j)) = some s ∧
    (s.resizing = false →
      runChecked s (nestedPairs t i ++ [.request] ++ nestedPairs t j) = some { s with resizing := true } ∧
      enabled { s with resizing := true } (.enter t) = true ∧
      enabled { s with resizing := true } .resize = false) := by
  obtain ⟨inv, hlen⟩ := reachable_inv hat hrun
  have hreg : (thOf t s.ths).reg = none := inv.reg_none (by omega)
  refine ⟨run_nestedPairs s t (by omega) hin hreg (i + j), ?_⟩
  intro hrz
  have hs' : ∀ k, runChecked { s with resizing := true } (nestedPairs t k) = some { s with resizing := true } :=
    run_nestedPairs { s with resizing := true } t (by simpa using (by omega : t < s.ths.length)) hin hreg
  refine ⟨?_, ?_, ?_⟩
  · rw [runChecked_append, runChecked_append, run_nestedPairs s t (by omega) hin hreg i]
    simp only [Option.bind, runChecked, enabled, hrz, Bool.not_false, if_true, TxCount.step]
    exact hs' j
  · exact enter_enabled_of_depth (s := { s with resizing := true }) (by simpa [hlen] using ht) hin
  · have hc : s.counter ≠ 0 := by
      rw [inv.count]
      have := opened_le_total t s.ths
      simp only [depth] at hin
      omega
    simp [enabled, hc]

/-- non-vacuity: outer iterator of thread 0, the other thread's resize request between nested read
#1 and #2 of three -/
example : runChecked (TxCount.init 2) ([.enter 0] ++ nestedPairs 0 1 ++ [.request] ++ nestedPairs 0 2 ++ [.leave 0, .resize, .enter 1, .leave 1])
    = some { counter := 0, resizing := false, resizes := 1, ths := [{}, {}] } := by decide

/-- Kernel-checked witness that a decrement made of a separate load and store loses an update
when two of them interleave: two readers enter (counter 2), both load 2, both store 1.  The
schedule is valid (every transition enabled when taken), consists of complete enter/leave pairs
only (afterwards no thread has anything open and no decrement is half done) — yet the counter is
1, not 0.  A resize requested afterwards finds the system dead: `enabled` is false for EVERY
action, so the state can never change again — the resize waits for ever and (the `resizing` flag
staying set) no thread can ever start a transaction again.  The same schedule with atomic
`leave`s ends with counter 0 and the resize runs. -/
theorem lost_decrement_witness :
    runChecked (TxCount.init 2) [.enter 0, .enter 1, .load 0, .load 1, .store 0, .store 1, .request]
      = some stuckState ∧
    quiescent stuckState = true ∧ openTotal stuckState = 0 ∧ stuckState.counter = 1 ∧
    (∀ a, enabled stuckState a = false) ∧
    (∀ acts s', runChecked stuckState acts = some s' → s' = stuckState) ∧
    (∃ s, runChecked (TxCount.init 2) [.enter 0, .enter 1, .leave 0, .leave 1, .request, .resize] = some s ∧
          s.counter = 0 ∧ s.resizes = 1) := by
  refine ⟨by decide, by decide, by decide, rfl, stuckState_dead, ?_,
    ⟨{ counter := 0, resizing := false, resizes := 1, ths := [{}, {}] }, by decide, rfl, rfl⟩⟩
  intro acts s' h
  cases acts with
  | nil => simpa [runChecked] using h.symm
  | cons a r => simp [runChecked, stuckState_dead a] at h

end

end GV.Props.C17
