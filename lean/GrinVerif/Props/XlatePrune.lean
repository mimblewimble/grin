import GrinVerif.Model.PruneList
import GrinVerif.Gen.FnsPrune
import GrinVerif.Lemmas.StoreBitmap
import GrinVerif.Lemmas.PmmrShape
import GrinVerif.Props.XlatePmmr
import GrinVerif.Props.XlatePmmr2
/-! # `store/src/prune_list.rs` translated from the current source = `Model/PruneList.lean`

`Gen/FnsPrune.lean` is regenerated on every run by tools/rs2lean.py (a `croaring::Bitmap` is the
strictly ascending list of its elements, `rank` / `select` / `maximum` / `add` / `remove_range` are the list
functions `bmRank` / `bmSelect` / `List.getLast?` / `bmAdd` / `bmRemoveAll` of `Gen/FnsPrelude.lean`; `&mut self`
methods return the new struct; `assert!` is a conjunct of `_ok`; the recursion of `append` is structural on a
fuel of 64, exactly as the hand model's `appendFuel`).  Here every translated function is proved equal to the
hand-written model function, for every prune list whose bitmap entries are 1-based positions below `2^32`
(`WF`: the code casts positions to `u32`, the model does not model the cast) and every position `pos0 + 2 < 2^32`.
The additions `prev_shift + shift` wrap in the code and not in the model: the cache entries are assumed `< 2^63`
(`Small`), which makes the sum fit. -/
namespace GV.Props.XlatePrune
open GV GV.Pmmr GV.Store GV.Store.PruneList GV.Gen GV.Xlate
open GV.Props.XlatePmmr GV.Props.XlatePmmr2

/-- model prune list → generated record -/
def ofPL (pl : Store.PruneList) : Fns.PruneList := ⟨pl.bitmap, pl.shiftCache, pl.leafShiftCache⟩

/-- bitmap entries are 1-based positions that fit a `u32` -/
def WF (b : List Nat) : Prop := (∀ x ∈ b, 1 ≤ x ∧ x < 2^32) ∧ b.length < 2^32
/-- cache entries leave room for one more shift -/
def Small (c : List Nat) : Prop := ∀ x ∈ c, x < 2^63

theorem bmRank_eq (b : List Nat) (x : Nat) : Fns.bmRank b x = Bm.rank b x := rfl
theorem bmSelect_eq (b : List Nat) (i : Nat) : Fns.bmSelect b i = Bm.select b i := rfl
theorem contains_eq (b : List Nat) (x : Nat) : List.contains b x = Bm.contains b x := rfl
theorem bmAdd_eq (b : List Nat) (x : Nat) : Fns.bmAdd b x = Bm.add b x := by
  induction b with
  | nil => rfl
  | cons y ys ih => simp only [Fns.bmAdd, Bm.add, ih]

/-- `remove_range(lo..=hi)` (the inclusive range as the list of its elements) = the model's `removeRange lo hi` -/
theorem bmRemoveAll_eq (b : List Nat) (lo hi : Nat) :
    Fns.bmRemoveAll b (List.range' lo (hi + 1 - lo)) = Bm.removeRange b lo hi := by
  unfold Fns.bmRemoveAll Bm.removeRange
  apply List.filter_congr
  intro v _
  congr 1
  rw [Bool.eq_iff_iff]
  simp only [List.contains_iff_mem, List.mem_range'_1, Bool.and_eq_true, decide_eq_true_eq]
  omega

example : Fns.bmRemoveAll [1, 3, 4, 7, 9] (List.range' 3 (7 + 1 - 3)) = [1, 9] := by decide
example : Fns.bmAdd [1, 4, 9] 5 = [1, 4, 5, 9] ∧ Fns.bmRank [1, 4, 9] 4 = 2 ∧ Fns.bmSelect [1, 4, 9] 2 = some 9 := by decide

theorem pos1_eq {pos0 : Nat} (h : pos0 + 1 < 2^32) : Fns.addN 32 1 (Fns.castN 32 pos0) = 1 + pos0 := by
  rw [castN_eq (by omega), addN_eq (by omega)]

theorem is_pruned_root_eq (pl : Store.PruneList) (pos0 : Nat) (h : pos0 + 1 < 2^32) :
    Fns.PruneList_is_pruned_root pl.bitmap pos0 = pl.isPrunedRoot pos0 := by
  unfold Fns.PruneList_is_pruned_root isPrunedRoot
  rw [pos1_eq h]; rfl

/-- `cache[min(idx, len) - 1]` behind the `idx == 0` test = the model's `cacheAt` (an empty cache reads the default
0 on both sides: in the code it would be an index panic, see `get_shift_ok_iff`) -/
theorem cacheAt_eq (cache : List Nat) (i : Nat) (hi : i < 2^64) :
    (if (i == 0) = true then 0 else Fns.idx cache (subW (min i cache.length) 1)) = cacheAt cache i := by
  unfold cacheAt Fns.idx
  by_cases h0 : i = 0
  · simp [h0]
  · have hb : (i == 0) = false := by simp [h0]
    simp only [hb, Bool.false_eq_true, if_false, h0]
    by_cases hl : cache.length = 0
    · have : cache = [] := List.eq_nil_of_length_eq_zero hl
      subst this; simp
    · have hm : 1 ≤ min i cache.length := by omega
      have : subW (min i cache.length) 1 = min i cache.length - 1 := subW_eq (by omega) hm
      rw [this]; rfl

/-- `get_shift` and `get_leaf_shift` are the same text, each on its own cache -/
theorem get_shift_cache_eq (b cache : List Nat) (pos0 : Nat) (h : pos0 + 1 < 2^32) (hl : b.length < 2^64) :
    Fns.PruneList_get_shift b cache pos0 = cacheAt cache (Bm.rank b (1 + pos0)) := by
  unfold Fns.PruneList_get_shift
  rw [pos1_eq h, bmRank_eq]
  exact cacheAt_eq _ _ (Nat.lt_of_le_of_lt (rank_le_length _ _) hl)

theorem get_shift_eq (pl : Store.PruneList) (pos0 : Nat) (h : pos0 + 1 < 2^32) (hl : pl.bitmap.length < 2^64) :
    Fns.PruneList_get_shift pl.bitmap pl.shiftCache pos0 = getShift pl pos0 :=
  get_shift_cache_eq _ _ pos0 h hl

theorem get_leaf_shift_eq (pl : Store.PruneList) (pos0 : Nat) (h : pos0 + 1 < 2^32) (hl : pl.bitmap.length < 2^64) :
    Fns.PruneList_get_leaf_shift pl.bitmap pl.leafShiftCache pos0 = getLeafShift pl pos0 :=
  get_shift_cache_eq _ _ pos0 h hl

/-- `get_shift` panics (index out of range) exactly when the rank is positive and the cache is empty -/
theorem get_shift_ok_iff (pl : Store.PruneList) (pos0 : Nat) (h : pos0 + 1 < 2^32) (hl : pl.bitmap.length < 2^64) :
    Fns.PruneList_get_shift_ok pl.bitmap pl.shiftCache pos0 = true ↔
      (Bm.rank pl.bitmap (1 + pos0) = 0 ∨ pl.shiftCache ≠ []) := by
  unfold Fns.PruneList_get_shift_ok
  rw [pos1_eq h, bmRank_eq]
  have hr := rank_le_length pl.bitmap (1 + pos0)
  by_cases h0 : Bm.rank pl.bitmap (1 + pos0) = 0
  · simp [h0]
  · have hb : (Bm.rank pl.bitmap (1 + pos0) == 0) = false := by simp [h0]
    simp only [hb, Bool.false_eq_true, if_false, h0, false_or, decide_eq_true_eq]
    cases hc : pl.shiftCache with
    | nil => simp [subW]
    | cons a t =>
      simp only [List.length_cons, ne_eq, reduceCtorEq, not_false_eq_true, iff_true]
      have : subW (min (Bm.rank pl.bitmap (1 + pos0)) (t.length + 1)) 1
          = min (Bm.rank pl.bitmap (1 + pos0)) (t.length + 1) - 1 := subW_eq (by omega) (by omega)
      rw [this]; omega

theorem last_bounds {b : List Nat} (hw : WF b) : 1 ≤ (Bm.maximum b).getD 1 ∧ (Bm.maximum b).getD 1 < 2^32 := by
  unfold Bm.maximum
  cases hlast : b.getLast? with
  | none => simp
  | some m =>
    have hm : m ∈ b := List.mem_of_getLast? hlast
    simpa using hw.1 m hm

theorem last_pos_eq {b : List Nat} (hw : WF b) :
    subW (Option.getD (List.getLast? b) 1) 1 = (Bm.maximum b).getD 1 - 1 ∧ (Bm.maximum b).getD 1 - 1 + 1 < 2^32 := by
  have hb := last_bounds hw
  unfold Bm.maximum at hb ⊢
  unfold subW
  omega

theorem get_total_shift_eq (pl : Store.PruneList) (hw : WF pl.bitmap) :
    Fns.PruneList_get_total_shift pl.bitmap pl.shiftCache = getTotalShift pl := by
  unfold Fns.PruneList_get_total_shift getTotalShift
  rw [(last_pos_eq hw).1]
  exact get_shift_eq pl _ (last_pos_eq hw).2 (by have := hw.2; omega)

theorem get_total_leaf_shift_eq (pl : Store.PruneList) (hw : WF pl.bitmap) :
    Fns.PruneList_get_total_leaf_shift pl.bitmap pl.leafShiftCache = getTotalLeafShift pl := by
  unfold Fns.PruneList_get_total_leaf_shift getTotalLeafShift
  rw [(last_pos_eq hw).1]
  exact get_leaf_shift_eq pl _ (last_pos_eq hw).2 (by have := hw.2; omega)

example : Fns.PruneList_get_shift [2, 5] [2, 4] 3 = 2 ∧ Fns.PruneList_get_total_shift [2, 5] [2, 4] = 4 := by decide


theorem height_le_30 {pos0 : Nat} (h : pos0 + 2 < 2^32) : height pos0 ≤ 30 :=
  Nat.le_of_lt_succ (Co.height_lt_of_lt (k := 31) (by omega))

theorem shl_one_height {pos0 : Nat} (h : pos0 + 2 < 2^32) : shlW 1 (height pos0) = 2^(height pos0) := by
  exact shlW_one_left (by have := height_le_30 h; omega)

theorem rootShift_eq {pos0 : Nat} (h : pos0 + 2 < 2^32) :
    mulW 2 (subW (shlW 1 (height pos0)) 1) = rootShift pos0 ∧ rootShift pos0 < 2^32 := by
  have hb := Co.height_bound pos0
  have hpos : 0 < 2^(height pos0) := Nat.pow_pos (by omega)
  rw [shl_one_height h]
  unfold rootShift mulW subW
  constructor <;> omega

theorem cacheAt_small {c : List Nat} (hs : Small c) (i : Nat) : cacheAt c i < 2^63 := by
  unfold cacheAt
  split
  · omega
  · rw [List.getD_eq_getElem?_getD]
    cases hg : c[min i c.length - 1]? with
    | none => simp
    | some v => simpa using hs v (List.mem_of_getElem? hg)

/-- `prev_shift + shift` does not wrap: the cached entry is below `2^63`, the root shift below `2^32` -/
theorem next_shift_eq (b cache : List Nat) (root : Bool) (pos0 code model : Nat) (h : pos0 + 2 < 2^32)
    (hl : b.length < 2^64) (hs : Small cache) (hr : code = model ∧ model < 2^32) :
    addW (if (pos0 == 0) = true then 0 else Fns.PruneList_get_shift b cache (subW pos0 1))
        (if root = true then code else 0)
      = (if pos0 = 0 then 0 else cacheAt cache (Bm.rank b (1 + (pos0 - 1)))) + (if root = true then model else 0) := by
  have hprev : (if (pos0 == 0) = true then 0 else Fns.PruneList_get_shift b cache (subW pos0 1))
      = (if pos0 = 0 then 0 else cacheAt cache (Bm.rank b (1 + (pos0 - 1)))) := by
    by_cases h0 : pos0 = 0
    · simp [h0]
    · have : subW pos0 1 = pos0 - 1 := subW_eq (by omega) (by omega)
      simp only [h0, beq_iff_eq, if_false, this]
      exact get_shift_cache_eq b cache _ (by omega) hl
  have hp : (if pos0 = 0 then 0 else cacheAt cache (Bm.rank b (1 + (pos0 - 1)))) < 2^63 := by
    split
    · omega
    · exact cacheAt_small hs _
  rw [hprev, hr.1]
  have hr2 := hr.2
  cases root
  · simp only [Bool.false_eq_true, if_false]; exact addW_eq (by omega)
  · simp only [if_true]; exact addW_eq (by omega)

theorem calculate_next_shift_eq (pl : Store.PruneList) (pos0 : Nat) (h : pos0 + 2 < 2^32)
    (hl : pl.bitmap.length < 2^64) (hs : Small pl.shiftCache) :
    Fns.PruneList_calculate_next_shift pl.bitmap pl.shiftCache pos0 = calculateNextShift pl pos0 := by
  unfold Fns.PruneList_calculate_next_shift calculateNextShift
  rw [is_pruned_root_eq pl pos0 (by omega), bintree_postorder_height_eq pos0 (by omega)]
  exact next_shift_eq _ _ _ pos0 _ _ h hl hs (rootShift_eq h)

theorem rootLeafShift_eq {pos0 : Nat} (h : pos0 + 2 < 2^32) :
    (if (height pos0 == 0) = true then 0 else shlW 1 (height pos0)) = rootLeafShift pos0 ∧ rootLeafShift pos0 < 2^32 := by
  have hb := Co.height_bound pos0
  rw [shl_one_height h]
  unfold rootLeafShift
  by_cases h0 : height pos0 = 0
  · simp [h0]
  · simp only [h0, beq_iff_eq, if_false, true_and]; omega

theorem calculate_next_leaf_shift_eq (pl : Store.PruneList) (pos0 : Nat) (h : pos0 + 2 < 2^32)
    (hl : pl.bitmap.length < 2^64) (hs : Small pl.leafShiftCache) :
    Fns.PruneList_calculate_next_leaf_shift pl.bitmap pl.leafShiftCache pos0 = calculateNextLeafShift pl pos0 := by
  unfold Fns.PruneList_calculate_next_leaf_shift calculateNextLeafShift
  rw [is_pruned_root_eq pl pos0 (by omega), bintree_postorder_height_eq pos0 (by omega)]
  exact next_shift_eq _ _ _ pos0 _ _ h hl hs (rootLeafShift_eq h)

theorem is_pruned_eq (pl : Store.PruneList) (pos0 : Nat) (h : pos0 + 1 < 2^32) (hw : WF pl.bitmap) :
    Fns.PruneList_is_pruned pl.bitmap pos0 = isPruned pl pos0 := by
  unfold Fns.PruneList_is_pruned isPruned
  rw [is_pruned_root_eq pl pos0 h, pos1_eq h]
  have hr := rank_le_length pl.bitmap (1 + pos0)
  have hc : Fns.castN 32 (Bm.rank pl.bitmap (1 + pos0)) = Bm.rank pl.bitmap (1 + pos0) :=
    castN_eq (by have := hw.2; omega)
  simp only [bmRank_eq, bmSelect_eq, hc]
  cases hsel : Bm.select pl.bitmap (Bm.rank pl.bitmap (1 + pos0)) with
  | none => rfl
  | some root =>
    have hm : root ∈ pl.bitmap := by unfold Bm.select at hsel; exact List.mem_of_getElem? hsel
    have hb := hw.1 root hm
    have e : subW root 1 = root - 1 := subW_eq (by omega) (by omega)
    simp only [e, bintree_range_eq (root - 1) (by omega)]

theorem cleanup_subtree_eq (pl : Store.PruneList) (pos0 : Nat) (h : pos0 + 2 < 2^32) :
    Fns.PruneList_cleanup_subtree (ofPL pl) pos0 = ofPL (cleanupSubtree pl pos0) := by
  unfold Fns.PruneList_cleanup_subtree cleanupSubtree ofPL
  have hlm : bintreeLeftmost pos0 ≤ pos0 := Co.leftmost_le pos0
  have hc : Fns.castN 32 (Fns.bintree_leftmost pos0) = bintreeLeftmost pos0 := by
    rw [bintree_leftmost_eq_u64 pos0 (by omega)]; exact castN_eq (by omega)
  simp only [hc]
  have hmax : Option.getD (List.getLast? pl.bitmap) 0 = (Bm.maximum pl.bitmap).getD 0 := rfl
  rw [hmax]
  by_cases hge : bintreeLeftmost pos0 ≥ (Bm.maximum pl.bitmap).getD 0
  · simp [hge]
  · have e1 : Fns.addN 32 (bintreeLeftmost pos0) 1 = bintreeLeftmost pos0 + 1 := addN_eq (by omega)
    simp only [hge, decide_false, Bool.false_eq_true, if_false, e1, bmRemoveAll_eq, bmRank_eq]

theorem cleanupSubtree_small {pl : Store.PruneList} (pos0 : Nat) (h1 : Small pl.shiftCache)
    (h2 : Small pl.leafShiftCache) :
    Small (cleanupSubtree pl pos0).shiftCache ∧ Small (cleanupSubtree pl pos0).leafShiftCache := by
  unfold cleanupSubtree
  by_cases hge : bintreeLeftmost pos0 ≥ (Bm.maximum pl.bitmap).getD 0
  · simp only [hge, if_true]; exact ⟨h1, h2⟩
  · simp only [hge, if_false]
    exact ⟨fun x hx => h1 x (List.mem_of_mem_take hx), fun x hx => h2 x (List.mem_of_mem_take hx)⟩

/-- the hypotheses under which `append_single` / `append` are tied: a well-formed bitmap and small cache entries -/
structure Ok (pl : Store.PruneList) : Prop where
  wf : WF pl.bitmap
  s1 : Small pl.shiftCache
  s2 : Small pl.leafShiftCache

theorem append_single_eq (pl : Store.PruneList) (pos0 : Nat) (h : pos0 + 2 < 2^32)
    (hl : (Bm.add pl.bitmap (1 + pos0)).length < 2^64) (hs1 : Small pl.shiftCache) (hs2 : Small pl.leafShiftCache) :
    Fns.PruneList_append_single (ofPL pl) pos0 = ofPL (appendSingle pl pos0) := by
  unfold Fns.PruneList_append_single appendSingle ofPL
  simp only [pos1_eq (show pos0 + 1 < 2^32 by omega), bmAdd_eq]
  have e1 := calculate_next_shift_eq { pl with bitmap := Bm.add pl.bitmap (1 + pos0) } pos0 h hl hs1
  have e2 := calculate_next_leaf_shift_eq
    { bitmap := Bm.add pl.bitmap (1 + pos0), leafShiftCache := pl.leafShiftCache,
      shiftCache := pl.shiftCache ++ [calculateNextShift { pl with bitmap := Bm.add pl.bitmap (1 + pos0) } pos0] }
    pos0 h hl hs2
  simp only at e1 e2
  rw [e1, e2]

/-- the `k`-th ancestor of the POSITION `pos0` (`family(pos0).0` iterated; not `Seg.anc`): the positions the recursion of
`append` visits -/
def anc : Nat → Nat → Nat
  | 0, p => p
  | k+1, p => anc k (family p).1

/-- **`append` = `appendFuel`** as long as every position the recursion VISITS (the `k`-th ancestor is visited iff the
siblings of all earlier ones are pruned) stays below `2^31 - 2` (so that its parent and sibling fit a `u32`) -/
theorem append_fuel_eq (pl : Store.PruneList) (hok : Ok pl)
    (hadd : ∀ x, (Bm.add (cleanupSubtree pl x).bitmap (1 + x)).length < 2^64) :
    ∀ (n pos0 : Nat),
      (∀ k ≤ n, (∀ j < k, isPruned pl (family (anc j pos0)).2 = true) → anc k pos0 + 2 < 2^31) →
      Fns.PruneList_append_fuel n (ofPL pl) pos0 = ofPL (appendFuel n pl pos0) := by
  intro n
  induction n with
  | zero => intro pos0 _; rfl
  | succ n ih =>
    intro pos0 hanc
    have h0' : pos0 + 2 < 2^31 := hanc 0 (by omega) (fun j hj => by omega)
    have h0 : pos0 + 2 < 2^32 := by omega
    have hfam : Fns.family pos0 = family pos0 := family_eq pos0 (by omega)
    have hsib : (family pos0).2 + 1 < 2^32 := by
      have hbd := Co.height_bound pos0
      have hpk : 0 < 2^(peakMapHeight pos0).2 := Nat.pow_pos (by omega)
      unfold height at hbd
      by_cases hb : bitSet (peakMapHeight pos0).1 (peakMapHeight pos0).2 = true
      · simp only [family, hb, if_true]; omega
      · simp only [family, hb, if_false, Bool.false_eq_true]; omega
    unfold Fns.PruneList_append_fuel appendFuel
    simp only [hfam]
    have hp : Fns.PruneList_is_pruned (ofPL pl).bitmap (family pos0).2 = isPruned pl (family pos0).2 :=
      is_pruned_eq pl _ hsib hok.wf
    rw [hp]
    by_cases hpr : isPruned pl (family pos0).2 = true
    · simp only [hpr, if_true]
      apply ih
      intro k hk prem
      apply hanc (k + 1) (by omega)
      intro j hj
      cases j with
      | zero => exact hpr
      | succ j => exact prem j (by omega)
    · simp only [hpr, Bool.false_eq_true, if_false]
      rw [cleanup_subtree_eq pl pos0 h0]
      exact append_single_eq _ pos0 h0 (hadd pos0) (cleanupSubtree_small pos0 hok.s1 hok.s2).1
        (cleanupSubtree_small pos0 hok.s1 hok.s2).2

theorem append_eq (pl : Store.PruneList) (hok : Ok pl)
    (hadd : ∀ x, (Bm.add (cleanupSubtree pl x).bitmap (1 + x)).length < 2^64) (pos0 : Nat)
    (hanc : ∀ k ≤ 64, (∀ j < k, isPruned pl (family (anc j pos0)).2 = true) → anc k pos0 + 2 < 2^31) :
    Fns.PruneList_append (ofPL pl) pos0 = ofPL (Store.PruneList.append pl pos0) :=
  append_fuel_eq pl hok hadd 64 pos0 hanc

theorem isPruned_empty (x : Nat) : isPruned {} x = false := by
  simp [isPruned, isPrunedRoot, Bm.contains, Bm.select, Bm.rank]

/-- non-vacuity: the hypotheses of `append_eq` hold for the empty prune list and position 1 (no sibling is pruned, so
only `pos0` itself is visited) -/
example : Fns.PruneList_append (ofPL {}) 1 = ofPL (Store.PruneList.append {} 1) := by
  apply append_eq {} ⟨⟨by simp, by simp⟩, by simp [Small], by simp [Small]⟩
  · intro x
    have : cleanupSubtree {} x = {} := by simp [cleanupSubtree, Bm.maximum]
    rw [this]; simp [Bm.add]
  · intro k _ prem
    cases k with
    | zero => simp [anc]
    | succ k => have := prem 0 (by omega); rw [isPruned_empty] at this; cases this

end GV.Props.XlatePrune
