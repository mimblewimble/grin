import GrinVerif.Lemmas.ChainOrphan
import GrinVerif.Lemmas.ChainExampleFacts
/-! # C03 — head is the most-work validated chain, whatever the arrival order
(theorems on `Model/Chain.lean`; definitions used in the statements: `Event`, `run`, `Registered`
in `Lemmas/ChainRun.lean`; `HeadMax`, `StoredClosed`, `PassedCheck` in
`Lemmas/ChainInv.lean`; `VOP` (valid on path), `HdrOk`, `Fresh` in `Lemmas/ChainInv.lean` /
`Lemmas/ChainStep.lean`; `ParentsFirst`, `blockIds` in `Lemmas/ChainOrder.lean`) -/
namespace GV.Props.C03
open GV GV.Chain

/-- Processing a block moves the head only to that block, only if the block passed every check
against the replayed state of its own parent, and only if it has strictly more cumulative work
than the current head; otherwise the head does not move. -/
theorem head_moves_only_up (p : Params) (n : Node) (b : Blk) :
    (processBlockSingle p n b).1.head = n.head ∨
    ((processBlockSingle p n b).1.head = b.id ∧ b.work > n.workOf n.head ∧
      ∃ par s', b.parent = some par ∧ checkBlock p n b par = .ok s') := by
  rcases processBlockSingle_core p n b with ⟨hc, _⟩ | ⟨par, s', A⟩
  · left; exact hc.head
  · rcases A.head with ⟨a, _, _⟩ | ⟨a, c, _⟩
    · left; exact a
    · right; exact ⟨a, c, par, s', A.parent, A.check⟩

/-- (c) Validity is path-determined: the verdict of `checkBlock` on a block is a function of the
output and block definitions only — not of the delivery history (headers known, blocks stored,
head, orphan pool). -/
theorem validity_path_determined (p : Params) (n m : Node) (ho : n.outs = m.outs)
    (hb : n.blks = m.blks) (b : Blk) (par : Nat) : checkBlock p n b par = checkBlock p m b par :=
  checkBlock_congr ho hb p b par

/-- … in particular it is the same before and after any delivery history. -/
theorem validity_history_independent (p : Params) (n : Node) (es : List Event) (b : Blk) (par : Nat) :
    checkBlock p (run p n es) b par = checkBlock p n b par :=
  checkBlock_congr (run_defs p n es).2 (run_defs p n es).1 p b par

/-- Block and output definitions are never changed by a run. -/
theorem run_keeps_definitions (p : Params) (n : Node) (es : List Event) :
    (run p n es).blks = n.blks ∧ (run p n es).outs = n.outs := run_defs p n es

/-- `HeadMax` (the head has the greatest cumulative work among stored blocks) is preserved by
processing any block that is the registered definition of its id. -/
theorem headMax_step (p : Params) (n : Node) (b : Blk) (hb : n.blk b.id = some b) (inv : HeadMax n) :
    HeadMax (processBlockSingle p n b).1 := (preserved_headMax p).single n b hb inv

/-! (a) `HeadMax` through the orphan re-check loop, a whole block delivery, a header delivery … -/

theorem headMax_checkOrphans (p : Params) (fuel : Nat) (n : Node) (height : Nat) (inv : HeadMax n) :
    HeadMax (checkOrphans p fuel n height) := checkOrphans_preserved (preserved_headMax p) fuel n height inv

theorem headMax_deliverBlock (p : Params) (n : Node) (b : Blk) (hb : n.blk b.id = some b)
    (inv : HeadMax n) : HeadMax (deliverBlock p n b).1 :=
  deliverBlock_preserved (preserved_headMax p) n b hb inv

theorem headMax_deliverHeader (p : Params) (n : Node) (b : Blk) (hb : n.blk b.id = some b)
    (inv : HeadMax n) : HeadMax (deliverHeader p n b).1 :=
  deliverHeader_preserved (preserved_headMax p) n b hb inv

/-- … and through any finite delivery history: **at all times the head has the greatest
cumulative work among the stored blocks**. -/
theorem head_is_max (p : Params) (n : Node) (es : List Event) (hreg : Registered n es)
    (inv : HeadMax n) : HeadMax (run p n es) := run_preserved (preserved_headMax p) n es hreg inv

/-! (a) `StoredClosed` (genesis and head are stored; every stored block's parent is stored — so the
stored blocks are exactly "accepted blocks whose ancestors are all accepted") through the orphan
loop, block and header delivery, and any finite history. -/

theorem storedClosed_checkOrphans (p : Params) (fuel : Nat) (n : Node) (height : Nat)
    (inv : StoredClosed n) : StoredClosed (checkOrphans p fuel n height) :=
  checkOrphans_preserved (preserved_storedClosed p) fuel n height inv

theorem storedClosed_deliverBlock (p : Params) (n : Node) (b : Blk) (hb : n.blk b.id = some b)
    (inv : StoredClosed n) : StoredClosed (deliverBlock p n b).1 :=
  deliverBlock_preserved (preserved_storedClosed p) n b hb inv

theorem storedClosed_deliverHeader (p : Params) (n : Node) (b : Blk) (hb : n.blk b.id = some b)
    (inv : StoredClosed n) : StoredClosed (deliverHeader p n b).1 :=
  deliverHeader_preserved (preserved_storedClosed p) n b hb inv

theorem storedClosed_run (p : Params) (n : Node) (es : List Event) (hreg : Registered n es)
    (inv : StoredClosed n) : StoredClosed (run p n es) :=
  run_preserved (preserved_storedClosed p) n es hreg inv

/-- Every stored block is valid on its own path: it and all its ancestors pass the header rules
and `checkBlock` (from a fresh node, after any history). -/
theorem stored_valid_on_path (p : Params) (n : Node) (es : List Event) (hf : Fresh n)
    (hreg : Registered n es) : ∀ s ∈ (run p n es).stored, VOP p n s := by
  intro s hs
  exact hf.stored_vop p hreg hs

/-- (b) **Along any run the work of the head never decreases, and if the head differs at the end
it is a block with strictly more work that passed `checkBlock`** against the replayed state of its
own parent. -/
theorem head_work_monotone (p : Params) (n : Node) (es : List Event) (hreg : Registered n es) :
    n.workOf n.head ≤ n.workOf (run p n es).head ∧
    ((run p n es).head ≠ n.head →
      n.workOf n.head < n.workOf (run p n es).head ∧ PassedCheck p n (run p n es).head) :=
  (run_preserved (preserved_headStep p n) n es hreg ⟨⟨rfl, rfl⟩, HeadStep.refl p n⟩).2

/-- … between any two points of a history (so *every* head change, not only the net one, is to a
validated block with strictly more work): split the history anywhere. -/
theorem head_work_monotone_between (p : Params) (n : Node) (es fs : List Event)
    (hreg : Registered n (es ++ fs)) :
    n.workOf (run p n es).head ≤ n.workOf (run p n (es ++ fs)).head ∧
    ((run p n (es ++ fs)).head ≠ (run p n es).head →
      n.workOf (run p n es).head < n.workOf (run p n (es ++ fs)).head ∧
      PassedCheck p n (run p n (es ++ fs)).head) := by
  have hd := run_defs p n es
  have hreg2 : Registered (run p n es) fs :=
    .congr hd.1 fun e he => hreg e (List.mem_append_right _ he)
  have := head_work_monotone p (run p n es) fs hreg2
  rw [← run_append] at this
  simp only [workOf_congr hd.1, PassedCheck_congr hd.2 hd.1] at this
  exact this

/-- (d) **The store after a parents-first history** (every full block delivered after its parent;
duplicates, headers and invalid blocks anywhere): exactly the genesis plus the delivered blocks
that are valid on their own path. -/
theorem stored_after_parentsFirst (p : Params) (n : Node) (es : List Event) (hf : Fresh n)
    (hreg : Registered n es) (hpf : ParentsFirst [] es) (id : Nat) :
    id ∈ (run p n es).stored ↔ VOP p n id ∧ (id = 0 ∨ id ∈ blockIds es) := by
  have hs := settled_run p es n [] hreg hpf (hf.inv p) (settled_fresh p n hf)
  have hr := hf.ran p hreg
  constructor
  · intro h
    exact ⟨hr.stored_vop h, (hs.sub id h).imp_right fun h => (mem_delivered.mp h).resolve_right List.not_mem_nil⟩
  · rintro ⟨hv, h | h⟩
    · exact h ▸ hr.inv.closed.zero
    · exact hs.complete id ((hr.vop id).mpr hv) (mem_delivered.mpr (.inl h))

/-- (d) … and the head is the unique maximum of work among those, when there is one. -/
theorem head_after_parentsFirst (p : Params) (n : Node) (es : List Event) (hf : Fresh n)
    (hreg : Registered n es) (hpf : ParentsFirst [] es) (w : Nat)
    (hw : VOP p n w ∧ (w = 0 ∨ w ∈ blockIds es))
    (hu : ∀ id, VOP p n id → (id = 0 ∨ id ∈ blockIds es) → id ≠ w → n.workOf id < n.workOf w) :
    (run p n es).head = w :=
  (hf.ran p hreg).head_eq (stored_after_parentsFirst p n es hf hreg hpf) hw fun id h => hu id h.1 h.2

/-- (d) **Order independence, parents-first**: two parents-first histories over the same set of
block ids end with the same stored set; if the maximum of work among the valid-on-path delivered
blocks is attained by a unique block `w`, both end on head `w` and report the same unspent set. -/
theorem order_independent_parentsFirst (p : Params) (n : Node) (es₁ es₂ : List Event) (hf : Fresh n)
    (hr₁ : Registered n es₁) (hr₂ : Registered n es₂)
    (hp₁ : ParentsFirst [] es₁) (hp₂ : ParentsFirst [] es₂)
    (hsame : ∀ id, id ∈ blockIds es₁ ↔ id ∈ blockIds es₂) :
    (∀ id, id ∈ (run p n es₁).stored ↔ id ∈ (run p n es₂).stored) ∧
    ∀ w, VOP p n w → (w = 0 ∨ w ∈ blockIds es₁) →
      (∀ id, VOP p n id → (id = 0 ∨ id ∈ blockIds es₁) → id ≠ w → n.workOf id < n.workOf w) →
      (run p n es₁).head = w ∧ (run p n es₂).head = w ∧
      (run p n es₁).reportedUtxo p = (run p n es₂).reportedUtxo p := by
  have h1 := stored_after_parentsFirst p n es₁ hf hr₁ hp₁
  have h2 := stored_after_parentsFirst p n es₂ hf hr₂ hp₂
  refine ⟨fun id => by rw [h1, h2, hsame id], fun w hv hd hu => ?_⟩
  obtain ⟨hd₂, hd₁, hrep⟩ := (hf.ran p hr₁).same_head (hf.ran p hr₂) h1 h2
    (fun id h => ⟨h.1, h.2.imp_right (hsame id).mpr⟩) ⟨hv, hd.imp_right (hsame w).mp⟩
    fun id h => hu id h.1 h.2
  exact ⟨hd₁, hd₂, hrep.symm⟩

/-- (d) … **equal to delivering the winning chain alone**: any parents-first sub-history that
still contains the winner `w` (in particular: exactly the blocks on the path from genesis to `w`,
in path order) ends on the same head `w` and the same reported unspent set. -/
theorem winning_chain_alone (p : Params) (n : Node) (es es₃ : List Event) (hf : Fresh n)
    (hr : Registered n es) (hr₃ : Registered n es₃)
    (hp : ParentsFirst [] es) (hp₃ : ParentsFirst [] es₃)
    (hsub : ∀ id ∈ blockIds es₃, id ∈ blockIds es)
    (w : Nat) (hv : VOP p n w) (hd₃ : w = 0 ∨ w ∈ blockIds es₃)
    (hu : ∀ id, VOP p n id → (id = 0 ∨ id ∈ blockIds es) → id ≠ w → n.workOf id < n.workOf w) :
    (run p n es₃).head = w ∧ (run p n es).head = w ∧
    (run p n es₃).reportedUtxo p = (run p n es).reportedUtxo p :=
  (hf.ran p hr).same_head (hf.ran p hr₃) (stored_after_parentsFirst p n es hf hr hp)
    (stored_after_parentsFirst p n es₃ hf hr₃ hp₃) (fun id h => ⟨h.1, h.2.imp_right (hsub id)⟩) ⟨hv, hd₃⟩
    fun id h => hu id h.1 h.2


/-- (d) … concretely: `chain` = the registered blocks on the path from the genesis `0` to the winner
`w`, in path order (`Linked`: each block's parent is the one before it), all of them among the
delivered ones. Delivering **just that chain** to a fresh node ends on the same head and the same
reported unspent set as any parents-first delivery of the whole block set. -/
theorem winning_chain_alone_path (p : Params) (n : Node) (es : List Event) (chain : List Blk)
    (hf : Fresh n) (hr : Registered n es) (hp : ParentsFirst [] es)
    (hl : Linked n 0 chain) (hsub : ∀ b ∈ chain, b.id ∈ blockIds es)
    (w : Nat) (hv : VOP p n w) (hw : w = 0 ∨ w ∈ chain.map (·.id))
    (hu : ∀ id, VOP p n id → (id = 0 ∨ id ∈ blockIds es) → id ≠ w → n.workOf id < n.workOf w) :
    (run p n (chain.map Event.block)).head = w ∧ (run p n es).head = w ∧
    (run p n (chain.map Event.block)).reportedUtxo p = (run p n es).reportedUtxo p :=
  winning_chain_alone p n es (chain.map Event.block) hf hr hl.registered hp
    (hl.parentsFirst (Or.inl rfl))
    (by
      intro id hid
      rw [blockIds_map_block] at hid
      obtain ⟨b, hb, hbid⟩ := List.mem_map.mp hid
      exact hbid ▸ hsub b hb)
    w hv (by rw [blockIds_map_block]; exact hw) hu

/-! ## through the orphan pool: children before parents

`HeadersOnly` (only the genesis stored, empty pool, invariants hold — the state after any number of
header deliveries to a fresh node) and `Reach p n D id` (the block `id` and all its ancestors down to
the genesis are in `D` and pass their own step, `ValidStep` of `Lemmas/ChainInv.lean`: header rules +
`checkBlock`) are defined in `Lemmas/ChainOrphan.lean`.

Hypotheses on the history, as in the property text: the header of every delivered block is known
beforehand ("headers known first"). The model's orphan pool has **no capacity eviction and no
age-out** (`Params.maxOrphans` is not used by `addOrphan`), so "the pool never exceeds its
capacity" is not a hypothesis of the theorems below but a condition for the model to describe the
real node: beyond `MAX_ORPHAN_SIZE` / the orphan age limit the real `OrphanBlockPool` evicts, and
the theorems say nothing. -/

/-- (d, stretch) **The store after any delivery order** — children before parents, duplicates,
invalid blocks anywhere: exactly the blocks reachable within the delivered set. No valid orphan is
ever forgotten by `check_orphans`. -/
theorem stored_after_any_order (p : Params) (n : Node) (es : List Event) (hn : HeadersOnly p n)
    (hreg : Registered n es) (hk : ∀ id ∈ blockIds es, id ∈ n.headers) (id : Nat) :
    id ∈ (run p n es).stored ↔ Reach p n (blockIds es) id := by
  have hc0 : Ctx p n n [] := by
    refine ⟨rfl, rfl, hn.inv, fun o ho => ?_, nofun, fun s hs => ?_⟩
    · rw [hn.orphans] at ho
      cases ho
    · rw [hn.stored] at hs
      obtain rfl := List.mem_singleton.mp hs
      exact .genesis
  have hq0 : Pending p n n [] (fun _ => False) := fun c par _ hd => nomatch hd
  obtain ⟨hc, hq⟩ := run_quiescent p n es n [] hreg hk hc0 hq0
  constructor
  · intro h
    exact (hc.sound id h).mono fun x hx => (mem_delivered.mp hx).resolve_right List.not_mem_nil
  · intro h
    induction h with
    | genesis => exact hc.inv.closed.zero
    | child b par hv _ hd ih =>
      rcases hq b par hv (mem_delivered.mpr (.inl hd)) with h1 | ⟨_, h2 | h2⟩
      · exact h1
      · exact absurd ih h2
      · exact h2.elim

/-- (d, stretch) **Order independence, any order**: two histories over the same set of blocks
(headers known first; bodies in any order, with repetitions, children before parents) end with the
same stored set, and — when the maximum of work among the reachable blocks is attained by a unique
block `w` — on the same head `w` with the same reported unspent set. -/
theorem order_independent (p : Params) (n : Node) (es₁ es₂ : List Event) (hn : HeadersOnly p n)
    (hr₁ : Registered n es₁) (hr₂ : Registered n es₂)
    (hk₁ : ∀ id ∈ blockIds es₁, id ∈ n.headers)
    (hsame : ∀ id, id ∈ blockIds es₁ ↔ id ∈ blockIds es₂) :
    (∀ id, id ∈ (run p n es₁).stored ↔ id ∈ (run p n es₂).stored) ∧
    ∀ w, Reach p n (blockIds es₁) w →
      (∀ id, Reach p n (blockIds es₁) id → id ≠ w → n.workOf id < n.workOf w) →
      (run p n es₁).head = w ∧ (run p n es₂).head = w ∧
      (run p n es₁).reportedUtxo p = (run p n es₂).reportedUtxo p := by
  have hk₂ : ∀ id ∈ blockIds es₂, id ∈ n.headers := fun id h => hk₁ id ((hsame id).mpr h)
  have h1 := stored_after_any_order p n es₁ hn hr₁ hk₁
  have h2 := stored_after_any_order p n es₂ hn hr₂ hk₂
  have hR : ∀ id, Reach p n (blockIds es₁) id ↔ Reach p n (blockIds es₂) id := fun id =>
    ⟨fun h => h.mono (fun x hx => (hsame x).mp hx), fun h => h.mono (fun x hx => (hsame x).mpr hx)⟩
  refine ⟨fun id => by rw [h1, h2, hR id], fun w hw hu => ?_⟩
  obtain ⟨hd₂, hd₁, hrep⟩ := (Ran.of_run hr₁ hn.inv).same_head (Ran.of_run hr₂ hn.inv) h1 h2
    (fun id => (hR id).mpr) ((hR w).mp hw) hu
  exact ⟨hd₁, hd₂, hrep.symm⟩

/-- … **equal to delivering the winning chain alone**: any history over a subset of the blocks
that still reaches the winner `w` (e.g. exactly the blocks on `w`'s path, in any order) ends on the
same head and the same reported unspent set. -/
theorem winning_chain_alone_any_order (p : Params) (n : Node) (es es₃ : List Event)
    (hn : HeadersOnly p n) (hr : Registered n es) (hr₃ : Registered n es₃)
    (hk : ∀ id ∈ blockIds es, id ∈ n.headers) (hsub : ∀ id ∈ blockIds es₃, id ∈ blockIds es)
    (w : Nat) (hw₃ : Reach p n (blockIds es₃) w)
    (hu : ∀ id, Reach p n (blockIds es) id → id ≠ w → n.workOf id < n.workOf w) :
    (run p n es₃).head = w ∧ (run p n es).head = w ∧
    (run p n es₃).reportedUtxo p = (run p n es).reportedUtxo p :=
  (Ran.of_run hr hn.inv).same_head (Ran.of_run hr₃ hn.inv) (stored_after_any_order p n es hn hr hk)
    (stored_after_any_order p n es₃ hn hr₃ fun id h => hk id (hsub id h)) (fun _ h => h.mono hsub) hw₃ hu

/-- The state "headers first" is reached from a fresh node by header deliveries. -/
theorem headersOnly_after_headers (p : Params) (n : Node) (bs : List Blk) (hf : Fresh n)
    (hreg : Registered n (bs.map Event.header)) : HeadersOnly p (run p n (bs.map Event.header)) :=
  HeadersOnly.after_headers p n bs hf hreg

/-! ## non-vacuity: the hypotheses of the theorems above hold on a concrete tree
(`Lemmas/ChainExamples.lean`: 0 ── 1 ── 3 ── 4, a lighter sibling 2 of 1, an invalid child 9 of 1
that claims the most work; facts about it in `Lemmas/ChainExampleFacts.lean`) -/
section Examples
open GV.Chain.Ex

-- `head_after_parentsFirst`: all hypotheses hold; the invalid block 9 (most work) does not win
example : (run P N ex_es₁).head = 3 :=
  head_after_parentsFirst P N ex_es₁ ex_fresh ex_reg₁ ex_pf₁ 3
    ⟨ex_vop3, by simp [ex_es₁, blockIds, B3]⟩
    ex_unique₁

-- the run itself, evaluated: same head, and the store is {0} ∪ valid-on-path ∩ delivered
example : (run P N ex_es₁).head = 3 ∧ (run P N ex_es₁).stored = [0, 2, 1, 3] := by decide +kernel

-- `head_is_max` / `storedClosed_run`: beside `Registered` only the invariant on the start node, here from
-- `ex_fresh`; `head_work_monotone` has `Registered` alone
example : HeadMax (run P N ex_es₁) := head_is_max P N ex_es₁ ex_reg₁ (ex_fresh.inv P).1

-- `winning_chain_alone_path`: the chain 1, 3 alone gives the same head and unspent set
example : (run P N ([B1, B3].map Event.block)).head = 3 ∧ (run P N ex_es₁).head = 3 ∧
    (run P N ([B1, B3].map Event.block)).reportedUtxo P = (run P N ex_es₁).reportedUtxo P :=
  winning_chain_alone_path P N ex_es₁ [B1, B3] ex_fresh ex_reg₁ ex_pf₁
    ⟨rfl, rfl, rfl, rfl, trivial⟩ (by decide) 3 ex_vop3 (by decide)
    ex_unique₁

-- `stored_after_any_order`: hypotheses hold, block 3 delivered before its parent ends up stored
example : 3 ∈ (run P ex_N₂ ex_es₂).stored :=
  (stored_after_any_order P ex_N₂ ex_es₂ ex_headersOnly ex_reg₂ (by decide) 3).mpr ex_reach3

-- the orphan pool was really used: after the first delivery 3 sits in the pool
example : (run P ex_N₂ [.block B3]).orphans = [3] ∧ (run P ex_N₂ ex_es₂).head = 3 ∧
    (run P ex_N₂ ex_es₂).orphans = [] := by decide +kernel

-- `order_independent` (through the orphan pool): child-first against parent-first with a duplicate
example : (run P ex_N₂ ex_es₂).head = 3 ∧
    (run P ex_N₂ [.block B1, .block B2, .block B3, .block B3]).head = 3 ∧
    (run P ex_N₂ ex_es₂).reportedUtxo P =
      (run P ex_N₂ [.block B1, .block B2, .block B3, .block B3]).reportedUtxo P :=
  (order_independent P ex_N₂ ex_es₂ [.block B1, .block B2, .block B3, .block B3] ex_headersOnly ex_reg₂
    (.cons rfl (.cons rfl (.cons rfl (.cons rfl (.nil _)))))
    (by decide) (by
      intro id
      simp only [ex_es₂, blockIds, B1, B2, B3, List.mem_cons, List.not_mem_nil, or_false]
      omega)).2 3 ex_reach3
    (by
      intro id hr hne
      cases hr with
      | genesis => decide
      | child b par _ _ hd =>
        simp only [ex_es₂, blockIds, B1, B2, B3, List.mem_cons, List.not_mem_nil, or_false] at hd
        rcases hd with h | h | h <;> rw [h] at hne ⊢
        · exact absurd rfl hne
        · decide
        · decide)

end Examples
end GV.Props.C03
