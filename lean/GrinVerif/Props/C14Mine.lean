import GrinVerif.Lemmas.PoolBucket
import GrinVerif.Lemmas.PoolMine
/-! C14 — what exactly is guaranteed about the set `prepare_mineable_transactions` selects.

`Props/C14.lean` has soundness (`mineable_ok`: pool transactions, jointly valid on the head,
aggregate within the miner's weight limit; `mineable_block_accepted`; totality
`mineable_set_total`).  Here the selection itself (`Pool::validate_raw_txs` over the order
`bucket_transactions` produces) is characterised:

* `validateRawTxs_eq_sel` / `sel_greedy` — the selection is a pure left-to-right greedy pass:
  candidate `t` is taken **iff** it aggregates and validates (weight limit included) together with
  exactly what was taken before it — nothing that comes later can displace it, nothing is
  reconsidered;
* `sel_sublist` — the result is a sublist of the candidates in bucket order;
* `sel_maximal` — greedy maximality: every candidate left out fails together with the transactions
  selected BEFORE it (so no single left-out candidate could have been appended at its turn); it is
  NOT a maximum-cardinality set (`sel_not_max_cardinality_witness`: one heavy well-paying bucket
  first shuts out two transactions that would fit together);
* `sortBuckets_sorted` / `sortBuckets_perm` — the buckets are ordered by fee rate descending, then
  age ascending (`sort_unstable_by_key(|x| (Reverse(x.fee_rate), x.age_idx))`), and sorting loses or invents
  no bucket. -/
namespace GV.Props.C14Mine
open GV.Pool

/-- does candidate `t` validate together with `extra` and the transactions kept so far? -/
def accepts (c : Ctx) (w : Weighting) (extra : Option Tx) (valid : List Tx) (t : Tx) : Bool :=
  match aggregate (extra.toList ++ valid ++ [t]) with
  | .error _ => false
  | .ok a => (validateRawTx c w a).isNone

/-- `validate_raw_txs` as a pure function -/
def sel (c : Ctx) (w : Weighting) (extra : Option Tx) : List Tx → List Tx → List Tx
  | [], valid => valid
  | t :: rest, valid => sel c w extra rest (if accepts c w extra valid t then valid ++ [t] else valid)

theorem sel_eq_greedy (c : Ctx) (w : Weighting) (extra : Option Tx) (txs valid : List Tx) :
    sel c w extra txs valid = greedy (accepts c w extra) txs valid := by
  induction txs generalizing valid with
  | nil => rfl
  | cons t rest ih => exact ih _

theorem validateRawTxs_eq_sel (c : Ctx) (w : Weighting) (extra : Option Tx) (txs valid : List Tx) :
    validateRawTxs c w extra txs valid = .ok (sel c w extra txs valid) :=
  sel_eq_greedy c w extra txs valid ▸ validateRawTxs_eq_greedy c w extra txs valid

/-- **Greedy.**  For any position in the candidate list: `t` is taken iff it validates together
with exactly what was taken from the candidates before it. -/
theorem sel_greedy (c : Ctx) (w : Weighting) (extra : Option Tx) (pre post : List Tx) (t : Tx) (valid : List Tx) :
    sel c w extra (pre ++ t :: post) valid =
      sel c w extra post
        (if accepts c w extra (sel c w extra pre valid) t then sel c w extra pre valid ++ [t]
         else sel c w extra pre valid) := by
  simp only [sel_eq_greedy, greedy_append, greedy_cons]

/-- the selection is a sublist of the candidates, in their order -/
theorem sel_sublist (c : Ctx) (w : Weighting) (extra : Option Tx) (txs : List Tx) :
    (sel c w extra txs []).Sublist txs := by
  obtain ⟨more, h1, h2⟩ := greedy_extends (accepts c w extra) txs []
  rw [sel_eq_greedy, h1]; exact h2

/-- **Greedy maximality**: a candidate that is not in the result did not validate together with what
had been selected before its turn -/
theorem sel_maximal (c : Ctx) (w : Weighting) (extra : Option Tx) (pre post : List Tx) (t : Tx)
    (h : t ∉ sel c w extra (pre ++ t :: post) []) :
    accepts c w extra (sel c w extra pre []) t = false := by
  rw [sel_eq_greedy] at h ⊢
  exact greedy_maximal _ h

/-- the mineable set of the pool, as the greedy pass over the bucket order -/
theorem prepareMineable_eq_sel (c : Ctx) (p : Pool) (maxW : Nat) :
    p.prepareMineable c maxW =
      .ok (sel c (.asLimited maxW) none (p.bucketTransactions c (.asLimited maxW)) []) := by
  unfold Pool.prepareMineable
  exact validateRawTxs_eq_sel _ _ _ _ _

/-! ## the bucket order -/

theorem bucketLe_total (a b : Bucket) : a.le b = true ∨ b.le a = true := by
  unfold Bucket.le
  simp only [Bool.or_eq_true, Bool.and_eq_true, decide_eq_true_eq]
  omega

theorem bucketLe_trans {a b d : Bucket} (h1 : a.le b = true) (h2 : b.le d = true) : a.le d = true := by
  unfold Bucket.le at *
  simp only [Bool.or_eq_true, Bool.and_eq_true, decide_eq_true_eq] at *
  omega

def Sorted (l : List Bucket) : Prop := l.Pairwise (fun a b => a.le b = true)

/-- **the buckets come out ordered** by fee rate descending, then age ascending -/
theorem sortBuckets_sorted (l : List Bucket) : Sorted (sortBuckets l) :=
  sortBuckets_eq l ▸ insertionSort_pairwise Bucket.le (fun _ _ h => h)
    (fun a b h => (bucketLe_total a b).resolve_left (by simp [h])) (fun _ _ _ => bucketLe_trans) l

/-- sorting loses and invents no bucket -/
theorem sortBuckets_perm (l : List Bucket) : (sortBuckets l).Perm l :=
  GV.Pool.sortBuckets_perm l

/-- a bucket with a strictly higher fee rate comes out before one with a lower rate -/
theorem higher_rate_first (l : List Bucket) :
    (sortBuckets l).Pairwise (fun a b => a.feeRate ≥ b.feeRate) := by
  refine List.Pairwise.imp ?_ (sortBuckets_sorted l)
  intro a b h
  unfold Bucket.le at h
  simp only [Bool.or_eq_true, Bool.and_eq_true, decide_eq_true_eq] at h
  omega

example : (sortBuckets [⟨[], 3, 0⟩, ⟨[], 7, 1⟩, ⟨[], 3, 2⟩, ⟨[], 9, 3⟩]).map (·.age) = [3, 1, 0, 2] := by decide +kernel

/-! ## greedy, not optimal -/

/-- head with outputs 1, 2, 3 (1000 each); miner's limit `mineable_max_weight` = 24 + 70 -/
def mc : Ctx :=
  { cfg := { mineW := 94, maxBlockW := 250, feeBase := 1 },
    outs := [⟨1, false, 1000⟩, ⟨2, false, 1000⟩, ⟨3, false, 1000⟩, ⟨11, false, 110⟩, ⟨12, false, 110⟩,
             ⟨13, false, 110⟩, ⟨21, false, 775⟩, ⟨31, false, 775⟩],
    head := { utxo := [(1, 0, false), (2, 0, false), (3, 0, false)], nrd := [], height := 5 } }
/-- weight 67, fee 670: rate 10 -/
def mH : Tx := { ins := [1], outs := [11, 12, 13], kers := [{ kid := 1, ker := .plain 670 }] }
/-- weight 25, fee 225: rate 9 -/
def mA : Tx := { ins := [2], outs := [21], kers := [{ kid := 2, ker := .plain 225 }] }
def mB : Tx := { ins := [3], outs := [31], kers := [{ kid := 3, ker := .plain 225 }] }
def mp : Pool := [⟨mA, .broadcast⟩, ⟨mB, .broadcast⟩, ⟨mH, .broadcast⟩]

/-- the selection is greedy in bucket order, not a maximum-cardinality (or knapsack-optimal) set: the
best-paying bucket `H` comes first and fills the block (67 of 70); `A` and `B` would fit together
(50 of 70) but neither fits after `H` -/
theorem sel_not_max_cardinality_witness :
    sel mc (.asLimited mc.cfg.mineW) none (mp.bucketTransactions mc (.asLimited mc.cfg.mineW)) [] = [mH] ∧
    accepts mc (.asLimited mc.cfg.mineW) none [mA] mB = true ∧
    accepts mc (.asLimited mc.cfg.mineW) none [mH] mA = false := by decide +kernel

end GV.Props.C14Mine
