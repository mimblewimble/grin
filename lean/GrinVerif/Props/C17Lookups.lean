import GrinVerif.Gen.Locks
/-! # C17 — every multi-look-up operation does all its look-ups under one lock hold (with the reviewed exceptions)

A seeded change moved one look-up of a public reader (the
`output_pos` index) OUTSIDE the txhashset lock, the MMR look-up staying inside: a read torn across a
writer's critical section.  It shows only when the same commitment sits at different MMR positions on
two competing forks and a reader polls during the reorg (harness run `conc torn` builds that history and
reports the failing schedule as a concrete input).  Here the regenerated table carries, per public
operation, the store look-ups made outside any `header_pmmr` / `txhashset` hold (`Gen.dbReadsOutside`,
by store method name, regenerated from chain.rs on every run) and the obligation is DECIDED over it:
an operation that combines look-ups of mutable state across more than one hold / outside its hold has the
torn-read shape (`Conc.tornShape`) - the complete list of such operations is fixed below, each reviewed;
every other operation does all its look-ups under one hold (or makes at most one mutable look-up). -/
namespace GV.Props.C17Lookups
open GV GV.Conc GV.Gen

def outsideOf (n : String) : List String := (dbReadsOutside.lookup n).getD []

theorem tornShape_false {holds : Nat} {outside : List String} (h : tornShape holds outside = false) :
    holds ≤ 1 ∧ (holds = 1 → mutableOnly outside = []) ∧ (holds = 0 → (mutableOnly outside).length ≤ 1) := by
  simp only [tornShape, Bool.or_eq_false_iff, Bool.and_eq_false_iff, decide_eq_false_iff_not,
    beq_eq_false_iff_ne, Bool.not_eq_false', List.isEmpty_iff] at h
  obtain ⟨⟨h2, h1⟩, h0⟩ := h
  exact ⟨by omega, fun e => h1.resolve_left (· e), fun e => Nat.le_of_not_lt (h0.resolve_left (· e))⟩

/-- **The reviewed exceptions, complete**: (operation, number of lock holds, mutable look-ups outside any
hold).  Reviewed:
* `process_block` - header step, known/orphan checks, body step, orphan walk: each step re-reads what it
  needs inside its own write-lock hold (`batch.head()`); the outside `head()` reads feed `is_known` only.
* `validate_tx` - UTXO check under the read locks, then the NRD kernel check in a read-only extension:
  two views, each check is against one committed state (harness: the pool runs, `conc mix`).
* `verify_coinbase_maturity`, `validate`, `block_height_range_to_pmmr_indices` - `head_header()` before the
  hold: the header read is a committed head; the hold then works on the state it finds (a stale header
  is an older committed state, not a torn one).
* `segmenter`, `txhashset_archive_header`, `txhashset_archive_header_header_only`, `fork_point`,
  `txhashset_write`, `compact` - the archive header / tail / head are looked up before the hold (findings
  `C17-segmenter-cache-poisoned-header-ahead`, `C17-txhashset-write-window` sat here; runs `segcache`, `zipwin`, `long`).
* `get_kernel_height` - `head()` outside, then several read holds (finding `C17-kernel-index-spin`;
  run `probe`, `race`).
* `Desegmenter::…` - the state-receiving phase (several holds by design; run `pibd`).
Any change of chain.rs that gives another operation this shape - e.g. a reader that looks the `output_pos`
index up before taking `txhashset.read()` - or changes the look-ups of a listed one breaks this theorem and
names the operation. -/
theorem torn_shape_ops_are_the_reviewed_ones :
    (lockTable.filter (fun e => tornShape (holdsOf e.2) (outsideOf e.1))).map
        (fun e => (e.1, holdsOf e.2, mutableOnly (outsideOf e.1))) =
      [("process_block", 6, ["head", "head", "head", "head"]),
       ("validate_tx", 2, []),
       ("verify_coinbase_maturity", 2, ["head_header", "head"]),
       ("validate", 1, ["head_header"]),
       ("segmenter", 2, ["head"]),
       ("txhashset_archive_header", 1, ["head"]),
       ("txhashset_archive_header_header_only", 1, ["header_head"]),
       ("fork_point", 1, ["head"]),
       ("txhashset_write", 3, ["head", "header_head"]),
       ("compact", 2, ["tail", "head", "head"]),
       ("block_height_range_to_pmmr_indices", 2, ["head_header"]),
       ("get_kernel_height", 4, ["head"]),
       ("Desegmenter::check_progress", 2, []),
       ("Desegmenter::validate_complete_state", 4, []),
       ("Desegmenter::apply_next_segments", 7, []),
       ("Desegmenter::next_desired_segments", 7, [])] := by
  decide +kernel

/-- **Every other operation does all its look-ups under one lock hold**: at most one hold; with a hold,
no mutable look-up outside it; without one, at most one mutable look-up (one LMDB snapshot). -/
theorem lookups_under_one_hold :
    ∀ e ∈ lockTable,
      e.1 ∉ ["process_block", "validate_tx", "verify_coinbase_maturity", "validate", "segmenter",
             "txhashset_archive_header", "txhashset_archive_header_header_only", "fork_point", "txhashset_write",
             "compact", "block_height_range_to_pmmr_indices", "get_kernel_height", "Desegmenter::check_progress",
             "Desegmenter::validate_complete_state", "Desegmenter::apply_next_segments",
             "Desegmenter::next_desired_segments"] →
      holdsOf e.2 ≤ 1 ∧
      (holdsOf e.2 = 1 → mutableOnly (outsideOf e.1) = []) ∧
      (holdsOf e.2 = 0 → (mutableOnly (outsideOf e.1)).length ≤ 1) := by
  intro e he hne
  apply tornShape_false
  -- an operation with the shape is in the filtered list, so its name is among the reviewed ones
  apply Bool.eq_false_iff.2
  intro hc
  have hm := List.mem_map_of_mem (f := fun e => (e.1, holdsOf e.2, mutableOnly (outsideOf e.1)))
    ((List.mem_filter (p := fun e => tornShape (holdsOf e.2) (outsideOf e.1))).2 ⟨he, hc⟩)
  rw [torn_shape_ops_are_the_reviewed_ones] at hm
  exact hne (List.mem_map_of_mem (f := (·.1)) hm)

/-- The readers the run `conc torn` polls take exactly ONE hold and make NO store look-up outside it, mutable
or not (`get_header_for_output` reads the header by hash INSIDE its hold). -/
theorem polled_readers_one_hold_nothing_outside :
    ∀ n ∈ ["get_unspent", "get_output_pos", "get_unspent_output_at", "get_header_for_output", "get_merkle_proof",
           "get_merkle_proof_for_pos", "validate_inputs", "get_last_n_output", "get_last_n_rangeproof",
           "get_last_n_kernel", "unspent_outputs_by_pmmr_index"],
      (lockTable.lookup n).map holdsOf = some 1 ∧ dbReadsOutside.lookup n = some [] := by
  decide +kernel

/-- the two generated lists cover the table, in order -/
theorem db_reads_cover_table :
    dbReadsOutside.map (·.1) = lockTable.map (·.1) ∧ dbReadsInside.map (·.1) = lockTable.map (·.1) :=
  ⟨rfl, rfl⟩

/-- the shape flags what it should: the seeded read (index outside, MMR inside), two holds, two mutable
lock-free look-ups; and not a by-hash look-up next to a hold, nor a single lock-free look-up -/
example : tornShape 1 ["get_output_pos_height"] = true := by decide
example : tornShape 2 [] = true := by decide
example : tornShape 0 ["head", "header_head"] = true := by decide
example : tornShape 1 ["get_block_header"] = false := by decide
example : tornShape 0 ["head", "get_block_header"] = false := by decide
example : tornShape 1 [] = false := by decide
example : holdsOf [.acq .hp .R, .acq .ts .R, .mark .dbread, .rel .ts, .rel .hp, .mark .dbread, .acq .ts .R, .rel .ts] = 2 := by decide

end GV.Props.C17Lookups
