import GrinVerif.Model.TxOverage
import GrinVerif.Props.XlateTxFee
import GrinVerif.Props.XlateMisc
/-! # C12 — the balance check with a signed overage: exactly when `fee() as i64` wraps and what
`validate` does then; `tx_fee` = `accept_fee`

`Model/TxOverage.lean` (value part of `Committed::verify_kernel_sums`).  The aggregate's fee is the
saturating sum of the kernels' 40-bit fees (`TransactionBody::fee`, regenerated from the source:
`Props/XlateTxFee.body_fee_eq`); `overage()` casts it to `i64`.  Theorems: the cast is exact below
2^63, which every body of fewer than 2^23 fee-carrying kernels satisfies — in particular everything
within any consensus weight limit (tied to the TRANSLATED `fee`); at exactly 2^63 `validate` answers
`InvalidValue`; above, the overage is negative and lands on the INPUT side: the accepted equation is
Σout = Σin + (2^64 − fee) — an honest transaction is refused and one that creates 2^64 − fee is
accepted (only reachable under `Weighting::NoLimit` with ≥ 2^23 kernels; an observation about the
code, run on the real `verify_kernel_sums` with chosen overages).  Last section: `libtx::tx_fee`
and `Transaction::accept_fee` (both regenerated) are the same function of the counts, and a
transaction that pays `tx_fee` in a single kernel is accepted by the pool's fee test. -/
namespace GV.Props.C12
open GV GV.Tx GV.Gen GV.Xlate GV.Props.XlateTxFee

theorem asI64_of_lt {x : Nat} (h : x < 2^63) : asI64 x = (x : Int) := by
  unfold asI64
  have : x % 2^64 = x := Nat.mod_eq_of_lt (by omega)
  simp [this, h]

theorem asI64_of_ge {x : Nat} (h : 2^63 ≤ x) (h64 : x < 2^64) : asI64 x = -((2^64 - x : Nat) : Int) := by
  unfold asI64
  have : x % 2^64 = x := Nat.mod_eq_of_lt h64
  have h' : ¬ x < 2^63 := by omega
  rw [this, if_neg h']
  omega

theorem ite_ok_iff {p : Prop} [Decidable p] : (if p then KSum.ok else .mismatch) = .ok ↔ p := by
  split <;> simp [*]

theorem kernelSumsValues_natCast (sumIn sumOut n : Nat) :
    kernelSumsValues sumIn sumOut (n : Int) = if sumOut + n = sumIn then .ok else .mismatch := by
  unfold kernelSumsValues
  by_cases h0 : n = 0
  · subst h0; simp
  · have h1 : (n : Int) ≠ 0 := by omega
    have h2 : (n : Int) ≠ -(2^63 : Int) := by omega
    have h3 : ¬ (n : Int) < 0 := by omega
    simp only [h1, h2, h3, if_false, Int.natAbs_natCast]

theorem kernelSumsValues_neg (sumIn sumOut : Nat) {n : Nat} (h0 : 0 < n) (hn : n ≠ 2^63) :
    kernelSumsValues sumIn sumOut (-(n : Int)) = if sumOut = sumIn + n then .ok else .mismatch := by
  unfold kernelSumsValues
  have h1 : -(n : Int) ≠ 0 := by omega
  have h2 : -(n : Int) ≠ -(2^63 : Int) := by omega
  have h3 : -(n : Int) < 0 := by omega
  simp only [h1, h2, h3, if_false, if_true, Int.natAbs_neg, Int.natAbs_natCast]

/-- **exactly when the cast wraps**: for a u64 fee, `fee as i64` is the fee iff `fee < 2^63`;
otherwise it is negative -/
theorem overage_exact_iff (fee : Nat) (h64 : fee < 2^64) :
    (asI64 fee = (fee : Int) ↔ fee < 2^63) ∧ (asI64 fee < 0 ↔ 2^63 ≤ fee) := by
  by_cases h : fee < 2^63
  · rw [asI64_of_lt h]
    exact ⟨⟨fun _ => h, fun _ => rfl⟩,
      ⟨fun h' => absurd h' (Int.not_lt.2 (Int.natCast_nonneg _)), fun h' => absurd h (Nat.not_lt.2 h')⟩⟩
  · rw [asI64_of_ge (Nat.not_lt.1 h) h64]
    exact ⟨⟨fun h' => by omega, fun h' => absurd h' h⟩, ⟨fun _ => Nat.not_lt.1 h, fun _ => by omega⟩⟩

/-- the translated `TransactionBody::fee` stays below 2^63 for fewer than 2^23 kernels: no consensus
weight limit (40 000 / 3 kernels) comes near -/
theorem translated_fee_below_wrap (ks : List Fns.TxKernel) (h : ks.length < 2^23) :
    Fns.TransactionBody_fee ks < 2^63 := by
  rw [body_fee_eq]
  have h1 : ∀ (l : List Nat), (l.map (· % 2^40)).sum ≤ l.length * 2^40 := by
    intro l
    induction l with
    | nil => exact Nat.le_refl _
    | cons a t ih =>
      rw [List.map_cons, List.sum_cons, List.length_cons, Nat.succ_mul, Nat.add_comm]
      exact Nat.add_le_add ih (Nat.le_of_lt (Nat.mod_lt _ (by decide)))
  have h2 : (feeFields ks).length ≤ ks.length := List.length_filterMap_le _ _
  have h3 : ((feeFields ks).map (· % 2^40)).sum < 2^23 * 2^40 :=
    Nat.lt_of_le_of_lt (Nat.le_trans (h1 _) (Nat.mul_le_mul_right _ h2)) (Nat.mul_lt_mul_of_pos_right h (by decide))
  exact Nat.lt_of_le_of_lt (Nat.min_le_left _ _) h3

/-- **below the wrap `validate` checks the intended equation**: Σ outputs + fee = Σ inputs -/
theorem kernel_sums_no_wrap (sumIn sumOut fee : Nat) (h : fee < 2^63) :
    txKernelSumsValues sumIn sumOut fee = .ok ↔ sumOut + fee = sumIn := by
  unfold txKernelSumsValues
  rw [asI64_of_lt h, kernelSumsValues_natCast]
  exact ite_ok_iff

/-- … for the aggregate of fewer than 2^23 kernels with the fee the regenerated `fee()` computes -/
theorem kernel_sums_translated_fee (ks : List Fns.TxKernel) (h : ks.length < 2^23) (sumIn sumOut : Nat) :
    txKernelSumsValues sumIn sumOut (Fns.TransactionBody_fee ks) = .ok ↔
      sumOut + Fns.TransactionBody_fee ks = sumIn :=
  kernel_sums_no_wrap _ _ _ (translated_fee_below_wrap ks h)

/-- **a fee of exactly 2^63**: `checked_abs` of `i64::MIN` fails, `validate` answers `InvalidValue`
whatever the body is -/
theorem kernel_sums_at_wrap (sumIn sumOut : Nat) : txKernelSumsValues sumIn sumOut (2^63) = .invalidValue := by
  unfold txKernelSumsValues kernelSumsValues
  rw [asI64_of_ge (Nat.le_refl _) (by decide)]
  rfl

theorem txKernelSumsValues_wrapped (sumIn sumOut : Nat) {fee : Nat} (h : 2^63 < fee) (h64 : fee < 2^64) :
    txKernelSumsValues sumIn sumOut fee = if sumOut = sumIn + (2^64 - fee) then .ok else .mismatch := by
  unfold txKernelSumsValues
  rw [asI64_of_ge (Nat.le_of_lt h) h64, kernelSumsValues_neg _ _ (by omega) (by omega)]

/-- **above 2^63 the overage changes sides**: the accepted equation is Σout = Σin + (2^64 − fee) -/
theorem kernel_sums_wrapped (sumIn sumOut fee : Nat) (h : 2^63 < fee) (h64 : fee < 2^64) :
    txKernelSumsValues sumIn sumOut fee = .ok ↔ sumOut = sumIn + (2^64 - fee) := by
  rw [txKernelSumsValues_wrapped _ _ h h64]
  exact ite_ok_iff

/-- … so an honest transaction (Σout + fee = Σin) is refused there, and one that creates value is accepted -/
theorem honest_refused_when_wrapped (sumIn sumOut fee : Nat) (h : 2^63 < fee) (h64 : fee < 2^64)
    (hon : sumOut + fee = sumIn) : txKernelSumsValues sumIn sumOut fee = .mismatch := by
  rw [txKernelSumsValues_wrapped _ _ h h64, if_neg (by omega)]

/-- witness: fee 2^64 − 1 (the saturated sum), inputs worth 5, outputs worth 6 — accepted -/
example : txKernelSumsValues 5 6 (2^64 - 1) = .ok := by decide
example : txKernelSumsValues (2^64 - 1 + 6) 6 (2^64 - 1) = .mismatch := by decide
example : txKernelSumsValues 10 7 3 = .ok := by decide

/-- the block side: `header.overage()` = −REWARD puts the reward on the input side -/
theorem block_kernel_sums (sumIn sumOut reward : Nat) (h0 : 0 < reward) (h : reward < 2^63) :
    kernelSumsValues sumIn sumOut (-(reward : Int)) = .ok ↔ sumOut = sumIn + reward := by
  rw [kernelSumsValues_neg _ _ h0 (by omega)]
  exact ite_ok_iff

/-- **one function of the counts**: the fee a wallet computes with `libtx::tx_fee(i, o, k)` is the
`accept_fee()` the pool demands of a transaction with `i` inputs, `o` outputs and `k` kernels (both
regenerated from the source; the same wrapping product with the same base) -/
theorem tx_fee_agrees_with_accept_fee (base : Nat) (b : Fns.TransactionBody) (i o : Nat) :
    Fns.tx_fee base i o b.kernels.length = Fns.Transaction_accept_fee base b i o := by
  rw [GV.Props.XlateMisc.tx_fee_eq, tx_accept_fee_eq]

/-- **paying `tx_fee` in one plain kernel passes the pool's fee test** for every fee shift whose
factor is paid as well: with fee fields `(shift, tx_fee · 2^shift)` (the fee fits 40 bits) the
`shifted_fee()` of the body is `tx_fee`, i.e. exactly `accept_fee()`. -/
theorem paying_tx_fee_is_accepted (base i o shift : Nat) (hs : shift < 16)
    (hf : Fns.tx_fee base i o 1 * 2^shift < 2^40) :
    Fns.TransactionBody_shifted_fee [⟨.Plain (packFee (Fns.tx_fee base i o 1 * 2^shift) shift)⟩] =
      Fns.Transaction_accept_fee base ⟨[⟨.Plain (packFee (Fns.tx_fee base i o 1 * 2^shift) shift)⟩]⟩ i o := by
  rw [← tx_fee_agrees_with_accept_fee]
  simp only [List.length_singleton]
  rw [body_shifted_fee_eq]
  have hfee := body_fee_plain [(Fns.tx_fee base i o 1 * 2^shift, shift)] (by simpa using hf) (by simp; omega)
  simp only [List.map_cons, List.map_nil, List.sum_cons, List.sum_nil, Nat.add_zero] at hfee
  rw [hfee]
  have hsh : Fns.TransactionBody_fee_shift [⟨.Plain (packFee (Fns.tx_fee base i o 1 * 2^shift) shift)⟩] = shift := by
    rw [body_fee_shift_eq]
    simp [feeFields, feeFieldsOf, packFee_shift hf hs]
  rw [hsh, Nat.mul_div_cancel _ (Nat.pow_pos (by decide))]

end GV.Props.C12
