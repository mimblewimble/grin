import GrinVerif.Model.Pmmr
import GrinVerif.Gen.FnsPmmr
import GrinVerif.Lemmas.XlatePmmr
import GrinVerif.Props.C07U64
/-! # Translated `core/src/core/pmmr/pmmr.rs` = hand-written model (`Model/Pmmr.lean`)

`GV.Gen.Fns.*` (file `Gen/FnsPmmr.lean`) is regenerated on every check run from the CURRENT Rust
source by `tools/rs2lean.py` (release-build u64 semantics: wrapping `+ - *`, masked shifts).  Each
theorem below states that the translated function equals the hand-written model function on the
stated range of inputs, and that the Rust function returns normally there (`…_ok`: every `while`
loop exits within the fuel of the translation).  A change of one of these Rust function bodies
changes the generated definition, and the corresponding theorem stops checking.

Ranges: the hand model is on unbounded `Nat`, the code wraps at `2^64`.  `size/pos < 2^64` means
"every u64".  Where a smaller bound is stated it is a sufficient one (`insertion_to_pmmr_index`:
the exact one, with a kernel-checked witness of the difference just outside). -/

namespace GV.Props.XlatePmmr
open GV GV.Pmmr GV.Pmmr.Co GV.Xlate
open GV.Gen

theorem peak_map_height_spec (size : Nat) (h : size < 2^64) :
    Fns.peak_map_height size = peakMapHeight size ∧ Fns.peak_map_height_ok size = true := by
  unfold Fns.peak_map_height Fns.peak_map_height_ok peakMapHeight
  by_cases h0 : size = 0
  · simp [h0]
  · have hb := bitLen_le 64 size h
    simp only [beq_iff_eq, h0, if_false, Fns.ALL_ONES]
    rw [all_ones_shr (by omega) h]
    obtain ⟨h1, h2⟩ := pmh_loop (bitLen size) hb 65 size 0 (by omega) h (Nat.pow_pos (by omega))
    exact ⟨by rw [h1], h2⟩

theorem peak_map_height_eq (size : Nat) (h : size < 2^64) :
    Fns.peak_map_height size = peakMapHeight size := (peak_map_height_spec size h).1

/-- the loop of `peak_map_height` exits within its fuel (65) for every u64 -/
theorem peak_map_height_ok (size : Nat) (h : size < 2^64) : Fns.peak_map_height_ok size = true :=
  (peak_map_height_spec size h).2

example : Fns.peak_map_height 7 = (4, 0) ∧ Fns.peak_map_height 6 = (3, 2) := by
  rw [peak_map_height_eq 7 (by omega), peak_map_height_eq 6 (by omega)]
  exact ⟨pmh_7, pmh_6⟩

theorem peak_sizes_height_spec (size : Nat) (h : size < 2^64) :
    Fns.peak_sizes_height size = peakSizesHeight size ∧ Fns.peak_sizes_height_ok size = true := by
  unfold Fns.peak_sizes_height Fns.peak_sizes_height_ok peakSizesHeight
  by_cases h0 : size = 0
  · simp [h0]
  · have hb := bitLen_le 64 size h
    simp only [beq_iff_eq, h0, if_false, Fns.ALL_ONES]
    rw [all_ones_shr (by omega) h]
    obtain ⟨h1, h2⟩ := psh_loop (bitLen size) hb 65 size [] (by omega) h
    exact ⟨by rw [h1]; simp, h2⟩

/-- `peak_sizes_height(size)` for every u64 `size` (the `Vec` as a `List`) -/
theorem peak_sizes_height_eq (size : Nat) (h : size < 2^64) :
    Fns.peak_sizes_height size = peakSizesHeight size := (peak_sizes_height_spec size h).1

theorem peak_sizes_height_ok (size : Nat) (h : size < 2^64) : Fns.peak_sizes_height_ok size = true :=
  (peak_sizes_height_spec size h).2

example : Fns.peak_sizes_height 5 = ([3, 1], 1) := by
  rw [peak_sizes_height_eq 5 (by omega)]
  simp [peakSizesHeight, bitLen, greedySizes]

/-- `n_leaves(size)` for every u64 `size` (`peak_map + 1` cannot wrap) -/
theorem n_leaves_eq (size : Nat) (h : size < 2^64) : Fns.n_leaves size = nLeaves size := by
  unfold Fns.n_leaves nLeaves
  rw [peak_map_height_eq size h]
  by_cases hz : (peakMapHeight size).2 = 0
  · simp [hz]
  · simp only [beq_iff_eq, hz, if_false]
    exact addW_eq (by have := peakMap_succ_le size hz; omega)

theorem n_leaves_ok (size : Nat) (h : size < 2^64) : Fns.n_leaves_ok size = true := by
  simp [Fns.n_leaves_ok, peak_map_height_ok size h]

example : Fns.n_leaves 7 = 4 := by
  rw [n_leaves_eq 7 (by omega)]
  simp [nLeaves, pmh_7]

/-- `insertion_to_pmmr_index(n)` for `n ≤ 2^63`: `2 * n` does not wrap below `2^63`, and at `2^63`
the two wraps cancel -/
theorem insertion_to_pmmr_index_eq (n : Nat) (h : n ≤ 2^63) :
    Fns.insertion_to_pmmr_index n = insertionToPmmrIndex n :=
  GV.Props.C07U64.insertion_to_pmmr_index_exact n h

/-- … and the bound is exact: at `2^63 + 1` the code wraps to 0, the model gives `2^64` -/
theorem insertion_to_pmmr_index_wraps :
    Fns.insertion_to_pmmr_index (2^63 + 1) = 0 ∧ insertionToPmmrIndex (2^63 + 1) = 2^64 :=
  GV.Props.C07U64.insertion_to_pmmr_index_wraps

example : Fns.insertion_to_pmmr_index 4 = 7 := by
  simp [Fns.insertion_to_pmmr_index, popcount, mulW, subW]

theorem round_up_to_leaf_pos_eq (pos : Nat) (h : pos < 2^63) :
    Fns.round_up_to_leaf_pos pos = roundUpToLeafPos pos := by
  unfold Fns.round_up_to_leaf_pos roundUpToLeafPos
  rw [peak_map_height_eq pos (by omega)]
  by_cases hz : (peakMapHeight pos).2 = 0
  · simp only [hz, beq_self_eq_true, if_true]
    exact insertion_to_pmmr_index_eq _ (by have := peakMap_le pos; omega)
  · simp only [beq_iff_eq, hz, if_false]
    rw [addW_eq (by have := peakMap_succ_le pos hz; omega)]
    exact insertion_to_pmmr_index_eq _ (by have := peakMap_succ_le pos hz; omega)

theorem round_up_to_leaf_pos_ok (pos : Nat) (h : pos < 2^64) : Fns.round_up_to_leaf_pos_ok pos = true := by
  simp [Fns.round_up_to_leaf_pos_ok, peak_map_height_ok pos h]

theorem pmmr_leaf_to_insertion_index_eq (pos : Nat) (h : pos < 2^64) :
    Fns.pmmr_leaf_to_insertion_index pos = pmmrLeafToInsertionIndex pos := by
  unfold Fns.pmmr_leaf_to_insertion_index pmmrLeafToInsertionIndex
  rw [peak_map_height_eq pos h]
  by_cases hz : (peakMapHeight pos).2 = 0 <;> simp [hz]

theorem pmmr_leaf_to_insertion_index_ok (pos : Nat) (h : pos < 2^64) :
    Fns.pmmr_leaf_to_insertion_index_ok pos = true := by
  simp [Fns.pmmr_leaf_to_insertion_index_ok, peak_map_height_ok pos h]

theorem bintree_postorder_height_eq (pos : Nat) (h : pos < 2^64) :
    Fns.bintree_postorder_height pos = height pos := by
  unfold Fns.bintree_postorder_height height
  rw [peak_map_height_eq pos h]

theorem bintree_postorder_height_ok (pos : Nat) (h : pos < 2^64) :
    Fns.bintree_postorder_height_ok pos = true := by
  simp [Fns.bintree_postorder_height_ok, peak_map_height_ok pos h]

theorem is_leaf_eq (pos : Nat) (h : pos < 2^64) : Fns.is_leaf pos = isLeaf pos := by
  unfold Fns.is_leaf isLeaf
  rw [bintree_postorder_height_eq pos h]

theorem is_leaf_ok (pos : Nat) (h : pos < 2^64) : Fns.is_leaf_ok pos = true := by
  simp [Fns.is_leaf_ok, bintree_postorder_height_ok pos h]

/-- the translated `family` is the hand-written u64 `family` (`Model/PmmrU64`), on every u64 -/
theorem family_u64 (pos : Nat) (h : pos < 2^64) : Fns.family pos = U64.family pos := by
  unfold Fns.family U64.family
  rw [peak_map_height_eq pos h]
  simp only [shlW_one_left (height_lt_64 h), and_two_pow_ne_zero]
  rfl

/-- `family(pos0)` for `pos0 < 2^63` (the parent `pos0 + 2·2^h ≤ 2·pos0 + 2` must fit a u64) -/
theorem family_eq (pos : Nat) (h : pos < 2^63) : Fns.family pos = family pos := by
  rw [family_u64 pos (by omega), GV.Props.C07U64.family_exact pos h]

theorem family_ok (pos : Nat) (h : pos < 2^64) : Fns.family_ok pos = true := by
  simp [Fns.family_ok, peak_map_height_ok pos h]

example : Fns.family 6 = (14, 13) := by
  rw [family_eq 6 (by omega)]
  simp [family, pmh_6, bitSet]

theorem is_left_sibling_eq (pos : Nat) (h : pos < 2^64) : Fns.is_left_sibling pos = isLeftSibling pos := by
  unfold Fns.is_left_sibling isLeftSibling
  rw [peak_map_height_eq pos h]
  have hh : (peakMapHeight pos).2 < 64 := height_lt_64 h
  simp only [shlW_one_left hh, and_two_pow_eq_zero, bitSet]

theorem is_left_sibling_ok (pos : Nat) (h : pos < 2^64) : Fns.is_left_sibling_ok pos = true := by
  simp [Fns.is_left_sibling_ok, peak_map_height_ok pos h]

/-- `bintree_rightmost(pos0)` for every u64 (`pos0 - height` cannot underflow) -/
theorem bintree_rightmost_eq (pos : Nat) (h : pos < 2^64) :
    Fns.bintree_rightmost pos = bintreeRightmost pos := by
  unfold Fns.bintree_rightmost bintreeRightmost
  rw [bintree_postorder_height_eq pos h]
  exact subW_eq h (height_le_pos pos)

theorem bintree_rightmost_ok (pos : Nat) (h : pos < 2^64) : Fns.bintree_rightmost_ok pos = true := by
  simp [Fns.bintree_rightmost_ok, bintree_postorder_height_ok pos h]

theorem shl_two_height {pos : Nat} (h : pos + 2 < 2^64) :
    shlW 2 (height pos) = 2 * 2^(height pos) := by
  have b : 2 * 2^(peakMapHeight pos).2 ≤ pos + 2 := height_bound pos
  have hh : (peakMapHeight pos).2 < 64 := height_lt_64 (by omega)
  unfold height
  rw [shlW_eq hh (by omega)]

/-- `bintree_leftmost(pos0)` for every u64: at `pos0 = 2^64 - 2` (height 63) and `2^64 - 1` (a leaf) the wrap of
`pos0 + 2` and the wrap / masking of `2 << height` cancel in the wrapping subtraction -/
theorem bintree_leftmost_eq_u64 (pos : Nat) (h : pos < 2^64) :
    Fns.bintree_leftmost pos = bintreeLeftmost pos := by
  unfold Fns.bintree_leftmost bintreeLeftmost
  simp only [bintree_postorder_height_eq pos h]
  have b : 2 * 2^(peakMapHeight pos).2 ≤ pos + 2 := height_bound pos
  have hh : (peakMapHeight pos).2 < 64 := height_lt_64 h
  unfold height shlW
  rw [Nat.mod_eq_of_lt hh]
  have hP : 2^(peakMapHeight pos).2 ≤ 2^63 := Nat.pow_le_pow_right (by omega) (by omega)
  have hP1 := Nat.two_pow_pos (peakMapHeight pos).2
  generalize 2^(peakMapHeight pos).2 = P at *
  unfold addW subW; omega

theorem bintree_leftmost_eq (pos : Nat) (h : pos + 2 < 2^64) :
    Fns.bintree_leftmost pos = bintreeLeftmost pos := bintree_leftmost_eq_u64 pos (by omega)

theorem bintree_leftmost_ok (pos : Nat) (h : pos < 2^64) : Fns.bintree_leftmost_ok pos = true := by
  simp [Fns.bintree_leftmost_ok, bintree_postorder_height_ok pos h]

/-- `bintree_range(pos0)` (the `Range<u64>` as the pair `(start, end)`) for `pos0 + 2 < 2^64` -/
theorem bintree_range_eq (pos : Nat) (h : pos + 2 < 2^64) :
    Fns.bintree_range pos = bintreeRange pos := by
  unfold Fns.bintree_range bintreeRange
  have h1 : addW pos 1 = pos + 1 := addW_eq (by omega)
  simp only [bintree_postorder_height_eq pos (by omega), shl_two_height h, addW_eq h, h1]
  have b : 2 * 2^(peakMapHeight pos).2 ≤ pos + 2 := height_bound pos
  rw [subW_eq h (by unfold height; omega)]

theorem bintree_range_ok (pos : Nat) (h : pos < 2^64) : Fns.bintree_range_ok pos = true := by
  simp [Fns.bintree_range_ok, bintree_postorder_height_ok pos h]

example : Fns.bintree_range 9 = (7, 10) ∧ Fns.bintree_leftmost 9 = 7 ∧ Fns.bintree_rightmost 9 = 8 := by
  have hh : height 9 = 1 := by simp [height, pmh_9]
  rw [bintree_range_eq 9 (by omega), bintree_leftmost_eq 9 (by omega), bintree_rightmost_eq 9 (by omega)]
  simp [bintreeRange, bintreeLeftmost, bintreeRightmost, hh]

/-- non-vacuity of the remaining `peak_map_height` clients: node 6 (height 2, left child), leaf 7 -/
example : Fns.round_up_to_leaf_pos 6 = 7 ∧ Fns.pmmr_leaf_to_insertion_index 7 = some 4
    ∧ Fns.pmmr_leaf_to_insertion_index 6 = none ∧ Fns.is_leaf 7 = true ∧ Fns.is_leaf 6 = false
    ∧ Fns.is_left_sibling 6 = true ∧ Fns.bintree_postorder_height 6 = 2 := by
  have m4 : mmr 4 = 7 := by decide +kernel
  rw [round_up_to_leaf_pos_eq 6 (by omega), pmmr_leaf_to_insertion_index_eq 7 (by omega),
    pmmr_leaf_to_insertion_index_eq 6 (by omega), is_leaf_eq 7 (by omega), is_leaf_eq 6 (by omega),
    is_left_sibling_eq 6 (by omega), bintree_postorder_height_eq 6 (by omega)]
  simp [roundUpToLeafPos, pmmrLeafToInsertionIndex, isLeaf, isLeftSibling, height, pmh_6, pmh_7, bitSet,
    insertionToPmmrIndex, m4]

/-! ## `family_branch` (a `Vec<(u64, u64)>`-building loop with `break`) -/

theorem family_branch_spec (pos size : Nat) (hp : pos + 1 < 2^64) (hs : size ≤ 2^63) :
    Fns.family_branch pos size = familyBranch pos size ∧ Fns.family_branch_ok pos size = true := by
  unfold Fns.family_branch Fns.family_branch_ok familyBranch
  rw [peak_map_height_ok pos (by omega), peak_map_height_eq pos (by omega)]
  have hh64 : (peakMapHeight pos).2 < 64 := height_lt_64 (by omega)
  obtain ⟨n, h, hh, rfl⟩ := coord_surj pos
  rw [peakMapHeight_co n h hh] at hh64 ⊢
  simp only at hh64
  have hup : up n h = n := up_of_valid hh
  have hc : mmr n + h = cpos (up n h, h) := by simp [cpos, hup]
  simp only [shlW_one_left hh64, Bool.true_and]
  rw [hc]
  obtain ⟨h1, h2⟩ := fb_loop n size hs 65 h (size + 1) [] 0 (by omega) (by omega) (by rw [← hc]; exact hp)
  exact ⟨by simpa using h1, h2⟩

/-- `family_branch(pos0, size)` for `pos0 + 1 < 2^64` and `size ≤ 2^63` (beyond that the parent
position `current + 2·peak` can wrap and re-enter the loop) -/
theorem family_branch_eq (pos size : Nat) (hp : pos + 1 < 2^64) (hs : size ≤ 2^63) :
    Fns.family_branch pos size = familyBranch pos size := (family_branch_spec pos size hp hs).1

theorem family_branch_ok (pos size : Nat) (hp : pos + 1 < 2^64) (hs : size ≤ 2^63) :
    Fns.family_branch_ok pos size = true := (family_branch_spec pos size hp hs).2

example : Fns.family_branch 0 7 = [(2, 1), (6, 5)] := by
  rw [family_branch_eq 0 7 (by omega) (by omega)]
  have p0 : peakMapHeight 0 = (0, 0) := by simp [peakMapHeight]
  simp [familyBranch, p0, familyBranchLoop, bitSet]

end GV.Props.XlatePmmr
