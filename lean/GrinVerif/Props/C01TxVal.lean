import GrinVerif.Model.ChainTxVal
import GrinVerif.Lemmas.UtilList
/-! C01 at transaction level (`Model/ChainTxVal.lean` = `Transaction::validate(weighting)` with the
fee fields as read from bytes).

* The weighting matters through the weight limit ONLY: `validate_eq_of_weight_ok`,
  `validate_noLimit_of_accepted`, `accepted_iff_noLimit_and_weight`; a crypto fault (one bad range
  proof, one bad signature), a features fault, an unbalanced or blinding-faulted body is refused
  under EVERY weighting (`crypto_fault_refused_under_every_weighting`,
  `unbalanced_refused_under_every_weighting`).
* Fee fields: whatever the reserved bits 44..63 of the word hold, `fee` is the low 40 bits and
  `fee_shift` the next 4 (`feeOf_reserved`, `shiftOf_reserved`, `feeOf_lt`, `shiftOf_lt`); the body
  fee of fewer than 2^23 kernels is the plain sum of the 40-bit fees, the overage is that sum and
  never negative (`bodyFee_eq_sum`, `overage_eq_sum`); hence an accepted transaction gives up
  exactly the 40-bit fees: outputs + fees = inputs, under every weighting, whatever the reserved bits
  (`accepted_balances`), and setting reserved bits never changes the verdict
  (`validate_reserved_invariant`). -/

namespace GV.Props.C01TxVal
open GV GV.Chain.TxVal

/-! ### the weighting -/

/-- under a weighting whose weight limit the body respects, the verdict is the verdict without limit -/
theorem validate_eq_of_weight_ok (P : WParams) (w : Weighting) (t : TxV)
    (h : verifyWeight P w t = none) : validate P w t = validate P .noLimit t := by
  unfold validate
  cases verifyFeatures t with
  | some e => rfl
  | none => simp only [h]; rfl

/-- two weightings under which the body is not too heavy give the same verdict -/
theorem validate_weighting_independent (P : WParams) (w1 w2 : Weighting) (t : TxV)
    (h1 : verifyWeight P w1 t = none) (h2 : verifyWeight P w2 t = none) :
    validate P w1 t = validate P w2 t := by
  rw [validate_eq_of_weight_ok P w1 t h1, validate_eq_of_weight_ok P w2 t h2]

theorem validate_none_iff (P : WParams) (w : Weighting) (t : TxV) :
    validate P w t = none ↔
      verifyFeatures t = none ∧ verifyWeight P w t = none ∧ validateRest t = none := by
  unfold validate
  cases verifyFeatures t with
  | some e => simp only [reduceCtorEq, false_and]
  | none => cases verifyWeight P w t <;> simp only [reduceCtorEq, false_and, true_and]

theorem validateRest_none_iff (t : TxV) :
    validateRest t = none ↔ t.readFault = none ∧ t.outs.any (·.proofBad) = false ∧
      t.kers.any (·.sigBad) = false ∧ verifyKernelSums t = none := by
  unfold validateRest
  cases t.readFault with
  | some e => simp only [reduceCtorEq, false_and]
  | none =>
    cases t.outs.any (·.proofBad) <;> cases t.kers.any (·.sigBad) <;>
      simp only [Bool.false_eq_true, if_false, if_true, reduceCtorEq, false_and, true_and, and_false]

/-- accepted under any weighting ⇒ accepted without limit (what the pool's aggregates use) -/
theorem validate_noLimit_of_accepted (P : WParams) (w : Weighting) (t : TxV)
    (h : validate P w t = none) : validate P .noLimit t = none :=
  have ⟨hf, _, hr⟩ := (validate_none_iff P w t).mp h
  (validate_none_iff P .noLimit t).mpr ⟨hf, rfl, hr⟩

/-- accepted under `w` iff accepted without limit and not too heavy for `w` -/
theorem accepted_iff_noLimit_and_weight (P : WParams) (w : Weighting) (t : TxV) :
    validate P w t = none ↔ (validate P .noLimit t = none ∧ verifyWeight P w t = none) := by
  rw [validate_none_iff, validate_none_iff]
  exact ⟨fun ⟨a, b, c⟩ => ⟨⟨a, rfl, c⟩, b⟩, fun ⟨⟨a, _, c⟩, b⟩ => ⟨a, b, c⟩⟩

/-- one bad range proof or one bad signature anywhere: refused under EVERY weighting -/
theorem crypto_fault_refused_under_every_weighting (P : WParams) (w : Weighting) (t : TxV)
    (h : (∃ o ∈ t.outs, o.proofBad = true) ∨ (∃ k ∈ t.kers, k.sigBad = true)) :
    validate P w t ≠ none := by
  intro hv
  obtain ⟨_, hp, hs, _⟩ := (validateRest_none_iff t).mp ((validate_none_iff P w t).mp hv).2.2
  rcases h with ⟨o, ho, hb⟩ | ⟨k, hk, hb⟩
  · rw [List.any_eq_true.mpr ⟨o, ho, hb⟩] at hp; cases hp
  · rw [List.any_eq_true.mpr ⟨k, hk, hb⟩] at hs; cases hs

/-- an accepted transaction passed the sums check, whatever the weighting -/
theorem accepted_sums (P : WParams) (w : Weighting) (t : TxV) (h : validate P w t = none) :
    verifyKernelSums t = none :=
  ((validateRest_none_iff t).mp ((validate_none_iff P w t).mp h).2.2).2.2.2

/-- a body whose values do not balance with its overage, or whose blinding factors do not, is
refused under every weighting -/
theorem unbalanced_refused_under_every_weighting (P : WParams) (w : Weighting) (t : TxV)
    (h : (sumNat (t.outs.map (·.v)) : Int) + overage t ≠ (sumNat t.ins : Int) ∨ t.blindFault = true) :
    validate P w t ≠ none := by
  intro hv
  have hs := accepted_sums P w t hv
  unfold verifyKernelSums at hs
  simp only [if_pos h] at hs
  split at hs <;> cases hs

/-! ### fee fields read from bytes -/

theorem feeOf_lt (w : Nat) : feeOf w < FEE_MOD := Nat.mod_lt _ (by decide)
theorem shiftOf_lt (w : Nat) : shiftOf w < SHIFT_MOD := Nat.mod_lt _ (by decide)

/-- the reserved bits (everything from bit 44 up) never reach the fee -/
theorem feeOf_reserved (lo r : Nat) : feeOf (lo + 17592186044416 * r) = feeOf lo := by
  show (lo + 1099511627776 * 16 * r) % 1099511627776 = lo % 1099511627776
  rw [Nat.mul_assoc, Nat.add_mul_mod_self_left]

/-- … nor the fee shift -/
theorem shiftOf_reserved (lo r : Nat) : shiftOf (lo + 17592186044416 * r) = shiftOf lo := by
  show (lo + 1099511627776 * 16 * r) / 1099511627776 % 16 = lo / 1099511627776 % 16
  rw [Nat.mul_assoc, Nat.add_mul_div_left _ _ (by decide), Nat.add_mul_mod_self_left]

theorem sumNat_cons (x : Nat) (xs : List Nat) : sumNat (x :: xs) = x + sumNat xs := by
  unfold sumNat
  rw [List.foldl_cons, foldl_add_eq_sum, foldl_add_eq_sum xs 0]
  omega

theorem fold_satAdd (l : List Nat) : ∀ acc, acc + sumNat (l.map feeOf) < U64_MOD →
    l.foldl (fun a w => satAdd a (feeOf w)) acc = acc + sumNat (l.map feeOf) := by
  induction l with
  | nil => intro acc _; rfl
  | cons x xs ih =>
    intro acc h
    rw [List.map_cons, sumNat_cons] at h ⊢
    have hx : satAdd acc (feeOf x) = acc + feeOf x := if_pos (by omega)
    rw [List.foldl_cons, hx, ih (acc + feeOf x) (by omega)]
    omega

theorem sum_fees_le (l : List Nat) : sumNat (l.map feeOf) ≤ l.length * (FEE_MOD - 1) := by
  induction l with
  | nil => exact Nat.le_refl 0
  | cons x xs ih =>
    have := feeOf_lt x
    rw [List.map_cons, sumNat_cons, List.length_cons, Nat.add_mul]
    omega
/-- with fewer than 2^23 fee-carrying kernels the body fee is the plain sum of the 40-bit fees -/
theorem bodyFee_eq_sum (t : TxV) (hn : (words t).length < 8388608) :
    bodyFee t = sumNat ((words t).map feeOf) ∧ bodyFee t < I64_LIM := by
  have hle := sum_fees_le (words t)
  have hb : sumNat ((words t).map feeOf) < I64_LIM := by
    unfold FEE_MOD at hle; unfold I64_LIM
    have : (words t).length * (1099511627776 - 1) ≤ 8388607 * (1099511627776 - 1) :=
      Nat.mul_le_mul_right _ (by omega)
    omega
  unfold bodyFee
  rw [fold_satAdd _ 0 (by unfold U64_MOD; unfold I64_LIM at hb; omega)]
  rw [Nat.zero_add]
  exact ⟨rfl, hb⟩

/-- … and the overage is that sum: never negative, whatever the reserved bits of the words -/
theorem overage_eq_sum (t : TxV) (hn : (words t).length < 8388608) :
    overage t = (sumNat ((words t).map feeOf) : Int) ∧ 0 ≤ overage t := by
  obtain ⟨h1, h2⟩ := bodyFee_eq_sum t hn
  unfold overage toI64
  rw [if_pos h2, h1]
  exact ⟨rfl, Int.natCast_nonneg _⟩

/-- **no value is created**: a transaction accepted under any weighting gives up exactly the 40-bit
fees of its kernels - outputs + fees = inputs - whatever the reserved bits of the fee-field words -/
theorem accepted_balances (P : WParams) (w : Weighting) (t : TxV) (hn : (words t).length < 8388608)
    (h : validate P w t = none) :
    sumNat (t.outs.map (·.v)) + sumNat ((words t).map feeOf) = sumNat t.ins := by
  have hs := accepted_sums P w t h
  obtain ⟨ho, _⟩ := overage_eq_sum t hn
  unfold verifyKernelSums at hs
  simp only at hs
  split at hs
  · cases hs
  · split at hs
    · cases hs
    · rename_i hne
      have heq : (sumNat (t.outs.map (·.v)) : Int) + overage t = (sumNat t.ins : Int) :=
        Classical.byContradiction fun hc => hne (Or.inl hc)
      rw [ho] at heq
      exact_mod_cast heq

/-- rewrite the fee-field word of every fee-carrying kernel -/
def mapWords (f : Nat → Nat) (t : TxV) : TxV :=
  { t with kers := t.kers.map fun k => { k with word := k.word.map f } }

theorem words_mapWords (f : Nat → Nat) (t : TxV) : words (mapWords f t) = (words t).map f := by
  unfold words mapWords
  simp only
  induction t.kers with
  | nil => rfl
  | cons k ks ih =>
    cases hk : k.word with
    | none => simp [hk, ih]
    | some w => simp [hk, ih]

/-- the verdict depends on the fee-field words only through their 40-bit fees: rewriting the words
by any function that keeps the low 40 bits changes nothing, under any weighting -/
theorem validate_depends_on_fee_bits_only (P : WParams) (w : Weighting) (t : TxV) (f : Nat → Nat)
    (hf : ∀ x, feeOf (f x) = feeOf x) : validate P w (mapWords f t) = validate P w t := by
  have hfee : bodyFee (mapWords f t) = bodyFee t := by
    unfold bodyFee; rw [words_mapWords, List.foldl_map]; simp only [hf]
  have hov : overage (mapWords f t) = overage t := by unfold overage; rw [hfee]
  have hnone : (mapWords f t).kers.any (·.word.isNone) = t.kers.any (·.word.isNone) := by
    unfold mapWords
    simp only
    induction t.kers with
    | nil => rfl
    | cons k ks ih => cases hk : k.word <;> simp [hk, ih]
  have hsig : (mapWords f t).kers.any (·.sigBad) = t.kers.any (·.sigBad) := by
    unfold mapWords
    simp only
    induction t.kers with
    | nil => rfl
    | cons k ks ih => simp [ih]
  have hlen : (mapWords f t).kers.length = t.kers.length := by unfold mapWords; simp
  have hfeat : verifyFeatures (mapWords f t) = verifyFeatures t := by
    unfold verifyFeatures; rw [hnone]; rfl
  have hw : verifyWeight P w (mapWords f t) = verifyWeight P w t := by
    unfold verifyWeight weight; rw [hlen]; rfl
  have hsums : verifyKernelSums (mapWords f t) = verifyKernelSums t := by
    unfold verifyKernelSums; rw [hov]; rfl
  have hrest : validateRest (mapWords f t) = validateRest t := by
    unfold validateRest; rw [hsig, hsums]; rfl
  unfold validate
  rw [hfeat, hw, hrest]

/-- in particular: setting any reserved bits (bits 44..63 and beyond) in any kernel never changes
the verdict -/
theorem validate_reserved_invariant (P : WParams) (w : Weighting) (t : TxV) (r : Nat) :
    validate P w (mapWords (· + 17592186044416 * r) t) = validate P w t :=
  validate_depends_on_fee_bits_only P w t _ (fun x => feeOf_reserved x r)

/-! ### non-vacuity -/

/-- 5 in, 3 out, fee 2 in a word whose bit 63 is set: accepted under every weighting -/
private def honest63 : TxV :=
  { ins := [5], outs := [{ v := 3 }], kers := [{ word := some (9223372036854775808 + 2) }] }

example : validate {} .asTransaction honest63 = none ∧ validate {} .noLimit honest63 = none ∧
    validate {} .asBlock honest63 = none ∧ validate {} (.asLimitedTransaction 100) honest63 = none := by
  decide +kernel

/-- 5 in, 2^63 + 3 out with the same word: refused (it would balance if bit 63 reached the overage) -/
example : validate {} .noLimit { honest63 with outs := [{ v := 9223372036854775808 + 3 }] }
    = some "Committed:KernelSumMismatch" := by decide +kernel

/-- a swapped range proof is refused without limit as well; only the weight check sees the weighting -/
example : validate {} .noLimit { honest63 with outs := [{ v := 3, proofBad := true }] }
    = some "Secp:InvalidRangeProof" ∧
    validate {} (.asLimitedTransaction 30) honest63 = some "TooHeavy" := by decide +kernel

end GV.Props.C01TxVal
