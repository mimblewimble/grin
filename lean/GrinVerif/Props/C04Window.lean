import GrinVerif.Lemmas.ConsArith
/-! # C04 — the difficulty window in closed form, for every window length

`global::difficulty_data_to_vector` pads a window that is shorter than `DMA_WINDOW + 1 = 61`
entries (every height 1..=60 of a chain, every chain type) with simulated pre-genesis entries.  The
loop (`Model/Cons.lean padWindow`) in closed form — the `i`-th simulated entry (counting from the
oldest real one backwards) carries the LATEST header's difficulty and the timestamp
`oldest.ts ∸ (i+1)·delta` (saturating) — and the resulting vector, its difficulty sum and its time
span for EVERY length `n ≤ 60`, plus what the store-backed `DifficultyIter` yields at genesis and
for a chain of any length.  `short_window_sum` says which header the padding copies its difficulty
from: the latest one, `h0`. -/
namespace GV.Props.C04Window
open GV GV.Gen GV.Cons

/-- the simulated entry `i` steps before the oldest real one -/
def padEntry (ct : ChainType) (delta diff lastTs i : Nat) : HDI :=
  { ts := lastTs - (i + 1) * delta, diff := diff, scaling := initialGraphWeight ct, isSec := true }

/-- **the padding loop in closed form** -/
theorem padWindow_closed_form (ct : ChainType) (delta diff : Nat) : ∀ k lastTs,
    padWindow ct delta diff k lastTs = (List.range k).map (padEntry ct delta diff lastTs) := by
  intro k
  induction k with
  | zero => intro _; rfl
  | succ k ih =>
    intro lastTs
    rw [padWindow, ih, List.range_succ_eq_map, List.map_cons, List.map_map]
    congr 1
    · simp [padEntry, satSub]
    · apply List.map_congr_left
      intro i _
      simp only [Function.comp, padEntry, satSub]
      congr 1
      rw [Nat.sub_sub]
      congr 1
      rw [Nat.add_mul (i + 1) 1 delta]
      omega

/-- the time step of the simulated entries: the distance of the two latest headers (wrapping `u64`
subtraction), the block time for a window of one -/
def padDelta : List HDI → Nat
  | h0 :: h1 :: _ => subW h0.ts h1.ts
  | _ => BLOCK_TIME_SEC

/-- **a short window, for every length `1 ≤ n ≤ 60`**: the real entries followed (towards the past)
by `61 - n` simulated ones, oldest first -/
theorem short_window (ct : ChainType) (h0 : HDI) (rest : List HDI)
    (hn : (h0 :: rest).length ≤ DMA_WINDOW) :
    difficultyDataToVector ct (h0 :: rest) =
      some (((h0 :: rest) ++ (List.range (DMA_WINDOW + 1 - (h0 :: rest).length)).map
        (padEntry ct (padDelta (h0 :: rest)) h0.diff (((h0 :: rest).getLast?.getD h0).ts))).reverse) := by
  unfold difficultyDataToVector
  simp only
  have htake : (h0 :: rest).take (DMA_WINDOW + 1) = h0 :: rest := List.take_of_length_le (by omega)
  rw [htake, if_pos (by omega)]
  simp only
  rw [padWindow_closed_form]
  cases rest <;> rfl

theorem sumW_nil : sumW [] = 0 := rfl

/-- **a short window has exactly 61 entries, its newest entry is the latest header, its oldest entry
the last simulated one** with timestamp `oldest.ts ∸ (61 - n)·delta` -/
theorem short_window_ends (ct : ChainType) (h0 : HDI) (rest : List HDI)
    (hn : (h0 :: rest).length ≤ DMA_WINDOW) :
    ∃ data, difficultyDataToVector ct (h0 :: rest) = some data ∧ data.length = DMA_WINDOW + 1 ∧
      data.getLast? = some h0 ∧
      data.head? = some (padEntry ct (padDelta (h0 :: rest)) h0.diff
        (((h0 :: rest).getLast?.getD h0).ts) (DMA_WINDOW - (h0 :: rest).length)) := by
  refine ⟨_, short_window ct h0 rest hn, ?_, ?_, ?_⟩
  · exact difficultyDataToVector_some_length (short_window ct h0 rest hn)
  · rw [List.getLast?_reverse]; rfl
  · rw [List.head?_reverse, List.getLast?_append]
    have hk : DMA_WINDOW + 1 - (h0 :: rest).length = (DMA_WINDOW - (h0 :: rest).length) + 1 := by omega
    rw [hk, List.range_succ, List.map_append]
    simp

/-- **where the padding takes its difficulty from**: every simulated entry of a short window has the
difficulty of the LATEST real header (`last_n[0]`), whatever the older headers carry -/
theorem short_window_sum (ct : ChainType) (h0 : HDI) (rest : List HDI)
    (hn : (h0 :: rest).length ≤ DMA_WINDOW) :
    ∃ data, difficultyDataToVector ct (h0 :: rest) = some data ∧
      (data.map (·.diff)).sum =
        ((h0 :: rest).map (·.diff)).sum + (DMA_WINDOW + 1 - (h0 :: rest).length) * h0.diff := by
  refine ⟨_, short_window ct h0 rest hn, ?_⟩
  rw [List.map_reverse, List.sum_reverse, List.map_append, List.sum_append, List.map_map]
  congr 1
  -- every simulated entry carries `h0.diff`
  have : (fun x => x.diff) ∘ padEntry ct (padDelta (h0 :: rest)) h0.diff
      (((h0 :: rest).getLast?.getD h0).ts) = fun _ => h0.diff := rfl
  rw [this, List.map_const', List.sum_replicate_nat, List.length_range]

/-! ### the store-backed iterator -/

/-- at genesis: one entry, whose difficulty is the genesis header's total difficulty (the missing
parent counts as zero) -/
theorem difficultyIter_genesis (g : Hdr) :
    difficultyIter [g] = [HDI.mk (tsU64 g.ts) (subW g.totalDiff 0) g.secondaryScaling
      (isSecondary g.edgeBits)] := rfl

/-- for a chain of any length: entry `i` (latest first) is header `i`'s timestamp, scaling and PoW
kind, and the (wrapping) difference of total difficulties to its parent -/
theorem difficultyIter_get (hs : List Hdr) (i : Nat) (a b : Hdr)
    (ha : hs[i]? = some a) (hb : hs[i + 1]? = some b) :
    (difficultyIter hs)[i]? = some
      (HDI.mk (tsU64 a.ts) (subW a.totalDiff b.totalDiff) a.secondaryScaling
        (isSecondary a.edgeBits)) := by
  induction hs generalizing i with
  | nil => simp at ha
  | cons h rest ih =>
    cases i with
    | zero =>
      cases rest with
      | nil => simp at hb
      | cons p r =>
        simp only [List.getElem?_cons_zero, Option.some.injEq] at ha
        simp only [List.getElem?_cons_succ, List.getElem?_cons_zero, Option.some.injEq] at hb
        subst ha; subst hb
        simp [difficultyIter]
    | succ i =>
      simp only [List.getElem?_cons_succ] at ha hb
      have := ih i ha hb
      simpa [difficultyIter] using this

/-- heights 1..=60: the window `next_difficulty` sees for the header at height `n` of a chain with
`n` ancestors (genesis included) is short, hence padded — for every such `n` -/
theorem early_heights_are_padded (ct : ChainType) (hs : List Hdr) (h0 : Hdr) (hn : (h0 :: hs).length ≤ DMA_WINDOW) :
    ∃ data, difficultyDataToVector ct (difficultyIter (h0 :: hs)) = some data ∧
      data.length = DMA_WINDOW + 1 ∧
      (data.filter (·.isSec)).length ≥ DMA_WINDOW + 1 - (h0 :: hs).length := by
  have hlen := difficultyIter_length (h0 :: hs)
  obtain ⟨d0, drest, hd⟩ : ∃ d0 drest, difficultyIter (h0 :: hs) = d0 :: drest := by
    cases hs <;> exact ⟨_, _, rfl⟩
  rw [hd] at hlen ⊢
  have hn' : (d0 :: drest).length ≤ DMA_WINDOW := by rw [hlen]; exact hn
  refine ⟨_, short_window ct d0 drest hn', ?_, ?_⟩
  · exact difficultyDataToVector_some_length (short_window ct d0 drest hn')
  · rw [List.filter_reverse, List.length_reverse, List.filter_append, List.length_append]
    have : ∀ (l : List Nat) (delta diff ts : Nat),
        (l.map (padEntry ct delta diff ts)).filter (·.isSec) = l.map (padEntry ct delta diff ts) := by
      intro l delta diff ts
      apply List.filter_eq_self.mpr
      intro e he
      obtain ⟨i, _, rfl⟩ := List.mem_map.mp he
      rfl
    rw [this, List.length_map, List.length_range, hlen]
    omega

/-! ### non-vacuity -/

example : difficultyDataToVector .automatedTesting [⟨1060, 3, 19, false⟩, ⟨1000, 1, 20, false⟩] ≠ none ∧
    (difficultyDataToVector .automatedTesting [⟨1060, 3, 19, false⟩, ⟨1000, 1, 20, false⟩]).map
      (fun d => (d.length, (d.map (·.diff)).sum, d.head?.map (·.ts))) = some (61, 3 + 1 + 59 * 3, some 0) := by
  decide +kernel

end GV.Props.C04Window
