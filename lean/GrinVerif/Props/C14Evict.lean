import GrinVerif.Props.C14
/-! C14 — exactly when does removing a transaction keep the pool jointly valid?

`Pool::evict_transaction` removes ONE entry and nothing re-validates afterwards; the recorded
finding `C14-evict-breaks-joint-validity` is a case in which the removed transaction is not a leaf
of the dependency forest.  `Props/C14.lean` has the sufficient condition (`evict_preserves`) and the
witnesses.  Here the condition is an **iff**, so that every OTHER way in which an eviction could
break joint validity is a deviation from a theorem:

* `evict_preserves_iff` — for a jointly valid list `pre ++ E :: post` and a standalone-shaped `E`
  (no duplicate input / output, no output that is also an input: what `Transaction::validate`
  checks): the rest `pre ++ post` is jointly valid **iff** (a) for every output of `E` the spends of
  that commitment in the rest are covered without `E`'s instance, and (b) for every input of `E`
  the instance `E` consumed does not become a second live instance of its commitment;
* `evict_preserves_iff_leaf` — with fresh output commitments (no commitment created twice, none
  duplicating an unspent one — the situation of every pool outside the re-created-commitment
  corner): the rest is jointly valid **iff no remaining transaction spends an output of `E`**
  (`E` is a leaf of the dependency forest);
* `evict_filter_is_removal` — `Pool::evict_transaction`'s `retain(|x| x.tx != E)` is that removal
  when `E` occurs once;
* `evict_recreated_commitment_witness` — condition (b) is not redundant. -/
namespace GV.Props.C14Evict
open GV.Pool

theorem count_split (pre post : List Tx) (E : Tx) (o : Nat) :
    (allIns (pre ++ E :: post)).count o = (allIns (pre ++ post)).count o + E.ins.count o ∧
    (allOuts (pre ++ E :: post)).count o = (allOuts (pre ++ post)).count o + E.outs.count o := by
  simp only [allIns_append, allOuts_append, allIns_cons, allOuts_cons, List.count_append]
  omega

/-- **Eviction keeps joint validity iff …** (counting form, no freshness assumption) -/
theorem evict_preserves_iff {outs : List GV.Chain.OutDef} {utxo : List Nat} {pre post : List Tx} {E : Tx}
    (h : JointlyValid outs utxo (pre ++ E :: post))
    (hins : E.ins.Nodup) (houts : E.outs.Nodup) (hself : ∀ o ∈ E.outs, o ∉ E.ins) :
    JointlyValid outs utxo (pre ++ post) ↔
      (∀ o ∈ E.outs, (allIns (pre ++ post)).count o ≤ (allOuts (pre ++ post)).count o + unspentCount utxo o) ∧
      (∀ i ∈ E.ins, (allOuts (pre ++ post)).count i + unspentCount utxo i ≤ (allIns (pre ++ post)).count i + 1) := by
  constructor
  · intro hr
    exact ⟨fun o _ => hr.covered o, fun i _ => hr.noDup i⟩
  · rintro ⟨ha, hb⟩
    have hbal : ∀ t ∈ pre ++ post, t.balanced outs = true := by
      intro t ht
      apply h.balanced t
      rcases List.mem_append.mp ht with h' | h'
      · exact List.mem_append.mpr (Or.inl h')
      · exact List.mem_append.mpr (Or.inr (List.mem_cons_of_mem _ h'))
    have key : ∀ o, (allIns (pre ++ post)).count o ≤ (allOuts (pre ++ post)).count o + unspentCount utxo o ∧
        (allOuts (pre ++ post)).count o + unspentCount utxo o ≤ (allIns (pre ++ post)).count o + 1 := by
      intro o
      obtain ⟨e1, e2⟩ := count_split pre post E o
      have c1 := h.covered o
      have c2 := h.noDup o
      rw [e1, e2] at c1 c2
      by_cases ho : o ∈ E.outs
      · have hi : E.ins.count o = 0 := List.count_eq_zero.mpr (hself o ho)
        have hc : E.outs.count o = 1 := houts.count.trans (if_pos ho)
        have := ha o ho
        omega
      · have hc : E.outs.count o = 0 := List.count_eq_zero.mpr ho
        by_cases hi : o ∈ E.ins
        · have hc' : E.ins.count o = 1 := hins.count.trans (if_pos hi)
          have := hb o hi
          omega
        · have hc' : E.ins.count o = 0 := List.count_eq_zero.mpr hi
          omega
    exact ⟨fun o => (key o).1, fun o => (key o).2, hbal⟩

/-- **… iff the evicted transaction is a leaf**, when output commitments are fresh -/
theorem evict_preserves_iff_leaf {outs : List GV.Chain.OutDef} {utxo : List Nat} {pre post : List Tx} {E : Tx}
    (h : JointlyValid outs utxo (pre ++ E :: post))
    (hins : E.ins.Nodup) (hself : ∀ o ∈ E.outs, o ∉ E.ins)
    (fresh : (allOuts (pre ++ E :: post)).Nodup ∧ ∀ o ∈ allOuts (pre ++ E :: post), o ∉ utxo) :
    JointlyValid outs utxo (pre ++ post) ↔ ∀ o ∈ E.outs, o ∉ allIns (pre ++ post) := by
  have houts : E.outs.Nodup := by
    have := fresh.1
    simp only [allOuts_append, allOuts_cons] at this
    exact (List.nodup_append.mp (List.nodup_append.mp this).2.1).1
  have hcnt : ∀ o, (allOuts (pre ++ post)).count o + E.outs.count o ≤ 1 := by
    intro o
    have := List.nodup_iff_count.mp fresh.1 o
    rw [(count_split pre post E o).2] at this
    exact this
  rw [evict_preserves_iff h hins houts hself]
  constructor
  · rintro ⟨ha, _⟩ o ho hin
    have h1 := ha o ho
    have hpos : 0 < (allIns (pre ++ post)).count o := List.count_pos_iff.mpr hin
    have hc : E.outs.count o = 1 := houts.count.trans (if_pos ho)
    have hu : unspentCount utxo o = 0 := by
      have : o ∈ allOuts (pre ++ E :: post) := by
        simp only [allOuts_append, allOuts_cons, List.mem_append]
        exact Or.inr (Or.inl ho)
      simp [unspentCount, fresh.2 o this]
    have := hcnt o
    omega
  · intro hleaf
    refine ⟨fun o ho => ?_, fun i hi => ?_⟩
    · rw [List.count_eq_zero.mpr (hleaf o ho)]; omega
    · have := hcnt i
      by_cases hm : i ∈ allOuts (pre ++ post)
      · have hu : unspentCount utxo i = 0 := by
          have : i ∈ allOuts (pre ++ E :: post) := by
            simp only [allOuts_append, allOuts_cons, List.mem_append] at hm ⊢
            rcases hm with h' | h'
            · exact Or.inl h'
            · exact Or.inr (Or.inr h')
          simp [unspentCount, fresh.2 i this]
        omega
      · have := List.count_eq_zero.mpr hm
        have := unspentCount_le utxo i
        omega

/-- `retain(|x| x.tx != E)` removes exactly `E` when it occurs once -/
theorem evict_filter_is_removal (pre post : List Tx) (E : Tx) (h1 : E ∉ pre) (h2 : E ∉ post) :
    (pre ++ E :: post).filter (fun x => x != E) = pre ++ post := by
  have hp : ∀ l : List Tx, E ∉ l → l.filter (fun x => x != E) = l := by
    intro l hl
    apply List.filter_eq_self.mpr
    intro x hx
    simp only [bne_iff_ne, ne_eq]
    intro hxe; subst hxe; exact hl hx
  simp [List.filter_append, hp pre h1, hp post h2]

/-- **`Pool::evict_transaction`, exactly**: for a jointly valid txpool with fresh output commitments in
which the chosen victim `E` occurs once: the pool after the eviction is jointly valid **iff** no remaining
entry spends an output of `E`.  (The recorded finding C14-evict-breaks-joint-validity is the case where
`bucket_transactions` puts a non-leaf last; any other way of breaking joint validity by an eviction would
contradict this theorem.) -/
theorem evict_keeps_joint_validity_iff {c : Ctx} {p : Pool} {E : Tx} {pre post : List Tx}
    (hev : p.evictee c = some E) (hsplit : p.txs = pre ++ E :: post) (h1 : E ∉ pre) (h2 : E ∉ post)
    (h : JointlyValid c.outs (utxoIds c) p.txs)
    (hins : E.ins.Nodup) (hself : ∀ o ∈ E.outs, o ∉ E.ins)
    (fresh : (allOuts p.txs).Nodup ∧ ∀ o ∈ allOuts p.txs, o ∉ utxoIds c) :
    JointlyValid c.outs (utxoIds c) (p.evict c).txs ↔ ∀ o ∈ E.outs, o ∉ allIns (pre ++ post) := by
  have hx : (p.evict c).txs = pre ++ post := by
    unfold Pool.evict
    rw [hev]
    simp only []
    rw [txs_filter, hsplit]
    exact evict_filter_is_removal pre post E h1 h2
  rw [hx]
  rw [hsplit] at h fresh
  exact evict_preserves_iff_leaf h hins hself fresh

open GV.Props.C14 in
/-- non-vacuity of `evict_keeps_joint_validity_iff`: the pool [A, D], victim D -/
example : JointlyValid wc.outs (utxoIds wc) (Pool.evict wc [⟨wA, .broadcast⟩, ⟨wD, .broadcast⟩]).txs :=
  (evict_keeps_joint_validity_iff (c := wc) (p := [⟨wA, .broadcast⟩, ⟨wD, .broadcast⟩]) (E := wD)
    (pre := [wA]) (post := []) (by decide +kernel) rfl (by decide +kernel) (by decide +kernel)
    ((oracle_decides_spec _ _ _).mp (by decide +kernel)) (by decide +kernel) (by decide +kernel) (by decide +kernel)).mpr (by decide +kernel)

open GV.Props.C14 in
/-- non-vacuity: [A, D] independent, evicting D -/
example : JointlyValid wc.outs (utxoIds wc) ([wA] ++ []) :=
  (evict_preserves_iff_leaf (pre := [wA]) (post := []) (E := wD)
    ((oracle_decides_spec _ _ _).mp (by decide +kernel)) (by decide +kernel) (by decide +kernel) (by decide +kernel)).mpr (by decide +kernel)

open GV.Props.C14 in
/-- the recorded finding read through the iff: evicting B from [A, B, C] (C spends an output of B)
cannot keep joint validity -/
theorem evict_non_leaf_breaks :
    ¬ JointlyValid wc.outs (utxoIds wc) ([wA] ++ [wC]) := by
  intro h
  have := (evict_preserves_iff_leaf (pre := [wA]) (post := [wC]) (E := wB)
    ((oracle_decides_spec _ _ _).mp (by decide +kernel)) (by decide +kernel) (by decide +kernel) (by decide +kernel)).mp h
  exact absurd (this 12 (by decide +kernel)) (by decide +kernel)

/-- condition (b) is not redundant: output 1 unspent; `E` spends it, `A` re-creates commitment 1
(spending 2).  [E, A] is jointly valid; `E` is a leaf (nobody spends its output 5); without `E`
commitment 1 has two live instances. -/
theorem evict_recreated_commitment_witness :
    let outs : List GV.Chain.OutDef := [⟨1, false, 10⟩, ⟨2, false, 10⟩, ⟨5, false, 9⟩]
    let E : Tx := { ins := [1], outs := [5], kers := [{ kid := 1, ker := .plain 1 }] }
    let A : Tx := { ins := [2], outs := [1], kers := [{ kid := 2, ker := .plain 0 }] }
    jointlyValidB outs [1, 2] [E, A] = true ∧ (∀ o ∈ E.outs, o ∉ allIns [A]) ∧
    jointlyValidB outs [1, 2] [A] = false := by decide +kernel

end GV.Props.C14Evict
