import GrinVerif.Lemmas.DecDbBound
/-! # C11 — the database decoders and the third reader

For ALL byte strings and both capped readers: the instrumented models of the db decoders
(`Model/DecDb.lean`) take no panic branch and request at most `1 * len + k` bytes with `k` = 0 for the
NRD index values and size entries, 33 for block sums, 100 004 (the `read_fixed_bytes` cap: a `BinReader`
allocates the announced user-agent length before it finds the input too short) for `PeerData`. These
values come from the node's own LMDB, not from the network; the statements are here because the same
impls would be reachable the day a message carries one of these types.

`StreamingReader` is the uncapped reader: within the cap it IS the `BinReader` (`stream_eq_bin_within_cap`,
which covers every fixed-layout element the node reads from its data files: 32, 33, 64, 675 bytes …);
beyond it no bound holds - eight bytes announce any request up to `isize::MAX`, and more than that is
a capacity-overflow panic (`stream_lenprefix_requests_announced`, `stream_lenprefix_panics`). In this
source tree only `p2p::msg::read_item` could hand it untrusted bytes, and that function has no caller. -/
namespace GV.Props.C11Db
open GV GV.Ser GV.Dec GV.SerDb GV.DecDb GV.Msg

/-- the NRD index values: no panic, for all byte strings -/
theorem nrdList_no_panic (bytes : Bytes) : (listWrapperI commitPosI bytes).isPanic = false :=
  noPanic_listWrapperI ((wire_commitPos.erases .bin).noPanic) bytes
theorem nrdEntry_no_panic (bytes : Bytes) : (listEntryI commitPosI bytes).isPanic = false :=
  noPanic_listEntryI ((wire_commitPos.erases .bin).noPanic) bytes

/-- … and they allocate nothing -/
theorem nrdList_alloc_bound (bytes : Bytes) : (listWrapperI commitPosI bytes).alloc ≤ 1 * bytes.length + 0 :=
  (bnd_listWrapperI (wire_commitPos.bnd .bin)).alloc_le bytes

theorem nrdEntry_alloc_bound (bytes : Bytes) : (listEntryI commitPosI bytes).alloc ≤ 1 * bytes.length + 0 :=
  (bnd_listEntryI (wire_commitPos.bnd .bin)).alloc_le bytes

theorem blockSums_no_panic (rd : Rdr) (bytes : Bytes) : (blockSumsI rd bytes).isPanic = false :=
  (wire_blockSums.erases rd).noPanic bytes

theorem blockSums_alloc_bound (rd : Rdr) (bytes : Bytes) : (blockSumsI rd bytes).alloc ≤ 1 * bytes.length + 33 :=
  (wire_blockSums.bnd rd).alloc_le bytes

theorem sizeEntry_no_panic (bytes : Bytes) : (sizeEntryI bytes).isPanic = false :=
  (wire_sizeEntry.erases .bin).noPanic bytes

theorem sizeEntry_alloc_bound (bytes : Bytes) : (sizeEntryI bytes).alloc ≤ 1 * bytes.length + 0 :=
  (wire_sizeEntry.bnd .bin).alloc_le bytes

/-- `PeerData::read`: no panic for all byte strings, whatever the clock -/
theorem peerData_no_panic (now : Int) (rd : Rdr) (bytes : Bytes) : (peerDataI now rd bytes).isPanic = false :=
  noPanic_peerDataI now rd bytes

/-- … and requests at most the input length plus the `read_fixed_bytes` cap (the announced user-agent
length is allocated by a `BinReader` before the input turns out to be too short); the 4 (a failed
V4 address read) is slack, since only one read fails: `bnd_peerDataI` has `Bnd 1 0 MAX_FIXED_READ` -/
theorem peerData_alloc_bound (now : Int) (rd : Rdr) (bytes : Bytes) :
    (peerDataI now rd bytes).alloc ≤ 1 * bytes.length + (MAX_FIXED_READ + 4) := by
  have := (bnd_peerDataI now rd).alloc_le bytes
  omega

/-! ## StreamingReader -/

/-- within the cap of the other readers the streaming reader is the `BinReader`, request included -/
theorem stream_eq_bin_within_cap (len : Nat) (h : len ≤ MAX_FIXED_READ) (bs : Bytes) :
    sFixed len bs = rFixed .bin len bs := by
  have h1 : ¬ len > ISIZE_MAX := by unfold ISIZE_MAX; unfold MAX_FIXED_READ at h; omega
  have h2 : ¬ len > MAX_FIXED_READ := by omega
  unfold sFixed rFixed
  simp only [h1, h2, ↓reduceIte]
  cases splitExact len bs with
  | none => rfl
  | some p => rfl

/-- beyond it: whatever length the eight bytes announce is REQUESTED, however short the stream -/
theorem stream_lenprefix_requests_announced (n : Nat) (h : n ≤ ISIZE_MAX) (hn : 0 < n) :
    (sBytesLenPrefix (writeU64 n)).alloc = 8 + n ∧ (writeU64 n).length = 8 := by
  have hs : sFixed 8 (writeU64 n) = .ok (writeU64 n) [] 8 := by
    unfold sFixed; rw [if_neg (by decide)]; rfl
  refine ⟨?_, rfl⟩
  unfold sBytesLenPrefix
  rw [hs, bind_ok, ofBE_writeU64 n (by unfold ISIZE_MAX at h; omega), sFixed_nil n h hn]
  rfl

/-- no bound `c * len + k` (below `isize::MAX`) holds for it -/
theorem stream_lenprefix_unbounded (c k : Nat) (h : c * 8 + k + 1 ≤ ISIZE_MAX) :
    ∃ bs : Bytes, (sBytesLenPrefix bs).alloc > c * bs.length + k := by
  refine ⟨writeU64 (c * 8 + k + 1), ?_⟩
  obtain ⟨h1, h2⟩ := stream_lenprefix_requests_announced (c * 8 + k + 1) h (by omega)
  rw [h1, h2]
  omega

/-- and an announced length above `isize::MAX` is a capacity-overflow panic -/
theorem stream_lenprefix_panics : (sBytesLenPrefix (List.replicate 8 255)).isPanic = true := by decide

/-- the capped readers on the same eight bytes: refused, nothing requested -/
example : rBytesLenPrefix .bin (List.replicate 8 255) = .err .tooLarge 0 := by decide

end GV.Props.C11Db
