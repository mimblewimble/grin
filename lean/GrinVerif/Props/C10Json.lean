import GrinVerif.Model.SerJson
import GrinVerif.Lemmas.DecMerkle
import GrinVerif.Lemmas.Bytes
/-! # C10 / C11 — the JSON (serde) forms: hex field codecs

Round trip `from_hex(to_hex b) = b` for ALL byte strings through the faithful model of
`util::from_hex` (`utilFromHex_toHexB`: trim, `0x` prefixes, length / ASCII guard, `from_str_radix`), hence round trips of the four byte-string
field codecs of `secp_ser.rs` on the values the writers produce; what the readers accept beyond that
(any length for commitments and blinding factors: padded / truncated - normalised, not refused); no
string makes any of the four field readers panic (the range-proof reader did for more than 675 bytes
until repair dd4fd942d: `proof_field_unrepaired_panic_iff`). Model: `Model/SerJson.lean`; tied to the code by the `serjson` harness (`ser jhex` lines). -/
namespace GV.Props.C10Json
open GV GV.Ser GV.Dec GV.SerJson

def HexCh (c : Nat) : Prop := (48 ≤ c ∧ c ≤ 57) ∨ (97 ≤ c ∧ c ≤ 102)

theorem hexLow_spec (n : Nat) (h : n < 16) : HexCh (hexLow n) ∧ GV.Dec.hexVal (hexLow n) = some n := by
  unfold hexLow GV.Dec.hexVal HexCh
  by_cases h10 : n < 10
  · have h1 : 48 ≤ 48 + n ∧ 48 + n ≤ 57 := by omega
    simp only [h10, ↓reduceIte, h1, and_self, Nat.add_sub_cancel_left, true_or]
  · have h1 : ¬ (48 ≤ 87 + n ∧ 87 + n ≤ 57) := by omega
    have h2 : 97 ≤ 87 + n ∧ 87 + n ≤ 102 := by omega
    simp only [h10, ↓reduceIte, h1, h2, and_self, Nat.add_sub_cancel_left, or_true]

theorem toHexB_chars (b : Bytes) (hb : AllBytes b) : ∀ c ∈ toHexB b, HexCh c := by
  induction b with
  | nil => intro c hc; cases hc
  | cons x r ih =>
    have hx := (allBytes_cons hb).1
    intro c hc
    simp only [toHexB, List.mem_cons] at hc
    rcases hc with rfl | rfl | hc
    · exact (hexLow_spec _ (by omega)).1
    · exact (hexLow_spec _ (by omega)).1
    · exact ih (allBytes_cons hb).2 c hc

theorem hexLoop_step (a b v : Nat) (r vs : Bytes) (hnc : isCont a = false)
    (hv : fromStrRadix16 a b = some v) (hc : ∀ c t, r = c :: t → isCont c = false)
    (hr : hexLoop r = .ok vs) : hexLoop (a :: b :: r) = .ok (v :: vs) := by
  cases r with
  | nil =>
    have : vs = [] := by simpa [hexLoop] using hr.symm
    subst this
    simp [hexLoop, hnc, hv]
  | cons c t =>
    have h2 := hc c t rfl
    rw [hexLoop]
    simp only [hnc, h2, hv, hr, Bool.false_eq_true, ↓reduceIte]

/-- the conversion loop gives the bytes back -/
theorem hexLoop_toHexB : ∀ b : Bytes, AllBytes b → hexLoop (toHexB b) = .ok b := by
  intro b
  induction b with
  | nil => intro _; rfl
  | cons x r ih =>
    intro hb
    have hx := (allBytes_cons hb).1
    have hr := (allBytes_cons hb).2
    obtain ⟨a1, a2⟩ := hexLow_spec (x / 16) (by omega)
    obtain ⟨-, b2⟩ := hexLow_spec (x % 16) (by omega)
    have hnc : isCont (hexLow (x / 16)) = false := by unfold HexCh at a1; simp [isCont]; omega
    have h43 : hexLow (x / 16) ≠ 43 := by unfold HexCh at a1; omega
    have hv : fromStrRadix16 (hexLow (x / 16)) (hexLow (x % 16)) = some x := by
      simp only [fromStrRadix16, h43, ↓reduceIte, a2, b2]
      congr 1
      omega
    refine hexLoop_step _ _ _ _ _ hnc hv ?_ (ih hr)
    intro c t hct
    have := toHexB_chars r hr c (by rw [hct]; exact List.mem_cons_self ..)
    unfold HexCh at this; simp [isCont]; omega

theorem toHexB_length (b : Bytes) : (toHexB b).length = 2 * b.length := by
  induction b with
  | nil => rfl
  | cons x r ih => simp [toHexB, ih]; omega

/-- `trim()` leaves an ASCII byte that is not white space alone: every multi-byte white-space character starts and ends
with a byte `≥ 0x80`, and a single byte is white space only if it is `9..13` or `32` -/
theorem wsPrefix_ascii (c : Nat) (r : Bytes) (h7 : c < 0x80) (hs : ¬ ((9 ≤ c ∧ c ≤ 13) ∨ c = 32)) :
    wsPrefix (c :: r) = 0 := by
  unfold wsPrefix
  split
  all_goals first
    | (rename_i heq; simp only [List.cons.injEq] at heq; omega)
    | (rename_i heq; simp only [List.cons.injEq] at heq; obtain ⟨h1, _⟩ := heq; subst h1; simp; omega)
    | simp at *

theorem wsSuffixRev_ascii (c : Nat) (r : Bytes) (h7 : c < 0x80) (hs : ¬ ((9 ≤ c ∧ c ≤ 13) ∨ c = 32)) :
    wsSuffixRev (c :: r) = 0 := by
  unfold wsSuffixRev
  split
  all_goals first
    | (rename_i heq; simp only [List.cons.injEq] at heq; omega)
    | (rename_i heq; simp only [List.cons.injEq] at heq; obtain ⟨h1, _⟩ := heq; subst h1; simp; omega)
    | simp at *

theorem trimStartFuel_hex (n c : Nat) (r : Bytes) (hc : HexCh c) : trimStartFuel n (c :: r) = c :: r := by
  cases n with
  | zero => rfl
  | succ f =>
    unfold HexCh at hc
    unfold trimStartFuel
    rw [wsPrefix_ascii c r (by omega) (by omega)]
    rfl

theorem trimEndRevFuel_hex (n c : Nat) (r : Bytes) (hc : HexCh c) : trimEndRevFuel n (c :: r) = c :: r := by
  cases n with
  | zero => rfl
  | succ f =>
    unfold HexCh at hc
    unfold trimEndRevFuel
    rw [wsSuffixRev_ascii c r (by omega) (by omega)]
    rfl

theorem strTrim_hex (h : Bytes) (hh : ∀ c ∈ h, HexCh c) : strTrim h = h := by
  unfold strTrim
  cases h with
  | nil => rfl
  | cons c r =>
    simp only
    rw [trimStartFuel_hex _ c r (hh c (List.mem_cons_self ..))]
    cases hrev : (c :: r).reverse with
    | nil => simp at hrev
    | cons d t =>
      have hd : HexCh d := hh d (by rw [← List.mem_reverse, hrev]; exact List.mem_cons_self ..)
      rw [trimEndRevFuel_hex _ d t hd, ← hrev, List.reverse_reverse]

theorem trim0x_hex (h : Bytes) (hh : ∀ c ∈ h, HexCh c) : trim0x h = h := by
  unfold trim0x
  split
  · rename_i r
    have := hh 0x78 (by simp)
    unfold HexCh at this
    omega
  · rfl

/-- `from_hex(to_hex(b)) = b` for ALL byte strings, through the whole of `util::from_hex`
(`trim()`, the `0x` prefixes, the length / ASCII guard, the conversion loop) -/
theorem utilFromHex_toHexB (b : Bytes) (hb : AllBytes b) : utilFromHex (toHexB b) = .ok b := by
  have hch : ∀ c ∈ toHexB b, HexCh c := toHexB_chars b hb
  unfold utilFromHex
  simp only [strTrim_hex _ hch, trim0x_hex _ hch]
  have hlen : (toHexB b).length % 2 = 0 := by rw [toHexB_length]; omega
  have hasc : isAscii (toHexB b) = true := by
    unfold isAscii
    rw [List.all_eq_true]
    intro c hc
    have := hch c hc
    unfold HexCh at this
    simp only [decide_eq_true_eq]; omega
  simp [hlen, hasc, hexLoop_toHexB b hb]

/-- a field reader built on `from_hex` (which never panics) -/
theorem ofHex_eq_iff (s : Bytes) (k : Bytes → FieldRes) (v : FieldRes) :
    ofHex s k = v ↔ (∃ b, utilFromHex s = .ok b ∧ k b = v) ∨ (utilFromHex s = .err ∧ v = .err) := by
  unfold ofHex
  cases hu : utilFromHex s with
  | ok b => simp
  | err => simp [eq_comm]
  | panic st => exact absurd hu (GV.Dec.utilFromHex_noPanic s st)

theorem ofHex_ne_panic (s : Bytes) (k : Bytes → FieldRes) (hk : ∀ b, k b ≠ .panic) : ofHex s k ≠ .panic := by
  intro h
  rcases (ofHex_eq_iff s k .panic).mp h with ⟨b, -, hb⟩ | ⟨-, hv⟩
  · exact hk b hb
  · cases hv

/-- hence the field round trips on what the writers emit: a 33-byte commitment, a 32-byte blinding
factor, a range proof of at most 675 bytes written with `as_hex` read back as themselves -/
theorem commit_field_roundtrip (c : Bytes) (hb : AllBytes c) (hl : c.length = 33) :
    commitFromHex (toHexB c) = .ok c := by
  have hp : padTo 33 c = c := by rw [← hl]; simp [padTo]
  simp [commitFromHex, ofHex, utilFromHex_toHexB c hb, hp]

theorem blind_field_roundtrip (c : Bytes) (hb : AllBytes c) (hl : c.length = 32) :
    blindFromHex (toHexB c) = .ok c := by
  have hp : padTo 32 c = c := by rw [← hl]; simp [padTo]
  simp [blindFromHex, ofHex, utilFromHex_toHexB c hb, hp]

theorem proof_field_roundtrip (c : Bytes) (hb : AllBytes c) (hl : c.length ≤ MAX_PROOF) :
    proofFromHex (toHexB c) = .ok c := by
  have : ¬ c.length > MAX_PROOF := by omega
  simp [proofFromHex, ofHex, utilFromHex_toHexB c hb, this]

theorem sig_field_roundtrip (valid : Bytes → Bool) (c : Bytes) (hb : AllBytes c) (hl : c.length = 64)
    (hv : valid c = true) : sigFromHex valid (toHexB c) = .ok c := by
  have h1 : ¬ c.length < 64 := by omega
  have h2 : c.take 64 = c := by rw [← hl]; exact List.take_length
  simp [sigFromHex, ofHex, utilFromHex_toHexB c hb, h1, h2, hv]

/-- field codecs, given that `from_hex` returned the bytes (`h`): what each conversion does -/
theorem commit_field (s b : Bytes) (h : utilFromHex s = .ok b) : commitFromHex s = .ok (padTo 33 b) := by
  simp [commitFromHex, ofHex, h]
theorem blind_field (s b : Bytes) (h : utilFromHex s = .ok b) : blindFromHex s = .ok (padTo 32 b) := by
  simp [blindFromHex, ofHex, h]

/-- a value of the right length is not changed by the conversion … -/
theorem padTo_exact (n : Nat) (v : Bytes) (h : v.length = n) : padTo n v = v := by
  subst h
  simp [padTo]

/-- … and whatever the length of the value, the result has the length of the field (so by
`commit_field` / `blind_field` every other length is accepted, padded with zeros or truncated:
`"commit": "ff"` is the commitment `ff 00 … 00`) -/
theorem padTo_length (n : Nat) (v : Bytes) : (padTo n v).length = n := by
  simp [padTo]; omega

example : padTo 33 [255] = 255 :: List.replicate 32 0 := by decide

/-- the signature field: at least 64 bytes, the first 64 count, the rest is ignored -/
theorem sig_field (valid : Bytes → Bool) (s b : Bytes) (h : utilFromHex s = .ok b) (hl : 64 ≤ b.length)
    (hv : valid (b.take 64) = true) : sigFromHex valid s = .ok (b.take 64) := by
  have : ¬ b.length < 64 := by omega
  simp [sigFromHex, ofHex, h, this, hv]

theorem sig_field_short (valid : Bytes → Bool) (s b : Bytes) (h : utilFromHex s = .ok b) (hl : b.length < 64) :
    sigFromHex valid s = .err := by
  simp [sigFromHex, ofHex, h, hl]

/-- the range proof field: up to 675 bytes come back as they are (`plen` = their number) … -/
theorem proof_field (s b : Bytes) (h : utilFromHex s = .ok b) (hl : b.length ≤ MAX_PROOF) :
    proofFromHex s = .ok b := by
  have : ¬ b.length > MAX_PROOF := by omega
  simp [proofFromHex, ofHex, h, this]

/-- … and one more byte is REFUSED (repair dd4fd942d, finding C11-rangeproof-json-overlong-panics) -/
theorem proof_field_refuses_beyond_675 (s b : Bytes) (h : utilFromHex s = .ok b) (hl : MAX_PROOF < b.length) :
    proofFromHex s = .err := by
  simp [proofFromHex, ofHex, h, hl]

/-- the range-proof reader has no panic branch: for ALL strings -/
theorem proof_field_no_panic (s : Bytes) : proofFromHex s ≠ .panic := by
  refine ofHex_ne_panic s _ fun b => ?_
  split <;> (intro hc; cases hc)

/-- what the unrepaired reader did: it panicked exactly when more than 675 bytes were decoded (the
witness replayed by the `json` run as a regression probe) -/
theorem proof_field_unrepaired_panic_iff (s : Bytes) :
    proofFromHexUnrepaired s = .panic ↔ ∃ b, utilFromHex s = .ok b ∧ MAX_PROOF < b.length := by
  rw [proofFromHexUnrepaired, ofHex_eq_iff]
  constructor
  · rintro (⟨b, hb, h⟩ | ⟨-, h⟩)
    · by_cases hl : b.length > MAX_PROOF
      · exact ⟨b, hb, hl⟩
      · simp [hl] at h
    · cases h
  · rintro ⟨b, hb, hl⟩
    exact Or.inl ⟨b, hb, by simp [hl]⟩

/-- no other field reader has a panic branch: for ALL strings -/
theorem commit_field_no_panic (s : Bytes) : commitFromHex s ≠ .panic :=
  ofHex_ne_panic s _ fun _ hc => by cases hc

theorem blind_field_no_panic (s : Bytes) : blindFromHex s ≠ .panic :=
  ofHex_ne_panic s _ fun _ hc => by cases hc

theorem sig_field_no_panic (valid : Bytes → Bool) (s : Bytes) : sigFromHex valid s ≠ .panic := by
  refine ofHex_ne_panic s _ fun b => ?_
  split
  · intro hc; cases hc
  · split <;> (intro hc; cases hc)

/-! ## the API's printable output (`api/src/types.rs`) -/

/-- The reader of `OutputPrintable` has no panic branch, for every set of keys (since repair f960854e0
of finding C11-outputprintable-missing-block-height-panics) … -/
theorem outputPrintable_no_panic (k : OpKeys) : outputPrintableFinish k ≠ .panic := by
  unfold outputPrintableFinish
  split <;> (intro h; cases h)

/-- … it accepts exactly the objects that have output_type, commit, spent, proof_hash and mmr_index
(`block_height`, `proof`, `merkle_proof` are optional) and refuses all others -/
theorem outputPrintable_ok_iff (k : OpKeys) :
    outputPrintableFinish k = .ok
      ↔ (k.outputType = true ∧ k.commit = true ∧ k.spent = true ∧ k.proofHash = true ∧ k.mmrIndex = true) := by
  simp [outputPrintableFinish, and_assoc]

theorem outputPrintable_err_iff (k : OpKeys) :
    outputPrintableFinish k = .err
      ↔ ¬ (k.outputType = true ∧ k.commit = true ∧ k.spent = true ∧ k.proofHash = true ∧ k.mmrIndex = true) := by
  simp [outputPrintableFinish, and_assoc]

/-- what the unrepaired reader did: it panicked EXACTLY when the five tested keys were there and
`block_height` was not (the four witnesses are replayed by the `api` run as regression probes) -/
theorem outputPrintable_unrepaired_panic_iff (k : OpKeys) :
    outputPrintableFinishUnrepaired k = .panic
      ↔ (k.outputType = true ∧ k.commit = true ∧ k.spent = true ∧ k.proofHash = true ∧ k.mmrIndex = true
          ∧ k.blockHeight = false) := by
  unfold outputPrintableFinishUnrepaired
  split
  · rename_i hc
    simp only [reduceCtorEq, false_iff]
    rintro ⟨h1, h2, h3, h4, h5, -⟩
    simp [h1, h2, h3, h4, h5] at hc
  · split <;> simp_all

example : outputPrintableFinishUnrepaired ⟨true, true, true, true, true, false, true, true⟩ = .panic
    ∧ outputPrintableFinish ⟨true, true, true, true, true, false, true, true⟩ = .ok := by decide

/-- `OutputPrintable::range_proof()` has no panic branch, for every proof field (since repair 5eec0a242
of finding C11-outputprintable-short-proof-panics) … -/
theorem rangeProofHelper_no_panic (p : Option Bytes) : rangeProofHelper p ≠ .panic := by
  cases p with
  | none => intro h; cases h
  | some s =>
    refine ofHex_ne_panic s _ fun b => ?_
    split <;> (intro hc; cases hc)

/-- … it returns a proof exactly for hex of at least 675 bytes (the first 675 of them) … -/
theorem rangeProofHelper_ok_iff (p : Option Bytes) (v : Bytes) :
    rangeProofHelper p = .ok v
      ↔ ∃ s b, p = some s ∧ utilFromHex s = .ok b ∧ MAX_PROOF ≤ b.length ∧ v = b.take MAX_PROOF := by
  cases p with
  | none => simp [rangeProofHelper]
  | some s =>
    rw [rangeProofHelper, ofHex_eq_iff]
    constructor
    · rintro (⟨b, hb, h⟩ | ⟨-, h⟩)
      · by_cases hl : b.length < MAX_PROOF
        · simp [hl] at h
        · simp only [hl, ↓reduceIte, FieldRes.ok.injEq] at h
          exact ⟨s, b, rfl, hb, by omega, h.symm⟩
      · cases h
    · rintro ⟨s', b, hs, hb, hl, rfl⟩
      cases hs
      exact Or.inl ⟨b, hb, by simp [Nat.not_lt.mpr hl]⟩

/-- … and refuses a shorter one -/
theorem rangeProofHelper_refuses_short (s b : Bytes) (h : utilFromHex s = .ok b) (hl : b.length < MAX_PROOF) :
    rangeProofHelper (some s) = .err := by
  simp [rangeProofHelper, ofHex, h, hl]

/-- what the unrepaired helper did: it panicked EXACTLY when the proof string was hex of fewer than
675 bytes (`&p_vec[..675]`) -/
theorem rangeProofHelper_unrepaired_panic_iff (p : Option Bytes) :
    rangeProofHelperUnrepaired p = .panic ↔ ∃ s b, p = some s ∧ utilFromHex s = .ok b ∧ b.length < MAX_PROOF := by
  cases p with
  | none => simp [rangeProofHelperUnrepaired]
  | some s =>
    rw [rangeProofHelperUnrepaired, ofHex_eq_iff]
    constructor
    · rintro (⟨b, hb, h⟩ | ⟨-, h⟩)
      · by_cases hl : b.length < MAX_PROOF
        · exact ⟨s, b, rfl, hb, hl⟩
        · simp [hl] at h
      · cases h
    · rintro ⟨s', b, hs, hb, hl⟩
      cases hs
      exact Or.inl ⟨b, hb, by simp [hl]⟩

/-- on what the node itself writes (a full 675-byte proof as hex) the helper returns it -/
theorem rangeProofHelper_roundtrip (c : Bytes) (hb : AllBytes c) (hl : c.length = MAX_PROOF) :
    rangeProofHelper (some (toHexB c)) = .ok c := by
  have h1 : ¬ c.length < MAX_PROOF := by omega
  have h2 : c.take MAX_PROOF = c := by rw [← hl]; exact List.take_length
  simp [rangeProofHelper, ofHex, utilFromHex_toHexB c hb, h1, h2]

/-- the id parsers of the handlers never panic, for ALL strings (the hash id pads / truncates any length,
the excess id refuses every length but 33) -/
theorem hashId_no_panic (s : Bytes) : hashIdFromHex s ≠ .panic :=
  ofHex_ne_panic s _ fun _ hc => by cases hc

theorem excessId_no_panic (s : Bytes) : excessIdFromHex s ≠ .panic := by
  refine ofHex_ne_panic s _ fun b => ?_
  split <;> (intro hc; cases hc)

/-! ## numbers -/

/-- `parse::<u64>` refuses what does not fit -/
theorem parseUnsigned_range (d : Bytes) (n : Nat) (h : parseUnsigned d = some n) : n < 2^64 := by
  unfold parseUnsigned at h
  by_cases he : d.isEmpty = true
  · simp [he] at h
  · simp only [he] at h
    cases hp : parseDigits d 0 with
    | none => simp [hp] at h
    | some m =>
      simp only [hp] at h
      by_cases hm : m < 2^64
      · simp [hm] at h; omega
      · simp [hm] at h

theorem parseU64_range (s : Bytes) (n : Nat) (h : parseU64 s = some n) : n < 2^64 := by
  unfold parseU64 at h
  split at h <;> exact parseUnsigned_range _ _ h

example : parseU64 [49, 56, 52, 52, 54, 55, 52, 52, 48, 55, 51, 55, 48, 57, 53, 53, 49, 54, 49, 53] = some (2^64 - 1) := by
  decide
example : parseU64 [49, 56, 52, 52, 54, 55, 52, 52, 48, 55, 51, 55, 48, 57, 53, 53, 49, 54, 49, 54] = none := by
  decide
example : parseU64 [] = none ∧ parseU64 [43] = none ∧ parseU64 [45, 49] = none ∧ parseU64 [43, 55] = some 7 := by
  decide

end GV.Props.C10Json
