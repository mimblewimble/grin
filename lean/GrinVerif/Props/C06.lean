import GrinVerif.Lemmas.ChainSim
import GrinVerif.Lemmas.ChainRefuse
import GrinVerif.Props.C02Inputs
/-! # C06 — rejected or losing-fork input leaves best-chain state untouched
(theorems on `Model/Chain.lean`; `KnownFull`, `hdrUpdate`, `CoreEq`, `obsBest` in
`Lemmas/ChainBasic.lean`, `StoreInv`, `Inv` in `Lemmas/ChainInv.lean`,
`Refused` in `Lemmas/ChainRefuse.lean`, `featMismatch`,
`Blk.withInputFeatures` in `Model/ChainInputs.lean`).
Transactions (the third kind of input named by the property) are **not modelled** in the chain
model: a transaction never reaches chain state (it is validated against a read-only view and lives
in the pool, C14), so there is no chain-state theorem to state about it here. -/
namespace GV.Props.C06
open GV GV.Chain

/-- A rejected block (any error, at any validation stage, including the late root/size check
after the block was applied to the working state) leaves the head, the set of stored blocks and
therefore the reported unspent set exactly as they were. -/
theorem reject_preserves (p : Params) (n : Node) (b : Blk) (e : Err)
    (h : (processBlockSingle p n b).2 = .err e) :
    (processBlockSingle p n b).1.head = n.head ∧ (processBlockSingle p n b).1.stored = n.stored := by
  exact ⟨(CoreEq.of_err h).head, (CoreEq.of_err h).stored⟩

/-- … and so does the whole delivery (no orphan is re-examined after a rejection). -/
theorem reject_preserves_deliver (p : Params) (n : Node) (b : Blk) (e : Err)
    (h : (deliverBlock p n b).2 = .err e) :
    (deliverBlock p n b).1.head = n.head ∧ (deliverBlock p n b).1.stored = n.stored := by
  have h1 := deliverBlock_err_inv p n b e h
  rw [deliverBlock_of_err p n b e h1]
  exact reject_preserves p n b e h1

/-- A valid block on a fork that does not win: the head is unchanged; only the block itself is
added to the store. -/
theorem fork_preserves (p : Params) (n : Node) (b : Blk)
    (h : (processBlockSingle p n b).2 = .okFork) :
    (processBlockSingle p n b).1.head = n.head ∧
    (processBlockSingle p n b).1.stored = n.stored ++ [b.id] := by
  rcases processBlockSingle_core p n b with ⟨_, e, he⟩ | ⟨_, _, A⟩
  · rw [he] at h; cases h
  · rcases A.head with ⟨hh, _, _⟩ | ⟨_, _, hr⟩
    · exact ⟨hh, A.stored⟩
    · rw [hr] at h; cases h

/-- A rejected header changes nothing at all. -/
theorem header_reject_preserves (p : Params) (n : Node) (b : Blk)
    (hne : (deliverHeader p n b).2 ≠ "ok") :
    (deliverHeader p n b).1 = n := by
  rcases deliverHeader_cases p n b with ⟨_, _, hd⟩ | ⟨_, _, hd⟩ <;> rw [hd] at hne ⊢
  exact absurd rfl hne


/-- (a) **The whole node after a rejected block.** The node is the old node except possibly
(i) `headers` / `hhead`: changed only by `hdrUpdate` (append the block's id, move the header head
if it has more work), and only when the full block is not known and the header itself passes
`validateHeader`; (ii) `orphans`: the block's id is added exactly when the error is `Orphan`. -/
theorem reject_state (p : Params) (n : Node) (b : Blk) (e : Err)
    (h : (processBlockSingle p n b).2 = .err e) :
    ∃ n1, (n1 = n ∨ (¬ KnownFull n b ∧ validateHeader p n b = none ∧ n1 = hdrUpdate n b)) ∧
      ((processBlockSingle p n b).1 = n1 ∨
       ((processBlockSingle p n b).1 = addOrphan n1 b ∧ e = "Orphan")) := by
  have hn1 : ∀ {n1}, processHeader p n b = .ok n1 →
      n1 = n ∨ (¬ KnownFull n b ∧ validateHeader p n b = none ∧ n1 = hdrUpdate n b) :=
    fun hh => (processHeader_ok_cases p n _ b hh).imp And.left id
  have hs := processBlockSingle_step p n b
  generalize processBlockSingle p n b = x at hs h ⊢
  cases hs with
  | gate => exact ⟨n, .inl rfl, .inl rfl⟩
  | refuse n1 _ hh => exact ⟨n1, hn1 hh, .inl rfl⟩
  | park n1 hh => cases h; exact ⟨n1, hn1 hh, .inr ⟨rfl, rfl⟩⟩
  | store n1 => exact absurd h (storeBlock_ok n1 b e)

/-- … in particular everything except `headers`, `hhead`, `orphans` is untouched. -/
theorem reject_state_frame (p : Params) (n : Node) (b : Blk) (e : Err)
    (h : (processBlockSingle p n b).2 = .err e) :
    (processBlockSingle p n b).1 =
      { n with headers := (processBlockSingle p n b).1.headers,
               hhead := (processBlockSingle p n b).1.hhead,
               orphans := (processBlockSingle p n b).1.orphans } := by
  obtain ⟨n1, hn1, hr⟩ := reject_state p n b e h
  have e1 : n1 = { n with headers := n1.headers, hhead := n1.hhead } := by
    rcases hn1 with h | ⟨_, _, h⟩
    · rw [h]
    · rw [h]; rfl
  rcases hr with hr | ⟨hr, _⟩
  · rw [hr]; rw [e1]
  · rw [hr]; unfold addOrphan; rw [e1]

/-- (b) **Behavioural equivalence, one step.** Two nodes that agree on definitions, head and
stored blocks — and may differ in remembered headers, header head and orphan pool — give the
same result and the same best-chain observation (head, stored blocks, reported unspent set) after
processing any registered block whose parent header is known to both or to neither.
(`StoreInv`: known headers are valid ones; it holds along every run from a fresh node.) -/
theorem same_core_same_step (p : Params) (a c : Node) (b : Blk) (h : CoreEq a c)
    (hb : a.blk b.id = some b) (hia : StoreInv p a) (hic : StoreInv p c)
    (hp : ∀ par, b.parent = some par → (par ∈ a.headers ↔ par ∈ c.headers)) :
    (processBlockSingle p a b).2 = (processBlockSingle p c b).2 ∧
    obsBest p (processBlockSingle p a b).1 = obsBest p (processBlockSingle p c b).1 := by
  have := processBlockSingle_coreEq p a c b h hb hia hic hp
  exact ⟨this.2, this.1.obsBest p⟩

/-- (b) … hence a node that saw a rejected block `r` and a twin that never did process the next
block `b` alike, as long as `b`'s parent header is known to both or neither (the one exception:
a child of a remembered-but-rejected header is pooled as an orphan by the first node and refused
with a store error by the twin — it can never be stored by either, see `reject_bisim`). -/
theorem reject_then_step (p : Params) (n : Node) (r b : Blk) (e : Err)
    (hr : n.blk r.id = some r) (hb : n.blk b.id = some b) (hi : StoreInv p n)
    (h : (processBlockSingle p n r).2 = .err e)
    (hp : ∀ par, b.parent = some par →
      (par ∈ (processBlockSingle p n r).1.headers ↔ par ∈ n.headers)) :
    (processBlockSingle p (processBlockSingle p n r).1 b).2 = (processBlockSingle p n b).2 ∧
    obsBest p (processBlockSingle p (processBlockSingle p n r).1 b).1 =
      obsBest p (processBlockSingle p n b).1 := by
  have hc : CoreEq (processBlockSingle p n r).1 n := .of_err h
  exact same_core_same_step p _ n b hc (hc.symm.blk_some hb)
    ((parts_storeInv p).toPreserved.single n r hr hi) hi hp

/-- (b) **Bisimulation along runs.** After a rejected block (any validation failure, or an unknown
parent header; the one excluded case is a block parked in the orphan pool, which is not a
rejection but a postponement: its parent is neither stored nor header-unknown), the node and a twin
that never saw the block show the same best-chain observation — head, stored blocks, reported
unspent set — after every further history of deliveries (blocks and headers, any order, orphan
pool included). The node that remembered the rejected block's header may additionally pool that
block's descendants where the twin refuses them (`StoreErr`): those can never be stored
(`Sim`, `LiveOK` in `Lemmas/ChainSim.lean` make this precise), so nothing observable differs. -/
theorem reject_bisim (p : Params) (n : Node) (r : Blk) (e : Err) (hi : Inv p n)
    (hg : ∀ g, n.blk 0 = some g → g.parent = none) (hr : n.blk r.id = some r)
    (hrej : (processBlockSingle p n r).2 = .err e)
    (hpar : ∀ par, r.parent = some par → par ∈ n.stored ∨ par ∉ n.headers)
    (es : List Event) (hreg : Registered n es) :
    obsBest p (run p (processBlockSingle p n r).1 es) = obsBest p (run p n es) :=
  GV.Chain.reject_bisim p n r e hi hg hr hrej hpar es hreg

/-- (b) … and every further *block delivery result* is the same on both, for every block that is
valid on its own path (results for never-storable blocks may differ in the error class only:
`Orphan` against `StoreErr`). -/
theorem reject_bisim_results (p : Params) (n : Node) (r : Blk) (e : Err) (hi : Inv p n)
    (hg : ∀ g, n.blk 0 = some g → g.parent = none) (hr : n.blk r.id = some r)
    (hrej : (processBlockSingle p n r).2 = .err e)
    (hpar : ∀ par, r.parent = some par → par ∈ n.stored ∨ par ∉ n.headers)
    (es : List Event) (hreg : Registered n es) (b : Blk) (hb : n.blk b.id = some b)
    (hv : VOP p n b.id) :
    (deliverBlock p (run p (processBlockSingle p n r).1 es) b).2 =
      (deliverBlock p (run p n es) b).2 := by
  have hrun := reject_run_sim p n r e hi hg hr hrej hpar es hreg
  exact (deliverBlock_sim (liveVOP_ok p n hg) hrun b ((hrun.rana.blk _).trans hb)).2 (liveVOP_iff.mpr hv)

/-- The invariant `Inv` assumed above holds after every history from a fresh node. -/
theorem inv_after_run (p : Params) (n : Node) (es : List Event) (hf : Fresh n)
    (hreg : Registered n es) : Inv p (run p n es) := (hf.ran p hreg).inv

/-! ## every refusal class, at the level of whole deliveries

`Refused p n b` (`Lemmas/ChainRefuse.lean`): `deliverBlock` (= `Chain::process_block`) returns
an error and head, stored blocks and the reported unspent set are what they were. -/

/-- **Any error, any stage**: a delivery that returns an error leaves the whole best-chain
observation (head, stored blocks, reported unspent set) unchanged. -/
theorem every_refusal_preserves (p : Params) (n : Node) (b : Blk) (e : Err)
    (h : (deliverBlock p n b).2 = .err e) : obsBest p (deliverBlock p n b).1 = obsBest p n :=
  (refused_of_err p n b e h).obsBest

/-- **The refusal classes, exhaustively.** An error returned by a delivery comes from exactly one
of four stages, in the code's order: the header gate (`process_block_header`: unknown parent
header, height, version, timestamp, `hdr:` tag = PoW / difficulty / root fault), the cheap
pre-checks (`is_known` / `check_known`: `Unfit`, `OldBlock`; no parent: `StoreErr`), the orphan
check (`Orphan`), or the full validation against the parent's replayed state (`checkBlock`). -/
theorem refusal_stages (p : Params) (n : Node) (b : Blk) (e : Err)
    (h : (deliverBlock p n b).2 = .err e) :
    processHeader p n b = .error e ∨
    ∃ n1, processHeader p n b = .ok n1 ∧
      (precheck n1 b = .reject e ∨ (precheck n1 b = .orphan ∧ e = "Orphan") ∨
       ∃ par, precheck n1 b = .go par ∧ checkBlock p n1 b par = .error e) := by
  have h1 := deliverBlock_err_inv p n b e h
  have hs := processBlockSingle_step p n b
  generalize processBlockSingle p n b = x at hs h1
  cases hs with
  | gate e' hh => cases h1; exact .inl hh
  | refuse n1 e' hh hr =>
    cases h1
    have hc := CoreEq.of_header hh
    simp only [← precheck_congr hc b, ← hc.checkBlock] at hr
    exact .inr ⟨n1, hh, hr.imp_right .inr⟩
  | park n1 hh hp =>
    cases h1
    exact .inr ⟨n1, hh, .inr (.inl ⟨precheck_congr (CoreEq.of_header hh) b ▸ hp, rfl⟩)⟩
  | store n1 => exact absurd h1 (storeBlock_ok n1 b e)

/-- … and an error of the full validation is the parent's state being unavailable, a body fault
(`Block::validate`), or — with a valid body — a state fault (`validate_utxo`, maturity, block sums,
NRD, late root / size check), in that order. -/
theorem checkBlock_error_classes (p : Params) (n : Node) (b : Blk) (par : Nat) (e : Err)
    (h : checkBlock p n b par = .error e) :
    (∃ e', n.stateAt p par = .error e' ∧ e = s!"ParentState:{e'}") ∨
    (∃ sPar, n.stateAt p par = .ok sPar ∧
      (validateBody p n.outs b (sumVals n.outs b.ins) = some e ∨
       (validateBody p n.outs b (sumVals n.outs b.ins) = none ∧ stateChecks p sPar b = some e))) := by
  unfold checkBlock at h
  cases hst : n.stateAt p par with
  | error e' =>
    rw [hst] at h
    exact .inl ⟨e', rfl, (Except.error.inj h).symm⟩
  | ok sPar =>
    rw [hst] at h
    dsimp only at h
    refine .inr ⟨sPar, rfl, ?_⟩
    cases hv : validateBody p n.outs b (sumVals n.outs b.ins) with
    | some e' =>
      rw [hv] at h
      exact .inl (congrArg some (Except.error.inj h))
    | none =>
      rw [hv] at h
      dsimp only at h
      refine .inr ⟨rfl, ?_⟩
      unfold applyBlock at h
      cases hs : stateChecks p sPar b with
      | none => rw [hs] at h; cases h
      | some e' =>
        rw [hs] at h
        exact congrArg some (Except.error.inj h)

/-- **Each body-fault class** — signature / range-proof / sorting fault (`body:` tag), a commitment
twice among the inputs or the outputs, cut-through, a lock height above the block, an NRD kernel
before its era, a wrong coinbase claim, an unbalanced body, a blinding-level kernel-sum fault
(`ksum:` tag) — makes every node refuse the block with the best-chain observation unchanged. -/
theorem body_fault_refused (p : Params) (n : Node) (b : Blk)
    (h : hasTag b "body:" ≠ none ∨ dupInBody b = true ∨ cutThroughViolation b = true ∨
      lockViolation b = true ∨ nrdEraViolation b = true ∨ coinbaseMismatch p n.outs b = true ∨
      valueMismatch p n.outs b (sumVals n.outs b.ins) = true ∨ hasTag b "ksum:" ≠ none) :
    Refused p n b := by
  apply refused_of_body_fault
  intro hv
  obtain ⟨h1, h2, h3, h4, h5, h6, h7, h8⟩ := (validateBody_none_iff p n.outs b _).mp hv
  simp only [h1, h2, h3, h4, h5, h6, h7, h8, ne_eq, not_true_eq_false, Bool.false_eq_true, or_self] at h

/-- **Each state-fault class** — against the replayed state `sPar` of the block's own parent: an
input that is not unspent, an immature coinbase spend, a duplicate of an unspent commitment, a
block-sums fault (`sums:` tag), an NRD kernel too close to the previous occurrence, a root / size
mismatch detected after the block was applied to the working state (`late:` tag) — makes every
node refuse the block with the best-chain observation unchanged. -/
theorem state_fault_refused (p : Params) (n : Node) (b : Blk) (par : Nat) (sPar : UState)
    (hpar : b.parent = some par) (hst : n.stateAt p par = .ok sPar)
    (h : b.ins.all sPar.has = false ∨ immature p sPar b = true ∨ dupOutput sPar b = true ∨
      hasTag b "sums:" ≠ none ∨ nrdBad sPar b = true ∨ hasTag b "late:" ≠ none) :
    Refused p n b := by
  refine refused_of_state_fault_at p n b par sPar hpar hst fun hn => ?_
  obtain ⟨h1, h2, h3, h4, h5, h6⟩ := (stateChecks_none_iff p sPar b).mp hn
  simp only [h1, h2, h3, h4, h5, h6, ne_eq, not_true_eq_false, Bool.false_eq_true, Bool.true_eq_false,
    or_self] at h

/-- **An input that claims the wrong features** (inputs in the features-and-commit form of protocol
version 2 / JSON: plain for a coinbase output or coinbase for a plain one; the claims are compared
with the outputs the block names — a static fact — and the mismatch is evaluated where
`validate_utxo` compares the full output identifier): the block is refused by every node in every
state, head, stored blocks and reported unspent set unchanged, whatever else the block contains. -/
theorem input_features_mismatch_refused (p : Params) (n : Node) (outs : List OutDef) (b : Blk)
    (inf : List (Nat × Bool)) (h : featMismatch outs inf = true) :
    Refused p n (b.withInputFeatures outs inf) :=
  C02Inputs.wrong_input_features_block_refused p n outs b inf h

/-- **Each header-fault class** — unknown parent header, wrong height, version, timestamp not after
the parent's, `hdr:` tag (PoW, difficulty, `prev_root`) — on any node reached by a history (store
invariant), for a block that is not already known: refused, and the node is left unchanged
*entirely* (nothing is remembered of an invalid header). -/
theorem header_fault_refused (p : Params) (n : Node) (b : Blk) (hb : n.blk b.id = some b)
    (hi : StoreInv p n) (hk : ¬ KnownFull n b) (h : validateHeader p n b ≠ none) :
    Refused p n b ∧ (deliverBlock p n b).1 = n :=
  refused_of_header_fault p n b hb hi hk h

/-- **A block whose parent is unavailable**: no parent at all, or a parent without a replayable
path — refused. -/
theorem parent_state_fault_refused (p : Params) (n : Node) (b : Blk)
    (h : ∀ par, b.parent = some par → ∃ e, n.stateAt p par = .error e) : Refused p n b := by
  apply refused_of_check_fails
  intro par s' hpar hc
  obtain ⟨sPar, hst, _, _⟩ := checkBlock_ok p n b par s' hc
  obtain ⟨e, he⟩ := h par hpar
  rw [he] at hst; cases hst

/-! ## headers and orphans never change the body state -/

/-- **Header-only deliveries never change the body state**: after any sequence of header
deliveries — accepted or refused, on any fork, moving `header_head` anywhere — head, stored blocks
and the reported unspent set are what they were. -/
theorem header_deliveries_preserve (p : Params) (bs : List Blk) : ∀ (n : Node),
    obsBest p (run p n (bs.map Event.header)) = obsBest p n := by
  induction bs with
  | nil => intro n; rfl
  | cons b bs ih =>
    intro n
    rw [List.map_cons, run_cons, ih]
    exact (CoreEq.of_deliverHeader p n b).obsBest p

/-- **A block parked as an orphan changes nothing but the pool** (and possibly the remembered
header): same head, stored blocks, reported unspent set; the pool is the old pool plus the block. -/
theorem orphan_parked_preserves (p : Params) (n : Node) (b : Blk)
    (h : (deliverBlock p n b).2 = .err "Orphan") :
    obsBest p (deliverBlock p n b).1 = obsBest p n ∧
    ∀ o, o ∈ (deliverBlock p n b).1.orphans → o ∈ n.orphans ∨ o = b.id := by
  refine ⟨every_refusal_preserves p n b _ h, ?_⟩
  have h1 := deliverBlock_err_inv p n b _ h
  rw [deliverBlock_of_err p n b _ h1]
  intro o ho
  exact pbs_orphans_sub p n b o ho

/-- every block delivery of the history is refused (parked orphans and refusals at any stage
alike); header deliveries are unconstrained -/
def AllRefused (p : Params) : Node → List Event → Prop
  | _, [] => True
  | n, .block b :: es => (∃ e, (deliverBlock p n b).2 = .err e) ∧ AllRefused p (step p n (.block b)) es
  | n, .header b :: es => AllRefused p (step p n (.header b)) es

/-- **Orphans never change the body state until one is connected**: along any history in which no
block delivery is accepted — blocks refused at any stage, blocks parked in the orphan pool, headers
accepted or refused, in any order and number — the best-chain observation never changes. (The pool
is examined only by `check_orphans`, which runs only after a block was accepted.) -/
theorem all_refused_preserves (p : Params) (es : List Event) : ∀ (n : Node), AllRefused p n es →
    obsBest p (run p n es) = obsBest p n := by
  induction es with
  | nil => intro n _; rfl
  | cons ev es ih =>
    intro n h
    rw [run_cons]
    cases ev with
    | block b =>
      obtain ⟨⟨e, he⟩, hrest⟩ := h
      rw [ih _ hrest]
      exact every_refusal_preserves p n b e he
    | header b =>
      rw [ih _ h]
      exact header_deliveries_preserve p [b] n

/-! ## non-vacuity: the hypotheses hold on the concrete tree of `Lemmas/ChainExamples.lean`
(0 ── 1 ── 3 ── 4, sibling 2 of 1, invalid child 9 of 1; 3 spends the genesis output 100 and
4 re-creates that commitment) -/
section Examples
open GV.Chain.Ex

-- `reject_state`: block 9 (spends a never-created output) is rejected after its header was
-- remembered; the node differs from the old one exactly in `headers` / `hhead`
example : (processBlockSingle P (run P N [.block B1]) B9).2 = .err "AlreadySpent" := by decide +kernel
example : (processBlockSingle P (run P N [.block B1]) B9).1 =
    hdrUpdate (run P N [.block B1]) B9 := by
  obtain ⟨n1, h1, h2⟩ := reject_state P (run P N [.block B1]) B9 "AlreadySpent" (by decide)
  rcases h2 with h2 | ⟨_, h2⟩
  · rcases h1 with h1 | ⟨_, _, h1⟩
    · exfalso
      have : 9 ∈ (processBlockSingle P (run P N [.block B1]) B9).1.headers := by decide +kernel
      rw [h2, h1] at this
      revert this; decide
    · rw [h2, h1]
  · exact absurd h2 (by decide)

-- `same_core_same_step`: a node that remembered the header of the rejected 9 and its twin that
-- never saw it process block 3 alike
example :
    obsBest P (processBlockSingle P (run P N [.block B1, .block B9]) B3).1 =
    obsBest P (processBlockSingle P (run P N [.block B1]) B3).1 :=
  (same_core_same_step P (run P N [.block B1, .block B9]) (run P N [.block B1]) B3
    ⟨rfl, rfl, by decide, by decide⟩ rfl
    (run_preserved (preserved_inv P) N _ (.cons rfl (.cons rfl (.nil _))) (ex_fresh.inv P)).2
    (run_preserved (preserved_inv P) N _ (.cons rfl (.nil _)) (ex_fresh.inv P)).2
    (by
      intro par hpar
      have : par = 1 := by
        have h : B3.parent = some 1 := rfl
        rw [h] at hpar; exact (Option.some.inj hpar).symm
      subst this
      decide)).2

-- `reject_bisim`: hypotheses hold for the rejected block 9 after block 1; the histories continue
-- with 9's sibling 3, a header and block 4
example : obsBest P (run P (processBlockSingle P (run P N [.block B1]) B9).1 [.block B3, .header B4, .block B4]) =
    obsBest P (run P (run P N [.block B1]) [.block B3, .header B4, .block B4]) :=
  reject_bisim P (run P N [.block B1]) B9 "AlreadySpent"
    (inv_after_run P N _ ex_fresh (.cons rfl (.nil _)))
    (genesis_root_of (G := G) rfl rfl)
    rfl (by decide)
    (by
      intro par hpar
      have h : B9.parent = some 1 := rfl
      rw [h] at hpar
      rw [← Option.some.inj hpar]
      left; decide)
    _ (.cons rfl (.cons rfl (.cons rfl (.nil _))))

end Examples

/-! ### refusal classes on the tree of `Lemmas/ChainExampleFacts.lean` -/
section ClassExamples
open GV.Chain.Ex2

-- `state_fault_refused`: the `sums:` tag (b5) and the duplicate commitment (b4) on the head b1
example : Refused Ex2.P NB Ex2.B5 :=
  state_fault_refused Ex2.P NB Ex2.B5 11 _ rfl
    (rfl : NB.stateAt Ex2.P 11 = .ok { utxo := [(100, 0, false), (121, 1, true)], nrd := [], height := 1 })
    (Or.inr (Or.inr (Or.inr (Or.inl Ex2.B5_sums))))

-- `body_fault_refused`: a3 names an input twice
example : Refused Ex2.P NA Ex2.A3 := body_fault_refused Ex2.P NA Ex2.A3 (Or.inr (Or.inl (by decide)))

-- `every_refusal_preserves` / `refusal_stages`: a2 (double spend) is refused by `checkBlock`
example : obsBest Ex2.P (deliverBlock Ex2.P NA Ex2.A2).1 = obsBest Ex2.P NA :=
  every_refusal_preserves Ex2.P NA Ex2.A2 "AlreadySpent" (by decide)

-- `header_deliveries_preserve`: headers of the whole b-fork change nothing of the body state
example : obsBest Ex2.P (run Ex2.P NA ([Ex2.B1, Ex2.B2, Ex2.B3].map Event.header)) = obsBest Ex2.P NA :=
  header_deliveries_preserve Ex2.P _ NA
example : (run Ex2.P NA ([Ex2.B1, Ex2.B2, Ex2.B3].map Event.header)).hhead = 13 := by decide +kernel

-- `orphan_parked_preserves` / `all_refused_preserves`: the header of b1, then b2 before b1 (parked as
-- an orphan), then a refused block and another header
example : (deliverBlock Ex2.P (run Ex2.P NA [.header Ex2.B1]) Ex2.B2).2 = .err "Orphan" := by decide +kernel
example : obsBest Ex2.P
      (run Ex2.P NA [.header Ex2.B1, .block Ex2.B2, .block Ex2.A2, .header Ex2.B3]) =
    obsBest Ex2.P NA :=
  all_refused_preserves Ex2.P _ NA (by
    simp only [AllRefused]
    exact ⟨⟨"Orphan", by decide⟩, ⟨"AlreadySpent", by decide⟩, trivial⟩)

-- `input_features_mismatch_refused`: b2 (spends the plain output 100) with its input claiming coinbase
example : featMismatch Ex2.outs [(100, true)] = true := by decide +kernel
example : Refused Ex2.P NB (Ex2.B2.withInputFeatures Ex2.outs [(100, true)]) :=
  input_features_mismatch_refused Ex2.P NB Ex2.outs Ex2.B2 [(100, true)] (by decide)
-- … while the same block with the right claim is b2 itself, which is accepted on b1
example : Ex2.B2.withInputFeatures Ex2.outs [(100, false)] = Ex2.B2 := rfl
example : (deliverBlock Ex2.P NB Ex2.B2).2 = .okHead := by decide +kernel
end ClassExamples
end GV.Props.C06
