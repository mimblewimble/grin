import GrinVerif.Gen.PipeShapeTxhs
import GrinVerif.Lemmas.XlateShape
/-! # Obligations about the validation pipelines (Txhs), stated over the REGENERATED shape tables

`Gen/PipeShapeTxhs.lean` is rewritten on every check run from the current Rust source by tools/gen_pipeshape.py.
What the obligations about a function say is described in `Lemmas/XlateShape.lean`.  Every observable filters the
steps of the table on their kind, so an obligation holds by `rfl` exactly when the current source still has the
reviewed value; a `_propagated` with discarded calls also looks them up in `watch` (`XlateShape.unwatched`: a
discarded call with a new name needs a conjunct there before this file is regenerated).  They do not mention
arguments or local names (the exact pins in `Props/XlateShapeTxhsPins.lean` do).  After a REVIEWED change
regenerate with `python3 tools/gen_pipeshape.py --obligations Txhs`; the ties to the hand models are in
`Props/XlateShapeTxhsFacts.lean`. -/
namespace GV.Props.XlateShapeTxhs
open GV.Gen.PipeShape GV.Props.XlateShape

/-! ### `extending (chain/src/txhashset/txhashset.rs)` -/
theorem txhs_extending_order : readOk txhs_extending = true ∧ spine txhs_extending =
    ["head", "header_head", "child", "e", "commit", "sync", "sync", "sync"] := ⟨rfl, rfl⟩
theorem txhs_extending_propagated : discarded watch txhs_extending = [] ∧ calls txhs_extending = ["discard", "discard", "discard", "discard", "discard", "discard", "discard"] :=
  propagated rfl (by simp only [filter_watch_cons, unwatched, List.filter_nil])
theorem txhs_extending_early_ok : earlyOks txhs_extending = [] := by rfl
theorem txhs_extending_errors : fails txhs_extending = [("e", "$5 ~ Err(_)")]
    ∧ mapped txhs_extending = [] := ⟨rfl, rfl⟩
theorem txhs_extending_depth : depths txhs_extending = [0, 0, 0, 1, 2, 2, 2, 2] := by rfl
theorem txhs_extending_guard_inputs : guardInputs txhs_extending = ["head", "header_head", "child", "at", "new", "new", "<structlit>", "inner", "rollback", "sizes", "bitmap_accumulator", "0", "1", "2", "bitmap_accumulator"] := by rfl

/-! ### `extending_readonly (chain/src/txhashset/txhashset.rs)` -/
theorem txhs_extending_readonly_order : readOk txhs_extending_readonly = true ∧ spine txhs_extending_readonly =
    ["batch", "head", "header_head", "res"] := ⟨rfl, rfl⟩
theorem txhs_extending_readonly_propagated : discarded watch txhs_extending_readonly = [] ∧ calls txhs_extending_readonly = ["discard", "discard", "discard", "discard"] :=
  propagated rfl (by simp only [filter_watch_cons, unwatched, List.filter_nil])
theorem txhs_extending_readonly_early_ok : earlyOks txhs_extending_readonly = [] := by rfl
theorem txhs_extending_readonly_errors : fails txhs_extending_readonly = []
    ∧ mapped txhs_extending_readonly = [] := ⟨rfl, rfl⟩
theorem txhs_extending_readonly_depth : depths txhs_extending_readonly = [0, 0, 0, 0] := by rfl
theorem txhs_extending_readonly_guard_inputs : guardInputs txhs_extending_readonly = [] := by rfl

/-! ### `header_extending (chain/src/txhashset/txhashset.rs)` -/
theorem txhs_header_extending_order : readOk txhs_header_extending = true ∧ spine txhs_header_extending =
    ["child", "get_block_header", "e", "commit", "sync"] := ⟨rfl, rfl⟩
theorem txhs_header_extending_propagated : discarded watch txhs_header_extending = [] ∧ calls txhs_header_extending = ["discard", "discard"] :=
  propagated rfl (by simp only [filter_watch_cons, unwatched, List.filter_nil])
theorem txhs_header_extending_early_ok : earlyOks txhs_header_extending = [] := by rfl
theorem txhs_header_extending_errors : fails txhs_header_extending = [("e", "$4 ~ Err(_)")]
    ∧ mapped txhs_header_extending = [] := ⟨rfl, rfl⟩
theorem txhs_header_extending_depth : depths txhs_header_extending = [0, 1, 1, 2, 2] := by rfl
theorem txhs_header_extending_guard_inputs : guardInputs txhs_header_extending = ["child", "<match>", "at", "new", "inner", "rollback", "size", "size"] := by rfl

/-! ### `header_extending_readonly (chain/src/txhashset/txhashset.rs)` -/
theorem txhs_header_extending_readonly_order : readOk txhs_header_extending_readonly = true ∧ spine txhs_header_extending_readonly =
    ["batch", "get_block_header", "res"] := ⟨rfl, rfl⟩
theorem txhs_header_extending_readonly_propagated : discarded watch txhs_header_extending_readonly = [] ∧ calls txhs_header_extending_readonly = ["discard"] :=
  propagated rfl (by simp only [filter_watch_cons, unwatched, List.filter_nil])
theorem txhs_header_extending_readonly_early_ok : earlyOks txhs_header_extending_readonly = [] := by rfl
theorem txhs_header_extending_readonly_errors : fails txhs_header_extending_readonly = []
    ∧ mapped txhs_header_extending_readonly = [] := ⟨rfl, rfl⟩
theorem txhs_header_extending_readonly_depth : depths txhs_header_extending_readonly = [0, 1, 0] := by rfl
theorem txhs_header_extending_readonly_guard_inputs : guardInputs txhs_header_extending_readonly = [] := by rfl

/-! ### `utxo_view (chain/src/txhashset/txhashset.rs)` -/
theorem txhs_utxo_view_order : readOk txhs_utxo_view = true ∧ spine txhs_utxo_view =
    ["batch", "res"] := ⟨rfl, rfl⟩
theorem txhs_utxo_view_propagated : discarded watch txhs_utxo_view = [] ∧ calls txhs_utxo_view = [] := propagated rfl rfl
theorem txhs_utxo_view_early_ok : earlyOks txhs_utxo_view = [] := by rfl
theorem txhs_utxo_view_errors : fails txhs_utxo_view = []
    ∧ mapped txhs_utxo_view = [] := ⟨rfl, rfl⟩
theorem txhs_utxo_view_depth : depths txhs_utxo_view = [0, 0] := by rfl
theorem txhs_utxo_view_guard_inputs : guardInputs txhs_utxo_view = [] := by rfl

/-! ### `rewindable_kernel_view (chain/src/txhashset/txhashset.rs)` -/
theorem txhs_rewindable_kernel_view_order : readOk txhs_rewindable_kernel_view = true ∧ spine txhs_rewindable_kernel_view =
    ["batch", "head_header", "res"] := ⟨rfl, rfl⟩
theorem txhs_rewindable_kernel_view_propagated : discarded watch txhs_rewindable_kernel_view = [] ∧ calls txhs_rewindable_kernel_view = [] := propagated rfl rfl
theorem txhs_rewindable_kernel_view_early_ok : earlyOks txhs_rewindable_kernel_view = [] := by rfl
theorem txhs_rewindable_kernel_view_errors : fails txhs_rewindable_kernel_view = []
    ∧ mapped txhs_rewindable_kernel_view = [] := ⟨rfl, rfl⟩
theorem txhs_rewindable_kernel_view_depth : depths txhs_rewindable_kernel_view = [0, 0, 0] := by rfl
theorem txhs_rewindable_kernel_view_guard_inputs : guardInputs txhs_rewindable_kernel_view = [] := by rfl

/-! ### `zip_read (chain/src/txhashset/txhashset.rs)` -/
theorem txhs_zip_read_order : readOk txhs_zip_read = true ∧ spine txhs_zip_read =
    ["remove_dir_all", "copy_dir_to", "create", "create_zip", "open"] := ⟨rfl, rfl⟩
theorem txhs_zip_read_propagated : discarded watch txhs_zip_read = [] ∧ calls txhs_zip_read = [] := propagated rfl rfl
theorem txhs_zip_read_early_ok : earlyOks txhs_zip_read = [["$5 ~ Ok(_)"]]
    ∧ spineBeforeFirstEarlyOk txhs_zip_read = [] := ⟨rfl, rfl⟩
theorem txhs_zip_read_errors : fails txhs_zip_read = []
    ∧ mapped txhs_zip_read = [] := ⟨rfl, rfl⟩
theorem txhs_zip_read_depth : depths txhs_zip_read = [1, 0, 0, 0, 0] := by rfl
theorem txhs_zip_read_guard_inputs : guardInputs txhs_zip_read = ["format!", "join", "open", "join"] := by rfl

/-! ### `zip_write (chain/src/txhashset/txhashset.rs)` -/
theorem txhs_zip_write_order : readOk txhs_zip_write = true ∧ spine txhs_zip_write =
    ["create_dir_all", "extract_files"] := ⟨rfl, rfl⟩
theorem txhs_zip_write_propagated : discarded watch txhs_zip_write = [] ∧ calls txhs_zip_write = [] := propagated rfl rfl
theorem txhs_zip_write_early_ok : earlyOks txhs_zip_write = [] := by rfl
theorem txhs_zip_write_errors : fails txhs_zip_write = []
    ∧ mapped txhs_zip_write = [] := ⟨rfl, rfl⟩
theorem txhs_zip_write_depth : depths txhs_zip_write = [0, 0] := by rfl
theorem txhs_zip_write_guard_inputs : guardInputs txhs_zip_write = [] := by rfl

/-! ### `txhashset_replace (chain/src/txhashset/txhashset.rs)` -/
theorem txhs_txhashset_replace_order : readOk txhs_txhashset_replace = true ∧ spine txhs_txhashset_replace =
    ["TxHashSetErr"] := ⟨rfl, rfl⟩
theorem txhs_txhashset_replace_propagated : discarded watch txhs_txhashset_replace = [] ∧ calls txhs_txhashset_replace = ["clean_txhashset_folder", "crash_point", "crash_point"] :=
  propagated rfl (by simp only [filter_watch_cons, unwatched, List.filter_nil])
theorem txhs_txhashset_replace_early_ok : earlyOks txhs_txhashset_replace = [] := by rfl
theorem txhs_txhashset_replace_errors : fails txhs_txhashset_replace = [("TxHashSetErr", "fs::rename($0.join(TXHASHSET_SUBDIR), $1.join(TXHASHSET_SUBDIR)) ~ Err(_)")]
    ∧ mapped txhs_txhashset_replace = [] := ⟨rfl, rfl⟩
theorem txhs_txhashset_replace_depth : depths txhs_txhashset_replace = [1] := by rfl
theorem txhs_txhashset_replace_guard_inputs : guardInputs txhs_txhashset_replace = [] := by rfl

end GV.Props.XlateShapeTxhs
