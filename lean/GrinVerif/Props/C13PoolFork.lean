import GrinVerif.Lemmas.ChainPoolPos
import GrinVerif.Lemmas.ChainPoolExamples
/-! C13 / C14 — coinbase maturity at pool admission reads its cutoff on the BODY chain, whatever
fork the header chain is on.

`Node.poolMaturityFixed` (`Model/ChainPool.lean`) models `Chain::verify_coinbase_maturity`
(chain/src/chain.rs).  Position-based: the largest output-MMR position of a spent coinbase against
`output_mmr_size` of the header at height `next - maturity` in the header MMR - the header MMR of
`header_head` while the body head is on it, else the header MMR rewound to the body head.
`Node.poolMaturityImpl` is the check without the second branch (finding
`C13-pool-maturity-cutoff-read-from-header-fork`; `Props/C13.lean` has the nodes on which it
deviates).

The statements take two nodes: `n`, the fresh node whose block table `HeadPath` (`Lemmas/ChainPath.lean`) is
stated about, and `N` with the same blocks (`hb : N.blks = n.blks`), the node after a history, whose heads are read. -/
namespace GV.Props.C13PoolFork
open GV.Chain

theorem bodyPath_check_eq (p : Params) (n : Node) (id : Nat) (g : Blk) (rest : List Blk) (s : UState)
    (H : HeadPath p n g id rest s) (hg0 : g.h = 0) (hm : 0 < p.maturity) (hpath : List Blk) (t : TxA)
    (hpre : (g :: rest) <+: hpath) :
    txMaturityImpl p (replayP (genesisP g) rest) hpath (g :: rest).length t.ins = txMaturity p s t :=
  H.txMaturityImpl_eq hg0 t (cut_of_prefix_left p (g :: rest) hpath hm hpre)

/-- **Both branches.**  `htree`: if the header chain holds the body head at the head's height, it
holds the head's ancestors below it. -/
theorem pool_maturity_fixed_agrees_of_tree (p : Params) (N n : Node) (hb : N.blks = n.blks) (g : Blk)
    (rest : List Blk) (s : UState) (H : HeadPath p n g N.head rest s) (hg0 : g.h = 0)
    (hm : 0 < p.maturity) (hpath : List Blk) (hH : N.path N.hhead = some hpath) (t : TxA)
    (htree : ∀ b, hpath[rest.length]? = some b → b.id = N.head → (g :: rest) <+: hpath) :
    N.poolMaturityFixed p t = txMaturity p s t := by
  obtain ⟨hP, hidx⟩ := H.read_on hg0 hb
  unfold Node.poolMaturityFixed
  rw [hP, hH]
  simp only
  rw [hidx]
  have hbody := bodyPath_check_eq p n N.head g rest s H hg0 hm (g :: rest) t (List.prefix_refl _)
  split
  · next b hx =>
    split
    · next hid =>
      exact bodyPath_check_eq p n N.head g rest s H hg0 hm hpath t (htree b hx (by simpa using hid))
    · exact hbody
  · exact hbody

theorem isPath_of_path {n : Node} {id : Nat} {l : List Blk} (h : n.path id = some l) : IsPath n id l := by
  obtain ⟨l', hl, hp⟩ := isPath_of_pathTo _ id [] l h
  simp only [List.append_nil] at hl
  rw [hl]; exact hp

theorem isPath_unique {n : Node} {id : Nat} {l₁ l₂ : List Blk} (h₁ : IsPath n id l₁)
    (h₂ : IsPath n id l₂) : l₁ = l₂ := by
  -- with enough fuel `pathTo` returns either of them
  have e₁ := pathTo_of_isPath h₁ (l₁.length + l₂.length) [] (Nat.le_add_right ..)
  have e₂ := pathTo_of_isPath h₂ (l₁.length + l₂.length) [] (Nat.le_add_left ..)
  rw [e₁, List.append_nil, List.append_nil] at e₂
  exact Option.some.inj e₂

theorem isPath_prefix {n : Node} {id : Nat} {l : List Blk} (h : IsPath n id l) :
    ∀ k b, l[k]? = some b → IsPath n b.id (l.take (k + 1)) := by
  induction h with
  | root id b hb hp =>
    intro k x hk
    cases k with
    | zero =>
      cases hk
      rw [blk_id hb]
      exact IsPath.root id b hb hp
    | succ j => cases hk
  | child id b par l hb hp hl ih =>
    intro k x hk
    rcases Nat.lt_or_ge k l.length with hlt | hge
    · rw [List.getElem?_append_left hlt] at hk
      rw [List.take_append_of_le_length hlt]
      exact ih k x hk
    · rw [List.getElem?_append_right hge] at hk
      rw [List.take_of_length_le (by rw [List.length_append]; exact Nat.add_le_add_right hge 1)]
      cases hj : k - l.length with
      | zero =>
        rw [hj] at hk
        cases hk
        rw [blk_id hb]
        exact IsPath.child id b par l hb hp hl
      | succ j => rw [hj] at hk; cases hk

/-- a header chain which holds the body head at the head's height holds the head's ancestors below it -/
theorem header_chain_prefix {n : Node} {head : Nat} {P hpath : List Blk} {hhead : Nat}
    (hP : IsPath n head P) (hH : n.path hhead = some hpath) (b : Blk)
    (hx : hpath[P.length - 1]? = some b) (hid : b.id = head) (hne : P ≠ []) : P <+: hpath := by
  have h1 := isPath_prefix (isPath_of_path hH) (P.length - 1) b hx
  rw [hid, Nat.sub_add_cancel (List.length_pos_iff.mpr hne)] at h1
  exact isPath_unique h1 hP ▸ List.take_prefix _ _

theorem header_chain_through_head {n : Node} {head : Nat} {P hpath : List Blk} {hhead : Nat}
    (hP : IsPath n head P) (hH : n.path hhead = some hpath) (b : Blk)
    (hx : hpath[P.length - 1]? = some b) (hid : b.id = head) (hne : P ≠ []) :
    hpath.take P.length = P.take P.length := by
  rw [List.take_length]
  exact (List.prefix_iff_eq_take.mp (header_chain_prefix hP hH b hx hid hne)).symm

/-- **Coinbase maturity at admission is the rule on the body chain — every node, every header
chain.**  For a node whose body head has the valid path `g :: rest` (genesis at height 0,
maturity > 0) and whose header head has any path at all: the position-based check
answers exactly the height-based specification on the body head's state, for every transaction. -/
theorem pool_maturity_fixed_agrees (p : Params) (N n : Node) (hb : N.blks = n.blks) (g : Blk)
    (rest : List Blk) (s : UState) (H : HeadPath p n g N.head rest s) (hg0 : g.h = 0)
    (hm : 0 < p.maturity) (hpath : List Blk) (hH : N.path N.hhead = some hpath) (t : TxA) :
    N.poolMaturityFixed p t = txMaturity p s t := by
  refine pool_maturity_fixed_agrees_of_tree p N n hb g rest s H hg0 hm hpath hH t ?_
  intro b hx hid
  have hH' : n.path N.hhead = some hpath := by rw [← path_congr hb]; exact hH
  exact header_chain_prefix (P := g :: rest) H.isPath hH' b (by simpa using hx) hid (by simp)

/-- …after any history of blocks and headers in any order (`run`), from a fresh node -/
theorem pool_maturity_fixed_after_any_history (p : Params) (n : Node) (es : List Event) (hf : Fresh n)
    (hreg : Registered n es) (g : Blk) (hg : n.blk 0 = some g) (hg0 : g.h = 0) (hm : 0 < p.maturity)
    (hpath : List Blk) (hH : (run p n es).path (run p n es).hhead = some hpath) :
    ∃ s, (run p n es).stateAt p (run p n es).head = .ok s ∧
      ∀ t, (run p n es).poolMaturityFixed p t = txMaturity p s t := by
  obtain ⟨rest, s, H, hst, _⟩ := head_path_after_run p n es hf hreg g hg
  have hdf := run_defs p n es
  exact ⟨s, hst, fun t => pool_maturity_fixed_agrees p (run p n es) n hdf.1 g rest s H hg0 hm hpath hH t⟩

/-- **The header chain on a competing fork** (the body head is not on the header chain: at the
head's height the header MMR holds another block, or nothing): the pool-facing maturity check is
the specification on the body head's state — for every header fork, with no side condition on its
fork point, length, work or contents. -/
theorem pool_maturity_fixed_on_competing_fork (p : Params) (N n : Node) (hb : N.blks = n.blks) (g : Blk)
    (rest : List Blk) (s : UState) (H : HeadPath p n g N.head rest s) (hg0 : g.h = 0)
    (hm : 0 < p.maturity) (hpath : List Blk) (hH : N.path N.hhead = some hpath) (t : TxA)
    (hfork : ∀ b, hpath[rest.length]? = some b → b.id ≠ N.head) :
    N.poolMaturityFixed p t = txMaturity p s t :=
  pool_maturity_fixed_agrees_of_tree p N n hb g rest s H hg0 hm hpath hH t
    (fun b hx hid => absurd hid (hfork b hx))

/-- the answer is a function of the blocks and the BODY head only: two nodes that differ in their
header heads (and nothing else the check reads) answer alike -/
theorem pool_maturity_fixed_body_only (p : Params) (N₁ N₂ n : Node) (hb₁ : N₁.blks = n.blks)
    (hb₂ : N₂.blks = n.blks) (hhd : N₁.head = N₂.head) (g : Blk) (rest : List Blk) (s : UState)
    (H : HeadPath p n g N₁.head rest s) (hg0 : g.h = 0) (hm : 0 < p.maturity)
    (hp₁ hp₂ : List Blk) (hH₁ : N₁.path N₁.hhead = some hp₁) (hH₂ : N₂.path N₂.hhead = some hp₂)
    (t : TxA) :
    N₁.poolMaturityFixed p t = N₂.poolMaturityFixed p t := by
  rw [pool_maturity_fixed_agrees p N₁ n hb₁ g rest s H hg0 hm hp₁ hH₁ t]
  have H₂ : HeadPath p n g N₂.head rest s := hhd ▸ H
  rw [pool_maturity_fixed_agrees p N₂ n hb₂ g rest s H₂ hg0 hm hp₂ hH₂ t]

/-- trunk y1..y5, header of x2 (short heavy fork off y1): the check admits the spend of y1's
mature coinbase (`poolMaturityImpl` answers `Other`: `PoolEx.NX_impl`) -/
theorem short_heavy_header_fork_witness :
    PoolEx.NX.poolMaturityFixed PoolEx.P PoolEx.spendY1 = none ∧
    PoolEx.NX.poolMaturityImpl PoolEx.P PoolEx.spendY1 = some "Other" ∧
    txMaturity PoolEx.P PoolEx.sTrunk PoolEx.spendY1 = none :=
  ⟨by decide +kernel, PoolEx.NX_impl, PoolEx.NX_spec⟩

/-- trunk y1..y5, headers of z2, z3 (fork off y1 with three outputs per block): the check refuses
the spend of y4's immature coinbase (`poolMaturityImpl` admits it: `PoolEx.NZ_impl`) -/
theorem header_fork_with_more_outputs_witness :
    PoolEx.NZ.poolMaturityFixed PoolEx.P PoolEx.spendY4 = some "ImmatureCoinbase" ∧
    PoolEx.NZ.poolMaturityImpl PoolEx.P PoolEx.spendY4 = none ∧
    txMaturity PoolEx.P PoolEx.sTrunk PoolEx.spendY4 = some "ImmatureCoinbase" :=
  ⟨by decide +kernel, PoolEx.NZ_impl, PoolEx.NZ_spec⟩

theorem reg_NZ : Registered PoolEx.N (PoolEx.trunk ++ [.header PoolEx.Z2, .header PoolEx.Z3]) :=
  .cons rfl (.cons rfl (.cons rfl (.cons rfl (.cons rfl (.cons rfl (.cons rfl (.nil _)))))))

-- non-vacuity of `pool_maturity_fixed_on_competing_fork`: the node NZ (body head y5, header head
-- z3 on a fork off y1) satisfies its hypotheses, so the check is the specification for EVERY
-- transaction there
example : ∀ t, PoolEx.NZ.poolMaturityFixed PoolEx.P t = txMaturity PoolEx.P PoolEx.sTrunk t := by
  -- head, header head and head state of NZ are known, so both paths are read off the block tree
  have ⟨hhead, hhhead⟩ := PoolEx.NZ_head
  have hstate := PoolEx.NZ_state
  unfold PoolEx.NZ at hhead hhhead hstate ⊢
  obtain ⟨rest, s, H, hst, _⟩ := head_path_after_run PoolEx.P PoolEx.N
    (PoolEx.trunk ++ [.header PoolEx.Z2, .header PoolEx.Z3]) PoolEx.fresh_N reg_NZ PoolEx.G rfl
  have hdf := (run_defs PoolEx.P PoolEx.N (PoolEx.trunk ++ [.header PoolEx.Z2, .header PoolEx.Z3])).1
  rw [hstate] at hst
  cases hst
  have hrest := H.path
  rw [hhead] at hrest
  cases hrest
  refine fun t => pool_maturity_fixed_on_competing_fork PoolEx.P _ PoolEx.N hdf PoolEx.G _ _ H rfl
    (by decide) [PoolEx.G, PoolEx.Y1, PoolEx.Z2, PoolEx.Z3] ?_ t (fun b hb => by cases hb)
  rw [path_congr hdf, hhhead]
  rfl

end GV.Props.C13PoolFork
