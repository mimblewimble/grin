import GrinVerif.Lemmas.ChainKnown
import GrinVerif.Props.C03Status
import GrinVerif.Props.C02Reset
/-! C03 / C06 / C02 for block processing AS CODED (`Model/ChainKnown.lean`: work-conditional
`check_known`, header denylist, second `process_block_header` inside `pipe::process_block`).

* On every state block processing alone reaches (head has the most work among stored blocks, stored
  blocks closed under parents: both invariants of every history, Props/C03 `headMax_step`,
  Lemmas/ChainInv `preserved_storedClosed`) the coded step IS the step all other theorems are about:
  `processHeaderK_eq`, `precheckK_eq`, `processBlockSingleK_eq`.
* `oldBlock_unreachable`: the `OldBlock` answer of `check_known_store` cannot come out of
  `Chain::process_block` - `Chain::is_known` answers `Unfit` first in exactly those states.
* `processHeaderK_idem`: the second `process_block_header` of one `process_block` call is a no-op.
* After `reset_chain_head` the invariants do NOT hold; there: `stored_block_above_head_becomes_head` (a stored
  valid block above the new head, offered again, becomes the head at once - its own ancestors come
  from the store), `reset_then_head_again_restores` (offering the old head again leads back to the
  head and the reported unspent set from before the reset).
* Denylist: `denied_header_never_saved`, `denied_unseen_block_refused`,
  `descendant_of_denied_refused`, `reset_over_denied_refused`; and the witness
  `denied_block_taken_again_when_header_chain_kept`. -/
namespace GV.Props.C03Known
open GV GV.Chain


/-! ### the coded step is the step of `Model/Chain.lean` on every state block processing reaches -/

theorem processHeaderK_eq (p : Params) (n : Node) (b : Blk) (hm : HeadMax n) (hc : StoredClosed n)
    (hb : n.blk b.id = some b) : processHeaderK p [] n b = processHeader p n b := by
  have hk := checkKnown_isSome_iff_knownFull n b hm hc hb
  rw [processHeaderK_nil]
  by_cases h : KnownFull n b
  · rw [if_pos (hk.mpr h), processHeader_known p n b h]
  · rw [if_neg (mt hk.mp h), processHeader_unknown p n b h]
    rfl

theorem precheckK_eq (n1 : Node) (b : Blk) (hm : HeadMax n1) (hc : StoredClosed n1)
    (hb : n1.blk b.id = some b) : precheckK n1 b = precheck n1 b := by
  have hk := checkKnown_isSome_iff_knownFull n1 b hm hc hb
  unfold precheckK precheck
  -- `is_known` and `check_orphan` are the same code; the `check_known` that follows differs
  refine ite_congr rfl (fun _ => rfl) (fun h1 => ?_)
  refine ite_congr rfl (fun _ => rfl) (fun h2 => ?_)
  cases b.parent with
  | none => rfl
  | some par =>
    refine ite_congr rfl (fun _ => rfl) (fun _ => ?_)
    -- a known block that gets this far is the parent of the head (the other two ways of being known were
    -- caught above: `h1`, `h2`) and has no more work than the head: both copies answer `Unfit`;
    -- an unknown block passes both
    by_cases h : KnownFull n1 b
    · have hw := knownFull_work_le n1 b hm hc hb h
      have hns : ¬ n1.stored.contains b.id = true := fun x => h2 ⟨hw, x⟩
      have hpar : some b.id = n1.parentOf n1.head := by
        rcases h with h | h | h
        · exact absurd (by simpa using h) h1
        · exact h
        · exact absurd (by simpa using h) hns
      have : checkKnown n1 b = some "Unfit" := by
        unfold checkKnown; simp [hw, hpar]
      rw [this]
      simp [hpar]
    · have hnone : checkKnown n1 b = none := by
        cases hck : checkKnown n1 b with
        | none => rfl
        | some e => exact absurd (hk.mp (by simp [hck])) h
      rw [hnone]
      unfold KnownFull at h
      simp only [not_or] at h
      have a1 : ¬ (b.id == n1.head ∨ some b.id == n1.parentOf n1.head) := by
        simp only [beq_iff_eq, not_or]; exact ⟨h.1, h.2.1⟩
      have a2 : ¬ n1.stored.contains b.id = true := by simpa using h.2.2
      rw [if_neg a1, if_neg a2]

/-- **the second `process_block_header` of one `process_block` call is a no-op** -/
theorem processHeaderK_idem (p : Params) (deny : List Nat) (n n1 : Node) (b : Blk)
    (hb : n.blk b.id = some b) (h : processHeaderK p deny n b = .ok n1) :
    processHeaderK p deny n1 b = .ok n1 := by
  rcases processHeaderK_ok_cases p deny n n1 b h with ⟨rfl, _⟩ | ⟨rfl, hk, _, par, hpar, hm, _⟩
  · exact h
  · -- the header is now in the store and the header head has at least its work
    have hbw : n.workOf b.id = b.work := by simp only [Node.workOf, hb]
    have hm' : ¬ (!(hdrUpdate n b).headers.contains par) = true := by
      unfold hdrUpdate
      split <;> simp [hm]
    have hs : (hdrUpdate n b).headers.contains b.id ∧
        ¬ b.work > (hdrUpdate n b).workOf (hdrUpdate n b).hhead := by
      rw [show (hdrUpdate n b).workOf = n.workOf from funext (workOf_congr rfl)]
      unfold hdrUpdate
      constructor
      · split <;> simp_all
      · simp only
        split
        · rw [hbw]; omega
        · assumption
    rw [processHeaderK_def, checkKnown_congr (n := hdrUpdate n b) (m := n) rfl rfl rfl b, hk, hpar]
    simp only [Bool.false_eq_true, if_false, if_neg hm', if_pos hs]

/-- `pipe::process_block` after its `check_known`, without a denylist and after the header was
processed: the body / state checks of `checkBlock` -/
theorem pipeProcessBlockK_eq (p : Params) (n n1 : Node) (b : Blk) (par : Nat)
    (hb : n.blk b.id = some b) (h : processHeaderK p [] n b = .ok n1) :
    pipeProcessBlockK p [] n1 b par = (match checkBlock p n1 b par with
      | .error e => .error e
      | .ok s' => .ok (n1, s')) := by
  unfold pipeProcessBlockK checkBlock
  rw [processHeaderK_idem p [] n n1 b hb h]
  simp only [forkDenied_nil, Bool.false_eq_true, if_false]
  cases n1.stateAt p par with
  | error e => rfl
  | ok sPar =>
    simp only
    cases validateBody p n1.outs b (sumVals n1.outs b.ins) with
    | some e => rfl
    | none => simp only; cases applyBlock p sPar b <;> rfl

/-- **the coded single-block step is `processBlockSingleEv`** (hence, forgetting the notification,
`processBlockSingle`) on every state in which the head has the most work among stored blocks -/
theorem processBlockSingleK_eq (p : Params) (n : Node) (b : Blk) (hm : HeadMax n) (hc : StoredClosed n)
    (hb : n.blk b.id = some b) : processBlockSingleK p [] n b = processBlockSingleEv p n b := by
  unfold processBlockSingleK processBlockSingleEv
  rw [← processHeaderK_eq p n b hm hc hb]
  cases hh : processHeaderK p [] n b with
  | error e => rfl
  | ok n1 =>
    simp only
    have hf := CoreEq.of_headerK hh
    have hm1 : HeadMax n1 := hm.congr hf
    have hc1 : StoredClosed n1 := hc.congr hf
    have hb1 := hf.symm.blk_some hb
    rw [precheckK_eq n1 b hm1 hc1 hb1]
    cases precheck n1 b with
    | reject e => rfl
    | orphan => rfl
    | go par =>
      simp only
      rw [pipeProcessBlockK_eq p n n1 b par hb hh]
      cases checkBlock p n1 b par <;> rfl

theorem processBlockSingleK_proj (p : Params) (n : Node) (b : Blk) (hm : HeadMax n) (hc : StoredClosed n)
    (hb : n.blk b.id = some b) :
    ((processBlockSingleK p [] n b).1, (processBlockSingleK p [] n b).2.1) = processBlockSingle p n b := by
  rw [processBlockSingleK_eq p n b hm hc hb]
  exact C03Status.processBlockSingleEv_proj p n b


/-- **`Error::OldBlock` cannot come out of `Chain::process_block`**: `check_known_store` is reached
only for a stored block with no more work than the head, and for exactly those `Chain::is_known`
has already answered `Unfit` (in every state, reset or not) -/
theorem oldBlock_unreachable (n1 : Node) (b : Blk) : precheckK n1 b ≠ .reject "OldBlock" := by
  intro h
  unfold precheckK at h
  cases hp : b.parent with
  | none =>
    rw [hp] at h
    simp only [ite_eq_iff_of_ne, ne_eq, Pre.reject.injEq, String.reduceEq, not_false_eq_true, and_false] at h
  | some par =>
    rw [hp] at h
    simp only [ite_eq_iff_of_ne, ne_eq, Pre.reject.injEq, String.reduceEq, reduceCtorEq, not_false_eq_true] at h
    obtain ⟨_, h2, _, h⟩ := h
    -- `check_known` says `OldBlock` only of a stored block with no more work than the head
    cases hck : checkKnown n1 b with
    | none => rw [hck] at h; cases h
    | some e =>
      rw [hck] at h
      cases h
      unfold checkKnown at hck
      split at hck
      · rename_i hw
        simp only [ite_eq_iff_of_ne, ne_eq, Option.some.injEq, String.reduceEq, not_false_eq_true] at hck
        split at hck
        · rename_i hs
          exact h2 ⟨hw, hs⟩
        · cases hck.2
      · cases hck

/-! ### after `reset_chain_head`: stored blocks above the head are processed again -/

/-- **a stored valid block above the head, offered again, becomes the head at once.**
`n'` is any node (in particular one just reset: `HeadMax` is NOT assumed) in which `b` has more
work than the head, its parent is the head or in the block store, its header passes the header
rules and the block passes every check against its own parent's replayed state. Whether `b` is
already in the block store does not matter. -/
theorem stored_block_above_head_becomes_head (p : Params) (n' : Node) (b : Blk) (par : Nat) (s : UState)
    (hb : n'.blk b.id = some b) (hw : b.work > n'.workOf n'.head)
    (hpar : b.parent = some par) (hps : par = n'.head ∨ par ∈ n'.stored) (hph : par ∈ n'.headers)
    (hv : validateHeader p n' b = none) (hcb : checkBlock p n' b par = .ok s) :
    (processBlockSingleK p [] n' b).2.1 = .okHead ∧ (processBlockSingleK p [] n' b).1.head = b.id ∧
    (processBlockSingleK p [] n' b).1.blks = n'.blks := by
  obtain ⟨n1, h1⟩ := processHeaderK_ok_of_valid p n' b hv
  have hf := CoreEq.of_headerK h1
  have hw1 : b.work > n1.workOf n1.head := by rw [workOf_congr hf.blks, hf.head]; exact hw
  have hbw : n'.workOf b.id = b.work := by simp [Node.workOf, hb]
  have hne : ¬ (b.id == n1.head) = true := by
    intro h
    have h : b.id = n1.head := by simpa using h
    rw [← h, workOf_congr hf.blks, hbw] at hw1
    omega
  have hpre : precheckK n1 b = .go par := by
    unfold precheckK
    rw [if_neg hne, if_neg (by intro x; omega)]
    simp only [hpar]
    rw [if_neg (by
      simp only [beq_iff_eq, List.contains_eq_mem, decide_eq_true_eq, Decidable.not_not]
      rw [hf.head, hf.stored]; exact hps)]
    rw [checkKnown_none_of_more_work n1 b hw1]
  have hcb1 : checkBlock p n1 b par = .ok s := by
    rw [checkBlock_congr hf.outs hf.blks]; exact hcb
  unfold processBlockSingleK
  rw [h1]
  simp only [hpre]
  rw [pipeProcessBlockK_eq p n' n1 b par hb h1, hcb1]
  simp only
  unfold storeBlock
  rw [if_pos hw1]
  exact ⟨rfl, rfl, hf.blks⟩

/-- **reset below the head, then the old head offered again: the node is back.** After a
successful `reset_chain_head(t, rewind_headers)` (either flag) of a node whose head block `b` has
more work than `t`, processing `b` again - its ancestors above `t` are re-applied from the block
store - makes it the head again, and the node reports the unspent set it reported before. -/
theorem reset_then_head_again_restores (p : Params) (n n' : Node) (t : Nat) (rh : Bool) (b : Blk)
    (par : Nat) (s : UState)
    (hr : resetChainHead p n t rh = .ok n')
    (hb : n.blk b.id = some b) (hhead : b.id = n.head) (hw : b.work > n.workOf t)
    (hpar : b.parent = some par) (hps : par = t ∨ par ∈ n.stored) (hph : par ∈ n.headers)
    (hv : validateHeader p n b = none) (hcb : checkBlock p n b par = .ok s) :
    (processBlockSingleK p [] n' b).2.1 = .okHead ∧
    (processBlockSingleK p [] n' b).1.head = n.head ∧
    (processBlockSingleK p [] n' b).1.reportedUtxo p = n.reportedUtxo p := by
  obtain ⟨hh, _, hst, hhd, hbl, hou, _⟩ := C02Reset.reset_frame p n n' t rh hr
  have hv' : validateHeader p n' b = none := by
    unfold validateHeader at hv ⊢
    simp only [hhd, heightOf_congr hbl, blk_congr hbl]; exact hv
  have h := stored_block_above_head_becomes_head p n' b par s
    (by rw [blk_congr hbl]; exact hb) (by rw [workOf_congr hbl, hh]; exact hw) hpar
    (by rw [hh, hst]; exact hps) (by rw [hhd]; exact hph) hv'
    (by rw [checkBlock_congr hou hbl]; exact hcb)
  refine ⟨h.1, by rw [h.2.1, hhead], ?_⟩
  exact reportedUtxo_congr (h.2.2.trans hbl) (by rw [h.2.1, hhead]) p


/-- **a denied header is never saved and never moves the header head**: header processing of a
block on the denylist returns the node it was given, or an error -/
theorem denied_header_never_saved (p : Params) (deny : List Nat) (n n' : Node) (b : Blk)
    (hd : deny.contains b.id = true) (h : processHeaderK p deny n b = .ok n') : n' = n := by
  rcases processHeaderK_ok_cases p deny n n' b h with ⟨rfl, _⟩ | ⟨_, _, hd', _⟩
  · rfl
  · rw [hd] at hd'; cases hd'

/-- **a denied block the node has not seen is refused and the node is unchanged**: not known as a
full block, header not in the store (or above the header head) -/
theorem denied_unseen_block_refused (p : Params) (deny : List Nat) (n : Node) (b : Blk)
    (hd : deny.contains b.id = true) (hk : checkKnown n b = none)
    (hu : b.id ∉ n.headers ∨ b.work > n.workOf n.hhead) :
    ∃ e, processBlockSingleK p deny n b = (n, .err e, none) :=
  denied_refused hk hu (.inl hd)

/-- **a block whose own header path needs a denied header re-applied is refused**: the parent's
fork headers (those the header MMR does not hold) contain a denied one, and the header is not
short-cut (not known as a full block; not in the header store, or above the header head) -/
theorem descendant_of_denied_refused (p : Params) (deny : List Nat) (n : Node) (b : Blk) (par : Nat)
    (hpar : b.parent = some par) (hfd : forkDenied deny n par = true) (hk : checkKnown n b = none)
    (hu : b.id ∉ n.headers ∨ b.work > n.workOf n.hhead) :
    ∃ e, processBlockSingleK p deny n b = (n, .err e, none) :=
  denied_refused hk hu (.inr ⟨par, hpar, hfd⟩)

theorem reset_over_denied_refused (p : Params) (deny : List Nat) (n : Node) (t : Nat) (rh : Bool)
    (hfd : forkDenied deny n t = true) : ∃ e, resetChainHeadK p deny n t rh = .error e := by
  unfold resetChainHeadK
  by_cases ht : (!n.headers.contains t) = true
  · rw [if_pos ht]
    exact ⟨_, rfl⟩
  · rw [if_neg ht, if_pos hfd]
    exact ⟨_, rfl⟩

/-- without a denylist the reset is the reset of `Model/ChainReset.lean` (Props/C02Reset) -/
theorem resetChainHeadK_nil (p : Params) (n : Node) (t : Nat) (rh : Bool) :
    resetChainHeadK p [] n t rh = resetChainHead p n t rh := by
  unfold resetChainHeadK
  rw [forkDenied_nil]
  by_cases h : (!n.headers.contains t) = true
  · rw [if_pos h]
    unfold resetChainHead
    rw [if_pos h]
  · rw [if_neg h]
    rfl

/-! ### witnesses (kernel-checked instances; also the non-vacuity of the theorems above) -/

private def g0 : Blk := { id := 0, parent := none, h := 0, work := 1, ver := 1, ts := 0, ins := [], outs := [(0, true)], kers := [.cb], tags := [] }
private def mk (id par h work : Nat) : Blk :=
  { id, parent := some par, h, work, ver := 1, ts := h, ins := [], outs := [(id, true)], kers := [.cb], tags := [] }

/-- genesis - b1 - b2, everything stored, head b2 -/
private def n3 : Node :=
  { blks := [g0, mk 1 0 1 2, mk 2 1 2 3], headers := [0, 1, 2], stored := [0, 1, 2], head := 2, hhead := 2,
    outs := [⟨0, true, GV.Gen.REWARD⟩, ⟨1, true, GV.Gen.REWARD⟩, ⟨2, true, GV.Gen.REWARD⟩] }

/-- the model of `Model/Chain.lean` and the code differ after a reset: reset to b1, then b2 again -
the coded step makes it the head, `processBlockSingle` (whose `precheck` takes every stored block
for known) refuses it -/
theorem reset_state_needs_the_coded_check :
    (match resetChainHead {} n3 1 true with
     | .ok n' => (processBlockSingleK {} [] n' (mk 2 1 2 3)).2.1 == .okHead &&
                 (processBlockSingle {} n' (mk 2 1 2 3)).2 == .err "Unfit"
     | .error _ => false) = true := by decide +kernel

/-- **observation (denylist)**: b2 is denied, the node reset to b1 WITH its header chain kept
(`rewind_headers = false`): b2's header is known and not above the header head, so
`validate_header` - the only place the denylist is consulted for the header itself - is not
reached, and the denied block is taken again. With the header chain rewound it is refused. The
owner API always rewinds the headers. -/
theorem denied_block_taken_again_when_header_chain_kept :
    (match resetChainHeadK {} [2] n3 1 false, resetChainHeadK {} [2] n3 1 true with
     | .ok nKeep, .ok nRew =>
        (processBlockSingleK {} [2] nKeep (mk 2 1 2 3)).2.1 == .okHead &&
        (processBlockSingleK {} [2] nRew (mk 2 1 2 3)).2.1 == .err "Block"
     | _, _ => false) = true := by decide +kernel

/-- hypotheses of `reset_then_head_again_restores` are satisfiable: n3 reset to b1, b2 again -/
example : (match resetChainHead {} n3 1 true, checkBlock {} n3 (mk 2 1 2 3) 1 with
    | .ok _, .ok _ => ((n3.blk 2).map (·.id) == some 2) && decide ((mk 2 1 2 3).work > n3.workOf 1) &&
        (validateHeader {} n3 (mk 2 1 2 3)).isNone && decide (1 ∈ n3.headers)
    | _, _ => false) = true := by decide +kernel

/-- hypotheses of `descendant_of_denied_refused` are satisfiable: header chain rewound to b0, b1
denied, b2 offered -/
example : forkDenied [1] { n3 with head := 0, hhead := 0 } 1 = true ∧
    checkKnown { n3 with head := 0, hhead := 0 } (mk 2 1 2 3) = none := by decide +kernel

/-- `processBlockSingleK_eq` applies to a non-trivial node: n3 has both invariants -/
example : HeadMax n3 ∧ StoredClosed n3 := by
  refine ⟨by intro s hs; simp [n3] at hs; rcases hs with h | h | h <;> subst h <;> decide, ?_, ?_, ?_⟩
  · decide
  · decide
  · intro s hs b par hb hp
    simp [n3] at hs
    rcases hs with h | h | h <;> subst h <;> simp [n3, Node.blk, g0, mk] at hb <;> subst hb <;> simp at hp <;> subst hp <;> decide

end GV.Props.C03Known
