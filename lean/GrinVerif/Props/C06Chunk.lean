import GrinVerif.Model.ChainKnown
import GrinVerif.Lemmas.UtilList
/-! C06 / C03 for header sync chunks (`Chain::sync_block_headers` / `pipe::process_block_headers`;
`Model/ChainKnown.lean` `processHeadersK`): a refused chunk leaves NOTHING behind, an accepted chunk
touches only the header store and the header head, and a chunk is accepted only if NO header on the
last header's own path that the header MMR does not hold yet - in particular no non-last header of
the chunk the followers build on - is denied or fails its root check.

"A chunk of fresh headers is accepted iff each header is accepted singly, in order" is proved in
three steps: the reduction to two path facts about `forkBlocks` here
(`chunk_accepted_iff_given_fork_set`), the path facts in Props/C06ChunkPath.lean
(`chunk_accepted_iff_no_root_fault`), the fold of the single-header path in
Props/C06ChunkSingles.lean (`singles_iff`, `chunk_accepted_iff_each_singly`). -/
namespace GV.Props.C06Chunk
open GV GV.Chain

/-- **all or nothing**: a refused chunk returns the node it was given -/
theorem refused_chunk_changes_nothing (p : Params) (deny : List Nat) (n : Node) (bs : List Blk) (e : Err)
    (h : processHeadersK p deny n bs = .error e) :
    deliverHeadersK p deny n bs = (n, s!"err:{e}") := by
  unfold deliverHeadersK; rw [h]

/-- the per-header loop touches only the header store, which only grows, and afterwards holds every
header of the chunk -/
theorem validateChunk_frame (p : Params) (deny : List Nat) (bs : List Blk) : ∀ (n n1 : Node),
    validateChunk p deny n bs = .ok n1 →
    n1.head = n.head ∧ n1.hhead = n.hhead ∧ n1.stored = n.stored ∧ n1.blks = n.blks ∧
    n1.outs = n.outs ∧ n1.orphans = n.orphans ∧ (∀ x ∈ n.headers, x ∈ n1.headers) ∧
    (∀ b ∈ bs, b.id ∈ n1.headers) := by
  induction bs with
  | nil =>
    intro n n1 h
    unfold validateChunk at h
    injection h with h; subst h
    exact ⟨rfl, rfl, rfl, rfl, rfl, rfl, fun _ hx => hx, fun _ hb => absurd hb (by simp)⟩
  | cons b bs ih =>
    intro n n1 h
    unfold validateChunk at h
    split at h
    · cases h
    · split at h
      · cases h
      · have := ih _ n1 h
        obtain ⟨a1, a2, a3, a4, a5, a6, a7, a8⟩ := this
        refine ⟨a1, a2, a3, a4, a5, a6, fun x hx => a7 x (mem_append_new.mpr (.inl hx)), ?_⟩
        intro b' hb'
        rcases List.mem_cons.mp hb' with hb' | hb'
        · subst hb'; exact a7 _ (mem_append_new.mpr (.inr rfl))
        · exact a8 b' hb'

/-- every header of a chunk that passes the loop is off the denylist -/
theorem validateChunk_not_denied (p : Params) (deny : List Nat) (bs : List Blk) : ∀ (n n1 : Node),
    validateChunk p deny n bs = .ok n1 → ∀ b ∈ bs, deny.contains b.id = false := by
  induction bs with
  | nil => intro n n1 _ b hb; exact absurd hb (by simp)
  | cons b bs ih =>
    intro n n1 h b' hb'
    unfold validateChunk at h
    split at h
    · cases h
    · rename_i hd
      split at h
      · cases h
      · rcases List.mem_cons.mp hb' with hb' | hb'
        · subst hb'; simpa using hd
        · exact ih _ n1 h b' hb'

/-- the header-MMR step passes iff every re-applied header is off the denylist and passes its root
check -/
theorem applyForkHeaders_none_iff (deny : List Nat) (l : List Blk) :
    applyForkHeaders deny l = none ↔ ∀ b ∈ l, deny.contains b.id = false ∧ hasTag b "hdr:" = none := by
  induction l with
  | nil => simp [applyForkHeaders]
  | cons b bs ih =>
    unfold applyForkHeaders
    by_cases hd : b.id ∈ deny <;> cases ht : hasTag b "hdr:" <;> simp [hd, ht, ih]

/-- what an accepted chunk changes: the header store grows by its headers, the header head moves to
the LAST header iff that has more work; head, block store, orphan pool untouched -/
theorem accepted_chunk_frame (p : Params) (deny : List Nat) (n n' : Node) (bs : List Blk)
    (h : processHeadersK p deny n bs = .ok n') :
    n'.head = n.head ∧ n'.stored = n.stored ∧ n'.blks = n.blks ∧ n'.outs = n.outs ∧
    n'.orphans = n.orphans ∧ (∀ x ∈ n.headers, x ∈ n'.headers) ∧ (∀ b ∈ bs, b.id ∈ n'.headers) ∧
    (n'.hhead = n.hhead ∨ ∃ last, bs.getLast? = some last ∧ n'.hhead = last.id ∧ last.work > n.workOf n.hhead) := by
  unfold processHeadersK at h
  split at h
  · rename_i hl
    injection h with h; subst h
    have : bs = [] := by
      cases bs with
      | nil => rfl
      | cons b bs => simp [List.getLast?] at hl
    subst this
    exact ⟨rfl, rfl, rfl, rfl, rfl, fun _ hx => hx, fun _ hb => absurd hb (by simp), Or.inl rfl⟩
  · rename_i last hl
    split at h
    · cases h
    · rename_i n1 hv
      obtain ⟨a1, a2, a3, a4, a5, a6, a7, a8⟩ := validateChunk_frame p deny bs n n1 hv
      split at h
      · cases h
      · injection h with h; subst h
        refine ⟨a1, a3, a4, a5, a6, a7, a8, ?_⟩
        by_cases hw : last.work > n.workOf n.hhead
        · right; exact ⟨last, hl, by simp [hw], hw⟩
        · left; simp only [hw, if_false]

/-- **an accepted chunk re-applied only clean headers**: no header on the last header's own path
that the header MMR did not hold - the chunk's non-last headers the followers build on included -
is denied or fails `validate_root`. Contrapositive: ONE wrong header below the last one, at any
position, refuses the whole chunk. -/
theorem accepted_chunk_fork_headers_clean (p : Params) (deny : List Nat) (n n' : Node) (bs : List Blk)
    (last : Blk) (hl : bs.getLast? = some last) (h : processHeadersK p deny n bs = .ok n') :
    ∃ n1, validateChunk p deny n bs = .ok n1 ∧
      ∀ b ∈ forkBlocks n1 last.id, deny.contains b.id = false ∧ hasTag b "hdr:" = none := by
  unfold processHeadersK at h
  rw [hl] at h
  simp only at h
  split at h
  · cases h
  · rename_i n1 hv
    split at h
    · cases h
    · rename_i hf
      exact ⟨n1, hv, (applyForkHeaders_none_iff deny _).mp hf⟩

/-- ... in particular a chunk with a wrong header among the headers being re-applied is refused
and, by `refused_chunk_changes_nothing`, leaves nothing behind -/
theorem chunk_with_wrong_fork_header_refused (p : Params) (deny : List Nat) (n n1 : Node) (bs : List Blk)
    (last b : Blk) (e : Err) (hl : bs.getLast? = some last) (hv : validateChunk p deny n bs = .ok n1)
    (hb : b ∈ forkBlocks n1 last.id) (ht : hasTag b "hdr:" = some e) :
    ∃ e', processHeadersK p deny n bs = .error e' := by
  cases hr : processHeadersK p deny n bs with
  | error e' => exact ⟨e', rfl⟩
  | ok n' =>
    obtain ⟨n1', hv', hc⟩ := accepted_chunk_fork_headers_clean p deny n n' bs last hl hr
    rw [hv] at hv'
    injection hv' with hv'
    subst hv'
    have := (hc b hb).2
    rw [ht] at this
    cases this

/-- **chunk = its headers one by one, reduced to one path fact.** With no denylist: once the
per-header loop is through (it runs the same `validate_header` checks, on the same growing header
store, as the single-header path does for fresh headers), the chunk is accepted iff NO header of
the chunk fails its root check - which is what delivering them one by one decides - PROVIDED the
headers the MMR step re-applies are the chunk's own plus already stored, untagged ones (`H1`: every
chunk header is on the last header's path and off the header chain; `H2`: the other re-applied
headers passed their root check when they were stored). `H1` / `H2` are derived from "fresh,
linked chunk" in Props/C06ChunkPath.lean. -/
theorem chunk_accepted_iff_given_fork_set (p : Params) (n n1 : Node) (bs : List Blk) (last : Blk)
    (hl : bs.getLast? = some last) (hv : validateChunk p [] n bs = .ok n1)
    (H1 : ∀ b ∈ bs, b ∈ forkBlocks n1 last.id)
    (H2 : ∀ b ∈ forkBlocks n1 last.id, b ∉ bs → hasTag b "hdr:" = none) :
    (∃ n', processHeadersK p [] n bs = .ok n') ↔ ∀ b ∈ bs, hasTag b "hdr:" = none := by
  have key : applyForkHeaders [] (forkBlocks n1 last.id) = none ↔ ∀ b ∈ bs, hasTag b "hdr:" = none := by
    rw [applyForkHeaders_none_iff]
    constructor
    · intro h b hb; exact (h b (H1 b hb)).2
    · intro h b hb
      refine ⟨by simp, ?_⟩
      by_cases hm : b ∈ bs
      · exact h b hm
      · exact H2 b hb hm
  unfold processHeadersK
  rw [hl]
  simp only [hv]
  constructor
  · intro ⟨n', h⟩
    apply key.mp
    cases hf : applyForkHeaders [] (forkBlocks n1 last.id) with
    | none => rfl
    | some e => rw [hf] at h; cases h
  · intro h
    rw [key.mpr h]
    exact ⟨_, rfl⟩

/-! ### witnesses -/

private def g0 : Blk := { id := 0, parent := none, h := 0, work := 1, ver := 1, ts := 0, ins := [], outs := [(0, true)], kers := [.cb], tags := [] }
private def mk (id par h work : Nat) (tags : List String) : Blk :=
  { id, parent := some par, h, work, ver := h / 3 + 1, ts := h, ins := [], outs := [(id, true)], kers := [.cb], tags }
/-- genesis known; b1 (wrong prev_root) - b2 - b3 built on it; v1 - v2 honest -/
private def nd : Node :=
  { blks := [g0, mk 1 0 1 2 ["hdr:InvalidRoot"], mk 2 1 2 3 [], mk 3 2 3 9 [], mk 4 0 1 2 [], mk 5 4 2 3 []] }

/-- the honest chunk v1 - v2 is taken: both headers saved, the header head on the last one (that
the twin chunk b1 - b2 - b3 with the wrong first header is refused is
`chunk_with_wrong_fork_header_refused`, whose hypotheses the next example instantiates) -/
theorem honest_chunk_taken :
    (match processHeadersK {} [] nd [mk 4 0 1 2 [], mk 5 4 2 3 []] with
     | .ok n' => n'.headers == [0, 4, 5] && n'.hhead == 5 && n'.head == 0
     | .error _ => false) = true := by decide +kernel

/-- hypotheses of `chunk_with_wrong_fork_header_refused` are satisfiable (the wrong header is among
the fork blocks of the last header) -/
example : (match validateChunk {} [] nd [mk 1 0 1 2 ["hdr:InvalidRoot"], mk 2 1 2 3 []] with
    | .ok n1 => ((forkBlocks n1 2).map (·.id)) == [1, 2]
    | .error _ => false) = true := by decide +kernel

end GV.Props.C06Chunk
