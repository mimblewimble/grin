import GrinVerif.Gen.PipeShapeChain
import GrinVerif.Props.XlateShapeChain
import GrinVerif.Model.Cons
/-! # C04 — the header-side "already known" exits: regenerated shape of `pipe::process_block_header`
= the order of the hand model `Cons.nodeProcessBlockHeader`

The header-side known tests are the two early `Ok`s of `process_block_header`:
`check_known(header, &head, ctx).is_err()` — `check_known_head`, then `check_known_store` under the
work condition — and "hash already in the header store with no more work than `header_head`".  Decided obligations on `Gen/PipeShapeChain.lean` (regenerated from
`chain/src/pipe.rs` on every run) and the matching statements about the model, for all inputs. -/
namespace GV.Props.C04Shape
open GV GV.Cons GV.Gen.PipeShape GV.Props.XlateShape

theorem shapes_read : readOk pipe_process_block_header = true ∧ readOk pipe_check_known_head = true :=
  ⟨XlateShapeChain.pipe_process_block_header_order.1, XlateShapeChain.pipe_check_known_head_order.1⟩

/-- both known tests precede `validate_header`, which precedes every header-MMR / store step:
the error spine of `process_block_header`, in order -/
theorem process_block_header_spine :
    spine pipe_process_block_header =
      ["head", "get_previous_header", "header_head", "validate_header",
       "rewind_and_apply_header_fork", "validate_root", "apply_header", "header_extending",
       "add_block_header", "update_header_head"] :=
  XlateShapeChain.pipe_process_block_header_order.2

/-- exactly two early `Ok(())` exits, under exactly these conditions, in this order -/
theorem process_block_header_early_oks :
    earlyOks pipe_process_block_header =
      [["check_known($0, &$2, $1).is_err()"],
       ["$1.batch.get_block_header(&$0.hash()) ~ Ok(_)", "!(has_more_work(&$5, &$4))"]] :=
  XlateShapeChain.pipe_process_block_header_early_ok.1

/-- the first known test comes after nothing but the read of `head` -/
theorem first_known_test_position : spineBeforeFirstEarlyOk pipe_process_block_header = ["head"] :=
  XlateShapeChain.pipe_process_block_header_early_ok.2

/-- nothing is written before the second known test either: the steps in front of it are the
three store READS and the first early exit; `validate_header` and every writing step
(`apply_header`, `add_block_header`, `update_header_head`) come after it -/
theorem nothing_written_before_known_tests :
    ((pipe_process_block_header.steps.takeWhile
        (fun s => !(s.kind == .okEarly && s.guard.length == 2))).map (·.name)) =
      ["head", "", "get_previous_header", "header_head"] ∧
    (["validate_header", "apply_header", "add_block_header", "update_header_head", "header_extending"].all
      fun w => !((pipe_process_block_header.steps.takeWhile
        (fun s => !(s.kind == .okEarly && s.guard.length == 2))).map (·.name)).contains w) = true := by
  decide +kernel

/-- `check_known_head`: one explicit error, `Unfit`, under "hash is the head's or the head's parent's" -/
theorem check_known_head_shape :
    fails pipe_check_known_head = [("Unfit", "(($2 == $1.last_block_h) || ($2 == $1.prev_block_h))")] ∧
    spine pipe_check_known_head = ["Unfit"] :=
  ⟨XlateShapeChain.pipe_check_known_head_errors.1, XlateShapeChain.pipe_check_known_head_order.2⟩

/-! ### the model exits the same way, for every node state -/

/-- first early exit: a header `check_known` refuses is answered `Ok` and the node is unchanged -/
theorem model_known_exits_ok_unchanged (n : HNode) (opts : Opts) (f : FHdr) (e : NErr)
    (h : checkKnown n f = .error e) : nodeProcessBlockHeader n opts f = .ok n := by
  unfold nodeProcessBlockHeader; rw [h]

/-- between the two exits only the parent lookup can fail (`get_previous_header`: `Orphan`) -/
theorem model_orphan_between_exits (n : HNode) (opts : Opts) (f : FHdr)
    (h : checkKnown n f = .ok ()) (hp : getHdr n.hdrs f.prevHash = none) :
    nodeProcessBlockHeader n opts f = .error (.hdr .Orphan) := by
  unfold nodeProcessBlockHeader; rw [h, hp]

/-- second early exit: a header whose hash is stored with no more work than `header_head` is
answered `Ok`, node unchanged, WITHOUT `validate_header` — whatever the delivered copy's fields -/
theorem model_stored_exits_ok_unchanged (n : HNode) (opts : Opts) (f prev ex : FHdr)
    (h : checkKnown n f = .ok ()) (hp : getHdr n.hdrs f.prevHash = some prev)
    (hs : getHdr n.hdrs f.hash = some ex) (hw : ¬ ex.h.totalDiff > n.headerHead.totalDiff) :
    nodeProcessBlockHeader n opts f = .ok n := by
  unfold nodeProcessBlockHeader; rw [h, hp, hs]; simp only; rw [if_neg hw]

/-- otherwise the header goes through validation and application (`pbhApply`) -/
theorem model_otherwise_validates (n : HNode) (opts : Opts) (f prev : FHdr)
    (h : checkKnown n f = .ok ()) (hp : getHdr n.hdrs f.prevHash = some prev)
    (hs : getHdr n.hdrs f.hash = none) :
    nodeProcessBlockHeader n opts f = pbhApply n opts f prev := by
  unfold nodeProcessBlockHeader; rw [h, hp, hs]

end GV.Props.C04Shape
