import GrinVerif.Lemmas.UtilList
import GrinVerif.Props.XlateTx
import GrinVerif.Props.XlateCons
/-! # Translated fee / weight functions of `TransactionBody` (`core/src/core/transaction.rs`)

`GV.Gen.Fns.{TransactionBody_fee, _fee_shift, _shifted_fee, _lock_height, _weight, _verify_weight}`,
`Transaction_fee`, `Transaction_shifted_fee` (file `Gen/FnsTx.lean`) are regenerated on every check run from
the CURRENT Rust source.  `KernelFeatures` is the generated inductive (fee = the raw `FeeFields` u64),
`TxKernel` / `TransactionBody` the generated structures restricted to their translatable fields
(`features`; `kernels`).  The iterator chains `.iter().filter_map(..).fold(..)` are `List.filterMap` /
`List.foldl`.  In `weight` the untranslatable `self.inputs.len()` / `self.outputs.len()` are the parameters
`inputs_len` / `outputs_len`; in `verify_weight` `self.weight()` is the parameter `weight` and
`Result<(), Error>` is `Option Unit` (`none` = `Err(Error::TooHeavy)`).

The pool model (`Model/Pool.lean`) carries `fee` and `fee_shift` of a kernel as separate fields and sums
fees without saturation; the closed forms below are stated over the generated kernel type, with the
saturation explicit. -/

namespace GV.Props.XlateTxFee
open GV GV.Gen GV.Xlate GV.Props.XlateTx GV.Props.XlateCons

/-- the fee fields of a fee-carrying kernel (`filter_map` closure of `fee` / `fee_shift`) -/
def feeFieldsOf : Fns.KernelFeatures → Option Nat
  | .Coinbase => none
  | .Plain fee => some fee
  | .HeightLocked fee _ => some fee
  | .NoRecentDuplicate fee _ => some fee

/-- the raw fee fields of the fee-carrying kernels, in order -/
def feeFields (ks : List Fns.TxKernel) : List Nat := ks.filterMap (fun k => feeFieldsOf k.features)

/-- `TransactionBody::fee()`: the sum of the low 40 bits of the fee fields of all fee-carrying kernels,
saturating at `u64::MAX` — for every kernel list -/
theorem body_fee_eq (ks : List Fns.TxKernel) :
    Fns.TransactionBody_fee ks = min ((feeFields ks).map (· % 2^40)).sum (2^64 - 1) := by
  unfold Fns.TransactionBody_fee
  rw [filterMap_congr_mem _ (fun k => feeFieldsOf k.features) ks
    (fun k _ => by rcases k with ⟨ft⟩; cases ft <;> rfl), ← feeFields]
  have : (fun acc fee_fields => Fns.satAddN 64 acc (Fns.FeeFields_fee fee_fields))
      = (fun a x => min (2^64 - 1) (a + x % 2^40)) := by
    funext a x; rw [fee_eq]; exact Nat.min_comm _ _
  rw [this, foldl_satAdd (2^64 - 1) (· % 2^40) _ 0 (by omega), Nat.zero_add, Nat.min_comm]

/-- `TransactionBody::fee_shift()`: the maximum of bits 40..43 of the fee fields -/
theorem body_fee_shift_eq (ks : List Fns.TxKernel) :
    Fns.TransactionBody_fee_shift ks = ((feeFields ks).map (· / 2^40 % 16)).foldl max 0 := by
  unfold Fns.TransactionBody_fee_shift
  rw [filterMap_congr_mem _ (fun k => feeFieldsOf k.features) ks
    (fun k _ => by rcases k with ⟨ft⟩; cases ft <;> rfl), ← feeFields]
  have : (fun acc fee_fields => max acc (Fns.FeeFields_fee_shift fee_fields))
      = (fun a x => max a (x / 2^40 % 16)) := by
    funext a x; rw [fee_shift_eq]
  rw [this, List.foldl_map]

theorem body_fee_shift_le (ks : List Fns.TxKernel) : Fns.TransactionBody_fee_shift ks ≤ 15 := by
  rw [body_fee_shift_eq]
  refine (foldl_max_le_iff _ _ _).2 ⟨by omega, fun x hx => ?_⟩
  simp only [List.mem_map] at hx
  obtain ⟨y, _, rfl⟩ := hx
  omega

/-- `TransactionBody::shifted_fee() = fee() >> fee_shift()`: the shift amount is `≤ 15`, so the masked
release-mode shift is the exact one -/
theorem body_shifted_fee_eq (ks : List Fns.TxKernel) :
    Fns.TransactionBody_shifted_fee ks = Fns.TransactionBody_fee ks / 2^(Fns.TransactionBody_fee_shift ks) := by
  unfold Fns.TransactionBody_shifted_fee
  exact shrW_eq (by have := body_fee_shift_le ks; omega)

/-- the lock height of a height-locked kernel (`filter_map` closure of `lock_height`) -/
def lockOf : Fns.KernelFeatures → Option Nat
  | .HeightLocked _ l => some l
  | _ => none

/-- `TransactionBody::lock_height()`: the maximal lock height of the height-locked kernels, 0 if none -/
theorem body_lock_height_eq (ks : List Fns.TxKernel) :
    Fns.TransactionBody_lock_height ks = ((ks.filterMap (fun k => lockOf k.features)).max?).getD 0 := by
  unfold Fns.TransactionBody_lock_height
  rw [filterMap_congr_mem _ (fun k => lockOf k.features) ks (fun k _ => by rcases k with ⟨ft⟩; cases ft <;> rfl)]

/-- `Transaction::fee` (not `libtx::tx_fee`, which is `XlateMisc.tx_fee_eq`) -/
theorem tx_fee_eq (b : Fns.TransactionBody) : Fns.Transaction_fee b = Fns.TransactionBody_fee b.kernels := rfl
theorem tx_shifted_fee_eq (b : Fns.TransactionBody) :
    Fns.Transaction_shifted_fee b = Fns.TransactionBody_shifted_fee b.kernels := rfl

example : Fns.TransactionBody_fee [⟨.Plain (3 * 2^40 + 500)⟩, ⟨.Coinbase⟩, ⟨.HeightLocked 70 9⟩] = 570 := by
  rw [body_fee_eq]; decide
example : Fns.TransactionBody_fee_shift [⟨.Plain (3 * 2^40 + 500)⟩, ⟨.Coinbase⟩, ⟨.HeightLocked 70 9⟩] = 3 := by
  rw [body_fee_shift_eq]; decide
example : Fns.TransactionBody_lock_height [⟨.Plain 5⟩, ⟨.HeightLocked 70 9⟩, ⟨.HeightLocked 1 4⟩] = 9 := by
  rw [body_lock_height_eq]; decide
/-- saturation needs more than 2^24 kernels: two maximal fees do not saturate -/
example : Fns.TransactionBody_fee [⟨.Plain (2^40 - 1)⟩, ⟨.Plain (2^40 - 1)⟩] = 2^41 - 2 := by
  rw [body_fee_eq]; decide

/-! ## tie to the pool model (`Model/Pool.lean`): unsaturated sum of separately carried fees -/

/-- the fee-carrying kernels as the pool model carries them: `(fee, shift)` with `fee < 2^40`, `shift < 16`
packed into fee fields `shift * 2^40 + fee` -/
def packFee (fee shift : Nat) : Nat := shift * 2^40 + fee

theorem packFee_fee {fee shift : Nat} (hf : fee < 2^40) : packFee fee shift % 2^40 = fee := by
  unfold packFee; omega

theorem packFee_shift {fee shift : Nat} (hf : fee < 2^40) (hs : shift < 16) :
    packFee fee shift / 2^40 % 16 = shift := by
  unfold packFee; omega

theorem feeFields_plain (fs : List (Nat × Nat)) :
    feeFields (fs.map fun p => (⟨.Plain (packFee p.1 p.2)⟩ : Fns.TxKernel)) = fs.map (fun p => packFee p.1 p.2) := by
  unfold feeFields
  induction fs with
  | nil => rfl
  | cons p ps ih => simp [feeFieldsOf] at ih ⊢; exact ih

theorem low_bits_plain (fs : List (Nat × Nat)) (hf : ∀ p ∈ fs, p.1 < 2^40) :
    (fs.map (fun p => packFee p.1 p.2)).map (· % 2^40) = fs.map (·.1) := by
  induction fs with
  | nil => rfl
  | cons p ps ih =>
    rw [List.map_cons, List.map_cons, List.map_cons, ih (fun q hq => hf q (List.mem_cons_of_mem _ hq)),
        packFee_fee (hf p List.mem_cons_self)]

/-- for plain kernels built from `(fee, shift)` pairs the code's `fee()` is the plain sum of the fees as
long as that sum fits a u64 (the pool model's `natSum`) -/
theorem body_fee_plain (fs : List (Nat × Nat)) (hf : ∀ p ∈ fs, p.1 < 2^40)
    (hsum : (fs.map (·.1)).sum < 2^64) :
    Fns.TransactionBody_fee (fs.map fun p => ⟨.Plain (packFee p.1 p.2)⟩) = (fs.map (·.1)).sum := by
  rw [body_fee_eq, feeFields_plain, low_bits_plain fs hf]
  exact Nat.min_eq_left (Nat.le_sub_one_of_lt hsum)

example : Fns.TransactionBody_fee ([(500, 3), (7, 0)].map fun p => ⟨.Plain (packFee p.1 p.2)⟩) = 507 := by
  rw [body_fee_plain] <;> simp

/-! ## `verify_weight` (`TransactionBody::weight` itself: `Props/XlateMisc.lean`, `body_weight_eq`) -/

/-- the weight limit `verify_weight` compares against, per `Weighting` (`none` = no limit) -/
def weightLimit (ct : GV.Cons.ChainType) : Fns.Weighting → Option Nat
  | .AsTransaction => some (GV.Ser.maxTxWeight (GV.Cons.maxBlockWeight ct))
  | .AsLimitedTransaction m => some (min (GV.Cons.maxBlockWeight ct) m - 24)
  | .AsBlock => some (GV.Cons.maxBlockWeight ct)
  | .NoLimit => none

/-- `TransactionBody::verify_weight(weighting)`: `Err(TooHeavy)` iff the weight exceeds the limit of the
weighting (tx: block limit minus the coinbase weight 24; limited tx: `min(block limit, m) - 24`, saturating;
block: block limit; `NoLimit`: never) — every chain type, every weight -/
theorem verify_weight_eq (ct : GV.Cons.ChainType) (w : Fns.Weighting) (weight : Nat) :
    Fns.TransactionBody_verify_weight (ofCons ct) w weight =
      match weightLimit ct w with
      | none => some ()
      | some lim => if weight > lim then none else some () := by
  have h24 : addW OUTPUT_WEIGHT KERNEL_WEIGHT = 24 := by decide
  unfold Fns.TransactionBody_verify_weight
  cases w <;>
    simp [weightLimit, h24, max_tx_weight_eq, max_block_weight_eq, satSub]

example : Fns.TransactionBody_verify_weight .Mainnet .AsTransaction 39977 = none
    ∧ Fns.TransactionBody_verify_weight .Mainnet .AsTransaction 39976 = some ()
    ∧ Fns.TransactionBody_verify_weight .Mainnet (.AsLimitedTransaction 100) 77 = none
    ∧ Fns.TransactionBody_verify_weight .Mainnet .NoLimit (2^64 - 1) = some () := by decide

/-! ## `Transaction::weight`, `fee_rate`, `accept_fee` (the abstracted `inputs.len()` / `outputs.len()` of the body
are inherited as the parameters `inputs_len` / `outputs_len`) -/

theorem tx_weight_eq (b : Fns.TransactionBody) (i o : Nat) :
    Fns.Transaction_weight b i o = GV.Ser.weightByIok i o b.kernels.length := by
  unfold Fns.Transaction_weight Fns.TransactionBody_weight; exact body_weight_by_iok_eq i o b.kernels.length

/-- `Transaction::fee_rate() = fee() / weight()` (integer division; the pool model's `Tx.feeRate`) -/
theorem tx_fee_rate_eq (b : Fns.TransactionBody) (i o : Nat) :
    Fns.Transaction_fee_rate b i o
      = Fns.TransactionBody_fee b.kernels / GV.Ser.weightByIok i o b.kernels.length := by
  unfold Fns.Transaction_fee_rate; rw [tx_weight_eq]; rfl

/-- `fee_rate` panics (division by zero) exactly when the weight is 0 -/
theorem tx_fee_rate_ok_iff (b : Fns.TransactionBody) (i o : Nat) :
    Fns.Transaction_fee_rate_ok b i o = (GV.Ser.weightByIok i o b.kernels.length != 0) := by
  unfold Fns.Transaction_fee_rate_ok; rw [tx_weight_eq]

/-- … i.e. exactly for the empty transaction (no input, no output, no kernel) -/
theorem weightByIok_eq_zero (i o k : Nat) : GV.Ser.weightByIok i o k = 0 ↔ i = 0 ∧ o = 0 ∧ k = 0 := by
  -- a saturated sum of products with non-zero weights vanishes only when every count does
  have hU : ¬ U64MAX = 0 := by decide
  simp only [GV.Ser.weightByIok, GV.Ser.satAdd, GV.Ser.satMul, Nat.min_eq_zero_iff, Nat.add_eq_zero_iff,
    Nat.mul_eq_zero, hU, or_false, show INPUT_WEIGHT = 1 from rfl, show OUTPUT_WEIGHT = 21 from rfl,
    show KERNEL_WEIGHT = 3 from rfl, Nat.succ_ne_zero, and_assoc]

example : Fns.Transaction_fee_rate_ok ⟨[]⟩ 0 0 = false ∧ Fns.Transaction_fee_rate_ok ⟨[⟨.Plain 7⟩]⟩ 1 1 = true := by
  decide

/-- `Transaction::accept_fee() = weight() * get_accept_fee_base()` (wrapping product) -/
theorem tx_accept_fee_eq (base : Nat) (b : Fns.TransactionBody) (i o : Nat) :
    Fns.Transaction_accept_fee base b i o = mulW (GV.Ser.weightByIok i o b.kernels.length) base := by
  unfold Fns.Transaction_accept_fee; rw [tx_weight_eq]

example : Fns.Transaction_accept_fee 500000 ⟨[⟨.Plain 7⟩]⟩ 2 2 = 23500000 := by decide

end GV.Props.XlateTxFee
