import GrinVerif.Model.ChainReport
import GrinVerif.Lemmas.ChainImplRefine
import GrinVerif.Lemmas.PmmrShape
/-! C02, the other reporting paths of the unspent set (`Model/ChainReport.lean`:
`Chain::unspent_outputs_by_pmmr_index` = `ReadonlyPMMR::elements_from_pmmr_index`,
`get_unspent_output_at`).

* `getDataAt_eq_some`: a position of the output MMR yields data iff it is the position `mmr i` of a
  leaf `i` that exists and is still in the leaf set - parents, positions beyond the size and spent
  leaves yield nothing;
* `elemLoop_spec` / `enum_window`: the enumeration returns, in position order, exactly the data at
  the positions of its window `[start-1, bound)`, cut after `max_count` items - nothing is skipped,
  nothing is reported twice, nothing outside the window;
* `elemLoop_pages`: reading in pages (the next page starts behind the position the previous one
  stopped at) yields the same list as one call;
* `scan_all`: scanning every position below the size finds exactly the unspent leaves in insertion
  order, hence `enum_all`: the whole enumeration is `unspentByPos`, and with the representation
  invariant of the txhashset (`RInv`, kept by every apply / rewind: `Lemmas/ChainImpl*`) the
  outputs it names are exactly the outputs `get_unspent` reports (`enum_all_reports_reported`). -/

namespace GV.Props.C02Report
open GV GV.Chain GV.Chain.TxHS GV.Pmmr

/-- `pmmr_leaf_to_insertion_index pos = some i` iff `pos` is the position of leaf `i` -/
theorem leafIndex_eq_some (pos i : Nat) : pmmrLeafToInsertionIndex pos = some i ↔ pos = mmr i :=
  Co.leafIndex_eq_some pos i

theorem leafIndex_mmr (i : Nat) : pmmrLeafToInsertionIndex (mmr i) = some i :=
  (leafIndex_eq_some _ _).mpr rfl

/-- what a position of the output MMR yields: the data of leaf `i` iff the position is `mmr i`,
the leaf exists and is in the leaf set -/
theorem getDataAt_eq_some (S : TxHS) (pos0 c : Nat) :
    S.getDataAt pos0 = some c ↔ ∃ i, pos0 = mmr i ∧ i < S.leaves.length ∧ S.getData i = some c := by
  unfold getDataAt mmrSize
  constructor
  · intro h
    split at h
    · cases h
    · rename_i hlt
      split at h
      · rename_i i hi
        have hp := (leafIndex_eq_some pos0 i).mp hi
        refine ⟨i, hp, ?_, h⟩
        apply Classical.byContradiction
        intro hc
        have := Co.mmr_le_mmr (show S.leaves.length ≤ i by omega)
        omega
      · cases h
  · rintro ⟨i, hp, hi, hd⟩
    have := Co.mmr_lt_mmr hi
    rw [if_neg (by omega), hp, leafIndex_mmr]
    exact hd

theorem getDataAt_mmr (S : TxHS) (i : Nat) (hi : i < S.leaves.length) :
    S.getDataAt (mmr i) = S.getData i := by
  unfold getDataAt mmrSize
  have := Co.mmr_lt_mmr hi
  rw [if_neg (by omega), leafIndex_mmr]

/-- a position strictly between two leaf positions is a parent: no data -/
theorem getDataAt_parent (S : TxHS) (i h : Nat) (h1 : 1 ≤ h) (h2 : h ≤ trailingOnes i) :
    S.getDataAt (mmr i + h) = none := by
  cases hd : S.getDataAt (mmr i + h) with
  | none => rfl
  | some c =>
    obtain ⟨j, hp, _, _⟩ := (getDataAt_eq_some S _ c).mp hd
    have := Co.coord_inj h2 (Nat.zero_le (trailingOnes j)) (by simpa using hp)
    omega

theorem elemLoop_full (S : TxHS) (size fuel idx : Nat) : S.elemLoop size fuel idx 0 = (idx, []) := by
  cases fuel with
  | zero => rfl
  | succ k => rw [elemLoop, if_pos (.inl rfl)]

theorem elemLoop_step (S : TxHS) (size k idx room : Nat) (hr : room ≠ 0) (hlt : idx < size) :
    S.elemLoop size (k+1) idx room =
      match S.getDataAt idx with
      | some c => ((S.elemLoop size k (idx+1) (room-1)).1, c :: (S.elemLoop size k (idx+1) (room-1)).2)
      | none => S.elemLoop size k (idx+1) room := by
  rw [elemLoop, if_neg (fun h => h.elim hr (Nat.not_le.mpr hlt))]
  rfl

/-- the loop of `elements_from_pmmr_index`, exactly: the data found at the positions it walks, in
order, cut after `room` items -/
theorem elemLoop_spec (S : TxHS) (size : Nat) :
    ∀ fuel idx room, fuel = size - idx →
      (S.elemLoop size fuel idx room).2 = ((List.range' idx fuel).filterMap S.getDataAt).take room := by
  intro fuel
  induction fuel with
  | zero => intro idx room _; simp only [elemLoop, List.range'_zero, List.filterMap_nil, List.take_nil]
  | succ k ih =>
    intro idx room hf
    cases room with
    | zero => rw [elemLoop_full, List.take_zero]
    | succ r =>
      rw [elemLoop_step S size k idx (r+1) (Nat.succ_ne_zero r) (by omega), List.range'_succ,
        List.filterMap_cons]
      cases S.getDataAt idx with
      | none => exact ih (idx+1) (r+1) (by omega)
      | some c => exact congrArg (c :: ·) (ih (idx+1) r (by omega))

/-- `elements_from_pmmr_index(start, max_count, bound)`: the data at the positions of the window
`[start-1, bound)`, in position order, cut after `max_count` items -/
theorem enum_window (S : TxHS) (start maxCount : Nat) (maxIdx : Option Nat) :
    (S.elementsFromPmmrIndex start maxCount maxIdx).2 =
      ((List.range' (start - 1) (S.enumBound maxIdx - (start - 1))).filterMap S.getDataAt).take maxCount := by
  unfold elementsFromPmmrIndex
  exact elemLoop_spec S _ _ _ _ rfl

/-- **a bound beyond the MMR is the MMR's size**: any requested upper bound at or beyond the size gives the answer of no bound at
all - same outputs, same position after the last one looked at, which is at most the size -/
theorem enum_bound_clamped (S : TxHS) (start maxCount bound : Nat) (h : S.mmrSize ≤ bound) :
    S.elementsFromPmmrIndex start maxCount (some bound) = S.elementsFromPmmrIndex start maxCount none := by
  unfold elementsFromPmmrIndex enumBound
  simp only [Nat.min_eq_right h]


/-- where the loop stops: behind the last position it looked at, never beyond the bound when it
started below it -/
theorem elemLoop_next_le (S : TxHS) (size : Nat) :
    ∀ fuel idx room, idx ≤ size → idx ≤ (S.elemLoop size fuel idx room).1 ∧ (S.elemLoop size fuel idx room).1 ≤ size := by
  intro fuel
  induction fuel with
  | zero => intro idx room h; exact ⟨Nat.le_refl _, h⟩
  | succ k ih =>
    intro idx room h
    by_cases hc : room = 0 ∨ size ≤ idx
    · rw [elemLoop, if_pos hc]
      exact ⟨Nat.le_refl _, h⟩
    · rw [not_or, Nat.not_le] at hc
      rw [elemLoop_step S size k idx room hc.1 hc.2]
      cases S.getDataAt idx with
      | none => exact ⟨Nat.le_of_succ_le (ih (idx+1) room hc.2).1, (ih (idx+1) room hc.2).2⟩
      | some c => exact ⟨Nat.le_of_succ_le (ih (idx+1) (room-1) hc.2).1, (ih (idx+1) (room-1) hc.2).2⟩

/-- reading in pages: a first call for `a` items, then a call for `b` items that starts at the
position the first one stopped at (the API passes `last index + 1`, the function subtracts 1),
returns what one call for `a + b` items returns, and stops at the same position -/
theorem elemLoop_pages (S : TxHS) (size : Nat) :
    ∀ fuel idx a b, fuel = size - idx →
      let r1 := S.elemLoop size fuel idx a
      let r2 := S.elemLoop size (size - r1.1) r1.1 b
      a ≠ 0 → S.elemLoop size fuel idx (a + b) = (r2.1, r1.2 ++ r2.2) := by
  intro fuel
  induction fuel with
  | zero =>
    intro idx a b hf _ _ _
    show S.elemLoop size 0 idx (a+b) = ((S.elemLoop size (size - idx) idx b).1, [] ++ (S.elemLoop size (size - idx) idx b).2)
    rw [← hf]
    rfl
  | succ k ih =>
    intro idx a b hf _ _ ha
    have hlt : idx < size := by omega
    have hk : size - (idx + 1) = k := by omega
    show S.elemLoop size (k+1) idx (a+b) =
      ((S.elemLoop size (size - (S.elemLoop size (k+1) idx a).1) (S.elemLoop size (k+1) idx a).1 b).1,
       (S.elemLoop size (k+1) idx a).2 ++
         (S.elemLoop size (size - (S.elemLoop size (k+1) idx a).1) (S.elemLoop size (k+1) idx a).1 b).2)
    rw [elemLoop_step S size k idx (a+b) (by omega) hlt, elemLoop_step S size k idx a ha hlt]
    cases S.getDataAt idx with
    | none => exact ih (idx+1) a b hk.symm ha
    | some c =>
      cases a with
      | zero => exact absurd rfl ha
      | succ a' =>
        rw [show a' + 1 + b - 1 = a' + b by omega, Nat.add_sub_cancel]
        cases a' with
        | zero =>
          -- the first page is full after this item: the second page starts right behind it
          rw [Nat.zero_add, elemLoop_full, hk]
          rfl
        | succ a'' =>
          rw [ih (idx+1) (a''+1) b hk.symm (Nat.succ_ne_zero a'')]
          rfl
/-- the positions `[mmr i, mmr (i+1))` of leaf `i` and the parents completed by it yield the data of
leaf `i` only -/
theorem scan_leaf_block (S : TxHS) (i : Nat) (hi : i < S.leaves.length) :
    (List.range' (mmr i) (mmr (i+1) - mmr i)).filterMap S.getDataAt = (S.getData i).toList := by
  have hs := mmr_succ i
  have e : mmr (i+1) - mmr i = 1 + trailingOnes i := by omega
  rw [e, Nat.add_comm, List.range'_succ, List.filterMap_cons, getDataAt_mmr S i hi]
  have hnone : (List.range' (mmr i + 1) (trailingOnes i)).filterMap S.getDataAt = [] := by
    rw [List.filterMap_eq_nil_iff]
    intro p hp
    rw [List.mem_range'_1] at hp
    have := getDataAt_parent S i (p - mmr i) (by omega) (by omega)
    rwa [show mmr i + (p - mmr i) = p by omega] at this
  rw [hnone]
  cases S.getData i <;> rfl

/-- scanning every position below the position of leaf `n` finds the unspent leaves below `n`, in
insertion order -/
theorem scan_prefix (S : TxHS) : ∀ n, n ≤ S.leaves.length →
    (List.range' 0 (mmr n)).filterMap S.getDataAt = (List.range n).filterMap S.getData := by
  intro n
  induction n with
  | zero => intro _; simp [Co.mmr_zero]
  | succ k ih =>
    intro hk
    have hle := Co.mmr_le_mmr (show k ≤ k + 1 by omega)
    have e : mmr (k+1) = mmr k + (mmr (k+1) - mmr k) := by omega
    rw [e, ← List.range'_append_1, List.filterMap_append, ih (by omega), Nat.zero_add,
      scan_leaf_block S k (by omega), List.range_succ, List.filterMap_append]
    congr 1

/-- scanning the whole MMR finds exactly the unspent leaves, in insertion (= position) order -/
theorem scan_all (S : TxHS) :
    (List.range' 0 S.mmrSize).filterMap S.getDataAt = (List.range S.leaves.length).filterMap S.getData :=
  scan_prefix S _ (Nat.le_refl _)

theorem unspentByPos_snd (S : TxHS) :
    S.unspentByPos.map (·.2) = (List.range S.leaves.length).filterMap S.getData := by
  unfold unspentByPos
  rw [List.map_filterMap]
  congr 1
  funext i
  cases S.getData i <;> rfl

/-- `unspent_outputs_by_pmmr_index(start ≤ 1, max_count ≥ number of leaves, None)`: the whole
enumeration names exactly the unspent leaves, in position order -/
theorem enum_all (S : TxHS) (start maxCount : Nat) (hs : start ≤ 1) (hc : S.leaves.length ≤ maxCount) :
    (S.unspentOutputsByPmmrIndex start maxCount none).2.2 = S.unspentByPos.map (·.2) := by
  unfold unspentOutputsByPmmrIndex
  simp only
  rw [enum_window, unspentByPos_snd]
  have h0 : start - 1 = 0 := by omega
  simp only [h0, enumBound, Nat.sub_zero]
  rw [scan_all]
  apply List.take_of_length_le
  calc _ ≤ (List.range S.leaves.length).length := List.length_filterMap_le _ _
    _ = S.leaves.length := List.length_range
    _ ≤ maxCount := hc

/-- an output is named by the scan of the unspent leaves iff `get_unspent` reports it (under the
representation invariant of the txhashset) -/
theorem mem_scan_iff_reported {S : TxHS} (hi : RInv S) (c : Nat) :
    c ∈ (List.range S.leaves.length).filterMap S.getData ↔ c ∈ S.reported := by
  rw [reported_iff hi, List.mem_filterMap]
  constructor
  · rintro ⟨i, _, hd⟩
    obtain ⟨h1, h2⟩ := (getData_eq_some S i c).mp hd
    obtain ⟨h, e⟩ := hi.indexed i h1 c h2
    simp [e]
  · intro h
    cases hp : S.getOutputPos c with
    | none => rw [hp] at h; cases h
    | some cp =>
      exact ⟨cp.pos, List.mem_range.mpr (hi.bound _ (hi.points c cp hp).1), hi.getData hp⟩

/-- the whole enumeration names exactly the outputs `get_unspent` reports: with
`reported_is_impl_of_head_path` (Props/C02) that is the replay of the head's own path -/
theorem enum_all_reports_reported {S : TxHS} (hi : RInv S) (start maxCount : Nat) (hs : start ≤ 1)
    (hc : S.leaves.length ≤ maxCount) (c : Nat) :
    c ∈ (S.unspentOutputsByPmmrIndex start maxCount none).2.2 ↔ c ∈ S.reported := by
  rw [enum_all S start maxCount hs hc, unspentByPos_snd, mem_scan_iff_reported hi]

/-- whatever the window, only unspent outputs are named (under the invariant: only outputs
`get_unspent` reports) -/
theorem enum_only_reported {S : TxHS} (hi : RInv S) (start maxCount : Nat) (maxIdx : Option Nat) (c : Nat)
    (h : c ∈ (S.unspentOutputsByPmmrIndex start maxCount maxIdx).2.2) : c ∈ S.reported := by
  unfold unspentOutputsByPmmrIndex at h
  simp only at h
  rw [enum_window] at h
  have h2 := List.mem_of_mem_take h
  rw [List.mem_filterMap] at h2
  obtain ⟨p, _, hd⟩ := h2
  obtain ⟨i, _, hlt, hg⟩ := (getDataAt_eq_some S p c).mp hd
  exact (mem_scan_iff_reported hi c).mp (List.mem_filterMap.mpr ⟨i, List.mem_range.mpr hlt, hg⟩)

/-- `get_unspent_output_at(pos0)` finds an output iff `pos0` is the position of an unspent leaf -/
theorem outputAt_ok_iff (S : TxHS) (pos0 c : Nat) :
    S.getUnspentOutputAt pos0 = .ok c ↔ ∃ i, pos0 = mmr i ∧ i < S.leaves.length ∧ S.getData i = some c := by
  unfold getUnspentOutputAt
  rw [← getDataAt_eq_some]
  cases S.getDataAt pos0 <;> simp

/-! ### what compaction receives as "spent above the horizon" (`input_pos_to_rewind`) -/

/-- the walk returns exactly the positions listed in the spent-index records of the blocks ON THE
HEAD'S OWN PATH that lie strictly above the horizon height: a block of another fork never
contributes whatever its height and records, the horizon block itself never does (`>`), a block
without a record contributes nothing -/
theorem mem_inputPosToRewind (n : Node) (S : TxHS) (hh x : Nat) :
    x ∈ inputPosToRewind n S hh ↔
      ∃ p, n.path n.head = some p ∧ ∃ b ∈ p, b.h > hh ∧
        ∃ l, S.getSpentIndex b.id = some l ∧ ∃ cp ∈ l, x = mmr cp.pos + 1 := by
  unfold inputPosToRewind
  cases hp : n.path n.head with
  | none => simp
  | some p =>
    simp only [List.mem_flatMap, List.mem_reverse, List.mem_filter, decide_eq_true_eq, Option.some.injEq]
    constructor
    · rintro ⟨b, ⟨hb, hgt⟩, hx⟩
      cases hl : S.getSpentIndex b.id with
      | none => rw [hl] at hx; simp at hx
      | some l =>
        rw [hl] at hx
        simp only [List.mem_map] at hx
        obtain ⟨cp, hcp, rfl⟩ := hx
        exact ⟨p, rfl, b, hb, hgt, l, hl, cp, hcp, rfl⟩
    · rintro ⟨p', rfl, b, hb, hgt, l, hl, cp, hcp, rfl⟩
      refine ⟨b, ⟨hb, hgt⟩, ?_⟩
      rw [hl]
      exact List.mem_map.mpr ⟨cp, hcp, rfl⟩

/-- what a block of the head's path above the horizon spent is protected -/
theorem head_spends_protected (n : Node) (S : TxHS) (hh : Nat) (p : List Blk) (b : Blk) (l : List CommitPos)
    (cp : CommitPos) (hp : n.path n.head = some p) (hb : b ∈ p) (hgt : b.h > hh)
    (hl : S.getSpentIndex b.id = some l) (hcp : cp ∈ l) :
    mmr cp.pos + 1 ∈ inputPosToRewind n S hh :=
  (mem_inputPosToRewind n S hh _).mpr ⟨p, hp, b, hb, hgt, l, hl, cp, hcp, rfl⟩

/-- a protected position comes from some block above the horizon that HAS a spent-index record: a block
without one contributes nothing -/
theorem inputPosToRewind_without_record (n : Node) (S : TxHS) (hh x : Nat)
    (h : x ∈ inputPosToRewind n S hh) : ∃ (b : Blk) (l : List CommitPos), S.getSpentIndex b.id = some l ∧ b.h > hh := by
  obtain ⟨_, _, b, _, hgt, l, hl, _⟩ := (mem_inputPosToRewind n S hh x).mp h
  exact ⟨b, l, hl, hgt⟩

/-! non-vacuity: a txhashset with a spent leaf in the middle (leaves 0..3 at positions 0, 1, 3, 4;
leaf 1 spent) -/
private def S4 : TxHS :=
  { leaves := [10, 11, 12, 13], leafSet := [0, 2, 3],
    outputPos := [(10, ⟨0, 0⟩), (12, ⟨2, 1⟩), (13, ⟨3, 1⟩)] }

example : (S4.unspentOutputsByPmmrIndex 1 100 none).2.2 = [10, 12, 13] := by
  rw [enum_all S4 1 100 (by decide) (by decide), unspentByPos_snd]; decide
example : S4.getUnspentOutputAt (mmr 2) = .ok 12 :=
  (outputAt_ok_iff S4 _ 12).mpr ⟨2, rfl, by decide, by decide⟩
/-- the invariant hypothesis is the one every reachable txhashset satisfies (`RInv.empty`,
`applyBlocks_ok`, `rewind…` in `Lemmas/ChainImpl*`; concrete instances in `Props/C02`) -/
example : RInv ({} : TxHS) := RInv.empty

end GV.Props.C02Report
