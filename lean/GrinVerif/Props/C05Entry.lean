import GrinVerif.Props.C05
import GrinVerif.Model.PowEntry
/-! # C05 at the node's entry point, for every `edge_bits : u8`

`Props/C05.lean` proves, per graph definition, that `verify` accepts exactly the simple cycles, for
every endpoint function.  Here the glue in front of the five verifiers (`pow::verify_size` →
`global::create_pow_context` → `new_*_ctx` → `CuckooParams::new` → `Graph::new` →
`set_header_nonce` → `verify`; `Model/PowEntry.lean`) is composed with those theorems into ONE
statement about the function the node calls: `verify_size_accepts_exactly_cycles`.  All hypotheses
of the per-variant theorems (proof size > 0, context proof size = global proof size for Cuckarooz,
the bucket hash keeps the low bit for Cuckarood) are discharged for the parameters `verify_size`
really builds.

The model covers the whole `u8` range of `edge_bits` in release arithmetic; for the sizes a header
read from the wire can have (1..=62; 63 is always refused) it coincides with `verifySize`
(`entry_eq_verifySize`), the function the runs `vsize` / `cons powsize` compare.  Outside that range
(headers built through the API) the shift `1u64 << edge_bits` takes its amount modulo 64:
`entry_relabel_64` — a proof for the graph of `edge_bits` is accepted under the label
`edge_bits + 64` (an observation about the shipped build; run `pow entry`). -/
namespace GV.Props.C05Entry
open GV GV.Pow GV.Gen GV.Props.C05

/-- `epOf` (the endpoint function of the context model) is `epNode` at the node bits
`new_*_ctx` computes, wherever the `u8` arithmetic does not wrap -/
theorem epOf_eq_epNode (v : Variant) (k : Keys) (eb : Nat) (h1 : 1 ≤ eb) (h2 : eb ≤ 254) :
    epNode v k (nodeBitsOf v eb) = epOf v k eb := by
  cases v
  · rfl
  · rfl
  · show epBlock k ((eb + 255) % 256) 25 false = epBlock k (eb - 1) 25 false
    have : (eb + 255) % 256 = eb - 1 := by omega
    rw [this]
  · rfl
  · show epBlock k ((eb + 1) % 256) 21 true = epBlock k (eb + 1) 21 true
    have : (eb + 1) % 256 = eb + 1 := by omega
    rw [this]

theorem proofsizeOf_pos (c : ChainType) : 0 < proofsizeOf c := by
  cases c <;> decide

/-- the node mask `CuckooParams::new` computes, `(1u64 << node_bits) - 1` with the shift amount
taken modulo 64, is what `maskOfBits` yields — for every `u8` -/
theorem maskOfBits_release : ∀ nb, nb < 256 → (maskOfBits nb).toNat = 2^(nb % 64) - 1 := by
  decide +kernel

/-- `Graph::new` refuses exactly the sizes with `edge_bits % 64 = 63` -/
theorem graphTooBig_iff (eb : Nat) : graphTooBig eb = true ↔ eb % 64 = 63 := by
  unfold graphTooBig numEdges
  rw [decide_eq_true_iff]
  have hk : eb % 64 < 64 := Nat.mod_lt _ (by decide)
  generalize eb % 64 = k at hk
  constructor
  · intro h
    apply Classical.byContradiction
    intro hne
    have hle : k ≤ 62 := by omega
    have : 2^k ≤ 2^62 := Nat.pow_le_pow_right (by decide) hle
    have h63 : U64MAX / 2 = 2^63 - 1 := by decide
    rw [h63] at h
    have : (2:Nat)^62 < 2^63 - 1 := by decide
    omega
  · intro h
    subst h
    decide

/-- all five verifiers at once: `verify` accepts exactly the proofs with the required count,
strictly ascending, in range, whose edges form one simple cycle in that variant's graph -/
theorem verifyOf_iff (v : Variant) (P : Params) (ep : Nat → Nat × Nat) (ns : List Nat)
    (hps : 0 < P.proofsize) (hctx : P.ctxProofSize = P.proofsize) (hbk : ∀ x, P.bk x % 2 = x % 2) :
    verifyOf v P ep ns = .ok () ↔
      (ns.length = P.proofsize ∧ Ascending ns ∧ (∀ x ∈ ns, x ≤ P.edgeMask) ∧ IsProofCycleOf v ep ns) := by
  cases v
  · exact verifyCuckatoo_iff P ep ns hps
  · exact verifyCuckaroo_iff P ep ns hps
  · exact verifyCuckarood_iff P ep ns hbk hps
  · exact verifyCuckaroom_iff P ep ns hps
  · exact verifyCuckarooz_iff P ep ns hps hctx

/-- **`pow::verify_size` accepts exactly the simple cycles of the header-seeded graph** — the
property's first sentence for the function the node calls, for every chain type, height,
`edge_bits : u8`, pre-PoW bytes and nonce list: `Ok(())` iff a verifier exists for (chain type,
height, edge_bits), the graph is not refused for its size, the header carries exactly
`global::proofsize()` nonces, strictly ascending, each within `edge_mask`, and the edges they select
in the graph seeded by `pre_pow` form one simple cycle through all of them under the selected graph
definition. -/
theorem verify_size_accepts_exactly_cycles (c : ChainType) (height eb : Nat) (prePow : Bytes)
    (ns : List Nat) :
    verifySizeEntry c height eb prePow ns = .ok () ↔
      ∃ v, selectVariant c height eb = some v ∧ ¬ (v = .cuckatoo ∧ eb % 64 = 63) ∧
        ns.length = proofsizeOf c ∧ Ascending ns ∧ (∀ x ∈ ns, x ≤ edgeMaskRel eb) ∧
        IsProofCycleOf v (epNode v (keysOfHeader prePow none) (nodeBitsOf v eb)) ns := by
  unfold verifySizeEntry
  split
  · next hv => simp [hv]
  · next v hv =>
    by_cases hbig' : v = .cuckatoo ∧ graphTooBig eb = true
    · have hbig : v = .cuckatoo ∧ eb % 64 = 63 := ⟨hbig'.1, (graphTooBig_iff eb).mp hbig'.2⟩
      rw [if_pos hbig']
      constructor
      · intro h; cases h
      · rintro ⟨v', hv', hnb, _⟩
        rw [hv] at hv'; cases hv'
        exact absurd hbig hnb
    · have hbig : ¬ (v = .cuckatoo ∧ eb % 64 = 63) :=
        fun h => hbig' ⟨h.1, (graphTooBig_iff eb).mpr h.2⟩
      rw [if_neg hbig']
      by_cases hlen : ns.length = proofsizeOf c
      · have hiff := verifyOf_iff v (entryParams c eb ns.length)
          (epNode v (keysOfHeader prePow none) (nodeBitsOf v eb)) ns
          (proofsizeOf_pos c) hlen
          (fun x => bucketMask_low_bit (proofsizeOf c) (proofsizeOf_pos c) x)
        constructor
        · intro h
          split at h
          · next hok =>
            obtain ⟨h1, h2, h3, h4⟩ := hiff.mp hok
            exact ⟨v, hv, hbig, h1, h2, h3, h4⟩
          · cases h
        · rintro ⟨v', hv', _, h1, h2, h3, h4⟩
          rw [hv] at hv'; cases hv'
          rw [hiff.mpr ⟨h1, h2, h3, h4⟩]
      · constructor
        · intro h
          split at h
          · next hok => exact absurd (verifyOf_ok_length v _ _ ns hok) hlen
          · cases h
        · rintro ⟨_, _, _, h1, _⟩
          exact absurd h1 hlen

/-- soundness half, as the property reads: whatever `verify_size` accepts is a proof of the right
length, strictly ascending, in range, selecting one simple cycle -/
theorem verify_size_sound (c : ChainType) (height eb : Nat) (prePow : Bytes) (ns : List Nat)
    (h : verifySizeEntry c height eb prePow ns = .ok ()) :
    ns.length = proofsizeOf c ∧ Ascending ns ∧ (∀ x ∈ ns, x ≤ edgeMaskRel eb) ∧
    ∃ v, selectVariant c height eb = some v ∧
      IsProofCycleOf v (epNode v (keysOfHeader prePow none) (nodeBitsOf v eb)) ns := by
  obtain ⟨v, hv, _, h1, h2, h3, h4⟩ := (verify_size_accepts_exactly_cycles c height eb prePow ns).mp h
  exact ⟨h1, h2, h3, v, hv, h4⟩

/-- **For the sizes a header from the wire can have, the entry model IS `verifySize`** (the model
the runs `vsize` and `cons powsize` compare with the real `pow::verify_size`). -/
theorem entry_eq_verifySize (c : ChainType) (height eb : Nat) (prePow : Bytes) (ns : List Nat)
    (h1 : 1 ≤ eb) (h2 : eb ≤ 62) :
    verifySizeEntry c height eb prePow ns =
      (match verifySize c height eb prePow ns with
       | .ok () => .ok ()
       | .error .noCtx => .error .noCtx
       | .error (.verify e) => .error (.verify e)) := by
  unfold verifySizeEntry verifySize
  cases hv : selectVariant c height eb with
  | none => rfl
  | some v =>
    simp only
    have hnb : ¬ (v = .cuckatoo ∧ graphTooBig eb = true) := by
      rw [graphTooBig_iff]; omega
    rw [if_neg hnb, fresh_verify, epOf_eq_epNode v _ eb h1 (by omega)]
    have hP : entryParams c eb ns.length = mkParams eb (proofsizeOf c) ns.length := by
      unfold entryParams mkParams edgeMaskRel numEdges
      rw [Nat.mod_eq_of_lt (by omega : eb < 64)]
    rw [hP]
    generalize verifyOf v (mkParams eb (proofsizeOf c) ns.length) (epOf v (keysOfHeader prePow none) eb) ns = r
    match r with
    | .ok () => rfl
    | .error _ => rfl

/-- **`edge_bits` 63, 127, 191, 255 are always refused**: every chain type selects Cuckatoo there and
`Graph::new` refuses the size before anything is verified. -/
theorem entry_eb63_refused (c : ChainType) (height eb : Nat) (prePow : Bytes) (ns : List Nat)
    (h : eb % 64 = 63) : verifySizeEntry c height eb prePow ns = .error .graphTooBig := by
  have hgt : eb > 29 := by omega
  have hsel : selectVariant c height eb = some .cuckatoo := by
    cases c <;> simp [selectVariant, hgt]
  unfold verifySizeEntry
  rw [hsel]
  simp [(graphTooBig_iff eb).mpr h]

/-- the node mask of the Cuckatoo graph only depends on `edge_bits mod 64`: a `UInt64` shift takes
its amount modulo 64 (checked here over the whole `u8` range) -/
theorem maskOfBits_add_64 : ∀ nb, nb < 192 → maskOfBits (nb + 64) = maskOfBits nb := by
  decide +kernel

/-- **Observation (release build): the label `edge_bits + 64` opens the graph of `edge_bits`.**
On the chain types that verify with Cuckatoo at every size, `verify_size` answers for a header
labelled `edge_bits + 64` exactly what it answers for the same header labelled `edge_bits`
(`1u64 << edge_bits` uses the low six bits of the amount).  Such a label cannot be read from the
wire (`proof_read_refuses_bad_edge_bits`); it can be set on a header built through the API. -/
theorem entry_relabel_64 (c : ChainType) (hc : c = .automated ∨ c = .user) (height eb : Nat)
    (prePow : Bytes) (ns : List Nat) (h : eb + 64 < 256) :
    verifySizeEntry c height (eb + 64) prePow ns = verifySizeEntry c height eb prePow ns := by
  have hsel : ∀ e, selectVariant c height e = some .cuckatoo := by
    intro e; rcases hc with rfl | rfl <;> rfl
  unfold verifySizeEntry
  rw [hsel, hsel]
  simp only
  have hm : (eb + 64) % 64 = eb % 64 := by omega
  have hg : graphTooBig (eb + 64) = graphTooBig eb := by
    unfold graphTooBig numEdges; rw [hm]
  have hP : entryParams c (eb + 64) ns.length = entryParams c eb ns.length := by
    unfold entryParams edgeMaskRel numEdges; rw [hm]
  have hep : epNode .cuckatoo (keysOfHeader prePow none) (nodeBitsOf .cuckatoo (eb + 64))
      = epNode .cuckatoo (keysOfHeader prePow none) (nodeBitsOf .cuckatoo eb) := by
    funext n
    show epCuckatoo _ (eb + 64) n = epCuckatoo _ eb n
    unfold epCuckatoo
    rw [maskOfBits_add_64 eb (by omega)]
  rw [hg, hP, hep]

/-- the verdict is a function of (chain type, height, edge_bits, pre-PoW bytes, nonces) and of
nothing else: stated as congruence in the pre-PoW bytes through the siphash keys — two headers
whose pre-PoW bytes hash to the same keys get the same verdict for every proof -/
theorem entry_depends_on_keys_only (c : ChainType) (height eb : Nat) (pre₁ pre₂ : Bytes) (ns : List Nat)
    (hk : keysOfHeader pre₁ none = keysOfHeader pre₂ none) :
    verifySizeEntry c height eb pre₁ ns = verifySizeEntry c height eb pre₂ ns := by
  unfold verifySizeEntry
  rw [hk]

/-- `pre_pow` bytes and nonces of a header genuinely mined by the repo's `pow_size` (AutomatedTesting,
height 0, edge_bits 10), as observed in the `vsize` run -/
def exPre : Bytes := [0, 1, 0, 0, 0, 0, 0, 0, 0, 0, 0, 0, 0, 0, 0, 0, 0, 0, 5, 156, 63, 119, 183, 153, 125, 96, 95, 182, 153, 68, 48, 49, 222, 211, 30, 128, 111, 33, 254, 209, 143, 20, 206, 89, 22, 34, 96, 80, 31, 110, 199, 117, 92, 148, 109, 21, 143, 117, 166, 188, 141, 81, 173, 55, 17, 247, 246, 104, 172, 95, 173, 55, 15, 160, 22, 241, 102, 176, 138, 237, 116, 81, 219, 249, 212, 232, 101, 106, 173, 154, 203, 79, 212, 151, 3, 141, 49, 177, 39, 44, 112, 245, 136, 161, 218, 62, 137, 234, 216, 249, 156, 155, 84, 109, 0, 0, 0, 0, 0, 0, 0, 0, 0, 0, 0, 0, 0, 0, 0, 0, 0, 0, 0, 0, 0, 0, 0, 0, 0, 0, 0, 0, 0, 0, 0, 0, 164, 43, 73, 128, 31, 234, 176, 65, 59, 185, 80, 137, 47, 18, 36, 23, 254, 75, 200, 195, 209, 154, 138, 75, 31, 5, 235, 77, 30, 104, 76, 167, 0, 0, 0, 0, 0, 0, 0, 0, 0, 0, 0, 0, 0, 0, 0, 0, 0, 0, 0, 0, 0, 0, 0, 0, 0, 0, 0, 0, 0, 0, 0, 0, 0, 0, 0, 0, 0, 4, 217, 56, 0, 0, 0, 0, 0, 8, 213, 104, 0, 8, 83, 13, 68, 200, 14, 188, 83, 245, 21, 65, 35, 1, 10, 200, 34, 26, 128, 183]
def exNonces : List Nat := [30,397,435,521,683,836,1018,1023]

theorem exPre_keys : Pow.keysOfHeader exPre none =
    ⟨2616484003974749214, 4911997607595936788, 14551078747060901436, 8809436808476739002⟩ :=
  mined_header_keys

/-- the mined header is accepted at its own label … -/
theorem ex_accepted : verifySizeEntry .automated 0 10 exPre exNonces = .ok () := by
  have h : verifySize .automated 0 10 exPre exNonces = .ok () :=
    (verifySize_ok_iff _ _ _ _ _).mpr ⟨.cuckatoo, rfl, by rw [exPre_keys]; decide +kernel⟩
  rw [entry_eq_verifySize _ _ _ _ _ (by decide) (by decide), h]
/-- … hence (by `verify_size_sound`) its edges are a simple 8-cycle of the Cuckatoo graph … -/
example : IsProofCycleOf .cuckatoo (epNode .cuckatoo (keysOfHeader exPre none) 10) exNonces := by
  obtain ⟨_, _, _, v, hv, hc⟩ := verify_size_sound .automated 0 10 exPre exNonces ex_accepted
  cases hv
  exact hc
/-- … and it is accepted under the labels 74 and 202 as well, refused (out of range) under 9, and
refused for its size under 63 -/
example : verifySizeEntry .automated 0 74 exPre exNonces = .ok () := by
  rw [show (74 : Nat) = 10 + 64 from rfl, entry_relabel_64 _ (.inl rfl) _ _ _ _ (by decide)]; exact ex_accepted
example : verifySizeEntry .automated 0 202 exPre exNonces = .ok () := by
  rw [show (202 : Nat) = 138 + 64 from rfl, entry_relabel_64 _ (.inl rfl) _ _ _ _ (by decide),
    show (138 : Nat) = 74 + 64 from rfl, entry_relabel_64 _ (.inl rfl) _ _ _ _ (by decide),
    show (74 : Nat) = 10 + 64 from rfl, entry_relabel_64 _ (.inl rfl) _ _ _ _ (by decide)]; exact ex_accepted
example : verifySizeEntry .automated 0 9 exPre exNonces = .error (.verify .tooBig) := by decide +kernel
example : verifySizeEntry .automated 0 63 exPre exNonces = .error .graphTooBig := by decide +kernel
/-- Cuckarood at `edge_bits = 0`: `node_bits` wraps to 255, the node mask is `2^63 - 1` -/
example : nodeBitsOf .cuckarood 0 = 255 ∧ (maskOfBits 255).toNat = 2^63 - 1 ∧
    nodeBitsOf .cuckarooz 255 = 0 ∧ (maskOfBits 0).toNat = 0 := by decide

end GV.Props.C05Entry
