import GrinVerif.Lemmas.CrashRecovL
import GrinVerif.Props.C09
/-! C09, the start-up recovery as a sequence of durable writes (`Model/CrashRecov.lean`): a second
process death DURING `Chain::init`, then another restart.

Proved here, for every block table, every durable state and every bitmap-commitment function:
* `recoverS_refines` — the loop acting on the files it has itself just rewritten ends exactly like
  the net-effect loop of `Model/Crash.lean` (so every theorem of `Props/C09.lean` about `recover`
  is a theorem about the code-shaped `recoverS`);
* `recover_idempotent` — the state a completed recovery leaves reopens on the same head;
* `recover_restartable_no_fallback` — where the header files hold exactly the header head's path and the
  stored head validates, a death after ANY number of the recovery's own
  writes, followed by another restart, ends on the same head.
NOT proved, and false of the unchanged code (known finding C09-recovery-not-restartable): the same
for a recovery that has to fall back. In the model it would hold (truncation only shortens files);
in the code `AppendOnlyFile::flush` of a rewind beyond the end of an already shortened file GROWS
the file with zero bytes, which empties the kernel data file; the crash run shows this on the real
node at every second crash point behind the first fallback iteration. -/
namespace GV.Props.C09Recov
open GV.Crash

/-- **`recoverS` refines `recover`**: the recovery that judges each candidate on the files its own
previous iteration left on disk (the code as it is) opens / fails / lands exactly as the net-effect
model used by all theorems of `Props/C09.lean`. -/
theorem recoverS_refines (bcf : Nat → Bool) (tbl : List BlkInfo) (d : Durable) :
    (recoverS bcf tbl d).2 = recover bcf tbl d := recoverS_outcome bcf tbl d

/-- **Recovery is idempotent.** If `Chain::init` opens a durable state on head `h`, the durable
state it leaves behind (header files truncated, txhashset files synced at every fallback step,
body head committed) opens on `h` again — whatever the state was and however far the loop fell
back. -/
theorem recover_idempotent (bcf : Nat → Bool) (tbl : List BlkInfo) (d : Durable) (h : Nat)
    (hr : recover bcf tbl d = .ok h) :
    recover bcf tbl (recovered bcf tbl d) = .ok h := by
  obtain ⟨hpath, hlen, hp, hdata⟩ := recover_ok_hdr hr
  have hS := recoverS_outcome bcf tbl d
  rw [hr, recoverS_of_hdr bcf tbl d hpath hlen hp hdata] at hS
  rw [recovered, recoverS_of_hdr bcf tbl d hpath hlen hp hdata]
  generalize hF : fallbackS bcf tbl (tbl.length + 1) (runIns d (hdrIns hpath)) d.dbHead = F at hS ⊢
  cases hF2 : F.2 with
  | openFail w => simp [hF2] at hS
  | ok hf =>
    simp only [hF2] at hS ⊢
    obtain rfl : hf = h := by simpa using hS
    -- the head's path exists: the loop found it
    obtain ⟨P0, hP0⟩ : ∃ P0, pathOf tbl (tbl.length + 1) d.dbHead [] = some P0 := by
      cases hq : pathOf tbl (tbl.length + 1) d.dbHead [] with
      | some P0 => exact ⟨P0, rfl⟩
      | none =>
        have : F.2 = .openFail .storeErr := by
          rw [← hF]; unfold fallbackS; simp [hq]
        rw [this] at hF2; cases hF2
    obtain ⟨PF, hPF, hval⟩ := fallbackS_final bcf tbl (tbl.length + 1) (runIns d (hdrIns hpath)) d.dbHead hf P0 hP0
      (pathOf_length_le tbl _ _ _ hP0) (by rw [hF]; exact hF2)
    rw [hF] at hval
    -- the loop's writes leave the header side as the header truncations left it
    obtain ⟨k1, k2, k3, _⟩ := runIns_tx_keeps F.1 (runIns d (hdrIns hpath)) (hF ▸ txOnly_fallbackS bcf tbl _ _ _)
    rw [runIns_append, runIns_append]
    generalize runIns (runIns d (hdrIns hpath)) F.1 = D at hval k1 k2 k3 ⊢
    have h0 : HdrOk tbl (runIns d (hdrIns hpath)) :=
      ⟨by show (d.hdrHash.take hpath.length).length = (d.hdrData.take hpath.length).length
          rw [List.length_take, List.length_take, hlen], hpath, hp, hdata ▸ List.prefix_refl _⟩
    have hh : HdrOk tbl (runIns D [{ step := .headCommit, path := [], readd := [], head := hf }]) :=
      h0.of_view (show hdrView D = _ by simp only [hdrView, k1, k2, k3])
    rw [recover_of_hdrOk bcf tbl _ hh]
    exact fallbackWith_stop _ hf [] PF hPF hval

/-- Let the header files hold exactly the header head's path and the stored body head validate on the
files as they are. Whatever prefix of its own writes the recovery got through, the header files, both
heads and the validity of the stored head's path are what they were. -/
theorem recCrashAfter_kept (bcf : Nat → Bool) (tbl : List BlkInfo) (d : Durable)
    (hp P : List BlkInfo)
    (hhp : pathOf tbl (tbl.length + 1) d.dbHHead [] = some hp)
    (hl1 : d.hdrHash.length = hp.length) (hl2 : d.hdrData.length = hp.length)
    (hdata : d.hdrData = hp.map (·.id))
    (hP : pathOf tbl (tbl.length + 1) d.dbHead [] = some P)
    (hv : P.length ≤ 1 ∨ validAt bcf d [] P = true) (k : Nat) :
    Kept bcf d P (recCrashAfter bcf tbl d k) := by
  -- the writes of this recovery: the header truncations, one sync at `P`, the commit of the same head
  have hins : ∀ i ∈ (recoverS bcf tbl d).1, Good d hp P i := by
    rw [recoverS_of_hdr bcf tbl d hp (hl1.trans hl2.symm) hhp (by rw [hdata]; exact take_map_len hp)]
    have hf : fallbackS bcf tbl (tbl.length + 1) (runIns d (hdrIns hp)) d.dbHead =
        (syncIns P [], .ok d.dbHead) := by
      unfold fallbackS
      simp only [hP]
      rcases hv with hv | hv
      · simp [hv]
      · have : validAt bcf (runIns d (hdrIns hp)) [] P = true := hv
        by_cases h1 : P.length ≤ 1
        · simp [h1]
        · simp [h1, this]
    rw [hf]
    intro i hi
    simp only [List.mem_append, List.mem_cons, List.mem_nil_iff, or_false] at hi
    rcases hi with (hi | hi) | hi
    · simp only [hdrIns, List.mem_cons, List.mem_nil_iff, or_false] at hi
      rcases hi with rfl | rfl
      · exact .hdr (Or.inl rfl) rfl
      · exact .hdr (Or.inr rfl) rfl
    · simp only [syncIns, List.mem_cons, List.mem_nil_iff, or_false] at hi
      rcases hi with rfl | rfl | rfl | rfl | rfl <;> exact .sync (by simp) rfl rfl
    · subst hi; exact .commit rfl rfl
  exact kept_run bcf d hp P (Nat.le_of_eq hl1) (Nat.le_of_eq hl2)
    ((recoverS bcf tbl d).1.take k) d ⟨rfl, rfl, rfl, rfl, rfl⟩
    (fun i hi => hins i (List.mem_of_mem_take hi))

/-- hence any start-up function that, on header files consistent with the header head, opens on a
stored head that validates, opens the same way after any number of that recovery's writes -/
theorem recCrashAfter_restartable {α : Type} (R : Durable → α) (r : α) (bcf : Nat → Bool) (tbl : List BlkInfo)
    (d : Durable) (hp P : List BlkInfo)
    (hhp : pathOf tbl (tbl.length + 1) d.dbHHead [] = some hp)
    (hl1 : d.hdrHash.length = hp.length) (hl2 : d.hdrData.length = hp.length)
    (hdata : d.hdrData = hp.map (·.id))
    (hP : pathOf tbl (tbl.length + 1) d.dbHead [] = some P)
    (hv : P.length ≤ 1 ∨ validAt bcf d [] P = true)
    (hR : ∀ D, HdrOk tbl D → D.dbHead = d.dbHead → (P.length ≤ 1 ∨ validAt bcf D [] P = true) → R D = r)
    (k : Nat) : R (recCrashAfter bcf tbl d k) = r := by
  have hk := recCrashAfter_kept bcf tbl d hp P hhp hl1 hl2 hdata hP hv k
  exact hR _ (hk.hdrOk ⟨by rw [hl1, hl2], hp, hhp, by rw [hdata]; exact List.prefix_refl _⟩) hk.head
    (hv.imp_right fun h => hk.valid.trans h)

/-- **A recovery that does not have to fall back can be killed anywhere.** Let the header files
hold exactly the header head's path and the stored body head validate on the files as they are
(among the crash points `Props/C09.lean` proves safe: those at which `header_head` already names the
last header on file — before the header files are touched, or after the commit that moves it; not
`k = 5` of a plain extension, nor `k ≥ 6` when `header_head` does not move). Then a process that dies
after ANY number `k` of the recovery's own durable writes leaves a state that reopens on the same
head: `recover (recCrashAfter d k) = recover d = ok head`, for every `k`. -/
theorem recover_restartable_no_fallback (bcf : Nat → Bool) (tbl : List BlkInfo) (d : Durable)
    (hp P : List BlkInfo)
    (hhp : pathOf tbl (tbl.length + 1) d.dbHHead [] = some hp)
    (hl1 : d.hdrHash.length = hp.length) (hl2 : d.hdrData.length = hp.length)
    (hdata : d.hdrData = hp.map (·.id))
    (hP : pathOf tbl (tbl.length + 1) d.dbHead [] = some P)
    (hv : P.length ≤ 1 ∨ validAt bcf d [] P = true) (k : Nat) :
    recover bcf tbl (recCrashAfter bcf tbl d k) = .ok d.dbHead ∧ recover bcf tbl d = .ok d.dbHead := by
  have hR : ∀ D, HdrOk tbl D → D.dbHead = d.dbHead → (P.length ≤ 1 ∨ validAt bcf D [] P = true) →
      recover bcf tbl D = .ok d.dbHead := fun D hD hh hvD => by
    rw [recover_of_hdrOk bcf tbl D hD, hh]
    exact fallbackWith_stop _ _ [] P hP hvD
  exact ⟨recCrashAfter_restartable _ _ bcf tbl d hp P hhp hl1 hl2 hdata hP hv hR k,
    hR d ⟨by rw [hl1, hl2], hp, hhp, by rw [hdata]; exact List.prefix_refl _⟩ rfl hv⟩

/-! ### non-vacuity (the witness chain of `Props/C09.lean`: b8 spends o6, heights ≥ 6 commit to the
bitmap) -/
open GV.Props.C09 in
/-- the txhashset window (death after the leaf-set rename, step 14): the recovery falls back two
blocks (b7 → b6 → b5: two rewinding syncs and the final one) and writes 2 + 5·3 + 1 = 18 durable steps; the state it leaves reopens on the same head -/
example : (recoverS bc tbl9 (crashAfter tgt9 (consistent old8) blockSteps 14)).2 = .ok 5 ∧
    (recoverS bc tbl9 (crashAfter tgt9 (consistent old8) blockSteps 14)).1.length = 18 ∧
    recover bc tbl9 (recovered bc tbl9 (crashAfter tgt9 (consistent old8) blockSteps 14)) = .ok 5 := by
  decide +kernel

open GV.Props.C09 in
/-- a safe crash point (step 9: files hold the new block, leaf set and head still old): the
hypotheses of `recover_restartable_no_fallback` hold and every second death reopens on b7 -/
example : ∀ k, recover bc tbl9 (recCrashAfter bc tbl9 (crashAfter tgt9 (consistent old8) blockSteps 9) k) = .ok 7 := by
  intro k
  have := recover_restartable_no_fallback bc tbl9 (crashAfter tgt9 (consistent old8) blockSteps 9)
    tbl9 old8 (by decide +kernel) (by decide +kernel) (by decide +kernel) (by decide +kernel) (by decide +kernel) (Or.inr (by decide +kernel)) k
  exact this.1

open GV.Props.C09 in
/-- in the model a death inside a recovery that falls back is harmless too (files only get
shorter); the real node disagrees there (known finding C09-recovery-not-restartable) -/
example : recover bc tbl9 (recCrashAfter bc tbl9 (crashAfter tgt9 (consistent old8) blockSteps 14) 9) = .ok 5 := by
  decide +kernel

end GV.Props.C09Recov
