import GrinVerif.Props.C04
/-! # C04: "a strictly later timestamp than the parent's" is a SIGNED comparison

`BlockHeader::timestamp` is a `DateTime<Utc>`; `read_block_header` accepts every second count in
chrono's `NaiveDate` range, negative ones (before 1970) included, and the future-time limit bounds
a timestamp from above only.  `pipe::validate_header` compares `header.timestamp <= prev.timestamp`
on the `DateTime`s, i.e. on signed seconds: model `Hdr.ts : Int`.  (The `as u64` cast of a timestamp
happens only inside `DifficultyIter`, for the retarget.)

Theorems, for every header, parent and context — timestamps any integers, negative or not:
* an accepted header is strictly later than its parent over `Int` (`accepted_later_than_parent`),
  at node level for the single-header path, every header of an accepted batch and every accepted
  block (`stored_later_than_parent`, `batch_later_than_parent`, `block_later_than_parent`);
* a header that is not later is refused at the time check or an earlier one
  (`not_later_refused`), in particular a pre-epoch child of a post-epoch parent
  (`pre_epoch_child_refused`), whatever options, verifier answer and difficulty window
  (`time_rule_before_retarget`: the retarget is not consulted, so no wrapped or huge span reaches
  `next_difficulty`), and the verdict is not a panic (`not_later_no_panic`);
* on a chain whose timestamps strictly increase — across the epoch or entirely before it — the span
  the WTEMA retarget computes on the `as u64` casts is the true signed span, its divisor is not zero
  and `validate_header` does not panic (`wtema_span_signed`, `validate_header_no_panic_signed`). -/
namespace GV.Props.C04Time
open GV GV.Gen GV.Cons

/-- **Acceptance implies `child.ts > parent.ts` over `Int`.** -/
theorem accepted_later_than_parent (c : Ctx) (h : Hdr) (hv : validateHeader c h = .ok ()) :
    ∃ prev, c.prev = some prev ∧ prev.ts < h.ts := by
  obtain ⟨prev, hp, _, _, ht, _⟩ := ((C04.validate_header_iff c h).mp hv).parent
  exact ⟨prev, hp, ht⟩

/-- A header that is not strictly later than its parent is refused, by the time check or one of the
checks in front of it (denylist, height, version) — never later, never accepted. -/
theorem not_later_refused (c : Ctx) (h prev : Hdr) (hp : c.prev = some prev) (hle : h.ts ≤ prev.ts) :
    validateHeader c h = .error .Denied ∨ validateHeader c h = .error .InvalidBlockHeight ∨
    validateHeader c h = .error .InvalidBlockVersion ∨ validateHeader c h = .error .InvalidBlockTime := by
  unfold validateHeader
  -- the time check is the fifth `if`: `if_pos hle` cuts off everything behind it
  simp only [hp, if_pos hle]
  split
  · exact .inl rfl
  split
  · exact .inr (.inl rfl)
  split
  · exact .inr (.inr (.inl rfl))
  · exact .inr (.inr (.inr rfl))

/-- with a parent at the delivered height − 1 and the scheduled version, the answer is exactly
`InvalidBlockTime` -/
theorem not_later_invalid_block_time (c : Ctx) (h prev : Hdr) (hd : c.denied = false)
    (hp : c.prev = some prev) (hh : h.height = addW prev.height 1)
    (hv : validHeaderVersion c.ct h.height h.version = true) (hle : h.ts ≤ prev.ts) :
    validateHeader c h = .error .InvalidBlockTime := by
  unfold validateHeader
  simp [hd, hp, hh, hle]
  rw [← hh]
  simp [hv]

/-- a header dated before the unix epoch on a parent dated at or after it is refused -/
theorem pre_epoch_child_refused (c : Ctx) (h prev : Hdr) (hp : c.prev = some prev)
    (hneg : h.ts < 0) (hpos : 0 ≤ prev.ts) : validateHeader c h ≠ .ok () := by
  intro hv
  obtain ⟨p, hp', hlt⟩ := accepted_later_than_parent c h hv
  rw [hp] at hp'
  cases hp'
  omega

/-- **The time rule comes before the proof of work and the retarget.**  For a header that is not
later than its parent the verdict does not depend on the options, the verifier's answer or the
difficulty window: `next_difficulty` is not consulted (so no wrapped or huge time span reaches it). -/
theorem time_rule_before_retarget (c : Ctx) (h prev : Hdr) (hp : c.prev = some prev)
    (hle : h.ts ≤ prev.ts) (w : List HDI) (skip pok : Bool) :
    validateHeader { c with window := w, skipPow := skip, powOk := pok } h = validateHeader c h := by
  unfold validateHeader
  -- window, options and verifier are read only behind the time check, which `if_pos hle` cuts off
  simp only [hp, if_pos hle]

theorem not_later_no_panic (c : Ctx) (h prev : Hdr) (hp : c.prev = some prev) (hle : h.ts ≤ prev.ts) :
    validateHeader c h ≠ .error .Panic := by
  rcases not_later_refused c h prev hp hle with e | e | e | e <;> rw [e] <;> intro x <;> cases x

/-- single-header path: whatever `process_block_header` stores is strictly later than its stored
parent, over `Int` -/
theorem stored_later_than_parent (n n' : HNode) (opts : Opts) (f : FHdr)
    (h : nodeProcessBlockHeader n opts f = .ok n') (hne : n' ≠ n) :
    ∃ prev, getHdr n.hdrs f.prevHash = some prev ∧ prev.h.ts < f.h.ts := by
  rcases C04.node_process_block_header_sound n opts f n' h with hs | ⟨hr, _⟩
  · exact absurd hs hne
  · obtain ⟨p, hp, _, ht, _⟩ := headerRules_parent hr
    exact ⟨p, hp, ht⟩

/-- batch path: every header of an accepted batch is strictly later than its predecessor as the
batch sees the store -/
theorem batch_later_than_parent (n n' : HNode) (opts : Opts) (sh : Tip) (r : Bool)
    (pre : List FHdr) (f : FHdr) (post : List FHdr)
    (h : processBlockHeaders n opts sh (pre ++ f :: post) = .ok (n', r)) :
    ∃ prev, getHdr (pre.reverse ++ n.hdrs) f.prevHash = some prev ∧ prev.h.ts < f.h.ts := by
  obtain ⟨hb, _⟩ := C04.sync_batch_sound n opts sh _ n' r h
  obtain ⟨p, hp, _, ht, _⟩ := headerRules_parent (batchRules_mem pre n.hdrs f post hb)
  exact ⟨p, hp, ht⟩

/-- a refused batch — for instance one holding a header that is not later than its parent — leaves
the node as it was -/
theorem batch_with_earlier_header_refused (n : HNode) (opts : Opts) (sh : Tip)
    (pre : List FHdr) (f : FHdr) (post : List FHdr)
    (hbad : ∀ prev, getHdr (pre.reverse ++ n.hdrs) f.prevHash = some prev → f.h.ts ≤ prev.h.ts) :
    syncStep n opts sh (pre ++ f :: post) = n := by
  unfold syncStep
  split
  · rename_i n' r hp
    obtain ⟨p, hp1, hlt⟩ := batch_later_than_parent n n' opts sh r pre f post hp
    have := hbad p hp1
    omega
  · rfl

/-- block path: an accepted block's header is strictly later than its stored parent -/
theorem block_later_than_parent (n : HNode) (opts : Opts) (f : FHdr) (bodyOk : Bool)
    (h : (nodeProcessBlock n opts f bodyOk).2 = .ok ())
    (hnew : getHdr n.hdrs f.hash = none) (hcold : ¬ (f.hash = n.head.hash ∨ f.hash = n.head.prevHash)) (hnb : f.hash ∉ n.blocks) :
    ∃ prev, getHdr n.hdrs f.prevHash = some prev ∧ prev.h.ts < f.h.ts := by
  revert h
  refine nodeProcessBlock_elim (P := fun r => r.2 = .ok () →
      ∃ prev, getHdr n.hdrs f.prevHash = some prev ∧ prev.h.ts < f.h.ts) n opts f bodyOk
    (fun e h => by cases h) (fun n1 e _ h => by cases h) (fun n1 n2 h1 _ _ _ => ?_)
  by_cases hne : n1 = n
  · -- the first pass changed nothing: it took a short-cut, impossible for a new hash
    exfalso
    subst hne
    unfold nodeProcessBlockHeader at h1
    have hk : checkKnown n1 f = .ok () := by
      unfold checkKnown
      simp [hcold, hnb]
    rw [hk] at h1
    dsimp only at h1
    split at h1
    · cases h1
    rw [hnew] at h1
    -- `pbhApply` stores `f`: the store grows
    obtain ⟨_, _, _, _, _, _, _, hn⟩ := pbhApply_ok h1
    have := congrArg (fun x => x.hdrs.length) hn
    simp [HNode.commit_hdrs] at this
  · exact stored_later_than_parent n n1 opts f h1 hne

/-! ### the retarget on strictly increasing signed timestamps -/

/-- `timestamp() as u64` of two timestamps in the reader's range, the later one first: the wrapping
`u64` difference `DifficultyIter`'s consumers compute is the true signed span — also across the
epoch and entirely before it -/
theorem wtema_span_signed (a b : Int) (hlt : b < a) (ha : a < 2^62) (hb : -(2^62) ≤ b) :
    (subW (tsU64 a) (tsU64 b) : Int) = a - b :=
  span_signed a b hlt (by omega)

/-- **On a chain with strictly increasing signed timestamps `validate_header` does not panic**,
whether the parent `a` and grand-parent `b` are dated after the epoch, before it, or on either side
of it: the WTEMA divisor `WTEMA_HALF_LIFE - BLOCK_TIME_SEC + span` is computed on the true span. -/
theorem validate_header_no_panic_signed (c : Ctx) (h a b : Hdr) (rest : List Hdr)
    (hw : c.window = difficultyIter (a :: b :: rest)) (hlt : b.ts < a.ts)
    (ha : a.ts < 2^62) (hb : -(2^62) ≤ b.ts) : validateHeader c h ≠ .error .Panic :=
  C04.no_panic_of_span c h a b rest hw hlt (by rw [WTEMA_HALF_LIFE_val]; omega)

/-! ### examples: pre-epoch timestamps (hypotheses satisfiable, verdicts as stated) -/

-- a child dated 1969-12-31 23:59:00 on a parent dated 1060: refused by the time check
example : validateHeader C04.exCtx { C04.exHdr with ts := -60 } = .error .InvalidBlockTime := by
  decide +kernel
-- parent before the epoch: a later (still negative) child is accepted, an equal or earlier one is not
example : validateHeader { C04.exCtx with prev := some { C04.exPrev with ts := -2000 } }
    { C04.exHdr with ts := -1990 } = .ok () := by decide +kernel
example : validateHeader { C04.exCtx with prev := some { C04.exPrev with ts := -2000 } }
    { C04.exHdr with ts := -2000 } = .error .InvalidBlockTime := by decide +kernel
example : validateHeader { C04.exCtx with prev := some { C04.exPrev with ts := -2000 } }
    { C04.exHdr with ts := -2001 } = .error .InvalidBlockTime := by decide +kernel
-- a window across the epoch: the retarget sees the true 60 s span
example : nextWtemaDifficulty .mainnet [⟨tsU64 30, 1000000, 0, false⟩, ⟨tsU64 (-30), 999, 0, false⟩] =
    nextWtemaDifficulty .mainnet [⟨1060, 1000000, 0, false⟩, ⟨1000, 999, 0, false⟩] := by decide +kernel

end GV.Props.C04Time
