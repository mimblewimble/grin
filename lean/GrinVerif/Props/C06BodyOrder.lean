import GrinVerif.Model.ChainBodyOrder
import GrinVerif.Model.ChainBodyTags
import GrinVerif.Gen.PipeShapeCore
import GrinVerif.Props.XlateShapeLib
/-! The order of the stateless body checks (`Model/ChainBodyOrder.lean`): the fault `withBodyOrder`
puts in front is one of least stage (`firstFault_min`), a block without body-stage fault is left
alone (`withBodyOrder_id`), and the stage numbering IS the order regenerated from the current source
of `TransactionBody::validate_read` / `validate` and `Block::validate` (`body_stage_order_is_code`).
That the error CLASSES map to the right stage is observed by the runs: `hist` delivers two-fault
blocks and the sweep `c01` two-fault transactions with the first stage of the code's order as the
expected verdict. -/
namespace GV.Props.C06BodyOrder
open GV GV.Chain GV.Gen.PipeShape GV.Props.XlateShape

/-- some fault is found whenever there is one -/
theorem firstFault_isSome (l : List (Nat × String)) (h : l ≠ []) : (firstFault l).isSome := by
  cases l with
  | nil => exact absurd rfl h
  | cons a as =>
    unfold firstFault
    cases firstFault as with
    | none => rfl
    | some y => simp only; split <;> rfl

/-- **first failing stage**: the chosen fault is one of the block's faults and no fault of the
block belongs to an earlier stage -/
theorem firstFault_min (l : List (Nat × String)) (x : Nat × String) (h : firstFault l = some x) :
    x ∈ l ∧ ∀ y ∈ l, x.1 ≤ y.1 := by
  induction l generalizing x with
  | nil => cases h
  | cons a as ih =>
    unfold firstFault at h
    cases hr : firstFault as with
    | none =>
      rw [hr] at h
      injection h with h; subst h
      have : as = [] := by
        cases as with
        | nil => rfl
        | cons c cs => have := firstFault_isSome (c :: cs) nofun; rw [hr] at this; cases this
      subst this
      exact ⟨by simp, by intro y hy; simp at hy; subst hy; exact Nat.le_refl _⟩
    | some y =>
      rw [hr] at h
      simp only at h
      obtain ⟨hy, hmin⟩ := ih y hr
      by_cases hle : a.1 ≤ y.1
      · rw [if_pos hle] at h
        injection h with h; subst h
        refine ⟨by simp, ?_⟩
        intro z hz
        rcases List.mem_cons.mp hz with hz | hz
        · subst hz; exact Nat.le_refl _
        · exact Nat.le_trans hle (hmin z hz)
      · rw [if_neg hle] at h
        injection h with h; subst h
        refine ⟨List.mem_cons_of_mem _ hy, ?_⟩
        intro z hz
        rcases List.mem_cons.mp hz with hz | hz
        · subst hz; omega
        · exact hmin z hz

/-- a block without body-stage fault is left as it is: acceptance is untouched -/
theorem withBodyOrder_id (b : Blk) (h : bodyFaults b = []) : b.withBodyOrder = b := by
  unfold Blk.withBodyOrder
  rw [h]
  rfl

/-! ### the ordered block is answered with the chosen error (structured tags, `Model/ChainBodyTags.lean`) -/

theorem firstBody_none_of_no_body (ts : List STag) (h : ∀ t ∈ ts, t.isBody = false) : firstBody ts = none := by
  induction ts with
  | nil => rfl
  | cons t ts ih =>
    cases t with
    | body e => have := h (.body e) (by simp); simp [STag.isBody] at this
    | ksum e => exact ih (fun t ht => h t (List.mem_cons_of_mem _ ht))
    | other r => exact ih (fun t ht => h t (List.mem_cons_of_mem _ ht))

theorem firstBody_ne_none_of_mem (ts : List STag) (e : Err) (h : STag.body e ∈ ts) : firstBody ts ≠ none := by
  induction ts with
  | nil => cases h
  | cons a as ih =>
    cases a with
    | body x => simp [firstBody]
    | ksum x =>
      rcases List.mem_cons.mp h with h | h
      · cases h
      · simpa [firstBody] using ih h
    | other x =>
      rcases List.mem_cons.mp h with h | h
      · cases h
      · simpa [firstBody] using ih h

/-- **`validateBody (withBodyOrder b)` = the chosen error**: whenever the block has a body-stage
fault, the ordered block is refused with the error of the fault `firstFault` chose - by
`firstFault_min` one of the least stage in the code's order -/
theorem validateBodyS_ordered (p : Params) (outs : List OutDef) (b : Blk) (ts : List STag) (iv k : Nat)
    (e : Err) (h : firstFault (bodyFaultsS b ts) = some (k, e)) :
    validateBodyS p outs b (withBodyOrderS b ts) iv = some e := by
  unfold withBodyOrderS validateBodyS
  rw [h]
  rfl

/-- a block without body-stage fault keeps its tags, and then has no `body:` tag, no repeated
commitment and no cut-through: `validateBodyS` goes on to the block-level checks exactly as before -/
theorem validateBodyS_no_fault (b : Blk) (ts : List STag) (h : bodyFaultsS b ts = []) :
    withBodyOrderS b ts = ts ∧ firstBody ts = none ∧ dupInBody b = false ∧ cutThroughViolation b = false := by
  unfold bodyFaultsS at h
  have h1 := List.append_eq_nil_iff.mp h
  have h2 := List.append_eq_nil_iff.mp h1.1
  refine ⟨by unfold withBodyOrderS bodyFaultsS; rw [h]; rfl, ?_, ?_, ?_⟩
  · apply firstBody_none_of_no_body
    intro t ht
    cases t with
    | body e =>
      have : (bodyStage e, e) ∈ ts.filterMap STag.bodyFault :=
        List.mem_filterMap.mpr ⟨.body e, ht, rfl⟩
      rw [h2.1] at this
      cases this
    | ksum e => rfl
    | other r => rfl
  · cases hd : dupInBody b with
    | false => rfl
    | true => rw [hd] at h2; simp at h2
  · cases hc : cutThroughViolation b with
    | false => rfl
    | true => rw [hc] at h1; simp at h1

/-- acceptance is untouched by the ordering: the ordered block passes iff the block passes -/
theorem validateBodyS_ordered_none_iff (p : Params) (outs : List OutDef) (b : Blk) (ts : List STag) (iv : Nat) :
    validateBodyS p outs b (withBodyOrderS b ts) iv = none ↔ validateBodyS p outs b ts iv = none := by
  cases hf : firstFault (bodyFaultsS b ts) with
  | some x =>
    obtain ⟨k, e⟩ := x
    rw [validateBodyS_ordered p outs b ts iv k e hf]
    constructor
    · intro h; cases h
    · intro h
      -- the block has a fault, so the unordered block is refused as well (the converse of
      -- `validateBodyS_no_fault`): a fault of the list is a `body:` tag, a repeated commitment or
      -- cut-through, and `validateBodyS` stops at each of the three
      exfalso
      have hm := (firstFault_min _ _ hf).1
      unfold bodyFaultsS at hm
      unfold validateBodyS at h
      rcases List.mem_append.mp hm with hm | hm
      · rcases List.mem_append.mp hm with hm | hm
        · obtain ⟨t, ht, hte⟩ := List.mem_filterMap.mp hm
          cases t with
          | body e' =>
            have : firstBody ts ≠ none := firstBody_ne_none_of_mem ts e' ht
            cases hb : firstBody ts with
            | none => exact this hb
            | some x => rw [hb] at h; cases h
          | ksum e' => cases hte
          | other r => cases hte
        · cases hd : dupInBody b with
          | false => rw [hd] at hm; simp at hm
          | true =>
            rw [hd] at h
            cases hb : firstBody ts <;> rw [hb] at h <;> simp at h
      · cases hc : cutThroughViolation b with
        | false => rw [hc] at hm; simp at hm
        | true =>
          rw [hc] at h
          cases hb : firstBody ts <;> rw [hb] at h <;> simp at h
          split at h <;> simp at h
  | none =>
    have : withBodyOrderS b ts = ts := by unfold withBodyOrderS; rw [hf]
    rw [this]

/-- non-vacuity: a block that names one input twice, with a kernel-sum tag (no body-stage fault) among its
tags, is answered `Serialization` once ordered -/
example : validateBodyS {} [] { id := 1, parent := some 0, h := 1, work := 1, ver := 1, ts := 1, ins := [4, 4], outs := [], kers := [], tags := [] }
    (withBodyOrderS { id := 1, parent := some 0, h := 1, work := 1, ver := 1, ts := 1, ins := [4, 4], outs := [], kers := [], tags := [] }
      [.other "kind:x", .ksum "Block:KernelSumMismatch"]) 0
    = some "Block:Transaction:Serialization" := by decide +kernel

/-- the stages of `bodyStage`, in its numbering -/
def stageNames : List String :=
  ["verify_weight", "verify_no_nrd_duplicates", "verify_sorted", "verify_cut_through",
   "batch_verify_proofs", "batch_sig_verify"]

/-- **stage order = code**: the numbering of `bodyStage` is the order of checks read from the
current source of `TransactionBody::validate_read` followed by the rest of
`TransactionBody::validate`; `Block::validate` runs the body first, then lock heights, the NRD era,
the coinbase claim and the kernel sums - the order of `validateBody` after its `body:` tag; and
`Transaction::validate` checks the features BEFORE the body while `validate_read` checks them after -/
theorem body_stage_order_is_code :
    readOk body_validate_read = true ∧ readOk body_validate = true ∧ readOk block_validate = true ∧
    spine body_validate_read ++ (spine body_validate).filter (· != "validate_read") = stageNames ∧
    spine block_validate = ["validate", "verify_kernel_lock_heights", "verify_nrd_kernels_for_header_version",
      "verify_coinbase", "block_kernel_offset", "verify_kernel_sums"] ∧
    spine tx_validate = ["verify_features", "validate", "verify_kernel_sums"] ∧
    spine tx_validate_read = ["validate_read", "verify_features"] := ⟨rfl, rfl, rfl, rfl, rfl, rfl, rfl⟩

/-- non-vacuity of `firstFault_min`: three faults, the one of the least stage wins, the earlier of
two equal ones -/
example : firstFault [(5, "sig"), (2, "unsorted"), (4, "proof"), (2, "repeated")] = some (2, "unsorted") := by decide +kernel

end GV.Props.C06BodyOrder
