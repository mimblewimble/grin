import GrinVerif.Model.ChainOrphans
import GrinVerif.Model.Chain
/-! C03, the bounded orphan pool (`Model/ChainOrphans.lean` = `OrphanBlockPool::add` /
`remove_by_height`, chain/src/chain.rs). The arrival-order theorems of `Props/C03` are about the
unbounded pool of `Model/Chain.lean` (`addOrphan`); the hypothesis under which they speak about the
node - "at most MAX_ORPHAN_SIZE blocks wait at once" - is discharged here for the pool as coded:

* `add_within_capacity` / `add_is_addOrphan`: while the pool holds at most `maxSize` blocks after
  the insertion, `add` evicts nothing and its content is the unbounded pool's (`addOrphan`);
* `evictLoop_sub` / `add_keeps_only_old_or_new`: beyond the capacity the pool only loses blocks,
  it never invents or duplicates one;
* concrete evictions (kernel-checked): the whole group of the greatest height goes first - the
  block just added included when it is the highest - and the loop goes on to the next height while
  `maxSize` or more are left (`<`, not `≤`: one insertion beyond the capacity can remove more than
  one height). -/

namespace GV.Props.C03Orphans
open GV GV.Chain

/-- the content of the pool after an insertion when nothing is evicted -/
def inserted (P : OPool) (id h : Nat) : List (Nat × Nat) :=
  if P.orphans.any (·.1 == id) then P.orphans else P.orphans ++ [(id, h)]

/-- within the capacity `add` evicts nothing -/
theorem add_within_capacity (maxSize : Nat) (P : OPool) (id h : Nat)
    (hc : (inserted P id h).length ≤ maxSize) :
    (P.add maxSize id h).orphans = inserted P id h ∧ (P.add maxSize id h).evicted = P.evicted := by
  unfold OPool.add inserted at *
  simp only
  rw [if_neg (by omega)]
  exact ⟨rfl, rfl⟩

/-- beyond it, what is left is what the eviction loop leaves of `inserted` -/
theorem add_beyond_capacity (maxSize : Nat) (P : OPool) (id h : Nat)
    (hc : (inserted P id h).length > maxSize) :
    ∃ hs hi, (P.add maxSize id h).orphans = (evictLoop maxSize hs (inserted P id h) hi).1 := by
  unfold OPool.add inserted at *
  simp only
  rw [if_pos hc]
  exact ⟨_, _, rfl⟩

/-- a pool with room left takes a new block and loses none -/
theorem add_new_with_room (maxSize : Nat) (P : OPool) (id h : Nat)
    (hr : P.orphans.length < maxSize) (hn : P.orphans.any (·.1 == id) = false) :
    (P.add maxSize id h).orphans = P.orphans ++ [(id, h)] := by
  have hi : inserted P id h = P.orphans ++ [(id, h)] := by simp [inserted, hn]
  have := add_within_capacity maxSize P id h (by rw [hi]; simp; omega)
  rw [this.1, hi]

/-- within the capacity the ids in the pool evolve exactly like the unbounded orphan list of
`Model/Chain.lean` (`addOrphan`: append unless already there) -/
theorem add_is_addOrphan (maxSize : Nat) (P : OPool) (n : Node) (b : Blk)
    (hn : n.orphans = P.orphans.map (·.1))
    (hc : (inserted P b.id b.h).length ≤ maxSize) :
    (addOrphan n b).orphans = ((P.add maxSize b.id b.h).orphans).map (·.1) := by
  rw [(add_within_capacity maxSize P b.id b.h hc).1]
  unfold addOrphan inserted
  simp only
  have hcont : n.orphans.contains b.id = P.orphans.any (·.1 == b.id) := by
    rw [hn]
    induction P.orphans with
    | nil => rfl
    | cons o os ih =>
      simp only [List.map_cons, List.contains_cons, List.any_cons, ih]
      congr 1
      exact Bool.beq_comm
  rw [hcont]
  cases P.orphans.any (·.1 == b.id) <;> simp [hn]

/-- the eviction loop only removes -/
theorem evictLoop_sub (maxSize : Nat) (hs : List Nat) :
    ∀ (os : List (Nat × Nat)) (hi : List (Nat × List Nat)) o,
      o ∈ (evictLoop maxSize hs os hi).1 → o ∈ os := by
  induction hs with
  | nil => intro os hi o h; exact h
  | cons h hs ih =>
    intro os hi o ho
    unfold evictLoop at ho
    simp only at ho
    split at ho <;>
      (split at ho
       · exact (List.mem_filter.mp ho).1
       · exact (List.mem_filter.mp (ih _ _ o ho)).1)

/-- whatever happens, a block in the pool after `add` was there before or is the block added -/
theorem add_keeps_only_old_or_new (maxSize : Nat) (P : OPool) (id h : Nat) (o : Nat × Nat)
    (ho : o ∈ (P.add maxSize id h).orphans) : o ∈ P.orphans ∨ o = (id, h) := by
  have hins : ∀ x, x ∈ inserted P id h → x ∈ P.orphans ∨ x = (id, h) := by
    intro x hx
    unfold inserted at hx
    split at hx
    · exact Or.inl hx
    · rcases List.mem_append.mp hx with h1 | h1
      · exact Or.inl h1
      · exact Or.inr (by simpa using h1)
  by_cases hgt : (inserted P id h).length > maxSize
  · obtain ⟨hs, hi, e⟩ := add_beyond_capacity maxSize P id h hgt
    rw [e] at ho; exact hins o (evictLoop_sub _ _ _ _ o ho)
  · rw [(add_within_capacity maxSize P id h (by omega)).1] at ho; exact hins o ho

/-! ### concrete evictions (capacity 3) -/

private def P3 : OPool :=
  (((({} : OPool).add 3 10 5).add 3 11 6).add 3 12 6)

/-- three blocks fit -/
example : P3.orphans = [(10, 5), (11, 6), (12, 6)] ∧ P3.evicted = 0 := by decide +kernel

/-- a fourth block at the greatest height: it goes itself, and because exactly `maxSize` blocks are
then left (the loop stops only BELOW the capacity) the next height group goes as well -/
example : (P3.add 3 13 9).orphans = [(10, 5)] ∧ (P3.add 3 13 9).evicted = 3 := by decide +kernel

/-- a fourth block below: the group of the greatest height (two blocks) goes; 2 < 3 stops the loop -/
example : (P3.add 3 13 4).orphans = [(10, 5), (13, 4)] ∧ (P3.add 3 13 4).evicted = 2 := by decide +kernel

/-- the loop stops only BELOW the capacity: with single-block heights an insertion beyond the
capacity evicts two heights -/
example : (((((({} : OPool).add 3 10 5).add 3 11 6).add 3 12 7).add 3 13 4).orphans = [(10, 5), (13, 4)]) := by
  decide +kernel

/-- a block offered twice is held once but indexed twice; `remove_by_height` hands it over once -/
example : ((((({} : OPool).add 3 10 5).add 3 10 5).removeByHeight 5).1 = some [10]) := by decide +kernel

end GV.Props.C03Orphans
