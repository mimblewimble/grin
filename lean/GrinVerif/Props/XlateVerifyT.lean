import GrinVerif.Lemmas.XlateVerify
import GrinVerif.Props.XlateSipnode

/-! # Translated Cuckatoo verifier (`Gen/FnsVerify.lean`) = hand-written model (`Model/Pow.lean`)

`GV.Gen.Fns.Cuckatoo_verify` is regenerated from the CURRENT `core/src/pow/cuckatoo.rs`
(`CuckatooContext::verify_impl`) with release-build semantics (wrapping `2 * n`, `2 * n + 1`, `n - 1`,
`n += 1`; `Vec`s as lists; the two `self.params.sipnode(..)?` calls as `Option` matches; index
conditions and loop exits collected in `Cuckatoo_verify_ok`).  The hand model `verifyCuckatoo`
(= `verifyU cfgCuckatoo`) works on function arrays and one packed `head` map.  Under
`Cuckatoo_verify_ok = true` (the Rust function returns normally) both give the same verdict.

What differs from Cuckaroo: inner-loop test `uvs[k]>>1 == uvs[i]>>1`, dead-end test `j == i || uvs[j] == uvs[i]`,
`headu[b] = head (2*b)`, `headv[b] = head (2*b+1)` with `b = (u >> 1) & mask`, initial xors `(size / 2) & 1 = (size/2) % 2`.

The endpoint hypothesis `hep` says the two `sipnode` calls return `Ok` with the model's endpoints.
`CuckooParams_sipnode` always returns `some` (`sipnode_some` below, by unfolding), and its value is tied
to the `UInt64` model `Pow.sipnode` by `Props/XlateSipnode.lean` `sipnode_eq`; `cuckatoo_verify_eq_sip`
is the corollary with `ep` given explicitly and no `Option` hypothesis left. -/

namespace GV.Props.XlateVerifyT
open GV GV.Gen GV.Gen.Fns GV.Pow GV.Lemmas.XlateVerify

/-- Cuckatoo: the translated `verify_impl` and the model agree on accept / reject, for every chain
type, every parameter set, every proof on which the Rust function returns normally. -/
theorem cuckatoo_verify_rel (ct : ChainTypes) (params : CuckooParams) (proof : Proof)
    (P : Pow.Params) (ep : Nat → Nat × Nat)
    (hP1 : P.proofsize = proofsize ct) (hP2 : P.edgeMask = params.edge_mask)
    (hbk : ∀ u, P.bk u = u &&& shrW (2^64-1) (leadingZeros64 proof.nonces.length))
    (hep : ∀ x, CuckooParams_sipnode params.siphash_keys params.node_mask x 0 = some (ep x).1 ∧
                CuckooParams_sipnode params.siphash_keys params.node_mask x 1 = some (ep x).2)
    (hok : Cuckatoo_verify_ok ct params proof = true) :
    SameVerdict (Cuckatoo_verify ct params proof) (verifyCuckatoo P ep proof.nonces) :=
  t_verify.rel t_build t_circ t_walk rfl rfl (fun _ => Nat.and_one_is_mod _) ct params proof P ep hP1 hP2
    (fun side u => by show 2 * P.bk (u >>> 1) + side = _; rw [hbk, shrW_eq_shiftRight (s := 1) (by decide)])
    (fun x => Prod.ext (Option.some.inj (hep x).1.symm) (Option.some.inj (hep x).2.symm)) hok

theorem cuckatoo_verify_eq (ct : ChainTypes) (params : CuckooParams) (proof : Proof)
    (P : Pow.Params) (ep : Nat → Nat × Nat)
    (hP1 : P.proofsize = proofsize ct) (hP2 : P.edgeMask = params.edge_mask)
    (hbk : ∀ u, P.bk u = u &&& shrW (2^64-1) (leadingZeros64 proof.nonces.length))
    (hep : ∀ x, CuckooParams_sipnode params.siphash_keys params.node_mask x 0 = some (ep x).1 ∧
                CuckooParams_sipnode params.siphash_keys params.node_mask x 1 = some (ep x).2)
    (hok : Cuckatoo_verify_ok ct params proof = true) :
    (Cuckatoo_verify ct params proof = some ()) ↔ (verifyCuckatoo P ep proof.nonces = .ok ()) :=
  SameVerdict.some_iff (cuckatoo_verify_rel ct params proof P ep hP1 hP2 hbk hep hok)

theorem cuckatoo_verify_eq_none (ct : ChainTypes) (params : CuckooParams) (proof : Proof)
    (P : Pow.Params) (ep : Nat → Nat × Nat)
    (hP1 : P.proofsize = proofsize ct) (hP2 : P.edgeMask = params.edge_mask)
    (hbk : ∀ u, P.bk u = u &&& shrW (2^64-1) (leadingZeros64 proof.nonces.length))
    (hep : ∀ x, CuckooParams_sipnode params.siphash_keys params.node_mask x 0 = some (ep x).1 ∧
                CuckooParams_sipnode params.siphash_keys params.node_mask x 1 = some (ep x).2)
    (hok : Cuckatoo_verify_ok ct params proof = true) :
    (Cuckatoo_verify ct params proof = none) ↔ (∃ e, verifyCuckatoo P ep proof.nonces = .error e) :=
  SameVerdict.none_iff (cuckatoo_verify_rel ct params proof P ep hP1 hP2 hbk hep hok)

/-- the translated `sipnode` never takes the `Err` arm of `?` (the Rust function only returns `Ok`) -/
theorem sipnode_some (keys : List Nat) (mask x uorv : Nat) :
    CuckooParams_sipnode keys mask x uorv = some (siphash24 keys (addW (mulW 2 x) uorv) &&& mask) := by
  unfold CuckooParams_sipnode; rfl

/-- the model's endpoint function read off the translated `sipnode` -/
def epSip (params : CuckooParams) (x : Nat) : Nat × Nat :=
  (siphash24 params.siphash_keys (addW (mulW 2 x) 0) &&& params.node_mask,
   siphash24 params.siphash_keys (addW (mulW 2 x) 1) &&& params.node_mask)

theorem epSip_hep (params : CuckooParams) (x : Nat) :
    CuckooParams_sipnode params.siphash_keys params.node_mask x 0 = some (epSip params x).1 ∧
    CuckooParams_sipnode params.siphash_keys params.node_mask x 1 = some (epSip params x).2 :=
  ⟨sipnode_some _ _ _ _, sipnode_some _ _ _ _⟩

theorem epSip_model (k : GV.Pow.Keys) (mask edge : UInt64) (ps ne em : Nat) :
    epSip ⟨ps, ne, [k.k0.toNat, k.k1.toNat, k.k2.toNat, k.k3.toNat], em, mask.toNat⟩ edge.toNat =
      ((GV.Pow.sipnode k mask edge 0).toNat, (GV.Pow.sipnode k mask edge 1).toNat) := by
  have h0 := GV.Props.XlateSipnode.sipnode_eq k mask edge 0
  have h1 := GV.Props.XlateSipnode.sipnode_eq k mask edge 1
  rw [sipnode_some] at h0 h1
  have z0 : (0 : UInt64).toNat = 0 := rfl
  have z1 : (1 : UInt64).toNat = 1 := rfl
  rw [z0] at h0
  rw [z1] at h1
  unfold epSip
  dsimp only
  rw [Option.some.inj h0, Option.some.inj h1]

/-- `cuckatoo_verify_eq` with the endpoint hypothesis discharged: no `Option` hypothesis left -/
theorem cuckatoo_verify_eq_sip (ct : ChainTypes) (params : CuckooParams) (proof : Proof)
    (P : Pow.Params)
    (hP1 : P.proofsize = proofsize ct) (hP2 : P.edgeMask = params.edge_mask)
    (hbk : ∀ u, P.bk u = u &&& shrW (2^64-1) (leadingZeros64 proof.nonces.length))
    (hok : Cuckatoo_verify_ok ct params proof = true) :
    (Cuckatoo_verify ct params proof = some ()) ↔
      (verifyCuckatoo P (epSip params) proof.nonces = .ok ()) :=
  cuckatoo_verify_eq ct params proof P (epSip params) hP1 hP2 hbk (epSip_hep params) hok

/-- non-vacuity: the hypotheses are satisfiable (wrong-length proof on Mainnet: `_ok = true`, result `none`) -/
example : Cuckatoo_verify_ok ChainTypes.Mainnet ⟨42, 0, [0, 0, 0, 0], 0, 0⟩ ⟨29, []⟩ = true ∧
    Cuckatoo_verify ChainTypes.Mainnet ⟨42, 0, [0, 0, 0, 0], 0, 0⟩ ⟨29, []⟩ = none := by
  constructor <;> rfl

/-! ## non-vacuity on a proof that reaches every loop

An 8-cycle on AutomatedTesting (proof size 8) with 16 edges, node mask 15, keys `[243, 1, 2, 3]`:
`_ok = true`, the translated verifier accepts, hence (by the theorem) so does the model.
A second proof with the same parameters passes loop 1 and is rejected. -/

def wParams : CuckooParams := ⟨8, 16, [243, 1, 2, 3], 15, 15⟩
def wProof : Proof := ⟨4, [0, 1, 4, 6, 10, 12, 13, 15]⟩
def wProofBad : Proof := ⟨4, [0, 1, 2, 3, 4, 5, 6, 7]⟩
def wP : Pow.Params := ⟨8, 15, 8, fun u => u &&& shrW (2^64-1) (leadingZeros64 8)⟩

theorem w_verdict : Cuckatoo_verify_ok ChainTypes.AutomatedTesting wParams wProof = true ∧
    Cuckatoo_verify ChainTypes.AutomatedTesting wParams wProof = some () := by
  decide +kernel

theorem w_ok : Cuckatoo_verify_ok ChainTypes.AutomatedTesting wParams wProof = true :=
  w_verdict.1

theorem w_accepts : Cuckatoo_verify ChainTypes.AutomatedTesting wParams wProof = some () :=
  w_verdict.2

/-- every hypothesis of `cuckatoo_verify_eq_sip` holds for the witness; the model accepts it -/
example : verifyCuckatoo wP (epSip wParams) wProof.nonces = .ok () :=
  (cuckatoo_verify_eq_sip ChainTypes.AutomatedTesting wParams wProof wP rfl rfl (fun _ => rfl) w_ok).1
    w_accepts

theorem w_verdict_bad : Cuckatoo_verify_ok ChainTypes.AutomatedTesting wParams wProofBad = true ∧
    Cuckatoo_verify ChainTypes.AutomatedTesting wParams wProofBad = none := by
  decide +kernel

theorem w_ok_bad : Cuckatoo_verify_ok ChainTypes.AutomatedTesting wParams wProofBad = true :=
  w_verdict_bad.1

theorem w_rejects : Cuckatoo_verify ChainTypes.AutomatedTesting wParams wProofBad = none :=
  w_verdict_bad.2

/-- … and the model rejects the second proof -/
example : ∃ e, verifyCuckatoo wP (epSip wParams) wProofBad.nonces = .error e :=
  (cuckatoo_verify_eq_none ChainTypes.AutomatedTesting wParams wProofBad wP (epSip wParams) rfl rfl
    (fun _ => rfl) (epSip_hep wParams) w_ok_bad).1 w_rejects

end GV.Props.XlateVerifyT
