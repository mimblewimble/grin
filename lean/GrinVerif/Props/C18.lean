import GrinVerif.Lemmas.KvProg
import GrinVerif.Lemmas.KvResize
import GrinVerif.Lemmas.TxCount
import GrinVerif.Lemmas.KvChainStore
import GrinVerif.Lemmas.KvGate
import GrinVerif.Gen.KvGate
/-! # C18 — database batches are atomic, isolated and survive growth of the map

The property theorems (and `grow_step`, `growRun_ok`, the induction behind the growth theorem); helper lemmas in
`Lemmas/Kv.lean`, `KvProg`, `KvResize`, `KvGate`, `KvChainStore`, `TxCount`; the model of `store/src/lmdb.rs` is
`Model/Kv.lean`; the textbook nested-transaction map is `Model/KvSpec.lean`.

Reading guide.  `St` = committed tables + the writer's stack of open (nested) batches.
`step`/`run` execute `Store::batch`, `put`, `delete`, `Batch::child`, `commit`, drop.
`bget/bexists/biter` are the reads of the innermost open batch, `sget/sexists/siter` the reads of
any other reader (`Store::…`, fresh read transaction).  A batch body is a tree `Prog` (writes and
child batches, each child with its commit/drop decision) of *arbitrary* size and nesting depth;
`Prog.sem` is its textbook meaning (function composition, dropped child = identity);
`Prog.flat` the operation sequence it performs.  All theorems quantify over all states, all
bodies, all depths.

What is *not* a theorem here (runtime, checked only by the correspondence harness on the real
LMDB): that LMDB implements this contract, real thread interleavings, durability of
`mdb_txn_commit` against process death.  The poll loops of the resize gate: their SHAPE (one exit,
no bound, gate before transaction) is regenerated from the source into `Gen/KvGate.lean` and pinned
by the obligations of section `gate shape` below; what a loop of that shape does is a theorem
(`op_during_pending_resize_returns_spec`); that the scheduler lets a sleeping thread run again is
runtime (run `slowreader`). -/
namespace GV.Props.C18
open GV GV.Kv

/-- A `put` in the innermost open batch (any depth) is read back by that batch; other keys keep
their value. -/
theorem read_your_put (st : St) (k k' : Key) (v : Val) (h : st.stack ≠ []) :
    bget (step st (.put k v)) k' = if k = k' then some v else bget st k' :=
  bget_put st k k' v h

/-- A `delete` in the innermost open batch hides the key from that batch. -/
theorem read_your_delete (st : St) (k k' : Key) (h : st.stack ≠ []) :
    bget (step st (.del k)) k' = if k = k' then none else bget st k' :=
  bget_del st k k' h

example : bget (step { committed := [((1, [7]), [1])], stack := [[]] } (.put (1, [7]) [2])) (1, [7])
    = some [2] := by decide +kernel

/-- A fresh child batch sees exactly what its parent sees (including the parent's uncommitted
writes and those of all further ancestors). -/
theorem child_sees_parent (st : St) (k : Key) (h : st.stack ≠ []) :
    bget (step st .child) k = bget st k := by
  obtain ⟨c, o, s, rfl⟩ := eq_of_stack_ne_nil h
  rfl

/-- Whole bodies, any depth: after running the body `p` of the innermost open batch (with all its
child batches, committed or dropped), that batch reads the textbook meaning of `p` applied to what
it read before. -/
theorem read_your_writes (p : Prog) (st : St) (h : st.stack ≠ []) :
    (fun k => bget (run st p.flat) k) = p.sem (fun k => bget st k) := by
  obtain ⟨c, o, s, rfl⟩ := eq_of_stack_ne_nil h
  rw [run_flat, bget_eq_ovF, bget_eq_ovF, ← ovF_writes]
  simp [ovF_append, List.flatten_cons]

/-- One step changes the committed tables only if it is the commit of the *outermost* batch. -/
theorem only_outer_commit_publishes (st : St) (op : Op)
    (h : (step st op).committed ≠ st.committed) : op = .commit ∧ st.stack.length = 1 :=
  Classical.not_not.1 fun hn => h (committed_of_not_outer_commit st op hn)

/-- All op sequences: as long as no outermost commit is executed — whatever puts, deletes, child
batches, child commits and drops happen at whatever depth — every other reader (`Store::get_ser`,
`exists`, `iter`) sees exactly the old committed state. -/
theorem invisible_until_outer_commit (st : St) (ops : List Op) (h : NoOuterCommit st ops) :
    (run st ops).committed = st.committed ∧
    (∀ k, sget (run st ops) k = sget st k) ∧
    (∀ k, sexists (run st ops) k = sexists st k) ∧
    (∀ db, siter (run st ops) db = siter st db) := by
  have hc := run_committed ops st h
  obtain ⟨h1, h2, h3⟩ := storeReads_congr hc
  exact ⟨hc, congrFun h1, congrFun h2, congrFun h3⟩

/-- A top-level batch with body `p`: at *every* point before its final commit/drop (every prefix of
`begin; p`), outside readers see the old committed state. -/
theorem isolation (p : Prog) (st : St) (h : st.stack = []) (ops₁ ops₂ : List Op)
    (hsplit : Op.begin :: p.flat = ops₁ ++ ops₂) :
    (run st ops₁).committed = st.committed :=
  run_committed ops₁ st (noOuter_prefix p st h hsplit)

example : NoOuterCommit {} [.begin, .put (0, [1]) [2], .child, .del (0, [1]), .commit] := by
  simp [NoOuterCommit, step]

/-- The outermost commit of a batch with body `p` (any size, any nesting) replaces the committed
map `m` by `p.sem m` — the composition of all writes of the batch and of all its committed
descendants — in a single step, and leaves no open transaction. -/
theorem commit_publishes_all (p : Prog) (st : St) (h : st.stack = []) :
    den (run st (txn p true)).committed = p.sem (den st.committed) ∧
    (run st (txn p true)).stack = [] := by
  obtain ⟨c, stack⟩ := st
  obtain rfl : stack = [] := h
  rw [run_txn, if_pos rfl]
  exact ⟨by rw [den_applyOv, ovF_writes], rfl⟩

/-- The same for readers: after the commit every reader sees `p.sem` of the old state. -/
theorem commit_visible_to_all (p : Prog) (st : St) (h : st.stack = []) (k : Key) :
    sget (run st (txn p true)) k = p.sem (den st.committed) k := by
  have := (commit_publishes_all p st h).1
  exact congrFun this k

/-- Before that single step nothing of the batch is published, after it everything is: there is
no intermediate committed state (the states passed through are exactly `isolation`'s). -/
theorem commit_is_one_step (p : Prog) (st : St) (h : st.stack = []) :
    (run st (Op.begin :: p.flat)).committed = st.committed ∧
    den (step (run st (Op.begin :: p.flat)) .commit).committed = p.sem (den st.committed) := by
  refine ⟨isolation p st h _ [] (by simp), ?_⟩
  have := (commit_publishes_all p st h).1
  simpa [txn, run_cons, run_append, run] using this

example : (run {} (txn (.put (0, [1]) [9] (.child (.del (0, [1]) .done) false .done)) true)).committed
    = [((0, [1]), [9])] := by decide +kernel

/-- Dropping a top-level batch — whatever it did, at whatever depth — restores the exact state. -/
theorem dropped_batch_no_trace (p : Prog) (st : St) (h : st.stack = []) :
    run st (txn p false) = st := by
  obtain ⟨c, stack⟩ := st
  obtain rfl : stack = [] := h
  rw [run_txn]
  rfl

/-- Dropping a child batch — at any depth, whatever it and its own children did — restores the
exact state of its parent (committed tables, the parent's pending writes, all ancestors). -/
theorem dropped_child_no_trace (b : Prog) (st : St) (h : st.stack ≠ []) :
    run st (Op.child :: (b.flat ++ [Op.drop])) = st := by
  obtain ⟨c, o, s, rfl⟩ := eq_of_stack_ne_nil h
  exact run_flat (.child b false .done) c o s

/-- A committed child merges into its parent only: the parent's view becomes `b.sem` of its old
view, the committed tables (hence every outside reader) are untouched. -/
theorem committed_child_merges_into_parent (b : Prog) (st : St) (h : st.stack ≠ []) :
    (fun k => bget (run st (Op.child :: (b.flat ++ [Op.commit]))) k) = b.sem (fun k => bget st k) ∧
    (run st (Op.child :: (b.flat ++ [Op.commit]))).committed = st.committed ∧
    (run st (Op.child :: (b.flat ++ [Op.commit]))).stack.length = st.stack.length := by
  obtain ⟨c, o, s, rfl⟩ := eq_of_stack_ne_nil h
  -- the operations are those of the body "one child that commits"
  have hf : (Prog.child b true .done).flat = Op.child :: (b.flat ++ [Op.commit]) := rfl
  have hp := read_your_writes (.child b true .done) ⟨c, o :: s⟩ h
  rw [run_flat] at hp
  rw [← hf, run_flat]
  exact ⟨hp, rfl, rfl⟩

/-- A write occurrence of a batch body is among the writes the body hands to its parent iff
*all* child batches enclosing it inside the body commit. -/
theorem survives_iff_all_ancestors_commit (p : Prog) (w : W) :
    w ∈ p.writes ↔ (w, true) ∈ p.occs := by
  induction p with
  | done => simp [Prog.writes, Prog.occs]
  | put k v rest ih => simp [Prog.writes, Prog.occs, ih]
  | del k rest ih => simp [Prog.writes, Prog.occs, ih]
  | child b c rest ihb ihr =>
    cases c with
    | true => simp [Prog.writes, Prog.occs, ihr, ihb]
    | false => simp [Prog.writes, Prog.occs, ihr]

/-- … and the outermost level: the writes handed up are published iff the top-level batch
commits (`commit_publishes_all`), else none is (`dropped_batch_no_trace`).  In particular a
committed child of a dropped parent leaves no trace at all: -/
theorem committed_child_of_dropped_parent (b rest : Prog) (st : St) (h : st.stack = []) :
    run st (txn (.child b true rest) false) = st :=
  dropped_batch_no_trace _ st h

/-- a dropped child contributes nothing even when everything around it commits -/
theorem dropped_child_contributes_nothing (b rest : Prog) (m : Map) :
    (Prog.child b false rest).sem m = rest.sem m := by
  simp [Prog.sem]

example : ((3, [1]), some [5]) ∈ (Prog.child (.child (.put (3, [1]) [5] .done) true .done) true .done).writes := by
  decide +kernel
example : ((3, [1]), some [5]) ∉ (Prog.child (.child (.put (3, [1]) [5] .done) true .done) false .done).writes := by
  decide +kernel

/-- Sortedness of the committed tables is preserved by every operation sequence (so the
hypothesis of the iterator theorems holds in every reachable state, `St` starts empty). -/
theorem wf_run (st : St) (ops : List Op) (h : Sorted st.committed) :
    Sorted (run st ops).committed :=
  sorted_run ops st h

example : Sorted ({} : St).committed := sorted_nil

/-- `Batch::iter` (with the paging of `DatabaseIterator`, page size 10 000 or any other positive
size) yields exactly the keys of database `db` visible to the batch, each with the value the batch
reads, in strictly increasing byte order (hence each key once). -/
theorem batch_iter_correct (st : St) (h : Sorted st.committed) (db : Nat) :
    (∀ kb v, (kb, v) ∈ biter st db ↔ bget st (db, kb) = some v) ∧
    (biter st db).Pairwise (fun a b => bytesLt a.1 b.1 = true) :=
  biter_correct st h db

/-- `Store::iter` yields exactly the committed keys of `db`, sorted, each once — and by
`invisible_until_outer_commit` nothing of any open batch. -/
theorem store_iter_correct (st : St) (h : Sorted st.committed) (db : Nat) :
    (∀ kb v, (kb, v) ∈ siter st db ↔ sget st (db, kb) = some v) ∧
    (siter st db).Pairwise (fun a b => bytesLt a.1 b.1 = true) :=
  siter_correct st h db

/-- the paging lemma by itself: for every page size > 0 the skip/take loop re-reading keys at
`skip_total` visits the snapshot's key list exactly once in order -/
theorem paging_exact (page : Nat) (hp : 0 < page) (t : Tbl) (h : Sorted t) (db : Nat) :
    iterPaged page t db = iterSpec t db :=
  iterPaged_eq_spec page hp t h db

example : iterPaged 2 [((1, [1]), [10]), ((1, [1, 0]), [11]), ((1, [2]), [12]), ((2, [0]), [13])] 1
    = [([1], [10]), ([1, 0], [11]), ([2], [12])] := by decide +kernel

/-- Death at any point before the outermost commit (any prefix of `begin; p`): the reopened store
holds exactly the old committed state — none of the batch. -/
theorem crash_before_commit (p : Prog) (st : St) (h : st.stack = []) (ops₁ ops₂ : List Op)
    (hsplit : Op.begin :: p.flat = ops₁ ++ ops₂) :
    crash (run st ops₁) = st := by
  -- a crash keeps the committed tables, which `isolation` says are the old ones, and empties the stack
  obtain ⟨c, stack⟩ := st
  obtain rfl : stack = [] := h
  exact congrArg (St.mk · []) (isolation p ⟨c, []⟩ rfl ops₁ ops₂ hsplit)

/-- Death after the commit returned: the reopened store holds all of the batch. -/
theorem crash_after_commit (p : Prog) (st : St) (h : st.stack = []) :
    den (crash (run st (txn p true))).committed = p.sem (den st.committed) := by
  simpa [crash] using (commit_publishes_all p st h).1

/-- In every reachable state of the gate (`enter_tx`, `TxCounter::drop`, `maybe_resize`, the resizer
thread; any number of threads, any interleaving of the atomic transitions):
* while `env.resize` runs no transaction is open on any thread,
* while `env.resize` runs no `enter_tx` can succeed, not even a nested one,
* while `resizing` is set no thread without an open transaction can start one,
* the global counter equals the sum of the per-thread counters. -/
theorem resize_gate_safe (threads mapSize : Nat) (acts : List GAct) :
    let g := gateRun (gateInit threads mapSize) acts
    (∀ n, g.phase = .running n → g.openTxs = 0 ∧ ∀ t, cntOf t g.cnt = 0) ∧
    (∀ n t, g.phase = .running n → gateEnabled g (.enter t) = false) ∧
    (∀ t, g.resizing = true → cntOf t g.cnt = 0 → gateEnabled g (.enter t) = false) ∧
    g.openTxs = g.cnt.sum := by
  intro g
  have inv : GateInv g := gateInv_run acts _ (gateInv_init threads mapSize)
  have hquiet : ∀ n, g.phase = .running n → g.openTxs = 0 ∧ ∀ t, cntOf t g.cnt = 0 := by
    intro n hn
    have h0 := inv.quiet n hn
    exact ⟨h0, fun t => cntOf_eq_zero_of_sum t g.cnt (by rw [← inv.sum]; exact h0)⟩
  refine ⟨hquiet, ?_, ?_, inv.sum⟩
  · intro n t hn
    have hr := (inv.flags (by rw [hn]; simp)).1
    have hz := (hquiet n hn).2 t
    simp [gateEnabled, hr, hz]
  · intro t hr hz
    simp [gateEnabled, hr, hz]

/-- non-vacuity: a run in which a resize is requested while a reader holds a transaction, waits for
it, runs, and a blocked thread enters afterwards -/
example :
    let g := gateRun (gateInit 2 1048576)
      [.enter 0, .request 2097152, .enter 1, .enter 0, .exit 0, .beginResize, .exit 0, .beginResize]
    g.phase = .running 2097152 ∧ g.openTxs = 0 ∧ g.cnt = [0, 0] := by decide +kernel

example : (gateRun (gateInit 2 1048576)
      [.enter 0, .request 2097152, .exit 0, .beginResize, .enter 1, .endResize, .enter 1]).mapSize = 2097152 ∧
    (gateRun (gateInit 2 1048576)
      [.enter 0, .request 2097152, .exit 0, .beginResize, .enter 1, .endResize, .enter 1]).cnt = [0, 1] := by
  decide +kernel

example : needsResize 1048576 1000000 1048576 = (true, 2097152) := by decide +kernel

/-- In every reachable state of the resize protocol (any sequence of transactions opened and
closed, calls of `maybe_resize` with any usage, polls of the waiter thread) and for every further
call of `maybe_resize`, whatever branch it takes:
* *guard busy* — the guard is held by a live waiter thread (not leaked) and the call changes nothing;
* *not needed* / *immediate* — on return the guard `resize_checking` and the flag `resizing` are free;
* *deferred* ("transactions are open") — exactly one waiter with the decided size is pending, it
  holds guard and flag, and as soon as no transaction is open one poll of it resizes to that size
  and frees both;
and in general guard and flag are held exactly while a waiter is pending — no path leaks them. -/
theorem resize_guard_released (mapSize chunk : Nat) (hc : 0 < chunk) (acts : List RAct) (used : Nat) :
    let e := rrun (rinit mapSize chunk) acts
    let r := maybeResize e used
    (e.checking = e.pending.isSome ∧ e.resizing = e.pending.isSome) ∧
    (r.2 = .guardBusy → e.pending.isSome = true ∧ r.1 = e) ∧
    (r.2 = .notNeeded → r.1.checking = false ∧ r.1.resizing = false ∧ r.1.pending = none ∧ r.1.mapSize = e.mapSize) ∧
    (∀ n, r.2 = .immediate n → r.1.checking = false ∧ r.1.resizing = false ∧ r.1.pending = none ∧
        r.1.mapSize = n ∧ e.mapSize < n) ∧
    (∀ n, r.2 = .deferred n → r.1.pending = some n ∧ r.1.checking = true ∧ r.1.resizing = true ∧
        e.mapSize < n ∧ e.openTxs ≠ 0 ∧
        ∀ e' : REnv, e'.pending = some n → e'.openTxs = 0 →
          (waiterStep e').checking = false ∧ (waiterStep e').resizing = false ∧
          (waiterStep e').pending = none ∧ (waiterStep e').mapSize = n) := by
  intro e r
  have inv : RInv e := rinv_run acts _ (rinv_init mapSize chunk hc)
  have hr : r = maybeResize e used := rfl
  refine ⟨⟨inv.guard, inv.flag⟩, ?_⟩
  rcases maybeResize_cases e used with ⟨hck, heq⟩ | ⟨hck, hn, heq⟩ | ⟨hck, hn, ho, heq⟩ | ⟨hck, hn, ho, heq⟩
  · rw [hr, heq]
    exact ⟨fun _ => ⟨inv.guard ▸ hck, rfl⟩, nofun, nofun, nofun⟩
  · obtain ⟨hp, hz⟩ := pending_none_of_unchecked e inv hck
    rw [hr, heq]
    exact ⟨nofun, fun _ => ⟨rfl, hz, hp, rfl⟩, nofun, nofun⟩
  · rw [hr, heq]
    refine ⟨nofun, nofun, nofun, fun n h => ?_⟩
    obtain rfl : (needsResize e.mapSize used e.chunk).2 = n := Branch.deferred.inj h
    refine ⟨rfl, rfl, rfl, needsResize_lt inv.chunk hn, ho, fun e' hp' ho' => ?_⟩
    rw [waiterStep_fires hp' ho']
    exact ⟨rfl, rfl, rfl, rfl⟩
  · obtain ⟨hp, _⟩ := pending_none_of_unchecked e inv hck
    rw [hr, heq]
    refine ⟨nofun, nofun, fun n h => ?_, nofun⟩
    obtain rfl : (needsResize e.mapSize used e.chunk).2 = n := Branch.immediate.inj h
    exact ⟨rfl, rfl, hp, rfl, needsResize_lt inv.chunk hn⟩

/-- A resize that was postponed (the caller of `Store::batch()` held an iterator of its own, or
the decision was simply not taken yet) happens at the next opportunity: in any reachable state
in which no transaction is open and the usage is above the threshold for the current map, the
next `Store::batch()` — the waiter thread finishing first if one is pending — leaves a strictly
larger map with guard and flag free and no waiter pending. -/
theorem postponed_resize_happens (mapSize chunk : Nat) (hc : 0 < chunk) (acts : List RAct) (used : Nat) :
    let e := rrun (rinit mapSize chunk) acts
    e.openTxs = 0 → (needsResize e.mapSize used e.chunk).1 = true →
    let e2 := (maybeResize (waiterStep e) used).1
    e.mapSize < e2.mapSize ∧ e2.checking = false ∧ e2.resizing = false ∧ e2.pending = none := by
  intro e ho hr e2
  have inv : RInv e := rinv_run acts _ (rinv_init mapSize chunk hc)
  have invw : RInv (waiterStep e) := rinv_waiter e inv
  -- after the waiter's poll nothing is pending and the map is at least as large, larger if it was pending
  have hw : (waiterStep e).pending = none ∧ (waiterStep e).checking = false ∧ (waiterStep e).openTxs = 0 ∧
      (waiterStep e).chunk = e.chunk ∧
      ((waiterStep e).mapSize = e.mapSize ∨ e.mapSize < (waiterStep e).mapSize) := by
    cases hp : e.pending with
    | some n => rw [waiterStep_fires hp ho]; exact ⟨rfl, rfl, ho, rfl, Or.inr (inv.grows n hp)⟩
    | none => rw [waiterStep_idle hp]; exact ⟨hp, by rw [inv.guard, hp]; rfl, ho, rfl, Or.inl rfl⟩
  obtain ⟨hwp, hwc, hwo, hwk, hwm⟩ := hw
  have he2 : e2 = (maybeResize (waiterStep e) used).1 := rfl
  rcases maybeResize_cases (waiterStep e) used with ⟨hck, _⟩ | ⟨_, hn, heq⟩ | ⟨_, _, ho', _⟩ | ⟨_, hn, _, heq⟩
  · rw [hwc] at hck; cases hck
  · -- not needed for the map the waiter left: then the waiter has enlarged it
    rw [he2, heq]
    rcases hwm with hm | hm
    · rw [hm, hwk, hr] at hn; cases hn
    · exact ⟨hm, rfl, (pending_none_of_unchecked _ invw hwc).2, hwp⟩
  · exact absurd hwo ho'
  · rw [he2, heq]
    have hlt := needsResize_lt invw.chunk hn
    refine ⟨?_, rfl, rfl, hwp⟩
    rcases hwm with hm | hm
    · exact hm ▸ hlt
    · exact Nat.lt_trans hm hlt

/-- non-vacuity: the caller holds an iterator of its own when the resize falls due: deferred; it
commits and drops the iterator; the waiter resizes; the next batch finds guard and flag free; a
batch issued while the waiter is still pending finds the guard busy -/
example :
    let e0 := rrun (rinit 1048576 1048576) [.openTx]
    let r := maybeResize e0 1000000
    r.2 = .deferred 2097152 ∧ r.1.checking = true ∧ r.1.resizing = true ∧
    (maybeResize r.1 1010000).2 = .guardBusy ∧
    rrun r.1 [.closeTx, .waiter] = rinit 2097152 1048576 ∧
    (maybeResize (rrun r.1 [.closeTx, .waiter]) 1010000).2 = .notNeeded ∧
    batchStart (rinit 1048576 1048576) 1000000 0 1 = rinit 2097152 1048576 ∧
    (batchStart (rinit 1048576 1048576) 1000000 1 1).mapSize = 1048576 ∧
    (settle (batchStart (rinit 1048576 1048576) 1000000 1 1)).mapSize = 2097152 := by decide +kernel

/-! ## per-thread nesting depth of store transactions (`THREAD_TX_COUNTS`) while a resize is pending

Model `Model/TxCount.lean` (shared with C17's counter theorems): `enter_tx` lets a thread pass
while a resize is pending iff the thread's own nesting depth is positive. -/
section nesting
open TxCount

/-- After any valid interleaving of the atomic alphabet (enters, leaves, resize requests, resizes;
any number of threads, any nesting), the nesting depth the store keeps for a thread equals what
the schedule says the thread has open (its enters minus its leaves) — so a thread counts as
"inside a transaction" exactly while it holds one: completing nested operations (a lookup, a
nested iterator, a child batch) under a long-lived transaction leaves it inside — and the global
counter is the sum of the depths. -/
theorem nested_depth_tracks_open (threads : Nat) (acts : List Act) (s : TxCount.St)
    (hat : ∀ a ∈ acts, a.atomic = true) (hrun : runChecked (TxCount.init threads) acts = some s) :
    (∀ t, depth s t = opensOf t acts) ∧
    (∀ t, 0 < depth s t ↔ 0 < opensOf t acts) ∧
    s.counter = openTotal s := by
  have hd : ∀ t, depth s t = opensOf t acts := by
    intro t
    rw [depth_run acts _ s t hat hrun, depth_init]
    rfl
  exact ⟨hd, fun t => by rw [hd t], (reachable_inv hat hrun).1.count⟩

/-- A nested operation completed under a long-lived transaction does not change the depth:
`enter t; leave t` appended to any valid atomic schedule in which `t` is inside a transaction is
again valid (also while a resize is pending) and leaves every thread's depth as it was. -/
theorem nested_op_keeps_depth (threads : Nat) (acts : List Act) (s : TxCount.St) (t : Nat)
    (hat : ∀ a ∈ acts, a.atomic = true) (hrun : runChecked (TxCount.init threads) acts = some s)
    (ht : t < threads) (hin : 0 < depth s t) :
    ∃ s', runChecked (TxCount.init threads) (acts ++ [.enter t, .leave t]) = some s' ∧
      (∀ u, depth s' u = depth s u) ∧ s'.counter = s.counter ∧ s'.resizing = s.resizing := by
  obtain ⟨inv, hlen⟩ := reachable_inv hat hrun
  -- the pair is enabled and brings the counter protocol back to the very state `s`
  have hpair : runChecked s [.enter t, .leave t] = some s :=
    run_nestedPairs s t (hlen.symm ▸ ht) hin (inv.reg_none (hlen.symm ▸ ht)) 1
  refine ⟨s, ?_, fun _ => rfl, rfl, rfl⟩
  rw [runChecked_append, hrun]
  exact hpair

/-- A thread that is inside a transaction never waits on a resize — in particular not on one it is
itself blocking; who does wait (its `enter_tx` is not enabled) holds nothing, so it is not a
blocker; and a blocked resize can always make progress: whenever a resize is pending and the
counter is not 0, some thread is inside a transaction and both its next nested operation and its
leave are enabled.  Hence the protocol with exact depth bookkeeping has no state in which a thread
waits for itself. -/
theorem holder_never_waits (threads : Nat) (acts : List Act) (s : TxCount.St)
    (hat : ∀ a ∈ acts, a.atomic = true) (hrun : runChecked (TxCount.init threads) acts = some s) :
    (∀ t, t < threads → 0 < depth s t → enabled s (.enter t) = true ∧ enabled s (.leave t) = true) ∧
    (∀ t, t < threads → enabled s (.enter t) = false → depth s t = 0 ∧ s.resizing = true) ∧
    (s.resizing = true → s.counter ≠ 0 →
      ∃ t, t < threads ∧ 0 < depth s t ∧ enabled s (.enter t) = true ∧ enabled s (.leave t) = true) := by
  obtain ⟨inv, hlen⟩ := reachable_inv hat hrun
  refine ⟨fun t ht hd => holder_enabled s inv t (hlen ▸ ht) hd, ?_, ?_⟩
  · intro t ht he
    simp only [enabled, hlen, ht, decide_true, Bool.true_and, Bool.or_eq_false_iff, Bool.not_eq_false',
      decide_eq_false_iff_not, Nat.not_lt, Nat.le_zero] at he
    exact ⟨he.2, he.1⟩
  · intro _ hc
    obtain ⟨t, ht, hp⟩ := exists_holder s inv hc
    exact ⟨t, hlen ▸ ht, hp, holder_enabled s inv t ht hp⟩

/-- Kernel-checked witness of what inexact depth bookkeeping does: a thread opens an iterator,
completes ONE lookup under it, and that lookup's leave forgets the nesting (drops the thread's
entry instead of counting it down).  The thread still holds the iterator (counter 1) but counts
as outside.  Another thread's `batch()` finds the map above the threshold and requests a resize:
now every action of every thread is disabled — the holder's next lookup waits for the resize, the
resize waits for the holder — for ever. -/
theorem lost_nesting_witness :
    runChecked (TxCount.init 2) [.enter 0, .enter 0, .leaveForget 0, .request] = some stuckState ∧
    stuckState.counter = 1 ∧ depth stuckState 0 = 0 ∧ (∀ a, enabled stuckState a = false) ∧
    (∃ s, runChecked (TxCount.init 2) [.enter 0, .enter 0, .leave 0, .request, .enter 0, .leave 0, .leave 0, .resize] = some s ∧
      s.counter = 0 ∧ s.resizes = 1) := by
  refine ⟨by decide, rfl, rfl, stuckState_dead,
    ⟨{ counter := 0, resizing := false, resizes := 1, ths := [{}, {}] }, by decide, rfl, rfl⟩⟩

/-- non-vacuity (the schedules of the harness cases `NestOther` and `NestSelf`): own iterator,
lookups, the other thread's / the own `batch()` at the threshold, more lookups, iterator dropped,
resize, the batch -/
example : replay 2 [.enter 0, .enter 0, .leave 0, .enter 0, .leave 0, .request, .enter 0, .leave 0, .enter 0,
      .enter 0, .leave 0, .leave 0, .leave 0, .resize, .enter 1, .leave 1] = "completed:resizes=1" ∧
    replay 2 [.enter 0, .enter 0, .leave 0, .request, .enter 0, .enter 0, .leave 0, .leave 0, .enter 0, .leave 0,
      .leave 0, .resize] = "completed:resizes=1" := by decide +kernel

end nesting

section brackets
open TxCount

/-- Every store operation that opens an LMDB transaction of its own — `get_ser` with and without a
deserialisation mode (both go through `get_with`), `exists`, `iter` (until the iterator is
dropped), `batch()` (until commit / drop) — is bracketed: its counter events on thread `t` start
with `enter t` and end with `leave t`; batch reads and child batches have no counter of their own
(they live inside their batch's bracket). -/
theorem every_read_is_bracketed (t : Nat) (op : StoreOp) (h : op.ownTxn = true) :
    ∃ mid, op.trace t = Act.enter t :: mid ++ [Act.leave t] := by
  cases op with
  | getSer => exact ⟨[], rfl⟩
  | getSerMode => exact ⟨[], rfl⟩
  | existsKey => exact ⟨[], rfl⟩
  | iter body => exact ⟨body, rfl⟩
  | batch body => exact ⟨body, rfl⟩
  | batchRead => simp [StoreOp.ownTxn] at h
  | childBatch => simp [StoreOp.ownTxn] at h

/-- … and while any bracketed operation is in flight no resize can run: in every state reachable
by the atomic protocol, right after an `enter` (of any thread, nested or not) and as long as the
counter has not returned to 0, the resize transition is disabled — `env.resize` never remaps the
file under a read that is between its `enter_tx` and the drop of its `TxCounter`. -/
theorem no_resize_while_read_in_flight (threads : Nat) (acts : List Act) (s : TxCount.St) (t : Nat)
    (hrun : runChecked (TxCount.init threads) acts = some s)
    (he : enabled s (.enter t) = true) :
    enabled (TxCount.step s (.enter t)) .resize = false ∧
    0 < depth (TxCount.step s (.enter t)) t ∧
    (∀ s', s'.counter ≠ 0 → enabled s' .resize = false) := by
  simp only [enabled, Bool.and_eq_true, decide_eq_true_eq] at he
  refine ⟨by simp [enabled, TxCount.step], ?_, fun s' h => by simp [enabled, h]⟩
  simp only [depth, TxCount.step, thOf_setTh_same _ _ _ he.1]
  exact Nat.succ_pos _

end brackets

/-- The resize decision is a function of the shared environment's state only: a history in which
every action is labelled with the `Store` handle that performed it (any number of handles, any
assignment) leaves exactly the state of the unlabelled history — there is no per-handle history in
the protocol; in particular, whichever handle's `batch()` comes next when the usage is above the
threshold and nothing is open, whoever committed last, the map is enlarged
(`postponed_resize_happens`). -/
theorem resize_decision_is_env_state_only (e : REnv) (l : List (Nat × RAct)) (relabel : Nat → Nat) :
    hrun e l = rrun e (l.map Prod.snd) ∧
    hrun e (l.map (fun x => (relabel x.1, x.2))) = hrun e l := by
  have h1 : ∀ l : List (Nat × RAct), hrun e l = rrun e (l.map Prod.snd) :=
    fun l => (List.foldl_map (f := Prod.snd) (g := rstep)).symm
  refine ⟨h1 l, ?_⟩
  rw [h1, h1, List.map_map]
  rfl

/-- non-vacuity: handle 1 commits past the threshold (its own `batch()` calls found the map still
below it), handle 0 — whose last batch was long ago — calls `batch()`: resized -/
example : (hrun (rinit 1048576 1048576) [(1, .call 500000), (1, .call 800000), (0, .call 980000)]).mapSize = 2097152 ∧
    (hrun (rinit 1048576 1048576) [(7, .call 500000), (7, .call 800000), (7, .call 980000)]).mapSize = 2097152 := by decide +kernel

/-- one `Store::batch()` with nothing open keeps the growth invariant and establishes it for the
usage it found -/
theorem grow_step (chunk : Nat) (hc : 0 < chunk) (e : REnv) (used u0 : Nat) (hk : e.chunk = chunk)
    (inv : GrowOk chunk u0 e) :
    let e1 := (maybeResize { e with openTxs := 0 } used).1
    GrowOk chunk used e1 ∧ e1.chunk = chunk ∧ e.mapSize ≤ e1.mapSize ∧
    (used * 10 > 9 * e.mapSize → e.mapSize < e1.mapSize) := by
  subst hk
  obtain ⟨hal, hge, _, hck, hrz, hpd⟩ := inv
  intro e1
  have he1 : e1 = (maybeResize { e with openTxs := 0 } used).1 := rfl
  have hfits := needsResize_fits e.mapSize used e.chunk hc hge
  rcases maybeResize_cases { e with openTxs := 0 } used with ⟨hb, _⟩ | ⟨_, hn, heq⟩ | ⟨_, _, ho, _⟩ | ⟨_, hn, _, heq⟩
  · rw [show ({ e with openTxs := 0 } : REnv).checking = false from hck] at hb; cases hb
  · rw [he1, heq]
    have hf := needsResize_false e.mapSize used e.chunk hn
    exact ⟨⟨hal, hge, hf.2.1, rfl, hrz, hpd⟩, rfl, Nat.le_refl _, fun h => absurd hf.2.1 (Nat.not_le.2 h)⟩
  · exact absurd rfl ho
  · rw [he1, heq]
    obtain ⟨hlt, hmod, _⟩ := needsResize_true e.mapSize used e.chunk hc hn
    exact ⟨⟨hmod, Nat.le_trans hge (Nat.le_of_lt hlt), hfits, rfl, rfl, hpd⟩, rfl, Nat.le_of_lt hlt, fun _ => hlt⟩

theorem growRun_ok (chunk : Nat) (hc : 0 < chunk) (l : List Nat) : ∀ (e : REnv) (u0 : Nat),
    e.chunk = chunk → GrowOk chunk u0 e →
    ∃ u1, GrowOk chunk u1 (growRun e l) ∧ (growRun e l).chunk = chunk ∧ e.mapSize ≤ (growRun e l).mapSize := by
  induction l with
  | nil => exact fun e u0 hk inv => ⟨u0, inv, hk, Nat.le_refl _⟩
  | cons u r ih =>
    intro e u0 hk inv
    obtain ⟨inv1, hk1, hle, _⟩ := grow_step chunk hc e u u0 hk inv
    obtain ⟨u1, inv2, hk2, hle2⟩ := ih _ u hk1 inv1
    exact ⟨u1, inv2, hk2, Nat.le_trans hle hle2⟩

/-- Growth without bound.  Start from a map that is a whole number of allocation chunks (the chunk
a multiple of the OS page size) with the resize flags free, and issue ANY number of batches with
nothing else open, each finding ANY usage.  Then after every one of them: the map is still a whole
number of chunks, hence page-aligned; it never shrank; the usage that batch found is at most 90 %
of it — i.e. the map `needs_resize` leaves is large enough for what is there, however many resizes
lie behind; guard and flag are free; and whenever the usage found was above the threshold the map is
strictly larger than before that batch. -/
theorem unbounded_growth_stays_aligned_and_sufficient (chunk pageSize : Nat) (hc : 0 < chunk)
    (hp : chunk % pageSize = 0) :
    ∀ (useds : List Nat) (e : REnv) (u0 : Nat), e.chunk = chunk → GrowOk chunk u0 e →
      ∀ (pre : List Nat) (u : Nat), useds = pre ++ [u] →
        let before := growRun e pre
        let after := growRun e useds
        after.mapSize % chunk = 0 ∧ after.mapSize % pageSize = 0 ∧ chunk ≤ after.mapSize ∧
        e.mapSize ≤ before.mapSize ∧ before.mapSize ≤ after.mapSize ∧
        u * 10 ≤ 9 * after.mapSize ∧
        (u * 10 > 9 * before.mapSize → before.mapSize < after.mapSize) ∧
        after.checking = false ∧ after.resizing = false ∧ after.pending = none := by
  intro useds e u0 hk inv pre u hsplit
  subst hsplit
  -- the invariant holds after `pre`; the last batch is one more `grow_step`
  obtain ⟨u1, inv1, hk1, hmono⟩ := growRun_ok chunk hc pre e u0 hk inv
  obtain ⟨⟨hal, hge, hsuf, hck, hrz, hpd⟩, _, hle, hgrow⟩ :=
    grow_step chunk hc (growRun e pre) u u1 hk1 inv1
  rw [growRun_append]
  exact ⟨hal, Nat.mod_eq_zero_of_dvd (Nat.dvd_trans (Nat.dvd_of_mod_eq_zero hp) (Nat.dvd_of_mod_eq_zero hal)),
    hge, hmono, hle, hsuf, hgrow, hck, hrz, hpd⟩

/-- non-vacuity: twelve batches finding 0.95, 1.9, 2.85, … 11.4 MiB leave maps of 2, 3, 5, 5, 8, … 18 MiB,
every one a multiple of the 1 MiB chunk and of the 4096-byte page -/
example : (1048576 % 1048576 = 0 ∧ 1048576 ≤ (rinit 1048576 1048576).mapSize ∧ (rinit 1048576 1048576).pending = none) ∧
    ((List.range 12).map (fun i => (growRun (rinit 1048576 1048576)
      ((List.range (i + 1)).map (fun j => 996147 * (j + 1)))).mapSize / 1048576))
      = [2, 3, 5, 5, 8, 8, 8, 12, 12, 12, 12, 18] := by
  refine ⟨by decide +kernel, by decide +kernel⟩

/-- A batch whose allocation requests (runs of contiguous pages: overflow pages of big values,
single pages of tree nodes) together fit behind the last used page succeeds — for EVERY
freelist, i.e. however the space freed by earlier deletes and overwrites is scattered; it moves
the last page by at most the sum of its requests. -/
theorem tail_fit_never_fails (s : Space) (reqs : List Nat) (h : s.lastPg + reqs.sum ≤ s.mapPages) :
    ∃ s', allocAll s reqs = some s' ∧ s'.mapPages = s.mapPages ∧ s'.lastPg ≤ s.lastPg + reqs.sum :=
  allocAll_ok reqs s h

/-- `Store::batch()` = `maybe_resize` then the write transaction.  With the map `needs_resize`
leaves (enlarged or not; thresholds as exact rationals), every batch that can allocate at most a
tenth of that map succeeds, whatever the freelist: the resize check measures the used space by
the LAST page (`env_size`), so fragmentation cannot make it late. -/
theorem no_space_failure_fragmented (mapSize chunk lastPg : Nat) (free : List Nat) (reqs : List Nat)
    (hc : 0 < chunk) (hm : chunk ≤ mapSize)
    (hreq : reqs.sum * PAGE_SIZE * 10 ≤ (needsResize mapSize (lastPg * PAGE_SIZE) chunk).2) :
    ∃ s', allocAll { mapPages := (needsResize mapSize (lastPg * PAGE_SIZE) chunk).2 / PAGE_SIZE,
                     lastPg := lastPg, free := free } reqs = some s' := by
  have hused := needsResize_fits mapSize (lastPg * PAGE_SIZE) chunk hc hm
  apply allocAll_ok_bytes
  generalize (needsResize mapSize (lastPg * PAGE_SIZE) chunk).2 = new at hreq hused ⊢
  rw [Nat.add_mul]
  omega

/-- the driver's check of a `kv space` line guarantees the batch (`allocAll_ok_bytes`); the line's
`last_pg` is LMDB's last page NUMBER, so the first never-used page of `Space` is `lastPg + 1` -/
theorem spaceOk_sound (mapSize lastPg need chunk : Nat) (free : List Nat) (reqs : List Nat)
    (hok : spaceOk mapSize lastPg need chunk = true) (hneed : reqs.sum ≤ need) :
    ∃ s', allocAll { mapPages := (needsResize mapSize (lastPg * PAGE_SIZE) chunk).2 / PAGE_SIZE,
                     lastPg := lastPg + 1, free := free } reqs = some s' := by
  simp only [spaceOk, decide_eq_true_eq] at hok
  exact allocAll_ok_bytes reqs _ _ free
    (Nat.le_trans (Nat.mul_le_mul_right _ (Nat.add_le_add_left hneed _)) hok)

/-- why the used space has to be measured by the last page: six pages are free but scattered
(every other value deleted), a value of five pages cannot use them and fails when the tail is
shorter than five pages — and succeeds from the tail, with the same freelist, in a larger map -/
example : alloc { mapPages := 100, lastPg := 98, free := [10, 12, 14, 16, 18, 20] } 5 = none ∧
    alloc { mapPages := 200, lastPg := 98, free := [10, 12, 14, 16, 18, 20] } 5
      = some { mapPages := 200, lastPg := 103, free := [10, 12, 14, 16, 18, 20] } ∧
    alloc { mapPages := 100, lastPg := 98, free := [10, 30, 31, 32, 33, 34, 50] } 5
      = some { mapPages := 100, lastPg := 98, free := [10, 50] } := by decide +kernel

example : spaceOk 1048576 230 19 1048576 = true ∧ spaceOk 1048576 250 19 1048576 = true ∧
    spaceOk 1048576 200 60 1048576 = false := by decide +kernel

/-! ## gate shape: the wait of `enter_tx` and of the resizer as READ OFF THE SOURCE on every run

`Gen/KvGate.lean` is regenerated by `tools/gen_kvgate.py` from `store/src/lmdb.rs`.  The obligations
below are about the generated values: if the gate of the code gets a second way out (an error after
N seconds, a `break`, a `?`), a bound (`for`, `while`, a clock, a counter), a parameter, a site
that opens its LMDB transaction first or discards the counter, they no longer check - whether or
not any test waits long enough to notice.  The theorems after them have a shape as HYPOTHESIS and
are instantiated with the generated one. -/
section gateShape
open KvGate TxCount

/-- the extractor could read the source at all -/
theorem gate_source_was_read : Gen.KvGate.parseError = none := rfl

theorem gate_shape_ok : Gen.KvGate.enterTx.Ok :=
  ⟨rfl, rfl, rfl, rfl, rfl, rfl, rfl, rfl, nofun, rfl, rfl, rfl⟩

/-- `fn enter_tx(&self) -> TxCounter`: no parameter that could switch the gate off, a return type
that cannot carry a failure -/
theorem gate_returns_counter :
    Gen.KvGate.enterTx.ret = .txCounter ∧ Gen.KvGate.enterTx.params = 0 :=
  ⟨gate_shape_ok.ret, gate_shape_ok.params⟩

/-- the wait of `enter_tx` has ONE way out: `return TxCounter { .. }` under
`!resizing || nested_tx` - no `return Err`, no `break`, no `?`, no panic -/
theorem gate_has_no_failure_exit :
    Gen.KvGate.enterTx.wait.exits = [{ kind := .pass, guard := [.notResizing, .threadNested] }] :=
  gate_shape_ok.exits

/-- … it is a `loop { }` with nothing before or after it, it reads no clock and keeps no budget,
its only blocking call is the literal sleep, taken after the `ENV_MAP` guard is dropped -/
theorem gate_wait_is_unbounded :
    Gen.KvGate.enterTx.wait.loop = .forever ∧ Gen.KvGate.enterTx.wait.timeRefs = [] ∧
    Gen.KvGate.enterTx.wait.pre = 0 ∧ Gen.KvGate.enterTx.wait.post = [] ∧
    Gen.KvGate.enterTx.wait.otherWaits = 0 ∧ Gen.KvGate.enterTx.wait.sleepMs = [10] ∧
    Gen.KvGate.enterTx.wait.lockReleasedBeforeSleep = true :=
  ⟨rfl, rfl, rfl, rfl, rfl, rfl, rfl⟩

/-- `maybe_resize`: flag first, deferred iff `open_txs_count() != 0`; the waiter is a `loop { }`
whose one way out is `break` under `txs_count == 0`, followed by `env.resize`, `resizing = false`,
`resize_checking = false`; no clock, no budget; `batch()` = `maybe_resize(); Batch::new(self)` -/
theorem waiter_shape_ok : Gen.KvGate.resize.Ok :=
  ⟨rfl, rfl, rfl, rfl, rfl, rfl, rfl, rfl, nofun, rfl, rfl⟩

/-- the functions that take the gate are exactly these four … -/
theorem gate_sites :
    Gen.KvGate.sites.map (·.name) = ["Store::get_ser", "Store::exists", "Store::iter", "Batch::new"] := rfl

theorem gate_sites_ok : ∀ site ∈ Gen.KvGate.sites, site.Ok := by decide +kernel

/-- … each takes it BEFORE it opens its LMDB transaction … -/
theorem gate_before_txn : ∀ site ∈ Gen.KvGate.sites, site.gateBeforeTxn = true :=
  fun site h => (gate_sites_ok site h).gateBeforeTxn

/-- … unconditionally, once, without `?`, and keeps the counter -/
theorem gate_result_never_discarded : ∀ site ∈ Gen.KvGate.sites,
    site.gateCalls = 1 ∧ site.unconditional = true ∧ site.question = false ∧ site.held = true :=
  fun site h => have ok := gate_sites_ok site h; ⟨ok.gateCalls, ok.unconditional, ok.question, ok.held⟩

/-- LMDB transactions opened WITHOUT the gate exist only on the set-up path of `Store::new`
(database creation, migration) - recorded, see the level note -/
theorem ungated_txns_are_setup_only :
    Gen.KvGate.ungatedTxnFns =
      ["Store::new", "Store::migration_complete", "Store::migrate_to_default_env", "Store::clear"] := rfl

/-- What a wait of the demanded shape does, whatever the polls find (`ρs j` = the flags poll `j`
sees, `ends` = irrelevant for a `loop { }`):
* as long as a resize is pending and the thread holds nothing it keeps polling - for ANY number of
  polls, there is no bound;
* it passes at the FIRST poll that finds the flag cleared (or the thread nested);
* there is no third outcome: never an error, never the end of the loop; and it never passes while
  the flag is set and the thread holds nothing. -/
theorem pending_op_waits_then_proceeds (e : EnterShape) (he : e.Ok) (ρs : Nat → Env) (ends : Nat → Bool) :
    (∀ n i, (∀ j, i ≤ j → j < i + n → (ρs j).held) → pollRun e.wait ρs ends n i = .waiting) ∧
    (∀ m n i, (∀ j, i ≤ j → j < i + m → (ρs j).held) → ¬ (ρs (i + m)).held → m < n →
      pollRun e.wait ρs ends n i = .left (i + m) .pass) ∧
    (∀ n i, pollRun e.wait ρs ends n i = .waiting ∨
      ∃ j, i ≤ j ∧ pollRun e.wait ρs ends n i = .left j .pass ∧ ¬ (ρs j).held) := by
  have hl := he.loop
  have hx := he.exits
  exact pollRun_single_spec hl hx ρs ends (G := fun ρ => ¬ ρ.held) guard_enter_false_iff
    (fun ρ => by rw [← guard_enter_false_iff, Bool.not_eq_false])

/-- non-vacuity, on the generated shape: pending for three polls, then released -/
example :
    pollRun Gen.KvGate.enterTx.wait
      (fun j => { resizing := decide (j < 3), nested := false, count := 3 - j, unknown := false }) (fun _ => true) 3 0 = .waiting ∧
    pollRun Gen.KvGate.enterTx.wait
      (fun j => { resizing := decide (j < 3), nested := false, count := 3 - j, unknown := false }) (fun _ => true) 9 0 = .left 3 .pass := by
  decide +kernel

/-- The waiter of the demanded shape goes on to `env.resize` exactly at the first poll that finds
`open_txs_count == 0`; as long as a transaction is open it keeps polling, however long; it has no
other way out (in particular it never resizes "anyway"). -/
theorem waiter_resizes_only_when_nothing_open (r : ResizeShape) (hr : r.Ok) (ρs : Nat → Env) (ends : Nat → Bool) :
    (∀ n i, (∀ j, i ≤ j → j < i + n → (ρs j).count ≠ 0) → pollRun r.waiter ρs ends n i = .waiting) ∧
    (∀ m n i, (∀ j, i ≤ j → j < i + m → (ρs j).count ≠ 0) → (ρs (i + m)).count = 0 → m < n →
      pollRun r.waiter ρs ends n i = .left (i + m) .breakOut) ∧
    (∀ n i, pollRun r.waiter ρs ends n i = .waiting ∨
      ∃ j, i ≤ j ∧ pollRun r.waiter ρs ends n i = .left j .breakOut ∧ (ρs j).count = 0) ∧
    r.waiter.post = [.resize, .clearResizing, .clearChecking] := by
  have hl := hr.loop
  have hx := hr.exits
  have hp := hr.post
  obtain ⟨h1, h2, h3⟩ := pollRun_single_spec hl hx ρs ends
    (W := fun ρ => ρ.count ≠ 0) (G := fun ρ => ρ.count = 0)
    (fun ρ => by rw [guard_waiter]; simp) (fun ρ => by rw [guard_waiter]; simp)
  exact ⟨h1, h2, h3, hp⟩

/-- The transition systems of the other theorems ARE the gate of this shape: in `Model/TxCount.lean`
(`nested_depth_tracks_open`, `holder_never_waits`, `no_resize_while_read_in_flight`, C17's
`count_eq_open`) `enter t` is enabled iff one poll of the generated `enter_tx` loop finds its exit,
`resize` iff the flag is set and one poll of the generated waiter loop finds its exit; likewise
`enter` in the gate of `resize_gate_safe`. -/
theorem shape_is_the_modelled_gate :
    (∀ (s : TxCount.St) (t : Nat) (u : Bool), t < s.ths.length →
      (TxCount.enabled s (.enter t) = true ↔
        pollIter (envOf s t u) Gen.KvGate.enterTx.wait.exits = .exit .pass)) ∧
    (∀ (s : TxCount.St) (n u : Bool),
      (TxCount.enabled s .resize = true ↔
        (s.resizing = true ∧
          pollIter { resizing := s.resizing, nested := n, count := s.counter, unknown := u }
            Gen.KvGate.resize.waiter.exits = .exit .breakOut))) ∧
    (∀ (g : Gate) (t : Nat) (u : Bool), t < g.cnt.length →
      (gateEnabled g (.enter t) = true ↔
        pollIter { resizing := g.resizing, nested := decide (cntOf t g.cnt > 0), count := g.openTxs, unknown := u }
          Gen.KvGate.enterTx.wait.exits = .exit .pass)) := by
  rw [gate_shape_ok.exits, waiter_shape_ok.exits]
  refine ⟨fun s t u ht => ?_, fun s n u => ?_, fun g t u ht => ?_⟩
  · rw [pollIter_enter]
    simp only [TxCount.enabled, TxCount.depth, envOf, ht, decide_true, Bool.true_and]
    exact Iff.rfl
  · rw [pollIter_waiter]
    simp only [TxCount.enabled, Bool.and_eq_true, decide_eq_true_eq]
  · rw [pollIter_enter]
    simp only [gateEnabled, ht, decide_true, Bool.true_and]

/-- The resize protocol model of `Model/KvResize.lean` (`resize_guard_released`,
`postponed_resize_happens`, `unbounded_growth_stays_aligned_and_sufficient`, the `rz-batch` lines
of the driver) IS `maybe_resize` / the waiter read through the generated shape: the branch on open
transactions, what the waiter does when its loop lets it go, what the immediate branch does. -/
theorem resize_model_is_the_shape :
    (∀ e : REnv, waiterStepOf Gen.KvGate.resize e = waiterStep e) ∧
    (∀ (e : REnv) (used : Nat), maybeResizeOf Gen.KvGate.resize e used = maybeResize e used) :=
  ⟨waiterStepOf_eq _ waiter_shape_ok, maybeResizeOf_eq _ waiter_shape_ok⟩

/-- non-vacuity: the deferred and the released step on the generated shape -/
example : (maybeResizeOf Gen.KvGate.resize { rinit 1048576 1048576 with openTxs := 1 } 1000000).2 = .deferred 2097152 ∧
    (waiterStepOf Gen.KvGate.resize
      { (maybeResizeOf Gen.KvGate.resize { rinit 1048576 1048576 with openTxs := 1 } 1000000).1 with openTxs := 0 }).mapSize
      = 2097152 := by decide +kernel

/-- **Operations that arrive while a resize is pending wait and then succeed, however long the
transaction that defers the resize lives.**  Hypothesis: a gate shape with the demanded properties
(`he`; discharged for the code by `gate_shape_ok`, see the corollary).  `s` is any state of the
counter protocol reached by the atomic alphabet in which a resize is pending; thread `x` holds
nothing and issues a plain-store read whose sequential answer is `sget kv k` (the committed value -
`store_iter_correct`, `invisible_until_outer_commit` say what that is).
1. Whatever the other threads do in between - any number of further operations of the holders,
   nested or not, polls seeing the states after ANY valid schedules without the resize itself and
   without an enter of `x` - the operation is still blocked after ANY number of polls; it has not
   failed.
2. Nothing but the holders' own leaves is needed for the resize to run; after it the operation
   returns the sequential answer at its next poll.
3. Whatever the polls find, the operation never returns an error. -/
theorem op_during_pending_resize_returns_spec (e : EnterShape) (he : e.Ok)
    (threads : Nat) (acts : List Act) (s : TxCount.St)
    (hat : ∀ a ∈ acts, a.atomic = true) (hrun : runChecked (TxCount.init threads) acts = some s)
    (hres : s.resizing = true) (x : Nat) (hout : depth s x = 0) (kv : Kv.St) (k : Key) :
    (∀ (mids : Nat → List Act) (ss : Nat → TxCount.St),
      (∀ j, runChecked s (mids j) = some (ss j) ∧ (∀ a ∈ mids j, a.atomic = true) ∧
        (∀ a ∈ mids j, a ≠ .resize) ∧ (∀ a ∈ mids j, a ≠ .enter x)) →
      ∀ (u : Bool) (ends : Nat → Bool) (n : Nat),
        storeOp e (fun j => envOf (ss j) x u) ends n (sget kv k) = .blocked) ∧
    (∃ (closing : List Act) (s₂ : TxCount.St), (∀ a ∈ closing, ∃ t, a = Act.leave t) ∧
      runChecked s (closing ++ [.resize]) = some s₂ ∧ s₂.resizing = false ∧ s₂.resizes = s.resizes + 1 ∧
      s₂.counter = 0 ∧
      ∀ (u : Bool) (ends : Nat → Bool) (n : Nat), 0 < n →
        storeOp e (fun _ => envOf s₂ x u) ends n (sget kv k) = .ok (sget kv k)) ∧
    (∀ (ρs : Nat → Env) (ends : Nat → Bool) (n : Nat), storeOp e ρs ends n (sget kv k) ≠ .err) := by
  have hp := pending_op_waits_then_proceeds e he
  refine ⟨?_, ?_, ?_⟩
  · intro mids ss h u ends n
    have hheld : ∀ j, (envOf (ss j) x u).held := by
      intro j
      obtain ⟨h1, h2, h3, h4⟩ := h j
      have hd : depth (ss j) x = 0 := by
        rw [depth_run (mids j) s (ss j) x h2 h1, hout]
        exact opensFrom_no_enter x (mids j) h4
      exact ⟨resizing_kept (mids j) s (ss j) h1 hres h3, by rw [envOf, hd]; rfl⟩
    exact storeOp_of_waiting _ ((hp (fun j => envOf (ss j) x u) ends).1 n 0 (fun j _ _ => hheld j))
  · have inv := (reachable_inv hat hrun).1
    obtain ⟨closing, s₁, h1, h2, h3, h4, h5⟩ := holders_can_close s.counter s inv rfl
    have hen : enabled s₁ .resize = true := by
      rw [enabled, h4, hres, h3]; rfl
    refine ⟨closing, TxCount.step s₁ .resize, h1, ?_, rfl, congrArg (· + 1) h5, h3, ?_⟩
    · rw [runChecked_append, h2]
      show runChecked s₁ [.resize] = _
      rw [runChecked, if_pos hen]; rfl
    · intro u ends n hn
      -- after the resize the flag is clear, so the first poll passes
      have hnh : ¬ (envOf (TxCount.step s₁ .resize) x u).held := fun hh => Bool.noConfusion hh.1
      exact storeOp_of_pass _ ((hp (fun _ => envOf (TxCount.step s₁ .resize) x u) ends).2.1 0 n 0
        (fun j _ h2 => absurd h2 (Nat.not_lt.2 (Nat.zero_le j))) hnh hn)
  · intro ρs ends n
    rcases (hp ρs ends).2.2 n 0 with h | ⟨j, _, h, _⟩
    · rw [storeOp_of_waiting _ h]; nofun
    · rw [storeOp_of_pass _ h]; nofun

/-- … for the gate of the code: the hypothesis is discharged by the table regenerated from
`store/src/lmdb.rs` -/
theorem code_op_during_pending_resize_returns_spec
    (threads : Nat) (acts : List Act) (s : TxCount.St)
    (hat : ∀ a ∈ acts, a.atomic = true) (hrun : runChecked (TxCount.init threads) acts = some s)
    (hres : s.resizing = true) (x : Nat) (hout : depth s x = 0) (kv : Kv.St) (k : Key) :
    (∀ (mids : Nat → List Act) (ss : Nat → TxCount.St),
      (∀ j, runChecked s (mids j) = some (ss j) ∧ (∀ a ∈ mids j, a.atomic = true) ∧
        (∀ a ∈ mids j, a ≠ .resize) ∧ (∀ a ∈ mids j, a ≠ .enter x)) →
      ∀ (u : Bool) (ends : Nat → Bool) (n : Nat),
        storeOp Gen.KvGate.enterTx (fun j => envOf (ss j) x u) ends n (sget kv k) = .blocked) ∧
    (∃ (closing : List Act) (s₂ : TxCount.St), (∀ a ∈ closing, ∃ t, a = Act.leave t) ∧
      runChecked s (closing ++ [.resize]) = some s₂ ∧ s₂.resizing = false ∧ s₂.resizes = s.resizes + 1 ∧
      s₂.counter = 0 ∧
      ∀ (u : Bool) (ends : Nat → Bool) (n : Nat), 0 < n →
        storeOp Gen.KvGate.enterTx (fun _ => envOf s₂ x u) ends n (sget kv k) = .ok (sget kv k)) ∧
    (∀ (ρs : Nat → Env) (ends : Nat → Bool) (n : Nat),
      storeOp Gen.KvGate.enterTx ρs ends n (sget kv k) ≠ .err) :=
  op_during_pending_resize_returns_spec Gen.KvGate.enterTx gate_shape_ok threads acts s hat hrun hres x hout kv k

/-- non-vacuity of the hypotheses (the schedule of run `slowreader`): thread 0 holds an iterator,
thread 1's `batch()` requests the resize, thread 2 holds nothing -/
example : ∃ s, runChecked (TxCount.init 3) [.enter 0, .request] = some s ∧ s.resizing = true ∧ depth s 2 = 0 ∧
    (∀ a ∈ [Act.enter 0, Act.request], a.atomic = true) ∧
    runChecked s ([.enter 0, .leave 0, .enter 0, .leave 0, .leave 0] ++ [.resize]) =
      some { counter := 0, resizing := false, resizes := 1, ths := [{}, {}, {}] } :=
  ⟨_, rfl, rfl, rfl, by decide +kernel, by decide +kernel⟩

/-- The driver's answer for the lines `kv gate-op` / `kv gate-wait` of run `slowreader` (one
evaluation of the gate of the generated shape: the flags as issued, then as after the release):
every operation returns its sequential answer; it waited iff a resize was pending and the thread
held nothing. -/
theorem gate_op_outcome_spec (nested pending : Bool) :
    (gateOpOutcome Gen.KvGate.enterTx.wait.exits nested pending).1 = "ok" ∧
    ((gateOpOutcome Gen.KvGate.enterTx.wait.exits nested pending).2 = "blocked" ↔ (pending = true ∧ nested = false)) ∧
    gateOpOutcome Gen.KvGate.enterTx.wait.exits nested pending = gateOpOutcome enterExits nested pending := by
  cases nested <;> cases pending <;> decide

/-- Sites of the demanded shape keep every LMDB transaction inside its counter: after ANY
interleaving of ANY number of threads, each running operations of such sites one after the other
(a step of thread `t` takes the next action of its current operation, or starts the given one when
idle), the transactions alive are at most the counters alive - so when the resizer reads
`open_txs_count == 0` (the counter is the sum of the threads' counters,
`nested_depth_tracks_open`) NO LMDB transaction is alive and `env.resize` is legal. -/
theorem gated_txns_are_counted (sites : List Site) (hs : ∀ site ∈ sites, site.Ok) (threads : Nat)
    (sched : List (Nat × List LAct)) (hsched : ∀ x ∈ sched, ∃ site ∈ sites, x.2 = site.prog) :
    let ths := lrun (List.replicate threads {}) sched
    liveSum ths ≤ countedSum ths ∧ (countedSum ths = 0 → liveSum ths = 0) := by
  intro ths
  have h : LInv ths := linv_run sched _ (linv_init threads) (by
    intro x hx s hle
    obtain ⟨site, hm, hp⟩ := hsched x hx
    rw [hp]
    exact site_prog_covered site (hs site hm) s hle)
  have := sums_of_linv ths h
  exact ⟨this, fun h0 => Nat.le_zero.1 (h0 ▸ this)⟩

/-- … for the sites of the code -/
theorem code_gated_txns_are_counted (threads : Nat) (sched : List (Nat × List LAct))
    (hsched : ∀ x ∈ sched, ∃ site ∈ Gen.KvGate.sites, x.2 = site.prog) :
    let ths := lrun (List.replicate threads {}) sched
    liveSum ths ≤ countedSum ths ∧ (countedSum ths = 0 → liveSum ths = 0) :=
  gated_txns_are_counted Gen.KvGate.sites gate_sites_ok threads sched hsched

/-- non-vacuity: two threads inside `Store::iter` and `Batch::new` of the generated table -/
example : lrun (List.replicate 2 {}) [(0, [.gate, .txnBegin, .txnEnd, .ungate]), (1, [.gate, .txnBegin, .txnEnd, .ungate]),
      (0, []), (1, [])] =
    [{ st := { counted := 1, live := 1 }, todo := [.txnEnd, .ungate] },
     { st := { counted := 1, live := 1 }, todo := [.txnEnd, .ungate] }] ∧
    (Gen.KvGate.sites.map (·.prog)).all (· == [.gate, .txnBegin, .txnEnd, .ungate]) = true := by decide +kernel

/-- Kernel-checked witnesses of what the obligations exclude.
(a) a wait with a second exit `return Err(..)` under a condition the gate does not control (a
    clock): an operation issued while a resize is pending FAILS as soon as that condition holds,
    although the resize would have come;
(b) a guard with a third disjunct (a mode flag, a retry count): the operation passes while the flag
    is set and the thread holds nothing;
(c) a site that opens its transaction first: an LMDB transaction is alive while every counter is 0,
    i.e. while the resizer believes nothing is open (`mdb_env_set_mapsize` then answers `EINVAL` and
    the map silently stays as it is - seeded change C18-M). -/
theorem excluded_shapes_witness :
    (storeOp boundedWaitShape (fun j => { resizing := true, nested := false, count := 1, unknown := decide (j ≥ 5) })
       (fun _ => false) 6 (some [1]) = OpRes.err (α := Option Val) ∧
     storeOp boundedWaitShape (fun j => { resizing := true, nested := false, count := 1, unknown := decide (j ≥ 5) })
       (fun _ => false) 5 (some [1]) = OpRes.blocked (α := Option Val) ∧
     boundedWaitShape.wait.exits = Gen.KvGate.enterTx.wait.exits ++ [{ kind := .err, guard := [.other] }]) ∧
    (pollIter { resizing := true, nested := false, count := 1, unknown := true }
        [{ kind := .pass, guard := [.notResizing, .threadNested, .other] }] = .exit .pass) ∧
    (countedSum (lrun [{}] [(0, swappedSite.prog)]) = 0 ∧ liveSum (lrun [{}] [(0, swappedSite.prog)]) = 1 ∧
      swappedSite.gateBeforeTxn = false) := by
  refine ⟨?_, by decide +kernel, by decide +kernel⟩
  decide +kernel

end gateShape

/-! ## the typed layer `chain/src/store.rs` (`ChainStore`, its `Batch`) -/
section typed
open ChainStore

/-- Every typed getter of `chain::store::Batch` / `ChainStore` is a `get_ser` of the batch /
a fresh-transaction `get_ser` of the store at the key determined by the object asked for; every
typed saver / deleter is a fixed sequence of puts / deletes at such keys; a typed batch body
(typed operations, child batches committed or dropped, any nesting depth) performs exactly the
store-level operations of the store-level body `p.lower`; and different typed objects never
share a `(database, key)`.  Hence the typed layer inherits every theorem above (instances
below). -/
theorem typed_getters_refine_kv :
    (∀ st k, getB st k = ofOpt (bget st k.key)) ∧
    (∀ st k, getS st k = ofOpt (sget st k.key)) ∧
    (∀ st h, blockExistsB st h = bexists st (TKey.block h).key ∧ blockExistsS st h = sexists st (TKey.block h).key) ∧
    (∀ st, headHeaderB st = headHeaderWith (bget st) ∧ headHeaderS st = headHeaderWith (sget st)) ∧
    (∀ st o, tstep st o = run st o.lower) ∧
    (∀ o : TOp, ∀ op ∈ o.lower, (∃ k v, op = Op.put k v) ∨ (∃ k, op = Op.del k)) ∧
    (∀ p : TProg, p.lower.flat = p.flat) ∧
    (∀ p c, ttxn p c = txn p.lower c) ∧
    (∀ a b : TKey, a.key = b.key → a = b) := by
  refine ⟨fun _ _ => rfl, fun _ _ => rfl, fun _ _ => ⟨rfl, rfl⟩, fun _ => ⟨rfl, rfl⟩, fun _ _ => rfl, ?_,
    flat_lower, ttxn_eq, fun _ _ => TKey.key_inj.1⟩
  intro o op hop
  cases o with
  | save k v => exact Or.inl ⟨_, _, List.mem_singleton.1 hop⟩
  | deleteBlock hsh =>
    simp only [TOp.lower, List.mem_cons, List.not_mem_nil, or_false] at hop
    rcases hop with h | h | h <;> exact Or.inr ⟨_, h⟩
  | deleteOutPos c => exact Or.inr ⟨_, List.mem_singleton.1 hop⟩
  | deleteRaw k => exact Or.inr ⟨_, List.mem_singleton.1 hop⟩

/-- A typed save in the innermost open batch (any depth) is read back by the matching typed
getter of that batch, and changes the answer of NO other typed getter (no aliasing between
headers, blocks, sums, spent indices, output positions and the four head keys). -/
theorem typed_read_your_save (st : St) (k k' : TKey) (v : Val) (h : st.stack ≠ []) :
    getB (tstep st (.save k v)) k' = if k = k' then .val v else getB st k' := by
  rw [getB, tstep_save, bget_put st _ _ _ h]
  by_cases hk : k = k' <;> simp [hk, TKey.key_inj, ofOpt, getB]

/-- `delete_block(h)` removes the block, its sums and its spent index from the batch's view and
nothing else (in particular not the header of `h`). -/
theorem typed_delete_block (st : St) (hsh : Bytes) (k : TKey) (h : st.stack ≠ []) :
    getB (tstep st (.deleteBlock hsh)) k =
      if k = .block hsh ∨ k = .sums hsh ∨ k = .spent hsh then .notFound else getB st k := by
  rw [getB, tstep_deleteBlock, bget_del _ _ _ (stack_del _ _ (stack_del _ _ h)), bget_del _ _ _ (stack_del _ _ h),
    bget_del _ _ _ h]
  simp only [TKey.key_inj, getB, @eq_comm _ _ k]
  by_cases h1 : k = .block hsh
  · simp [h1, ofOpt]
  · by_cases h2 : k = .sums hsh
    · simp [h2, ofOpt]
    · by_cases h3 : k = .spent hsh <;> simp [h1, h2, h3, ofOpt]

/-- Typed isolation: at every point of a `ChainStore::batch()` with typed body `p` before its
final commit / drop (every prefix of `begin; p`), every typed getter of the plain `ChainStore`
(any thread) answers as before the batch began — saves, deletes, child batches, child commits
and drops at any depth notwithstanding. -/
theorem typed_isolation (p : TProg) (st : St) (h : st.stack = []) (ops₁ ops₂ : List Op)
    (hsplit : Op.begin :: p.flat = ops₁ ++ ops₂) :
    (∀ k, getS (run st ops₁) k = getS st k) ∧
    (∀ hsh, blockExistsS (run st ops₁) hsh = blockExistsS st hsh) ∧
    headHeaderS (run st ops₁) = headHeaderS st := by
  obtain ⟨hg, he, _⟩ := storeReads_congr (isolation p.lower st h ops₁ ops₂ (by rw [flat_lower]; exact hsplit))
  simp only [getS, blockExistsS, headHeaderS, hg, he, implies_true, and_self]

/-- Typed atomic publication: the outermost commit of a typed batch replaces the committed map
`m` by the textbook meaning of its store-level body applied to `m`, in one step; a dropped typed
batch — whatever it and its children did — leaves the exact previous state. -/
theorem typed_commit_and_drop (p : TProg) (st : St) (h : st.stack = []) :
    den (run st (ttxn p true)).committed = p.lower.sem (den st.committed) ∧
    (run st (ttxn p true)).stack = [] ∧
    run st (ttxn p false) = st := by
  rw [ttxn_eq, ttxn_eq]
  exact ⟨(commit_publishes_all p.lower st h).1, (commit_publishes_all p.lower st h).2,
    dropped_batch_no_trace p.lower st h⟩

/-- non-vacuity: save a header and the head pointing to it in a child batch that commits, the
parent's `head_header` finds it; a sibling child that deletes the block is dropped; after the
outermost commit the plain store sees header, head and block -/
example :
    let hh : Bytes := List.replicate 32 7
    let tip : Val := List.replicate 8 0 ++ hh ++ List.replicate 40 0
    let p : TProg := .op (.save (.block hh) [1, 2, 3])
      (.child (.op (.save (.header hh) [9, 9]) (.op (.save .head tip) .done)) true
        (.child (.op (.deleteBlock hh) .done) false .done))
    let st := run {} (ttxn p true)
    headHeaderS st = .val [9, 9] ∧ getS st (.block hh) = .val [1, 2, 3] ∧ blockExistsS st hh = true ∧
    headHeaderS (run {} (ttxn p false)) = .notFound := by decide +kernel

end typed

end GV.Props.C18
