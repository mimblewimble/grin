import GrinVerif.Lemmas.KeysArith
/-! # C20 — signatures and the master-key mask

Theorems about `Model/KeysSig.lean`: the linear algebra of the multi-party kernel signature in the
exponent (what `calculate_partial_sig` / `add_signatures` / `verify_partial_sig` /
`verify_completed_sig` rely on), and `mask_master_key` as an involution.  That the real
secp256k1-zkp functions satisfy these equations is sampled by the `sigs` run (trusted base). -/
namespace GV.Props.C20
open GV GV.Keys List

/-- a signer's partial signature satisfies the verification equation under the signer's own key and
nonce — whatever the challenge -/
theorem partial_sig_verifies (e x k : Nat) : sigVerifies e (partialSig e x k) k x = true := by
  simp [sigVerifies, partialSig]

/-- **the completed signature verifies under the summed key and the summed nonce**: for any number
of signers with any keys and nonces and any shared challenge, `add_signatures` of all partial
signatures satisfies `s·G = R_sum + e·P_sum`. -/
theorem completed_sig_verifies (e : Nat) (signers : List (Nat × Nat)) :
    sigVerifies e (addSignatures (partialSigs e signers)) (signers.map (·.2)).sum (signers.map (·.1)).sum = true := by
  simp only [sigVerifies, addSignatures, Nat.mod_mod, beq_iff_eq]
  exact sum_partials e signers

/-- **the order in which the partial signatures are added does not matter** -/
theorem add_signatures_perm {a b : List Nat} (p : a ~ b) : addSignatures a = addSignatures b := by
  simp [addSignatures, p.sum_nat]

/-- **a missing partial signature is noticed**: leaving out one signer's part (first in the list)
makes the sum fail the equation for the full signer set, unless that part is ≡ 0. -/
theorem missing_partial_fails (e : Nat) (s : Nat × Nat) (rest : List (Nat × Nat))
    (h : partialSig e s.1 s.2 ≠ 0) :
    sigVerifies e (addSignatures (partialSigs e rest)) ((s :: rest).map (·.2)).sum ((s :: rest).map (·.1)).sum = false := by
  simp only [sigVerifies, addSignatures, Nat.mod_mod, beq_eq_false_iff_ne, ne_eq, ← sum_partials e (s :: rest)]
  show ¬ (partialSigs e rest).sum % N = (partialSig e s.1 s.2 + (partialSigs e rest).sum) % N
  exact fun hb => add_mod_ne (Nat.pos_of_ne_zero h) (Nat.mod_lt _ N_pos) hb.symm

/-- non-vacuity: two signers, challenge 7 -/
example : sigVerifies 7 (addSignatures (partialSigs 7 [(3, 11), (5, 13)])) (11 + 13) (3 + 5) = true := by decide
example : sigVerifies 7 (addSignatures (partialSigs 7 [(5, 13)])) (11 + 13) (3 + 5) = false := by decide

theorem sub_add_cancel_mod (p S : Nat) : subtractSignature ((p + S) % N) p = S % N := by
  rw [subtractSignature, Nat.mod_mod, Nat.add_comm p S, ← Nat.mod_add_mod S N p]
  exact sub_add_mod p (Nat.mod_lt S N_pos)

/-- **`subtract_signature` undoes `add_signatures`**: taking one signer's partial signature out of
the completed signature leaves exactly the sum of the other partial signatures — any number of
signers, any keys, nonces and challenge. -/
theorem subtract_inverts_add (p : Nat) (rest : List Nat) :
    subtractSignature (addSignatures (p :: rest)) p = addSignatures rest := by
  simp only [addSignatures, sum_cons]
  exact sub_add_cancel_mod p rest.sum

/-- … and adding it back restores the completed signature -/
theorem subtract_then_add_restores (p : Nat) (rest : List Nat) :
    addSignatures [subtractSignature (addSignatures (p :: rest)) p, p] = addSignatures (p :: rest) := by
  rw [subtract_inverts_add]
  simp only [addSignatures, sum_cons, sum_nil, Nat.add_zero]
  rw [Nat.mod_add_mod, Nat.add_comm]

/-- **what is left after subtracting signer `s` verifies as the joint partial signature of the other
signers**: `(completed − partial_s)·G = R_rest + e·P_rest` with the summed keys and nonces of the
rest. -/
theorem subtracted_sig_verifies (e : Nat) (s : Nat × Nat) (rest : List (Nat × Nat)) :
    sigVerifies e (subtractSignature (addSignatures (partialSigs e (s :: rest))) (partialSig e s.1 s.2))
      (rest.map (·.2)).sum (rest.map (·.1)).sum = true := by
  have h : partialSigs e (s :: rest) = partialSig e s.1 s.2 :: partialSigs e rest := by simp [partialSigs]
  rw [h, subtract_inverts_add]
  exact completed_sig_verifies e rest

/-- … and it does NOT verify under the subtracted signer's own key and nonce unless it happens to
coincide with that signer's partial signature mod n (two signers: `k₂ + e·x₂ ≡ k₁ + e·x₁`). -/
theorem subtracted_sig_other_signer (e : Nat) (s t : Nat × Nat)
    (h : partialSig e t.1 t.2 ≠ partialSig e s.1 s.2) :
    sigVerifies e (subtractSignature (addSignatures (partialSigs e [s, t])) (partialSig e s.1 s.2)) s.2 s.1 = false := by
  have h2 : partialSigs e [s, t] = partialSig e s.1 s.2 :: [partialSig e t.1 t.2] := by simp [partialSigs]
  rw [h2, subtract_inverts_add]
  simp only [addSignatures, sum_cons, sum_nil, Nat.add_zero, sigVerifies, Nat.mod_mod]
  have ht : partialSig e t.1 t.2 % N = partialSig e t.1 t.2 := Nat.mod_eq_of_lt (Nat.mod_lt _ N_pos)
  rw [ht]
  cases hb : (partialSig e t.1 t.2 == (s.2 + e * s.1) % N)
  · rfl
  · exact absurd (beq_iff_eq.1 hb) (by simpa [partialSig] using h)

example : subtractSignature (addSignatures (partialSigs 7 [(3, 11), (5, 13)])) (partialSig 7 3 11) = partialSig 7 5 13 := by decide
example : sigVerifies 7 (subtractSignature (addSignatures (partialSigs 7 [(3, 11), (5, 13), (9, 2)])) (partialSig 7 3 11))
    (13 + 2) (5 + 9) = true := by decide

/-- **exactly when `ExtKeychain::sign_with_blinding` panics**: iff the blinding factor is the
all-zero one; it is an `Err` iff the 32 bytes are no scalar (≥ n), and signs otherwise — the panic
is an explicit outcome of the model, compared on the real code (`signb` lines).  (An observation
about the code, not a violation of C20: the builder never signs with the zero factor.) -/
theorem sign_with_blinding_outcomes (b : Nat) :
    (ksignBlinding b = .panic ↔ b = 0) ∧ (ksignBlinding b = .err ↔ N ≤ b) ∧
    (ksignBlinding b = .ok () ↔ 0 < b ∧ b < N) := by
  unfold ksignBlinding bfSecretKey
  by_cases h0 : b = 0
  · subst h0; simp [N]
  · by_cases h1 : b < N
    · simp [h0, h1]; omega
    · simp [h0, h1]; omega

/-- `aggsig::sign_with_blinding` never panics: `Err` iff the bytes are no scalar, the zero factor signs -/
theorem aggsig_sign_with_blinding_outcomes (b : Nat) :
    aggsigSignBlinding b ≠ .panic ∧ (aggsigSignBlinding b = .err ↔ N ≤ b) := by
  unfold aggsigSignBlinding bfSecretKey
  by_cases h0 : b = 0
  · subst h0; simp [N]
  · by_cases h1 : b < N
    · simp [h0, h1]
    · simp [h0, h1]; omega

example : ksignBlinding 0 = .panic ∧ ksignBlinding 1 = .ok () ∧ ksignBlinding N = .err := by
  refine ⟨(sign_with_blinding_outcomes 0).1.2 rfl, (sign_with_blinding_outcomes 1).2.2.2 (by decide),
    (sign_with_blinding_outcomes N).2.1.2 (Nat.le_refl _)⟩

/-- **masking the master key twice with the same mask restores it** (any byte strings of equal
length; bytes below 256 not even needed) -/
theorem mask_twice_restores : ∀ (master mask : List Nat), master.length = mask.length →
    maskMasterKey (maskMasterKey master mask) mask = master
  | [], [], _ => rfl
  | a :: as, b :: bs, h => by
    have ih := mask_twice_restores as bs (by simpa using h)
    simp only [maskMasterKey, zipWith_cons_cons] at ih ⊢
    rw [ih, Nat.xor_assoc, Nat.xor_self, Nat.xor_zero]
  | [], _ :: _, h => by simp at h
  | _ :: _, [], h => by simp at h

/-- the mask keeps the length (32 bytes stay 32 bytes) -/
theorem mask_length (master mask : List Nat) (h : master.length = mask.length) :
    (maskMasterKey master mask).length = master.length := by
  simp [maskMasterKey, h]

example : maskMasterKey [0x12, 0xff, 0] [0xf0, 0x0f, 7] = [0xe2, 0xf0, 7] := by decide

end GV.Props.C20
