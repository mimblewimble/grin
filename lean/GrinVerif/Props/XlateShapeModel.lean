import GrinVerif.Model.Cons
import GrinVerif.Props.XlateShapeChain
/-! # The regenerated shape of `pipe::validate_header` = the order of checks of the hand model

`Model/Cons.lean` writes `validateHeader` as a chain of `if`s.  Here the model is shown (for ALL inputs) to be the
"first failing stage" interpreter over an explicit LIST of named stages, and the names of that list, in order, are
shown, by evaluation, to be the error spine that tools/gen_pipeshape.py reads from the CURRENT source of
`chain/src/pipe.rs::validate_header`.  So: the order of checks the model assumes is the order the code has, and a
check that is dropped, moved, or put on the other side of the `SKIP_POW` guard breaks `validate_header_shape_is_model`
(`process_block_header`: `processBlockHeader_stages`). -/
namespace GV.Props.XlateShapeModel
open GV GV.Cons GV.Gen.PipeShape GV.Props.XlateShape

/-- a stage: the name of the code's step, whether it sits under `if !SKIP_POW`, whether the code has a step for it
(`false`: model only — the `Panic` outcome of `next_difficulty`), and when it fails with which error -/
structure Stage where
  name : String
  powOnly : Bool
  inCode : Bool
  fails : Ctx → Hdr → Hdr → Option Err

def hdr0 : Hdr := ⟨0, 0, 0, 0, 0, 0, 0, 0, 0⟩

def newOut (prev h : Hdr) : Nat := numNew h.outputMmrSize prev.outputMmrSize
def newKer (prev h : Hdr) : Nat := numNew h.kernelMmrSize prev.kernelMmrSize

/-- the stages of `validate_header` after the previous header was found, in the model's order -/
def stages : List Stage := [
  ⟨"InvalidBlockHeight", false, true, fun _ p h => if h.height ≠ addW p.height 1 then some .InvalidBlockHeight else none⟩,
  ⟨"InvalidBlockVersion", false, true, fun c _ h => if !validHeaderVersion c.ct h.height h.version then some .InvalidBlockVersion else none⟩,
  ⟨"InvalidBlockTime", false, true, fun _ p h => if h.ts ≤ p.ts then some .InvalidBlockTime else none⟩,
  ⟨"InvalidMMRSize", false, true, fun _ p h => if newOut p h = 0 ∨ newKer p h = 0 then some .InvalidMMRSize else none⟩,
  ⟨"Block.TooHeavy", false, true, fun c p h => if weightByIok 0 (newOut p h) (newKer p h) > maxBlockWeight c.ct then some .TooHeavy else none⟩,
  ⟨"validate_pow_only", true, true, fun c _ h => match validatePowOnly c.ct c.powOk h with | .error e => some e | .ok () => none⟩,
  ⟨"DifficultyTooLow", true, true, fun _ p h => if h.totalDiff ≤ p.totalDiff then some .DifficultyTooLow else none⟩,
  ⟨"DifficultyTooLow", true, true, fun c p h =>
    if toDifficulty c.ct h.height h.edgeBits h.secondaryScaling h.hash64 < h.totalDiff - p.totalDiff then some .DifficultyTooLow else none⟩,
  ⟨"next_difficulty (panic)", true, false, fun c _ h => if (nextDifficulty c.ct h.height c.window).isNone then some .Panic else none⟩,
  ⟨"WrongTotalDifficulty", true, true, fun c p h =>
    match nextDifficulty c.ct h.height c.window with
    | some next => if h.totalDiff - p.totalDiff ≠ next.diff then some .WrongTotalDifficulty else none
    | none => none⟩,
  ⟨"InvalidScaling", true, true, fun c p h =>
    match nextDifficulty c.ct h.height c.window with
    | some next => if h.version < 5 ∧ h.secondaryScaling ≠ next.scaling then some .InvalidScaling else none
    | none => none⟩ ]

/-- first failing stage; stages under the `SKIP_POW` guard are skipped when `skipPow` -/
def run (c : Ctx) (p h : Hdr) : List Stage → Except Err Unit
  | [] => .ok ()
  | s :: rest =>
    if s.powOnly && c.skipPow then run c p h rest
    else match s.fails c p h with
      | some e => .error e
      | none => run c p h rest

theorem run_ite (c : Ctx) (p h : Hdr) (n : String) (po ic : Bool) (C : Ctx → Hdr → Hdr → Prop)
    [∀ c p h, Decidable (C c p h)] (e : Err) (rest : List Stage) :
    run c p h (⟨n, po, ic, fun c p h => if C c p h then some e else none⟩ :: rest) =
      if (po && c.skipPow) = true then run c p h rest
      else if C c p h then .error e else run c p h rest := by
  simp only [run]
  by_cases hc : C c p h <;> simp only [hc, if_true, if_false]

/-- **the model is the stage list**: for every context and header, `Cons.validateHeader` = denylist, then previous
header lookup, then the first failing stage of `stages` in order -/
theorem validateHeader_stages (c : Ctx) (h : Hdr) :
    validateHeader c h =
      if c.denied then .error .Denied else
      match c.prev with
      | none => .error .Orphan
      | some p => run c p h stages := by
  unfold validateHeader
  by_cases hd : c.denied
  · simp [hd]
  simp only [hd, Bool.false_eq_true, if_false]
  cases c.prev with
  | none => rfl
  | some p =>
    simp only [stages, run_ite, Bool.false_and, Bool.false_eq_true, if_false]
    simp only [newOut, newKer]
    by_cases hs : c.skipPow
    · simp [hs, run]
    · -- the stages under `!SKIP_POW`: `validate_pow_only` and the two that read `next_difficulty` are `match`es
      rw [run]
      simp only [hs, Bool.and_false, Bool.false_eq_true, if_false]
      unfold validateDifficulty
      cases validatePowOnly c.ct c.powOk h with
      | error e => rfl
      | ok u =>
        simp only [hs, run_ite, Bool.and_false, Bool.false_eq_true, if_false]
        simp only [run, hs, Bool.and_false, Bool.false_eq_true, if_false]
        cases nextDifficulty c.ct h.height c.window with
        | none => simp
        | some next =>
          by_cases h8 : h.totalDiff - p.totalDiff = next.diff <;>
            by_cases h9 : h.version < 5 ∧ h.secondaryScaling ≠ next.scaling <;> simp [h8, h9]

/-- the names the code's error spine must show, in order: the two lookups, then the stages the code has -/
def modelSpine : List String :=
  ["validate_header_ctx", "prev_header_store"] ++ (stages.filter (·.inCode)).map (·.name)

/-- the code's spine without the steps the model abstracts (`ctx.batch.child()`: a store error) -/
def codeSpine : List String := (spine pipe_validate_header).filter (· != "child")

/-- **shape = model**: the order of checks read from the current source of `pipe::validate_header` is the order of
the model's stage list -/
theorem validate_header_shape_is_model : readOk pipe_validate_header = true ∧ codeSpine = modelSpine := by
  refine ⟨rfl, ?_⟩
  names_eval [codeSpine, XlateShapeChain.pipe_validate_header_order]
  rfl

/-- … and exactly the model's `powOnly` stages sit under the code's `if !ctx.opts.contains(Options::SKIP_POW)` -/
theorem validate_header_pow_guard_is_model :
    (under "!($1.opts.contains(Options::SKIP_POW))" pipe_validate_header).filter (· != "child")
      = ((stages.filter fun s => s.inCode && s.powOnly).map (·.name)) := by
  names_eval [under, pipe_validate_header]
  rfl

/-- no early `Ok`, nothing discarded: every failing stage ends the function -/
theorem validate_header_total : earlyOks pipe_validate_header = [] ∧ calls pipe_validate_header = [] :=
  ⟨XlateShapeChain.pipe_validate_header_early_ok, XlateShapeChain.pipe_validate_header_propagated.2⟩

/-- `process_block_header` after its "already known" short cuts: `validate_header`, then `validate_root` inside
the header extension (the model's `processBlockHeader`); that the code has them in this order is the next theorem -/
theorem processBlockHeader_stages (c : Ctx) (rootOk : Bool) (h : Hdr) :
    processBlockHeader c rootOk h =
      match validateHeader c h with
      | .error e => .error e
      | .ok () => if rootOk then .ok () else .error .InvalidRoot := rfl

theorem process_block_header_shape_is_model :
    (spine pipe_process_block_header).filter (fun n => n == "validate_header" || n == "validate_root")
      = ["validate_header", "validate_root"] := by
  names_eval [XlateShapeChain.pipe_process_block_header_order]

/-- non-vacuity: a stage list run on a concrete input -/
example : run ⟨.mainnet, false, none, [], true, true⟩ ⟨5, 10, 1, 0, 0, 0, 0, 0, 0⟩ ⟨7, 11, 1, 0, 0, 0, 0, 0, 0⟩
    (stages.take 1) = .error .InvalidBlockHeight := by rfl

end GV.Props.XlateShapeModel
