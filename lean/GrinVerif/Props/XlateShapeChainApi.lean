import GrinVerif.Gen.PipeShapeChainApi
import GrinVerif.Lemmas.XlateShape
/-! # Obligations about the validation pipelines (ChainApi), stated over the REGENERATED shape tables

`Gen/PipeShapeChainApi.lean` is rewritten on every check run from the current Rust source by tools/gen_pipeshape.py.
What the obligations about a function say is described in `Lemmas/XlateShape.lean`.  Every observable filters the
steps of the table on their kind, so an obligation holds by `rfl` exactly when the current source still has the
reviewed value; a `_propagated` with discarded calls also looks them up in `watch` (`XlateShape.unwatched`: a
discarded call with a new name needs a conjunct there before this file is regenerated).  They do not mention
arguments or local names (the exact pins in `Props/XlateShapeChainApiPins.lean` do).  After a REVIEWED change
regenerate with `python3 tools/gen_pipeshape.py --obligations ChainApi`; the ties to the hand models are in
`Props/C03ShapeApi.lean`. -/
namespace GV.Props.XlateShapeChainApi
open GV.Gen.PipeShape GV.Props.XlateShape

/-! ### `Chain::process_block (chain/src/chain.rs)` -/
theorem chain_process_block_order : readOk chain_process_block = true ∧ spine chain_process_block =
    ["res"] := ⟨rfl, rfl⟩
theorem chain_process_block_propagated : discarded watch chain_process_block = [] ∧ calls chain_process_block = ["check_orphans"] :=
  propagated rfl (by simp only [filter_watch_cons, unwatched, List.filter_nil])
theorem chain_process_block_early_ok : earlyOks chain_process_block = [] := by rfl
theorem chain_process_block_errors : fails chain_process_block = []
    ∧ mapped chain_process_block = [] := ⟨rfl, rfl⟩
theorem chain_process_block_depth : depths chain_process_block = [0] := by rfl
theorem chain_process_block_guard_inputs : guardInputs chain_process_block = ["process_block_single"] := by rfl

/-! ### `Chain::is_known (chain/src/chain.rs)` -/
theorem chain_is_known_order : readOk chain_is_known = true ∧ spine chain_is_known =
    ["head", "Unfit", "block_exists", "Unfit"] := ⟨rfl, rfl⟩
theorem chain_is_known_propagated : discarded watch chain_is_known = [] ∧ calls chain_is_known = [] := propagated rfl rfl
theorem chain_is_known_early_ok : earlyOks chain_is_known = [] := by rfl
theorem chain_is_known_errors : fails chain_is_known = [("Unfit", "($1.hash() == $0.hash())"), ("Unfit", "self.block_exists($0.hash())?")]
    ∧ mapped chain_is_known = [] := ⟨rfl, rfl⟩
theorem chain_is_known_depth : depths chain_is_known = [0, 1, 1, 2] := by rfl
theorem chain_is_known_guard_inputs : guardInputs chain_is_known = ["head"] := by rfl

/-! ### `Chain::check_orphan (chain/src/chain.rs)` -/
theorem chain_check_orphan_order : readOk chain_check_orphan = true ∧ spine chain_check_orphan =
    ["head", "block_exists", "Orphan"] := ⟨rfl, rfl⟩
theorem chain_check_orphan_propagated : discarded watch chain_check_orphan = [] ∧ calls chain_check_orphan = ["add"] :=
  propagated rfl (by simp only [filter_watch_cons, unwatched, List.filter_nil])
theorem chain_check_orphan_early_ok : earlyOks chain_check_orphan = [["($3 || self.block_exists($0.header.prev_hash)?)"]]
    ∧ spineBeforeFirstEarlyOk chain_check_orphan = ["head", "block_exists"] := ⟨rfl, rfl⟩
theorem chain_check_orphan_errors : fails chain_check_orphan = [("Orphan", "")]
    ∧ mapped chain_check_orphan = [] := ⟨rfl, rfl⟩
theorem chain_check_orphan_depth : depths chain_check_orphan = [0, 1, 0] := by rfl
theorem chain_check_orphan_guard_inputs : guardInputs chain_check_orphan = ["head", "<bin>"] := by rfl

/-! ### `Chain::process_block_single (chain/src/chain.rs)` -/
theorem chain_process_block_single_order : readOk chain_process_block_single = true ∧ spine chain_process_block_single =
    ["process_block_header", "is_known", "check_orphan", "batch", "head", "new_ctx", "process_block", "commit", "get_previous_header"] := ⟨rfl, rfl⟩
theorem chain_process_block_single_propagated : discarded watch chain_process_block_single = [] ∧ calls chain_process_block_single = ["block_accepted"] :=
  propagated rfl (by simp only [filter_watch_cons, unwatched, List.filter_nil])
theorem chain_process_block_single_early_ok : earlyOks chain_process_block_single = [] := by rfl
theorem chain_process_block_single_errors : fails chain_process_block_single = []
    ∧ mapped chain_process_block_single = [] := ⟨rfl, rfl⟩
theorem chain_process_block_single_depth : depths chain_process_block_single = [0, 0, 0, 0, 0, 0, 0, 0, 0] := by rfl
theorem chain_process_block_single_guard_inputs : guardInputs chain_process_block_single = [] := by rfl

/-! ### `Chain::process_block_header (chain/src/chain.rs)` -/
theorem chain_process_block_header_order : readOk chain_process_block_header = true ∧ spine chain_process_block_header =
    ["batch", "new_ctx", "process_block_header", "commit"] := ⟨rfl, rfl⟩
theorem chain_process_block_header_propagated : discarded watch chain_process_block_header = [] ∧ calls chain_process_block_header = [] := propagated rfl rfl
theorem chain_process_block_header_early_ok : earlyOks chain_process_block_header = [] := by rfl
theorem chain_process_block_header_errors : fails chain_process_block_header = []
    ∧ mapped chain_process_block_header = [] := ⟨rfl, rfl⟩
theorem chain_process_block_header_depth : depths chain_process_block_header = [0, 0, 0, 0] := by rfl
theorem chain_process_block_header_guard_inputs : guardInputs chain_process_block_header = [] := by rfl

/-! ### `Chain::sync_block_headers (chain/src/chain.rs)` -/
theorem chain_sync_block_headers_order : readOk chain_sync_block_headers = true ∧ spine chain_sync_block_headers =
    ["batch", "new_ctx", "process_block_headers", "commit"] := ⟨rfl, rfl⟩
theorem chain_sync_block_headers_propagated : discarded watch chain_sync_block_headers = [] ∧ calls chain_sync_block_headers = [] := propagated rfl rfl
theorem chain_sync_block_headers_early_ok : earlyOks chain_sync_block_headers = [] := by rfl
theorem chain_sync_block_headers_errors : fails chain_sync_block_headers = []
    ∧ mapped chain_sync_block_headers = [] := ⟨rfl, rfl⟩
theorem chain_sync_block_headers_depth : depths chain_sync_block_headers = [0, 0, 0, 0] := by rfl
theorem chain_sync_block_headers_guard_inputs : guardInputs chain_sync_block_headers = [] := by rfl

/-! ### `Chain::check_orphans (chain/src/chain.rs)` -/
theorem chain_check_orphans_order : readOk chain_check_orphans = true ∧ spine chain_check_orphans =
    [] := ⟨rfl, rfl⟩
theorem chain_check_orphans_propagated : discarded watch chain_check_orphans = [] ∧ calls chain_check_orphans = [] := propagated rfl rfl
theorem chain_check_orphans_early_ok : earlyOks chain_check_orphans = [] := by rfl
theorem chain_check_orphans_errors : fails chain_check_orphans = []
    ∧ mapped chain_check_orphans = [] := ⟨rfl, rfl⟩
theorem chain_check_orphans_depth : depths chain_check_orphans = [] := by rfl
theorem chain_check_orphans_guard_inputs : guardInputs chain_check_orphans = ["<boollit>", "height", "height", "process_block_single", "<boollit>", "height", "<bin>"] := by rfl

/-! ### `Chain::reset_chain_head (chain/src/chain.rs)` -/
theorem chain_reset_chain_head_order : readOk chain_reset_chain_head = true ∧ spine chain_reset_chain_head =
    ["batch", "get_block_header", "rewind_and_apply_fork", "save_body_head", "extending", "rewind_and_apply_header_fork", "save_header_head", "header_extending", "commit"] := ⟨rfl, rfl⟩
theorem chain_reset_chain_head_propagated : discarded watch chain_reset_chain_head = [] ∧ calls chain_reset_chain_head = [] := propagated rfl rfl
theorem chain_reset_chain_head_early_ok : earlyOks chain_reset_chain_head = [] := by rfl
theorem chain_reset_chain_head_errors : fails chain_reset_chain_head = []
    ∧ mapped chain_reset_chain_head = [] := ⟨rfl, rfl⟩
theorem chain_reset_chain_head_depth : depths chain_reset_chain_head = [0, 0, 1, 1, 0, 2, 2, 1, 0] := by rfl
theorem chain_reset_chain_head_guard_inputs : guardInputs chain_reset_chain_head = [] := by rfl

/-! ### `Chain::validate_tx (chain/src/chain.rs)` -/
theorem chain_validate_tx_order : readOk chain_validate_tx = true ∧ spine chain_validate_tx =
    ["validate_tx_against_utxo", "validate_tx_kernels"] := ⟨rfl, rfl⟩
theorem chain_validate_tx_propagated : discarded watch chain_validate_tx = [] ∧ calls chain_validate_tx = [] := propagated rfl rfl
theorem chain_validate_tx_early_ok : earlyOks chain_validate_tx = [] := by rfl
theorem chain_validate_tx_errors : fails chain_validate_tx = []
    ∧ mapped chain_validate_tx = [] := ⟨rfl, rfl⟩
theorem chain_validate_tx_depth : depths chain_validate_tx = [0, 0] := by rfl
theorem chain_validate_tx_guard_inputs : guardInputs chain_validate_tx = [] := by rfl

/-! ### `Chain::verify_coinbase_maturity (chain/src/chain.rs)` -/
theorem chain_verify_coinbase_maturity_order : readOk chain_verify_coinbase_maturity = true ∧ spine chain_verify_coinbase_maturity =
    ["next_block_height", "head", "verify_coinbase_maturity", "utxo_view", "head_header", "rewind_and_apply_fork", "verify_coinbase_maturity", "extending_readonly"] := ⟨rfl, rfl⟩
theorem chain_verify_coinbase_maturity_propagated : discarded watch chain_verify_coinbase_maturity = [] ∧ calls chain_verify_coinbase_maturity = [] := propagated rfl rfl
theorem chain_verify_coinbase_maturity_early_ok : earlyOks chain_verify_coinbase_maturity = [] := by rfl
theorem chain_verify_coinbase_maturity_errors : fails chain_verify_coinbase_maturity = []
    ∧ mapped chain_verify_coinbase_maturity = [] := ⟨rfl, rfl⟩
theorem chain_verify_coinbase_maturity_depth : depths chain_verify_coinbase_maturity = [0, 0, 2, 1, 1, 1, 1, 0] := by rfl
theorem chain_verify_coinbase_maturity_guard_inputs : guardInputs chain_verify_coinbase_maturity = ["<match>"] := by rfl

/-! ### `Chain::verify_tx_lock_height (chain/src/chain.rs)` -/
theorem chain_verify_tx_lock_height_order : readOk chain_verify_tx_lock_height = true ∧ spine chain_verify_tx_lock_height =
    ["next_block_height", "TxLockHeight"] := ⟨rfl, rfl⟩
theorem chain_verify_tx_lock_height_propagated : discarded watch chain_verify_tx_lock_height = [] ∧ calls chain_verify_tx_lock_height = [] := propagated rfl rfl
theorem chain_verify_tx_lock_height_early_ok : earlyOks chain_verify_tx_lock_height = [] := by rfl
theorem chain_verify_tx_lock_height_errors : fails chain_verify_tx_lock_height = [("TxLockHeight", "!(($0.lock_height() <= $1))")]
    ∧ mapped chain_verify_tx_lock_height = [] := ⟨rfl, rfl⟩
theorem chain_verify_tx_lock_height_depth : depths chain_verify_tx_lock_height = [0, 1] := by rfl
theorem chain_verify_tx_lock_height_guard_inputs : guardInputs chain_verify_tx_lock_height = ["next_block_height"] := by rfl

/-! ### `Chain::set_txhashset_roots (chain/src/chain.rs)` -/
theorem chain_set_txhashset_roots_order : readOk chain_set_txhashset_roots = true ∧ spine chain_set_txhashset_roots =
    ["get_previous_header", "rewind_and_apply_fork", "root", "apply_block", "roots", "extending_readonly"] := ⟨rfl, rfl⟩
theorem chain_set_txhashset_roots_propagated : discarded watch chain_set_txhashset_roots = [] ∧ calls chain_set_txhashset_roots = [] := propagated rfl rfl
theorem chain_set_txhashset_roots_early_ok : earlyOks chain_set_txhashset_roots = [] := by rfl
theorem chain_set_txhashset_roots_errors : fails chain_set_txhashset_roots = []
    ∧ mapped chain_set_txhashset_roots = [] := ⟨rfl, rfl⟩
theorem chain_set_txhashset_roots_depth : depths chain_set_txhashset_roots = [1, 1, 1, 1, 1, 0] := by rfl
theorem chain_set_txhashset_roots_guard_inputs : guardInputs chain_set_txhashset_roots = [] := by rfl

/-! ### `Chain::compact (chain/src/chain.rs)` -/
theorem chain_compact_order : readOk chain_compact = true ∧ spine chain_compact =
    ["txhashset_archive_header", "batch", "head_header", "get_header_hash_by_height", "get_block_header", "compact", "remove_historical_blocks", "init_output_pos_index", "init_recent_kernel_pos_index", "commit"] := ⟨rfl, rfl⟩
theorem chain_compact_propagated : discarded watch chain_compact = [] ∧ calls chain_compact = [] := propagated rfl rfl
theorem chain_compact_early_ok : earlyOks chain_compact = [["(self.tail(), self.head()) ~ (Ok(_), Ok(_))", "($4 > $1.height)"]]
    ∧ spineBeforeFirstEarlyOk chain_compact = [] := ⟨rfl, rfl⟩
theorem chain_compact_errors : fails chain_compact = []
    ∧ mapped chain_compact = [] := ⟨rfl, rfl⟩
theorem chain_compact_depth : depths chain_compact = [0, 0, 0, 0, 0, 0, 1, 0, 0, 0] := by rfl
theorem chain_compact_guard_inputs : guardInputs chain_compact = ["cut_through_horizon", "saturating_add", "saturating_add"] := by rfl

end GV.Props.XlateShapeChainApi
