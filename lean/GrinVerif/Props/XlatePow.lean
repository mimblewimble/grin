import GrinVerif.Model.Pow
import GrinVerif.Gen.FnsPow
import GrinVerif.Lemmas.BasicWrap
import GrinVerif.Lemmas.XlatePow

/-! # Translated `core/src/pow/siphash.rs` = hand-written model (`Model/Pow.lean`, siphash part)

`GV.Gen.Fns.*` (file `Gen/FnsPow.lean`) is regenerated on every check run from the CURRENT Rust
source by `tools/rs2lean.py` (release-build semantics: `wrapping_add`/`+` wrap at `2^64`, the shift
amount of a u64 shift is masked `% 64`, `64 - rot_e` is u8 arithmetic, `64 - 13` etc. u32 arithmetic).
Every integer of the translation is a `Nat` (invariant: a u64 value is `< 2^64`); the hand-written
model is on `UInt64`.  The tie is the map `ofSip : Sip → Fns.SipHash24` (componentwise `toNat`) and,
for the scalar functions, `toNat` of the model's result.  A change of one of these Rust function
bodies changes the generated definition and the corresponding theorem stops checking.

Ranges.  Keys, nonce: every u64 (they are `UInt64` values, or `Nat`s `< 2^64` in the `_nat` forms).
`rot_e`: EVERY `Nat` — no hypothesis is needed, in particular the whole `u8` range of the Rust
parameter: the code's `64 - rot_e` wraps in u8, the model's `64 - r` wraps in `UInt64`, and both
amounts are then masked `% 64`; since `64 ∣ 2^8` and `64 ∣ 2^64` the two agree `% 64` (lemma
`rotl_eq`; the callers only use 21 and 25).  `rot_e = 0` and multiples of 64 rotate by 0 on both sides
(`x << 0 | x >> 0 = x`).

`<fn>_ok`: `SipHash24::new`/`siphash24`/`siphash_block` index a `&[u64; 4]` with 0..3 and the 64-element
`nonce_hash` with `i < 64`, `nonce_i = nonce & 63`, `xor_from..64`; the `_ok` theorems show that none
of these is out of range for any 4-element key and ANY nonce / rot_e / xor_all.

Proof-engineering note: `rfl`, `simp [f]`, `rw [f]` and `show` on the generated loop functions were
observed not to terminate within minutes (already generating the equation lemmas of
`SipHash24_hash_loop1` does not; presumably the unifier compares `self =?= SipHash24_round self r` on
open terms and starts unfolding `Nat` bit operations).  The `…_cons`/`…_nil` lemmas below are therefore
obtained with `conv => lhs; unfold f`, and everything else uses `rw` with them. -/

namespace GV.Props.XlatePow
open GV GV.Pow GV.Xlate
open GV.Gen

/-- the model state as a state of the translation -/
def ofSip (s : Sip) : Fns.SipHash24 := ⟨s.v0.toNat, s.v1.toNat, s.v2.toNat, s.v3.toNat⟩

theorem ofSip_inj {s t : Sip} (h : ofSip s = ofSip t) : s = t := by
  cases s; cases t
  simp only [ofSip, Fns.SipHash24.mk.injEq, UInt64.toNat_inj] at h
  obtain ⟨h0, h1, h2, h3⟩ := h
  subst h0 h1 h2 h3; rfl

/-- every u64 state of the translation is the image of a model state -/
theorem ofSip_surj (t : Fns.SipHash24) (h0 : t.f0 < 2^64) (h1 : t.f1 < 2^64) (h2 : t.f2 < 2^64)
    (h3 : t.f3 < 2^64) : ∃ s : Sip, ofSip s = t :=
  ⟨⟨t.f0.toUInt64, t.f1.toUInt64, t.f2.toUInt64, t.f3.toUInt64⟩, by
    cases t
    simp only [ofSip, toNat_toUInt64_of_lt h0, toNat_toUInt64_of_lt h1, toNat_toUInt64_of_lt h2,
      toNat_toUInt64_of_lt h3]⟩

/-- the macro `rotl!(x, rot_e)` with `rot_e : u8` (`64 - rot_e` in wrapping u8 arithmetic, both shift
amounts masked `% 64`) is the model's `rotl` — for EVERY amount `r` (no `r < 64` needed) -/
theorem rotl_eq (x : UInt64) (r : Nat) :
    shlW x.toNat r ||| shrW x.toNat (Fns.subN 8 64 r) = (rotl x r.toUInt64).toNat := by
  apply rotl_toNat_gen
  · rw [toNat_toUInt64]; omega
  · rw [sub64_toNat_mod, toNat_toUInt64]; unfold Fns.subN; omega

/-- the same for the literal amounts (`64 - 13` … in u32 arithmetic) -/
theorem rotl_lit_eq (x : UInt64) (r : Nat) :
    shlW x.toNat r ||| shrW x.toNat (Fns.subN 32 64 r) = (rotl x r.toUInt64).toNat := by
  apply rotl_toNat_gen
  · rw [toNat_toUInt64]; omega
  · rw [sub64_toNat_mod, toNat_toUInt64]; unfold Fns.subN; omega

/-- amounts 1 and 65, 0 and 64 rotate alike (the amount is taken `% 64` on both sides); amount 200 -/
example : (rotl 0x8000000000000001 1).toNat = 3 ∧ (rotl 0x8000000000000001 65).toNat = 3
    ∧ (rotl 5 0).toNat = 5 ∧ (rotl 5 64).toNat = 5 := by decide
example : shlW 0x8000000000000001 200 ||| shrW 0x8000000000000001 (Fns.subN 8 64 200)
    = (rotl 0x8000000000000001 200).toNat := by decide

/-- `SipHash24::round(rot_e)` = `Sip.round`, every state, every `rot_e` -/
theorem round_eq (s : Sip) (rotE : Nat) :
    Fns.SipHash24_round (ofSip s) rotE = ofSip (s.round rotE.toUInt64) := by
  cases s with
  | mk v0 v1 v2 v3 =>
    simp only [Fns.SipHash24_round, ofSip, Sip.round, addW_toNat, rotl_lit_eq, rotl_eq,
      ← UInt64.toNat_xor]
    rfl

example : Fns.SipHash24_round (ofSip ⟨1, 2, 3, 4⟩) 21 = ofSip ((⟨1, 2, 3, 4⟩ : Sip).round 21)
    ∧ Fns.SipHash24_round ⟨1, 2, 3, 4⟩ 21 = ⟨12885164039, 2147893258, 70411693850624, 562655657991⟩
    ∧ Fns.SipHash24_round ⟨1, 2, 3, 4⟩ 200 = ofSip ((⟨1, 2, 3, 4⟩ : Sip).round 200) := by decide

theorem hash_loop1_cons (r a : Nat) (t : List Nat) (s : Fns.SipHash24) :
    Fns.SipHash24_hash_loop1 r (a :: t) s
      = Fns.SipHash24_hash_loop1 r t (Fns.SipHash24_round s r) := by
  conv => lhs; unfold Fns.SipHash24_hash_loop1

theorem hash_loop1_nil (r : Nat) (s : Fns.SipHash24) : Fns.SipHash24_hash_loop1 r [] s = s := by
  conv => lhs; unfold Fns.SipHash24_hash_loop1

theorem hash_loop1_eq (rotE : Nat) (l : List Nat) (s : Sip) :
    Fns.SipHash24_hash_loop1 rotE l (ofSip s)
      = ofSip (l.foldl (fun s _ => s.round rotE.toUInt64) s) := by
  induction l generalizing s with
  | nil => rw [hash_loop1_nil, List.foldl_nil]
  | cons a t ih => rw [hash_loop1_cons, round_eq, ih, List.foldl_cons]

theorem hash_loop1_four (s : Sip) (rotE : Nat) :
    Fns.SipHash24_hash_loop1 rotE (List.range' 0 (4 - 0)) (ofSip s)
      = ofSip ((((s.round rotE.toUInt64).round rotE.toUInt64).round rotE.toUInt64).round
          rotE.toUInt64) := by
  have h : List.range' 0 (4 - 0) = [0, 1, 2, 3] := by decide
  rw [hash_loop1_eq, h]
  simp only [List.foldl_cons, List.foldl_nil]

/-- `SipHash24::hash(nonce, rot_e)` = `Sip.hash` (2 rounds, then 4), `UInt64` nonce -/
theorem hash_eq_u (s : Sip) (nonce : UInt64) (rotE : Nat) :
    Fns.SipHash24_hash (ofSip s) nonce.toNat rotE = ofSip (s.hash nonce rotE.toUInt64) := by
  have e3 : ∀ t : Sip, ({ ofSip t with f3 := (ofSip t).f3 ^^^ nonce.toNat } : Fns.SipHash24)
      = ofSip { t with v3 := t.v3 ^^^ nonce } := by
    intro t; simp only [ofSip, ← UInt64.toNat_xor]
  have e02 : ∀ t : Sip, ({ ({ ofSip t with f0 := (ofSip t).f0 ^^^ nonce.toNat } : Fns.SipHash24) with
        f2 := ({ ofSip t with f0 := (ofSip t).f0 ^^^ nonce.toNat } : Fns.SipHash24).f2 ^^^ 255 } :
          Fns.SipHash24)
      = ofSip { t with v0 := t.v0 ^^^ nonce, v2 := t.v2 ^^^ 0xff } := by
    intro t; simp only [ofSip, ← UInt64.toNat_xor]
    rw [show (255 : Nat) = (0xff : UInt64).toNat from rfl, ← UInt64.toNat_xor]
  unfold Fns.SipHash24_hash Sip.hash
  simp only [e3, round_eq, e02, hash_loop1_four]

theorem hash_eq (s : Sip) (nonce rotE : Nat) (hn : nonce < 2^64) :
    Fns.SipHash24_hash (ofSip s) nonce rotE = ofSip (s.hash nonce.toUInt64 rotE.toUInt64) := by
  have := hash_eq_u s nonce.toUInt64 rotE
  rwa [toNat_toUInt64_of_lt hn] at this

example : Fns.SipHash24_hash (ofSip ⟨1, 2, 3, 4⟩) 10 21 = ofSip ((⟨1, 2, 3, 4⟩ : Sip).hash 10 21) :=
  hash_eq _ 10 21 (by decide)

theorem digest_eq (s : Sip) :
    Fns.SipHash24_digest (ofSip s).f0 (ofSip s).f1 (ofSip s).f2 (ofSip s).f3 = s.digest.toNat := by
  simp only [Fns.SipHash24_digest, ofSip, Sip.digest, ← UInt64.toNat_xor]

theorem new_eq (k : Keys) :
    Fns.SipHash24_new [k.k0.toNat, k.k1.toNat, k.k2.toNat, k.k3.toNat] = ofSip k.sip := rfl

theorem new_ok (a b c d : Nat) : Fns.SipHash24_new_ok [a, b, c, d] = true := by
  simp [Fns.SipHash24_new_ok]

/-- `siphash24(&[k0,k1,k2,k3], nonce)` = `GV.Pow.siphash24`, every key, every nonce -/
theorem siphash24_eq (k : Keys) (n : UInt64) :
    Fns.siphash24 [k.k0.toNat, k.k1.toNat, k.k2.toNat, k.k3.toNat] n.toNat
      = (GV.Pow.siphash24 k n).toNat := by
  unfold Fns.siphash24 GV.Pow.siphash24
  have h : Fns.SipHash24_hash (ofSip k.sip) n.toNat 21 = ofSip (k.sip.hash n 21) :=
    hash_eq_u k.sip n 21
  simp only [new_eq, h, digest_eq]

theorem siphash24_ok (a b c d n : Nat) : Fns.siphash24_ok [a, b, c, d] n = true := by
  unfold Fns.siphash24_ok; exact new_ok a b c d

/-- `Nat` form: every 4-element key of u64 values, every u64 nonce -/
theorem siphash24_eq_nat (a b c d n : Nat) (ha : a < 2^64) (hb : b < 2^64) (hc : c < 2^64)
    (hd : d < 2^64) (hn : n < 2^64) :
    Fns.siphash24 [a, b, c, d] n
      = (GV.Pow.siphash24 ⟨a.toUInt64, b.toUInt64, c.toUInt64, d.toUInt64⟩ n.toUInt64).toNat := by
  have h := siphash24_eq ⟨a.toUInt64, b.toUInt64, c.toUInt64, d.toUInt64⟩ n.toUInt64
  simp only [toNat_toUInt64_of_lt ha, toNat_toUInt64_of_lt hb, toNat_toUInt64_of_lt hc,
    toNat_toUInt64_of_lt hd, toNat_toUInt64_of_lt hn] at h
  exact h

/-- the Rust unit-test vectors (`hash_some`), on the translation and, through `siphash24_eq`, on the
model -/
example : Fns.siphash24 [1, 2, 3, 4] 10 = 928382149599306901
    ∧ Fns.siphash24 [1, 2, 3, 4] 111 = 10524991083049122233
    ∧ Fns.siphash24 [9, 7, 6, 7] 12 = 1305683875471634734
    ∧ Fns.siphash24 [9, 7, 6, 7] 10 = 11589833042187638814 := by decide
example : (GV.Pow.siphash24 ⟨1, 2, 3, 4⟩ 10).toNat = 928382149599306901 := by
  rw [← siphash24_eq]; decide
example : Fns.siphash24_ok [1, 2, 3, 4] 10 = true := siphash24_ok 1 2 3 4 10

theorem block_size_eq : Fns.SIPHASH_BLOCK_SIZE = 64 := by decide
theorem block_mask_eq : Fns.SIPHASH_BLOCK_MASK = 63 := by decide
theorem block_notmask_eq : Fns.notN 64 Fns.SIPHASH_BLOCK_MASK = 2^64 - 1 - 63 := by decide

theorem block_loop1_cons (r n0 i : Nat) (rest nh : List Nat) (s : Fns.SipHash24) :
    Fns.siphash_block_loop1 r n0 (i :: rest) nh s
      = Fns.siphash_block_loop1 r n0 rest
          (List.set nh i (Fns.SipHash24_digest (Fns.SipHash24_hash s (addW n0 i) r).f0
            (Fns.SipHash24_hash s (addW n0 i) r).f1 (Fns.SipHash24_hash s (addW n0 i) r).f2
            (Fns.SipHash24_hash s (addW n0 i) r).f3))
          (Fns.SipHash24_hash s (addW n0 i) r) := by
  conv => lhs; unfold Fns.siphash_block_loop1

theorem block_loop1_nil (r n0 : Nat) (nh : List Nat) (s : Fns.SipHash24) :
    Fns.siphash_block_loop1 r n0 [] nh s = (nh, s) := by
  conv => lhs; unfold Fns.siphash_block_loop1

/-- loop 1 of `siphash_block` run over `i .. i+n` on a vector `pre ++ suf` (`pre` = the `i` slots
already written) overwrites the next `n` slots with the model's chained digests -/
theorem block_loop1_eq (rotE : Nat) (nonce0 : UInt64) :
    ∀ (n i : Nat) (s : Sip) (pre suf : List Nat), pre.length = i → n ≤ suf.length → i + n ≤ 2^64 →
      (Fns.siphash_block_loop1 rotE nonce0.toNat (List.range' i n) (pre ++ suf) (ofSip s)).1
        = pre ++ (digestsL nonce0 rotE.toUInt64 s i n).map UInt64.toNat ++ suf.drop n := by
  intro n
  induction n with
  | zero =>
    intro i s pre suf _ _ _
    rw [List.range'_zero, block_loop1_nil, digestsL, List.map_nil, List.append_nil, List.drop_zero]
  | succ n ih =>
    intro i s pre suf hp hs hi
    cases suf with
    | nil => simp at hs
    | cons x suf' =>
      rw [List.range'_succ, block_loop1_cons, addW_toNat_nat nonce0 i (by omega), hash_eq_u,
        digest_eq, List.set_append_right _ _ (by omega), hp, Nat.sub_self, List.set_cons_zero]
      have h := ih (i + 1) (s.hash (nonce0 + i.toUInt64) rotE.toUInt64)
        (pre ++ [(s.hash (nonce0 + i.toUInt64) rotE.toUInt64).digest.toNat]) suf'
        (by rw [List.length_append, hp]; rfl) (by simpa using hs) (by omega)
      rw [List.append_assoc, List.singleton_append] at h
      rw [h, digestsL, List.map_cons, List.drop_succ_cons]
      simp only [List.append_assoc, List.cons_append, List.nil_append]

theorem block_loop1_ok_cons (r n0 i : Nat) (rest nh : List Nat) (s : Fns.SipHash24) :
    Fns.siphash_block_loop1_ok r n0 (i :: rest) nh s
      = (decide (i < List.length nh) &&
          Fns.siphash_block_loop1_ok r n0 rest
            (List.set nh i (Fns.SipHash24_digest (Fns.SipHash24_hash s (addW n0 i) r).f0
              (Fns.SipHash24_hash s (addW n0 i) r).f1 (Fns.SipHash24_hash s (addW n0 i) r).f2
              (Fns.SipHash24_hash s (addW n0 i) r).f3))
            (Fns.SipHash24_hash s (addW n0 i) r)) := by
  conv => lhs; unfold Fns.siphash_block_loop1_ok

theorem block_loop1_ok_nil (r n0 : Nat) (nh : List Nat) (s : Fns.SipHash24) :
    Fns.siphash_block_loop1_ok r n0 [] nh s = true := by
  conv => lhs; unfold Fns.siphash_block_loop1_ok

/-- no store of loop 1 is out of range when the iterated indices are below the vector length
(any state, any `rot_e`, any `nonce0`) -/
theorem block_loop1_ok (r n0 : Nat) :
    ∀ (n i : Nat) (nh : List Nat) (s : Fns.SipHash24), i + n ≤ nh.length →
      Fns.siphash_block_loop1_ok r n0 (List.range' i n) nh s = true := by
  intro n
  induction n with
  | zero => intro i nh s _; rw [List.range'_zero, block_loop1_ok_nil]
  | succ n ih =>
    intro i nh s h
    rw [List.range'_succ, block_loop1_ok_cons, ih (i + 1) _ _ (by rw [List.length_set]; omega)]
    simp only [Bool.and_true, decide_eq_true_eq]; omega

theorem block_loop2_cons (nh : List Nat) (i : Nat) (rest : List Nat) (x : Nat) :
    Fns.siphash_block_loop2 nh (i :: rest) x
      = Fns.siphash_block_loop2 nh rest (x ^^^ Fns.idx nh i) := by
  conv => lhs; unfold Fns.siphash_block_loop2

theorem block_loop2_nil (nh : List Nat) (x : Nat) : Fns.siphash_block_loop2 nh [] x = x := by
  conv => lhs; unfold Fns.siphash_block_loop2

/-- loop 2 of `siphash_block` = the model's `xorRange` (any start, any count: out-of-range reads are
0 on both sides, and are excluded by `block_loop2_ok`) -/
theorem block_loop2_eq (hs : Array UInt64) :
    ∀ (n i : Nat) (x : UInt64),
      Fns.siphash_block_loop2 (hs.toList.map UInt64.toNat) (List.range' i n) x.toNat
        = (xorRange hs x i n).toNat := by
  intro n
  induction n with
  | zero => intro i x; rw [List.range'_zero, block_loop2_nil, xorRange]
  | succ n ih =>
    intro i x
    rw [List.range'_succ, block_loop2_cons, idx_map_toNat, ← UInt64.toNat_xor, ih, xorRange]

theorem block_loop2_ok_cons (nh : List Nat) (i : Nat) (rest : List Nat) (x : Nat) :
    Fns.siphash_block_loop2_ok nh (i :: rest) x
      = (decide (i < List.length nh) &&
          Fns.siphash_block_loop2_ok nh rest (x ^^^ Fns.idx nh i)) := by
  conv => lhs; unfold Fns.siphash_block_loop2_ok

theorem block_loop2_ok_nil (nh : List Nat) (x : Nat) :
    Fns.siphash_block_loop2_ok nh [] x = true := by
  conv => lhs; unfold Fns.siphash_block_loop2_ok

theorem block_loop2_ok (nh : List Nat) :
    ∀ (n i x : Nat), i + n ≤ nh.length →
      Fns.siphash_block_loop2_ok nh (List.range' i n) x = true := by
  intro n
  induction n with
  | zero => intro i x _; rw [List.range'_zero, block_loop2_ok_nil]
  | succ n ih =>
    intro i x h
    rw [List.range'_succ, block_loop2_ok_cons, ih (i + 1) _ (by omega)]
    simp only [Bool.and_true, decide_eq_true_eq]; omega

/-- after loop 1 the whole vector holds the model's 64 chained digests -/
theorem block_loop1_full (k : Keys) (nonce0 : UInt64) (rotE : Nat) :
    (Fns.siphash_block_loop1 rotE nonce0.toNat (List.range' 0 64) (List.replicate 64 0)
        (ofSip k.sip)).1
      = (sipBlockDigests k nonce0 rotE.toUInt64).toList.map UInt64.toNat := by
  have h := block_loop1_eq rotE nonce0 64 0 k.sip [] (List.replicate 64 0) rfl
    (by rw [List.length_replicate]; omega) (by omega)
  rw [List.nil_append, List.nil_append, List.drop_replicate, Nat.sub_self, List.replicate_zero,
    List.append_nil] at h
  rw [h, sipBlockDigests_toList]

theorem notN_63 : Fns.notN 64 63 = 18446744073709551552 := by decide
theorem and_not63 (n : UInt64) :
    n.toNat &&& 18446744073709551552 = (n &&& ~~~(63 : UInt64)).toNat := by
  rw [UInt64.toNat_and, UInt64.toNat_not]; rfl

/-- `siphash_block(&[k0,k1,k2,k3], nonce, rot_e, xor_all)` = `GV.Pow.siphashBlock`: every key, every
nonce, every `rot_e`, both `xor_all` -/
theorem siphash_block_eq (k : Keys) (nonce : UInt64) (rotE : Nat) (xorAll : Bool) :
    Fns.siphash_block [k.k0.toNat, k.k1.toNat, k.k2.toNat, k.k3.toNat] nonce.toNat rotE xorAll
      = (siphashBlock k nonce rotE.toUInt64 xorAll).toNat := by
  have hj : (nonce &&& 63).toNat ≤ 63 := by rw [← and63_toNat]; exact Nat.and_le_right
  have ha : addW (nonce &&& 63).toNat 1 = (nonce &&& 63).toNat + 1 := addW_eq (by omega)
  unfold Fns.siphash_block siphashBlock
  simp only [block_size_eq, block_mask_eq, notN_63, new_eq, and_not63, and63_toNat,
    Nat.sub_zero, block_loop1_full, idx_map_toNat, ha, block_loop2_eq]

theorem block_loop1_length (r n0 : Nat) :
    ∀ (l nh : List Nat) (s : Fns.SipHash24),
      (Fns.siphash_block_loop1 r n0 l nh s).1.length = nh.length := by
  intro l
  induction l with
  | nil => intro nh s; rw [block_loop1_nil]
  | cons i rest ih => intro nh s; rw [block_loop1_cons, ih, List.length_set]

/-- `siphash_block` never indexes out of range (4-element key; any nonce, `rot_e`, `xor_all`, even
outside the u64 range) -/
theorem siphash_block_ok (a b c d nonce rotE : Nat) (xorAll : Bool) :
    Fns.siphash_block_ok [a, b, c, d] nonce rotE xorAll = true := by
  have hj : nonce &&& 63 ≤ 63 := Nat.and_le_right
  have ha : addW (nonce &&& 63) 1 = (nonce &&& 63) + 1 := addW_eq (by omega)
  unfold Fns.siphash_block_ok
  simp only [block_size_eq, block_mask_eq, new_ok, Nat.sub_zero, Bool.true_and, ha,
    block_loop1_length, List.length_replicate]
  rw [block_loop1_ok _ _ 64 0 _ _ (by rw [List.length_replicate]; omega),
    block_loop2_ok _ _ _ _ (by rw [block_loop1_length, List.length_replicate]; split <;> omega)]
  simp only [Bool.and_true, Bool.true_and, decide_eq_true_eq]; omega

theorem siphash_block_eq_nat (a b c d n rotE : Nat) (xorAll : Bool) (ha : a < 2^64) (hb : b < 2^64)
    (hc : c < 2^64) (hd : d < 2^64) (hn : n < 2^64) :
    Fns.siphash_block [a, b, c, d] n rotE xorAll
      = (siphashBlock ⟨a.toUInt64, b.toUInt64, c.toUInt64, d.toUInt64⟩ n.toUInt64 rotE.toUInt64
          xorAll).toNat := by
  have h := siphash_block_eq ⟨a.toUInt64, b.toUInt64, c.toUInt64, d.toUInt64⟩ n.toUInt64 rotE xorAll
  simp only [toNat_toUInt64_of_lt ha, toNat_toUInt64_of_lt hb, toNat_toUInt64_of_lt hc,
    toNat_toUInt64_of_lt hd, toNat_toUInt64_of_lt hn] at h
  exact h

/-- the Rust unit-test vector (`hash_block`) -/
theorem hash_block_vector : Fns.siphash_block [1, 2, 3, 4] 10 21 false = 1182162244994096396 := by
  decide +kernel

example : Fns.siphash_block [1, 2, 3, 4] 10 21 false = 1182162244994096396 := hash_block_vector
example : (siphashBlock ⟨1, 2, 3, 4⟩ 10 21 false).toNat = 1182162244994096396 := by
  rw [show (21 : UInt64) = (21 : Nat).toUInt64 from rfl, ← siphash_block_eq]; exact hash_block_vector
example : Fns.siphash_block_ok [1, 2, 3, 4] 10 21 false = true := siphash_block_ok 1 2 3 4 10 21 false
/-- both branches of `xor_from` and the last slot of a block are exercised -/
example : Fns.siphash_block [1, 2, 3, 4] 63 21 false = Fns.siphash_block [1, 2, 3, 4] 63 21 true
    ∧ Fns.siphash_block [1, 2, 3, 4] 10 21 true ≠ Fns.siphash_block [1, 2, 3, 4] 10 21 false := by
  decide +kernel

end GV.Props.XlatePow
