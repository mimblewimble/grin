import GrinVerif.Model.ChainKnown
import GrinVerif.Gen.PipeShapeChainApi
import GrinVerif.Props.XlateShapeLib
/-! # The regenerated shape of the `Chain` API functions (chain/src/chain.rs) = `Model/ChainKnown.lean`

`precheckK` is shown (for all inputs) to be `is_known`, then `check_orphan`, then `check_known` -
the three named steps - and the order of `process_block_single`, the conditions of `is_known` and
`check_orphan`, the options an orphan is re-processed with, the steps of `reset_chain_head` (which of
them sit under `rewind_headers`) and the place of the ONE commit of `sync_block_headers` are decided
equal to the tables tools/gen_pipeshape.py reads from the current source (`Gen/PipeShapeChainApi`). -/
namespace GV.Props.C03ShapeApi
open GV GV.Chain GV.Gen.PipeShape GV.Props.XlateShape

/-- `Chain::is_known` -/
def isKnownK (n1 : Node) (b : Blk) : Option Err :=
  if b.id == n1.head then some "Unfit" else
  if b.work ≤ n1.workOf n1.head ∧ n1.stored.contains b.id then some "Unfit" else none

/-- `Chain::check_orphan`: `none` = not an orphan -/
def isOrphanK (n1 : Node) (par : Nat) : Bool := !(par == n1.head || n1.stored.contains par)

/-- **the model is the three named steps**, in the order of `process_block_single` -/
theorem precheckK_stages (n1 : Node) (b : Blk) :
    precheckK n1 b =
      match isKnownK n1 b with
      | some e => .reject e
      | none =>
        match b.parent with
        | none => .reject "StoreErr"
        | some par =>
          if isOrphanK n1 par then .orphan else
          match checkKnown n1 b with
          | some e => .reject e
          | none => .go par := by
  unfold precheckK isKnownK isOrphanK
  by_cases h1 : (b.id == n1.head) = true
  · rw [if_pos h1, if_pos h1]
  · rw [if_neg h1, if_neg h1]
    by_cases h2 : b.work ≤ n1.workOf n1.head ∧ n1.stored.contains b.id = true
    · rw [if_pos h2, if_pos h2]
    · rw [if_neg h2, if_neg h2]
      cases b.parent with
      | none => rfl
      | some par =>
        simp only
        by_cases h3 : (par == n1.head) = true
        · simp only [h3, Bool.true_or, Bool.not_true, Bool.false_eq_true, if_false, true_or, not_true_eq_false]
          cases checkKnown n1 b <;> rfl
        · by_cases h4 : n1.stored.contains par = true
          · simp only [h3, h4, Bool.or_true, Bool.not_true, Bool.false_eq_true, if_false, or_true, not_true_eq_false]
            cases checkKnown n1 b <;> rfl
          · have h4' : ¬ par ∈ n1.stored := by simpa using h4
            simp [h3, h4']

/-- `process_block_single`: header, `is_known`, `check_orphan`, `pipe::process_block`, ONE commit, and
the adapter is told only after that commit; nothing else has its result discarded -/
theorem process_block_single_shape_is_model :
    readOk chain_process_block_single = true ∧
    (spine chain_process_block_single).filter (fun n => !(["batch", "head", "new_ctx", "get_previous_header"].contains n)) =
      ["process_block_header", "is_known", "check_orphan", "process_block", "commit"] ∧
    calls chain_process_block_single = ["block_accepted"] ∧
    ((chain_process_block_single.steps.map (·.name)).dropWhile (· != "commit")).contains "block_accepted" = true ∧
    earlyOks chain_process_block_single = [] := by decide +kernel

/-- `is_known`: `Unfit` for the head's own hash, and - ONLY for a block with no more work than the
head - for a block in the store (`isKnownK`) -/
theorem is_known_shape_is_model :
    readOk chain_is_known = true ∧
    fails chain_is_known = [("Unfit", "($1.hash() == $0.hash())"), ("Unfit", "self.block_exists($0.hash())?")] ∧
    under "($0.total_difficulty() <= $1.total_difficulty)" chain_is_known = ["block_exists", "Unfit"] :=
  ⟨rfl, rfl, by decide +kernel⟩

/-- `check_orphan`: not an orphan iff the parent is the head's hash or in the block store; otherwise
the block is put into the pool and `Orphan` returned (`isOrphanK`, `addOrphan`) -/
theorem check_orphan_shape_is_model :
    readOk chain_check_orphan = true ∧
    earlyOks chain_check_orphan = [["($3 || self.block_exists($0.header.prev_hash)?)"]] ∧
    (chain_check_orphan.lets.filter (·.vars == ["$3"])).map (·.init) = ["($0.header.prev_hash == $2.last_block_h)"] ∧
    calls chain_check_orphan = ["add"] ∧ fails chain_check_orphan = [("Orphan", "")] :=
  ⟨rfl, rfl, rfl, rfl, rfl⟩

/-- `process_block`: orphans are looked at only after a successful step, from the next height; the
step's own result is returned -/
theorem process_block_shape_is_model :
    (chain_process_block.steps.filter (·.kind == .call)).map (fun s => (s.name, s.what, s.guard)) =
      [("check_orphans", "self.check_orphans(($2 + 1))", ["$3.is_ok()"])] ∧
    (chain_process_block.lets.map (·.name)) = ["process_block_single"] ∧
    spine chain_process_block = ["res"] := ⟨rfl, rfl, rfl⟩

/-- `check_orphans`: every orphan is processed with ITS OWN options (`annotateOpts`), an accepted
orphan sets the flag and the height, and the loop goes on at that height + 1 only under the flag
(`checkOrphansG`) -/
theorem check_orphans_shape_is_model :
    (chain_check_orphans.lets.filter (·.name == "process_block_single")).map (·.init) =
      ["self.process_block_single($7.block, $7.opts)"] ∧
    (chain_check_orphans.lets.filter (fun l => l.guard.contains "$9.is_ok()")).map (fun l => (l.vars, l.init)) =
      [(["$2"], "= true"), (["$3"], "= $8")] ∧
    (chain_check_orphans.lets.filter (fun l => l.guard.getLast? == some "$2")).map (fun l => (l.vars, l.init)) =
      [(["$0"], "= ($3 + 1)")] := by decide +kernel

/-- `reset_chain_head`: header look-up first, the body extension (fork with the denylist, body head
saved inside it), then - exactly under `rewind_headers` - the header extension and the header head,
ONE commit at the end (`resetChainHeadK`) -/
theorem reset_chain_head_shape_is_model :
    readOk chain_reset_chain_head = true ∧
    spine chain_reset_chain_head =
      ["batch", "get_block_header", "rewind_and_apply_fork", "save_body_head", "extending",
       "rewind_and_apply_header_fork", "save_header_head", "header_extending", "commit"] ∧
    under "$1" chain_reset_chain_head = ["rewind_and_apply_header_fork", "save_header_head", "header_extending"] ∧
    calls chain_reset_chain_head = [] := ⟨rfl, rfl, rfl, rfl⟩

/-- `sync_block_headers`: the one commit comes after `process_block_headers` succeeded - a refused
chunk is never committed (`Props/C06Chunk.lean` `refused_chunk_changes_nothing`) -/
theorem sync_block_headers_shape_is_model :
    readOk chain_sync_block_headers = true ∧
    spine chain_sync_block_headers = ["batch", "new_ctx", "process_block_headers", "commit"] ∧
    calls chain_sync_block_headers = [] ∧ earlyOks chain_sync_block_headers = [] := ⟨rfl, rfl, rfl, rfl⟩

/-- non-vacuity of `precheckK_stages`: the head offered again is answered by the first step -/
example : isKnownK { head := 3 } { id := 3, parent := some 2, h := 3, work := 9, ver := 2, ts := 3, ins := [], outs := [], kers := [], tags := [] } = some "Unfit" := by decide +kernel

end GV.Props.C03ShapeApi
