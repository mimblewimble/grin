import GrinVerif.Model.CrashKernel
import GrinVerif.Props.C09
/-! C09, the kernel data file under rewinds beyond the end of its size file
(`Model/CrashKernel.lean`): the mechanism of known finding C09-recovery-not-restartable and of the
"next restart" half of C09-reorg-kernel-data-window, as theorems about `AppendOnlyFile::flush`'s
`set_len` and `TxHashSet::open`'s first-kernel check.

General (every size / data file content, every rewind position):
* `rewind_beyond_size_file_empties_data` — one kernel sync after a rewind to a position beyond the
  end of the size file leaves an EMPTY data file;
* `next_start_fails_after_rewind_beyond` — the next start then fails in `TxHashSet::open`;
* `dead_stays_dead` / `never_opens_again` — no later sequence of rewinds and syncs (what any further
  recovery does) brings a readable first kernel back: the node does not open again without repair.
Witnesses (kernel-checked by `decide`, the reorganisation witness of `Props/C09.lean`):
* `recovery_killed_then_restart_bricks` — first death at a crash point that a single restart
  survives (step 9: only the output files rewritten), second death inside the restart's fallback:
  the restart after that runs to its end, and the start after THAT fails to open; a second death at
  any other point is harmless;
* `kernel_data_window_next_start_fails` — first death after the kernel data file's truncation
  (step 15): the uninterrupted restart already leaves a zero-filled data file (the start after it
  fails), and a restart killed after its first fallback sync leaves an empty one. -/
namespace GV.Props.C09Kernel
open GV GV.Crash

theorem setLen_beyond (l : List (Option Nat)) (n : Nat) (h : l.length < n) :
    (setLen l n)[n - 1]? = some none := by
  unfold setLen
  rw [if_neg (by omega)]
  rw [List.getElem?_append_right (by omega)]
  rw [List.getElem?_replicate]
  simp; omega

/-- **A rewind beyond the end of the size file empties the data file.** -/
theorem rewind_beyond_size_file_empties_data (k : KFiles) (n : Nat) (h : k.size.length < n) :
    (kSync k n).data = [] := by
  unfold kSync dataFlush
  have hn : n ≠ 0 := by omega
  simp only [hn, if_false]
  have : (sizeFlush k n).size[n - 1]? = some none := setLen_beyond k.size n h
  rw [this]

/-- the first element of the data file is not a kernel -/
def Dead (k : KFiles) : Prop := ∀ x, k.data.head? ≠ some (some x)

theorem not_readable_of_dead (hashLen : Nat) (hh : 0 < hashLen) (k : KFiles) (hd : Dead k) :
    kReadable hashLen (kOpen k) = false := by
  have hdata : (kOpen k).data = k.data := by
    unfold kOpen; split <;> rfl
  unfold kReadable
  have h0 : (hashLen == 0) = false := by simp; omega
  rw [h0, hdata]
  simp only [Bool.false_or]
  cases hs : (kOpen k).size.head? with
  | none => rfl
  | some s =>
    cases s with
    | none => rfl
    | some a =>
      cases hd2 : k.data.head? with
      | none => rfl
      | some e =>
        cases e with
        | none => rfl
        | some x => exact absurd hd2 (hd x)

theorem dead_of_rewind_beyond (k : KFiles) (n : Nat) (h : k.size.length < n) : Dead (kSync k n) := fun x => by
  rw [rewind_beyond_size_file_empties_data k n h]; simp

/-- **…and the next start fails in `TxHashSet::open`.** -/
theorem next_start_fails_after_rewind_beyond (k : KFiles) (n : Nat) (h : k.size.length < n)
    (hashLen : Nat) (hh : 0 < hashLen) :
    kReadable hashLen (kOpen (kSync k n)) = false :=
  not_readable_of_dead hashLen hh _ (dead_of_rewind_beyond k n h)

theorem head_setLen_dead (l : List (Option Nat)) (n : Nat) (h : ∀ x, l.head? ≠ some (some x)) :
    ∀ x, (setLen l n).head? ≠ some (some x) := by
  intro x
  unfold setLen
  split
  · cases l with
    | nil => simp
    | cons a t =>
      cases n with
      | zero => simp
      | succ m => simpa using h x
  · cases l with
    | nil =>
      cases hm : n - ([] : List (Option Nat)).length with
      | zero => simp
      | succ m => simp [List.replicate_succ]
    | cons a t => simpa using h x

theorem dead_kSync (k : KFiles) (n : Nat) (h : Dead k) : Dead (kSync k n) := by
  intro x
  unfold kSync dataFlush
  split
  · simp
  · split
    · exact head_setLen_dead _ n h x
    · simp

theorem dead_kOpen (k : KFiles) (h : Dead k) : Dead (kOpen k) := by
  intro x; unfold kOpen; split <;> exact h x

/-- **No further recovery heals it.** Whatever sequence of restarts (open) and rewinds + syncs
follows, the first element of the data file never becomes a kernel again. -/
theorem dead_stays_dead (ns : List (Option Nat)) : ∀ (k : KFiles), Dead k →
    Dead (ns.foldl (fun k o => match o with | some n => kSync k n | none => kOpen k) k) := by
  induction ns with
  | nil => intro k h; exact h
  | cons o rest ih =>
    intro k h
    simp only [List.foldl_cons]
    apply ih
    cases o with
    | some n => exact dead_kSync k n h
    | none => exact dead_kOpen k h

theorem never_opens_again (ns : List (Option Nat)) (k : KFiles) (n : Nat) (h : k.size.length < n)
    (hashLen : Nat) (hh : 0 < hashLen) :
    kReadable hashLen (kOpen (ns.foldl (fun k o => match o with | some n => kSync k n | none => kOpen k)
      (kSync k n))) = false :=
  not_readable_of_dead hashLen hh _ (dead_stays_dead ns _ (dead_of_rewind_beyond k n h))

-- non-vacuity: size file of 6 true entries, a rewind to 7
example : (kSync (kOfIds [0, 1, 2, 3, 4, 5]) 7).data = [] ∧
    (kSync (kOfIds [0, 1, 2, 3, 4, 5]) 7).size = [some 0, some 1, some 2, some 3, some 4, some 5, none] ∧
    -- the rewind back into the true entries re-grows zeros
    (kSync (kSync (kOfIds [0, 1, 2, 3, 4, 5]) 7) 6).data = [none, none, none, none, none, none] := by decide
-- a rewind inside the file is an ordinary truncation
example : kSync (kOfIds [0, 1, 2, 3, 4, 5]) 4 = kOfIds [0, 1, 2, 3] := by decide

/-! ### witnesses on the reorganisation chain of `Props/C09.lean` (old path b0..b7, heavier b9 on b5) -/
open GV.Props.C09

/-- first death after step 9 of the reorganising block (output files rewritten, no kernel file
touched yet) -/
def d9 : Durable := crashAfter tgtR (consistent old8) blockSteps 9
def k9 : KFiles := kOfPath (fun _ => 1) old8

/-- **A restart killed inside its fallback, then restarted: the start after that does not open.**
A single restart from `d9` opens on the fork point b5 and can be killed anywhere without the NEXT
start failing to open; but if it is killed after `j` = 12..17 of its durable writes (behind the
kernel sync of its first fallback step, before the last one), the following restart — run to its end
— leaves a kernel data file whose first element is not a kernel. -/
theorem recovery_killed_then_restart_bricks :
    recover bc tblR d9 = .ok 5 ∧
    (∀ j ∈ List.range 26, nextStartOpens (recCrashAfter bc tblR d9 j) (kRestartKilled (fun _ => 1) bc tblR d9 k9 j) = true) ∧
    (∀ j ∈ [12, 13, 14, 15, 16, 17],
      nextStartOpens (recCrashAfter bc tblR d9 j)
        (kRestartKilled (fun _ => 1) bc tblR (recCrashAfter bc tblR d9 j) (kRestartKilled (fun _ => 1) bc tblR d9 k9 j) 100) = false) ∧
    (∀ j ∈ [0, 1, 2, 3, 4, 5, 6, 7, 8, 9, 10, 11, 18, 19, 20, 21, 22, 23, 24],
      nextStartOpens (recCrashAfter bc tblR d9 j)
        (kRestartKilled (fun _ => 1) bc tblR (recCrashAfter bc tblR d9 j) (kRestartKilled (fun _ => 1) bc tblR d9 k9 j) 100) = true) := by
  decide +kernel

/-- first death after step 15 (kernel hash and size file rewritten for the new branch, kernel data
file truncated to the fork point, new kernels not yet appended) -/
def d15 : Durable := crashAfter tgtR (consistent old8) blockSteps 15
def k15 : KFiles := [KStep.sizeTrunc, .sizeApp, .dataTrunc].foldl (applyKStep (fun _ => 1) tgtR) k9

/-- **The kernel data window: the start after the recovering start fails.** The restart from `d15`
opens on b5; run to its end (18 writes) it leaves a zero-filled data file, killed after 7 or more
writes an empty one: in both cases the next start fails in `TxHashSet::open`. -/
theorem kernel_data_window_next_start_fails :
    recover bc tblR d15 = .ok 5 ∧ (recoverS bc tblR d15).1.length = 18 ∧
    kRestartKilled (fun _ => 1) bc tblR d15 k15 18 =
      { size := [some 0, some 1, some 2, some 3, some 4, some 5], data := [none, none, none, none, none, none] } ∧
    (∀ j ∈ [7, 8, 9, 10, 11, 12, 13, 14, 15, 16, 17, 18],
      nextStartOpens (recCrashAfter bc tblR d15 j) (kRestartKilled (fun _ => 1) bc tblR d15 k15 j) = false) ∧
    (∀ j ∈ [0, 1, 2, 3, 4, 5, 6],
      nextStartOpens (recCrashAfter bc tblR d15 j) (kRestartKilled (fun _ => 1) bc tblR d15 k15 j) = true) := by
  decide +kernel

end GV.Props.C09Kernel
