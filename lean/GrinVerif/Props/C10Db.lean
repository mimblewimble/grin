import GrinVerif.Lemmas.SerDbRt
import GrinVerif.Lemmas.SerStoreRt
/-! # C10 — the `Readable` / `Writeable` impls of database values and wrappers

`Model/SerDb.lean` transliterates the impls of the source tree that the other C10 modules do not cover (inventory:
`Model/SerImpls.lean`, obligations `Props/C10Impls.lean`): the NRD kernel index lists of
`chain/src/linked_list.rs`, `BlockSums`, `SizeEntry`, `ProtocolVersion`, the integer / tuple / fixed
byte-string impls of `core/src/ser.rs`, `PeerData`, `BoolFlag`. Tied to the code by the `db` run of the
`ser` harness. Same three shapes as in the other C10 modules: round trip with any continuation; for ALL byte
strings "accepted ⇒ the bytes are the encoding of the returned value"; refusal of unknown tags. Where
the code normalises instead of refusing (`BoolFlag`, the optional trailing fields of `PeerData`)
the theorem says exactly what it does. None of these encodings has a version or mode parameter. -/
namespace GV.Props.C10Db
open GV GV.Ser GV.SerMsg GV.SerDb

/-! ## the NRD kernel index: `ListWrapper<T>` and `ListEntry<T>` -/

theorem listWrapper_roundtrip {α : Type} (p : Parser α) (w : α → Bytes) (x : ListWrapper α)
    (h : x.WF p w) (rest : Bytes) : decListWrapper p (encListWrapper w x ++ rest) = .ok (x, rest) :=
  decListWrapper_enc p w x h rest

theorem listEntry_roundtrip {α : Type} (p : Parser α) (w : α → Bytes) (x : ListEntry α)
    (h : x.WF p w) (rest : Bytes) : decListEntry p (encListEntry w x ++ rest) = .ok (x, rest) :=
  decListEntry_enc p w x h rest

/-- for ALL byte strings: an accepted list value is byte for byte the encoding of what was returned,
provided the item reader has that property -/
theorem listWrapper_accepts_only_canonical {α : Type} {p : Parser α} {w : α → Bytes} (hc : ItemCanon p w)
    {bs : Bytes} {x : ListWrapper α} {r : Bytes} (hb : AllBytes bs)
    (h : decListWrapper p bs = .ok (x, r)) : bs = encListWrapper w x ++ r := decListWrapper_inv hc hb h

theorem listEntry_accepts_only_canonical {α : Type} {p : Parser α} {w : α → Bytes} (hc : ItemCanon p w)
    {bs : Bytes} {x : ListEntry α} {r : Bytes} (hb : AllBytes bs)
    (h : decListEntry p bs = .ok (x, r)) : bs = encListEntry w x ++ r := decListEntry_inv hc hb h

/-- unknown variant bytes are refused (`from_u8(..).ok_or(CorruptedData)`), whatever follows -/
theorem listWrapper_unknown_variant_refused {α : Type} (p : Parser α) (t : Nat) (ht : 2 ≤ t) (r : Bytes) :
    decListWrapper p (t :: r) = .error .corrupted := decListWrapper_unknown p t ht r

theorem listEntry_unknown_variant_refused {α : Type} (p : Parser α) (t : Nat) (ht : t < 2 ∨ 4 < t) (r : Bytes) :
    decListEntry p (t :: r) = .error .corrupted := decListEntry_unknown p t ht r

/-- "Start at 2 here to differentiate from ListWrapperVariant": a stored ENTRY is never read as a
LIST and a stored list never as an entry, whatever the item codec (the two db prefixes share the
key layout, the tag ranges are what keeps a mixed-up key from being misread). -/
theorem entry_never_reads_as_list {α β : Type} (p : Parser β) (w : α → Bytes) (e : ListEntry α) (rest : Bytes) :
    decListWrapper p (encListEntry w e ++ rest) = .error .corrupted := by
  obtain ⟨t, tl, h, ht⟩ := encListEntry_head w e
  rw [h, List.cons_append]
  exact decListWrapper_unknown p t ht _

theorem list_never_reads_as_entry {α β : Type} (p : Parser β) (w : α → Bytes) (l : ListWrapper α) (rest : Bytes) :
    decListEntry p (encListWrapper w l ++ rest) = .error .corrupted := by
  obtain ⟨t, tl, h, ht⟩ := encListWrapper_head w l
  rw [h, List.cons_append]
  exact decListEntry_unknown p t (Or.inl ht) _

/-- the instances the node stores: `MultiIndex<CommitPos>` -/
def NrdListWF : ListWrapper CommitPos → Prop
  | .single c => c.WF
  | .multi a b => a < 2^64 ∧ b < 2^64

def NrdEntryWF : ListEntry CommitPos → Prop
  | .head c n => c.WF ∧ n < 2^64
  | .tail c p => c.WF ∧ p < 2^64
  | .middle c n p => c.WF ∧ n < 2^64 ∧ p < 2^64

theorem nrdList_roundtrip (x : ListWrapper CommitPos) (h : NrdListWF x) (rest : Bytes) :
    decNrdList (encNrdList x ++ rest) = .ok (x, rest) := by
  cases x with
  | single c =>
    exact decListWrapper_enc decCommitPos encCommitPos (.single c) (wire_commitPos.codec.leafRt h) rest
  | multi a b => exact decListWrapper_enc decCommitPos encCommitPos (.multi a b) h rest

theorem nrdEntry_roundtrip (x : ListEntry CommitPos) (h : NrdEntryWF x) (rest : Bytes) :
    decNrdEntry (encNrdEntry x ++ rest) = .ok (x, rest) := by
  cases x with
  | head c n =>
    exact decListEntry_enc decCommitPos encCommitPos (.head c n) (And.intro (wire_commitPos.codec.leafRt h.1) h.2) rest
  | tail c p =>
    exact decListEntry_enc decCommitPos encCommitPos (.tail c p) (And.intro (wire_commitPos.codec.leafRt h.1) h.2) rest
  | middle c n p =>
    exact decListEntry_enc decCommitPos encCommitPos (.middle c n p)
      (And.intro (wire_commitPos.codec.leafRt h.1) h.2) rest

example : NrdEntryWF (.middle { pos := 2^64 - 1, height := 7 } 0 (2^64 - 1)) := by
  refine ⟨⟨by decide, by decide⟩, by decide, by decide⟩

example : decNrdEntry (encNrdEntry (.middle { pos := 2^64 - 1, height := 7 } 0 (2^64 - 1)) ++ [9])
    = .ok (.middle { pos := 2^64 - 1, height := 7 } 0 (2^64 - 1), [9]) := by rfl

theorem nrdList_accepts_only_canonical {bs : Bytes} {x : ListWrapper CommitPos} {r : Bytes} (hb : AllBytes bs)
    (h : decNrdList bs = .ok (x, r)) : bs = encNrdList x ++ r := decListWrapper_inv (LeafCanon.itemCanon wire_commitPos.inv) hb h

theorem nrdEntry_accepts_only_canonical {bs : Bytes} {x : ListEntry CommitPos} {r : Bytes} (hb : AllBytes bs)
    (h : decNrdEntry bs = .ok (x, r)) : bs = encNrdEntry x ++ r := decListEntry_inv (LeafCanon.itemCanon wire_commitPos.inv) hb h

/-- both list variants of the NRD index are 17 bytes; entries are 25 or 33 -/
theorem nrdList_length (x : ListWrapper CommitPos) : (encNrdList x).length = 17 := by
  cases x <;> rfl

theorem nrdEntry_length (x : ListEntry CommitPos) :
    (encNrdEntry x).length = match x with | .middle _ _ _ => 33 | _ => 25 := by
  cases x <;> rfl

/-! ## BlockSums, SizeEntry, ProtocolVersion -/

theorem blockSums_roundtrip (s : BlockSums) (h : s.WF) (rest : Bytes) :
    decBlockSums (encBlockSums s ++ rest) = .ok (s, rest) := wire_blockSums.rt s h rest

theorem blockSums_accepts_only_canonical {bs : Bytes} {s : BlockSums} {r : Bytes}
    (h : decBlockSums bs = .ok (s, r)) : bs = encBlockSums s ++ r ∧ s.WF := wire_blockSums.inv' h

example : ({ utxoSum := List.replicate 33 8, kernelSum := List.replicate 33 9 } : BlockSums).WF := by decide

theorem sizeEntry_roundtrip (e : SizeEntry) (h : e.WF) (rest : Bytes) :
    decSizeEntry (encSizeEntry e ++ rest) = .ok (e, rest) := wire_sizeEntry.rt e h rest

theorem sizeEntry_accepts_only_canonical {bs : Bytes} {e : SizeEntry} {r : Bytes} (hb : AllBytes bs)
    (h : decSizeEntry bs = .ok (e, r)) : bs = encSizeEntry e ++ r ∧ e.WF := wire_sizeEntry.inv hb h

/-- the size file is addressed by `position * SizeEntry::LEN`: every entry has that length -/
theorem sizeEntry_fixed_length (e : SizeEntry) : (encSizeEntry e).length = SIZE_ENTRY_LEN := rfl

example : ({ offset := 2^64 - 1, size := 2^16 - 1 } : SizeEntry).WF := by decide

theorem protocolVersion_roundtrip (v : Nat) (h : v < 2^32) (rest : Bytes) :
    decProtocolVersion (encProtocolVersion v ++ rest) = .ok (v, rest) := readU32_write v h rest

theorem protocolVersion_accepts_only_canonical {bs : Bytes} {v : Nat} {r : Bytes} (hb : AllBytes bs)
    (h : decProtocolVersion bs = .ok (v, r)) : bs = encProtocolVersion v ++ r ∧ v < 2^32 :=
  readU32_inv hb h

/-! ## integers, tuples, fixed-size byte strings -/

theorem i32_roundtrip (z : Int) (h1 : -(2^31 : Int) ≤ z) (h2 : z < (2^31 : Int)) (rest : Bytes) :
    readI32 (writeI32 z ++ rest) = .ok (z, rest) := readI32_write z h1 h2 rest

theorem i32_accepts_only_canonical {bs : Bytes} {z : Int} {r : Bytes} (hb : AllBytes bs)
    (h : readI32 bs = .ok (z, r)) : bs = writeI32 z ++ r ∧ -(2^31 : Int) ≤ z ∧ z < (2^31 : Int) := codec_i32.inv hb h

example : readI32 (writeI32 (-2147483648) ++ [1]) = .ok (-2147483648, [1]) :=
  readI32_write _ (by decide) (by decide) _

/-- `(A, B, C)` / `(A, B, C, D)`: generic in the component codecs -/
theorem triple_roundtrip {α β γ : Type} (pa : Parser α) (pb : Parser β) (pc : Parser γ)
    (wa : α → Bytes) (wb : β → Bytes) (wc : γ → Bytes) (x : α × β × γ)
    (ha : ItemRt pa wa x.1) (hb : ItemRt pb wb x.2.1) (hc : ItemRt pc wc x.2.2) (rest : Bytes) :
    decTriple pa pb pc (encTriple wa wb wc x ++ rest) = .ok (x, rest) := by
  obtain ⟨a, b, c⟩ := x
  rw [decTriple, encTriple]
  simp only [List.append_assoc]
  rw [ha, andThen_ok, hb, andThen_ok, hc, andThen_ok]

theorem triple_accepts_only_canonical {α β γ : Type} {pa : Parser α} {pb : Parser β} {pc : Parser γ}
    {wa : α → Bytes} {wb : β → Bytes} {wc : γ → Bytes}
    (ca : ItemCanon pa wa) (cb : ItemCanon pb wb) (cc : ItemCanon pc wc)
    {bs : Bytes} {x : α × β × γ} {r : Bytes} (hbs : AllBytes bs)
    (h : decTriple pa pb pc bs = .ok (x, r)) : bs = encTriple wa wb wc x ++ r := by
  unfold decTriple at h
  obtain ⟨a, r1, rfl, -, hbs, h⟩ := andThen_canon ca.canon hbs h
  obtain ⟨b, r2, rfl, -, hbs, h⟩ := andThen_canon cb.canon hbs h
  obtain ⟨c, r3, rfl, -, hbs, h⟩ := andThen_canon cc.canon hbs h
  obtain ⟨rfl, rfl⟩ := Prod.mk.inj (Except.ok.inj h)
  simp [encTriple]

theorem quad_roundtrip {α β γ δ : Type} (pa : Parser α) (pb : Parser β) (pc : Parser γ) (pd : Parser δ)
    (wa : α → Bytes) (wb : β → Bytes) (wc : γ → Bytes) (wd : δ → Bytes) (x : α × β × γ × δ)
    (ha : ItemRt pa wa x.1) (hb : ItemRt pb wb x.2.1) (hc : ItemRt pc wc x.2.2.1)
    (hd : ItemRt pd wd x.2.2.2) (rest : Bytes) :
    decQuad pa pb pc pd (encQuad wa wb wc wd x ++ rest) = .ok (x, rest) := by
  obtain ⟨a, b, c, d⟩ := x
  rw [decQuad, encQuad]
  simp only [List.append_assoc]
  rw [ha, andThen_ok, hb, andThen_ok, hc, andThen_ok, hd, andThen_ok]

example : ItemRt readU64 writeU64 (2^64 - 1) := fun rest => readU64_write _ (by decide) rest

/-- `Commitment` (33), `BlindingFactor` (32), `Identifier` (17), `Signature` (64), `Hash` (32):
exactly `n` bytes, any content, nothing normalised -/
theorem fixed_roundtrip (n : Nat) (hn : n ≤ MAX_FIXED_READ) (b : Bytes) (h : b.length = n) (rest : Bytes) :
    decFixedN n (encFixedN b ++ rest) = .ok (b, rest) := readFixed_write b n h hn rest

theorem fixed_accepts_only_canonical {n : Nat} {bs b r : Bytes} (h : decFixedN n bs = .ok (b, r)) :
    bs = encFixedN b ++ r ∧ b.length = n := readFixed_ok h

/-- `PublicKey`: whatever is accepted is 33 bytes that pass the curve test, written back unchanged
(given that the writer's compressed form of a parsed key is the bytes it was parsed from) -/
theorem publicKey_accepts {onCurve : Bytes → Bool} {bs b r : Bytes} (h : decPublicKey onCurve bs = .ok (b, r)) :
    bs = b ++ r ∧ b.length = PUBKEY_SIZE ∧ onCurve b = true := by
  unfold decPublicKey at h
  obtain ⟨x, r1, h1, k⟩ := andThen_inv h
  by_cases hc : onCurve x = true
  · simp only [hc, ↓reduceIte, Except.ok.injEq, Prod.mk.injEq] at k
    obtain ⟨rfl, rfl⟩ := k
    obtain ⟨e, l⟩ := readFixed_ok h1
    exact ⟨e, l, hc⟩
  · simp [hc] at k

/-! ## BoolFlag: the low bit decides -/

theorem boolFlag_roundtrip (b : Bool) (rest : Bytes) : decBoolFlag (encBoolFlag b ++ rest) = .ok (b, rest) := by
  cases b <;> rfl

/-- what the code does: EVERY byte is accepted, and it re-encodes to itself iff it is 0 or 1 (the value
read is the low bit: `decBoolFlag_any`; the type is private and never constructed in this source tree) -/
theorem boolFlag_accepts_every_byte (x : Nat) (rest : Bytes) :
    ∃ b, decBoolFlag (x :: rest) = .ok (b, rest) ∧ (encBoolFlag b ++ rest = x :: rest ↔ x ≤ 1) := by
  refine ⟨x % 2 == 1, rfl, ?_⟩
  rcases Nat.mod_two_eq_zero_or_one x with h | h <;> simp [encBoolFlag, writeU8, h] <;> omega

example : decBoolFlag [3] = .ok (true, []) ∧ encBoolFlag true = [1] := ⟨rfl, rfl⟩

/-! ## PeerData -/

/-- a record with both trailing fields reads back as itself, whatever the clock says -/
theorem peerData_roundtrip (now : Int) (p : PeerData) (h : p.WF) (rest : Bytes) :
    decPeerData now (encPeerData p ++ rest) = .ok (p, rest) := by
  rw [encPeerData_eq, List.append_assoc, decPeerData_head now p h,
    readTrailing_full now _ _ h.lastConnected h.lastAttempt rest]

example : ({ addr := .v4 [10, 0, 0, 1] 3414, capabilities := 15, userAgent := [77, 87], flags := 1,
             lastBanned := -1, banReason := 5, lastConnected := 1600000000, lastAttempt := 0 } : PeerData).WF := by
  refine ⟨by decide, by decide, by decide, by decide, by decide, by decide, by decide, by decide, by decide⟩

/-- What the code does with the records of older versions (the two trailing fields are read WITHOUT
`?`): a record that ends after the ban reason, or less than 8 bytes later, is ACCEPTED; its
`last_connected` is the CLOCK and its `last_attempt` 0; it re-encodes 16 bytes longer … -/
theorem peerData_trailing_fields_optional (now : Int) (p : PeerData) (h : p.WF) (tail : Bytes) (ht : tail.length < 8) :
    decPeerData now (encPeerDataHead p ++ tail) = .ok ({ p with lastConnected := now, lastAttempt := 0 }, []) := by
  rw [decPeerData_head now p h, readTrailing_none now tail ht]

/-- … a record with `last_connected` but without (all of) `last_attempt` likewise … -/
theorem peerData_last_attempt_optional (now : Int) (p : PeerData) (h : p.WF) (tail : Bytes) (ht : tail.length < 8) :
    decPeerData now (encPeerDataHead p ++ (writeI64 p.lastConnected ++ tail)) = .ok ({ p with lastAttempt := 0 }, []) := by
  rw [decPeerData_head now p h, readTrailing_one now _ h.lastConnected tail ht]

/-- … so the decoded value is NOT a function of the bytes alone (two clock readings, two values). -/
theorem peerData_short_record_depends_on_clock (p : PeerData) (h : p.WF) (n1 n2 : Int) (hn : n1 ≠ n2) :
    decPeerData n1 (encPeerDataHead p) ≠ decPeerData n2 (encPeerDataHead p) := by
  have h1 := peerData_trailing_fields_optional n1 p h [] (by decide)
  have h2 := peerData_trailing_fields_optional n2 p h [] (by decide)
  rw [List.append_nil] at h1 h2
  rw [h1, h2]
  intro hc
  simp only [Except.ok.injEq, Prod.mk.injEq, and_true] at hc
  exact hn (congrArg PeerData.lastConnected hc)

/-- refusals: an unknown `State` byte and an unknown ban reason — each `CorruptedData`, and only after
ALL mandatory fields were read (the I/O error of a short record comes first: compared on the
`bad-utf8-and-short` lines of the `db` run) -/
theorem peerData_unknown_state_refused (now : Int) (p : PeerData) (h : p.WF) (fl : Nat) (hfl : PEER_STATE_MAX < fl)
    (tail : Bytes) :
    decPeerData now (encPeerAddr p.addr ++ writeU32 p.capabilities ++ writeBytes p.userAgent ++ writeU8 fl
      ++ writeI64 p.lastBanned ++ writeU32 p.banReason ++ tail) = .error .corrupted := by
  have hr := h.banReason
  rw [decPeerData_reads now p h fl _ (by omega), reasonOfI32_some _ hr]
  simp only [show fl > PEER_STATE_MAX from hfl, ↓reduceIte]

theorem peerData_unknown_ban_reason_refused (now : Int) (p : PeerData) (h : p.WF) (br : Nat) (h32 : br < 2^32)
    (hbr : 8 ≤ br) (tail : Bytes) :
    decPeerData now (encPeerAddr p.addr ++ writeU32 p.capabilities ++ writeBytes p.userAgent ++ writeU8 p.flags
      ++ writeI64 p.lastBanned ++ writeU32 br ++ tail) = .error .corrupted := by
  rw [decPeerData_reads now p h _ br h32, reasonOfI32_toI32_none br h32 hbr]

end GV.Props.C10Db
