import GrinVerif.Model.Pmmr
import GrinVerif.Gen.FnsBag
import GrinVerif.Lemmas.PmmrTree
import GrinVerif.Props.XlatePmmr2
/-! # Peak bagging (`ReadablePMMR::bag_the_rhs`, `ReadablePMMR::root`) translated from the current source

`Gen/FnsBag.lean` (tools/rs2lean.py): the two provided methods of `trait ReadablePMMR`
(core/src/core/pmmr/pmmr.rs) with the hash type kept ABSTRACT (a Lean type parameter) and the calls into
untranslatable code as FUNCTION-VALUED parameters: `self.get_from_file(pos)` (backend read) and the trait method
`(peak, rhash).hash_with_index(size)`; `self.unpruned_size()`, `self.is_empty()`, `self.peaks()`, `ZERO_HASH` as value
parameters.  Tied to `Pmmr.bag` / `Pmmr.bagTheRhs` / `Pmmr.root` of `Model/Pmmr.lean`: the ORDER in which the peaks are
bagged (right to left, the left peak as the first component of the pair, the MMR size as the index) is the model's. -/
namespace GV.Props.XlateBag
open GV GV.Pmmr GV.Gen
open GV.Props.XlatePmmr2

variable {α H : Type} [Inhabited H] [DecidableEq H]

/-- the code's `(l, r).hash_with_index(size)` in terms of the model's hash functions -/
def hwi (hf : HashFn α H) : (H × H) → Nat → H := fun pr sz => hf.node sz pr.1 pr.2

def step (hf : HashFn α H) (size : Nat) (res : Option H) (p : H) : Option H :=
  match res with | none => some p | some r => some (hf.node size p r)

omit [Inhabited H] [DecidableEq H] in
/-- the two bagging loops of `pmmr.rs` (`bag_the_rhs`, `root`) have the same body: any function with these two
equations is the left fold of `step` -/
theorem loop_foldl (hf : HashFn α H) (size : Nat) {L : List H → Option H → Option H}
    (hnil : ∀ res, L [] res = res) (hcons : ∀ p t res, L (p :: t) res = L t (step hf size res p))
    (l : List H) (res : Option H) : L l res = l.foldl (step hf size) res := by
  induction l generalizing res with
  | nil => exact hnil res
  | cons p t ih => rw [hcons, List.foldl_cons, ih]

theorem bag_loop_foldl (hf : HashFn α H) (size : Nat) (l : List H) (res : Option H) :
    Fns.ReadablePMMR_bag_the_rhs_loop1 (hwi hf) size l res = l.foldl (step hf size) res :=
  loop_foldl hf size (fun _ => rfl) (fun _ _ res => by cases res <;> rfl) l res

theorem root_loop_foldl (hf : HashFn α H) (size : Nat) (l : List H) (res : Option H) :
    Fns.ReadablePMMR_root_loop1 (hwi hf) size l res = l.foldl (step hf size) res :=
  loop_foldl hf size (fun _ => rfl) (fun _ _ res => by cases res <;> rfl) l res

omit [Inhabited H] [DecidableEq H] in
theorem bag_eq_foldl (hf : HashFn α H) (size : Nat) (ps : List H) :
    bag hf size ps = ps.reverse.foldl (step hf size) none :=
  Co.bag_eq_foldl hf size (step hf size) (fun _ => rfl) (fun _ _ => rfl) ps

/-- **`bag_the_rhs` = the model**, for every backend content `hashes` (read by `get_from_file` as `hashes[pos]?`) -/
theorem bag_the_rhs_eq (hf : HashFn α H) (hashes : List H) (peakPos : Nat) (h : hashes.length < 2^64) :
    Fns.ReadablePMMR_bag_the_rhs peakPos hashes.length (fun p => hashes[p]?) (hwi hf) = bagTheRhs hf hashes peakPos := by
  unfold Fns.ReadablePMMR_bag_the_rhs bagTheRhs
  simp only [bag_loop_foldl, peaks_eq _ h, bag_eq_foldl]

theorem bag_the_rhs_ok (peakPos size : Nat) (g : Nat → Option H) (f : (H × H) → Nat → H) (h : size < 2^64) :
    Fns.ReadablePMMR_bag_the_rhs_ok peakPos size g f = true := by
  unfold Fns.ReadablePMMR_bag_the_rhs_ok
  exact peaks_ok size h

/-- **`root` = the model**: `ZERO_HASH` for the empty MMR, the bagged peaks otherwise, an error when no peak hash is there -/
theorem root_eq (hf : HashFn α H) (hashes : List H) (zero : H) :
    Fns.ReadablePMMR_root (hashes.length == 0) (peakHashes hashes) hashes.length zero (hwi hf) =
      (match root hf hashes with | .zero => some zero | .ok r => some r | .err => none) := by
  unfold Fns.ReadablePMMR_root root
  by_cases h0 : hashes.length = 0
  · simp [h0]
  · have hb : (hashes.length == 0) = false := by simp [h0]
    simp only [hb, Bool.false_eq_true, if_false, h0, root_loop_foldl, ← bag_eq_foldl]
    cases bag hf hashes.length (peakHashes hashes) <;> rfl

/-- non-vacuity: three peaks `a b c` are bagged as `node (a, node (b, c))` with the MMR size as index -/
example (size a b c : Nat) :
    Fns.ReadablePMMR_root_loop1 (hwi (⟨fun _ x => x, fun s l r => s + 10 * l + 100 * r⟩ : HashFn Nat Nat)) size [c, b, a] none
      = some (size + 10 * a + 100 * (size + 10 * b + 100 * c)) := rfl

end GV.Props.XlateBag
