import GrinVerif.Lemmas.SerBodyRt
import GrinVerif.Lemmas.SerHeader
/-! # C10 — encoding round-trips, canonical form, version-independent hashes

Property theorems about the codec model (`Model/Ser*.lean`), which the correspondence run ties to
`core/src/ser.rs`, `core/src/core/{transaction,block,compact_block,id}.rs`, `core/src/pow/types.rs`
and `chain/src/types.rs` byte for byte.

Shape, per type `X`:
* `X_roundtrip : WF x → dec_X c (enc_X c.ver x ++ rest) = .ok (norm x, rest)` — decoding consumes
  exactly the encoding and returns the value (`norm` = identity except `Inputs` at version ≥ 3);
  quantified over **all** values in `WF`, all protocol versions / flags in `c`, all continuations;
* `X_reencode : enc (norm x) = enc x` — the decoded value re-encodes to the identical bytes;
* refusal theorems for the canonical-form rules;
* hash theorems: the hash-mode bytes do not depend on the protocol version.
`WF` predicates are in `Model/SerSpec.lean`; `KernelFeatures`, `TxKernel`, `RangeProof`, `TxBody`, `Proof`
and `Tip` have an inhabited `example` below. -/
namespace GV.Props.C10
open GV GV.Ser

/-! ## primitives (the layer every codec is assembled from) -/

/-- `u64` big-endian: read ∘ write = id for every `u64`, with any continuation. -/
theorem u64_roundtrip (n : Nat) (h : n < 2^64) (rest : Bytes) :
    readU64 (writeU64 n ++ rest) = .ok (n, rest) := readU64_write n h rest
theorem u32_roundtrip (n : Nat) (h : n < 2^32) (rest : Bytes) :
    readU32 (writeU32 n ++ rest) = .ok (n, rest) := readU32_write n h rest
theorem u16_roundtrip (n : Nat) (h : n < 2^16) (rest : Bytes) :
    readU16 (writeU16 n ++ rest) = .ok (n, rest) := readU16_write n h rest
/-- `i64` two's complement big-endian, every `i64`. -/
theorem i64_roundtrip (z : Int) (h1 : -(2^63) ≤ z) (h2 : z < 2^63) (rest : Bytes) :
    readI64 (writeI64 z ++ rest) = .ok (z, rest) := readI64_write z h1 h2 rest
/-- length-prefixed byte strings up to the 100 000 byte cap round-trip … -/
theorem bytes_roundtrip (xs : Bytes) (hcap : xs.length ≤ MAX_FIXED_READ) (rest : Bytes) :
    readBytesLenPrefix (writeBytes xs ++ rest) = .ok (xs, rest) := readBytesLenPrefix_write xs hcap rest
/-- … and a longer length prefix is refused without reading further. -/
theorem bytes_cap (len : Nat) (h64 : len < 2^64) (h : len > MAX_FIXED_READ) (r : Bytes) :
    readBytesLenPrefix (writeU64 len ++ r) = .error .tooLarge := by
  simp only [readBytesLenPrefix, readU64_write _ h64]
  exact readFixed_tooLarge len h r
/-- `read_multi`: if every item round-trips, so does the vector (count ≤ 1 000 000). -/
theorem multi_roundtrip {α : Type} (p : Parser α) (w : α → Bytes) (l : List α)
    (hcap : l.length ≤ MAX_MULTI_COUNT)
    (hrt : ∀ x ∈ l, ∀ rest, p (w x ++ rest) = .ok (x, rest)) (rest : Bytes) :
    readMulti p l.length (writeMulti w l ++ rest) = .ok (l, rest) := readMulti_write p w l hcap hrt rest
/-- `read_multi` never returns fewer or more items than the count field says. -/
theorem multi_count_exact {α : Type} {p : Parser α} {n : Nat} {bs : Bytes} {l : List α} {r : Bytes}
    (h : readMulti p n bs = .ok (l, r)) : l.length = n := readMulti_ok_length h
theorem multi_cap {α : Type} (p : Parser α) (n : Nat) (h : n > MAX_MULTI_COUNT) (bs : Bytes) :
    readMulti p n bs = .error .tooLarge := by
  simp [readMulti, h]
/-- `verify_sorted_and_unique` accepts exactly the strictly increasing key lists. -/
theorem sorted_unique_iff (ks : List Nat) :
    verifySortedUnique ks = .ok () ↔ ks.Pairwise (· < ·) := verifySortedUnique_iff ks

/-! ## KernelFeatures / TxKernel -/

/-- All four kernel variants, all field values, both wire formats (v1 fixed 17 bytes for protocol
version ≤ 1, v2 variable for ≥ 2). -/
theorem kernelFeatures_roundtrip (c : Cfg) (f : KernelFeatures) (h : f.WF c.nrd) (rest : Bytes) :
    decKernelFeatures c (encKernelFeatures c.ver .full f ++ rest) = .ok (f, rest) :=
  (Wire.wire_kernelFeatures c).rt f h rest

example : (KernelFeatures.noRecentDuplicate (2^64 - 1) 10080).WF true := by decide
example : (KernelFeatures.heightLocked 0 (2^64 - 1)).WF false := by decide

theorem txKernel_roundtrip (c : Cfg) (k : TxKernel) (h : k.WF c.nrd) (rest : Bytes) :
    decTxKernel c (encTxKernel c.ver .full k ++ rest) = .ok (k, rest) := (Wire.wire_txKernel c).rt k h rest

example : ({ features := .plain 7, excess := List.replicate 33 9, excessSig := List.replicate 64 1 } : TxKernel).WF false := by
  decide

/-- Unknown kernel feature tags are refused in both formats. -/
theorem kernelFeatures_unknown_tag (c : Cfg) (t : Nat) (ht : 4 ≤ t) (r : Bytes) :
    decKernelFeatures c (t :: r) = .error .corrupted := by
  unfold decKernelFeatures
  match t, ht with
  | t+4, _ => split <;> simp [decKernelFeaturesV1, decKernelFeaturesV2, readU8]

/-- NRD kernels are refused while the NRD feature flag is off (both formats). -/
theorem kernelFeatures_nrd_disabled (c : Cfg) (hn : c.nrd = false) (r : Bytes) :
    decKernelFeatures c (3 :: r) = .error .corrupted := by
  unfold decKernelFeatures
  split <;> simp [decKernelFeaturesV1, decKernelFeaturesV2, readU8, hn]

/-- v1 plain kernel: the 8 reserved bytes after the fee must all be zero. -/
theorem kernelFeaturesV1_plain_reserved (nrd : Bool) (fee : Nat) (hfee : fee < 2^64)
    (pre : Bytes) (b : Nat) (post : Bytes)
    (hpre : ∀ x ∈ pre, x = 0) (hlen : pre.length < 8) (hb : b ≠ 0) :
    decKernelFeaturesV1 nrd (0 :: (writeU64 fee ++ (pre ++ b :: post))) = .error .corrupted := by
  simp [decKernelFeaturesV1, readU8, readU64_write _ hfee, readEmpty_nonzero 8 pre b post hpre hlen hb]

/-- v1 coinbase kernel: all 16 bytes after the tag (unused fee and feature data) must be zero. -/
theorem kernelFeaturesV1_coinbase_reserved (nrd : Bool) (pre : Bytes) (b : Nat) (post : Bytes)
    (hpre : ∀ x ∈ pre, x = 0) (hlen : pre.length < 16) (hb : b ≠ 0) :
    decKernelFeaturesV1 nrd (1 :: (pre ++ b :: post)) = .error .corrupted := by
  simp [decKernelFeaturesV1, readU8, readEmpty_nonzero 16 pre b post hpre hlen hb]

/-- v1 NRD kernel: the 6 bytes in front of the u16 relative height must be zero. -/
theorem kernelFeaturesV1_nrd_reserved (fee : Nat) (hfee : fee < 2^64)
    (pre : Bytes) (b : Nat) (post : Bytes)
    (hpre : ∀ x ∈ pre, x = 0) (hlen : pre.length < 6) (hb : b ≠ 0) :
    decKernelFeaturesV1 true (3 :: (writeU64 fee ++ (pre ++ b :: post))) = .error .corrupted := by
  simp [decKernelFeaturesV1, readU8, readU64_write _ hfee, readEmpty_nonzero 6 pre b post hpre hlen hb]

/-- NRD relative height outside `1 ..= WEEK_HEIGHT` is refused. -/
theorem nrdHeight_range (rel : Nat) (hlt : rel < 2^16) (h : rel = 0 ∨ rel > NRD_MAX) (rest : Bytes) :
    decNrdHeight (writeU16 rel ++ rest) = .error .corrupted := by
  simp [decNrdHeight, readU16_write rel hlt, h]

/-- The bytes a kernel is hashed from do not depend on the protocol version of the writer:
hash mode always uses the v1 layout. -/
theorem txKernel_hashBytes_version_free (v : Nat) (k : TxKernel) :
    encTxKernel v .hash k = encTxKernel 1 .full k := by
  simp [encTxKernel, encKernelFeatures]

/-- Kernel identity hash is independent of the protocol version used to store / transmit it:
decode at any version, hash — same bytes into the hasher as for the original. -/
theorem txKernel_hash_version_independent (c : Cfg) (k : TxKernel) (h : k.WF c.nrd) (rest : Bytes) :
    (decTxKernel c (encTxKernel c.ver .full k ++ rest)).map (fun p => p.1.hashBytes) = .ok k.hashBytes := by
  rw [txKernel_roundtrip c k h rest]; rfl

/-! ## OutputFeatures / Input / CommitWrapper / OutputIdentifier / RangeProof / Output -/

theorem outputFeatures_roundtrip (f : OutputFeatures) (rest : Bytes) :
    decOutputFeatures (encOutputFeatures f ++ rest) = .ok (f, rest) := Wire.wire_outputFeatures.rt f trivial rest

/-- Unknown output feature tags are refused. -/
theorem outputFeatures_unknown_tag (t : Nat) (ht : 2 ≤ t) (r : Bytes) :
    decOutputFeatures (t :: r) = .error .corrupted := by
  match t, ht with
  | t+2, _ => simp [decOutputFeatures, readU8]

theorem input_roundtrip (i : Input) (h : i.WF) (rest : Bytes) :
    decInput (encInput i ++ rest) = .ok (i, rest) := Wire.wire_input.rt i h rest

theorem commitWrapper_roundtrip (cm : Bytes) (h : cm.length = COMMIT_SIZE) (rest : Bytes) :
    decCommitWrapper (encCommitWrapper cm ++ rest) = .ok (cm, rest) := Wire.wire_commit.rt cm h rest

theorem outputId_roundtrip (o : OutputId) (h : o.WF) (rest : Bytes) :
    decOutputId (encOutputId o ++ rest) = .ok (o, rest) := Wire.wire_outputId.rt o h rest

/-- Range proofs with `plen = MAX_PROOF_SIZE` (all that a decoder returns or `bullet_proof`
creates) round-trip. -/
theorem rangeProof_roundtrip (p : RangeProof) (h : p.WF) (rest : Bytes) :
    decRangeProof (encRangeProof p ++ rest) = .ok (p, rest) := decRangeProof_enc p h rest

example : ({ plen := 675, proof := List.replicate 675 5 } : RangeProof).WF :=
  ⟨rfl, List.length_replicate⟩

theorem output_roundtrip (o : Output) (h : o.WF) (rest : Bytes) :
    decOutput (encOutput o ++ rest) = .ok (o, rest) := decOutput_enc o h rest

/-- The identity hash of an output is the hash of its identifier; neither encoder has a version
parameter, so decode-then-hash feeds the hasher the same bytes under every version. -/
theorem output_hash_version_independent (o : Output) (h : o.WF) (rest : Bytes) :
    (decOutput (encOutput o ++ rest)).map (fun p => p.1.hashBytes) = .ok o.hashBytes := by
  rw [output_roundtrip o h rest]; rfl

/-- What the code does with a range-proof length field below 675 (recorded as a theorem about the
model because the property as worded wants a refusal): the decoder reads `len` bytes, zero-pads to
the full array and reports `plen = 675`, so the value re-encodes to 8 + 675 bytes, not to the
8 + `len` bytes that were read. The correspondence harness reproduces this on the real decoder
(`#KNOWN-PROBE rangeproof-length-normalised`). -/
theorem rangeProof_short_length_accepted (p : Bytes) (hlen : p.length < MAX_PROOF_SIZE) (rest : Bytes) :
    decRangeProof (writeU64 p.length ++ (p ++ rest))
      = .ok ({ plen := MAX_PROOF_SIZE, proof := p ++ List.replicate (MAX_PROOF_SIZE - p.length) 0 }, rest) := by
  have h64 : p.length < 2^64 := by unfold MAX_PROOF_SIZE at hlen; omega
  have hmin : min p.length MAX_PROOF_SIZE = p.length := Nat.min_eq_left (by omega)
  have hcap : p.length ≤ MAX_FIXED_READ := by unfold MAX_PROOF_SIZE at hlen; unfold MAX_FIXED_READ; omega
  have hrf := readFixed_write p p.length rfl hcap rest
  simp only [writeFixed] at hrf
  rw [decRangeProof, readU64_write _ h64, andThen_ok, hmin, hrf, andThen_ok]

/-! ## Inputs / TransactionBody / Transaction -/

/-- `Inputs` in both encodings under every version: features-and-commit for protocol version ≤ 2,
commit-only for ≥ 3 (a features-and-commit list is written as its commitments re-sorted by
commitment hash, and that — `norm` — is what comes back). `henc` excludes only the case the writer
itself refuses (`CommitOnly` with entries at version ≤ 2: `UnsupportedProtocolVersion`). -/
theorem inputs_roundtrip (key : Bytes → Nat) (ver : Nat) (ins : Inputs) (bs : Bytes)
    (henc : encInputs key ver .full ins = .ok bs) (hwf : ins.WF key ver)
    (hcap : ins.len ≤ MAX_MULTI_COUNT) (rest : Bytes) :
    decInputs ver ins.len (bs ++ rest) = .ok (ins.norm key ver, rest) :=
  decInputs_enc key ver ins bs henc hwf hcap rest

theorem inputs_reencode (key : Bytes → Nat) (ver : Nat) (ins : Inputs) (hwf : ins.WF key ver) :
    encInputs key ver .full (ins.norm key ver) = encInputs key ver .full ins :=
  encInputs_norm key ver ins hwf

/-- `norm` only ever drops the features: the commitments are the same set (a permutation). -/
theorem inputs_norm_same_commitments (key : Bytes → Nat) (ver : Nat) (ins : Inputs) :
    ((ins.norm key ver).commits).Perm ins.commits := by
  unfold Inputs.norm
  split
  · split <;> simp [Inputs.commits]
  · cases ins with
    | commitOnly l => simp [Inputs.toCommits, Inputs.commits]
    | featuresAndCommit l => simpa [Inputs.toCommits, Inputs.commits] using sortByKey_perm _ _

/-- A commit-only input list cannot be written at protocol version ≤ 2 (the writer refuses rather
than invent features). -/
theorem inputs_commitOnly_v2_unsupported (key : Bytes → Nat) (ver : Nat) (hv : ver ≤ 2) (x : Bytes) (l : List Bytes) :
    encInputs key ver .full (.commitOnly (x :: l)) = .error .unsupportedVersion := by
  simp [encInputs, Inputs.len, hv]

theorem txBody_roundtrip (c : Cfg) (b : TxBody) (bs : Bytes)
    (henc : encTxBody c.key c.ver .full b = .ok bs) (hwf : b.WF c) (rest : Bytes) :
    decTxBody c (bs ++ rest) = .ok (b.norm c, rest) := decTxBody_enc c b bs henc hwf rest

/-- The EMPTY body — no inputs (`Inputs::default()` = `CommitOnly([])`), no outputs, no kernels — is
well-formed under every configuration (every protocol version, any weight limit), is written as the
three zero counts and nothing else, and reads back (as `FeaturesAndCommit([])` at version ≤ 2: `norm`). -/
theorem txBody_empty_roundtrip (c : Cfg) (rest : Bytes) :
    ({ inputs := .commitOnly [], outputs := [], kernels := [] } : TxBody).WF c
    ∧ encTxBody c.key c.ver .full { inputs := .commitOnly [], outputs := [], kernels := [] } = .ok (List.replicate 24 0)
    ∧ decTxBody c (List.replicate 24 0 ++ rest)
        = .ok (({ inputs := .commitOnly [], outputs := [], kernels := [] } : TxBody).norm c, rest) := by
  have hwf : ({ inputs := .commitOnly [], outputs := [], kernels := [] } : TxBody).WF c := by
    refine ⟨?_, fun _ h => (List.not_mem_nil h).elim, List.Pairwise.nil, fun _ h => (List.not_mem_nil h).elim,
      List.Pairwise.nil, Nat.zero_le _, Nat.zero_le _, Nat.zero_le _, Nat.zero_le _⟩
    simp only [Inputs.WF]
    split
    · trivial
    · exact ⟨fun _ h => (List.not_mem_nil h).elim, List.Pairwise.nil⟩
  have henc : encTxBody c.key c.ver .full { inputs := .commitOnly [], outputs := [], kernels := [] }
      = .ok (List.replicate 24 0) := by
    simp [encTxBody, encInputs, Inputs.len, writeMulti]
    decide
  exact ⟨hwf, henc, decTxBody_enc c _ _ henc hwf rest⟩

theorem txBody_reencode (c : Cfg) (b : TxBody) (hwf : b.WF c) :
    encTxBody c.key c.ver .full (b.norm c) = encTxBody c.key c.ver .full b := encTxBody_norm c b hwf

/-- Canonical form of bodies, for **every** input byte string: whatever `TransactionBody::read`
accepts has inputs, outputs and kernels each strictly increasing by hash (unsorted or duplicate
entries are refused, never re-sorted or de-duplicated) and weighs at most `max_block_weight`. -/
theorem txBody_accepts_only_sorted_unique {c : Cfg} {bs : Bytes} {b : TxBody} {r : Bytes}
    (h : decTxBody c bs = .ok (b, r)) :
    (b.inputs.keys c.key).Pairwise (· < ·)
    ∧ (b.outputs.map fun o => c.key o.hashBytes).Pairwise (· < ·)
    ∧ (b.kernels.map fun k => c.key k.hashBytes).Pairwise (· < ·)
    ∧ b.weight ≤ c.maxWeight := by
  rw [decTxBody] at h
  obtain ⟨ni, r1, _, h⟩ := andThen_inv h
  obtain ⟨no, r2, _, h⟩ := andThen_inv h
  obtain ⟨nk, r3, _, h⟩ := andThen_inv h
  split at h
  · simp at h
  rename_i hw
  obtain ⟨ins, r4, hi, h⟩ := andThen_inv h
  obtain ⟨outs, r5, ho, h⟩ := andThen_inv h
  obtain ⟨kers, r6, hk, h⟩ := andThen_inv h
  simp only at h
  split at h
  · simp at h
  rename_i hs
  simp only [Except.ok.injEq, Prod.mk.injEq] at h
  obtain ⟨rfl, _⟩ := h
  have hni := decInputs_len hi
  have hno := readMulti_ok_length ho
  have hnk := readMulti_ok_length hk
  obtain ⟨s1, s2, s3⟩ := (TxBody.verifySorted_ok_iff _ _).mp hs
  exact ⟨s1, s2, s3, by simp only [TxBody.weight, hni, hno, hnk]; omega⟩

/-- Counts over the block weight are refused before any entry is read. -/
theorem txBody_counts_over_weight (c : Cfg) (ni no nk : Nat) (h1 : ni < 2^64) (h2 : no < 2^64) (h3 : nk < 2^64)
    (hw : weightByIok ni no nk > c.maxWeight) (r : Bytes) :
    decTxBody c (writeU64 ni ++ (writeU64 no ++ (writeU64 nk ++ r))) = .error .tooLarge :=
  decTxBody_overweight c ni no nk h1 h2 h3 hw r

theorem transaction_roundtrip (c : Cfg) (t : Transaction) (bs : Bytes)
    (henc : encTransaction c.key c.ver .full t = .ok bs) (hwf : t.WF c) (rest : Bytes) :
    decTransaction c (bs ++ rest) = .ok (t.norm c, rest) := by
  obtain ⟨hoff, hbody, hval, hfeat⟩ := hwf
  obtain ⟨bb, hbb, rfl⟩ := encTransaction_ok.mp henc
  have hb := decTxBody_enc c t.body bb hbb hbody rest
  have hfeat' : (t.body.norm c).verifyFeatures = true := by
    simpa [TxBody.verifyFeatures, TxBody.norm] using hfeat
  rw [decTransaction, List.append_assoc, Wire.wire_blind.rt _ hoff, andThen_ok, hb, andThen_ok]
  simp only [hval, hfeat', Bool.and_self, ↓reduceIte, Transaction.norm]

theorem transaction_reencode (c : Cfg) (t : Transaction) (hwf : t.WF c) :
    encTransaction c.key c.ver .full (t.norm c) = encTransaction c.key c.ver .full t := by
  simp only [encTransaction, Transaction.norm, encTxBody_norm c t.body hwf.2.1]

/-- a well-formed body with one input, one output and one kernel at protocol version 3
(key = big-endian value of the first two hashed bytes; inhabited `WF`) -/
example : ({ inputs := .featuresAndCommit [{ features := .coinbase, commit := List.replicate 33 1 }],
             outputs := [{ id := { features := .plain, commit := List.replicate 33 2 },
                           proof := { plen := 675, proof := List.replicate 675 3 } }],
             kernels := [{ features := .heightLocked 5 9, excess := List.replicate 33 4,
                           excessSig := List.replicate 64 5 }] } : TxBody).WF
    { ver := 3, nrd := false, maxWeight := 40000, proofSize := 42, key := fun b => ofBE (b.take 2) } := by
  refine ⟨⟨?_, ?_⟩, ?_, ?_, ?_, ?_, ?_, ?_, ?_, ?_⟩
  · intro i hi; simp only [List.mem_singleton] at hi; subst hi; exact List.length_replicate
  · exact List.pairwise_singleton _ _
  · intro o ho; simp only [List.mem_singleton] at ho; subst ho
    exact ⟨List.length_replicate, rfl, List.length_replicate⟩
  · exact List.pairwise_singleton _ _
  · intro k hk; simp only [List.mem_singleton] at hk; subst hk
    exact ⟨by decide, List.length_replicate, List.length_replicate⟩
  · exact List.pairwise_singleton _ _
  · decide
  · decide
  · decide
  · decide

/-! ## Proof / ProofOfWork / BlockHeader -/

/-- Packed proof nonces: every `edge_bits` 1..63, every proof size whose packed length is 8..100 000
bytes, all nonces below `2^edge_bits` — `pack_bits` then `read_number` gives the nonces back,
bit-exactly, and the padding check passes. -/
theorem proof_roundtrip (c : Cfg) (p : Proof) (h : p.WF c.proofSize) (rest : Bytes) :
    decProof c (encProof c.proofSize .full p ++ rest) = .ok (p, rest) := decProof_enc c p h rest

/-- the bridge used by `proof_roundtrip`: the packed bytes are the little-endian bytes of
`Σ nonceᵢ · 2^(i · edge_bits)` -/
theorem proof_packing_is_little_endian_sum (w P : Nat) (hw : w ≤ 63) (ns : List Nat) (hlen : ns.length = P)
    (h : ∀ n ∈ ns, n < 2^w) :
    packBits w ns (packLen P w) = leBytes (packLen P w) (packNat w ns) := packBits_eq w P hw ns hlen h

example : ({ edgeBits := 31, nonces := List.replicate 42 (2^31 - 1) } : Proof).WF 42 := by
  refine ⟨by decide, by decide, List.length_replicate, ?_, by decide, by decide⟩
  intro n hn; rw [List.eq_of_mem_replicate hn]; decide

/-- `edge_bits ∈ {0} ∪ [64, 255]` is refused. -/
theorem proof_edge_bits_range (c : Cfg) (eb : Nat) (h : eb = 0 ∨ eb > 63) (r : Bytes) :
    decProof c (eb :: r) = .error .corrupted := by
  rw [decProof]
  simp only [readU8, andThen_ok, h, ↓reduceIte]

/-- Non-zero padding bits are refused: any packed byte string (of the right length) whose value has
a bit set at or above `proofsize · edge_bits`. -/
theorem proof_padding_bits (c : Cfg) (eb : Nat) (bits rest : Bytes) (h1 : 1 ≤ eb) (h63 : eb ≤ 63)
    (hlen : bits.length = packLen c.proofSize eb) (h8 : 8 ≤ packLen c.proofSize eb)
    (hcap : packLen c.proofSize eb ≤ MAX_FIXED_READ) (hall : AllBytes bits)
    (hpad : 2^(c.proofSize * eb) ≤ ofLE bits) :
    decProof c (eb :: (bits ++ rest)) = .error .corrupted := by
  have hrf := readFixed_write bits _ hlen hcap rest
  simp only [writeFixed] at hrf
  have hne : readNumber bits (c.proofSize * eb) (packLen c.proofSize eb * 8 - c.proofSize * eb) ≠ 0 := by
    rw [readPadding_eq bits hall c.proofSize eb h63 hlen h8]
    exact Nat.ne_of_gt (Nat.div_pos hpad (Nat.pow_pos (by omega)))
  have c1 : ¬ (eb = 0 ∨ eb > 63) := by omega
  have c2 : ¬ packLen c.proofSize eb < 8 := by omega
  rw [decProof]
  simp only [readU8, andThen_ok, c1, c2, ↓reduceIte, hrf]
  exact if_pos hne

theorem proofOfWork_roundtrip (c : Cfg) (p : ProofOfWork) (h : p.WF c.proofSize) (rest : Bytes) :
    decProofOfWork c (encProofOfWork c.proofSize .full p ++ rest) = .ok (p, rest) :=
  (codec_pow c).rt p h rest

/-- All header field values (u16 version, u64 height and MMR sizes, every timestamp chrono can turn
into a date, every proof of work in `Proof.WF`), every protocol version. -/
theorem blockHeader_roundtrip (c : Cfg) (h : BlockHeader) (hwf : h.WF c.proofSize) (rest : Bytes) :
    decBlockHeader c (encBlockHeader c.proofSize .full h ++ rest) = .ok (h, rest) :=
  (codec_blockHeader c).rt h hwf rest

/-- A timestamp outside `NaiveDate::MIN ..= NaiveDate::MAX` is refused (everything else valid). -/
theorem blockHeader_timestamp_range (c : Cfg) (h : BlockHeader)
    (hv : h.version < 2^16) (hh : h.height < 2^64)
    (hi1 : -(2^63 : Int) ≤ h.timestamp) (hi2 : h.timestamp < (2^63 : Int))
    (hbad : h.timestamp > TS_MAX ∨ h.timestamp < TS_MIN)
    (l1 : h.prevHash.length = HASH_SIZE) (l2 : h.prevRoot.length = HASH_SIZE)
    (l3 : h.outputRoot.length = HASH_SIZE) (l4 : h.rangeProofRoot.length = HASH_SIZE)
    (l5 : h.kernelRoot.length = HASH_SIZE) (l6 : h.totalKernelOffset.length = BLIND_SIZE)
    (ho : h.outputMmrSize < 2^64) (hk : h.kernelMmrSize < 2^64)
    (hpow : h.pow.WF c.proofSize) (rest : Bytes) :
    decBlockHeader c (encBlockHeader c.proofSize .full h ++ rest) = .error .corrupted := by
  rw [decBlockHeader_eq, encBlockHeader, if_neg (by decide), List.append_assoc,
    readHeaderWith_enc ⟨hv, hh, ⟨hi1, hi2⟩, l1, l2, l3, l4, l5, l6, ho, hk⟩ ((codec_pow c).rt h.pow hpow rest),
    if_pos hbad]

/-- The header hash is computed from the packed nonces alone (hash mode skips the pre-PoW fields,
difficulty, scaling, nonce and the `edge_bits` byte): no protocol version enters. -/
theorem blockHeader_hashBytes_eq (proofSize : Nat) (h : BlockHeader) :
    h.hashBytes proofSize = h.pow.proof.packNonces proofSize := by
  simp [BlockHeader.hashBytes, encBlockHeader, encProofOfWork, encProof]

theorem blockHeader_hash_version_independent (c : Cfg) (h : BlockHeader) (hwf : h.WF c.proofSize) (rest : Bytes) :
    (decBlockHeader c (encBlockHeader c.proofSize .full h ++ rest)).map (fun p => p.1.hashBytes c.proofSize)
      = .ok (h.hashBytes c.proofSize) := by
  rw [blockHeader_roundtrip c h hwf rest]; rfl

/-! ## Block / CompactBlock / ShortId / Tip -/

theorem block_roundtrip (c : Cfg) (b : Block) (bs : Bytes)
    (henc : encBlock c.key c.proofSize c.ver .full b = .ok bs) (hwf : b.WF c) (rest : Bytes) :
    decBlock c (bs ++ rest) = .ok (b.norm c, rest) := by
  obtain ⟨hh, hb⟩ := hwf
  obtain ⟨bb, hbb, rfl⟩ := encBlock_full_ok.mp henc
  rw [decBlock, List.append_assoc, (codec_blockHeader c).rt b.header hh, andThen_ok,
    decTxBody_enc c b.body bb hbb hb rest, andThen_ok]
  rfl

theorem block_reencode (c : Cfg) (b : Block) (hwf : b.WF c) :
    encBlock c.key c.proofSize c.ver .full (b.norm c) = encBlock c.key c.proofSize c.ver .full b := by
  simp only [encBlock, Block.norm, encTxBody_norm c b.body hwf.2]

/-- A block's hash is its header's hash: the body (and with it the inputs' encoding) never reaches
the hasher, whatever the writer's protocol version. -/
theorem block_hashBytes_version_free (key : Bytes → Nat) (proofSize v : Nat) (b : Block) :
    encBlock key proofSize v .hash b = .ok (b.hashBytes proofSize) := by
  simp [encBlock, Block.hashBytes, BlockHeader.hashBytes]

theorem block_hash_version_independent (c : Cfg) (b : Block) (bs : Bytes)
    (henc : encBlock c.key c.proofSize c.ver .full b = .ok bs) (hwf : b.WF c) (rest : Bytes) :
    (decBlock c (bs ++ rest)).map (fun p => p.1.hashBytes c.proofSize) = .ok (b.hashBytes c.proofSize) := by
  rw [block_roundtrip c b bs henc hwf rest]; rfl

theorem shortId_roundtrip (s : Bytes) (h : s.length = SHORT_ID_SIZE) (rest : Bytes) :
    decShortId (encShortId s ++ rest) = .ok (s, rest) := Wire.wire_shortId.rt s h rest

theorem compactBlock_roundtrip (c : Cfg) (b : CompactBlock) (hwf : b.WF c) (rest : Bytes) :
    decCompactBlock c (encCompactBlock c.proofSize c.ver .full b ++ rest) = .ok (b, rest) := by
  obtain ⟨hh, hn, hb⟩ := hwf
  rw [decCompactBlock, encCompactBlock]
  simp only [reduceCtorEq, ↓reduceIte, List.append_assoc]
  rw [(codec_blockHeader c).rt b.header hh, andThen_ok, readU64_write _ hn, andThen_ok,
    decCompactBody_enc c b.body hb rest, andThen_ok]

/-- Compact block bodies: whatever is accepted has outputs, kernels and short ids strictly sorted. -/
theorem compactBody_accepts_only_sorted_unique {c : Cfg} {bs : Bytes} {b : CompactBlockBody} {r : Bytes}
    (h : decCompactBody c bs = .ok (b, r)) :
    (b.outFull.map fun o => c.key o.hashBytes).Pairwise (· < ·)
    ∧ (b.kernFull.map fun k => c.key k.hashBytes).Pairwise (· < ·)
    ∧ (b.kernIds.map fun s => c.key (encShortId s)).Pairwise (· < ·) := by
  rw [decCompactBody] at h
  obtain ⟨no, r1, _, h⟩ := andThen_inv h
  obtain ⟨nk, r2, _, h⟩ := andThen_inv h
  obtain ⟨ni, r3, _, h⟩ := andThen_inv h
  obtain ⟨outs, r4, _, h⟩ := andThen_inv h
  obtain ⟨kers, r5, _, h⟩ := andThen_inv h
  obtain ⟨ids, r6, _, h⟩ := andThen_inv h
  simp only at h
  split at h
  · simp at h
  rename_i hs
  simp only [Except.ok.injEq, Prod.mk.injEq] at h
  obtain ⟨rfl, _⟩ := h
  exact (CompactBlockBody.verifySorted_ok_iff _ _).mp hs

theorem tip_roundtrip (t : Tip) (hwf : t.WF) (rest : Bytes) : decTip (encTip t ++ rest) = .ok (t, rest) :=
  codec_tip.rt t hwf rest

example : ({ height := 2^64 - 1, lastBlockH := List.replicate 32 255, prevBlockH := List.replicate 32 0,
             totalDifficulty := 0 } : Tip).WF :=
  ⟨by decide, List.length_replicate, List.length_replicate, by decide⟩

/-! ## Canonical form, decoder side: accepted ⇒ *is* the encoding

For **every** byte string `bs` of real bytes (`AllBytes`: each `< 256`): if the decoder accepts, the
bytes it consumed are exactly the encoding of the value it returned (and that value is in `WF`):
nothing is normalised. Stated for kernel features (both formats), kernels, inputs, output
identifiers, proofs, block headers and tips (output features: `wire_outputFeatures` in `Lemmas/WireTx`; proofs of work:
`codec_pow` in `Lemmas/SerHeader`). -/

theorem kernelFeatures_accepts_only_canonical {c : Cfg} {bs : Bytes} {f : KernelFeatures} {r : Bytes}
    (hb : AllBytes bs) (h : decKernelFeatures c bs = .ok (f, r)) :
    bs = encKernelFeatures c.ver .full f ++ r ∧ f.WF c.nrd := (Wire.wire_kernelFeatures c).inv hb h

theorem txKernel_accepts_only_canonical {c : Cfg} {bs : Bytes} {k : TxKernel} {r : Bytes}
    (hb : AllBytes bs) (h : decTxKernel c bs = .ok (k, r)) :
    bs = encTxKernel c.ver .full k ++ r ∧ k.WF c.nrd := (Wire.wire_txKernel c).inv hb h

theorem input_accepts_only_canonical {bs : Bytes} {i : Input} {r : Bytes} (h : decInput bs = .ok (i, r)) :
    bs = encInput i ++ r ∧ i.WF := Wire.wire_input.inv' h

theorem outputId_accepts_only_canonical {bs : Bytes} {o : OutputId} {r : Bytes} (h : decOutputId bs = .ok (o, r)) :
    bs = encOutputId o ++ r ∧ o.WF := Wire.wire_outputId.inv' h

/-- Packed proofs: an accepted byte string re-packs to itself (all padding bits were zero, every
nonce is below `2^edge_bits`). -/
theorem proof_accepts_only_canonical {c : Cfg} {bs : Bytes} {p : Proof} {r : Bytes} (hb : AllBytes bs)
    (h : decProof c bs = .ok (p, r)) : bs = encProof c.proofSize .full p ++ r ∧ p.WF c.proofSize :=
  decProof_inv hb h

theorem blockHeader_accepts_only_canonical {c : Cfg} {bs : Bytes} {hd : BlockHeader} {r : Bytes}
    (hb : AllBytes bs) (h : decBlockHeader c bs = .ok (hd, r)) :
    bs = encBlockHeader c.proofSize .full hd ++ r ∧ hd.WF c.proofSize := (codec_blockHeader c).inv hb h

theorem tip_accepts_only_canonical {bs : Bytes} {t : Tip} {r : Bytes} (hb : AllBytes bs)
    (h : decTip bs = .ok (t, r)) : bs = encTip t ++ r ∧ t.WF := codec_tip.inv hb h

/-- The exception, exactly delimited: a range proof is canonical as soon as its length field says
675 — the only way `RangeProof::read` normalises is through that field. -/
theorem rangeProof_len675_canonical {rest' : Bytes} {p : RangeProof} {r : Bytes}
    (h : decRangeProof (writeU64 MAX_PROOF_SIZE ++ rest') = .ok (p, r)) :
    writeU64 MAX_PROOF_SIZE ++ rest' = encRangeProof p ++ r ∧ p.WF := by
  have h64 : MAX_PROOF_SIZE < 2^64 := by unfold MAX_PROOF_SIZE; omega
  rw [decRangeProof, readU64_write _ h64, andThen_ok, Nat.min_self] at h
  obtain ⟨x, r1, h1, h2⟩ := andThen_inv h
  obtain ⟨e1, l1⟩ := readFixed_ok h1
  simp only [Except.ok.injEq, Prod.mk.injEq] at h2
  obtain ⟨rfl, rfl⟩ := h2
  subst e1
  have hsub : MAX_PROOF_SIZE - x.length = 0 := by omega
  have htake : List.take MAX_PROOF_SIZE x = x := by rw [← l1]; exact List.take_length
  rw [hsub, List.replicate_zero, List.append_nil]
  refine ⟨?_, rfl, l1⟩
  simp only [encRangeProof, writeBytes, htake, l1, List.append_assoc]

end GV.Props.C10
