import GrinVerif.Model.Pmmr
import GrinVerif.Model.Bitmap
import GrinVerif.Model.Deseg
import GrinVerif.Model.Cons
import GrinVerif.Model.Pool
import GrinVerif.Model.SerTx
import GrinVerif.Gen.FnsSeg
import GrinVerif.Gen.FnsTx
import GrinVerif.Gen.FnsBitmap
import GrinVerif.Props.XlatePmmr
import GrinVerif.Props.XlateTx
/-! # Translated small helpers with no (or only a partial) hand model function: closed forms

`GV.Gen.Fns.*` is regenerated on every check run from the CURRENT Rust source by `tools/rs2lean.py`
(release-build integer semantics).  For the functions below the specification is stated directly as a
closed form on `Nat`, for every input of the stated range, and tied to the hand-written model
function where one exists:

* `SegmentIdentifier::pmmr_size` (core/src/core/pmmr/segment.rs) — `Deseg.pmmrSize`, `Pmmr.insertionToPmmrIndex`
* `Transaction::old_weight_by_iok`, `TransactionBody::weight`, `libtx::tx_fee` (core/src/core/transaction.rs,
  core/src/libtx/mod.rs) — `Ser.weightByIok`, `Cons.acceptFee`, `Pool.Tx.acceptFee`
* `BitmapAccumulator::chunk_start_idx / chunk_idx` (chain/src/txhashset/bitmap_accumulator.rs) —
  `Bitmap.chunkStartIdx`, `Bitmap.chunkIdx` -/

namespace GV.Props.XlateMisc
open GV GV.Gen GV.Xlate

/-! ## `SegmentIdentifier::pmmr_size(num_segments: usize, height: u8)`
`= pmmr::insertion_to_pmmr_index(num_segments as u64 * (1 << height))` -/

/-- the desegmenter model's transliteration is the translated function, for all arguments -/
theorem pmmr_size_eq_deseg (n h : Nat) :
    Fns.SegmentIdentifier_pmmr_size n h = GV.Deseg.pmmrSize n h := rfl

/-- in range (`height < 64`, `num_segments · 2^height ≤ 2^63`) it is the MMR size of
`num_segments · 2^height` leaves -/
theorem pmmr_size_eq (n h : Nat) (hh : h < 64) (hn : n * 2^h ≤ 2^63) :
    Fns.SegmentIdentifier_pmmr_size n h = GV.Pmmr.insertionToPmmrIndex (n * 2^h) := by
  unfold Fns.SegmentIdentifier_pmmr_size
  rw [shlW_one_left hh, mulW_eq (by omega)]
  exact GV.Props.XlatePmmr.insertion_to_pmmr_index_eq _ hn

/-- `1 << height` on a u64 masks the shift amount: a `height` in `64..=255` (every u8 is accepted
by the type) behaves as `height % 64` -/
theorem pmmr_size_masked (n h : Nat) :
    Fns.SegmentIdentifier_pmmr_size n h = Fns.SegmentIdentifier_pmmr_size n (h % 64) := by
  unfold Fns.SegmentIdentifier_pmmr_size
  rw [shlW_one_mod, shlW_one_mod, Nat.mod_mod]

/-- … so for every u8 height: the MMR size of `num_segments · 2^(height % 64)` leaves -/
theorem pmmr_size_eq_u8 (n h : Nat) (hn : n * 2^(h % 64) ≤ 2^63) :
    Fns.SegmentIdentifier_pmmr_size n h = GV.Pmmr.insertionToPmmrIndex (n * 2^(h % 64)) := by
  rw [pmmr_size_masked]
  exact pmmr_size_eq n (h % 64) (Nat.mod_lt _ (by omega)) hn

/-- 3 segments of height 2 = 12 leaves = 22 positions; height 64 is height 0 (not `2^64` leaves);
and the range bound is exact: `2^63 + 1` leaves wrap to size 0 -/
example : Fns.SegmentIdentifier_pmmr_size 3 2 = 22 ∧ Fns.SegmentIdentifier_pmmr_size 3 66 = 22
    ∧ Fns.SegmentIdentifier_pmmr_size 1 64 = 1 ∧ Fns.SegmentIdentifier_pmmr_size (2^63 + 1) 0 = 0 := by
  have pc12 : popcount 12 = 2 := by simp [popcount]
  have pc1 : popcount 1 = 1 := by simp [popcount]
  have m12 : GV.Pmmr.insertionToPmmrIndex (3 * 2^2) = 22 := by
    simp [GV.Pmmr.insertionToPmmrIndex, GV.Pmmr.mmr, pc12]
  have m1 : GV.Pmmr.insertionToPmmrIndex (1 * 2^0) = 1 := by
    simp [GV.Pmmr.insertionToPmmrIndex, GV.Pmmr.mmr, pc1]
  refine ⟨?_, ?_, ?_, ?_⟩
  · rw [pmmr_size_eq 3 2 (by decide) (by decide), m12]
  · rw [pmmr_size_eq_u8 3 66 (by decide)]; exact m12
  · rw [pmmr_size_eq_u8 1 64 (by decide)]; exact m1
  · have h1 : shlW 1 0 = 1 := by decide
    have h2 : mulW (2^63 + 1) 1 = 2^63 + 1 := by unfold mulW; omega
    unfold Fns.SegmentIdentifier_pmmr_size
    rw [h1, h2]
    exact GV.Props.XlatePmmr.insertion_to_pmmr_index_wraps.1

/-- `old_weight_by_iok(i, o, k) = max(o.saturating_mul(4).saturating_add(k).saturating_sub(i), 1)`,
for all arguments (no hand model function exists: the closed form is the specification) -/
theorem old_weight_by_iok_eq (i o k : Nat) :
    Fns.Transaction_old_weight_by_iok i o k = max 1 (min (min (4 * o) U64MAX + k) U64MAX - i) := by
  unfold Fns.Transaction_old_weight_by_iok Fns.satAddN Fns.satMulN satSub U64MAX
  rw [Nat.max_comm, Nat.mul_comm o 4]

/-- without saturation (`4·o + k` fits a u64): `max 1 (4·o + k - i)` (truncated subtraction) -/
theorem old_weight_by_iok_in_range (i o k : Nat) (h : 4 * o + k < 2^64) :
    Fns.Transaction_old_weight_by_iok i o k = max 1 (4 * o + k - i) := by
  have hU : U64MAX = 2^64 - 1 := rfl
  rw [old_weight_by_iok_eq, Nat.min_eq_left (by omega), Nat.min_eq_left (by omega)]

/-- it is never 0 and never above `u64::MAX` -/
theorem old_weight_by_iok_bounds (i o k : Nat) :
    1 ≤ Fns.Transaction_old_weight_by_iok i o k ∧ Fns.Transaction_old_weight_by_iok i o k ≤ U64MAX := by
  rw [old_weight_by_iok_eq]
  exact ⟨Nat.le_max_left _ _,
    Nat.max_le.2 ⟨by decide, Nat.le_trans (Nat.sub_le _ _) (Nat.min_le_right _ _)⟩⟩

example : Fns.Transaction_old_weight_by_iok 2 2 1 = 7 ∧ Fns.Transaction_old_weight_by_iok 10 2 1 = 1
    ∧ Fns.Transaction_old_weight_by_iok 5 (2^63) 7 = 2^64 - 6 := by
  refine ⟨?_, ?_, ?_⟩ <;> rw [old_weight_by_iok_eq] <;> unfold U64MAX <;> omega

/-- `TransactionBody::weight(&self) = weight_by_iok(inputs.len(), outputs.len(), kernels.len())`
(the lengths of `inputs` / `outputs` are parameters of the translation) -/
theorem body_weight_eq (kernels : List Fns.TxKernel) (ni no : Nat) :
    Fns.TransactionBody_weight kernels ni no = GV.Ser.weightByIok ni no kernels.length := by
  unfold Fns.TransactionBody_weight
  exact GV.Props.XlateTx.body_weight_by_iok_eq ni no kernels.length

example : Fns.TransactionBody_weight [default] 2 2 = 47 := by
  rw [body_weight_eq]; decide

/-- `libtx::tx_fee` (not `Transaction::fee`, which is `XlateTxFee.tx_fee_eq`):
`tx_fee(i, o, k) = Transaction::weight_by_iok(i, o, k) * get_accept_fee_base()`, a wrapping u64
product, for all arguments -/
theorem tx_fee_eq (base i o k : Nat) :
    Fns.tx_fee base i o k = mulW (GV.Ser.weightByIok i o k) base := by
  unfold Fns.tx_fee
  rw [GV.Props.XlateTx.tx_weight_by_iok_eq]

/-- what `Transaction::accept_fee` of the parameter-store model (`Cons.acceptFee`) returns for a
transaction of that weight, on a thread whose accept-fee base resolves to `b` -/
theorem tx_fee_eq_cons_acceptFee (s : GV.Cons.PStore) (i o k : Nat) :
    (GV.Cons.acceptFee (GV.Ser.weightByIok i o k) s).1
      = (GV.Cons.getAcceptFeeBase s).1.map (fun b => Fns.tx_fee b i o k) := by
  unfold GV.Cons.acceptFee
  cases hg : GV.Cons.getAcceptFeeBase s with
  | mk o' s' =>
    cases o' with
    | none => rfl
    | some b => simp [tx_fee_eq]

/-- the pool model's unbounded `Tx.acceptFee` is `tx_fee` whenever weight and product fit a u64 -/
theorem tx_fee_eq_pool_acceptFee (c : GV.Pool.Cfg) (t : GV.Pool.Tx)
    (h : t.weight * c.feeBase < 2^64) (hw : t.weight < 2^64) :
    Fns.tx_fee c.feeBase t.ins.length t.outs.length t.kers.length = t.acceptFee c := by
  unfold Fns.tx_fee
  rw [GV.Props.XlateTx.pool_weight_eq t (by unfold GV.Pool.Tx.weight at hw; exact hw)]
  unfold GV.Pool.Tx.acceptFee
  exact mulW_eq h

/-- in range: `(i + 21·o + 3·k) · base` -/
theorem tx_fee_in_range (base i o k : Nat) (h : (i + 21 * o + 3 * k) * base < 2^64)
    (hw : i + 21 * o + 3 * k < 2^64) :
    Fns.tx_fee base i o k = (i + 21 * o + 3 * k) * base := by
  unfold Fns.tx_fee
  rw [GV.Props.XlateTx.weight_by_iok_in_range i o k hw]; exact mulW_eq h

/-- 2 inputs, 2 outputs, 1 kernel (weight 47) at the mainnet base 500 000; a wrapping product -/
example : Fns.tx_fee 500000 2 2 1 = 23500000 ∧ Fns.tx_fee (2^63) 0 0 2 = 0 := by
  constructor
  · rw [tx_fee_in_range 500000 2 2 1 (by omega) (by omega)]
  · have : GV.Ser.weightByIok 0 0 2 = 6 := by decide
    rw [tx_fee_eq, this]; unfold mulW; omega

/-! ## `BitmapAccumulator::chunk_start_idx`, `chunk_idx` (`NBITS` = 1024) -/

theorem nbits_val : Fns.BitmapAccumulator_NBITS = 1024 ∧ GV.Bitmap.NBITS = 1024 := ⟨rfl, rfl⟩

/-- the mask `!(NBITS - 1)` on a u64 -/
theorem chunk_mask_val : Fns.notN 64 (subW Fns.BitmapAccumulator_NBITS 1) = (2^54 - 1) * 2^10 := by
  have h1 : subW Fns.BitmapAccumulator_NBITS 1 = 1023 := by
    unfold subW Fns.BitmapAccumulator_NBITS Fns.BitmapChunk_LEN_BITS; omega
  rw [h1]; unfold Fns.notN; omega

/-- `idx & !(NBITS - 1)` rounds down to a multiple of 1024, for every u64 `idx` -/
theorem chunk_start_idx_eq (idx : Nat) (h : idx < 2^64) :
    Fns.BitmapAccumulator_chunk_start_idx idx = idx / 1024 * 1024 := by
  unfold Fns.BitmapAccumulator_chunk_start_idx
  rw [chunk_mask_val]
  apply Nat.eq_of_testBit_eq
  intro j
  rw [Nat.testBit_and, show (1024 : Nat) = 2^10 from rfl, Nat.testBit_mul_two_pow,
    Nat.testBit_mul_two_pow, Nat.testBit_two_pow_sub_one, Nat.testBit_div_two_pow]
  by_cases hj : 10 ≤ j
  · by_cases hj2 : j < 64
    · have : j - 10 < 54 := by omega
      simp [hj, this]
    · have hlt : idx < 2^j := Nat.lt_of_lt_of_le h (Nat.pow_le_pow_right (by omega) (by omega))
      simp [hj, Nat.testBit_lt_two_pow hlt]
  · simp [hj]

/-- … which is the model's `Bitmap.chunkStartIdx` -/
theorem chunk_start_idx_eq_model (idx : Nat) (h : idx < 2^64) :
    Fns.BitmapAccumulator_chunk_start_idx idx = GV.Bitmap.chunkStartIdx idx :=
  chunk_start_idx_eq idx h

/-- `idx / NBITS`, for all `idx`; the divisor is not 0 -/
theorem chunk_idx_eq (idx : Nat) : Fns.BitmapAccumulator_chunk_idx idx = idx / 1024 := rfl

theorem chunk_idx_eq_model (idx : Nat) :
    Fns.BitmapAccumulator_chunk_idx idx = GV.Bitmap.chunkIdx idx := rfl

theorem chunk_idx_ok (idx : Nat) : Fns.BitmapAccumulator_chunk_idx_ok idx = true := rfl

/-- the start index is the chunk index times 1024, and `idx` lies in that chunk -/
theorem chunk_start_idx_spec (idx : Nat) (h : idx < 2^64) :
    Fns.BitmapAccumulator_chunk_start_idx idx = Fns.BitmapAccumulator_chunk_idx idx * 1024
      ∧ Fns.BitmapAccumulator_chunk_start_idx idx ≤ idx
      ∧ idx < Fns.BitmapAccumulator_chunk_start_idx idx + 1024 := by
  rw [chunk_start_idx_eq idx h, chunk_idx_eq]
  omega

example : Fns.BitmapAccumulator_chunk_start_idx 3000 = 2048 ∧ Fns.BitmapAccumulator_chunk_idx 3000 = 2
    ∧ Fns.BitmapAccumulator_chunk_start_idx (2^64 - 1) = 2^64 - 1024 := by
  refine ⟨?_, ?_, ?_⟩
  · rw [chunk_start_idx_eq 3000 (by omega)]
  · rw [chunk_idx_eq]
  · rw [chunk_start_idx_eq _ (by omega)]

end GV.Props.XlateMisc
