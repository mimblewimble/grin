import GrinVerif.Model.CrashZip
import GrinVerif.Lemmas.CrashZipL
import GrinVerif.Lemmas.CrashRecover
import GrinVerif.Props.C09
/-! C09, the state-sync install (`Model/CrashZip.lean`; known finding
C09-state-sync-commit-before-swap): `Chain::txhashset_write` commits body head = body tail = archive
header to LMDB BEFORE `txhashset_replace` swaps the validated sandbox files into the chain
directory. For every block table, every archive path `P` (genesis first, at least one block above
genesis, more outputs than genesis alone) and every header chain `H`:
* `zip_before_commit_opens_old` — a death anywhere before the commit (all writes go to the sandbox)
  reopens on genesis;
* `zip_commit_before_swap_bricks_all` — a death between the commit and the swap: `Chain::init`
  fails (the stored head does not validate on the old files and the fallback needs the archive
  block's body, which state sync never had);
* `zip_clean_bricks_all` — the same with the old directory already removed;
* `zip_torn_bricks` — a half-removed directory fails in `TxHashSet::open`;
* `zip_after_swap_opens_new` — after the rename the node reopens on the archive header. -/
namespace GV.Props.C09Zip
open GV GV.Crash

/-- what the theorems assume about the node: `g` is genesis, `P` the archive header's path, `H` the
path of the header head, all found in the table -/
structure ZipNode (tbl : List BlkInfo) (g : BlkInfo) (P H : List BlkInfo) : Prop where
  gpath : pathOf tbl (tbl.length + 1) g.id [] = some [g]
  ppath : pathOf tbl (tbl.length + 1) (tipOf P) [] = some P
  hpath : pathOf tbl (tbl.length + 1) (tipOf H) [] = some H
  plen : 1 < P.length
  ptip : tipOf P ≠ g.id
  more : (leavesOf [g]).length < (leavesOf P).length

theorem hdr_ok (g : BlkInfo) (H : List BlkInfo) :
    (zipStart g H).base.hdrHash.length = (zipStart g H).base.hdrData.length ∧
    (zipStart g H).base.dbHHead = tipOf H ∧ (zipStart g H).base.hdrData = H.map (·.id) := by
  refine ⟨by simp [zipStart], rfl, rfl⟩

/-- the stored head does not fit the files on disk and its body is not there to undo it -/
theorem zip_bricks (bcf : Nat → Bool) (tbl : List BlkInfo) (g : BlkInfo) (P H : List BlkInfo)
    (hz : ZipNode tbl g P H) (d : DurableZ) (h1 : d.torn = false) (hok : HdrOk tbl d.base)
    (hh : d.base.dbHead = tipOf P) (hs : d.base.outHash.length < (leavesOf P).length) (hb : d.bodies = [g.id]) :
    recoverZ bcf tbl d = .openFail .storeErr := by
  rw [recoverZ_of_hdrOk bcf tbl d h1 hok, hh,
    fallbackWith_gone _ _ _ P (Nat.succ_pos _) hz.ppath (Nat.not_le.2 hz.plen)
      (validAt_false_of_short bcf d.base [] P hs) (by rw [DurableZ.gone, hb]; simpa using hz.ptip)]
  rfl

/-- **Before the commit** every write goes to the sandbox: the node reopens on genesis. -/
theorem zip_before_commit_opens_old (bcf : Nat → Bool) (tbl : List BlkInfo) (g : BlkInfo)
    (P H : List BlkInfo) (hz : ZipNode tbl g P H) :
    recoverZ bcf tbl (zipStart g H) = .ok g.id := by
  rw [recoverZ_of_hdrOk bcf tbl _ rfl (zipStart_hdrOk g hz.hpath)]
  exact congrArg toZ (fallbackWith_stop _ _ [] [g] hz.gpath (Or.inl (Nat.le_refl _)))

/-- **Between the commit and the swap: the node does not open.** -/
theorem zip_commit_before_swap_bricks_all (bcf : Nat → Bool) (tbl : List BlkInfo) (g : BlkInfo)
    (P H : List BlkInfo) (hz : ZipNode tbl g P H) :
    recoverZ bcf tbl (applyZStep P (zipStart g H) .commit) = .openFail .storeErr :=
  zip_bricks bcf tbl g P H hz _ rfl ((zipStart_hdrOk g hz.hpath).of_view rfl) rfl
    (show (consistent [g]).outHash.length < _ by simpa [consistent] using hz.more) rfl

/-- **Old directory removed, sandbox not yet renamed: the node does not open.** -/
theorem zip_clean_bricks_all (bcf : Nat → Bool) (tbl : List BlkInfo) (g : BlkInfo)
    (P H : List BlkInfo) (hz : ZipNode tbl g P H) :
    recoverZ bcf tbl (applyZStep P (applyZStep P (zipStart g H) .commit) .clean) = .openFail .storeErr :=
  zip_bricks bcf tbl g P H hz _ rfl ((zipStart_hdrOk g hz.hpath).of_view rfl) rfl
    (show ([] : List Leaf).length < _ from Nat.lt_of_le_of_lt (Nat.zero_le _) hz.more) rfl

/-- **A half-removed directory fails in `TxHashSet::open`.** -/
theorem zip_torn_bricks (bcf : Nat → Bool) (tbl : List BlkInfo) (P : List BlkInfo) (d : DurableZ) :
    recoverZ bcf tbl (applyZStep P d .cleanPartial) = .openFail .txHashSetErr := by
  simp [recoverZ, applyZStep]

/-- **After the rename the node reopens on the archive header.** -/
theorem zip_after_swap_opens_new (bcf : Nat → Bool) (tbl : List BlkInfo) (g : BlkInfo)
    (P H : List BlkInfo) (hz : ZipNode tbl g P H) :
    recoverZ bcf tbl (applyZStep P (applyZStep P (applyZStep P (zipStart g H) .commit) .clean) .rename) =
      .ok (tipOf P) := by
  have hok : HdrOk tbl (applyZStep P (applyZStep P (applyZStep P (zipStart g H) .commit) .clean) .rename).base :=
    (zipStart_hdrOk g hz.hpath).of_view rfl
  rw [recoverZ_of_hdrOk bcf tbl _ rfl hok]
  refine congrArg toZ (fallbackWith_stop _ _ [] P hz.ppath (Or.inr ?_))
  -- the installed files are those of `consistent P`
  exact validAt_of_agrees bcf P _ ((consistent_agrees P).of_view rfl)

/-! ### non-vacuity: the witness chain of `Props/C09.lean` as source, archive header b5, all 9 headers -/
open GV.Props.C09 in
example : ZipNode tbl9 (blk 0 []) (tbl9.take 6) tbl9 :=
  ⟨by decide +kernel, by decide +kernel, by decide +kernel, by decide +kernel, by decide +kernel, by decide +kernel⟩
open GV.Props.C09 in
example : recoverZ bc tbl9 (zipStart (blk 0 []) tbl9) = .ok 0 ∧
    recoverZ bc tbl9 (applyZStep (tbl9.take 6) (zipStart (blk 0 []) tbl9) .commit) = .openFail .storeErr ∧
    recoverZ bc tbl9 ([ZStep.commit, .clean, .rename].foldl (applyZStep (tbl9.take 6)) (zipStart (blk 0 []) tbl9)) = .ok 5 := by
  decide

end GV.Props.C09Zip
