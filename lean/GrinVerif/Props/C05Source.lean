import GrinVerif.Lemmas.XlateArith
import GrinVerif.Props.XlateVerify
import GrinVerif.Props.XlateVerifyD
import GrinVerif.Props.XlateVerifyT
import GrinVerif.Props.XlateVerifyZ
import GrinVerif.Props.XlateSelect
import GrinVerif.Props.XlateCtx
import GrinVerif.Props.C05Entry
/-! # C05's first sentence about the code REGENERATED FROM THE CURRENT SOURCE

`Props/C05Entry.verify_size_accepts_exactly_cycles` is about the hand-written model of
`pow::verify_size`.  Here the same statement is made about the chain of functions the translator
regenerates from `/repo` on every check run (`Gen/Fns*.lean`):

    Fns.create_pow_context            (core/src/global.rs)         — `XlateSelect.dispatch`
    Fns.new_cuckaroo_ctx / _cuckarood_ctx / _cuckaroom_ctx / _cuckarooz_ctx,
    Fns.CuckooParams_new              (core/src/pow/*.rs, common.rs) — `srcNew`
    Fns.Cuckatoo_verify / Cuckaroo_verify / Cuckarood_verify / Cuckaroom_verify / Cuckarooz_verify
                                      (core/src/pow/cuck*.rs)        — `srcVerify`
    with the edge endpoints computed by the translated `siphash24` / `siphash_block`
                                      (core/src/pow/siphash.rs)      — `srcEp`

`source_verify_size_accepts_exactly_cycles`: that chain answers `Ok(())` IF AND ONLY IF a verifier
exists for (chain type, height, edge_bits), the size is not refused, the proof has exactly
`proofsize` nonces, strictly ascending, within the edge mask, and the edges they select — endpoints
by the TRANSLATED siphash on the given keys — form one simple cycle under the selected definition.

What remains hand-modelled in this chain (three glue steps, each one line of Rust):
* `Graph::new`'s size bound in `CuckatooContext::new_impl` (`graphTooBig`; the `CuckooParams::new`
  call inside it IS the translated one, and `Props/XlateCtx.Graph_new_tooBig` says that the translated
  `Graph::new` refuses exactly when `graphTooBig` holds);
* `set_header_nonce`: the context's `siphash_keys` are REPLACED by the keys of the header
  (`seeded`); the derivation of those keys (blake2b of `pre_pow`, `create_siphash_keys`) is outside:
  the theorem is for every key list;
* `pow::verify_size` itself — the three statements `create_pow_context(height, edge_bits,
  nonces.len(), MAX_SOLS)?; set_header_nonce(..)?; verify(..)` — is `srcVerifySize` below, written
  by hand over the translated pieces.

Hypothesis `hok`: the translated verifier's `_ok` predicate ("the Rust function returns normally: no
index out of range, every loop exits") for the parameters built.  For the soundness direction it is
implied by the premise that the real function returned at all; for completeness it is the
no-panic assumption already listed for C05 (array indices in bounds).  `create_pow_context_ok`,
`new_ctx_ok` and `CuckooParams_new_eq` (never fails) are discharged. -/
namespace GV.Props.C05Source
open GV GV.Gen GV.Gen.Fns GV.Pow GV.Props.C05 GV.Props.C05Entry
open GV.Props.XlateCons (ofPow)

/-- the translated constructor of the context parameters for variant `v` (Cuckatoo:
`CuckatooContext::new_impl` calls `CuckooParams::new(edge_bits, edge_bits, proof_size)`) -/
def srcNew (v : Variant) (eb ps : Nat) : Option CuckooParams :=
  match v with
  | .cuckatoo => Fns.CuckooParams_new eb eb ps
  | .cuckaroo => Fns.new_cuckaroo_ctx eb ps
  | .cuckarood => Fns.new_cuckarood_ctx eb ps
  | .cuckaroom => Fns.new_cuckaroom_ctx eb ps
  | .cuckarooz => Fns.new_cuckarooz_ctx eb ps

/-- `set_header_nonce`: the keys of the header replace the context's -/
def seeded (p : CuckooParams) (keys : List Nat) : CuckooParams := { p with siphash_keys := keys }

/-- the parameters `verify` runs with behind `verify_size` -/
def built (v : Variant) (eb n : Nat) (keys : List Nat) : CuckooParams :=
  ⟨n, numEdges eb, keys, edgeMaskRel eb, 2^(nodeBitsOf v eb % 64) - 1⟩

theorem srcNew_eq (v : Variant) (eb ps : Nat) (keys : List Nat) :
    (srcNew v eb ps).map (fun p => seeded p keys) = some (built v eb ps keys) := by
  cases v
  · simp only [srcNew, GV.Props.XlateCtx.CuckooParams_new_eq]; rfl
  · simp only [srcNew, GV.Props.XlateCtx.new_cuckaroo_ctx_eq, GV.Props.XlateCtx.CuckooParams_new_eq]; rfl
  · simp only [srcNew, GV.Props.XlateCtx.new_cuckarood_ctx_eq eb ps, GV.Props.XlateCtx.CuckooParams_new_eq]; rfl
  · simp only [srcNew, GV.Props.XlateCtx.new_cuckaroom_ctx_eq, GV.Props.XlateCtx.CuckooParams_new_eq]; rfl
  · simp only [srcNew, GV.Props.XlateCtx.new_cuckarooz_ctx_eq, GV.Props.XlateCtx.CuckooParams_new_eq]; rfl

/-- the translated `verify` of variant `v` -/
def srcVerify (v : Variant) (ct : ChainTypes) (p : CuckooParams) (proof : Proof) : Option Unit :=
  match v with
  | .cuckatoo => Cuckatoo_verify ct p proof
  | .cuckaroo => Cuckaroo_verify ct p proof
  | .cuckarood => Cuckarood_verify ct p proof
  | .cuckaroom => Cuckaroom_verify ct p proof
  | .cuckarooz => Cuckarooz_verify ct p proof

/-- "the Rust `verify` returns normally" -/
def srcVerifyOk (v : Variant) (ct : ChainTypes) (p : CuckooParams) (proof : Proof) : Bool :=
  match v with
  | .cuckatoo => Cuckatoo_verify_ok ct p proof
  | .cuckaroo => Cuckaroo_verify_ok ct p proof
  | .cuckarood => Cuckarood_verify_ok ct p proof
  | .cuckaroom => Cuckaroom_verify_ok ct p proof
  | .cuckarooz => Cuckarooz_verify_ok ct p proof

/-- the endpoints of edge `x` as the source derives them: translated `siphash24` / `siphash_block` -/
def srcEp (v : Variant) (p : CuckooParams) (x : Nat) : Nat × Nat :=
  match v with
  | .cuckatoo => GV.Props.XlateVerifyT.epSip p x
  | .cuckaroo => (let e := siphash_block p.siphash_keys x 21 false
                  (e &&& p.node_mask, (shrW e 32) &&& p.node_mask))
  | .cuckarood => (let e := siphash_block p.siphash_keys x 25 false
                  (e &&& p.node_mask, (shrW e 32) &&& p.node_mask))
  | .cuckaroom => (let e := siphash_block p.siphash_keys x 21 true
                  (e &&& p.node_mask, (shrW e 32) &&& p.node_mask))
  | .cuckarooz => (let e := siphash_block p.siphash_keys x 21 true
                  (e &&& p.node_mask, (shrW e 32) &&& p.node_mask))

theorem proofsize_tie (c : Pow.ChainType) : Fns.proofsize (ofPow c) = proofsizeOf c := by
  cases c <;> rfl

/-- the model parameters the translated verifier is compared with -/
def modelP (c : Pow.ChainType) (p : CuckooParams) (n : Nat) : Params :=
  ⟨proofsizeOf c, p.edge_mask, p.proof_size, fun u => u &&& shrW (2^64-1) (leadingZeros64 n)⟩

/-- translated verifier = hand model, all five variants (from `Props/XlateVerify*`) -/
theorem srcVerify_eq_model (v : Variant) (c : Pow.ChainType) (p : CuckooParams) (eb : Nat) (ns : List Nat)
    (hok : srcVerifyOk v (ofPow c) p ⟨eb, ns⟩ = true) :
    srcVerify v (ofPow c) p ⟨eb, ns⟩ = some () ↔
      verifyOf v (modelP c p ns.length) (srcEp v p) ns = .ok () := by
  have h1 : (modelP c p ns.length).proofsize = Fns.proofsize (ofPow c) := (proofsize_tie c).symm
  cases v
  · exact GV.Props.XlateVerifyT.cuckatoo_verify_eq_sip (ofPow c) p ⟨eb, ns⟩ (modelP c p ns.length)
      h1 rfl (fun _ => rfl) hok
  · exact GV.Props.XlateVerify.cuckaroo_verify_eq (ofPow c) p ⟨eb, ns⟩ (modelP c p ns.length) _
      h1 rfl (fun _ => rfl) (fun _ => rfl) hok
  · exact GV.Props.XlateVerifyD.cuckarood_verify_eq (ofPow c) p ⟨eb, ns⟩ (modelP c p ns.length) _
      h1 rfl (fun _ => rfl) (fun _ => rfl) hok
  · exact GV.Props.XlateVerifyD.cuckaroom_verify_eq (ofPow c) p ⟨eb, ns⟩ (modelP c p ns.length) _
      h1 rfl (fun _ => rfl) (fun _ => rfl) hok
  · exact GV.Props.XlateVerifyZ.cuckarooz_verify_eq (ofPow c) p ⟨eb, ns⟩ (modelP c p ns.length) _
      h1 rfl rfl (fun _ => rfl) (fun _ => rfl) hok

/-- **the translated `verify` accepts exactly the simple cycles** of the graph whose endpoints the
translated siphash derives — every variant, for a context whose `proof_size` is the nonce count (as
`verify_size` builds it) -/
theorem srcVerify_iff (v : Variant) (c : Pow.ChainType) (p : CuckooParams) (eb : Nat) (ns : List Nat)
    (hp : p.proof_size = ns.length)
    (hok : srcVerifyOk v (ofPow c) p ⟨eb, ns⟩ = true) :
    srcVerify v (ofPow c) p ⟨eb, ns⟩ = some () ↔
      (ns.length = proofsizeOf c ∧ Ascending ns ∧ (∀ x ∈ ns, x ≤ p.edge_mask) ∧
        IsProofCycleOf v (srcEp v p) ns) := by
  rw [srcVerify_eq_model v c p eb ns hok]
  by_cases hlen : ns.length = proofsizeOf c
  · have hbk : ∀ x, (modelP c p ns.length).bk x % 2 = x % 2 := by
      intro x
      show (x &&& shrW (2^64-1) (leadingZeros64 ns.length)) % 2 = x % 2
      rw [hlen, show shrW (2^64-1) (leadingZeros64 (proofsizeOf c)) = bucketMask (proofsizeOf c) from
        Xlate.all_ones_shr (proofsizeOf_pos c) (by cases c <;> decide)]
      exact bucketMask_low_bit _ (proofsizeOf_pos c) x
    exact verifyOf_iff v (modelP c p ns.length) (srcEp v p) ns (proofsizeOf_pos c)
      (by show p.proof_size = proofsizeOf c; rw [hp, hlen]) hbk
  · constructor
    · intro h
      exact absurd (verifyOf_ok_length v _ _ ns h) hlen
    · rintro ⟨h, _⟩
      exact absurd h hlen

/-- the part of `hok` that needs no loop invariant: on a proof of the WRONG length every translated
verifier returns normally (the count test is the first statement), so for such proofs
`srcVerify_iff` holds without the `hok` hypothesis — and says: refused -/
theorem source_wrong_length_no_panic (v : Variant) (c : Pow.ChainType) (p : CuckooParams) (eb : Nat)
    (ns : List Nat) (hp : p.proof_size = ns.length) (hlen : ns.length ≠ proofsizeOf c) :
    srcVerifyOk v (ofPow c) p ⟨eb, ns⟩ = true ∧ srcVerify v (ofPow c) p ⟨eb, ns⟩ ≠ some () := by
  have hne : (Proof_proof_size ns != Fns.proofsize (ofPow c)) = true := by
    rw [proofsize_tie]; simpa [Proof_proof_size] using hlen
  have hok : srcVerifyOk v (ofPow c) p ⟨eb, ns⟩ = true := by
    cases v <;>
      simp only [srcVerifyOk, Cuckatoo_verify_ok, Cuckaroo_verify_ok, Cuckarood_verify_ok,
        Cuckaroom_verify_ok, Cuckarooz_verify_ok, hne, if_true]
  refine ⟨hok, fun h => ?_⟩
  exact hlen ((srcVerify_iff v c p eb ns hp hok).mp h).1

/-- `pow::verify_size` over the translated pieces: `create_pow_context(height, edge_bits,
nonces.len(), MAX_SOLS)?` (translated dispatch; translated constructors; `Graph::new` bound by
hand), `set_header_nonce` (keys replaced), `verify` (translated) -/
def srcVerifySize (c : Pow.ChainType) (height eb : Nat) (keys : List Nat) (ns : List Nat) : Option Unit :=
  match GV.Props.XlateSelect.dispatch c height eb ns.length 10 with
  | none => none
  | some (v, e, n, _) =>
    if v = .cuckatoo ∧ graphTooBig e = true then none
    else
      match srcNew v e n with
      | none => none
      | some p => srcVerify v (ofPow c) (seeded p keys) ⟨eb, ns⟩

/-- **C05's first sentence about the regenerated code.** -/
theorem source_verify_size_accepts_exactly_cycles (c : Pow.ChainType) (height eb : Nat) (heb : eb < 256)
    (keys : List Nat) (ns : List Nat)
    (hok : ∀ v, selectVariant c height eb = some v →
      srcVerifyOk v (ofPow c) (built v eb ns.length keys) ⟨eb, ns⟩ = true) :
    srcVerifySize c height eb keys ns = some () ↔
      ∃ v, selectVariant c height eb = some v ∧ ¬ (v = .cuckatoo ∧ eb % 64 = 63) ∧
        ns.length = proofsizeOf c ∧ Ascending ns ∧ (∀ x ∈ ns, x ≤ edgeMaskRel eb) ∧
        IsProofCycleOf v (srcEp v (built v eb ns.length keys)) ns := by
  unfold srcVerifySize
  rw [GV.Props.XlateSelect.create_pow_context_eq]
  cases hv : selectVariant c height eb with
  | none => simp
  | some v =>
    simp only [Option.map_some]
    by_cases hbig' : v = .cuckatoo ∧ graphTooBig eb = true
    · rw [if_pos hbig']
      constructor
      · intro h; cases h
      · rintro ⟨v', hv', hnb, _⟩
        cases hv'
        exact absurd ⟨hbig'.1, (graphTooBig_iff eb).mp hbig'.2⟩ hnb
    · rw [if_neg hbig']
      have hnew := srcNew_eq v eb ns.length keys
      cases hs : srcNew v eb ns.length with
      | none => rw [hs] at hnew; cases hnew
      | some p =>
        rw [hs] at hnew
        simp only [Option.map_some, Option.some.injEq] at hnew
        simp only
        rw [hnew, srcVerify_iff v c (built v eb ns.length keys) eb ns rfl (hok v hv)]
        constructor
        · rintro ⟨h1, h2, h3, h4⟩
          exact ⟨v, rfl, fun h => hbig' ⟨h.1, (graphTooBig_iff eb).mpr h.2⟩, h1, h2, h3, h4⟩
        · rintro ⟨v', hv', _, h1, h2, h3, h4⟩
          cases hv'
          exact ⟨h1, h2, h3, h4⟩

/-- the glue that IS discharged: the translated dispatch and constructors never fail / panic -/
theorem source_glue_never_fails (eb ps : Nat) :
    (∀ nb, ∃ p, Fns.CuckooParams_new eb nb ps = some p) ∧
    Fns.new_cuckaroo_ctx_ok eb ps = true ∧ Fns.new_cuckarood_ctx_ok eb ps = true ∧
    Fns.new_cuckaroom_ctx_ok eb ps = true ∧ Fns.new_cuckarooz_ctx_ok eb ps = true :=
  ⟨fun nb => ⟨_, GV.Props.XlateCtx.CuckooParams_new_eq eb nb ps⟩, GV.Props.XlateCtx.new_ctx_ok eb ps⟩

/-- non-vacuity: the translator's 8-cycle (AutomatedTesting, keys `[243,1,2,3]`, 16 edges) through
this file's statement: `_ok` holds, the translated verifier accepts, hence the nonces are a cycle of
the graph the translated siphash derives -/
example : IsProofCycleOf .cuckatoo (srcEp .cuckatoo GV.Props.XlateVerifyT.wParams)
    GV.Props.XlateVerifyT.wProof.nonces :=
  ((srcVerify_iff .cuckatoo .automated GV.Props.XlateVerifyT.wParams 4
    GV.Props.XlateVerifyT.wProof.nonces rfl GV.Props.XlateVerifyT.w_ok).mp
    GV.Props.XlateVerifyT.w_accepts).2.2.2

end GV.Props.C05Source
