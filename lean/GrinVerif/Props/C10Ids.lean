import GrinVerif.Model.SerIds
import GrinVerif.Lemmas.SerHeader
/-! # C10 — derived identifiers (`Model/SerIds.lean`)

`kernel_sig_msg`, `pre_pow` / `from_pre_pow_and_proof`, `short_id`: hashes of hash-mode bytes that
have no protocol-version parameter and that every node must compute alike. The run `ids` of the `ser`
harness compares each of them byte for byte with the code; the theorems say what the byte layouts
guarantee for ALL values:

* the bytes a kernel signature commits to determine the kernel features completely — variant, fee,
  lock height / relative height (`sigMsgBytes_injective`; with a collision-free hash: no two different
  feature values share a signature message, `sigMsg_covers_every_field`);
* a header's encoding is its `pre_pow()` followed by the proof, and `pre_pow()` determines every
  header field outside the proof (`header_is_prePow_then_proof`, `prePow_determines_header`): the
  proof of work commits to all of them;
* `from_pre_pow_and_proof` applied to the hex of a header's pre-pow part, its nonce and its proof
  rebuilds the header (`from_prePow_and_proof_roundtrip`);
* a short id is six bytes (`shortId_length`). -/
namespace GV.Props.C10Ids
open GV GV.Ser

/-- field ranges of the Rust types: `u64` fee and lock height, `u16` relative height -/
def InRange : KernelFeatures → Prop
  | .plain fee => fee < 2^64
  | .coinbase => True
  | .heightLocked fee lock => fee < 2^64 ∧ lock < 2^64
  | .noRecentDuplicate fee rel => fee < 2^64 ∧ rel < 2^16

/-- **The signed bytes determine the kernel features**: variant, fee, lock height, relative height. -/
theorem sigMsgBytes_injective (f g : KernelFeatures) (hf : InRange f) (hg : InRange g)
    (h : f.sigMsgBytes = g.sigMsgBytes) : f = g := by
  -- different variants have different tag bytes; equal variants are compared field by field
  cases f <;> cases g <;>
    simp only [KernelFeatures.sigMsgBytes, writeU8, List.cons_append, List.nil_append,
      List.cons.injEq] at h <;>
    (try (exfalso; omega)) <;> (try (exact absurd h.1 (by decide)))
  · -- plain / plain
    rename_i a b
    have := @writeU64_inj a b [] [] hf hg (by simpa using h.2)
    rw [this.1]
  · rfl
  · rename_i a l b m
    obtain ⟨ha, hl⟩ := hf
    obtain ⟨hb, hm⟩ := hg
    obtain ⟨e1, e2⟩ := writeU64_inj ha hb h.2
    obtain ⟨e3, _⟩ := @writeU64_inj l m [] [] hl hm (by simpa using e2)
    rw [e1, e3]
  · rename_i a l b m
    obtain ⟨ha, hl⟩ := hf
    obtain ⟨hb, hm⟩ := hg
    obtain ⟨e1, e2⟩ := writeU64_inj ha hb h.2
    obtain ⟨e3, _⟩ := @writeU16_inj l m [] [] hl hm (by simpa using e2)
    rw [e1, e3]

/-- With a collision-free hash, no two different kernel feature values share a signature message:
a signature over one kernel cannot be moved to a kernel with another fee, lock height or variant. -/
theorem sigMsg_covers_every_field (H : Bytes → Bytes) (hH : ∀ x y, H x = H y → x = y)
    (f g : KernelFeatures) (hf : InRange f) (hg : InRange g)
    (h : H f.sigMsgBytes = H g.sigMsgBytes) : f = g :=
  sigMsgBytes_injective f g hf hg (hH _ _ h)

example : InRange (.heightLocked (2^64 - 1) 0) := by simp [InRange]
example : (KernelFeatures.heightLocked 7 5).sigMsgBytes ≠ (KernelFeatures.heightLocked 7 6).sigMsgBytes := by decide
example : (KernelFeatures.plain 7).sigMsgBytes ≠ (KernelFeatures.heightLocked 7 0).sigMsgBytes := by decide

/-! ## pre_pow -/

/-- a header's full-mode bytes are `pre_pow()` followed by the proof (edge bits, packed nonces) -/
theorem header_is_prePow_then_proof (proofSize : Nat) (h : BlockHeader) :
    encBlockHeader proofSize .full h = prePow h ++ encProof proofSize .full h.pow.proof := by
  simp [encBlockHeader, encProofOfWork, prePow, prePowNoNonce, encPowPrePow]

/-- `pre_pow()` is `from_pre_pow_and_proof`'s string followed by the nonce -/
theorem prePow_layout (h : BlockHeader) : prePow h = prePowNoNonce h ++ writeU64 h.pow.nonce := rfl

/-- the header with another proof -/
def withProof (h : BlockHeader) (p : Proof) : BlockHeader := { h with pow := { h.pow with proof := p } }

theorem prePow_withProof (h : BlockHeader) (p : Proof) : prePow (withProof h p) = prePow h := rfl

/-- **`pre_pow()` determines every header field outside the proof**: two headers (all field values of
the Rust types) with the same pre-pow bytes differ at most in their proof. -/
theorem prePow_determines_header (h g : BlockHeader) (hh : h.WFSkip) (hg : g.WFSkip)
    (e : prePow h = prePow g) (p : Proof) : withProof h p = withProof g p := by
  -- read both sides back: the pre-PoW fields with `decPrePow`, then the two difficulties and the nonce
  have hp := hh.prePow
  have gp := hg.prePow
  obtain ⟨h1, h2, h3, -⟩ := hh.pow
  obtain ⟨g1, g2, g3, -⟩ := hg.pow
  have rd : ∀ x : BlockHeader, x.PrePowWF → decPrePow noPow (prePow x)
      = .ok ({ x with pow := noPow }, writeU64 x.pow.totalDifficulty ++ (writeU32 x.pow.secondaryScaling ++ writeU64 x.pow.nonce)) :=
    fun x hx => by
      simp only [prePow, prePowNoNonce, encPowPrePow, List.append_assoc]
      exact (wire_prePow noPow).codec.rt { x with pow := noPow } rfl hx _
  have e1 := (rd h hp).symm.trans ((congrArg _ e).trans (rd g gp))
  obtain ⟨e0, et⟩ := Prod.mk.inj (Except.ok.inj e1)
  obtain ⟨etd, et⟩ := writeU64_inj h1 g1 et
  obtain ⟨ess, et⟩ := write_inj (readU32_write _ h2 _) (readU32_write _ g2 _) et
  obtain ⟨eno, -⟩ := writeU64_inj (r1 := []) (r2 := []) h3 g3 (by simpa using et)
  -- a header with proof `p` is its pre-PoW part (`pow` blanked) with the two difficulties, the nonce and `p` put back
  have key : ∀ x : BlockHeader, withProof x p = { ({ x with pow := noPow } : BlockHeader) with
      pow := ⟨x.pow.totalDifficulty, x.pow.secondaryScaling, x.pow.nonce, p⟩ } := fun _ => rfl
  rw [key h, key g, e0, etd, ess, eno]

/-- `from_pre_pow_and_proof(hex(pre-pow part), nonce, proof)`: the bytes it assembles decode to the
header they were taken from, for every well-formed header. -/
theorem from_prePow_and_proof_roundtrip (c : Cfg) (h : BlockHeader) (hwf : h.WF c.proofSize) (rest : Bytes) :
    decBlockHeader c (prePowNoNonce h ++ writeU64 h.pow.nonce ++ encProof c.proofSize .full h.pow.proof ++ rest)
      = .ok (h, rest) := by
  have := (codec_blockHeader c).rt h hwf rest
  rw [header_is_prePow_then_proof, prePow_layout] at this
  exact this

/-! ## short_id -/

theorem shortId_length (H : Bytes → Bytes) (item blk : Bytes) (nonce : Nat) :
    (shortId H item blk nonce).length = SHORT_ID_SIZE := by
  simp [shortId, leBytes_length, SHORT_ID_SIZE]

/-- SipHash-2-4 reference vector (key 00..0f, message 00..0e: a129ca6149be45e5) -/
example : sipHash24 0x0706050403020100 0x0f0e0d0c0b0a0908 (List.range 15) = 0xa129ca6149be45e5 := by decide

/-! ## the sorting algorithm does not matter

`Inputs::write` at version ≥ 3, `TransactionBody::init`, `CompactBlockBody::init` call
`sort_unstable()`; the model uses a stable insertion sort. The assumption "the two agree when no two
different items share a hash" is a theorem: -/

/-- Any algorithm that returns a permutation of `l` ordered by key returns exactly `sortByKey key l`
when the keys in `l` are pairwise different — stable or not, whatever its strategy. -/
theorem any_sort_is_the_model {α : Type} (key : α → Nat) (l s : List α)
    (hperm : s.Perm l) (hsorted : s.Pairwise (fun a b => key a ≤ key b))
    (hnd : (l.map key).Nodup) : s = sortByKey key l := by
  have hp2 := sortByKey_perm key l
  have hnds : (s.map key).Nodup := (hperm.map key).nodup_iff.mpr hnd
  exact strict_perm_eq key s _ (hperm.trans hp2.symm) (sorted_nodup_strict key s hsorted hnds)
    (sortByKey_strict key l hnd)

example : sortByKey (fun x : Nat => x % 10) [13, 21, 7] = [21, 13, 7] := by decide

end GV.Props.C10Ids
