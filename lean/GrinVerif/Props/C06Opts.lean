import GrinVerif.Model.ChainKnown
/-! The verdict on a block does not depend on the processing options, except that `SKIP_POW` skips
the proof-of-work stage (`Model/ChainKnown.lean` `processBlockSingleO`). On the real code the run
`hist` offers every per-stage invalid block to a node that has its parent under every union of
`SKIP_POW` with `SYNC` / `MINE` (compared line by line) and without `SKIP_POW` (must be refused). -/
namespace GV.Props.C06Opts
open GV GV.Chain

/-- **`SYNC` and `MINE` never change the verdict**: options that agree on `SKIP_POW` give the same
node, result and notification -/
theorem verdict_independent_of_sync_mine (p : Params) (deny : List Nat) (o o' : Opts) (n : Node) (b : Blk)
    (h : o.skipPow = o'.skipPow) :
    processBlockSingleO p deny o n b = processBlockSingleO p deny o' n b := by
  unfold processBlockSingleO Blk.withOpts
  rw [h]

theorem Blk.withOpts_of_no_pow {b : Blk} (hp : ∀ t ∈ b.tags, isPowTag t = false) (x : Opts) :
    b.withOpts x = b := by
  have hkeep : b.tags.filter (fun t => !isPowTag t) = b.tags :=
    List.filter_eq_self.mpr fun t ht => by simp [hp t ht]
  have hnone : b.tags.filter isPowTag = [] :=
    List.filter_eq_nil_iff.mpr fun t ht => by simp [hp t ht]
  unfold Blk.withOpts
  split
  · rw [hkeep]
  · rw [hkeep, hnone]; rfl

/-- **without a proof-of-work fault no option matters at all** -/
theorem verdict_independent_of_opts (p : Params) (deny : List Nat) (o o' : Opts) (n : Node) (b : Blk)
    (hp : ∀ t ∈ b.tags, isPowTag t = false) :
    processBlockSingleO p deny o n b = processBlockSingleO p deny o' n b := by
  unfold processBlockSingleO
  rw [Blk.withOpts_of_no_pow hp o, Blk.withOpts_of_no_pow hp o']

/-- ... and then it is the coded step of every other theorem -/
theorem processBlockSingleO_eq_K (p : Params) (deny : List Nat) (o : Opts) (n : Node) (b : Blk)
    (hp : ∀ t ∈ b.tags, isPowTag t = false) :
    processBlockSingleO p deny o n b = processBlockSingleK p deny n b := by
  unfold processBlockSingleO
  rw [Blk.withOpts_of_no_pow hp o]

/-- the seven option words and their three bits -/
example : (Opts.ofBits 5 = { skipPow := true, sync := false, mine := true }) ∧
    (Opts.ofBits 6 = { skipPow := false, sync := true, mine := true }) := by decide +kernel

end GV.Props.C06Opts
