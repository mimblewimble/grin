import GrinVerif.Lemmas.BitmapScratch
/-! # C15 — the committed unspent-output bitmap is independent of the path taken

Property theorems and the few facts about `apply_to_bitmap_accumulator`'s index mapping they need
(lemmas in `Lemmas/Bitmap*.lean`, model in `Model/Bitmap.lean`).
`U` is always the ascending list of unspent output leaf indices, `size` the number of output
leaves; `fromScratch hf U size = init hf new U size` is the commitment computed from scratch
(what `TxHashSet::open` rebuilds).  All theorems hold for every hash function `hf`. -/
namespace GV.Props.C15
open GV GV.Pmmr GV.Bitmap

variable {H : Type}

/-- **Structure lemma.** The accumulator built from scratch over `U` exists, holds exactly
`chunk(max U) + 1` chunks (`nChunks U`; none if `U` is empty — *not* `⌈size/1024⌉`), its chunk
vector is `specData U`, and its hash vector is that of an MMR with that many leaves. -/
theorem scratch_structure (hf : HashFn Nat H) (U : List Nat) (size : Nat)
    (hs : U.Pairwise (· < ·)) (hlt : ∀ x ∈ U, x < size) (hsz : size ≤ 2 ^ 64) :
    ∃ st, fromScratch hf U size = some st ∧ st.data = specData U ∧
      st.data.length = nChunks U ∧ st.hashes.length = mmr (nChunks U) := by
  obtain ⟨hsh, h1, h2⟩ := fromScratch_eq hf U size hs hlt hsz
  exact ⟨_, h1, rfl, specData_length U, h2⟩

/-- … and bit `i` of its chunk `c` is set exactly when output `1024 c + i` is unspent. -/
theorem scratch_chunk_bits (U : List Nat) (c i : Nat) (hc : c < nChunks U) (hi : i < 1024) :
    ((specData U)[c]'(by rw [specData_length]; exact hc)).testBit i = decide (c * 1024 + i ∈ U) := by
  simp only [specData, List.getElem_map, List.getElem_range]
  exact chunkOf_testBit U c i hi

/-- The from-scratch accumulator commits to exactly the unspent set: `as_bitmap` returns `U`. -/
theorem scratch_as_bitmap (hf : HashFn Nat H) (U : List Nat) (size : Nat)
    (hs : U.Pairwise (· < ·)) (hlt : ∀ x ∈ U, x < size) (hsz : size ≤ 2 ^ 64) :
    ∃ st, fromScratch hf U size = some st ∧ asBitmap st = some U := by
  obtain ⟨hsh, h1, h2⟩ := fromScratch_eq hf U size hs hlt hsz
  exact ⟨_, h1, asBitmap_specData U hs hsh h2⟩

/-- The accumulator rebuilt when the node restarts is the from-scratch accumulator of the leaf set. -/
theorem reopen_eq_scratch (hf : HashFn Nat H) (o : OutputPmmr) :
    rebuildOnOpen hf o = fromScratch hf o.leafSet (nLeaves o.size) := by
  have : leafIdxIter o 0 = o.leafSet := by
    unfold leafIdxIter; rw [List.filter_eq_self]; intro a _; simp
  rw [rebuildOnOpen, this, fromScratch]

/-- General form. If the accumulator is the from-scratch accumulator of the old unspent set
`U0`, the new set `U` differs from `U0` only at or after the start of the chunk containing the
first invalidated index, **and `U` still has an element at or after that chunk start**, then
`apply` (truncate, pad, rebuild from that chunk with the unspent indices from there on) gives
the from-scratch accumulator of `U`. -/
theorem apply_eq_scratch_of_witness (hf : HashFn Nat H)
    (U0 : List Nat) (size0 : Nat) (st0 : Acc H) (U : List Nat) (size fromIdx : Nat) (inval : List Nat)
    (hprev : fromScratch hf U0 size0 = some st0)
    (hs0 : U0.Pairwise (· < ·)) (hlt0 : ∀ x ∈ U0, x < size0) (hsz0 : size0 ≤ 2 ^ 64)
    (hs : U.Pairwise (· < ·)) (hlt : ∀ x ∈ U, x < size)
    (hagree : U.filter (fun x => decide (x < chunkStartIdx fromIdx)) =
      U0.filter (fun x => decide (x < chunkStartIdx fromIdx)))
    (hwit : ∃ x ∈ U, chunkStartIdx fromIdx ≤ x) :
    apply hf st0 (fromIdx :: inval) (U.filter (fun x => decide (chunkStartIdx fromIdx ≤ x))) size =
      fromScratch hf U size := by
  rw [fromScratch, init_ofData hf U0 size0 (hs0.imp Nat.le_of_lt) hlt0] at hprev
  rw [fromScratch, init_ofData hf U size (hs.imp Nat.le_of_lt) hlt,
    apply_ofData hf U0 U st0 fromIdx inval size hprev (hs0.imp Nat.le_of_lt)
      (nChunks_le_pow U0 size0 hlt0 hsz0) (hs.imp Nat.le_of_lt) hlt hagree]
  obtain ⟨x, hx, hge⟩ := hwit
  have h1 : fromIdx / 1024 ≤ x / 1024 := (Nat.le_div_iff_mul_le (by decide)).2 hge
  have h2 := div_lt_nChunks (hs.imp Nat.le_of_lt) hx
  rw [Nat.max_eq_right (by omega)]
  rfl

/-- Under the chain invariant *the last output leaf is unspent in the
new state* (and the first invalidated index lies inside the output set, as every index collected
by `apply_block` / `rewind` does), incremental application equals computation from scratch.
The hypothesis is consumed exactly where `apply_from` only appends its last chunk `if
chunk.any()` while `pad_left` appends empty chunks unconditionally. No hypothesis on the old
last leaf is needed beyond the old accumulator being the from-scratch one. -/
theorem apply_eq_scratch (hf : HashFn Nat H)
    (U0 : List Nat) (size0 : Nat) (st0 : Acc H) (U : List Nat) (size fromIdx : Nat) (inval : List Nat)
    (hprev : fromScratch hf U0 size0 = some st0)
    (hs0 : U0.Pairwise (· < ·)) (hlt0 : ∀ x ∈ U0, x < size0) (hsz0 : size0 ≤ 2 ^ 64)
    (hs : U.Pairwise (· < ·)) (hlt : ∀ x ∈ U, x < size)
    (hagree : U.filter (fun x => decide (x < chunkStartIdx fromIdx)) =
      U0.filter (fun x => decide (x < chunkStartIdx fromIdx)))
    (hfrom : fromIdx < size) (hlast : LastLeafUnspent U size) :
    apply hf st0 (fromIdx :: inval) (U.filter (fun x => decide (chunkStartIdx fromIdx ≤ x))) size =
      fromScratch hf U size := by
  refine apply_eq_scratch_of_witness hf U0 size0 st0 U size fromIdx inval hprev hs0 hlt0 hsz0 hs hlt hagree
    ⟨size - 1, hlast.2, ?_⟩
  have : fromIdx / 1024 * 1024 ≤ fromIdx := Nat.div_mul_le_self _ _
  unfold chunkStartIdx; omega

/-- **Exact boundary of the hypothesis.** If *no* unspent index is left at or after the start of
the first affected chunk, the incremental result equals the from-scratch accumulator **iff**
`U` reaches into the chunk just before (`chunk(max U) + 1 = chunk(from_idx)`; for an empty `U`:
iff `from_idx < 1024`). Otherwise the incremental accumulator keeps trailing empty chunks that a
from-scratch computation (and hence a restarted node) does not have. -/
theorem apply_eq_scratch_iff_of_no_witness (hf : HashFn Nat H)
    (U0 : List Nat) (size0 : Nat) (st0 : Acc H) (U : List Nat) (size fromIdx : Nat) (inval : List Nat)
    (hprev : fromScratch hf U0 size0 = some st0)
    (hs0 : U0.Pairwise (· < ·)) (hlt0 : ∀ x ∈ U0, x < size0) (hsz0 : size0 ≤ 2 ^ 64)
    (hs : U.Pairwise (· < ·)) (hlt : ∀ x ∈ U, x < size) (hfrom : fromIdx ≤ 2 ^ 64)
    (hagree : U.filter (fun x => decide (x < chunkStartIdx fromIdx)) =
      U0.filter (fun x => decide (x < chunkStartIdx fromIdx)))
    (hnone : ∀ x ∈ U, x < chunkStartIdx fromIdx) :
    apply hf st0 (fromIdx :: inval) (U.filter (fun x => decide (chunkStartIdx fromIdx ≤ x))) size =
      fromScratch hf U size ↔ nChunks U = fromIdx / 1024 := by
  have hle : nChunks U ≤ fromIdx / 1024 :=
    nChunks_le_of U _ fun x hx => (Nat.div_lt_iff_lt_mul (by decide)).2 (hnone x hx)
  rw [fromScratch, init_ofData hf U0 size0 (hs0.imp Nat.le_of_lt) hlt0] at hprev
  rw [fromScratch, init_ofData hf U size (hs.imp Nat.le_of_lt) hlt,
    apply_ofData hf U0 U st0 fromIdx inval size hprev (hs0.imp Nat.le_of_lt)
      (nChunks_le_pow U0 size0 hlt0 hsz0) (hs.imp Nat.le_of_lt) hlt hagree, Nat.max_eq_left hle]
  have hk : fromIdx / 1024 ≤ 2 ^ 64 := Nat.le_trans (Nat.div_le_self _ _) hfrom
  obtain ⟨hs1, e1, _⟩ := ofData_some hf ((List.range (fromIdx / 1024)).map (chunkOf U)) (by simpa using hk)
  constructor
  · intro h
    have hl := congrArg List.length (ofData_inj hf _ _ _ e1 (h.symm.trans e1))
    simpa [specData_length] using hl.symm
  · intro h
    rw [specData, h]

/-- the (1-based) position of output leaf `i` maps back to `i` … -/
theorem affected_pos_index (i : Nat) : satSub (nLeaves (insertionToPmmrIndex i + 1)) 1 = i := by
  unfold satSub insertionToPmmrIndex
  rw [Co.nLeaves_mmr_succ, Nat.add_sub_cancel]

/-- … and the `output_pmmr.size` entry pushed by `rewind_single_block` maps to the last leaf. -/
theorem affected_size_index (n : Nat) : satSub (nLeaves (insertionToPmmrIndex n)) 1 = n - 1 := by
  unfold satSub insertionToPmmrIndex
  rw [Co.nLeaves_mmr]

theorem minIdx_is_min (outputPos : List Nat) (hne : outputPos ≠ []) :
    (∃ p ∈ outputPos, (affectedIdx outputPos).headD 0 = satSub (nLeaves p) 1) ∧
    ∀ p ∈ outputPos, (affectedIdx outputPos).headD 0 ≤ satSub (nLeaves p) 1 := by
  unfold affectedIdx
  cases h : sortNat (outputPos.map fun x => satSub (nLeaves x) 1) with
  | nil =>
    have := (sortNat_eq_nil _).1 h
    simp at this; exact absurd this hne
  | cons a t =>
    obtain ⟨hm, hmin⟩ := sortNat_head _ a t h
    simp only [List.headD_cons]
    constructor
    · obtain ⟨p, hp, e⟩ := List.mem_map.1 hm
      exact ⟨p, hp, e.symm⟩
    · intro p hp
      exact hmin _ (List.mem_map.2 ⟨p, hp, rfl⟩)

theorem extApply_eq_apply (hf : HashFn Nat H) (st : Acc H) (o : OutputPmmr) (outputPos : List Nat)
    (hne : outputPos ≠ []) :
    ∃ t, extApply hf st o outputPos = apply hf st ((affectedIdx outputPos).headD 0 :: t)
      (o.leafSet.filter fun x => decide (chunkStartIdx ((affectedIdx outputPos).headD 0) ≤ x)) (nLeaves o.size) := by
  unfold extApply
  cases h : affectedIdx outputPos with
  | nil => exact absurd (List.map_eq_nil_iff.1 ((sortNat_eq_nil _).1 h)) hne
  | cons a t => exact ⟨t, rfl⟩

/-- **Extension level.** `apply_to_bitmap_accumulator(output_pos)` on an accumulator that is
the from-scratch one of the old state yields the from-scratch accumulator of the new state
(`o.leafSet`, `n_leaves(o.size)` leaves), provided some position is affected, every affected
position lies inside the output MMR, the states agree before the first affected chunk and the
last output leaf is unspent. -/
theorem extApply_eq_scratch (hf : HashFn Nat H)
    (U0 : List Nat) (size0 : Nat) (st0 : Acc H) (o : OutputPmmr) (outputPos : List Nat)
    (hprev : fromScratch hf U0 size0 = some st0)
    (hs0 : U0.Pairwise (· < ·)) (hlt0 : ∀ x ∈ U0, x < size0) (hsz0 : size0 ≤ 2 ^ 64)
    (hs : o.leafSet.Pairwise (· < ·)) (hlt : ∀ x ∈ o.leafSet, x < nLeaves o.size)
    (hne : outputPos ≠ [])
    (hin : ∀ p ∈ outputPos, satSub (nLeaves p) 1 < nLeaves o.size)
    (hagree : o.leafSet.filter (fun x => decide (x < chunkStartIdx ((affectedIdx outputPos).headD 0))) =
      U0.filter (fun x => decide (x < chunkStartIdx ((affectedIdx outputPos).headD 0))))
    (hlast : LastLeafUnspent o.leafSet (nLeaves o.size)) :
    extApply hf st0 o outputPos = fromScratch hf o.leafSet (nLeaves o.size) := by
  obtain ⟨⟨p, hp, hmin⟩, _⟩ := minIdx_is_min outputPos hne
  obtain ⟨t, e⟩ := extApply_eq_apply hf st0 o outputPos hne
  rw [e]
  exact apply_eq_scratch hf U0 size0 st0 o.leafSet (nLeaves o.size) _ t hprev hs0 hlt0 hsz0 hs hlt
    hagree (by rw [hmin]; exact hin p hp) hlast

/-- **Path independence.** Start from the from-scratch accumulator of any state and apply any
sequence of incremental updates (block applications, rewinds, reorganisations — each one an
`apply` from the chunk of its smallest affected index), each of which leaves the last output
leaf unspent (`HistoryOk`): the accumulator reached is the from-scratch accumulator of the final
unspent set, whatever the path. -/
theorem history_eq_scratch (hf : HashFn Nat H) : ∀ (steps : List Step) (U0 : List Nat) (size0 : Nat) (st0 : Acc H),
    fromScratch hf U0 size0 = some st0 →
    U0.Pairwise (· < ·) → (∀ x ∈ U0, x < size0) → size0 ≤ 2 ^ 64 →
    HistoryOk U0 steps →
    run hf st0 steps = fromScratch hf (finalU U0 steps) (finalSize size0 steps) := by
  intro steps
  induction steps with
  | nil => intro U0 size0 st0 h _ _ _ _; simpa [run, finalU, finalSize] using h.symm
  | cons s ss ih =>
    intro U0 size0 st0 hprev hs0 hlt0 hsz0 hok
    obtain ⟨⟨hne, hfrom, hsz, hs, hlt, hlast, hagree⟩, hrest⟩ := hok
    cases hi : s.inval with
    | nil => exact absurd hi hne
    | cons a t =>
      rw [hi] at hfrom hagree
      simp only [List.headD_cons] at hfrom hagree
      have hstep := apply_eq_scratch hf U0 size0 st0 s.U s.size a t hprev hs0 hlt0 hsz0 hs hlt hagree hfrom hlast
      obtain ⟨st1, h1, _⟩ := scratch_structure hf s.U s.size hs hlt hsz
      have hidx : s.idx = s.U.filter (fun x => decide (chunkStartIdx a ≤ x)) := by
        simp [Step.idx, hi]
      simp only [run, finalU, finalSize, hidx, hi, hstep, h1]
      exact ih s.U s.size st1 h1 hs hlt hsz hrest

/-- … hence after every such history the accumulator exists and `as_bitmap` returns exactly the
final unspent set. -/
theorem history_as_bitmap (hf : HashFn Nat H) (steps : List Step) (U0 : List Nat) (size0 : Nat) (st0 : Acc H)
    (hprev : fromScratch hf U0 size0 = some st0)
    (hs0 : U0.Pairwise (· < ·)) (hlt0 : ∀ x ∈ U0, x < size0) (hsz0 : size0 ≤ 2 ^ 64)
    (hok : HistoryOk U0 steps) :
    ∃ st, run hf st0 steps = some st ∧ asBitmap st = some (finalU U0 steps) := by
  obtain ⟨a, b, c⟩ := hok.final hs0 hlt0 hsz0
  rw [history_eq_scratch hf steps U0 size0 st0 hprev hs0 hlt0 hsz0 hok]
  exact scratch_as_bitmap hf _ _ a b c

/-- **Counter-example without the hypothesis.** Outputs `{5, 2100}` unspent among 2500; spend
2100 (the whole last chunk becomes spent, the last leaf 2499 was spent all along). The
incremental update truncates to the two chunks before chunk 2 (the second one empty) and
`apply_from` then appends nothing; computation from scratch over `{5}` gives one chunk: different accumulators, and
different roots `H(2 | H(0|c) | H(1|0…0))` vs `H(0|c)` for every hash function that does not
collide on this pair. The harness replays this history on the real `BitmapAccumulator`
(`bitmap cex …`): the real roots differ as well. -/
theorem without_hyp_counterexample (hf : HashFn Nat H) :
    ∃ st0 a b, fromScratch hf [5, 2100] 2500 = some st0 ∧
      apply hf st0 [2100] ([5].filter (fun x => decide (chunkStartIdx 2100 ≤ x))) 2500 = some a ∧
      fromScratch hf [5] 2500 = some b ∧
      ¬ LastLeafUnspent [5] 2500 ∧
      a.data = [32, 0] ∧ b.data = [32] ∧ a ≠ b ∧
      root hf a = .ok (hf.node 2 (hf.leaf 0 32) (hf.leaf 1 0)) ∧
      root hf b = .ok (hf.leaf 0 32) := by
  have hs0 : [5, 2100].Pairwise (· ≤ ·) := by decide
  have hs1 : [5].Pairwise (· ≤ ·) := by decide
  have h0 := init_ofData hf [5, 2100] 2500 hs0 (by decide)
  have h1 := init_ofData hf [5] 2500 hs1 (by decide)
  have hd1 : specData [5] = [32] := by decide
  obtain ⟨hsh0, e0, _⟩ := ofData_some hf (specData [5, 2100]) (by decide)
  have ea : ofData hf [32, 0] =
      some { data := [32, 0], hashes := [hf.leaf 0 32, hf.leaf 1 0, hf.node 2 (hf.leaf 0 32) (hf.leaf 1 0)] } := by
    rw [ofData, Co.pushAll_hashes hf [32, 0] (by decide)]; rfl
  have eb : ofData hf [32] = some { data := [32], hashes := [hf.leaf 0 32] } := by
    rw [ofData, Co.pushAll_hashes hf [32] (by decide)]; rfl
  -- the incremental update keeps the two chunks before chunk 2
  have ha := apply_ofData hf [5, 2100] [5] _ 2100 [] 2500 e0 hs0 (by decide) hs1 (by decide) (by decide)
  have hk : (List.range (max (2100 / 1024) (nChunks [5]))).map (chunkOf [5]) = [32, 0] := by decide
  rw [hk, ea] at ha
  refine ⟨_, _, _, by rw [fromScratch, h0, e0], ha, by rw [fromScratch, h1, hd1, eb], by decide, rfl, rfl, ?_, ?_, ?_⟩
  · intro h; injection h with h _; simp at h
  · exact Co.root_hashes hf [32, 0]
  · exact Co.root_hashes hf [32]

/-- From header version 3 on the output root commits to the bitmap root: with a collision-free
`(idx, (l, r))` hash, a header whose output root was computed over another bitmap root (same
output PMMR root and size) fails `TxHashSetRoots::validate`. -/
theorem merged_root_binds [DecidableEq H] (hf : HashFn Nat H)
    (hinj : ∀ i l r l' r', hf.node i l r = hf.node i l' r' → l = l' ∧ r = r')
    (r : TxHashSetRoots H) (h : HeaderRoots H) (b' : H)
    (hv : 3 ≤ h.version)
    (hcommit : h.outputRoot = mergedRoot hf r.pmmrRoot b' h.outputMmrSize)
    (hne : b' ≠ r.bitmapRoot) :
    validateRoots hf r h = false := by
  have hv' : ¬ h.version < 3 := by omega
  have : h.outputRoot ≠ outputRoot hf h.version r.pmmrRoot r.bitmapRoot h.outputMmrSize := by
    rw [hcommit, outputRoot, if_neg hv']
    intro e
    exact hne (hinj _ _ _ _ _ e).2
  simp [validateRoots, this]

/-- … and an honest header (any version) passes. -/
theorem honest_header_validates [DecidableEq H] (hf : HashFn Nat H) (r : TxHashSetRoots H) (h : HeaderRoots H)
    (ho : h.outputRoot = outputRoot hf h.version r.pmmrRoot r.bitmapRoot h.outputMmrSize)
    (hr : h.rangeProofRoot = r.rproofRoot) (hk : h.kernelRoot = r.kernelRoot) :
    validateRoots hf r h = true := by
  simp [validateRoots, ho, hr, hk]

/-- What the code does for header versions 1–2: the bitmap root is not part of the comparison. -/
theorem bitmap_not_committed_before_v3 [DecidableEq H] (hf : HashFn Nat H) (r : TxHashSetRoots H)
    (h : HeaderRoots H) (b' : H) (hv : h.version < 3) :
    validateRoots hf { r with bitmapRoot := b' } h = validateRoots hf r h := by
  simp [validateRoots, outputRoot, hv]

-- hypotheses of `apply_eq_scratch` are satisfiable by a non-trivial update: outputs {5, 2100,
-- 2499} of 2500, spend 2100 in the last chunk (first affected index 2100, chunk start 2048)
example : [5, 2100, 2499].Pairwise (· < ·) ∧ (∀ x ∈ [5, 2100, 2499], x < 2500) ∧
    [5, 2499].Pairwise (· < ·) ∧ (∀ x ∈ [5, 2499], x < 2500) ∧
    [5, 2499].filter (fun x => decide (x < chunkStartIdx 2100)) =
      [5, 2100, 2499].filter (fun x => decide (x < chunkStartIdx 2100)) ∧
    2100 < 2500 ∧ LastLeafUnspent [5, 2499] 2500 ∧ chunkStartIdx 2100 = 2048 := by decide

-- a two-step history satisfying `HistoryOk`: spend 2100, then a rewind that shrinks the output
-- set across the chunk boundary at 2048 (new last leaf 2047 restored)
example : HistoryOk [5, 2047, 2100, 2499]
    [{ inval := [2100], U := [5, 2047, 2499], size := 2500 },
     { inval := [2047], U := [5, 2047], size := 2048 }] := by
  simp only [HistoryOk, StepOk]; decide

-- the structure lemma on a concrete set: 3 chunks although only two are non-empty
example : nChunks [5, 2100] = 3 ∧ specData [5, 2100] = [2 ^ 5, 0, 2 ^ (2100 - 2048)] := by decide

-- `merged_root_binds` applies to a free term algebra hash (injective constructors)
inductive T | leaf (i e : Nat) | node (i : Nat) (l r : T)
deriving DecidableEq
example : ∀ i l r l' r', (⟨T.leaf, T.node⟩ : HashFn Nat T).node i l r = (⟨T.leaf, T.node⟩ : HashFn Nat T).node i l' r' →
    l = l' ∧ r = r' := by
  intro i l r l' r' h; injection h with _ h1 h2; exact ⟨h1, h2⟩

end GV.Props.C15
