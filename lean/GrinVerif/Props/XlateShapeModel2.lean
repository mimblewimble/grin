import GrinVerif.Model.TxBlock
import GrinVerif.Model.ChainTxVal
import GrinVerif.Model.Chain
import GrinVerif.Model.Pool
import GrinVerif.Props.XlateShapeCore
import GrinVerif.Props.XlateShapePool
import GrinVerif.Gen.PipeShapeChain
/-! # shape = model for the body / transaction / block validation pipelines

The pattern of `Props/XlateShapeModel.lean` (`pipe::validate_header`) for
`TransactionBody::{validate_read, validate}`, `Transaction::{validate_read, validate}`,
`Block::{validate_read, validate}`, `pipe::validate_block` and `TransactionPool::add_to_pool`:

1. each hand model function is shown, FOR ALL INPUTS, to be the "first failing stage" interpreter `run` over an
   explicit LIST of named stages (`…_stages` theorems);
2. the code step names the stages stand for (`Stage.code`), in order, are shown, by evaluation, to be the error spine
   that tools/gen_pipeshape.py reads from the CURRENT Rust source (`…_shape_is_model` theorems).  Where the hand
   model writes a callee in line (`verify_sorted`, `verify_features`, `body.validate`, `validate_read`), the
   callee's own regenerated spine is put in its place (`inline`), after checking that the callee has no early `Ok`.

A stage's `code` is the list of code steps it stands for: one name normally, `[]` for a model-only stage or for a
second model test inside the same code step, several names when ONE model test (a tag) stands for a CONTIGUOUS run
of code steps.  Code steps a model does not represent at all are removed by an explicit, commented filter. -/
namespace GV.Props.XlateShapeModel2
open GV GV.Gen.PipeShape GV.Props.XlateShape

/-- a stage over inputs `ι` with errors `ε`: a descriptive name, the code steps it stands for, when it fails -/
structure Stage (ι ε : Type) where
  name : String
  code : List String
  fails : ι → Option ε

/-- first failing stage -/
def run {ι ε : Type} (x : ι) : List (Stage ι ε) → Option ε
  | [] => none
  | s :: rest => match s.fails x with
    | some e => some e
    | none => run x rest

/-- the code steps a stage list stands for, in order -/
def codeNames {ι ε : Type} (l : List (Stage ι ε)) : List String := l.flatMap (·.code)

/-- the same stage on another input type -/
def Stage.comap {ι κ ε : Type} (f : κ → ι) (s : Stage ι ε) : Stage κ ε := ⟨s.name, s.code, fun x => s.fails (f x)⟩

/-- the same stage with the error renamed -/
def Stage.mapErr {ι ε δ : Type} (g : ε → δ) (s : Stage ι ε) : Stage ι δ := ⟨s.name, s.code, fun x => (s.fails x).map g⟩

theorem run_append {ι ε : Type} (x : ι) (a b : List (Stage ι ε)) :
    run x (a ++ b) = match run x a with | some e => some e | none => run x b := by
  induction a with
  | nil => rfl
  | cons s t ih =>
    simp only [List.cons_append, run]
    cases s.fails x with
    | some e => rfl
    | none => exact ih

theorem run_comap {ι κ ε : Type} (f : κ → ι) (x : κ) (l : List (Stage ι ε)) :
    run x (l.map (Stage.comap f)) = run (f x) l := by
  induction l with
  | nil => rfl
  | cons s t ih =>
    simp only [List.map_cons, run, Stage.comap]
    cases s.fails (f x) with
    | some e => rfl
    | none => exact ih

/-- `if c then some e else none` as the head stage -/
theorem run_ite {ι ε : Type} (x : ι) (n : String) (cd : List String) (c : ι → Prop) [DecidablePred c] (e : ι → ε)
    (rest : List (Stage ι ε)) :
    run x (⟨n, cd, fun y => if c y then some (e y) else none⟩ :: rest) = if c x then some (e x) else run x rest := by
  simp only [run]
  by_cases h : c x
  · simp [h]
  · simp [h]

/-- a caller's spine with the spine `sub` of the callee `n` written in place of the call -/
def inline (n : String) (sub : List String) (l : List String) : List String :=
  l.flatMap fun x => if x == n then sub else [x]

/-- the expressions of the spine steps (for operands that mention no local: `self.inputs…`, `Weighting::AsBlock`) -/
def whats (f : FnShape) : List String :=
  (f.steps.filter fun s => s.kind == .check || s.kind == .fail || s.kind == .tail).map (·.what)

/-! ## 1. `TransactionBody::validate_read` = `Tx.bodyValidateRead` (Model/TxBlock.lean) -/

structure BodyIn where
  K : Tx.Keys
  M : Tx.KMeta
  ct : Cons.ChainType
  nrdEnabled : Bool
  w : Tx.Weighting
  inputs : List Nat
  outputs : List Nat
  kernels : List Nat

/-- the stages of `validate_read(weighting)`; `verify_sorted` is written in line by the model (three
`verify_sorted_and_unique`: inputs, outputs, kernels) -/
def bodyReadStages : List (Stage BodyIn Tx.BErr) := [
  ⟨"verify_weight", ["verify_weight"],
    fun x => Tx.verifyWeight x.ct x.w x.inputs.length x.outputs.length x.kernels.length⟩,
  ⟨"verify_no_nrd_duplicates", ["verify_no_nrd_duplicates"],
    fun x => Tx.verifyNoNrdDuplicates x.M x.nrdEnabled x.kernels⟩,
  ⟨"verify_sorted: inputs", ["verify_sorted_and_unique"], fun x => (Tx.sortedUnique x.K.ik x.inputs).map .ofV⟩,
  ⟨"verify_sorted: outputs", ["verify_sorted_and_unique"], fun x => (Tx.sortedUnique x.K.ok x.outputs).map .ofV⟩,
  ⟨"verify_sorted: kernels", ["verify_sorted_and_unique"], fun x => (Tx.sortedUnique x.K.kk x.kernels).map .ofV⟩,
  ⟨"verify_cut_through", ["verify_cut_through"],
    fun x => (Tx.verifyCutThrough ⟨0, false, x.inputs, x.outputs, x.kernels⟩).map .ofV⟩ ]

theorem bodyValidateRead_stages (x : BodyIn) :
    Tx.bodyValidateRead x.K x.M x.ct x.nrdEnabled x.w x.inputs x.outputs x.kernels = run x bodyReadStages := by
  unfold Tx.bodyValidateRead
  simp only [bodyReadStages, run]
  cases Tx.verifyWeight x.ct x.w x.inputs.length x.outputs.length x.kernels.length with
  | some e => rfl
  | none =>
  cases Tx.verifyNoNrdDuplicates x.M x.nrdEnabled x.kernels with
  | some e => rfl
  | none =>
  cases Tx.sortedUnique x.K.ik x.inputs with
  | some e => rfl
  | none =>
  cases Tx.sortedUnique x.K.ok x.outputs with
  | some e => rfl
  | none =>
  cases Tx.sortedUnique x.K.kk x.kernels with
  | some e => rfl
  | none =>
  cases Tx.verifyCutThrough ⟨0, false, x.inputs, x.outputs, x.kernels⟩ with
  | some e => rfl
  | none => rfl

/-- the code's spine of `validate_read`, `verify_sorted` opened -/
def bodyReadSpine : List String := inline "verify_sorted" (spine body_verify_sorted) (spine body_validate_read)

theorem bodyReadSpine_eq : bodyReadSpine = codeNames bodyReadStages := by
  names_eval [bodyReadSpine, inline, XlateShapeCore.body_validate_read_order,
    XlateShapeCore.body_verify_sorted_order]
  rfl

/-- **shape = model**: weight, NRD duplicates, sorted (×3), cut-through, in the code's current order; neither
function returns `Ok` early or discards a result -/
theorem body_validate_read_shape_is_model :
    readOk body_validate_read = true ∧ readOk body_verify_sorted = true ∧
    bodyReadSpine = codeNames bodyReadStages ∧
    earlyOks body_validate_read = [] ∧ calls body_validate_read = [] ∧
    earlyOks body_verify_sorted = [] ∧ calls body_verify_sorted = [] :=
  ⟨rfl, rfl, bodyReadSpine_eq, rfl, rfl, rfl, rfl⟩

/-- `verify_sorted` looks at inputs, outputs, kernels in the model's order (`K.ik`, `K.ok`, `K.kk`) -/
theorem body_verify_sorted_operands :
    whats body_verify_sorted =
      ["self.inputs.verify_sorted_and_unique()", "self.outputs.verify_sorted_and_unique()",
       "self.kernels.verify_sorted_and_unique()"] := rfl

/-- the inside of the one-stage callees as the model has them: `verify_weight` answers `Ok` at once exactly for
`NoLimit` (`maxWeightOf … = none`) and otherwise fails exactly under `weight > max`; `verify_no_nrd_duplicates`
answers `Ok` at once exactly when the flag is off and otherwise compares the two lengths; `verify_cut_through`
fails on two equal neighbours -/
theorem body_read_callees_shape :
    earlyOks body_verify_weight = [["$0 ~ Weighting::NoLimit"]] ∧
    fails body_verify_weight = [("TooHeavy", "(self.weight() > $3)")] ∧
    earlyOks body_verify_no_nrd_duplicates = [["!(global::is_nrd_enabled())"]] ∧
    fails body_verify_no_nrd_duplicates = [("InvalidNRDRelativeHeight", "!(($3 == $4))")] ∧
    calls body_verify_no_nrd_duplicates = ["sort", "dedup"] ∧
    fails body_verify_cut_through = [("CutThrough", "($1[0] == $1[1])")] :=
  ⟨rfl, rfl, rfl, rfl, rfl, rfl⟩

example : run (⟨⟨id, id, id⟩, ⟨fun _ => 0, fun _ => 0, fun _ => 0, id, fun _ => 0⟩, .mainnet, false, .asTransaction,
    [3, 2], [], []⟩ : BodyIn) bodyReadStages = some .sort := by rfl

/-! ## 2. `Transaction::validate_read` = `Tx.validateReadFull` / `Tx.validateReadW` -/

structure TxIn where
  K : Tx.Keys
  M : Tx.KMeta
  ct : Cons.ChainType
  nrdEnabled : Bool
  t : Tx.Tx

def TxIn.body (w : Tx.Weighting) (x : TxIn) : BodyIn :=
  ⟨x.K, x.M, x.ct, x.nrdEnabled, w, x.t.inputs, x.t.outputs, x.t.kernels⟩

/-- `verify_features`, written in line by the models: `verify_output_features`, `verify_kernel_features` -/
def featureStages : List (Stage TxIn Tx.BErr) := [
  ⟨"verify_output_features", ["verify_output_features"],
    fun x => if x.t.outputs.any Tx.isCoinbase then some .outputFeatures else none⟩,
  ⟨"verify_kernel_features", ["verify_kernel_features"],
    fun x => if x.t.kernels.any Tx.isCoinbase then some .kernelFeatures else none⟩ ]

def txReadStages (w : Tx.Weighting) : List (Stage TxIn Tx.BErr) :=
  bodyReadStages.map (Stage.comap (TxIn.body w)) ++ featureStages

theorem featureStages_run (x : TxIn) :
    run x featureStages =
      if x.t.outputs.any Tx.isCoinbase then some .outputFeatures
      else if x.t.kernels.any Tx.isCoinbase then some .kernelFeatures else none := by
  unfold featureStages
  simp only [↓run_ite, run]

/-- **the model is the stage list** (any weighting) -/
theorem validateReadW_stages (x : TxIn) (w : Tx.Weighting) :
    Tx.validateReadW x.K x.M x.ct x.nrdEnabled w x.t = run x (txReadStages w) := by
  unfold Tx.validateReadW txReadStages
  rw [run_append, run_comap, ← bodyValidateRead_stages (TxIn.body w x), featureStages_run]
  simp only [TxIn.body]
  cases Tx.bodyValidateRead x.K x.M x.ct x.nrdEnabled w x.t.inputs x.t.outputs x.t.kernels <;> rfl

/-- `Transaction::validate_read()` itself: the weighting is `AsTransaction` -/
theorem validateReadFull_stages (x : TxIn) :
    Tx.validateReadFull x.K x.M x.ct x.nrdEnabled x.t = run x (txReadStages .asTransaction) :=
  validateReadW_stages x .asTransaction

theorem txReadStages_code (w : Tx.Weighting) :
    codeNames (txReadStages w) =
      ["verify_weight", "verify_no_nrd_duplicates", "verify_sorted_and_unique", "verify_sorted_and_unique",
       "verify_sorted_and_unique", "verify_cut_through", "verify_output_features", "verify_kernel_features"] := rfl

/-- the code's spine of `Transaction::validate_read`, the callees the model writes in line opened -/
def txReadSpine : List String :=
  inline "verify_features" (spine body_verify_features) (inline "validate_read" bodyReadSpine (spine tx_validate_read))

/-- **shape = model**: the body gates under `Weighting::AsTransaction`, then the two feature checks -/
theorem tx_validate_read_shape_is_model :
    readOk tx_validate_read = true ∧ readOk body_verify_features = true ∧
    txReadSpine = codeNames (txReadStages .asTransaction) ∧
    whats tx_validate_read = ["self.body.validate_read(Weighting::AsTransaction)", "self.body.verify_features()"] ∧
    earlyOks tx_validate_read = [] ∧ calls tx_validate_read = [] ∧
    earlyOks body_verify_features = [] ∧ calls body_verify_features = [] ∧
    fails body_verify_output_features = [("InvalidOutputFeatures", "self.outputs.iter().any(|..|{..})")] ∧
    fails body_verify_kernel_features = [("InvalidKernelFeatures", "self.kernels.iter().any(|..|{..})")] := by
  refine ⟨rfl, rfl, ?_, rfl, rfl, rfl, rfl, rfl, rfl, rfl⟩
  names_eval [txReadSpine, inline, bodyReadSpine_eq, codeNames, bodyReadStages,
    XlateShapeCore.tx_validate_read_order, XlateShapeCore.body_verify_features_order]
  rfl

example : run (⟨⟨id, id, id⟩, ⟨fun _ => 0, fun _ => 0, fun _ => 0, id, fun _ => 0⟩, .mainnet, false, ⟨0, false, [], [3], [4]⟩⟩ : TxIn)
    ((txReadStages .asTransaction).drop 6) = some .outputFeatures := by rfl

/-! ## 3. `Transaction::validate(weighting)`

Three hand models: `Tx.txValidateGates` (Model/TxBlock.lean, C12), `Chain.TxVal.validate` (Model/ChainTxVal.lean,
C01) and `Pool.Tx.validate` (Model/Pool.lean, C13 / C14). -/

/-- the code's spine of `Transaction::validate`: `verify_features`, `body.validate` and, inside it,
`validate_read` opened -/
def txValidateSpine : List String :=
  inline "validate_read" bodyReadSpine
    (inline "validate" (spine body_validate)
      (inline "verify_features" (spine body_verify_features) (spine tx_validate)))

/-- what the current source has, every callee the models write in line opened; the range proofs are verified exactly
when there are outputs -/
theorem tx_validate_spine :
    txValidateSpine =
      ["verify_output_features", "verify_kernel_features", "verify_weight", "verify_no_nrd_duplicates",
       "verify_sorted_and_unique", "verify_sorted_and_unique", "verify_sorted_and_unique", "verify_cut_through",
       "batch_verify_proofs", "batch_sig_verify", "verify_kernel_sums"] ∧
    under "!(self.outputs.is_empty())" body_validate = ["batch_verify_proofs"] ∧
    whats tx_validate = ["self.body.verify_features()", "self.body.validate($0)",
                         "self.verify_kernel_sums(self.overage(), self.offset.clone())"] :=
  ⟨by names_eval [txValidateSpine, inline, bodyReadSpine_eq, codeNames, bodyReadStages,
      XlateShapeCore.tx_validate_order, XlateShapeCore.body_validate_order,
      XlateShapeCore.body_verify_features_order],
    by names_eval [under, body_validate], rfl⟩

/-! ### `Tx.txValidateGates` -/

/-- the gates in the code's order; everything after them (range proofs, kernel signatures, kernel sums) is ONE
handed-in outcome `later` in this model: the last stage stands for the last three code steps -/
def txValidateStages (w : Tx.Weighting) (later : Option Tx.BErr) : List (Stage TxIn Tx.BErr) :=
  featureStages ++ bodyReadStages.map (Stage.comap (TxIn.body w)) ++
    [⟨"later (cryptography, handed in)", ["batch_verify_proofs", "batch_sig_verify", "verify_kernel_sums"],
      fun _ => later⟩]

theorem txValidateGates_stages (x : TxIn) (w : Tx.Weighting) (later : Option Tx.BErr) :
    Tx.txValidateGates x.K x.M x.ct x.nrdEnabled w x.t later = run x (txValidateStages w later) := by
  unfold Tx.txValidateGates txValidateStages
  rw [List.append_assoc, run_append, featureStages_run, run_append, run_comap,
    ← bodyValidateRead_stages (TxIn.body w x)]
  simp only [TxIn.body, run]
  by_cases h1 : x.t.outputs.any Tx.isCoinbase = true
  · simp [h1]
  · simp only [h1, Bool.false_eq_true, if_false]
    by_cases h2 : x.t.kernels.any Tx.isCoinbase = true
    · simp [h2]
    · simp only [h2, Bool.false_eq_true, if_false]
      cases Tx.bodyValidateRead x.K x.M x.ct x.nrdEnabled w x.t.inputs x.t.outputs x.t.kernels with
      | some e => rfl
      | none => cases later <;> rfl

/-- **shape = model** (`verify_features` FIRST here, last in `validate_read`) -/
theorem tx_validate_shape_is_txValidateGates (w : Tx.Weighting) (later : Option Tx.BErr) :
    txValidateSpine = codeNames (txValidateStages w later) :=
  tx_validate_spine.1.trans rfl

example : run (⟨⟨id, id, id⟩, ⟨fun _ => 0, fun _ => 0, fun _ => 0, id, fun _ => 0⟩, .mainnet, false, ⟨0, false, [], [3], [4]⟩⟩ : TxIn)
    ((txValidateStages .asTransaction none).take 2) = some .outputFeatures := by rfl

/-! ### `Chain.TxVal.validate` -/

structure ValIn where
  P : Chain.TxVal.WParams
  w : Chain.TxVal.Weighting
  t : Chain.TxVal.TxV

/-- sorting, NRD duplicates and cut-through are ONE tag in this model (`readFault`), evaluated where the code has
the contiguous run `verify_no_nrd_duplicates`, `verify_sorted` (×3), `verify_cut_through` -/
def txValStages : List (Stage ValIn String) := [
  ⟨"verify_output_features", ["verify_output_features"],
    fun x => if x.t.outs.any (·.coinbase) then some "InvalidOutputFeatures" else none⟩,
  ⟨"verify_kernel_features", ["verify_kernel_features"],
    fun x => if x.t.kers.any (·.word.isNone) then some "InvalidKernelFeatures" else none⟩,
  ⟨"verify_weight", ["verify_weight"], fun x => Chain.TxVal.verifyWeight x.P x.w x.t⟩,
  ⟨"readFault (tag)", ["verify_no_nrd_duplicates", "verify_sorted_and_unique", "verify_sorted_and_unique",
      "verify_sorted_and_unique", "verify_cut_through"], fun x => x.t.readFault⟩,
  ⟨"batch_verify_proofs", ["batch_verify_proofs"],
    fun x => if x.t.outs.any (·.proofBad) then some "Secp:InvalidRangeProof" else none⟩,
  ⟨"batch_sig_verify", ["batch_sig_verify"],
    fun x => if x.t.kers.any (·.sigBad) then some "IncorrectSignature" else none⟩,
  ⟨"verify_kernel_sums", ["verify_kernel_sums"], fun x => Chain.TxVal.verifyKernelSums x.t⟩ ]

theorem txVal_validate_stages (x : ValIn) : Chain.TxVal.validate x.P x.w x.t = run x txValStages := by
  unfold Chain.TxVal.validate Chain.TxVal.verifyFeatures Chain.TxVal.validateRest txValStages
  simp only [↓run_ite, run]
  by_cases h1 : x.t.outs.any (·.coinbase) = true
  · simp only [h1, if_true]
  · by_cases h2 : x.t.kers.any (·.word.isNone) = true
    · simp only [h1, h2, if_true, Bool.false_eq_true, if_false]
    · simp only [h1, h2, Bool.false_eq_true, if_false]
      cases Chain.TxVal.verifyWeight x.P x.w x.t with
      | some e => rfl
      | none =>
        cases x.t.readFault with
        | some e => rfl
        | none => cases Chain.TxVal.verifyKernelSums x.t <;> rfl

theorem tx_validate_shape_is_txVal : txValidateSpine = codeNames txValStages :=
  tx_validate_spine.1.trans rfl

example : run (⟨{}, .asTransaction, { ins := [], outs := [⟨1, false, true⟩], kers := [⟨some 0, false⟩] }⟩ : ValIn)
    txValStages = some "Secp:InvalidRangeProof" := by rfl

/-! ### `Pool.Tx.validate` -/

structure PoolValIn where
  c : Pool.Ctx
  w : Pool.Weighting
  t : Pool.Tx

/-- `verify_sorted` is two model tests (uniqueness from the ids, order as the tag `unsorted`; both answer
`Serialization`, so their relative order is not observable), `verify_kernel_sums` is two model tests (both answer
`Committed`).  The model has NO stage for `verify_output_features`: a pool-model output is a bare id, never
coinbase-flagged. -/
def poolValStages : List (Stage PoolValIn String) := [
  ⟨"verify_kernel_features", ["verify_kernel_features"],
    fun x => if x.t.kers.any (fun k => k.ker == .cb) then some "InvalidTx:InvalidKernelFeatures" else none⟩,
  ⟨"verify_weight", ["verify_weight"],
    fun x => if Pool.overWeight x.c.cfg x.w x.t then some "InvalidTx:TooHeavy" else none⟩,
  ⟨"verify_no_nrd_duplicates", ["verify_no_nrd_duplicates"],
    fun x => if x.c.cfg.nrdEnabled && !Pool.strNodupB (Pool.nrdExcesses x.t) then some "InvalidTx:InvalidNRDRelativeHeight" else none⟩,
  ⟨"verify_sorted: unique (inputs, outputs, kernels)",
    ["verify_sorted_and_unique", "verify_sorted_and_unique", "verify_sorted_and_unique"],
    fun x => if !(Pool.nodupB x.t.ins && Pool.nodupB x.t.outs && Pool.nodupB (x.t.kers.map (·.kid))) then some "InvalidTx:Serialization" else none⟩,
  ⟨"verify_sorted: order (tag)", [],
    fun x => if x.t.tags.contains "unsorted" then some "InvalidTx:Serialization" else none⟩,
  ⟨"verify_cut_through", ["verify_cut_through"],
    fun x => if x.t.ins.any (fun i => x.t.outs.contains i) then some "InvalidTx:CutThrough" else none⟩,
  ⟨"batch_verify_proofs (tag)", ["batch_verify_proofs"],
    fun x => if x.t.tags.contains "rproof" then some "InvalidTx:Secp" else none⟩,
  ⟨"batch_sig_verify (tag)", ["batch_sig_verify"],
    fun x => if x.t.tags.contains "sig" then some "InvalidTx:IncorrectSignature" else none⟩,
  ⟨"verify_kernel_sums: nothing to sum", ["verify_kernel_sums"],
    fun x => if x.t.kers.isEmpty || (x.t.ins.isEmpty && x.t.outs.isEmpty && x.t.fee == 0) then some "InvalidTx:Committed" else none⟩,
  ⟨"verify_kernel_sums: balance (value, tag)", [],
    fun x => if x.t.tags.contains "sum" || !x.t.balanced x.c.outs then some "InvalidTx:Committed" else none⟩ ]

theorem pool_validate_stages (x : PoolValIn) : x.t.validate x.c x.w = run x poolValStages := by
  unfold Pool.Tx.validate
  simp only [poolValStages, run_ite]
  rfl

/-- the code's spine without the step the pool model has no counterpart for (`verify_output_features`: no
coinbase-flagged outputs exist in the pool model) -/
def poolValCodeSpine : List String := txValidateSpine.filter (· != "verify_output_features")

theorem tx_validate_shape_is_poolValidate : poolValCodeSpine = codeNames poolValStages := by
  names_eval [poolValCodeSpine, tx_validate_spine.1]
  rfl

example : run (⟨{ head := {} }, .asTransaction, { ins := [1], outs := [1], kers := [⟨0, .plain 1, 0⟩] }⟩ : PoolValIn)
    (poolValStages.drop 5) = some "InvalidTx:CutThrough" := by rfl

/-! ## 4. `Block::validate_read` = `Tx.blockValidateRead`, `Block::validate` = `Tx.blockValidate` (Model/TxBlock.lean) -/

structure BlockIn where
  K : Tx.Keys
  M : Tx.KMeta
  ct : Cons.ChainType
  nrdEnabled : Bool
  b : Tx.Block
  hdr : Tx.Hdr
  prevOffset : Nat
  claimedFees : Nat
  bodyOffset : Nat

def BlockIn.body (x : BlockIn) : BodyIn :=
  ⟨x.K, x.M, x.ct, x.nrdEnabled, .asBlock, x.b.inputs, x.b.outputs, x.b.kernels⟩

def lockStage : Stage BlockIn Tx.BErr :=
  ⟨"verify_kernel_lock_heights", ["verify_kernel_lock_heights"],
    fun x => Tx.verifyKernelLockHeights x.M x.hdr.height x.b.kernels⟩

def blockReadStages : List (Stage BlockIn Tx.BErr) := bodyReadStages.map (Stage.comap BlockIn.body) ++ [lockStage]

theorem blockValidateRead_stages (x : BlockIn) :
    Tx.blockValidateRead x.K x.M x.ct x.nrdEnabled x.b x.hdr = run x blockReadStages := by
  unfold Tx.blockValidateRead blockReadStages
  rw [run_append, run_comap, ← bodyValidateRead_stages x.body]
  simp only [BlockIn.body, run, lockStage]
  cases Tx.bodyValidateRead x.K x.M x.ct x.nrdEnabled .asBlock x.b.inputs x.b.outputs x.b.kernels with
  | some e => rfl
  | none => cases Tx.verifyKernelLockHeights x.M x.hdr.height x.b.kernels <;> rfl

def blockReadSpine : List String := inline "validate_read" bodyReadSpine (spine block_validate_read)

/-- **shape = model**: the body gates under `Weighting::AsBlock`, then the kernel lock heights -/
theorem block_validate_read_shape_is_model :
    readOk block_validate_read = true ∧ blockReadSpine = codeNames blockReadStages ∧
    whats block_validate_read = ["self.body.validate_read(Weighting::AsBlock)", "self.verify_kernel_lock_heights()"] ∧
    earlyOks block_validate_read = [] ∧ calls block_validate_read = [] := by
  refine ⟨rfl, ?_, rfl, rfl, rfl⟩
  names_eval [blockReadSpine, inline, bodyReadSpine_eq, codeNames, bodyReadStages,
    XlateShapeCore.block_validate_read_order]
  rfl

/-- the stages of `Block::validate` after the body: this model has NO stage for the range proofs and the kernel
signatures (`blockValidate` is stated for blocks with honest proofs and signatures); `verify_coinbase` is one
test on openings; the `?` on `block_kernel_offset` is evaluated before the call of `verify_kernel_sums` it is an
argument of -/
def blockTailStages : List (Stage BlockIn Tx.BErr) := [
  lockStage,
  ⟨"verify_nrd_kernels_for_header_version", ["verify_nrd_kernels_for_header_version"],
    fun x => Tx.verifyNrdForHeaderVersion x.M x.nrdEnabled x.hdr.version x.b.kernels⟩,
  ⟨"verify_coinbase", ["verify_coinbase"],
    fun x => if min U64MAX (Gen.REWARD + x.claimedFees) ≠ min U64MAX (Gen.REWARD + Tx.totalFees x.M x.b.kernels)
      then some .coinbaseSum else none⟩,
  ⟨"block_kernel_offset", ["block_kernel_offset"],
    fun x => match Tx.blockKernelOffset x.b.totalOffset x.prevOffset with
      | .error _ => some .secp
      | .ok _ => none⟩,
  ⟨"verify_kernel_sums", ["verify_kernel_sums"],
    fun x => match Tx.blockKernelOffset x.b.totalOffset x.prevOffset with
      | .error _ => none
      | .ok off => if off = x.bodyOffset then none else some .kernelSum⟩ ]

def blockValidateStages : List (Stage BlockIn Tx.BErr) :=
  bodyReadStages.map (Stage.comap BlockIn.body) ++ blockTailStages

theorem blockValidate_stages (x : BlockIn) :
    Tx.blockValidate x.K x.M x.ct x.nrdEnabled x.b x.hdr x.prevOffset x.claimedFees x.bodyOffset
      = run x blockValidateStages := by
  unfold Tx.blockValidate blockValidateStages blockTailStages
  rw [run_append, run_comap, ← bodyValidateRead_stages x.body]
  simp only [BlockIn.body, lockStage, ↓run_ite, run]
  cases Tx.bodyValidateRead x.K x.M x.ct x.nrdEnabled .asBlock x.b.inputs x.b.outputs x.b.kernels with
  | some e => rfl
  | none =>
  cases Tx.verifyKernelLockHeights x.M x.hdr.height x.b.kernels with
  | some e => rfl
  | none =>
  cases Tx.verifyNrdForHeaderVersion x.M x.nrdEnabled x.hdr.version x.b.kernels with
  | some e => rfl
  | none =>
  cases Tx.blockKernelOffset x.b.totalOffset x.prevOffset with
  | error e => rfl
  | ok off => by_cases h : off = x.bodyOffset <;> simp [h]

/-- the code's spine of `Block::validate`, `body.validate` and `validate_read` opened -/
def blockValidateSpine : List String :=
  inline "validate_read" bodyReadSpine (inline "validate" (spine body_validate) (spine block_validate))

/-- … without the two steps `Tx.blockValidate` does not represent (batch verification of range proofs and kernel
signatures: the model is about blocks whose proofs and signatures are honest) -/
def blockValidateCodeSpine : List String :=
  blockValidateSpine.filter fun n => !(["batch_verify_proofs", "batch_sig_verify"].contains n)

theorem block_validate_shape_is_model :
    readOk block_validate = true ∧ blockValidateCodeSpine = codeNames blockValidateStages ∧
    (whats block_validate).take 1 = ["self.body.validate(Weighting::AsBlock)"] ∧
    whats body_validate = ["self.validate_read($0)", "Output::batch_verify_proofs(&$1, &$2)",
                           "TxKernel::batch_sig_verify(&self.kernels)"] ∧
    earlyOks block_validate = [] ∧ calls block_validate = [] := by
  refine ⟨rfl, ?_, rfl, rfl, rfl, rfl⟩
  names_eval [blockValidateCodeSpine, blockValidateSpine, inline, bodyReadSpine_eq, codeNames, bodyReadStages,
    XlateShapeCore.block_validate_order, XlateShapeCore.body_validate_order]
  rfl

/-- the two omitted steps sit between the body gates and the lock heights -/
theorem block_validate_omitted_position :
    (blockValidateSpine.drop 5).take 4 =
      ["verify_cut_through", "batch_verify_proofs", "batch_sig_verify", "verify_kernel_lock_heights"] := by
  names_eval [blockValidateSpine, inline, bodyReadSpine_eq, codeNames, bodyReadStages,
    XlateShapeCore.block_validate_order, XlateShapeCore.body_validate_order]
  rfl

/-- the inside of the block-level callees as `Tx.verifyKernelLockHeights` / `Tx.verifyNrdForHeaderVersion` have
them: first height-locked kernel above the header's height; any NRD kernel: flag first, then header version -/
theorem block_callees_shape :
    fails block_verify_kernel_lock_heights = [("KernelLockHeight", "($1 > self.header.height)")] ∧
    fails block_verify_nrd_kernels_for_header_version =
      [("NRDKernelNotEnabled", "!(global::is_nrd_enabled())"),
       ("NRDKernelPreHF3", "(self.header.version < HeaderVersion(4))")] ∧
    under "self.kernels().iter().any(|..|{..})" block_verify_nrd_kernels_for_header_version =
      ["NRDKernelNotEnabled", "NRDKernelPreHF3"] ∧
    earlyOks block_verify_kernel_lock_heights = [] ∧ earlyOks block_verify_nrd_kernels_for_header_version = [] ∧
    (spine block_verify_coinbase).getLast? = some "CoinbaseSumMismatch" :=
  ⟨rfl, rfl, by names_eval [under, block_verify_nrd_kernels_for_header_version], rfl, rfl, rfl⟩

example : run (⟨⟨id, id, id⟩, ⟨fun _ => 3, fun _ => 0, fun _ => 0, id, fun _ => 0⟩, .mainnet, false,
    ⟨0, false, [], [], [2]⟩, ⟨1, 1, 1⟩, 0, 0, 0⟩ : BlockIn) blockTailStages = some .nrdNotEnabled := by rfl

/-! ## 5. `pipe::validate_block` → `Block::validate` = `Chain.validateBody` (Model/Chain.lean)

`Chain.validateBody` is what `pipeProcessBlockK`'s stage `validate_block` evaluates (`Props/C03Shape.lean` ties the
stages of `process_block`; this section opens that one stage). -/

structure ChainBodyIn where
  p : Chain.Params
  outs : List Chain.OutDef
  b : Chain.Blk
  insVals : Nat

/-- the model's order.  The first stage is a TAG that stands for faults the harness injected and the model does
not compute: swapped range proofs, a foreign kernel signature, unsorted outputs (`body:` tags of
harness/src/bin/chain.rs) -/
def chainBodyStages : List (Stage ChainBodyIn String) := [
  ⟨"body: tag (range proof / kernel signature / order)", [], fun x => Chain.hasTag x.b "body:"⟩,
  ⟨"verify_sorted (duplicate input / output)", ["verify_sorted"],
    fun x => if Chain.dupInBody x.b then some "Block:Transaction:Serialization" else none⟩,
  ⟨"verify_cut_through", ["verify_cut_through"],
    fun x => if Chain.cutThroughViolation x.b then some "Block:Transaction:CutThrough" else none⟩,
  ⟨"verify_kernel_lock_heights", ["verify_kernel_lock_heights"],
    fun x => if Chain.lockViolation x.b then some "Block:KernelLockHeight" else none⟩,
  ⟨"verify_nrd_kernels_for_header_version", ["verify_nrd_kernels_for_header_version"],
    fun x => if Chain.nrdEraViolation x.b then some "Block:NRDKernelPreHF3" else none⟩,
  ⟨"verify_coinbase", ["verify_coinbase"],
    fun x => if Chain.coinbaseMismatch x.p x.outs x.b then
      some (if (x.b.kers.filter (· == .cb)).length = 0 then "Block:Secp" else "Block:CoinbaseSumMismatch") else none⟩,
  ⟨"verify_kernel_sums: value", ["verify_kernel_sums"],
    fun x => if Chain.valueMismatch x.p x.outs x.b x.insVals then some "Block:KernelSumMismatch" else none⟩,
  ⟨"verify_kernel_sums: blinding (tag)", [], fun x => Chain.hasTag x.b "ksum:"⟩ ]

theorem chain_validateBody_stages (x : ChainBodyIn) :
    Chain.validateBody x.p x.outs x.b x.insVals = run x chainBodyStages := by
  unfold Chain.validateBody
  simp only [chainBodyStages, ↓run_ite, run]
  cases Chain.hasTag x.b "body:" with
  | some e => rfl
  | none => cases Chain.hasTag x.b "ksum:" <;> rfl

/-- `pipe::validate_block`: the previous header (a store look-up the model abstracts: a missing parent was
answered by `process_block_header`), then `Block::validate` with the previous header's total kernel offset -/
theorem pipe_validate_block_shape :
    readOk pipe_validate_block = true ∧
    spine pipe_validate_block = ["get_previous_header", "validate"] ∧
    whats pipe_validate_block = ["$1.batch.get_previous_header(&$0.header)", "$0.validate(&$2.total_kernel_offset)"] ∧
    earlyOks pipe_validate_block = [] ∧ calls pipe_validate_block = [] :=
  ⟨rfl, rfl, rfl, rfl, rfl⟩

/-- the code's spine of `Block::validate` with `body.validate` and `validate_read` opened (`verify_sorted` kept
as one step: this model has one test for it) -/
def blockValidateSpine1 : List String :=
  inline "validate_read" (spine body_validate_read) (inline "validate" (spine body_validate) (spine block_validate))

/-- … without the steps `Chain.validateBody` has no stage of its own for: the weight and the NRD duplicates
(not represented here; `Model/ChainNrdDup.lean` has the latter), the `?` on `block_kernel_offset` (not
represented), and the range proofs and kernel signatures — which the model DOES answer, but through the `body:`
tag stage at the head of its list (see `chainBody_order_finding`) -/
def chainBodyCodeSpine : List String :=
  blockValidateSpine1.filter fun n =>
    !(["verify_weight", "verify_no_nrd_duplicates", "block_kernel_offset", "batch_verify_proofs", "batch_sig_verify"].contains n)

/-- **shape = model, for the computed stages**: the stages `Chain.validateBody` computes are in the code's order -/
theorem block_validate_shape_is_chainBody_partial : chainBodyCodeSpine = codeNames chainBodyStages := by
  names_eval [chainBodyCodeSpine, blockValidateSpine1, inline, XlateShapeCore.block_validate_order,
    XlateShapeCore.body_validate_order, XlateShapeCore.body_validate_read_order]
  rfl

/- FULL STATEMENT THAT DOES NOT HOLD (order disagreement):
     blockValidateSpine1 minus {verify_weight, verify_no_nrd_duplicates, block_kernel_offset}
       = names of `chainBodyStages` with the `body:` tag stage standing for `batch_verify_proofs`, `batch_sig_verify`
   The model tests the `body:` tag FIRST; the code verifies range proofs and kernel signatures AFTER `verify_sorted`
   and `verify_cut_through`.  A block that has a `body:` fault (bad range proof / signature) AND a duplicate or
   cut-through commitment is answered `Block:Transaction:Secp` / `IncorrectSignature` by the model and
   `Serialization` / `CutThrough` by the code.  (For the third use of the tag, unsorted outputs, the model's
   position is the code's: `verify_sorted` comes before `verify_cut_through`, and outputs before the duplicates
   test only matters for the same error name.)  The harness injects one fault kind per block, so the check does
   not see the difference. -/

/-- **the order disagreement, stated**: in the model the `body:` tag stage precedes the cut-through stage; in the
current source the two steps it stands for follow `verify_cut_through` -/
theorem chainBody_order_finding :
    (chainBodyStages.map (·.name)).take 3 =
      ["body: tag (range proof / kernel signature / order)", "verify_sorted (duplicate input / output)",
       "verify_cut_through"] ∧
    (blockValidateSpine1.drop 2).take 4 =
      ["verify_sorted", "verify_cut_through", "batch_verify_proofs", "batch_sig_verify"] := by
  refine ⟨rfl, ?_⟩
  names_eval [blockValidateSpine1, inline, XlateShapeCore.block_validate_order,
    XlateShapeCore.body_validate_order, XlateShapeCore.body_validate_read_order]
  rfl

/-- the disagreement on a concrete block (it spends the output it creates AND carries the range-proof tag): the
model's first three stages answer the tag; the code's order answers `CutThrough` for such a block -/
def demoBlk : Chain.Blk :=
  { id := 1, parent := some 0, h := 1, work := 2, ver := 1, ts := 1, ins := [7], outs := [(7, false)], kers := [], tags := ["body:Block:Transaction:Secp"] }

/-- the model answers the tag whatever else is wrong with the block … -/
theorem chainBody_tag_first (x : ChainBodyIn) (e : String) (h : Chain.hasTag x.b "body:" = some e) :
    Chain.validateBody x.p x.outs x.b x.insVals = some e := by
  unfold Chain.validateBody
  simp [h]

/-- … e.g. for this block, which also spends the output it creates: its computed stages answer `CutThrough`, which
is what the code's order answers for a block with swapped range proofs that also has a cut-through violation -/
example : run (⟨{}, [], demoBlk, 0⟩ : ChainBodyIn) ((chainBodyStages.take 3).drop 1) = some "Block:Transaction:CutThrough" := by
  rfl

/-! ## 6. `TransactionPool::add_to_pool` = `Pool.TxPool.addToPool` / `addCore` (Model/Pool.lean)

The model returns the pool state together with the result, and later stages use what earlier ones computed (the
de-aggregated entry, the `evict` flag, the txpool aggregate, the spent outputs): the interpreter threads an
environment, and a stage either STOPS with (state, result) — an error, or the early `Ok` — or goes on. -/

structure AddIn where
  c : Pool.Ctx
  src : Pool.Src
  tx : Pool.Tx
  stem : Bool
  stemOk : Bool

structure Env where
  s : Pool.TxPool
  entry : Pool.Entry
  evict : Bool := false
  extra : Option Pool.Tx := none
  spent : List Nat := []

inductive Out
  | stop (s : Pool.TxPool) (r : Pool.Res)
  | next (v : Env)

structure PStage where
  name : String
  code : List String
  step : AddIn → Env → Out

/-- first stopping stage (an empty list stops with `Ok` on the state reached) -/
def runS (x : AddIn) : Env → List PStage → Pool.TxPool × Pool.Res
  | v, [] => (v.s, none)
  | v, st :: rest => match st.step x v with
    | .stop s r => (s, r)
    | .next v' => runS x v' rest

def addStages : List PStage := [
  ⟨"DuplicateTx (txpool)", ["DuplicateTx"],
    fun x v => if v.s.txpool.containsTx x.tx then .stop v.s (some "DuplicateTx") else .next v⟩,
  ⟨"deaggregate_tx (fluff only)", ["deaggregate_tx"],
    fun x v => match (if x.stem then .ok { tx := x.tx, src := x.src } else v.s.deaggregateTx { tx := x.tx, src := x.src }
        : Except Pool.Err Pool.Entry) with
      | .error er => .stop v.s (some er)
      | .ok entry => .next { v with entry := entry }⟩,
  ⟨"verify_kernel_variants", ["verify_kernel_variants"],
    fun x v => match Pool.verifyKernelVariants x.c v.entry.tx with
      | some er => .stop v.s (some er)
      | none => .next v⟩,
  ⟨"is_acceptable / acceptability", ["acceptability"],
    fun x v =>
      if !(!x.stem && v.s.isAcceptable x.c v.entry.tx x.stem == some "OverCapacity")
          && (v.s.isAcceptable x.c v.entry.tx x.stem).isSome
      then .stop v.s (v.s.isAcceptable x.c v.entry.tx x.stem)
      else .next { v with evict := !x.stem && v.s.isAcceptable x.c v.entry.tx x.stem == some "OverCapacity" }⟩,
  ⟨"validate(AsTransaction)", ["validate"],
    fun x v => match v.entry.tx.validate x.c .asTransaction with
      | some er => .stop v.s (some er)
      | none => .next v⟩,
  ⟨"verify_tx_lock_height", ["verify_tx_lock_height"],
    fun x v => if v.entry.tx.lockHeight > x.c.head.height + 1 then .stop v.s (some "ImmatureTransaction") else .next v⟩,
  ⟨"all_transactions_aggregate (stem only)", ["all_transactions_aggregate"],
    fun x v => match (if x.stem then Pool.Pool.allAggregate x.c v.s.txpool none else .ok none) with
      | .error er => .stop v.s (some er)
      | .ok extra => .next { v with extra := extra }⟩,
  ⟨"locate_spends", ["<if>"],
    fun x v => match (if x.stem then v.s.stempool.locateSpends x.c v.entry.tx v.extra
                      else v.s.txpool.locateSpends x.c v.entry.tx none) with
      | .error er => .stop v.s (some er)
      | .ok (_, spentUtxo) => .next { v with spent := spentUtxo }⟩,
  ⟨"verify_coinbase_maturity", ["verify_coinbase_maturity"],
    fun x v => if Pool.immatureCoinbase x.c v.spent then .stop v.s (some "ImmatureCoinbase") else .next v⟩,
  ⟨"add_to_stempool (stem only)", ["add_to_stempool"],
    fun x v => if x.stem then
        match Pool.Pool.addToPool x.c v.s.stempool v.entry v.extra with
        | .error er => .stop v.s (some er)
        | .ok sp => .next { v with s := { v.s with stempool := sp } }
      else .next v⟩,
  ⟨"stem_tx_accepted: early Ok", [],
    fun x v => if x.stem && x.stemOk then .stop v.s none else .next v⟩,
  ⟨"add_to_txpool", ["add_to_txpool"],
    fun x v => match v.s.addToTxpool x.c v.entry with
      | (s2, some er) => .stop s2 (some er)
      | (s2, none) => .next { v with s := s2 }⟩,
  ⟨"add_to_reorg_cache, evict_from_txpool (results discarded)", [],
    fun x v =>
      let s3 := v.s.addToReorgCache x.c v.entry
      .stop (if v.evict then { s3 with txpool := s3.txpool.evict x.c } else s3) none⟩ ]

/-- `if c then .stop … else .next …` as the head stage -/
theorem runS_ite (x : AddIn) (v : Env) (n : String) (cd : List String) (c : AddIn → Env → Prop)
    [∀ x v, Decidable (c x v)] (s : AddIn → Env → Pool.TxPool) (r : AddIn → Env → Pool.Res) (g : AddIn → Env → Env)
    (rest : List PStage) :
    runS x v (⟨n, cd, fun x v => if c x v then .stop (s x v) (r x v) else .next (g x v)⟩ :: rest) =
      if c x v then (s x v, r x v) else runS x (g x v) rest := by
  simp only [runS]
  by_cases h : c x v <;> simp only [h, if_true, if_false]

theorem addCore_stages (c : Pool.Ctx) (s : Pool.TxPool) (src : Pool.Src) (tx : Pool.Tx) (stem stemOk : Bool) :
    s.addCore c src tx stem stemOk =
      runS ⟨c, src, tx, stem, stemOk⟩ { s := s, entry := { tx := tx, src := src } } addStages := by
  unfold Pool.TxPool.addCore addStages
  simp only [↓runS_ite, runS]
  congr 1  -- past `DuplicateTx`
  -- `deaggregate_tx`
  cases (if stem = true then Except.ok { tx := tx, src := src } else s.deaggregateTx { tx := tx, src := src }
      : Except Pool.Err Pool.Entry) with
  | error er => rfl
  | ok entry =>
  simp only []
  -- `verify_kernel_variants`
  cases Pool.verifyKernelVariants c entry.tx with
  | some er => rfl
  | none =>
  simp only []
  congr 1  -- past `is_acceptable`
  -- `validate(AsTransaction)`
  cases Pool.Tx.validate c .asTransaction entry.tx with
  | some er => rfl
  | none =>
  simp only []
  congr 1  -- past `verify_tx_lock_height`
  -- `all_transactions_aggregate`
  cases (if stem = true then Pool.Pool.allAggregate c s.txpool none else Except.ok none) with
  | error er => rfl
  | ok extra =>
  simp only []
  -- `locate_spends`
  cases (if stem = true then Pool.Pool.locateSpends c s.stempool entry.tx extra
         else Pool.Pool.locateSpends c s.txpool entry.tx none) with
  | error er => rfl
  | ok pr =>
  simp only []
  congr 1  -- past `verify_coinbase_maturity`
  -- `add_to_stempool` / early `Ok` / `add_to_txpool`, by `stem`
  cases stem with
  | false =>
    simp only [Bool.false_eq_true, if_false, Bool.false_and]
    cases Pool.TxPool.addToTxpool c s entry with
    | mk s2 r =>
      cases r with
      | some er => rfl
      | none => simp only []; split <;> rfl
  | true =>
    simp only [if_true, Bool.true_and]
    cases Pool.Pool.addToPool c s.stempool entry extra with
    | error er => rfl
    | ok sp =>
      cases stemOk with
      | true => rfl
      | false =>
        simp only [Bool.false_eq_true, if_false]
        cases Pool.TxPool.addToTxpool c { txpool := s.txpool, stempool := sp, cache := s.cache } entry with
        | mk s2 r =>
          cases r with
          | some er => rfl
          | none => simp only []; split <;> rfl

/-- `add_to_pool` itself: a stem transaction already in the stempool is sent through the same function once more
with `stem = false` (the code's first step: the recursive tail call under `stem && stempool.contains_tx(tx)`) -/
theorem addToPool_stages (c : Pool.Ctx) (s : Pool.TxPool) (src : Pool.Src) (tx : Pool.Tx) (stem stemOk : Bool) :
    s.addToPool c src tx stem stemOk =
      runS ⟨c, src, tx, if stem && s.stempool.containsTx tx then false else stem, stemOk⟩
        { s := s, entry := { tx := tx, src := src } } addStages := by
  unfold Pool.TxPool.addToPool
  by_cases h : (stem && s.stempool.containsTx tx) = true
  · simp only [h, if_true]; exact addCore_stages c s src tx false stemOk
  · simp only [h, Bool.false_eq_true, if_false]; exact addCore_stages c s src tx stem stemOk

def addCodeNames : List String := addStages.flatMap (·.code)

/-- the code's spine without: `is_coinbase` (the tail of the closure that filters the coinbase inputs: not a
failing step) and `convert_tx_v2` (re-validates the SAME transaction with its inputs in the other form: nothing
new in the model, which reads the inputs through their commitments only) -/
def addCodeSpine : List String :=
  (spine tpool_add_to_pool).filter fun n => !(["is_coinbase", "convert_tx_v2"].contains n)

/-- **shape = model**: the recursive call for a stem duplicate, then the stages of `addCore` in the code's
current order.  The code name of the `locate_spends` stage is `<if>`, the extractor's name for a `?` applied to an
`if … else …` expression: the table says that a fallible step stands at this place, not that it is `locate_spends`
(its two branches are not read). -/
theorem add_to_pool_shape_is_model :
    readOk tpool_add_to_pool = true ∧ addCodeSpine = "add_to_pool" :: addCodeNames := by
  refine ⟨rfl, ?_⟩
  names_eval [addCodeSpine, XlateShapePool.tpool_add_to_pool_order]
  rfl

/-- the guards as the model has them: the recursion under `stem && stempool.contains_tx`; `DuplicateTx` under its
negation and `txpool.contains_tx`; de-aggregation for fluff only; the txpool aggregate and the stempool for stem
only; the ONE early `Ok` under `stem` and `stem_tx_accepted(..).is_ok()` (the model's `stemOk`), after
`add_to_stempool`; eviction under the `evict` flag; the only discarded calls are the reorg cache, the adapter
notification and the eviction (the model's last stage) -/
theorem add_to_pool_guards_are_model :
    under "($2 && self.stempool.contains_tx(&$1))" tpool_add_to_pool = ["add_to_pool"] ∧
    under "!(($2 && self.stempool.contains_tx(&$1)))" tpool_add_to_pool = ["DuplicateTx"] ∧
    fails tpool_add_to_pool = [("DuplicateTx", "self.txpool.contains_tx(&$1)")] ∧
    under "!($2)" tpool_add_to_pool = ["deaggregate_tx"] ∧
    under "$2" tpool_add_to_pool = ["all_transactions_aggregate", "add_to_stempool"] ∧
    earlyOks tpool_add_to_pool = [["$2", "self.adapter.stem_tx_accepted($13).is_ok()"]] ∧
    spineBeforeFirstEarlyOk tpool_add_to_pool = (spine tpool_add_to_pool).dropLast ∧
    calls tpool_add_to_pool = ["add_to_reorg_cache", "tx_accepted", "evict_from_txpool"] ∧
    ((tpool_add_to_pool.steps.filter fun s => s.kind == .call).map (·.guard)) = [[], [], ["$7"]] ∧
    mapped tpool_add_to_pool = [("validate", "InvalidTx")] ∧
    ((tpool_add_to_pool.steps.filter fun s => s.name == "validate").map (·.what)) =
      ["$5.validate(Weighting::AsTransaction).map_err(PoolError::InvalidTx)"] := by
  refine ⟨?_, ?_, rfl, ?_, ?_, rfl, rfl, rfl, rfl, ?_, ?_⟩
  all_goals names_eval [under, mapped, tpool_add_to_pool]

/-- non-vacuity: a transaction whose kernels are already in the txpool stops at the first stage -/
example : runS ⟨{}, .pushApi, { ins := [1], outs := [2], kers := [⟨0, .plain 1, 0⟩] }, false, false⟩
    { s := { txpool := [{ tx := { ins := [1], outs := [2], kers := [⟨0, .plain 1, 0⟩] }, src := .pushApi }] },
      entry := { tx := { ins := [1], outs := [2], kers := [⟨0, .plain 1, 0⟩] }, src := .pushApi } }
    (addStages.take 1) = ({ txpool := [{ tx := { ins := [1], outs := [2], kers := [⟨0, .plain 1, 0⟩] }, src := .pushApi }] }, some "DuplicateTx") := by
  rfl

end GV.Props.XlateShapeModel2
