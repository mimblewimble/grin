import GrinVerif.Lemmas.KeysMnemonic
import GrinVerif.Gen.Wordlist
/-! # C20 — BIP39: the bit packing of `keychain/src/mnemonic.rs` and the regenerated word list

Model: `Model/KeysMnemonic.lean` (`fromEntropy`, `toEntropy`; the checksum hash is a parameter);
lemmas: `Lemmas/KeysMnemonic.lean`.  Theorems, for EVERY entropy of 16 / 20 / 24 / 28 / 32 bytes and
every hash function: the words decode back to the entropy (`entropy_roundtrip`); `to_entropy` accepts
exactly when the checksum bits are the hash's (`toEntropy_ok_iff`), so a mnemonic whose checksum
bits were changed is refused with `BadChecksum` (`wrong_checksum_refused`).  Obligations on the
GENERATED word list (`Gen/Wordlist.lean`, from `wordlists/en.txt` on every run): 2048 words,
strictly increasing (what `search`'s `binary_search` needs to find every word), the two size tables
of the source are the model's. -/
namespace GV.Props.C20
open GV GV.Mnemonic List

/-! ## obligations on the regenerated word list -/
open GV.Gen.Wordlist in
def strictlyInc : List String → Bool
  | [] => true
  | [_] => true
  | a :: b :: r => decide (a < b) && strictlyInc (b :: r)

open GV.Gen.Wordlist in
/-- 16 lists of 128 = 2048 words (11 bits per word) -/
theorem wordlist_has_2048_words : chunks.map List.length = List.replicate 16 128 := by decide +kernel

theorem strictlyInc_of_codes : ∀ l : List String, incCodes (l.map codes) = true → strictlyInc l = true
  | [], _ => rfl
  | [_], _ => rfl
  | a :: b :: r, h => by
    simp only [map_cons, incCodes, Bool.and_eq_true] at h
    simp only [strictlyInc, Bool.and_eq_true, decide_eq_true_eq]
    exact ⟨lt_of_ltCodes h.1, strictlyInc_of_codes (b :: r) h.2⟩

section
open GV.Gen.Wordlist

/-- every list of the table is strictly increasing (checked on the words' bytes, `lt_of_ltCodes`) -/
theorem chunk_sorted (k : Nat) : strictlyInc (chunks.getD k []) = true := by
  have all : chunks.all (fun c => incCodes (c.map codes)) = true := by decide +kernel
  rw [getD_eq_getElem?_getD]
  cases h : chunks[k]? with
  | none => rfl
  | some c => exact strictlyInc_of_codes c (all_eq_true.1 all c (mem_of_getElem? h))

theorem wordlist_chunk_0_sorted : strictlyInc (chunks.getD 0 []) = true := chunk_sorted 0
theorem wordlist_chunk_1_sorted : strictlyInc (chunks.getD 1 []) = true := chunk_sorted 1
theorem wordlist_chunk_2_sorted : strictlyInc (chunks.getD 2 []) = true := chunk_sorted 2
theorem wordlist_chunk_3_sorted : strictlyInc (chunks.getD 3 []) = true := chunk_sorted 3
theorem wordlist_chunk_4_sorted : strictlyInc (chunks.getD 4 []) = true := chunk_sorted 4
theorem wordlist_chunk_5_sorted : strictlyInc (chunks.getD 5 []) = true := chunk_sorted 5
theorem wordlist_chunk_6_sorted : strictlyInc (chunks.getD 6 []) = true := chunk_sorted 6
theorem wordlist_chunk_7_sorted : strictlyInc (chunks.getD 7 []) = true := chunk_sorted 7
theorem wordlist_chunk_8_sorted : strictlyInc (chunks.getD 8 []) = true := chunk_sorted 8
theorem wordlist_chunk_9_sorted : strictlyInc (chunks.getD 9 []) = true := chunk_sorted 9
theorem wordlist_chunk_10_sorted : strictlyInc (chunks.getD 10 []) = true := chunk_sorted 10
theorem wordlist_chunk_11_sorted : strictlyInc (chunks.getD 11 []) = true := chunk_sorted 11
theorem wordlist_chunk_12_sorted : strictlyInc (chunks.getD 12 []) = true := chunk_sorted 12
theorem wordlist_chunk_13_sorted : strictlyInc (chunks.getD 13 []) = true := chunk_sorted 13
theorem wordlist_chunk_14_sorted : strictlyInc (chunks.getD 14 []) = true := chunk_sorted 14
theorem wordlist_chunk_15_sorted : strictlyInc (chunks.getD 15 []) = true := chunk_sorted 15

/-- … and across the cut points: last word of a list < first word of the next -/
theorem wordlist_boundaries_sorted :
    (List.range 15).all (fun k => decide (((chunks.getD k []).getLast?.getD "") < ((chunks.getD (k + 1) []).head?.getD ""))) = true := by
  have h : (List.range 15).all (fun k => ltCodes (codes ((chunks.getD k []).getLast?.getD ""))
      (codes ((chunks.getD (k + 1) []).head?.getD ""))) = true := by decide +kernel
  rw [all_eq_true] at h ⊢
  exact fun k hk => decide_eq_true (lt_of_ltCodes (h k hk))

/-- the size tables read from `to_entropy` / `from_entropy` are the model's -/
theorem size_tables_are_the_models : wordCountsSrc = wordCounts ∧ entropySizesSrc = entropySizes := by
  decide
end

def IsBytes (e : Bytes) : Prop := ∀ b ∈ e, b < 256

/-- the arithmetic of the five sizes: `L` bytes, `cs = L/4` checksum bits, `n` words -/
theorem size_facts (L : Nat) (h : L ∈ entropySizes) :
    let cs := L / 4
    let n := (L * 8 + cs) / 11
    8 * L + cs = 11 * n ∧ n / 3 = cs ∧ cs ≤ 8 ∧ n ∈ wordCounts ∧ (11 * n - cs) / 8 = L ∧ 11 * n - cs = 8 * L := by
  simp only [entropySizes, mem_cons, mem_nil_iff, or_false] at h
  rcases h with rfl | rfl | rfl | rfl | rfl <;> decide

theorem word_facts (n : Nat) (h : n ∈ wordCounts) :
    let cs := n / 3
    let L := (11 * n - cs) / 8
    11 * n - cs = 8 * L ∧ L ∈ entropySizes ∧ L / 4 = cs ∧ (L * 8 + cs) / 11 = n ∧ cs ≤ 8 ∧ 8 * L + cs = 11 * n := by
  simp only [wordCounts, mem_cons, mem_nil_iff, or_false] at h
  rcases h with rfl | rfl | rfl | rfl | rfl <;> decide

theorem fromEntropy_ok (h0 : Bytes → Nat) (e : Bytes) (hs : e.length ∈ entropySizes) :
    fromEntropy h0 e = .ok ((chunksN 11 ((e.length * 8 + e.length / 4) / 11)
      (e.flatMap (bitsOf 8) ++ (bitsOf 8 (h0 e)).take (e.length / 4))).map ofBits) := by
  simp [fromEntropy, hs]

theorem packed_length (h0 : Bytes → Nat) (e : Bytes) (hs : e.length ∈ entropySizes) :
    (e.flatMap (bitsOf 8) ++ (bitsOf 8 (h0 e)).take (e.length / 4)).length =
      11 * ((e.length * 8 + e.length / 4) / 11) := by
  obtain ⟨f1, _, f3, _⟩ := size_facts e.length hs
  rw [length_append, length_flatMap_bitsOf, length_take, bitsOf_length, Nat.min_eq_left f3]
  exact f1

/-- every index `from_entropy` produces is below 2048 -/
theorem fromEntropy_indexes_lt (h0 : Bytes → Nat) (e : Bytes) (idx : List Nat) (h : fromEntropy h0 e = .ok idx) :
    ∀ i ∈ idx, i < 2048 := by
  have hs : e.length ∈ entropySizes := by
    by_cases c : e.length ∈ entropySizes
    · exact c
    · simp [fromEntropy, c] at h
  rw [fromEntropy_ok h0 e hs] at h
  obtain rfl := Except.ok.inj h
  intro i hi
  obtain ⟨c, hc, rfl⟩ := mem_map.1 hi
  have := ofBits_lt c
  rwa [chunksN_lengths 11 _ _ (packed_length h0 e hs) c hc] at this

/-- **`to_entropy` accepts exactly when the checksum bits are the hash's**: for a list of the right
length whose words are all in the list, the answer is the data part when the last `n/3` bits equal
the first `n/3` bits of the hash byte of the data part, and `BadChecksum(given, computed)` otherwise. -/
theorem toEntropy_ok_iff (h0 : Bytes → Nat) (idx : List Nat) (hn : idx.length ∈ wordCounts)
    (hw : ∀ i ∈ idx, i < 2048) :
    let n := idx.length
    let bits := idx.flatMap (bitsOf 11)
    let data := (chunksN 8 ((11 * n - n / 3) / 8) (bits.take (11 * n - n / 3))).map ofBits
    let given := ofBits (bits.drop (11 * n - n / 3))
    let actual := ofBits ((bitsOf 8 (h0 data)).take (n / 3))
    toEntropy h0 idx = if actual = given then .ok data else .error (.badChecksum given actual) := by
  have hc : wordCounts.contains idx.length = true := by simpa using hn
  have hany : idx.any (fun i => decide (2048 ≤ i)) = false := by
    rw [any_eq_false]; intro i hi; have := hw i hi; simp; omega
  simp only [toEntropy, hc, hany, Bool.false_eq_true, not_true_eq_false, if_false, ne_eq, ite_not]

/-- **entropy → words → entropy**: for every entropy of 16 / 20 / 24 / 28 / 32 bytes (any byte
values) and every checksum hash, `to_entropy` of the indexes `from_entropy` produces is the entropy. -/
theorem entropy_roundtrip (h0 : Bytes → Nat) (e : Bytes) (hs : e.length ∈ entropySizes) (hb : IsBytes e) :
    ∃ idx, fromEntropy h0 e = .ok idx ∧ idx.length = (e.length * 8 + e.length / 4) / 11 ∧ toEntropy h0 idx = .ok e := by
  obtain ⟨_, f2, _, f4, _, f6⟩ := size_facts e.length hs
  have hfrom := fromEntropy_ok h0 e hs
  have hl : ∀ bits : List Bool, ((chunksN 11 ((e.length * 8 + e.length / 4) / 11) bits).map ofBits).length =
      (e.length * 8 + e.length / 4) / 11 := fun _ => by rw [length_map, chunksN_length]
  refine ⟨_, hfrom, hl _, ?_⟩
  have hiff := toEntropy_ok_iff h0 _ (by rw [hl]; exact f4) (fromEntropy_indexes_lt h0 e _ hfrom)
  have hel := length_flatMap_bitsOf 8 e
  -- the words spell entropy ++ checksum bits again; its first `8 * len` bits are the entropy
  simp only [hl, flatMap_bitsOf_chunksN 11 _ _ (packed_length h0 e hs), f2, f6, take_left' hel,
    drop_left' hel, Nat.mul_div_cancel_left _ (show 0 < 8 by decide), ofBits_chunksN_flatMap 8 e hb] at hiff
  rw [hiff, if_pos trivial]

/-- a wrong number of words / an unknown word, in the order of the code -/
theorem toEntropy_refusals (h0 : Bytes → Nat) (idx : List Nat) :
    (idx.length ∉ wordCounts → toEntropy h0 idx = .error (.invalidLength idx.length)) ∧
    (idx.length ∈ wordCounts → (∃ i ∈ idx, 2048 ≤ i) → toEntropy h0 idx = .error .badWord) := by
  constructor
  · intro h
    unfold toEntropy; simp [h]
  · intro h ⟨i, hi, h2⟩
    have : ∃ x, x ∈ idx ∧ 2048 ≤ x := ⟨i, hi, h2⟩
    unfold toEntropy; simp [h, this]

/-- **words → entropy → words**: whenever `to_entropy` accepts a word list (right length, every word
in the list, checksum right), `from_entropy` of the answer gives exactly these words back — so the
two functions are inverse bijections between the entropies of the five lengths and the accepted
mnemonics (with `entropy_roundtrip`). -/
theorem words_roundtrip (h0 : Bytes → Nat) (idx : List Nat) (e : Bytes) (hw : ∀ i ∈ idx, i < 2048)
    (h : toEntropy h0 idx = .ok e) : fromEntropy h0 e = .ok idx := by
  have hn : idx.length ∈ wordCounts := by
    by_cases c : idx.length ∈ wordCounts
    · exact c
    · rw [(toEntropy_refusals h0 idx).1 c] at h; cases h
  obtain ⟨f1, f2, f3, f4, f5, f6⟩ := word_facts idx.length hn
  have hiff := toEntropy_ok_iff h0 idx hn hw
  simp only at hiff
  rw [hiff] at h
  have hbl := length_flatMap_bitsOf 11 idx
  generalize (11 * idx.length - idx.length / 3) / 8 = L at f1 f2 f3 f4 f6 h
  generalize idx.length / 3 = cs at f1 f3 f4 f5 f6 h
  rw [f1] at h
  split at h
  · rename_i hck
    have he := Except.ok.inj h
    have htl : ((idx.flatMap (bitsOf 11)).take (8 * L)).length = 8 * L := by
      rw [length_take, hbl, ← f6]; exact Nat.min_eq_left (Nat.le_add_right _ _)
    have hel : e.length = L := by rw [← he, length_map, chunksN_length]
    have hflat : e.flatMap (bitsOf 8) = (idx.flatMap (bitsOf 11)).take (8 * L) := by
      rw [← he]; exact flatMap_bitsOf_chunksN 8 L _ htl
    have hcs : (bitsOf 8 (h0 e)).take cs = (idx.flatMap (bitsOf 11)).drop (8 * L) := by
      refine ofBits_inj ?_ (he ▸ hck)
      rw [length_take, bitsOf_length, length_drop, hbl, ← f6, Nat.add_sub_cancel_left]
      exact Nat.min_eq_left f5
    rw [fromEntropy_ok h0 e (hel ▸ f2), hel, f3, f4, hflat, hcs, take_append_drop,
      ofBits_chunksN_flatMap 11 idx hw]
  · cases h

/-- **a wrong checksum is refused**: whenever the checksum bits differ from the hash's, the answer is
`BadChecksum` — never an entropy. -/
theorem wrong_checksum_refused (h0 : Bytes → Nat) (idx : List Nat) (hn : idx.length ∈ wordCounts)
    (hw : ∀ i ∈ idx, i < 2048)
    (hbad : ofBits ((bitsOf 8 (h0 ((chunksN 8 ((11 * idx.length - idx.length / 3) / 8)
        ((idx.flatMap (bitsOf 11)).take (11 * idx.length - idx.length / 3))).map ofBits))).take (idx.length / 3)) ≠
      ofBits ((idx.flatMap (bitsOf 11)).drop (11 * idx.length - idx.length / 3))) :
    ∃ g a, toEntropy h0 idx = .error (.badChecksum g a) ∧ g ≠ a := by
  have := toEntropy_ok_iff h0 idx hn hw
  simp only at this
  rw [this, if_neg hbad]
  exact ⟨_, _, rfl, fun h => hbad h.symm⟩

/-- non-vacuity (checksum hash constantly 0): 16 zero bytes are twelve times the word 0, and back;
with the last index changed to 1 (a checksum bit set) the mnemonic is refused -/
example : (match fromEntropy (fun _ => 0) (List.replicate 16 0) with | .ok l => decide (l = List.replicate 12 0) | _ => false) = true := by decide +kernel
example : (match toEntropy (fun _ => 0) (List.replicate 12 0) with | .ok l => decide (l = List.replicate 16 0) | _ => false) = true := by decide +kernel
example : (match toEntropy (fun _ => 0) (List.replicate 11 0 ++ [1]) with | .error e => decide (e = .badChecksum 1 0) | _ => false) = true := by decide +kernel

end GV.Props.C20
