import GrinVerif.Lemmas.CrashMultiL
/-! C09 — header-first acceptance, several acceptances in one call and the head reset, as theorems over
EVERY chain (`Model/CrashMulti.lean`; tied to the node by the `crash` run: scenarios block-after-header,
orphan-chain, reset-head — the driver checks at every enumerated crash point that the state reached
through the real labels is the state of these step lists).

* header-first acceptance (`hdr_first_*`): safe until the leaf set is renamed, new head after the
  commit, and a completed acceptance is again a header-first state, so the theorems apply to the next
  acceptance of the same call (`orphan_chain_second_acceptance`: two acceptances in one `process_block`).
* head reset (`reset_*`): completed = the consistent state of the target; killed while the header MMR
  files are truncated and before the single commit: the node does NOT open (`Error::Other`, the
  recorded window C09-header-mmr-window reached from `reset_chain_head`). -/
namespace GV.Props.C09Multi
open GV GV.Crash

/-- header-first extension: the table stores `O`, `O ++ [b]` and the header chain `H` -/
structure HdrFirstExt (tbl O H : List BlkInfo) (b : BlkInfo) (t : Target) : Prop where
  ext : PlainExt tbl O b t
  hdr : pathOf tbl (tbl.length + 1) (tipOf H) [] = some H

/-- **Header-first block, every chain: safe prefix.** A process death at any of the first four
durable steps (output hash / data files appended, leaf set not yet renamed) reopens on the old tip. -/
theorem hdr_first_safe_prefix_all (bcf : Nat → Bool) (tbl O H : List BlkInfo) (b : BlkInfo) (t : Target)
    (h : HdrFirstExt tbl O H b t) (k : Nat) (hk : k ≤ 4) :
    recover bcf tbl (crashAfter t (hdrFirst O H) bodySteps k) = .ok (tipOf O) :=
  -- no body step writes what the header check reads; the leaf set is renamed at step 5, the head committed at step 10
  recover_of_agrees bcf tbl O _ h.ext.old ((hdrFirst_hdrOk O h.hdr).crashAfter t fun s hs =>
      (by decide : ∀ s ∈ bodySteps, s.hdrSide = false) s (List.take_subset _ _ hs))
    ((hdrFirst_agrees O H).crashAfter_body (h.ext.forkPath ▸ List.prefix_refl O)
      (not_mem_take_of_le (Nat.le_trans hk (by decide : 4 ≤ 9)) (by decide)) (not_mem_take_of_le hk (by decide)))

/-- **Header-first block, every chain: completed.** After the final commit the node reopens on `b`,
and the durable state is the header-first state of the longer body. -/
theorem hdr_first_completed_all (bcf : Nat → Bool) (tbl O H : List BlkInfo) (b : BlkInfo) (t : Target)
    (h : HdrFirstExt tbl O H b t) (hm : t.movesHead = true) (k : Nat) (hk : 10 ≤ k) :
    crashAfter t (hdrFirst O H) bodySteps k = hdrFirst (O ++ [b]) H ∧
    recover bcf tbl (crashAfter t (hdrFirst O H) bodySteps k) = .ok b.id := by
  have e : crashAfter t (hdrFirst O H) bodySteps k = hdrFirst (O ++ [b]) H := by
    rw [crashAfter_body_done t _ k hk, if_pos hm, h.ext.tip, h.ext.newPath]
    simp [hdrFirst, consistent]
  refine ⟨e, ?_⟩
  rw [e, ← tipOf_snoc O b]
  exact recover_of_agrees bcf tbl (O ++ [b]) _ (by rw [tipOf_snoc]; exact h.ext.new) (hdrFirst_hdrOk _ h.hdr)
    (hdrFirst_agrees _ H)

/-- the steps of several acceptances in one call compose: past the first acceptance the state is the
state of the remaining acceptances started from the first one's final state -/
theorem multi_compose (t : Target) (ts : List Target) (d : Durable) (steps : List Step) (k : Nat) :
    multiCrashAfter (t :: ts) d steps (steps.length + k) =
      if k = 0 then crashAfter t d steps steps.length
      else multiCrashAfter ts (crashAfter t d steps steps.length) steps k := by
  by_cases h : k = 0
  · subst h; simp [multiCrashAfter]
  · have : ¬ (steps.length + k ≤ steps.length) := by omega
    simp [multiCrashAfter, this, h]

/-- **Orphan chain (parent, then the parked child, in one call), every chain.** A death during the
CHILD's acceptance before its leaf set is renamed reopens on the parent `b1`, which was fully
committed; after the child's commit the node reopens on the child. -/
theorem orphan_chain_second_acceptance (bcf : Nat → Bool) (tbl O H : List BlkInfo) (b1 b2 : BlkInfo)
    (t1 t2 : Target) (h1 : HdrFirstExt tbl O H b1 t1) (h2 : HdrFirstExt tbl (O ++ [b1]) H b2 t2)
    (m1 : t1.movesHead = true) (m2 : t2.movesHead = true) (k : Nat) (hk : 1 ≤ k) :
    (k ≤ 4 → recover bcf tbl (multiCrashAfter [t1, t2] (hdrFirst O H) bodySteps (10 + k)) = .ok b1.id) ∧
    (10 ≤ k → recover bcf tbl (multiCrashAfter [t1, t2] (hdrFirst O H) bodySteps (10 + k)) = .ok b2.id) := by
  have hl : bodySteps.length = 10 := rfl
  have hc := multi_compose t1 [t2] (hdrFirst O H) bodySteps k
  rw [hl] at hc
  have hk0 : ¬ k = 0 := by omega
  rw [if_neg hk0, (hdr_first_completed_all bcf tbl O H b1 t1 h1 m1 10 (Nat.le_refl _)).1] at hc
  rw [hc]
  constructor
  · intro h4
    have : k ≤ bodySteps.length := by rw [hl]; omega
    simp only [multiCrashAfter, this, if_true]
    have := hdr_first_safe_prefix_all bcf tbl (O ++ [b1]) H b2 t2 h2 k h4
    rwa [tipOf_snoc] at this
  · intro h10
    by_cases hle : k ≤ bodySteps.length
    · simp only [multiCrashAfter, hle, if_true]
      exact (hdr_first_completed_all bcf tbl (O ++ [b1]) H b2 t2 h2 m2 k h10).2
    · simp only [multiCrashAfter, hle, if_false]
      exact (hdr_first_completed_all bcf tbl (O ++ [b1]) H b2 t2 h2 m2 _ (Nat.le_refl _)).2

/-- **Head reset, every chain: completed.** After the single commit the durable state is exactly the
consistent state of the target path and the node reopens on the target. -/
theorem reset_completed_all (bcf : Nat → Bool) (tbl T R : List BlkInfo)
    (hT : pathOf tbl (tbl.length + 1) (tipOf T) [] = some T) (k : Nat) (hk : 14 ≤ k) :
    resetCrashAfter (resetTarget T) (consistent (T ++ R)) k = consistent T ∧
    recover bcf tbl (resetCrashAfter (resetTarget T) (consistent (T ++ R)) k) = .ok (tipOf T) := by
  have hs : resetCrashAfter (resetTarget T) (consistent (T ++ R)) k = consistent T := by
    -- all thirteen file steps done, then the single commit of both heads
    rw [resetCrashAfter, if_pos (show resetFileSteps.length < k from hk),
      crashAfter_ge _ _ _ k (Nat.le_trans (by decide) hk), show resetFileSteps.length = 13 from rfl,
      crashAfter_resetFiles_done]
    rfl
  rw [hs]
  exact ⟨rfl, recover_consistent_tipOf bcf tbl T hT⟩

/-- **Head reset, every chain: the header window.** Killed after the header MMR's hash file has been
truncated and before the single commit of both heads (steps 10..13), the header MMR no longer holds
`header_head` and `Chain::init` fails — for every chain, every target at least one block back. -/
theorem reset_header_window_bricks_all (bcf : Nat → Bool) (tbl T R : List BlkInfo) (hR : R ≠ [])
    (hO : pathOf tbl (tbl.length + 1) (tipOf (T ++ R)) [] = some (T ++ R))
    (k : Nat) (h1 : 10 ≤ k) (h2 : k ≤ 13) :
    recover bcf tbl (resetCrashAfter (resetTarget T) (consistent (T ++ R)) k) = .openFail .other := by
  rw [resetCrashAfter, if_neg (show ¬ resetFileSteps.length < k from Nat.not_lt.2 h2)]
  obtain ⟨eh, ed⟩ := reset_hdrFiles T R k h1 h2
  have hRl : 0 < R.length := List.length_pos_iff.mpr hR
  by_cases h12 : 12 ≤ k
  · -- both header files hold the target's headers, `header_head` is still the old tip: no file step moves it
    rw [if_pos h12] at ed
    apply recover_hdr_mismatch bcf tbl _ (T ++ R) (by rw [eh, ed])
    · rw [crashAfter_dbHHead, if_neg fun hm => absurd (List.take_subset _ _ hm) (by decide)]
      exact (consistent_tip _).2 ▸ hO
    · intro hcon
      have := congrArg List.length hcon
      rw [ed, List.length_take, List.length_map, List.length_map, List.length_append] at this
      omega
  · apply header_len_mismatch_bricks
    rw [eh, ed, if_neg h12]
    simp; omega

/-- before any file is touched nothing has happened -/
theorem reset_not_started (bcf : Nat → Bool) (tbl T R : List BlkInfo)
    (hO : pathOf tbl (tbl.length + 1) (tipOf (T ++ R)) [] = some (T ++ R)) :
    recover bcf tbl (resetCrashAfter (resetTarget T) (consistent (T ++ R)) 0) = .ok (tipOf (T ++ R)) := by
  show recover bcf tbl (consistent (T ++ R)) = _
  exact recover_consistent_tipOf bcf tbl (T ++ R) hO

/-! ### non-vacuity: a concrete 6-block chain -/

def blk (i : Nat) (ins : List Nat) : BlkInfo :=
  { id := i, parent := if i = 0 then none else some (i - 1), work := i + 1, outs := [i], ins := ins }

def tbl6 : List BlkInfo := [blk 0 [], blk 1 [], blk 2 [], blk 3 [0], blk 4 [1], blk 5 [2]]

example : HdrFirstExt tbl6 (tbl6.take 4) tbl6 (blk 4 [1])
    { newPath := tbl6.take 5, forkLen := 4, movesHHead := false, movesHead := true } :=
  ⟨⟨by decide +kernel, by decide +kernel, by decide +kernel, by decide +kernel⟩, by decide +kernel⟩

example : recover (fun _ => true) tbl6
    (multiCrashAfter
      [{ newPath := tbl6.take 5, forkLen := 4, movesHHead := false, movesHead := true },
       { newPath := tbl6, forkLen := 5, movesHHead := false, movesHead := true }]
      (hdrFirst (tbl6.take 4) tbl6) bodySteps 13) = .ok 4 := by decide +kernel

example : recover (fun _ => true) tbl6
    (resetCrashAfter (resetTarget (tbl6.take 3)) (consistent tbl6) 11) = .openFail .other :=
  reset_header_window_bricks_all _ tbl6 (tbl6.take 3) (tbl6.drop 3) (by decide +kernel) (by decide +kernel) 11 (by omega) (by omega)

example : recover (fun _ => true) tbl6
    (resetCrashAfter (resetTarget (tbl6.take 3)) (consistent tbl6) 14) = .ok 2 := by decide +kernel

end GV.Props.C09Multi
