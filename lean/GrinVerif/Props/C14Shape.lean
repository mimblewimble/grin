import GrinVerif.Lemmas.PoolAdmit
import GrinVerif.Lemmas.ChainStep
import GrinVerif.Gen.PipeShapePool
import GrinVerif.Props.XlateShapeLib
/-! # C14 — the regenerated shape of the pool's admission path = the order of checks of the hand model

`Model/Pool.lean` writes `TxPool.addCore` (`TransactionPool::add_to_pool` after the stem-duplicate
redirect), `Pool.addToPool`, `validateRawTx` as chains of `if` / `match`.  Here each of them is
shown — for ALL inputs — to be the "first failing stage" interpreter over an explicit LIST of named
stages (followed, for the two `add_to_pool`s, by the state change once every stage has passed), and
the names of the list, in order, are shown (`decide`) to be the error spine tools/gen_pipeshape.py
reads from the CURRENT source (`Gen/PipeShapePool.lean`).  A check that is dropped, moved (the seeded
changes C14-A "fee check before de-aggregation", C14-D "validate once", C13-J "maturity gate moved up
front" are of this kind) or added in the code breaks a `*_shape_is_model` theorem; a change of the
model's order breaks a `*_stages` theorem. -/
namespace GV.Props.C14Shape
open GV GV.Pool GV.Gen.PipeShape GV.Props.XlateShape

/-- first failing stage of a list of named checks -/
def firstFail {α : Type} (x : α) : List (String × (α → Option Err)) → Option Err
  | [] => none
  | s :: rest =>
    match s.2 x with
    | some e => some e
    | none => firstFail x rest

theorem firstFail_eq_findSome? {α : Type} (x : α) (l : List (String × (α → Option Err))) :
    firstFail x l = l.findSome? (·.2 x) := by
  induction l with
  | nil => rfl
  | cons a rest ih => rw [firstFail, List.findSome?_cons, ih]; cases a.2 x <;> rfl

/-! ## `Pool::validate_raw_tx` -/

def rawStages : List (String × (Ctx × Weighting × Tx → Option Err)) := [
  ("validate", fun i => (i.2.2.validate i.1 i.2.1).map viaPoolError),
  ("validate_tx", fun i => chainValidateTx i.1 i.2.2),
  -- `apply_tx_to_block_sums`: the kernel-sum arithmetic adds nothing in the opening model
  ("apply_tx_to_block_sums", fun _ => none) ]

theorem validateRawTx_stages (c : Ctx) (w : Weighting) (t : Tx) :
    validateRawTx c w t = firstFail (c, w, t) rawStages := by
  unfold validateRawTx
  simp only [rawStages, firstFail]
  cases t.validate c w with
  | some e => rfl
  | none =>
    simp only [Option.map_none]
    cases chainValidateTx c t <;> rfl

theorem validate_raw_tx_shape_is_model :
    readOk pool_validate_raw_tx = true ∧ spine pool_validate_raw_tx = rawStages.map (·.1) ∧
    earlyOks pool_validate_raw_tx = [] ∧ calls pool_validate_raw_tx = [] := by decide +kernel

/-! ## `Pool::add_to_pool` -/

structure PIn where
  c : Ctx
  p : Pool
  e : Entry
  extra : Option Tx

/-- `transaction::aggregate(&txs)` of pool ++ extra ++ new (the `txs.is_empty()` shortcut is the
single-transaction shortcut of `aggregate`) -/
def aggOf (i : PIn) : Except Err Tx := aggregate (i.p.txs ++ i.extra.toList ++ [i.e.tx])

def poolStages : List (String × (PIn → Option Err)) := [
  ("DuplicateTx", fun i => if i.p.txs.contains i.e.tx then some "DuplicateTx" else none),
  ("aggregate", fun i => match aggOf i with | .error er => some er | .ok _ => none),
  ("validate_raw_tx", fun i => match aggOf i with | .ok a => validateRawTx i.c .noLimit a | .error _ => none) ]

/-- **`Pool::add_to_pool` is its stage list**, then the push -/
theorem addToPool_stages (c : Ctx) (p : Pool) (e : Entry) (extra : Option Tx) :
    Pool.addToPool c p e extra =
      match firstFail ⟨c, p, e, extra⟩ poolStages with
      | some er => .error er
      | none => .ok (p ++ [e]) := by
  unfold Pool.addToPool
  simp only [poolStages, firstFail, aggOf]
  by_cases h1 : p.txs.contains e.tx = true
  · simp only [h1, if_true]
  · simp only [h1, Bool.false_eq_true, if_false]
    cases aggregate (p.txs ++ extra.toList ++ [e.tx]) with
    | error er => rfl
    | ok a =>
      simp only []
      cases validateRawTx c .noLimit a <;> rfl

theorem pool_add_to_pool_shape_is_model :
    readOk pool_add_to_pool = true ∧ spine pool_add_to_pool = poolStages.map (·.1) ∧
    earlyOks pool_add_to_pool = [] ∧
    -- what is not a check: building the list, logging, the push itself
    calls pool_add_to_pool = ["extend", "push", "log_pool_add", "push"] := by decide +kernel

/-! ## `Pool::reconcile` -/

/-- the model's `reconcile` is: start from the empty pool, `add_to_pool` every old entry in order,
dropping the result — exactly the two discarded calls of the code, no error propagated -/
theorem reconcile_is_fold (c : Ctx) (p : Pool) (extra : Option Tx) :
    Pool.reconcile c p extra =
      p.foldl (fun acc e => match Pool.addToPool c acc e extra with | .ok acc' => acc' | .error _ => acc) [] := rfl

theorem pool_reconcile_shape_is_model :
    readOk pool_reconcile = true ∧ spine pool_reconcile = [] ∧ earlyOks pool_reconcile = [] ∧
    calls pool_reconcile = ["clear", "add_to_pool"] ∧
    (pool_reconcile.steps.filter (·.name == "add_to_pool")).map (·.guard) = [["for $2"]] := by decide +kernel

/-! ## `TransactionPool::add_to_pool` -/

structure AIn where
  c : Ctx
  s : TxPool
  src : Src
  tx : Tx
  stem : Bool

/-- `let entry = if stem { PoolEntry::new(tx, src) } else { self.deaggregate_tx(..)? }` -/
def entryOf (i : AIn) : Except Err Entry :=
  if i.stem then .ok { tx := i.tx, src := i.src } else i.s.deaggregateTx { tx := i.tx, src := i.src }

def entryD (i : AIn) : Entry :=
  match entryOf i with
  | .ok e => e
  | .error _ => { tx := i.tx, src := i.src }

/-- `let acceptability = self.is_acceptable(tx, stem)` -/
def accOf (i : AIn) : Res := i.s.isAcceptable i.c (entryD i).tx i.stem

/-- `evict`: fluff path and `OverCapacity` -/
def evictOf (i : AIn) : Bool := !i.stem && accOf i == some "OverCapacity"

/-- `let extra_tx = if stem { self.txpool.all_transactions_aggregate(None)? } else { None }` -/
def extraOf (i : AIn) : Except Err (Option Tx) :=
  if i.stem then Pool.allAggregate i.c i.s.txpool none else .ok none

def extraD (i : AIn) : Option Tx :=
  match extraOf i with
  | .ok x => x
  | .error _ => none

/-- `let (spent_pool, spent_utxo) = if stem { stempool.locate_spends(..) } else { txpool.locate_spends(..) }?` -/
def spendsOf (i : AIn) : Except Err (List Nat × List Nat) :=
  if i.stem then i.s.stempool.locateSpends i.c (entryD i).tx (extraD i)
  else i.s.txpool.locateSpends i.c (entryD i).tx none

/-- the checks of `TransactionPool::add_to_pool` in the model's order -/
def coreStages : List (String × (AIn → Option Err)) := [
  ("DuplicateTx", fun i => if i.s.txpool.containsTx i.tx then some "DuplicateTx" else none),
  ("deaggregate_tx", fun i => match entryOf i with | .error er => some er | .ok _ => none),
  ("verify_kernel_variants", fun i => verifyKernelVariants i.c (entryD i).tx),
  ("acceptability", fun i => if !evictOf i && (accOf i).isSome then accOf i else none),
  ("validate", fun i => (entryD i).tx.validate i.c .asTransaction),
  ("verify_tx_lock_height", fun i =>
    if (entryD i).tx.lockHeight > i.c.head.height + 1 then some "ImmatureTransaction" else none),
  ("all_transactions_aggregate", fun i => match extraOf i with | .error er => some er | .ok _ => none),
  ("<if>", fun i => match spendsOf i with | .error er => some er | .ok _ => none),
  ("verify_coinbase_maturity", fun i =>
    match spendsOf i with
    | .ok (_, su) => if immatureCoinbase i.c su then some "ImmatureCoinbase" else none
    | .error _ => none),
  -- `convert_tx_v2` re-validates the same transaction: nothing new in the model
  ("convert_tx_v2", fun _ => none) ]

/-- what `add_to_pool` does once every check has passed: stempool (and the relay's answer), else
txpool + stempool reconciliation, reorg cache, eviction -/
def admitEntry (c : Ctx) (s : TxPool) (entry : Entry) (extra : Option Tx) (evict stem stemOk : Bool) : TxPool × Res :=
  let stemStep : Except Err (TxPool × Bool) :=
    if stem then
      match Pool.addToPool c s.stempool entry extra with
      | .error er => .error er
      | .ok sp => .ok ({ s with stempool := sp }, stemOk)
    else .ok (s, false)
  match stemStep with
  | .error er => (s, some er)
  | .ok (s1, true) => (s1, none)
  | .ok (s1, false) =>
    match s1.addToTxpool c entry with
    | (s2, some er) => (s2, some er)
    | (s2, none) =>
      let s3 := s2.addToReorgCache c entry
      if evict then ({ s3 with txpool := s3.txpool.evict c }, none) else (s3, none)

theorem admitEntry_eq (c : Ctx) (s : TxPool) (entry : Entry) (extra : Option Tx) (stem stemOk : Bool) :
    admitEntry c s entry extra (!stem && decide (s.txpool.length > c.cfg.maxPool)) stem stemOk =
      admitInto c s entry extra stem stemOk := by
  unfold admitEntry admitInto admitTx
  cases stem with
  | false => rfl
  | true =>
    simp only [if_true]
    cases Pool.addToPool c s.stempool entry extra with
    | error er => rfl
    | ok sp => cases stemOk <;> rfl

/-- **`TransactionPool::add_to_pool` (after the stem-duplicate redirect) is its stage list**: the
first failing check answers and leaves the pool untouched; when all pass, `admitEntry` -/
theorem addCore_stages (c : Ctx) (s : TxPool) (src : Src) (tx : Tx) (stem stemOk : Bool) :
    s.addCore c src tx stem stemOk =
      match firstFail (⟨c, s, src, tx, stem⟩ : AIn) coreStages with
      | some er => (s, some er)
      | none =>
        admitEntry c s (entryD ⟨c, s, src, tx, stem⟩) (extraD ⟨c, s, src, tx, stem⟩) (evictOf ⟨c, s, src, tx, stem⟩)
          stem stemOk := by
  -- the walk down `addCore` is `GV.Pool.addCore_eq_checks`; the stage list holds the same checks, by `rfl`
  have hl : coreStages.map (·.2 (⟨c, s, src, tx, stem⟩ : AIn)) = checks c s src tx stem ++ [none] := rfl
  have hff : firstFail (⟨c, s, src, tx, stem⟩ : AIn) coreStages = (checks c s src tx stem).findSome? id := by
    have := List.findSome?_map (f := (·.2 (⟨c, s, src, tx, stem⟩ : AIn))) (p := id) (l := coreStages)
    rw [hl, List.findSome?_append] at this
    rw [firstFail_eq_findSome?]
    exact this.symm.trans (by simp)
  rw [addCore_eq_checks, hff]
  cases hf : (checks c s src tx stem).findSome? id with
  | some er => rfl
  | none =>
    have hacc := List.findSome?_eq_none_iff.mp hf _ (by simp only [checks, List.mem_cons, true_or, or_true] :
      (if !(!stem && GV.Pool.accOf c s src tx stem == some "OverCapacity") && (GV.Pool.accOf c s src tx stem).isSome
        then GV.Pool.accOf c s src tx stem else none) ∈ checks c s src tx stem)
    show admitInto c s (GV.Pool.entryD s src tx stem) (GV.Pool.extraD c s stem) stem stemOk =
      admitEntry c s (GV.Pool.entryD s src tx stem) (GV.Pool.extraD c s stem)
        (!stem && s.isAcceptable c (GV.Pool.entryD s src tx stem).tx stem == some "OverCapacity") stem stemOk
    rw [(isAcceptable_pass (guard_isSome_none hacc)).2.2, admitEntry_eq]

/-- the names the code's error spine must show, in order: the stem-duplicate redirect (a tail call of
`add_to_pool` itself: `TxPool.addToPool`), the stages, then the two admissions -/
def modelSpine : List String :=
  ["add_to_pool"] ++ coreStages.map (·.1) ++ ["add_to_stempool", "add_to_txpool"]

/-- the code's spine without the closure inside the coinbase filter (`.filter(|x| x.is_coinbase())`: the
model's `immatureCoinbase` looks at coinbase outputs only) -/
def codeSpine : List String := (spine tpool_add_to_pool).filter (· != "is_coinbase")

/-- **shape = model**: the order of checks read from the current source of
`TransactionPool::add_to_pool` is the order of the model's stage list -/
theorem add_to_pool_shape_is_model : readOk tpool_add_to_pool = true ∧ codeSpine = modelSpine := by decide +kernel

/-- the only early `Ok` is "stem and the relay took it" (`admitEntry`: `.ok (s1, true) => (s1, none)`), after every
check and after `add_to_stempool`; the discarded calls are the three of `admitEntry`'s last branch, the eviction under
the `evict` flag -/
theorem add_to_pool_tail_is_admission :
    earlyOks tpool_add_to_pool = [["$2", "self.adapter.stem_tx_accepted($13).is_ok()"]] ∧
    (spineBeforeFirstEarlyOk tpool_add_to_pool).filter (· != "is_coinbase") =
      ["add_to_pool"] ++ coreStages.map (·.1) ++ ["add_to_stempool"] ∧
    calls tpool_add_to_pool = ["add_to_reorg_cache", "tx_accepted", "evict_from_txpool"] ∧
    (tpool_add_to_pool.steps.filter (·.name == "evict_from_txpool")).map (·.guard) = [["$7"]] ∧
    -- the stem-only and the fluff-only checks
    under "$2" tpool_add_to_pool = ["all_transactions_aggregate", "add_to_stempool"] ∧
    under "!($2)" tpool_add_to_pool = ["deaggregate_tx"] := by
  decide +kernel

/-- `add_to_txpool`: add, aggregate, reconcile the stempool — the model's `TxPool.addToTxpool` in this order -/
theorem add_to_txpool_shape_is_model :
    readOk tpool_add_to_txpool = true ∧
    spine tpool_add_to_txpool = ["add_to_pool", "all_transactions_aggregate", "reconcile"] := by decide +kernel

/-! ## what an admission implies, read off the stage list -/

theorem firstFail_none {α : Type} {x : α} {l : List (String × (α → Option Err))} (h : firstFail x l = none) :
    ∀ st ∈ l, st.2 x = none :=
  List.findSome?_eq_none_iff.mp (firstFail_eq_findSome? x l ▸ h)

/-- an admitted transaction passed EVERY stage -/
theorem admitted_passes_every_stage {c : Ctx} {s : TxPool} {src : Src} {tx : Tx} {stem stemOk : Bool}
    (h : (s.addCore c src tx stem stemOk).2 = none) :
    ∀ st ∈ coreStages, st.2 (⟨c, s, src, tx, stem⟩ : AIn) = none := by
  rw [addCore_stages] at h
  cases hf : firstFail (⟨c, s, src, tx, stem⟩ : AIn) coreStages with
  | some er => rw [hf] at h; simp at h
  | none => exact firstFail_none hf

/-- **the hard-fork gate of `verify_kernel_variants`**: a transaction that is admitted (in the form in
which it is pooled: after de-aggregation on the fluff path) and carries an NRD kernel was admitted with the
feature on and a head of header version ≥ 4 -/
theorem nrd_admitted_needs_version_4 {c : Ctx} {s : TxPool} {src : Src} {tx : Tx} {stem stemOk : Bool}
    (h : (s.addCore c src tx stem stemOk).2 = none)
    (hn : (entryD ⟨c, s, src, tx, stem⟩).tx.hasNrd = true) :
    c.cfg.nrdEnabled = true ∧ 4 ≤ c.ver := by
  have := admitted_passes_every_stage h ("verify_kernel_variants", fun i => verifyKernelVariants i.c (entryD i).tx)
    (by simp [coreStages])
  obtain ⟨k, hk, hkn⟩ := (hasNrd_iff _).mp hn
  have := (verifyKernelVariants_none_iff c _).mp this k hk
  simp only [PKer.refusedVariant, hkn, Bool.true_and, Bool.or_eq_false_iff, Bool.not_eq_false',
    decide_eq_false_iff_not, Nat.not_lt] at this
  exact this

theorem headerVersion_mono (p : GV.Chain.Params) {h h' : Nat} (hle : h ≤ h') :
    GV.Chain.headerVersion p h ≤ GV.Chain.headerVersion p h' :=
  GV.Chain.headerVersion_mono p hle

/-- … hence the block it can be mined into - the NEXT block, whose version is at least the head's -
has header version ≥ 4: block validation (`NRDKernelPreHF3`) does not refuse it for that reason -/
theorem nrd_admitted_next_block_version {c : Ctx} {s : TxPool} {src : Src} {tx : Tx} {stem stemOk : Bool}
    (P : GV.Chain.Params) (hver : c.ver = GV.Chain.headerVersion P c.head.height)
    (h : (s.addCore c src tx stem stemOk).2 = none)
    (hn : (entryD ⟨c, s, src, tx, stem⟩).tx.hasNrd = true) :
    4 ≤ GV.Chain.headerVersion P (c.head.height + 1) := by
  have h4 := (nrd_admitted_needs_version_4 h hn).2
  have hm : GV.Chain.headerVersion P c.head.height ≤ GV.Chain.headerVersion P (c.head.height + 1) :=
    headerVersion_mono P (Nat.le_add_right _ 1)
  omega

/-- non-vacuity: an NRD transaction on a head of version 4 passes the gate stage; on version 3 it does not -/
example :
    let t : Tx := { ins := [1], outs := [2], kers := [{ kid := 1, ker := .nrd 100 2 "K" }] }
    verifyKernelVariants { ver := 4 } t = none ∧ verifyKernelVariants { ver := 3 } t = some "NRDKernelPreHF3" := by decide +kernel

/-- non-vacuity: a stage list run on a concrete input (a low-fee transaction stops at `acceptability`) -/
example : firstFail (⟨{}, {}, .broadcast, { ins := [1], outs := [2], kers := [{ kid := 1, ker := .plain 0 }] }, false⟩ : AIn)
    coreStages = some "LowFee" := by decide +kernel

end GV.Props.C14Shape
