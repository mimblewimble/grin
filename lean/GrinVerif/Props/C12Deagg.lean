import GrinVerif.Lemmas.TxDeagg
/-! # C12 — `deaggregate` when the known subset and the remainder DO spend each other's outputs

`deaggregate_inverse` (Props/C12.lean) covers operands that share nothing and have no spend link.
Here the link is allowed: a known transaction may spend an output of the remainder or the other way
round (the pair was cut through in the multi-kernel transaction). -/
namespace GV.Props.C12
open GV GV.Tx GV.Tx.Ex List

/-- **what `deaggregate` returns in general** (normal operands, no commitment twice among the
inputs, none twice among the outputs, no kernel twice; spend links between the known subset `A` and
the remainder `B` allowed): never an error; kernels and offset are those of the remainder; the
inputs are the remainder's inputs that spend nothing created inside `A ++ B`; the outputs are the
remainder's outputs that nothing inside `A ++ B` spends.  So a link between `A` and `B` does not make
`deaggregate` fail — it silently returns the remainder with both ends of every such link removed
(the input of `B` that spends an output of `A`, the output of `B` that `A` spends), a transaction
whose kernel-sum equation no longer holds. -/
theorem deaggregate_general {K : Keys} {A B : List Tx} {mk a : Tx} (kinj : KInj K)
    (hn : ∀ t ∈ A ++ B, Normal K t)
    (ndI : (allIns K (A ++ B)).Nodup) (ndO : ((allOuts (A ++ B)).map outCommit).Nodup)
    (ndK : (allKers (A ++ B)).Nodup)
    (hmk : aggregate K (A ++ B) = .ok mk) (hA : aggregate K A = .ok a) :
    deaggregate K mk A = .ok
      ⟨(toSecrets (allOffs B)).sum % N, false,
       sortBy K.ik ((allIns K B).filter fun x => !((allOuts (A ++ B)).map outCommit).contains x),
       sortBy K.ok ((allOuts B).filter fun o => !(allIns K (A ++ B)).contains (outCommit o)),
       sortBy K.kk (allKers B)⟩ :=
  deaggregate_linked kinj hn ndI (nodup_of_nodup_map _ ndO) ndK (fun x _ => nodup_iff_count.1 ndO x) hmk hA

/-- … compared with the remainder: the result's inputs / outputs are those of `aggregate B` with the
inputs that spend an output of `A` and the outputs that `A` spends removed (so it is the remainder
exactly when there is no spend link into or out of the known subset). -/
theorem deaggregate_vs_remainder {K : Keys} {A B : List Tx} {mk a b : Tx} (kinj : KInj K)
    (hn : ∀ t ∈ A ++ B, Normal K t)
    (ndI : (allIns K (A ++ B)).Nodup) (ndO : ((allOuts (A ++ B)).map outCommit).Nodup)
    (ndK : (allKers (A ++ B)).Nodup)
    (hmk : aggregate K (A ++ B) = .ok mk) (hA : aggregate K A = .ok a) (hB : aggregate K B = .ok b) :
    ∃ r, deaggregate K mk A = .ok r ∧ r.offset = b.offset ∧ r.kernels = b.kernels ∧
      (∀ x, x ∈ r.inputs ↔ x ∈ b.inputs ∧ x ∉ (allOuts A).map outCommit) ∧
      (∀ o, o ∈ r.outputs ↔ o ∈ b.outputs ∧ outCommit o ∉ allIns K A) := by
  have hnB : ∀ t ∈ B, Normal K t := fun t ht => hn t (mem_append_right _ ht)
  rw [aggregate_eq_full hnB] at hB
  have ab := aggregateFull_ok hB
  have bi := ab.inputs
  have bout := ab.outputs
  refine ⟨_, deaggregate_general kinj hn ndI ndO ndK hmk hA, ab.offset.symm, ab.kernels.symm, ?_, ?_⟩
  · intro x
    have ndIB : (allIns K B).Nodup := by rw [allIns_append] at ndI; exact (nodup_append.1 ndI).2.1
    simp only [bi, cutOf, mem_sortBy, mem_filter, mem_merged_ins_iff fun c _ => nodup_iff_count.1 ndIB c, allOuts_append, map_append, mem_append,
      Bool.not_eq_true', List.contains_eq_mem, decide_eq_false_iff_not, not_or]
    constructor
    · rintro ⟨h1, h2, h3⟩; exact ⟨⟨h1, h3⟩, h2⟩
    · rintro ⟨⟨h1, h3⟩, h2⟩; exact ⟨h1, h2, h3⟩
  · intro o
    have ndOB' : ((allOuts B).map outCommit).Nodup := by
      rw [allOuts_append, map_append] at ndO; exact (nodup_append.1 ndO).2.1
    simp only [bout, cutOf, mem_sortBy, mem_filter, mem_merged_outs_iff fun x _ => nodup_iff_count.1 ndOB' x, allIns_append, mem_append,
      Bool.not_eq_true', List.contains_eq_mem, decide_eq_false_iff_not, not_or]
    constructor
    · rintro ⟨h1, h2, h3⟩; exact ⟨⟨h1, h3⟩, h2⟩
    · rintro ⟨⟨h1, h3⟩, h2⟩; exact ⟨h1, h2, h3⟩

/-- the hypotheses are satisfiable and the link really is dropped: `t2` spends commitment 5, the
output of `t1`.  De-aggregating `t1` out of their aggregate gives `t2` WITHOUT its input, and
de-aggregating `t2` gives `t1` WITHOUT its output — neither is the remainder. -/
example : aggregate K0 [t1, t2] = .ok ⟨3, false, [1], [12], [0, 2]⟩ := aggregate_t1_t2
example : deaggregate K0 ⟨3, false, [1], [12], [0, 2]⟩ [t1] = .ok ⟨2, false, [], [12], [2]⟩ := by tx_eval
example : deaggregate K0 ⟨3, false, [1], [12], [0, 2]⟩ [t2] = .ok ⟨1, false, [1], [], [0]⟩ := by tx_eval

end GV.Props.C12
