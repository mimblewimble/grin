import GrinVerif.Lemmas.CodecTimed
import GrinVerif.Lemmas.CodecWriter
/-! # C19 — peer message framing is faithful under fragmentation and enforces size limits

Model: `Model/Codec.lean` (the `Codec` state machine of `p2p/src/codec.rs` over a socket that is a
list of fragments; `msg::read_message`; the handshake decisions of `p2p/src/handshake.rs`),
`Model/Msg.lean` (frame header, limits from the regenerated `Gen/Msg.lean`), `Model/CodecSpec.lean`
(what is sent, what must be delivered).  The body decoders (`env.decBody`) and the header item
decoder (`env.decItem`) are parameters: the theorems hold for every body layer that satisfies the
stated round-trip hypotheses (`SentWF`), in particular for the native bodies of `Model/Msg.lean`.

* `frag_irrelevant` — whatever the fragmentation, the reader loop returns the same messages, ends
  the same way and leaves the codec in the same state as on the unfragmented stream;
* `framing_faithful` — every list of well-formed sent messages (plain bodies of every dispatched
  type, unknown types, `Headers` lists of 0 … 65535 items delivered in batches of 32 with the right
  `remaining`, messages followed by attachment bytes delivered in chunks of ≤ 48 000) is read back as
  exactly the expected sequence, under every fragmentation; the loop then ends with
  `Error::Connection` (end of stream) with the codec idle and nothing buffered;
* `refuse_wrong_magic`, `refuse_too_large` — a frame whose magic is wrong or whose announced length
  exceeds `4 × max_msg_size(type)` (`4 × default` for unknown types) is refused with exactly the 11
  header bytes read and 11 bytes requested from the allocator, under every fragmentation;
* `headers_zero_count_refused`, `headers_remaining_no_wrap` — a frame announcing 0 items but carrying some
  is refused with `BadMessage` before any item is decoded; `remaining` of a delivered batch never wraps
  (the guard `*bytes_left == 0 || *items_left == 0` of /repo 8eb131841);
* `headers_empty_delivered` — the empty list `Headers { headers: vec![] }` is read as one empty batch
  (the code since /repo 11bd5ac16), and `framing_faithful` / `fragmentation_with_delays_faithful` /
  `fragmentation_with_idle_gaps_faithful` cover EVERY `Headers` list of 0 … 65535 items;
* `headers_count_without_items_refused` — a count > 0 with length 2 is refused;
* `headers_never_read_beyond` — while streaming a `Headers` body the codec never pulls bytes beyond the
  announced `msg_len`, whatever the count says;
* `negotiate_min`, `accept_*`, `initiate_*`, `own_nonce_detected` — handshake decisions;
* `ring_holds_last`, `recent_nonce_retained`, `self_connect_refused`, `evicted_nonce_not_detected` —
  the nonce ring of one long-lived `Handshake` over any history of outbound attempts: it holds exactly
  the last `min(n, NONCES_CAP − 1)` nonces (the code pops when `len >= NONCES_CAP`, so 99, not 100),
  hence a connection to itself made now is refused whatever happened before;
* `body_states_use_body_timeout`, `timeout_table` — the read timeout per codec state (table
  regenerated from `set_stream_timeout` into `Gen/CodecTimeouts.lean`): `HEADER_IO_TIMEOUT` only
  while idle in `None`, `BODY_IO_TIMEOUT` in every state reachable after an accepted message header,
  streaming states included;
* `fragmentation_with_delays_faithful` — `framing_faithful` over the **timed** machine (`runT`: every
  byte carries the time it lets the reader wait; a wait ≥ the timeout of the current state makes the
  fill fail with `TimedOut` and lose what it had pulled): for every fragment schedule whose pauses
  respect the per-state timeout (`DelaysOK`: < 2 s while a frame header is awaited, < 60 s anywhere
  after it) the expected sequence is delivered; `fragmentation_small_delays_faithful` (all pauses
  < 2 s), `fragmentation_with_idle_gaps_faithful` (in addition pauses of ANY length between messages:
  the reads that time out while idle lose nothing and are retried), `idle_pause_absorbed`;
* `attachment_chunks_exact`, `attachment_step` — the attachment streamed after a message: the
  `Attachment(left)` state as a sub-state machine (`attStep`); for every size the updates are full
  48 000-byte chunks with something left followed by exactly one update with `left = 0` (one empty update
  for size 0), they add up to the attachment, and the codec is back to reading a message header exactly
  after that last update — also when it is a full chunk;
* `try_break_classes`, `refused_header_ends_stream` (+ `wrong_magic_ends_stream`,
  `too_large_ends_stream`, `refused_header_ends_stream_timed`), `body_decode_error_ends_stream` — at
  connection level: the reader loop of `conn::poll` follows `tryBreak` (`try_break!`): every error class
  of the codec but a read timeout ends the stream.  A refused frame header ends it with NOTHING of the
  announced body interpreted — whatever those bytes spell, e.g. complete valid frames — and a body that
  does not decode (`CorruptedData` …) is consumed completely and ends it too (the code closes rather
  than skips; pinned here and on the real `Peer`);
* `codec_read_no_panic`, `codec_read_no_hang`, `codec_read_alloc_bound` — the C11 obligations of the
  state machine itself;
* also `frag_irrelevant_read`, `read_with_tolerated_waits`, `handshake_consumes_exactly`,
  `handshake_surplus_is_drained`, `headers_excess_refused`, `loop_follows_try_break`,
  `accept_decision_complete`, `version_extremes`, `self_check_ignores_addresses`.

Timing, what is **not** proved: that the operating system's `SO_RCVTIMEO` behaves as `rxT` says (one
timer per `read` call, restarted by every byte that arrives), and liveness (the handshake timeouts,
10 s / 2 s on the plain socket, are in `Props/C19Send.lean`).  A timeout in the *middle* of a frame header, or a
pause ≥ 60 s inside a body, discards the bytes already pulled (`buffer.truncate(pre_len)`) and the
next `read` starts mid-frame — that is outside "within the I/O timeouts" (`header_pause_desyncs`). -/
namespace GV.Props.C19
open GV GV.Ser GV.Dec GV.Msg GV.Codec GV.Gen.Msg

variable {B H : Type}

/-- **fragmentation is irrelevant**: messages, way of ending and final codec state are those of the
unfragmented stream -/
theorem frag_irrelevant (env : Env B H) (attach : Message B H → Option Nat) (fuel : Nat) (c : Codec H)
    (frags : List Bytes) :
    (run env fragOps attach fuel c frags).1 = (run env fragOps attach fuel c [frags.flatten]).1 ∧
    (run env fragOps attach fuel c frags).2.1 = (run env fragOps attach fuel c [frags.flatten]).2.1 ∧
    (run env fragOps attach fuel c frags).2.2.1 = (run env fragOps attach fuel c [frags.flatten]).2.2.1 := by
  obtain ⟨a1, a2, a3, _⟩ := run_sim env sim_frag_frag attach fuel c frags [frags.flatten] (by simp)
  exact ⟨a1, a2, a3⟩

/-- the same for a single `Codec::read`, including its byte and allocation counters -/
theorem frag_irrelevant_read (env : Env B H) (c : Codec H) (frags : List Bytes) :
    (read env fragOps c frags).res = (read env fragOps c [frags.flatten]).res ∧
    (read env fragOps c frags).bytesRead = (read env fragOps c [frags.flatten]).bytesRead ∧
    (read env fragOps c frags).alloc = (read env fragOps c [frags.flatten]).alloc ∧
    (read env fragOps c frags).codec = (read env fragOps c [frags.flatten]).codec ∧
    (read env fragOps c frags).sock.flatten = (read env fragOps c [frags.flatten]).sock.flatten :=
  read_sim env sim_frag_frag c frags [frags.flatten] (by simp)

/-- **framing is faithful**: for every list of well-formed sent messages and every way of cutting
their byte stream into fragments, the reader loop delivers exactly the expected sequence of typed
messages, then ends at the end of the stream with the codec idle and nothing buffered or unread -/
theorem framing_faithful (env : Env B H) (attach : Message B H → Option Nat) (hat : AttachOK attach)
    (msgs : List (Sent B H)) (hwf : ∀ m ∈ msgs, SentWF env attach m)
    (frags : List Bytes) (hfr : frags.flatten = (msgs.map (encodeSent env.net)).flatten) (extra : Nat) :
    let r := run env fragOps attach ((msgs.map expected).flatten.length + (extra + 1)) idle frags
    r.1 = (msgs.map expected).flatten ∧ r.2.1 = .err .conn ∧ r.2.2.1 = idle ∧ r.2.2.2.flatten = [] := by
  intro r
  obtain ⟨a1, a2, a3, a4⟩ := run_sim env sim_frag_flat attach
    ((msgs.map expected).flatten.length + (extra + 1)) idle frags _ hfr
  have hf := framing_faithful_flat env attach hat msgs hwf extra
  rw [hf] at a1 a2 a3 a4
  exact ⟨a1, a2, a3, a4⟩

/-- a concrete receiving node for the non-vacuity examples: every body decodes to its own bytes,
a header item is one byte -/
def exEnv : Env Bytes Nat :=
  { net := netAutomatedTesting, hdrMax := 310, hdrMem := 400,
    decBody := fun _ raw => .ok raw, decItem := readU8 }

/-- the hypotheses of `framing_faithful` are satisfiable: a ping-like frame, an unknown type, a
`Headers` list of two items, the EMPTY `Headers` list and an archive with 3 attachment bytes -/
example : ∀ m ∈ [Sent.plain 3 [1, 2] [1, 2], Sent.unknown 200 [9], Sent.headers [(7, [7]), (8, [8])],
                  Sent.headers [], Sent.archive 17 [5] [5] [1, 2, 3]],
    SentWF exEnv (fun m => match m with | .body 17 _ => some 3 | _ => none) m := by
  intro m hm
  simp only [List.mem_cons, List.mem_nil_iff, or_false] at hm
  rcases hm with rfl | rfl | rfl | rfl | rfl
  · exact ⟨by decide, by decide, by decide, rfl, rfl⟩
  · exact ⟨by decide, by decide, by decide⟩
  · refine ⟨by decide, by decide, by decide, ?_⟩
    intro it hit
    simp only [List.mem_cons, List.mem_nil_iff, or_false] at hit
    rcases hit with rfl | rfl <;> exact ⟨by decide, by decide, fun x => rfl⟩
  · exact ⟨by decide, by decide, by decide, fun it hit => by cases hit⟩
  · exact ⟨by decide, by decide, by decide, rfl, rfl⟩

/-- what must be delivered for the empty list: one empty batch with nothing remaining -/
example : expected (Sent.headers (B := Bytes) ([] : List (Nat × Bytes))) = [Message.headers [] 0] := rfl

/-- the codec states reachable after a message header was accepted and before the message (with its
streamed items / attachment) is finished: the loop continued out of `None`, continued further,
returned a batch or chunk with more to come, or the handler announced an attachment; the buffer is
whatever the fills made it -/
inductive InMessage (env : Env B H) : Codec H → Prop
  | accepted (buf : Bytes) (nl : Nat) (c' : Codec H) (a : Nat) :
      stepState env { buffer := buf, state := .none } nl = .inr (c', a) → InMessage env c'
  | continued (c : Codec H) (buf : Bytes) (nl : Nat) (c' : Codec H) (a : Nat) :
      InMessage env c → stepState env { c with buffer := buf } nl = .inr (c', a) → InMessage env c'
  | delivered (c : Codec H) (buf : Bytes) (nl : Nat) (m : Message B H) (c' : Codec H) (a : Nat) :
      InMessage env c → stepState env { c with buffer := buf } nl = .inl (.msg m, c', a) →
      c'.state ≠ .none → InMessage env c'
  | attachment (c : Codec H) (size : Nat) (c' : Codec H) :
      expectAttachment c size = some c' → InMessage env c'

theorem InMessage.state_ne_none {env : Env B H} {c : Codec H} (h : InMessage env c) : c.state ≠ .none := by
  induction h with
  | accepted buf nl c' a h => exact stepState_inr_state env _ nl c' a h
  | continued c buf nl c' a _ h _ => exact stepState_inr_state env _ nl c' a h
  | delivered c buf nl m c' a _ _ hne _ => exact hne
  | attachment c size c' h => exact expectAttachment_state c c' size h

/-- **every state reachable after an accepted message header reads with `BODY_IO_TIMEOUT`**
(`Header(..)`, the streamed `BlockHeaders { .. }`, `Attachment(..)`), and `HEADER_IO_TIMEOUT` is used
in state `None` only.  The table is the one `tools/gen_codec_timeouts.py` extracts from
`Codec::set_stream_timeout`. -/
theorem body_states_use_body_timeout (env : Env B H) :
    (∀ c : Codec H, InMessage env c → ioTimeout c.state = BODY_IO_TIMEOUT_MS) ∧
    (∀ st : State H, st ≠ .none → ioTimeout st = BODY_IO_TIMEOUT_MS) ∧
    (∀ st : State H, ioTimeout st = HEADER_IO_TIMEOUT_MS ↔ st = .none) := by
  refine ⟨fun c h => ioTimeout_body _ h.state_ne_none, ioTimeout_body, ?_⟩
  · intro st
    constructor
    · intro h
      by_cases hs : st = .none
      · exact hs
      · rw [ioTimeout_body _ hs] at h
        exact absurd h (Nat.ne_of_gt header_lt_body)
    · rintro rfl; rfl

/-- the table, state by state, with the durations of the source -/
theorem timeout_table :
    ioTimeout (State.none : State H) = 2000 ∧ (∀ h, ioTimeout (State.header h : State H) = 60000) ∧
    (∀ bl il hs, ioTimeout (State.blockHeaders bl il hs : State H) = 60000) ∧
    (∀ left, ioTimeout (State.attachment left : State H) = 60000) :=
  ⟨rfl, fun _ => rfl, fun _ _ _ => rfl, fun _ => rfl⟩

/-- every variant of the source's `enum State` (regenerated `StateKind`) is a state of the model: a
variant added to `codec.rs` breaks this match -/
theorem state_kinds_covered : ∀ k : GV.Gen.CodecTimeouts.StateKind, ∃ st : State Unit, st.kind = k
  | .sNone => ⟨.none, rfl⟩
  | .sHeader => ⟨.header (.known 0 0), rfl⟩
  | .sBlockHeaders => ⟨.blockHeaders 0 0 [], rfl⟩
  | .sAttachment => ⟨.attachment 0, rfl⟩

/-- `InMessage` is inhabited by each kind of body state: once the handler announced an attachment, after
the frame header of a `Ping`, in the middle of a `Headers` list -/
example : InMessage exEnv ({ buffer := [], state := .attachment 5 } : Codec Nat) :=
  .attachment { buffer := [], state := .none } 5 _ rfl

example : InMessage exEnv ({ buffer := [], state := .header (.known 3 2) } : Codec Nat) :=
  .accepted (encHeader exEnv.net 3 2) 11 _ 0 (by decide)

/-- the frame header of a `Headers` message of 2 items (2 + 2 body bytes), then its item count: the codec
is in the streaming state `BlockHeaders { bytes_left: 2, items_left: 2, .. }` -/
example : InMessage exEnv ({ buffer := [], state := .blockHeaders 2 2 [] } : Codec Nat) :=
  .continued { buffer := [], state := .header (.known T_Headers 4) } [0, 2] 2 _ (min 32 2 * 400)
    (.accepted (encHeader exEnv.net T_Headers 4) 11 _ 0 (by decide)) (by decide)

/-- a wait is tolerated in a state iff it is shorter than that state's timeout: 2.5 s is tolerated
anywhere after an accepted header and not while a header is awaited -/
example : tolerated (State.blockHeaders 100 3 ([] : List Nat)) 2500 = true ∧
    tolerated (State.attachment 7 : State Nat) 59999 = true ∧ tolerated (State.attachment 7 : State Nat) 60000 = false ∧
    tolerated (State.none : State Nat) 2500 = false ∧ tolerated (State.none : State Nat) 1999 = true := by decide

/-- **one `Codec::read` with tolerated waits** is the read on the flat stream: same result, byte and
allocation counters, codec, and the same bytes consumed — from any state, for any bytes -/
theorem read_with_tolerated_waits (env : Env B H) (c : Codec H) (ts : TStream)
    (hb : WaitsBelow BODY_IO_TIMEOUT_MS ts)
    (hh : c.state = .none → WaitsBelow HEADER_IO_TIMEOUT_MS (ts.take (MSG_HEADER_LEN - c.buffer.length))) :
    ∃ j, (readT env c ts).res = (read env flatOps c (tbytes ts)).res ∧
      (readT env c ts).bytesRead = (read env flatOps c (tbytes ts)).bytesRead ∧
      (readT env c ts).alloc = (read env flatOps c (tbytes ts)).alloc ∧
      (readT env c ts).codec = (read env flatOps c (tbytes ts)).codec ∧
      (readT env c ts).sock = ts.drop j ∧ (read env flatOps c (tbytes ts)).sock = tbytes (ts.drop j) := by
  obtain ⟨j, e1, e2⟩ := readT_flat env c ts hb hh
  exact ⟨j, by rw [e1], by rw [e1], by rw [e1], by rw [e1], by rw [e1], e2⟩

/-- **framing is faithful under fragmentation with pauses**: for every list of well-formed sent
messages and every schedule of fragments and pauses whose pauses respect the read timeout of the
state the codec is in while it waits (`DelaysOK`: shorter than `HEADER_IO_TIMEOUT` while one of the
11 frame-header bytes is awaited, shorter than `BODY_IO_TIMEOUT` anywhere after an accepted header —
body, item count, every streamed block header, every attachment chunk), the reader loop over the
timed stream delivers exactly the expected sequence of typed messages and ends at the end of the
stream, idle, with nothing buffered or unread; no read times out -/
theorem fragmentation_with_delays_faithful (env : Env B H) (attach : Message B H → Option Nat)
    (hat : AttachOK attach) (msgs : List (Sent B H)) (hwf : ∀ m ∈ msgs, SentWF env attach m)
    (sched : Sched) (hfr : (sched.map (·.2)).flatten = (msgs.map (encodeSent env.net)).flatten)
    (hd : DelaysOK env.net msgs (tagSched sched)) (extra : Nat) :
    let r := runT env attach ((msgs.map expected).flatten.length + (extra + 1)) idle (tagSched sched)
    r.1 = (msgs.map expected).flatten ∧ r.2.1 = .err .conn ∧ r.2.2.1 = idle ∧ r.2.2.2 = [] := by
  intro r
  have hr : r = _ := runT_conversation env attach hat msgs hwf (tagSched sched) (by rw [tbytes_tagSched, hfr]) hd extra
  rw [hr]
  exact ⟨rfl, rfl, rfl, rfl⟩

/-- in particular every schedule whose pauses are all shorter than `HEADER_IO_TIMEOUT` -/
theorem fragmentation_small_delays_faithful (env : Env B H) (attach : Message B H → Option Nat)
    (hat : AttachOK attach) (msgs : List (Sent B H)) (hwf : ∀ m ∈ msgs, SentWF env attach m)
    (sched : Sched) (hfr : (sched.map (·.2)).flatten = (msgs.map (encodeSent env.net)).flatten)
    (hsmall : ∀ p ∈ sched, p.1 < HEADER_IO_TIMEOUT_MS) (extra : Nat) :
    let r := runT env attach ((msgs.map expected).flatten.length + (extra + 1)) idle (tagSched sched)
    r.1 = (msgs.map expected).flatten ∧ r.2.1 = .err .conn ∧ r.2.2.1 = idle ∧ r.2.2.2 = [] := by
  apply fragmentation_with_delays_faithful env attach hat msgs hwf sched hfr
  apply delaysOK_of_small
  · rw [tbytes_tagSched, hfr]
  · exact waitsBelow_tagSched _ (by decide) sched hsmall

/-- **a pause of any length while the codec is idle loses nothing**: `w / HEADER_IO_TIMEOUT` reads time
out with nothing pulled (`try_break!` carries on), then the loop continues as if the wait had been
`w % HEADER_IO_TIMEOUT` -/
theorem idle_pause_absorbed (env : Env B H) (attach : Message B H → Option Nat) (w b : Nat) (s : TStream) (fuel : Nat) :
    runT env attach (w / HEADER_IO_TIMEOUT_MS + fuel) (idle : Codec H) ((w, b) :: s) =
      runT env attach fuel (idle : Codec H) ((w % HEADER_IO_TIMEOUT_MS, b) :: s) :=
  runT_idle_wait' env attach w b s fuel

/-- **… and with idle pauses of any length between messages** (`DelaysOKIdle`: as `DelaysOK`, but the
wait for the first byte of a frame is unbounded): `idleRetries` reads time out with nothing pulled and
are retried by the reader thread, everything is delivered exactly -/
theorem fragmentation_with_idle_gaps_faithful (env : Env B H) (attach : Message B H → Option Nat)
    (hat : AttachOK attach) (msgs : List (Sent B H)) (hwf : ∀ m ∈ msgs, SentWF env attach m)
    (sched : Sched) (hfr : (sched.map (·.2)).flatten = (msgs.map (encodeSent env.net)).flatten)
    (hd : DelaysOKIdle env.net msgs (tagSched sched)) (extra : Nat) :
    let r := runT env attach (idleRetries env.net msgs (tagSched sched) +
      ((msgs.map expected).flatten.length + (extra + 1))) idle (tagSched sched)
    r.1 = (msgs.map expected).flatten ∧ r.2.1 = .err .conn ∧ r.2.2.1 = idle ∧ r.2.2.2 = [] := by
  intro r
  have hr : r = _ :=
    runT_conversation_idle env attach hat msgs hwf (tagSched sched) (by rw [tbytes_tagSched, hfr]) hd extra
  rw [hr]
  exact ⟨rfl, rfl, rfl, rfl⟩

/-- satisfiable: a frame, 7.3 s of silence, a frame with a 2.5 s pause inside its body: three reads time
out while idle -/
example : DelaysOKIdle (B := Bytes) (H := Nat) exEnv.net [Sent.plain 3 [1, 2] [1, 2], Sent.unknown 200 [9, 9]]
    (tagSched [(0, encHeader exEnv.net 3 2 ++ [1, 2]), (7300, encHeader exEnv.net 200 2 ++ [9]), (2500, [9])]) ∧
    idleRetries (B := Bytes) (H := Nat) exEnv.net [Sent.plain 3 [1, 2] [1, 2], Sent.unknown 200 [9, 9]]
    (tagSched [(0, encHeader exEnv.net 3 2 ++ [1, 2]), (7300, encHeader exEnv.net 200 2 ++ [9]), (2500, [9])]) = 3 := by
  refine ⟨⟨?_, ?_, ?_, ?_, ?_⟩, ?_⟩
  · decide
  · decide
  · decide
  · decide
  · show _ = []
    rfl
  · decide

/-- the hypotheses of `fragmentation_with_delays_faithful` are satisfiable with a pause longer than
the header timeout inside a body: a 13-byte `Ping`-like frame written as header + first body byte,
a pause of 2.5 s, then the last body byte, then (after 1.9 s) an unknown frame in one piece -/
example : DelaysOK (B := Bytes) (H := Nat) exEnv.net [Sent.plain 3 [1, 2] [1, 2], Sent.unknown 200 [9]]
    (tagSched [(0, encHeader exEnv.net 3 2 ++ [1]), (2500, [2]), (1900, encHeader exEnv.net 200 1 ++ [9])]) := by
  refine ⟨?_, ?_, ?_, ?_, ?_⟩
  · decide
  · decide
  · decide
  · decide
  · show _ = []
    rfl

/-- … while a pause of 2 s or more in the *middle of a frame header* is outside the I/O timeouts:
the 5 header bytes already pulled are dropped and the stream is desynchronised -/
theorem header_pause_desyncs :
    (runT exEnv (fun _ => none) 10 (idle : Codec Nat)
      (tagSched [(0, (encHeader exEnv.net 3 2).take 5), (2000, (encHeader exEnv.net 3 2).drop 5 ++ [1, 2])])).1
      ≠ [Message.body 3 [1, 2]] := by
  decide

/-- **the `Attachment(left, ..)` state is the sub-state machine `attStep`**: the chunk announced is
`min(left, 48 000)`; with that many bytes buffered the read returns an update carrying exactly them, with
`left' = left − chunk`; the state after it is `None` (message-header reading) iff `left' = 0`, i.e. iff
`left ≤ 48 000` — in particular after a *full* chunk when `left = 48 000` — and `Attachment(left')` otherwise -/
theorem attachment_step (env : Env B H) (left : Nat) (chunk : Bytes) (hc : chunk.length = min left ATTACHMENT_CHUNK) :
    nextLen env (State.attachment left : State H) = min left 48000 ∧
    stepState env ({ buffer := chunk, state := .attachment left } : Codec H) (nextLen env (State.attachment left : State H)) =
      .inl (.msg (.attachment (min left 48000) (left - min left 48000) chunk),
            { buffer := [], state := if left ≤ 48000 then .none else .attachment (left - 48000) }, 0) ∧
    ((attStep left).2 = none ↔ left ≤ 48000) := by
  have h48 : ATTACHMENT_CHUNK = 48000 := rfl
  have hs := stepState_attStep env left chunk hc
  refine ⟨rfl, ?_, ?_⟩
  · rw [hs]
    simp only [attStep, h48]
    by_cases hle : left ≤ 48000
    · simp [hle]
    · have h2 : min left 48000 = 48000 := by omega
      have h3 : ¬ left - 48000 = 0 := by omega
      simp [hle, h2, h3]
  · simp only [attStep, h48]
    by_cases hle : left ≤ 48000
    · simp [hle]
    · have h1 : ¬ left - min left 48000 = 0 := by omega
      simp [h1, hle]

example : attStep 0 = (0, none) ∧ attStep 1 = (1, none) ∧ attStep 47999 = (47999, none) ∧
    attStep 48000 = (48000, none) ∧ attStep 48001 = (48000, some 1) ∧ attStep 96000 = (48000, some 48000) ∧
    attChunkLens 5 0 = [0] ∧ attChunkLens 96001 96000 = [48000, 48000] ∧
    attChunkLens 96002 96001 = [48000, 48000, 1] ∧ attChunkLens 144001 144000 = [48000, 48000, 48000] := by decide

/-- **the chunks of an attachment are exact**, for every attachment `data` (of any size `n`) followed by
anything: reading from `Attachment(n)` the reader loop delivers full 48 000-byte updates that all
report something left, then exactly one update with `left = 0` (of `n mod 48 000` bytes, or a full one
when `n` is a positive multiple, or the single empty update when `n = 0`) and nothing more: it is then
idle in `None` with an empty buffer and `rest` unread.  The update lengths are those of the sub-state
machine `attStep`, each is ≤ 48 000 (the literal of `next_len`), they sum to `n`, and the bytes handed
over concatenate to `data` -/
theorem attachment_chunks_exact (env : Env B H) (attach : Message B H → Option Nat) (hat : AttachOK attach)
    (data rest : Bytes) :
    ∃ (pre : List (Message B H)) (last : Bytes),
      Chain env attach { buffer := [], state := .attachment data.length } (data ++ rest)
        (pre ++ [.attachment last.length 0 last]) idle rest ∧
      (∀ e ∈ pre, ∃ left b, e = .attachment 48000 left b ∧ b.length = 48000 ∧ left ≠ 0) ∧
      last.length ≤ 48000 ∧
      (pre.map attRead).sum + last.length = data.length ∧
      (pre.map attBytes).flatten ++ last = data ∧
      (pre ++ [Message.attachment last.length 0 last]).map attRead = attChunkLens (data.length + 1) data.length ∧
      (data = [] → pre = [] ∧ last = []) ∧
      GV.Gen.CodecTimeouts.ATTACHMENT_CHUNK_SRC = ATTACHMENT_CHUNK := by
  have h48 : ATTACHMENT_CHUNK = 48000 := rfl
  obtain ⟨pre, last, e1, e2, e3, e4, e5⟩ := attEvents_spec (B := B) (H := H) (data.length + 1) data (Nat.lt_succ_self _)
  have hch := (chain_attachment env attach hat rest (data.length + 1) data (Nat.lt_succ_self _)).chain
  rw [e1] at hch
  have hl := attEvents_lens (B := B) (H := H) (data.length + 1) data
  rw [e1] at hl
  refine ⟨pre, last, hch, ?_, by omega, e5, e4, hl, ?_, rfl⟩
  · intro e he
    obtain ⟨left, b, h1, h2, h3⟩ := e3 e he
    exact ⟨left, b, by rw [h1, h48], by rw [h2, h48], h3⟩
  · intro hd
    subst hd
    cases pre with
    | nil => exact ⟨rfl, by simpa using e4⟩
    | cons x xs =>
      obtain ⟨left, b, h1, h2, _⟩ := e3 x (by simp)
      rw [h1] at e5
      simp [attRead] at e5
      omega

/-- a frame header that `MsgHeaderWrapper::read` refuses: the error is returned after exactly the
11 header bytes were read and 11 bytes reserved; nothing of the announced body is read or
allocated; holds under every fragmentation of `hd ++ rest` -/
theorem refuse_at_header (env : Env B H) (hd rest : Bytes) (hl : hd.length = 11) (e : SerErr) (a0 : Nat)
    (hdec : decHeader env.net hd = .err e a0) (frags : List Bytes) (hfr : frags.flatten = hd ++ rest) :
    (read env fragOps idle frags).res = .err (.ser e) ∧ (read env fragOps idle frags).bytesRead = 11 ∧
    (read env fragOps idle frags).alloc = 11 ∧ (read env fragOps idle frags).codec = idle ∧
    (read env fragOps idle frags).sock.flatten = rest :=
  (Reads.header_err rest hl hdec).read_frag trivial hfr

/-- **wrong network magic** (either byte) ⇒ `UnexpectedData` after the header, nothing else read -/
theorem refuse_wrong_magic (env : Env B H) (b0 b1 : Nat) (tail rest : Bytes) (ht : tail.length = 9)
    (hm : b0 ≠ env.net.magic.1 ∨ b1 ≠ env.net.magic.2)
    (frags : List Bytes) (hfr : frags.flatten = (b0 :: b1 :: tail) ++ rest) :
    (read env fragOps idle frags).res = .err (.ser .unexpectedData) ∧
    (read env fragOps idle frags).bytesRead = 11 ∧ (read env fragOps idle frags).alloc = 11 ∧
    (read env fragOps idle frags).sock.flatten = rest := by
  have hdec := decHeader_wrong_magic env.net b0 b1 tail hm
  obtain ⟨h1, h2, h3, _, h5⟩ := refuse_at_header env (b0 :: b1 :: tail) rest (by simp [ht]) _ _ hdec frags hfr
  exact ⟨h1, h2, h3, h5⟩

/-- **announced length above the limit for its type** (`msg_len > max_msg_size(t) * 4`, or
`> default_max_msg_size() * 4` for an unknown type byte) ⇒ `TooLargeReadErr` with exactly the header
consumed and 11 bytes requested — the announced body is neither read nor allocated -/
theorem refuse_too_large (env : Env B H) (t len : Nat) (h64 : len < 2^64) (hbig : len > maxLen env.net t)
    (rest : Bytes) (frags : List Bytes) (hfr : frags.flatten = encHeader env.net t len ++ rest) :
    (read env fragOps idle frags).res = .err (.ser .tooLarge) ∧
    (read env fragOps idle frags).bytesRead = 11 ∧ (read env fragOps idle frags).alloc = 11 ∧
    (read env fragOps idle frags).sock.flatten = rest := by
  have hdec := decHeader_too_large env.net t len h64 hbig
  obtain ⟨h1, h2, h3, _, h5⟩ := refuse_at_header env _ rest (encHeader_length _ _ _) _ _ hdec frags hfr
  exact ⟨h1, h2, h3, h5⟩

/-- **`read_message` takes exactly the handshake message off the socket**: for a frame of the expected
(known) type whose length is within the limit it consumes the 11 header bytes and the `msg_len` body
bytes and nothing else, whatever the body decoder says — every byte written behind the `Hand` / `Shake`
in the same write is still there for the `Codec` that `Peer::accept` / `Peer::connect` start on the
same stream (and is then read faithfully: `framing_faithful`) -/
theorem handshake_consumes_exactly {α : Type} (net : NetCfg) (t : Nat) (dec : Dec α) (body rest : Bytes)
    (hk : isKnownType t = true) (hl : body.length ≤ maxLen net t) (h64 : body.length < 2^64) :
    (readMessage net t dec (encHeader net t body.length ++ (body ++ rest))).consumed = 11 + body.length ∧
    ((readMessage net t dec (encHeader net t body.length ++ (body ++ rest))).res =
      match dec body with
      | .ok v _ _ => .ok v
      | .err e _ => .error (.ser e)
      | .panic _ _ => .error .conn) := by
  have hs : splitExact MSG_HEADER_LEN (encHeader net t body.length ++ (body ++ rest)) =
      some (encHeader net t body.length, body ++ rest) := by
    have := splitExact_append (encHeader net t body.length) (body ++ rest)
    rwa [encHeader_length] at this
  have hdec := decHeader_known net t body.length h64 hl hk
  have hb : splitExact body.length (body ++ rest) = some (body, rest) := splitExact_append body rest
  unfold readMessage
  simp only [hs, hdec, if_true, hb]
  cases dec body <;> exact ⟨rfl, rfl⟩


/-- **a handshake message that announces MORE bytes than its fields occupy is taken off the socket whole**
(a newer peer that appended a field): whatever `k` surplus bytes `junk` follow the fields inside the announced
length, and whichever way the body parser works, `read_message` consumes the 11 header bytes and ALL
`fields.length + k` announced bytes, returns the value the parser finds in front, and the next frame starts
exactly at `rest` -/
theorem handshake_surplus_is_drained {α : Type} (net : NetCfg) (t : Nat) (dec : Dec α) (fields junk rest : Bytes)
    (v : α) (a : Nat) (hdec : dec (fields ++ junk) = .ok v junk a)
    (hk : isKnownType t = true) (hl : (fields ++ junk).length ≤ maxLen net t) (h64 : (fields ++ junk).length < 2^64) :
    (readMessage net t dec (encHeader net t (fields ++ junk).length ++ ((fields ++ junk) ++ rest))).consumed =
      11 + fields.length + junk.length ∧
    (readMessage net t dec (encHeader net t (fields ++ junk).length ++ ((fields ++ junk) ++ rest))).res = .ok v := by
  obtain ⟨h1, h2⟩ := handshake_consumes_exactly net t dec (fields ++ junk) rest hk hl h64
  refine ⟨by rw [h1, List.length_append]; omega, ?_⟩
  rw [h2, hdec]

/-- header items of DIFFERENT serialized sizes are within `framing_faithful`: a receiving node whose
items are a length byte followed by that many bytes, and a `Headers` list with items of 3, 1 and 5 bytes -/
example : ∀ m ∈ [Sent.headers [(2, [2, 7, 7]), (0, [0]), (4, [4, 1, 2, 3, 4])]],
    SentWF (B := Bytes) (H := Nat)
      { net := netAutomatedTesting, hdrMax := 310, hdrMem := 400, decBody := fun _ raw => .ok raw,
        decItem := fun bs => match bs with
          | n :: r => if n ≤ r.length then .ok (n, r.drop n) else .error .ioEof
          | [] => .error .ioEof }
      (fun _ => none) m := by
  intro m hm
  simp only [List.mem_cons, List.mem_nil_iff, or_false] at hm
  subst hm
  refine ⟨by decide, by decide, by decide, ?_⟩
  intro it hit
  simp only [List.mem_cons, List.mem_nil_iff, or_false] at hit
  rcases hit with rfl | rfl | rfl <;> exact ⟨by decide, by decide, fun x => by simp⟩

/-- the classes of `codec.read()` results and what the reader loop does with them: a message is
delivered, a read timeout is retried, every other error — `Serialization(UnexpectedData)`,
`Serialization(TooLargeReadErr)`, `Serialization(CorruptedData)`, …, `BadMessage`, `UnexpectedMessage`,
`Connection` — ends the stream -/
theorem try_break_classes (m : Message B H) (e : SerErr) (st : Site) :
    tryBreak (.msg m : Res B H) = .deliver ∧ tryBreak (.err .timedOut : Res B H) = .retry ∧
    tryBreak (.err (.ser e) : Res B H) = .leave ∧ tryBreak (.err .badMessage : Res B H) = .leave ∧
    tryBreak (.err .unexpectedMessage : Res B H) = .leave ∧ tryBreak (.err .conn : Res B H) = .leave ∧
    tryBreak (.panic st : Res B H) = .leave :=
  ⟨rfl, rfl, rfl, rfl, rfl, rfl, rfl⟩

/-- the loops of the model are driven by `tryBreak` and by nothing else -/
theorem loop_follows_try_break (env : Env B H) (attach : Message B H → Option Nat) (fuel : Nat) (c : Codec H)
    (s : TStream) :
    (tryBreak (readT env c s).res = .leave →
      runT env attach (fuel + 1) c s = ([], (readT env c s).res, (readT env c s).codec, (readT env c s).sock)) ∧
    (tryBreak (readT env c s).res = .retry →
      runT env attach (fuel + 1) c s = runT env attach fuel (readT env c s).codec (readT env c s).sock) :=
  ⟨runT_leave env attach fuel c s, runT_retry env attach fuel c s⟩

/-- **a refused frame header ends the stream**: when `MsgHeaderWrapper::read` refuses the 11 header
bytes, the reader loop delivers nothing, leaves with that error, and everything after the header —
the announced "body", whatever it spells, and all later frames — is still unread on the socket: no
hidden message is ever decoded, let alone answered.  Under every fragmentation. -/
theorem refused_header_ends_stream (env : Env B H) (attach : Message B H → Option Nat) (hd rest : Bytes)
    (hl : hd.length = 11) (e : SerErr) (a0 : Nat) (hdec : decHeader env.net hd = .err e a0)
    (frags : List Bytes) (hfr : frags.flatten = hd ++ rest) (fuel : Nat) :
    tryBreak (read env fragOps (idle : Codec H) frags).res = .leave ∧
    (run env fragOps attach (fuel + 1) idle frags).1 = [] ∧
    (run env fragOps attach (fuel + 1) idle frags).2.1 = .err (.ser e) ∧
    (run env fragOps attach (fuel + 1) idle frags).2.2.1 = idle ∧
    (run env fragOps attach (fuel + 1) idle frags).2.2.2.flatten = rest := by
  obtain ⟨h1, _, _, h4, h5⟩ := refuse_at_header env hd rest hl e a0 hdec frags hfr
  have hl' : tryBreak (read env fragOps (idle : Codec H) frags).res = .leave := by rw [h1]; rfl
  have hne : tryBreak (read env fragOps (idle : Codec H) frags).res ≠ .deliver := by rw [hl']; decide
  rw [run_leave env fragOps attach fuel idle frags hne]
  exact ⟨hl', rfl, h1, h4, h5⟩

/-- wrong network magic, followed by anything -/
theorem wrong_magic_ends_stream (env : Env B H) (attach : Message B H → Option Nat) (b0 b1 : Nat)
    (tail rest : Bytes) (ht : tail.length = 9) (hm : b0 ≠ env.net.magic.1 ∨ b1 ≠ env.net.magic.2)
    (frags : List Bytes) (hfr : frags.flatten = (b0 :: b1 :: tail) ++ rest) (fuel : Nat) :
    (run env fragOps attach (fuel + 1) (idle : Codec H) frags).1 = [] ∧
    (run env fragOps attach (fuel + 1) (idle : Codec H) frags).2.1 = .err (.ser .unexpectedData) ∧
    (run env fragOps attach (fuel + 1) (idle : Codec H) frags).2.2.2.flatten = rest := by
  have hdec := decHeader_wrong_magic env.net b0 b1 tail hm
  obtain ⟨_, h1, h2, _, h4⟩ := refused_header_ends_stream env attach (b0 :: b1 :: tail) rest (by simp [ht]) _ _ hdec
    frags hfr fuel
  exact ⟨h1, h2, h4⟩

/-- an announced length above the limit of its type, followed by anything (in particular by bytes that
spell complete valid frames: e.g. a `Ping` header announcing 65 bytes) -/
theorem too_large_ends_stream (env : Env B H) (attach : Message B H → Option Nat) (t len : Nat)
    (h64 : len < 2^64) (hbig : len > maxLen env.net t) (rest : Bytes) (frags : List Bytes)
    (hfr : frags.flatten = encHeader env.net t len ++ rest) (fuel : Nat) :
    (run env fragOps attach (fuel + 1) (idle : Codec H) frags).1 = [] ∧
    (run env fragOps attach (fuel + 1) (idle : Codec H) frags).2.1 = .err (.ser .tooLarge) ∧
    (run env fragOps attach (fuel + 1) (idle : Codec H) frags).2.2.2.flatten = rest := by
  have hdec := decHeader_too_large env.net t len h64 hbig
  obtain ⟨_, h1, h2, _, h4⟩ := refused_header_ends_stream env attach _ rest (encHeader_length _ _ _) _ _ hdec
    frags hfr fuel
  exact ⟨h1, h2, h4⟩

example : (65 : Nat) > maxLen exEnv.net T_Ping := by decide

/-- the same over the timed machine, when the 11
header bytes arrive within the header timeout -/
theorem refused_header_ends_stream_timed (env : Env B H) (attach : Message B H → Option Nat) (hd rest : Bytes)
    (hl : hd.length = 11) (e : SerErr) (a0 : Nat) (hdec : decHeader env.net hd = .err e a0)
    (ts : TStream) (hts : tbytes ts = hd ++ rest) (hb : WaitsBelow BODY_IO_TIMEOUT_MS ts)
    (hh : WaitsBelow HEADER_IO_TIMEOUT_MS (ts.take 11)) (fuel : Nat) :
    ∃ j, runT env attach (fuel + 1) (idle : Codec H) ts = ([], .err (.ser e), idle, ts.drop j) ∧
      tbytes (ts.drop j) = rest := by
  have hrd := Reads.header_err (env := env) rest hl hdec
  have e1 := hrd.readT nofun trivial hts ⟨waitsBelow_take hb 11, fun _ => hh⟩
  refine ⟨11, ?_, by rw [tbytes_drop, hts, ← (hrd.flat_sock nofun).2]⟩
  rw [runT_leave env attach fuel idle ts (by rw [e1]; rfl), e1]

/-- **a body that does not decode ends the stream too** (what the code does with a body-level error such as
`CorruptedData`: the property would allow skipping exactly that message; `try_break!` closes): header and
body are consumed completely — `bytes_read = 11 + msg_len` — nothing is delivered, the loop leaves with
the decoder's error, the codec is idle and the frames after it are unread -/
theorem body_decode_error_ends_stream (env : Env B H) (attach : Message B H → Option Nat) (t : Nat)
    (raw rest : Bytes) (e : SerErr) (hd : isDispatched t = true) (hl : raw.length ≤ maxLen env.net t)
    (h64 : raw.length < 2^64) (hb : env.decBody t raw = .error e)
    (frags : List Bytes) (hfr : frags.flatten = encHeader env.net t raw.length ++ (raw ++ rest)) (fuel : Nat) :
    (read env fragOps (idle : Codec H) frags).bytesRead = 11 + raw.length ∧
    (run env fragOps attach (fuel + 1) idle frags).1 = [] ∧
    (run env fragOps attach (fuel + 1) idle frags).2.1 = .err (.ser e) ∧
    (run env fragOps attach (fuel + 1) idle frags).2.2.1 = idle ∧
    (run env fragOps attach (fuel + 1) idle frags).2.2.2.flatten = rest := by
  have hrd := Reads.frame env t raw rest hd hl h64
  rw [hb] at hrd
  obtain ⟨a1, a2, _, a4, a5⟩ := hrd.read_frag trivial hfr
  have hne : tryBreak (read env fragOps (idle : Codec H) frags).res ≠ .deliver := by
    rw [a1]; intro h; cases h
  rw [run_leave env fragOps attach fuel idle frags hne]
  exact ⟨a2, rfl, a1, a4, a5⟩

/-- the limit is the table's, e.g. a `Ping` may announce 64 bytes but not 65, on every network -/
example : maxLen netMainnet T_Ping = 64 ∧ maxLen netAutomatedTesting T_Ping = 64 := by decide
example : maxLen netMainnet 200 = 4 * (40000 / 21 * 708) := by decide

/-- the largest limits of the table (segment responses: `2·max_block_size`, ×4): what one frame
header can make the codec reserve before the body arrives is about 10.8 MB on mainnet -/
example : maxLen netMainnet T_OutputSegment = 10_784_256 ∧ maxLen netMainnet T_Headers = 747_528 ∧
    maxLen netMainnet T_Block = 5_392_128 := by decide

/-- **an empty `Headers` list is delivered** (the code since /repo 11bd5ac16): the well-formed frame `Headers { headers: vec![] }` (count
0, `msg_len` 2 — what a peer answers to `GetHeaders` when it has nothing newer) is read as the empty
batch `Headers { headers: [], remaining: 0 }` after exactly 13 bytes, the codec is idle again and what
follows is unread.  It is part of `framing_faithful` (`SentWF` admits the empty list). -/
theorem headers_empty_delivered (env : Env B H) (rest : Bytes) :
    read env flatOps (idle : Codec H) (encodeSent env.net (Sent.headers (B := B) ([] : List (H × Bytes))) ++ rest) =
      { res := .msg (.headers [] 0), bytesRead := 0 + 11 + 2, alloc := 0 + 11 + 0 + 2 + 0, codec := idle, sock := rest } :=
  (Reads.empty_headers env rest).read trivial

/-- **a count without items is refused**: a `Headers` frame of `msg_len` 2 announcing `n > 0` items
(nothing but the count) is answered `BadMessage` after the 13 bytes, state reset -/
theorem headers_count_without_items_refused (env : Env B H) (n : Nat) (hn0 : n ≠ 0) (hn : n < 2^16) (rest : Bytes) :
    (read env flatOps (idle : Codec H) (encHeader env.net T_Headers 2 ++ (writeU16 n ++ rest))).res = .err .badMessage ∧
    (read env flatOps (idle : Codec H) (encHeader env.net T_Headers 2 ++ (writeU16 n ++ rest))).codec.state = .none ∧
    (read env flatOps (idle : Codec H) (encHeader env.net T_Headers 2 ++ (writeU16 n ++ rest))).sock = rest := by
  have h2 := two_le_maxLen_headers env.net
  have h3 := Reads.flat_ret (env := env) (x := []) (rest := rest) (nl := 0) (by simp [nextLen]) rfl
    (stepState_guard env (2 - 2) n ([] : List H) [] 0 (.inl rfl))
  rw [List.nil_append] at h3
  rw [(Reads.known_header isKnown_headers (by omega) (by decide)
    (Reads.count (Nat.le_refl 2) hn (fun h => hn0 h.1) h3)).read trivial]
  exact ⟨rfl, rfl, rfl⟩

/-- **a `Headers` frame announcing 0 items but carrying some is refused before anything is decoded or
delivered** (`if *bytes_left == 0 || *items_left == 0`): from the idle codec, the
frame header, the count and at most one header's worth of the body are pulled, then `BadMessage` with the
state reset — no batch with a wrapped `remaining` reaches the handler; under every fragmentation -/
theorem headers_zero_count_refused (env : Env B H) (L : Nat) (hL : 2 < L) (hmax : L ≤ maxLen env.net T_Headers)
    (h64 : L < 2^64) (rest : Bytes) (hpresent : min (L - 2) env.hdrMax ≤ rest.length) (frags : List Bytes)
    (hfr : frags.flatten = encHeader env.net T_Headers L ++ (writeU16 0 ++ rest)) :
    (read env fragOps (idle : Codec H) frags).res = .err .badMessage ∧
    (read env fragOps (idle : Codec H) frags).bytesRead = 13 + min (L - 2) env.hdrMax ∧
    (read env fragOps (idle : Codec H) frags).codec.state = .none := by
  have hlen : (rest.take (min (L - 2) env.hdrMax)).length = min (L - 2) env.hdrMax := by
    rw [List.length_take]; omega
  have h3 := Reads.flat_ret (env := env) (rest := rest.drop (min (L - 2) env.hdrMax)) rfl hlen
    (stepState_guard env (L - 2) 0 ([] : List H) _ _ (.inr rfl))
  rw [List.take_append_drop] at h3
  obtain ⟨a1, a2, _, a4, _⟩ :=
    (Reads.known_header isKnown_headers hmax h64 (Reads.count (by omega) (by decide) (by omega) h3)).read_frag trivial hfr
  exact ⟨a1, by rw [a2, hlen]; omega, by rw [a4]⟩

/-- **excess bytes inside `msg_len` after the last announced header are refused**: when the item that
brings `items_left` to 0 has been decoded and `bytes_left` is still positive, the read returns
`BadMessage` with the state reset — the batch it completed is not delivered — whatever the excess
bytes are and however many of them the codec has already read ahead into its buffer -/
theorem headers_excess_refused (env : Env B H) (bl : Nat) (hs : List H) (buffer rest : Bytes) (nl : Nat) (h : H)
    (hdec : env.decItem buffer = .ok (h, rest)) (hbl : bl ≠ 0)
    (hex : bl - (buffer.length - rest.length) > 0) :
    stepState env ({ buffer := buffer, state := .blockHeaders bl 1 hs } : Codec H) nl =
      .inl (.err .badMessage, { buffer := rest, state := .none }, min HEADER_BATCH_SIZE 0 * env.hdrMem) := by
  show stepState env ({ buffer := buffer, state := .blockHeaders bl (0 + 1) hs } : Codec H) nl = _
  rw [stepState_decoded env buffer rest h bl 0 hs nl hdec hbl (by decide), if_pos (.inr rfl), if_pos rfl, if_pos hex]

/-- one announced one-byte item, two bytes of body: the second byte is excess -/
example : stepState exEnv ({ buffer := [7, 9], state := .blockHeaders 2 1 [] } : Codec Nat) 2 =
    .inl (.err .badMessage, { buffer := [9], state := .none }, 0) := by decide

/-- a batch that *is* delivered carries `remaining = items_left − 1` with `items_left ≥ 1`: the
`*items_left -= 1` of the code does not wrap -/
theorem headers_remaining_no_wrap (env : Env B H) (bl il : Nat) (hs : List H) (buffer : Bytes) (nl : Nat)
    (hil : il < 2^64) (hs' : List H) (rem : Nat) (c2 : Codec H) (a : Nat)
    (h : stepState env ({ buffer := buffer, state := .blockHeaders bl il hs } : Codec H) nl =
      .inl (.msg (.headers hs' rem), c2, a)) : rem + 1 = il := by
  -- past the guard `bytes_left == 0 || items_left == 0` the count is positive, and the arm hands out `items_left - 1`
  by_cases hg : bl = 0 ∨ il = 0
  · rw [stepState_guard env bl il hs buffer nl hg] at h; cases h
  · obtain ⟨n, rfl⟩ := Nat.exists_eq_succ_of_ne_zero fun hz => hg (.inr hz)
    cases hdec : env.decItem buffer with
    | error e =>
      simp only [stepState, hdec] at h
      split at h <;> cases h
    | ok p =>
      rw [stepState_decoded env buffer p.2 p.1 bl n hs nl hdec (fun hz => hg (.inl hz)) hil] at h
      repeat' split at h
      all_goals cases h
      all_goals rfl

/-- while a `Headers` body is being streamed, one loop iteration pulls at most the bytes of the
message that are not yet buffered: `to_read ≤ bytes_left − buffered`, whatever `items_left` says -/
theorem headers_never_read_beyond (env : Env B H) (bl il : Nat) (hs : List H) (buffer : Bytes)
    (hb : buffer.length ≤ bl) :
    nextLen env (State.blockHeaders bl il hs) - buffer.length ≤ bl - buffer.length ∧
    nextLen env (State.blockHeaders bl il hs) ≤ bl := by
  have : nextLen env (State.blockHeaders bl il hs) = min bl env.hdrMax := rfl
  rw [this]; omega

/-- … and what stays buffered after an item was decoded is still within the message
(`bytes_left' = bytes_left − used`, buffer' = buffer − used), for any item decoder that returns a
suffix of its input -/
theorem headers_buffer_within (bl : Nat) (buffer rest : Bytes) (hb : buffer.length ≤ bl)
    (hr : rest.length ≤ buffer.length) : rest.length ≤ bl - (buffer.length - rest.length) := by
  omega

/-- the handshake settles on the lower of the two protocol versions -/
theorem negotiate_min (ours theirs : Nat) :
    negotiate ours theirs ≤ ours ∧ negotiate ours theirs ≤ theirs ∧
    (negotiate ours theirs = ours ∨ negotiate ours theirs = theirs) := by
  unfold negotiate; omega

theorem accept_genesis_mismatch (g : Bytes) (v : Nat) (nonces : List Nat) (denied : Bool) (h : Hand)
    (hg : h.genesis ≠ g) : acceptDecision g v nonces denied h = .error .genesisMismatch := by
  simp [acceptDecision, hg]

/-- a `Hand` carrying one of our own recent nonces is a connection to ourselves -/
theorem accept_own_nonce (g : Bytes) (v : Nat) (nonces : List Nat) (denied : Bool) (h : Hand)
    (hg : h.genesis = g) (hn : h.nonce ∈ nonces) : acceptDecision g v nonces denied h = .error .peerWithSelf := by
  simp [acceptDecision, hg, hn]

theorem accept_ok (g : Bytes) (v : Nat) (nonces : List Nat) (h : Hand)
    (hg : h.genesis = g) (hn : h.nonce ∉ nonces) :
    acceptDecision g v nonces false h = .ok (min v h.version) := by
  simp [acceptDecision, hg, hn, negotiate]

theorem initiate_genesis_mismatch (g : Bytes) (v : Nat) (denied : Bool) (s : Shake) (hg : s.genesis ≠ g) :
    initiateDecision g v denied s = .error .genesisMismatch := by
  simp [initiateDecision, hg]

theorem initiate_ok (g : Bytes) (v : Nat) (s : Shake) (hg : s.genesis = g) :
    initiateDecision g v false s = .ok (min v s.version) := by
  simp [initiateDecision, hg, negotiate]


/-- **the refusal reasons of `Handshake::accept` are complete and ordered**: for EVERY Hand (any announced
version, 0 and 2^32 - 1 included), every nonce ring, every deny verdict - genesis first, then the own nonce,
then the deny / allow lists, and otherwise the lower of the two versions; there is no other outcome -/
theorem accept_decision_complete (g : Bytes) (v : Nat) (nonces : List Nat) (denied : Bool) (h : Hand) :
    acceptDecision g v nonces denied h =
      if h.genesis ≠ g then .error .genesisMismatch
      else if nonces.contains h.nonce then .error .peerWithSelf
      else if denied then .error .connectionClose
      else .ok (min v h.version) := by
  simp only [acceptDecision, negotiate]

/-- … and of `Handshake::initiate` (the self-connection is the acceptor's to detect) -/
theorem initiate_decision_complete (g : Bytes) (v : Nat) (denied : Bool) (s : Shake) :
    initiateDecision g v denied s =
      if s.genesis ≠ g then .error .genesisMismatch
      else if denied then .error .connectionClose
      else .ok (min v s.version) := by
  simp only [initiateDecision, negotiate]

/-- a different genesis is refused at EVERY announced version, on both sides, before anything else is looked at -/
theorem genesis_mismatch_at_every_version (g : Bytes) (v : Nat) (nonces : List Nat) (d1 d2 : Bool) (h : Hand) (s : Shake)
    (hh : h.genesis ≠ g) (hs : s.genesis ≠ g) :
    acceptDecision g v nonces d1 h = .error .genesisMismatch ∧ initiateDecision g v d2 s = .error .genesisMismatch :=
  ⟨accept_genesis_mismatch g v nonces d1 h hh, initiate_genesis_mismatch g v d2 s hs⟩

/-- the extremes: a peer announcing version 0 is served at 0, one announcing 2^32 - 1 at OUR version -/
theorem version_extremes (g : Bytes) (v : Nat) (hv : v ≤ 2^32 - 1) (h : Hand) (hg : h.genesis = g) :
    (h.version = 0 → acceptDecision g v [] false h = .ok 0) ∧
    (h.version = 2^32 - 1 → acceptDecision g v [] false h = .ok v) := by
  constructor <;> intro hh <;> simp [acceptDecision, negotiate, hg, hh] <;> omega

/-- the nonce just generated by `next_nonce` is in the ring (the ring drops only its oldest entry),
so the `Hand` we send is recognised if it comes back to us -/
theorem own_nonce_detected (ring : List Nat) (n : Nat) : n ∈ pushNonce ring n := by
  unfold pushNonce
  simp only
  split
  · rename_i h
    cases ring with
    | nil => simp [NONCES_CAP] at h
    | cons a t => simp
  · simp

/-- **the ring holds exactly the last `min(n, NONCES_CAP − 1)` nonces** of the outbound attempts this
`Handshake` object ever made (`next_nonce` pops when `len >= NONCES_CAP`: 99 are kept, not 100) -/
theorem ring_holds_last (ns : List Nat) :
    ringAfter ns = ns.drop (ns.length - (NONCES_CAP - 1)) ∧
    (ringAfter ns).length = min ns.length (NONCES_CAP - 1) :=
  ⟨ringAfter_eq ns, ringAfter_length ns⟩

/-- **after any number of pushes the nonces of the last `min(n, NONCES_CAP − 1)` attempts are
contained**, in particular the most recent one -/
theorem recent_nonce_retained (older recent : List Nat) (h : recent.length ≤ NONCES_CAP - 1) :
    (∀ n ∈ recent, n ∈ ringAfter (older ++ recent)) ∧ (∀ n, n ∈ ringAfter (older ++ [n])) :=
  have h1 : ([0] : List Nat).length ≤ NONCES_CAP - 1 := by have := NONCES_CAP_ge; simp only [List.length_singleton]; omega
  ⟨ringAfter_recent older recent h, fun n => ringAfter_recent older [n] h1 n (by simp)⟩

/-- **a connection to itself is refused over every history**: whatever outbound attempts (succeeded
or failed) the `Handshake` object made before, and even with up to `NONCES_CAP − 2` further attempts
started before the `Hand` comes back, a `Hand` carrying the nonce it has just drawn is answered
`PeerWithSelf` -/
theorem self_connect_refused (g : Bytes) (v : Nat) (denied : Bool) (history later : List Nat)
    (hl : later.length ≤ NONCES_CAP - 2) (hand : Hand) (hg : hand.genesis = g) :
    acceptDecision g v (ringAfter (history ++ [hand.nonce] ++ later)) denied hand = .error .peerWithSelf := by
  apply accept_own_nonce g v _ denied hand hg
  rw [List.append_assoc]
  apply ringAfter_recent history ([hand.nonce] ++ later)
  · have := NONCES_CAP_ge
    simp only [List.length_append, List.length_cons, List.length_nil]
    omega
  · simp

/-- **the self check looks at the nonce ring only**: the verdict of `accept` does not depend on any
address — not on the sender / receiver addresses the `Hand` carries (nor, the decision having no such
parameter at all, on the local / peer address of the socket): a node that reaches itself over a socket
whose peer IP differs from its local IP (multi-homed host, wildcard listener, NAT hairpin) is refused
like on 127.0.0.1, and another node behind the same address pair is not -/
theorem self_check_ignores_addresses (g : Bytes) (v : Nat) (ring : List Nat) (denied : Bool) (h : Hand)
    (a b : PeerAddr) :
    acceptDecision g v ring denied { h with senderAddr := a, receiverAddr := b } = acceptDecision g v ring denied h ∧
    (h.genesis = g → h.nonce ∈ ring →
      acceptDecision g v ring denied { h with senderAddr := a, receiverAddr := b } = .error .peerWithSelf) ∧
    (h.genesis = g → h.nonce ∉ ring →
      acceptDecision g v ring false { h with senderAddr := a, receiverAddr := b } = .ok (min v h.version)) := by
  refine ⟨rfl, fun hg hn => ?_, fun hg hn => ?_⟩
  · exact accept_own_nonce g v ring denied _ hg hn
  · exact accept_ok g v ring _ hg hn

/-- what the code does with a nonce that is `NONCES_CAP − 1` or more attempts old: it is forgotten, a
`Hand` replaying it is accepted (the property only speaks about a connection to itself made *now*) -/
theorem evicted_nonce_not_detected (g : Bytes) (v : Nat) (history later : List Nat) (n : Nat)
    (hl : later.length = NONCES_CAP - 1) (hn : n ∉ later) (hand : Hand) (hg : hand.genesis = g)
    (hnonce : hand.nonce = n) :
    acceptDecision g v (ringAfter (history ++ [n] ++ later)) false hand = .ok (min v hand.version) := by
  apply accept_ok g v _ hand hg
  rw [ringAfter_evicted _ later hl, hnonce]
  exact hn

set_option maxRecDepth 8000 in
/-- a history of 250 attempts: the ring has 99 entries, the most recent nonce (249) and the one 98
attempts back (151) are in it, the one 99 attempts back (150) is not -/
example : (ringAfter (List.range 250)).length = 99 ∧ 249 ∈ ringAfter (List.range 250) ∧
    151 ∈ ringAfter (List.range 250) ∧ 150 ∉ ringAfter (List.range 250) := by
  rw [ringAfter_eq]; decide

example : acceptDecision [1] 1000 (pushNonce [] 42) false
    { version := 3, capabilities := 0, nonce := 42, genesis := [1], totalDifficulty := 0,
      senderAddr := .v4 [0, 0, 0, 0] 0, receiverAddr := .v4 [0, 0, 0, 0] 0, userAgent := [] } = .error .peerWithSelf := by
  rfl

/-- **`Codec::read` never panics** — from any codec state, on any bytes, under any fragmentation -/
theorem codec_read_no_panic (env : Env B H) (c : Codec H) (frags : List Bytes) (st : Site) :
    (read env fragOps c frags).res ≠ .panic st :=
  readLoop_no_panic env fragOps frag_rx_len READ_FUEL c frags 0 0 st

/-- **`Codec::read` terminates**: from every state with fewer than 32 headers in the current batch
(all states the machine itself produces) the loop returns within 36 iterations -/
theorem codec_read_no_hang (env : Env B H) (c : Codec H) (hw : WFc c) (frags : List Bytes) :
    (read env fragOps c frags).res ≠ .hang :=
  readLoop_no_hang env fragOps READ_FUEL c frags 0 0 hw (rank_le_fuel c)

/-- **allocation of one `Codec::read`** ≤ bytes pulled from the socket + 36 header-batch vectors
(`Vec::with_capacity(min(32, items_left))`), plus — only when the stream ended during a fill — the
`reserve(to_read)` of the fill that failed, where `to_read ≤ next_len ≤ 4·max_msg_size(type)` by the
check on the frame header (`refuse_too_large`) -/
theorem codec_read_alloc_bound (env : Env B H) (c : Codec H) (frags : List Bytes) :
    (read env fragOps c frags).alloc ≤ (read env fragOps c frags).bytesRead + 36 * (32 * env.hdrMem) +
      (if isConn (read env fragOps c frags).res then
        nextLen env (read env fragOps c frags).codec.state - (read env fragOps c frags).codec.buffer.length else 0) := by
  have := readLoop_alloc_bound env fragOps READ_FUEL c frags 0 0
  rw [READ_FUEL_eq] at this
  simpa [GV.Codec.read, READ_FUEL_eq] using this

/-- the states `Codec::new` and `expect_attachment` produce satisfy the invariant -/
example : WFc (Codec.new : Codec Nat) := trivial
example : WFc ({ buffer := [], state := .attachment 5 } : Codec Nat) := trivial

end GV.Props.C19
