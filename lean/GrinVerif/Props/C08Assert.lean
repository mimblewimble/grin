import GrinVerif.Lemmas.StoreSynced
/-! C08: the `assert!`s of `store/src/prune_list.rs` ("prune list append only - pos=… bitmap.maximum=…"
at the top of `append` and `append_single`, `!bitmap.contains(0)` in `new` / `open`) are panics
inside compaction, start-up and state sync.  `Model/PruneList.lean` carries them as a `none`
outcome (`appendChecked`, `newChecked`, `openChecked`); here: they never fire for what the store
passes.  (The theorems of `Props/C08.lean` are stated for `append` / `new` without the assertions;
these theorems discharge that precondition at every call site.) -/
namespace GV.Props.C08Assert
open GV GV.Pmmr GV.Pmmr.Co GV.Store

/-- `append(pos0)` with every root strictly left of `pos0` (1-based roots `<= pos0` – exactly what
the assertion tests): no assertion fires at any level of the roll-up recursion nor in
`append_single` after `cleanup_subtree` -/
theorem append_no_panic (pl : PruneList) (h : pl.Inv) (pos0 : Nat) (hall : ∀ y ∈ pl.bitmap, y ≤ pos0) :
    PruneList.appendChecked 64 pl pos0 = some (pl.append pos0) :=
  PruneList.appendChecked_eq 64 pl pos0 h hall

/-- the assertion is not vacuous: appending at or left of the last root is the panic -/
theorem append_panics_left_of_max (pl : PruneList) (pos0 m : Nat) (hm : Bm.maximum pl.bitmap = some m)
    (h : pos0 < m) : PruneList.appendChecked 64 pl pos0 = none := by
  unfold PruneList.appendChecked PruneList.appendAssert
  simp [hm]; omega

/-- **`check_compact` never trips the assertions**: for a synced backend satisfying the reference
invariant, any cutoff inside the MMR and any `rewind_rm_pos`, `PruneList::new` on the merged bitmap
(old roots OR removed leaves) runs through – it is the list `check_compact` installs -/
theorem check_compact_no_panic {H : Type} (el : Bytes → Option Nat) (b : Backend H) (N : Nat)
    (ref : Nat → H) (dref : Nat → Bytes) (df : AOF Bytes) (hs : Synced b N ref dref df)
    (cutoff : Nat) (hc : cutoff ≤ mmr N) (rm : Bitmap) :
    PruneList.newChecked (Bm.or b.pruneList.bitmap (b.posToRm cutoff rm).1) =
      some (b.checkCompact el cutoff rm).pruneList := by
  have hp := hs.compactPre hc
  exact PruneList.newChecked_eq _ (Backend.compact_bitmap_ok hp rm)

/-- **reopen never trips the assertions**: `PruneList::open` on the flushed bitmap of a list
satisfying the roll-up invariant (what every `sync` / compaction writes) gives that list back -/
theorem reopen_no_panic (pl : PruneList) (h : pl.Inv) (hb : ∀ x ∈ pl.bitmap, x + 64 < 2 ^ 64) :
    PruneList.openChecked pl.bitmap = some pl := by
  unfold PruneList.openChecked
  rw [PruneList.newChecked_eq pl.bitmap (PruneList.NewArg.of_inv h hb)]
  have := PruneList.openBm_of_inv h
  unfold PruneList.openBm at this
  simp only [Option.map_some, this]

/-- **state sync never trips the assertion**: `append_pruned_subtree(hash, pos0)` for a root whose
subtree starts at or right of every existing root (`roots <= mmr N <= pos0`) -/
theorem import_append_no_panic (pl : PruneList) (h : pl.Inv) (N pos0 : Nat)
    (hroots : ∀ x ∈ pl.bitmap, x ≤ mmr N) (hl : bintreeLeftmost pos0 = mmr N) :
    PruneList.appendChecked 64 pl pos0 = some (pl.append pos0) := by
  apply append_no_panic pl h pos0
  intro y hy
  have := hroots y hy
  have := Co.leftmost_le pos0
  omega

/-- non-vacuity: the list with the single root 3 (positions 0..2 pruned) – appending position 3
(the next leaf) passes, appending position 1 again is the panic -/
example : PruneList.appendChecked 64 (PruneList.new [3]) 1 = none := by
  apply append_panics_left_of_max _ 1 3 _ (by omega)
  decide +kernel

example : PruneList.appendChecked 64 (PruneList.new [3]) 3 = some ((PruneList.new [3]).append 3) := by
  decide +kernel

end GV.Props.C08Assert
