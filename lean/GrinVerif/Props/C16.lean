import GrinVerif.Props.C07
import GrinVerif.Lemmas.SegTree
import GrinVerif.Lemmas.SegVerdicts
import GrinVerif.Lemmas.SegExtra
import GrinVerif.Lemmas.SegComplete
import GrinVerif.Lemmas.SegDsg
import GrinVerif.Lemmas.SegFup
import GrinVerif.Lemmas.SegViews
/-! # C16 — state segments are sound; state sync never finalises other roots

Property theorems, the free term algebra `HTerm` for the non-vacuity of `Inj`, two definitions for
the concrete height-0 instances, and `fup_covers_only_spent` (other helper lemmas live in
`Lemmas/Seg*.lean`; model `Model/Seg.lean`).

Reading guide.  `Segment.validate hf s size bm root` is the model of `Segment::validate`
(`validateWith` of `validate_with`, the merged output root); `segReads hf s size bm` is the list
of everything the computation of the segment root *reads* of the segment, in order: `Ev.leaf pos
data` for every leaf whose data is required and `Ev.hash pos h` for every hash looked up through
`get_hash`; `proofLen id size` is the number of proof hashes `reconstruct_root` consumes.
`Inj hf` is what collision resistance of the two hash shapes gives (for equal index); C07's
`CollisionFree hf` (injective in index and arguments together) implies it. -/
namespace GV.Props.C16
open GV GV.Pmmr GV.Seg

section Finalise
variable {H : Type} [DecidableEq H]

/-- `validate_complete_state` finalises (commits the new body head) only when the roots of the
assembled txhashset equal the roots of the archive header — whatever segments were applied and
whatever the later validations say. -/
theorem never_finalise_wrong_roots (assembled hdr : Roots H) (full stopped : Bool)
    (h : validateCompleteState assembled hdr full stopped = .finalised) :
    assembled = hdr := by
  unfold validateCompleteState at h
  by_cases hr : rootsValidate assembled hdr = true
  · simp only [rootsValidate, Bool.and_eq_true, decide_eq_true_eq] at hr
    cases assembled; cases hdr; simp_all
  · simp [hr] at h

/-- `validate_complete_state` finalises exactly when the roots agree, the full validation
succeeded and the node was not stopped. -/
theorem finalise_iff (assembled hdr : Roots H) (full stopped : Bool) :
    validateCompleteState assembled hdr full stopped = .finalised ↔
      assembled = hdr ∧ full = true ∧ stopped = false := by
  constructor
  · intro h
    refine ⟨never_finalise_wrong_roots _ _ _ _ h, ?_⟩
    unfold validateCompleteState at h
    revert h
    cases full <;> cases stopped <;> cases rootsValidate assembled hdr <;> simp
  · rintro ⟨rfl, rfl, rfl⟩
    simp [validateCompleteState, rootsValidate]

-- non-vacuity: equal roots + successful validation finalise; a differing kernel root never does
example : validateCompleteState (⟨1, 2, 3⟩ : Roots Nat) ⟨1, 2, 3⟩ true false = .finalised := by decide
example : validateCompleteState (⟨1, 2, 3⟩ : Roots Nat) ⟨1, 2, 4⟩ true false = .invalidRoot := by decide

end Finalise

variable {α H : Type}

/-- the free term algebra of the two hash shapes: the canonical injective "hash function" -/
inductive HTerm (α : Type)
  | leaf (idx : Nat) (x : α)
  | node (idx : Nat) (l r : HTerm α)

-- non-vacuity of `Inj`: the hypothesis of the soundness theorems is satisfiable
example : Inj (⟨HTerm.leaf, HTerm.node⟩ : HashFn Nat (HTerm Nat)) :=
  ⟨fun _ _ _ h => by injection h, fun _ _ _ _ _ h => by injection h with _ h1 h2; exact ⟨h1, h2⟩⟩

/-! ## Nothing panics (repaired `Segment::root`, commit 22ca8fd14) -/

theorem segment_first_unpruned_parent_no_panic (hf : HashFn α H) (s : Segment α H) (size : Nat)
    (bm : Option (Nat → Bool)) : s.firstUnprunedParent hf size bm ≠ .panic := by
  unfold Segment.firstUnprunedParent
  exact fupWith_no_panic s size bm _ _ (root_no_panic hf s size bm)
    (fun hb => hb ▸ root_none_some hf s size)

/-- `Segment::validate` returns `Ok` or a `SegmentError` for every segment, identifier (any
`height : u8`, `idx : u64`, including those whose range is empty, lies outside the MMR or is
computed with wrapped arithmetic), MMR size and bitmap: it never panics. -/
theorem segment_validate_no_panic (hf : HashFn α H) [DecidableEq H] (s : Segment α H) (size : Nat)
    (bm : Option (Nat → Bool)) (mmrRoot : H) : s.validate hf size bm mmrRoot ≠ .panic := by
  unfold Segment.validate
  exact validateAt_no_panic hf _ _ _ _ _ _ (segment_first_unpruned_parent_no_panic hf s size bm)

theorem segment_validate_with_no_panic (hf : HashFn α H) [DecidableEq H] (s : Segment α H)
    (size : Nat) (bm : Option (Nat → Bool)) (mmrRoot : H) (hlp : Nat) (other : H) (left : Bool) :
    s.validateWith hf size bm mmrRoot hlp other left ≠ .panic := by
  unfold Segment.validateWith
  exact validateWithAt_no_panic hf _ _ _ _ _ _ _ _ _ (segment_first_unpruned_parent_no_panic hf s size bm)

/-! ## Segments without leaves need a bitmap

`Segment::root` takes the `leaf_data.is_empty()`-style route (root `None`, then
`first_unpruned_parent` looks for a hash of the segment or of a parent) only for a prunable MMR,
i.e. with `bitmap = Some(..)`.  With `bitmap = None` (kernel segments, bitmap segments) every leaf
of the range is required, so a segment that carries no leaves — whatever hashes and proof it
carries — is answered with an error by all four stateless checks; nothing panics and nothing is
accepted. -/

/-- **pruned_segment_requires_bitmap.**  What the real code answers for a segment without leaves
when `bitmap = None`, for *every* identifier (any `height : u8`, `idx : u64`), MMR size, hash list
and proof:
* `root` is never `Ok(None)` and none of `root` / `first_unpruned_parent` / `validate` /
  `validate_with` panics (the `bitmap.unwrap()` of `first_unpruned_parent` is not reached);
* if the segment exists in the MMR (`segment_unpruned_size ≠ 0`, the guard of repair 362e7d94e)
  and the position range starts with a leaf position `p` (it does for every range computed without
  wrap-around: `first = insertion_to_pmmr_index(leaf_offset)`; see the `FullId` corollary), all four
  answer exactly `MissingLeaf(p)` — before any hash of the segment or of the proof is looked at;
* if the segment does not exist in the MMR or its position range is empty, `root` (hence all
  four) answers `NonExistent`.
In particular `validate` never returns `Ok` for such a segment with a non-empty range. -/
theorem pruned_segment_requires_bitmap (hf : HashFn α H) [DecidableEq H] (s : Segment α H) (size : Nat)
    (mmrRoot : H) (hlp : Nat) (other : H) (left : Bool)
    (hno : s.leafPos = [] ∨ s.leafData = []) :
    (s.root hf size none ≠ .ok none ∧ s.root hf size none ≠ .panic ∧
      s.firstUnprunedParent hf size none ≠ .panic ∧ s.validate hf size none mmrRoot ≠ .panic ∧
      s.validateWith hf size none mmrRoot hlp other left ≠ .panic) ∧
    (∀ p ps, s.id.unprunedSize size ≠ 0 → s.id.positions size = p :: ps → height p = 0 →
      s.root hf size none = .err (.missingLeaf p) ∧
      s.firstUnprunedParent hf size none = .err (.missingLeaf p) ∧
      s.validate hf size none mmrRoot = .err (.missingLeaf p) ∧
      s.validateWith hf size none mmrRoot hlp other left = .err (.missingLeaf p)) ∧
    (s.id.unprunedSize size = 0 ∨ s.id.positions size = [] →
      s.root hf size none = .err .nonExistent ∧
      s.validate hf size none mmrRoot = .err .nonExistent) := by
  refine ⟨⟨root_none_some hf s size, root_no_panic hf s size none,
    segment_first_unpruned_parent_no_panic hf s size none, segment_validate_no_panic hf s size none mmrRoot,
    segment_validate_with_no_panic hf s size none mmrRoot hlp other left⟩, ?_, ?_⟩
  · intro p ps hex hpos hp
    exact leafless_no_bitmap hf s size mmrRoot hlp other left p ps hno hex hpos hp
  · intro he
    have hr : s.root hf size none = .err .nonExistent := by
      by_cases hz : s.id.unprunedSize size = 0
      · exact root_of_empty hf s size none hz
      · rcases he with he | he
        · exact absurd he hz
        · rw [root_of_nonempty hf s size none hz, he, peaksIn_of_empty_range s.id size he]
          exact rootWith_empty_range hf s size none _
    exact ⟨hr, (calls_of_root_err hf s size none mmrRoot hlp other left _ hr).2.1⟩

/-- `pruned_segment_requires_bitmap` for a full segment (`FullId`: the identifier arithmetic is
exact): the range starts at the leaf position `insertion_to_pmmr_index(idx · 2^height)`, so a full segment without leaves is
answered `MissingLeaf` of exactly that position: a completely pruned kernel segment "one hash and a
proof" can never validate. -/
theorem pruned_full_segment_requires_bitmap (hf : HashFn α H) [DecidableEq H] (s : Segment α H)
    (size : Nat) (mmrRoot : H) (hlp : Nat) (other : H) (left : Bool)
    (hno : s.leafPos = [] ∨ s.leafData = []) (v : FullId s.id size) :
    s.root hf size none = .err (.missingLeaf (mmr (s.id.idx * 2 ^ s.id.height))) ∧
    s.firstUnprunedParent hf size none = .err (.missingLeaf (mmr (s.id.idx * 2 ^ s.id.height))) ∧
    s.validate hf size none mmrRoot = .err (.missingLeaf (mmr (s.id.idx * 2 ^ s.id.height))) ∧
    s.validateWith hf size none mmrRoot hlp other left =
      .err (.missingLeaf (mmr (s.id.idx * 2 ^ s.id.height))) := by
  obtain ⟨ps, hpos, hp⟩ := full_positions_head s.id size v
  exact leafless_no_bitmap hf s size mmrRoot hlp other left _ ps hno
    (unprunedSize_ne_zero_of_full s.id size v.full) hpos hp

/-- Non-vacuity: segment (height 1, idx 1) of the 7-leaf MMR (size 11, range 3..=5) carrying one
hash at its last position and one proof hash, no leaves: `FullId` holds, and without a bitmap
`validate` answers `MissingLeaf(3)`.  (With a bitmap that marks nothing in the range the same shape
is accepted when hash and proof are genuine: shown on the real code by the `leafless` run.) -/
example :
    let hsum : HashFn Nat Nat := ⟨fun _ x => x, fun _ l r => l + r⟩
    let s : Segment Nat Nat :=
      { id := ⟨1, 1⟩, hashPos := [5], hashes := [42], leafPos := [], leafData := [], proof := [7] }
    s.validate hsum 11 none 49 = .err (.missingLeaf 3) := by
  intro hsum s
  have h : nLeaves 11 = 7 := GV.Props.C07.mmr_7 ▸ Co.nLeaves_mmr 7
  have v : FullId s.id 11 :=
    ⟨by show 1 < 64; omega, by rw [h]; show (1 + 1) * 2 ^ 1 ≤ 7; omega, by rw [h]; omega⟩
  have e3 : mmr (s.id.idx * 2 ^ s.id.height) = 3 := by
    show mmr (1 * 2 ^ 1) = 3
    simp [mmr, popcount]
  have := (pruned_full_segment_requires_bitmap hsum s 11 49 0 0 false (Or.inl rfl) v).2.2.1
  rw [e3] at this
  exact this

/-! ## A pruned-subtree hash covers spent leaves only -/

/-- a segment without a root of its own: what `first_unpruned_parent` returned is a hash the
segment carries, at its last position or at an ancestor below which the bitmap has no bit -/
theorem fup_covers_only_spent (hf : HashFn α H) (s : Segment α H) (size : Nat) (b : Nat → Bool)
    (hroot : s.root hf size (some b) = .ok none) (h : H) (u : Nat)
    (hx : s.firstUnprunedParent hf size (some b) = .ok (h, u)) :
    ∃ a, u = 1 + a ∧ s.getHash a = .ok h ∧
      (a = (s.id.posRange size).2 ∨
        ((∃ x ∈ familyBranch (s.id.posRange size).2 size, x.1 = a) ∧
          ∀ i, (subtreeLeafRange a (nLeaves size)).1 % 2 ^ 32 ≤ i →
            i < (subtreeLeafRange a (nLeaves size)).2 % 2 ^ 32 → b i = false)) := by
  have hl : fupLoop s b (nLeaves size) (s.id.posRange size).2
      (familyBranch (s.id.posRange size).2 size) = .ok (h, u) := by
    unfold Segment.firstUnprunedParent at hx
    rw [hroot] at hx
    exact hx
  obtain ⟨hg, hcases⟩ := fupLoop_ok s b (nLeaves size) _ _ h u hl
  rcases hcases with he | ⟨y, hy, hu, hcard⟩
  · exact ⟨_, he, by rw [he] at hg; simpa using hg, Or.inl rfl⟩
  · exact ⟨y.1, hu, by rw [hu] at hg; simpa using hg,
      Or.inr ⟨⟨y, hy, rfl⟩, rangeCard_zero b _ _ hcard⟩⟩

/-- **pruned_parent_covers_only_spent.**  Take a segment that has no root of its own under the
bitmap `b` (`root` returns `Ok(None)`: the completely pruned / leafless route) and that
`validate_with` accepts.  Then `first_unpruned_parent` returned a hash `h` the segment carries at
some position `a`, and either `a` is the segment's own last position, or `a` is an ancestor on the
family branch of that position and the bitmap has **no bit set in the whole leaf range of `a`**
(`n_leaves(1 + leftmost(a)) - 1 ..  min(n_leaves(1 + rightmost(a)), n_leaves(mmr_size))`, both
ends of the subtree included; indices as the `as u32` casts of the code see them).  So the hash of
a pruned subtree can never stand in for a leaf the bitmap marks unspent. -/
theorem pruned_parent_covers_only_spent (hf : HashFn α H) [DecidableEq H] (s : Segment α H) (size : Nat)
    (b : Nat → Bool) (mmrRoot : H) (hlp : Nat) (other : H) (left : Bool)
    (hroot : s.root hf size (some b) = .ok none)
    (hacc : s.validateWith hf size (some b) mmrRoot hlp other left = .ok ()) :
    ∃ h a, s.firstUnprunedParent hf size (some b) = .ok (h, 1 + a) ∧ s.getHash a = .ok h ∧
      (a = (s.id.posRange size).2 ∨
        ((∃ x ∈ familyBranch (s.id.posRange size).2 size, x.1 = a) ∧
          ∀ i, (subtreeLeafRange a (nLeaves size)).1 % 2 ^ 32 ≤ i →
            i < (subtreeLeafRange a (nLeaves size)).2 % 2 ^ 32 → b i = false)) := by
  obtain ⟨h, u, _, _, hx, _⟩ := (validateWith_ok_iff hf s size (some b) mmrRoot hlp other left).1 hacc
  obtain ⟨a, rfl, hg, hc⟩ := fup_covers_only_spent hf s size b hroot h u hx
  exact ⟨h, a, hx, hg, hc⟩

/-- the same for `validate` (rangeproof segments) -/
theorem pruned_parent_covers_only_spent_validate (hf : HashFn α H) [DecidableEq H] (s : Segment α H)
    (size : Nat) (b : Nat → Bool) (mmrRoot : H)
    (hroot : s.root hf size (some b) = .ok none)
    (hacc : s.validate hf size (some b) mmrRoot = .ok ()) :
    ∃ h a, s.firstUnprunedParent hf size (some b) = .ok (h, 1 + a) ∧ s.getHash a = .ok h ∧
      (a = (s.id.posRange size).2 ∨
        ((∃ x ∈ familyBranch (s.id.posRange size).2 size, x.1 = a) ∧
          ∀ i, (subtreeLeafRange a (nLeaves size)).1 % 2 ^ 32 ≤ i →
            i < (subtreeLeafRange a (nLeaves size)).2 % 2 ^ 32 → b i = false)) := by
  obtain ⟨h, u, _, hx, _⟩ := (validate_ok_iff hf s size (some b) mmrRoot).1 hacc
  obtain ⟨a, rfl, hg, hc⟩ := fup_covers_only_spent hf s size b hroot h u hx
  exact ⟨h, a, hx, hg, hc⟩

-- non-vacuity of the hypotheses (a leafless segment with `root = Ok(None)` that `validate_with`
-- accepts through an ancestor 1..6 levels up, peaks included): the `ancestor` run of the harness
-- produces such segments on the real code (bitmap with no bit under the ancestor: accepted; one bit
-- set under it: refused), compared with the model line by line.  In Lean: `compacted_full_segment`
-- (below) yields such a segment for every completely compacted full segment, and its hypotheses are
-- met by the 11-leaf example that follows it.

/-! ## The desegmenter's cache never blocks the next required segment

Model: `Seg.Dsg` (per-tree bookkeeping of `chain/src/txhashset/desegmenter.rs`).  `Dsg.At t (some k)`:
the local MMR of the tree ends where segment `k` of the asked height starts (or at the genesis
leaf, `k = 0`); `Dsg.OwnCache t`: every cached segment has the asked height — any indices, in any
order: segments far ahead, duplicates, late duplicates of segments applied long ago.  Since the
repair 11f03601e `add_*_segment` refuses a segment of any other height (`Tree.receive`), so
`OwnCache` is an invariant of every arrival sequence, not a hypothesis about the peers. -/

/-- **apply_progress.**  If the next required segment is cached, `apply_next_segments` applies it —
whatever else is cached, duplicates of applied segments included: the tree asks for exactly
segment `k`, and after the call the local MMR has strictly more leaves, at least up to the end of
segment `k`. -/
theorem apply_progress (t : Dsg.Tree) (k : Nat) (ha : Dsg.At t (some k)) (hown : Dsg.OwnCache t)
    (hc : ∃ c ∈ t.cache, c.idx = k) :
    t.next = some k ∧ t.leaves < (t.step .apply).leaves ∧
      min ((k + 1) * 2 ^ t.h) t.total ≤ (t.step .apply).leaves :=
  ⟨Dsg.next_of_at t k ha, (Dsg.step_apply_progress t k ha hown hc).1,
    (Dsg.step_apply_progress t k ha hown hc).2⟩

/-- **cache_never_blocks.**  By induction over arrival sequences: start from any tree in a regular
state and let *any* sequence of events happen — validated segments of **any height and index**
arriving in any order, any number of times, before or after they were applied (those of another
height are refused, `Tree.receive`), interleaved with any number of `apply_next_segments` calls.
The tree stays in a regular state, never loses leaves, and is then either complete or asks for a
segment `k` such that delivering `k` and applying makes progress. -/
theorem cache_never_blocks (t : Dsg.Tree) (evs : List Dsg.Ev) (hi : Dsg.Inv t) :
    Dsg.Inv (t.run evs) ∧ t.leaves ≤ (t.run evs).leaves ∧
      ((t.run evs).leaves = (t.run evs).total ∨
        ∃ k, (t.run evs).next = some k ∧
          (t.run evs).leaves < (((t.run evs).step (.add ⟨(t.run evs).h, k⟩)).step .apply).leaves) := by
  obtain ⟨i, l, _, _, _⟩ := Dsg.run_inv evs t hi
  refine ⟨i, l, ?_⟩
  by_cases hd : (t.run evs).leaves = (t.run evs).total
  · exact Or.inl hd
  · right
    obtain ⟨_, _, _, _, hprog⟩ := Dsg.deliverNext_spec (t.run evs) i
    have := hprog hd
    unfold Dsg.deliverNext at this
    cases hn : (t.run evs).next with
    | none => rw [hn] at this; exact absurd this (Nat.lt_irrefl _)
    | some k =>
      rw [hn] at this
      refine ⟨k, rfl, ?_⟩
      have e : (t.run evs).step (.add ⟨(t.run evs).h, k⟩) = (t.run evs).add ⟨(t.run evs).h, k⟩ := by
        simp [Dsg.Tree.step, Dsg.Tree.receive]
      rw [e]; exact this

/-- An honest peer that answers every request completes the tree — the bitmap tree for
every chunk count ≥ 1 (one chunk included), the other trees for every leaf count — in at most
`total − leaves` rounds of (deliver what is asked, apply), whatever else arrived before. -/
theorem honest_peer_completes (t : Dsg.Tree) (evs : List Dsg.Ev) (hi : Dsg.Inv t) (n : Nat)
    (hn : t.total - t.leaves ≤ n) :
    (Dsg.rounds n (t.run evs)).leaves = t.total := by
  obtain ⟨i, l, _, ht, _⟩ := Dsg.run_inv evs t hi
  rw [← ht]
  exact Dsg.rounds_complete n (t.run evs) i (by rw [ht]; omega)

/-- A valid segment of a height the desegmenter did not ask for is refused and changes nothing
(`Error::InvalidSegmentHeight`, repair 11f03601e; regression probe
`desegmenter-foreign-height-segment-applied`). -/
theorem foreign_height_segment_refused (t : Dsg.Tree) (id : Ident) (valid : Bool)
    (h : id.height ≠ t.h) : t.receive id valid = (t, false) := by
  unfold Dsg.Tree.receive; rw [if_pos h]

/-- the fresh bitmap tree is in a regular state for every chunk count ≥ 1 and every asked height:
the hypothesis `Inv` of the theorems above holds at the start of every sync -/
theorem fresh_bitmap_tree_regular (h chunks : Nat) (hc : 1 ≤ chunks) :
    Dsg.Inv ⟨.bitmap, h, chunks, 0, []⟩ :=
  ⟨fun c hc' => (by cases hc'), ⟨some 0, Dsg.At.boundary 0 (by simp) (by simp; omega) (Or.inl rfl)⟩⟩

/-- Like the fresh bitmap tree, the output / rangeproof / kernel trees of a fresh chain (genesis
leaf) are in a regular state, for every asked height ≥ 1 and more than one leaf at the archive header -/
theorem fresh_main_tree_regular (fl : Dsg.Flavor) (hfl : fl ≠ .bitmap) (h total : Nat) (hh : 1 ≤ h)
    (ht : 1 < total) : Dsg.Inv ⟨fl, h, total, 1, []⟩ :=
  ⟨fun c hc' => (by cases hc'), ⟨some 0, Dsg.At.genesis hfl rfl hh ht⟩⟩

/-- Non-vacuity: the kernel tree of a fresh chain (genesis leaf, 142 kernels, asked height 1 → 71
segments) is in a regular state; after late duplicates of segments 0 and 1, an early segment 40,
a valid segment of another height with the required idx (refused) and two applies it has 4 leaves
and asks for segment 2. -/
example :
    let t : Dsg.Tree := ⟨.kernel, 1, 142, 1, []⟩
    let evs : List Dsg.Ev := [.add ⟨1, 0⟩, .add ⟨1, 40⟩, .add ⟨3, 0⟩, .add ⟨1, 1⟩, .apply, .add ⟨1, 0⟩,
      .add ⟨2, 2⟩, .add ⟨1, 1⟩, .apply]
    Dsg.Inv t ∧ (t.run evs).leaves = 4 ∧ (t.run evs).next = some 2 ∧
      (t.run evs).cache = [⟨1, 40⟩, ⟨1, 0⟩, ⟨1, 1⟩] :=
  ⟨fresh_main_tree_regular .kernel (by decide) 1 142 (by decide) (by decide), by decide, by decide, by decide⟩

/-- **single_chunk_requested** (repair d6b49984d; before it the request list was empty and the sync
stalled — regression probe `desegmenter-bitmap-segment-never-requested`).  With a one-chunk bitmap
(≤ 1024 outputs at the archive header) and the shipped heights (9, 11, 11, 11) the desegmenter asks
for exactly the bitmap segment (9, 0); once it arrived and two `apply_next_segments` calls ran, the
bitmap is final and the three main trees are asked for.  Kernel-evaluated on the model; the request
lists are compared with the real ones after every step by the `assembly` run.  (Every chunk count:
`honest_peer_completes` with `fresh_bitmap_tree_regular`.) -/
theorem single_chunk_requested :
    let s := Dsg.State.new 9 11 11 11 1 193 142
    s.bitmap.next = some 0 ∧ s.want 15 = [(0, ⟨9, 0⟩)] ∧ s.apply.want 15 = [(0, ⟨9, 0⟩)] ∧
      (let s1 := { s with bitmap := (s.bitmap.receive ⟨9, 0⟩ true).1 }
       s1.want 15 = [] ∧ s1.apply.bitmap.leaves = 1 ∧ s1.apply.apply.bitmapDone = true ∧
         s1.apply.apply.want 15 = [(1, ⟨11, 0⟩), (2, ⟨11, 0⟩), (3, ⟨11, 0⟩)]) := by
  decide +kernel

/-- the same at the start of a sync for chunk counts 1..40 and asked heights 0..3: the first
request is never empty and starts with bitmap segment 0 (instances of `Dsg.want_head_fresh`, which
holds for every chunk count ≥ 1 and every height) -/
example : ∀ chunks ∈ List.range' 1 40, ∀ h ∈ List.range 4,
    ((Dsg.State.new h 11 11 11 chunks 193 142).want 15).head? = some (0, ⟨h, 0⟩) :=
  fun chunks hc h _ => Dsg.want_head_fresh h 11 11 11 chunks 193 142 15
    (by rw [List.mem_range'_1] at hc; exact hc.1) (by decide)

/-! ## The bitmap MMR at chunk boundaries

What the receiving side computes from the archive header alone (`calc_bitmap_mmr_sizes`) against
what the serving side's `BitmapAccumulator::init` builds over the leaf set. -/

/-- **number of chunks = ⌈n / 1024⌉**: `expectedChunks n` chunks of 1024 bits cover `n` leaf
positions and one fewer does not; in particular exactly `k` at `n = 1024·k` and `k + 1` at
`n = 1024·k + 1`, and none for an empty output MMR. -/
theorem bitmap_chunk_count (n k : Nat) :
    n ≤ 1024 * Dsg.expectedChunks n ∧ (1 ≤ n → 1024 * (Dsg.expectedChunks n - 1) < n) ∧
    Dsg.expectedChunks (1024 * k) = k ∧ Dsg.expectedChunks (1024 * k + 1) = k + 1 ∧
    Dsg.expectedChunks 0 = 0 := by
  unfold Dsg.expectedChunks
  omega

/-- **the accumulator over `n` leaf positions has exactly that many leaves**: the loop of
`BitmapAccumulator::init` (`Dsg.accLoop`, transliterated with its `if chunk.any()` at the end) run
over any list of set leaf indices — any order, duplicates allowed — that contains the last leaf
`n − 1` appends exactly `⌈n / 1024⌉` chunks, the number `Desegmenter::calc_bitmap_mmr_sizes`
expects.  (The last leaves of an archive header are the outputs of the archive block itself,
unspent at that header.) -/
theorem accumulator_has_expected_chunks (idxs : List Nat) (n : Nat) (hn : 1 ≤ n)
    (hlast : n - 1 ∈ idxs) : Dsg.accChunkCount idxs n = Dsg.expectedChunks n := by
  have hmem : n - 1 ∈ idxs.filter (· < n) := by
    rw [List.mem_filter]; exact ⟨hlast, by simp; omega⟩
  have hle : Dsg.lmax (idxs.filter (· < n)) ≤ n - 1 :=
    Dsg.lmax_le _ _ (fun x hx => by
      have := (List.mem_filter.mp hx).2
      simp only [decide_eq_true_eq] at this
      omega)
  have hge := Dsg.le_lmax _ _ hmem
  rw [Dsg.accChunkCount_eq, Dsg.top_eq, if_neg (List.ne_nil_of_mem hmem),
    show Dsg.lmax (idxs.filter (· < n)) = n - 1 by omega]
  unfold Dsg.expectedChunks
  omega

/-- In general the accumulator has `max set index / 1024 + 1` chunks (none for an empty leaf
set): fewer than the receiving side expects exactly when the whole last expected chunk is spent. -/
theorem accumulator_chunks_general (idxs : List Nat) (n : Nat) :
    Dsg.accChunkCount idxs n =
      if idxs.filter (· < n) = [] then 0 else Dsg.lmax (idxs.filter (· < n)) / 1024 + 1 := by
  rw [Dsg.accChunkCount_eq, Dsg.top_eq]

/-- the bitmap tree of the desegmenter made for any archive header with at least one output is in
a regular state, so `cache_never_blocks` / `honest_peer_completes` apply at every chunk count -/
theorem header_bitmap_tree_regular (hb ho hr hk outs kers : Nat) (h : 1 ≤ outs) :
    Dsg.Inv (Dsg.State.ofHeader hb ho hr hk outs kers).bitmap :=
  fresh_bitmap_tree_regular hb (Dsg.expectedChunks outs) (by unfold Dsg.expectedChunks; omega)

-- the boundary values of the sweep (kernel-evaluated): chunk count and bitmap MMR size
example : [1, 1023, 1024, 1025, 2047, 2048, 2049, 4096, 4097].map Dsg.expectedChunks =
      [1, 1, 1, 2, 2, 2, 3, 4, 5] ∧
    [0, 1024, 1025, 2049, 4096, 4097].map Dsg.expectedBitmapSize = [0, 1, 3, 4, 7, 8] ∧
    Dsg.accChunkCount [0, 5, 1024, 3000, 2048] 3001 = 3 ∧ Dsg.accChunkCount [0, 5] 2049 = 1 := by
  decide +kernel

/-! ## A segment that does not exist in the MMR is refused (repair 362e7d94e) -/

/-- **nonexistent_segment_refused.**  A segment whose identifier lies beyond the MMR — no leaf of
its range exists in an MMR of the given size (`segment_unpruned_size(mmr_size) = 0`: the leaf offset
`idx · 2^height` is at or beyond `n_leaves(mmr_size)`), **in particular every segment against the
empty MMR** (`mmr_size = 0`) — is refused with `NonExistent` by `root`, `first_unpruned_parent`,
`validate` and `validate_with`, whatever leaves, hashes and proof it carries and whatever the
bitmap: the position range is never computed, let alone walked (before the repair the range of the
empty MMR was `0..=2^64−1`). -/
theorem nonexistent_segment_refused (hf : HashFn α H) [DecidableEq H] (s : Segment α H) (size : Nat)
    (bm : Option (Nat → Bool)) (mmrRoot : H) (hlp : Nat) (other : H) (left : Bool)
    (h : s.id.unprunedSize size = 0) :
    s.root hf size bm = .err .nonExistent ∧
    s.firstUnprunedParent hf size bm = .err .nonExistent ∧
    s.validate hf size bm mmrRoot = .err .nonExistent ∧
    s.validateWith hf size bm mmrRoot hlp other left = .err .nonExistent := by
  have hr := root_of_empty hf s size bm h
  exact ⟨hr, calls_of_root_err hf s size bm mmrRoot hlp other left _ hr⟩

/-- The hypothesis of `nonexistent_segment_refused` spelled out: the identifier lies beyond the MMR iff the (wrapping) leaf offset
is at or beyond the number of leaves; every identifier lies beyond the empty MMR. -/
theorem beyond_mmr_iff (id : Ident) (size : Nat) :
    (id.unprunedSize size = 0 ↔ nLeaves size ≤ id.leafOffset) ∧ id.unprunedSize 0 = 0 := by
  have hc := capacity_pos id
  constructor
  · unfold Ident.unprunedSize satSub; omega
  · have h0 : nLeaves 0 = 0 := by have := Co.nLeaves_mmr 0; rwa [Co.mmr_zero] at this
    unfold Ident.unprunedSize satSub; rw [h0]; omega

/-- Non-vacuity: a segment with leaves, hashes and a proof, identifier (1, 0): refused with
`NonExistent` against the empty MMR, with and without a bitmap; identifier (0, 9) of the 7-leaf MMR
(size 11, leaves 0..6) likewise. -/
example :
    let hsum : HashFn Nat Nat := ⟨fun _ x => x, fun _ l r => l + r⟩
    let s : Segment Nat Nat :=
      { id := ⟨1, 0⟩, hashPos := [2], hashes := [42], leafPos := [0, 1], leafData := [5, 6], proof := [7] }
    s.validate hsum 0 none 49 = .err .nonExistent ∧
    s.validateWith hsum 0 (some fun _ => true) 49 3 8 true = .err .nonExistent ∧
    Segment.validate hsum { s with id := ⟨0, 9⟩ } 11 none 49 = .err .nonExistent := by
  intro hsum s
  have h7 : nLeaves 11 = 7 := GV.Props.C07.mmr_7 ▸ Co.nLeaves_mmr 7
  refine ⟨(nonexistent_segment_refused hsum s 0 none 49 0 0 false (beyond_mmr_iff s.id 0).2).2.2.1,
    (nonexistent_segment_refused hsum s 0 _ 49 3 8 true (beyond_mmr_iff s.id 0).2).2.2.2, ?_⟩
  refine (nonexistent_segment_refused hsum { s with id := ⟨0, 9⟩ } 11 none 49 0 0 false ?_).2.2.1
  rw [(beyond_mmr_iff ⟨0, 9⟩ 11).1, h7]
  decide

/-! ## Identifier arithmetic of full segments -/

/-- For a full segment (`height < 64`, the block of `2^height` leaves inside the MMR, leaf count
below `2^62`) the wrapped u64 arithmetic of `segment_pos_range` is exact: the range is the
post-order range of the subtree of height `height` above leaves `idx·2^height …`, and its last
position has exactly that height. -/
theorem full_segment_range (id : Ident) (size : Nat) (v : FullId id size) :
    id.full size = true ∧
    id.posRange size = (mmr (id.idx * 2 ^ id.height), lastOf id) ∧
    id.positions size = treeRange id.height (lastOf id) ∧
    height (lastOf id) = id.height ∧
    (id.positions size).length = 2 ^ (id.height + 1) - 1 := by
  refine ⟨v.full, v.posRange, full_positions id size v, height_lastOf id, ?_⟩
  rw [full_positions id size v]
  simp [treeRange]

/-- the loop of `Segment::root` over a full segment's range never runs the stack empty and leaves
exactly one entry (its subtree root) -/
theorem full_segment_well_formed (id : Ident) (size : Nat) (v : FullId id size) :
    WellFormedRange id size := wellFormed_full id size v

/-! ## Soundness: what validation reads is determined by the root -/

/-- **Soundness for any identifier whose range is a well-formed post-order range**
(`WellFormedRange`: the loop of `root` leaves exactly the entries the end of `root` consumes —
a fact about `(id, size)` alone).  The general form behind `segment_sound` (full segments, any
size) and `segment_sound_any_id` (every identifier that intersects an MMR of valid size, the final
not full segment included: `segment_well_formed`). -/
theorem segment_sound_well_formed_range (hf : HashFn α H) [DecidableEq H] (inj : Inj hf) (s1 s2 : Segment α H)
    (hid : s1.id = s2.id) (size : Nat) (bm : Option (Nat → Bool)) (wf : WellFormedRange s1.id size)
    (mmrRoot r1 : H) (hroot : s1.root hf size bm = .ok (some r1))
    (h1 : s1.validate hf size bm mmrRoot = .ok ()) (h2 : s2.validate hf size bm mmrRoot = .ok ()) :
    segReads hf s1 size bm = segReads hf s2 size bm ∧
    s1.proof.take (proofLen s1.id size) = s2.proof.take (proofLen s1.id size) :=
  validate_inj hf inj s1 s2 hid size bm wf mmrRoot r1 hroot h1 h2

/-- **Segment soundness (full segments).**  Fix an MMR size, a bitmap (or none) and a root.
If a full segment `s1` (one that has a root of its own, i.e. is not completely pruned) and any
other segment `s2` with the same identifier are both accepted by `validate`, then they agree on
every leaf (position and data) and every hash (position and value) the reconstruction reads and
on every proof hash it consumes.  Hence: take `s1` = the segment a node produced
(`segment_complete…`); changing any leaf data or position, any hash the reconstruction depends
on, or any consumed proof hash makes validation fail. -/
theorem segment_sound (hf : HashFn α H) [DecidableEq H] (inj : Inj hf) (s1 s2 : Segment α H)
    (hid : s1.id = s2.id) (size : Nat) (bm : Option (Nat → Bool)) (v : FullId s1.id size)
    (mmrRoot r1 : H) (hroot : s1.root hf size bm = .ok (some r1))
    (h1 : s1.validate hf size bm mmrRoot = .ok ()) (h2 : s2.validate hf size bm mmrRoot = .ok ()) :
    segReads hf s1 size bm = segReads hf s2 size bm ∧
    s1.proof.take (proofLen s1.id size) = s2.proof.take (proofLen s1.id size) :=
  segment_sound_well_formed_range hf inj s1 s2 hid size bm (wellFormed_full s1.id size v) mmrRoot r1 hroot h1 h2

/-- the same for `validate_with` (output MMR: the PMMR root is hashed once more with the bitmap
root; bitmap MMR: with the output PMMR root) -/
theorem segment_sound_with (hf : HashFn α H) [DecidableEq H] (inj : Inj hf) (s1 s2 : Segment α H)
    (hid : s1.id = s2.id) (size : Nat) (bm : Option (Nat → Bool)) (v : FullId s1.id size)
    (mmrRoot r1 : H) (hlp : Nat) (other : H) (left : Bool)
    (hroot : s1.root hf size bm = .ok (some r1))
    (h1 : s1.validateWith hf size bm mmrRoot hlp other left = .ok ())
    (h2 : s2.validateWith hf size bm mmrRoot hlp other left = .ok ()) :
    segReads hf s1 size bm = segReads hf s2 size bm ∧
    s1.proof.take (proofLen s1.id size) = s2.proof.take (proofLen s1.id size) :=
  validateWith_inj hf inj s1 s2 hid size bm (wellFormed_full s1.id size v) mmrRoot r1 hlp other left
    hroot h1 h2

/-- Contrapositive, the form the property is phrased in: once one segment is accepted, a segment
with the same identifier that differs in anything read (or in a consumed proof hash) is rejected. -/
theorem tampered_segment_rejected (hf : HashFn α H) [DecidableEq H] (inj : Inj hf)
    (s1 s2 : Segment α H) (hid : s1.id = s2.id) (size : Nat) (bm : Option (Nat → Bool))
    (v : FullId s1.id size) (mmrRoot r1 : H) (hroot : s1.root hf size bm = .ok (some r1))
    (h1 : s1.validate hf size bm mmrRoot = .ok ())
    (hdiff : segReads hf s1 size bm ≠ segReads hf s2 size bm ∨
      s1.proof.take (proofLen s1.id size) ≠ s2.proof.take (proofLen s1.id size)) :
    s2.validate hf size bm mmrRoot ≠ .ok () := by
  intro h2
  obtain ⟨a, b⟩ := segment_sound hf inj s1 s2 hid size bm v mmrRoot r1 hroot h1 h2
  rcases hdiff with h | h
  · exact h a
  · exact h b

/-! ### The final, not full segment

`FinalId id N`: `height < 64`, `idx·2^height < N < (idx+1)·2^height`, `N < 2^62` — the last segment
of an MMR with `N` leaves whenever `2^height ∤ N`.  `FitId id N`: `height < 64`, `idx·2^height < N`,
`N < 2^62` — every identifier whose range intersects the MMR (full or final). -/

/-- The identifier arithmetic of the final segment is exact: it is not full, its range is
`[insertion_to_pmmr_index(idx·2^height), size − 1]`, and that range is tiled, in post-order, by the
subtrees of the peaks of the MMR that lie inside it (`tiles` of the low part of the forest), which
are exactly the peaks `Segment::root` bags (`peaksIn`, right to left). -/
theorem final_segment_range (id : Ident) (N : Nat) (v : FinalId id N) :
    id.full (mmr N) = false ∧
    id.posRange (mmr N) = (mmr (id.idx * 2 ^ id.height), mmr N - 1) ∧
    id.positions (mmr N) =
      tiles (Co.forestFrom id.height (id.idx * 2 ^ id.height) (finalLeaves id N)) ∧
    id.peaksIn (mmr N) =
      ((Co.forestFrom id.height (id.idx * 2 ^ id.height) (finalLeaves id N)).map Co.cpos).reverse ∧
    (∃ Lh, Co.forest N = Lh ++ Co.forestFrom id.height (id.idx * 2 ^ id.height) (finalLeaves id N)) :=
  ⟨v.not_full, v.posRange, final_positions id N v,
    final_peaksIn id N v, (final_forest id N v).imp fun _ h => h.1⟩

/-- **final_segment_well_formed.**  The last, not full segment of every MMR size: the loop of
`Segment::root` never runs the stack empty and leaves exactly one entry per peak inside the range —
what the bagging loop at the end consumes. -/
theorem final_segment_well_formed (id : Ident) (N : Nat) (v : FinalId id N) :
    WellFormedRange id (mmr N) := wellFormed_final id N v

/-- Every identifier whose range intersects the MMR has a well-formed range. -/
theorem segment_well_formed (id : Ident) (N : Nat) (v : FitId id N) :
    WellFormedRange id (mmr N) := wellFormed_fit id N v

/-- **Segment soundness for every identifier that intersects the MMR** (full segments and the
final, not full one; no hypothesis about the range).  `N` = number of leaves of the MMR,
`mmr N` its size.  If a segment `s1` that has a root of its own and any other segment `s2` with
the same identifier are both accepted, they agree on every leaf (position and data) and every hash
(position and value) the reconstruction reads and on every proof hash it consumes. -/
theorem segment_sound_any_id (hf : HashFn α H) [DecidableEq H] (inj : Inj hf) (s1 s2 : Segment α H)
    (hid : s1.id = s2.id) (N : Nat) (bm : Option (Nat → Bool)) (v : FitId s1.id N)
    (mmrRoot r1 : H) (hroot : s1.root hf (mmr N) bm = .ok (some r1))
    (h1 : s1.validate hf (mmr N) bm mmrRoot = .ok ()) (h2 : s2.validate hf (mmr N) bm mmrRoot = .ok ()) :
    segReads hf s1 (mmr N) bm = segReads hf s2 (mmr N) bm ∧
    s1.proof.take (proofLen s1.id (mmr N)) = s2.proof.take (proofLen s1.id (mmr N)) :=
  segment_sound_well_formed_range hf inj s1 s2 hid (mmr N) bm (wellFormed_fit s1.id N v) mmrRoot r1 hroot h1 h2

theorem segment_sound_with_any_id (hf : HashFn α H) [DecidableEq H] (inj : Inj hf) (s1 s2 : Segment α H)
    (hid : s1.id = s2.id) (N : Nat) (bm : Option (Nat → Bool)) (v : FitId s1.id N)
    (mmrRoot r1 : H) (hlp : Nat) (other : H) (left : Bool)
    (hroot : s1.root hf (mmr N) bm = .ok (some r1))
    (h1 : s1.validateWith hf (mmr N) bm mmrRoot hlp other left = .ok ())
    (h2 : s2.validateWith hf (mmr N) bm mmrRoot hlp other left = .ok ()) :
    segReads hf s1 (mmr N) bm = segReads hf s2 (mmr N) bm ∧
    s1.proof.take (proofLen s1.id (mmr N)) = s2.proof.take (proofLen s1.id (mmr N)) :=
  validateWith_inj hf inj s1 s2 hid (mmr N) bm (wellFormed_fit s1.id N v) mmrRoot r1 hlp other left
    hroot h1 h2

/-- contrapositive for every identifier that intersects the MMR -/
theorem tampered_segment_rejected_any_id (hf : HashFn α H) [DecidableEq H] (inj : Inj hf)
    (s1 s2 : Segment α H) (hid : s1.id = s2.id) (N : Nat) (bm : Option (Nat → Bool))
    (v : FitId s1.id N) (mmrRoot r1 : H) (hroot : s1.root hf (mmr N) bm = .ok (some r1))
    (h1 : s1.validate hf (mmr N) bm mmrRoot = .ok ())
    (hdiff : segReads hf s1 (mmr N) bm ≠ segReads hf s2 (mmr N) bm ∨
      s1.proof.take (proofLen s1.id (mmr N)) ≠ s2.proof.take (proofLen s1.id (mmr N))) :
    s2.validate hf (mmr N) bm mmrRoot ≠ .ok () := by
  intro h2
  obtain ⟨a, b⟩ := segment_sound_any_id hf inj s1 s2 hid N bm v mmrRoot r1 hroot h1 h2
  rcases hdiff with h | h
  · exact h a
  · exact h b

-- non-vacuity: the 11-leaf MMR (size 19): (height 2, idx 2) is its final segment (leaves 8..10,
-- peaks 17 and 18 inside), (height 1, idx 5) the final one-leaf segment, (height 1, idx 2) and
-- (height 2, idx 1) are full
example : FinalId ⟨2, 2⟩ 11 ∧ FinalId ⟨1, 5⟩ 11 ∧ FitId ⟨2, 2⟩ 11 ∧ FitId ⟨1, 2⟩ 11 ∧ FitId ⟨2, 1⟩ 11 :=
  ⟨⟨by decide, by decide, by decide, by decide⟩, ⟨by decide, by decide, by decide, by decide⟩,
    ⟨by decide, by decide, by decide⟩, ⟨by decide, by decide, by decide⟩,
    ⟨by decide, by decide, by decide⟩⟩

/-- Completely pruned segments carry one hash, their first unpruned parent.  If two accepted
ones carry it at the same position, the hash and the consumed proof hashes are equal.
(Two accepted segments may carry it at *different* levels of the branch; then one hash is the
other hashed with proof hashes — not an elementwise equality; not stated.) -/
theorem segment_sound_pruned (hf : HashFn α H) [DecidableEq H] (inj : Inj hf) (s1 s2 : Segment α H)
    (hid : s1.id = s2.id) (size : Nat) (bm : Option (Nat → Bool)) (mmrRoot p1 p2 : H) (u : Nat)
    (f1 : s1.firstUnprunedParent hf size bm = .ok (p1, u))
    (f2 : s2.firstUnprunedParent hf size bm = .ok (p2, u))
    (h1 : s1.validate hf size bm mmrRoot = .ok ()) (h2 : s2.validate hf size bm mmrRoot = .ok ()) :
    p1 = p2 ∧
    s1.proof.take (consumed size (s1.id.posRange size).1 (s1.id.posRange size).2 u) =
      s2.proof.take (consumed size (s1.id.posRange size).1 (s1.id.posRange size).2 u) := by
  obtain ⟨_, _, _, g1, e1⟩ := (validate_ok_iff hf s1 size bm mmrRoot).1 h1
  obtain ⟨_, _, _, g2, e2⟩ := (validate_ok_iff hf s2 size bm mmrRoot).1 h2
  rw [f1] at g1; rw [f2] at g2; cases g1; cases g2
  rw [← hid] at e2
  exact reconstructRoot_inj hf inj _ _ _ _ _ _ _ _ _ _ _ e1 e2

/-! ## A leaf the bitmap marks unspent cannot be omitted -/

/-- the bitmap marking a leaf (or its sibling) makes its data required -/
theorem required_of_marked (b : Nat → Bool) (size pos0 : Nat)
    (h : b ((nLeaves (pos0 + 1) - 1) % 2 ^ 32) = true) : required (some b) size pos0 = true := by
  simp [required, h]

/-- with no bitmap (kernel MMR, bitmap MMR) every leaf is required -/
theorem required_no_bitmap (size pos0 : Nat) : required none size pos0 = true := rfl

/-- **Every required leaf of the range must be present**: if `validate` accepts, then for every
leaf position of the segment's range whose data is required (no bitmap; or the bitmap marks the
leaf or its sibling unspent; or it is the last position of the MMR) the segment holds an entry
`(pos, data)` in its leaf list, and that entry is what was hashed.  (Any identifier, any size.) -/
theorem unspent_leaf_must_be_present (hf : HashFn α H) [DecidableEq H] (s : Segment α H) (size : Nat)
    (bm : Option (Nat → Bool)) (mmrRoot : H) (h : s.validate hf size bm mmrRoot = .ok ())
    (p : Nat) (hp : p ∈ s.id.positions size) (hleaf : height p = 0)
    (hreq : required bm size p = true) :
    ∃ x, (p, x) ∈ s.leafPos.zip s.leafData ∧ Ev.leaf p x ∈ segReads hf s size bm := by
  obtain ⟨_, _, _, hx0, _⟩ := (validate_ok_iff hf s size bm mmrRoot).1 h
  obtain ⟨o, ho⟩ := root_ok_of_fup_ok hf s size bm _ hx0
  have ho := (root_ok_rootWith hf s size bm o ho).2
  unfold segReads
  exact rootWith_required hf s bm size _ _ _ o ho p hp hleaf hreq

/-! ## Completeness (unpruned MMR, no bitmap: kernel and bitmap MMRs, and any unpruned source)

The MMR is the hash vector of the defining construction, `Spec.Mmr.hashes hf xs` — by C07
`push_root` exactly what pushing `xs` one by one onto an empty Vec backend builds; the node law
(leaf hash = hash of the element, parent hash = hash of its children) is *discharged* from the
`(n, h)` coordinates of C07 (`hAt_leafLaw`, `hAt_nodeLaw`), not assumed.  `vecView hashes xs` is
the `ReadonlyPMMR` over that backend.  `expectedLeaves xs ps`: `(q, xs[j])` for every position `q`
of `ps` that is the position of leaf `j`; `expectedSegRoot`: the committed hash at the last
position of a full segment, the peaks inside the range bagged right to left otherwise. -/

/-- **segment_complete.**  For every list of elements `xs`, every identifier `id` whose range
intersects the MMR of `xs` (`height < 64`, first leaf `idx·2^height < |xs| < 2^62`: full segments
*and* the final, not full one):
* `from_pmmr(id, .., prunable = false)` succeeds; the segment carries no hashes and exactly the
  expected leaf list;
* its `root` is the hash of its subtree root, resp. the bagged peaks of the final segment;
* its `SegmentProof` reconstructs the MMR root from that segment root, consuming every hash;
* hence `validate(size, None, root)` is `Ok`, and so is `validate_with` against the root merged
  with any other root on either side. -/
theorem segment_complete (hf : HashFn α H) [DecidableEq H] (xs : List α) (id : Ident)
    (fit : FitId id xs.length) :
    ∃ s r sr, fromPmmr hf (vecView (Spec.Mmr.hashes hf xs) xs) id false = .ok s ∧
      Spec.Mmr.root hf xs = some r ∧
      expectedSegRoot hf (Spec.Mmr.hashes hf xs) id = some sr ∧
      s.id = id ∧ s.hashPos = [] ∧ s.hashes = [] ∧
      s.leafPos.zip s.leafData = expectedLeaves xs (id.positions (mmr xs.length)) ∧
      s.root hf (mmr xs.length) none = .ok (some sr) ∧
      reconstructRoot hf s.proof (mmr xs.length) (id.posRange (mmr xs.length)).1
        (id.posRange (mmr xs.length)).2 sr (1 + (id.posRange (mmr xs.length)).2) = .ok (r, []) ∧
      s.validate hf (mmr xs.length) none r = .ok () ∧
      ∀ hlp other left, s.validateWith hf (mmr xs.length) none
        (if left then hf.node hlp other r else hf.node hlp r other) hlp other left = .ok () := by
  obtain ⟨N, f, rfl⟩ := exists_fn_of_fit fit
  simp only [List.length_map, List.length_range] at fit ⊢
  rw [Co.spec_hashes, Co.spec_root]
  obtain ⟨proof, r, sr, hfrom, hr, hsr, hsroot, hrec, hv, hvw⟩ :=
    segment_complete_view hf f N _ (vecView_unpruned hf f N) id fit
  refine ⟨_, r, sr, hfrom, hr, ?_, rfl, rfl, rfl, ?_, hsroot, hrec, hv, hvw⟩
  · rw [expectedSegRoot_eq hf f N id fit]; exact hsr
  · rw [honestSeg_leaves]
    exact leavesOf_expected _ f (fun i hi => by simp) _
      (by simpa using fit.positions_lt)

/-- the same on the state of the model of `PMMR::push` itself: `hs` is what pushing `xs` built,
`r` what `root()` returns on it -/
theorem segment_complete_pushed (hf : HashFn α H) [DecidableEq H] (xs : List α) (hs : List H)
    (hpush : pushAll hf [] xs = some hs) (r : H) (hroot : Pmmr.root hf hs = .ok r) (id : Ident)
    (fit : FitId id xs.length) :
    ∃ s, fromPmmr hf (vecView hs xs) id false = .ok s ∧ s.validate hf hs.length none r = .ok () := by
  have hb : xs.length ≤ 2 ^ 65 := by have := fit.small; omega
  obtain ⟨h1, h2, _⟩ := GV.Props.C07.push_root hf xs hb
  have hr := (GV.Props.C07.root_pushed hf xs hb hs hpush r).1 hroot
  rw [h1] at hpush
  injection hpush with hpush
  subst hpush
  obtain ⟨s, r', _, hfrom, hr', _, _, _, _, _, _, _, hv, _⟩ := segment_complete hf xs id fit
  rw [hr] at hr'
  injection hr' with hr'
  subst hr'
  exact ⟨s, hfrom, by rw [h2]; exact hv⟩

/-- **Completeness + soundness**: against the root of the MMR of `xs`, every accepted segment with
identifier `id` reads exactly what the honest segment reads — the leaves `expectedLeaves xs …` at
their positions — and consumes the honest proof.  (No bitmap; collision-free hashes.) -/
theorem accepted_segment_is_honest (hf : HashFn α H) [DecidableEq H] (inj : Inj hf) (xs : List α)
    (id : Ident) (fit : FitId id xs.length) (s2 : Segment α H) (hid : s2.id = id) (r : H)
    (hr : Spec.Mmr.root hf xs = some r) (h2 : s2.validate hf (mmr xs.length) none r = .ok ()) :
    ∃ s, fromPmmr hf (vecView (Spec.Mmr.hashes hf xs) xs) id false = .ok s ∧
      segReads hf s (mmr xs.length) none = segReads hf s2 (mmr xs.length) none ∧
      s.proof.take (proofLen id (mmr xs.length)) = s2.proof.take (proofLen id (mmr xs.length)) := by
  obtain ⟨s, r', sr, hfrom, hr', _, hsid, _, _, _, hsroot, _, hv, _⟩ := segment_complete hf xs id fit
  rw [hr] at hr'
  injection hr' with hr'
  subst hr'
  have := segment_sound_any_id hf inj s s2 (by rw [hsid, hid]) xs.length none (by rw [hsid]; exact fit)
    r sr hsroot hv h2
  rw [hsid] at this
  exact ⟨s, hfrom, this⟩

-- non-vacuity: the 11-leaf MMR over free terms (size 19); the final segment (height 2, idx 2:
-- leaves 8, 9, 10, peaks 17 and 18), a full height-1 and a full height-2 segment: generated,
-- and accepted against the root
example : ∀ id ∈ [(⟨2, 2⟩ : Ident), ⟨1, 2⟩, ⟨2, 1⟩, ⟨1, 5⟩, ⟨0, 10⟩, ⟨4, 0⟩],
    ∃ s r, fromPmmr (Co.termHF Nat)
        (vecView (Spec.Mmr.hashes (Co.termHF Nat) [10, 11, 12, 13, 14, 15, 16, 17, 18, 19, 20])
          [10, 11, 12, 13, 14, 15, 16, 17, 18, 19, 20]) id false = .ok s ∧
      Spec.Mmr.root (Co.termHF Nat) [10, 11, 12, 13, 14, 15, 16, 17, 18, 19, 20] = some r ∧
      s.validate (Co.termHF Nat) (mmr 11) none r = .ok () := by
  intro id hid
  have fit : FitId id 11 := by
    simp only [List.mem_cons, List.mem_nil_iff, or_false] at hid
    rcases hid with rfl | rfl | rfl | rfl | rfl | rfl <;> exact ⟨by decide, by decide, by decide⟩
  obtain ⟨s, r, _, h1, h2, _, _, _, _, _, _, _, h3, _⟩ :=
    segment_complete (Co.termHF Nat) [10, 11, 12, 13, 14, 15, 16, 17, 18, 19, 20] id fit
  exact ⟨s, r, h1, h2, h3⟩

/-! ## Redundant extra hashes are not rejected -/

/-- Hashes appended to the proof after the ones `reconstruct_root` consumes are ignored:
an accepted segment stays accepted (matches the caveat in the property text; such segments are
covered by the final-state clause, `never_finalise_wrong_roots`). -/
theorem redundant_proof_hashes_not_rejected (hf : HashFn α H) [DecidableEq H] (s : Segment α H)
    (extra : List H) (size : Nat) (bm : Option (Nat → Bool)) (mmrRoot : H)
    (h : s.validate hf size bm mmrRoot = .ok ()) :
    Segment.validate hf { s with proof := s.proof ++ extra } size bm mmrRoot = .ok () := by
  obtain ⟨sr, u, rest, hx, hr⟩ := (validate_ok_iff hf s size bm mmrRoot).1 h
  exact (validate_ok_iff hf _ size bm mmrRoot).2 ⟨sr, u, rest ++ extra,
    by rw [fup_proof_irrelevant]; exact hx, reconstructRoot_extra hf s.proof extra _ _ _ _ _ _ _ hr⟩

/-- **Redundant extra hash entries are not rejected** (the caveat of the property text, for all
segments).  Append any hash entries `(ep, eh)` to a segment (`get_hash` returns the first match,
so an appended entry at a position the segment already holds is shadowed):
* a successful `root` keeps its result — whatever is appended, at whatever positions;
* `validate` stays `Ok` whenever the segment has a root of its own (leaf data present), with no
  condition on the appended entries at all;
* for a segment *without* a root of its own (completely pruned: `root = Ok(None)`), the only
  computation in which a failed lookup is not an error, `validate` stays `Ok` provided every
  appended position is already held by the segment or is neither the segment's last position nor
  a parent on its family branch (the positions `first_unpruned_parent` asks for on its way up).
(The side condition is needed: an arbitrary hash appended *at* the last position of a completely
pruned segment that carries a higher parent is found first and changes the reconstructed root.) -/
theorem redundant_hash_entries_not_rejected (hf : HashFn α H) [DecidableEq H] (s : Segment α H)
    (ep : List Nat) (eh : List H) (hlen : s.hashPos.length = s.hashes.length) (size : Nat)
    (bm : Option (Nat → Bool)) (mmrRoot : H)
    (hnew : s.root hf size bm = .ok none → ∀ e ∈ ep, (∃ h, s.getHash e = .ok h) ∨
      (e ≠ (s.id.posRange size).2 ∧ ∀ y ∈ familyBranch (s.id.posRange size).2 size, y.1 ≠ e)) :
    (∀ o, s.root hf size bm = .ok o → (addHashes s ep eh).root hf size bm = .ok o) ∧
    (s.validate hf size bm mmrRoot = .ok () →
      (addHashes s ep eh).validate hf size bm mmrRoot = .ok ()) ∧
    (∀ hlp other left, s.validateWith hf size bm mmrRoot hlp other left = .ok () →
      (addHashes s ep eh).validateWith hf size bm mmrRoot hlp other left = .ok ()) := by
  have ext := addHashes_ext s ep eh hlen
  have hwalk : s.root hf size bm = .ok none →
      WalkAgree s (addHashes s ep eh) (s.id.posRange size).2 size :=
    fun hr => addHashes_walk s ep eh hlen _ size (hnew hr)
  exact ⟨fun o ho => root_ext hf s _ ext size bm o ho,
    fun h => validate_ext hf s _ ext rfl size bm mmrRoot hwalk h,
    fun hlp other left h => validateWith_ext hf s _ ext rfl size bm mmrRoot hlp other left hwalk h⟩

/-- `redundant_hash_entries_not_rejected` for a segment with a root of its own (every segment that
carries leaf data the bitmap requires; every kernel / bitmap segment): it stays accepted whatever
hash entries are added. -/
theorem redundant_hash_entries_not_rejected_rooted (hf : HashFn α H) [DecidableEq H] (s : Segment α H)
    (ep : List Nat) (eh : List H) (hlen : s.hashPos.length = s.hashes.length) (size : Nat)
    (bm : Option (Nat → Bool)) (mmrRoot r : H) (hroot : s.root hf size bm = .ok (some r))
    (h : s.validate hf size bm mmrRoot = .ok ()) :
    (addHashes s ep eh).root hf size bm = .ok (some r) ∧
    (addHashes s ep eh).validate hf size bm mmrRoot = .ok () := by
  obtain ⟨h1, h2, _⟩ := redundant_hash_entries_not_rejected hf s ep eh hlen size bm mmrRoot
    (fun hn => by rw [hroot] at hn; cases hn)
  exact ⟨h1 _ hroot, h2 h⟩

-- non-vacuity: the honest final segment (height 2, idx 2) of the 11-leaf MMR with three arbitrary
-- hash entries appended (inside the range, on the family branch, outside the MMR) is still accepted
example : ∃ s r, fromPmmr (Co.termHF Nat)
      (vecView (Spec.Mmr.hashes (Co.termHF Nat) [10, 11, 12, 13, 14, 15, 16, 17, 18, 19, 20])
        [10, 11, 12, 13, 14, 15, 16, 17, 18, 19, 20]) ⟨2, 2⟩ false = .ok s ∧
    Spec.Mmr.root (Co.termHF Nat) [10, 11, 12, 13, 14, 15, 16, 17, 18, 19, 20] = some r ∧
    (addHashes s [16, 18, 40] [.leaf 0 0, .leaf 1 1, .leaf 2 2]).validate (Co.termHF Nat) (mmr 11) none r
      = .ok () := by
  obtain ⟨s, r, sr, h1, h2, _, _, hp, hh, _, hroot, _, hv, _⟩ :=
    segment_complete (Co.termHF Nat) [10, 11, 12, 13, 14, 15, 16, 17, 18, 19, 20] ⟨2, 2⟩
      ⟨by decide, by decide, by decide⟩
  exact ⟨s, r, h1, h2, (redundant_hash_entries_not_rejected_rooted (Co.termHF Nat) s _ _
    (by rw [hp, hh]; rfl) (mmr 11) none r sr hroot hv).2⟩

/-! ## Completeness with a bitmap (output / rangeproof MMRs: spent, pruned, compacted sources)

`PrunedView hf f N b V` (`Lemmas/SegPruned.lean`) characterises what the `ReadonlyPMMR` of a store
in a state reachable through its usage protocol answers, together with the bitmap `b` of unspent
leaf indices (`N < 2^32` leaves): everything on file is genuine; a leaf on file has its data, and a
leaf off file has none (`data_compacted`: `get_from_file` and `get_data_from_file` both start with
the `is_compacted` test); inner positions are read through `get_from_file`; peaks are on file; and
a position is off file only strictly inside a compacted subtree — if an inner node or one of its
children is off file, both children are off file and no leaf below the node is marked unspent
(`compacted`).  `get_hash` of a *leaf* is not constrained (spent leaves are hidden by the leaf set).

`segment_complete_pruned`: for every such view and every identifier of **height ≥ 1** whose range
intersects the MMR: `∃ s, from_pmmr(id, V, prunable = true) = Ok(s) ∧ validate(size, Some(bitmap),
root) = Ok` (and `validate_with`).  Three cases:
* the full segment whose subtree root is on file — live, partly compacted, or completely spent but
  not yet compacted below its root (`pruned_full_segment_root`);
* the final, not full segment, in every prune state (spent peaks are loaded from the hashes);
* the **completely compacted full segment** (`compacted_full_segment`): its last position lies
  strictly inside a compacted subtree, so `from_pmmr` finds neither data nor hashes in the range,
  takes its "fully pruned segment" branch and ships exactly one hash — the first position `a` of
  the family branch that is on file — with a proof that starts above `a`; `Segment::root` answers
  `Ok(None)` (no leaf of the range is required: none is marked, each has its sibling in the range,
  none is the last position); `first_unpruned_parent` walks up the family branch — the segment has
  no hash at the positions below `a`, and the bitmap cardinality under every ancestor up to and
  including `a` is 0 by `compacted` applied at `a`, whose child on the branch is off file (the
  walk-up lemma, `fupLoop_walk`) — and returns the hash at `a`, from which the proof re-bags the
  MMR root.
What stays excluded, and why:
* *height 0* — the statement is **false** for the code: a single-leaf segment whose leaf and
  sibling are both spent has no root of its own (`root = Ok(None)`) and carries its data, not its
  hash, so `first_unpruned_parent` walks up and ends in `MissingHash`; over a real store
  `SegmentProof::generate` already fails with `MissingHash(sibling)` because `get_hash` hides the
  spent sibling leaf.  Concretely: the 2-leaf MMR (size 3), both leaves spent, nothing compacted,
  identifier (height 0, idx 0).  The harness reproduces it on the real code (class
  `height0-both-unmarked`, compared with the model only).  Heights 0 are never requested
  (`pibd_params`: 9 / 11), so this is a latent defect, not a live one.
The field `data_compacted` is needed: `pruned_view_needs_data_compacted` below. -/

/-- **segment_complete_pruned.**  Completeness with a bitmap, every prune state: for every view of
a pruned / compacted store (`PrunedView`, with the bitmap `b` of unspent leaves) and every
identifier of height ≥ 1 whose range intersects the MMR, the honest segment
`from_pmmr(id, V, prunable = true)` exists and `validate(size, Some(b), root)` accepts it, and so
does `validate_with` against the root merged with any other root on either side.  (Height 0: the
statement is false for the code — see the comment above.) -/
theorem segment_complete_pruned (hf : HashFn α H) [DecidableEq H] (f : Nat → α) (N : Nat)
    (b : Nat → Bool) (V : View α H) (pv : PrunedView hf f N b V) (id : Ident) (fit : FitId id N)
    (hg : 1 ≤ id.height) :
    ∃ s r, fromPmmr hf V id true = .ok s ∧ rootOf hf f N = some r ∧ s.id = id ∧
      s.validate hf (mmr N) (some b) r = .ok () ∧
      ∀ hlp other left, s.validateWith hf (mmr N) (some b)
        (if left then hf.node hlp other r else hf.node hlp r other) hlp other left = .ok () := by
  by_cases hc : FullId id (mmr N) ∧ V.fromFile (lastOf id) = none
  · obtain ⟨m, proof, r, _, _, _, _, hroot, hs⟩ := compacted_full_complete pv id hc.1 hg hc.2
    obtain ⟨hfrom, _, _, hacc⟩ := hs _ rfl
    exact ⟨_, r, hfrom, hroot, rfl, hacc.validate, hacc.validateWith⟩
  · obtain ⟨s, r, hfrom, hroot, hid, hacc⟩ :=
      complete_pruned hf f N b V pv id fit hg (fun hfull hoff => hc ⟨hfull, hoff⟩)
    exact ⟨s, r, hfrom, hroot, hid, hacc.validate, hacc.validateWith⟩

/-- `segment_complete_pruned` with the case named in which the subtree root of a full segment is on
file; the hypothesis `_hon` only names the case, the statement holds without it -/
theorem segment_complete_pruned_root_on_file (hf : HashFn α H) [DecidableEq H] (f : Nat → α) (N : Nat)
    (b : Nat → Bool) (V : View α H) (pv : PrunedView hf f N b V) (id : Ident) (fit : FitId id N)
    (hg : 1 ≤ id.height) (_hon : FullId id (mmr N) → V.fromFile (lastOf id) ≠ none) :
    ∃ s r, fromPmmr hf V id true = .ok s ∧ rootOf hf f N = some r ∧ s.id = id ∧
      s.validate hf (mmr N) (some b) r = .ok () ∧
      ∀ hlp other left, s.validateWith hf (mmr N) (some b)
        (if left then hf.node hlp other r else hf.node hlp r other) hlp other left = .ok () :=
  segment_complete_pruned hf f N b V pv id fit hg

/-- **compacted_full_segment.**  The completely compacted full segment (height ≥ 1, subtree root
off file): the honest segment is one hash and no leaves; the hash is the committed hash at `a`,
the first position of the family branch of the segment's last position that is on file (everything
on the branch below `a` is off file); `root` answers `Ok(None)`, `first_unpruned_parent` answers
`(hash at a, 1 + a)`, and `validate` / `validate_with` accept. -/
theorem compacted_full_segment (hf : HashFn α H) [DecidableEq H] (f : Nat → α) (N : Nat)
    (b : Nat → Bool) (V : View α H) (pv : PrunedView hf f N b V) (id : Ident) (v : FullId id (mmr N))
    (hg : 1 ≤ id.height) (hoff : V.fromFile (lastOf id) = none) :
    ∃ a s r, fromPmmr hf V id true = .ok s ∧ rootOf hf f N = some r ∧ s.id = id ∧
      s.hashPos = [a] ∧ s.hashes = [hAt hf f a] ∧ s.leafPos = [] ∧ s.leafData = [] ∧
      (∃ x ∈ familyBranch (lastOf id) (mmr N), x.1 = a) ∧
      (∀ x ∈ familyBranch (lastOf id) (mmr N), x.1 < a → V.fromFile x.1 = none) ∧
      V.fromFile a = some (hAt hf f a) ∧
      s.root hf (mmr N) (some b) = .ok none ∧
      s.firstUnprunedParent hf (mmr N) (some b) = .ok (hAt hf f a, 1 + a) ∧
      s.validate hf (mmr N) (some b) r = .ok () ∧
      ∀ hlp other left, s.validateWith hf (mmr N) (some b)
        (if left then hf.node hlp other r else hf.node hlp r other) hlp other left = .ok () := by
  obtain ⟨m, proof, r, hgm, hoffj, hx, hmem, hroot, hs⟩ := compacted_full_complete pv id v hg hoff
  obtain ⟨hfrom, hrS, hfup, hacc⟩ := hs _ rfl
  refine ⟨anc (lastLeaf id) m, _, r, hfrom, hroot, rfl, rfl, rfl, rfl, rfl, hmem, ?_, hx, hrS, hfup,
    hacc.validate, hacc.validateWith⟩
  obtain ⟨k, L, R, c⟩ := Co.exists_peakCtx (lastLeaf_lt id N v)
  rw [full_familyBranch c]
  intro x hxm hlt
  simp only [Co.branchCo, List.mem_map, List.mem_range'_1] at hxm
  obtain ⟨j, ⟨hj1, _⟩, rfl⟩ := hxm
  have hjm : j + 1 < m := by
    apply Classical.byContradiction
    intro hc
    have := anc_mono (lastLeaf id) (show m ≤ j + 1 by omega)
    have e : (Co.cpos (Co.up (lastLeaf id) (j + 1), j + 1), Co.cpos (Co.sibCo (lastLeaf id) j)).1
        = anc (lastLeaf id) (j + 1) := rfl
    rw [e] at hlt
    omega
  exact hoffj (j + 1) (by omega) hjm

-- non-vacuity of the hypotheses of `compacted_full_segment`: 11 leaves `10 + i`, the subtree below
-- position 6 compacted, bitmap {5, 8, 9, 10}; the identifier (height 1, idx 0) is full and its
-- subtree root (position 2) is off file
example :
    PrunedView (Co.termHF Nat) (fun i => 10 + i) 11 (fun j => decide (j ∈ [5, 8, 9, 10]))
      (compactBelow (spentView (Co.allHashes (Co.termHF Nat) (fun i => 10 + i) 11)
        ((List.range 11).map fun i => 10 + i) (fun _ => false)) 3 2) ∧
    FullId ⟨1, 0⟩ (mmr 11) ∧
    (compactBelow (spentView (Co.allHashes (Co.termHF Nat) (fun i => 10 + i) 11)
      ((List.range 11).map fun i => 10 + i) (fun _ => false)) 3 2).fromFile (lastOf ⟨1, 0⟩) = none := by
  have h11 : nLeaves (mmr 11) = 11 := Co.nLeaves_mmr 11
  refine ⟨spentView_compactBelow_pruned (Co.termHF Nat) (fun i => 10 + i) 11 _ (fun _ => false)
    (by decide) 3 2 (by decide) (by
      intro j _ h
      have : j = 0 ∨ j = 1 ∨ j = 2 ∨ j = 3 := by omega
      rcases this with rfl | rfl | rfl | rfl <;> decide),
    ⟨by decide, by rw [h11]; decide, by rw [h11]; decide⟩, ?_⟩
  have hb : below 3 2 (lastOf ⟨1, 0⟩) = true := by decide +kernel
  simp only [compactBelow, hb, if_true]

/-- **the walk-up lemma** of `first_unpruned_parent`, on its own: started at the level-`j` ancestor
`anc n j` of leaf `n` with the rest of the family branch (`Co.branchCo`: parents of the levels
`j+1, j+2, …`), if the segment has no hash at the levels `j ..= j+e`, holds `x` at level `j+e+1`,
and the bitmap has no bit in the leaf range of each of the levels `j+1 ..= j+e+1`, the loop
returns `(x, 1 + position of level j+e+1)`. -/
theorem first_unpruned_parent_walk (s : Segment α H) (b : Nat → Bool) (nl n : Nat) (x : H)
    (e j r : Nat)
    (hmiss : ∀ i, i ≤ e → s.getHash (anc n (j + i)) = .err (.missingHash (anc n (j + i))))
    (hget : s.getHash (anc n (j + e + 1)) = .ok x)
    (hcard : ∀ i, i ≤ e → rangeCard b (subtreeLeafRange (anc n (j + i + 1)) nl).1
      (subtreeLeafRange (anc n (j + i + 1)) nl).2 = 0) :
    fupLoop s b nl (anc n j) (Co.branchCo n j (e + 1 + r)) = .ok (x, 1 + anc n (j + e + 1)) :=
  fupLoop_walk s b nl n x e j r hmiss hget hcard

/-- **Why `PrunedView` has the field `data_compacted`** (a fact about the model's record, not about
the code: no store state answers like this, both file reads test `is_compacted` first).  The
record without that field (`PrunedViewWeak`) is satisfied by `keepDataView`: the 4-leaf MMR
(size 7), empty bitmap, positions 0..5 off the hash file, peak 6 on file, but the data of every
leaf still answered.  For it `from_pmmr((height 1, idx 0), prunable = true)` collects leaf data,
does not take the "fully pruned segment" branch, asks `get_hash` for position 5 (the sibling of the
segment root 2) and fails with `MissingHash(5)`: completeness would be false.  Kernel-evaluated. -/
theorem pruned_view_needs_data_compacted :
    PrunedViewWeak (Co.termHF Nat) (fun i => 10 + i) 4 (fun _ => false) keepDataView ∧
    FitId ⟨1, 0⟩ 4 ∧
    fromPmmr (Co.termHF Nat) keepDataView ⟨1, 0⟩ true = .err (.missingHash 5) := by
  refine ⟨?_, ⟨by decide, by decide, by decide⟩, ?_⟩
  · exact prunedViewWeak_keepData
      (spentView_compactBelow_pruned (Co.termHF Nat) (fun i => 10 + i) 4 (fun _ => false)
        (fun _ => true) (by decide) 3 2 (by decide) (fun _ _ _ => rfl)).weak _
      (fun q hq hl => vecView_data (Co.termHF Nat) (fun i => 10 + i) 4 q hq hl)
  · exact eq_of_isMissingHash _ _ (by decide +kernel)

/-- what the honest pruned segment's root and first unpruned parent are, for a full segment whose
subtree root is on file: `Some(committed hash)` iff a leaf below is required (`liveAt`), and in
either case the first unpruned parent is the committed hash at the segment's last position -/
theorem pruned_full_segment_root (hf : HashFn α H) [DecidableEq H] (f : Nat → α) (N : Nat)
    (b : Nat → Bool) (V : View α H) (pv : PrunedView hf f N b V) (id : Ident) (v : FullId id (mmr N))
    (hg : 1 ≤ id.height) (hon : V.fromFile (lastOf id) ≠ none) :
    ∃ s, fromPmmr hf V id true = .ok s ∧
      s.root hf (mmr N) (some b) = .ok (if liveAt (some b) (mmr N) id.height (lastOf id)
        then some (hAt hf f (lastOf id)) else none) ∧
      s.firstUnprunedParent hf (mmr N) (some b) = .ok (hAt hf f (lastOf id), 1 + lastOf id) := by
  obtain ⟨proof, r, h1, _, h3, h4, _⟩ := full_complete_pruned pv id v hg hon
  exact ⟨_, h1, h3, h4⟩

/-- **On lists, for sources whose leaves are spent in any pattern** (`removed`: hidden from
`get_hash`, still on file) **and, second part, with one compacted sibling pair** `n0 − 1, n0`
(both unmarked): every segment of height ≥ 1 that intersects the MMR is generated and validates
against *any* bitmap `b` (resp. any bitmap that does not mark the compacted leaves). -/
theorem segment_complete_spent_and_compacted (hf : HashFn α H) [DecidableEq H] (xs : List α)
    (b removed : Nat → Bool) (id : Ident) (fit : FitId id xs.length) (hN : xs.length < 2 ^ 32)
    (hg : 1 ≤ id.height) :
    (∃ s r, fromPmmr hf (spentView (Spec.Mmr.hashes hf xs) xs removed) id true = .ok s ∧
      Spec.Mmr.root hf xs = some r ∧ s.validate hf (mmr xs.length) (some b) r = .ok () ∧
      ∀ hlp other left, s.validateWith hf (mmr xs.length) (some b)
        (if left then hf.node hlp other r else hf.node hlp r other) hlp other left = .ok ()) ∧
    (∀ n0, 1 ≤ trailingOnes n0 → n0 < xs.length → b (n0 - 1) = false → b n0 = false →
      ∃ s r, fromPmmr hf (compactPair (spentView (Spec.Mmr.hashes hf xs) xs removed) n0) id true = .ok s ∧
        Spec.Mmr.root hf xs = some r ∧ s.validate hf (mmr xs.length) (some b) r = .ok () ∧
        ∀ hlp other left, s.validateWith hf (mmr xs.length) (some b)
          (if left then hf.node hlp other r else hf.node hlp r other) hlp other left = .ok ()) := by
  obtain ⟨N, f, rfl⟩ := exists_fn_of_fit fit
  simp only [List.length_map, List.length_range] at fit hN ⊢
  rw [Co.spec_hashes, Co.spec_root]
  constructor
  · obtain ⟨s, r, h1, h2, _, h4, h5⟩ := segment_complete_pruned hf f N b _
      (spentView_pruned hf f N b removed hN) id fit hg
    exact ⟨s, r, h1, h2, h4, h5⟩
  · intro n0 hodd hn0 hb1 hb2
    obtain ⟨s, r, h1, h2, _, h4, h5⟩ := segment_complete_pruned hf f N b _
      (spentView_compact_pruned hf f N b removed hN n0 hodd hn0 hb1 hb2) id fit hg
    exact ⟨s, r, h1, h2, h4, h5⟩

-- non-vacuity: the 11-leaf MMR, leaves 0 and 1 spent and compacted (positions 0, 1 off file, the
-- pruned root 2 on file), leaves 4, 6, 7 spent but on file, bitmap = {2, 3, 5, 8, 9, 10}:
-- (1,0) is represented by the hash of the pruned root alone, (2,0) is partly compacted,
-- (1,3) is completely spent but not compacted, (2,2) is the final segment, (3,0) spans everything
example : ∀ id ∈ [(⟨1, 0⟩ : Ident), ⟨2, 0⟩, ⟨1, 3⟩, ⟨2, 2⟩, ⟨3, 0⟩, ⟨1, 5⟩],
    ∃ s r, fromPmmr (Co.termHF Nat)
        (compactPair (spentView (Spec.Mmr.hashes (Co.termHF Nat) [10, 11, 12, 13, 14, 15, 16, 17, 18, 19, 20])
          [10, 11, 12, 13, 14, 15, 16, 17, 18, 19, 20] (fun p => decide (p ∈ [0, 1, 7, 10, 11]))) 1)
        id true = .ok s ∧
      Spec.Mmr.root (Co.termHF Nat) [10, 11, 12, 13, 14, 15, 16, 17, 18, 19, 20] = some r ∧
      s.validate (Co.termHF Nat) (mmr 11) (some fun j => decide (j ∈ [2, 3, 5, 8, 9, 10])) r = .ok () := by
  intro id hid
  have fit : FitId id 11 ∧ 1 ≤ id.height := by
    simp only [List.mem_cons, List.mem_nil_iff, or_false] at hid
    rcases hid with rfl | rfl | rfl | rfl | rfl | rfl <;>
      exact ⟨⟨by decide, by decide, by decide⟩, by decide⟩
  obtain ⟨s, r, h1, h2, h3, _⟩ :=
    (segment_complete_spent_and_compacted (Co.termHF Nat) [10, 11, 12, 13, 14, 15, 16, 17, 18, 19, 20]
      (fun j => decide (j ∈ [2, 3, 5, 8, 9, 10])) (fun p => decide (p ∈ [0, 1, 7, 10, 11])) id fit.1
      (by decide) fit.2).2 1 (by simp [trailingOnes]) (by decide) (by decide) (by decide)
  exact ⟨s, r, h1, h2, h3⟩

/-- **On lists, for sources in which a whole subtree was compacted**: leaves spent in any pattern
(`removed`), every position strictly below the node `(n0, h0)` — the subtree of height `h0` whose
last leaf is `n0` — taken off both files (`compactBelow`; the pruned root stays), no leaf below it
marked in the bitmap.  Every segment of height ≥ 1 that intersects the MMR is generated and
validates; the segments of height < `h0` inside that subtree are completely compacted ones. -/
theorem segment_complete_compacted_subtree (hf : HashFn α H) [DecidableEq H] (xs : List α)
    (b removed : Nat → Bool) (id : Ident) (fit : FitId id xs.length) (hN : xs.length < 2 ^ 32)
    (hg : 1 ≤ id.height) (n0 h0 : Nat) (hn0 : n0 < xs.length)
    (hun : ∀ j, n0 + 1 - 2 ^ h0 ≤ j → j ≤ n0 → b j = false) :
    ∃ s r, fromPmmr hf (compactBelow (spentView (Spec.Mmr.hashes hf xs) xs removed) n0 h0) id true = .ok s ∧
      Spec.Mmr.root hf xs = some r ∧ s.id = id ∧ s.validate hf (mmr xs.length) (some b) r = .ok () ∧
      ∀ hlp other left, s.validateWith hf (mmr xs.length) (some b)
        (if left then hf.node hlp other r else hf.node hlp r other) hlp other left = .ok () := by
  obtain ⟨N, f, rfl⟩ := exists_fn_of_fit fit
  simp only [List.length_map, List.length_range] at fit hN hn0 ⊢
  rw [Co.spec_hashes, Co.spec_root]
  exact segment_complete_pruned hf f N b _
    (spentView_compactBelow_pruned hf f N b removed hN n0 h0 hn0 hun) id fit hg

-- non-vacuity: the 11-leaf MMR, leaves 0..3 spent and the whole subtree below position 6 compacted
-- (positions 0..5 off file, the pruned root 6 on file), leaves 4, 6, 7 spent but on file,
-- bitmap = {5, 8, 9, 10}: (1,0) and (1,1) are completely compacted (one hash, at 6), (2,0) is the
-- pruned root itself, (3,0) is partly compacted, (1,3) completely spent but not compacted,
-- (2,2) and (1,5) final segments
example : ∀ id ∈ [(⟨1, 0⟩ : Ident), ⟨1, 1⟩, ⟨2, 0⟩, ⟨3, 0⟩, ⟨1, 3⟩, ⟨2, 2⟩, ⟨1, 5⟩],
    ∃ s r, fromPmmr (Co.termHF Nat)
        (compactBelow (spentView (Spec.Mmr.hashes (Co.termHF Nat) [10, 11, 12, 13, 14, 15, 16, 17, 18, 19, 20])
          [10, 11, 12, 13, 14, 15, 16, 17, 18, 19, 20] (fun p => decide (p ∈ [0, 1, 3, 4, 7, 10, 11]))) 3 2)
        id true = .ok s ∧
      Spec.Mmr.root (Co.termHF Nat) [10, 11, 12, 13, 14, 15, 16, 17, 18, 19, 20] = some r ∧
      s.validate (Co.termHF Nat) (mmr 11) (some fun j => decide (j ∈ [5, 8, 9, 10])) r = .ok () := by
  intro id hid
  have fit : FitId id 11 ∧ 1 ≤ id.height := by
    simp only [List.mem_cons, List.mem_nil_iff, or_false] at hid
    rcases hid with rfl | rfl | rfl | rfl | rfl | rfl | rfl <;>
      exact ⟨⟨by decide, by decide, by decide⟩, by decide⟩
  obtain ⟨s, r, h1, h2, _, h3, _⟩ :=
    segment_complete_compacted_subtree (Co.termHF Nat) [10, 11, 12, 13, 14, 15, 16, 17, 18, 19, 20]
      (fun j => decide (j ∈ [5, 8, 9, 10])) (fun p => decide (p ∈ [0, 1, 3, 4, 7, 10, 11])) id fit.1
      (by decide) fit.2 3 2 (by decide) (by
        intro j _ h
        have : j = 0 ∨ j = 1 ∨ j = 2 ∨ j = 3 := by omega
        rcases this with rfl | rfl | rfl | rfl <;> decide)
  exact ⟨s, r, h1, h2, h3⟩

-- … and what the two completely compacted segments of that example look like (kernel-evaluated on
-- the model): one hash at position 6, no leaves, a proof of two hashes (the sibling 13 of 6 and the
-- bagged peaks 17, 18 to the right); the segment root position 2 resp. 5 is off file
example : ∀ id ∈ [(⟨1, 0⟩ : Ident), ⟨1, 1⟩],
    (match fromPmmr (Co.termHF Nat)
        (compactBelow (spentView (Spec.Mmr.hashes (Co.termHF Nat) [10, 11, 12, 13, 14, 15, 16, 17, 18, 19, 20])
          [10, 11, 12, 13, 14, 15, 16, 17, 18, 19, 20] (fun p => decide (p ∈ [0, 1, 3, 4, 7, 10, 11]))) 3 2)
        id true with
      | .ok s => s.hashPos == [6] && s.leafPos == [] && s.leafData == [] && s.proof.length == 2
      | _ => false) = true := by
  decide +kernel

/-! ### The segment-root part alone, relative to an abstract node law (it also covers hash
vectors that were not built by `push`, e.g. what `PMMR::validate` accepted) -/

/-- **Completeness of the segment root (full, unpruned segment), relative to the node law**:
if `hsAt` satisfies the MMR node law (leaf hash = hash of the leaf data, parent hash = hash of
its two children — what `PMMR::validate` checks of the committed MMR) and the segment carries
the data of every leaf of its range, then `Segment::root` returns the committed hash at the
segment's last position.  (`segment_complete` discharges the two laws for the vector `push` builds.) -/
theorem segment_root_complete_node_law (hf : HashFn α H) (s : Segment α H) (size : Nat)
    (hsAt : Nat → H) (dataAt : Nat → α)
    (leafLaw : ∀ q, height q = 0 → hsAt q = hf.leaf q (dataAt q))
    (nodeLaw : ∀ q k, height q = k + 1 → hsAt q = hf.node q (hsAt (q - 2 ^ (k + 1))) (hsAt (q - 1)))
    (v : FullId s.id size) (rest : List (Nat × α))
    (hleaves : s.leafPos.zip s.leafData = leavesOf dataAt (s.id.positions size) ++ rest) :
    s.root hf size none = .ok (some (hsAt (lastOf s.id))) :=
  root_complete_full hf s size hsAt dataAt leafLaw nodeLaw v rest hleaves

/-- After `segment_root_complete_node_law`: every segment with the same identifier that has the same
root carries exactly that leaf data: soundness of the segment root against the committed MMR. -/
theorem segment_root_binds_leaves (hf : HashFn α H) (inj : Inj hf) (s0 s : Segment α H)
    (hid : s0.id = s.id) (size : Nat) (hsAt : Nat → H) (dataAt : Nat → α)
    (leafLaw : ∀ q, height q = 0 → hsAt q = hf.leaf q (dataAt q))
    (nodeLaw : ∀ q k, height q = k + 1 → hsAt q = hf.node q (hsAt (q - 2 ^ (k + 1))) (hsAt (q - 1)))
    (v : FullId s0.id size) (rest : List (Nat × α))
    (hleaves : s0.leafPos.zip s0.leafData = leavesOf dataAt (s0.id.positions size) ++ rest)
    (hs : s.root hf size none = .ok (some (hsAt (lastOf s0.id)))) :
    segReads hf s0 size none = segReads hf s size none :=
  (root_inj hf inj s0 s hid size none (wellFormed_full s0.id size v) _ _
    (root_complete_full hf s0 size hsAt dataAt leafLaw nodeLaw v rest hleaves) hs).2 rfl

/-! ## The expected size of the bitmap MMR (`Desegmenter::calc_bitmap_mmr_sizes`) -/

/-- For every leaf count `n ≥ 1` the last peak of the MMR with `n` leaves is its last position,
so `1 + peaks(insertion_to_pmmr_index(n)).last()` (the expression used before the repair
769a13f24, which panicked for `n = 1` through its eagerly evaluated fallback) equals
`insertion_to_pmmr_index(n)` (the repaired expression). -/
theorem bitmap_mmr_size_expression (n : Nat) (hn : 1 ≤ n) :
    (peaks (insertionToPmmrIndex n)).getLast?.map (1 + ·) = some (insertionToPmmrIndex n) := by
  unfold insertionToPmmrIndex
  rw [Co.last_peak n hn]
  have := le_mmr n
  simp only [Option.map_some, Option.some.injEq]
  omega

-- non-vacuity: one chunk (n = 1): the MMR of size 1 has the single peak 0
example : (peaks 1).getLast?.map (1 + ·) = some 1 := by
  have := bitmap_mmr_size_expression 1 (Nat.le_refl 1)
  have e : insertionToPmmrIndex 1 = 1 := by simp [insertionToPmmrIndex, mmr, popcount]
  rw [e] at this; exact this

-- non-vacuity: segment (height 1, idx 1) of a 7-leaf MMR (size 11) is full; its range is 3..=5
example : FullId ⟨1, 1⟩ 11 := by
  have h : nLeaves 11 = 7 := GV.Props.C07.mmr_7 ▸ Co.nLeaves_mmr 7
  exact ⟨by show 1 < 64; omega, by rw [h]; show (1 + 1) * 2 ^ 1 ≤ 7; omega, by rw [h]; omega⟩

/-! ## Height-0 segments (one leaf per segment) — where completeness holds and where it does not

Without a bitmap (`segment_complete`, `FitId` allows height 0) every honest height-0 segment of an
unpruned MMR validates.  WITH a bitmap the exact statement is

    validate(from_pmmr((0, i), V, prunable), size, Some(b), root) = Ok
      ↔  required (some b) size (mmr i)          -- b i ∨ b (sibling of i) ∨ mmr i = size − 1

for a source on which nothing in the range is compacted: if the leaf is not required, `Segment::root`
answers `Ok(None)` (the one-leaf range has no root of its own), `first_unpruned_parent` walks up
from a segment that carries the leaf's DATA but no hash, and ends in `MissingHash(parent)`.  The
direction "required → accepted" for every `i` and the refusal for every unrequired `i` are NOT
proven in general (the lemmas of `Lemmas/SegPruned.lean` and `Lemmas/SegFup.lean` use `1 ≤ height` for "every leaf has its
sibling inside the range"); what is proven is the witness below — the smallest instance of the
refusal — and the accepted neighbours of it.  The seg runs `vec`, `store`, `leafless`, `ancestor`
drive height 0 on the real code (class `height0-both-unmarked` compared with the model). -/

/-- a hash function over numbers for the concrete height-0 instances -/
def h0HF : HashFn Nat Nat := ⟨fun i x => 7 * x + i + 1, fun i l r => 1000 * l + 31 * r + i⟩

/-- verdict of `validate` on the honest height-0 segment `i` of the unpruned MMR of `xs` -/
def h0Verdict (xs : List Nat) (i : Nat) (b : Nat → Bool) : Option (Res Unit) :=
  match fromPmmr h0HF (vecView (Spec.Mmr.hashes h0HF xs) xs) ⟨0, i⟩ true, Spec.Mmr.root h0HF xs with
  | .ok s, some r => some (s.validate h0HF (mmr xs.length) (some b) r)
  | _, _ => none

/-- **Witness: completeness FAILS at height 0.**  The 2-leaf MMR, both leaves spent, nothing
compacted: the segment `(0, 0)` a node produces for itself is refused with `MissingHash(2)` (the
parent of the two leaves) — by `validate` and already by `first_unpruned_parent`. -/
theorem segment_complete_height0_partial :
    h0Verdict [10, 11] 0 (fun _ => false) = some (.err (.missingHash 2)) ∧
    -- … while it is accepted as soon as the leaf, or its sibling, is unspent, and the lone last leaf
    -- of an odd MMR is accepted although it is spent (it is the last position)
    h0Verdict [10, 11] 0 (fun j => j == 0) = some (.ok ()) ∧
    h0Verdict [10, 11] 0 (fun j => j == 1) = some (.ok ()) ∧
    h0Verdict [10, 11] 1 (fun _ => false) = some (.err (.missingHash 2)) ∧
    h0Verdict [10, 11, 12] 2 (fun _ => false) = some (.ok ()) ∧
    -- in agreement with `required` in every one of these cases
    required (some fun _ => false) 3 (mmr 0) = false ∧ required (some fun j => j == 1) 3 (mmr 0) = true ∧
    required (some fun _ => false) 4 (mmr 2) = true := by
  decide +kernel

end GV.Props.C16
