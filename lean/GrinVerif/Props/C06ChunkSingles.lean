import GrinVerif.Props.C06ChunkPath
import GrinVerif.Lemmas.ChainKnown
/-! The last step of "accepted as a chunk iff accepted one by one": the FOLD of the single-header
path (`processHeaderK`) over a chunk of fresh headers succeeds iff the per-header loop of the chunk
path (`validateChunk`) does and no header carries a root fault (`singles_iff`); with
`chunk_accepted_iff_no_root_fault` (Props/C06ChunkPath.lean): `chunk_accepted_iff_each_singly`. -/
namespace GV.Props.C06Chunk
open GV GV.Chain

/-- the headers of a chunk delivered one by one through `Chain::process_block_header` -/
def singles (p : Params) : Node → List Blk → Except Err Node
  | n, [] => .ok n
  | n, b :: bs => match processHeaderK p [] n b with
    | .error e => .error e
    | .ok n' => singles p n' bs

/-- what a fresh header that passes does to the node -/
def upd (m : Node) (b : Blk) : Node :=
  { m with headers := m.headers ++ [b.id], hhead := if b.work > m.workOf m.hhead then b.id else m.hhead }

theorem validateHeaderPre_congr {m m' : Node} (hh : m.headers = m'.headers) (hb : m.blks = m'.blks)
    (p : Params) (b : Blk) : validateHeaderPre p m b = validateHeaderPre p m' b := by
  unfold validateHeaderPre
  simp only [hh, heightOf_congr hb, blk_congr hb]

/-- the single-header path on a FRESH header (not known as a full block, not in the header store):
the header rules, then the root check, then the header is saved -/
theorem processHeaderK_fresh (p : Params) (m : Node) (b : Blk) (hck : checkKnown m b = none)
    (hnh : b.id ∉ m.headers) :
    processHeaderK p [] m b = (match validateHeaderPre p m b with
      | some e => .error e
      | none => match hasTag b "hdr:" with
        | some e => .error e
        | none => .ok (upd m b)) := by
  have hc : m.headers.contains b.id = false := by simpa using hnh
  have hu : hdrUpdate m b = upd m b := by
    unfold hdrUpdate upd
    simp only [hc, Bool.false_eq_true, if_false]
  rw [C03Known.processHeaderK_def, hck, hu]
  simp only [Option.isSome_none, Bool.false_eq_true, if_false, hc, false_and, List.contains_nil,
    C03Known.forkDenied_nil]
  cases hp : b.parent with
  | none => simp only [validateHeaderPre, hp]
  | some par =>
    simp only
    by_cases hpar : (!m.headers.contains par) = true
    · have hpn : ¬ par ∈ m.headers := by simpa using hpar
      simp [validateHeaderPre, hp, hpn]
    · rw [if_neg hpar]
      cases validateHeaderPre p m b with
      | some e => rfl
      | none => cases hasTag b "hdr:" <;> rfl

/-- **one by one = the chunk's per-header loop + no root fault**, for fresh headers: `m` is the node
of the single-header path, `m'` the node of the chunk's loop (same header store and definitions;
the header head may differ) -/
theorem singles_iff (p : Params) (bs : List Blk) : ∀ (m m' : Node),
    m.headers = m'.headers → m.blks = m'.blks →
    (∀ b ∈ bs, checkKnown m b = none) → (∀ b ∈ bs, b.id ∉ m.headers) → (bs.map (·.id)).Nodup →
    ((∃ r, singles p m bs = .ok r) ↔
      ((∃ r, validateChunk p [] m' bs = .ok r) ∧ ∀ b ∈ bs, hasTag b "hdr:" = none)) := by
  induction bs with
  | nil =>
    intro m m' _ _ _ _ _
    simp [singles, validateChunk]
  | cons b bs ih =>
    intro m m' hh hb hck hnh hnd
    have hck0 := hck b (by simp)
    have hnh0 := hnh b (by simp)
    have hc' : m'.headers.contains b.id = false := by rw [← hh]; simpa using hnh0
    unfold singles validateChunk
    rw [processHeaderK_fresh p m b hck0 hnh0, ← validateHeaderPre_congr hh hb p b]
    simp only [List.contains_nil, Bool.false_eq_true, if_false, hc']
    cases validateHeaderPre p m b with
    | some e => simp
    | none =>
      simp only
      cases ht : hasTag b "hdr:" with
      | some e =>
        simp only
        constructor
        · intro ⟨r, hr⟩; cases hr
        · intro ⟨_, h2⟩
          have := h2 b (by simp)
          rw [ht] at this; cases this
      | none =>
        simp only
        have hnd' := List.nodup_cons.mp hnd
        have := ih (upd m b) { m' with headers := m'.headers ++ [b.id] }
          (by simp [upd, hh]) (by simp [upd, hb])
          (fun x hx => by
            rw [C03Known.checkKnown_congr (n := upd m b) (m := m) rfl rfl rfl x]
            exact hck x (List.mem_cons_of_mem _ hx))
          (fun x hx => by
            simp only [upd, List.mem_append, List.mem_singleton, not_or]
            refine ⟨hnh x (List.mem_cons_of_mem _ hx), ?_⟩
            intro he
            exact hnd'.1 (List.mem_map.mpr ⟨x, hx, he⟩))
          hnd'.2
        rw [this, List.forall_mem_cons]
        exact ⟨fun ⟨h1, h2⟩ => ⟨h1, ht, h2⟩, fun ⟨h1, _, h2⟩ => ⟨h1, h2⟩⟩

/-- **a linked chunk of fresh headers is accepted by `sync_block_headers` iff its headers are
accepted one by one, in order, by `process_block_header`** (no denylist). Fresh: not known as full
blocks, not in the header store, pairwise distinct, off the header chain; `pre` is the own path of
the block the chunk hangs below, whose off-chain blocks passed their root check when stored. -/
theorem chunk_accepted_iff_each_singly (p : Params) (n : Node) (bs pre : List Blk) (p0 : Nat)
    (hpre : IsPath n p0 pre) (hlink : Linked n p0 bs) (hne : bs ≠ [])
    (hheights : ((pre ++ bs).map (·.h)).Nodup)
    (hck : ∀ b ∈ bs, checkKnown n b = none) (hnh : ∀ b ∈ bs, b.id ∉ n.headers)
    (hnd : (bs.map (·.id)).Nodup)
    (hfresh : ∀ b ∈ bs, ((n.headerAtHeight b.h).map (·.id) == some b.id) = false)
    (hold : ∀ b ∈ pre, ((n.headerAtHeight b.h).map (·.id) == some b.id) = false → hasTag b "hdr:" = none) :
    (∃ n', processHeadersK p [] n bs = .ok n') ↔ (∃ r, singles p n bs = .ok r) := by
  rw [singles_iff p bs n n rfl rfl hck hnh hnd]
  constructor
  · intro ⟨n', h⟩
    obtain ⟨last, hl⟩ : ∃ last, bs.getLast? = some last := by
      cases hg : bs.getLast? with
      | none => exact absurd (List.getLast?_eq_none_iff.mp hg) hne
      | some l => exact ⟨l, rfl⟩
    obtain ⟨n1, hv, _⟩ := accepted_chunk_fork_headers_clean p [] n n' bs last hl h
    exact ⟨⟨n1, hv⟩, (chunk_accepted_iff_no_root_fault p n n1 bs pre p0 hpre hlink hne hheights hv hfresh hold).mp ⟨n', h⟩⟩
  · intro ⟨⟨n1, hv⟩, ht⟩
    exact (chunk_accepted_iff_no_root_fault p n n1 bs pre p0 hpre hlink hne hheights hv hfresh hold).mpr ht

end GV.Props.C06Chunk
