import GrinVerif.Model.Seg
import GrinVerif.Gen.FnsSeg
import GrinVerif.Props.XlatePmmr
/-! # Translated `SegmentIdentifier` arithmetic of `core/src/core/pmmr/segment.rs` = `Model/Seg.lean`

`GV.Gen.Fns.SegmentIdentifier_*` (file `Gen/FnsSeg.lean`) is regenerated on every check run from
the CURRENT Rust source by `tools/rs2lean.py`; the fields `self.height : u8`, `self.idx : u64` are
the leading parameters.  Both sides use release-build wrapping arithmetic (`1 << height` with the
shift amount masked to 6 bits, wrapping `* + -`), so the identities hold for EVERY identifier;
only `mmr_size < 2^64` (a u64) is needed, for `n_leaves`. -/

namespace GV.Props.XlateSeg
open GV GV.Pmmr GV.Seg GV.Xlate
open GV.Gen

theorem segment_capacity_eq (id : Ident) :
    Fns.SegmentIdentifier_segment_capacity id.height = id.capacity := rfl

theorem leaf_offset_eq (id : Ident) :
    Fns.SegmentIdentifier_leaf_offset id.height id.idx = id.leafOffset := rfl

/-- the wrapped `insertion_to_pmmr_index` of the model is the translated function -/
theorem ins2pmmrW_eq (n : Nat) : Fns.insertion_to_pmmr_index n = ins2pmmrW n := rfl

/-- `segment_unpruned_size(mmr_size)` for every identifier and u64 `mmr_size` -/
theorem segment_unpruned_size_eq (id : Ident) (mmrSize : Nat) (h : mmrSize < 2^64) :
    Fns.SegmentIdentifier_segment_unpruned_size id.height id.idx mmrSize = id.unprunedSize mmrSize := by
  unfold Fns.SegmentIdentifier_segment_unpruned_size Ident.unprunedSize
  rw [GV.Props.XlatePmmr.n_leaves_eq mmrSize h]
  rfl

theorem full_segment_eq (id : Ident) (mmrSize : Nat) (h : mmrSize < 2^64) :
    Fns.SegmentIdentifier_full_segment id.height id.idx mmrSize = id.full mmrSize := by
  unfold Fns.SegmentIdentifier_full_segment Ident.full
  rw [segment_unpruned_size_eq id mmrSize h]
  rfl

/-- `segment_pos_range(mmr_size)` (inclusive range as a pair) -/
theorem segment_pos_range_eq (id : Ident) (mmrSize : Nat) (h : mmrSize < 2^64) :
    Fns.SegmentIdentifier_segment_pos_range id.height id.idx mmrSize = id.posRange mmrSize := by
  unfold Fns.SegmentIdentifier_segment_pos_range Ident.posRange
  simp only [segment_unpruned_size_eq id mmrSize h, full_segment_eq id mmrSize h, leaf_offset_eq,
    ins2pmmrW_eq]

theorem count_segments_required_eq (target height : Nat) (h : target < 2^64) :
    Fns.SegmentIdentifier_count_segments_required target height
      = Ident.countSegmentsRequired target height := by
  unfold Fns.SegmentIdentifier_count_segments_required Ident.countSegmentsRequired
  rw [GV.Props.XlatePmmr.n_leaves_eq target h]

/-- `1 << segment_height` is never zero in release (masked shift), so the division cannot panic -/
theorem count_segments_required_ok (target height : Nat) (h : target < 2^64) :
    Fns.SegmentIdentifier_count_segments_required_ok target height = true := by
  unfold Fns.SegmentIdentifier_count_segments_required_ok
  have hp : 0 < 2^(height % 64) := Nat.pow_pos (by omega)
  simp only [GV.Props.XlatePmmr.n_leaves_ok target h, shlW_one_mod, Bool.true_and]
  simp <;> omega

theorem segment_unpruned_size_ok (id : Ident) (mmrSize : Nat) (h : mmrSize < 2^64) :
    Fns.SegmentIdentifier_segment_unpruned_size_ok id.height id.idx mmrSize = true := by
  simp [Fns.SegmentIdentifier_segment_unpruned_size_ok, GV.Props.XlatePmmr.n_leaves_ok mmrSize h]

theorem full_segment_ok (id : Ident) (mmrSize : Nat) (h : mmrSize < 2^64) :
    Fns.SegmentIdentifier_full_segment_ok id.height id.idx mmrSize = true := by
  simp [Fns.SegmentIdentifier_full_segment_ok, segment_unpruned_size_ok id mmrSize h]

theorem segment_pos_range_ok (id : Ident) (mmrSize : Nat) (h : mmrSize < 2^64) :
    Fns.SegmentIdentifier_segment_pos_range_ok id.height id.idx mmrSize = true := by
  simp [Fns.SegmentIdentifier_segment_pos_range_ok, segment_unpruned_size_ok id mmrSize h,
    full_segment_ok id mmrSize h]

/-- non-vacuity: segment (height 1, idx 1) of the 7-node MMR covers positions 3..=5 -/
example : Fns.SegmentIdentifier_segment_pos_range 1 1 7 = (3, 5)
    ∧ Fns.SegmentIdentifier_count_segments_required 7 1 = 2 := by
  have nl : Fns.n_leaves 7 = 4 := by
    rw [GV.Props.XlatePmmr.n_leaves_eq 7 (by omega)]; simp [nLeaves, pmh_7]
  constructor
  · simp [Fns.SegmentIdentifier_segment_pos_range, Fns.SegmentIdentifier_segment_unpruned_size,
      Fns.SegmentIdentifier_full_segment, Fns.SegmentIdentifier_leaf_offset,
      Fns.SegmentIdentifier_segment_capacity, Fns.insertion_to_pmmr_index, nl, shlW, mulW, subW, addW,
      satSub, popcount]
  · simp [Fns.SegmentIdentifier_count_segments_required, nl, shlW, subW, addW]

end GV.Props.XlateSeg
