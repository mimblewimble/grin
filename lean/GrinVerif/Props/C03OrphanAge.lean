import GrinVerif.Model.ChainOrphanAge
import GrinVerif.Gen.Orphans
import GrinVerif.Gen.Consts
/-! The age rule of the orphan pool (`Model/ChainOrphanAge.lean`; C03 assumption "no orphan waits
longer than 300 s"): what the rule does when it fires, and that it fires ONLY beyond the capacity.
Not tied to the real pool by a run (the pool reads `Instant::now()` only: 300 s of wall time); tied to
the source by the regenerated shape of `OrphanBlockPool::add` (`orphan_pool_shape_is_model`); the
clock-free part of the same function is tied to it by a run (`chain opool` lines, Props/C03Orphans.lean). -/
namespace GV.Props.C03OrphanAge
open GV GV.Chain

/-- the pool after the insertion itself (`orphans.insert`), before any eviction -/
def inserted (P : OPoolT) (now id h : Nat) : List (Nat × Nat × Nat) :=
  if P.orphans.any (·.1 == id)
    then P.orphans.map (fun o => if o.1 == id then (o.1, o.2.1, now) else o)
    else P.orphans ++ [(id, h, now)]

/-- **the age rule fires only beyond the capacity**: while the insertion leaves at most `maxSize`
entries nothing is evicted, however long the others have waited (a stale orphan in a pool that
never fills stays for ever) -/
theorem add_within_capacity_keeps_stale (maxSize maxAge : Nat) (P : OPoolT) (now id h : Nat)
    (hc : (inserted P now id h).length ≤ maxSize) :
    (P.add maxSize maxAge now id h).orphans = inserted P now id h ∧
    (P.add maxSize maxAge now id h).evicted = P.evicted := by
  unfold OPoolT.add
  unfold inserted at hc
  simp only
  rw [if_neg (by omega)]
  exact ⟨rfl, rfl⟩

/-- beyond the capacity what is left was in `inserted` and is young -/
theorem add_beyond_capacity (maxSize maxAge : Nat) (P : OPoolT) (now id h : Nat)
    (hc : (inserted P now id h).length > maxSize) :
    ∀ o ∈ (P.add maxSize maxAge now id h).orphans, o ∈ inserted P now id h ∧ now - o.2.2 < maxAge := by
  unfold OPoolT.add
  unfold inserted at hc ⊢
  simp only
  rw [if_pos hc]
  intro o ho
  simp only [List.mem_filter] at ho
  exact ⟨ho.1.1, by simpa using ho.1.2⟩

/-- **beyond the capacity no stale orphan survives**: everything left has waited less than `maxAge` -/
theorem add_keeps_no_stale (maxSize maxAge : Nat) (P : OPoolT) (now id h : Nat)
    (hc : (inserted P now id h).length > maxSize) :
    ∀ o ∈ (P.add maxSize maxAge now id h).orphans, now - o.2.2 < maxAge :=
  fun o ho => (add_beyond_capacity maxSize maxAge P now id h hc o ho).2

/-- ... and what is left was in the pool after the insertion (nothing is invented, times kept) -/
theorem add_keeps_only_inserted (maxSize maxAge : Nat) (P : OPoolT) (now id h : Nat) :
    ∀ o ∈ (P.add maxSize maxAge now id h).orphans, o ∈ inserted P now id h := by
  by_cases hc : (inserted P now id h).length > maxSize
  · exact fun o ho => (add_beyond_capacity maxSize maxAge P now id h hc o ho).1
  · rw [(add_within_capacity_keeps_stale maxSize maxAge P now id h (by omega)).1]
    intro o ho; exact ho

/-- a block offered again starts a new age -/
theorem reoffer_renews_age (P : OPoolT) (now id h : Nat) (hin : P.orphans.any (·.1 == id) = true) :
    ∀ o ∈ inserted P now id h, o.1 = id → o.2.2 = now := by
  unfold inserted
  rw [if_pos hin]
  intro o ho hid
  simp only [List.mem_map] at ho
  obtain ⟨x, _, hx⟩ := ho
  by_cases hxi : (x.1 == id) = true
  · rw [if_pos hxi] at hx; rw [← hx]
  · rw [if_neg hxi] at hx
    subst hx
    exact absurd (by simpa using hid) hxi

/-- **observation**: the height loop runs at least once after the age rule: two stale orphans and a
capacity of two; a third block arrives at the greatest height - the stale ones go by age, and the
block just offered goes too (the pool is empty, three evictions counted) -/
theorem fresh_orphan_evicted_with_the_stale_ones :
    let P : OPoolT := { orphans := [(1, 5, 0), (2, 6, 0)], heightIdx := [(5, [1]), (6, [2])] }
    (P.add 2 300 400 3 7).orphans = [] ∧ (P.add 2 300 400 3 7).evicted = 3 := by decide +kernel

/-- the same arrival at the lowest height: the stale ones go, the new block stays -/
example :
    let P : OPoolT := { orphans := [(1, 5, 0), (2, 6, 0)], heightIdx := [(5, [1]), (6, [2])] }
    (P.add 2 300 400 3 4).orphans = [(3, 4, 400)] ∧ (P.add 2 300 400 3 4).evicted = 2 := by decide +kernel

/-- with every entry young the clocked pool does what the clock-free pool of
`Model/ChainOrphans.lean` does (instance: capacity 2, third block at the greatest height) -/
example :
    let P : OPoolT := { orphans := [(1, 5, 390), (2, 6, 395)], heightIdx := [(5, [1]), (6, [2])] }
    (P.add 2 300 400 3 7).erase.orphans = (P.erase.add 2 3 7).orphans ∧
    (P.add 2 300 400 3 7).erase.evicted = (P.erase.add 2 3 7).evicted := by decide +kernel

/-! ### the model's rule against the table regenerated from chain/src/chain.rs

The pool takes an orphan's time from `Instant::now()` only (`clockIsInstantNowOnly`): no run can
drive the age rule without waiting 300 s, so it is tied to the source by the regenerated SHAPE of
`OrphanBlockPool::add` instead (tools/gen_orphans.py → Gen/Orphans.lean). -/

/-- the pool as coded: `OPoolT.add` at the constants of the current source -/
def addCoded (P : OPoolT) (now id h : Nat) : OPoolT :=
  P.add GV.Gen.Orphans.MAX_ORPHAN_SIZE GV.Gen.Orphans.MAX_ORPHAN_AGE_SECS now id h

/-- **shape = model**: the comparisons and the step order `OPoolT.add` / `evictLoop` transliterate
are those of the current source - eviction opens on `len > MAX_ORPHAN_SIZE`, the age rule KEEPS
`elapsed < MAX_ORPHAN_AGE_SECS`, the height loop stops on `len < MAX_ORPHAN_SIZE` tested AFTER the
removal, in the order age rule, height loop, index clean-up, count; a re-offered block replaces its
entry; the constants are 200 / 300 s and the size is the one `Gen/Consts` gives the chain model -/
theorem orphan_pool_shape_is_model :
    GV.Gen.Orphans.guardOp = ">" ∧ GV.Gen.Orphans.ageRetainOp = "<" ∧ GV.Gen.Orphans.breakOp = "<" ∧
    GV.Gen.Orphans.breakAfterRemoval = true ∧
    GV.Gen.Orphans.steps = ["age", "heights", "cleanup", "count"] ∧
    GV.Gen.Orphans.insertReplaces = true ∧ GV.Gen.Orphans.clockIsInstantNowOnly = true ∧
    GV.Gen.Orphans.MAX_ORPHAN_SIZE = GV.Gen.MAX_ORPHAN_SIZE ∧
    GV.Gen.Orphans.MAX_ORPHAN_SIZE = 200 ∧ GV.Gen.Orphans.MAX_ORPHAN_AGE_SECS = 300 := by decide +kernel

/-- the theorems above at the constants of the source: up to 200 entries nothing is ever evicted,
beyond that nothing that waited 300 s or longer survives -/
theorem coded_pool_age_rule (P : OPoolT) (now id h : Nat) :
    ((inserted P now id h).length ≤ 200 → (addCoded P now id h).orphans = inserted P now id h) ∧
    ((inserted P now id h).length > 200 → ∀ o ∈ (addCoded P now id h).orphans, now - o.2.2 < 300) := by
  constructor
  · intro hc
    exact (add_within_capacity_keeps_stale _ _ P now id h hc).1
  · intro hc
    exact add_keeps_no_stale _ _ P now id h hc

end GV.Props.C03OrphanAge
