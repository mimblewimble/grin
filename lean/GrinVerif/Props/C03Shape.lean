import GrinVerif.Model.ChainKnown
import GrinVerif.Gen.PipeShapeChain
import GrinVerif.Props.XlateShapeLib
/-! # The regenerated shape of `pipe::process_block` / `check_known*` = the order of checks of the
hand model (`Model/ChainKnown.lean`)

`pipeProcessBlockK` is shown (for ALL inputs) to be "the header once more, then the first failing
stage of an explicit LIST of named stages"; the names of that list, in order, are shown (`decide`)
to be the error spine that tools/gen_pipeshape.py reads from the CURRENT source of
`chain/src/pipe.rs::process_block`. So a check of `process_block` that is dropped, moved or added
breaks `process_block_shape_is_model`; the work condition in front of `check_known_head` /
`check_known_store`, the two hashes `check_known_head` looks at, the `OldBlock` / `Unfit` split of
`check_known_store` and the guards of `update_head` / `force_rollback` are pinned likewise. -/
namespace GV.Props.C03Shape
open GV GV.Chain GV.Gen.PipeShape GV.Props.XlateShape

/-- a stage of `pipe::process_block` after the header was processed: the code's step it belongs
to, whether the code has a step of that name (`false`: a model-only outcome), and when it fails -/
structure Stage where
  name : String
  inCode : Bool
  fails : Params → List Nat → Node → Blk → Nat → Option Err

/-- the replayed state of the parent's own path, once `rewind_and_apply_fork` is through -/
def parState (p : Params) (n2 : Node) (par : Nat) : UState :=
  match n2.stateAt p par with
  | .ok s => s
  | .error _ => {}

def stages : List Stage := [
  ⟨"rewind_and_apply_fork (own path replays)", false, fun p _ n2 _ par =>
    match n2.stateAt p par with
    | .error e => some s!"ParentState:{e}"
    | .ok _ => none⟩,
  ⟨"validate_block", true, fun p _ n2 b _ => validateBody p n2.outs b (sumVals n2.outs b.ins)⟩,
  ⟨"rewind_and_apply_fork", true, fun _ deny n2 _ par => if forkDenied deny n2 par then some "Block" else none⟩,
  ⟨"verify_coinbase_maturity", true, fun p _ n2 b par =>
    if !(b.ins.all (parState p n2 par).has) then some "AlreadySpent"
    else if immature p (parState p n2 par) b then some "ImmatureCoinbase" else none⟩,
  ⟨"validate_utxo", true, fun p _ n2 b par =>
    if dupOutput (parState p n2 par) b then some "DuplicateCommitment" else none⟩,
  ⟨"verify_block_sums", true, fun _ _ _ b _ => hasTag b "sums:"⟩,
  ⟨"apply_block_to_txhashset", true, fun p _ n2 b par =>
    if nrdBad (parState p n2 par) b then some "NRDRelativeHeight" else hasTag b "late:"⟩ ]

/-- first failing stage -/
def run (p : Params) (deny : List Nat) (n2 : Node) (b : Blk) (par : Nat) : List Stage → Option Err
  | [] => none
  | s :: rest => match s.fails p deny n2 b par with
    | some e => some e
    | none => run p deny n2 b par rest

/-- **the model is the stage list**: `pipe::process_block` after `check_known` = the header once
more, then the first failing stage of `stages` in order, else the block's effects on its own
parent's replayed state -/
theorem pipeProcessBlockK_stages (p : Params) (deny : List Nat) (n1 : Node) (b : Blk) (par : Nat) :
    pipeProcessBlockK p deny n1 b par =
      match processHeaderK p deny n1 b with
      | .error e => .error e
      | .ok n2 => match run p deny n2 b par stages with
        | some e => .error e
        | none => .ok (n2, effects (parState p n2 par) b) := by
  unfold pipeProcessBlockK
  cases processHeaderK p deny n1 b with
  | error e => rfl
  | ok n2 =>
    simp only
    cases hst : n2.stateAt p par with
    | error e => simp [stages, run, hst]
    | ok sPar =>
      simp only [stages, run, parState, hst]
      cases validateBody p n2.outs b (sumVals n2.outs b.ins) with
      | some e => rfl
      | none =>
        simp only
        by_cases hd : forkDenied deny n2 par = true
        · simp [hd]
        · simp only [hd, Bool.false_eq_true, if_false]
          -- what is left: `applyBlock` is the if-chain of `stateChecks`, link by link the remaining stages
          unfold applyBlock stateChecks
          by_cases h1 : (!(b.ins.all sPar.has)) = true
          · simp [h1]
          · simp only [h1, Bool.false_eq_true, if_false]
            by_cases h2 : immature p sPar b = true
            · simp [h2]
            · simp only [h2, Bool.false_eq_true, if_false]
              by_cases h3 : dupOutput sPar b = true
              · simp [h3]
              · simp only [h3, Bool.false_eq_true, if_false]
                cases hs : hasTag b "sums:" with
                | some e => simp
                | none =>
                  simp only
                  by_cases h4 : nrdBad sPar b = true
                  · simp [h4]
                  · simp only [h4, Bool.false_eq_true, if_false]
                    cases hasTag b "late:" <;> simp

/-- the names the code's error spine must show, in order -/
def modelSpine : List String :=
  ["check_known", "process_block_header"] ++ (stages.filter (·.inCode)).map (·.name) ++ ["add_block", "update_head"]

/-- the code's spine without the steps the model abstracts: reads of the head (a store error),
`validate_pow_only` (the runs use SKIP_POW; C04 / C05), the look-up of the previous header (its
absence is answered by `process_block_header`), the `extending` wrapper itself, the body tail -/
def codeSpine : List String :=
  (spine pipe_process_block).filter fun n =>
    !(["head", "validate_pow_only", "prev_header_store", "extending", "update_body_tail"].contains n)

/-- **shape = model**: the order of checks read from the current source of `pipe::process_block`
is the order of the model's stage list -/
theorem process_block_shape_is_model : readOk pipe_process_block = true ∧ codeSpine = modelSpine := by decide +kernel

/-- the head moves exactly under `has_more_work(block, head)`, the extension is rolled back exactly
under its negation, and nothing else in `process_block` has its result discarded -/
theorem process_block_head_guard :
    under "has_more_work(&$0.header, &$2)" pipe_process_block = ["update_head"] ∧
    calls pipe_process_block = ["force_rollback"] ∧
    ((pipe_process_block.steps.filter fun s => s.kind == .call).map (·.guard)) =
      [["closure", "!(has_more_work(&$0.header, &$11))"]] ∧
    discarded watch pipe_process_block = [] ∧ earlyOks pipe_process_block = [] := by decide +kernel

/-- `check_known` asks `check_known_head` and `check_known_store`, in this order, and BOTH only for
a block that has no more work than the head (`checkKnown`'s outer `if`) -/
theorem check_known_shape :
    readOk pipe_check_known = true ∧
    spine pipe_check_known = ["check_known_head", "check_known_store"] ∧
    under "($0.total_difficulty() <= $1.total_difficulty)" pipe_check_known = ["check_known_head", "check_known_store"] ∧
    depths pipe_check_known = [1, 1] := by decide +kernel

/-- `check_known_head`: `Unfit` iff the hash is the head's or the head's parent's -/
theorem check_known_head_shape :
    readOk pipe_check_known_head = true ∧
    fails pipe_check_known_head = [("Unfit", "(($2 == $1.last_block_h) || ($2 == $1.prev_block_h))")] :=
  ⟨rfl, rfl⟩

/-- `check_known_store`: for a stored block `OldBlock` below `head.height - 50` (saturating),
`Unfit` otherwise; nothing for a block not in the store -/
theorem check_known_store_shape :
    readOk pipe_check_known_store = true ∧
    fails pipe_check_known_store =
      [("OldBlock", "($0.height < $1.height.saturating_sub(50))"),
       ("Unfit", "!(($0.height < $1.height.saturating_sub(50)))"),
       ("StoreErr", "$2.batch.block_exists(&$0.hash()) ~ Err(_)")] := ⟨rfl, rfl⟩

/-- `process_block_header`: the two "nothing to do" exits come before `validate_header`, in the
model's order (`processHeaderK`): known full block, then known header with no more work than the
header head; then `validate_header`, the header fork (denylist), `validate_root`, `apply_header`,
and the header head moves exactly under `has_more_work(header, header_head)` -/
theorem process_block_header_shape :
    readOk pipe_process_block_header = true ∧
    earlyOks pipe_process_block_header =
      [["check_known($0, &$2, $1).is_err()"],
       ["$1.batch.get_block_header(&$0.hash()) ~ Ok(_)", "!(has_more_work(&$5, &$4))"]] ∧
    spineBeforeFirstEarlyOk pipe_process_block_header = ["head"] ∧
    (spine pipe_process_block_header).filter (fun n => !(["head", "header_head", "header_extending"].contains n)) =
      ["get_previous_header", "validate_header", "rewind_and_apply_header_fork", "validate_root",
       "apply_header", "add_block_header", "update_header_head"] ∧
    under "has_more_work($0, &$4)" pipe_process_block_header = ["update_header_head"] :=
  ⟨rfl, rfl, rfl, rfl, by decide +kernel⟩

/-- the denylist is consulted first in `validate_header`, and for every header the fork re-applies
(`($3)(&header)` is the call of the context's validation closure), before `validate_root` -/
theorem denylist_shape :
    (spine pipe_validate_header).take 2 = ["validate_header_ctx", "prev_header_store"] ∧
    under "for $4" pipe_rewind_and_apply_header_fork =
      ["StoreErr", "get_block_header", "$3", "validate_root", "apply_header"] := ⟨rfl, by decide +kernel⟩

/-- non-vacuity: the stage list run on a concrete input (a block spending an output that does not
exist fails at the maturity stage, which resolves every input first) -/
example : run {} [] { blks := [{ id := 0, parent := none, h := 0, work := 1, ver := 1, ts := 0, ins := [], outs := [(0, true)], kers := [.cb], tags := [] }] }
    { id := 1, parent := some 0, h := 1, work := 2, ver := 1, ts := 1, ins := [7], outs := [], kers := [], tags := [] } 0
    (stages.drop 3) = some "AlreadySpent" := by decide +kernel

end GV.Props.C03Shape
