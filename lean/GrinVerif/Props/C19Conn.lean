import GrinVerif.Props.C19
import GrinVerif.Lemmas.CodecConnLoop
/-! # C19, connection level — the writer, the handler in the reader loop, the handshake on the wire

Model: `Model/CodecConn.lean` (on top of `Model/Codec.lean`); constants, the `try_break!` table, the
arms of `match consumed`, the order of the steps of `accept` / `initiate` and the version fields of
`Hand` / `Shake` regenerated from the sources into `Gen/CodecConn.lean`.

* `write_ops_are_the_frame`, `write_pieces_fit` — the `write_all` calls of `write_message` (frame in one
  call, attachment file in pieces as `file.read` returns them) concatenate to exactly
  `header ++ body ++ attachment` for every script of short reads; every piece is non-empty and at
  most the 8000-byte scratch buffer;
* `written_sequence_read_back` — **the first sentence of C19 from the sender's side**: for every list
  of well-formed messages handed to the writer thread, every script of short file reads, and every
  further fragmentation of what it writes, the reader loop of the other end delivers exactly the
  expected typed messages (composition with `framing_faithful`);
* `writer_thread_in_order` — without write timeouts the writer thread puts the frames of the queued
  messages on the wire in queue order, nothing else; `retry_after_partial_write_desyncs` — what the
  code does after a write timeout in the middle of a frame (outside "within the I/O timeouts"): the
  message is written again from its first byte and the receiver loses the stream;
* `channel_keeps_order_below_cap`, `channel_full_drops` — `ConnHandle::send`;
* `sent_tracker_exact` — the sender's tracker: bytes = bytes on the wire, count = messages;
* `conn_loop_is_view_of_run`, `conn_loop_is_view_of_runT` — **the reader thread with the handler in the loop refines the framing
  loop** (untimed and over a stream with a clock): what the handler is handed, what it queues, the attachment files written and the reason the
  loop is left are `connView` of the message sequence `run` produces — unknown messages never reach
  the handler, attachment bytes go to the file and nowhere else, nothing after a leaving result is
  handed over; `handler_sees_exactly_what_was_sent` composes it with `framing_faithful`;
* `handler_result_classes` — which handler results leave the loop (from the regenerated
  `try_break!` table);
* `handshake_both_ends_agree` — **both ends settle on the same version, the lower one**;
  `accept_refusal_says_nothing`, `accept_check_order`, `accept_records_own_address`,
  `addrs_ring_holds_last`, `deny_list_semantics`, `accept_steps_as_modelled`, `caps_truncation_total`,
  `newer_peer_accepted`; `out_of_encodes`, `view_of_quiet_handler`, `handler_error_ends_stream`,
  `rate_counter_keeps_after_counted`. -/
namespace GV.Props.C19Conn
open GV GV.Ser GV.Dec GV.Msg GV.Codec GV.Gen.Msg GV.Gen.CodecConn GV.Props.C19

variable {B H : Type}

/-- **the `write_all`s of one `write_message` are the frame**: header ++ body ++ attachment, for every
way `file.read` cuts the attachment -/
theorem write_ops_are_the_frame (net : NetCfg) (rs : List Nat) (m : OutMsg) :
    (writeOps net rs m).flatten = writeMessage net m.t m.body (m.att.getD []) := by
  unfold writeOps writeMessage
  cases hm : m.att with
  | none => simp
  | some a =>
    simp only [List.flatten_cons, Option.getD_some]
    rw [attWrites_flatten _ WRITE_ATTACHMENT_BUF_pos _ _ _ (Nat.le_refl _)]

/-- every attachment piece is non-empty and fits the scratch buffer of `write_message` -/
theorem write_pieces_fit (rs : List Nat) (att : Bytes) :
    ∀ p ∈ attWrites WRITE_ATTACHMENT_BUF att.length rs att, 1 ≤ p.length ∧ p.length ≤ WRITE_ATTACHMENT_BUF :=
  attWrites_pieces _ WRITE_ATTACHMENT_BUF_pos _ _ _

/-- the loop with a 3-byte buffer on a 7-byte file: pieces of 3, 3, 1; when the first `read` returns a
single byte: 1, 3, 3.  (`write_message` uses `WRITE_ATTACHMENT_BUF` = 8000.) -/
example : attWrites 3 7 [] [1, 2, 3, 4, 5, 6, 7] = [[1, 2, 3], [4, 5, 6], [7]] ∧
    attWrites 3 7 [1] [1, 2, 3, 4, 5, 6, 7] = [[1], [2, 3, 4], [5, 6, 7]] ∧ WRITE_ATTACHMENT_BUF = 8000 := by
  decide

/-- the `Msg` of a specification message is written as the bytes the specification says -/
theorem out_of_encodes (net : NetCfg) (rs : List Nat) (m : Sent B H) :
    (writeOps net rs (outOf m)).flatten = encodeSent net m := by
  rw [write_ops_are_the_frame]
  cases m <;> rfl

/-- **what one peer writes the other reads**: the messages `msgs` handed to the writer thread (each
written by `write_message`, attachment files read with any pattern `sc m` of short reads), the
resulting writes cut further in any way by the transport (`frags`): the reader loop delivers exactly
the expected sequence, then finds the stream at its end with the codec idle -/
theorem written_sequence_read_back (env : Env B H) (attach : Message B H → Option Nat) (hat : AttachOK attach)
    (msgs : List (Sent B H)) (hwf : ∀ m ∈ msgs, SentWF env attach m) (sc : Sent B H → List Nat)
    (frags : List Bytes)
    (hfr : frags.flatten = (msgs.map fun m => writeOps env.net (sc m) (outOf m)).flatten.flatten) (extra : Nat) :
    let r := run env fragOps attach ((msgs.map expected).flatten.length + (extra + 1)) idle frags
    r.1 = (msgs.map expected).flatten ∧ r.2.1 = .err .conn ∧ r.2.2.1 = idle ∧ r.2.2.2.flatten = [] := by
  have henc : ∀ ms : List (Sent B H),
      (ms.map fun m => writeOps env.net (sc m) (outOf m)).flatten.flatten = (ms.map (encodeSent env.net)).flatten := by
    intro ms
    induction ms with
    | nil => rfl
    | cons m ms ih =>
      simp only [List.map_cons, List.flatten_cons, List.flatten_append]
      rw [out_of_encodes, ih]
  exact framing_faithful env attach hat msgs hwf frags (hfr.trans (henc msgs)) extra

/-- in particular the writes themselves, uncut, are such a fragmentation -/
example (env : Env B H) (msgs : List (Sent B H)) (sc : Sent B H → List Nat) :
    ((msgs.map fun m => writeOps env.net (sc m) (outOf m)).flatten).flatten =
      (msgs.map fun m => writeOps env.net (sc m) (outOf m)).flatten.flatten := rfl

/-- **without write timeouts the writer thread writes the queued messages in order, each exactly once** -/
theorem writer_thread_in_order (net : NetCfg) : ∀ (ms : List OutMsg) (f : Nat), ms.length ≤ f →
    writerLoop net f ms [] = (ms.map (writeOps net [])).flatten := by
  intro ms
  induction ms with
  | nil => intro f _; cases f <;> rfl
  | cons m ms ih =>
    intro f hf
    cases f with
    | zero => simp at hf
    | succ f =>
      simp only [writerLoop, List.headD_nil, List.tail_nil, List.map_cons, List.flatten_cons]
      rw [ih f (by simpa using hf)]

/-- what the code does when a write times out after part of a frame went out (`retry_send`): the
frame is written again from its first byte.  The receiver reads the 5 bytes already sent as the start
of a frame header, completes it with the first 6 bytes of the second copy and refuses the resulting
"header" (an announced length of about 2^46): the message is lost and the stream with it.  (A
`write_all` times out only after `BODY_IO_TIMEOUT` = 60 s without progress: outside "within the I/O
timeouts".) -/
theorem retry_after_partial_write_desyncs :
    let m : OutMsg := { t := 3, body := [1, 2], att := none }
    let wire := writerLoop netAutomatedTesting 5 [m] [some 5]
    wire = [[73, 43, 3, 0, 0], [73, 43, 3, 0, 0, 0, 0, 0, 0, 0, 2, 1, 2]] ∧
    (run exEnv fragOps (fun _ => none) 3 idle wire).1 = [] ∧
    (run exEnv fragOps (fun _ => none) 3 idle wire).2.1 = .err (.ser .tooLarge) := by
  refine ⟨by decide, ?_, ?_⟩ <;> decide

/-- `ConnHandle::send` below the capacity of the channel: the message is queued last -/
theorem channel_keeps_order_below_cap (q : List OutMsg) (m : OutMsg) (h : q.length < SEND_CHANNEL_CAP) :
    chanSend q m = q ++ [m] := by
  unfold chanSend
  rw [if_neg (by omega)]

/-- … and a message offered to a full channel is dropped (the caller is told `Ok(())`) -/
theorem channel_full_drops (q : List OutMsg) (m : OutMsg) (h : SEND_CHANNEL_CAP ≤ q.length) :
    chanSend q m = q := by
  unfold chanSend
  rw [if_pos h]

/-- **the sender's tracker is exact**: one counted entry per message, its bytes plus the quiet
attachment pieces are the bytes put on the wire -/
theorem sent_tracker_exact (net : NetCfg) (rs : List Nat) (m : OutMsg) :
    trackedCount (sentEntries net rs m) = 1 ∧
    trackedBytes (sentEntries net rs m) = (writeMessage net m.t m.body (m.att.getD [])).length := by
  have hfl := write_ops_are_the_frame net rs m
  unfold sentEntries
  unfold writeOps at hfl ⊢
  simp only
  constructor
  · simp [trackedCount, List.filter_map, Function.comp_def]
  · rw [← hfl]
    simp only [trackedBytes, List.map_cons, List.sum_cons, List.map_map, List.flatten_cons, List.length_append,
      List.length_flatten]
    congr 2

/-- the `RateCounter` keeps every entry reported behind a counted one (within the minute) … -/
theorem rate_counter_keeps_after_counted (b : Nat) (es : List (Nat × Bool)) :
    rcOf ((b, false) :: es) = (b, false) :: es := by
  have h : ∀ (es acc : List (Nat × Bool)), es.foldl rcPush ((b, false) :: acc) = (b, false) :: acc ++ es := by
    intro es
    induction es with
    | nil => intro acc; simp
    | cons e es ih =>
      intro acc
      rw [List.foldl_cons]
      have : rcPush ((b, false) :: acc) e = (b, false) :: (acc ++ [e]) := by
        simp [rcPush]
      rw [this, ih]; simp
  simpa [rcOf, rcPush, List.dropWhile] using h es []

/-- … and DROPS a quiet entry that is the oldest one: the bytes of a first header batch with more to
come (or of an attachment chunk whose message has expired) do not show in `bytes_per_min` -/
example : rcOf [(8290, true), (270, false), (16, false)] = [(270, false), (16, false)] := by decide

/-- **the reader thread refines the framing loop**: with a handler that asks for attachments only
after decoded bodies (`AttachOK`), and as long as `expect_attachment`'s assertion does not fire, the
view of the connection — messages handed to the handler, responses queued, attachment files written,
reason for leaving — is `connView` of the message sequence the framing loop `run` produces from the
same codec and socket, and the loop is left for the codec's reason when `connView` names none -/
theorem conn_loop_is_view_of_run {σ : Type} (env : Env B H) (ops : SockOps σ) (handler : Message B H → Consumed)
    (hat : AttachOK (attachOf handler)) (fuel : Nat) (c : Codec H) (s : σ) (file : Option Bytes)
    (hna : (run env ops (attachOf handler) fuel c s).2.1 ≠ .panic .assertion) :
    let o := connLoop (read env ops) false handler fuel c s file
    let v := connView handler file (run env ops (attachOf handler) fuel c s).1
    o.view.handed = v.handed ∧ o.view.sent = v.sent ∧ o.view.files = v.files ∧
    o.view.stop = (match v.stop with
      | some w => some w
      | none => some (.codec (run env ops (attachOf handler) fuel c s).2.1)) :=
  have h := connLoop_view env ops handler hat fuel c s file hna
  ⟨h.handed, h.sent, h.files, h.stop⟩

/-- **the same over a stream with a clock** (`readT` / `runT`: every byte carries its arrival gap, reads
use the per-state timeout): a read that times out is retried by the reader thread and by the framing
loop alike (`try_break!` ⇒ `None` ⇒ `continue`), hands nothing to the handler and changes nothing in
the view; with `fragmentation_with_idle_gaps_faithful` this extends the handler-level statement to
every schedule of pauses within the I/O timeouts -/
theorem conn_loop_is_view_of_runT (env : Env B H) (handler : Message B H → Consumed)
    (hat : AttachOK (attachOf handler)) (fuel : Nat) (c : Codec H) (s : TStream) (file : Option Bytes)
    (hna : (runT env (attachOf handler) fuel c s).2.1 ≠ .panic .assertion) :
    let o := connLoop (readT env) true handler fuel c s file
    let v := connView handler file (runT env (attachOf handler) fuel c s).1
    o.view.handed = v.handed ∧ o.view.sent = v.sent ∧ o.view.files = v.files ∧
    o.view.stop = (match v.stop with
      | some w => some w
      | none => some (.codec (runT env (attachOf handler) fuel c s).2.1)) :=
  have h := connLoopT_view env handler hat fuel c s file hna
  ⟨h.handed, h.sent, h.files, h.stop⟩

/-- what the view is for a handler that never leaves: unknown messages are dropped, attachment
updates arrive without their bytes, nothing else changes -/
theorem view_of_quiet_handler (handler : Message B H → Consumed)
    (hq : ∀ m, handler m = .none ∨ (∃ r, handler m = .response r) ∨ handler m = .err true)
    (ms : List (Message B H)) (hnoatt : ∀ m ∈ ms, ∀ a b c, m ≠ .attachment a b c) (file : Option Bytes) :
    (connView handler file ms).handed = ms.filter (fun m => match m with | .unknown _ => false | _ => true) ∧
    (connView handler file ms).stop = none ∧ (connView handler file ms).files = [] := by
  induction ms with
  | nil => exact ⟨rfl, rfl, rfl⟩
  | cons m ms ih =>
    obtain ⟨ihh, ihs, ihf⟩ := ih (fun x hx => hnoatt x (List.mem_cons_of_mem _ hx))
    cases m with
    | unknown t => simpa only [connView, List.filter_cons, Bool.false_eq_true, if_false] using And.intro ihh ⟨ihs, ihf⟩
    | attachment a b c => exact absurd rfl (hnoatt _ (List.mem_cons_self) a b c)
    | body t v =>
      rcases hq (.body t v) with h | ⟨r, h⟩ | h <;>
        simp only [connView, h, ConnView.push, List.filter_cons, ihh, ihs, ihf, List.append_nil, if_true, and_self]
    | headers hs rem =>
      rcases hq (.headers hs rem) with h | ⟨r, h⟩ | h <;>
        simp only [connView, h, ConnView.push, List.filter_cons, ihh, ihs, ihf, List.append_nil, if_true, and_self]

/-- **the handler sees exactly what was sent** (messages without attachments, handler that answers or
stays silent): for every well-formed list, every fragmentation, the handler of the reader thread is
handed exactly the expected messages minus the unknown ones, in order, and the thread is still
reading (it left only because the model's stream ended) -/
theorem handler_sees_exactly_what_was_sent (env : Env B H) (handler : Message B H → Consumed)
    (hq : ∀ m, handler m = .none ∨ (∃ r, handler m = .response r) ∨ handler m = .err true)
    (msgs : List (Sent B H)) (hwf : ∀ m ∈ msgs, SentWF env (attachOf handler) m)
    (hnoarch : ∀ m ∈ msgs, ∀ t v raw att, m ≠ .archive t v raw att)
    (frags : List Bytes) (hfr : frags.flatten = (msgs.map (encodeSent env.net)).flatten) (extra : Nat) :
    let o := connLoop (read env fragOps) false handler ((msgs.map expected).flatten.length + (extra + 1)) idle frags none
    o.view.handed = (msgs.map expected).flatten.filter (fun m => match m with | .unknown _ => false | _ => true) ∧
    o.view.stop = some (.codec (.err .conn)) ∧ o.view.files = [] := by
  intro o
  have hnone : ∀ m, attachOf handler m = none := fun m =>
    attachOf_not handler m (fun size h => by
      rcases hq m with h1 | ⟨r, h1⟩ | h1 <;> rw [h1] at h <;> cases h)
  have hat : AttachOK (attachOf handler) := ⟨fun t => hnone _, fun hs r => hnone _, fun a b c => hnone _⟩
  obtain ⟨a1, a2, _, _⟩ := framing_faithful env (attachOf handler) hat msgs hwf frags hfr extra
  have hv := connLoop_view env fragOps handler hat ((msgs.map expected).flatten.length + (extra + 1)) idle frags none
    (by rw [a2]; intro h; cases h)
  rw [a1, a2] at hv
  have hno : ∀ x ∈ (msgs.map expected).flatten, ∀ a b c, x ≠ .attachment a b c := by
    intro x hx
    obtain ⟨l, hl, hxl⟩ := List.mem_flatten.mp hx
    obtain ⟨m, hm, rfl⟩ := List.mem_map.mp hl
    exact expected_no_attachment m (hnoarch m hm) x hxl
  obtain ⟨q1, q2, q3⟩ := view_of_quiet_handler handler hq _ hno none
  refine ⟨hv.handed.trans q1, ?_, hv.files.trans q3⟩
  rw [hv.stop, q2]

/-- which handler results leave the loop, from the regenerated `try_break!` table: `Store`, `Chain`,
`Internal`, `NoDandelionRelay` are tolerated, everything else (`BadMessage`, `Send`, `Timeout`,
`PeerException`, `Banned`, `Serialization` …) is not -/
theorem handler_result_classes :
    toleratedErrors = ["Store", "Chain", "Internal", "NoDandelionRelay"] ∧
    toleratedIoKinds = ["TimedOut", "WouldBlock"] ∧
    (∀ n ∈ ["BadMessage", "Send", "Timeout", "PeerException", "Banned", "Serialization", "UnexpectedMessage",
            "ConnectionClose", "PeerWithSelf", "MsgLen"], errTolerated n = false) ∧
    consumedArms = [("Response", "send"), ("Attachment", "expectAttachment"), ("Disconnect", "leave"), ("None", "nothing")] := by
  refine ⟨rfl, rfl, ?_, rfl⟩
  decide +kernel

/-- a handler error that is not tolerated ends the stream with the offending message handed over and
NOTHING after it; a tolerated one changes nothing -/
theorem handler_error_ends_stream (handler : Message B H → Consumed) (m : Message B H) (ms : List (Message B H))
    (file : Option Bytes) (hm : ∀ t, m ≠ .unknown t) (ha : ∀ a b c, m ≠ .attachment a b c) :
    (handler m = .err false → (connView handler file (m :: ms)).handed = [m] ∧
        (connView handler file (m :: ms)).stop = some .handlerErr) ∧
    (handler m = .disconnect → (connView handler file (m :: ms)).handed = [m] ∧
        (connView handler file (m :: ms)).stop = some .disconnect) ∧
    (handler m = .err true → (connView handler file (m :: ms)).handed = m :: (connView handler file ms).handed) := by
  rw [connView_cons, turn_plain handler file hm ha]
  refine ⟨fun h => ?_, fun h => ?_, fun h => ?_⟩ <;> rw [h] <;> simp only [Turn.ofConsumed, ConnView.push, and_self]

/-- **both ends settle on the same protocol version, the lower of the two**: node `a` dials node `b`
(same genesis, `b` does not take the nonce for one of its own, nobody is denied): `b` accepts with
`min`, answers with the `Shake` announcing ITS OWN version, and `a`, reading that `Shake`, arrives at
the same value -/
theorem handshake_both_ends_agree (net : NetCfg) (a b : Node) (nonce : Nat) (sa ra : PeerAddr)
    (nonces : List Nat) (addrs : List SockAddr) (peer : Option SockAddr) (adv pa : SockAddr)
    (hg : a.genesis = b.genesis) (hn : nonce ∉ nonces)
    (hdb : isDenied b.deny b.allow (resolvePeerAddr adv.port peer adv) = false)
    (hda : isDenied a.deny a.allow pa = false) :
    ∃ ib ia, (acceptFull net b nonces addrs peer adv (mkHand a nonce sa ra)).res = .ok ib ∧
      (acceptFull net b nonces addrs peer adv (mkHand a nonce sa ra)).wrote =
        some (writeMessage net T_Shake (encShake (mkShake b)) []) ∧
      initiateFull a pa (mkShake b) = .ok ia ∧
      ib.version = min a.version b.version ∧ ia.version = min a.version b.version := by
  rw [acceptFull_ok net b addrs peer adv (h := mkHand a nonce sa ra) hg hn hdb, initiateFull_ok a pa (s := mkShake b) hg.symm hda]
  exact ⟨_, _, rfl, rfl, rfl, by simp only [negotiate, mkHand]; omega, by simp only [negotiate, mkShake]⟩

/-- `Capabilities::from_bits_truncate` as modelled by `capsTruncate`: the bits outside the defined flags are
cleared, the result is within the flags, and truncating twice changes nothing (no word is refused) -/
theorem caps_truncation_total (word : Nat) :
    capsTruncate word = word &&& CAPABILITIES_ALL ∧ capsTruncate word ≤ CAPABILITIES_ALL ∧
    capsTruncate (capsTruncate word) = capsTruncate word := by
  refine ⟨rfl, Nat.and_le_right, ?_⟩
  simp only [capsTruncate, Nat.and_assoc, Nat.and_self]

/-- … and the handshake does not look at them: for EVERY announced version and EVERY capability word
(`h.capabilities` is whatever `capsTruncate` left of it) a `Hand` with our genesis that does not carry
one of our nonces, from an address that is not denied, is accepted with `min(ours, theirs)` and
answered with the `Shake`; likewise a `Shake` on the initiating side -/
theorem newer_peer_accepted (net : NetCfg) (n : Node) (nonces : List Nat) (addrs : List SockAddr)
    (peer : Option SockAddr) (adv pa : SockAddr) (h : Hand) (s : Shake)
    (hg : h.genesis = n.genesis) (hn : h.nonce ∉ nonces) (hsg : s.genesis = n.genesis)
    (hd : isDenied n.deny n.allow (resolvePeerAddr adv.port peer adv) = false)
    (hda : isDenied n.deny n.allow pa = false) :
    (∃ i, (acceptFull net n nonces addrs peer adv h).res = .ok i ∧ i.version = min n.version h.version ∧
        i.capabilities = h.capabilities) ∧
    (acceptFull net n nonces addrs peer adv h).wrote = some (writeMessage net T_Shake (encShake (mkShake n)) []) ∧
    (∃ i, initiateFull n pa s = .ok i ∧ i.version = min n.version s.version ∧ i.capabilities = s.capabilities) := by
  rw [acceptFull_ok net n addrs peer adv hg hn hd, initiateFull_ok n pa hsg hda]
  exact ⟨⟨_, rfl, rfl, rfl⟩, rfl, _, rfl, rfl, rfl⟩

/-- the hypotheses are satisfiable: a node at version 1000 and one at version 2 settle on 2; the
acceptor files the dialler under the ip of the socket and the advertised port -/
example :
    let a : Node := { genesis := [7], version := 1000, capabilities := 15, totalDifficulty := 5, userAgent := [65], deny := none, allow := none }
    let b : Node := { genesis := [7], version := 2, capabilities := 3, totalDifficulty := 9, userAgent := [66], deny := none, allow := none }
    (acceptFull netAutomatedTesting b [11] [] (some ⟨[127, 0, 0, 1], 40000⟩) ⟨[10, 0, 0, 1], 3414⟩
        (mkHand a 12 (.v4 [10, 0, 0, 1] 3414) (.v4 [127, 0, 0, 1] 3414))).res =
      .ok { capabilities := 15, userAgent := [65], addr := ⟨[127, 0, 0, 1], 3414⟩, version := 2, totalDifficulty := 5, inbound := true } ∧
    initiateFull a ⟨[127, 0, 0, 1], 3414⟩ (mkShake b) =
      .ok { capabilities := 3, userAgent := [66], addr := ⟨[127, 0, 0, 1], 3414⟩, version := 2, totalDifficulty := 9, inbound := false } :=
  ⟨rfl, rfl⟩

/-- **a refused connection is told nothing**: `accept` writes a frame (the `Shake`) iff it accepts -/
theorem accept_refusal_says_nothing (net : NetCfg) (n : Node) (nonces : List Nat) (addrs : List SockAddr)
    (peer : Option SockAddr) (adv : SockAddr) (h : Hand) :
    ((acceptFull net n nonces addrs peer adv h).wrote = none ↔
      ∃ e, (acceptFull net n nonces addrs peer adv h).res = .error e) ∧
    (∀ w, (acceptFull net n nonces addrs peer adv h).wrote = some w →
      w = writeMessage net T_Shake (encShake (mkShake n)) []) := by
  fun_cases acceptFull net n nonces addrs peer adv h
  -- case 4: nothing refused, the `Shake` is written
  case case4 => exact ⟨⟨nofun, nofun⟩, fun w hw => by cases hw; rfl⟩
  all_goals exact ⟨⟨fun _ => ⟨_, rfl⟩, fun _ => rfl⟩, nofun⟩

/-- **order of the refusal checks** (`acceptSteps`): a different genesis is reported whatever the
nonce and the lists say; then an own nonce (`PeerWithSelf`) whatever the lists say; the deny / allow
lists come last -/
theorem accept_check_order (net : NetCfg) (n : Node) (nonces : List Nat) (addrs : List SockAddr)
    (peer : Option SockAddr) (adv : SockAddr) (h : Hand) :
    (h.genesis ≠ n.genesis → (acceptFull net n nonces addrs peer adv h).res = .error .genesisMismatch ∧
        (acceptFull net n nonces addrs peer adv h).addrs = addrs) ∧
    (h.genesis = n.genesis → h.nonce ∈ nonces →
        (acceptFull net n nonces addrs peer adv h).res = .error .peerWithSelf) ∧
    (h.genesis = n.genesis → h.nonce ∉ nonces → isDenied n.deny n.allow (resolvePeerAddr adv.port peer adv) = true →
        (acceptFull net n nonces addrs peer adv h).res = .error .connectionClose) := by
  refine ⟨fun hg => ?_, fun hg hn => ?_, fun hg hn hd => ?_⟩
  · simp only [acceptFull, hg, ne_eq, not_false_eq_true, if_true, and_self]
  · have hc : nonces.contains h.nonce = true := by simpa using hn
    simp only [acceptFull, hg, ne_eq, not_true_eq_false, if_false, hc, if_true]
  · have hc : nonces.contains h.nonce = false := by simpa using hn
    simp only [acceptFull, hg, ne_eq, not_true_eq_false, if_false, hc, hd, if_true, Bool.false_eq_true]

/-- the steps the generator found in `Handshake::accept` / `initiate` are the ones the model takes, in
this order, and `Hand` / `Shake` announce the node's own version -/
theorem accept_steps_as_modelled :
    acceptSteps = ["read", "genesis", "nonce", "negotiate", "denied", "shake"] ∧
    initiateSteps = ["nonce", "hand", "read", "genesis", "negotiate", "denied"] ∧
    shakeVersionField = "self.protocol_version" ∧ handVersionField = "self.protocol_version" ∧
    ADDRS_CAP_SRC = ADDRS_CAP :=
  ⟨rfl, rfl, rfl, rfl, rfl⟩

/-- a detected self connection records the address it came from: the ip of the socket's peer with
the port the `Hand` advertises -/
theorem accept_records_own_address (net : NetCfg) (n : Node) (nonces : List Nat) (addrs : List SockAddr)
    (p adv : SockAddr) (h : Hand) (hg : h.genesis = n.genesis) (hn : h.nonce ∈ nonces) :
    (acceptFull net n nonces addrs (some p) adv h).addrs = pushAddr addrs { ip := p.ip, port := adv.port } := by
  have hc : nonces.contains h.nonce = true := by simpa using hn
  simp only [acceptFull, hg, ne_eq, not_true_eq_false, if_false, hc, if_true, resolvePeerAddr]

/-- **the ring of own addresses holds the last `min(n, ADDRS_CAP − 1)`** addresses recorded (it pops
when `len >= ADDRS_CAP`: 9 are kept, not 10), in particular always the latest one -/
theorem addrs_ring_holds_last (as : List SockAddr) :
    as.foldl pushAddr [] = as.drop (as.length - (ADDRS_CAP - 1)) ∧
    (∀ older a, a ∈ (older ++ [a]).foldl pushAddr []) := by
  have h0 := foldl_pushAddr as [] (by simp)
  refine ⟨by simpa using h0, fun older a => ?_⟩
  rw [foldl_pushAddr (older ++ [a]) [] (by simp), List.nil_append]
  exact mem_drop_recent older [a] (by have := ADDRS_CAP_ge; simp only [List.length_singleton]; omega) a (by simp)

example : ((List.range 12).map fun i => (⟨[127, 0, 0, 1], 5000 + i⟩ : SockAddr)).foldl pushAddr [] =
    ((List.range 12).map fun i => (⟨[127, 0, 0, 1], 5000 + i⟩ : SockAddr)).drop 3 := by decide

/-- `Peer::is_denied`: the deny list wins over the allow list; with an allow list everything not on
it is denied; without lists nobody is -/
theorem deny_list_semantics (d a : List SockAddr) (x : SockAddr) :
    isDenied none none x = false ∧
    (addrsContain d x = true → ∀ al, isDenied (some d) al x = true) ∧
    (isDenied none (some a) x = !addrsContain a x) ∧
    (addrsContain d x = false → isDenied (some d) none x = false) := by
  refine ⟨rfl, fun h al => ?_, rfl, fun h => ?_⟩
  · simp only [isDenied, h, if_true]
  · simp only [isDenied, h, Bool.false_eq_true, if_false]

/-- `PeerAddr` equality: on loopback the port matters, elsewhere only the ip -/
example : addrEq ⟨[127, 0, 0, 1], 4100⟩ ⟨[127, 0, 0, 1], 4101⟩ = false ∧
    addrEq ⟨[10, 0, 0, 1], 4100⟩ ⟨[10, 0, 0, 1], 4101⟩ = true ∧
    addrEq ⟨[127, 0, 0, 1], 4100⟩ ⟨[127, 0, 0, 1], 4100⟩ = true := by decide

end GV.Props.C19Conn
