import GrinVerif.Props.C09AofFlush
/-! C09 — the append-fold lemma of the byte-level `AppendOnlyFile` model: from `pending es p as1` a fold
of `append` calls over `as` gives `pending es p (as1 ++ as)`, the state `flush_pending` starts from
(`Props/C09AofFlush.lean`). That opening the canonical file of `es` and rewinding to `p` gives
`pending es p []` is not stated. -/
namespace GV.Props.C09AofSim
open GV GV.CrashAof GV.Props.C09Aof GV.Props.C09AofFlush

theorem pending_sizeUnsync (es as1 : List Bytes) (p : Nat) :
    ({ s := 10, disk := sizeB es, buf := entBytes (offs as1 (es.take p).flatten.length), bsp := p,
       bak := es.length, mmap := some (sizeB es) } : Raw).sizeUnsync = p + as1.length := by
  simp [Raw.sizeUnsync, entBytes_length, offs_length]

/-- the offset `append` computes for the next element: the bytes of `es.take p` and of what was appended -/
theorem next_offset (es as1 : List Bytes) (p : Nat) (hp : p ≤ es.length) (hbe : Bounded es)
    (hb : Bounded (es.take p ++ as1)) (hnz : p + as1.length ≠ 0) :
    (({ s := 10, disk := sizeB es, buf := entBytes (offs as1 (es.take p).flatten.length), bsp := p,
        bak := es.length, mmap := some (sizeB es) } : Raw).readEntry (p + as1.length - 1)).map
      (fun e => e.1 + e.2) = some ((es.take p).flatten.length + as1.flatten.length) := by
  rcases List.eq_nil_or_concat as1 with rfl | ⟨as0, x, rfl⟩
  · -- nothing appended yet: the entry of element p - 1 on disk
    have hp0 : 0 < p := by simp at hnz; omega
    have hbe' : Bounded (es.take p ++ es.drop p) := by rw [List.take_append_drop]; exact hbe
    have := end_of_entry es (es.drop p) p hp0 hp hbe'
      { s := 10, disk := sizeB es, buf := entBytes (offs [] (es.take p).flatten.length), bsp := p,
        bak := es.length, mmap := some (sizeB es) } rfl (by rw [List.take_append_drop]) (Nat.le_refl _)
    simpa using this
  · -- the last appended entry, in the buffer
    simp only [List.concat_eq_append] at hb hnz ⊢
    have hidx : p + (as0 ++ [x]).length - 1 = p + as0.length := by simp
    rw [hidx]
    have hx : (as0 ++ [x])[as0.length]? = some x := by simp
    have hg := offs_get (as0 ++ [x]) as0.length (es.take p).flatten.length x hx
    have hmem : ((es.take p).flatten.length + ((as0 ++ [x]).take as0.length).flatten.length, x.length) ∈
        offs (es.take p ++ (as0 ++ [x])) 0 := by
      rw [offs_append]; simp only [Nat.zero_add]
      exact List.mem_append_right _ (List.mem_of_getElem? hg)
    have hbd := hb _ hmem
    have hr : ({ s := 10, disk := sizeB es, buf := entBytes (offs (as0 ++ [x]) (es.take p).flatten.length),
                 bsp := p, bak := es.length, mmap := some (sizeB es) } : Raw).readEntry (p + as0.length) = some _ :=
      readEntry_buffered _ (offs (as0 ++ [x]) (es.take p).flatten.length) as0.length _ rfl rfl hg hbd.1 hbd.2
    rw [hr]
    simp [List.take_left' rfl]
    omega

/-- **One `append`**: from the pending state of `as1` to the pending state of `as1 ++ [b]` -/
theorem append_step (es as1 : List Bytes) (p : Nat) (b : Bytes) (hp : p ≤ es.length) (hbe : Bounded es)
    (hb : Bounded (es.take p ++ as1)) :
    (pending es p as1).append b = some (pending es p (as1 ++ [b])) := by
  unfold pending Aof.append
  simp only [pending_sizeUnsync]
  by_cases hz : p + as1.length = 0
  · have hp0 : p = 0 := by omega
    have ha : as1 = [] := List.eq_nil_of_length_eq_zero (by omega)
    subst hp0; subst ha
    simp [Raw.append, offs, entBytes]
  · rw [if_neg hz, next_offset es as1 p hp hbe hb hz]
    simp only [Raw.append, Option.some.injEq]
    congr 2
    · congr 1
      rw [offs_append]
      simp [offs, entBytes]
    · congr 1
      simp

/-- **The append fold**: from `pending es p as1`, appending `as` one by one gives `pending es p (as1 ++ as)` -/
theorem append_fold (es : List Bytes) (p : Nat) (hp : p ≤ es.length) (hbe : Bounded es) :
    ∀ (as as1 : List Bytes), Bounded (es.take p ++ as1 ++ as) →
      as.foldl (fun st b => st.bind (·.append b)) (some (pending es p as1)) = some (pending es p (as1 ++ as)) := by
  intro as
  induction as with
  | nil => intro as1 _; simp
  | cons b rest ih =>
    intro as1 hb
    have hb1 : Bounded (es.take p ++ as1) := by
      intro e he
      apply hb e
      rw [List.append_assoc, offs_append] at *
      rcases List.mem_append.mp he with h | h
      · exact List.mem_append_left _ h
      · apply List.mem_append_right
        rw [offs_append]; exact List.mem_append_left _ h
    simp only [List.foldl_cons, Option.bind_some]
    rw [append_step es as1 p b hp hbe hb1]
    have := ih (as1 ++ [b]) (by simpa [List.append_assoc] using hb)
    simpa [List.append_assoc] using this

end GV.Props.C09AofSim
