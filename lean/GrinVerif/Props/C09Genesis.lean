import GrinVerif.Model.CrashGenesis
import GrinVerif.Props.C09SyncOrder
/-! C09 — the first start on an empty directory (`Model/CrashGenesis.lean`; known finding
C09-genesis-install-window; run `crash startup`: all 47 crash points of the real first start). -/
namespace GV.Props.C09Genesis
open GV GV.Crash GV.Gen GV.Props.C09SyncOrder

theorem crashAfterG_ge (k : Nat) (h : 11 ≤ k) : crashAfterG k = crashAfterG 11 := by
  unfold crashAfterG
  rw [List.take_of_length_le (show genesisSteps.length ≤ k from h)]
  rfl

/-- **Which prefixes of the genesis installation open again — all of them, exactly.** A first start
killed after `k` of its eleven durable steps opens again unless `k` lies in one of three windows:
header hash file before header data file (`k = 1`), output files before the range-proof hash file
(`3 ≤ k ≤ 5`), kernel hash file before kernel data file (`8 ≤ k ≤ 9`). -/
theorem genesis_install_opens_iff (k : Nat) :
    recoverG (crashAfterG k) =
      (if k = 1 then some .other
       else if 3 ≤ k ∧ k ≤ 5 then some .other
       else if 8 ≤ k ∧ k ≤ 9 then some .txHashSetErr
       else none) := by
  by_cases h : k < 12
  · revert k
    decide +kernel
  · have h1 : ¬ k = 1 := by omega
    have h2 : ¬ (3 ≤ k ∧ k ≤ 5) := by omega
    have h3 : ¬ (8 ≤ k ∧ k ≤ 9) := by omega
    rw [crashAfterG_ge k (by omega), if_neg h1, if_neg h2, if_neg h3]
    rfl

/-- **The passing prefixes are not all sound**: a first start killed after the range-proof hash file
was written and before the commit (`k = 6, 7, 10`; `k = 8, 9` do not open at all) opens again, installs
genesis a second time on top of the stale copy, and leaves the genesis output unspendable — for every
other prefix that opens, the genesis output stays spendable. (Real node, `crash startup`: a chain whose
block 5 spends the genesis coinbase stops at b4 with `AlreadySpent`.) -/
theorem genesis_reinstall_duplicates_iff (k : Nat) :
    (recoverG (crashAfterG k) = none ∧ genesisOutputSpendable (crashAfterG k) = false) ↔
      (k = 6 ∨ k = 7 ∨ k = 10) := by
  by_cases h : k < 12
  · revert k
    decide +kernel
  · rw [crashAfterG_ge k (by omega)]
    exact ⟨fun hh => absurd hh.2 (by decide +kernel), fun hh => by omega⟩

/-- once `setup_head`'s commit is durable the node opens, whatever the files hold -/
theorem committed_opens (g : GFiles) (h : g.committed = true) : recoverG g = none := by
  simp [recoverG, h]

/-- one prefix of each of the three windows -/
theorem genesis_install_window_bricks :
    recoverG (crashAfterG 1) = some .other ∧ recoverG (crashAfterG 4) = some .other ∧
    recoverG (crashAfterG 8) = some .txHashSetErr :=
  ⟨genesis_install_opens_iff 1, genesis_install_opens_iff 4, genesis_install_opens_iff 8⟩

def gOfStep : Step → List GStep
  | .hdrHashApp => [.hdrHashApp] | .hdrDataApp => [.hdrDataApp]
  | .outHashApp => [.outHashApp] | .outDataApp => [.outDataApp]
  | .leafRename => [.leafRename, .rpHashApp, .rpDataApp]   -- the range-proof backend follows the output backend
  | .kerHashApp => [.kerHashApp] | .kerDataApp => [.kerSizeApp, .kerDataApp]   -- size file inside the data file's flush
  | _ => []

/-- the step list is the source's order (`Gen/SyncOrder.lean`): the appends of the header commit path,
then of the body commit path with the range-proof backend between output and kernel and the kernel
size file before its data file, then the commit -/
theorem genesisSteps_is_source_order :
    SyncOrder.extendingCommit = [20, 21, 22, 23] ∧ dedup SyncOrder.aofFlush = [10, 11, 12, 13] ∧
    genesisSteps =
      (expand SyncOrder.headerExtendingCommit SyncOrder.backendSync SyncOrder.aofFlush ++
       expand SyncOrder.extendingCommit SyncOrder.backendSync SyncOrder.aofFlush).flatMap gOfStep ++ [.commit] := by
  decide

end GV.Props.C09Genesis
