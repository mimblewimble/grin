import GrinVerif.Model.PoolMiner
/-! C14 — the miner's block builder on top of the pool (`mine_block::get_block`, model
`Model/PoolMiner.lean`).

* `getBlock_returns_iff` / `getBlock_first` — `get_block` returns iff SOME call of `build_block`
  succeeds, and then with the block of the FIRST state in which it does; the only exit of the loop;
* `persistent_failure_never_returns` — while the pool keeps offering a set the chain refuses and the head
  does not move, it never returns: nothing is mined, not even an empty block (`build_block` falls back to
  an empty block only when `prepare_mineable_transactions` itself fails: `blockTxs`);
* `no_pause_without_key_id` — a node without wallet listener retries without any pause (a busy loop);
* `healthy_pool_returns_at_once` — whenever the block built from the mineable set is acceptable
  (`mineVerdict`; for sets without NRD kernels from a pool of valid entries that is
  `mineable_block_accepted` of Props/C14) the first call returns;
* `recovers_when_the_state_recovers` — as soon as the calls see a state in which the set is acceptable
  again (the next block by somebody else raises the height to the lock height: run `poolminer`), it
  returns that block;
* `stuck_miner_witness` — the state of the recorded finding C14-reorg-lower-height-keeps-locked-tx:
  the pool is jointly valid, the mineable set is not mineable, `get_block` loops. -/
namespace GV.Props.C14Miner
open GV.Pool

theorem getBlock_eq_findSome? (l : List (Ctx × TxPool)) :
    getBlock l = l.findSome? fun cs => cs.2.buildBlock cs.1 := by
  induction l with
  | nil => rfl
  | cons cs rest ih => rw [getBlock, List.findSome?_cons, ih]; cases cs.2.buildBlock cs.1 <;> rfl

theorem getBlockCalls_eq_findIdx (l : List (Ctx × TxPool)) :
    getBlockCalls l = l.findIdx fun cs => (cs.2.buildBlock cs.1).isSome := by
  induction l with
  | nil => rfl
  | cons cs rest ih => rw [getBlockCalls, List.findIdx_cons, ih]; cases (cs.2.buildBlock cs.1).isSome <;> rfl

theorem getBlock_returns_iff (l : List (Ctx × TxPool)) :
    (getBlock l).isSome = true ↔ ∃ cs ∈ l, (cs.2.buildBlock cs.1).isSome = true := by
  rw [getBlock_eq_findSome?, List.findSome?_isSome_iff]

/-- **a persistent error is retried for ever**: as long as every state the calls see fails -/
theorem persistent_failure_never_returns (l : List (Ctx × TxPool))
    (h : ∀ cs ∈ l, cs.2.buildBlock cs.1 = none) : getBlock l = none ∧ getBlockCalls l = l.length := by
  rw [getBlock_eq_findSome?, getBlockCalls_eq_findIdx]
  exact ⟨List.findSome?_eq_none_iff.mpr h, List.findIdx_eq_length_of_false fun cs hcs => by rw [h cs hcs]; rfl⟩

/-- it returns the block of the first state that builds: everything before failed -/
theorem getBlock_first (pre post : List (Ctx × TxPool)) (cs : Ctx × TxPool) (txs : List Tx)
    (hpre : ∀ x ∈ pre, x.2.buildBlock x.1 = none) (h : cs.2.buildBlock cs.1 = some txs) :
    getBlock (pre ++ cs :: post) = some txs ∧ getBlockCalls (pre ++ cs :: post) = pre.length := by
  obtain ⟨h1, h2⟩ := persistent_failure_never_returns pre hpre
  rw [getBlock_eq_findSome?, getBlockCalls_eq_findIdx] at *
  rw [List.findSome?_append, h1, List.findSome?_cons, h, List.findIdx_append, h2, List.findIdx_cons, h]
  simp

/-- the same state seen `n` times (head and pool unchanged): `n` failed calls, no block -/
theorem unchanged_state_never_returns (cs : Ctx × TxPool) (n : Nat) (h : cs.2.buildBlock cs.1 = none) :
    getBlock (List.replicate n cs) = none :=
  (persistent_failure_never_returns _ (fun x hx => by rw [(List.mem_replicate.mp hx).2]; exact h)).1

theorem no_pause_without_key_id : retryPause false false = none ∧ retryPause true false = some 100 ∧
    retryPause false true = some 5000 := by decide +kernel

theorem buildBlock_some_iff (c : Ctx) (s : TxPool) :
    (s.buildBlock c).isSome = true ↔ mineVerdict c (s.blockTxs c) = true := by
  unfold TxPool.buildBlock
  simp only []
  split <;> simp_all

theorem buildBlock_of_verdict {c : Ctx} {s : TxPool} (h : mineVerdict c (s.blockTxs c) = true) :
    s.buildBlock c = some (s.blockTxs c) := by
  unfold TxPool.buildBlock; simp [h]

theorem healthy_pool_returns_at_once (cs : Ctx × TxPool) (rest : List (Ctx × TxPool))
    (h : mineVerdict cs.1 (cs.2.blockTxs cs.1) = true) :
    getBlock (cs :: rest) = some (cs.2.blockTxs cs.1) ∧ getBlockCalls (cs :: rest) = 0 := by
  simp [getBlock, getBlockCalls, buildBlock_of_verdict h]

theorem recovers_when_the_state_recovers (stuck : Ctx × TxPool) (n : Nat) (good : Ctx × TxPool)
    (rest : List (Ctx × TxPool)) (h1 : stuck.2.buildBlock stuck.1 = none)
    (h2 : mineVerdict good.1 (good.2.blockTxs good.1) = true) :
    getBlock (List.replicate n stuck ++ good :: rest) = some (good.2.blockTxs good.1) := by
  exact (getBlock_first _ rest good _ (fun x hx => by rw [(List.mem_replicate.mp hx).2]; exact h1)
    (buildBlock_of_verdict h2)).1

/-! head at height 12 (next block 13), a pooled transaction whose kernel is locked at 14 (admitted when the
head was at 13, before the reorganisation onto the shorter branch): the txpool is jointly valid, the set is
offered, the block is refused, `get_block` loops; at height 13 it is built -/
def stuckCtx (h : Nat) : Ctx :=
  { cfg := { feeBase := 1 }, outs := [⟨1, false, 1000⟩, ⟨2, false, 900⟩],
    head := { utxo := [(1, 3, false)], nrd := [], height := h }, ver := 5 }
def lockedTx : Tx := { ins := [1], outs := [2], kers := [{ kid := 1, ker := .hl 100 14 }] }
def stuckPool : TxPool := { txpool := [⟨lockedTx, .broadcast⟩] }

theorem stuck_miner_witness :
    jointlyValidB (stuckCtx 12).outs (utxoIds (stuckCtx 12)) stuckPool.txpool.txs = true ∧
    stuckPool.blockTxs (stuckCtx 12) = [lockedTx] ∧
    getBlock (List.replicate 5 (stuckCtx 12, stuckPool)) = none ∧
    getBlock (List.replicate 5 (stuckCtx 12, stuckPool) ++ [(stuckCtx 13, stuckPool)]) = some [lockedTx] := by
  decide +kernel

end GV.Props.C14Miner
