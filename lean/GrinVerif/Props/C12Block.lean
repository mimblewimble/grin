import GrinVerif.Lemmas.TxBlockVal
import GrinVerif.Lemmas.BasicWrap
import GrinVerif.Props.C12
/-! # C12 — the block that is built, validated, announced by short ids and re-hydrated

Property theorems about `Model/TxBlock.lean` (helper lemmas: `Lemmas/TxBlockVal.lean`):
the offset `Block::validate` recovers from the two header totals, the full `validate_read` gates
(weight, NRD duplicates) of an aggregate, the lock-height / NRD gates of a block, the header
`from_reward` computes, the short ids of a compact block.  Conventions as in `Props/C12.lean`. -/
namespace GV.Props.C12
open GV GV.Tx GV.Tx.Ex List

/-- evaluation of the body gates on concrete data -/
macro "tx_eval_b" : tactic => `(tactic|
  (simp only [blockValidate, bodyValidateRead, verifyNoNrdDuplicates, verifyCutThrough, compactRead, compactWire,
     compact, sortBy_eq_foldr]
   decide +kernel))

/-- **`block_kernel_offset` in closed form** (never an error): zero when the header's total is the
zero offset — *whatever the previous total is* —, otherwise `total − prev` modulo the group order. -/
theorem blockKernelOffset_spec {t p : Nat} (ht : t < N) (hp : p < N) :
    blockKernelOffset t p = .ok (if t = 0 then 0 else (t + (N - p)) % N) := by
  unfold blockKernelOffset
  by_cases e : t = p
  · subst e
    rw [if_pos rfl, Nat.add_sub_cancel' (Nat.le_of_lt ht), Nat.mod_self, ite_self]
  · simp only [if_neg e, sumKernelOffsets, blindSumOrZero_eq, scalarSum_pair ht hp]
    rw [toSecrets_singleton_of_lt ht]
    by_cases z : t = 0 <;> simp [z]

/-- **an observation about the code: when `block_kernel_offset` drops the previous total.**
`block_kernel_offset(total, prev)` is `total − prev` (mod n) in every case but one: the total is the
zero offset while the previous total is not.  Then the "positive side empty ⇒ zero" shortcut of
`sum_kernel_offsets` answers zero and the previous total is lost, so `Block::validate` checks the
kernel sums with offset 0 (not a violation of C12: the block is built and re-hydrates identically). -/
theorem block_kernel_offset_drops_prev_iff {t p : Nat} (ht : t < N) (hp : p < N) :
    blockKernelOffset t p ≠ .ok ((t + (N - p)) % N) ↔ (t = 0 ∧ p ≠ 0) := by
  rw [blockKernelOffset_spec ht hp]
  by_cases z : t = 0
  · subst z
    by_cases zp : p = 0
    · subst zp; simp
    · have : (0 + (N - p)) % N ≠ 0 := by
        rw [Nat.zero_add, Nat.mod_eq_of_lt (by omega)]; omega
      simp only [if_true, ne_eq, Except.ok.injEq, true_and, zp, not_false_eq_true, iff_true]
      exact fun h => this h.symm
  · simp [z]

/-- **the block `from_reward` builds, as `validate` sees it**: for transactions that aggregate to
an offset `a` and a previous total `p` (both scalars), `block_kernel_offset` of the new header's
total and `p` gives back `a` — the offset the kernel-sum equation of the block needs — unless
`a ≠ 0` and `a + p ≡ 0 (mod n)`; in that one case it gives zero. -/
theorem built_block_offset_recovered_iff {K : Keys} {txs : List Tx} {prev rout rkern : Nat} {agg : Tx} {b : Block}
    (ha : aggregate K txs = .ok agg) (hb : fromReward K prev txs rout rkern = .ok b)
    (hoff : agg.offset < N) (hp : prev < N) :
    blockKernelOffset b.totalOffset prev = .ok agg.offset ↔ ¬ (agg.offset ≠ 0 ∧ (agg.offset + prev) % N = 0) := by
  rw [fromReward_of_aggregate ha] at hb
  cases hb
  have hN : 0 < N := by decide
  have hs : (toSecrets [agg.offset, prev]).sum = agg.offset + prev := by
    rw [← singleton_append, toSecrets_append, sum_append, toSecrets_singleton_sum hoff, toSecrets_singleton_sum hp]
  simp only [hs]
  rw [blockKernelOffset_spec (Nat.mod_lt _ hN) hp]
  by_cases z : (agg.offset + prev) % N = 0
  · simp [z, eq_comm]
  · -- subtracting `prev` again gives the aggregate's offset back
    have key : ((agg.offset + prev) % N + (N - prev)) % N = agg.offset := by
      have h := add_mod_cancel_of_compl (n := N) (SA := prev) (SB := agg.offset) (k := N - prev)
        (by rw [Nat.mod_eq_of_lt hp]; exact Nat.add_sub_cancel' (Nat.le_of_lt hp))
      rwa [Nat.mod_eq_of_lt hoff, Nat.add_comm prev] at h
    simp [z, key]

/-- the one case exists: offsets `3` and previous total `n − 3` — `from_reward` builds the block
with total offset zero, and `validate` then works with offset `0` instead of `3`. -/
theorem built_block_offset_lost_witness :
    fromReward K0 (N - 3) [t1, t2] 101 7 = .ok ⟨0, false, [1], [12, 101], [0, 2, 7]⟩ ∧
    blockKernelOffset 0 (N - 3) = .ok 0 ∧ aggregate K0 [t1, t2] = .ok ⟨3, false, [1], [12], [0, 2]⟩ := by
  refine ⟨fromReward_t1_t2_cancel, ?_, aggregate_t1_t2⟩
  rw [blockKernelOffset_spec (by decide) (by decide)]; rfl

/-- hypotheses of `built_block_offset_recovered_iff` are satisfiable in the ordinary case -/
example : blockKernelOffset 12 9 = .ok 3 := by
  rw [blockKernelOffset_spec (by decide) (by decide)]; rfl

/-! ## the gates of `validate_read` that `validateRead` leaves out -/

/-- **`verify_no_nrd_duplicates`** (feature flag on): sort, `dedup`, compare lengths — passes
exactly when the excesses of the NRD kernels are pairwise different. -/
theorem verifyNoNrdDuplicates_none_iff (M : KMeta) (kernels : List Nat) :
    verifyNoNrdDuplicates M true kernels = none ↔
      ((kernels.filter (fun k => M.feat k == 3)).map M.excess).Nodup := by
  unfold verifyNoNrdDuplicates
  simp only [Bool.not_true, Bool.false_eq_true, if_false]
  have h := dedupAdj_length_eq_iff (sortBy id ((kernels.filter (fun k => M.feat k == 3)).map M.excess))
  rw [adjDup_sortBy (injOn_id _)] at h
  rw [← h]
  constructor
  · intro g
    by_cases c : (sortBy id (map M.excess (filter (fun k => M.feat k == 3) kernels))).length
        = (dedupAdj (sortBy id (map M.excess (filter (fun k => M.feat k == 3) kernels)))).length
    · exact c.symm
    · simp [c] at g
  · intro g; simp [g]

/-- with the feature flag off the check is skipped -/
theorem verifyNoNrdDuplicates_disabled (M : KMeta) (kernels : List Nat) :
    verifyNoNrdDuplicates M false kernels = none := by
  simp [verifyNoNrdDuplicates]

/-- **`Transaction::validate_read` in full** = weight within `max_tx_weight`, NRD excesses pairwise
different, and the structural part `validateRead` (sorted, unique, no self-spend, no coinbase
features) that `aggregate_valid` is about. -/
theorem validateReadFull_none_iff (K : Keys) (M : KMeta) (ct : Cons.ChainType) (t : Tx) :
    validateReadFull K M ct true t = none ↔
      Cons.weightByIok t.inputs.length t.outputs.length t.kernels.length ≤ maxTxWeight ct ∧
      ((t.kernels.filter (fun k => M.feat k == 3)).map M.excess).Nodup ∧
      validateRead K ⟨0, false, t.inputs, t.outputs, t.kernels⟩ = none := by
  rw [← verifyNoNrdDuplicates_none_iff, ← Nat.not_lt]
  unfold validateReadFull bodyValidateRead validateRead verifyWeight maxWeightOf
  simp only
  -- the gates are opaque here: only which of them answer `none` matters
  generalize verifyNoNrdDuplicates M true t.kernels = nrd
  generalize sortedUnique K.ik t.inputs = sI
  generalize sortedUnique K.ok t.outputs = sO
  generalize sortedUnique K.kk t.kernels = sK
  generalize verifyCutThrough ⟨0, false, t.inputs, t.outputs, t.kernels⟩ = ct'
  generalize t.outputs.any isCoinbase = cO
  generalize t.kernels.any isCoinbase = cK
  by_cases w : maxTxWeight ct < Cons.weightByIok t.inputs.length t.outputs.length t.kernels.length
  · simp [w]
  cases nrd
  case some e => simp [w]
  cases sI
  case some e => simp [w]
  cases sO
  case some e => simp [w]
  cases sK
  case some e => simp [w]
  cases ct'
  case some e => simp [w]
  cases cO <;> cases cK <;> simp [w]

theorem validateRead_body (K : Keys) (t : Tx) :
    validateRead K ⟨0, false, t.inputs, t.outputs, t.kernels⟩ = validateRead K t := rfl

/-- **the aggregate of valid transactions passes the whole of `validate_read`** as soon as it is
light enough and carries no two NRD kernels with the same excess: the hypotheses of
`aggregate_valid` plus exactly the two gates that are not structural. -/
theorem aggregate_valid_full {K : Keys} {M : KMeta} {ct : Cons.ChainType} {txs : List Tx} {t : Tx}
    (h2 : 2 ≤ txs.length) (kinj : KInj K)
    (hp : ∀ t ∈ txs, Plain t) (ndK : (allKers txs).Nodup) (h : aggregate K txs = .ok t)
    (hw : Cons.weightByIok t.inputs.length t.outputs.length t.kernels.length ≤ maxTxWeight ct)
    (hn : ((t.kernels.filter (fun k => M.feat k == 3)).map M.excess).Nodup) :
    validateReadFull K M ct true t = none := by
  rw [validateReadFull_none_iff, validateRead_body]
  exact ⟨hw, hn, aggregate_valid h2 kinj hp ndK h⟩

/-- **`verify_kernel_lock_heights`** passes exactly when every height-locked kernel's lock height is
at most the header's height. -/
theorem lock_heights_none_iff (M : KMeta) (height : Nat) (ks : List Nat) :
    verifyKernelLockHeights M height ks = none ↔ ∀ k ∈ ks, M.feat k = 2 → M.lock k ≤ height :=
  verifyKernelLockHeights_none_iff M height ks

/-- **`Block::validate` is the conjunction of its gates** (in the model: honest range proofs and
signatures; commitment equations on openings): the body gates under the block weight, the lock
heights, NRD kernels only from header version 4 on (feature flag on), the coinbase equation, and the
kernel-sum equation with the offset `block_kernel_offset` hands over. -/
theorem blockValidate_none_iff (K : Keys) (M : KMeta) (ct : Cons.ChainType) (b : Block) (hdr : Hdr)
    (prev fees bodyOff : Nat) :
    blockValidate K M ct true b hdr prev fees bodyOff = none ↔
      bodyValidateRead K M ct true .asBlock b.inputs b.outputs b.kernels = none ∧
      (∀ k ∈ b.kernels, M.feat k = 2 → M.lock k ≤ hdr.height) ∧
      ((b.kernels.any fun k => M.feat k == 3) = true → 4 ≤ hdr.version) ∧
      min U64MAX (Gen.REWARD + fees) = min U64MAX (Gen.REWARD + totalFees M b.kernels) ∧
      blockKernelOffset b.totalOffset prev = .ok bodyOff := by
  rw [← verifyKernelLockHeights_none_iff]
  unfold blockValidate verifyNrdForHeaderVersion
  -- the gates are opaque here: only which of them answer `none` matters
  generalize bodyValidateRead K M ct true .asBlock b.inputs b.outputs b.kernels = body
  generalize verifyKernelLockHeights M hdr.height b.kernels = locks
  generalize blockKernelOffset b.totalOffset prev = off
  generalize (b.kernels.any fun k => M.feat k == 3) = nrd
  cases body with
  | some e => simp
  | none =>
    cases locks with
    | some e => simp
    | none =>
      by_cases f : min U64MAX (Gen.REWARD + fees) = min U64MAX (Gen.REWARD + totalFees M b.kernels)
      · cases nrd with
        | false => cases off <;> simp [f]
        | true =>
          by_cases v : hdr.version < 4
          · simp [v, Nat.not_le.2 v]
          · cases off <;> simp [v, f, Nat.not_lt.1 v]
      · cases nrd with
        | false => simp [f]
        | true => by_cases v : hdr.version < 4 <;> simp [v, f]

/-- **a block built by `from_reward` validates iff its gates pass and it is not the lost-offset
case**: with the transactions' offsets summing to the aggregate's offset (the body's true offset),
`Block::validate` accepts exactly when the structural gates, lock heights, NRD version rule and the
claimed fees are right **and** not (`a ≠ 0 ∧ a + prev ≡ 0`). -/
theorem built_block_validates_iff {K : Keys} {M : KMeta} {ct : Cons.ChainType} {txs : List Tx}
    {prev rout rkern fees : Nat} {agg : Tx} {b : Block} {hdr : Hdr}
    (ha : aggregate K txs = .ok agg) (hb : fromReward K prev txs rout rkern = .ok b)
    (hoff : agg.offset < N) (hp : prev < N) :
    blockValidate K M ct true b hdr prev fees agg.offset = none ↔
      bodyValidateRead K M ct true .asBlock b.inputs b.outputs b.kernels = none ∧
      (∀ k ∈ b.kernels, M.feat k = 2 → M.lock k ≤ hdr.height) ∧
      ((b.kernels.any fun k => M.feat k == 3) = true → 4 ≤ hdr.version) ∧
      min U64MAX (Gen.REWARD + fees) = min U64MAX (Gen.REWARD + totalFees M b.kernels) ∧
      ¬ (agg.offset ≠ 0 ∧ (agg.offset + prev) % N = 0) := by
  rw [blockValidate_none_iff, built_block_offset_recovered_iff ha hb hoff hp]

/-- kernel table of the examples: kernel code 2 is height locked at 5, code 4 an NRD kernel, code 7
the coinbase kernel -/
def M0 : KMeta where
  feat := fun k => if k = 2 then 2 else if k = 4 then 3 else if k = 7 then 1 else 0
  lock := fun k => if k = 2 then 5 else 0
  fee := fun _ => 1
  excess := fun k => k

/-- the hypotheses of `built_block_validates_iff` / `blockValidate_none_iff` are satisfiable: the
block of `[t1, t2]` on previous total 9 at height 9 validates (fees 2 claimed, offset 3 recovered),
is refused below the lock height of kernel 2, and is refused with the offset lost when the
previous total is `n − 3`. -/
example : blockValidate K0 M0 .automatedTesting true ⟨12, false, [1], [12, 101], [0, 2, 7]⟩ ⟨9, 4, 0⟩ 9 2 3 = none := by
  tx_eval_b
example : blockValidate K0 M0 .automatedTesting true ⟨12, false, [1], [12, 101], [0, 2, 7]⟩ ⟨4, 2, 0⟩ 9 2 3
    = some (.kernelLockHeight 5) := by
  tx_eval_b
example : blockValidate K0 M0 .automatedTesting true ⟨0, false, [1], [12, 101], [0, 2, 7]⟩ ⟨9, 4, 0⟩ (N - 3) 2 3
    = some .kernelSum := by
  tx_eval_b
/-- two NRD kernels with one excess are refused, with different excesses accepted -/
example : verifyNoNrdDuplicates { feat := (fun _ => 3), lock := (fun _ => 0), fee := (fun _ => 0), excess := (fun _ => 7) } true [0, 2] = some .nrdDup := by
  tx_eval_b
example : verifyNoNrdDuplicates { feat := (fun _ => 3), lock := (fun _ => 0), fee := (fun _ => 0), excess := (fun k => k) } true [0, 2] = none := by
  rw [verifyNoNrdDuplicates_none_iff]; simp

/-- **the aggregate's fee is the (capped) sum of the operands' fees** and depends on the operands
only as a multiset: `fee()` of the aggregate of two or more transactions is `min(2^64−1, Σ fee)`
over all kernels of all operands. -/
theorem aggregate_fee {K : Keys} (M : KMeta) {txs : List Tx} {t : Tx} (h2 : 2 ≤ txs.length)
    (h : aggregate K txs = .ok t) :
    totalFees M t.kernels = min U64MAX ((((allKers txs).filter (fun k => M.feat k != 1)).map M.fee).sum) := by
  rw [(aggregate_ok_of_two_le h2 h).kernels, totalFees_perm M (sortBy_perm _ _), totalFees_eq]

/-- **the block's lock-height gate is `lock_height() ≤ height`**: `verify_kernel_lock_heights`
accepts exactly when the body's `lock_height()` (the maximum over its height-locked kernels) is at
most the header's height. -/
theorem lock_gate_iff_lockHeight (M : KMeta) (height : Nat) (ks : List Nat) :
    verifyKernelLockHeights M height ks = none ↔ lockHeight M ks ≤ height := by
  rw [verifyKernelLockHeights_none_iff, lockHeight_le_iff]

/-- … for the aggregate: exactly when every operand's is -/
theorem aggregate_lockHeight_le_iff {K : Keys} (M : KMeta) {txs : List Tx} {t : Tx} (h2 : 2 ≤ txs.length)
    (h : aggregate K txs = .ok t) (height : Nat) :
    lockHeight M t.kernels ≤ height ↔ ∀ tx ∈ txs, lockHeight M tx.kernels ≤ height := by
  simp only [lockHeight_le_iff, (aggregate_ok_of_two_le h2 h).kernels, mem_sortBy, mem_allKers]
  constructor
  · intro g tx htx k hk' hf; exact g k ⟨tx, htx, hk'⟩ hf
  · rintro g k ⟨tx, htx, hk'⟩ hf; exact g tx htx k hk' hf

example : totalFees M0 [0, 2, 7] = 2 ∧ lockHeight M0 [0, 2, 7] = 5 := by
  decide +kernel

/-- the new header is one above the previous one (u64 arithmetic), carries the version consensus
asks for at that height (`valid_header_version` holds by construction) and the accumulated
difficulty -/
theorem fromRewardHeader_spec (ct : Cons.ChainType) (ph ptd d : Nat) (h : ph < U64MAX) (hd : d + ptd ≤ U64MAX) :
    (fromRewardHeader ct ph ptd d).height = ph + 1 ∧
    (fromRewardHeader ct ph ptd d).version = Cons.headerVersion ct (ph + 1) ∧
    (fromRewardHeader ct ph ptd d).totalDifficulty = d + ptd := by
  simp only [U64MAX] at h hd
  simp [fromRewardHeader, addW_eq (show ph + 1 < 2^64 by omega), addW_eq (show d + ptd < 2^64 by omega)]

example : fromRewardHeader .automatedTesting 8 100 5 = ⟨9, 4, 105⟩ := by decide

/-- SipHash-2-4 reference vector (Aumasson–Bernstein, key `00..0f`, message `00..0e`) -/
theorem siphash24_reference_vector :
    siphash24 0x0706050403020100 0x0f0e0d0c0b0a0908 (List.range 15) = 0xa129ca6149be45e5 := by decide

/-- a short id is six bytes, and `ShortId::from_bytes` of it is itself -/
theorem shortIdOf_length (k0 k1 : Nat) (h : List Nat) : (shortIdOf k0 k1 h).length = 6 := by
  simp [shortIdOf, leBytes]

theorem shortIdFromBytes_shortIdOf (k0 k1 : Nat) (h : List Nat) :
    shortIdFromBytes (shortIdOf k0 k1 h) = shortIdOf k0 k1 h := by
  have l := shortIdOf_length k0 k1 h
  unfold shortIdFromBytes
  rw [take_of_length_le (by omega), l]
  simp

/-- **the `kern_ids` of a compact block are exactly the short ids of its non-coinbase kernels**
(as a multiset: nothing dropped, nothing invented, whatever the order of the kernels), listed in
the order of the hash of the six bytes. -/
theorem kernIdsOf_perm (hashOf : List Nat → List Nat) (k0 k1 : Nat) (khs : List (List Nat)) :
    kernIdsOf hashOf k0 k1 khs ~ khs.map (shortIdOf k0 k1) :=
  sortByLe_perm _ _

theorem kernIdsOf_sorted (hashOf : List Nat → List Nat) (k0 k1 : Nat) (khs : List (List Nat)) :
    (kernIdsOf hashOf k0 k1 khs).Pairwise (fun a b => bytesLe (hashOf a) (hashOf b) = true) :=
  sortByLe_sorted (fun a b => bytesLe (hashOf a) (hashOf b)) (fun _ _ => bytesLe_total _ _)
    (fun _ _ _ => bytesLe_trans _ _ _) _

theorem kernIdsOf_length (hashOf : List Nat → List Nat) (k0 k1 : Nat) (khs : List (List Nat)) :
    (kernIdsOf hashOf k0 k1 khs).length = khs.length := by
  rw [(kernIdsOf_perm hashOf k0 k1 khs).length_eq, length_map]

/-- **the reader accepts exactly what the writer produced, for blocks of every size**: for any
block without repeated outputs or kernels (every block `from_reward` builds from valid
transactions), any nonce, and hash orders without collisions (on the block's outputs, kernels and
the short ids of its non-coinbase kernels), `CompactBlockBody::read` accepts the three vectors
`From<Block>` wrote — no bound on the number of kernels, inputs or outputs is involved, because the
reader has no weight or count pre-check. -/
theorem compact_read_accepts_written (K : Keys) (sk : Nat → Nat) (nonce : Nat) (b : Block)
    (ndO : b.outputs.Nodup) (ndK : b.kernels.Nodup)
    (injO : InjOn K.ok b.outputs) (injK : InjOn K.kk b.kernels)
    (injS : InjOn sk (b.kernels.filter fun k => !isCoinbase k)) :
    compactRead K sk (compactWire K sk nonce b) = none := by
  have sub : ∀ {l : List Nat} {p : Nat → Bool} {key : Nat → Nat}, InjOn key l → InjOn key (l.filter p) :=
    fun h a b ha hb e => h a b (mem_filter.1 ha).1 (mem_filter.1 hb).1 e
  have h1 : sortedUnique K.ok (sortBy K.ok (b.outputs.filter isCoinbase)) = none :=
    sortedUnique_none (sortBy_sorted _ _) ((adjDup_sortBy (sub injO)).2 (ndO.filter _))
  have h2 : sortedUnique K.kk (sortBy K.kk (b.kernels.filter isCoinbase)) = none :=
    sortedUnique_none (sortBy_sorted _ _) ((adjDup_sortBy (sub injK)).2 (ndK.filter _))
  have h3 : sortedUnique sk (sortBy sk (b.kernels.filter fun k => !isCoinbase k)) = none :=
    sortedUnique_none (sortBy_sorted _ _) ((adjDup_sortBy injS).2 (ndK.filter _))
  simp only [compactRead, compactWire, compact, h1, h2, h3]

/-- … and the three vectors on the wire are those of the compact block, the short ids up to order
(so hydration, which does not read the ids, sees the same compact block). -/
theorem compact_wire_carries_block (K : Keys) (sk : Nat → Nat) (nonce : Nat) (b : Block) :
    (compactWire K sk nonce b).1 = (compact K nonce b).outFull ∧
    (compactWire K sk nonce b).2.1 = (compact K nonce b).kernFull ∧
    (compactWire K sk nonce b).2.2 ~ (compact K nonce b).kernIds :=
  ⟨rfl, rfl, sortBy_perm _ _⟩

/-- short ids out of order, or one of them twice, is what the reader refuses -/
example : compactRead K0 id ([101], [7], [2, 0]) = some .sort := by simp [compactRead, sortedUnique]
example : compactRead K0 id ([101], [7], [0, 2, 2]) = some .dup := by simp [compactRead, sortedUnique]
/-- the hypotheses are satisfiable: the block of the examples -/
example : compactRead K0 id (compactWire K0 id 5 ⟨0, false, [1], [12, 101], [0, 2, 7]⟩) = none := by
  tx_eval_b

end GV.Props.C12
