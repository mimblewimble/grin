import GrinVerif.Model.Crash
import GrinVerif.Model.CrashCompact
import GrinVerif.Lemmas.CrashBasic
import GrinVerif.Lemmas.CrashPath
import GrinVerif.Lemmas.CrashRecover
import GrinVerif.Lemmas.CrashSteps
import GrinVerif.Lemmas.CrashExt
import GrinVerif.Lemmas.CrashUnspent
import GrinVerif.Lemmas.CrashWindow
import GrinVerif.Lemmas.CrashCompactL
import GrinVerif.Lemmas.CrashReorg
/-! # C09 — a crash at any persistence step never bricks or corrupts the chain

Theorems about the crash model (`Model/Crash.lean`, compaction: `Model/CrashCompact.lean`). The
property is FALSE of the unchanged code in several windows (and the model, which agrees with the real
node on every enumerated crash point, says so). This file says, for ALL chains (block table, old
path, new block, bitmap-commitment function universally quantified; no size bound), at which crash
points recovery works and at which it does not, and where the node lands:

* plain extension (17 steps): `safe_prefix_all` (k ≤ 2, 5 ≤ k ≤ 11 → old tip), `header_torn_bricks_all`
  (k = 3, 4 → does not open), `txhashset_window_violates_all` / `txhashset_window_exact` /
  `txhashset_window_general` / `txhashset_window_to_genesis` / `txhashset_window_precommit_silent`
  (12 ≤ k ≤ 16), `no_inputs_crash_safe`, `completed_extension_all` (k ≥ 17 → new block);
* header reorganisation: `header_reorg_window_bricks_all`, `header_reorg_ends_ok_all`,
  `header_reorg_equal_length_silent`; reorganising block: `block_reorg_header_window_bricks_all`,
  `block_reorg_ends_ok_all`, `block_reorg_files_window_all`, `block_reorg_leaf_window_all`;
* compaction (13 steps): `compaction_safe_steps_all`, `compaction_interrupted_first_all`,
  `compaction_interrupted_again_all`; block on a compacted node: `compacted_safe_prefix_all`,
  `compacted_window_bricks_all`, `compacted_window_lands_all`; `recoverC_conservative`;
* the instances of the general theorems on a concrete witness chain (the negation witnesses) and
  witnesses for their structure hypotheses (`ext9 : PlainExt …`, `forkReorg : HdrReorg …`, `reorgR : BlockReorg …`; a
  plain extension without inputs, as `no_inputs_crash_safe` assumes, has no witness here).

What is NOT covered by a theorem: the property's clauses "the reopened state passes full
validation" and "re-delivery reaches the uninterrupted head" (the model's `recover` returns the
reopen outcome and head only; those clauses are evaluated on the real node by the harness). -/
namespace GV.Props.C09
open GV GV.Crash

/-! A concrete chain used as witness: genesis b0 creates o0; b1 creates o1 (coinbase) ; …;
heights ≥ 6 commit to the bitmap. Block b8 spends o6 (created by b6). -/
def blk (i : Nat) (ins : List Nat) : BlkInfo :=
  { id := i, parent := if i = 0 then none else some (i - 1), work := i + 1, outs := [i], ins := ins }

def tbl9 : List BlkInfo := [blk 0 [], blk 1 [], blk 2 [], blk 3 [], blk 4 [], blk 5 [], blk 6 [], blk 7 [], blk 8 [6]]
def old8 : List BlkInfo := tbl9.take 8
def tgt9 : Target := { newPath := tbl9, forkLen := 8, movesHHead := true, movesHead := true }
def bc (h : Nat) : Bool := decide (h ≥ 6)

/-- a header-only reorganisation: header b9 on b5 with more work than the header head b7 -/
def tblFork : List BlkInfo := old8 ++ [{ id := 9, parent := some 5, work := 20, outs := [9], ins := [] }]
def tgtFork : Target :=
  { newPath := tblFork.take 6 ++ [{ id := 9, parent := some 5, work := 20, outs := [9], ins := [] }],
    forkLen := 6, movesHHead := true, movesHead := false }

/-- The nested commit and the steps on the txhashset files change neither what the header check of
recovery sees nor the body head. -/
theorem tx_steps_keep_header_files (t : Target) (d : Durable) (s : Step)
    (hs : s = .childCommit ∨ s = .outHashTrunc ∨ s = .outHashApp ∨ s = .outDataTrunc ∨ s = .outDataApp ∨
          s = .leafRename ∨ s = .kerHashTrunc ∨ s = .kerHashApp ∨ s = .kerDataTrunc ∨ s = .kerDataApp) :
    (applyStep t d s).hdrHash = d.hdrHash ∧ (applyStep t d s).hdrData = d.hdrData ∧
    (applyStep t d s).dbHHead = d.dbHHead ∧ (applyStep t d s).dbHead = d.dbHead := by
  have hne : s ≠ .finalCommit ∧ s.hdrSide = false := by
    rcases hs with h | h | h | h | h | h | h | h | h | h <;> subst h <;> exact ⟨by decide, rfl⟩
  have hv := applyStep_hdrView (t := t) hne.2 d
  simp only [hdrView, Prod.mk.injEq] at hv
  exact ⟨hv.1, hv.2.1, hv.2.2, applyStep_dbHead hne.1 d⟩

/-- Only the two LMDB commits move `head` / `header_head`: no file step publishes a new head. -/
theorem only_commits_move_heads (t : Target) (d : Durable) (s : Step)
    (h1 : s ≠ .hdrCommit) (h2 : s ≠ .finalCommit) :
    (applyStep t d s).dbHead = d.dbHead ∧ (applyStep t d s).dbHHead = d.dbHHead :=
  ⟨applyStep_dbHead h2 d, applyStep_dbHHead h1 d⟩

/-- **Every chain: a cleanly stopped node reopens on its head.** For any block table and any stored
path (genesis first) ending in `tip`, the consistent durable state of that path — head and
header head = `tip`, every MMR file holding exactly the path's entries, leaf set = replayed
unspent set — is recovered by `Chain::init`'s model as `ok tip`: the header-MMR check passes and
the fallback loop stops at its first candidate. (No bound on the chain's length or shape.) -/
theorem recover_consistent (bcf : Nat → Bool) (tbl : List BlkInfo) (path : List BlkInfo) (tip : Nat)
    (hp : pathOf tbl (tbl.length + 1) tip [] = some path)
    (htip : (path.getLast?.map (·.id)).getD 0 = tip) :
    recover bcf tbl (consistent path) = .ok tip := by
  subst htip
  exact recover_consistent_tipOf bcf tbl path hp

-- non-vacuity: the 8-block prefix of the witness chain
example : recover bc tbl9 (consistent old8) = .ok 7 :=
  recover_consistent bc tbl9 old8 7 (by decide +kernel) (by decide +kernel)

/-! ### Plain extension, every chain

`PlainExt tbl O b t`: in the block table `tbl` the stored path of the old tip is `O`, the stored
path of the new block `b` is `O ++ [b]`, and the target `t` describes exactly this acceptance.
No bound on the length or shape of the chain, on what the blocks spend or create, or on which
heights commit to the bitmap. -/

/-- **Characterisation of the safe durable states (all chains).** If the header files are consistent
with `header_head` (equal counts; the data file holds the path of `header_head`), and the state
agrees with the consistent state of `O` on the body head, the leaf set and the `O`-prefix of the
output hash/data and kernel hash/data files (whatever was appended behind those prefixes), then
`Chain::init` reopens on the tip of `O`. -/
theorem recover_of_agrees_old (bcf : Nat → Bool) (tbl O : List BlkInfo) (d : Durable)
    (hO : pathOf tbl (tbl.length + 1) (tipOf O) [] = some O)
    (hh : HdrOk tbl d) (ha : AgreesOld O d) :
    recover bcf tbl d = .ok (tipOf O) :=
  recover_of_agrees bcf tbl O d hO hh ha

/-- **Safe steps of a plain extension, all chains.** A process death before the header window
(`k ≤ 2`) or between the header data append and the leaf-set rename (`5 ≤ k ≤ 11`) reopens on the
old tip: appended-but-uncommitted header, output and kernel entries are ignored / truncated away. -/
theorem safe_prefix_all (bcf : Nat → Bool) (tbl O : List BlkInfo) (b : BlkInfo) (t : Target)
    (h : PlainExt tbl O b t) (k : Nat) (hk : k ≤ 2 ∨ (5 ≤ k ∧ k ≤ 11)) :
    recover bcf tbl (crashAfter t (consistent O) blockSteps k) = .ok (tipOf O) :=
  recover_of_agrees bcf tbl O _ h.old (h.hdrOk k (by omega)) (h.agrees k (by omega))

/-- **Completed acceptance, all chains.** After the last step (the final LMDB commit) the node
reopens on the new block. -/
theorem completed_extension_all (bcf : Nat → Bool) (tbl O : List BlkInfo) (b : BlkInfo) (t : Target)
    (h : PlainExt tbl O b t) (hm : t.movesHead = true) (k : Nat) (hk : 17 ≤ k) :
    recover bcf tbl (crashAfter t (consistent O) blockSteps k) = .ok b.id := by
  have := recover_of_agrees bcf tbl (O ++ [b]) _ (by rw [tipOf_snoc]; exact h.new) (h.hdrOk k (by omega))
    (h.agrees_new hm k hk)
  rwa [tipOf_snoc] at this

-- non-vacuity: the witness chain is a plain extension; the general theorems give its safe steps
theorem ext9 : PlainExt tbl9 old8 (blk 8 [6]) tgt9 := ⟨by decide +kernel, by decide +kernel, by decide +kernel, by decide +kernel⟩
example : PlainExt tbl9 old8 (blk 8 [6]) tgt9 := ext9
example : recover bc tbl9 (crashAfter tgt9 (consistent old8) blockSteps 9) = .ok 7 :=
  safe_prefix_all bc tbl9 old8 (blk 8 [6]) tgt9 ext9 9 (by omega)
example : recover bc tbl9 (crashAfter tgt9 (consistent old8) blockSteps 17) = .ok 8 :=
  completed_extension_all bc tbl9 old8 (blk 8 [6]) tgt9 ext9 rfl 17 (by omega)

/-- sanity: an uninterrupted acceptance recovers to the new head, no crash recovers to the old -/
theorem witness_uninterrupted :
    recover bc tbl9 (crashAfter tgt9 (consistent old8) blockSteps blockSteps.length) = .ok 8 ∧
    recover bc tbl9 (crashAfter tgt9 (consistent old8) blockSteps 0) = .ok 7 :=
  ⟨completed_extension_all bc tbl9 old8 (blk 8 [6]) tgt9 ext9 rfl _ (Nat.le_refl 17),
   safe_prefix_all bc tbl9 old8 (blk 8 [6]) tgt9 ext9 0 (by omega)⟩

/-- **Safe prefix, witness chain.** Every crash point of the block acceptance before the header
data append window and, in the txhashset phase, before the leaf-set rename recovers to the old
head (appended-but-uncommitted hash/data entries are truncated away by the rewind). -/
theorem safe_prefix_witness :
    ∀ k, (k ≤ 2 ∨ (5 ≤ k ∧ k ≤ 11)) → recover bc tbl9 (crashAfter tgt9 (consistent old8) blockSteps k) = .ok 7 :=
  fun k h => safe_prefix_all bc tbl9 old8 (blk 8 [6]) tgt9 ext9 k h

/-- **Header MMR torn, all chains.** Plain extension killed after the header hash file was appended
and before the header data file was (`k = 3, 4`): `Chain::init` fails, for every chain. -/
theorem header_torn_bricks_all (bcf : Nat → Bool) (tbl O : List BlkInfo) (b : BlkInfo) (t : Target)
    (h : PlainExt tbl O b t) (k : Nat) (hk : k = 3 ∨ k = 4) :
    recover bcf tbl (crashAfter t (consistent O) blockSteps k) = .openFail .other :=
  header_len_mismatch_bricks bcf tbl _ (h.hdr_torn k hk)

/-- **Header reorganisation window, all chains.** While a header on another fork is being accepted
(the header MMR is rewound to the fork point and re-extended on disk before the LMDB commit that
moves `header_head`), a process death after the hash-file truncate and before that commit leaves
files that do not match `header_head`: `Chain::init` fails. `k = 2, 4, 5` for every fork; `k = 3`
whenever the new header path and the old one differ in length. -/
theorem header_reorg_window_bricks_all (bcf : Nat → Bool) (tbl O N : List BlkInfo) (t : Target)
    (h : HdrReorg tbl O N t) (k : Nat) (hk : k = 2 ∨ (k = 3 ∧ N.length ≠ O.length) ∨ k = 4 ∨ k = 5) :
    recover bcf tbl (crashAfter t (consistent O) headerSteps k) = .openFail .other := by
  have h1 := h.lt_old
  have h2 := h.lt_new
  obtain ⟨eh, ed, ehh⟩ := headerSteps_view t O k (by omega) (by omega)
  rw [h.newPath] at eh ed
  rcases hk with rfl | ⟨rfl, hne⟩ | rfl | rfl <;> simp only [Nat.reduceLeDiff, if_true, if_false] at eh ed
  · apply header_len_mismatch_bricks
    rw [eh, ed]; simp; omega
  · apply header_len_mismatch_bricks
    rw [eh, ed]; simpa using hne
  · apply header_len_mismatch_bricks
    rw [eh, ed]; simp; omega
  · apply recover_hdr_mismatch bcf tbl _ O (by rw [eh, ed])
    · rw [ehh]; exact h.old
    · rw [ed]
      intro heq
      apply h.diverge
      rw [← heq, List.getElem?_take_of_lt h1]

/-- the same window in a block acceptance that reorganises the header chain (its first six steps
are the header acceptance) -/
theorem block_reorg_header_window_bricks_all (bcf : Nat → Bool) (tbl O N : List BlkInfo) (t : Target)
    (h : HdrReorg tbl O N t) (k : Nat) (hk : k = 2 ∨ (k = 3 ∧ N.length ≠ O.length) ∨ k = 4 ∨ k = 5) :
    recover bcf tbl (crashAfter t (consistent O) blockSteps k) = .openFail .other := by
  rw [crashAfter_block_le6 t _ k (by omega)]
  exact header_reorg_window_bricks_all bcf tbl O N t h k hk

/-- **… and its ends, all chains.** Before the first file step, and after the commit that moves
`header_head` (`k ≥ 6`), the node reopens on the old body head (the header chain is then on the
new fork, the body chain still on the old one — the normal state of a header-first node). -/
theorem header_reorg_ends_ok_all (bcf : Nat → Bool) (tbl O N : List BlkInfo) (t : Target)
    (h : HdrReorg tbl O N t) (hm : t.movesHHead = true) (k : Nat) (hk : k ≤ 1 ∨ 6 ≤ k) :
    recover bcf tbl (crashAfter t (consistent O) headerSteps k) = .ok (tipOf O) := by
  apply recover_of_agrees bcf tbl O _ h.old _ (headerSteps_agrees t O k)
  exact h.hdrOk_ends (steps := headerSteps) hm (by decide) ⟨rfl, rfl⟩ (by decide) (by decide) k hk

/-- **Equal-length fork, `k = 3`.** When the
new header path is exactly as long as the old one, the crash point "hash file on the new fork, data
file still on the old" passes both checks of `Chain::init` (they read the data file only): the
node opens on the old head with a header hash file that belongs to the other fork. -/
theorem header_reorg_equal_length_silent (bcf : Nat → Bool) (tbl O N : List BlkInfo) (t : Target)
    (h : HdrReorg tbl O N t) (hlen : N.length = O.length) :
    let d := crashAfter t (consistent O) headerSteps 3
    recover bcf tbl d = .ok (tipOf O) ∧ d.hdrHash ≠ d.hdrData := by
  simp only
  obtain ⟨eh, ed, ehh⟩ := headerSteps_view t O 3 (by decide) (by decide)
  rw [h.newPath] at eh
  simp only [Nat.reduceLeDiff, if_true, if_false] at eh ed
  refine ⟨?_, ?_⟩
  · apply recover_of_agrees bcf tbl O _ h.old _ (headerSteps_agrees t O 3)
    exact ⟨by rw [eh, ed]; simp [hlen], O, by rw [ehh]; exact h.old, by rw [ed]; exact List.prefix_refl _⟩
  · rw [eh, ed]
    intro heq
    apply h.diverge
    rw [heq]

-- non-vacuity: the witness header reorganisation (header b9 on b5 against header head b7)
theorem forkReorg : HdrReorg tblFork old8 tgtFork.newPath tgtFork :=
  ⟨by decide +kernel, by decide +kernel, rfl, by decide +kernel, by decide +kernel, by decide +kernel⟩
example : HdrReorg tblFork old8 tgtFork.newPath tgtFork := forkReorg
/-- **Negation (header MMR torn).** Killing the process after the header hash file was appended
and before the header data file was, leaves a header MMR whose head hash cannot be read:
`Chain::init` fails and the node does not open. -/
theorem header_torn_bricks :
    recover bc tbl9 (crashAfter tgt9 (consistent old8) blockSteps 3) = .openFail .other ∧
    recover bc tbl9 (crashAfter tgt9 (consistent old8) blockSteps 4) = .openFail .other :=
  ⟨header_torn_bricks_all bc tbl9 old8 (blk 8 [6]) tgt9 ext9 3 (Or.inl rfl),
   header_torn_bricks_all bc tbl9 old8 (blk 8 [6]) tgt9 ext9 4 (Or.inr rfl)⟩

/-- **Negation (header reorg window).** During a header reorganisation the header MMR is rewound
and re-extended on disk before the LMDB commit that moves `header_head`; a process death anywhere
in between leaves the MMR on the new fork and `header_head` on the old one: `init_head` reports
"header PMMR inconsistent" and the node does not open. -/
theorem header_reorg_window_bricks :
    ∀ k, 2 ≤ k → k < 6 → recover bc tblFork (crashAfter tgtFork (consistent old8) headerSteps k) = .openFail .other := by
  intro k h1 h2
  apply header_reorg_window_bricks_all bc tblFork old8 tgtFork.newPath tgtFork forkReorg k
  have : tgtFork.newPath.length ≠ old8.length := by decide +kernel
  omega

/-- … while the completed header acceptance, and a death before the first file step, reopen fine -/
theorem header_reorg_ends_ok :
    recover bc tblFork (crashAfter tgtFork (consistent old8) headerSteps 6) = .ok 7 ∧
    recover bc tblFork (crashAfter tgtFork (consistent old8) headerSteps 1) = .ok 7 :=
  ⟨header_reorg_ends_ok_all bc tblFork old8 tgtFork.newPath tgtFork forkReorg rfl 6 (by omega),
   header_reorg_ends_ok_all bc tblFork old8 tgtFork.newPath tgtFork forkReorg rfl 1 (by omega)⟩

example : recover bc tblFork (crashAfter tgtFork (consistent old8) headerSteps 3) = .openFail .other :=
  header_reorg_window_bricks 3 (by omega) (by omega)
-- an equal-length fork: header b9' on b6 (same height as the header head b7, more work)
def tblEq : List BlkInfo := old8 ++ [{ id := 9, parent := some 6, work := 20, outs := [9], ins := [] }]
def tgtEq : Target :=
  { newPath := tblEq.take 7 ++ [{ id := 9, parent := some 6, work := 20, outs := [9], ins := [] }],
    forkLen := 7, movesHHead := true, movesHead := false }
example : HdrReorg tblEq old8 tgtEq.newPath tgtEq ∧ tgtEq.newPath.length = old8.length :=
  ⟨⟨by decide +kernel, by decide +kernel, rfl, by decide +kernel, by decide +kernel, by decide +kernel⟩, by decide +kernel⟩

/-! ### The txhashset window, every chain

`lost O b` = the leaves of the old unspent set that are missing from the leaf set of `O ++ [b]`,
i.e. what `b` spends. `BlocksWF O`: no block of `O` lists an output or an input twice. Block ids
on a stored path are pairwise distinct (`pathOf_ids_nodup`, proved — a repeated id would be a parent
cycle), so every leaf `(creating block, output id)` is created once. -/

/-- **Coinbase-only blocks are crash-safe, all chains.** A block that spends nothing reopens on the
old tip at every crash point before the final commit except the header window `k = 3, 4`: its leaf
set only adds leaves beyond the old output MMR size, which the rewind drops. -/
theorem no_inputs_crash_safe (bcf : Nat → Bool) (tbl O : List BlkInfo) (b : BlkInfo) (t : Target)
    (h : PlainExt tbl O b t) (hins : b.ins = []) (k : Nat) (hk : k < 17) (hk3 : k ≠ 3) (hk4 : k ≠ 4) :
    recover bcf tbl (crashAfter t (consistent O) blockSteps k) = .ok (tipOf O) := by
  by_cases hle : k ≤ 11
  · exact safe_prefix_all bcf tbl O b t h k (by omega)
  · have hd := h.inWindow k (by omega) (by omega)
    rw [recover_of_hdrOk bcf tbl _ (h.hdrOk k (by omega)), hd.head]
    apply fallbackWith_stop _ _ _ O h.old
    right
    apply validAt_true_of bcf _ [] O hd.files
    intro l
    rw [hd.leaf]
    simp only [applyU, hins, List.foldl_nil, List.mem_append, List.not_mem_nil, or_false]
    constructor
    · intro hl; exact ⟨unspentOf_subset_leaves O l hl, Or.inl hl⟩
    · rintro ⟨hlO, hl | hl⟩
      · exact hl
      · exfalso
        -- a leaf of `b` cannot have been created on `O`: `b.id` is not an id of `O`
        obtain ⟨x, hx, hxid, _⟩ := (mem_leavesOf O l).1 hlO
        have : l.1 = b.id := by
          simp only [List.mem_map] at hl
          obtain ⟨o, _, rfl⟩ := hl; rfl
        exact pathOf_ids_disjoint h.new x hx b (by simp) (by rw [hxid, this])

/-- **The txhashset window violates the property, all chains.** If `b` spends at least one output
that is unspent on the old path and the old tip's header commits to the bitmap, then a process
death after the leaf-set rename and before the final commit (`12 ≤ k ≤ 16`) makes the node reopen
on a block that is NEITHER the old tip NOR the new block: it is a strict ancestor of the old tip
(blocks are forgotten; re-delivering `b` alone cannot restore the head). -/
theorem txhashset_window_violates_all (bcf : Nat → Bool) (tbl O : List BlkInfo) (b : BlkInfo) (t : Target)
    (h : PlainExt tbl O b t) (h2 : 2 ≤ O.length) (hwf : BlocksWF O) (hbo : b.outs.Nodup)
    (hspend : ∃ o ∈ b.ins, ∃ l ∈ unspentOf O, l.2 = o)
    (hbc : bcf (O.length - 1) = true) (k : Nat) (hk : 12 ≤ k ∧ k ≤ 16) :
    ∃ a, recover bcf tbl (crashAfter t (consistent O) blockSteps k) = .ok a ∧
      a ≠ tipOf O ∧ a ≠ b.id ∧ a ∈ O.dropLast.map (·.id) := by
  have hn := h.leaves_nodup hwf hbo
  have hnO : (leavesOf O).Nodup := leavesOf_nodup_left hn
  obtain ⟨l, hl⟩ := lost_ne_nil O b hnO hspend
  rw [recover_of_hdrOk bcf tbl _ (h.hdrOk k (by omega)), (h.inWindow k hk.1 hk.2).head]
  -- the old tip contains the creation of the lost leaf, so it fails and the loop moves to its parent
  have hinv := window_invalid bcf O b _ O [] (h.inWindow k hk.1 hk.2) (by simp) hn hwf hbc l hl
    (unspentOf_subset_leaves O l ((mem_lost O b l).1 hl).1)
  have hOne : O ≠ [] := by intro e; rw [e] at h2; simp at h2
  obtain ⟨O0, x0, rfl⟩ := (eq_nil_or_snoc O).resolve_left hOne
  have hO0 : O0 ≠ [] := by intro e; rw [e] at h2; simp at h2
  rw [fallbackWith_step tbl.length [] O0 x0 hO0 h.old hinv rfl]
  obtain ⟨Q', S, e, hne, hr⟩ := fallbackWith_lands (validAt bcf (crashAfter t (consistent (O0 ++ [x0])) blockSteps k))
    tbl.length O0 ([] ++ spentLeaves (unspentOf O0) x0) hO0 (pathOf_prefix tbl _ O0 hO0 [x0] _ h.old)
  refine ⟨tipOf Q', hr, ?_⟩
  obtain ⟨Q'', z, hz⟩ := (eq_nil_or_snoc Q').resolve_left hne
  have hzO : z ∈ O0 := by rw [← e, hz]; simp
  have hd := pathOf_ids_disjoint (P := O0) (Q := [x0, b]) (by simpa using h.new) z hzO
  rw [hz, tipOf_snoc, tipOf_snoc, List.dropLast_concat]
  exact ⟨hd x0 (by simp), hd b (by simp), List.mem_map.2 ⟨z, hzO, rfl⟩⟩

/-- **General form of the walk in the window, all chains, any bitmap-commitment function.** The
fallback loop stops at the longest prefix `M` of the old path that is genesis, or whose header does
not commit to the bitmap, or that contains the creation of no lost leaf — provided every longer
prefix commits to the bitmap and contains the creation of a lost leaf. -/
theorem txhashset_window_general (bcf : Nat → Bool) (tbl O M T : List BlkInfo) (b : BlkInfo) (t : Target)
    (h : PlainExt tbl O b t) (hsplit : O = M ++ T) (hM : M ≠ [])
    (hwf : BlocksWF O) (hbo : b.outs.Nodup)
    (hstop : M.length ≤ 1 ∨ bcf (M.length - 1) = false ∨ ∀ l ∈ lost O b, l ∉ leavesOf M)
    (habove : ∀ T1 y T2, T = T1 ++ y :: T2 →
      bcf (M.length + T1.length) = true ∧ ∃ l ∈ lost O b, l ∈ leavesOf (M ++ T1 ++ [y]))
    (k : Nat) (hk : 12 ≤ k ∧ k ≤ 16) :
    recover bcf tbl (crashAfter t (consistent O) blockSteps k) = .ok (tipOf M) := by
  subst hsplit
  exact (recover_of_hdrOk bcf tbl _ (h.hdrOk k (by omega))).trans
    (window_lands bcf (fun _ _ => rfl) h.old (h.inWindow k hk.1 hk.2) (h.leaves_nodup hwf hbo) hwf hM
      (.of_forall fun _ _ _ => rfl) (Above.of_heights habove) hstop)

/-- **Where exactly the node lands, all chains.** Split the old path as `M ++ x :: T` where `x` is the
block that created the earliest-created leaf `b` spends (`x` created a lost leaf, no block of `M`
did), `M ≠ []` (so `x` is not genesis) and every height from `x` up to the old tip commits to the
bitmap. Then every crash point of the window reopens on the tip of `M` — the **parent of the
block that created the earliest-created spent output** — having forgotten `x`, `T` and `b`. (This is
what the real node shows at each of the enumerated crash points.) -/
theorem txhashset_window_exact (bcf : Nat → Bool) (tbl O M T : List BlkInfo) (x b : BlkInfo) (t : Target)
    (h : PlainExt tbl O b t) (hsplit : O = M ++ x :: T) (hM : M ≠ [])
    (hwf : BlocksWF O) (hbo : b.outs.Nodup)
    (hx : ∃ l ∈ lost O b, l ∈ leavesOf [x])
    (hfirst : ∀ l ∈ lost O b, l ∉ leavesOf M)
    (hbc : ∀ i, M.length ≤ i → i < O.length → bcf i = true)
    (k : Nat) (hk : 12 ≤ k ∧ k ≤ 16) :
    recover bcf tbl (crashAfter t (consistent O) blockSteps k) = .ok (tipOf M) :=
  txhashset_window_general bcf tbl O M (x :: T) b t h hsplit hM hwf hbo (Or.inr (Or.inr hfirst))
    (above_of_creator bcf hsplit hx hbc) k hk

/-- **Negation (txhashset window).** Killing the process after the output leaf set of a block that
spends an output has been renamed into place, and before the final LMDB commit, makes the node
reopen on neither the old nor the new head: the fallback loop walks back to the parent of the
block that created the spent output (here b5, two blocks below the old head b7). -/
theorem txhashset_window_violates :
    recover bc tbl9 (crashAfter tgt9 (consistent old8) blockSteps 12) = .ok 5 ∧
    (∀ k, 12 ≤ k → k < 17 → recover bc tbl9 (crashAfter tgt9 (consistent old8) blockSteps k) = .ok 5) := by
  have all : ∀ k, 12 ≤ k → k < 17 →
      recover bc tbl9 (crashAfter tgt9 (consistent old8) blockSteps k) = .ok 5 := fun k h1 h2 =>
    -- b8 spends o6, created by b6 = `x`; `M` = b0..b5, `T` = [b7]
    txhashset_window_exact bc tbl9 old8 (tbl9.take 6) [blk 7 []] (blk 6 []) (blk 8 [6]) tgt9 ext9
      (by decide +kernel) (by decide +kernel) ⟨by decide +kernel, by decide +kernel⟩ (by decide +kernel) (by decide +kernel) (by decide +kernel)
      (by intro i h1 h2; have : 6 ≤ i := h1; simp [bc, this]) k ⟨h1, by omega⟩
  exact ⟨all 12 (by omega) (by omega), all⟩

example : recover bc tbl9 (crashAfter tgt9 (consistent old8) blockSteps 14) = .ok 5 :=
  txhashset_window_violates.2 14 (by omega) (by omega)
example : ∃ a, recover bc tbl9 (crashAfter tgt9 (consistent old8) blockSteps 12) = .ok a ∧
    a ≠ tipOf old8 ∧ a ≠ (blk 8 [6]).id ∧ a ∈ old8.dropLast.map (·.id) :=
  txhashset_window_violates_all bc tbl9 old8 (blk 8 [6]) tgt9 ext9 (by decide +kernel) ⟨by decide +kernel, by decide +kernel⟩ (by decide +kernel)
    (by decide +kernel) (by decide +kernel) 12 (by omega)

/-- **Before the bitmap is committed (header version < 3): the wrong state is accepted, all
chains.** If the old tip's header does not commit to the bitmap, every crash point of the window
reopens on the old tip — with a leaf set from which the outputs `b` spends are silently missing
although they are unspent on the reopened chain. -/
theorem txhashset_window_precommit_silent (bcf : Nat → Bool) (tbl O : List BlkInfo) (b : BlkInfo) (t : Target)
    (h : PlainExt tbl O b t) (hwf : BlocksWF O) (hbo : b.outs.Nodup)
    (hbc : bcf (O.length - 1) = false) (k : Nat) (hk : 12 ≤ k ∧ k ≤ 16) :
    let d := crashAfter t (consistent O) blockSteps k
    recover bcf tbl d = .ok (tipOf O) ∧ ∀ l ∈ lost O b, l ∈ unspentOf O ∧ l ∉ d.leaf := by
  simp only
  refine ⟨?_, ?_⟩
  · exact txhashset_window_general bcf tbl O O [] b t h (by simp) (pathOf_ne_nil tbl _ _ O h.old) hwf hbo
      (Or.inr (Or.inl hbc)) (by intro T1 y T2 e; simp at e) k hk
  · intro l hl
    obtain ⟨hu, hnot⟩ := (mem_lost O b l).1 hl
    refine ⟨hu, ?_⟩
    rw [(h.inWindow k hk.1 hk.2).leaf, window_leaf_mem O b (h.leaves_nodup hwf hbo) l (unspentOf_subset_leaves O l hu)]
    exact hnot

/-- **A spent genesis output walks the node back to genesis.** If `b` spends a leaf created by the
first block of the old path and every later height commits to the bitmap, every crash point of the
window reopens on genesis. -/
theorem txhashset_window_to_genesis (bcf : Nat → Bool) (tbl O T : List BlkInfo) (g b : BlkInfo) (t : Target)
    (h : PlainExt tbl O b t) (hsplit : O = g :: T)
    (hwf : BlocksWF O) (hbo : b.outs.Nodup)
    (hg : ∃ l ∈ lost O b, l ∈ leavesOf [g])
    (hbc : ∀ i, 1 ≤ i → i < O.length → bcf i = true)
    (k : Nat) (hk : 12 ≤ k ∧ k ≤ 16) :
    recover bcf tbl (crashAfter t (consistent O) blockSteps k) = .ok g.id := by
  have := txhashset_window_general bcf tbl O [g] T b t h (by rw [hsplit]; simp) (by simp) hwf hbo
    (Or.inl (by simp)) ?_ k hk
  · simpa [tipOf] using this
  · intro T1 y T2 e
    refine ⟨hbc _ (by simp) (by rw [hsplit, e]; simp; omega), ?_⟩
    obtain ⟨l, hl, hlg⟩ := hg
    refine ⟨l, hl, ?_⟩
    rw [List.append_assoc, leavesOf_append]
    exact List.mem_append_left _ hlg

-- non-vacuity: on the witness chain with NO height committing to the bitmap the window reopens on
-- the old tip b7 with o6 missing from the leaf set
example : recover (fun _ => false) tbl9 (crashAfter tgt9 (consistent old8) blockSteps 12) = .ok 7 ∧
    ∀ l ∈ lost old8 (blk 8 [6]), l ∈ unspentOf old8 ∧
      l ∉ (crashAfter tgt9 (consistent old8) blockSteps 12).leaf :=
  txhashset_window_precommit_silent (fun _ => false) tbl9 old8 (blk 8 [6]) tgt9 ext9 ⟨by decide +kernel, by decide +kernel⟩ (by decide +kernel) rfl 12 (by omega)
example : (6, 6) ∈ lost old8 (blk 8 [6]) := by decide +kernel
-- a block spending the genesis output: b2 spends o0 on b0-b1
def tblG : List BlkInfo := [blk 0 [], blk 1 [], blk 2 [0]]
def tgtG : Target := { newPath := tblG, forkLen := 2, movesHHead := true, movesHead := true }
example : recover (fun _ => true) tblG (crashAfter tgtG (consistent (tblG.take 2)) blockSteps 13) = .ok 0 :=
  txhashset_window_to_genesis (fun _ => true) tblG (tblG.take 2) [blk 1 []] (blk 0 []) (blk 2 [0]) tgtG
    ⟨by decide +kernel, by decide +kernel, by decide +kernel, by decide +kernel⟩ (by decide +kernel) ⟨by decide +kernel, by decide +kernel⟩ (by decide +kernel)
    (by decide +kernel) (by intros; rfl) 13 (by omega)

/-! ### Compaction (model `Model/CrashCompact.lean`)

Durable steps of `Chain::compact`: for the output MMR and then the range-proof MMR — hash file
removed, compacted hash file renamed into place, data file removed, compacted data file renamed
into place, prune list renamed, leaf set renamed — then the LMDB commit that moves the tail and
deletes old blocks (13 steps). `recoverC` = `recover` with coherence of the compacted files and
deleted blocks taken into account. -/

/-- witness chain for compaction: b3 spends o1, so a compaction with its horizon at height 5
prunes the leaf (1, o1) -/
def tblC : List BlkInfo :=
  [blk 0 [], blk 1 [], blk 2 [], blk 3 [1], blk 4 [], blk 5 [], blk 6 [], blk 7 [], blk 8 []]
def ctgt : CTarget := { newPrun := prunedAt tblC 5, newTail := 5 }

/-- **`recoverC` extends `recover` conservatively**: on a node that never compacted (coherent
files, nothing deleted) the two coincide, so every theorem above is also a theorem about `recoverC`. -/
theorem recoverC_conservative (bcf : Nat → Bool) (tbl : List BlkInfo) (d : Durable) (prun : List Leaf) :
    recoverC bcf tbl { base := d, out := PFiles.clean prun, rp := PFiles.clean prun, tail := 0 } =
      recover bcf tbl d :=
  recoverC_eq_recover bcf tbl _ (PFiles.clean_coherent prun) (PFiles.clean_coherent prun) rfl

/-- **Safe steps of a compaction, all chains.** Before the first removal, between the output prune
list rename and the range-proof hash removal (`k = 5, 6`), and from the range-proof prune list rename
on (`k ≥ 11`, including the final commit) the node reopens on its head — for every chain, every
old prune list / tail and every compaction target. -/
theorem compaction_safe_steps_all (bcf : Nat → Bool) (tbl O : List BlkInfo) (prun : List Leaf) (tail : Nat)
    (t : CTarget) (hO : pathOf tbl (tbl.length + 1) (tipOf O) [] = some O)
    (k : Nat) (hk : k = 0 ∨ k = 5 ∨ k = 6 ∨ 11 ≤ k) :
    recoverC bcf tbl (crashAfterC t (consistentC O prun tail) k) = .ok (tipOf O) := by
  rw [crashAfterC_eq]
  obtain ⟨h1, h2⟩ := cState_coherent t (consistentC O prun tail) prun k rfl rfl hk
  exact recoverC_of_agrees bcf tbl O _ hO h1 h2 (consistent_hdrOk tbl O hO) (consistent_agrees O)

/-- **Interrupted first compaction, all chains.** On a node that has not deleted blocks yet
(`tail ≤ 1`) with at least two blocks, a process death while a hash or data file is absent
(`k = 1, 3, 7, 9`) or — if the compaction prunes anything new — while a compacted file sits beside
the stale prune list (`k = 2, 4, 8, 10`) makes the node reopen on genesis, which is not its head. -/
theorem compaction_interrupted_first_all (bcf : Nat → Bool) (tbl T : List BlkInfo) (g : BlkInfo)
    (prun : List Leaf) (tail : Nat) (t : CTarget)
    (hO : pathOf tbl (tbl.length + 1) (tipOf (g :: T)) [] = some (g :: T)) (hT : T ≠ []) (ht : tail ≤ 1)
    (k : Nat) (hk : k = 1 ∨ k = 3 ∨ k = 7 ∨ k = 9 ∨ (t.newPrun ≠ prun ∧ (k = 2 ∨ k = 4 ∨ k = 8 ∨ k = 10))) :
    recoverC bcf tbl (crashAfterC t (consistentC (g :: T) prun tail) k) = .ok g.id ∧
      g.id ≠ tipOf (g :: T) := by
  have hk13 : ¬ 13 ≤ k := by omega
  refine ⟨?_, ?_⟩
  · -- no candidate validates: the loop walks down to genesis, which is not validated
    rw [crashAfterC_eq, recoverC_incoherent_walk bcf tbl _ [g] T (by simp) (consistent_hdrOk tbl _ hO) rfl hO
      (cState_incoherent t _ prun k rfl rfl hk) (by simp [cState, consistentC, hk13]; exact ht)]
    exact fallbackWith_stop _ _ _ [g] (pathOf_prefix tbl _ [g] (by simp) T _ hO) (Or.inl (Nat.le_refl _))
  · obtain ⟨T0, z, hz⟩ := (eq_nil_or_snoc T).resolve_left hT
    rw [hz, ← List.cons_append, tipOf_snoc]
    exact pathOf_ids_disjoint (P := [g]) (Q := T) hO g (by simp) z (by simp [hz])

/-- **Interrupted repeated compaction.** On a
node that already deleted the blocks below `tail ≥ 2`, the same crash points make `Chain::init`
FAIL with a store error: the fallback loop needs a deleted block before it finds a valid state. -/
theorem compaction_interrupted_again_all (bcf : Nat → Bool) (tbl M T : List BlkInfo)
    (prun : List Leaf) (t : CTarget)
    (hO : pathOf tbl (tbl.length + 1) (tipOf (M ++ T)) [] = some (M ++ T)) (h2 : 2 ≤ M.length)
    (k : Nat) (hk : k = 1 ∨ k = 3 ∨ k = 7 ∨ k = 9 ∨ (t.newPrun ≠ prun ∧ (k = 2 ∨ k = 4 ∨ k = 8 ∨ k = 10))) :
    recoverC bcf tbl (crashAfterC t (consistentC (M ++ T) prun M.length) k) = .openFail .storeErr := by
  have hk13 : ¬ 13 ≤ k := by omega
  have hM : M ≠ [] := by intro e; rw [e] at h2; simp at h2
  have hinc := cState_incoherent t (consistentC (M ++ T) prun M.length) prun k rfl rfl hk
  have htail : (cState t (consistentC (M ++ T) prun M.length) k).tail = M.length := by
    simp [cState, consistentC, hk13]
  -- no candidate validates: the loop walks down to the tail and needs the deleted block below it
  rw [crashAfterC_eq, recoverC_incoherent_walk bcf tbl _ M T hM (consistent_hdrOk tbl _ hO) rfl hO hinc
    (Nat.le_of_eq htail)]
  exact fallbackWith_gone _ _ _ M (walk_fuel_pos hM hO) (pathOf_prefix tbl _ M hM T _ hO) (Nat.not_le.2 h2)
    (validAtC_of_incoherent bcf _ _ _ hinc)
    (DurableC.gone_eq_true (by rw [htail]; exact Nat.sub_lt (Nat.lt_of_lt_of_le Nat.zero_lt_two h2) Nat.one_pos))

/-- **Negation (interrupted compaction).** Killing a first compaction between the removal of the
output (or range-proof) hash file and the rename of the matching prune list makes the node reopen
on GENESIS (every stored block is forgotten), although the chain had 9 blocks. -/
theorem compaction_interrupted_witness :
    prunedAt tblC 5 = [(1, 1)] ∧
    (∀ k, (1 ≤ k ∧ k ≤ 4) ∨ (7 ≤ k ∧ k ≤ 10) →
      recoverC bc tblC (crashAfterC ctgt (consistentC tblC [] 0) k) = .ok 0) ∧
    (∀ k, k = 0 ∨ k = 5 ∨ k = 6 ∨ k = 11 ∨ k = 12 ∨ k = 13 →
      recoverC bc tblC (crashAfterC ctgt (consistentC tblC [] 0) k) = .ok 8) := by
  have hp : prunedAt tblC 5 = [(1, 1)] := by decide +kernel
  have hO : pathOf tblC (tblC.length + 1) (tipOf tblC) [] = some tblC := by decide +kernel
  refine ⟨hp, fun k hk => ?_, fun k hk => ?_⟩
  · have hne : ctgt.newPrun ≠ [] := by rw [show ctgt.newPrun = prunedAt tblC 5 from rfl, hp]; simp
    have hk' : k = 1 ∨ k = 3 ∨ k = 7 ∨ k = 9 ∨ (k = 2 ∨ k = 4 ∨ k = 8 ∨ k = 10) := by omega
    exact (compaction_interrupted_first_all bc tblC (tblC.drop 1) (blk 0 []) [] 0 ctgt hO (by decide +kernel) (by omega)
      k (by simpa [hne] using hk')).1
  · exact compaction_safe_steps_all bc tblC tblC [] 0 ctgt hO k (by omega)

/-! #### Block acceptance on a compacted node (known finding C09-compact-block-window) -/

/-- **Safe steps and completion on a compacted node, all chains**: as on a fresh node. -/
theorem compacted_safe_prefix_all (bcf : Nat → Bool) (tbl O : List BlkInfo) (b : BlkInfo) (t : Target)
    (prun : List Leaf) (tail : Nat)
    (h : PlainExt tbl O b t) (k : Nat) (hk : k ≤ 2 ∨ (5 ≤ k ∧ k ≤ 11)) :
    recoverC bcf tbl (crashAfterCB t (consistentC O prun tail) blockSteps k) = .ok (tipOf O) :=
  recoverC_of_agrees bcf tbl O (crashAfterCB t (consistentC O prun tail) blockSteps k) h.old
    (PFiles.clean_coherent prun) (PFiles.clean_coherent prun) (h.hdrOk k (by omega)) (h.agrees k (by omega))

/-- **The txhashset window on a compacted node bricks it, all chains.** If `b` spends a leaf created
by a block `x` whose height is below the tail (its creation is older than the blocks the node
kept — the normal case for an old output), and the heights from the tail's parent up commit to the
bitmap, then every crash point of the window makes `Chain::init` FAIL with a store error: the
fallback loop walks down to the tail, still finds the leaf missing, and needs a deleted block.
`O = M ++ x :: (T1 ++ T2)` with the tail at height `|M| + 1 + |T1|`. -/
theorem compacted_window_bricks_all (bcf : Nat → Bool) (tbl O M T1 T2 : List BlkInfo) (x b : BlkInfo)
    (t : Target) (prun : List Leaf) (tail : Nat)
    (h : PlainExt tbl O b t) (hsplit : O = M ++ x :: (T1 ++ T2))
    (htail : tail = M.length + 1 + T1.length) (ht2 : 2 ≤ tail)
    (hwf : BlocksWF O) (hbo : b.outs.Nodup)
    (hx : ∃ l ∈ lost O b, l ∈ leavesOf [x])
    (hbc : ∀ i, tail - 1 ≤ i → i < O.length → bcf i = true)
    (k : Nat) (hk : 12 ≤ k ∧ k ≤ 16) :
    recoverC bcf tbl (crashAfterCB t (consistentC O prun tail) blockSteps k) = .openFail .storeErr := by
  have hsplit' : O = (M ++ x :: T1) ++ T2 := by rw [hsplit]; simp
  have hlen' : (M ++ x :: T1).length = tail := by
    rw [List.length_append, List.length_cons, htail, Nat.add_right_comm, Nat.add_assoc]
  have hOlen : O.length = tail + T2.length := by rw [hsplit', List.length_append, hlen']
  have hlen : tail + T2.length ≤ tbl.length + 1 := hOlen ▸ pathOf_length_le tbl _ _ _ h.old
  have hpos : 0 < tail := Nat.lt_of_lt_of_le Nat.zero_lt_two ht2
  have hpred : tail - 1 < tail := Nat.sub_lt hpos Nat.one_pos
  obtain ⟨l, hl, hlx⟩ := hx
  have hlM : ∀ Q, x ∈ Q → l ∈ leavesOf Q := fun Q hx => mem_leavesOf_of_mem hlx hx
  have hn := h.leaves_nodup hwf hbo
  have hw := h.inWindow k hk.1 hk.2
  subst hsplit'
  have habove : Above (M ++ x :: T1) T2 fun Q _ => bcf (Q.length - 1) = true ∧ ∃ l ∈ lost (M ++ x :: T1 ++ T2) b, l ∈ leavesOf Q :=
    Above.of_heights fun U1 y U2 e => by
      have hU : U1.length < T2.length := by
        rw [e, List.length_append, List.length_cons]; exact Nat.lt_add_of_pos_right (Nat.succ_pos _)
      exact ⟨hbc _ (by rw [hlen']; exact Nat.le_trans (Nat.sub_le _ _) (Nat.le_add_right _ _))
        (by rw [hlen', hOlen]; exact Nat.add_lt_add_left hU _), l, hl, hlM _ (by simp)⟩
  refine (recoverC_of_hdrOk bcf tbl _ (h.hdrOk k (by omega))).trans
    ((window_walk bcf (validAtC_crashAfterCB bcf t _ prun tail blockSteps k) h.old hw hn hwf (by simp)
      (DurableC.gone_above (d := crashAfterCB t (consistentC _ prun tail) blockSteps k)
        (by rw [hlen']; exact Nat.le_refl _) T2) habove).trans ?_)
  -- at the tail the candidate still contains `x`, and the block to undo has been deleted
  apply fallbackWith_gone _ _ _ (M ++ x :: T1)
    (Nat.sub_pos_of_lt (Nat.lt_of_lt_of_le (Nat.lt_add_of_pos_left hpos) hlen))
    (pathOf_prefix tbl _ _ (by simp) T2 _ h.old)
    (by rw [hlen']; exact Nat.not_le.2 ht2) ?_
    (DurableC.gone_eq_true (d := crashAfterCB t (consistentC _ prun tail) blockSteps k) (by rw [hlen']; exact hpred))
  rw [validAtC_crashAfterCB]
  exact window_invalid bcf _ b _ _ T2 hw rfl hn hwf
    (hbc _ (by rw [hlen']; exact Nat.le_refl _)
      (by rw [hlen', hOlen]; exact Nat.lt_of_lt_of_le hpred (Nat.le_add_right _ _)))
    l hl (hlM _ (by simp))

/-- … while a spent leaf whose creating block (and everything above it) is still stored behaves as on
a fresh node: the loop lands on the parent of the creating block. -/
theorem compacted_window_lands_all (bcf : Nat → Bool) (tbl O M T : List BlkInfo) (x b : BlkInfo) (t : Target)
    (prun : List Leaf) (tail : Nat)
    (h : PlainExt tbl O b t) (hsplit : O = M ++ x :: T) (hM : M ≠ []) (htail : tail ≤ M.length)
    (hwf : BlocksWF O) (hbo : b.outs.Nodup)
    (hx : ∃ l ∈ lost O b, l ∈ leavesOf [x])
    (hfirst : ∀ l ∈ lost O b, l ∉ leavesOf M)
    (hbc : ∀ i, M.length ≤ i → i < O.length → bcf i = true)
    (k : Nat) (hk : 12 ≤ k ∧ k ≤ 16) :
    recoverC bcf tbl (crashAfterCB t (consistentC O prun tail) blockSteps k) = .ok (tipOf M) := by
  subst hsplit
  exact (recoverC_of_hdrOk bcf tbl _ (h.hdrOk k (by omega))).trans
    (window_lands bcf (validAtC_crashAfterCB bcf t _ prun tail blockSteps k) h.old (h.inWindow k hk.1 hk.2)
      (h.leaves_nodup hwf hbo) hwf hM (DurableC.gone_above htail _)
      (Above.of_heights (above_of_creator bcf rfl hx hbc)) (Or.inr (Or.inr hfirst)))

-- non-vacuity. Compaction: the general theorems on the witness chain `tblC`
example : recoverC bc tblC (crashAfterC ctgt (consistentC tblC [] 0) 4) = .ok 0 ∧ (0 : Nat) ≠ tipOf tblC :=
  compaction_interrupted_first_all bc tblC (tblC.drop 1) (blk 0 []) [] 0 ctgt (by decide +kernel) (by decide +kernel)
    (by decide +kernel) 4 (Or.inr (Or.inr (Or.inr (Or.inr ⟨by decide +kernel, Or.inr (Or.inl rfl)⟩))))
example : recoverC bc tblC (crashAfterC ctgt (consistentC tblC [(0, 0)] 5) 8) = .openFail .storeErr :=
  compaction_interrupted_again_all bc tblC (tblC.take 5) (tblC.drop 5) [(0, 0)] ctgt (by decide +kernel) (by decide +kernel)
    8 (Or.inr (Or.inr (Or.inr (Or.inr ⟨by decide +kernel, Or.inr (Or.inr (Or.inl rfl))⟩))))
-- the witness block acceptance on a compacted node with its tail at height 7: b8 spends o6, created
-- by b6, below the tail ⇒ the node does not open
example : recoverC bc tbl9 (crashAfterCB tgt9 (consistentC old8 [] 7) blockSteps 12) = .openFail .storeErr :=
  compacted_window_bricks_all bc tbl9 old8 (tbl9.take 6) [] [blk 7 []] (blk 6 []) (blk 8 [6]) tgt9 [] 7
    ext9 (by decide +kernel) (by decide +kernel) (by decide +kernel)
    ⟨by decide +kernel, by decide +kernel⟩ (by decide +kernel) (by decide +kernel)
    (by intro i h1 h2; have : 6 ≤ i := h1; simp [bc, this]) 12 (by omega)
-- … and with the tail at height 5 the creating block is still stored: lands on b5 as on a fresh node
example : recoverC bc tbl9 (crashAfterCB tgt9 (consistentC old8 [] 5) blockSteps 12) = .ok 5 :=
  compacted_window_lands_all bc tbl9 old8 (tbl9.take 6) [blk 7 []] (blk 6 []) (blk 8 [6]) tgt9 [] 5
    ext9 (by decide +kernel) (by decide +kernel) (by decide +kernel)
    ⟨by decide +kernel, by decide +kernel⟩ (by decide +kernel) (by decide +kernel) (by decide +kernel)
    (by intro i h1 h2; have : 6 ≤ i := h1; simp [bc, this]) 12 (by omega)

/-! ### A block that reorganises the body chain, every chain

Old path `F ++ x :: O1`, new path `F ++ y :: N1` (`F` the common prefix, `x.id ≠ y.id`), head and
header head move. Steps 2–5 are the header window (`block_reorg_header_window_bricks_all` at `BlockReorg.toHdrReorg`). -/

/-- **Reorganising block: where the old head survives and where the new one is reached.** Before
the first file step and between the `header_head` commit and the output-file truncate (`k = 6, 7`)
the node reopens on the old head; after the final commit on the new one. -/
theorem block_reorg_ends_ok_all (bcf : Nat → Bool) (tbl F : List BlkInfo) (x : BlkInfo) (O1 : List BlkInfo)
    (y : BlkInfo) (N1 : List BlkInfo) (t : Target) (h : BlockReorg tbl F x O1 y N1 t) (k : Nat) :
    ((k ≤ 1 ∨ k = 6 ∨ k = 7) →
      recover bcf tbl (crashAfter t (consistent (F ++ x :: O1)) blockSteps k) = .ok (tipOf (F ++ x :: O1))) ∧
    (17 ≤ k →
      recover bcf tbl (crashAfter t (consistent (F ++ x :: O1)) blockSteps k) = .ok (tipOf (F ++ y :: N1))) :=
  ⟨fun hk => recover_of_agrees bcf tbl _ _ h.old (h.hdrOk k (by omega)) (crashAfter_block_agrees t _ k (by omega)),
   fun hk => by
    rw [h.completed k hk]
    exact recover_consistent_tipOf bcf tbl _ h.new⟩

/-- **Reorganising block, output-file window: the node falls back to the fork point, all chains.**
From the truncation of the output hash file to just before the leaf-set rename (`8 ≤ k ≤ 11`) the
output files no longer hold the old fork beyond the fork point, so every old-fork candidate above
it fails; the fork point itself validates (rewinding with the old fork's spent indices is exact).
The node reopens on the last common block: an ancestor of both heads. -/
theorem block_reorg_files_window_all (bcf : Nat → Bool) (tbl F : List BlkInfo) (x : BlkInfo) (O1 : List BlkInfo)
    (y : BlkInfo) (N1 : List BlkInfo) (t : Target) (h : BlockReorg tbl F x O1 y N1 t)
    (hwf : BlocksWF (F ++ x :: O1)) (hx : x.outs ≠ []) (k : Nat) (hk : 8 ≤ k ∧ k ≤ 11) :
    recover bcf tbl (crashAfter t (consistent (F ++ x :: O1)) blockSteps k) = .ok (tipOf F) := by
  have hn : (leavesOf (F ++ x :: O1)).Nodup :=
    pathOf_leaves_nodup h.old hwf.outs
  have hd := h.head_leaf k (by omega)
  rw [recover_of_hdrOk bcf tbl _ (h.hdrOk k (by omega)), hd.1]
  -- every candidate above the fork point fails on the output hash file; the fork point validates
  rw [h.walk_to_fork hx bcf k hk.1]
  refine fallbackWith_stop _ _ _ F (pathOf_prefix tbl _ F h.forkNe _ _ h.old) (Or.inr ?_)
  exact fork_valid_old_leaf bcf F (x :: O1) _ (h.files k)
    (by rw [hd.2, if_neg (by omega)]) hn hwf

/-- **Reorganising block, leaf-set window, all chains.** After the leaf-set rename and before the
final commit (`12 ≤ k ≤ 16`) the leaf set is the new fork's while only the old fork's spent indices
can be replayed. Every old-fork candidate above the fork point fails on the output files; from the
fork point `F = M ++ TF` down, a candidate validates iff it contains the creation of no leaf that is
unspent on the old path and missing from the new leaf set (`lostIn`), or its header does not commit
to the bitmap. The loop stops at the longest such prefix `M` — possibly far below both heads. -/
theorem block_reorg_leaf_window_all (bcf : Nat → Bool) (tbl M TF : List BlkInfo) (x : BlkInfo) (O1 : List BlkInfo)
    (y : BlkInfo) (N1 : List BlkInfo) (t : Target) (h : BlockReorg tbl (M ++ TF) x O1 y N1 t) (hM : M ≠ [])
    (hwfO : BlocksWF (M ++ TF ++ x :: O1)) (hwfN : BlocksWF (M ++ TF ++ y :: N1)) (hx : x.outs ≠ [])
    (hstop : M.length ≤ 1 ∨ bcf (M.length - 1) = false ∨
      ∀ l ∈ lostIn (M ++ TF ++ x :: O1) (unspentOf (M ++ TF ++ y :: N1)), l ∉ leavesOf M)
    (habove : ∀ T1 z T2, TF = T1 ++ z :: T2 → bcf (M.length + T1.length) = true ∧
      ∃ l ∈ lostIn (M ++ TF ++ x :: O1) (unspentOf (M ++ TF ++ y :: N1)), l ∈ leavesOf (M ++ T1 ++ [z]))
    (k : Nat) (hk : 12 ≤ k ∧ k ≤ 16) :
    recover bcf tbl (crashAfter t (consistent (M ++ TF ++ x :: O1)) blockSteps k) = .ok (tipOf M) := by
  have hnO : (leavesOf (M ++ TF ++ x :: O1)).Nodup :=
    pathOf_leaves_nodup h.old hwfO.outs
  have hnN : (leavesOf (M ++ TF ++ y :: N1)).Nodup :=
    pathOf_leaves_nodup h.new hwfN.outs
  have hd := h.head_leaf k (by omega)
  have hleaf : (crashAfter t (consistent (M ++ TF ++ x :: O1)) blockSteps k).leaf =
      unspentOf (M ++ TF ++ y :: N1) := by rw [hd.2, if_pos hk.1]
  rw [recover_of_hdrOk bcf tbl _ (h.hdrOk k (by omega)), hd.1]
  have hlen := pathOf_length_le tbl _ _ _ h.old
  -- from the old tip down to the fork point: the output hash file does not match
  rw [h.walk_to_fork hx bcf k (by omega)]
  -- from the fork point down to `M`: the leaf set decides; the fuel left is that of the path `M ++ TF` and more
  refine lostIn_lands bcf _ (fun _ _ => rfl) M TF (x :: O1) hM (pathOf_prefix tbl _ (M ++ TF) h.forkNe _ _ h.old)
    hnO hwfO (.of_forall fun _ _ _ => rfl) (hleaf ▸ Above.of_heights habove) _ ?_
    ((h.files k).mono (List.prefix_append M TF)) ?_ (hleaf ▸ hstop)
  · simp only [List.length_append, List.length_cons] at hlen ⊢; omega
  · intro l hl hlM
    rw [hleaf] at hl
    exact unspent_of_unspent_later M (TF ++ y :: N1) (by simpa using hnN) l (by simpa using hl) hlM

-- non-vacuity: a two-block fork off b5 of the witness chain replaced by a heavier block b9 on b5
-- that spends o3 (unspent on both forks' common part): old path b0..b7, new path b0..b5,b9
def tblR : List BlkInfo := old8 ++ [{ id := 9, parent := some 5, work := 20, outs := [9], ins := [3] }]
def tgtR : Target :=
  { newPath := old8.take 6 ++ [{ id := 9, parent := some 5, work := 20, outs := [9], ins := [3] }],
    forkLen := 6, movesHHead := true, movesHead := true }
theorem reorgR : BlockReorg tblR (old8.take 6) (blk 6 []) [blk 7 []]
    { id := 9, parent := some 5, work := 20, outs := [9], ins := [3] } [] tgtR :=
  ⟨by decide +kernel, by decide +kernel, by decide +kernel, by decide +kernel, by decide +kernel, by decide +kernel, rfl, rfl⟩
example : BlockReorg tblR (old8.take 6) (blk 6 []) [blk 7 []]
    { id := 9, parent := some 5, work := 20, outs := [9], ins := [3] } [] tgtR := reorgR
example : recover bc tblR (crashAfter tgtR (consistent old8) blockSteps 9) = .ok 5 :=
  block_reorg_files_window_all bc tblR (old8.take 6) (blk 6 []) [blk 7 []]
    { id := 9, parent := some 5, work := 20, outs := [9], ins := [3] } [] tgtR reorgR
    ⟨by decide +kernel, by decide +kernel⟩ (by decide +kernel) 9 (by omega)
-- leaf-set window: o3 (created by b3) is lost; heights ≥ 6 commit to the bitmap only, so the loop
-- stops at b5 (height 5 does not commit): M = b0..b5, TF = []
example : recover bc tblR (crashAfter tgtR (consistent old8) blockSteps 12) = .ok 5 :=
  block_reorg_leaf_window_all bc tblR (old8.take 6) [] (blk 6 []) [blk 7 []]
    { id := 9, parent := some 5, work := 20, outs := [9], ins := [3] } [] tgtR reorgR (by decide +kernel)
    ⟨by decide +kernel, by decide +kernel⟩ ⟨by decide +kernel, by decide +kernel⟩ (by decide +kernel) (Or.inr (Or.inl (by decide +kernel)))
    (by intro T1 z T2 e; simp at e) 12 (by omega)
-- with every height committing to the bitmap the same crash walks back to b2, the parent of the block
-- that created o3: M = b0..b2, TF = b3..b5
example : recover (fun _ => true) tblR (crashAfter tgtR (consistent old8) blockSteps 12) = .ok 2 :=
  block_reorg_leaf_window_all (fun _ => true) tblR (old8.take 3) [blk 3 [], blk 4 [], blk 5 []] (blk 6 []) [blk 7 []]
    { id := 9, parent := some 5, work := 20, outs := [9], ins := [3] } [] tgtR reorgR (by decide +kernel)
    ⟨by decide +kernel, by decide +kernel⟩ ⟨by decide +kernel, by decide +kernel⟩ (by decide +kernel) (Or.inr (Or.inr (by decide +kernel)))
    (by
      intro T1 z T2 e
      refine ⟨rfl, (3, 3), by decide +kernel, ?_⟩
      cases T1 with
      | nil => simp at e; rw [← e.1]; decide
      | cons w T1' =>
        simp at e
        rw [← e.1]
        simp [leavesOf, blk])
    12 (by omega)

end GV.Props.C09
