import GrinVerif.Model.CrashCompact
import GrinVerif.Model.CrashZip
import GrinVerif.Lemmas.CrashCompactL
import GrinVerif.Props.C09Recov
import GrinVerif.Props.C09Zip
/-! C09 — a SECOND process death, during the restart that follows an interrupted compaction or an
interrupted state-sync install (the `crash` run compares those restarts — `case2` lines of the
scenarios compaction, compaction-again, compaction-then-block, state-sync-install — with the prediction
for the FIRST durable state; these theorems are why that is the model's prediction).

* compaction: while a compacted file sits beside a stale prune list (or is absent) no candidate head
  validates, whatever the output / kernel files hold (`fallbackC_incoherent_ignores`); hence ANY list of writes that
  only truncate those files and rewrite the leaf set (`TxOnly`: what the loop of a restart writes) leaves a state
  that reopens like the first one (`compaction_recovery_restartable`). That the writes of a restart before its
  commit are the header truncations followed by such a list is `recoverS_of_hdr` + `txOnly_fallbackS`; the
  composition with `recCrashAfter` is not stated.
* state-sync install: truncating the header files to a length they do not exceed changes nothing (`hdrIns_noop`), so
  `recoverZ` ends the same way after any number of such truncations (`zip_failed_restart_repeatable`; that a failing
  restart of such a node writes nothing else is not part of a statement: `recoverS` is defined on `Durable` only).
* a restart that does not have to fall back, killed anywhere, on a node with coherent compaction files
  (`compaction_restartable_coherent`) and on a node without bodies (`zip_restartable_no_fallback`). -/
namespace GV.Props.C09Second
open GV GV.Crash GV.Props.C09Recov GV.Props.C09Zip

/-- with incoherent compaction files the fallback loop never looks at the output / kernel files, the
leaf set or the re-added positions: only the block table, the tail and the head it starts from count -/
theorem fallbackC_incoherent_ignores (bcf : Nat → Bool) (tbl : List BlkInfo) (d d' : DurableC)
    (h : (d.out.coherent && d.rp.coherent) = false) (h' : (d'.out.coherent && d'.rp.coherent) = false)
    (ht : d'.tail = d.tail) :
    ∀ (fuel hd : Nat) (r r' : List Leaf), fallbackC bcf tbl d fuel hd r = fallbackC bcf tbl d' fuel hd r' := by
  intro fuel hd r r'
  rw [fallbackC_eq_with, fallbackC_eq_with,
    show d'.gone = d.gone from funext fun _ => funext fun p => by rw [DurableC.gone, DurableC.gone, ht]]
  exact fallbackWith_invalid (fun r P => validAtC_of_incoherent bcf d r P h)
    (fun r P => validAtC_of_incoherent bcf d' r P h') fuel hd r r'

/-- writes that touch only the txhashset files do not change where an incoherent node reopens -/
theorem compaction_recovery_restartable (bcf : Nat → Bool) (tbl : List BlkInfo) (d : DurableC)
    (h : (d.out.coherent && d.rp.coherent) = false) (ins : List RIns) (hi : TxOnly ins) :
    recoverC bcf tbl { d with base := runIns d.base ins } = recoverC bcf tbl d := by
  obtain ⟨k1, k2, k3, k4⟩ := runIns_tx_keeps ins d.base hi
  -- the header check reads what the writes keep; the loop reads nothing but the head
  simp only [recoverC_eq_with, recoverWith, k1, k2, k3, k4]
  rw [fallbackWith_invalid (valid := validAtC bcf { d with base := runIns d.base ins }) (valid' := validAtC bcf d)
    (fun r P => validAtC_of_incoherent bcf _ r P h) (fun r P => validAtC_of_incoherent bcf d r P h) _ _ [] []]
  rfl

/-- truncating the header MMR files to the length they have changes nothing -/
theorem hdrIns_noop (d : Durable) (hp : List BlkInfo)
    (h1 : d.hdrHash.length ≤ hp.length) (h2 : d.hdrData.length ≤ hp.length) (k : Nat) :
    runIns d ((hdrIns hp).take k) = d := by
  have e1 : d.hdrHash.take hp.length = d.hdrHash := List.take_of_length_le h1
  have e2 : d.hdrData.take hp.length = d.hdrData := List.take_of_length_le h2
  have : k = 0 ∨ k = 1 ∨ 2 ≤ k := by omega
  rcases this with rfl | rfl | hk
  · rfl
  · simp [hdrIns, runIns, applyRIns, e1]
  · have : (hdrIns hp).take k = hdrIns hp := List.take_of_length_le (by simp [hdrIns]; omega)
    rw [this]
    simp [hdrIns, runIns, applyRIns, e1, e2]

/-- **State-sync install, header truncations repeated.** On a node whose header files are no longer than `H`, any
number of the header MMR's two truncations to `H`'s length leaves the same durable state, so `Chain::init`
ends the same way. -/
theorem zip_failed_restart_repeatable (bcf : Nat → Bool) (tbl : List BlkInfo) (d : DurableZ) (H : List BlkInfo)
    (h1 : d.base.hdrHash.length ≤ H.length) (h2 : d.base.hdrData.length ≤ H.length) (k : Nat) :
    recoverZ bcf tbl { d with base := runIns d.base ((hdrIns H).take k) } = recoverZ bcf tbl d := by
  rw [hdrIns_noop d.base H h1 h2 k]

/-! ### the restart's own writes on a node with compaction files / without bodies, step by step

`setup_head`'s syncs (`PMMRBackend::sync`: hash file and data file truncated, leaf set rewritten, prune
list rewritten with the content it has) never change WHICH pruned set a hash / data file is compacted
for, the prune list's content, the body tail or the set of stored bodies: the durable state of such a
node after `k` writes of the restart is the base state after those writes, the rest untouched. -/

def recCrashAfterC (bc : Nat → Bool) (tbl : List BlkInfo) (d : DurableC) (k : Nat) : DurableC :=
  { d with base := recCrashAfter bc tbl d.base k }

def recCrashAfterZ (bc : Nat → Bool) (tbl : List BlkInfo) (d : DurableZ) (k : Nat) : DurableZ :=
  { d with base := recCrashAfter bc tbl d.base k }

/-- **Coherent compaction files, no fallback: the restart can be killed anywhere (all chains, any
tail).** Lifts `recover_restartable_no_fallback` to nodes with compaction files, under the same
hypotheses on the header files (they hold exactly the header head's path). -/
theorem compaction_restartable_coherent (bcf : Nat → Bool) (tbl : List BlkInfo) (d : DurableC)
    (h1 : d.out.coherent = true) (h2 : d.rp.coherent = true) (hp P : List BlkInfo)
    (hhp : pathOf tbl (tbl.length + 1) d.base.dbHHead [] = some hp)
    (hl1 : d.base.hdrHash.length = hp.length) (hl2 : d.base.hdrData.length = hp.length)
    (hdata : d.base.hdrData = hp.map (·.id))
    (hP : pathOf tbl (tbl.length + 1) d.base.dbHead [] = some P)
    (hv : P.length ≤ 1 ∨ validAt bcf d.base [] P = true) (k : Nat) :
    recoverC bcf tbl (recCrashAfterC bcf tbl d k) = .ok d.base.dbHead := by
  refine recCrashAfter_restartable (fun D => recoverC bcf tbl { d with base := D }) _ bcf tbl d.base hp P hhp hl1
    hl2 hdata hP hv (fun D hD hh hvD => ?_) k
  rw [recoverC_of_hdrOk bcf tbl _ hD]
  simp only [hh]
  apply fallbackWith_stop _ _ [] P hP
  rw [validAtC_of_coherent bcf { d with base := D } [] P h1 h2]
  exact hvD

/-- **State-sync install, restart without fallback killed anywhere**: the crash points inside the
sandbox (the chain directory still holds the old node: `P = [genesis]`) and after the directory swap
(`P` = the archive header's path, valid on the installed files) -/
theorem zip_restartable_no_fallback (bcf : Nat → Bool) (tbl : List BlkInfo) (d : DurableZ)
    (ht : d.torn = false) (hp P : List BlkInfo)
    (hhp : pathOf tbl (tbl.length + 1) d.base.dbHHead [] = some hp)
    (hl1 : d.base.hdrHash.length = hp.length) (hl2 : d.base.hdrData.length = hp.length)
    (hdata : d.base.hdrData = hp.map (·.id))
    (hP : pathOf tbl (tbl.length + 1) d.base.dbHead [] = some P)
    (hv : P.length ≤ 1 ∨ validAt bcf d.base [] P = true) (k : Nat) :
    recoverZ bcf tbl (recCrashAfterZ bcf tbl d k) = .ok d.base.dbHead := by
  refine recCrashAfter_restartable (fun D => recoverZ bcf tbl { d with base := D }) _ bcf tbl d.base hp P hhp hl1
    hl2 hdata hP hv (fun D hD hh hvD => ?_) k
  rw [recoverZ_of_hdrOk bcf tbl { d with base := D } ht hD]
  simp only [hh]
  exact congrArg toZ (fallbackWith_stop _ _ [] P hP hvD)

example : ((PFiles.mk (some [(0, 0)]) (some []) []).coherent && (PFiles.clean []).coherent) = false := by decide

example : TxOnly (syncIns [] []) := txOnly_sync [] []

end GV.Props.C09Second
