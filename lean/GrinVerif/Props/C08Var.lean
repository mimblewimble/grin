import GrinVerif.Lemmas.StoreVar
/-! C08 for VARIABLE-SIZE data files (`store/src/types.rs`: `AppendOnlyFile<T>` with
`SizeInfo::VariableSize(size_file)`, `SizeEntry { offset, size }`; in the node the kernel MMR's
`pmmr_data.bin` + `pmmr_size.bin`).

`Props/C08.lean` proves the history theorems for backends whose data file is modelled at element
level (`.fixed`; exact for fixed-size elements).  Here:

* **file level** – the byte-level file with its size file (`VarFile`: data bytes, byte buffer, size
  entries on disk and buffered, both `buffer_start_pos` / `_bak` pairs) REFINES the element-level
  file, operation by operation: `append` (offset taken from the previous size entry), `read_as_elmt`
  (offset/size from the size file, mmap vs buffer, buffer offset = entry at `buffer_start_pos`),
  `rewind`, `flush` (size file first; `set_len(offset + size)` of entry `buffer_start_pos - 1`),
  `discard`, compaction (`write_tmp_pruned` over the parsed stream, `replace_with_tmp`,
  `rebuild_size_file`, `init`), reopen – also with a missing / stale size file that `open` notices.
* **history level** – along every protocol-respecting history the variable-size backend is the
  fixed-size backend with its data file replaced by a representing `VarFile`; hence
  `history_preserves_reference` and `history_merkle_proofs` hold verbatim for it.

Hypothesis on the element type: its encoding is self-delimiting and not empty (`VarFile.Delim`:
`T::read` consumes exactly what `T::write` produced, whatever follows) – what every `Writeable`
stored in a data file satisfies – and is shorter than 65536 bytes: `SizeEntry.size` is a `u16`
(`bytes.len() as u16`; the model wraps as the code does, `VarFile.u16`, and `oversize_element_lost`
shows what then happens). -/
namespace GV.Props.C08Var
open GV GV.Pmmr GV.Pmmr.Co GV.Store GV.Store.VarFile

/-- the empty file pair represents the empty element file -/
theorem var_file_empty (el : Bytes → Option Nat) : Rep el {} {} := rep_empty el

/-- **`read_as_elmt`** of the variable-size file = `read` of the element-level file, at every
position (synced part, buffer, beyond the end), in every state incl. rewound ones -/
theorem var_file_read {el : Bytes → Option Nat} {v : VarFile} {f : AOF Bytes} (h : Rep el v f)
    (pos : Nat) : VarFile.read el v pos = f.read pos ∧ VarFile.read1 el v pos = f.read1 pos :=
  ⟨h.read pos, h.read1 pos⟩

/-- **`append`** never fails (the previous size entry is always readable) and is `append` -/
theorem var_file_append {el : Bytes → Option Nat} {v : VarFile} {f : AOF Bytes} (h : Rep el v f)
    (e : Bytes) (he : Delim el e) :
    ∃ v', VarFile.append v e = some v' ∧ Rep el v' (f.append e) ∧
      VarFile.sizeUnsyncInElmts v' = (f.append e).sizeUnsyncInElmts := by
  obtain ⟨v', h1, h2⟩ := h.append e he
  exact ⟨v', h1, h2, h2.sizeUnsync⟩

/-- **`rewind`** to a position inside the file, before anything is buffered (the usage protocol:
`Extension::rewind` precedes the appends of a unit of work) -/
theorem var_file_rewind {el : Bytes → Option Nat} {v : VarFile} {f : AOF Bytes} (h : Rep el v f)
    (hb : f.buffer = []) (pos : Nat) (hp : pos ≤ f.disk.length) :
    Rep el (v.rewind pos) (f.rewind pos) := h.rewind hb pos hp

/-- **`flush`**: data file and size file on disk are again consistent – the data file is the
concatenation of the elements, the size file their `(offset, size)` list -/
theorem var_file_flush {el : Bytes → Option Nat} {v : VarFile} {f : AOF Bytes} (h : Rep el v f) :
    Rep el v.flush f.flush ∧ v.flush.disk = f.flush.disk.flatten ∧
    v.flush.sizeFile.disk = sizeEntries 0 f.flush.disk :=
  ⟨h.flush, h.flush.disk, h.flush.sfDisk⟩

theorem var_file_discard {el : Bytes → Option Nat} {v : VarFile} {f : AOF Bytes} (h : Rep el v f) :
    Rep el v.discard f.discard := h.discard

/-- compaction (`write_tmp_pruned` over the parsed stream, `replace_with_tmp`, `rebuild_size_file`,
`init`) of a synced file -/
theorem var_file_compact {el : Bytes → Option Nat} {v : VarFile} {f : AOF Bytes} (h : Rep el v f)
    (hc : f.Clean) (idx : List Nat) :
    Rep el (replaceWith el v (writeTmpPruned el v idx)) (f.replaceWith (f.writeTmpPruned idx)) :=
  h.compact hc idx

/-- **reopen** from the durable parts -/
theorem var_file_reopen {el : Bytes → Option Nat} {v : VarFile} {f : AOF Bytes} (h : Rep el v f) :
    Rep el (ofDisk el v.disk v.sizeFile.disk) (AOF.ofDisk f.disk) := h.reopen

/-- **`open` with a missing or stale size file** (state sync ships no size file; a crash can leave
an old one): whenever `sum_sizes() != data file length` the size file is rebuilt from the data
file and the opened pair represents exactly the elements the data file holds – whatever the size
file contained. -/
theorem var_file_open_rebuilds {el : Bytes → Option Nat} (E : List Bytes) (hd : ∀ e ∈ E, Delim el e)
    (sizes : List SizeEntry)
    (hs : sumSizes (VarFile.init { disk := E.flatten, sizeFile := { disk := sizes } }).sizeFile ≠
      E.flatten.length) :
    Rep el (ofDisk el E.flatten sizes) (AOF.ofDisk E) := rep_ofDisk hd sizes (Or.inr hs)

/-- one whole unit of work on a synced file and its end: rewind, appends, then `flush` or
`discard` – the durable result is the element-level result -/
theorem var_file_unit {el : Bytes → Option Nat} {v : VarFile} {f : AOF Bytes} (h : Rep el v f)
    (hb : f.buffer = []) (pos : Nat) (hp : pos ≤ f.disk.length) (e₁ e₂ : Bytes)
    (h1 : Delim el e₁) (h2 : Delim el e₂) :
    ∃ v₂, (VarFile.append (v.rewind pos) e₁).bind (fun v₁ => VarFile.append v₁ e₂) = some v₂ ∧
      Rep el v₂.flush (((f.rewind pos).append e₁).append e₂).flush ∧
      Rep el v₂.discard (((f.rewind pos).append e₁).append e₂).discard := by
  obtain ⟨v₁, a1, r1⟩ := (h.rewind hb pos hp).append e₁ h1
  obtain ⟨v₂, a2, r2⟩ := r1.append e₂ h2
  exact ⟨v₂, by rw [a1]; exact a2, r2.flush, r2.discard⟩

/-- **An element of 65536 bytes or more is lost** (`size: bytes.len() as u16`): its size entry holds
the length modulo 2^16, so reading it back hands `T::read` a slice that is too short – for a
self-delimiting reader a read error (`None`), although `append` reported success.  No type stored
in a variable-size data file comes near (a `TxKernel` has at most 114 bytes); run `varopen`
probes it on the code with a test element type (`store new big`). -/
theorem oversize_element_lost (el : Bytes → Option Nat) (e : Bytes) (he : 65536 ≤ e.length)
    (hel : ∀ b, b.length < e.length → el b = none ∨ ∃ n, el b = some n ∧ b.length < n) :
    ∃ v', VarFile.append {} e = some v' ∧ v'.sizeFile.buffer = [(0, e.length % 65536)] ∧
      VarFile.read el v' 0 = none := by
  refine ⟨_, rfl, rfl, ?_⟩
  have hlt : e.length % 65536 < e.length := by
    have := Nat.mod_lt e.length (show 0 < 65536 by omega); omega
  have hs : (slice e 0 (e.length % 65536)).length < e.length := by
    unfold slice
    split
    · simp; omega
    · simp; omega
  simp only [VarFile.read, VarFile.readBytes, VarFile.sizeUnsyncInElmts, VarFile.offsetAndSize,
    VarFile.u16, AOF.sizeUnsyncInElmts, AOF.append, AOF.read]
  simp only [List.nil_append, List.length_cons, List.length_nil, Nat.zero_add, ge_iff_le,
    if_false, Nat.lt_irrefl, Nat.sub_self, List.getElem?_cons_zero]
  rcases hel _ hs with h | ⟨n, h, hn⟩
  · simp [h]
  · simp [h]; omega

/-- **The variable-size backend simulates the fixed-size one along every protocol-respecting
history** (all pushed elements self-delimiting): same size, hash file, leaf set, prune list and
prune-list file; the data file pair represents the element-level data file; `get_data` agrees at
every position. -/
theorem history_var_simulates_fixed {H : Type} (el : Bytes → Option Nat) (hf : HashFn Bytes H)
    (ops : List HOp) (hproto : RefSt.Proto {} ops) (hd : ∀ e, HOp.push e ∈ ops → Delim el e) :
    let pv := ops.foldl (bstep el hf) ({ b := { dataFile := .var {} }, size := 0 } : PM H)
    let pf := ops.foldl (bstep el hf) ({} : PM H)
    pv.size = pf.size ∧ pv.b.hashFile = pf.b.hashFile ∧ pv.b.leafSet = pf.b.leafSet ∧
    pv.b.pruneList = pf.b.pruneList ∧ pv.b.pruneFile = pf.b.pruneFile ∧
    (∃ v f, pv.b.dataFile = .var v ∧ pf.b.dataFile = .fixed f ∧ Rep el v f) ∧
    (∀ q, PM.getData el pv q = PM.getData el pf q) := by
  intro pv pf
  have hs : PSim el pv pf := psim_of_proto el hf ops hproto hd
  refine ⟨hs.size, hs.hashFile, hs.leafSet, hs.pruneList, hs.pruneFile, ?_, hs.getData⟩
  obtain ⟨v, f, h1, h2, h3⟩ := hs
  exact ⟨v, f, by rw [h3], h1, h2⟩

/-- **history_preserves_reference for variable-size data files.**  After ANY sequence of `push` /
`prune` / `rewind` / `sync` / `discard` / `compact` / `reopen` obeying the usage protocol, starting
from the empty store with a variable-size data file: size, root, the unspent-leaf set, hash and
DATA (read through the size file) of every unspent leaf, every hash on the Merkle path of an
unspent leaf and every peak hash equal those of the unpruned reference. -/
theorem history_preserves_reference_var {H : Type} (el : Bytes → Option Nat) (hf : HashFn Bytes H)
    (ops : List HOp) (hproto : RefSt.Proto {} ops) (hd : ∀ e, HOp.push e ∈ ops → Delim el e) :
    let p := ops.foldl (bstep el hf) ({ b := { dataFile := .var {} }, size := 0 } : PM H)
    let r := ops.foldl RefSt.step {}
    let N := r.cur.es.length
    let rh := Pmmr.Co.allHashes hf (leafFn r.cur.es) N
    p.size = mmr N ∧
    (r.dirty = false → p.b.unprunedSize = mmr N) ∧
    PM.root hf p = Pmmr.root hf rh ∧
    (∀ q, (q + 1) ∈ p.b.leafSet.bitmap ↔ q ∈ r.cur.U) ∧
    (∀ q, q ∈ r.cur.U → ∃ i, i < N ∧ q = mmr i ∧
      PM.getHash p q = some (refHash hf (leafFn r.cur.es) q) ∧
      rh[q]? = some (refHash hf (leafFn r.cur.es) q) ∧
      PM.getData el p q = some (r.cur.es.getD i [])) ∧
    (∀ q, q ∈ r.cur.U → ∀ a, Store.Sub (family a).1 q → a < mmr N →
      p.b.getFromFile a = some (refHash hf (leafFn r.cur.es) a)) ∧
    (∀ pk ∈ peaks (mmr N), p.b.getPeakFromFile pk = some (refHash hf (leafFn r.cur.es) pk)) := by
  intro p r N rh
  exact ((hinv_obs el hf (hinv_of_proto el hf ops hproto)).of_psim
    (psim_of_proto el hf ops hproto hd)).conj

/-- **Merkle proofs over histories, variable-size data files** -/
theorem history_merkle_proofs_var {H : Type} (el : Bytes → Option Nat) (hf : HashFn Bytes H)
    (ops : List HOp) (hproto : RefSt.Proto {} ops) (hd : ∀ e, HOp.push e ∈ ops → Delim el e) :
    let p := ops.foldl (bstep el hf) ({ b := { dataFile := .var {} }, size := 0 } : PM H)
    let r := ops.foldl RefSt.step {}
    ∀ q, q ∈ r.cur.U → PM.merkleProof hf p q =
      Pmmr.merkleProof hf (Pmmr.Co.allHashes hf (leafFn r.cur.es) r.cur.es.length) q := by
  intro p r q hq
  rw [(psim_of_proto el hf ops hproto hd).merkleProof]
  exact hinv_merkleProof hf (hinv_of_proto el hf ops hproto) q hq

/-- the harness' variable-size element: one length byte, then that many bytes -/
def lenPrefixed : Bytes → Option Nat
  | [] => none
  | n :: _ => some (n + 1)

theorem lenPrefixed_delim (n : Nat) (body : Bytes) (h : body.length = n) (hn : n < 65535) :
    Delim lenPrefixed (n :: body) := by
  refine ⟨⟨by simp, by simp [h]; omega⟩, fun rest => ?_⟩
  simp [lenPrefixed, h]

/-- a concrete represented file: two elements on disk, the file rewound to one element, one element
buffered (hypotheses of every file-level theorem are satisfiable in a rewound, dirty state) -/
example : ∃ v : VarFile, Rep lenPrefixed v
    { disk := [[2, 7, 9], [0]], buffer := [[1, 5]], bsp := 1, bak := 2 } ∧
    VarFile.read lenPrefixed v 1 = some [1, 5] ∧ v.sizeFile.buffer = [(3, 2)] := by
  have d1 := lenPrefixed_delim 2 [7, 9] rfl (by omega)
  have d2 := lenPrefixed_delim 0 [] rfl (by omega)
  have d3 := lenPrefixed_delim 1 [5] rfl (by omega)
  have h0 : Rep lenPrefixed {} {} := rep_empty _
  obtain ⟨v1, a1, r1⟩ := h0.append _ d1
  obtain ⟨v2, a2, r2⟩ := r1.append _ d2
  have r3 := r2.flush
  have r4 := r3.rewind rfl 1 (by decide)
  obtain ⟨v5, a5, r5⟩ := r4.append _ d3
  have e : ((((({} : AOF Bytes).append [2, 7, 9]).append [0]).flush.rewind 1).append [1, 5]) =
      { disk := [[2, 7, 9], [0]], buffer := [[1, 5]], bsp := 1, bak := 2 } := by
    simp [AOF.append, AOF.flush, AOF.rewind]
  rw [e] at r5
  refine ⟨v5, r5, ?_, ?_⟩
  · rw [r5.read]; rfl
  · rw [r5.sfBuffer]; rfl

/-- a protocol-respecting history whose pushes are length-prefixed elements: append, commit, rewind
below the last element, append another one, commit, reopen -/
example : RefSt.Proto {} [.push [2, 7, 9], .push [0], .sync, .rewind 1 [], .push [1, 5], .sync, .reopen] ∧
    ∀ e, HOp.push e ∈ [HOp.push [2, 7, 9], .push [0], .sync, .rewind 1 [], .push [1, 5], .sync, .reopen] →
      Delim lenPrefixed e := by
  constructor
  · have hb : ∀ n, n ≤ 10 → mmr n + 64 < 2 ^ 64 := fun n hn => by
      have := Pmmr.Co.mmr_le_two_mul n; omega
    simp only [RefSt.Proto, RefSt.ok, RefSt.step, List.length_append, List.length_cons,
      List.length_nil, and_true, true_and]
    refine ⟨hb _ (by omega), hb _ (by omega), ?_⟩
    simp
    exact hb _ (by omega)
  · intro e he
    simp only [List.mem_cons, HOp.push.injEq, List.mem_nil_iff, or_false, reduceCtorEq, false_or] at he
    rcases he with rfl | rfl | rfl
    · exact lenPrefixed_delim 2 [7, 9] rfl (by omega)
    · exact lenPrefixed_delim 0 [] rfl (by omega)
    · exact lenPrefixed_delim 1 [5] rfl (by omega)

end GV.Props.C08Var
