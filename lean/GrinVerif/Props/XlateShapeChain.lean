import GrinVerif.Gen.PipeShapeChain
import GrinVerif.Lemmas.XlateShape
/-! # Obligations about the validation pipelines (Chain), stated over the REGENERATED shape tables

`Gen/PipeShapeChain.lean` is rewritten on every check run from the current Rust source by tools/gen_pipeshape.py.
What the obligations about a function say is described in `Lemmas/XlateShape.lean`.  Every observable filters the
steps of the table on their kind, so an obligation holds by `rfl` exactly when the current source still has the
reviewed value; a `_propagated` with discarded calls also looks them up in `watch` (`XlateShape.unwatched`: a
discarded call with a new name needs a conjunct there before this file is regenerated).  They do not mention
arguments or local names (the exact pins in `Props/XlateShapeChainPins.lean` do).  After a REVIEWED change
regenerate with `python3 tools/gen_pipeshape.py --obligations Chain`; the ties to the hand models are in
`Props/XlateShapeModel.lean`, `Props/XlateShapeModel2.lean`, `Props/C03Shape.lean` and `Props/C04Shape.lean`. -/
namespace GV.Props.XlateShapeChain
open GV.Gen.PipeShape GV.Props.XlateShape

/-! ### `check_known (chain/src/pipe.rs)` -/
theorem pipe_check_known_order : readOk pipe_check_known = true ∧ spine pipe_check_known =
    ["check_known_head", "check_known_store"] := ⟨rfl, rfl⟩
theorem pipe_check_known_propagated : discarded watch pipe_check_known = [] ∧ calls pipe_check_known = [] := propagated rfl rfl
theorem pipe_check_known_early_ok : earlyOks pipe_check_known = [] := by rfl
theorem pipe_check_known_errors : fails pipe_check_known = []
    ∧ mapped pipe_check_known = [] := ⟨rfl, rfl⟩
theorem pipe_check_known_depth : depths pipe_check_known = [1, 1] := by rfl
theorem pipe_check_known_guard_inputs : guardInputs pipe_check_known = [] := by rfl

/-! ### `validate_pow_only (chain/src/pipe.rs)` -/
theorem pipe_validate_pow_only_order : readOk pipe_validate_pow_only = true ∧ spine pipe_validate_pow_only =
    ["LowEdgebits", "InvalidPow"] := ⟨rfl, rfl⟩
theorem pipe_validate_pow_only_propagated : discarded watch pipe_validate_pow_only = [] ∧ calls pipe_validate_pow_only = [] := propagated rfl rfl
theorem pipe_validate_pow_only_early_ok : earlyOks pipe_validate_pow_only = [["$1.opts.contains(Options::SKIP_POW)"]]
    ∧ spineBeforeFirstEarlyOk pipe_validate_pow_only = [] := ⟨rfl, rfl⟩
theorem pipe_validate_pow_only_errors : fails pipe_validate_pow_only = [("LowEdgebits", "(!($0.pow.is_primary()) && !($0.pow.is_secondary()))"), ("InvalidPow", "($1.pow_verifier)($0).is_err()")]
    ∧ mapped pipe_validate_pow_only = [] := ⟨rfl, rfl⟩
theorem pipe_validate_pow_only_depth : depths pipe_validate_pow_only = [1, 1] := by rfl
theorem pipe_validate_pow_only_guard_inputs : guardInputs pipe_validate_pow_only = [] := by rfl

/-! ### `process_block (chain/src/pipe.rs)` -/
theorem pipe_process_block_order : readOk pipe_process_block = true ∧ spine pipe_process_block =
    ["head", "check_known", "validate_pow_only", "prev_header_store", "process_block_header", "validate_block", "rewind_and_apply_fork", "verify_coinbase_maturity", "validate_utxo", "verify_block_sums", "apply_block_to_txhashset", "head", "extending", "add_block", "update_body_tail", "update_head"] := ⟨rfl, rfl⟩
theorem pipe_process_block_propagated : discarded watch pipe_process_block = [] ∧ calls pipe_process_block = ["force_rollback"] :=
  propagated rfl (by simp only [filter_watch_cons, unwatched, List.filter_nil])
theorem pipe_process_block_early_ok : earlyOks pipe_process_block = [] := by rfl
theorem pipe_process_block_errors : fails pipe_process_block = []
    ∧ mapped pipe_process_block = [] := ⟨rfl, rfl⟩
theorem pipe_process_block_depth : depths pipe_process_block = [0, 0, 0, 0, 0, 0, 1, 1, 1, 1, 1, 1, 0, 0, 1, 1] := by rfl
theorem pipe_process_block_guard_inputs : guardInputs pipe_process_block = ["head", "head"] := by rfl

/-! ### `process_block_headers (chain/src/pipe.rs)` -/
theorem pipe_process_block_headers_order : readOk pipe_process_block_headers = true ∧ spine pipe_process_block_headers =
    ["header_head", "validate_header", "add_block_header", "rewind_and_apply_header_fork", "is_on_current_chain", "update_header_head", "header_extending"] := ⟨rfl, rfl⟩
theorem pipe_process_block_headers_propagated : discarded watch pipe_process_block_headers = [] ∧ calls pipe_process_block_headers = ["force_rollback"] :=
  propagated rfl (by simp only [filter_watch_cons, unwatched, List.filter_nil])
theorem pipe_process_block_headers_early_ok : earlyOks pipe_process_block_headers = [["$0.is_empty()"]]
    ∧ spineBeforeFirstEarlyOk pipe_process_block_headers = [] := ⟨rfl, rfl⟩
theorem pipe_process_block_headers_errors : fails pipe_process_block_headers = []
    ∧ mapped pipe_process_block_headers = [] := ⟨rfl, rfl⟩
theorem pipe_process_block_headers_depth : depths pipe_process_block_headers = [0, 1, 1, 1, 1, 2, 0] := by rfl
theorem pipe_process_block_headers_guard_inputs : guardInputs pipe_process_block_headers = ["last", "header_head", "is_on_current_chain"] := by rfl

/-! ### `process_block_header (chain/src/pipe.rs)` -/
theorem pipe_process_block_header_order : readOk pipe_process_block_header = true ∧ spine pipe_process_block_header =
    ["head", "get_previous_header", "header_head", "validate_header", "rewind_and_apply_header_fork", "validate_root", "apply_header", "header_extending", "add_block_header", "update_header_head"] := ⟨rfl, rfl⟩
theorem pipe_process_block_header_propagated : discarded watch pipe_process_block_header = [] ∧ calls pipe_process_block_header = ["force_rollback"] :=
  propagated rfl (by simp only [filter_watch_cons, unwatched, List.filter_nil])
theorem pipe_process_block_header_early_ok : earlyOks pipe_process_block_header = [["check_known($0, &$2, $1).is_err()"], ["$1.batch.get_block_header(&$0.hash()) ~ Ok(_)", "!(has_more_work(&$5, &$4))"]]
    ∧ spineBeforeFirstEarlyOk pipe_process_block_header = ["head"] := ⟨rfl, rfl⟩
theorem pipe_process_block_header_errors : fails pipe_process_block_header = []
    ∧ mapped pipe_process_block_header = [] := ⟨rfl, rfl⟩
theorem pipe_process_block_header_depth : depths pipe_process_block_header = [0, 0, 0, 0, 1, 1, 1, 0, 0, 1] := by rfl
theorem pipe_process_block_header_guard_inputs : guardInputs pipe_process_block_header = ["head", "header_head"] := by rfl

/-! ### `check_known_head (chain/src/pipe.rs)` -/
theorem pipe_check_known_head_order : readOk pipe_check_known_head = true ∧ spine pipe_check_known_head =
    ["Unfit"] := ⟨rfl, rfl⟩
theorem pipe_check_known_head_propagated : discarded watch pipe_check_known_head = [] ∧ calls pipe_check_known_head = [] := propagated rfl rfl
theorem pipe_check_known_head_early_ok : earlyOks pipe_check_known_head = [] := by rfl
theorem pipe_check_known_head_errors : fails pipe_check_known_head = [("Unfit", "(($2 == $1.last_block_h) || ($2 == $1.prev_block_h))")]
    ∧ mapped pipe_check_known_head = [] := ⟨rfl, rfl⟩
theorem pipe_check_known_head_depth : depths pipe_check_known_head = [1] := by rfl
theorem pipe_check_known_head_guard_inputs : guardInputs pipe_check_known_head = ["hash"] := by rfl

/-! ### `check_known_store (chain/src/pipe.rs)` -/
theorem pipe_check_known_store_order : readOk pipe_check_known_store = true ∧ spine pipe_check_known_store =
    ["OldBlock", "Unfit", "StoreErr"] := ⟨rfl, rfl⟩
theorem pipe_check_known_store_propagated : discarded watch pipe_check_known_store = [] ∧ calls pipe_check_known_store = [] := propagated rfl rfl
theorem pipe_check_known_store_early_ok : earlyOks pipe_check_known_store = [] := by rfl
theorem pipe_check_known_store_errors : fails pipe_check_known_store = [("OldBlock", "($0.height < $1.height.saturating_sub(50))"), ("Unfit", "!(($0.height < $1.height.saturating_sub(50)))"), ("StoreErr", "$2.batch.block_exists(&$0.hash()) ~ Err(_)")]
    ∧ mapped pipe_check_known_store = [] := ⟨rfl, rfl⟩
theorem pipe_check_known_store_depth : depths pipe_check_known_store = [2, 2, 1] := by rfl
theorem pipe_check_known_store_guard_inputs : guardInputs pipe_check_known_store = [] := by rfl

/-! ### `prev_header_store (chain/src/pipe.rs)` -/
theorem pipe_prev_header_store_order : readOk pipe_prev_header_store = true ∧ spine pipe_prev_header_store =
    ["get_previous_header"] := ⟨rfl, rfl⟩
theorem pipe_prev_header_store_propagated : discarded watch pipe_prev_header_store = [] ∧ calls pipe_prev_header_store = [] := propagated rfl rfl
theorem pipe_prev_header_store_early_ok : earlyOks pipe_prev_header_store = [] := by rfl
theorem pipe_prev_header_store_errors : fails pipe_prev_header_store = []
    ∧ mapped pipe_prev_header_store = [] := ⟨rfl, rfl⟩
theorem pipe_prev_header_store_depth : depths pipe_prev_header_store = [0] := by rfl
theorem pipe_prev_header_store_guard_inputs : guardInputs pipe_prev_header_store = [] := by rfl

/-! ### `validate_header_ctx (chain/src/pipe.rs)` -/
theorem pipe_validate_header_ctx_order : readOk pipe_validate_header_ctx = true ∧ spine pipe_validate_header_ctx =
    ["header_allowed"] := ⟨rfl, rfl⟩
theorem pipe_validate_header_ctx_propagated : discarded watch pipe_validate_header_ctx = [] ∧ calls pipe_validate_header_ctx = [] := propagated rfl rfl
theorem pipe_validate_header_ctx_early_ok : earlyOks pipe_validate_header_ctx = [] := by rfl
theorem pipe_validate_header_ctx_errors : fails pipe_validate_header_ctx = []
    ∧ mapped pipe_validate_header_ctx = [] := ⟨rfl, rfl⟩
theorem pipe_validate_header_ctx_depth : depths pipe_validate_header_ctx = [0] := by rfl
theorem pipe_validate_header_ctx_guard_inputs : guardInputs pipe_validate_header_ctx = [] := by rfl

/-! ### `validate_header_denylist (chain/src/pipe.rs)` -/
theorem pipe_validate_header_denylist_order : readOk pipe_validate_header_denylist = true ∧ spine pipe_validate_header_denylist =
    ["Block.Other"] := ⟨rfl, rfl⟩
theorem pipe_validate_header_denylist_propagated : discarded watch pipe_validate_header_denylist = [] ∧ calls pipe_validate_header_denylist = [] := propagated rfl rfl
theorem pipe_validate_header_denylist_early_ok : earlyOks pipe_validate_header_denylist = [["$1.is_empty()"], ["!($1.contains(&$0.hash()))"]]
    ∧ spineBeforeFirstEarlyOk pipe_validate_header_denylist = [] := ⟨rfl, rfl⟩
theorem pipe_validate_header_denylist_errors : fails pipe_validate_header_denylist = [("Block.Other", "$1.contains(&$0.hash())")]
    ∧ mapped pipe_validate_header_denylist = [] := ⟨rfl, rfl⟩
theorem pipe_validate_header_denylist_depth : depths pipe_validate_header_denylist = [1] := by rfl
theorem pipe_validate_header_denylist_guard_inputs : guardInputs pipe_validate_header_denylist = [] := by rfl

/-! ### `validate_header (chain/src/pipe.rs)` -/
theorem pipe_validate_header_order : readOk pipe_validate_header = true ∧ spine pipe_validate_header =
    ["validate_header_ctx", "prev_header_store", "InvalidBlockHeight", "InvalidBlockVersion", "InvalidBlockTime", "InvalidMMRSize", "Block.TooHeavy", "validate_pow_only", "DifficultyTooLow", "DifficultyTooLow", "child", "WrongTotalDifficulty", "InvalidScaling"] := ⟨rfl, rfl⟩
theorem pipe_validate_header_propagated : discarded watch pipe_validate_header = [] ∧ calls pipe_validate_header = [] := propagated rfl rfl
theorem pipe_validate_header_early_ok : earlyOks pipe_validate_header = [] := by rfl
theorem pipe_validate_header_errors : fails pipe_validate_header = [("InvalidBlockHeight", "($0.height != ($2.height + 1))"), ("InvalidBlockVersion", "!(consensus::valid_header_version($0.height, $0.version))"), ("InvalidBlockTime", "($0.timestamp <= $2.timestamp)"), ("InvalidMMRSize", "(($3 == 0) || ($4 == 0))"), ("Block.TooHeavy", "($5 > global::max_block_weight())"), ("DifficultyTooLow", "($0.total_difficulty() <= $2.total_difficulty())"), ("DifficultyTooLow", "($0.pow.to_difficulty($0.height) < $6)"), ("WrongTotalDifficulty", "($6 != $9.difficulty)"), ("InvalidScaling", "(($0.version < HeaderVersion(5)) && ($0.pow.secondary_scaling != $9.secondary_scaling))")]
    ∧ mapped pipe_validate_header = [] := ⟨rfl, rfl⟩
theorem pipe_validate_header_depth : depths pipe_validate_header = [0, 0, 1, 1, 1, 1, 1, 1, 2, 2, 1, 2, 2] := by rfl
theorem pipe_validate_header_guard_inputs : guardInputs pipe_validate_header = ["prev_header_store", "saturating_sub", "saturating_sub", "weight_by_iok", "<bin>", "child", "from_batch", "next_difficulty"] := by rfl

/-! ### `validate_block (chain/src/pipe.rs)` -/
theorem pipe_validate_block_order : readOk pipe_validate_block = true ∧ spine pipe_validate_block =
    ["get_previous_header", "validate"] := ⟨rfl, rfl⟩
theorem pipe_validate_block_propagated : discarded watch pipe_validate_block = [] ∧ calls pipe_validate_block = [] := propagated rfl rfl
theorem pipe_validate_block_early_ok : earlyOks pipe_validate_block = [] := by rfl
theorem pipe_validate_block_errors : fails pipe_validate_block = []
    ∧ mapped pipe_validate_block = [] := ⟨rfl, rfl⟩
theorem pipe_validate_block_depth : depths pipe_validate_block = [0, 0] := by rfl
theorem pipe_validate_block_guard_inputs : guardInputs pipe_validate_block = [] := by rfl

/-! ### `verify_coinbase_maturity (chain/src/pipe.rs)` -/
theorem pipe_verify_coinbase_maturity_order : readOk pipe_verify_coinbase_maturity = true ∧ spine pipe_verify_coinbase_maturity =
    ["verify_coinbase_maturity"] := ⟨rfl, rfl⟩
theorem pipe_verify_coinbase_maturity_propagated : discarded watch pipe_verify_coinbase_maturity = [] ∧ calls pipe_verify_coinbase_maturity = [] := propagated rfl rfl
theorem pipe_verify_coinbase_maturity_early_ok : earlyOks pipe_verify_coinbase_maturity = [] := by rfl
theorem pipe_verify_coinbase_maturity_errors : fails pipe_verify_coinbase_maturity = []
    ∧ mapped pipe_verify_coinbase_maturity = [] := ⟨rfl, rfl⟩
theorem pipe_verify_coinbase_maturity_depth : depths pipe_verify_coinbase_maturity = [0] := by rfl
theorem pipe_verify_coinbase_maturity_guard_inputs : guardInputs pipe_verify_coinbase_maturity = [] := by rfl

/-! ### `verify_block_sums (chain/src/pipe.rs)` -/
theorem pipe_verify_block_sums_order : readOk pipe_verify_block_sums = true ∧ spine pipe_verify_block_sums =
    ["get_block_sums", "verify_kernel_sums", "save_block_sums"] := ⟨rfl, rfl⟩
theorem pipe_verify_block_sums_propagated : discarded watch pipe_verify_block_sums = [] ∧ calls pipe_verify_block_sums = [] := propagated rfl rfl
theorem pipe_verify_block_sums_early_ok : earlyOks pipe_verify_block_sums = [] := by rfl
theorem pipe_verify_block_sums_errors : fails pipe_verify_block_sums = []
    ∧ mapped pipe_verify_block_sums = [] := ⟨rfl, rfl⟩
theorem pipe_verify_block_sums_depth : depths pipe_verify_block_sums = [0, 0, 0] := by rfl
theorem pipe_verify_block_sums_guard_inputs : guardInputs pipe_verify_block_sums = [] := by rfl

/-! ### `apply_block_to_txhashset (chain/src/pipe.rs)` -/
theorem pipe_apply_block_to_txhashset_order : readOk pipe_apply_block_to_txhashset = true ∧ spine pipe_apply_block_to_txhashset =
    ["apply_block", "validate_roots", "validate_sizes"] := ⟨rfl, rfl⟩
theorem pipe_apply_block_to_txhashset_propagated : discarded watch pipe_apply_block_to_txhashset = [] ∧ calls pipe_apply_block_to_txhashset = [] := propagated rfl rfl
theorem pipe_apply_block_to_txhashset_early_ok : earlyOks pipe_apply_block_to_txhashset = [] := by rfl
theorem pipe_apply_block_to_txhashset_errors : fails pipe_apply_block_to_txhashset = []
    ∧ mapped pipe_apply_block_to_txhashset = [] := ⟨rfl, rfl⟩
theorem pipe_apply_block_to_txhashset_depth : depths pipe_apply_block_to_txhashset = [0, 0, 0] := by rfl
theorem pipe_apply_block_to_txhashset_guard_inputs : guardInputs pipe_apply_block_to_txhashset = [] := by rfl

/-! ### `add_block (chain/src/pipe.rs)` -/
theorem pipe_add_block_order : readOk pipe_add_block = true ∧ spine pipe_add_block =
    ["save_block"] := ⟨rfl, rfl⟩
theorem pipe_add_block_propagated : discarded watch pipe_add_block = [] ∧ calls pipe_add_block = [] := propagated rfl rfl
theorem pipe_add_block_early_ok : earlyOks pipe_add_block = [] := by rfl
theorem pipe_add_block_errors : fails pipe_add_block = []
    ∧ mapped pipe_add_block = [] := ⟨rfl, rfl⟩
theorem pipe_add_block_depth : depths pipe_add_block = [0] := by rfl
theorem pipe_add_block_guard_inputs : guardInputs pipe_add_block = [] := by rfl

/-! ### `update_body_tail (chain/src/pipe.rs)` -/
theorem pipe_update_body_tail_order : readOk pipe_update_body_tail = true ∧ spine pipe_update_body_tail =
    ["StoreErr", "save_body_tail"] := ⟨rfl, rfl⟩
theorem pipe_update_body_tail_propagated : discarded watch pipe_update_body_tail = [] ∧ calls pipe_update_body_tail = [] := propagated rfl rfl
theorem pipe_update_body_tail_early_ok : earlyOks pipe_update_body_tail = [] := by rfl
theorem pipe_update_body_tail_errors : fails pipe_update_body_tail = []
    ∧ mapped pipe_update_body_tail = [("save_body_tail", "StoreErr")] := ⟨rfl, rfl⟩
theorem pipe_update_body_tail_depth : depths pipe_update_body_tail = [1, 0] := by rfl
theorem pipe_update_body_tail_guard_inputs : guardInputs pipe_update_body_tail = [] := by rfl

/-! ### `add_block_header (chain/src/pipe.rs)` -/
theorem pipe_add_block_header_order : readOk pipe_add_block_header = true ∧ spine pipe_add_block_header =
    ["StoreErr", "save_block_header"] := ⟨rfl, rfl⟩
theorem pipe_add_block_header_propagated : discarded watch pipe_add_block_header = [] ∧ calls pipe_add_block_header = [] := propagated rfl rfl
theorem pipe_add_block_header_early_ok : earlyOks pipe_add_block_header = [] := by rfl
theorem pipe_add_block_header_errors : fails pipe_add_block_header = []
    ∧ mapped pipe_add_block_header = [("save_block_header", "StoreErr")] := ⟨rfl, rfl⟩
theorem pipe_add_block_header_depth : depths pipe_add_block_header = [1, 0] := by rfl
theorem pipe_add_block_header_guard_inputs : guardInputs pipe_add_block_header = [] := by rfl

/-! ### `update_header_head (chain/src/pipe.rs)` -/
theorem pipe_update_header_head_order : readOk pipe_update_header_head = true ∧ spine pipe_update_header_head =
    ["StoreErr", "save_header_head"] := ⟨rfl, rfl⟩
theorem pipe_update_header_head_propagated : discarded watch pipe_update_header_head = [] ∧ calls pipe_update_header_head = [] := propagated rfl rfl
theorem pipe_update_header_head_early_ok : earlyOks pipe_update_header_head = [] := by rfl
theorem pipe_update_header_head_errors : fails pipe_update_header_head = []
    ∧ mapped pipe_update_header_head = [("save_header_head", "StoreErr")] := ⟨rfl, rfl⟩
theorem pipe_update_header_head_depth : depths pipe_update_header_head = [1, 0] := by rfl
theorem pipe_update_header_head_guard_inputs : guardInputs pipe_update_header_head = [] := by rfl

/-! ### `update_head (chain/src/pipe.rs)` -/
theorem pipe_update_head_order : readOk pipe_update_head = true ∧ spine pipe_update_head =
    ["StoreErr", "save_body_head"] := ⟨rfl, rfl⟩
theorem pipe_update_head_propagated : discarded watch pipe_update_head = [] ∧ calls pipe_update_head = [] := propagated rfl rfl
theorem pipe_update_head_early_ok : earlyOks pipe_update_head = [] := by rfl
theorem pipe_update_head_errors : fails pipe_update_head = []
    ∧ mapped pipe_update_head = [("save_body_head", "StoreErr")] := ⟨rfl, rfl⟩
theorem pipe_update_head_depth : depths pipe_update_head = [1, 0] := by rfl
theorem pipe_update_head_guard_inputs : guardInputs pipe_update_head = [] := by rfl

/-! ### `has_more_work (chain/src/pipe.rs)` -/
theorem pipe_has_more_work_order : readOk pipe_has_more_work = true ∧ spine pipe_has_more_work =
    ["<bin>"] := ⟨rfl, rfl⟩
theorem pipe_has_more_work_propagated : discarded watch pipe_has_more_work = [] ∧ calls pipe_has_more_work = [] := propagated rfl rfl
theorem pipe_has_more_work_early_ok : earlyOks pipe_has_more_work = [] := by rfl
theorem pipe_has_more_work_errors : fails pipe_has_more_work = []
    ∧ mapped pipe_has_more_work = [] := ⟨rfl, rfl⟩
theorem pipe_has_more_work_depth : depths pipe_has_more_work = [0] := by rfl
theorem pipe_has_more_work_guard_inputs : guardInputs pipe_has_more_work = [] := by rfl

/-! ### `rewind_and_apply_header_fork (chain/src/pipe.rs)` -/
theorem pipe_rewind_and_apply_header_fork_order : readOk pipe_rewind_and_apply_header_fork = true ∧ spine pipe_rewind_and_apply_header_fork =
    ["is_on_current_chain", "get_previous_header", "rewind", "StoreErr", "get_block_header", "$3", "validate_root", "apply_header"] := ⟨rfl, rfl⟩
theorem pipe_rewind_and_apply_header_fork_propagated : discarded watch pipe_rewind_and_apply_header_fork = [] ∧ calls pipe_rewind_and_apply_header_fork = ["push", "reverse"] :=
  propagated rfl (by simp only [filter_watch_cons, unwatched, List.filter_nil])
theorem pipe_rewind_and_apply_header_fork_early_ok : earlyOks pipe_rewind_and_apply_header_fork = [] := by rfl
theorem pipe_rewind_and_apply_header_fork_errors : fails pipe_rewind_and_apply_header_fork = []
    ∧ mapped pipe_rewind_and_apply_header_fork = [("get_block_header", "StoreErr")] := ⟨rfl, rfl⟩
theorem pipe_rewind_and_apply_header_fork_depth : depths pipe_rewind_and_apply_header_fork = [1, 1, 0, 2, 1, 1, 1, 1] := by rfl
theorem pipe_rewind_and_apply_header_fork_guard_inputs : guardInputs pipe_rewind_and_apply_header_fork = ["<vec>", "header", "get_previous_header"] := by rfl

/-! ### `rewind_and_apply_fork (chain/src/pipe.rs)` -/
theorem pipe_rewind_and_apply_fork_order : readOk pipe_rewind_and_apply_fork = true ∧ spine pipe_rewind_and_apply_fork =
    ["rewind_and_apply_header_fork", "head_header", "is_on_current_chain", "get_previous_header", "rewind", "get_previous_header", "StoreErr", "get_block", "verify_coinbase_maturity", "validate_utxo", "verify_block_sums", "apply_block_to_txhashset"] := ⟨rfl, rfl⟩
theorem pipe_rewind_and_apply_fork_propagated : discarded watch pipe_rewind_and_apply_fork = [] ∧ calls pipe_rewind_and_apply_fork = ["push", "reverse"] :=
  propagated rfl (by simp only [filter_watch_cons, unwatched, List.filter_nil])
theorem pipe_rewind_and_apply_fork_early_ok : earlyOks pipe_rewind_and_apply_fork = [] := by rfl
theorem pipe_rewind_and_apply_fork_errors : fails pipe_rewind_and_apply_fork = []
    ∧ mapped pipe_rewind_and_apply_fork = [("get_block", "StoreErr")] := ⟨rfl, rfl⟩
theorem pipe_rewind_and_apply_fork_depth : depths pipe_rewind_and_apply_fork = [0, 0, 1, 1, 0, 1, 2, 1, 1, 1, 1, 1] := by rfl
theorem pipe_rewind_and_apply_fork_guard_inputs : guardInputs pipe_rewind_and_apply_fork = ["header_extension", "head_header", "get_previous_header", "current", "<vec>", "header", "get_previous_header"] := by rfl

/-! ### `validate_utxo (chain/src/pipe.rs)` -/
theorem pipe_validate_utxo_order : readOk pipe_validate_utxo = true ∧ spine pipe_validate_utxo =
    ["validate_block"] := ⟨rfl, rfl⟩
theorem pipe_validate_utxo_propagated : discarded watch pipe_validate_utxo = [] ∧ calls pipe_validate_utxo = [] := propagated rfl rfl
theorem pipe_validate_utxo_early_ok : earlyOks pipe_validate_utxo = [] := by rfl
theorem pipe_validate_utxo_errors : fails pipe_validate_utxo = []
    ∧ mapped pipe_validate_utxo = [] := ⟨rfl, rfl⟩
theorem pipe_validate_utxo_depth : depths pipe_validate_utxo = [0] := by rfl
theorem pipe_validate_utxo_guard_inputs : guardInputs pipe_validate_utxo = [] := by rfl

/-! ### `UTXOView::validate_block (chain/src/txhashset/utxo_view.rs)` -/
theorem utxo_validate_block_order : readOk utxo_validate_block = true ∧ spine utxo_validate_block =
    ["validate_output", "validate_inputs"] := ⟨rfl, rfl⟩
theorem utxo_validate_block_propagated : discarded watch utxo_validate_block = [] ∧ calls utxo_validate_block = [] := propagated rfl rfl
theorem utxo_validate_block_early_ok : earlyOks utxo_validate_block = [] := by rfl
theorem utxo_validate_block_errors : fails utxo_validate_block = []
    ∧ mapped utxo_validate_block = [] := ⟨rfl, rfl⟩
theorem utxo_validate_block_depth : depths utxo_validate_block = [1, 0] := by rfl
theorem utxo_validate_block_guard_inputs : guardInputs utxo_validate_block = [] := by rfl

/-! ### `UTXOView::validate_tx (chain/src/txhashset/utxo_view.rs)` -/
theorem utxo_validate_tx_order : readOk utxo_validate_tx = true ∧ spine utxo_validate_tx =
    ["validate_output", "validate_inputs"] := ⟨rfl, rfl⟩
theorem utxo_validate_tx_propagated : discarded watch utxo_validate_tx = [] ∧ calls utxo_validate_tx = [] := propagated rfl rfl
theorem utxo_validate_tx_early_ok : earlyOks utxo_validate_tx = [] := by rfl
theorem utxo_validate_tx_errors : fails utxo_validate_tx = []
    ∧ mapped utxo_validate_tx = [] := ⟨rfl, rfl⟩
theorem utxo_validate_tx_depth : depths utxo_validate_tx = [1, 0] := by rfl
theorem utxo_validate_tx_guard_inputs : guardInputs utxo_validate_tx = [] := by rfl

/-! ### `UTXOView::validate_input (chain/src/txhashset/utxo_view.rs)` -/
theorem utxo_validate_input_order : readOk utxo_validate_input = true ∧ spine utxo_validate_input =
    ["get_output_pos_height", "Other", "AlreadySpent"] := ⟨rfl, rfl⟩
theorem utxo_validate_input_propagated : discarded watch utxo_validate_input = [] ∧ calls utxo_validate_input = [] := propagated rfl rfl
theorem utxo_validate_input_early_ok : earlyOks utxo_validate_input = [["$2 ~ Some(_)", "self.output_pmmr.get_data(($3.pos - 1)) ~ Some(_)", "($4.commitment() == $0)"]]
    ∧ spineBeforeFirstEarlyOk utxo_validate_input = ["get_output_pos_height"] := ⟨rfl, rfl⟩
theorem utxo_validate_input_errors : fails utxo_validate_input = [("Other", "!(($4.commitment() == $0))"), ("AlreadySpent", "")]
    ∧ mapped utxo_validate_input = [] := ⟨rfl, rfl⟩
theorem utxo_validate_input_depth : depths utxo_validate_input = [0, 3, 0] := by rfl
theorem utxo_validate_input_guard_inputs : guardInputs utxo_validate_input = ["get_output_pos_height"] := by rfl

/-! ### `UTXOView::validate_inputs (chain/src/txhashset/utxo_view.rs)` -/
theorem utxo_validate_inputs_order : readOk utxo_validate_inputs = true ∧ spine utxo_validate_inputs =
    ["validate_input", "outputs_spent", "Other", "validate_input", "outputs_spent"] := ⟨rfl, rfl⟩
theorem utxo_validate_inputs_propagated : discarded watch utxo_validate_inputs = [] ∧ calls utxo_validate_inputs = [] := propagated rfl rfl
theorem utxo_validate_inputs_early_ok : earlyOks utxo_validate_inputs = [] := by rfl
theorem utxo_validate_inputs_errors : fails utxo_validate_inputs = [("Other", "!(($9 == $8.into()))")]
    ∧ mapped utxo_validate_inputs = [] := ⟨rfl, rfl⟩
theorem utxo_validate_inputs_depth : depths utxo_validate_inputs = [2, 1, 4, 2, 1] := by rfl
theorem utxo_validate_inputs_guard_inputs : guardInputs utxo_validate_inputs = [] := by rfl

/-! ### `UTXOView::validate_output (chain/src/txhashset/utxo_view.rs)` -/
theorem utxo_validate_output_order : readOk utxo_validate_output = true ∧ spine utxo_validate_output =
    ["DuplicateCommitment"] := ⟨rfl, rfl⟩
theorem utxo_validate_output_propagated : discarded watch utxo_validate_output = [] ∧ calls utxo_validate_output = [] := propagated rfl rfl
theorem utxo_validate_output_early_ok : earlyOks utxo_validate_output = [] := by rfl
theorem utxo_validate_output_errors : fails utxo_validate_output = [("DuplicateCommitment", "($3.commitment() == $0.commitment())")]
    ∧ mapped utxo_validate_output = [] := ⟨rfl, rfl⟩
theorem utxo_validate_output_depth : depths utxo_validate_output = [3] := by rfl
theorem utxo_validate_output_guard_inputs : guardInputs utxo_validate_output = [] := by rfl

/-! ### `UTXOView::verify_coinbase_maturity (chain/src/txhashset/utxo_view.rs)` -/
theorem utxo_verify_coinbase_maturity_order : readOk utxo_verify_coinbase_maturity = true ∧ spine utxo_verify_coinbase_maturity =
    ["validate_input", "spent", "pos", "None", "ImmatureCoinbase", "get_header_by_height", "ImmatureCoinbase"] := ⟨rfl, rfl⟩
theorem utxo_verify_coinbase_maturity_propagated : discarded watch utxo_verify_coinbase_maturity = [] ∧ calls utxo_verify_coinbase_maturity = [] := propagated rfl rfl
theorem utxo_verify_coinbase_maturity_early_ok : earlyOks utxo_verify_coinbase_maturity = [] := by rfl
theorem utxo_verify_coinbase_maturity_errors : fails utxo_verify_coinbase_maturity = [("ImmatureCoinbase", "($1 < global::coinbase_maturity())"), ("ImmatureCoinbase", "($9 > $12)")]
    ∧ mapped utxo_verify_coinbase_maturity = [] := ⟨rfl, rfl⟩
theorem utxo_verify_coinbase_maturity_depth : depths utxo_verify_coinbase_maturity = [1, 0, 2, 2, 2, 1, 2] := by rfl
theorem utxo_verify_coinbase_maturity_guard_inputs : guardInputs utxo_verify_coinbase_maturity = ["inputs", "inputs", "max", "saturating_sub", "get_header_by_height", "output_mmr_size"] := by rfl

/-! ### `Extension::apply_block (chain/src/txhashset/txhashset.rs)` -/
theorem ext_apply_block_order : readOk ext_apply_block = true ∧ spine ext_apply_block =
    ["apply_output", "save_output_pos_height", "validate_inputs", "apply_input", "delete_output_pos_height", "pos", "save_spent_index", "apply_kernels", "apply_to_bitmap_accumulator"] := ⟨rfl, rfl⟩
theorem ext_apply_block_propagated : discarded watch ext_apply_block = [] ∧ calls ext_apply_block = ["push", "push"] :=
  propagated rfl (by simp only [filter_watch_cons, unwatched, List.filter_nil])
theorem ext_apply_block_early_ok : earlyOks ext_apply_block = [] := by rfl
theorem ext_apply_block_errors : fails ext_apply_block = []
    ∧ mapped ext_apply_block = [] := ⟨rfl, rfl⟩
theorem ext_apply_block_depth : depths ext_apply_block = [1, 1, 0, 1, 1, 1, 0, 0, 0] := by rfl
theorem ext_apply_block_guard_inputs : guardInputs ext_apply_block = ["validate_inputs"] := by rfl

/-! ### `Extension::apply_input (chain/src/txhashset/txhashset.rs)` -/
theorem ext_apply_input_order : readOk ext_apply_input = true ∧ spine ext_apply_input =
    ["prune", "AlreadySpent", "TxHashSetErr"] := ⟨rfl, rfl⟩
theorem ext_apply_input_propagated : discarded watch ext_apply_input = [] ∧ calls ext_apply_input = [] := propagated rfl rfl
theorem ext_apply_input_early_ok : earlyOks ext_apply_input = [] := by rfl
theorem ext_apply_input_errors : fails ext_apply_input = [("AlreadySpent", "self.output_pmmr.prune(($1.pos - 1)) ~ Ok(_)"), ("TxHashSetErr", "self.output_pmmr.prune(($1.pos - 1)) ~ Err(_)")]
    ∧ mapped ext_apply_input = [("prune", "TxHashSetErr")] := ⟨rfl, rfl⟩
theorem ext_apply_input_depth : depths ext_apply_input = [1, 1, 1] := by rfl
theorem ext_apply_input_guard_inputs : guardInputs ext_apply_input = [] := by rfl

/-! ### `Extension::apply_output (chain/src/txhashset/txhashset.rs)` -/
theorem ext_apply_output_order : readOk ext_apply_output = true ∧ spine ext_apply_output =
    ["DuplicateCommitment", "push", "push", "Other", "Other"] := ⟨rfl, rfl⟩
theorem ext_apply_output_propagated : discarded watch ext_apply_output = [] ∧ calls ext_apply_output = [] := propagated rfl rfl
theorem ext_apply_output_early_ok : earlyOks ext_apply_output = [] := by rfl
theorem ext_apply_output_errors : fails ext_apply_output = [("DuplicateCommitment", "($4.commitment() == $2)"), ("Other", "(self.output_pmmr.unpruned_size() != self.rproof_pmmr.unpruned_size())"), ("Other", "($5 != $6)")]
    ∧ mapped ext_apply_output = [("push", "TxHashSetErr"), ("push", "TxHashSetErr")] := ⟨rfl, rfl⟩
theorem ext_apply_output_depth : depths ext_apply_output = [3, 0, 0, 1, 1] := by rfl
theorem ext_apply_output_guard_inputs : guardInputs ext_apply_output = ["commitment", "push", "push"] := by rfl

/-! ### `Extension::apply_kernel (chain/src/txhashset/txhashset.rs)` -/
theorem ext_apply_kernel_order : readOk ext_apply_kernel = true ∧ spine ext_apply_kernel =
    ["push"] := ⟨rfl, rfl⟩
theorem ext_apply_kernel_propagated : discarded watch ext_apply_kernel = [] ∧ calls ext_apply_kernel = [] := propagated rfl rfl
theorem ext_apply_kernel_early_ok : earlyOks ext_apply_kernel = [] := by rfl
theorem ext_apply_kernel_errors : fails ext_apply_kernel = []
    ∧ mapped ext_apply_kernel = [("push", "TxHashSetErr")] := ⟨rfl, rfl⟩
theorem ext_apply_kernel_depth : depths ext_apply_kernel = [0] := by rfl
theorem ext_apply_kernel_guard_inputs : guardInputs ext_apply_kernel = [] := by rfl

/-! ### `Extension::rewind (chain/src/txhashset/txhashset.rs)` -/
theorem ext_rewind_order : readOk ext_rewind = true ∧ spine ext_rewind =
    ["get_block_header", "rewind_mmrs_to_pos", "apply_to_bitmap_accumulator", "get_block", "rewind_single_block", "get_previous_header", "apply_to_bitmap_accumulator"] := ⟨rfl, rfl⟩
theorem ext_rewind_propagated : discarded watch ext_rewind = [] ∧ calls ext_rewind = ["append"] :=
  propagated rfl (by simp only [filter_watch_cons, unwatched, List.filter_nil])
theorem ext_rewind_early_ok : earlyOks ext_rewind = [] := by rfl
theorem ext_rewind_errors : fails ext_rewind = []
    ∧ mapped ext_rewind = [] := ⟨rfl, rfl⟩
theorem ext_rewind_depth : depths ext_rewind = [0, 1, 1, 2, 2, 2, 1] := by rfl
theorem ext_rewind_guard_inputs : guardInputs ext_rewind = ["get_block_header", "head_header", "get_previous_header"] := by rfl

/-! ### `Extension::rewind_single_block (chain/src/txhashset/txhashset.rs)` -/
theorem ext_rewind_single_block_order : readOk ext_rewind_single_block = true ∧ spine ext_rewind_single_block =
    ["get_previous_header", "pos", "get_block_input_bitmap", "x", "rewind_mmrs_to_pos", "get_previous_header", "rewind_mmrs_to_pos", "rewind", "save_output_pos_height"] := ⟨rfl, rfl⟩
theorem ext_rewind_single_block_propagated : discarded watch ext_rewind_single_block = [] ∧ calls ext_rewind_single_block = ["push"] :=
  propagated rfl (by simp only [filter_watch_cons, unwatched, List.filter_nil])
theorem ext_rewind_single_block_early_ok : earlyOks ext_rewind_single_block = [] := by rfl
theorem ext_rewind_single_block_errors : fails ext_rewind_single_block = []
    ∧ mapped ext_rewind_single_block = [] := ⟨rfl, rfl⟩
theorem ext_rewind_single_block_depth : depths ext_rewind_single_block = [0, 2, 1, 2, 1, 1, 1, 3, 3] := by rfl
theorem ext_rewind_single_block_guard_inputs : guardInputs ext_rewind_single_block = ["header", "get_spent_index"] := by rfl

/-! ### `Extension::validate_roots (chain/src/txhashset/txhashset.rs)` -/
theorem ext_validate_roots_order : readOk ext_validate_roots = true ∧ spine ext_validate_roots =
    ["roots", "validate"] := ⟨rfl, rfl⟩
theorem ext_validate_roots_propagated : discarded watch ext_validate_roots = [] ∧ calls ext_validate_roots = [] := propagated rfl rfl
theorem ext_validate_roots_early_ok : earlyOks ext_validate_roots = [["($0.height == 0)"]]
    ∧ spineBeforeFirstEarlyOk ext_validate_roots = [] := ⟨rfl, rfl⟩
theorem ext_validate_roots_errors : fails ext_validate_roots = []
    ∧ mapped ext_validate_roots = [] := ⟨rfl, rfl⟩
theorem ext_validate_roots_depth : depths ext_validate_roots = [0, 0] := by rfl
theorem ext_validate_roots_guard_inputs : guardInputs ext_validate_roots = [] := by rfl

/-! ### `Extension::validate_sizes (chain/src/txhashset/txhashset.rs)` -/
theorem ext_validate_sizes_order : readOk ext_validate_sizes = true ∧ spine ext_validate_sizes =
    ["InvalidMMRSize"] := ⟨rfl, rfl⟩
theorem ext_validate_sizes_propagated : discarded watch ext_validate_sizes = [] ∧ calls ext_validate_sizes = [] := propagated rfl rfl
theorem ext_validate_sizes_early_ok : earlyOks ext_validate_sizes = [["($0.height == 0)"]]
    ∧ spineBeforeFirstEarlyOk ext_validate_sizes = [] := ⟨rfl, rfl⟩
theorem ext_validate_sizes_errors : fails ext_validate_sizes = [("InvalidMMRSize", "(($0.output_mmr_size, $0.output_mmr_size, $0.kernel_mmr_size) != self.sizes())")]
    ∧ mapped ext_validate_sizes = [] := ⟨rfl, rfl⟩
theorem ext_validate_sizes_depth : depths ext_validate_sizes = [1] := by rfl
theorem ext_validate_sizes_guard_inputs : guardInputs ext_validate_sizes = [] := by rfl

/-! ### `Extension::validate_mmrs (chain/src/txhashset/txhashset.rs)` -/
theorem ext_validate_mmrs_order : readOk ext_validate_mmrs = true ∧ spine ext_validate_mmrs =
    ["InvalidTxHashSet", "InvalidTxHashSet", "InvalidTxHashSet"] := ⟨rfl, rfl⟩
theorem ext_validate_mmrs_propagated : discarded watch ext_validate_mmrs = [] ∧ calls ext_validate_mmrs = [] := propagated rfl rfl
theorem ext_validate_mmrs_early_ok : earlyOks ext_validate_mmrs = [] := by rfl
theorem ext_validate_mmrs_errors : fails ext_validate_mmrs = [("InvalidTxHashSet", "self.output_pmmr.validate() ~ Err(_)"), ("InvalidTxHashSet", "self.rproof_pmmr.validate() ~ Err(_)"), ("InvalidTxHashSet", "self.kernel_pmmr.validate() ~ Err(_)")]
    ∧ mapped ext_validate_mmrs = [] := ⟨rfl, rfl⟩
theorem ext_validate_mmrs_depth : depths ext_validate_mmrs = [1, 1, 1] := by rfl
theorem ext_validate_mmrs_guard_inputs : guardInputs ext_validate_mmrs = [] := by rfl

/-! ### `Extension::validate (chain/src/txhashset/txhashset.rs)` -/
theorem ext_validate_order : readOk ext_validate = true ∧ spine ext_validate =
    ["validate_mmrs", "validate_roots", "validate_sizes", "validate_kernel_sums", "verify_rangeproofs", "Stopped", "verify_kernel_signatures", "Stopped"] := ⟨rfl, rfl⟩
theorem ext_validate_propagated : discarded watch ext_validate = [] ∧ calls ext_validate = [] := propagated rfl rfl
theorem ext_validate_early_ok : earlyOks ext_validate = [["(self.head.height == 0)"]]
    ∧ spineBeforeFirstEarlyOk ext_validate = ["validate_mmrs", "validate_roots", "validate_sizes"] := ⟨rfl, rfl⟩
theorem ext_validate_errors : fails ext_validate = [("Stopped", "$10.is_stopped()"), ("Stopped", "$11.is_stopped()")]
    ∧ mapped ext_validate = [] := ⟨rfl, rfl⟩
theorem ext_validate_depth : depths ext_validate = [0, 0, 0, 0, 1, 3, 1, 3] := by rfl
theorem ext_validate_guard_inputs : guardInputs ext_validate = [] := by rfl

/-! ### `Extension::validate_kernel_sums (chain/src/txhashset/txhashset.rs)` -/
theorem ext_validate_kernel_sums_order : readOk ext_validate_kernel_sums = true ∧ spine ext_validate_kernel_sums =
    ["verify_kernel_sums"] := ⟨rfl, rfl⟩
theorem ext_validate_kernel_sums_propagated : discarded watch ext_validate_kernel_sums = [] ∧ calls ext_validate_kernel_sums = [] := propagated rfl rfl
theorem ext_validate_kernel_sums_early_ok : earlyOks ext_validate_kernel_sums = [] := by rfl
theorem ext_validate_kernel_sums_errors : fails ext_validate_kernel_sums = []
    ∧ mapped ext_validate_kernel_sums = [] := ⟨rfl, rfl⟩
theorem ext_validate_kernel_sums_depth : depths ext_validate_kernel_sums = [0] := by rfl
theorem ext_validate_kernel_sums_guard_inputs : guardInputs ext_validate_kernel_sums = [] := by rfl

/-! ### `HeaderExtension::apply_header (chain/src/txhashset/txhashset.rs)` -/
theorem hext_apply_header_order : readOk hext_apply_header = true ∧ spine hext_apply_header =
    ["push"] := ⟨rfl, rfl⟩
theorem hext_apply_header_propagated : discarded watch hext_apply_header = [] ∧ calls hext_apply_header = [] := propagated rfl rfl
theorem hext_apply_header_early_ok : earlyOks hext_apply_header = [] := by rfl
theorem hext_apply_header_errors : fails hext_apply_header = []
    ∧ mapped hext_apply_header = [("push", "TxHashSetErr")] := ⟨rfl, rfl⟩
theorem hext_apply_header_depth : depths hext_apply_header = [0] := by rfl
theorem hext_apply_header_guard_inputs : guardInputs hext_apply_header = [] := by rfl

/-! ### `HeaderExtension::rewind (chain/src/txhashset/txhashset.rs)` -/
theorem hext_rewind_order : readOk hext_rewind = true ∧ spine hext_rewind =
    ["rewind"] := ⟨rfl, rfl⟩
theorem hext_rewind_propagated : discarded watch hext_rewind = [] ∧ calls hext_rewind = [] := propagated rfl rfl
theorem hext_rewind_early_ok : earlyOks hext_rewind = [] := by rfl
theorem hext_rewind_errors : fails hext_rewind = []
    ∧ mapped hext_rewind = [("rewind", "TxHashSetErr")] := ⟨rfl, rfl⟩
theorem hext_rewind_depth : depths hext_rewind = [0] := by rfl
theorem hext_rewind_guard_inputs : guardInputs hext_rewind = [] := by rfl

/-! ### `HeaderExtension::validate_root (chain/src/txhashset/txhashset.rs)` -/
theorem hext_validate_root_order : readOk hext_validate_root = true ∧ spine hext_validate_root =
    ["root", "InvalidRoot"] := ⟨rfl, rfl⟩
theorem hext_validate_root_propagated : discarded watch hext_validate_root = [] ∧ calls hext_validate_root = [] := propagated rfl rfl
theorem hext_validate_root_early_ok : earlyOks hext_validate_root = [["($0.height == 0)"]]
    ∧ spineBeforeFirstEarlyOk hext_validate_root = [] := ⟨rfl, rfl⟩
theorem hext_validate_root_errors : fails hext_validate_root = [("InvalidRoot", "(self.root()? != $0.prev_root)")]
    ∧ mapped hext_validate_root = [] := ⟨rfl, rfl⟩
theorem hext_validate_root_depth : depths hext_validate_root = [0, 1] := by rfl
theorem hext_validate_root_guard_inputs : guardInputs hext_validate_root = [] := by rfl

end GV.Props.XlateShapeChain
