import GrinVerif.Lemmas.CrashAofL
import GrinVerif.Props.C09Aof
/-! C09 — the full flush theorem of the byte-level `AppendOnlyFile` model (variable-size path).

`pending es p as` is the file that holds the elements `es` on disk (canonical size file), has been
rewound to `p ≤ |es|` and has the elements `as` appended in memory. `flush_pending`: its flush passes
exactly ten crash points whose durable contents are listed — size file: old → cut to `p` → new; data
file, strictly afterwards: old → cut to `p` → new — and ends with the canonical files of
`es.take p ++ as`. `flush_death_then_open`: a process death at any of them followed by `open` shows the
OLD elements (points 1–6, the size file is rebuilt from the untouched data file), the elements cut at
`p` (points 7–8: the recorded window C09-reorg-kernel-data-window — data truncated in place before
the commit), or the NEW elements (9–10), provided the byte counts do not coincide (`Props/C09Aof.lean`
`open_accepts_stale_data_witness` is the coincidence). `Model/CrashKernel.lean` models the same flush on
entries (`sizeFlush` / `dataFlush`); no theorem here relates the two models. -/
namespace GV.Props.C09AofFlush
open GV GV.CrashAof GV.Props.C09Aof

/-- the canonical size file of the elements `es` -/
def sizeB (es : List Bytes) : Bytes := entBytes (offs es 0)

/-- every entry of that size file fits `SizeEntry { offset: u64, size: u16 }` -/
def Bounded (es : List Bytes) : Prop := ∀ e ∈ offs es 0, e.1 < 2 ^ 64 ∧ e.2 < 2 ^ 16

/-- the file holding `es` on disk, rewound to `p`, with `as` appended in memory -/
def pending (es : List Bytes) (p : Nat) (as : List Bytes) : Aof :=
  { sf := some { s := 10, disk := sizeB es, buf := entBytes (offs as (es.take p).flatten.length),
                 bsp := p, bak := es.length, mmap := some (sizeB es) },
    raw := { s := 0, disk := es.flatten, buf := as.flatten, bsp := p, bak := es.length,
             mmap := some es.flatten } }

theorem sizeB_length (es : List Bytes) : (sizeB es).length = 10 * es.length := by
  simp [sizeB, entBytes_length, offs_length]

theorem sizeB_cut (es : List Bytes) (p : Nat) (hp : p ≤ es.length) :
    setLen (sizeB es) (p * 10) = sizeB (es.take p) := by
  rw [setLen_shrinks _ _ (by rw [sizeB_length]; omega)]
  simp [sizeB, entBytes_take, offs_take]

theorem sizeB_new (es as : List Bytes) (p : Nat) :
    sizeB (es.take p) ++ entBytes (offs as (es.take p).flatten.length) = sizeB (es.take p ++ as) := by
  simp [sizeB, offs_append, entBytes_append]

theorem data_cut (es : List Bytes) (p : Nat) :
    setLen es.flatten (es.take p).flatten.length = (es.take p).flatten := by
  have h : es.flatten = (es.take p).flatten ++ (es.drop p).flatten := by
    rw [← List.flatten_append, List.take_append_drop]
  rw [setLen_shrinks _ _ (by rw [h]; simp)]
  exact flatten_take_prefix es p

/-- the entry the data file's truncation reads back: the end of element `p - 1` -/
theorem end_of_entry (es as : List Bytes) (p : Nat) (hp0 : 0 < p) (hp : p ≤ es.length)
    (hb : Bounded (es.take p ++ as)) (f : Raw) (hs : f.s = 10)
    (hm : f.mmap = some (sizeB (es.take p ++ as))) (hbsp : p ≤ f.bsp) :
    (f.readEntry (p - 1)).map (fun e => e.1 + e.2) = some (es.take p).flatten.length := by
  obtain ⟨q, rfl⟩ := Nat.exists_eq_succ_of_ne_zero (Nat.pos_iff_ne_zero.mp hp0)
  have hlt : q < es.length := hp
  have hx : (es.take (q + 1) ++ as)[q]? = some es[q] := by
    rw [List.getElem?_append_left (by rw [List.length_take]; omega), List.getElem?_take_of_lt (Nat.lt_succ_self q),
      List.getElem?_eq_getElem hlt]
  have hg := offs_get (es.take (q + 1) ++ as) q 0 _ hx
  have hbd := hb _ (List.mem_of_getElem? hg)
  rw [Nat.succ_sub_one, readEntry_mapped f _ q _ hs hm hbsp hg hbd.1 hbd.2]
  have t1 : (es.take (q + 1) ++ as).take q = es.take q := by
    rw [List.take_append_of_le_length (by rw [List.length_take]; omega), List.take_take,
      Nat.min_eq_left (Nat.le_succ q)]
  rw [t1, List.take_succ_eq_append_getElem hlt, List.flatten_append, List.length_append]
  simp

/-- **Flush of a rewound file with appended elements: the ten crash points, byte for byte.** -/
theorem flush_pending (es as : List Bytes) (p : Nat) (hn : 0 < es.length) (hp : p ≤ es.length)
    (hb : Bounded (es.take p ++ as)) :
    let old : Disk := { size := sizeB es, data := es.flatten }
    let new := es.take p ++ as
    (pending es p as).flush =
      ([("before-truncate@size", old),
        ("after-truncate@size", { old with size := sizeB (es.take p) }),
        ("before-append@size", { old with size := sizeB (es.take p) }),
        ("after-append@size", { old with size := sizeB new }),
        ("after-sync@size", { old with size := sizeB new }),
        ("before-truncate@data", { old with size := sizeB new }),
        ("after-truncate@data", { size := sizeB new, data := (es.take p).flatten }),
        ("before-append@data", { size := sizeB new, data := (es.take p).flatten }),
        ("after-append@data", { size := sizeB new, data := new.flatten }),
        ("after-sync@data", { size := sizeB new, data := new.flatten })],
       { sf := some { s := 10, disk := sizeB new, buf := [], bak := 0, bsp := (sizeB new).length / 10,
                      mmap := if (sizeB new).length = 0 then none else some (sizeB new) },
         raw := { s := 0, disk := new.flatten, buf := [], bak := 0, bsp := (sizeB new).length / 10,
                  mmap := if new.flatten.length = 0 then none else some new.flatten } },
       true) := by
  intro old new
  -- the size file's flush
  have hS : ({ s := 10, disk := sizeB es, buf := entBytes (offs as (es.take p).flatten.length),
               bsp := p, bak := es.length, mmap := some (sizeB es) } : Raw).flush =
      ([("before-truncate", sizeB es), ("after-truncate", sizeB (es.take p)),
        ("before-append", sizeB (es.take p)), ("after-append", sizeB new), ("after-sync", sizeB new)],
       { s := 10, disk := sizeB new, buf := [], bak := 0, bsp := (sizeB new).length / 10,
         mmap := if (sizeB new).length = 0 then none else some (sizeB new) }) := by
    unfold Raw.flush
    simp only [hn, if_true, sizeB_cut es p hp, sizeB_new es as p]
    rfl
  -- the data file is cut to the end of element `p - 1`, read back from the flushed size file
  have hcut : (if p = 0 then some 0 else
      ((({ s := 10, disk := sizeB es, buf := entBytes (offs as (es.take p).flatten.length),
           bsp := p, bak := es.length, mmap := some (sizeB es) } : Raw).flush).2.readEntry (p - 1)).map
        fun e => e.1 + e.2) = some (es.take p).flatten.length := by
    by_cases hp0 : p = 0
    · subst hp0; rfl
    · have hlen : (sizeB new).length = 10 * (p + as.length) := by
        rw [sizeB_length, List.length_append, List.length_take, Nat.min_eq_left hp]
      have hpos : 0 < p := Nat.pos_of_ne_zero hp0
      rw [if_neg hp0, hS]
      refine end_of_entry es as p hpos hp hb _ rfl (if_neg ?_) ?_
      · rw [hlen]; omega
      · show p ≤ (sizeB new).length / 10
        rw [hlen, Nat.mul_div_cancel_left _ (by decide : 0 < 10)]
        exact Nat.le_add_right _ _
  unfold pending
  rw [flush_var_rewound _ _ _ hn hcut, hS, data_cut es p]
  simp [old, new, List.flatten_append, Raw.sizeInElmts]

theorem flush_death_data (es as : List Bytes) (p : Nat) (hn : 0 < es.length) (hp : p ≤ es.length)
    (hb : Bounded (es.take p ++ as)) (k : Nat) (hk1 : 1 ≤ k) (hk : k ≤ 10) :
    ∃ d, crashAt (pending es p as).flush.1 k = some d ∧
      d.data = (if k ≤ 6 then es else if k ≤ 8 then es.take p else es.take p ++ as).flatten ∧
      (k = 1 → d.size = sizeB es) ∧ (9 ≤ k → d.size = sizeB (es.take p ++ as)) := by
  have h := flush_pending es as p hn hp hb
  simp only at h
  rw [h]
  -- the ten entries of the trace, read off
  match k, hk1, hk with
  | 1, _, _ => exact ⟨_, rfl, rfl, fun _ => rfl, fun h => absurd h (by decide)⟩
  | 2, _, _ | 3, _, _ | 4, _, _ | 5, _, _ | 6, _, _ | 7, _, _ | 8, _, _ =>
    exact ⟨_, rfl, rfl, fun h => absurd h (by decide), fun h => absurd h (by decide)⟩
  | 9, _, _ | 10, _, _ => exact ⟨_, rfl, rfl, fun h => absurd h (by decide), fun _ => rfl⟩

/-- What `open` makes of a death at crash point `k` of that flush: whatever the size file holds, unless its sizes
happen to add up to the data file's length it is replaced by the canonical size file of those
elements — the file shows the old elements (k ≤ 6), the elements cut at `p` (k = 7, 8) or the new
ones (k ≥ 9), in full and nothing else -/
theorem flush_death_then_open (parse : Bytes → Option Nat) (hnil : parse [] = none)
    (es as : List Bytes) (p : Nat) (hn : 0 < es.length) (hp : p ≤ es.length)
    (hb : Bounded (es.take p ++ as)) (hc : PrefixCode parse (es ++ as)) (k : Nat) (hk1 : 1 ≤ k) (hk : k ≤ 10) :
    ∃ d X, crashAt (pending es p as).flush.1 k = some d ∧
      X = (if k ≤ 6 then es else if k ≤ 8 then es.take p else es.take p ++ as) ∧ d.data = X.flatten ∧
      ∀ sum, (({ s := 10, disk := d.size } : Raw).init).sumSizes (({ s := 10, disk := d.size } : Raw).init).bsp = some sum →
        sum ≠ d.data.length →
        ∃ a, (openVar parse d).2 = some a ∧ a.disk = { size := sizeB X, data := X.flatten } := by
  obtain ⟨d, hd, hdata, _, _⟩ := flush_death_data es as p hn hp hb k hk1 hk
  refine ⟨d, _, hd, rfl, hdata, ?_⟩
  intro sum hs hne
  have hcX : PrefixCode parse (if k ≤ 6 then es else if k ≤ 8 then es.take p else es.take p ++ as) := by
    intro e he
    apply hc e
    split at he
    · exact List.mem_append_left _ he
    · split at he
      · exact List.mem_append_left _ (List.mem_of_mem_take he)
      · rcases List.mem_append.mp he with h | h
        · exact List.mem_append_left _ (List.mem_of_mem_take h)
        · exact List.mem_append_right _ h
  have := open_rebuilds_canonical parse _ [] d.size hnil hcX sum hs (by simpa [hdata] using hne)
  obtain ⟨a, ha, hdisk⟩ := this
  refine ⟨a, ?_, ?_⟩
  · have e : d = { size := d.size, data := (if k ≤ 6 then es else if k ≤ 8 then es.take p else es.take p ++ as).flatten ++ [] } := by
      cases d; simp at hdata ⊢; exact hdata
    rw [e]; exact ha
  · rw [hdisk]; simp [sizeB, entBytes, offsets_eq_offs]

/-- In the states 4–6 of `flush_pending` (size file new, data file old) the two files agree with the old
AND the new content on everything below the rewind position `p`: cutting the stale pair at any `q ≤ p`
gives exactly the canonical files of `es.take q`. (That the start-up recovery cuts there is an
observation about the chain level, not part of this statement.) -/
theorem stale_view_cut_below_fork (es as : List Bytes) (p q : Nat) (hp : p ≤ es.length) (hq : q ≤ p) :
    setLen (sizeB (es.take p ++ as)) (q * 10) = sizeB (es.take q) ∧
    setLen es.flatten (es.take q).flatten.length = (es.take q).flatten := by
  refine ⟨?_, data_cut es q⟩
  rw [sizeB_cut _ q (by simp; omega)]
  congr 1
  rw [List.take_append_of_le_length (by simp; omega), List.take_take]
  congr 1; omega

example : Bounded ([[2, 7, 7], [1, 9]].take 1 ++ [[3, 1, 1, 1]]) := by
  intro e he; simp [offs] at he; rcases he with rfl | rfl <;> decide

end GV.Props.C09AofFlush
