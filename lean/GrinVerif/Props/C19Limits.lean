import GrinVerif.Props.C19
/-! # C19 — the length limit of every message type is exactly the regenerated table

`Gen/Msg.lean` (tools/gen_msg.py) regenerates `max_msg_size`, the 4× allowance, the default for unknown
type bytes and the comparison `msg_len > max_len` from `p2p/src/msg.rs` on every run.

* `header_step_exact` — what the codec does with the 11 header bytes of a frame of type byte `t`
  announcing `len` bytes is decided by `len > maxLen net t` and nothing else: above the limit
  `TooLargeReadErr` with the codec idle again, at or below it the state `Header(Known / Unknown)` —
  for EVERY type byte 0 … 255 and every `len < 2^64`;
* `limit_boundary` — `limit` is accepted at the header, `limit + 1` refused (with exactly 11 bytes
  read and 11 requested from the allocator: `refuse_too_large`);
* `limit_table_pinned` — the table itself, per type byte, on mainnet and on the AutomatedTesting
  chain the harness runs on, and the default for the unknown type bytes;
* `limits_small`, `limits_independent_of_version` — every limit is far below `2^64`; the header check
  depends on the environment through `env.net` only;
* `list_count_gates_closed`, `peer_addrs_gate`, `locator_gate`, `reader_accepts_writers_range` — the item
  counts of `PeerAddrs` and of the locator: closed bounds, refused before anything is read or allocated. -/
namespace GV.Props.C19Limits
open GV GV.Ser GV.Dec GV.Msg GV.Codec GV.Gen.Msg GV.Props.C19

variable {B H : Type}

/-- **the limit table is what the codec enforces at the frame header** -/
theorem header_step_exact (env : Env B H) (t len : Nat) (h64 : len < 2^64) :
    stepState env ({ buffer := encHeader env.net t len, state := .none } : Codec H) 11 =
      if len > maxLen env.net t then .inl (.err (.ser .tooLarge), idle, 0)
      else .inr ({ buffer := [], state := .header (if isKnownType t then .known t len else .unknown len t) }, 0) := by
  rw [stepState_none env _ (encHeader_length _ _ _), decHeader_encHeader_nil env.net t len h64]
  by_cases h1 : len > maxLen env.net t
  · simp only [h1, if_true]
  · by_cases h2 : isKnownType t = true
    · simp only [h1, h2, if_false, if_true]
    · simp only [h1, h2, if_false]
      rfl

/-- **at the limit accepted, one byte above refused** — and the refusal reads exactly the header and
allocates nothing for the announced body, under every fragmentation -/
theorem limit_boundary (env : Env B H) (t : Nat) (hlim : maxLen env.net t + 1 < 2^64) :
    (∃ h, stepState env ({ buffer := encHeader env.net t (maxLen env.net t), state := .none } : Codec H) 11 =
        .inr ({ buffer := [], state := .header h }, 0)) ∧
    (∀ (rest : Bytes) (frags : List Bytes), frags.flatten = encHeader env.net t (maxLen env.net t + 1) ++ rest →
      (read env fragOps idle frags).res = .err (.ser .tooLarge) ∧
      (read env fragOps idle frags).bytesRead = 11 ∧ (read env fragOps idle frags).alloc = 11) := by
  constructor
  · refine ⟨if isKnownType t then .known t (maxLen env.net t) else .unknown (maxLen env.net t) t, ?_⟩
    rw [header_step_exact env t _ (by omega), if_neg (by omega)]
  · intro rest frags hfr
    obtain ⟨h1, h2, h3, _⟩ := refuse_too_large env t (maxLen env.net t + 1) hlim (by omega) rest frags hfr
    exact ⟨h1, h2, h3⟩

/-- **the table**: `4 × max_msg_size(type)` for the type bytes 0 … 28 on mainnet and on AutomatedTesting,
and the default for seven bytes that are no `Type` -/
theorem limit_table_pinned :
    (List.range 29).map (maxLen netMainnet) =
      [0, 512, 352, 64, 64, 16, 19472, 2564, 1460, 747528, 128, 5392128, 128, 539212, 5392128, 5392128, 160, 256, 256,
       128, 128, 164, 10784256, 164, 10784256, 164, 10784256, 164, 10784256] ∧
    (List.range 29).map (maxLen netAutomatedTesting) =
      [0, 512, 352, 64, 64, 16, 19472, 2564, 1460, 747528, 128, 31152, 128, 3112, 31152, 31152, 160, 256, 256,
       128, 128, 164, 62304, 164, 62304, 164, 62304, 164, 62304] ∧
    (∀ t ∈ [29, 30, 77, 128, 200, 254, 255], maxLen netMainnet t = 5392128 ∧ maxLen netAutomatedTesting t = 31152) := by
  decide +kernel

/-- every known type's limit is far below `2^64` (so `limit_boundary` applies), and every byte that is
no `Type` gets the default -/
theorem limits_small :
    (∀ t ∈ List.range 29, maxLen netMainnet t + 1 < 2^64 ∧ maxLen netAutomatedTesting t + 1 < 2^64) ∧
    (∀ t, isKnownType t = false → maxLen netMainnet t = 5392128 ∧ maxLen netAutomatedTesting t = 31152) := by
  refine ⟨by decide +kernel, fun t ht => ?_⟩
  unfold maxLen
  simp only [ht, Bool.false_eq_true, if_false]
  exact ⟨by decide, by decide⟩

/-- whether the frame header is accepted depends on the receiving environment through `env.net` only
(neither `decHeader` nor `maxLen` has a protocol-version parameter) -/
theorem limits_independent_of_version (env1 env2 : Env B H) (hnet : env1.net = env2.net) (t len : Nat) (h64 : len < 2^64) :
    (stepState env1 ({ buffer := encHeader env1.net t len, state := .none } : Codec H) 11).isLeft =
    (stepState env2 ({ buffer := encHeader env2.net t len, state := .none } : Codec H) 11).isLeft := by
  rw [header_step_exact env1 t len h64, header_step_exact env2 t len h64, hnet]

/-- **the count gates are the closed bounds**: `PeerAddrs` with up to and including `MAX_PEER_ADDRS` = 256
entries and a locator with up to and including `MAX_LOCATORS` = 20 hashes pass, one more is refused
(the predicates are regenerated from `p2p/src/msg.rs` WITH their comparison operator: `>` turned into
`>=` - the honest maximum refused - breaks this theorem) -/
theorem list_count_gates_closed :
    (∀ n, peerAddrsCountRefused n = false ↔ n ≤ 256) ∧ (∀ n, peerAddrsCountRefused n = true ↔ 257 ≤ n) ∧
    (∀ n, n < 256 → (locatorCountRefused n = false ↔ n ≤ 20)) ∧ (∀ n, n < 256 → (locatorCountRefused n = true ↔ 21 ≤ n)) ∧
    GV.Gen.MAX_PEER_ADDRS = 256 ∧ GV.Gen.MAX_LOCATORS = 20 ∧ GV.Gen.MAX_BLOCK_HEADERS = 512 := by
  have e1 : GV.Gen.MAX_PEER_ADDRS = 256 := rfl
  have e2 : GV.Gen.MAX_LOCATORS % 256 = 20 := rfl
  refine ⟨fun n => ?_, fun n => ?_, fun n _ => ?_, fun n _ => ?_, rfl, rfl, rfl⟩
  · unfold peerAddrsCountRefused; rw [e1, decide_eq_false_iff_not]; omega
  · unfold peerAddrsCountRefused; rw [e1, decide_eq_true_eq]; omega
  · unfold locatorCountRefused; rw [e2, decide_eq_false_iff_not]; omega
  · unfold locatorCountRefused; rw [e2, decide_eq_true_eq]; omega

/-- **the reader's gate is the generated one** (`Readable for PeerAddrs`): a body announcing `n` entries
is refused with `TooLargeReadErr` before any entry is read or any vector allocated iff the generated
predicate says so; otherwise exactly `n` entries are read -/
theorem peer_addrs_gate {P : Type} (rd : Rdr) (n : Nat) (h32 : n < 2^32) (rest : Bytes) :
    decPeerAddrs (P := P) rd (writeU32 n ++ rest) =
      if peerAddrsCountRefused n then .err .tooLarge 0
      else if n = 0 then .ok (.peerAddrs []) rest 0
      else (withCapacity n PEER_ADDR_MEM
        (GV.Dec.bind (readN (decPeerAddr rd) n rest) fun ps r => .ok (.peerAddrs ps) r 0)).addAlloc 0 := by
  unfold decPeerAddrs
  have hr : rU32 (writeU32 n ++ rest) = .ok n rest 0 := by simp [rU32, readU32_write n h32, GV.Dec.lift]
  rw [hr, bind_ok]
  by_cases h1 : n > GV.Gen.MAX_PEER_ADDRS
  · simp [peerAddrsCountRefused, h1, Outcome.addAlloc]
  · by_cases h2 : n = 0
    · simp [peerAddrsCountRefused, h2, Outcome.addAlloc]
    · simp [peerAddrsCountRefused, h1, h2]

/-- … and of the locator (`Readable for Locator`, count byte `n`) -/
theorem locator_gate {P : Type} (rd : Rdr) (n : Nat) (rest : Bytes) :
    decLocator (P := P) rd (n :: rest) =
      if locatorCountRefused n then .err .tooLarge 0
      else (withCapacity n 32 (GV.Dec.bind (readN (rHash rd) n rest) fun hs r => .ok (.locator hs) r 0)).addAlloc 0 := by
  unfold decLocator
  rw [rU8_cons, bind_ok]
  by_cases h1 : n > GV.Gen.MAX_LOCATORS % 256
  · simp [locatorCountRefused, h1, Outcome.addAlloc]
  · simp [locatorCountRefused, h1]

/-- **the reader accepts exactly the writer's range**: the writers put a count of up to the maximum in
front (`find_peers(.., MAX_PEER_ADDRS)`, at most `MAX_LOCATORS` locator hashes); for these counts, and
only for these, the gate lets the body through -/
theorem reader_accepts_writers_range (n : Nat) :
    (n ≤ GV.Gen.MAX_PEER_ADDRS ↔ peerAddrsCountRefused n = false) ∧
    (n < 256 → (n ≤ GV.Gen.MAX_LOCATORS ↔ locatorCountRefused n = false)) := by
  obtain ⟨hp, -, hl, -⟩ := list_count_gates_closed
  exact ⟨(hp n).symm, fun h => (hl n h).symm⟩

/-- the maximum itself fits the frame limit of its type with every entry an IPv6 address (19 bytes), so
a full `PeerAddrs` / locator / `Headers` answer is never refused by the frame header either -/
example : 4 + 19 * GV.Gen.MAX_PEER_ADDRS ≤ maxLen netMainnet T_PeerAddrs ∧
    1 + 32 * GV.Gen.MAX_LOCATORS ≤ maxLen netMainnet T_GetHeaders ∧
    2 + 365 * GV.Gen.MAX_BLOCK_HEADERS ≤ maxLen netMainnet T_Headers := by decide

end GV.Props.C19Limits
