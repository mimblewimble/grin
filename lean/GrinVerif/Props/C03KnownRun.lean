import GrinVerif.Props.C03Known
/-! `Chain::process_block` AS CODED (`deliverBlockK`, Model/ChainKnown.lean) = `deliverBlockEv`
(Model/ChainStatus.lean) = `deliverBlock` with notifications, through the whole orphan loop, on
every state block processing alone reaches; and hence along every delivery history from a node that
satisfies the two invariants (`run_coded_eq`): every theorem about `deliverBlock` / `run`
(C02, C03, C06, C13) is a theorem about the coded functions. -/
namespace GV.Props.C03Known
open GV GV.Chain

/-- `checkOrphansEv` / `deliverBlockEv` are the generic loops over `processBlockSingleEv` -/
theorem orphanStepEv_eq_G (p : Params) : orphanStepEv p = orphanStepG (processBlockSingleEv p) := rfl

theorem checkOrphansEv_eq_G (p : Params) (fuel : Nat) (n : Node) (h : Nat) :
    checkOrphansEv p fuel n h = checkOrphansG (processBlockSingleEv p) fuel n h := by
  induction fuel generalizing n h with
  | zero => rfl
  | succ k ih =>
    unfold checkOrphansEv checkOrphansG
    simp only [orphanStepEv_eq_G, ih]
    rfl

theorem deliverBlockEv_eq_G (p : Params) (n : Node) (b : Blk) :
    deliverBlockEv p n b = deliverBlockG (processBlockSingleEv p) n b := by
  unfold deliverBlockEv deliverBlockG
  simp only [checkOrphansEv_eq_G]
  cases (processBlockSingleEv p n b).2.1 <;> rfl

section congr
variable (f g : BStep) (P : Node → Prop)
  (hfg : ∀ n b, P n → n.blk b.id = some b → f n b = g n b)
  (hpres : ∀ n b, P n → n.blk b.id = some b → P (g n b).1)
  (horph : ∀ (n : Node) (os : List Nat), P n → P { n with orphans := os })
include hfg hpres

theorem orphanStepG_congr (acc : (Node × Option Nat) × List Ev) (o : Nat) (h : P acc.1.1) :
    orphanStepG f acc o = orphanStepG g acc o ∧ P (orphanStepG g acc o).1.1 := by
  unfold orphanStepG
  cases hb : acc.1.1.blk o with
  | none => exact ⟨rfl, h⟩
  | some b =>
    have hreg : acc.1.1.blk b.id = some b := by rw [blk_id hb]; exact hb
    simp only
    rw [hfg acc.1.1 b h hreg]
    refine ⟨rfl, ?_⟩
    have := hpres acc.1.1 b h hreg
    cases (g acc.1.1 b).2.1 <;> exact this

theorem orphanFoldG_congr (l : List Nat) (acc : (Node × Option Nat) × List Ev) (h : P acc.1.1) :
    l.foldl (orphanStepG f) acc = l.foldl (orphanStepG g) acc ∧ P (l.foldl (orphanStepG g) acc).1.1 := by
  induction l generalizing acc with
  | nil => exact ⟨rfl, h⟩
  | cons o os ih =>
    simp only [List.foldl_cons]
    obtain ⟨e, hp⟩ := orphanStepG_congr f g P hfg hpres acc o h
    rw [e]
    exact ih _ hp

include horph

/-- two single-block steps that agree wherever an invariant holds which one of them preserves run
the same `check_orphans` -/
theorem checkOrphansG_congr (fuel : Nat) : ∀ (n : Node) (height : Nat), P n →
    checkOrphansG f fuel n height = checkOrphansG g fuel n height ∧ P (checkOrphansG g fuel n height).1 := by
  induction fuel with
  | zero => intro n _ h; exact ⟨rfl, h⟩
  | succ k ih =>
    intro n height h
    unfold checkOrphansG
    simp only
    split
    · exact ⟨rfl, h⟩
    · obtain ⟨e, hp⟩ := orphanFoldG_congr f g P hfg hpres
        (n.orphans.partition (fun o => n.heightOf o == height)).1
        (({ n with orphans := (n.orphans.partition (fun o => n.heightOf o == height)).2 }, none), [])
        (horph n _ h)
      rw [e]
      split
      · rename_i hAcc _
        obtain ⟨e2, hp2⟩ := ih _ (hAcc + 1) hp
        rw [e2]
        exact ⟨rfl, hp2⟩
      · exact ⟨rfl, hp⟩

/-- ... and the same `process_block` -/
theorem deliverBlockG_congr (n : Node) (b : Blk) (hb : n.blk b.id = some b) (h : P n) :
    deliverBlockG f n b = deliverBlockG g n b ∧ P (deliverBlockG g n b).1 := by
  unfold deliverBlockG
  simp only
  rw [hfg n b h hb]
  have hp := hpres n b h hb
  obtain ⟨e, hp2⟩ := checkOrphansG_congr f g P hfg hpres horph ((g n b).1.blks.length + 2) (g n b).1 (b.h + 1) hp
  cases (g n b).2.1
  case err => exact ⟨rfl, hp⟩
  all_goals exact ⟨by simp only [e], hp2⟩

end congr

/-- the two invariants under which "stored ⇒ known" and the code's work-conditional check agree -/
def KInv (n : Node) : Prop := HeadMax n ∧ StoredClosed n

theorem preserved_kinv (p : Params) : Preserved p KInv :=
  (preserved_headMax p).and (preserved_storedClosed p)

/-- **`Chain::process_block` as coded is `deliverBlockEv`** - node, verdict and every notification,
through the whole orphan loop - on every state with the two invariants; the invariants hold again
afterwards -/
theorem deliverBlockK_eq (p : Params) (n : Node) (b : Blk) (h : KInv n) (hb : n.blk b.id = some b) :
    deliverBlockK p [] n b = deliverBlockEv p n b ∧ KInv (deliverBlockK p [] n b).1 := by
  have := deliverBlockG_congr (processBlockSingleK p []) (processBlockSingleEv p) KInv
    (fun n b hn hb => processBlockSingleK_eq p n b hn.1 hn.2 hb)
    (fun n b hn hb => C03Status.processBlockSingleEv_fst p n b ▸ (preserved_kinv p).single n b hb hn)
    (preserved_kinv p).orphans n b hb h
  unfold deliverBlockK
  rw [deliverBlockEv_eq_G, this.1]
  exact ⟨rfl, this.2⟩

/-- ... hence `deliverBlock` once the notifications are forgotten -/
theorem deliverBlockK_proj (p : Params) (n : Node) (b : Blk) (h : KInv n) (hb : n.blk b.id = some b) :
    (deliverBlockK p [] n b).1 = (deliverBlock p n b).1 ∧ (deliverBlockK p [] n b).2.1 = (deliverBlock p n b).2 := by
  rw [(deliverBlockK_eq p n b h hb).1]
  exact ⟨C03Status.deliverBlockEv_fst p n b, C03Status.deliverBlockEv_res p n b⟩

theorem deliverHeaderK_eq (p : Params) (n : Node) (b : Blk) (h : KInv n) (hb : n.blk b.id = some b) :
    deliverHeaderK p [] n b = deliverHeader p n b := by
  unfold deliverHeaderK deliverHeader
  rw [processHeaderK_eq p n b h.1 h.2 hb]
  cases processHeader p n b <;> rfl

/-- the initial node (only genesis stored) has both invariants: `run_coded_eq` applies to every
history of a freshly initialised node -/
theorem kinv_init (outs : List OutDef) (blks : List Blk)
    (hg : ∀ g, ({ outs := outs, blks := blks } : Node).blk 0 = some g → g.parent = none) :
    KInv { outs := outs, blks := blks } :=
  have hi := (Fresh.init hg).inv {}
  ⟨hi.1, hi.closed⟩

/-- one delivery as coded -/
def stepK (p : Params) (n : Node) : Event → Node
  | .block b => (deliverBlockK p [] n b).1
  | .header b => (deliverHeaderK p [] n b).1

/-- **every delivery history as coded is the history of `Model/Chain.lean`** (`run`), from any node
with the two invariants - the initial node has them (`kinv_init`) - as long
as no reset intervenes: the theorems about `run` (head is the most-work validated chain, order
independence, reported unspent set = replay, rejected input changes nothing) hold for the coded
functions -/
theorem run_coded_eq (p : Params) (es : List Event) : ∀ (n : Node), KInv n → Registered n es →
    es.foldl (stepK p) n = run p n es ∧ KInv (run p n es) := by
  intro n hk hreg
  -- both folds in step: equal nodes over the initial definitions, with the two invariants
  have := List.foldl_rel (l := es) (f := stepK p) (g := step p)
    (r := fun x y => x = y ∧ y.blks = n.blks ∧ KInv y) ⟨rfl, rfl, hk⟩
    fun e he x y ⟨hxy, hb, h⟩ => by
      subst hxy
      have hx : x.blk e.blk.id = some e.blk := (blk_congr hb _).trans (hreg e he)
      have hstep : stepK p x e = step p x e := by
        cases e with
        | block b => exact (deliverBlockK_proj p x b h hx).1
        | header b => exact congrArg Prod.fst (deliverHeaderK_eq p x b h hx)
      exact ⟨hstep, (step_defs p x e).1.trans hb,
        step_preserved (preserved_kinv p) x e hx h⟩
  exact ⟨this.1, this.2.2⟩

end GV.Props.C03Known
