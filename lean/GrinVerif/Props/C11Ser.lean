import GrinVerif.Lemmas.DecSerBound
import GrinVerif.Lemmas.DecSerAgree
import GrinVerif.Props.C11
/-! # C11 (continued) — the decoders of the consensus objects, and `decode_message` without payload hypotheses

`Props/C11.lean` proves panic-freedom and the allocation bound for the frame header, the handshake and
every message body that `p2p/src/msg.rs` defines, and takes the payload decoders of the large types as
hypotheses of `body_no_panic` / `body_alloc_bound`.  This file supplies them (`payload_no_panic`; for the
allocation `bnd_payload` with coefficient 93, so `decode_message_alloc_bound` rests on `bnd_decBody`, of which
`body_alloc_bound` is the coefficient-1 case): for the instrumented
models of `Model/DecSer.lean` (transliterations of `Readable::read` of `Transaction`,
`UntrustedBlock`, `UntrustedCompactBlock`, `UntrustedBlockHeader` incl. `Proof::read`, `Output`,
`RangeProof`, `TxKernel`, `KernelFeatures`, `Inputs`, `TransactionBody`, `BitmapBlock`, `BitmapSegment`
and the segment responses, with every allocation and every release-mode panic site explicit)

* `D_no_panic     : (D … bytes).isPanic = false`            for all bytes, both readers, every `Cfg`
                                                            (protocol version, NRD flag, weight limit, …)
* `D_alloc_bound  : (D … bytes).alloc ≤ c · bytes.length + k` with explicit `c`, `k`
* loop progress   : `read_multi` yields at most one item per `w` consumed bytes (`w` = the item's
                    minimal wire size), whatever count is announced

and finally `decode_message_no_panic` / `decode_message_alloc_bound` for every type byte.

The read-time checks on the decoded value (`TransactionBody::validate_read`, `verify_sorted`,
`verify_cut_through`, `CompactBlockBody::verify_sorted`, the `UntrustedBlockHeader` checks,
`BitmapSegment::validate_blocks`) are part of the decoders and therefore covered; their panic-freedom is
also stated on its own.

Why `c` is not 1: an `Output` with a zero-length range proof takes 42 bytes on the wire and 728 bytes
in memory; `read_multi` collects by `push` (amortised ≤ 4 × the final size requested in total),
`TransactionBody::init` copies the vectors, `verify_cut_through` collects the commitments.  The ghost
counter charges all of these (see the header of `Model/DecSer.lean`), so it bounds the bytes *requested
in total*; 93 = 1 + ⌈(4·728 + 728 + 200) / 42⌉.  The additive constants are the capped pre-allocations.

Only assumption: `cfg.proofSize · 8 ≤ isize::MAX` (`global::proofsize()` is 42 or 8). -/
namespace GV.Props.C11Ser
open GV GV.Ser GV.Dec GV.Msg GV.DecSer

theorem rangeProof_no_panic (rd : Rdr) (bytes : Bytes) : (rRangeProof rd bytes).isPanic = false :=
  (erases_rRangeProof rd).noPanic bytes
/-- `RangeProof::read` requests what it reads, and at most 675 bytes before it finds the input short —
whatever length field is announced -/
theorem rangeProof_alloc_bound (rd : Rdr) (bytes : Bytes) : (rRangeProof rd bytes).alloc ≤ 1 * bytes.length + 675 :=
  (instr_rRangeProof rd).bnd.alloc_le bytes

/-- a length field of 2^64 − 1 with nothing behind it: `IOErr`, 675 bytes requested by the `BinReader` -/
example : rRangeProof .bin [255, 255, 255, 255, 255, 255, 255, 255] = .err .ioEof 675 := by decide

theorem output_no_panic (rd : Rdr) (bytes : Bytes) : (rOutput rd bytes).isPanic = false := (erases_rOutput rd).noPanic bytes
theorem output_alloc_bound (rd : Rdr) (bytes : Bytes) : (rOutput rd bytes).alloc ≤ 1 * bytes.length + 675 :=
  (instr_rOutput rd).bnd.alloc_le bytes

theorem outputIdentifier_no_panic (rd : Rdr) (bytes : Bytes) : (rOutputId rd bytes).isPanic = false :=
  (Wire.wire_outputId.erases rd).noPanic bytes
theorem input_no_panic (rd : Rdr) (bytes : Bytes) : (rInput rd bytes).isPanic = false := (erases_rInput rd).noPanic bytes
theorem input_alloc_bound (rd : Rdr) (bytes : Bytes) : (rInput rd bytes).alloc ≤ 1 * bytes.length + 33 :=
  (Wire.wire_input.bnd rd).alloc_le bytes

/-- `KernelFeatures::read` (v1 and v2 layouts, NRD on or off): the `expect` on `WEEK_HEIGHT` fitting a
`u16` is the only panic site and is unreachable; nothing is allocated -/
theorem kernelFeatures_no_panic (c : Cfg) (bytes : Bytes) : (rKernelFeatures c bytes).isPanic = false :=
  ((Wire.wire_kernelFeatures c).erases .bin).noPanic bytes
theorem kernelFeatures_alloc_bound (c : Cfg) (bytes : Bytes) : (rKernelFeatures c bytes).alloc ≤ 1 * bytes.length + 0 :=
  ((Wire.wire_kernelFeatures c).bnd .bin).alloc_le bytes

theorem txKernel_no_panic (rd : Rdr) (c : Cfg) (bytes : Bytes) : (rTxKernel rd c bytes).isPanic = false :=
  ((Wire.wire_txKernel c).erases rd).noPanic bytes
theorem txKernel_alloc_bound (rd : Rdr) (c : Cfg) (bytes : Bytes) :
    (rTxKernel rd c bytes).alloc ≤ 1 * bytes.length + 64 := ((Wire.wire_txKernel c).bnd rd).alloc_le bytes

/-- whatever count is announced, `read_multi::<Output>` yields at most one output per 42 consumed bytes
(and exactly `count` of them when it succeeds): it stops at the end of the input -/
theorem output_loop_progress (rd : Rdr) (count : Nat) (bytes : Bytes) (xs : List Output) (rest : Bytes) (n : Nat)
    (h : DecSer.readMulti (rOutput rd) OUTPUT_MEM count bytes = .ok xs rest n) :
    xs.length = count ∧ xs.length * 42 + rest.length ≤ bytes.length :=
  (instr_rOutput rd).readMulti_progress h

theorem kernel_loop_progress (rd : Rdr) (c : Cfg) (count : Nat) (bytes : Bytes) (xs : List TxKernel) (rest : Bytes)
    (n : Nat) (h : DecSer.readMulti (rTxKernel rd c) KERNEL_MEM count bytes = .ok xs rest n) :
    xs.length = count ∧ xs.length * 97 + rest.length ≤ bytes.length :=
  ((Wire.wire_txKernel c).instr rd).readMulti_progress h

theorem input_loop_progress (rd : Rdr) (count : Nat) (bytes : Bytes) (xs : List Input) (rest : Bytes) (n : Nat)
    (h : DecSer.readMulti (rInput rd) INPUT_MEM count bytes = .ok xs rest n) :
    xs.length = count ∧ xs.length * 34 + rest.length ≤ bytes.length :=
  (Wire.wire_input.instr rd).readMulti_progress h

theorem commit_loop_progress (rd : Rdr) (count : Nat) (bytes : Bytes) (xs : List Bytes) (rest : Bytes) (n : Nat)
    (h : DecSer.readMulti (rCommitWrapper rd) COMMIT_MEM count bytes = .ok xs rest n) :
    xs.length = count ∧ xs.length * 33 + rest.length ≤ bytes.length :=
  (Wire.wire_commit.instr rd).readMulti_progress h

theorem shortId_loop_progress (rd : Rdr) (count : Nat) (bytes : Bytes) (xs : List Bytes) (rest : Bytes) (n : Nat)
    (h : DecSer.readMulti (rShortId rd) SHORT_ID_MEM count bytes = .ok xs rest n) :
    xs.length = count ∧ xs.length * 6 + rest.length ≤ bytes.length :=
  (Wire.wire_shortId.instr rd).readMulti_progress h

/-- a count above the `read_multi` cap is refused before anything is read or allocated -/
theorem readMulti_cap {α : Type} (p : Dec α) (sz count : Nat) (bytes : Bytes) (h : count > MAX_MULTI_COUNT) :
    DecSer.readMulti p sz count bytes = .err .tooLarge 0 := by
  unfold DecSer.readMulti; rw [if_pos h]

/-- the amortised push charge is sound: a `Vec` grown by `i` pushes has requested at most `4 · i`
elements in total (capacities 4, 8, 16, …) -/
theorem vec_growth_amortised (i : Nat) : vecReq i ≤ GROW * i := vecReq_le i

/-- `verify_sorted_and_unique`: the `windows(2)` indexing `pair[0]`, `pair[1]` never panics; the result
is `Ok`, `SortError` or `DuplicateError` -/
theorem verifySorted_no_panic (keys : List Nat) (s : Site) : verifySortedP keys ≠ .panic s :=
  by rw [verifySortedP_eq]; exact chkOf_ne_panic _ s

theorem bodyVerifySorted_no_panic (key : Bytes → Nat) (b : TxBody) (s : Site) : bodyVerifySortedP key b ≠ .panic s :=
  by rw [bodyVerifySortedP_eq]; exact chkOf_ne_panic _ s

theorem compactVerifySorted_no_panic (key : Bytes → Nat) (b : CompactBlockBody) (s : Site) :
    compactVerifySortedP key b ≠ .panic s := compactVerifySortedP_noPanic key b s

/-- `TransactionBody::validate_read` (weight, NRD duplicates, sortedness, cut-through) on ANY body —
decoded or not — returns `Ok` or an error: the weight arithmetic saturates, the window indexing is in
range -/
theorem validateRead_no_panic (c : Cfg) (maxW : Nat) (b : TxBody) (rest : Bytes) :
    (validateReadBody c maxW b rest).isPanic = false := noPanic_validateReadBody c maxW b rest

/-- … and it allocates at most 200 bytes per input and output plus 132 per kernel -/
theorem validateRead_alloc_bound (c : Cfg) (maxW : Nat) (b : TxBody) (rest : Bytes) :
    (validateReadBody c maxW b rest).alloc ≤
      200 * b.inputs.len + 200 * b.outputs.length + 132 * b.kernels.length := by
  have h := validateReadBody_alloc c maxW b rest
  simpa [νBody, CUT_THROUGH_MEM, GROW, COMMIT_MEM] using h

/-- `BitmapSegment::validate_blocks`: `(n_chunks - 1)` never underflows -/
theorem validateBlocks_no_panic (id : SegmentId) (blocks : List BitmapBlock) (s : Site) :
    validateBlocks id blocks ≠ .panic s := validateBlocks_ne_panic id blocks s

/-- the checks of `UntrustedBlockHeader::read` on a decoded header never panic in the shipped
(release) arithmetic -/
theorem untrustedChecks_no_panic (e : Env) (h : BlockHeader) (rest : Bytes) :
    (untrustedChecks e h rest).isPanic = false := noPanic_untrustedChecks e h rest

/-- … but two of its expressions are unchecked `u64` arithmetic; the first, `header.height + 1`, overflows on
this header (`height = 2^64 − 1`), which the reader accepts: a debug build (overflow checks on) panics where
the release build wraps and answers `Ok`.  AutomatedTesting parameters; `powOk` = the header is mined. -/
def overflowHeader : BlockHeader :=
  { version := GV.Cons.headerVersion .automatedTesting (2^64 - 1), height := 2^64 - 1, prevHash := [], prevRoot := [],
    timestamp := 0, outputRoot := [], rangeProofRoot := [], kernelRoot := [], totalKernelOffset := [],
    outputMmrSize := 0, kernelMmrSize := 0,
    pow := { totalDifficulty := 1, secondaryScaling := 0, nonce := 0, proof := { edgeBits := 10, nonces := [] } } }

theorem untrustedHeader_debug_overflow :
    (GV.Cons.untrustedHeaderCheck .automatedTesting 0 300 true (toHdr overflowHeader)).toBool = true ∧
    headerArithOverflows .automatedTesting overflowHeader = true := by decide

/-- `read_number` stays inside the packed buffer: no slice, shift or subtraction of `extract_bits` /
`read_number` can fail for `edge_bits ≤ 63` and a buffer of `pack_len(edge_bits) ≥ 8` bytes -/
theorem readNumber_in_range (bits : Bytes) (bitStart bitCount : Nat) (hl : 8 ≤ bits.length)
    (hs : bitStart + bitCount ≤ bits.length * 8) (hc : bitCount ≤ 63) :
    ∃ v, readNumberP bits bitStart bitCount = .ok v := ⟨_, readNumberP_val hl hs hc⟩

theorem proof_no_panic (rd : Rdr) (c : Cfg) (hps : c.proofSize * 8 ≤ ISIZE_MAX) (bytes : Bytes) :
    (rProof rd c bytes).isPanic = false := (erases_rProof rd c hps).noPanic bytes

/-- `Proof::read`: the nonce vector (`8 · proofsize`), the packed bytes read, one failed read of at
most `8 · proofsize` bytes — for every `edge_bits` byte -/
theorem proof_alloc_bound (rd : Rdr) (c : Cfg) (bytes : Bytes) :
    (rProof rd c bytes).alloc ≤ 1 * bytes.length + (8 * c.proofSize + 8 * c.proofSize) :=
  (bnd_rProof rd c).alloc_le bytes

/-- edge_bits = 63 with an empty tail: 8·42 for the vector plus the 331 packed bytes a `BinReader` asks for -/
example : (rProof .bin { ver := 1, nrd := false, maxWeight := 40000, proofSize := 42, key := fun _ => 0 } [63]).alloc
    = 8 * 42 + 331 := by decide

theorem blockHeader_no_panic (rd : Rdr) (c : Cfg) (hps : c.proofSize * 8 ≤ ISIZE_MAX) (bytes : Bytes) :
    (rBlockHeader rd c bytes).isPanic = false := noPanic_rBlockHeader rd c hps bytes

theorem untrustedBlockHeader_no_panic (rd : Rdr) (e : Env) (hps : e.cfg.proofSize * 8 ≤ ISIZE_MAX) (bytes : Bytes) :
    (rUntrustedHeader rd e bytes).isPanic = false := noPanic_rUntrustedHeader rd e hps bytes

/-- `UntrustedBlockHeader::read`: `1 · len + 72 · proofsize + 1024` (+ one failed read) — mainnet: 4048 + 368 -/
theorem untrustedBlockHeader_alloc_bound (rd : Rdr) (e : Env) (bytes : Bytes) :
    (rUntrustedHeader rd e bytes).alloc ≤ 1 * bytes.length + (hdrK e.cfg.proofSize + hdrE e.cfg.proofSize) :=
  (bnd_rUntrustedHeader rd e).alloc_le bytes

example : hdrK 42 + hdrE 42 = 4416 := by decide

theorem transactionBody_no_panic (rd : Rdr) (c : Cfg) (bytes : Bytes) : (rTxBody rd c bytes).isPanic = false :=
  noPanic_rTxBody rd c bytes

/-- `TransactionBody::read`: the allocation is proportional to the bytes actually consumed whatever counts
are announced -/
theorem transactionBody_alloc_bound (rd : Rdr) (c : Cfg) (bytes : Bytes) :
    (rTxBody rd c bytes).alloc ≤ 93 * bytes.length + 675 := by
  have := (bndS_rTxBody rd c).toBnd.alloc_le bytes
  simpa [CB] using this

/-- counts that fail the weight pre-check are refused with nothing allocated -/
theorem transactionBody_weight_precheck (rd : Rdr) (c : Cfg) (ni no nk : Nat) (rest : Bytes)
    (hni : ni < 2^64) (hno : no < 2^64) (hnk : nk < 2^64) (hw : weightByIok ni no nk > c.maxWeight) :
    rTxBody rd c (writeU64 ni ++ (writeU64 no ++ (writeU64 nk ++ rest))) = .err .tooLarge 0 := by
  unfold rTxBody
  rw [rU64_write ni hni, bind_ok, rU64_write no hno, bind_ok, rU64_write nk hnk, bind_ok, if_pos hw]
  rfl

theorem transaction_no_panic (rd : Rdr) (c : Cfg) (bytes : Bytes) : (rTransaction rd c bytes).isPanic = false :=
  noPanic_rTransaction rd c bytes
theorem transaction_alloc_bound (rd : Rdr) (c : Cfg) (bytes : Bytes) :
    (rTransaction rd c bytes).alloc ≤ 93 * bytes.length + 675 := by
  have := (bnd_rTransaction rd c).alloc_le bytes
  simpa [CB] using this

theorem untrustedBlock_no_panic (rd : Rdr) (e : Env) (hps : e.cfg.proofSize * 8 ≤ ISIZE_MAX) (bytes : Bytes) :
    (rUntrustedBlock rd e bytes).isPanic = false := noPanic_rUntrustedBlock rd e hps bytes
theorem untrustedBlock_alloc_bound (rd : Rdr) (e : Env) (bytes : Bytes) :
    (rUntrustedBlock rd e bytes).alloc ≤ 93 * bytes.length + (hdrK e.cfg.proofSize + (675 + hdrE e.cfg.proofSize)) := by
  have := (bnd_rUntrustedBlock rd e).alloc_le bytes
  simpa [CB] using this

theorem compactBlockBody_no_panic (rd : Rdr) (c : Cfg) (bytes : Bytes) : (rCompactBody rd c bytes).isPanic = false :=
  noPanic_rCompactBody rd c bytes
/-- `CompactBlockBody::read` has no weight pre-check (only the `read_multi` cap of 10^6 per list);
its allocation is still proportional to the bytes consumed -/
theorem compactBlockBody_alloc_bound (rd : Rdr) (c : Cfg) (bytes : Bytes) :
    (rCompactBody rd c bytes).alloc ≤ 71 * bytes.length + 675 := by
  have := (bnd_rCompactBody rd c).alloc_le bytes
  simpa [CC] using this

theorem untrustedCompactBlock_no_panic (rd : Rdr) (e : Env) (hps : e.cfg.proofSize * 8 ≤ ISIZE_MAX) (bytes : Bytes) :
    (rUntrustedCompactBlock rd e bytes).isPanic = false := noPanic_rUntrustedCompactBlock rd e hps bytes
theorem untrustedCompactBlock_alloc_bound (rd : Rdr) (e : Env) (bytes : Bytes) :
    (rUntrustedCompactBlock rd e bytes).alloc ≤
      71 * bytes.length + (hdrK e.cfg.proofSize + (675 + hdrE e.cfg.proofSize)) := by
  have := (bnd_rUntrustedCompactBlock rd e).alloc_le bytes
  simpa [CC] using this

theorem bitmapBlock_no_panic (rd : Rdr) (bytes : Bytes) : (rBitmapBlock rd bytes).isPanic = false :=
  (erases_rBitmapBlock rd).noPanic bytes
/-- a `BitmapBlock` reserves its zeroed `BitVec` (≤ 8 KiB) before it reads the entry count -/
theorem bitmapBlock_alloc_bound (rd : Rdr) (bytes : Bytes) : (rBitmapBlock rd bytes).alloc ≤ 1 * bytes.length + 16384 :=
  (bnd_rBitmapBlock rd).alloc_le bytes

/-- 4 bytes in (64 chunks, positive mode, 0 entries), 8 KiB requested: the constant is attained -/
example : (rBitmapBlock .buf [64, 1, 0, 0]).alloc = 8192 ∧ (rBitmapBlock .buf [64, 1, 0, 0]).isPanic = false :=
  ⟨rfl, rfl⟩

theorem bitmapBlock_loop_progress (rd : Rdr) (count : Nat) (bytes : Bytes) (xs : List BitmapBlock) (rest : Bytes)
    (n : Nat) (h : readN (rBitmapBlock rd) count bytes = .ok xs rest n) :
    xs.length * 2 + rest.length ≤ bytes.length :=
  readN_progressW (progW_rBitmapBlock rd) count bytes xs rest n h

theorem bitmapSegment_no_panic (rd : Rdr) (bytes : Bytes) : (rBitmapSegment rd bytes).isPanic = false :=
  (erases_rBitmapSegment rd).noPanic bytes
/-- `BitmapSegment::read`: the block count is capped at 128 (height ≤ 13) before anything is allocated;
128 blocks × 8 KiB + the block vector + the proof's capped pre-allocation -/
theorem bitmapSegment_alloc_bound (rd : Rdr) (bytes : Bytes) :
    (rBitmapSegment rd bytes).alloc ≤ 1 * bytes.length + 1093632 := by
  have := (bnd_rBitmapSegment rd).alloc_le bytes
  rw [BITMAP_K_eq] at this
  exact this

theorem segmentResponse_no_panic {α : Type} (rd : Rdr) (p : Dec α) (hp : ∀ bytes, (p bytes).isPanic = false)
    (sz : Nat) (hsz : 1024 * sz ≤ ISIZE_MAX) (bytes : Bytes) : (rSegmentResponse rd p sz bytes).isPanic = false :=
  noPanic_rSegmentResponse rd hp sz hsz bytes

/-- 116769 = 116736 (81920 + 1024 · `OUTPUT_ID_MEM`, the pre-allocations of a segment) + 33 (one failed commitment read) -/
theorem outputSegmentResponse_alloc_bound (rd : Rdr) (bytes : Bytes) :
    (rOutputSegmentResponse rd bytes).alloc ≤ 1 * bytes.length + 116769 :=
  (bnd_rOutputSegmentResponse rd).alloc_le bytes

theorem rangeProofSegmentResponse_alloc_bound (rd : Rdr) (bytes : Bytes) :
    (rSegmentResponse rd (rRangeProof rd) RANGE_PROOF_MEM bytes).alloc ≤ 1 * bytes.length + 787107 := by
  have := (bnd_rSegmentResponse rd (instr_rRangeProof rd).bnd RANGE_PROOF_MEM).alloc_le bytes
  have e : 81920 + 1024 * RANGE_PROOF_MEM + max 32 675 = 787107 := by decide
  omega

theorem kernelSegmentResponse_alloc_bound (rd : Rdr) (c : Cfg) (bytes : Bytes) :
    (rSegmentResponse rd (rTxKernel rd c) KERNEL_MEM bytes).alloc ≤ 1 * bytes.length + 213056 := by
  have := (bnd_rSegmentResponse rd ((Wire.wire_txKernel c).bnd rd) KERNEL_MEM).alloc_le bytes
  have e : 81920 + 1024 * KERNEL_MEM + max 32 64 = 213056 := by decide
  omega

theorem bitmapSegmentResponse_no_panic (rd : Rdr) (bytes : Bytes) : (rBitmapSegmentResponse rd bytes).isPanic = false :=
  noPanic_rBitmapSegmentResponse rd bytes

/-- every payload decoder of `decode_message` is panic-free: the hypothesis of `C11.body_no_panic` -/
theorem payload_no_panic (rd : Rdr) (e : Env) (hps : e.cfg.proofSize * 8 ≤ ISIZE_MAX) (t : Nat) (bytes : Bytes) :
    (payload rd e t bytes).isPanic = false :=
  payload_cases (fun p _ => NoPanic p) rd rd e t
    (NoPanic.map (noPanic_rTransaction rd e.cfg) _)
    (NoPanic.map (noPanic_rUntrustedBlock rd e hps) _)
    (NoPanic.map (noPanic_rUntrustedCompactBlock rd e hps) _)
    (NoPanic.map (noPanic_rUntrustedHeader rd e hps) _)
    (NoPanic.map (noPanic_rBitmapSegmentResponse rd) _)
    (NoPanic.map (erases_rOutputSegmentResponse rd).noPanic _)
    (NoPanic.map (noPanic_rSegmentResponse rd (erases_rRangeProof rd).noPanic RANGE_PROOF_MEM (by decide)) _)
    (NoPanic.map (noPanic_rSegmentResponse rd (((Wire.wire_txKernel e.cfg).erases rd).noPanic) KERNEL_MEM (by decide)) _)
    (NoPanic.fail .corrupted) bytes

/-- **no arm of `decode_message` panics**, for any type byte, any body bytes, either reader, any
protocol version / chain parameters (`e`) -/
theorem decode_message_no_panic (rd : Rdr) (e : Env) (hps : e.cfg.proofSize * 8 ≤ ISIZE_MAX) (t : Nat) (bytes : Bytes) :
    (decodeMessageBody rd e t bytes).isPanic = false :=
  GV.Props.C11.body_no_panic (payload rd e) (payload_no_panic rd e hps) rd t bytes

/-- **allocation of `decode_message`**: at most `93 · len` plus the capped pre-allocations -/
theorem decode_message_alloc_bound (rd : Rdr) (e : Env) (t : Nat) (bytes : Bytes) :
    (decodeMessageBody rd e t bytes).alloc ≤
      93 * bytes.length + (payloadK e.cfg.proofSize + payloadE e.cfg.proofSize) := by
  have : Bnd CB _ _ (decodeMessageBody rd e t) :=
    bnd_decBody (payload rd e) rd CB _ _ (by decide) (by unfold payloadK; rw [BITMAP_K_eq]; omega)
      (by unfold payloadE; omega) (bnd_payload rd e) t
  simpa [CB] using this.alloc_le bytes

/-- mainnet / testnet parameters (`proofsize = 42`): `93 · len + 1 098 723` -/
theorem decode_message_alloc_bound_mainnet (rd : Rdr) (e : Env) (h42 : e.cfg.proofSize = 42) (t : Nat) (bytes : Bytes) :
    (decodeMessageBody rd e t bytes).alloc ≤ 93 * bytes.length + 1098723 := by
  have := decode_message_alloc_bound rd e t bytes
  rw [h42] at this
  have e1 : payloadK 42 + payloadE 42 = 1098723 := by decide
  omega

/-- the hypotheses are satisfiable: a concrete environment -/
example : ∃ e : Env, e.cfg.proofSize * 8 ≤ ISIZE_MAX ∧ e.cfg.proofSize = 42 :=
  ⟨{ cfg := { ver := 3, nrd := false, maxWeight := 40000, proofSize := 42, key := fun _ => 0 },
     ct := .mainnet, now := 0, ftl := 300, powOk := fun _ => true }, by decide, rfl⟩

/-- a `Ping` through the assembled `decode_message` model -/
example : (decodeMessageBody .buf
    { cfg := { ver := 3, nrd := false, maxWeight := 40000, proofSize := 42, key := fun _ => 0 },
      ct := .mainnet, now := 0, ftl := 300, powOk := fun _ => true } 3
    [0, 0, 0, 0, 0, 0, 0, 5, 0, 0, 0, 0, 0, 0, 0, 9]).alloc = 0 := by decide

/-! ## reader independence (`BinReader` = `ser::deserialize`, `BufReader` = the codec)

The models distinguish the readers only in *when* `read_fixed_bytes` allocates; value, unread rest
(hence consumed length) and error kind do not depend on the reader.  Stated for every input, so in
particular for every prefix of a valid encoding. -/

/-- forgetting the allocation ghost determines the class text the harness prints -/
theorem cls_of_toExcept {α : Type} {o1 o2 : Outcome α} (h : o1.toExcept = o2.toExcept) (len : Nat) :
    o1.cls len = o2.cls len := by
  cases o1 <;> cases o2 <;> simp_all [Outcome.toExcept, Outcome.cls]

/-- every payload decoder of `decode_message` (transactions, blocks, compact blocks, headers, the four
segment responses incl. bitmap segments) gives the same value / rest / error through both readers -/
theorem payload_readers_agree (e : Env) (t : Nat) (bytes : Bytes) :
    (payload .bin e t bytes).toExcept = (payload .buf e t bytes).toExcept := agree_payload .bin .buf e t bytes

/-- **the two readers agree on every prefix** (cut at any offset `n`) of any byte string `enc`, for every
body `decode_message` dispatches except `BanReason`, at every protocol version / chain parameters `e`:
same verdict class, same consumed length, same decoded value -/
theorem readers_agree_on_prefixes (e : Env) (t : Nat) (ht : t ≠ GV.Gen.Msg.T_BanReason) (enc : Bytes) (n : Nat) :
    (decodeMessageBody .bin e t (enc.take n)).toExcept = (decodeMessageBody .buf e t (enc.take n)).toExcept ∧
    (decodeMessageBody .bin e t (enc.take n)).cls (enc.take n).length =
      (decodeMessageBody .buf e t (enc.take n)).cls (enc.take n).length := by
  have h := agree_decBody (pl := payload .bin e) (pl' := payload .buf e) .bin .buf (agree_payload .bin .buf e) t ht
    (enc.take n)
  exact ⟨h, cls_of_toExcept h _⟩

/-- the item decoders the harness also feeds directly -/
theorem item_readers_agree (c : Cfg) (bytes : Bytes) :
    (rTxKernel .bin c bytes).toExcept = (rTxKernel .buf c bytes).toExcept ∧
    (rInput .bin bytes).toExcept = (rInput .buf bytes).toExcept ∧
    (rOutput .bin bytes).toExcept = (rOutput .buf bytes).toExcept ∧
    (rRangeProof .bin bytes).toExcept = (rRangeProof .buf bytes).toExcept ∧
    (rBlockHeader .bin c bytes).toExcept = (rBlockHeader .buf c bytes).toExcept ∧
    (rBitmapSegment .bin bytes).toExcept = (rBitmapSegment .buf bytes).toExcept :=
  ⟨agree_rTxKernel _ _ c bytes, (erases_rInput _).agree (erases_rInput _) bytes,
   (erases_rOutput _).agree (erases_rOutput _) bytes, agree_rRangeProof _ _ bytes,
   agree_rBlockHeader _ _ c bytes, agree_rBitmapSegment _ _ bytes⟩

/-- `Segment<T>::read` for any leaf reader that is itself reader-independent -/
theorem segment_readers_agree {α : Type} (p q : Dec α) (hp : ∀ bytes, (p bytes).toExcept = (q bytes).toExcept)
    (sz : Nat) (bytes : Bytes) : (segment .bin p sz bytes).toExcept = (segment .buf q sz bytes).toExcept :=
  agree_segment .bin .buf hp sz bytes

/-- the exception is real: `BanReason::read` replaces a failed `read_i32` by 0, after which a `BinReader`
over a slice has consumed the rest of the slice and a `BufReader` nothing — on the 1-byte prefix `[1]`
both answer `ok`, with consumed lengths 1 and 0 -/
example : (match decBanReason (P := Unit) .bin [1], decBanReason (P := Unit) .buf [1] with
    | .ok _ r1 _, .ok _ r2 _ => r1.length + 1 == r2.length
    | _, _ => false) = true := by decide

/-- a cut inside the zero padding of a v1 `Plain` kernel (feature byte, fee, 3 of 8 padding bytes):
`IOErr` with nothing allocated, through either reader -/
example : ∀ rd, rTxKernel rd { ver := 1, nrd := false, maxWeight := 40000, proofSize := 42, key := fun _ => 0 }
    [0, 0, 0, 0, 0, 0, 0, 0, 9, 0, 0, 0] = .err .ioEof 0 := by
  intro rd; cases rd <;> decide

end GV.Props.C11Ser
