import GrinVerif.Props.XlatePow
/-! # Translated `CuckooParams::sipnode` (`core/src/pow/common.rs`) = `Pow.sipnode`

`GV.Gen.Fns.CuckooParams_sipnode` (file `Gen/FnsPow.lean`) is regenerated on every check run from the CURRENT
Rust source; `self.siphash_keys` / `self.node_mask` are the parameters `self_siphash_keys` (a list) /
`self_node_mask`; `Result<u64, Error>` is `Option Nat` (the function only returns `Ok`). -/

namespace GV.Props.XlateSipnode
open GV GV.Gen GV.Xlate GV.Props.XlatePow

/-- `sipnode(edge, uorv) = Ok(siphash24(keys, 2 * edge + uorv) & node_mask)` for every key, mask, edge and
`uorv` (the wrapping `2 * edge + uorv` agrees with the model's `UInt64` arithmetic) -/
theorem sipnode_eq (k : GV.Pow.Keys) (mask edge uorv : UInt64) :
    Fns.CuckooParams_sipnode [k.k0.toNat, k.k1.toNat, k.k2.toNat, k.k3.toNat] mask.toNat edge.toNat uorv.toNat
      = some (GV.Pow.sipnode k mask edge uorv).toNat := by
  unfold Fns.CuckooParams_sipnode GV.Pow.sipnode
  rw [mul2_toNat, addW_toNat, siphash24_eq]
  simp only [← UInt64.toNat_and]

theorem sipnode_ok (a b c d mask edge uorv : Nat) :
    Fns.CuckooParams_sipnode_ok [a, b, c, d] mask edge uorv = true := by
  unfold Fns.CuckooParams_sipnode_ok; exact siphash24_ok a b c d _

example : Fns.CuckooParams_sipnode [1, 2, 3, 4] (2^29 - 1) 5 0 = some (Fns.siphash24 [1, 2, 3, 4] 10 % 2^29) := by
  unfold Fns.CuckooParams_sipnode
  have : addW (mulW 2 5) 0 = 10 := by decide
  rw [this]
  simp only [Nat.and_two_pow_sub_one_eq_mod]

end GV.Props.XlateSipnode
