import GrinVerif.Model.PmmrViews
import GrinVerif.Lemmas.BitmapLoop
/-! # C07 — the leaf iterators of the Vec backend with pruned leaves (`Model/PmmrViews.lean`,
`VecBackend::leaf_pos_iter` / `leaf_idx_iter`): full characterisation. -/
namespace GV.Props.C07Views
open GV GV.Pmmr

variable {α H : Type}

/-- `leaf_pos_iter()` of a backend holding the MMR of `n` leaves: the positions of the leaves that
are not in the remove log, ascending -/
theorem leaf_pos_iter_pruned (b : DBackend α H) (n : Nat) (hlen : b.hashes.length = mmr n) :
    vLeafPosIter b = ((List.range n).filter fun i => !b.removed.contains (mmr i)).map mmr := by
  unfold vLeafPosIter
  rw [hlen]
  have h1 : (List.range (mmr n)).filter (fun x => isLeaf x && !b.removed.contains x) =
      ((List.range (mmr n)).filter isLeaf).filter (fun x => !b.removed.contains x) := by
    rw [List.filter_filter]
    congr 1
    funext x
    exact Bool.and_comm _ _
  rw [h1]
  have h2 := GV.Bitmap.leafPosIter_mmr n
  unfold GV.Bitmap.leafPosIter at h2
  rw [h2, List.filter_map]
  rfl

/-- **`leaf_idx_iter(from)` over a backend with pruned leaves yields exactly the insertion indices
`≥ from` of the leaves that are not pruned, ascending** — each the index of its own position (so
`insertion_to_pmmr_index(idx)` is a position `leaf_pos_iter` yields), whatever was pruned before or
after the first leaf yielded -/
theorem leaf_idx_iter_pruned (b : DBackend α H) (n from_ : Nat) (hlen : b.hashes.length = mmr n) :
    vLeafIdxIter b from_ =
      (List.range n).filter fun i => decide (from_ ≤ i) && !b.removed.contains (insertionToPmmrIndex i) := by
  unfold vLeafIdxIter
  rw [leaf_pos_iter_pruned b n hlen]
  have hs : (((List.range n).filter fun i => !b.removed.contains (mmr i)).map mmr).Pairwise (· < ·) := by
    rw [List.pairwise_map]
    exact (List.pairwise_lt_range.filter _).imp (fun h => Co.mmr_lt_mmr h)
  rw [dropWhile_lt_sorted _ _ hs, List.filter_map, List.map_map, List.filter_filter]
  have hid : ∀ i, ((fun x => nLeaves (x + 1) - 1) ∘ mmr) i = i := fun i => by
    show nLeaves (mmr i + 1) - 1 = i
    rw [Nat.add_comm]; exact Co.nLeaves_succ_mmr_sub i
  rw [List.map_congr_left (fun i _ => hid i), List.map_id']
  apply List.filter_congr
  intro i _
  have e : decide (insertionToPmmrIndex from_ ≤ mmr i) = decide (from_ ≤ i) :=
    decide_eq_decide.2 Co.mmr_le_iff
  simp only [Function.comp]
  rw [e]
  rfl

/-- non-vacuity: 11 leaves, insertion indices 2, 5, 6 pruned,
iterating from 0, 3 and 5 -/
example :
    let b : DBackend Nat Nat := { hashes := List.replicate (mmr 11) 0, data := [], removed := [mmr 2, mmr 5, mmr 6] }
    b.hashes.length = mmr 11 ∧
    vLeafIdxIter b 0 = [0, 1, 3, 4, 7, 8, 9, 10] ∧ vLeafIdxIter b 3 = [3, 4, 7, 8, 9, 10] ∧
    vLeafIdxIter b 5 = [7, 8, 9, 10] := by
  decide +kernel

end GV.Props.C07Views
