import GrinVerif.Props.C05
/-! # C05 — `Difficulty::from_proof_scaled` / `from_proof_adjusted` at the extremes, in closed form

`Props/C05.lean toDifficulty_exact` gives the general closed form (`max 1 (min (2^64-1)
(⌊scale·2^64 / max 1 h⌋))`).  The corner values, for every packed proof (every hash prefix `h`):
secondary scaling 0 and `u32::MAX`, the smallest and the largest primary graph (`edge_bits =
base_edge_bits` and 63), and the C31 weight after its phase-out. -/
namespace GV.Props.C05Diff
open GV GV.Pow GV.Gen GV.Props.C05

/-- `from_proof_scaled(proof, 0)`: the quotient is 0, `Difficulty::from_num` lifts it to 1 — whatever
the proof -/
theorem secondary_scaling_zero (c : ChainType) (height : Nat) (packed : Bytes) :
    toDifficulty c height SECOND_POW_EDGE_BITS 0 packed = 1 := by
  rw [toDifficulty_exact _ _ _ _ _ (by decide), if_pos rfl]
  have : diffExact 0 (hashPrefix packed) = 0 := by unfold diffExact; simp
  rw [this]; rfl

/-- `from_proof_scaled(proof, u32::MAX)`: `min (2^64-1) ⌊(2^32-1)·2^64 / max 1 h⌋`, lifted to at least 1 -/
theorem secondary_scaling_max (c : ChainType) (height : Nat) (packed : Bytes) :
    toDifficulty c height SECOND_POW_EDGE_BITS (2^32 - 1) packed =
      max (min (((2^32 - 1) * 2^64) / max 1 (hashPrefix packed)) (2^64 - 1)) 1 := by
  rw [toDifficulty_exact _ _ _ _ _ (by decide), if_pos rfl]
  rfl

/-- the smallest primary graph (`edge_bits = base_edge_bits`, not the C31 phase-out case): weight
`2 · edge_bits`, difficulty `max 1 (min (2^64-1) ⌊2·eb·2^64 / max 1 h⌋)` -/
theorem primary_at_base (c : ChainType) (height sec : Nat) (packed : Bytes) (hsec : sec < 2^32)
    (hne : baseEdgeBits c ≠ SECOND_POW_EDGE_BITS) (h31 : baseEdgeBits c ≠ 31) :
    graphWeight c height (baseEdgeBits c) = 2 * baseEdgeBits c ∧
    toDifficulty c height (baseEdgeBits c) sec packed =
      max (diffExact (2 * baseEdgeBits c) (hashPrefix packed)) 1 := by
  have hb63 : baseEdgeBits c ≤ 63 := by cases c <;> decide
  have hw : graphWeight c height (baseEdgeBits c) = 2 * baseEdgeBits c := by
    rw [graphWeight_nowrap c height _ (Nat.le_refl _) hb63]
    have : xprEdgeBits height (baseEdgeBits c) = baseEdgeBits c := by
      unfold xprEdgeBits; rw [if_neg (fun h => h31 h.1)]
    rw [this, Nat.sub_self]
  refine ⟨hw, ?_⟩
  rw [toDifficulty_exact _ _ _ _ _ hsec, if_neg hne, hw]

/-- the largest graph a wire proof can claim (`edge_bits = 63`): weight `2^(64 - base) · 63`, no wrap -/
theorem primary_at_63 (c : ChainType) (height sec : Nat) (packed : Bytes) (hsec : sec < 2^32) :
    graphWeight c height 63 = 2^(64 - baseEdgeBits c) * 63 ∧
    toDifficulty c height 63 sec packed =
      max (diffExact (2^(64 - baseEdgeBits c) * 63) (hashPrefix packed)) 1 := by
  have hb : baseEdgeBits c ≤ 63 := by cases c <;> decide
  have hw : graphWeight c height 63 = 2^(64 - baseEdgeBits c) * 63 := by
    rw [graphWeight_nowrap c height 63 hb (Nat.le_refl _)]
    have : xprEdgeBits height 63 = 63 := by unfold xprEdgeBits; rw [if_neg (by omega)]
    rw [this]
    congr 2
    omega
  refine ⟨hw, ?_⟩
  have : (63 : Nat) ≠ SECOND_POW_EDGE_BITS := by decide
  rw [toDifficulty_exact _ _ _ _ _ hsec, if_neg this, hw]

/-- C31 after its phase-out (31 weeks past the first year and later): weight 0, so every C31 proof
is worth the minimum difficulty 1 -/
theorem c31_phased_out (c : ChainType) (height sec : Nat) (packed : Bytes) (hsec : sec < 2^32)
    (hh : YEAR_HEIGHT + 30 * WEEK_HEIGHT ≤ height) :
    toDifficulty c height 31 sec packed = 1 := by
  have hx : xprEdgeBits height 31 = 0 := by
    unfold xprEdgeBits satSub
    have hy : height ≥ YEAR_HEIGHT := by omega
    rw [if_pos ⟨rfl, hy⟩]
    have hw : 0 < WEEK_HEIGHT := by decide
    have : 30 ≤ (height - YEAR_HEIGHT) / WEEK_HEIGHT := by
      rw [Nat.le_div_iff_mul_le hw]; omega
    omega
  have hw : graphWeight c height 31 = 0 := by
    unfold graphWeight
    simp only [hx]
    unfold mulW; simp
  have : (31 : Nat) ≠ SECOND_POW_EDGE_BITS := by decide
  rw [toDifficulty_exact _ _ _ _ _ hsec, if_neg this, hw]
  have : diffExact 0 (hashPrefix packed) = 0 := by unfold diffExact; simp
  rw [this]; rfl

example : baseEdgeBits .mainnet ≠ SECOND_POW_EDGE_BITS ∧ baseEdgeBits .mainnet ≠ 31 := by decide
example : graphWeight .mainnet 0 63 = 2^40 * 63 := by decide

end GV.Props.C05Diff
