import GrinVerif.Lemmas.DesegServe
/-! # C16 — the desegmenter as a whole machine (`chain/src/txhashset/desegmenter.rs`)

Property theorems about `Model/Deseg.lean` (bitmap phase → `finalize_bitmap` → the three trees;
`add_*_segment`, `apply_next_segments`, `next_desired_segments`, `check_progress`), tied to the real
`Desegmenter` by the runs `deseg synth` / `deseg chain` (every observable of every step is recomputed
by the model).  Helper lemmas: `Lemmas/Deseg*.lean`.

Reading guide.  `Inv No Nk s`: the state belongs to a sync towards an archive header with `No`
output leaves and `Nk` kernel leaves: heights in range, every cached segment has the asked height,
every local MMR ends at a segment boundary (or at the genesis leaf / at the archive size), nothing
was ever applied beyond the end of a local MMR (`misapplied = false`), a finalised bitmap is
complete.  `remaining s`: leaves still missing over the four trees (+1 until the bitmap is
finalised).  `Needed No Nk s`: the segment the current phase needs next is in its cache. -/
namespace GV.Props.C16Deseg
open GV GV.Pmmr GV.Seg GV.Deseg

/-- what can happen to a desegmenter: a segment of any kind, identifier and content arrives;
`apply_next_segments`; `next_desired_segments(max)` -/
inductive Ev
  | add (k : Kind) (x : SegIn)
  | apply
  | want (max : Nat)

def step (s : St) : Ev → St
  | .add k x => (s.addSegment k x).1
  | .apply => s.applyNextSegments
  | .want m => (s.nextDesiredSegments m).1

def run (s : St) (es : List Ev) : St := es.foldl step s

/-- assumption on deliveries: a bitmap segment carries no chunk beyond its range (a recorded
finding: `apply_bitmap_segment` appends every chunk it is given; see the `probe` run) -/
def CleanEv : Ev → Prop
  | .add .bitmap x => x.extra = 0
  | _ => True

theorem step_inv (No Nk : Nat) (s : St) (e : Ev) (hi : Inv No Nk s) (hc : CleanEv e) :
    Inv No Nk (step s e) := by
  cases e with
  | add k x =>
    refine add_inv No Nk s k x hi ?_
    intro hk; subst hk; exact hc
  | apply => exact apply_inv No Nk s hi
  | want m => exact want_inv No Nk s m hi

/-- **The invariant holds in every reachable state**: whatever segments arrive (any kind, height,
index, content, order, multiplicity), interleaved in any way with `apply_next_segments` and
`next_desired_segments`. -/
theorem run_inv (No Nk : Nat) : ∀ (es : List Ev) (s : St), Inv No Nk s → (∀ e ∈ es, CleanEv e) →
    Inv No Nk (run s es)
  | [], _, hi, _ => hi
  | e :: es, s, hi, hc => by
    show Inv No Nk (run (step s e) es)
    exact run_inv No Nk es _ (step_inv No Nk s e hi (hc e List.mem_cons_self))
      (fun x hx => hc x (List.mem_cons_of_mem _ hx))

/-- … starting from `Desegmenter::new` on a fresh chain (local MMRs hold at most the genesis
element), for every archive header with at least one output and two kernels and every choice of
segment heights (≥ 1 for the three main trees). -/
theorem deseg_invariant (hB hO hR hK No Nk gOut gKer : Nat) (hb : hB ≤ 61) (ho1 : 1 ≤ hO) (ho : hO ≤ 61)
    (hr1 : 1 ≤ hR) (hr : hR ≤ 61) (hk1 : 1 ≤ hK) (hk : hK ≤ 61) (hNo : 1 ≤ No) (hNoS : No < 2 ^ 62)
    (hNk : 2 ≤ Nk) (hNkS : Nk < 2 ^ 62) (hgo : gOut ≤ 1) (hgk : gKer ≤ 1)
    (es : List Ev) (hc : ∀ e ∈ es, CleanEv e) :
    Inv No Nk (run (St.new hB hO hR hK (mmr No) (mmr Nk) gOut gKer) es) :=
  run_inv No Nk es _ (new_inv hB hO hR hK No Nk gOut gKer hb ho1 ho hr1 hr hk1 hk hNo hNoS hNk hNkS hgo hgk) hc

/-- the hypotheses are satisfiable: the shipped heights, a small archive header, a fresh chain -/
example : Inv 5 3 (run (St.new 9 11 11 11 (mmr 5) (mmr 3) 1 1)
    [.want 15, .add .bitmap ⟨⟨9, 0⟩, true, 0, 0⟩, .apply, .add .kernel ⟨⟨3, 7⟩, true, 0, 0⟩, .apply]) :=
  deseg_invariant 9 11 11 11 5 3 1 1 (by omega) (by omega) (by omega) (by omega) (by omega) (by omega)
    (by omega) (by omega) (by omega) (by omega) (by omega) (by omega) (by omega) _
    (by intro e he; simp only [List.mem_cons, List.mem_nil_iff, or_false] at he
        rcases he with h | h | h | h | h <;> subst h <;> simp [CleanEv])

/-- **No segment is ever applied beyond the end of a local MMR** (what the foreign-height defect
did: a segment of another height with the index of the required one was taken from the cache and
its leaves pushed with a gap): in no reachable state. -/
theorem never_applies_beyond_local_mmr (No Nk : Nat) (s : St) (hi : Inv No Nk s) (es : List Ev)
    (hc : ∀ e ∈ es, CleanEv e) : (run s es).misapplied = false :=
  (run_inv No Nk es s hi hc).noMis

/-- every segment in a cache has the height that was asked for -/
theorem cached_have_asked_height (No Nk : Nat) (s : St) (hi : Inv No Nk s) (k : Kind) :
    ∀ c ∈ (s.treeOf k).cache, c.id.height = s.heightOf k := by
  cases k with
  | bitmap => exact hi.bm.own
  | output => exact hi.out.own
  | rangeproof => exact hi.rp.own
  | kernel => exact hi.ker.own

/-- a local MMR never grows beyond the archive header's and is always the MMR of a leaf count -/
theorem local_mmrs_bounded (No Nk : Nat) (s : St) (hi : Inv No Nk s) :
    s.out.size = mmr s.out.leaves ∧ s.out.leaves ≤ No ∧ s.rp.size = mmr s.rp.leaves ∧ s.rp.leaves ≤ No ∧
      s.ker.size = mmr s.ker.leaves ∧ s.ker.leaves ≤ Nk ∧
      s.bm.size = mmr s.bm.leaves ∧ s.bm.leaves ≤ Dsg.expectedChunks No :=
  ⟨hi.out.size_eq, hi.out.leaves_le, hi.rp.size_eq, hi.rp.leaves_le, hi.ker.size_eq, hi.ker.leaves_le,
    hi.bm.size_eq, hi.bm.leaves_le⟩

theorem add_accepts_iff (s : St) (k : Kind) (x : SegIn) :
    (s.addSegment k x).2 = .ok ↔
      x.id.height = s.heightOf k ∧ x.id.unprunedSize (s.archiveOf k) ≠ 0 ∧ x.valid = true :=
  addSegment_ok_iff s k x

theorem refused_segment_changes_nothing (s : St) (k : Kind) (x : SegIn) (h : (s.addSegment k x).2 ≠ .ok) :
    (s.addSegment k x).1 = s :=
  addSegment_refused s k x h

/-- a segment of a height that was not asked for is refused with `InvalidSegmentHeight`, whatever
its content (repair 11f03601e) -/
theorem foreign_height_refused (s : St) (k : Kind) (x : SegIn) (h : x.id.height ≠ s.heightOf k) :
    s.addSegment k x = (s, .invalidSegmentHeight) := by
  unfold St.addSegment; rw [if_pos h]

/-- `check_progress` answers "complete" exactly when nothing remains: all three local MMRs have
the archive header's sizes and the bitmap is finalised and complete -/
theorem complete_iff (No Nk : Nat) (s : St) (hi : Inv No Nk s) :
    s.checkProgress = true ↔ s.remaining = 0 :=
  checkProgress_iff No Nk s hi

theorem complete_sizes (No Nk : Nat) (s : St) (hi : Inv No Nk s) (h : s.checkProgress = true) :
    s.out.size = s.outSize ∧ s.rp.size = s.outSize ∧ s.ker.size = s.kerSize ∧ s.bitmapCache = true ∧
      s.bm.leaves = Dsg.expectedChunks No := by
  have hf := hi.fin
  unfold St.checkProgress at h
  simp only [Bool.and_eq_true, beq_iff_eq] at h
  obtain ⟨⟨⟨h1, h2⟩, h3⟩, h4⟩ := h
  exact ⟨h2, h3, h1, h4, hf h4⟩

/-- `apply_next_segments` never loses ground … -/
theorem apply_never_regresses (No Nk : Nat) (s : St) (hi : Inv No Nk s) :
    s.applyNextSegments.remaining ≤ s.remaining :=
  apply_remaining_le No Nk s hi

/-- … and **makes progress as soon as the segment that comes next is cached**, whatever else is
cached (duplicates, early arrivals, late copies of applied segments) -/
theorem apply_makes_progress (No Nk : Nat) (s : St) (hi : Inv No Nk s) (hn : Needed No Nk s) :
    s.applyNextSegments.remaining < s.remaining :=
  apply_progress No Nk s hi hn

/-- while the sync is incomplete there IS a next step: a bitmap segment, the finalisation of the
bitmap, or a segment of one of the three trees -/
theorem incomplete_has_next (No Nk : Nat) (s : St) (hi : Inv No Nk s) (hr : s.remaining ≠ 0) :
    (∃ k, Pos false s.hB (Dsg.expectedChunks No) s.bm.leaves (some k)) ∨
    (Pos false s.hB (Dsg.expectedChunks No) s.bm.leaves none ∧
      (s.bitmapCache = false ∨ (∃ k, Pos true s.hO No s.out.leaves (some k)) ∨
        (∃ k, Pos true s.hR No s.rp.leaves (some k)) ∨ (∃ k, Pos true s.hK Nk s.ker.leaves (some k)))) :=
  next_exists No Nk s hi hr

/-- **In the bitmap phase the request list starts with the bitmap segment that comes next**, unless
it is cached, for every `max_elements` — also when that segment adds a single position (a one-chunk
bitmap): the `>=` of the repair d6b49984d. -/
theorem bitmap_phase_asks_for_next_first (No Nk : Nat) (s : St) (hi : Inv No Nk s)
    (hbc : s.bitmapCache = false) (k : Nat)
    (p : Pos false s.hB (Dsg.expectedChunks No) s.bm.leaves (some k))
    (hnc : hasId s.bm.cache { height := s.hB, idx := k } = false) (max : Nat) :
    ∃ t, s.desired max = (Kind.bitmap, ⟨s.hB, k⟩) :: t :=
  desired_bitmap_next No Nk s hi hbc k p hnc max

/-- a fresh desegmenter (5 outputs, 3 kernels, the shipped heights) asks for bitmap segment 0 first -/
example : ∃ t, (St.new 9 11 11 11 (mmr 5) (mmr 3) 1 1).desired 15 = (Kind.bitmap, ⟨9, 0⟩) :: t := by
  have hi := new_inv 9 11 11 11 5 3 1 1 (by omega) (by omega) (by omega) (by omega) (by omega) (by omega)
    (by omega) (by omega) (by omega) (by omega) (by omega) (by omega) (by omega)
  refine bitmap_phase_asks_for_next_first 5 3 _ hi rfl 0 ?_ rfl 15
  have := Pos.boundary (gen := false) (h := 9) (N := Dsg.expectedChunks 5) 0 (by decide)
  have e : nLeaves 0 = 0 := by
    have h := Co.nLeaves_mmr 0
    rw [Co.mmr_zero] at h
    exact h
  show Pos false 9 (Dsg.expectedChunks 5) (nLeaves 0) (some 0)
  rw [e]; exact this

/-- **After the bitmap phase the request list contains the kernel segment that comes next**, unless
it is cached, for every `max_elements` (its "ensure" step is the last one, nothing can push it out).
For the output and rangeproof trees this needs `max_elements ≥ 3`: with fewer the later "ensure"
steps push the earlier ones out of the list (`small_request_starves`; recorded finding, `probe` run). -/
theorem request_contains_next_kernel_segment (No Nk : Nat) (s : St) (hi : Inv No Nk s)
    (hbc : s.bitmapCache = true) (k : Nat) (p : Pos true s.hK Nk s.ker.leaves (some k))
    (hnc : hasId s.ker.cache { height := s.hK, idx := k } = false) (max : Nat) :
    (Kind.kernel, ({ height := s.hK, idx := k } : Ident)) ∈ s.desired max :=
  desired_kernel_next No Nk s hi hbc k p hnc max

/-- one round of the sync loop (`state_sync.rs`): deliveries, then `apply_next_segments` -/
def round (feed : St → List Delivery) (s : St) : St := (s.deliverAll (feed s)).applyNextSegments

/-- `n` rounds.  (The round count is the LAST argument on purpose: the kernel compares the
arguments of `rounds … =?= rounds …` from the last one backwards, and refuting `s =?= round feed s`
means unfolding the whole machine.) -/
def rounds (feed : St → List Delivery) : St → Nat → St
  | s, 0 => s
  | s, n + 1 => rounds feed (round feed s) n

theorem round_inv (No Nk : Nat) (feed : St → List Delivery)
    (hclean : ∀ s, ∀ d ∈ feed s, d.kind = .bitmap → d.seg.extra = 0) (s : St) (hi : Inv No Nk s) :
    Inv No Nk (round feed s) :=
  apply_inv No Nk _ (deliverAll_inv No Nk (feed s) s hi (hclean s))

theorem round_remaining_le (No Nk : Nat) (feed : St → List Delivery)
    (hclean : ∀ s, ∀ d ∈ feed s, d.kind = .bitmap → d.seg.extra = 0) (s : St) (hi : Inv No Nk s) :
    (round feed s).remaining ≤ s.remaining := by
  have h := apply_never_regresses No Nk _ (deliverAll_inv No Nk (feed s) s hi (hclean s))
  rw [deliverAll_remaining] at h
  exact h

theorem round_remaining_lt (No Nk : Nat) (feed : St → List Delivery)
    (hclean : ∀ s, ∀ d ∈ feed s, d.kind = .bitmap → d.seg.extra = 0) (s : St) (hi : Inv No Nk s)
    (hn : Needed No Nk (s.deliverAll (feed s))) :
    (round feed s).remaining < s.remaining := by
  have h := apply_progress No Nk _ (deliverAll_inv No Nk (feed s) s hi (hclean s)) hn
  rw [deliverAll_remaining] at h
  exact h

/-- **State sync completes under honest service**: if in every round the peers deliver — among
anything else, in any order — the segment the desegmenter needs next, then after at most
`remaining` rounds `check_progress` reports completion (and it stays complete). -/
theorem honest_sync_completes (No Nk : Nat) (feed : St → List Delivery)
    (hclean : ∀ s, ∀ d ∈ feed s, d.kind = .bitmap → d.seg.extra = 0)
    (hserve : ∀ s, Inv No Nk s → s.remaining ≠ 0 → Needed No Nk (s.deliverAll (feed s))) :
    ∀ (n : Nat) (s : St), Inv No Nk s → s.remaining ≤ n → (rounds feed s n).checkProgress = true
  | 0, s, hi, hr => (complete_iff No Nk s hi).mpr (Nat.le_zero.mp hr)
  | n + 1, s, hi, hr => by
    show (rounds feed (round feed s) n).checkProgress = true
    refine honest_sync_completes No Nk feed hclean hserve n _ (round_inv No Nk feed hclean s hi) ?_
    by_cases h0 : s.remaining = 0
    · exact Nat.le_trans (round_remaining_le No Nk feed hclean s hi) (by rw [h0]; exact Nat.zero_le n)
    · exact Nat.le_of_lt_succ
        (Nat.lt_of_lt_of_le (round_remaining_lt No Nk feed hclean s hi (hserve s hi h0)) hr)

/-- **After the bitmap phase, with `max_elements ≥ 3`, the request list contains the segment that
comes next in EACH of the three trees** (unless cached), in every regular state.  Why it holds although the output / rangeproof loops test
`last > local` and therefore skip a final segment that adds a single leaf: a tree whose next segment
is not taken by its own loop contributes nothing to the round-robin part (`wantTree_next`), so the
list has room when its "ensure" step runs and nothing is ever popped (`ensure_three`). -/
theorem request_contains_next_segment_of_every_tree (No Nk : Nat) (s : St) (hi : Inv No Nk s)
    (hbc : s.bitmapCache = true) (max : Nat) (hm : 3 ≤ max) :
    (∀ k, Pos true s.hO No s.out.leaves (some k) → hasId s.out.cache { height := s.hO, idx := k } = false →
      (Kind.output, ({ height := s.hO, idx := k } : Ident)) ∈ s.desired max) ∧
    (∀ k, Pos true s.hR No s.rp.leaves (some k) → hasId s.rp.cache { height := s.hR, idx := k } = false →
      (Kind.rangeproof, ({ height := s.hR, idx := k } : Ident)) ∈ s.desired max) ∧
    (∀ k, Pos true s.hK Nk s.ker.leaves (some k) → hasId s.ker.cache { height := s.hK, idx := k } = false →
      (Kind.kernel, ({ height := s.hK, idx := k } : Ident)) ∈ s.desired max) :=
  desired_all_next No Nk s hi hbc max hm

theorem request_contains_next_output_segment (No Nk : Nat) (s : St) (hi : Inv No Nk s)
    (hbc : s.bitmapCache = true) (max : Nat) (hm : 3 ≤ max) (k : Nat)
    (p : Pos true s.hO No s.out.leaves (some k))
    (hnc : hasId s.out.cache { height := s.hO, idx := k } = false) :
    (Kind.output, ({ height := s.hO, idx := k } : Ident)) ∈ s.desired max :=
  (desired_all_next No Nk s hi hbc max hm).1 k p hnc

theorem request_contains_next_rangeproof_segment (No Nk : Nat) (s : St) (hi : Inv No Nk s)
    (hbc : s.bitmapCache = true) (max : Nat) (hm : 3 ≤ max) (k : Nat)
    (p : Pos true s.hR No s.rp.leaves (some k))
    (hnc : hasId s.rp.cache { height := s.hR, idx := k } = false) :
    (Kind.rangeproof, ({ height := s.hR, idx := k } : Ident)) ∈ s.desired max :=
  (desired_all_next No Nk s hi hbc max hm).2.1 k p hnc

/-- the case the loops miss and the "ensure" step saves: 3 outputs at height 1, local MMR of 2
leaves — the next (final) segment adds one leaf, `last = local`; the list still names it -/
def exLateOutput : St :=
  { (St.new 9 1 1 1 (mmr 3) (mmr 3) 1 1) with bitmapCache := true, bm := ⟨mmr 1, [], []⟩, out := ⟨mmr 2, [], []⟩ }

example : exLateOutput.desired 3 =
    [(Kind.rangeproof, ⟨1, 0⟩), (Kind.kernel, ⟨1, 0⟩), (Kind.output, ⟨1, 1⟩)] := by decide +kernel

/-- **`max_elements ≤ 2`: the request list is exactly what the three "ensure" steps build from the
empty list** (the quota `max_elements / 3` is 0), in EVERY state after the bitmap phase -/
theorem small_request_is_ensure_steps (s : St) (hbc : s.bitmapCache = true) (max : Nat) (hm : max ≤ 2) :
    s.desired max =
      ensureNext max (ensureNext max (ensureNext max [] .output s.hO (s.nextRequired .output) s.out.cache)
        .rangeproof s.hR (s.nextRequired .rangeproof) s.rp.cache) .kernel s.hK (s.nextRequired .kernel) s.ker.cache :=
  desired_small s hbc max hm

/-- … hence, while all three trees wait for a segment that is not cached, `max_elements = 2` never
asks for the rangeproof segment and `max_elements ≤ 1` asks for the kernel segment only: a caller
that passes fewer than 3 starves a tree (recorded observation; the node passes 15) -/
theorem small_request_starves (s : St) (hbc : s.bitmapCache = true) (o r k : Nat)
    (ho : s.nextRequired .output = some o) (hr : s.nextRequired .rangeproof = some r)
    (hk : s.nextRequired .kernel = some k)
    (co : hasId s.out.cache { height := s.hO, idx := o } = false)
    (cr : hasId s.rp.cache { height := s.hR, idx := r } = false)
    (ck : hasId s.ker.cache { height := s.hK, idx := k } = false) :
    s.desired 2 = [(Kind.output, ⟨s.hO, o⟩), (Kind.kernel, ⟨s.hK, k⟩)] ∧
    s.desired 1 = [(Kind.kernel, ⟨s.hK, k⟩)] ∧ s.desired 0 = [(Kind.kernel, ⟨s.hK, k⟩)] :=
  desired_small_all s hbc o r k ho hr hk co cr ck

/-- the hypotheses are satisfiable (the state the `probe` run reports: 3 outputs, heights 1) -/
def exAllWaiting : St :=
  { (St.new 0 1 1 1 (mmr 3) (mmr 3) 1 1) with bitmapCache := true, bm := ⟨mmr 1, [], []⟩ }

example : exAllWaiting.desired 2 = [(Kind.output, ⟨1, 0⟩), (Kind.kernel, ⟨1, 0⟩)] ∧
    exAllWaiting.desired 1 = [(Kind.kernel, ⟨1, 0⟩)] ∧
    exAllWaiting.desired 3 = [(Kind.output, ⟨1, 0⟩), (Kind.rangeproof, ⟨1, 0⟩), (Kind.kernel, ⟨1, 0⟩)] := by
  decide +kernel

/-- **Serving the request list gives the machine what it needs next** (`Needed`, the hypothesis of
`apply_makes_progress`): in every regular incomplete state, for `max_elements ≥ 3`, whatever else
is delivered in whatever order -/
theorem served_requests_give_needed (No Nk : Nat) (s : St) (hi : Inv No Nk s) (hr : s.remaining ≠ 0)
    (max : Nat) (hm : 3 ≤ max) (ds : List Delivery) (ha : Answers (s.desired max) ds) :
    Needed No Nk (s.deliverAll ds) :=
  served_is_needed No Nk s hi hr max hm ds ha

/-- **The closed loop completes**: a node that in every round asks with
`next_desired_segments(max_elements)`, `max_elements ≥ 3`, and whose peers answer every identifier of
that list with a valid segment (plus anything else, in any order, duplicates, refused segments)
reports completion after at most `remaining` rounds.  No assumption about WHICH segments arrive is
left: `honest_sync_completes`' hypothesis is discharged by the request list itself. -/
theorem answered_requests_complete (No Nk : Nat) (max : Nat) (hm : 3 ≤ max) (feed : St → List Delivery)
    (hclean : ∀ s, ∀ d ∈ feed s, d.kind = .bitmap → d.seg.extra = 0)
    (hans : ∀ s, Inv No Nk s → Answers (s.desired max) (feed s)) :
    ∀ (n : Nat) (s : St), Inv No Nk s → s.remaining ≤ n → (rounds feed s n).checkProgress = true :=
  honest_sync_completes No Nk feed hclean
    (fun s hi hr => served_requests_give_needed No Nk s hi hr max hm (feed s) (hans s hi))

/-- the honest feed: one valid segment per requested identifier -/
def honestFeed (max : Nat) (s : St) : List Delivery :=
  (s.desired max).map fun x => ⟨x.1, ⟨x.2, true, 0, 0⟩⟩

/-- … which satisfies the hypotheses of `answered_requests_complete` for every archive header: the
shipped request size 15 brings every fresh desegmenter to completion -/
theorem honest_feed_completes (hB hO hR hK No Nk gOut gKer : Nat) (hb : hB ≤ 61) (ho1 : 1 ≤ hO) (ho : hO ≤ 61)
    (hr1 : 1 ≤ hR) (hr : hR ≤ 61) (hk1 : 1 ≤ hK) (hk : hK ≤ 61) (hNo : 1 ≤ No) (hNoS : No < 2 ^ 62)
    (hNk : 2 ≤ Nk) (hNkS : Nk < 2 ^ 62) (hgo : gOut ≤ 1) (hgk : gKer ≤ 1) :
    ∃ n, (rounds (honestFeed 15) (St.new hB hO hR hK (mmr No) (mmr Nk) gOut gKer) n).checkProgress = true := by
  refine ⟨_, answered_requests_complete No Nk 15 (by omega) (honestFeed 15) ?_ ?_ _ _
    (new_inv hB hO hR hK No Nk gOut gKer hb ho1 ho hr1 hr hk1 hk hNo hNoS hNk hNkS hgo hgk) (Nat.le_refl _)⟩
  · intro s d hd _
    unfold honestFeed at hd
    obtain ⟨x, _, hx⟩ := List.mem_map.mp hd
    rw [← hx]
  · intro s _ x hx
    exact ⟨⟨x.1, ⟨x.2, true, 0, 0⟩⟩, List.mem_map.mpr ⟨x, hx, rfl⟩, rfl, rfl, rfl⟩

end GV.Props.C16Deseg
