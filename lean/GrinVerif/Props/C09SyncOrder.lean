import GrinVerif.Gen.SyncOrder
import GrinVerif.Model.Crash
import GrinVerif.Model.CrashMulti
import GrinVerif.Model.CrashRecov
import GrinVerif.Model.CrashCompact
/-! C09 — the ORDER of the durable writes of the crash models is the order of the source.

`Gen/SyncOrder.lean` is regenerated on every check run from `PMMRBackend::sync` (store/src/pmmr.rs),
`AppendOnlyFile::flush` / `replace` (store/src/types.rs), `txhashset::extending` / `header_extending` /
`TxHashSet::compact` (chain/src/txhashset/txhashset.rs), `Chain::process_block_single` and
`Chain::compact` (chain/src/chain.rs).
`expand` turns those lists into model steps (the range-proof backend mirrors the output backend and
is not modelled; the kernel and header backends are not prunable: no leaf set; prune lists do not
change outside compaction); the obligations below are DECIDED: `blockSteps`, `headerSteps`,
`bodySteps`, the recovery's `syncIns` / `hdrIns` and `compactSteps` equal the expansion; the order inside one
file's flush (size file first) is pinned on the generated table only (`backend_and_file_order`). A flush that is reordered in the source (leaf set before the data file, prune list before
the leaf set, kernel backend before the output backend, LMDB commit before the file syncs, data file
before its size file) breaks an obligation without any crash run having to hit the window. -/
namespace GV.Props.C09SyncOrder
open GV GV.Crash GV.Gen

/-- consecutive duplicates (the two `set_len` branches) count once -/
def dedup : List Nat → List Nat
  | a :: b :: rest => if a = b then dedup (b :: rest) else a :: dedup (b :: rest)
  | l => l

/-- one `AppendOnlyFile::flush`: `set_len` (11) = the truncation, `write_all` (12) = the append -/
def fileSteps (trunc app : Step) (flush : List Nat) : List Step :=
  (dedup flush).filterMap fun c => if c = 11 then some trunc else if c = 12 then some app else none

/-- one `PMMRBackend::sync` of backend `b` (21 output, 22 range proof, 23 kernel, 24 header) -/
def backendSteps (b : Nat) (sync flush : List Nat) : List Step :=
  sync.flatMap fun c =>
    if c = 1 then
      (if b = 21 then fileSteps .outHashTrunc .outHashApp flush
       else if b = 23 then fileSteps .kerHashTrunc .kerHashApp flush
       else if b = 24 then fileSteps .hdrHashTrunc .hdrHashApp flush else [])
    else if c = 2 then
      (if b = 21 then fileSteps .outDataTrunc .outDataApp flush
       else if b = 23 then fileSteps .kerDataTrunc .kerDataApp flush
       else if b = 24 then fileSteps .hdrDataTrunc .hdrDataApp flush else [])
    else if c = 3 then (if b = 21 then [.leafRename] else [])
    else []

/-- a commit path (`extending` / `header_extending`): nested commit (20), then the backends -/
def expand (path sync flush : List Nat) : List Step :=
  path.flatMap fun c => if c = 20 then [.childCommit] else backendSteps c sync flush

/-- what the generator must have seen for the expansion to mean anything -/
def wellRead : Bool :=
  SyncOrder.parseError.isNone &&
  !(SyncOrder.backendSync ++ SyncOrder.aofFlush ++ SyncOrder.extendingCommit ++
      SyncOrder.headerExtendingCommit ++ SyncOrder.processBlockSingle ++ SyncOrder.checkCompact ++
      SyncOrder.aofReplace ++ SyncOrder.txhashsetCompact ++ SyncOrder.chainCompact).contains 0

/-- **`blockSteps` is the source's order**: header commit path, the header-head commit, the body
commit path, and the outer `batch.commit()` AFTER `pipe::process_block` -/
theorem blockSteps_is_source_order :
    wellRead = true ∧ SyncOrder.processBlockSingle = [30, 31] ∧
    blockSteps =
      expand SyncOrder.headerExtendingCommit SyncOrder.backendSync SyncOrder.aofFlush ++ [.hdrCommit] ++
      expand SyncOrder.extendingCommit SyncOrder.backendSync SyncOrder.aofFlush ++ [.finalCommit] := by
  decide

theorem headerSteps_is_source_order :
    headerSteps =
      expand SyncOrder.headerExtendingCommit SyncOrder.backendSync SyncOrder.aofFlush ++ [.hdrCommit] := by
  decide

/-- header-first acceptance (`Model/CrashMulti.lean`; nested commits left out) -/
theorem bodySteps_is_source_order :
    bodySteps =
      (expand SyncOrder.extendingCommit SyncOrder.backendSync SyncOrder.aofFlush).filter (· != .childCommit)
        ++ [.finalCommit] := by
  decide

def rstepOf : Step → Option RStep
  | .outHashTrunc => some .outHashTrunc | .outDataTrunc => some .outDataTrunc
  | .leafRename => some .leafRename
  | .kerHashTrunc => some .kerHashTrunc | .kerDataTrunc => some .kerDataTrunc
  | .hdrHashTrunc => some .hdrHashTrunc | .hdrDataTrunc => some .hdrDataTrunc
  | _ => none

/-- the recovery's writes per rewind (`Model/CrashRecov.lean` `syncIns`): the truncations of the same
expansion, leaf set in its place -/
theorem syncIns_is_source_order (P : List BlkInfo) (r : List Leaf) :
    (syncIns P r).map (·.step) =
      (expand SyncOrder.extendingCommit SyncOrder.backendSync SyncOrder.aofFlush).filterMap rstepOf := by
  have h : (expand SyncOrder.extendingCommit SyncOrder.backendSync SyncOrder.aofFlush).filterMap rstepOf =
      [.outHashTrunc, .outDataTrunc, .leafRename, .kerHashTrunc, .kerDataTrunc] := by decide +kernel
  rw [h]; rfl

theorem hdrIns_is_source_order (P : List BlkInfo) :
    (hdrIns P).map (·.step) =
      (expand SyncOrder.headerExtendingCommit SyncOrder.backendSync SyncOrder.aofFlush).filterMap rstepOf := by
  have h : (expand SyncOrder.headerExtendingCommit SyncOrder.backendSync SyncOrder.aofFlush).filterMap rstepOf =
      [.hdrHashTrunc, .hdrDataTrunc] := by decide +kernel
  rw [h]; rfl

/-- the generated tables themselves: one backend = hash file, data file, leaf set, prune list; inside one
file: its size file, then the truncation, then the append, then the fsync (the order `Aof.flush` and
`kSync` are written in; this theorem pins the tables, it does not mention those models) -/
theorem backend_and_file_order :
    SyncOrder.backendSync = [1, 2, 3, 4] ∧ dedup SyncOrder.aofFlush = [10, 11, 12, 13] ∧
    SyncOrder.extendingCommit = [20, 21, 22, 23] ∧ SyncOrder.headerExtendingCommit = [20, 24] := by
  decide

/-- one `check_compact` of backend `b` (50 output, 51 range proof): `replace_with_tmp` (42 hash, 43 data)
= `AppendOnlyFile::replace` = remove (45) then rename (46); prune list flush (4) and leaf set flush (44)
are one rename each; writing the temporary copies (40, 41) changes no file of the state -/
def compactBackend (b : Nat) (cc rep : List Nat) : List CStep :=
  cc.flatMap fun c =>
    if c = 42 then rep.filterMap fun r =>
      if r = 45 then some (if b = 50 then CStep.outHashRemove else CStep.rpHashRemove)
      else if r = 46 then some (if b = 50 then CStep.outHashRename else CStep.rpHashRename) else none
    else if c = 43 then rep.filterMap fun r =>
      if r = 45 then some (if b = 50 then CStep.outDataRemove else CStep.rpDataRemove)
      else if r = 46 then some (if b = 50 then CStep.outDataRename else CStep.rpDataRename) else none
    else if c = 4 then [if b = 50 then CStep.outPrunRename else CStep.rpPrunRename]
    else if c = 44 then [if b = 50 then CStep.outLeafRename else CStep.rpLeafRename]
    else []

/-- **`compactSteps` is the source's order**: `Chain::compact` = `TxHashSet::compact` (output backend,
then range-proof backend, each `check_compact`), then ONE `batch.commit()` after
`remove_historical_blocks` -/
theorem compactSteps_is_source_order :
    wellRead = true ∧ SyncOrder.chainCompact = [52, 53, 31] ∧
    compactSteps =
      SyncOrder.txhashsetCompact.flatMap (fun b => compactBackend b SyncOrder.checkCompact SyncOrder.aofReplace)
        ++ [.compactCommit] := by
  decide

end GV.Props.C09SyncOrder
