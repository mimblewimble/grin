import GrinVerif.Gen.Params
import GrinVerif.Props.C04
/-! # C04 / C05 — the models' per-chain-type parameters are the ones in `global.rs`

`Gen/Params.lean` is regenerated on every check run by `tools/gen_params.py` from
`core/src/global.rs` and `core/src/consensus.rs`: for every chain-type dependent parameter function
the value of each of the four `ChainTypes` arms, the shape of `header_version`, the dispatch of
`create_pow_context`.  The obligations below (`decide` / `rfl` over the four chain types) say that the
parameter functions the models use are exactly that table — so a changed arm, a swapped constant, a
moved hard-fork height or a changed dispatch in the source breaks an obligation here, whether or not
any run happens to exercise that chain type at that height. -/
namespace GV.Props.C04Params
open GV GV.Gen GV.Gen.Params

/-- the chain types of the two models -/
def toCons : CT → Cons.ChainType
  | .automatedTesting => .automatedTesting | .userTesting => .userTesting
  | .testnet => .testnet | .mainnet => .mainnet
def toPow : CT → Pow.ChainType
  | .automatedTesting => .automated | .userTesting => .user
  | .testnet => .testnet | .mainnet => .mainnet

/-- what an arm of the table evaluates to under chain type `c` (`graph_weight` is the model function,
itself tied to the source by `Props/XlateCons`) -/
def eval (c : CT) : Val → Option Nat
  | .num n => some n
  | .gw0 eb as32 =>
    let w := Cons.graphWeight (toCons c) 0 eb
    some (if as32 then w % 2^32 else w)
  | .unknown => none

theorem table_readable : parseError = none := by decide

/-! ### `global.rs` parameter functions -/

theorem min_edge_bits_table (c : CT) : eval c (min_edge_bits c) = some (Cons.minEdgeBits (toCons c)) := by
  cases c <;> decide
theorem base_edge_bits_table (c : CT) :
    eval c (base_edge_bits c) = some (Cons.baseEdgeBits (toCons c)) ∧
    eval c (base_edge_bits c) = some (Pow.baseEdgeBits (toPow c)) := by
  cases c <;> decide
theorem proofsize_table (c : CT) : eval c (proofsize c) = some (Pow.proofsizeOf (toPow c)) := by
  cases c <;> decide
theorem coinbase_maturity_table (c : CT) :
    eval c (coinbase_maturity c) = some (Cons.coinbaseMaturity (toCons c)) := by
  cases c <;> decide
theorem max_block_weight_table (c : CT) :
    eval c (max_block_weight c) = some (Cons.maxBlockWeight (toCons c)) := by
  cases c <;> decide
theorem initial_graph_weight_table (c : CT) :
    eval c (initial_graph_weight c) = some (Cons.initialGraphWeight (toCons c)) := by
  cases c <;> decide
theorem min_wtema_graph_weight_table (c : CT) :
    eval c (min_wtema_graph_weight c) = some (Cons.minWtemaGraphWeight (toCons c)) := by
  cases c <;> decide

/-- parameters no model of this domain computes with are pinned to the regenerated constants -/
theorem other_parameters_table :
    (∀ c, initial_block_difficulty c =
      match c with
      | .automatedTesting | .userTesting => .num TESTING_INITIAL_DIFFICULTY
      | _ => .num INITIAL_DIFFICULTY) ∧
    (∀ c, cut_through_horizon c =
      match c with
      | .automatedTesting => .num AUTOMATED_TESTING_CUT_THROUGH_HORIZON
      | .userTesting => .num USER_TESTING_CUT_THROUGH_HORIZON
      | _ => .num CUT_THROUGH_HORIZON) ∧
    (∀ c, state_sync_threshold c =
      match c with
      | .automatedTesting | .userTesting => .num TESTING_STATE_SYNC_THRESHOLD
      | _ => .num STATE_SYNC_THRESHOLD) := by
  refine ⟨?_, ?_, ?_⟩ <;> intro c <;> cases c <;> decide

/-! ### `consensus::header_version` -/

/-- the schedule a table entry describes -/
def hvEval : HV → Nat → Option Nat
  | .interval i, h => some (min 5 ((1 + h / i) % 2^16))
  | .thresholds ts, h => some ((ts.filter (· ≤ h)).length + 1)
  | .hvUnknown, _ => none

theorem header_version_shape :
    header_version .mainnet = .interval HARD_FORK_INTERVAL ∧
    header_version .automatedTesting = .interval TESTING_HARD_FORK_INTERVAL ∧
    header_version .userTesting = .interval TESTING_HARD_FORK_INTERVAL ∧
    header_version .testnet = .thresholds [TESTNET_FIRST_HARD_FORK, TESTNET_SECOND_HARD_FORK,
      TESTNET_THIRD_HARD_FORK, TESTNET_FOURTH_HARD_FORK] := by decide

/-- ascending thresholds: counting the passed ones is the `if … else if …` chain -/
theorem thresholds_chain (a b c d h : Nat) (hab : a ≤ b) (hbc : b ≤ c) (hcd : c ≤ d) :
    ([a, b, c, d].filter (· ≤ h)).length + 1 =
      (if h < a then 1 else if h < b then 2 else if h < c then 3 else if h < d then 4 else 5) := by
  have key : ∀ (x : Nat) (l : List Nat), ((x :: l).filter (· ≤ h)).length =
      (if h < x then 0 else 1) + (l.filter (· ≤ h)).length := by
    intro x l
    by_cases hx : h < x
    · rw [List.filter_cons_of_neg (by simpa using hx), if_pos hx, Nat.zero_add]
    · rw [List.filter_cons_of_pos (by simpa using hx), if_neg hx, List.length_cons, Nat.add_comm]
  rw [key, key, key, key]
  simp only [List.filter_nil, List.length_nil]
  repeat' split
  all_goals omega

/-- **`Cons.headerVersion` and `Pow.headerVersion` are the regenerated schedule**, for every chain type and
height (`Chain.headerVersion` of the chain model is a third copy, without the `as u16` cast) -/
theorem header_version_table (c : CT) (h : Nat) :
    hvEval (header_version c) h = some (Cons.headerVersion (toCons c) h) ∧
    hvEval (header_version c) h = some (Pow.headerVersion (toPow c) h) := by
  obtain ⟨hm, ha, hu, ht⟩ := header_version_shape
  cases c
  · rw [ha]; exact ⟨rfl, by simp [hvEval, toPow, Pow.headerVersion]⟩
  · rw [hu]; exact ⟨rfl, by simp [hvEval, toPow, Pow.headerVersion]⟩
  · rw [ht]
    have hch := thresholds_chain TESTNET_FIRST_HARD_FORK TESTNET_SECOND_HARD_FORK
      TESTNET_THIRD_HARD_FORK TESTNET_FOURTH_HARD_FORK h (by decide) (by decide) (by decide)
    constructor
    · simp only [hvEval, toCons, Cons.headerVersion]; rw [hch]
    · simp only [hvEval, toPow, Pow.headerVersion]; rw [hch]
  · rw [hm]; exact ⟨rfl, by simp [hvEval, toPow, Pow.headerVersion]⟩

/-- `valid_header_version` in the source is the plain comparison with the schedule -/
theorem valid_header_version_shape : validVersionIsScheduleEq = true := by decide

/-- the model's `validHeaderVersion` is that comparison against the regenerated schedule -/
theorem valid_header_version_table (c : CT) (h v : Nat) :
    Cons.validHeaderVersion (toCons c) h v = true ↔ hvEval (header_version c) h = some v := by
  rw [(header_version_table c h).1]
  unfold Cons.validHeaderVersion
  rw [beq_iff_eq]
  constructor
  · intro e; rw [e]
  · intro e; exact (Option.some.inj e).symm

/-- **an accepted header carries the version the regenerated schedule gives for its height**, on every
chain type, for every context (parent, window, options) -/
theorem accepted_header_version (c : CT) (ctx : Cons.Ctx) (hd : Cons.Hdr) (hc : ctx.ct = toCons c)
    (hv : Cons.validateHeader ctx hd = .ok ()) :
    hvEval (header_version c) hd.height = some hd.version := by
  obtain ⟨prev, _, _, hver, _⟩ := (GV.Props.C04.validate_header_sound ctx hd hv).parent
  rw [(header_version_table c hd.height).1, hver, hc]

/-! ### `global::create_pow_context` -/

theorem dispatch_shape :
    ctxShapeOk = true ∧ ctxProdChains = [.mainnet, .testnet] ∧ ctxBound = some 29 ∧
    ctxAbove = "cuckatoo" ∧ ctxOther = "cuckatoo" ∧ ctxFallback = "none" ∧
    ctxByVersion = [(1, "cuckaroo"), (2, "cuckarood"), (3, "cuckaroom"), (4, "cuckarooz")] := by decide +kernel

/-- the dispatch the table describes -/
def dispatchEval (c : CT) (version edgeBits : Nat) : Option String :=
  if ctxProdChains.contains c then
    match ctxBound with
    | none => some "unknown"
    | some b =>
      if edgeBits > b then some ctxAbove
      else match ctxByVersion.lookup version with
        | some v => some v
        | none => if ctxFallback = "none" then none else some ctxFallback
  else some ctxOther

/-- **`selectVariant` (the model of `create_pow_context`) is the regenerated dispatch**, for every
chain type, height and edge bits -/
theorem dispatch_table (c : CT) (h eb : Nat) :
    (Pow.selectVariant (toPow c) h eb).map Pow.Variant.name =
      dispatchEval c (Pow.headerVersion (toPow c) h) eb := by
  obtain ⟨_, h1, h2, h3, h4, h5, h6⟩ := dispatch_shape
  unfold dispatchEval
  rw [h1, h2, h3, h4, h5, h6]
  cases c
  case automatedTesting | userTesting => simp [toPow, Pow.selectVariant, Pow.Variant.name]
  all_goals
    simp only [toPow, Pow.selectVariant]
    by_cases hb : eb > 29
    · simp [hb, Pow.Variant.name]
    · simp only [hb, if_false]
      generalize Pow.headerVersion _ h = v
      match v with
      | 0 | 1 | 2 | 3 | 4 => simp [List.lookup, Pow.Variant.name]
      | n + 5 => simp [List.lookup]

end GV.Props.C04Params
