import GrinVerif.Lemmas.ConsArith
import GrinVerif.Lemmas.ConsNode
import GrinVerif.Lemmas.ConsParams
import GrinVerif.Model.ConsNet
import GrinVerif.Props.C05Entry
/-! # C04 — only headers obeying height, time, version, difficulty and PoW rules pass

Property theorems about the model `GV.Cons` (`Model/Cons.lean`, `Model/ConsNet.lean`) of `consensus.rs`,
`global::difficulty_data_to_vector`, `pow/types.rs`, `pipe::validate_header`, the node pipeline around
it (`process_block_header(s)`, `process_block`), the parameter store of `global.rs` and the network
readers of a header.  All statements are for every window / header / chain type, no size bound.
Rust panics are the outcome `none` (resp. `Err.Panic`) of the model. -/
namespace GV.Props.C04
open GV GV.Gen GV.Cons

/-! ## The retarget is total (and exactly where it is not) -/

/-- DMA era: for every non-empty window — any length, any timestamps (equal, decreasing,
wrapping), any difficulties — `next_dma_difficulty` returns a value: no index out of range, no
division by zero. -/
theorem next_dma_total (ct : ChainType) (height : Nat) (cursor : List HDI) (hne : cursor ≠ []) :
    (nextDmaDifficulty ct height cursor).isSome = true := by
  obtain ⟨_, _, _, _, _, _, _, h⟩ := nextDmaDifficulty_eq ct height cursor hne
  simp [h]

/-- … and the excluded case is a panic (`last_n[0]` on an empty vector). -/
theorem next_dma_panics_on_empty (ct : ChainType) (height : Nat) :
    nextDmaDifficulty ct height [] = none := by
  simp [nextDmaDifficulty, difficultyDataToVector, DMA_WINDOW_val]

/-- WTEMA era: the code `unwrap`s the two latest entries — a window shorter than two panics. -/
theorem next_wtema_panics_on_short (ct : ChainType) (cursor : List HDI) (h : cursor.length < 2) :
    nextWtemaDifficulty ct cursor = none := by
  match cursor, h with
  | [], _ => rfl
  | [_], _ => rfl

/-- WTEMA era, at least two entries: the only remaining panic is the wrapped divisor
`WTEMA_HALF_LIFE - BLOCK_TIME_SEC + (last.ts - prev.ts)` being zero. -/
theorem next_wtema_none_iff (ct : ChainType) (last prev : HDI) (rest : List HDI) :
    nextWtemaDifficulty ct (last :: prev :: rest) = none ↔
      addW (subW WTEMA_HALF_LIFE BLOCK_TIME_SEC) (subW last.ts prev.ts) = 0 := by
  rw [nextWtemaDifficulty_cons]
  split <;> simp_all

/-- WTEMA era: with two entries whose timestamps do not decrease (and are in range, as every
decodable header's are) the retarget returns a value. -/
theorem next_wtema_total (ct : ChainType) (last prev : HDI) (rest : List HDI)
    (hle : prev.ts ≤ last.ts) (hr : last.ts + WTEMA_HALF_LIFE < 2^64) :
    nextWtemaDifficulty ct (last :: prev :: rest) = some (wtemaOf ct last prev) := by
  rw [nextWtemaDifficulty_cons, wtema_den_eq hle hr, if_neg]
  rw [WTEMA_HALF_LIFE_val, BLOCK_TIME_SEC_val]; omega

/-- `next_difficulty` is total on every window with at least two entries whose two latest
timestamps do not decrease, on every chain type and in every era. -/
theorem next_difficulty_total (ct : ChainType) (height : Nat) (last prev : HDI) (rest : List HDI)
    (hle : prev.ts ≤ last.ts) (hr : last.ts + WTEMA_HALF_LIFE < 2^64) :
    (nextDifficulty ct height (last :: prev :: rest)).isSome = true := by
  unfold nextDifficulty
  split
  · exact next_dma_total ct height _ (by simp)
  · rw [next_wtema_total ct last prev rest hle hr]; rfl

/-- The WTEMA era never starts before height 2 on any chain type. -/
theorem wtema_era_height (ct : ChainType) (height : Nat) (hv : ¬ headerVersion ct height < 5) :
    2 ≤ height := by
  have hv : 5 ≤ headerVersion ct height := by omega
  unfold headerVersion at hv
  cases ct with
  | testnet =>
    simp only at hv
    have := testnet_fourth_ge
    have := testnet_hf_order
    repeat' split at hv
    all_goals omega
  | mainnet =>
    have := hfVersion_ge5 hf_interval_pos hv
    have := hf_interval_pos
    omega
  | _ =>
    have := hfVersion_ge5 testing_hf_interval_pos hv
    have := testing_hf_interval_pos
    omega

example : nextDifficulty .automatedTesting 13 [⟨120, 5, 0, false⟩, ⟨60, 5, 0, false⟩] =
    some ⟨1, 20, 0, true⟩ := by decide +kernel
example : nextDifficulty .automatedTesting 13 [⟨120, 5, 0, false⟩] = none := by decide +kernel
/-- the zero divisor: a timestamp 14340 s *before* its parent -/
example : nextDifficulty .mainnet 2000000 [⟨100000, 5, 0, false⟩, ⟨114340, 5, 0, false⟩] = none := by
  decide +kernel

/-! ## DMA bounds -/

/-- `next_dma_difficulty` on every non-empty window: the result is at least
`MIN_DMA_DIFFICULTY`; with `S` the (u64) sum of the last `DMA_WINDOW` difficulties of the padded
vector, it lies between `S·60 / (BTW·CLAMP)` and `max(MIN, S·60 / (BTW/CLAMP))`, i.e. between
half and twice the window average; and when the time span does not wrap (`+ 2·BTW` fits u64)
damping tightens the upper bound to `S·60 / ((DAMP-1)·BTW/DAMP)` (1.5 × the average). -/
theorem dma_bounds (ct : ChainType) (height : Nat) (cursor : List HDI) (hne : cursor ≠ []) :
    ∃ data hi lo r, difficultyDataToVector ct cursor = some data ∧ data.length = DMA_WINDOW + 1 ∧
      data[DMA_WINDOW]? = some hi ∧ data[0]? = some lo ∧
      nextDmaDifficulty ct height cursor = some r ∧
      MIN_DMA_DIFFICULTY ≤ r.diff ∧
      mulW (sumW ((data.drop 1).map (·.diff))) BLOCK_TIME_SEC / (BLOCK_TIME_WINDOW * CLAMP_FACTOR) ≤ r.diff ∧
      r.diff ≤ max MIN_DMA_DIFFICULTY
        (mulW (sumW ((data.drop 1).map (·.diff))) BLOCK_TIME_SEC / (BLOCK_TIME_WINDOW / CLAMP_FACTOR)) ∧
      (subW hi.ts lo.ts + (DMA_DAMP_FACTOR - 1) * BLOCK_TIME_WINDOW < 2^64 →
        r.diff ≤ max MIN_DMA_DIFFICULTY
          (mulW (sumW ((data.drop 1).map (·.diff))) BLOCK_TIME_SEC /
            ((DMA_DAMP_FACTOR - 1) * BLOCK_TIME_WINDOW / DMA_DAMP_FACTOR))) := by
  obtain ⟨data, hi, lo, hd, hl, hhi, hlo, hr⟩ := nextDmaDifficulty_eq ct height cursor hne
  refine ⟨data, hi, lo, _, hd, hl, hhi, hlo, hr, ?_, le_dmaDiff (dmaAdjTs_bounds _).2,
    dmaDiff_le BTW_div_clamp_pos (dmaAdjTs_bounds _).1,
    fun hnw => dmaDiff_le (by decide) (dmaAdjTs_lower_nowrap _ hnw)⟩
  rw [dmaDiff_eq]
  exact Nat.le_max_left _ _

/-- a longer time span never raises the DMA difficulty (non-wrapping spans) -/
theorem dma_antitone_in_span (d d' s : Nat) (hdd : d ≤ d')
    (h : d' + (DMA_DAMP_FACTOR - 1) * BLOCK_TIME_WINDOW < 2^64) : dmaDiff d' s ≤ dmaDiff d s := by
  rw [dmaDiff_eq d s]
  exact dmaDiff_le (dmaAdjTs_pos d) (dmaAdjTs_mono hdd h)

/-- `dma_bounds` without the wrapping helper: if `S · 60` fits `u64` the result lies between half
the window average `S/60` and twice it (1.5 × when the span does not wrap), floor-divided. -/
theorem dma_bounds_nowrap (tsDelta s : Nat) (hs : s * BLOCK_TIME_SEC < 2^64) :
    s / 120 ≤ dmaDiff tsDelta s ∧ dmaDiff tsDelta s ≤ max MIN_DMA_DIFFICULTY (s / 30) ∧
    (tsDelta + (DMA_DAMP_FACTOR - 1) * BLOCK_TIME_WINDOW < 2^64 →
      dmaDiff tsDelta s ≤ max MIN_DMA_DIFFICULTY (s / 40)) := by
  have hb := dmaAdjTs_bounds tsDelta
  have h1 := le_dmaDiff (s := s) hb.2
  have h2 := dmaDiff_le (s := s) BTW_div_clamp_pos hb.1
  have h3 := fun hnw => dmaDiff_le (s := s) (by decide) (dmaAdjTs_lower_nowrap tsDelta hnw)
  rw [mulW_eq hs, BLOCK_TIME_SEC_val, BLOCK_TIME_WINDOW_val, CLAMP_FACTOR_val] at h1 h2
  rw [mulW_eq hs, BLOCK_TIME_SEC_val, BLOCK_TIME_WINDOW_val, DMA_DAMP_FACTOR_val] at h3
  have e1 : s * 60 / (3600 * 2) = s / 120 := by omega
  have e2 : s * 60 / (3600 / 2) = s / 30 := by omega
  have e3 : s * 60 / ((3 - 1) * 3600 / 3) = s / 40 := by omega
  rw [e1] at h1
  rw [e2] at h2
  rw [e3] at h3
  exact ⟨h1, h2, h3⟩

/-- non-vacuity: one genesis entry, padded to 61; `60·1000·60/3600 = 1000` -/
example : nextDmaDifficulty .mainnet 1 [⟨1000000, 1000, 1856, false⟩] = some ⟨1, 1000, 1843, true⟩ := by
  decide +kernel

/-! ## WTEMA bounds -/

/-- `next_wtema_difficulty` on in-range non-decreasing timestamps: at least the chain's minimum
(`min_wtema_graph_weight`), secondary scaling 0, the exact value, and the per-block increase
bound: never more than `last·H/(H-60)` (any block time), `last·H/(H-59)` for block time ≥ 1 s. -/
theorem wtema_bounds (ct : ChainType) (last prev : HDI) (rest : List HDI)
    (hle : prev.ts ≤ last.ts) (hr : last.ts + WTEMA_HALF_LIFE < 2^64) :
    ∃ r, nextWtemaDifficulty ct (last :: prev :: rest) = some r ∧
      minWtemaGraphWeight ct ≤ r.diff ∧ 1 ≤ r.diff ∧ r.scaling = 0 ∧
      r.diff = max (minWtemaGraphWeight ct) (fromNum (mulW last.diff WTEMA_HALF_LIFE /
                  (WTEMA_HALF_LIFE - BLOCK_TIME_SEC + (last.ts - prev.ts)))) ∧
      r.diff ≤ max (minWtemaGraphWeight ct)
                  (fromNum (mulW last.diff WTEMA_HALF_LIFE / (WTEMA_HALF_LIFE - BLOCK_TIME_SEC))) ∧
      (prev.ts < last.ts → r.diff ≤ max (minWtemaGraphWeight ct)
                  (fromNum (mulW last.diff WTEMA_HALF_LIFE / (WTEMA_HALF_LIFE - BLOCK_TIME_SEC + 1)))) := by
  refine ⟨_, next_wtema_total ct last prev rest hle hr, ?_⟩
  simp only [wtemaOf, wtema_den_eq hle hr]
  have hpos : 0 < WTEMA_HALF_LIFE - BLOCK_TIME_SEC := by decide
  refine ⟨Nat.le_max_left _ _, ?_, trivial, trivial, max_fromNum_div_le _ hpos (by omega),
    fun hlt => max_fromNum_div_le _ (by omega) (by omega)⟩
  unfold fromNum
  omega

/-- monotone in block time: a later timestamp on the last header (same difficulty) never gives a
higher next difficulty -/
theorem wtema_antitone_in_block_time (ct : ChainType) (last last' prev : HDI)
    (hd : last'.diff = last.diff) (hle : prev.ts ≤ last.ts) (hll : last.ts ≤ last'.ts)
    (hr : last'.ts + WTEMA_HALF_LIFE < 2^64) :
    (wtemaOf ct last' prev).diff ≤ (wtemaOf ct last prev).diff := by
  have hpos : 0 < WTEMA_HALF_LIFE - BLOCK_TIME_SEC := by decide
  simp only [wtemaOf, wtema_den_eq hle (by omega), wtema_den_eq (Nat.le_trans hle hll) hr, hd]
  exact max_fromNum_div_le _ (by omega) (by omega)

/-- a block on target (60 s) keeps the difficulty: non-vacuity of `wtema_bounds` -/
example : nextWtemaDifficulty .mainnet [⟨1060, 1000000, 0, false⟩, ⟨1000, 999, 0, false⟩] =
    some ⟨1, 1000000, 0, true⟩ := by decide +kernel

/-- The WTEMA product `last_diff * WTEMA_HALF_LIFE` is a plain `u64` multiplication: above
`2^64 / 14400 ≈ 1.28e15` it wraps (release) and the next difficulty collapses to the minimum. -/
example : nextWtemaDifficulty .mainnet [⟨1060, 2^64 / 14400 + 1, 0, false⟩, ⟨1000, 5, 0, false⟩] =
    some ⟨1, 16384, 0, true⟩ := by decide +kernel

/-! ## secondary scaling bounds -/

/-- `secondary_pow_scaling` is total; the damped, clamped count stays within a factor
`CLAMP_FACTOR` of the target count; the result is a `u32`; and **when the `as u32` cast does not
truncate** it is `max(MIN_AR_SCALE, scale) ≥ MIN_AR_SCALE`. -/
theorem scaling_bounds (height : Nat) (data : List HDI) :
    ∃ s, secondaryPowScaling height data = some s ∧ s < 2^32 ∧
      mulW DMA_WINDOW (secondaryPowRatio height) / CLAMP_FACTOR ≤ arAdjCount height data ∧
      arAdjCount height data ≤ max (mulW DMA_WINDOW (secondaryPowRatio height) / CLAMP_FACTOR)
                                 (mulW (mulW DMA_WINDOW (secondaryPowRatio height)) CLAMP_FACTOR) ∧
      (max MIN_AR_SCALE (arScale height data) < 2^32 →
        s = max MIN_AR_SCALE (arScale height data) ∧ MIN_AR_SCALE ≤ s) := by
  -- the adjusted count is `clamp` of the damped count
  have hc : clamp _ (mulW DMA_WINDOW (secondaryPowRatio height)) CLAMP_FACTOR = some (arAdjCount height data) :=
    clamp_some (by decide)
  refine ⟨_, secondaryPowScaling_eq height data, Nat.mod_lt _ (by decide), (clamp_bounds hc).1,
    (clamp_bounds hc).2, ?_⟩
  · intro h
    rw [Nat.mod_eq_of_lt h]
    exact ⟨rfl, Nat.le_max_left _ _⟩

/-- The no-truncation hypothesis of `scaling_bounds` is needed: 60 entries with secondary
scalings ≈ 0.92·2^32 and no secondary block give scale `2^32`, which the `as u32` cast
turns into 0 < `MIN_AR_SCALE` (reproduced on the real function by the harness). -/
example : secondaryPowScaling 0
    (List.replicate 59 ⟨0, 1, 3964095741, false⟩ ++ [⟨0, 1, 3964095762, false⟩]) = some 0 := by
  decide +kernel

example : secondaryPowScaling 0 (List.replicate 60 ⟨0, 1, 1856, true⟩) = some 1840 := by decide +kernel

/-! ## header versions -/

theorem header_version_le (ct : ChainType) (h : Nat) : headerVersion ct h ≤ 5 := by
  unfold headerVersion
  cases ct <;> simp only [hfVersion, Nat.min_le_left]
  repeat' split
  all_goals omega

/-- below the `u16` wrap of the interval count, the mainnet / testing schedule is
`min(5, 1 + height / interval)` (monotone, 1 at genesis) -/
theorem header_version_schedule (h i : Nat) (hlt : h / i < 2^16 - 1) :
    hfVersion h i = min 5 (1 + h / i) := by
  unfold hfVersion
  rw [Nat.mod_eq_of_lt (by omega)]

/-- the `as u16` cast wraps: on the testing chains height 196605 is scheduled version 0 -/
example : headerVersion .automatedTesting (65535 * TESTING_HARD_FORK_INTERVAL) = 0 := by decide +kernel
example : headerVersion .mainnet (4 * HARD_FORK_INTERVAL) = 5 := by decide +kernel
example : headerVersion .mainnet (4 * HARD_FORK_INTERVAL - 1) = 4 := by decide +kernel

/-! ## `validate_header`: the decision logic stated outright

The rules as propositions (`HeaderRules`, `DifficultyRules`) and the order of the checks
(`errRank`, `passedBeyond`) are defined in `Lemmas/ConsHeader.lean`. -/

/-- **Soundness and completeness of acceptance**: `validate_header` accepts exactly the headers
that satisfy every rule. -/
theorem validate_header_iff (c : Ctx) (h : Hdr) :
    validateHeader c h = .ok () ↔ HeaderRules c h :=
  validateHeader_ok_iff c h

/-- `validate_header … = ok →` every rule holds (the statement of DESIGN §4 C04). -/
theorem validate_header_sound (c : Ctx) (h : Hdr) (hv : validateHeader c h = .ok ()) :
    HeaderRules c h :=
  (validate_header_iff c h).mp hv

theorem validate_header_complete (c : Ctx) (h : Hdr) (hv : ¬ HeaderRules c h) :
    ∃ e, validateHeader c h = .error e := by
  cases hr : validateHeader c h with
  | error e => exact ⟨e, rfl⟩
  | ok u => cases u; exact absurd ((validate_header_iff c h).mp hr) hv

/-- **Per-rule completeness** (each rule violated ⇒ rejected with an error of that rule's set):
a header violating a rule is rejected, and the error is the one of that rule's check or of a
check the code performs earlier (`errRank e ≤` the rule's position).  The set is needed because
an earlier check may fire first; `validate_header_iff` shows nothing else can. -/
theorem validate_header_complete_by_rule (c : Ctx) (h prev : Hdr) (hp : c.prev = some prev) :
    (h.height ≠ addW prev.height 1 → ∃ e, validateHeader c h = .error e ∧ errRank e ≤ errRank .InvalidBlockHeight) ∧
    (h.version ≠ headerVersion c.ct h.height → ∃ e, validateHeader c h = .error e ∧ errRank e ≤ errRank .InvalidBlockVersion) ∧
    (h.ts ≤ prev.ts → ∃ e, validateHeader c h = .error e ∧ errRank e ≤ errRank .InvalidBlockTime) ∧
    (Pmmr.nLeaves h.outputMmrSize ≤ Pmmr.nLeaves prev.outputMmrSize ∨
      Pmmr.nLeaves h.kernelMmrSize ≤ Pmmr.nLeaves prev.kernelMmrSize →
        ∃ e, validateHeader c h = .error e ∧ errRank e ≤ errRank .InvalidMMRSize) ∧
    (maxBlockWeight c.ct < weightByIok 0 (Pmmr.nLeaves h.outputMmrSize - Pmmr.nLeaves prev.outputMmrSize)
        (Pmmr.nLeaves h.kernelMmrSize - Pmmr.nLeaves prev.kernelMmrSize) →
        ∃ e, validateHeader c h = .error e ∧ errRank e ≤ errRank .TooHeavy) ∧
    (c.skipPow = false →
      (¬ (isPrimary c.ct h.edgeBits = true ∨ isSecondary h.edgeBits = true) →
        ∃ e, validateHeader c h = .error e ∧ errRank e ≤ errRank .LowEdgebits) ∧
      (c.powOk = false → ∃ e, validateHeader c h = .error e ∧ errRank e ≤ errRank .InvalidPow) ∧
      (h.totalDiff ≤ prev.totalDiff ∨
        toDifficulty c.ct h.height h.edgeBits h.secondaryScaling h.hash64 < h.totalDiff - prev.totalDiff →
        ∃ e, validateHeader c h = .error e ∧ errRank e ≤ errRank .DifficultyTooLow) ∧
      (∀ next, nextDifficulty c.ct h.height c.window = some next →
        (h.totalDiff - prev.totalDiff ≠ next.diff → ∃ e, validateHeader c h = .error e ∧ errRank e ≤ errRank .WrongTotalDifficulty) ∧
        (h.version < 5 ∧ h.secondaryScaling ≠ next.scaling →
          ∃ e, validateHeader c h = .error e ∧ errRank e ≤ errRank .InvalidScaling))) := by
  obtain ⟨d7, d8, d9, _, d11⟩ := difficulty_rules_of_passed c prev h
  unfold validateHeader
  simp only [hp]
  have ht : c.skipPow = false →
      (if c.skipPow = true then .ok () else validateDifficulty c prev h) = validateDifficulty c prev h :=
    fun hs => by rw [hs]; rfl
  generalize (if c.skipPow = true then Except.ok () else validateDifficulty c prev h) = t at ht ⊢
  -- rejected by check `k` or earlier = not past `k` = not (the checks up to `k` passed and the rest
  -- `t` got past `k`)
  simp only [rejected_iff]
  simp only [passedBeyond_check, errRank, Nat.reduceLT, Nat.lt_irrefl, imp_false, and_self_imp,
    implies_true, true_and]
  simp only [validHeaderVersion, numNew_eq, Bool.not_eq_true, Classical.not_not, Bool.not_eq_true',
    beq_eq_false_iff_ne, ne_eq, not_or, Int.not_le, Nat.sub_eq_zero_iff_le, Nat.not_le, Nat.not_lt]
  -- what a clause now refutes: not denied ∧ height ∧ version ∧ time ∧ MMR sizes ∧ weight ∧ `t` past `k`
  -- (cut off behind check `k`)
  refine ⟨fun hv ⟨_, hheight, _⟩ => hv hheight, fun hv ⟨_, _, hver, _⟩ => hv hver,
    fun hv ⟨_, _, _, hts, _⟩ => ?_, fun hv ⟨_, _, _, _, hmmr, _⟩ => ?_,
    fun hv ⟨_, _, _, _, _, hweight, _⟩ => ?_, fun hs => ?_⟩
  · omega
  · omega
  · omega
  obtain rfl := ht hs
  refine ⟨fun hv ⟨_, _, _, _, _, _, hpast⟩ => ?_, fun hv ⟨_, _, _, _, _, _, hpast⟩ => ?_,
    fun hv ⟨_, _, _, _, _, _, hpast⟩ => ?_,
    fun next hn => ⟨fun hv ⟨_, _, _, _, _, _, hpast⟩ => ?_, fun hv ⟨_, _, _, _, _, _, hpast⟩ => ?_⟩⟩
  · have := d7 hpast; simp [hv.1, hv.2] at this
  · have := d8 hpast; simp [hv] at this
  · have := d9 hpast; omega
  · exact hv ((d11 next hn).1 hpast)
  · exact hv.2 ((d11 next hn).2 hpast hv.1)

theorem panic_only_from_next_difficulty (c : Ctx) (h : Hdr)
    (hv : validateHeader c h = .error .Panic) : nextDifficulty c.ct h.height c.window = none := by
  unfold validateHeader at hv
  cases hp : c.prev with
  | none =>
    simp only [hp, ite_eq_iff_of_ne, ne_eq, Except.error.injEq, reduceCtorEq, not_false_eq_true, Except.error.injEq, and_false] at hv
  | some prev =>
    simp only [hp, ite_eq_iff_of_ne, ne_eq, Except.error.injEq, reduceCtorEq, not_false_eq_true] at hv
    cases hs : c.skipPow
    · exact difficulty_panic c prev h (by simpa [hs] using hv.2.2.2.2.2.2)
    · simp [hs] at hv

/-- `validate_header` cannot hit the panics of `next_difficulty` when the window's two latest entries
have non-decreasing in-range timestamps (the time rule, applied when the parent itself was
validated). -/
theorem validate_header_no_panic (c : Ctx) (h : Hdr) (last prev : HDI) (rest : List HDI)
    (hw : c.window = last :: prev :: rest) (hle : prev.ts ≤ last.ts)
    (hr : last.ts + WTEMA_HALF_LIFE < 2^64) : validateHeader c h ≠ .error .Panic := by
  intro hv
  have hn := next_difficulty_total c.ct h.height last prev rest hle hr
  rw [← hw, panic_only_from_next_difficulty c h hv] at hn
  cases hn

theorem validate_header_no_panic_dma (c : Ctx) (h : Hdr) (hv5 : headerVersion c.ct h.height < 5)
    (hw : c.window ≠ []) : validateHeader c h ≠ .error .Panic := by
  intro hv
  have hn := next_dma_total c.ct h.height c.window hw
  have hp := panic_only_from_next_difficulty c h hv
  rw [nextDifficulty, if_pos hv5] at hp
  rw [hp] at hn
  cases hn

/-! ### the chain always supplies a window on which the retarget is total -/

/-- On a chain whose two latest timestamps strictly increase, `validate_header` does not reach a
panic of the retarget as long as their distance plus the WTEMA half life fits `u64`: the divisor
`WTEMA_HALF_LIFE - BLOCK_TIME_SEC + span` is computed on the true span and is not zero. -/
theorem no_panic_of_span (c : Ctx) (h a b : Hdr) (rest : List Hdr)
    (hw : c.window = difficultyIter (a :: b :: rest)) (hlt : b.ts < a.ts)
    (hspan : a.ts - b.ts + WTEMA_HALF_LIFE < 2^64) : validateHeader c h ≠ .error .Panic := by
  intro hv
  have hn := panic_only_from_next_difficulty c h hv
  rw [hw] at hn
  unfold nextDifficulty at hn
  split at hn
  · have := next_dma_total c.ct h.height (difficultyIter (a :: b :: rest)) (by simp [difficultyIter])
    rw [hn] at this
    cases this
  · simp only [difficultyIter] at hn
    rw [next_wtema_none_iff] at hn
    have hs := span_signed a.ts b.ts hlt (by rw [WTEMA_HALF_LIFE_val] at hspan; omega)
    have h64 : (2:Int)^64 = 18446744073709551616 := by decide
    rw [h64, WTEMA_HALF_LIFE_val] at hspan
    rw [WTEMA_HALF_LIFE_val, BLOCK_TIME_SEC_val] at hn
    simp only at hn
    generalize subW (tsU64 a.ts) (tsU64 b.ts) = x at hs hn
    unfold addW subW at hn
    omega

/-- For a parent `a` with grand-parent `b` (both previously validated: `b.ts < a.ts`, timestamps in the
decodable range): on a chain `validate_header` never reaches a panic of the retarget. -/
theorem validate_header_no_panic_on_chain (c : Ctx) (h a b : Hdr) (rest : List Hdr)
    (hw : c.window = difficultyIter (a :: b :: rest)) (h0 : 0 ≤ b.ts) (hlt : b.ts < a.ts)
    (hr : a.ts < 2^63) : validateHeader c h ≠ .error .Panic :=
  no_panic_of_span c h a b rest hw hlt (by rw [WTEMA_HALF_LIFE_val]; omega)

/-! ## which proofs count: the classification by edge bits -/

/-- A proof is secondary iff its edge bits are 29 and primary iff they are not 29 and at least the
chain's minimum; so a header passes the edge-bit check iff `edge_bits = 29 ∨ edge_bits ≥ min`. -/
theorem edge_bits_rule (ct : ChainType) (e : Nat) :
    (isPrimary ct e = true ∨ isSecondary e = true) ↔ (e = SECOND_POW_EDGE_BITS ∨ minEdgeBits ct ≤ e) := by
  simp only [isPrimary, isSecondary, Bool.and_eq_true, bne_iff_ne, ne_eq, decide_eq_true_eq,
    beq_iff_eq]
  by_cases h : e = SECOND_POW_EDGE_BITS <;> simp [h]

/-- On Mainnet and Testnet (minimum 31) edge bits 24..28 and 30 are neither, 29 is secondary and
everything from 31 up is primary. -/
theorem edge_bits_main_test (ct : ChainType) (hct : ct = .mainnet ∨ ct = .testnet) (e : Nat) :
    (e < 31 → e ≠ 29 → isPrimary ct e = false ∧ isSecondary e = false) ∧
    (e = 29 → isPrimary ct e = false ∧ isSecondary e = true) ∧
    (31 ≤ e → isPrimary ct e = true ∧ isSecondary e = false) := by
  have hmin : minEdgeBits ct = 31 := by rcases hct with rfl | rfl <;> rfl
  have h29 : SECOND_POW_EDGE_BITS = 29 := rfl
  refine ⟨fun h1 h2 => ?_, fun h1 => ?_, fun h1 => ?_⟩ <;>
    simp only [isPrimary, isSecondary, hmin, h29] <;> simp <;> omega

/-- a header whose edge bits are neither 29 nor at least the chain's minimum is refused by
`validate_header` (with `LowEdgebits` unless an earlier check fires) -/
theorem low_edge_bits_refused (c : Ctx) (h prev : Hdr) (hp : c.prev = some prev)
    (hs : c.skipPow = false) (he : h.edgeBits ≠ SECOND_POW_EDGE_BITS) (hlt : h.edgeBits < minEdgeBits c.ct) :
    ∃ e, validateHeader c h = .error e ∧ errRank e ≤ 7 := by
  have hn : ¬ (isPrimary c.ct h.edgeBits = true ∨ isSecondary h.edgeBits = true) := by
    rw [edge_bits_rule]; omega
  exact ((validate_header_complete_by_rule c h prev hp).2.2.2.2.2 hs).1 hn

example : isPrimary .mainnet 30 = false ∧ isPrimary .mainnet 31 = true ∧ isPrimary .mainnet 29 = false ∧
    isPrimary .automatedTesting 10 = true ∧ isPrimary .userTesting 14 = false := by decide

/-! ## the pipeline around `validate_header` -/

/-- `process_block_header` (after its "already known" short-cuts) accepts only headers that obey
every rule **and** whose `prev_root` is the root of the header MMR at the parent
(`HeaderExtension::validate_root`; the MMR itself is C07). -/
theorem process_block_header_sound (c : Ctx) (rootOk : Bool) (h : Hdr)
    (hv : processBlockHeader c rootOk h = .ok ()) : HeaderRules c h ∧ rootOk = true := by
  unfold processBlockHeader at hv
  split at hv
  · cases hv
  · rename_i hvh
    split at hv
    · rename_i hr
      exact ⟨(validate_header_iff c h).mp hvh, hr⟩
    · cases hv

/-- a header with a wrong `prev_root` that passes every other rule is rejected with `InvalidRoot` -/
theorem process_block_header_bad_root (c : Ctx) (h : Hdr) (hr : HeaderRules c h) :
    processBlockHeader c false h = .error .InvalidRoot := by
  unfold processBlockHeader
  rw [(validate_header_iff c h).mpr hr]
  rfl

/-- Network decode (`UntrustedBlockHeader::read`): a header is admitted only if its timestamp is
not beyond `now + future_time_limit`, it carries the scheduled version, its edge bits are an
allowed size, its proof of work verifies and the committed MMR sizes fit `height + 1` full
blocks. -/
theorem untrusted_header_sound (ct : ChainType) (now : Int) (ftl : Nat) (sizeOk : Bool) (h : Hdr)
    (hv : untrustedHeaderCheck ct now ftl sizeOk h = .ok ()) :
    h.ts ≤ now + ftl ∧ h.version = headerVersion ct h.height ∧
    (isPrimary ct h.edgeBits = true ∨ isSecondary h.edgeBits = true) ∧ sizeOk = true ∧
    weightByIok 0 (Pmmr.nLeaves h.outputMmrSize) (Pmmr.nLeaves h.kernelMmrSize) ≤
      mulW (maxBlockWeight ct) (addW h.height 1) := by
  unfold untrustedHeaderCheck at hv
  simp only [ite_eq_iff_of_ne, ne_eq, reduceCtorEq, not_false_eq_true, validHeaderVersion, Bool.not_eq_true', beq_eq_false_iff_ne, ne_eq,
    Classical.not_not, and_true] at hv
  obtain ⟨h1, h2, h3, h4, h5⟩ := hv
  refine ⟨by omega, h2, ?_, by simpa using h4, by omega⟩
  exact Classical.not_not.mp fun hn => h3 ((lowEdgeBits_iff _ _).mpr hn)

/-- a header dated beyond the future-time limit is refused at decode time whatever else it says -/
theorem untrusted_header_future_rejected (ct : ChainType) (now : Int) (ftl : Nat) (sizeOk : Bool)
    (h : Hdr) (hf : now + ftl < h.ts) :
    untrustedHeaderCheck ct now ftl sizeOk h = .error .CorruptedData := by
  unfold untrustedHeaderCheck
  rw [if_pos (by omega)]

/-! ## header batches (`sync_block_headers` → `pipe::process_block_headers`) and known headers

A header's hash covers only its proof nonces, so a header the node already knows can be sent again
with the same proof and any other field changed: the copy has a *known hash*.  The batch path has
no "already known" check; the single-header path answers `Ok` for a stored hash without validating. -/

/-- After any batch accepted by `process_block_headers`: every header of
the batch satisfied `HeaderRules` against its predecessor (as the batch sees the store), the body
head and the block store are untouched, the header store is the old one extended by the batch, and
`header_head` is either unchanged (together with the header MMR) or it is the **last** header of
the batch, which then has strictly more total difficulty than the old `header_head`.  A rejected
batch changes nothing (`sync_batch_rejected_unchanged`; in the chain model:
`C06Chunk.refused_chunk_changes_nothing`). -/
theorem sync_batch_sound (n : HNode) (opts : Opts) (sh : Tip) (batch : List FHdr) (n' : HNode)
    (r : Bool) (h : processBlockHeaders n opts sh batch = .ok (n', r)) :
    BatchRules n.ct opts.skipPow n.hdrs batch ∧ n'.head = n.head ∧ n'.blocks = n.blocks ∧ n'.ct = n.ct ∧
    (batch = [] ∨ n'.hdrs = batch.reverse ++ n.hdrs) ∧
    ((n'.headerHead = n.headerHead ∧ n'.hmmr = n.hmmr) ∨
      ∃ last, batch.getLast? = some last ∧ n'.headerHead = Tip.ofHdr last ∧
        n.headerHead.totalDiff < last.h.totalDiff) := by
  rcases processBlockHeaders_ok h with ⟨rfl, rfl⟩ | ⟨last, e0, e1, hl, hrules, _, _, rfl⟩
  · exact ⟨trivial, rfl, rfl, rfl, .inl rfl, .inl ⟨rfl, rfl⟩⟩
  refine ⟨hrules, HNode.commit_head .., HNode.commit_blocks .., HNode.commit_ct .., .inr (HNode.commit_hdrs ..), ?_⟩
  rcases HNode.commit_headerHead n (batch.reverse ++ n.hdrs) last e1.mmr with hh | ⟨hh, hmore⟩
  · exact .inl hh
  · exact .inr ⟨last, hl, hh, hmore⟩

theorem sync_batch_rejected_unchanged (n : HNode) (opts : Opts) (sh : Tip) (batch : List FHdr)
    (e : NErr) (h : processBlockHeaders n opts sh batch = .error e) :
    syncStep n opts sh batch = n := by
  simp [syncStep, h]

/-- `header_head` after a batch, whatever its outcome: unchanged, or the last header of the
batch with more work, all of whose headers obeyed the rules -/
theorem sync_step_head (n : HNode) (opts : Opts) (sh : Tip) (batch : List FHdr) :
    (syncStep n opts sh batch).headerHead = n.headerHead ∨
    ∃ last, batch.getLast? = some last ∧ (syncStep n opts sh batch).headerHead = Tip.ofHdr last ∧
      n.headerHead.totalDiff < last.h.totalDiff ∧ BatchRules n.ct opts.skipPow n.hdrs batch := by
  unfold syncStep
  split
  · rename_i n' r h
    obtain ⟨hr, _, _, _, _, hh⟩ := sync_batch_sound n opts sh batch n' r h
    rcases hh with hh | ⟨last, h1, h2, h3⟩
    · exact .inl hh.1
    · exact .inr ⟨last, h1, h2, h3, hr⟩
  · exact .inl rfl

/-- **The header-MMR root on the batch path.**  If a batch is accepted, its last header is the
genesis, or already on the current header chain, or its `prev_root` was compared with the root of
the header MMR rewound to its parent (`rewind_and_apply_header_fork` → `validate_root`); the same
holds for every stored header re-applied on the way.  (Chain model:
`C06Chunk.accepted_chunk_fork_headers_clean`.) -/
theorem sync_batch_roots (n : HNode) (opts : Opts) (sh : Tip) (batch : List FHdr) (n' : HNode)
    (r : Bool) (last : FHdr) (hl : batch.getLast? = some last)
    (h : processBlockHeaders n opts sh batch = .ok (n', r)) :
    ∃ e0, extInit n'.hdrs n.hmmr = some e0 ∧
      (last.h.height = 0 ∨ e0.onChain n'.hdrs last.hash last.h.height = some true ∨
        last.rootOk = true) := by
  rcases processBlockHeaders_ok h with ⟨rfl, _⟩ | ⟨last', e0, e1, hl', _, he0, hra, rfl⟩
  · cases hl
  rw [hl] at hl'
  cases hl'
  rw [HNode.commit_hdrs]
  obtain ⟨fp, fork, hfw, hroots⟩ := rewindAndApplyHeaderFork_roots hra
  refine ⟨e0, he0, ?_⟩
  rcases forkWalk_start _ _ _ _ hfw with h0 | hon | hmem
  · exact .inl h0
  · exact .inr (.inl hon)
  -- the last header was re-applied: what the batch's store holds under its hash is the header itself
  obtain ⟨f, hf, hroot⟩ := hroots _ hmem
  rw [getHdr_last hl] at hf
  cases hf
  exact hroot.imp_right .inr

/-! ### non-vacuity of the `validate_header` theorems: a concrete accepted header and single-field
mutations of it -/

/-- parent at height 1 on the AutomatedTesting chain, its difficulty window, a context -/
def exPrev : Hdr := ⟨1, 1060, 1, 3, 20, 10, 12345, 3, 3⟩
def exWindow : List HDI := [⟨1060, 2, 20, false⟩, ⟨1000, 1, 20, false⟩]
def exCtx : Ctx := ⟨.automatedTesting, false, some exPrev, exWindow, false, true⟩
/-- a header satisfying every rule (network difficulty 3, scaling 19, proof difficulty 320) -/
def exHdr : Hdr := ⟨2, 1120, 1, 6, 19, 10, 2^60, 4, 4⟩

example : HeaderRules exCtx exHdr := (validate_header_iff _ _).mp (by decide +kernel)
example : validateHeader exCtx { exHdr with height := 3 } = .error .InvalidBlockHeight := by decide +kernel
example : validateHeader exCtx { exHdr with version := 2 } = .error .InvalidBlockVersion := by decide +kernel
example : validateHeader exCtx { exHdr with ts := 1060 } = .error .InvalidBlockTime := by decide +kernel
example : validateHeader exCtx { exHdr with kernelMmrSize := 3 } = .error .InvalidMMRSize := by decide +kernel
example : validateHeader exCtx { exHdr with outputMmrSize := 40 } = .error .TooHeavy := by decide +kernel
example : validateHeader exCtx { exHdr with edgeBits := 9 } = .error .LowEdgebits := by decide +kernel
example : validateHeader { exCtx with powOk := false } exHdr = .error .InvalidPow := by decide +kernel
example : validateHeader exCtx { exHdr with totalDiff := 3 } = .error .DifficultyTooLow := by decide +kernel
example : validateHeader exCtx { exHdr with totalDiff := 7 } = .error .WrongTotalDifficulty := by decide +kernel
example : validateHeader exCtx { exHdr with totalDiff := 5 } = .error .WrongTotalDifficulty := by decide +kernel
example : validateHeader exCtx { exHdr with secondaryScaling := 20 } = .error .InvalidScaling := by decide +kernel
example : validateHeader { exCtx with prev := none } exHdr = .error .Orphan := by decide +kernel

/-! ### every header of a chunk commits to the header MMR of its own ancestors

`sync_batch_roots` speaks about the last header of a batch.  For a *chunk* — headers that link up,
none of them genesis or already on the current header chain — the walk of
`rewind_and_apply_header_fork` from the last header passes through every one of them and each is
re-applied under `validate_root`. -/

/-- **Every header of an accepted chunk was root-checked** (all chunk lengths, all positions; chain
model: `chunk_accepted_iff_no_root_fault`, Props/C06ChunkPath). -/
theorem sync_chunk_roots_all (n : HNode) (opts : Opts) (sh : Tip) (chunk : List FHdr) (n' : HNode)
    (r : Bool) (h : processBlockHeaders n opts sh chunk = .ok (n', r))
    (hlink : Linked chunk) (hnd : (chunk.map (·.hash)).Nodup)
    (hnew : ∀ e0, extInit n'.hdrs n.hmmr = some e0 → ∀ x ∈ chunk,
      x.h.height ≠ 0 ∧ e0.onChain n'.hdrs x.hash x.h.height ≠ some true) :
    ∀ x ∈ chunk, x.rootOk = true := by
  intro x hx
  rcases processBlockHeaders_ok h with ⟨rfl, _⟩ | ⟨last, e0, e1, hl, _, he0, hra, rfl⟩
  · cases hx
  rw [HNode.commit_hdrs] at hnew
  obtain ⟨forked, fork, hfw, hroots⟩ := rewindAndApplyHeaderFork_roots hra
  have hnew' := hnew e0 he0
  have hcov := forkWalk_covers_chunk hl hlink
    (fun y hy => ⟨getHdr_chunk chunk n.hdrs y hnd hy, hnew' y hy⟩) hfw
  obtain ⟨f, hf, hroot⟩ := hroots _ (hcov x hx)
  rw [getHdr_chunk chunk n.hdrs x hnd hx] at hf
  cases hf
  exact hroot.resolve_left (hnew' x hx).1

/-- **A chunk accepted with computed root comparisons commits, header by header, to the MMR of
its predecessors**: for every position of the chunk, the header's `prev_root` is the root of the
header MMR recorded after its parent — the stored parent for the first header, the chunk's
previous header (with ITS leaf pushed, whatever `prev_root` it carried) for the others. -/
theorem chunk_prev_roots_are_ancestor_roots {α H : Type} [DecidableEq H]
    (hf : Pmmr.HashFn α H) (N : RNode α H) (opts : Opts) (sh : Tip) (chunk : List (RHdr α H))
    (N' : RNode α H) (b : Bool) (h : syncR hf N opts sh chunk = .ok (N', b))
    (hlink : Linked (flagged hf N.rs chunk))
    (hnd : ((flagged hf N.rs chunk).map (·.hash)).Nodup)
    (hnew : ∀ e0, extInit N'.n.hdrs N.n.hmmr = some e0 → ∀ x ∈ flagged hf N.rs chunk,
      x.h.height ≠ 0 ∧ e0.onChain N'.n.hdrs x.hash x.h.height ≠ some true) :
    ∀ pre x post, chunk = pre ++ x :: post →
      ∃ p m, rLookup ((flagChunk hf N.rs pre).reverse ++ N.rs) x.f.prevHash = some (p, m) ∧
        Pmmr.root hf m = .ok x.prevRoot := by
  intro pre x post hc
  unfold syncR at h
  dsimp only at h
  split at h
  · cases h
  rename_i n' b' hp
  cases h
  have hall := sync_chunk_roots_all N.n opts sh (flagged hf N.rs chunk) _ _ hp hlink hnd hnew
  have hmem := flagChunk_at hf pre N.rs x post
  rw [← hc] at hmem
  exact flagOne_rootOk hf _ x (hall _ (List.mem_map_of_mem hmem))

/-! ### known headers: a stored hash delivered again with other fields -/

/- **`known_hash_cannot_move_head` — full statement, FALSE for the code as it is** (only under
the test option `Options::SKIP_POW`; see `known_hash_moves_head_under_skip_pow` for the
kernel-checked counter-example, which the harness reproduces on the real `Chain`):

    theorem known_hash_cannot_move_head (n : HNode) (opts : Opts) (sh : Tip) (pre : List FHdr)
        (k' k : FHdr) (hstored : getHdr n.hdrs k'.hash = some k) (hdiff : ¬ SameContent k' k) :
        (syncStep n opts sh (pre ++ [k'])).headerHead.totalDiff = n.headerHead.totalDiff

`process_block_headers` has no "already known" check and `add_block_header` is keyed by a hash
that covers the proof nonces only; what keeps a re-sent known header with changed fields out is
solely the cycle verifier (the proof is bound to the pre-PoW bytes, which contain every other
field).  Missing for the full statement: nothing in the header pipeline itself compares a header
with the stored header of the same hash.  Proved below: the statement **without `SKIP_POW`**
under the binding property of the verifier (property C05: a proof verifies for one pre-PoW
content; `hk`: the stored copy is the one that verified). -/

/-- Without `SKIP_POW` a batch holding a header the cycle verifier refuses is refused as a whole: an
accepted batch would have found that header's proof of work in order. -/
theorem batch_bad_pow_refused (n : HNode) (opts : Opts) (hs : opts.skipPow = false) (sh : Tip)
    (pre : List FHdr) (f : FHdr) (post : List FHdr) (hp : f.powOk = false) :
    ∃ e, processBlockHeaders n opts sh (pre ++ f :: post) = .error e := by
  cases hr : processBlockHeaders n opts sh (pre ++ f :: post) with
  | error e => exact ⟨e, rfl⟩
  | ok x =>
    have hk := batchRules_mem pre n.hdrs f post (sync_batch_sound n opts sh _ x.1 x.2 hr).1
    rw [hs] at hk
    have : f.powOk = true := powOk_of_headerRules hk rfl
    rw [hp] at this
    cases this

/-- With real proof of work: a batch — any honest or dishonest prefix `pre`,
known or new — whose last header `k'` has a hash that is already stored with different fields is
refused as a whole: `header_head` (hash, height and total difficulty), `head`, the header MMR and
the stored header for that hash are exactly what they were. -/
theorem known_hash_cannot_move_head_partial (n : HNode) (opts : Opts) (hs : opts.skipPow = false)
    (sh : Tip) (pre : List FHdr) (k' k : FHdr)
    (hstored : getHdr n.hdrs k'.hash = some k) (hdiff : ¬ SameContent k' k)
    (hk : k.powOk = true) (hbind : k.powOk = true → k'.powOk = true → SameContent k' k) :
    (∃ e, processBlockHeaders n opts sh (pre ++ [k']) = .error e) ∧
    syncStep n opts sh (pre ++ [k']) = n ∧
    (syncStep n opts sh (pre ++ [k'])).headerHead.totalDiff = n.headerHead.totalDiff ∧
    getHdr (syncStep n opts sh (pre ++ [k'])).hdrs k'.hash = some k := by
  have hp : k'.powOk = false := by
    cases hp : k'.powOk with
    | false => rfl
    | true => exact absurd (hbind hk hp) hdiff
  obtain ⟨e, he⟩ := batch_bad_pow_refused n opts hs sh pre k' [] hp
  have hstep := sync_batch_rejected_unchanged n opts sh _ _ he
  exact ⟨⟨e, he⟩, hstep, by rw [hstep], by rw [hstep]; exact hstored⟩

/-- the single-header path (`process_block_header`) may answer `Ok` for such a copy ("already
known") but never takes it for something new: the node is unchanged -/
theorem known_hash_header_path_unchanged (n : HNode) (opts : Opts) (hs : opts.skipPow = false)
    (k' : FHdr) (hp : k'.powOk = false) (n' : HNode)
    (h : nodeProcessBlockHeader n opts k' = .ok n') : n' = n := by
  rcases nodeProcessBlockHeader_ok h with rfl | ⟨prev, _, happ⟩
  · rfl
  · have hv := (pbhApply_ok happ).1
    rw [hs] at hv
    have : k'.powOk = true := powOk_of_headerRules hv rfl
    rw [hp] at this
    cases this

theorem known_hash_block_path_rejected (n : HNode) (opts : Opts) (hs : opts.skipPow = false)
    (k' : FHdr) (bodyOk : Bool) (hp : k'.powOk = false) :
    (nodeProcessBlock n opts k' bodyOk).1 = n ∧
    ∃ e, (nodeProcessBlock n opts k' bodyOk).2 = .error e := by
  refine nodeProcessBlock_elim (P := fun r => r.1 = n ∧ ∃ e, r.2 = .error e) n opts k' bodyOk
    (fun e => ⟨rfl, e, rfl⟩)
    (fun n1 e h1 => ⟨known_hash_header_path_unchanged n opts hs k' hp n1 h1, e, rfl⟩)
    (fun n1 n2 _ _ hpow => ?_)
  have := (hpow hs).2
  rw [hp] at this
  cases this

/-- **`process_block_header` at node level.**  An `Ok` either changed nothing (the "already known"
short-cuts) or stored a header that obeys every rule against its stored parent and whose
`prev_root` matched the header MMR rewound to that parent; `header_head` is then unchanged or
this header, with more work. -/
theorem node_process_block_header_sound (n : HNode) (opts : Opts) (f : FHdr) (n' : HNode)
    (h : nodeProcessBlockHeader n opts f = .ok n') :
    n' = n ∨ (HeaderRules (ctxFor n.ct opts.skipPow n.hdrs f) f.h ∧ (f.h.height = 0 ∨ f.rootOk = true) ∧
      n'.hdrs = f :: n.hdrs ∧ n'.head = n.head ∧ n'.blocks = n.blocks ∧
      (n'.headerHead = n.headerHead ∨
        (n'.headerHead = Tip.ofHdr f ∧ n.headerHead.totalDiff < f.h.totalDiff))) := by
  rcases nodeProcessBlockHeader_ok h with rfl | ⟨prev, _, happ⟩
  · exact .inl rfl
  obtain ⟨hv, e0, e1, e2, _, _, hva, rfl⟩ := pbhApply_ok happ
  refine .inr ⟨hv, (validateApply_ok hva).1, HNode.commit_hdrs .., HNode.commit_head .., HNode.commit_blocks .., ?_⟩
  rcases HNode.commit_headerHead n (f :: n.hdrs) f e2.mmr with hh | ⟨hh, hmore⟩
  · exact .inl hh.1
  · exact .inr ⟨hh, hmore⟩

/-! ### non-vacuity: a node, an honest batch, a mutated copy of a known header -/

/-- a three-header chain on AutomatedTesting as deliveries: genesis (hash 100), `exP` (hash 101,
height 1, network difficulty 3, scaling 19) and `exX` (hash 102, height 2) -/
def exG : FHdr := ⟨100, 0, ⟨0, 1000, 1, 1, 20, 10, 777, 1, 1⟩, 1, true, true⟩
def exP : FHdr := ⟨101, 100, ⟨1, 1060, 1, 4, 19, 10, 2^60, 3, 3⟩, 2, true, true⟩
def exX : FHdr := ⟨102, 101, ⟨2, 1120, 1, 7, 19, 10, 2^60, 4, 4⟩, 3, true, true⟩
/-- a node that knows genesis and `exP` (header and block) -/
def exNode : HNode :=
  { ct := .automatedTesting, hdrs := [exP, exG], blocks := [101, 100], head := Tip.ofHdr exP,
    headerHead := Tip.ofHdr exP, hmmr := [100, 101] }
/-- `exP` again — same proof, same hash — claiming total difficulty 50: the cycle verifier
refuses it (`powOk = false`) since the pre-PoW bytes changed -/
def exP' : FHdr := ⟨101, 100, { exP.h with totalDiff := 50 }, 9, false, true⟩

/-- the store yields parent and difficulty window, and both honest headers obey every rule -/
example : (ctxFor .automatedTesting false exNode.hdrs exX).window =
      [⟨1060, 3, 19, false⟩, ⟨1000, 1, 20, false⟩] ∧
    (ctxFor .automatedTesting false exNode.hdrs exX).prev = some exP.h := by decide +kernel
example : BatchRules .automatedTesting false [exG] [exP, exX] :=
  ⟨(validate_header_iff _ _).mp (by decide +kernel), (validate_header_iff _ _).mp (by decide +kernel), trivial⟩
/-- an honest batch moves `header_head` to its last header (hypotheses of `sync_batch_sound`) -/
example : (syncStep exNode Opts.NONE exNode.headerHead [exX]).headerHead = Tip.ofHdr exX := by
  decide +kernel
/-- re-sending the unmodified known header is accepted and harmless -/
example : errOf (processBlockHeaders exNode Opts.NONE exNode.headerHead [exP]) = none := by decide +kernel
example : (syncStep exNode Opts.NONE exNode.headerHead [exP]).headerHead = exNode.headerHead ∧
    getHdr (syncStep exNode Opts.NONE exNode.headerHead [exP]).hdrs 101 = some exP := by decide +kernel
/-- the mutated copy of the known header: alone, after a known header, after a new honest header
(hypotheses of `known_hash_cannot_move_head_partial`) -/
example : getHdr exNode.hdrs exP'.hash = some exP ∧ exP.powOk = true ∧ exP'.powOk = false := by
  decide +kernel
example : errOf (processBlockHeaders exNode Opts.NONE exNode.headerHead [exP']) = some (.hdr .InvalidPow) := by
  decide +kernel
example : errOf (processBlockHeaders exNode Opts.NONE exNode.headerHead [exP, exP']) = some (.hdr .InvalidPow) := by
  decide +kernel
example : errOf (processBlockHeaders exNode Opts.NONE exNode.headerHead [exX, exP']) = some (.hdr .InvalidPow) := by
  decide +kernel
/-- the single-header path answers `Ok` for it and changes nothing -/
example : (nodeProcessBlockHeader exNode Opts.NONE exP').toOption.map (·.headerHead) =
    some exNode.headerHead := by decide +kernel

/- non-vacuity, with a toy hash: genesis, then the chunk `[exP, exX]` whose `prev_root`s are the
roots of the MMR after genesis resp. after `exP` — accepted; the same chunk with a wrong
`prev_root` in its FIRST header (the second one still committing to the MMR that results after
the first is applied) or in its last header — refused with `InvalidRoot` -/
def exHF : Pmmr.HashFn Nat Nat where
  leaf := fun i e => (i * 1000003 + e * 7919) % 1000000007
  node := fun i l r => (i * 101 + l * 31 + r * 17 + 5) % 1000000007
def exRNode : RNode Nat Nat := RNode.genesis exHF .automatedTesting ⟨exG, 100, 0⟩
example : (flagged exHF exRNode.rs [⟨exP, 101, 791900⟩, ⟨exX, 102, 55146081⟩]).map (·.rootOk) = [true, true] ∧
    (flagged exHF exRNode.rs [⟨exP, 101, 791901⟩, ⟨exX, 102, 55146081⟩]).map (·.rootOk) = [false, true] := by
  decide +kernel
example : errOf (syncR exHF exRNode Opts.NONE exRNode.n.headerHead [⟨exP, 101, 791900⟩, ⟨exX, 102, 55146081⟩]) = none ∧
    errOf (syncR exHF exRNode Opts.SYNC exRNode.n.headerHead [⟨exP, 101, 791901⟩, ⟨exX, 102, 55146081⟩]) =
      some (.hdr .InvalidRoot) ∧
    errOf (syncR exHF exRNode Opts.NONE exRNode.n.headerHead [⟨exP, 101, 791900⟩, ⟨exX, 102, 55146082⟩]) =
      some (.hdr .InvalidRoot) := by
  decide +kernel

/-- **The full statement fails under `SKIP_POW`**: the mutated copy of the known `header_head`
(same hash) is accepted by the batch path, `header_head`'s total difficulty goes from 4 to 50 and
the stored header for that hash is replaced. -/
theorem known_hash_moves_head_under_skip_pow :
    getHdr exNode.hdrs exP'.hash = some exP ∧ exP'.h ≠ exP.h ∧
    exNode.headerHead.totalDiff = 4 ∧
    (syncStep exNode Opts.SKIP_POW exNode.headerHead [exP']).headerHead.totalDiff = 50 ∧
    (syncStep exNode Opts.SKIP_POW exNode.headerHead [exP']).headerHead.hash = exNode.headerHead.hash ∧
    getHdr (syncStep exNode Opts.SKIP_POW exNode.headerHead [exP']).hdrs 101 = some exP' := by
  decide +kernel

/-! ### the proof of work is checked under every option except `SKIP_POW`

`pipe.rs` reads `ctx.opts` only as `contains(Options::SKIP_POW)`; the node itself calls the chain
with `NONE` (peers), `SYNC` (sync) and `MINE` (own miner / stratum, which only compares
`to_difficulty()` with the share difficulty and relies on the chain for the cycle check). -/

/-- For every option set that does not contain `SKIP_POW`
(`NONE`, `SYNC`, `MINE` and their unions): every header of an accepted batch, every header the
single-header path stores, and every block `process_block` accepts has allowed edge bits and a
proof the cycle verifier accepted for it; on the header paths the claimed total difficulty minus
the parent's (a `Nat` subtraction) is moreover exactly the network difficulty, which the proof's own
difficulty reaches. -/
theorem pow_checked_unless_skip_pow (n : HNode) (opts : Opts) (hs : opts.skipPow = false) :
    (∀ sh batch n' r, processBlockHeaders n opts sh batch = .ok (n', r) →
      ∀ pre f post, batch = pre ++ f :: post → PowRule n.ct (pre.reverse ++ n.hdrs) f) ∧
    (∀ f n', nodeProcessBlockHeader n opts f = .ok n' → n' = n ∨ PowRule n.ct n.hdrs f) ∧
    (∀ f bodyOk n', nodeProcessBlock n opts f bodyOk = (n', .ok ()) →
      (isPrimary n.ct f.h.edgeBits = true ∨ isSecondary f.h.edgeBits = true) ∧ f.powOk = true) := by
  refine ⟨?_, ?_, ?_⟩
  · intro sh batch n' r h pre f post hb
    obtain ⟨hr, _⟩ := sync_batch_sound n opts sh batch n' r h
    rw [hs, hb] at hr
    exact powRule_of_rules (batchRules_mem pre n.hdrs f post hr)
  · intro f n' h
    rcases node_process_block_header_sound n opts f n' h with h1 | h1
    · exact .inl h1
    · right
      have := h1.1
      rw [hs] at this
      exact powRule_of_rules this
  · intro f bodyOk n' h
    revert h
    refine nodeProcessBlock_elim (P := fun r => r = (n', .ok ()) →
        (isPrimary n.ct f.h.edgeBits = true ∨ isSecondary f.h.edgeBits = true) ∧ f.powOk = true)
      n opts f bodyOk (fun e h => by cases h) (fun n1 e _ h => by cases h) (fun n1 n2 h1 _ hpow _ => ?_)
    rw [← node_process_block_header_ct n opts f n1 h1]
    exact hpow hs

/-- non-vacuity: the honest header is accepted and the same header with a proof that is not a
cycle (`powOk = false`) is refused under `NONE`, `SYNC`, `MINE` and `SYNC | MINE`; only `SKIP_POW`
lets it through -/
example : ∀ o ∈ [Opts.NONE, Opts.SYNC, Opts.MINE, ⟨6⟩],
    errOf (processBlockHeaders exNode o exNode.headerHead [exX]) = none ∧
    errOf (processBlockHeaders exNode o exNode.headerHead [{ exX with powOk := false }]) =
      some (.hdr .InvalidPow) ∧
    errOf (nodeProcessBlockHeader exNode o { exX with powOk := false }) = some (.hdr .InvalidPow) ∧
    errOf (nodeProcessBlock exNode o { exX with powOk := false } true).2 = some (.hdr .InvalidPow) ∧
    errOf (nodeProcessBlockHeader exNode o { exX with h := { exX.h with edgeBits := 9 } }) =
      some (.hdr .LowEdgebits) := by decide +kernel
example : errOf (processBlockHeaders exNode Opts.SKIP_POW exNode.headerHead [{ exX with powOk := false }]) = none := by
  decide +kernel

/-! ## the future-time limit under thread-local configuration (`core/src/global.rs`)

"From the network, not beyond the future-time limit": `UntrustedBlockHeader::read` asks
`global::get_future_time_limit()`.  Chain type, accept-fee base, future time limit and NRD flag
each live in a thread-local cell with a process-wide value behind it; a getter returns
`local ?? global ?? default` and caches what it resolved — in its **own** cell. -/

/-- every getter returns `local ?? global ?? default` (`none`: `get_chain_type` panics) -/
theorem lookup_resolves (s : PStore) (p : Param) : (s.get p).1 = s.resolve p := get_fst s p

/-- a getter writes at most its own parameter's thread-local cell -/
theorem lookup_writes_own_cell_only (s : PStore) (p q : Param) (hpq : p ≠ q) :
    (s.get q).2.loc p = s.loc p ∧ (s.get q).2.glob = s.glob := by
  refine ⟨?_, (get_same s q).2⟩
  rcases get_eq s q with h | ⟨v, _, h⟩ <;> rw [h]
  simp [PStore.setLocal, hpq]

/-- A lookup of `q` never changes the result of a later lookup of another parameter `p` (the
hypothesis is not needed: `get_get_fst`) … -/
theorem lookup_independent (s : PStore) (p q : Param) (_hpq : p ≠ q) :
    ((s.get q).2.get p).1 = (s.get p).1 :=
  get_get_fst s p q

/-- … nor of `p` itself: looking a parameter up twice gives the same value -/
theorem lookup_stable (s : PStore) (p : Param) : ((s.get p).2.get p).1 = (s.get p).1 :=
  get_get_fst s p p

/-- Whatever a thread did before — lookups of any parameter (directly, through
`max_block_weight`, `coinbase_maturity`, `Transaction::accept_fee`, or by decoding headers) and
set / init of *other* parameters — the lookup of `p` answers as it would have at the start. -/
theorem lookup_independent_of_history (s : PStore) (ops : List POp) (p : Param)
    (hw : ∀ op ∈ ops, op.writes ≠ some p) : ((s.run ops).get p).1 = (s.get p).1 := by
  rw [get_fst, get_fst, resolve_run ops s p hw]

/-- **The network verdict depends only on (timestamp, now, ftl, chain type).**  Decoding a header
after any history that did not set the future time limit or the chain type gives the verdict it
would have given at the start: `untrustedHeaderCheck` under `ftl = local ?? global ?? default`. -/
theorem future_limit_verdict_independent (s : PStore) (ops : List POp) (now : Int) (ok : Bool)
    (h : Hdr) (hw : ∀ op ∈ ops, op.writes ≠ some .ftl ∧ op.writes ≠ some .chainType) :
    (untrustedHeaderRead (s.run ops) now ok h).1 = (untrustedHeaderRead s now ok h).1 := by
  rw [(untrustedHeaderRead_spec _ _ _ _).1, (untrustedHeaderRead_spec _ _ _ _).1,
    resolve_run ops s .ftl (fun op ho => (hw op ho).1),
    resolve_run ops s .chainType (fun op ho => (hw op ho).2)]

/-- On a thread without a local future time limit and with no global one the limit is the
default (300 s), whatever was looked up before; a header dated beyond `now + 300` is refused. -/
theorem future_limit_default_rejects (s : PStore) (ops : List POp) (now : Int) (ok : Bool) (h : Hdr)
    (c : Nat) (hc : s.resolve .chainType = some c)
    (hl : s.loc .ftl = none) (hg : s.glob .ftl = none)
    (hw : ∀ op ∈ ops, op.writes ≠ some .ftl ∧ op.writes ≠ some .chainType)
    (hf : now + DEFAULT_FUTURE_TIME_LIMIT < h.ts) :
    (untrustedHeaderRead (s.run ops) now ok h).1 = some (.error .CorruptedData) := by
  rw [future_limit_verdict_independent s ops now ok h hw, (untrustedHeaderRead_spec _ _ _ _).1, hc]
  have : s.resolve .ftl = some DEFAULT_FUTURE_TIME_LIMIT := by
    simp [PStore.resolve, hl, hg, pDefault]
  rw [this]
  simp only
  rw [untrusted_header_future_rejected _ _ _ _ _ hf]

/-- non-vacuity: a fresh thread that set only its chain type, after looking up the fee base,
the NRD flag and the block weight, refuses a header dated now+301 s and lets now+300 s pass the
time check (it is then refused for its version, not its time) -/
example : ((((PStore.empty.setLocal .chainType 2).run
    [.get .feeBase, .acceptFee 25, .get .nrd, .maxBlockWeight, .coinbaseMaturity]).get .ftl).1 = some 300) := by
  decide +kernel
example : (untrustedHeaderRead ((PStore.empty.setLocal .chainType 2).run [.get .feeBase, .maxBlockWeight])
    1000 true { exHdr with ts := 1301 }).1 = some (.error .CorruptedData) := by decide +kernel
example : (untrustedHeaderRead ((PStore.empty.setLocal .chainType 2).run [.get .feeBase, .maxBlockWeight])
    1000 true { exHdr with ts := 1300 }).1 = some (.ok ()) := by decide +kernel

/-! ## the network side: the proof of work is verified on the graph size the header CLAIMS, and
every entry path of a header applies the same network-side rules

`Model/ConsNet.lean`: `verifySizeHdr` is `pow::verify_size` with the verifier of property C05
computed; its context — variant, edge mask, node mask, siphash keys — is
built from the header's own fields, `edge_bits` included, for every chain type.  `edge_bits` is not
part of the pre-PoW bytes, so a cycle solved on a small graph can be relabelled to a larger size
without changing the seed; `to_difficulty` / `graph_weight` would credit the claimed size.  What
keeps such a header out is that the cycle must verify on the graph of the CLAIMED size.
`netHeaderOk` is the one function behind `UntrustedBlockHeader::read`; `netRead` is what the four
network readers (bare header, item of a header list, compact block, full block) do with it. -/

/-- `verify_size` as a function of the siphash keys `k` of the pre-PoW bytes -/
theorem verifySizeHdr_of_keys (ct : ChainType) (n : NetHdr) (k : Pow.Keys)
    (hk : Pow.keysOfHeader n.prePow none = k) :
    verifySizeHdr ct n =
      match Pow.selectVariant (powCt ct) n.h.height n.h.edgeBits with
      | none => .error (.size .noCtx)
      | some v =>
        if v = .cuckatoo ∧ graphTooBig n.h.edgeBits = true then .error .graphTooBig
        else
          match Pow.verifyOf v (Pow.mkParams n.h.edgeBits (Pow.proofsizeOf (powCt ct)) n.nonces.length)
              (Pow.epOf v k n.h.edgeBits) n.nonces with
          | .ok () => .ok ()
          | .error e => .error (.size (.verify e)) := by
  subst hk
  unfold verifySizeHdr Pow.verifySize
  cases Pow.selectVariant (powCt ct) n.h.height n.h.edgeBits with
  | none => rfl
  | some v =>
    have hv : ((Pow.Ctx.new v n.h.edgeBits (Pow.proofsizeOf (powCt ct)) n.nonces.length).step
          (.seed n.prePow none false)).verify n.nonces =
        Pow.verifyOf v (Pow.mkParams n.h.edgeBits (Pow.proofsizeOf (powCt ct)) n.nonces.length)
          (Pow.epOf v (Pow.keysOfHeader n.prePow none) n.h.edgeBits) n.nonces := rfl
    simp only [hv]
    cases Pow.verifyOf v _ _ n.nonces <;> cases v <;> simp

/-- **The proof of work is verified on the claimed graph size.**  `verify_size` accepts a header only
if a context exists for (chain type, height, CLAIMED edge bits) and that variant's `verify` accepts
the nonces under parameters that are functions of the header alone: edge mask `2^edge_bits - 1`,
endpoints masked to the node bits of `edge_bits`, keys = blake2b of the header's pre-PoW bytes. -/
theorem verify_size_on_claimed_size (ct : ChainType) (n : NetHdr) (h : verifySizeHdr ct n = .ok ()) :
    ∃ v, Pow.selectVariant (powCt ct) n.h.height n.h.edgeBits = some v ∧
      Pow.verifyOf v (Pow.mkParams n.h.edgeBits (Pow.proofsizeOf (powCt ct)) n.nonces.length)
        (Pow.epOf v (Pow.keysOfHeader n.prePow none) n.h.edgeBits) n.nonces = .ok () := by
  rw [verifySizeHdr_of_keys ct n _ rfl] at h
  cases hs : Pow.selectVariant (powCt ct) n.h.height n.h.edgeBits with
  | none => simp [hs] at h
  | some v =>
    refine ⟨v, rfl, ?_⟩
    rw [hs] at h
    dsimp only at h
    split at h
    · cases h
    · split at h
      · assumption
      · cases h

/-- **Every chain type**: every nonce of an accepted header lies below `2^edge_bits` for the edge
bits the header claims (each of the five verifiers compares with the context's edge mask, and the
context's edge mask is `2^edge_bits - 1` of the claimed size). -/
theorem verify_size_nonces_in_claimed_range (ct : ChainType) (n : NetHdr)
    (h : verifySizeHdr ct n = .ok ()) : ∀ x ∈ n.nonces, x < 2 ^ n.h.edgeBits := by
  obtain ⟨v, _, hok⟩ := verify_size_on_claimed_size ct n h
  have hp : 0 < 2 ^ n.h.edgeBits := Nat.pow_pos (by omega)
  intro x hx
  have := GV.Props.C05.verifyOf_ok_mask v _ _ _ hok x hx
  simp only [Pow.mkParams] at this
  omega

/-- the testing chain types always take the Cuckatoo branch of `create_pow_context`, at the
requested size -/
theorem testing_chain_cuckatoo (ct : ChainType) (hct : ct = .automatedTesting ∨ ct = .userTesting)
    (height eb : Nat) : Pow.selectVariant (powCt ct) height eb = some .cuckatoo := by
  rcases hct with rfl | rfl <;> rfl

/-- **Testing chain types** (AutomatedTesting / UserTesting — the non-production branch of
`create_pow_context`): an accepted header carries exactly `proofsize` strictly ascending nonces, all
BELOW `2^edge_bits` for the edge bits it claims, forming one simple cycle through all of them in the
Cuckatoo graph of the CLAIMED size seeded by its pre-PoW bytes. -/
theorem verify_size_testing_chain (ct : ChainType) (hct : ct = .automatedTesting ∨ ct = .userTesting)
    (n : NetHdr) (h : verifySizeHdr ct n = .ok ()) :
    n.nonces.length = Pow.proofsizeOf (powCt ct) ∧ Pow.Ascending n.nonces ∧
    (∀ x ∈ n.nonces, x < 2 ^ n.h.edgeBits) ∧
    Pow.IsProofCycleCuckatoo
      (n.nonces.map (Pow.epCuckatoo (Pow.keysOfHeader n.prePow none) n.h.edgeBits)) := by
  obtain ⟨v, hv, hok⟩ := verify_size_on_claimed_size ct n h
  rw [testing_chain_cuckatoo ct hct] at hv
  cases hv
  obtain ⟨h1, h2, _, h4⟩ := GV.Props.C05.verifyCuckatoo_sound _ _ _ hok
  exact ⟨h1, h2, verify_size_nonces_in_claimed_range ct n h, h4⟩

theorem relabelled_nonce_out_of_range_refused (ct : ChainType) (n : NetHdr)
    (hx : ∃ x ∈ n.nonces, 2 ^ n.h.edgeBits ≤ x) : verifySizeHdr ct n ≠ .ok () := by
  intro h
  obtain ⟨x, hx, hge⟩ := hx
  have := verify_size_nonces_in_claimed_range ct n h x hx
  omega

/-- the verdict is a function of the header's fields: two headers that agree on height, claimed
edge bits, pre-PoW bytes and nonces get the same answer (no hidden state in the context) -/
theorem verify_size_function_of_header (ct : ChainType) (n m : NetHdr)
    (h1 : n.h.height = m.h.height) (h2 : n.h.edgeBits = m.h.edgeBits) (h3 : n.prePow = m.prePow)
    (h4 : n.nonces = m.nonces) : verifySizeHdr ct n = verifySizeHdr ct m := by
  unfold verifySizeHdr
  rw [h1, h2, h3, h4]

theorem netHdr_powOk_iff {ct : ChainType} {n : NetHdr} :
    n.powOk ct = true ↔ verifySizeHdr ct n = .ok () := by
  unfold NetHdr.powOk
  split <;> simp [*]

/-- the network-side header rules, stated outright: what `UntrustedBlockHeader::read` lets through
is not beyond the future-time limit, carries the scheduled version and allowed edge bits, has a
proof of work that verifies on the graph of its claimed size, and fits the global weight bound -/
theorem net_header_rules (ct : ChainType) (now : Int) (ftl : Nat) (n : NetHdr)
    (h : netHeaderOk ct now ftl n = .ok ()) :
    n.h.ts ≤ now + ftl ∧ n.h.version = headerVersion ct n.h.height ∧
    (isPrimary ct n.h.edgeBits = true ∨ isSecondary n.h.edgeBits = true) ∧
    verifySizeHdr ct n = .ok () ∧
    weightByIok 0 (Pmmr.nLeaves n.h.outputMmrSize) (Pmmr.nLeaves n.h.kernelMmrSize) ≤
      mulW (maxBlockWeight ct) (addW n.h.height 1) := by
  obtain ⟨a, b, c, d, e⟩ := untrusted_header_sound ct now ftl (n.powOk ct) n.h h
  refine ⟨a, b, c, ?_, e⟩
  exact netHdr_powOk_iff.mp d

/-- **Path independence**: the four readers are the same function of the header -/
theorem net_read_path_independent (p q : NetPath) (ct : ChainType) (now : Int) (ftl : Nat)
    (n : NetHdr) (rest : Except ReadErr Unit) :
    netRead p ct now ftl n rest = netRead q ct now ftl n rest := rfl

theorem net_read_sound (p : NetPath) (ct : ChainType) (now : Int) (ftl : Nat) (n : NetHdr)
    (rest : Except ReadErr Unit) (h : netRead p ct now ftl n rest = .ok ()) :
    netHeaderOk ct now ftl n = .ok () ∧ rest = .ok () := by
  unfold netRead at h
  split at h
  · cases h
  · rename_i hh
    exact ⟨hh, h⟩

/-- **A header beyond the future-time limit is refused on every path** — bare header, item of a
header list, compact block, full block — whatever else it (or its body) says. -/
theorem net_future_refused_every_path (p : NetPath) (ct : ChainType) (now : Int) (ftl : Nat)
    (n : NetHdr) (rest : Except ReadErr Unit) (hf : now + ftl < n.h.ts) :
    netRead p ct now ftl n rest = .error .CorruptedData := by
  unfold netRead netHeaderOk
  rw [untrusted_header_future_rejected ct now ftl _ n.h hf]

theorem net_bad_pow_refused_every_path (p : NetPath) (ct : ChainType) (now : Int) (ftl : Nat)
    (n : NetHdr) (rest : Except ReadErr Unit) (hb : verifySizeHdr ct n ≠ .ok ()) :
    netRead p ct now ftl n rest ≠ .ok () := by
  intro h
  exact hb (net_header_rules ct now ftl n (net_read_sound p ct now ftl n rest h).1).2.2.2.1

theorem net_headers_msg_sound (ct : ChainType) (now : Int) (ftl : Nat) (l : List NetHdr)
    (h : readHeadersMsg ct now ftl l = .ok ()) : ∀ n ∈ l, netHeaderOk ct now ftl n = .ok () := by
  induction l with
  | nil => intro n hn; cases hn
  | cons a t ih =>
    unfold readHeadersMsg at h
    split at h
    · cases h
    · rename_i ha
      intro n hn
      rcases List.mem_cons.mp hn with rfl | hn
      · exact (net_read_sound _ ct now ftl _ _ ha).1
      · exact ih h n hn

theorem net_headers_msg_future_refused (ct : ChainType) (now : Int) (ftl : Nat) (l : List NetHdr)
    (hf : ∃ n ∈ l, now + ftl < n.h.ts) : readHeadersMsg ct now ftl l ≠ .ok () := by
  intro h
  obtain ⟨n, hn, hts⟩ := hf
  have := (net_header_rules ct now ftl n (net_headers_msg_sound ct now ftl l h n hn)).1
  omega

/-- the chain pipeline with the verifier the node installs (`pow::verify_size`): a header that
passes `validate_header` without `SKIP_POW` has a proof of work on its claimed graph size -/
theorem pipeline_pow_on_claimed_size (ct : ChainType) (prev : Option Hdr) (w : List HDI) (n : NetHdr)
    (h : validateHeader (ctxForNet ct false prev w n) n.h = .ok ()) :
    verifySizeHdr ct n = .ok () := by
  have hp := powOk_of_headerRules ((validate_header_iff _ _).mp h) rfl
  exact netHdr_powOk_iff.mp hp

/-! ### non-vacuity: a header genuinely mined on 2^10 edges (AutomatedTesting, height 0; pre-PoW
bytes and nonces as observed on the real `pow_size`), honest and relabelled -/

def exNetPre : Bytes := GV.Props.C05Entry.exPre

/-- the header as mined (`edge_bits` 10) and the same proof under a claimed size `eb` -/
def exNet (eb : Nat) : NetHdr :=
  { h := { height := 0, ts := 1000, version := 1, totalDiff := 2, secondaryScaling := 0, edgeBits := eb,
           hash64 := 1, outputMmrSize := 1, kernelMmrSize := 1 },
    prePow := exNetPre, nonces := [30, 397, 435, 521, 683, 836, 1018, 1023] }

theorem exNet_keys (eb : Nat) : Pow.keysOfHeader (exNet eb).prePow none =
    ⟨2616484003974749214, 4911997607595936788, 14551078747060901436, 8809436808476739002⟩ :=
  GV.Props.C05Entry.exPre_keys

/- Below, verdicts are put in by `rw` and only the rest is evaluated: after `simp`/`unfold` the
kernel compares the two forms by evaluating them, blake2b included. -/
theorem exNet10_ok : verifySizeHdr .automatedTesting (exNet 10) = .ok () := by
  rw [verifySizeHdr_of_keys _ _ _ (exNet_keys 10)]
  decide +kernel

theorem exNet21_refused :
    verifySizeHdr .automatedTesting (exNet 21) = .error (.size (.verify .noMatch)) := by
  rw [verifySizeHdr_of_keys _ _ _ (exNet_keys 21)]
  decide +kernel

example : verifySizeHdr .automatedTesting (exNet 10) = .ok () := exNet10_ok
example : verifySizeHdr .automatedTesting (exNet 11) = .error (.size (.verify .noMatch)) := by
  rw [verifySizeHdr_of_keys _ _ _ (exNet_keys 11)]
  decide +kernel
example : verifySizeHdr .automatedTesting (exNet 21) = .error (.size (.verify .noMatch)) := exNet21_refused
example : verifySizeHdr .automatedTesting (exNet 9) = .error (.size (.verify .tooBig)) := by decide +kernel
example : verifySizeHdr .automatedTesting (exNet 63) = .error .graphTooBig := by decide +kernel
example : netHeaderOk .automatedTesting 2000 0 (exNet 10) = .ok () := by
  rw [netHeaderOk, NetHdr.powOk, exNet10_ok]
  decide +kernel
example : netHeaderOk .automatedTesting 2000 0 (exNet 21) = .error .CorruptedData := by
  rw [netHeaderOk, NetHdr.powOk, exNet21_refused]
  decide +kernel
example : ∀ p ∈ [NetPath.header, .headersItem, .compactBlock, .block],
    netRead p .automatedTesting 999 0 (exNet 10) (.ok ()) = .error .CorruptedData ∧
    netRead p .automatedTesting 1000 0 (exNet 10) (.ok ()) = .ok () := by
  intro p _
  rw [netRead, netRead, netHeaderOk, netHeaderOk, NetHdr.powOk, exNet10_ok]
  decide +kernel
example : readHeadersMsg .automatedTesting 2000 0 [exNet 10, exNet 10] = .ok () ∧
    readHeadersMsg .automatedTesting 2000 0 [exNet 10, exNet 21, exNet 10] = .error .CorruptedData := by
  repeat rw [readHeadersMsg]
  rw [netRead, netRead, netHeaderOk, netHeaderOk, NetHdr.powOk, NetHdr.powOk, exNet10_ok,
    exNet21_refused]
  decide +kernel
end GV.Props.C04
