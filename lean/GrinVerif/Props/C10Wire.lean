import GrinVerif.Lemmas.DecSerEraseSeg
import GrinVerif.Lemmas.DecSerEraseMsg
import GrinVerif.Props.C10Msg
import GrinVerif.Props.C10
import GrinVerif.Lemmas.DecSerErase
/-! # C10 on the network path: both `Reader` implementations, the `Untrusted*` wrappers

The C10 theorems are stated about the plain decoders of `Model/Ser*.lean` (a `BinReader` over a byte
slice). The decoders a peer's bytes actually go through are the ones modelled for C11 in
`Model/DecSer.lean`: the same Rust functions run through the `BinReader` (`ser::deserialize`) **or** the
`BufReader` (the codec), with their panic sites and allocations, and the `Untrusted*` wrappers on top.
This module proves that the two models are one: for every input, both readers and every protocol
version, the instrumented decoder never panics and returns exactly the plain decoder's result — value,
unread rest, error kind (`*_erases`) — and that the wrappers only ever refuse more
(`untrusted*_accepts_subset`). Hence every C10 theorem holds on the network path; the most used ones
are restated below (`*_network_*`). -/
namespace GV.Props.C10Wire
open GV GV.Ser GV.Dec GV.DecSer

/-! ## the instrumented decoders erase to the plain ones (both readers) -/

theorem txKernel_erases (rd : Rdr) (c : Cfg) (bs : Bytes) :
    (rTxKernel rd c bs).toExcept = some (decTxKernel c bs) := erases_rTxKernel rd c bs
theorem input_erases (rd : Rdr) (bs : Bytes) : (rInput rd bs).toExcept = some (decInput bs) := erases_rInput rd bs
theorem outputId_erases (rd : Rdr) (bs : Bytes) : (rOutputId rd bs).toExcept = some (decOutputId bs) :=
  erases_rOutputId rd bs
theorem rangeProof_erases (rd : Rdr) (bs : Bytes) : (rRangeProof rd bs).toExcept = some (decRangeProof bs) :=
  erases_rRangeProof rd bs
theorem output_erases (rd : Rdr) (bs : Bytes) : (rOutput rd bs).toExcept = some (decOutput bs) := erases_rOutput rd bs
/-- `read_multi`, generically: the `IteratingReader` form of the code (stop at the first failing item,
then compare the count) and the item-by-item form of the instrumented model agree -/
theorem readMulti_erases {α : Type} {p : Dec α} {q : Parser α} (h : ∀ bs, (p bs).toExcept = some (q bs))
    (sz count : Nat) (bs : Bytes) :
    (DecSer.readMulti p sz count bs).toExcept = some (Ser.readMulti q count bs) := erases_readMulti h sz count bs
theorem txBody_erases (rd : Rdr) (c : Cfg) (bs : Bytes) : (rTxBody rd c bs).toExcept = some (decTxBody c bs) :=
  erases_rTxBody rd c bs
theorem compactBody_erases (rd : Rdr) (c : Cfg) (bs : Bytes) :
    (rCompactBody rd c bs).toExcept = some (decCompactBody c bs) := erases_rCompactBody rd c bs
/-- `Proof::read` with every slice, shift and subtraction of `read_number` / `extract_bits` explicit
computes the same nonces and the same padding verdict as the arithmetic definition -/
theorem proof_erases (rd : Rdr) (c : Cfg) (hps : c.proofSize * 8 ≤ ISIZE_MAX) (bs : Bytes) :
    (rProof rd c bs).toExcept = some (decProof c bs) := erases_rProof rd c hps bs
theorem blockHeader_erases (rd : Rdr) (c : Cfg) (hps : c.proofSize * 8 ≤ ISIZE_MAX) (bs : Bytes) :
    (rBlockHeader rd c bs).toExcept = some (decBlockHeader c bs) := erases_rBlockHeader rd c hps bs

/-- `Transaction::read` with `validate_read` as the code runs it — weight, NRD duplicates, sortedness
again, and `verify_cut_through` by sorting all input and output commitments (lexicographic byte order)
and comparing neighbours — accepts exactly when no commitment occurs twice, as the plain model says -/
theorem transaction_erases (rd : Rdr) (c : Cfg) (bs : Bytes) :
    (rTransaction rd c bs).toExcept = some (decTransaction c bs) := erases_rTransaction rd c bs

/-- the sort-and-compare-neighbours form of `verify_cut_through` finds a duplicate iff there is one -/
theorem cut_through_check_is_duplicate_freeness (l : List Bytes) :
    cutThroughLoop (windows2 (sortBytes l)) = if allDistinct l then .ok else .err .corrupted := cutThrough_eq l

/-- hence the two real readers cannot disagree on any of these types, on any input -/
theorem readers_agree_txBody (c : Cfg) (bs : Bytes) :
    (rTxBody .bin c bs).toExcept = (rTxBody .buf c bs).toExcept := by
  rw [txBody_erases, txBody_erases]

/-! ## MMR segments and Merkle proofs (the record types of the two models differ by name only) -/

theorem segmentProof_erases (rd : Rdr) (bs : Bytes) :
    (segmentProof rd bs).toExcept = some (GV.SerSeg.decSegProof bs) := erases_segmentProof rd bs

/-- `Segment<T>::read`, generically in the leaf reader (any leaf type whose in-memory size is below
2^40 bytes): the instrumented reader with its capped pre-allocations returns the plain decoder's
segment, positions and all -/
theorem segment_erases {α : Type} (rd : Rdr) {p : Dec α} {q : Parser α} (h : ∀ bs, (p bs).toExcept = some (q bs))
    (sz : Nat) (hsz : sz ≤ 2^40) (bs : Bytes) :
    ((segment rd p sz bs).map toSegment).toExcept = some (GV.SerSeg.decSegment q bs) :=
  erases_segment rd h sz (by unfold ISIZE_MAX; omega) bs

theorem kernelSegment_erases (rd : Rdr) (c : Cfg) (bs : Bytes) :
    ((segment rd (rTxKernel rd c) KERNEL_MEM bs).map toSegment).toExcept
      = some (GV.SerSeg.decSegment (decTxKernel c) bs) :=
  erases_segment rd (erases_rTxKernel rd c) _ (by decide) bs

theorem outputSegment_erases (rd : Rdr) (bs : Bytes) :
    ((segment rd (rOutputId rd) OUTPUT_ID_MEM bs).map toSegment).toExcept
      = some (GV.SerSeg.decSegment decOutputId bs) :=
  erases_segment rd (erases_rOutputId rd) _ (by decide) bs

theorem rangeProofSegment_erases (rd : Rdr) (bs : Bytes) :
    ((segment rd (rRangeProof rd) RANGE_PROOF_MEM bs).map toSegment).toExcept
      = some (GV.SerSeg.decSegment decRangeProof bs) :=
  erases_segment rd (erases_rRangeProof rd) _ (by decide) bs

/-- `MerkleProof::read` (pre-allocation capped at 64 hashes) -/
theorem merkleProof_erases (rd : Rdr) (bs : Bytes) :
    ((merkleProof rd bs).map toMerkleProof).toExcept = some (decMerkleProof bs) := erases_merkleProof rd bs

/-- an output segment accepted through either reader is byte for byte its own encoding -/
theorem outputSegment_network_canonical (rd : Rdr) {bs : Bytes} {s : GV.Dec.Segment OutputId} {r : Bytes} {n : Nat}
    (hb : AllBytes bs) (h : segment rd (rOutputId rd) OUTPUT_ID_MEM bs = .ok s r n) :
    bs = GV.SerSeg.encSegment encOutputId (toSegment s) ++ r := by
  have he := outputSegment_erases rd bs
  rw [h] at he
  simp only [Outcome.map, Outcome.toExcept, Option.some.injEq] at he
  exact (C10Msg.outputSegment_accepts_only_canonical hb he.symm).1

/-! ## handshake and sync messages (`Model/Msg.lean` vs `Model/SerMsg.lean`) -/

/-- the two models carry their own copy of the UTF-8 acceptor: they are the same function -/
theorem utf8_acceptors_agree (bs : Bytes) : GV.Msg.validUtf8 bs = GV.SerMsg.validUtf8 bs := validUtf8_eq bs

theorem peerAddr_erases (rd : Rdr) (bs : Bytes) :
    ((GV.Msg.decPeerAddr rd bs).map toAddr).toExcept = some (GV.SerMsg.decPeerAddr bs) := erases_decPeerAddr rd bs
theorem hand_erases (rd : Rdr) (bs : Bytes) :
    ((GV.Msg.decHand rd bs).map toHand).toExcept = some (GV.SerMsg.decHand bs) := erases_decHand rd bs
theorem shake_erases (rd : Rdr) (bs : Bytes) :
    ((GV.Msg.decShake rd bs).map toShake).toExcept = some (GV.SerMsg.decShake bs) := erases_decShake rd bs
theorem peerError_erases (rd : Rdr) (bs : Bytes) :
    ((GV.Msg.decPeerError rd bs).map fun p => ({ code := p.1, message := p.2 } : GV.SerMsg.PeerError)).toExcept
      = some (GV.SerMsg.decPeerError bs) := erases_decPeerError rd bs

/-- every body `decode_message` reads with a decoder of `msg.rs`: Ping / Pong, the hash bodies
(GetBlock, GetCompactBlock, GetTransaction, TransactionKernel), GetHeaders (Locator), GetPeerAddrs,
PeerAddrs, TxHashSetRequest, TxHashSetArchive, the four segment requests -/
theorem pingPong_erases {P : Type} (bs : Bytes) :
    ((GV.Msg.decPingPong (P := P) bs).map toBodyV).toExcept = some (wrap .pingPong GV.SerMsg.decPingPong bs) :=
  erases_body_pingPong bs
theorem hashBody_erases {P : Type} (rd : Rdr) (bs : Bytes) :
    ((GV.Msg.decHashBody (P := P) rd bs).map toBodyV).toExcept = some (wrap .hash decHash bs) :=
  erases_body_hash rd bs
theorem locator_erases {P : Type} (rd : Rdr) (bs : Bytes) :
    ((GV.Msg.decLocator (P := P) rd bs).map toBodyV).toExcept = some (wrap .locator GV.SerMsg.decLocator bs) :=
  erases_body_locator rd bs
theorem getPeerAddrs_erases {P : Type} (bs : Bytes) :
    ((GV.Msg.decGetPeerAddrs (P := P) bs).map toBodyV).toExcept
      = some (wrap .getPeerAddrs GV.SerMsg.decGetPeerAddrs bs) := erases_body_getPeerAddrs bs
theorem peerAddrs_erases {P : Type} (rd : Rdr) (bs : Bytes) :
    ((GV.Msg.decPeerAddrs (P := P) rd bs).map toBodyV).toExcept
      = some (wrap .peerAddrs GV.SerMsg.decPeerAddrs bs) := erases_body_peerAddrs rd bs
theorem txHashSetRequest_erases {P : Type} (rd : Rdr) (bs : Bytes) :
    ((GV.Msg.decTxHashSetRequest (P := P) rd bs).map toBodyV).toExcept
      = some (wrap .txHashSetRequest GV.SerMsg.decTxHashSetRequest bs) := erases_body_txHashSetRequest rd bs
theorem txHashSetArchive_erases {P : Type} (rd : Rdr) (bs : Bytes) :
    ((GV.Msg.decTxHashSetArchive (P := P) rd bs).map toBodyV).toExcept
      = some (wrap .txHashSetArchive GV.SerMsg.decTxHashSetArchive bs) := erases_body_txHashSetArchive rd bs
theorem segmentRequest_erases {P : Type} (rd : Rdr) (bs : Bytes) :
    ((GV.Msg.decSegmentRequest (P := P) rd bs).map toBodyV).toExcept
      = some (wrap .segmentRequest GV.SerMsg.decSegmentRequest bs) := erases_body_segmentRequest rd bs
/-- `BanReason` through the `BinReader`; through the `BufReader` a body shorter than four bytes leaves
a different rest (the failed `read_i32` is swallowed), which is why it is excluded everywhere else -/
theorem banReason_erases_bin {P : Type} (bs : Bytes) :
    ((GV.Msg.decBanReason (P := P) .bin bs).map toBodyV).toExcept
      = some (wrap .banReason GV.SerMsg.decBanReason bs) := erases_body_banReason_bin bs

/-- the PIBD responses: `SegmentResponse<T>` generically (kernel and range-proof segments) and
`OutputSegmentResponse` -/
theorem segmentResponse_erases {α : Type} (rd : Rdr) {p : Dec α} {q : Parser α}
    (h : ∀ bs, (p bs).toExcept = some (q bs)) (sz : Nat) (hsz : sz ≤ 2^40) (bs : Bytes) :
    ((rSegmentResponse rd p sz bs).map toSegmentResponse).toExcept = some (GV.SerMsg.decSegmentResponse q bs) :=
  erases_rSegmentResponse rd h sz (by unfold ISIZE_MAX; omega) bs
theorem outputSegmentResponse_erases (rd : Rdr) (bs : Bytes) :
    ((rOutputSegmentResponse rd bs).map toOutputSegmentResponse).toExcept
      = some (GV.SerMsg.decOutputSegmentResponse bs) := erases_rOutputSegmentResponse rd bs

/-- `BitmapBlock::read` (raw / positive / negative mode): the instrumented reader keeps a block as its
bit length, fill value and flipped positions, the plain one as the number whose binary digits are the
bits; through `toBlock` they are the same reader -/
theorem bitmapBlock_erases (rd : Rdr) (bs : Bytes) :
    ((rBitmapBlock rd bs).map toBlock).toExcept = some (GV.SerSeg.decBitmapBlock bs) := erases_rBitmapBlock rd bs

/-- the shape checks of a bitmap segment are written differently in the two models (`split_last`, full
blocks, `try_n_chunks` on bit lengths / a recursion from the front on chunk counts): on blocks that come
out of the block reader they decide the same thing with the same error kind -/
theorem bitmap_validate_blocks_agree (id : SegmentId) (bl : List BitmapBlock)
    (hinv : ∀ b ∈ bl, b.nBits % CHUNK_BITS = 0 ∧ b.nBits / CHUNK_BITS ≤ NCHUNKS) (hlen : bl.length ≤ 2^32) :
    validateBlocks id bl = chkOfN (GV.SerSeg.validateBlocks (toSegId id) (bl.map toBlock)) :=
  validateBlocks_eq id bl hinv hlen

/-- `BitmapSegment::read` and the `OutputBitmapSegment` response, both readers -/
theorem bitmapSegment_erases (rd : Rdr) (bs : Bytes) :
    ((rBitmapSegment rd bs).map toBitmapSegment).toExcept = some (GV.SerSeg.decBitmapSegment bs) :=
  erases_rBitmapSegment rd bs
theorem outputBitmapSegmentResponse_erases (rd : Rdr) (bs : Bytes) :
    ((rBitmapSegmentResponse rd bs).map toBitmapSegmentResponse).toExcept
      = some (GV.SerMsg.decOutputBitmapSegmentResponse bs) := erases_rBitmapSegmentResponse rd bs

/-- a `Hand` written by the plain model comes back from either reader of the instrumented one -/
theorem hand_network_roundtrip (rd : Rdr) (h : GV.SerMsg.Hand) (hwf : h.WF) (rest : Bytes) :
    ((GV.Msg.decHand rd (GV.SerMsg.encHand h ++ rest)).map toHand).toExcept
      = some (.ok (h.norm, rest)) := by
  rw [hand_erases, C10Msg.hand_roundtrip h hwf rest]

/-! ## the wrappers only refuse more -/

theorem untrustedHeader_accepts_subset (rd : Rdr) (e : Env) (hps : e.cfg.proofSize * 8 ≤ ISIZE_MAX)
    {bs : Bytes} {h : BlockHeader} {r : Bytes} {n : Nat} (hr : rUntrustedHeader rd e bs = .ok h r n) :
    decBlockHeader e.cfg bs = .ok (h, r) := rUntrustedHeader_ok rd e hps hr

theorem untrustedBlock_accepts_subset (rd : Rdr) (e : Env) (hps : e.cfg.proofSize * 8 ≤ ISIZE_MAX)
    {bs : Bytes} {b : Block} {r : Bytes} {n : Nat} (hr : rUntrustedBlock rd e bs = .ok b r n) :
    decBlock e.cfg bs = .ok (b, r) := rUntrustedBlock_ok rd e hps hr

theorem untrustedCompactBlock_accepts_subset (rd : Rdr) (e : Env) (hps : e.cfg.proofSize * 8 ≤ ISIZE_MAX)
    {bs : Bytes} {b : CompactBlock} {r : Bytes} {n : Nat} (hr : rUntrustedCompactBlock rd e bs = .ok b r n) :
    decCompactBlock e.cfg bs = .ok (b, r) := rUntrustedCompactBlock_ok rd e hps hr

/-! ## C10 on the network path -/

/-- a kernel written at version `c.ver` comes back from either reader, with any continuation -/
theorem txKernel_network_roundtrip (rd : Rdr) (c : Cfg) (k : TxKernel) (h : k.WF c.nrd) (rest : Bytes) :
    (rTxKernel rd c (encTxKernel c.ver .full k ++ rest)).toExcept = some (.ok (k, rest)) := by
  rw [txKernel_erases, C10.txKernel_roundtrip c k h rest]

/-- whatever either reader accepts as a kernel is byte for byte that kernel's encoding -/
theorem txKernel_network_canonical (rd : Rdr) (c : Cfg) {bs : Bytes} {k : TxKernel} {r : Bytes} {n : Nat}
    (hb : AllBytes bs) (h : rTxKernel rd c bs = .ok k r n) :
    bs = encTxKernel c.ver .full k ++ r ∧ k.WF c.nrd :=
  C10.txKernel_accepts_only_canonical hb ((erases_rTxKernel rd c).ok h)

/-- a transaction written at version `c.ver` comes back (inputs normalised as the version dictates)
from either reader, with any continuation -/
theorem transaction_network_roundtrip (rd : Rdr) (c : Cfg) (t : Transaction) (bs : Bytes)
    (henc : encTransaction c.key c.ver .full t = .ok bs) (hwf : t.WF c) (rest : Bytes) :
    (rTransaction rd c (bs ++ rest)).toExcept = some (.ok (t.norm c, rest)) := by
  rw [transaction_erases, C10.transaction_roundtrip c t bs henc hwf rest]

/-- whatever either reader accepts as a transaction body is strictly sorted, duplicate-free and within
the block weight -/
theorem txBody_network_sorted_unique (rd : Rdr) (c : Cfg) {bs : Bytes} {b : TxBody} {r : Bytes} {n : Nat}
    (h : rTxBody rd c bs = .ok b r n) :
    (b.inputs.keys c.key).Pairwise (· < ·)
    ∧ (b.outputs.map fun o => c.key o.hashBytes).Pairwise (· < ·)
    ∧ (b.kernels.map fun k => c.key k.hashBytes).Pairwise (· < ·)
    ∧ b.weight ≤ c.maxWeight :=
  C10.txBody_accepts_only_sorted_unique ((erases_rTxBody rd c).ok h)

/-- a header accepted by `UntrustedBlockHeader::read` through either reader is byte for byte its own
encoding (nothing is normalised on the way in), so its hash is the hash of what the peer sent -/
theorem untrustedHeader_network_canonical (rd : Rdr) (e : Env) (hps : e.cfg.proofSize * 8 ≤ ISIZE_MAX)
    {bs : Bytes} {h : BlockHeader} {r : Bytes} {n : Nat} (hb : AllBytes bs)
    (hr : rUntrustedHeader rd e bs = .ok h r n) :
    bs = encBlockHeader e.cfg.proofSize .full h ++ r ∧ h.WF e.cfg.proofSize :=
  C10.blockHeader_accepts_only_canonical hb (rUntrustedHeader_ok rd e hps hr)

/-- a block accepted by `UntrustedBlock::read`: canonical header, body strictly sorted and unique -/
theorem untrustedBlock_network_sorted_unique (rd : Rdr) (e : Env) (hps : e.cfg.proofSize * 8 ≤ ISIZE_MAX)
    {bs : Bytes} {b : Block} {r : Bytes} {n : Nat} (hr : rUntrustedBlock rd e bs = .ok b r n) :
    (b.body.inputs.keys e.cfg.key).Pairwise (· < ·)
    ∧ (b.body.outputs.map fun o => e.cfg.key o.hashBytes).Pairwise (· < ·)
    ∧ (b.body.kernels.map fun k => e.cfg.key k.hashBytes).Pairwise (· < ·)
    ∧ b.body.weight ≤ e.cfg.maxWeight := by
  have h := rUntrustedBlock_ok rd e hps hr
  unfold decBlock at h
  obtain ⟨hd, r1, h1, k1⟩ := andThen_inv h
  obtain ⟨body, r2, h2, k2⟩ := andThen_inv k1
  simp only [Except.ok.injEq, Prod.mk.injEq] at k2
  obtain ⟨rfl, _⟩ := k2
  exact C10.txBody_accepts_only_sorted_unique h2

/-- a compact block accepted by `UntrustedCompactBlock::read`: the three lists strictly sorted, unique -/
theorem untrustedCompactBlock_network_sorted_unique (rd : Rdr) (e : Env) (hps : e.cfg.proofSize * 8 ≤ ISIZE_MAX)
    {bs : Bytes} {b : CompactBlock} {r : Bytes} {n : Nat} (hr : rUntrustedCompactBlock rd e bs = .ok b r n) :
    (b.body.outFull.map fun o => e.cfg.key o.hashBytes).Pairwise (· < ·)
    ∧ (b.body.kernFull.map fun k => e.cfg.key k.hashBytes).Pairwise (· < ·)
    ∧ (b.body.kernIds.map fun s => e.cfg.key (encShortId s)).Pairwise (· < ·) := by
  have h := rUntrustedCompactBlock_ok rd e hps hr
  unfold decCompactBlock at h
  obtain ⟨hd, r1, h1, k1⟩ := andThen_inv h
  obtain ⟨nonce, r2, h2, k2⟩ := andThen_inv k1
  obtain ⟨body, r3, h3, k3⟩ := andThen_inv k2
  simp only [Except.ok.injEq, Prod.mk.injEq] at k3
  obtain ⟨rfl, _⟩ := k3
  exact C10.compactBody_accepts_only_sorted_unique h3

/-- non-vacuity: the hypothesis on the proof size holds for both shipped values -/
example : (42 : Nat) * 8 ≤ ISIZE_MAX ∧ (8 : Nat) * 8 ≤ ISIZE_MAX := by decide

end GV.Props.C10Wire
