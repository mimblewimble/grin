import GrinVerif.Gen.PipeShapeTxhs
import GrinVerif.Props.XlateShapeLib
/-! # The commit / discard decision of the txhashset extension wrappers, as decided facts about the CURRENT source

`Gen/PipeShapeTxhs.lean` is regenerated on every run from `chain/src/txhashset/txhashset.rs`.  The facts below say, for
`extending` and `header_extending`: the closure's result is held in ONE local and the extension's rollback flag
(`force_rollback()` sets it) in ONE local; the child batch `commit()`, every backend `sync()` and every write of a new
size / bitmap accumulator into the handles happen ONLY under `result ~ Ok(_)` and `!rollback`; an `Err` result and a set
rollback flag each `discard()` every backend (3 trees resp. the header MMR).  The read-only wrappers never commit or sync
and discard unconditionally.  A commit moved out of the guard, a dropped discard, a `sync()` on the error path break a
theorem here (and the pins in `Props/XlateShapeTxhsPins.lean`). -/
namespace GV.Props.XlateShapeTxhsFacts
open GV.Gen.PipeShape GV.Props.XlateShape

/-- `txhashset::extending`: the closure's result is local `$5`, the rollback flag `$6` is read from the extension after
the closure ran; the child batch commit, the three syncs and the four writes into the handles happen only under
`$5 ~ Ok(_)` and `!($6)`: **an `Err` result or `force_rollback` never commits** -/
theorem extending_never_commits_on_err_or_rollback :
    resultLocal txhs_extending = ["$5"] ∧ rollbackLocal txhs_extending = [(["$6"], "= $14.extension.rollback")] ∧
    commitsOnlyUnder ["$5 ~ Ok(_)", "!($6)"] txhs_extending = true ∧
    (durable txhs_extending).map (·.name) = ["commit", "sync", "sync", "sync"] := by decide +kernel

/-- … and there are three `discard()` calls on the `Err` path, three on the rollback path and one unconditional one
(which backend each discards is in the pins) -/
theorem extending_discards :
    discardsUnder ["$5 ~ Err(_)"] txhs_extending = 3 ∧ discardsUnder ["$5 ~ Ok(_)", "$6"] txhs_extending = 3 ∧
    unconditionalDiscards txhs_extending = 1 := by decide +kernel

/-- `txhashset::header_extending`: the same decision for the header MMR -/
theorem header_extending_never_commits_on_err_or_rollback :
    resultLocal txhs_header_extending = ["$4"] ∧ rollbackLocal txhs_header_extending = [(["$5"], "= $11.rollback")] ∧
    commitsOnlyUnder ["$4 ~ Ok(_)", "!($5)"] txhs_header_extending = true ∧
    (durable txhs_header_extending).map (·.name) = ["commit", "sync"] := by decide +kernel
theorem header_extending_discards :
    discardsUnder ["$4 ~ Err(_)"] txhs_header_extending = 1 ∧ discardsUnder ["$4 ~ Ok(_)", "$5"] txhs_header_extending = 1 := by
  decide +kernel

/-- the read-only wrappers never make anything durable and always discard what the closure did -/
theorem readonly_never_commit :
    durable txhs_extending_readonly = [] ∧ unconditionalDiscards txhs_extending_readonly = 4 ∧
    durable txhs_header_extending_readonly = [] ∧ unconditionalDiscards txhs_header_extending_readonly = 1 ∧
    durable txhs_utxo_view = [] ∧ durable txhs_rewindable_kernel_view = [] := by decide +kernel

/-- non-vacuity of the predicate: a table whose commit sits outside the `!rollback` guard is refused -/
example : commitsOnlyUnder ["$1 ~ Ok(_)", "!($2)"]
    { name := "x", parseError := none, lets := [],
      steps := [⟨.check, "commit", "$3.commit()", "", ["$1 ~ Ok(_)"]⟩] } = false := by decide +kernel

end GV.Props.XlateShapeTxhsFacts
