import GrinVerif.Model.KeysNonce
import GrinVerif.Lemmas.KeysArith
/-! # C20 — the nonces of the proof builders and `BlindingFactor::from_slice`, at byte level

Theorems about `Model/KeysNonce.lean`.  The hash itself (keyed BLAKE2b) is executable and compared
with the real one on every `nonce` line of the `nonces` run; what is proved here is the structure
the rewind theorems of `Props/C20.lean` assume of the opaque nonce function: the root `ViewKey` and
the `ProofBuilder` of one keychain compute the SAME rewind nonce for every commitment (so a view key
can rewind what the builder created), a nonce that is handed out is a valid secret key, and the
byte logic of `BlindingFactor::from_slice`. -/
namespace GV.Props.C20
open GV GV.Keys List

/-- **the view key shares the builder's rewind nonce**: `ViewKey::rewind_nonce` and
`ProofBuilder::rewind_nonce` of the same keychain are the same function of the commitment bytes
(both hash the compressed public root key first) — for every public root key, every private root key
and every 33 commitment bytes, curve point or not.  This is the fact `viewBuilder` in
`Model/Keys.lean` builds in when it shares `rn` with the creating builder. -/
theorem view_key_shares_rewind_nonce (pubRoot privRoot commit : Bytes) :
    viewNonce pubRoot commit = builderNonce pubRoot privRoot commit false := by
  simp [viewNonce, builderNonce, viewRewindHash, rewindHash]

/-- the rewind nonce does not depend on the private root key, the private nonce not on the public one -/
theorem builder_nonce_reads_one_hash (pubRoot pubRoot' privRoot privRoot' commit : Bytes) :
    builderNonce pubRoot privRoot commit false = builderNonce pubRoot privRoot' commit false ∧
    builderNonce pubRoot privRoot commit true = builderNonce pubRoot' privRoot commit true := by
  simp [builderNonce]

/-- **a nonce that is handed out is a valid secret key** (`SecretKey::from_slice` refused 0 and
everything from the group order on): the digest itself, with `0 < value < n` -/
theorem nonce_is_valid_key (digest k : Bytes) (h : nonceKey digest = some k) :
    k = digest ∧ 0 < ofBE k ∧ ofBE k < N := by
  unfold nonceKey at h
  simp only at h
  split at h
  · cases h
  · rename_i hn
    have hk : digest = k := Option.some.inj h
    subst hk
    refine ⟨rfl, ?_, ?_⟩ <;> omega

/-- **the index constructors panic exactly from 2^31 on** (u32 indexes), and otherwise the `u32`
word of the child is the index for a normal child and the index + 2^31 for a hardened one — so
`Normal{2^31 − 1}` (word 2^31 − 1) and `Hardened{0}` (word 2^31) are neighbours and different, and
`ChildNumber::from(word)` gives the child back. -/
theorem child_from_idx (hardened : Bool) (i : Nat) (h : i < 2^32) :
    (childFromIdx hardened i = none ↔ 2^31 ≤ i) ∧
    (∀ c, childFromIdx hardened i = some c →
      c.toU32 = (if hardened then i + 2^31 else i) ∧ ChildNumber.ofU32 c.toU32 = c ∧ c.isHardened = hardened) := by
  simp only [childFromIdx, bit31 h]
  constructor
  · split <;> simp [*]
  · intro c hc
    split at hc
    · cases hc
    · rename_i hlt
      have hi : i < 2^31 := Nat.not_le.1 hlt
      obtain rfl := Option.some.inj hc
      cases hardened
      · exact ⟨rfl, toU32_ofU32 _ hi, rfl⟩
      · exact ⟨toU32_hardened hi, toU32_ofU32 _ hi, rfl⟩

/-- **public derivation hashes what private derivation hashes**: for a normal child `ckd_pub` feeds
the HMAC the very message `ckd_priv` feeds it (same key: the chain code) — the message half of the
BIP32 contract `viewPubMatches` relies on; a hardened child cannot be derived publicly. -/
theorem public_message_is_private_message (secret pub : Bytes) (c : ChildNumber) :
    (c.isHardened = false → ckdPubMessage pub c = some (ckdPrivMessage secret pub c)) ∧
    (c.isHardened = true → ckdPubMessage pub c = none) := by
  cases c <;> simp [ckdPubMessage, ckdPrivMessage, ChildNumber.isHardened]

/-- **different children of one parent get different messages**: for a 32-byte secret and a 33-byte
public key, the message determines the child number (canonical child numbers: index < 2^31) — the
u32 word at the end tells `Normal{2^31−1}` from `Hardened{0}` and every other pair. -/
theorem ckd_message_injective (secret pub : Bytes) (hs : secret.length = 32) (hp : pub.length = 33)
    (c1 c2 : ChildNumber) (w1 : c1.WF) (w2 : c2.WF)
    (h : ckdPrivMessage secret pub c1 = ckdPrivMessage secret pub c2) : c1 = c2 := by
  have key : u32be c1.toU32 = u32be c2.toU32 := by
    have hl : ∀ c : ChildNumber, (ckdPrivMessage secret pub c).drop 33 = u32be c.toU32 := by
      intro c
      cases c with
      | normal i => simp only [ckdPrivMessage]; exact drop_left' hp
      | hardened i =>
        simp only [ckdPrivMessage]
        exact drop_left' (by simp [hs])
    rw [← hl c1, ← hl c2, h]
  rw [← toU32_ofU32 c1 w1, ← toU32_ofU32 c2 w2, u32be_inj (toU32_lt c1 w1) (toU32_lt c2 w2) key]

theorem ofBE_append_zeros (d : Bytes) (k : Nat) : ofBE (d ++ replicate k 0) = ofBE d * 256 ^ k := by
  rw [ofBE_append, ofBE_replicate_zero, length_replicate, Nat.add_zero]

/-- the result always has 32 bytes -/
theorem bfFromSlice_length (d : Bytes) : (bfFromSlice d).length = 32 := by
  simp [bfFromSlice, fit]

theorem bfFromSlice_of_32 (d : Bytes) (h : d.length = 32) : bfFromSlice d = d := by
  simp [bfFromSlice, fit, h]

/-- hence applying it twice changes nothing -/
theorem bfFromSlice_idem (d : Bytes) : bfFromSlice (bfFromSlice d) = bfFromSlice d :=
  bfFromSlice_of_32 _ (bfFromSlice_length d)

/-- a long slice is cut after 32 bytes -/
theorem bfFromSlice_long (d : Bytes) (h : 32 ≤ d.length) : bfFromSlice d = d.take 32 := by
  simp [bfFromSlice, fit, take_append_of_le_length, h]

/-- **a short slice is LEFT-aligned**: the bytes are copied to the front and zeros follow, so as a
big-endian scalar the value is multiplied by `256^(32 − len)` — `from_slice(&[1])` (and
`from_hex("01")`) is `256^31`, not 1. -/
theorem bfFromSlice_short (d : Bytes) (h : d.length ≤ 32) :
    bfFromSlice d = d ++ replicate (32 - d.length) 0 ∧
    ofBE (bfFromSlice d) = ofBE d * 256 ^ (32 - d.length) := by
  have e : bfFromSlice d = d ++ replicate (32 - d.length) 0 := by
    unfold bfFromSlice fit
    have : d ++ replicate 32 0 = (d ++ replicate (32 - d.length) 0) ++ replicate d.length 0 := by
      rw [append_assoc, replicate_append_replicate]
      congr 2
      omega
    rw [this, take_append_of_le_length (by simp; omega), take_of_length_le (by simp; omega)]
  exact ⟨e, by rw [e, ofBE_append_zeros]⟩

example : bfFromSlice [1] = 1 :: replicate 31 0 := by decide
example : ofBE (bfFromSlice [1]) = 256 ^ 31 := by decide
example : (bfFromSlice (replicate 40 7)).length = 32 := by decide

end GV.Props.C20
