import GrinVerif.Lemmas.PoolAdmit
import GrinVerif.Lemmas.PoolAvail
import GrinVerif.Lemmas.PoolBucket
/-! C14 — the transaction pool always holds a jointly valid, fee-paying, mineable set.

Model: `GrinVerif/Model/Pool.lean` (pool/src/pool.rs, pool/src/transaction_pool.rs).
Specification: `GV.Pool.JointlyValid` — applying all transactions together to the unspent set of
the head yields a set again (every spend is covered by a distinct existing or created instance,
no commitment ends up twice) and every transaction conserves value.  Histories: `GV.Pool.Op`,
`step`, `run` — submissions (stem / fluff, any transaction), new heads with `reconcile_block`
(any new unspent set: next block or reorg), `reconcile_reorg_cache`, evictions, cache truncation.

What is proved, and what does not hold (joint validity across an eviction, lock heights and
coinbase maturity across a reorg to a lower height) is stated explicitly below, each with a
kernel-checked witness. -/
namespace GV.Props.C14
open GV.Pool

/-! ## the check the pool performs is sound for the specification -/

/-- `Pool::add_to_pool` / `validate_raw_txs` accept a list of transactions when its aggregate
(cut-through applied) validates against the head.  Whatever passes is `NetOK`: the counting core
of `JointlyValid`. -/
theorem aggregate_check_sound {c : Ctx} {w : Weighting} {txs : List Tx} {a : Tx}
    (ha : aggregate txs = .ok a) (hv : validateRawTx c w a = none) : NetOK (utxoIds c) txs :=
  netOK_of_aggregate ha hv

/-- With fresh output ids (no commitment created twice, none equal to an unspent one) `NetOK`
is the plain-language statement: no output is spent twice, and every input is unspent at the head
or created by another transaction of the list. -/
theorem netOK_plain_reading {utxo : List Nat} {txs : List Tx} (h : NetOK utxo txs)
    (fresh : (allOuts txs).Nodup ∧ ∀ o ∈ allOuts txs, o ∉ utxo) :
    (allIns txs).Nodup ∧ ∀ i ∈ allIns txs, i ∈ utxo ∨ i ∈ allOuts txs := by
  constructor
  · rw [List.nodup_iff_count]
    intro o
    have := (h o).1
    have hc := List.nodup_iff_count.mp fresh.1 o
    by_cases hm : o ∈ allOuts txs
    · have : unspentCount utxo o = 0 := by simp [unspentCount, fresh.2 o hm]
      omega
    · have := List.count_eq_zero.mpr hm
      have := unspentCount_le utxo o
      omega
  · intro i hi
    obtain ⟨t, ht, hti⟩ := mem_allIns.mp hi
    exact avail_of_netOK h t ht i hti

/-- the executable oracle used by the driver decides the specification -/
theorem oracle_decides_spec (outs : List GV.Chain.OutDef) (utxo : List Nat) (txs : List Tx) :
    jointlyValidB outs utxo txs = true ↔ JointlyValid outs utxo txs := by
  unfold jointlyValidB
  simp only [Bool.and_eq_true, List.all_eq_true, decide_eq_true_eq]
  constructor
  · rintro ⟨h1, h2⟩
    refine ⟨fun o => ?_, fun o => ?_, h2⟩
    · by_cases hm : o ∈ allIns txs ++ allOuts txs
      · exact (h1 o hm).1
      · have : o ∉ allIns txs := fun h => hm (List.mem_append.mpr (Or.inl h))
        rw [List.count_eq_zero.mpr this]; omega
    · by_cases hm : o ∈ allIns txs ++ allOuts txs
      · exact (h1 o hm).2
      · have : o ∉ allOuts txs := fun h => hm (List.mem_append.mpr (Or.inr h))
        rw [List.count_eq_zero.mpr this]
        have := unspentCount_le utxo o
        omega
  · intro h
    exact ⟨fun o _ => ⟨h.covered o, h.noDup o⟩, h.balanced⟩

/-! ## `pool_inv` -/

/-- The invariant implies the property: the txpool is jointly valid against the head, and the
stempool together with the txpool likewise. -/
theorem inv_gives_property {c : Ctx} {s : TxPool} (h : Inv c s) :
    JointlyValid c.outs (utxoIds c) s.txpool.txs ∧
    JointlyValid c.outs (utxoIds c) (s.stempool.txs ++ s.txpool.txs) := by
  simp only [jointlyValid_iff]
  exact ⟨⟨netOK_of_txpoolOK h.txOK, fun t ht => h.valid.balanced (.inl ht)⟩,
    h.stem, fun t ht => h.valid.balanced (List.mem_append.mp ht).symm⟩

/-- one operation — a submission of ANY transaction (stem or fluff, relay accepting or not) while
the txpool is not over `max_pool_size`, a new head with ANY unspent set and block content
(`reconcile_block`), `reconcile_reorg_cache`, truncation — preserves the invariant -/
theorem pool_inv_step (cs : Ctx × TxPool) (op : Op) (hInv : Inv cs.1 cs.2) (hne : ¬ evicts cs op) :
    Inv (step cs op).1 (step cs op).2 :=
  step_inv cs op hInv hne

/-- **pool_inv**: after any history of pool operations in which no eviction is triggered, starting
from the empty pool (or any state satisfying the invariant), the txpool and stempool ∪ txpool are
jointly valid against the current head. -/
theorem pool_inv (cs : Ctx × TxPool) (ops : List Op) (hInv : Inv cs.1 cs.2) (hne : NoEvict cs ops) :
    JointlyValid (run cs ops).1.outs (utxoIds (run cs ops).1) (run cs ops).2.txpool.txs ∧
    JointlyValid (run cs ops).1.outs (utxoIds (run cs ops).1)
      ((run cs ops).2.stempool.txs ++ (run cs ops).2.txpool.txs) :=
  inv_gives_property (run_inv cs ops hInv hne)

theorem pool_inv_from_empty (c : Ctx) (ops : List Op) (hne : NoEvict (c, {}) ops) :
    JointlyValid (run (c, {}) ops).1.outs (utxoIds (run (c, {}) ops).1) (run (c, {}) ops).2.txpool.txs ∧
    JointlyValid (run (c, {}) ops).1.outs (utxoIds (run (c, {}) ops).1)
      ((run (c, {}) ops).2.stempool.txs ++ (run (c, {}) ops).2.txpool.txs) :=
  pool_inv (c, {}) ops (inv_empty c) hne

/-- Whatever happened before — evictions included — every entry of the txpool, the stempool and
the reorg cache passed standalone validation (`Transaction::validate(AsTransaction)`: weight
limit, signatures, range proofs, kernel sums): no history admits an invalid or over-weight
transaction. -/
theorem entries_always_valid (c : Ctx) (ops : List Op) :
    AllValid (run (c, {}) ops).1 (run (c, {}) ops).2 :=
  run_allValid (c, {}) ops allE_empty

/-- …and therefore the next block (or reorg) re-establishes the invariant after ANY history,
evictions included: `reconcile_block` re-validates everything against the new head. -/
theorem pool_recovers_at_next_block (c : Ctx) (ops : List Op) (head : GV.Chain.UState) (ver : Nat)
    (ins kers : List Nat) :
    Inv (run (c, {}) (ops ++ [.block head ver ins kers])).1 (run (c, {}) (ops ++ [.block head ver ins kers])).2 := by
  rw [run_append]
  exact reconcileBlock_inv ins kers (allValid_indep_head head ver (entries_always_valid c ops))

/-! ## eviction -/

/-- **Eviction** with the hypothesis the proof forces: removing transaction `t` keeps the pool
jointly valid provided no remaining transaction spends an output of `t` and none re-creates an
input of `t`.  `bucket_transactions` does NOT guarantee this (next theorems). -/
theorem evict_preserves {c : Ctx} {p : Pool} {t : Tx}
    (h : JointlyValid c.outs (utxoIds c) p.txs) (hself : ∀ o ∈ t.outs, o ∉ t.ins)
    (hout : ∀ o ∈ t.outs, o ∉ allIns (Pool.txs (p.filter (fun e => e.tx != t))))
    (hin : ∀ i ∈ t.ins, i ∉ allOuts (Pool.txs (p.filter (fun e => e.tx != t)))) :
    JointlyValid c.outs (utxoIds c) (Pool.txs (p.filter (fun e => e.tx != t))) := by
  rw [jointlyValid_iff] at h ⊢
  rw [txs_filter] at hout hin ⊢
  refine ⟨netOK_filter_ne h.1 hself hout hin, ?_⟩
  intro x hx
  exact h.2 x (List.mem_filter.mp hx).1

/-! ### witness 1 (DESIGN §9 item 7): a child with parents in two buckets -/

def od (id v : Nat) : GV.Chain.OutDef := { id, cb := false, v }
def pk (id fee : Nat) : PKer := { kid := id, ker := .plain fee }

/-- head: outputs 1, 2, 3 unspent (1000 each); `max_pool_size = 2`, fee base 1 -/
def wc : Ctx where
  cfg := { maxPool := 2, feeBase := 1 }
  outs := [od 1 1000, od 2 1000, od 3 1000, od 11 900, od 12 975, od 13 1775, od 14 900]
  head := { utxo := [(1, 0, false), (2, 0, false), (3, 0, false)], nrd := [], height := 5 }
  ver := 3

/-- A: fee rate 4 -/ def wA : Tx := { ins := [1], outs := [11], kers := [pk 1 100] }
/-- B: fee rate 1 -/ def wB : Tx := { ins := [2], outs := [12], kers := [pk 2 25] }
/-- C spends an output of A and one of B -/ def wC : Tx := { ins := [11, 12], outs := [13], kers := [pk 3 100] }
def wD : Tx := { ins := [3], outs := [14], kers := [pk 4 100] }
def wOps : List Op :=
  [.submit .broadcast wA false true, .submit .broadcast wB false true, .submit .broadcast wC false true]

/-- non-vacuity of `evict_preserves`: evicting D from [A, D] (independent transactions) -/
example : JointlyValid wc.outs (utxoIds wc)
    (Pool.txs (([⟨wA, .broadcast⟩, ⟨wD, .broadcast⟩] : Pool).filter (fun e => e.tx != wD))) :=
  evict_preserves (c := wc) (p := [⟨wA, .broadcast⟩, ⟨wD, .broadcast⟩]) (t := wD)
    ((oracle_decides_spec _ _ _).mp (by decide +kernel)) (by decide +kernel) (by decide +kernel) (by decide +kernel)

/-- the three submissions evict nothing, so the invariant holds before the fourth -/
theorem witness1_before : Inv (run (wc, {}) wOps).1 (run (wc, {}) wOps).2 :=
  run_inv (wc, {}) wOps (inv_empty wc) (by decide +kernel)

theorem w_state : run (wc, {}) wOps =
    (wc, ⟨[wA, wB, wC].map (⟨·, .broadcast⟩), [], [wB, wC].map (⟨·, .broadcast⟩)⟩) :=
  Prod.ext rfl (by decide +kernel)

/-- **the invariant is NOT preserved by eviction**: the pool now holds 3 > `max_pool_size`
entries, so admitting D evicts; `bucket_transactions` skipped C (two parents), the last bucket is
B's, B is evicted, and the txpool [A, C, D] holds C whose input 12 is neither unspent nor created
in the pool. -/
theorem evict_breaks_pool_inv :
    (step (run (wc, {}) wOps) (.submit .broadcast wD false true)).2.txpool.txs = [wA, wC, wD] ∧
    ¬ JointlyValid wc.outs (utxoIds wc) (step (run (wc, {}) wOps) (.submit .broadcast wD false true)).2.txpool.txs := by
  rw [w_state, ← oracle_decides_spec]
  decide +kernel

/-! ### witness 2: no multi-parent transaction needed

A child put in its own bucket (it would lower the fee rate) still registers its outputs under its
*parent's* bucket position, so a grandchild is aggregated into the parent's bucket and the child
— on which the grandchild depends — is the last transaction of the last bucket. -/

def vc : Ctx where
  cfg := { maxPool := 50, feeBase := 1 }
  outs := [od 1 10000, od 11 9000, od 12 8975, od 13 6975]
  head := { utxo := [(1, 0, false)], nrd := [], height := 5 }
  ver := 3
/-- fee rate 40 -/ def vA : Tx := { ins := [1], outs := [11], kers := [pk 1 1000] }
/-- child of A, fee rate 1 -/ def vB : Tx := { ins := [11], outs := [12], kers := [pk 2 25] }
/-- child of B, fee rate 80 -/ def vC : Tx := { ins := [12], outs := [13], kers := [pk 3 2000] }
def vOps : List Op :=
  [.submit .broadcast vA false true, .submit .broadcast vB false true, .submit .broadcast vC false true]

theorem evict_breaks_single_parent_chain :
    Inv (run (vc, {}) vOps).1 (run (vc, {}) vOps).2 ∧
    (step (run (vc, {}) vOps) .evict).2.txpool.txs = [vA, vC] ∧
    ¬ JointlyValid vc.outs (utxoIds vc) (step (run (vc, {}) vOps) .evict).2.txpool.txs := by
  refine ⟨run_inv (vc, {}) vOps (inv_empty vc) (by decide +kernel), by decide +kernel, ?_⟩
  rw [← oracle_decides_spec]; decide +kernel

/-! ## admission -/

/-- **fee below the minimum for the weight** (`shifted_fee < weight × accept_fee_base`): refused
and the pool is unchanged — in EVERY fill state: `is_acceptable` checks the fee before the
capacity (3aef11dd9).  (`entryOf`: the transaction itself for stem, its deaggregated form for
fluff; both stem values because a stem transaction already in the stempool is re-submitted as
fluff.) -/
theorem admission_low_fee {c : Ctx} {s : TxPool} (src : Src) (tx : Tx) (stem stemOk : Bool)
    (hfee : ∀ st e, entryOf s src tx st = .ok e → e.tx.shiftedFee < e.tx.acceptFee c.cfg) :
    ∃ er, s.addToPool c src tx stem stemOk = (s, some er) :=
  addToPool_refused fun st entry _ _ hp => Nat.not_le.mpr (hfee st entry hp.form) hp.paid

/-- **fees_always_paid** — the minimum-fee clause at full strength: after ANY history
(submissions on both paths, admissions at capacity with the eviction that follows, explicit
evictions, blocks and reorgs with any unspent set, reorg-cache replays, truncations) every entry
of the txpool, of the stempool AND of the reorg cache pays at least the minimum fee for its
weight: `accept_fee = weight × accept_fee_base ≤ shifted_fee`. -/
theorem fees_always_paid (c : Ctx) (ops : List Op) :
    ∀ e, (e ∈ (run (c, {}) ops).2.txpool ∨ e ∈ (run (c, {}) ops).2.stempool ∨ e ∈ (run (c, {}) ops).2.cache) →
      e.tx.weight * c.cfg.feeBase ≤ e.tx.shiftedFee := by
  intro e he
  have h := run_allPaid (c, {}) ops allE_empty e he
  unfold Paid Tx.acceptFee at h
  rw [run_cfg] at h
  exact h

/-- one operation keeps it, from any state in which it holds (the invariant behind
`fees_always_paid`) -/
theorem fees_paid_step (cs : Ctx × TxPool) (op : Op) (h : AllPaid cs.1 cs.2) :
    AllPaid (step cs op).1 (step cs op).2 :=
  step_allPaid cs op h

/-- standalone-invalid transactions (bad signature, range proof, kernel sum, duplicate or
cut-through violating body, coinbase kernel, over the weight limit) are refused and the pool is
unchanged, whatever its fill state -/
theorem admission_invalid {c : Ctx} {s : TxPool} (src : Src) (tx : Tx) (stem stemOk : Bool)
    (hbad : ∀ st e, entryOf s src tx st = .ok e → e.tx.validate c .asTransaction ≠ none) :
    ∃ er, s.addToPool c src tx stem stemOk = (s, some er) :=
  addToPool_refused fun st entry _ _ hp => hbad st entry hp.form hp.valid

/-- over the transaction weight limit ⇒ standalone invalid (`TooHeavy`) -/
theorem admission_over_weight {c : Ctx} {s : TxPool} (src : Src) (tx : Tx) (stem stemOk : Bool)
    (hw : ∀ st e, entryOf s src tx st = .ok e → e.tx.weight > c.cfg.maxTxW) :
    ∃ er, s.addToPool c src tx stem stemOk = (s, some er) :=
  admission_invalid src tx stem stemOk (fun st e he => validate_too_heavy (hw st e he))

/-! non-vacuity of the admission theorems: below capacity, a transaction paying 24 for weight 25,
one with a signature fault and one over the weight limit are refused with the expected errors -/
def lowTx : Tx := { ins := [3], outs := [14], kers := [pk 4 24] }
def badSigTx : Tx := { wD with tags := ["sig"] }
def heavyTx : Tx := { ins := [3], outs := List.range 11, kers := [pk 4 5000] }
example : (({} : TxPool).addToPool wc .broadcast lowTx false true).2 = some "LowFee" := by decide +kernel
example : (({} : TxPool).addToPool wc .broadcast badSigTx true true).2 = some "InvalidTx:IncorrectSignature" := by decide +kernel
example : (({} : TxPool).addToPool wc .broadcast heavyTx false true).2 = some "InvalidTx:TooHeavy" := by decide +kernel
example : (({} : TxPool).addToPool wc .broadcast wD false true).2 = none := by decide +kernel

/-! the fee clause over capacity (`max_pool_size = 1`, A and B pooled: the
txpool is over capacity; a child of both paying fee 1 for weight 26): it is refused with `LowFee`
on both paths, the pool and the reorg cache are unchanged.  A well-paying transaction is still
admitted in that state (and something is evicted). -/
def lc : Ctx := { wc with cfg := { maxPool := 1, feeBase := 1 }, outs := wc.outs ++ [od 15 1874] }
def lowChild : Tx := { ins := [11, 12], outs := [15], kers := [pk 5 1] }
def lOps : List Op := [.submit .broadcast wA false true, .submit .broadcast wB false true]

theorem low_fee_refused_over_capacity :
    (run (lc, {}) lOps).2.txpool.length > lc.cfg.maxPool ∧
    lowChild.shiftedFee < lowChild.acceptFee lc.cfg ∧
    (run (lc, {}) lOps).2.addToPool lc .broadcast lowChild false true = ((run (lc, {}) lOps).2, some "LowFee") ∧
    (run (lc, {}) lOps).2.addToPool lc .pushApi lowChild true true = ((run (lc, {}) lOps).2, some "LowFee") ∧
    ((run (lc, {}) lOps).2.addToPool lc .broadcast wD false true).2 = none := by
  decide +kernel

/-- non-vacuity of `admission_low_fee` in that over-capacity state -/
example : ∃ er, (run (lc, {}) lOps).2.addToPool lc .broadcast lowChild false true = ((run (lc, {}) lOps).2, some er) :=
  admission_low_fee .broadcast lowChild false true (fun st e he => by
    rw [entryOf_single (by decide +kernel) he]
    decide)

/-! ## inputs of pooled transactions across evictions at capacity

`pool_inv` covers histories without eviction.  The theorems of this section hold for ALL
histories.  They say where exactly an eviction can leave an input without a source (the recorded
finding C14-evict-breaks-joint-validity: a child that is ALREADY in the pool when its parent is
evicted), and that nothing else can: a transaction submitted AFTER the eviction that spends an
output of the evicted transaction is refused, on the fluff and on the stem path, and any
admission without eviction re-validates the whole txpool. -/

/-- the list the driver prints (`av=` / `avs=`) and compares with the real pool is empty exactly
when every input is available -/
theorem orphans_decides_avail (utxo : List Nat) (txs : List Tx) : orphans utxo txs = [] ↔ Avail utxo txs := by
  unfold orphans Avail
  simp only [List.flatMap_eq_nil_iff, List.map_eq_nil_iff, List.filter_eq_nil_iff]
  constructor
  · intro h t ht i hi
    have := h t ht i hi
    have hb : (utxo.contains i || (allOuts txs).contains i) = true := by
      cases hb : (utxo.contains i || (allOuts txs).contains i)
      · rw [hb] at this; simp at this
      · rfl
    rcases (Bool.or_eq_true _ _).mp hb with h1 | h1
    · exact Or.inl (List.contains_iff_mem.mp h1)
    · exact Or.inr (List.contains_iff_mem.mp h1)
  · intro h t ht i hi
    have hb : (utxo.contains i || (allOuts txs).contains i) = true := by
      rcases h t ht i hi with h1 | h1
      · simp [h1]
      · simp [h1]
    rw [hb]; simp

/-- joint validity implies that every input is unspent at the head or created in the list -/
theorem jointlyValid_avail {outs : List GV.Chain.OutDef} {utxo : List Nat} {txs : List Tx}
    (h : JointlyValid outs utxo txs) : Avail utxo txs :=
  avail_of_netOK ((jointlyValid_iff outs utxo txs).mp h).1

/-- **a transaction with an input that exists nowhere is refused and the pool is unchanged** —
from ANY state, whatever happened before.  `entryOf`: the transaction itself (stem) or its
deaggregated form (fluff).  Fluff: the input is neither unspent at the head nor created in the
txpool; stem: nor created in the stempool. -/
theorem missing_input_refused {c : Ctx} {s : TxPool} (src : Src) (tx : Tx) (stem stemOk : Bool)
    (hmiss : ∀ st e, entryOf s src tx st = .ok e → ∃ i ∈ e.tx.ins, i ∉ utxoIds c ∧
      i ∉ allOuts s.txpool.txs ∧ (st = true → i ∉ allOuts s.stempool.txs)) :
    ∃ er, s.addToPool c src tx stem stemOk = (s, some er) := by
  refine addToPool_refused fun st entry _ _ hp => ?_
  obtain ⟨i, hi, hu, htp, hsp⟩ := hmiss st entry hp.form
  exact hu ((has_iff_mem c i).mp (hp.chain_input hi htp hsp).2)

/-- **a child of an evicted transaction, submitted after the eviction, is refused**: `i` is an
output of a transaction that is no longer in the pool (so it is created nowhere) and never
reached the chain.  Both paths, any fee, any source, any later state of the history (`s` is
arbitrary; instantiate it with `(run (c, {}) ops).2`). -/
theorem child_of_evicted_refused {c : Ctx} {s : TxPool} (src : Src) (tx : Tx) (stem stemOk : Bool)
    (hk : tx.kers.length ≤ 1) {i : Nat} (hi : i ∈ tx.ins) (hu : i ∉ utxoIds c)
    (htp : i ∉ allOuts s.txpool.txs) (hsp : i ∉ allOuts s.stempool.txs) :
    ∃ er, s.addToPool c src tx stem stemOk = (s, some er) := by
  apply missing_input_refused
  intro st e he
  exact ⟨i, entryOf_single hk he ▸ hi, hu, htp, fun _ => hsp⟩

/-- **any admission without eviction validates the whole txpool**: if a submission is admitted
while the txpool is not over `max_pool_size` on the fluff path, then — whatever the state was before — every input of
every txpool transaction, and of every stempool transaction, is available. -/
theorem admission_validates_pool {c : Ctx} {s s' : TxPool} (src : Src) (tx : Tx) (stemOk : Bool)
    (hcap : s.txpool.length ≤ c.cfg.maxPool) (h : s.addToPool c src tx false stemOk = (s', none)) :
    Avail (utxoIds c) s'.txpool.txs ∧ Avail (utxoIds c) (s'.stempool.txs ++ s'.txpool.txs) := by
  obtain ⟨stem', hst, hout⟩ := addToPool_outcome c s src tx false stemOk
  have hs := hst rfl
  subst hs
  rw [h] at hout
  cases hout with
  | refused er he => simp at he
  | stemmed hs _ _ _ => simp at hs
  | added _ _ h1 h2 => exact ⟨avail_of_txpoolOK h1, avail_of_netOK h2⟩
  | evicted p _ _ hc _ _ _ => omega

/-- **an eviction orphans only children of the evicted transaction**: `Pool::evict_transaction`
applied to a pool all of whose inputs are available leaves without a source only inputs that are
outputs of the evicted transaction `E`; the transactions concerned were in the pool when `E` was
evicted. -/
theorem evict_orphans_only_children {c : Ctx} {utxo : List Nat} {p : Pool} (h : Avail utxo p.txs) :
    ∀ t ∈ (p.evict c).txs, t ∈ p.txs ∧ ∀ i ∈ t.ins, i ∈ utxo ∨ i ∈ allOuts (p.evict c).txs ∨
      ∃ E, p.evictee c = some E ∧ E ∉ (p.evict c).txs ∧ i ∈ E.outs := by
  intro t ht
  unfold Pool.evict at ht ⊢
  cases hE : p.evictee c with
  | none =>
    simp only [hE] at ht ⊢
    refine ⟨ht, fun i hi => ?_⟩
    rcases h t ht i hi with h1 | h1
    · exact Or.inl h1
    · exact Or.inr (Or.inl h1)
  | some E =>
    simp only [hE] at ht ⊢
    rw [txs_filter] at ht ⊢
    have htp : t ∈ p.txs := (List.mem_filter.mp ht).1
    refine ⟨htp, fun i hi => ?_⟩
    rcases h t htp i hi with h1 | h1
    · exact Or.inl h1
    · obtain ⟨t', ht', hi'⟩ := mem_allOuts.mp h1
      by_cases heq : t' = E
      · subst heq
        refine Or.inr (Or.inr ⟨t', rfl, ?_, hi'⟩)
        intro hm
        have := (List.mem_filter.mp hm).2
        simp at this
      · refine Or.inr (Or.inl (mem_allOuts.mpr ⟨t', ?_, hi'⟩))
        exact List.mem_filter.mpr ⟨ht', by simpa using heq⟩

/-- **an admission at capacity** (`TransactionPool::add_to_pool` returning `Ok` while the txpool
holds more than `max_pool_size` entries): the txpool `p` with the new entry was validated as a
whole, then one transaction `E` was evicted from it; from ANY previous state, the only inputs
without a source afterwards are outputs of `E`, in transactions that were in `p` — the children
of `E` already pooled when `E` was evicted (the recorded finding).  The stempool is not touched. -/
theorem admission_at_capacity {c : Ctx} {s s' : TxPool} (src : Src) (tx : Tx) (stem stemOk : Bool)
    (hcap : s.txpool.length > c.cfg.maxPool) (h : s.addToPool c src tx stem stemOk = (s', none)) :
    ∃ p : Pool, Avail (utxoIds c) p.txs ∧ s'.txpool = p.evict c ∧
      ∀ t ∈ s'.txpool.txs, t ∈ p.txs ∧ ∀ i ∈ t.ins, i ∈ utxoIds c ∨ i ∈ allOuts s'.txpool.txs ∨
        ∃ E, p.evictee c = some E ∧ E ∉ s'.txpool.txs ∧ i ∈ E.outs := by
  obtain ⟨stem', _, hout⟩ := addToPool_outcome c s src tx stem stemOk
  rw [h] at hout
  cases hout with
  | refused er he => simp at he
  | stemmed _ hc _ _ => omega
  | added _ hc _ _ => omega
  | evicted p _ _ _ h1 h2 h3 =>
    refine ⟨p, avail_of_txpoolOK h1, h2, ?_⟩
    simp only at h2
    rw [h2]
    exact evict_orphans_only_children (avail_of_txpoolOK h1)

/-- **admitted_inputs_available** — for ALL histories (submissions of any transactions on both
paths, blocks and reorgs with any unspent sets, reorg-cache replays, evictions explicit and at
capacity, truncations), starting from the empty pool: every input of every transaction in the
txpool is unspent on the head or created by a txpool transaction, and every input of every
stempool transaction is unspent or created in stempool ∪ txpool — EXCEPT for transactions in
`staleRun`, the ghost list defined in `Lemmas/PoolAvail.lean`: the transactions that were in the
pool right after the most recent eviction since the last block.  So a transaction admitted after
the last eviction never has an unavailable input (and by `child_of_evicted_refused` a child of
the evicted transaction is not admitted at all); which inputs of the stale transactions can be
unavailable is `admission_at_capacity` / `evict_orphans_only_children`: outputs of the evicted
transaction only. -/
theorem admitted_inputs_available (c : Ctx) (ops : List Op) :
    (∀ t ∈ (run (c, {}) ops).2.txpool.txs, t ∈ staleRun (c, {}) [] ops ∨
      ∀ i ∈ t.ins, i ∈ utxoIds (run (c, {}) ops).1 ∨ i ∈ allOuts (run (c, {}) ops).2.txpool.txs) ∧
    (∀ t ∈ (run (c, {}) ops).2.stempool.txs ++ (run (c, {}) ops).2.txpool.txs,
      t ∈ staleRun (c, {}) [] ops ∨
      ∀ i ∈ t.ins, i ∈ utxoIds (run (c, {}) ops).1 ∨
        i ∈ allOuts ((run (c, {}) ops).2.stempool.txs ++ (run (c, {}) ops).2.txpool.txs)) :=
  ⟨(run_avInv (c, {}) [] ops (avInv_empty c)).tx, (run_avInv (c, {}) [] ops (avInv_empty c)).both⟩

/-- what the ghost list is: empty as long as nothing was evicted … -/
theorem stale_empty_without_eviction (c : Ctx) (ops : List Op) (hne : NoEvict (c, {}) ops) :
    staleRun (c, {}) [] ops = [] := by
  suffices h : ∀ cs : Ctx × TxPool, NoEvict cs ops → staleRun cs [] ops = [] from h _ hne
  clear hne
  intro cs hne
  induction ops generalizing cs with
  | nil => rfl
  | cons op rest ih =>
    have h0 : staleStep cs [] op = [] := by
      cases op with
      | submit src tx stem ok =>
        have : ¬ (cs.2.txpool.length > cs.1.cfg.maxPool) := hne.1
        simp [staleStep, this]
      | evict => exact absurd trivial hne.1
      | _ => rfl
    simp only [staleRun, h0]
    exact ih (step cs op) hne.2

/-- … emptied by every block (or reorg), whatever happened before … -/
theorem stale_empty_after_block (c : Ctx) (ops : List Op) (head : GV.Chain.UState) (ver : Nat)
    (ins kers : List Nat) : staleRun (c, {}) [] (ops ++ [.block head ver ins kers]) = [] := by
  rw [staleRun_append]; rfl

/-- … and left alone by every operation that does not evict: a submission that is refused, or
admitted while the txpool is not over `max_pool_size`, a reorg-cache replay, a truncation. -/
theorem stale_unchanged (cs : Ctx × TxPool) (old : List Tx) (op : Op) (hne : ¬ evicts cs op)
    (hb : ∀ head ver ins kers, op ≠ .block head ver ins kers) : staleStep cs old op = old := by
  cases op with
  | submit src tx stem ok =>
    have : ¬ (cs.2.txpool.length > cs.1.cfg.maxPool) := hne
    simp [staleStep, this]
  | block head ver ins kers => exact absurd rfl (hb head ver ins kers)
  | evict => exact absurd trivial hne
  | reorgCache => rfl
  | truncate n => rfl

/-- right after every block every input is available, whatever happened before: `reconcile_block`
re-validates the whole txpool -/
theorem inputs_available_after_block (c : Ctx) (ops : List Op) (head : GV.Chain.UState) (ver : Nat)
    (ins kers : List Nat) :
    Avail (utxoIds (run (c, {}) (ops ++ [.block head ver ins kers])).1)
      (run (c, {}) (ops ++ [.block head ver ins kers])).2.txpool.txs :=
  avail_of_txpoolOK (pool_recovers_at_next_block c ops head ver ins kers).txOK

/-! ### witness: a child submitted after the eviction (`max_pool_size = 1`)

A (fee rate 4) and B (fee rate 1, two outputs) fill the pool beyond capacity; admitting D evicts
B.  A transaction spending B's output 12 — paying far more than anything in the pool, so it would
not be the next eviction victim — is then refused on the fluff path (its input exists nowhere:
`Other`, the error of `validate_inputs`) and on the stem path (`OverCapacity`: after an eviction
at capacity the txpool still holds `max_pool_size + 1` entries, and `is_acceptable` refuses every
stem transaction in that state before anything else is looked at); after one more (explicit)
eviction the txpool is back at `max_pool_size` and the stem path refuses the child for its
missing input too.  The pool stays jointly valid throughout, and the same child is admitted when
its parent is in the pool. -/
def ec : Ctx where
  cfg := { maxPool := 1, feeBase := 1 }
  outs := [od 1 1000, od 2 1000, od 3 1000, od 11 900, od 12 500, od 15 454, od 14 900, od 16 100]
  head := { utxo := [(1, 0, false), (2, 0, false), (3, 0, false)], nrd := [], height := 5 }
  ver := 3
/-- fee rate 1, two outputs -/ def eB : Tx := { ins := [2], outs := [12, 15], kers := [pk 2 46] }
/-- child of B, fee rate 16 -/ def eChild : Tx := { ins := [12], outs := [16], kers := [pk 6 400] }
def eOps : List Op :=
  [.submit .broadcast wA false true, .submit .broadcast eB false true, .submit .broadcast wD false true]

theorem e_state : run (ec, {}) eOps =
    (ec, ⟨[wA, wD].map (⟨·, .broadcast⟩), [], [⟨wD, .broadcast⟩]⟩) :=
  Prod.ext rfl (by decide +kernel)

theorem child_after_eviction_witness :
    (run (ec, {}) eOps).2.txpool.txs = [wA, wD] ∧
    ((run (ec, {}) eOps).2.addToPool ec .broadcast eChild false true).2 = some "Other" ∧
    ((run (ec, {}) eOps).2.addToPool ec .pushApi eChild true true).2 = some "OverCapacity" ∧
    (run (ec, {}) (eOps ++ [.evict])).2.txpool.txs = [wA] ∧
    ((run (ec, {}) (eOps ++ [.evict])).2.addToPool ec .pushApi eChild true true).2 = some "Other" ∧
    ((run (ec, {}) (eOps ++ [.evict])).2.addToPool ec .pushApi eChild false true).2 = some "Other" ∧
    orphans (utxoIds ec) (run (ec, {}) eOps).2.txpool.txs = [] ∧
    jointlyValidB ec.outs (utxoIds ec) (run (ec, {}) eOps).2.txpool.txs = true ∧
    -- with its parent in the pool (before the eviction) the same child is admitted
    ((run (ec, {}) (eOps.take 2)).2.addToPool ec .broadcast eChild false true).2 = none := by
  rw [run_append, e_state]
  decide +kernel

/-- non-vacuity of `child_of_evicted_refused` on that state -/
example : ∃ er, (run (ec, {}) eOps).2.addToPool ec .broadcast eChild true true = ((run (ec, {}) eOps).2, some er) :=
  e_state ▸ child_of_evicted_refused (c := ec) .broadcast eChild true true (by decide) (i := 12) (by decide) (by decide)
    (by decide) (by decide)

/-- non-vacuity of `admission_at_capacity`: the third submission of the witness evicts -/
example : ∃ p : Pool, Avail (utxoIds ec) p.txs ∧ (run (ec, {}) eOps).2.txpool = p.evict ec :=
  let ⟨p, h1, h2, _⟩ := admission_at_capacity (c := ec) (s := (run (ec, {}) (eOps.take 2)).2)
    (s' := (run (ec, {}) eOps).2) .broadcast wD false true (by decide +kernel) (by decide +kernel)
  ⟨p, h1, h2⟩

/-- non-vacuity of `admitted_inputs_available`: in witness 1 (the recorded finding) the ghost list
is exactly the pool after the eviction and C — pooled BEFORE its parent B was evicted — is the
transaction with the unavailable input. -/
example : staleRun (wc, {}) [] (wOps ++ [.submit .broadcast wD false true]) = [wA, wC, wD] ∧
    orphans (utxoIds wc) (run (wc, {}) (wOps ++ [.submit .broadcast wD false true])).2.txpool.txs = [(wC, 12)] := by
  decide +kernel

/-- non-vacuity of `admission_validates_pool` -/
example : Avail (utxoIds wc) (run (wc, {}) (wOps.take 2)).2.txpool.txs :=
  (admission_validates_pool (c := wc) (s := (run (wc, {}) (wOps.take 1)).2) .broadcast wB true (by decide +kernel)
    (show _ = ((run (wc, {}) (wOps.take 2)).2, none) by decide +kernel)).1

/-! ## which transaction `evict_transaction` removes

`bucket_transactions` (pool/src/pool.rs) walks the entries in insertion order; `stepKind` names
the branch each one takes: `fresh` (no pooled parent: own bucket), `merged` (one parent bucket and
the aggregate with it - cut-through applied - pays at least the bucket's rate: joins it), `own`
(would lower the bucket's rate: own bucket at the end, but its outputs stay indexed under the
PARENT's bucket), `rejected` (two inputs created in the pool, or a descendant of such a
transaction).  Buckets are sorted by (fee rate descending, age) and the LAST transaction of the
LAST bucket is evicted. -/

/-- **evicted_is_leaf_when_no_child_lowers_its_bucket_rate** — the exact fee condition under
which the walk is trivially right: every dependent transaction has exactly one input created in
the pool and joins its parent's bucket, i.e. `Σ fees / weight(aggregate of bucket ++ [t]) ≥` the
bucket's current rate (integer division, cut-through applied) for every such `t` (`calmB`).  Then
— for pools whose insertion order respects dependencies and that create no commitment twice — the
evicted transaction is a leaf of the dependency forest: no pooled transaction spends one of its
outputs. -/
theorem evicted_is_leaf_when_no_child_lowers_its_bucket_rate {c : Ctx} {p : Pool} {E : Tx}
    (hcalm : calmB c .noLimit {} p.txs = true) (hnd : (allOuts p.txs).Nodup) (hord : Ordered p.txs)
    (hE : p.evictee c = some E) : ∀ u ∈ p.txs, ∀ o ∈ E.outs, o ∉ u.ins := by
  intro u hu o ho hi
  exact evictee_leaf_of_calm hcalm hnd hord hE u hu ⟨o, ho, hi⟩

/-- … and therefore such an eviction keeps every input available (no orphan at all) -/
theorem evict_keeps_inputs_available_when_calm {c : Ctx} {p : Pool}
    (hcalm : calmB c .noLimit {} p.txs = true) (hnd : (allOuts p.txs).Nodup) (hord : Ordered p.txs)
    (hav : Avail (utxoIds c) p.txs) : Avail (utxoIds c) (p.evict c).txs := by
  intro t ht i hi
  obtain ⟨htp, h⟩ := evict_orphans_only_children (c := c) hav t ht
  rcases h i hi with h | h | ⟨E, hE, _, hEo⟩
  · exact Or.inl h
  · exact Or.inr h
  · exact absurd hi (evicted_is_leaf_when_no_child_lowers_its_bucket_rate hcalm hnd hord hE t htp i hEo)

/-
NOT PROVED (conjectured exact characterisation): if NO transaction is `rejected` and the evicted transaction
itself did not take the `own` branch, it is a leaf.  Consequently a ROOT of the forest is never
evicted while a descendant that went through the buckets stays.  Sketch: a child `u` of a
`fresh`/`merged` transaction `E` looks up E's bucket `j`; if `u` merges it sits behind `E` in `j`;
if it takes `own`, then `u.feeRate < rate(j)` at that time (from `Σfee/(W) < rate(j)` with
`W ≤ weight(j) + weight(u)`), the rate of `j` never decreases and nobody joins `u`'s bucket, so `j`
sorts before `u`'s bucket and is not the last one.  Missing: monotonicity of bucket rates
and the weight inequality for `aggregate` (sortedness of `sortBuckets` is `C14Mine.sortBuckets_sorted`).
The converse cases are real (next theorems): an `own` transaction that pays least is evicted with
its descendants staying — the recorded finding C14-evict-breaks-joint-validity, mechanism (b).
-/

/-! ### witness: the tree P ← D, D ← E, D ← F (`max_pool_size = 3`)

P pays 200 per weight.  D (two outputs) would lower P's bucket rate even after cut-through
(9706 / 49 = 198 < 200): own bucket, rate 102.  E and F spend D's outputs; they are looked up under
P's bucket and each would lower it (150, 198 < 200): own buckets, rates 100 and 196.  D, E and F
aggregated pay 12113 / 52 = 232 per weight — MORE than P: if D's descendants were bucketed with D,
that bucket would sort before P's and the root P would be evicted with its whole subtree staying.
The code as written evicts E, the cheapest leaf. -/
def tc : Ctx where
  cfg := { maxPool := 3, feeBase := 2 }
  outs := [od 1 100000, od 2 100000, od 11 94993, od 12 45147, od 13 45147, od 14 42640, od 15 40240, od 16 75000,
           od 17 45193, od 18 45193, od 19 42586, od 20 40286]
  head := { utxo := [(1, 0, false), (2, 0, false)], nrd := [], height := 5 }
  ver := 3
def tP : Tx := { ins := [1], outs := [11], kers := [pk 1 5007] }
def tD : Tx := { ins := [11], outs := [12, 13], kers := [pk 2 4699] }
def tE : Tx := { ins := [12], outs := [14], kers := [pk 3 2507] }
def tF : Tx := { ins := [13], outs := [15], kers := [pk 4 4907] }
/-- the well-paying outsider whose admission triggers the eviction -/
def tN : Tx := { ins := [2], outs := [16], kers := [pk 5 25000] }
def tOps : List Op := [tP, tD, tE, tF, tN].map fun t => .submit .broadcast t false true

theorem tree_evicts_cheapest_leaf :
    stepKinds tc .noLimit {} [tP, tD, tE, tF] = [.fresh, .own, .own, .own] ∧
    (tP.feeRate, tD.feeRate, tE.feeRate, tF.feeRate) = (200, 102, 100, 196) ∧
    ((aggregate [tD, tE, tF]).toOption.map (·.feeRate)) = some 232 ∧
    (run (tc, {}) (tOps.take 4)).2.txpool.txs = [tP, tD, tE, tF] ∧
    (run (tc, {}) (tOps.take 4)).2.txpool.evictee tc = some tE ∧
    (run (tc, {}) tOps).2.txpool.txs = [tP, tD, tF, tN] ∧
    orphans (utxoIds tc) (run (tc, {}) tOps).2.txpool.txs = [] ∧
    jointlyValidB tc.outs (utxoIds tc) (run (tc, {}) tOps).2.txpool.txs = true := by
  decide +kernel

/-! the same tree with D paying least (rate 100; E 104, F 196): the code evicts the INNER node D and
E, F stay with inputs that exist nowhere — mechanism (b) of the recorded finding (a transaction in
its own bucket whose descendants are indexed under its parent's bucket) on a tree. -/
def tD' : Tx := { ins := [11], outs := [17, 18], kers := [pk 2 4607] }
def tE' : Tx := { ins := [17], outs := [19], kers := [pk 3 2607] }
def tF' : Tx := { ins := [18], outs := [20], kers := [pk 4 4907] }
def tOps' : List Op := [tP, tD', tE', tF', tN].map fun t => .submit .broadcast t false true

theorem tree_evicts_inner_node_when_it_pays_least :
    stepKinds tc .noLimit {} [tP, tD', tE', tF'] = [.fresh, .own, .own, .own] ∧
    (run (tc, {}) (tOps'.take 4)).2.txpool.evictee tc = some tD' ∧
    (run (tc, {}) tOps').2.txpool.txs = [tP, tE', tF', tN] ∧
    orphans (utxoIds tc) (run (tc, {}) tOps').2.txpool.txs = [(tE', 17), (tF', 18)] := by
  decide +kernel

/-! non-vacuity of `evicted_is_leaf_when_no_child_lowers_its_bucket_rate`: a tree in which every
child raises its bucket's rate (one bucket [P, D, E, F]): calm, ordered, no commitment twice; the
last one goes -/
def cP : Tx := { ins := [1], outs := [11], kers := [pk 1 2507] }
def cD : Tx := { ins := [11], outs := [12, 13], kers := [pk 2 9207] }
def cE : Tx := { ins := [12], outs := [14], kers := [pk 3 7507] }
def cF : Tx := { ins := [13], outs := [15], kers := [pk 4 7507] }
def cc : Ctx := { tc with outs := [od 1 100000, od 11 97493, od 12 44143, od 13 44143, od 14 36636, od 15 36636] }
def cPool : Pool := [cP, cD, cE, cF].map fun t => ⟨t, .broadcast⟩

/-- a decidable form of `Ordered`, for the witness below -/
theorem ordered_of_check (txs : List Tx)
    (h : ∀ n, n < txs.length → ∀ u ∈ txs.take (n + 1), ∀ t ∈ (txs.drop n).head?, ∀ o ∈ t.outs, o ∉ u.ins) :
    Ordered txs := by
  intro pre t post heq u hu o ho
  have hn : pre.length < txs.length := by rw [heq]; simp
  refine h pre.length hn u ?_ t ?_ o ho
  · have ht : (pre ++ t :: post).take (pre.length + 1) = pre ++ [t] := by
      rw [show pre ++ t :: post = (pre ++ [t]) ++ post by simp]
      exact List.take_left' (by simp)
    rw [heq, ht]; exact hu
  · rw [heq]; simp

example : stepKinds cc .noLimit {} cPool.txs = [.fresh, .merged, .merged, .merged] ∧
    cPool.evictee cc = some cF := by decide +kernel
example : ∀ u ∈ cPool.txs, ∀ o ∈ cF.outs, o ∉ u.ins :=
  evicted_is_leaf_when_no_child_lowers_its_bucket_rate (c := cc) (p := cPool) (by decide +kernel) (by decide +kernel)
    (ordered_of_check _ (by decide +kernel)) (by decide +kernel)

/-! ### witness: the newly admitted transaction is itself the victim, not its parent

`max_pool_size = 2`; F1, F2 and P fill the pool to capacity + 1, so the admission of C — a child
of P, the entry just before it — evicts.  C pays least of all.  Whether it lowers P's bucket rate
(own bucket at the end) or joins P's bucket (last of the last bucket), the victim is C; P stays. -/
def nc : Ctx where
  cfg := { maxPool := 2, feeBase := 2 }
  outs := [od 1 100000, od 2 100000, od 3 100000, od 21 92493, od 22 93743, od 23 94993, od 24 94736, od 25 93736]
  head := { utxo := [(1, 0, false), (2, 0, false), (3, 0, false)], nrd := [], height := 5 }
  ver := 3
def nF1 : Tx := { ins := [1], outs := [21], kers := [pk 1 7507] }
def nF2 : Tx := { ins := [2], outs := [22], kers := [pk 2 6257] }
def nP : Tx := { ins := [3], outs := [23], kers := [pk 3 5007] }
/-- fee rate 10: would lower P's bucket (5264 / 28 = 188 < 200) -/
def nC : Tx := { ins := [23], outs := [24], kers := [pk 4 257] }
/-- fee rate 50: joins P's bucket (6264 / 28 = 223 ≥ 200) -/
def nC' : Tx := { ins := [23], outs := [25], kers := [pk 4 1257] }
def nOps : List Op := [nF1, nF2, nP].map fun t => .submit .broadcast t false true

theorem new_child_at_capacity_is_the_victim :
    (run (nc, {}) nOps).2.txpool.txs = [nF1, nF2, nP] ∧
    stepKinds nc .noLimit {} [nF1, nF2, nP, nC] = [.fresh, .fresh, .fresh, .own] ∧
    stepKinds nc .noLimit {} [nF1, nF2, nP, nC'] = [.fresh, .fresh, .fresh, .merged] ∧
    ((run (nc, {}) nOps).2.addToPool nc .broadcast nC false true).2 = none ∧
    ((run (nc, {}) nOps).2.addToPool nc .broadcast nC false true).1.txpool.txs = [nF1, nF2, nP] ∧
    ((run (nc, {}) nOps).2.addToPool nc .broadcast nC' false true).2 = none ∧
    ((run (nc, {}) nOps).2.addToPool nc .broadcast nC' false true).1.txpool.txs = [nF1, nF2, nP] := by
  decide +kernel

/-! ## height-dependent admission and degenerate transactions

`verify_tx_lock_height`, `verify_coinbase_maturity` and the NRD part of `validate_tx` compare with
the height of the NEXT block on the BODY head (`c.head.height + 1`).  Headers the node has accepted
ahead of their blocks do not occur in the model: no operation of a history changes `Ctx.head`
except a connected block.  The thresholds are exact (`…_witness`: one below refused, at admitted). -/

/-- a kernel locked beyond the next block: refused, pool unchanged, either path, any fill state -/
theorem locked_beyond_next_block_refused {c : Ctx} {s : TxPool} (src : Src) (tx : Tx) (stem stemOk : Bool)
    (hk : tx.kers.length ≤ 1) (hl : tx.lockHeight > c.head.height + 1) :
    ∃ er, s.addToPool c src tx stem stemOk = (s, some er) := by
  refine addToPool_refused fun st entry _ _ hp => ?_
  have := hp.lock
  rw [entryOf_single hk hp.form] at this
  omega

/-- spending (directly from the chain) a coinbase output that is not mature at the next block of
the body head: refused, pool unchanged -/
theorem immature_coinbase_refused {c : Ctx} {s : TxPool} (src : Src) (tx : Tx) (stem stemOk : Bool)
    (hk : tx.kers.length ≤ 1) {i x h : Nat} (hi : i ∈ tx.ins) (hf : c.head.find i = some (x, h, true))
    (hlt : c.head.height + 1 < h + c.cfg.maturity)
    (htp : i ∉ allOuts s.txpool.txs) (hsp : i ∉ allOuts s.stempool.txs) :
    ∃ er, s.addToPool c src tx stem stemOk = (s, some er) := by
  refine addToPool_refused fun st entry _ su hp => ?_
  -- the input is looked up on the chain, so `verify_coinbase_maturity` sees it
  have hmem := (hp.chain_input (entryOf_single hk hp.form ▸ hi) htp (fun _ => hsp)).1
  have : immatureCoinbase c su = true := by
    unfold immatureCoinbase
    rw [List.any_eq_true]
    exact ⟨i, hmem, by simp [hf, hlt]⟩
  rw [hp.mature] at this
  cases this

/-- an NRD kernel repeating an excess last seen fewer than its relative height blocks before the
next block of the body head: refused, pool unchanged -/
theorem nrd_too_recent_refused {c : Ctx} {s : TxPool} (src : Src) (tx : Tx) (stem stemOk : Bool)
    (hk : tx.kers.length ≤ 1) (hn : nrdTooRecent c tx = true) :
    ∃ er, s.addToPool c src tx stem stemOk = (s, some er) := by
  rcases addToPool_cases c s src tx stem stemOk with h | ⟨st, entry, extra, _, _, hp, h⟩
  · exact h
  · rw [h]
    exact admitInto_nrd_error st stemOk hp.variant (entryOf_single hk hp.form ▸ hn)

/-- **a transaction without kernels — the EMPTY transaction included — is refused**, the pool
unchanged, on either path and in any fill state -/
theorem no_kernels_refused {c : Ctx} {s : TxPool} (src : Src) (tx : Tx) (stem stemOk : Bool)
    (hk : tx.kers = []) : ∃ er, s.addToPool c src tx stem stemOk = (s, some er) := by
  apply admission_invalid
  intro st e he
  exact validate_no_kernels (entryOf_single (by simp [hk]) he ▸ hk)

theorem empty_transaction_refused {c : Ctx} {s : TxPool} (src : Src) (stem stemOk : Bool) :
    ∃ er, s.addToPool c src emptyTx stem stemOk = (s, some er) :=
  no_kernels_refused src emptyTx stem stemOk rfl

/-! the thresholds are exact, on the body head: head at height 9, an NRD excess last seen at
height 8, coinbases created at heights 7, 8 (maturity 3).  Lock height 10 admitted, 11 refused;
coinbase of height 7 admitted (10 ≥ 7 + 3), of height 8 refused; NRD relative height 2 admitted
(10 − 8 ≥ 2), 3 refused; the empty transaction and one without outputs: refused resp. admitted. -/
def hc : Ctx where
  cfg := { maxPool := 50, feeBase := 2 }
  outs := [od 1 1000, od 2 1000, { id := 7, cb := true, v := 1000 }, { id := 8, cb := true, v := 1000 },
           od 31 900, od 32 900, od 33 900, od 34 900, od 35 900, od 36 900]
  head := { utxo := [(1, 0, false), (2, 0, false), (7, 7, true), (8, 8, true)], nrd := [("ex", 8)], height := 9 }
  ver := 4
def hLock (o out l : Nat) : Tx := { ins := [o], outs := [out], kers := [{ kid := l, ker := .hl 100 l }] }
def hNrd (o out r : Nat) : Tx := { ins := [o], outs := [out], kers := [{ kid := 20 + r, ker := .nrd 100 r "ex" }] }
def hSpend (o out : Nat) : Tx := { ins := [o], outs := [out], kers := [pk (40 + o) 100] }

theorem height_thresholds_witness :
    (({} : TxPool).addToPool hc .pushApi (hLock 1 31 10) false true).2 = none ∧
    (({} : TxPool).addToPool hc .pushApi (hLock 1 31 11) false true).2 = some "ImmatureTransaction" ∧
    (({} : TxPool).addToPool hc .pushApi (hLock 1 31 11) true true).2 = some "ImmatureTransaction" ∧
    (({} : TxPool).addToPool hc .pushApi (hSpend 7 33) false true).2 = none ∧
    (({} : TxPool).addToPool hc .pushApi (hSpend 8 34) false true).2 = some "ImmatureCoinbase" ∧
    (({} : TxPool).addToPool hc .pushApi (hSpend 8 34) true true).2 = some "ImmatureCoinbase" ∧
    (({} : TxPool).addToPool hc .pushApi (hNrd 2 35 2) false true).2 = none ∧
    (({} : TxPool).addToPool hc .pushApi (hNrd 2 35 3) false true).2 = some "NRDKernelRelativeHeight" ∧
    (({} : TxPool).addToPool hc .pushApi (hNrd 2 35 3) true true).2 = some "NRDKernelRelativeHeight" ∧
    (({} : TxPool).addToPool hc .pushApi emptyTx false true).2 = some "InvalidTx:Committed" ∧
    (({} : TxPool).addToPool hc .pushApi emptyTx true true).2 = some "InvalidTx:Committed" ∧
    (({} : TxPool).addToPool hc .pushApi { ins := [1], outs := [], kers := [pk 9 1000] } false true).2 = none := by
  decide +kernel

/-- non-vacuity of the three refusal theorems on that state -/
example : ∃ er, ({} : TxPool).addToPool hc .pushApi (hLock 1 31 11) true true = ({}, some er) :=
  locked_beyond_next_block_refused .pushApi _ true true (by decide +kernel) (by decide +kernel)
example : ∃ er, ({} : TxPool).addToPool hc .pushApi (hSpend 8 34) true true = ({}, some er) :=
  immature_coinbase_refused (c := hc) .pushApi _ true true (by decide +kernel) (i := 8) (x := 8) (h := 8) (by decide +kernel) (by decide +kernel)
    (by decide +kernel) (by decide +kernel) (by decide +kernel)
example : ∃ er, ({} : TxPool).addToPool hc .pushApi (hNrd 2 35 3) false true = ({}, some er) :=
  nrd_too_recent_refused .pushApi _ false true (by decide +kernel) (by decide +kernel)

/-! ## weight limit and submission form -/

/-- **overweight_never_admitted** — after ANY history no entry of the txpool, the stempool or the
reorg cache exceeds `global::max_tx_weight()`. -/
theorem overweight_never_admitted (c : Ctx) (ops : List Op) :
    ∀ e, (e ∈ (run (c, {}) ops).2.txpool ∨ e ∈ (run (c, {}) ops).2.stempool ∨ e ∈ (run (c, {}) ops).2.cache) →
      e.tx.weight ≤ c.cfg.maxTxW := by
  intro e he
  exact run_cfg (c, {}) ops ▸ validate_weight_le (entries_always_valid c ops e he) rfl

/-- the weight does not depend on the form of the inputs -/
theorem weight_form_independent (r : SubTx) :
    r.tx.weight = r.inputs.commits.length * 1 + r.outs.length * 21 + r.kers.length * 3 := rfl

/-- **an over-weight transaction is refused in either input form, on either path**, the pool
unchanged, whatever its fill state (single-kernel transaction: no deaggregation involved). -/
theorem overweight_refused_any_form {c : Ctx} {s : TxPool} (src : Src) (r : SubTx) (stem stemOk : Bool)
    (hk : r.kers.length ≤ 1)
    (hw : r.inputs.commits.length * 1 + r.outs.length * 21 + r.kers.length * 3 > c.cfg.maxTxW) :
    ∃ er, s.submit c src r stem stemOk = (s, some er) := by
  unfold TxPool.submit
  apply admission_over_weight
  intro st e he
  rw [entryOf_single (tx := r.tx) hk he]
  exact hw

/-- two submitted forms of one transaction: same commitments spent, same outputs, kernels, faults,
input vector well ordered for its variant or not.  The variant and the features *claimed* by
"features and commit" inputs are free. -/
def SameTx (r₁ r₂ : SubTx) : Prop :=
  r₁.inputs.commits = r₂.inputs.commits ∧ r₁.sorted = r₂.sorted ∧ r₁.outs = r₂.outs ∧
  r₁.kers = r₂.kers ∧ r₁.tags = r₂.tags

theorem sameTx_tx {r₁ r₂ : SubTx} (h : SameTx r₁ r₂) : r₁.tx = r₂.tx := by
  obtain ⟨h1, h2, h3, h4, h5⟩ := h
  simp [SubTx.tx, h1, h2, h3, h4, h5]

/-- **form_independent_admission** — the verdict of `TransactionPool::add_to_pool` and the
resulting txpool, stempool and reorg cache do not depend on the form in which the inputs were
submitted nor on the features "features and commit" inputs claim. -/
theorem form_independent_admission (c : Ctx) (s : TxPool) (src : Src) {r₁ r₂ : SubTx} (h : SameTx r₁ r₂)
    (stem stemOk : Bool) : s.submit c src r₁ stem stemOk = s.submit c src r₂ stem stemOk := by
  unfold TxPool.submit; rw [sameTx_tx h]

/-- in particular: re-encoding commit-only inputs as "features and commit" with ANY claimed
features changes nothing (`convert_tx_v2` overwrites the claims with the looked-up features) -/
theorem form_independent_v2 (c : Ctx) (s : TxPool) (src : Src) (cs outs : List Nat) (kers : List PKer)
    (tags : List String) (claim : Nat → Bool) (stem stemOk : Bool) :
    s.submit c src { inputs := .commitOnly cs, outs, kers, tags } stem stemOk =
    s.submit c src { inputs := .featuresAndCommit (cs.map fun i => (claim i, i)), outs, kers, tags } stem stemOk :=
  form_independent_admission c s src (r₁ := { inputs := .commitOnly cs, outs, kers, tags })
    (r₂ := { inputs := .featuresAndCommit (cs.map fun i => (claim i, i)), outs, kers, tags })
    ⟨by simp [Inputs.commits, Function.comp_def], rfl, rfl, rfl, rfl⟩ stem stemOk

/-- the stored (relayed) form depends on the commitments and the head only -/
theorem stored_form_independent (c : Ctx) {r₁ r₂ : SubTx} (h : SameTx r₁ r₂) :
    storedInputs c r₁.tx = storedInputs c r₂.tx := by rw [sameTx_tx h]

/-- a submission in a given form as an operation of a history -/
def subOp (src : Src) (r : SubTx) (stem stemOk : Bool) : Op := .submit src r.tx stem stemOk

/-- form independence for whole histories: replacing, anywhere in a history, submissions by other
forms of the same transactions leaves every later state unchanged -/
theorem form_independent_history (cs : Ctx × TxPool) (pre post : List Op) (src : Src) {r₁ r₂ : SubTx}
    (h : SameTx r₁ r₂) (stem stemOk : Bool) :
    run cs (pre ++ subOp src r₁ stem stemOk :: post) = run cs (pre ++ subOp src r₂ stem stemOk :: post) := by
  unfold subOp; rw [sameTx_tx h]

/-- a wrongly ordered input vector (e.g. "features and commit" inputs left in commitment order)
fails standalone validation: refused on both paths, pool unchanged -/
theorem unsorted_inputs_refused {c : Ctx} {s : TxPool} (src : Src) (r : SubTx) (stem stemOk : Bool)
    (hk : r.kers.length ≤ 1) (hs : r.sorted = false) :
    ∃ er, s.submit c src r stem stemOk = (s, some er) := by
  unfold TxPool.submit
  apply admission_invalid
  intro st e he hv
  rw [entryOf_single (tx := r.tx) hk he] at hv
  have hu := validate_sorted hv
  simp [SubTx.tx, hs] at hu

/-! non-vacuity: 1 input + 11 outputs + 1 kernel = weight 235 > 226 in both forms on both paths;
a valid transaction is admitted in both forms (claimed features wrong in the second), with the
same resulting pool; the unsorted "features and commit" vector is refused -/
def heavyV3 : SubTx := { inputs := .commitOnly [3], outs := List.range 11, kers := [pk 4 5000] }
def heavyV2 : SubTx := { heavyV3 with inputs := .featuresAndCommit [(false, 3)] }
def goodV3 : SubTx := { inputs := .commitOnly [3], outs := [14], kers := [pk 4 100] }
def goodV2 : SubTx := { goodV3 with inputs := .featuresAndCommit [(true, 3)] }
example : (({} : TxPool).submit wc .pushApi heavyV3 false true).2 = some "InvalidTx:TooHeavy" ∧
    (({} : TxPool).submit wc .pushApi heavyV2 false true).2 = some "InvalidTx:TooHeavy" ∧
    (({} : TxPool).submit wc .pushApi heavyV3 true true).2 = some "InvalidTx:TooHeavy" ∧
    (({} : TxPool).submit wc .pushApi heavyV2 true true).2 = some "InvalidTx:TooHeavy" := by decide +kernel
example : ∃ er, ({} : TxPool).submit wc .pushApi heavyV2 true true = ({}, some er) :=
  overweight_refused_any_form .pushApi heavyV2 true true (by decide +kernel) (by decide +kernel)
example : SameTx goodV3 goodV2 := by unfold SameTx; decide
example : (({} : TxPool).submit wc .pushApi goodV2 false true).2 = none ∧
    ({} : TxPool).submit wc .pushApi goodV2 false true = ({} : TxPool).submit wc .pushApi goodV3 false true :=
  ⟨by decide +kernel, (form_independent_admission wc {} .pushApi (by unfold SameTx; decide) false true).symm⟩
example : (({} : TxPool).submit wc .pushApi { goodV2 with sorted := false } true true).2 =
    some "InvalidTx:Serialization" := by decide +kernel

/-! ## the mineable set -/

theorem prepareMineable_mem {c : Ctx} {s : TxPool} {txs : List Tx} (h : s.prepareMineable c = .ok txs) :
    ∀ t ∈ txs, t ∈ s.txpool.txs := by
  unfold TxPool.prepareMineable Pool.prepareMineable at h
  intro t ht
  rcases (validateRawTxs_spec c _ none _ [] txs (Or.inl rfl) h).2 t ht with h | h
  · cases h
  · exact bucketTransactions_mem c _ _ t h

/-- **mineable_ok**: what `prepare_mineable_transactions` returns consists of pool transactions,
is jointly valid against the head, and its aggregate (the block body before the coinbase is added)
passed `validate_raw_tx` under the miner's weight limit: its weight plus the coinbase's 24 is at
most min(`max_block_weight`, `mineable_max_weight`). Needs no invariant: holds in every state
whose entries are standalone valid — i.e. after any history, evictions included. -/
theorem mineable_ok {c : Ctx} {s : TxPool} {txs : List Tx} (hv : AllValid c s)
    (h : s.prepareMineable c = .ok txs) :
    (∀ t ∈ txs, t ∈ s.txpool.txs) ∧ JointlyValid c.outs (utxoIds c) txs ∧
    (txs = [] ∨ ∃ a, aggregate txs = .ok a ∧ validateRawTx c (.asLimited c.cfg.mineW) a = none ∧
       a.weight ≤ min c.cfg.maxBlockW c.cfg.mineW - 24) := by
  have hm := prepareMineable_mem h
  unfold TxPool.prepareMineable Pool.prepareMineable at h
  obtain ⟨hset, _⟩ := validateRawTxs_spec c _ none _ [] txs (Or.inl rfl) h
  refine ⟨hm, ?_, ?_⟩
  · rw [jointlyValid_iff]
    constructor
    · rcases netOK_of_setOK hset with h | h
      · subst h; exact netOK_nil _
      · simpa using h
    · exact fun t ht => hv.balanced (.inl (hm t ht))
  · rcases hset with h | ⟨a, ha, hva⟩
    · exact Or.inl h
    · right
      exact ⟨a, ha, hva, validate_weight_le (validateRawTx_validate hva) rfl⟩

theorem mineable_ok_after_any_history (c : Ctx) (ops : List Op) {txs : List Tx}
    (h : (run (c, {}) ops).2.prepareMineable (run (c, {}) ops).1 = .ok txs) :
    JointlyValid (run (c, {}) ops).1.outs (utxoIds (run (c, {}) ops).1) txs :=
  (mineable_ok (entries_always_valid c ops) h).2.1

/-- **mineable_block_accepted**: the block a miner assembles from a non-empty mineable set the way
`mine_block.rs::build_block` does (aggregate with cut-through, coinbase output `cb` paying reward
+ fees, coinbase kernel) passes the chain model's `validateBody` and `applyBlock` on the head and
is within the block weight limit — under the side conditions that admission checked when each
transaction entered but that `reconcile` does not re-check: the kernels' lock heights are at most
the next height and no spent coinbase is immature at the next height (see
`reorg_to_lower_height_keeps_locked_tx` for how a reorg can falsify them); for sets without NRD
kernels; `cb` a fresh id. -/
theorem mineable_block_accepted {c : Ctx} {s : TxPool} {txs : List Tx} {cb : Nat} (hv : AllValid c s)
    (h : s.prepareMineable c = .ok txs) (hne : txs ≠ []) (hw : 24 ≤ min c.cfg.maxBlockW c.cfg.mineW) :
    ∃ a, aggregate txs = .ok a ∧ a.weight + 24 ≤ min c.cfg.maxBlockW c.cfg.mineW ∧
      (a.lockHeight ≤ c.head.height + 1 → a.hasNrd = false → immatureCoinbase c a.ins = false →
       cb ∉ a.ins → cb ∉ a.outs → c.head.has cb = false → (∀ x ∈ c.outs, x.id ≠ cb) →
        GV.Chain.validateBody { maturity := c.cfg.maturity }
          (c.outs ++ [{ id := cb, cb := true, v := ({ maturity := c.cfg.maturity } : GV.Chain.Params).reward + a.fee }])
          (mkBlock c a cb)
          (GV.Chain.sumVals (c.outs ++ [{ id := cb, cb := true, v := ({ maturity := c.cfg.maturity } : GV.Chain.Params).reward + a.fee }])
            (mkBlock c a cb).ins) = none ∧
        ∃ s', GV.Chain.applyBlock { maturity := c.cfg.maturity } c.head (mkBlock c a cb) = .ok s') := by
  rcases (mineable_ok hv h).2.2 with h0 | ⟨a, ha, hva, hwt⟩
  · exact absurd h0 hne
  · refine ⟨a, ha, by omega, ?_⟩
    intro hlock hnrd hmat hcb1 hcb2 hcb3 hfresh
    exact ⟨mkBlock_body_valid hva hlock hnrd hcb1 hcb2 hfresh, mkBlock_applies hva hmat hnrd hcb3⟩

/-- the chain model accepts the block assembled from [A, B] in witness 1's state before the eviction -/
example : mineVerdict (run (wc, {}) wOps).1 [wA, wB] = true := by rw [w_state]; decide +kernel

/-- non-vacuity: in witness 1's state before the eviction the mineable set is [A, B] (C is
skipped by the buckets) -/
example : ((run (wc, {}) wOps).2.prepareMineable (run (wc, {}) wOps).1).toOption = some [wA, wB] := by
  rw [w_state]; decide +kernel

/-- **mineable_set_total** — `prepare_mineable_transactions` never fails, in ANY pool state:
`validate_raw_txs` skips a candidate that cannot be aggregated with those selected so far or whose
aggregate does not validate on the head.  What it returns consists of txpool transactions, and —
whenever the entries are standalone valid, i.e. after any history from the empty pool — it is
jointly valid against the head and within the miner's weight limit (`mineable_ok`)
(pool.rs as of 611fc1746). -/
theorem mineable_set_total (c : Ctx) (s : TxPool) :
    ∃ txs, s.prepareMineable c = .ok txs ∧ (∀ t ∈ txs, t ∈ s.txpool.txs) ∧
      (AllValid c s → JointlyValid c.outs (utxoIds c) txs) := by
  obtain ⟨txs, h⟩ : ∃ txs, validateRawTxs c (.asLimited c.cfg.mineW) none
      (s.txpool.bucketTransactions c (.asLimited c.cfg.mineW)) [] = .ok txs := ⟨_, validateRawTxs_eq_greedy ..⟩
  have h' : s.prepareMineable c = .ok txs := by
    unfold TxPool.prepareMineable Pool.prepareMineable; exact h
  exact ⟨txs, h', prepareMineable_mem h', fun hv => (mineable_ok hv h').2.1⟩

theorem mineable_set_total_after_any_history (c : Ctx) (ops : List Op) :
    ∃ txs, (run (c, {}) ops).2.prepareMineable (run (c, {}) ops).1 = .ok txs ∧
      (∀ t ∈ txs, t ∈ (run (c, {}) ops).2.txpool.txs) ∧
      JointlyValid (run (c, {}) ops).1.outs (utxoIds (run (c, {}) ops).1) txs := by
  obtain ⟨txs, h1, h2, h3⟩ := mineable_set_total (run (c, {}) ops).1 (run (c, {}) ops).2
  exact ⟨txs, h1, h2, h3 (entries_always_valid c ops)⟩

/-! witness (a commitment re-created inside the pool): output 7 is unspent on the chain.
B spends it (rate 10); A re-creates the same commitment (rate 20); C spends it again (rate 2,
lowers A's bucket: own bucket).  All three are admitted, the txpool is jointly valid.  The walk
takes A first - alone it duplicates the unspent commitment: skipped -, then B, then C, which does
not aggregate with B (two spends of output 7): skipped.  The mineable set is [B]. -/
def rcx : Ctx where
  cfg := { maxPool := 50, feeBase := 2 }
  outs := [od 5 5000, od 7 1000, od 37 750, od 39 3080, od 40 950]
  head := { utxo := [(5, 0, false), (7, 0, false)], nrd := [], height := 5 }
  ver := 3
def rB : Tx := { ins := [7], outs := [37], kers := [pk 1 250] }
def rA : Tx := { ins := [5], outs := [7, 39], kers := [pk 2 920] }
def rC : Tx := { ins := [7], outs := [40], kers := [pk 3 50] }
def rcOps : List Op := [rB, rA, rC].map fun t => .submit .broadcast t false true

theorem recreated_commitment_mineable_set :
    (run (rcx, {}) rcOps).2.txpool.txs = [rB, rA, rC] ∧
    jointlyValidB rcx.outs (utxoIds rcx) (run (rcx, {}) rcOps).2.txpool.txs = true ∧
    stepKinds rcx (.asLimited 250) {} [rB, rA, rC] = [.fresh, .fresh, .own] ∧
    (run (rcx, {}) rcOps).2.txpool.bucketTransactions rcx (.asLimited 250) = [rA, rB, rC] ∧
    (aggregate [rB, rC]).toOption = none ∧
    ((run (rcx, {}) rcOps).2.prepareMineable rcx).toOption = some [rB] ∧
    mineVerdict rcx [rB] = true := by
  decide +kernel

/-! **lock heights and coinbase maturity are NOT re-checked by `reconcile`**: after a reorg onto
a head of lower height a height-locked transaction admitted earlier stays in the pool and is
offered for mining, and the chain model rejects the block built from it. (`mineVerdict` runs
`GV.Chain.validateBody` / `applyBlock` on the assembled block.) -/
def rc : Ctx where
  cfg := { maxPool := 50, feeBase := 1 }
  outs := [od 1 1000, od 11 900]
  head := { utxo := [(1, 0, false)], nrd := [], height := 9 }
  ver := 4
def locked : Tx := { ins := [1], outs := [11], kers := [{ kid := 1, ker := .hl 100 10 }] }
def rOps : List Op :=
  [.submit .broadcast locked false true,
   .block { utxo := [(1, 0, false)], nrd := [], height := 8 } 3 [] [], .reorgCache]

theorem reorg_to_lower_height_keeps_locked_tx :
    ((run (rc, {}) rOps).2.prepareMineable (run (rc, {}) rOps).1).toOption = some [locked] ∧
    mineVerdict (run (rc, {}) rOps).1 [locked] = false ∧
    mineVerdict rc [locked] = true := by
  decide +kernel

end GV.Props.C14
