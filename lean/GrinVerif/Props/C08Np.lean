import GrinVerif.Lemmas.StoreNp
import GrinVerif.Props.C08Var
/-! C08 for the NON-PRUNABLE backends of the node (`PMMRBackend::new(.., prunable = false, ..)`):
the header MMR (fixed-size entries) and the **kernel MMR** (variable-size `TxKernel`s: the one
variable-size data file the node has, `pmmr_data.bin` + `pmmr_size.bin`).

Operations: `push`, `rewind` (no `rewind_rm_pos`: nothing is ever removed), `sync`, `discard`,
`reopen`, in any protocol-respecting order (rewinds before the first append of a unit, to a
boundary inside the MMR).  After every such history: size, `unpruned_size`, root, and for EVERY
leaf ever appended and not rewound its hash and its data – read through the size file for the
kernel flavour – are those of the unpruned reference; the leaf set is never written. -/
namespace GV.Props.C08Np
open GV GV.Pmmr GV.Pmmr.Co GV.Store GV.Store.VarFile

/-- **np_history_preserves_reference** (fixed-size data file: the header MMR flavour).  After any
protocol-respecting sequence of `push` / `rewind` / `sync` / `discard` / `reopen` on a
non-prunable backend starting from the empty store. -/
theorem np_history_preserves_reference {H : Type} (el : Bytes → Option Nat) (hf : HashFn Bytes H)
    (ops : List HOp) (hnp : ∀ op ∈ ops, op.np = true) (hproto : RefSt.Proto {} ops) :
    let p := ops.foldl (npstep el hf) ({} : PM H)
    let r := ops.foldl RefSt.step {}
    let N := r.cur.es.length
    let rh := allHashes hf (leafFn r.cur.es) N
    p.size = mmr N ∧
    (r.dirty = false → p.b.unprunedSize = mmr N) ∧
    rootG hf p.size p.npGetPeak = Pmmr.root hf rh ∧
    p.b.leafSet = {} ∧
    (∀ i, i < N → PM.npGetHash p (mmr i) = some (refHash hf (leafFn r.cur.es) (mmr i)) ∧
      PM.npGetData el p (mmr i) = some (r.cur.es.getD i [])) ∧
    (∀ pk ∈ peaks (mmr N), p.b.getPeakFromFile pk = some (refHash hf (leafFn r.cur.es) pk)) := by
  intro p r N rh
  have hs : NSim p (ops.foldl (bstep el hf) ({} : PM H)) := NSim.run ops _ _ NSim.init hnp
  have hall : r.cur.AllUnspent := allUnspent_run ops {} hnp hproto
    (fun i hi => absurd hi (by simp)) (fun i hi => absurd hi (by simp))
  exact np_of_prunable hs hall (hinv_obs el hf (hinv_of_proto el hf ops hproto))

/-- **np_var_history_preserves_reference** (variable-size data file: the KERNEL MMR).  Same
statement with the data read through the size file; elements self-delimiting (`VarFile.Delim`). -/
theorem np_var_history_preserves_reference {H : Type} (el : Bytes → Option Nat) (hf : HashFn Bytes H)
    (ops : List HOp) (hnp : ∀ op ∈ ops, op.np = true) (hproto : RefSt.Proto {} ops)
    (hd : ∀ e, HOp.push e ∈ ops → Delim el e) :
    let p := ops.foldl (npstep el hf) ({ b := { dataFile := .var {} }, size := 0 } : PM H)
    let r := ops.foldl RefSt.step {}
    let N := r.cur.es.length
    let rh := allHashes hf (leafFn r.cur.es) N
    p.size = mmr N ∧
    (r.dirty = false → p.b.unprunedSize = mmr N) ∧
    rootG hf p.size p.npGetPeak = Pmmr.root hf rh ∧
    p.b.leafSet = {} ∧
    (∀ i, i < N → PM.npGetHash p (mmr i) = some (refHash hf (leafFn r.cur.es) (mmr i)) ∧
      PM.npGetData el p (mmr i) = some (r.cur.es.getD i [])) ∧
    (∀ pk ∈ peaks (mmr N), p.b.getPeakFromFile pk = some (refHash hf (leafFn r.cur.es) pk)) := by
  intro p r N rh
  have hs : NSim p (ops.foldl (bstep el hf) ({ b := { dataFile := .var {} }, size := 0 } : PM H)) :=
    NSim.run ops _ _ NSim.initVar hnp
  have hall : r.cur.AllUnspent := allUnspent_run ops {} hnp hproto
    (fun i hi => absurd hi (by simp)) (fun i hi => absurd hi (by simp))
  exact np_of_prunable hs hall
    ((hinv_obs el hf (hinv_of_proto el hf ops hproto)).of_psim (psim_of_proto el hf ops hproto hd))

/-- after such a history the data file pair of the kernel flavour represents an element-level file
(`Rep`); once synced this says that `pmmr_data.bin` is the concatenation of its elements and
`pmmr_size.bin` their `(offset, size)` list -/
theorem np_var_files_consistent {H : Type} (el : Bytes → Option Nat) (hf : HashFn Bytes H)
    (ops : List HOp) (hnp : ∀ op ∈ ops, op.np = true) (hproto : RefSt.Proto {} ops)
    (hd : ∀ e, HOp.push e ∈ ops → Delim el e) :
    let p := ops.foldl (npstep el hf) ({ b := { dataFile := .var {} }, size := 0 } : PM H)
    ∃ v f, p.b.dataFile = .var v ∧ Rep el v f := by
  intro p
  have hs : NSim p (ops.foldl (bstep el hf) ({ b := { dataFile := .var {} }, size := 0 } : PM H)) :=
    NSim.run ops _ _ NSim.initVar hnp
  obtain ⟨_, _, _, _, _, ⟨v, f, h1, _, h3⟩, _⟩ := C08Var.history_var_simulates_fixed el hf ops hproto hd
  exact ⟨v, f, by rw [hs.1]; exact h1, h3⟩

example : (∀ op ∈ [HOp.push [2, 7, 9], .push [0], .sync, .rewind 1 [], .push [1, 5], .sync, .reopen],
    op.np = true) := by
  intro op h
  simp only [List.mem_cons, List.mem_nil_iff, or_false] at h
  rcases h with rfl | rfl | rfl | rfl | rfl | rfl | rfl <;> rfl

end GV.Props.C08Np
