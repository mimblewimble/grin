import GrinVerif.Lemmas.PmmrArith
import GrinVerif.Lemmas.PmmrSound
import GrinVerif.Lemmas.PmmrHandle
import GrinVerif.Lemmas.PmmrValidate
import GrinVerif.Model.PmmrViews
import GrinVerif.Spec.Mmr
/-! # C07 — MMR positions, roots and Merkle proofs follow the MMR definition

The property theorems, with the few helpers that are stated on the list level (`hashes_take`,
`root_pushed`, `reads_at_leaf`, …); the coordinate lemmas live in `Lemmas/Pmmr*.lean`, the defining
construction in `Spec/Mmr.lean`. Coordinates: node `(n, h)` is the node of height `h` completed by the insertion
of leaf `n` (0-based; `h ≤ trailingOnes n`); its post-order position is `mmr n + h` with
`mmr n = 2n - popcount n`.  It covers leaves `n + 1 - 2^h … n`; it is a right child iff
`h < trailingOnes n` (bit `h` of `n` set).

Contents: position arithmetic in coordinates; `push`/`root`/`peaks`/`validate` against the defining
construction; Merkle proofs (completeness, soundness for collision-free hashes and its corollaries,
the advisory `mmr_size` field is not bound); views at a size and pruning; one live handle under
arbitrary histories; `validate` on any hash file; the element side of the read-only views. -/
namespace GV.Props.C07
open GV GV.Pmmr GV.Pmmr.Co

/-- The position arithmetic of `peak_map_height` recovers, for every node, the number of leaves
before it and its height. Holds for all `n`, no size bound. -/
theorem peakMapHeight_coord (n h : Nat) (hh : h ≤ trailingOnes n) :
    peakMapHeight (mmr n + h) = (n, h) := peakMapHeight_co n h hh

/-- Every position is the position of exactly one node `(n, h)`: existence. -/
theorem coord_surjective (pos : Nat) : ∃ n h, h ≤ trailingOnes n ∧ pos = mmr n + h := coord_surj pos

/-- … and uniqueness (the coordinates are a bijection between positions and nodes). -/
theorem coord_injective (n h n' h' : Nat) (hh : h ≤ trailingOnes n) (hh' : h' ≤ trailingOnes n')
    (e : mmr n + h = mmr n' + h') : n = n' ∧ h = h' := coord_inj hh hh' e

/-- `bintree_postorder_height` is the height coordinate. -/
theorem height_coord (n h : Nat) (hh : h ≤ trailingOnes n) : height (mmr n + h) = h := height_co n h hh

/-- a size is the size of an MMR (of `n` leaves, for some `n`) exactly when `peak_map_height`
reports height 0 for it - the test `PMMR::push` makes -/
theorem validSize_iff (s : Nat) : (peakMapHeight s).2 = 0 ↔ ∃ n, s = mmr n :=
  ⟨leaf_coord, fun ⟨n, e⟩ => e ▸ height_mmr n⟩

/-- Leaf index → position → leaf index is the identity, for every leaf index. -/
theorem leaf_index_roundtrip (n : Nat) :
    pmmrLeafToInsertionIndex (insertionToPmmrIndex n) = some n :=
  (leafIndex_eq_some _ n).2 rfl

/-- A position is a leaf exactly when it is `insertion_to_pmmr_index` of some leaf index. -/
theorem isLeaf_iff (pos : Nat) : isLeaf pos = true ↔ ∃ n, pos = insertionToPmmrIndex n := by
  simp only [isLeaf, height, beq_iff_eq, insertionToPmmrIndex]
  exact validSize_iff pos

/-- Leaf positions are strictly increasing in the leaf index. -/
theorem insertion_index_strictMono (n : Nat) : insertionToPmmrIndex n < insertionToPmmrIndex (n+1) := by
  simp only [insertionToPmmrIndex]; rw [mmr_succ]; omega

/-- `n_leaves` of the size reached after `n` insertions is `n`. -/
theorem nLeaves_at_leaf_boundary (n : Nat) : nLeaves (mmr n) = n := nLeaves_mmr n

/-- `n_leaves` of a size that stops inside the parents of leaf `n` counts that leaf too. -/
theorem nLeaves_mid (n h : Nat) (hh : h ≤ trailingOnes n) (hpos : 0 < h) : nLeaves (mmr n + h) = n + 1 :=
  nLeaves_inner hh hpos

/-- `round_up_to_leaf_pos` is the identity on leaves and the next leaf position otherwise. -/
theorem roundUp_spec (n h : Nat) (hh : h ≤ trailingOnes n) :
    roundUpToLeafPos (mmr n + h) = if h = 0 then mmr n else mmr (n+1) := roundUp_co hh

/-- … hence it returns the least leaf position ≥ pos. -/
theorem roundUp_ge (pos : Nat) : pos ≤ roundUpToLeafPos pos ∧ isLeaf (roundUpToLeafPos pos) = true := by
  obtain ⟨n, h, hh, rfl⟩ := coord_surjective pos
  rw [roundUp_spec n h hh]
  split
  · subst_vars
    exact ⟨by omega, isLeaf_mmr n⟩
  · exact ⟨by rw [mmr_succ]; omega, isLeaf_mmr (n+1)⟩

theorem mmr_3 : mmr 3 = 4 := by simp [mmr, popcount]
theorem mmr_4 : mmr 4 = 7 := by simp [mmr, popcount]
theorem mmr_5 : mmr 5 = 8 := by simp [mmr, popcount]
theorem mmr_6 : mmr 6 = 10 := by simp [mmr, popcount]
theorem mmr_7 : mmr 7 = 11 := by simp [mmr, popcount]
theorem trailingOnes_3 : trailingOnes 3 = 2 := by simp [trailingOnes]
theorem trailingOnes_5 : trailingOnes 5 = 1 := by simp [trailingOnes]

-- non-vacuity: leaf 4 of a 7-leaf MMR sits at position 7, node (3,2) at position 6
example : mmr 4 = 7 ∧ peakMapHeight 7 = (4, 0) ∧ peakMapHeight 6 = (3, 2) ∧ trailingOnes 3 = 2 := by
  refine ⟨mmr_4, ?_, ?_, trailingOnes_3⟩
  · have := peakMapHeight_coord 4 0 (Nat.zero_le _); rwa [mmr_4] at this
  · have := peakMapHeight_coord 3 2 (Nat.le_of_eq trailingOnes_3.symm); rwa [mmr_3] at this

/-- `family` in coordinates: a right child (`h < trailingOnes n`, bit `h` of `n` set) has its sibling to
the left, a left child to the right -/
theorem family_coord (n h : Nat) (hh : h ≤ trailingOnes n) :
    family (mmr n + h) =
      if h < trailingOnes n then (mmr n + (h+1), mmr (n - 2^h) + h)
      else (mmr (n + 2^h) + (h+1), mmr (n + 2^h) + h) := family_co n h hh

/-- the test used by `family`, `is_left_sibling` and `push` (bit `h` of the peak map) asks whether
the node is a right child -/
theorem bitSet_iff_right_child (n h : Nat) (hh : h ≤ trailingOnes n) :
    bitSet n h = true ↔ h < trailingOnes n := by
  rw [bitSet_coord hh]; simp

/-- `is_left_sibling`: a node is a left sibling iff its insertion completes nothing higher -/
theorem isLeftSibling_coord (n h : Nat) (hh : h ≤ trailingOnes n) :
    isLeftSibling (mmr n + h) = decide (h = trailingOnes n) := isLeftSibling_co hh

/-- the sibling of a left sibling is a right sibling and vice versa -/
theorem isLeftSibling_sibling (pos : Nat) :
    isLeftSibling (family pos).2 = !isLeftSibling pos := by
  obtain ⟨n, h, hh, rfl⟩ := coord_surjective pos
  have hf := family_up n h
  rw [up_of_valid hh] at hf
  rw [show mmr n + h = cpos (n, h) from rfl, hf, isLeftSibling_sibCo]
  simp [isLeftSibling, cpos, peakMapHeight_co n h hh]

/-- `bintree_rightmost`: the rightmost leaf below `(n, h)` is leaf `n` -/
theorem bintreeRightmost_coord (n h : Nat) (hh : h ≤ trailingOnes n) :
    bintreeRightmost (mmr n + h) = mmr n := rightmost_co hh

/-- `bintree_leftmost`: the leftmost leaf below `(n, h)` is leaf `n + 1 - 2^h` -/
theorem bintreeLeftmost_coord (n h : Nat) (hh : h ≤ trailingOnes n) :
    bintreeLeftmost (mmr n + h) = mmr (n + 1 - 2^h) := leftmost_co hh

/-- `bintree_range`: the subtree of `(n, h)` occupies exactly the positions from the first hash
emitted for leaf `n + 1 - 2^h` up to the node itself: `2·2^h - 1` consecutive positions. -/
theorem bintreeRange_coord (n h : Nat) (hh : h ≤ trailingOnes n) :
    bintreeRange (mmr n + h) = (mmr (n + 1 - 2^h), mmr n + h + 1)
    ∧ (mmr n + h + 1) - mmr (n + 1 - 2^h) = 2 * 2^h - 1 := by
  have h2 := (leftmost_coord hh).2
  exact ⟨congrArg (·, mmr n + h + 1) (bintreeLeftmost_coord n h hh), by omega⟩

/-- `bintree_leaf_pos_iter`: the leaves below `(n, h)` are the `2^h` leaves `n + 1 - 2^h … n` -/
theorem bintreeLeafPosIter_coord (n h : Nat) (hh : h ≤ trailingOnes n) :
    bintreeLeafPosIter (mmr n + h) = (List.range (2^h)).map fun i => mmr (n + 1 - 2^h + i) := by
  have l1 := leaf_index_roundtrip (n + 1 - 2^h)
  have l2 := leaf_index_roundtrip n
  simp only [insertionToPmmrIndex] at l1 l2
  simp only [bintreeLeafPosIter, bintreeLeftmost_coord n h hh, bintreeRightmost_coord n h hh, l1, l2,
    insertionToPmmrIndex, Nat.sub_sub_self (leftmost_coord hh).1]

/-- `peaks` of a valid size: the positions of the perfect trees of the binary decomposition of `n`,
largest first (`forest n` lists them as (last leaf, height) without bit tricks). -/
theorem peaks_coord (n : Nat) : peaks (mmr n) = (forest n).map fun c => mmr c.1 + c.2 :=
  peaks_forest n

/-- … which is one tree per set bit of `n`, highest bit first: the tree for bit `h` has height `h`
and ends with the last of the leaves counted by the bits `≥ h` of `n`. So `peaks (mmr n)` is the list
of the positions `mmr m + h` for the set bits `h` of `n` from high to low, `m = ⌊n / 2^(h+1)⌋·2^(h+1) + 2^h - 1`. -/
theorem peaks_bits (n : Nat) :
    peaks (mmr n) = ((List.range n).reverse.filter (bitSet n)).map
      (fun h => mmr (n / 2^(h+1) * 2^(h+1) + 2^h - 1) + h) := by
  rw [peaks_forest, forest_bits, List.map_map]
  rfl

/-- every listed peak `(m, h)` is a node of the MMR, a left child whose right sibling would need
leaves beyond `n`; the list is ordered by position -/
theorem peaks_are_peaks (n : Nat) :
    (∀ c ∈ forest n, c.2 = trailingOnes c.1 ∧ c.1 < n ∧ n ≤ c.1 + 2^c.2)
    ∧ (peaks (mmr n)).Pairwise (· < ·) ∧ ∀ p ∈ peaks (mmr n), p < mmr n := by
  refine ⟨fun c hc => forest_mem hc, ?_, fun p hp => peaks_lt_size hp⟩
  rw [peaks_forest]; exact forest_pos_pairwise n

/-- every leaf lies below one of the peaks, namely below its own ancestor `up i k` (leaf `i` with
the low `k` bits set) -/
theorem peaks_cover (n i : Nat) (hi : i < n) : ∃ k, (up i k, k) ∈ forest n := forest_cover hi

/-- `peaks` of a size that is not reachable by whole insertions is empty … -/
theorem peaks_invalid_size (n h : Nat) (hh : h ≤ trailingOnes n) (hpos : 0 < h) :
    peaks (mmr n + h) = [] := by
  unfold peaks peakSizesHeight
  have hz : mmr n + h ≠ 0 := by omega
  rw [if_neg hz]
  have h1 := greedySizes_snd (bitLen (mmr n + h)) (mmr n + h) 0
  have h2 := peakMapHeight_co n h hh
  unfold peakMapHeight at h2
  rw [if_neg hz] at h2
  rw [h2] at h1
  simp only [h1]
  rw [if_neg (by omega)]

/-- … and that is the only way to get no peaks, apart from the empty MMR (`peaks 0 = []` although
`0 = mmr 0` is a valid size). -/
theorem peaks_eq_nil_iff (s : Nat) : peaks s = [] ↔ s = 0 ∨ ¬ ∃ n, s = mmr n := by
  obtain ⟨n, h, hh, rfl⟩ := coord_surjective s
  rw [← validSize_iff, peakMapHeight_coord n h hh]
  cases h with
  | succ h => simp [peaks_invalid_size n (h+1) hh (Nat.succ_pos h)]
  | zero =>
    rw [Nat.add_zero, peaks_forest]
    rcases Nat.eq_zero_or_pos n with rfl | hpos
    · simp [mmr_zero, forest_zero]
    · simp [forest_ne_nil hpos, Nat.ne_of_gt (Nat.lt_of_lt_of_le hpos (le_mmr n))]

/-- `family_branch` from any node `(n, h)` inside any `size`: the (parent, sibling) positions of the
ancestors `(up n j, j)`, `j = h, h+1, …`, for as long as the parent is inside `size`
(`size + 1` levels are always enough). -/
theorem familyBranch_coord (n h size : Nat) (hh : h ≤ trailingOnes n) :
    familyBranch (mmr n + h) size
      = ((List.range' h (size + 1)).map fun j =>
          (mmr (up n (j+1)) + (j+1), mmr (sibCo n j).1 + (sibCo n j).2)).takeWhile (fun x => x.1 < size) := by
  have := familyBranchLoop_general n size (size + 1) h
  simp only [cpos, up_of_valid hh] at this
  simp only [familyBranch, peakMapHeight_coord n h hh]
  exact this

/-- the ancestors and siblings named by `familyBranch_coord` are the ones `family` walks through -/
theorem family_ancestor (n j : Nat) :
    family (mmr (up n j) + j) = (mmr (up n (j+1)) + (j+1), mmr (sibCo n j).1 + (sibCo n j).2)
    ∧ j ≤ trailingOnes (up n j) ∧ (sibCo n j).2 ≤ trailingOnes (sibCo n j).1 :=
  ⟨family_up n j, up_valid n j, sibCo_valid n j⟩

-- non-vacuity: in the 7-leaf MMR (size 11) node (3,2) at position 6 is a left child with parent
-- (7,3) at 14 and sibling (7,2) at 13; node (5,1) at 9 has the leaves 4,5 at positions 7,8
example : family 6 = (14, 13) ∧ isLeftSibling 6 = true ∧ bintreeRange 9 = (7, 10)
    ∧ peaks 11 = [6, 9, 10] := by
  refine ⟨?_, ?_, ?_, ?_⟩
  · have := family_coord 3 2 (Nat.le_of_eq trailingOnes_3.symm); simpa [mmr_3, mmr_7, trailingOnes_3] using this
  · have := isLeftSibling_coord 3 2 (Nat.le_of_eq trailingOnes_3.symm); simpa [mmr_3, trailingOnes_3] using this
  · have := (bintreeRange_coord 5 1 (Nat.le_of_eq trailingOnes_5.symm)).1; simpa [mmr_4, mmr_5] using this
  · have := peaks_coord 7
    rw [mmr_7] at this
    rw [this]
    simp [forest, forestFrom, mmr_3, mmr_5, mmr_6]

section spec
variable {α H : Type}

/-- **push_root.** For every list of elements (up to the `2^65` the model's loop fuel covers; the
code's `u64` leaf count is smaller), pushing them one by one onto an empty Vec backend never fails
and produces exactly the hashes of the defining construction, position by position; the size is
`mmr (number of leaves)`; the peak positions, the peak hashes and the root are those of the
defining construction; and `validate` accepts the result. -/
theorem push_root [DecidableEq H] (hf : HashFn α H) (xs : List α) (hb : xs.length ≤ 2^65) :
    pushAll hf [] xs = some (Spec.Mmr.hashes hf xs)
    ∧ (Spec.Mmr.hashes hf xs).length = mmr xs.length
    ∧ Spec.Mmr.size hf xs = mmr xs.length
    ∧ peaks (mmr xs.length) = Spec.Mmr.peakPositions hf xs
    ∧ peakHashes (Spec.Mmr.hashes hf xs) = Spec.Mmr.peakHashes hf xs
    ∧ root hf (Spec.Mmr.hashes hf xs) = (match Spec.Mmr.root hf xs with
        | none => .zero
        | some r => .ok r)
    ∧ validate hf (Spec.Mmr.hashes hf xs) = true := by
  refine ⟨pushAll_hashes hf xs hb, hashes_length hf xs, ?_, ?_, peakHashes_hashes hf xs,
    root_hashes hf xs, validate_hashes hf xs⟩ <;> clear hb <;> induction xs using list_fn_cases with
  | nil => simp [Spec.Mmr.size, Spec.Mmr.peakPositions, Spec.Mmr.build, mmr_zero, peaks,
      peakSizesHeight, scanPeaks]
  | fn N f => simp only [List.length_map, List.length_range, spec_size, spec_peakPositions,
      peaks_forest]

theorem hash_at_leaf (hf : HashFn α H) (xs : List α) (n : Nat) (hn : n < xs.length) :
    (Spec.Mmr.hashes hf xs)[mmr n]? = some (hf.leaf (mmr n) xs[n]) := by
  obtain ⟨f, _, hfi, h1⟩ := hashes_as_fn hf xs (List.ne_nil_of_length_pos (Nat.zero_lt_of_lt hn))
  rw [h1, ← hfi n hn]
  exact allHashes_getElem? hf f xs.length n 0 hn (Nat.zero_le _)

/-- the hash at an inner node `(n, h+1)`: its position and the hashes of its two children, which are
the nodes `(n - 2^h, h)` (left) and `(n, h)` (right) — the positions `family` assigns to them -/
theorem hash_at_parent (hf : HashFn α H) (xs : List α) (n h : Nat) (hn : n < xs.length)
    (hh : h + 1 ≤ trailingOnes n) :
    ∃ l r, (Spec.Mmr.hashes hf xs)[mmr (n - 2^h) + h]? = some l
      ∧ (Spec.Mmr.hashes hf xs)[mmr n + h]? = some r
      ∧ (Spec.Mmr.hashes hf xs)[mmr n + (h+1)]? = some (hf.node (mmr n + (h+1)) l r)
      ∧ (family (mmr (n - 2^h) + h)).1 = mmr n + (h+1) ∧ (family (mmr n + h)).1 = mmr n + (h+1) := by
  obtain ⟨f, _, _, h1⟩ := hashes_as_fn hf xs (List.ne_nil_of_length_pos (Nat.zero_lt_of_lt hn))
  have s := left_sibling_coord (show h < trailingOnes n from hh)
  rw [h1]
  refine ⟨nodeHash hf f (n - 2^h) h, nodeHash hf f n h,
    allHashes_getElem? hf f _ _ _ (Nat.lt_of_le_of_lt (Nat.sub_le _ _) hn) s.valid,
    allHashes_getElem? hf f _ _ _ hn (Nat.le_of_succ_le hh), allHashes_getElem? hf f _ _ _ hn hh, ?_, ?_⟩
  · rw [family_coord _ h s.valid, if_neg (by rw [s.tail]; exact Nat.lt_irrefl h), Nat.sub_add_cancel s.le]
  · rw [family_coord n h (Nat.le_of_succ_le hh), if_pos (show h < trailingOnes n from hh)]

theorem spec_root_isSome (hf : HashFn α H) (xs : List α) (hne : xs ≠ []) :
    (Spec.Mmr.root hf xs).isSome = true := by
  obtain ⟨f, hxs, _⟩ := list_as_fn xs hne
  obtain ⟨r, hr⟩ := spec_root_some hf f (List.length_pos_iff.2 hne)
  rw [hxs, hr]
  rfl

-- non-vacuity of `push_root`: seven elements, free-term hashes
example : pushAll (termHF Nat) [] [10, 11, 12, 13, 14, 15, 16]
    = some (Spec.Mmr.hashes (termHF Nat) [10, 11, 12, 13, 14, 15, 16]) :=
  (push_root (termHF Nat) [10, 11, 12, 13, 14, 15, 16] (by decide)).1

-- non-vacuity: the 7-leaf MMR over free terms
example : (Spec.Mmr.hashes (termHF Nat) [10, 11, 12, 13, 14, 15, 16]).length = 11
    ∧ Spec.Mmr.peakPositions (termHF Nat) [10, 11, 12, 13, 14, 15, 16] = [6, 9, 10] := by
  decide

end spec

section proofs
variable {α H : Type} [DecidableEq H]

/-- **proof_complete.** For every list `xs` and every leaf index `i < xs.length`, `merkle_proof`
succeeds on the MMR of `xs` at the leaf's position, records the size, and the proof verifies against
the root for exactly that element at that position. -/
theorem proof_complete (hf : HashFn α H) (xs : List α) (i : Nat) (hi : i < xs.length) :
    ∃ path r, merkleProof hf (Spec.Mmr.hashes hf xs) (mmr i) = some (mmr xs.length, path)
      ∧ Spec.Mmr.root hf xs = some r
      ∧ verify hf r (mmr xs.length) path xs[i] (mmr i) = true := by
  obtain ⟨f, k, L, R, c, hfi, hh, hr⟩ := leaf_ctx hf xs i hi
  refine ⟨treePath hf f i 0 k ++ peakPart hf f (mmr xs.length) L R, _, ?_, hr, ?_⟩
  · rw [hh]; exact merkleProof_coord c hf f
  · rw [← hfi]; exact verify_complete c hf f

/-- **proof_sound** (full strength: no assumption on the position). For collision-free hashes: if a
proof `(size = mmr xs.length, path)` verifies against the root of the MMR of `xs` for element `e`
at *any* position `pos`, then `pos` is the position of some leaf `i` of the MMR, `e` is the element
`xs[i]` stored there, and `path` is exactly the path `merkle_proof` produces for that position.
In particular inner-node positions and positions at or beyond the size (the odd branches of
`verify_consume`) never verify. -/
theorem proof_sound_any_position (hf : HashFn α H) (cf : CollisionFree hf) (xs : List α) (r : H)
    (hr : Spec.Mmr.root hf xs = some r) (path : List H) (e : α) (pos : Nat)
    (hv : verify hf r (mmr xs.length) path e pos = true) :
    ∃ (i : Nat) (hi : i < xs.length), pos = mmr i ∧ e = xs[i]
      ∧ merkleProof hf (Spec.Mmr.hashes hf xs) pos = some (mmr xs.length, path) := by
  obtain ⟨n, h, hh, rfl⟩ := coord_surjective pos
  by_cases hn : n < xs.length
  · obtain ⟨f, k, L, R, c, hfi, hhs, hr'⟩ := leaf_ctx hf xs n hn
    obtain rfl := Option.some.inj (hr.symm.trans hr')
    cases h with
    | zero =>
      simp only [Nat.add_zero] at hv ⊢
      obtain ⟨h1, h2⟩ := verify_sound cf c f e path hv
      refine ⟨n, hn, rfl, by rw [h1, hfi], ?_⟩
      rw [hhs, h2]; exact merkleProof_coord c hf f
    | succ h => exact absurd (hv.symm.trans (sound_nonleaf cf c f e path h hh)) Bool.noConfusion
  · have hne : xs ≠ [] := by intro h0; subst h0; simp [Spec.Mmr.root, Spec.Mmr.bagRightToLeft, Spec.Mmr.build] at hr
    have hpos : 0 < xs.length := List.length_pos_iff.2 hne
    obtain ⟨f, k, L, R, c, _, _, hr'⟩ := leaf_ctx hf xs 0 hpos
    obtain rfl := Option.some.inj (hr.symm.trans hr')
    have hge : mmr xs.length ≤ mmr n + h :=
      Nat.le_trans (mmr_le_mmr (Nat.le_of_not_lt hn)) (Nat.le_add_right _ _)
    exact absurd (hv.symm.trans (sound_beyond cf c f e path _ hge)) Bool.noConfusion

/-- **proof_sound** as usually quoted, for a leaf position inside the MMR -/
theorem proof_sound (hf : HashFn α H) (cf : CollisionFree hf) (xs : List α) (r : H)
    (hr : Spec.Mmr.root hf xs = some r) (path : List H) (e : α) (pos : Nat)
    (_hleaf : isLeaf pos = true) (_hlt : pos < mmr xs.length)
    (hv : verify hf r (mmr xs.length) path e pos = true) :
    ∃ (i : Nat) (hi : i < xs.length), pos = mmr i ∧ e = xs[i]
      ∧ merkleProof hf (Spec.Mmr.hashes hf xs) pos = some (mmr xs.length, path) :=
  proof_sound_any_position hf cf xs r hr path e pos hv

/-- a position that is not the position of a leaf of the MMR (an inner node, or anything at or
beyond the size) makes verification fail, whatever element and path are supplied -/
theorem proof_not_a_leaf_position (hf : HashFn α H) (cf : CollisionFree hf) (xs : List α) (r : H)
    (hr : Spec.Mmr.root hf xs = some r) (path : List H) (e : α) (pos : Nat)
    (hpos : isLeaf pos = false ∨ mmr xs.length ≤ pos) :
    verify hf r (mmr xs.length) path e pos = false := by
  apply Bool.eq_false_iff.2
  intro hv
  obtain ⟨i, hi, rfl, _⟩ := proof_sound_any_position hf cf xs r hr path e pos hv
  rcases hpos with h | h
  · have := isLeaf_mmr i
    rw [h] at this; exact absurd this (by simp)
  · have := mmr_lt_mmr hi; omega

/-- substituting another element makes verification fail, whatever path is supplied -/
theorem proof_other_element (hf : HashFn α H) (cf : CollisionFree hf) (xs : List α) (r : H)
    (hr : Spec.Mmr.root hf xs = some r) (i : Nat) (hi : i < xs.length) (e : α) (he : e ≠ xs[i])
    (path : List H) : verify hf r (mmr xs.length) path e (mmr i) = false := by
  apply Bool.eq_false_iff.2
  intro hv
  obtain ⟨j, hj, hpos, hej, _⟩ := proof_sound_any_position hf cf xs r hr path e (mmr i) hv
  cases mmr_inj hpos
  exact he hej

/-- any path other than the one `merkle_proof` produces makes verification fail, whatever the
element: this covers an altered path hash, a shortened and a lengthened path -/
theorem proof_other_path (hf : HashFn α H) (cf : CollisionFree hf) (xs : List α) (r : H)
    (hr : Spec.Mmr.root hf xs = some r) (i : Nat) (hi : i < xs.length) (path path' : List H)
    (hp : merkleProof hf (Spec.Mmr.hashes hf xs) (mmr i) = some (mmr xs.length, path))
    (hne : path' ≠ path) (e : α) : verify hf r (mmr xs.length) path' e (mmr i) = false := by
  apply Bool.eq_false_iff.2
  intro hv
  obtain ⟨j, hj, hpos, _, hp'⟩ := proof_sound_any_position hf cf xs r hr path' e (mmr i) hv
  exact hne (Prod.mk.inj (Option.some.inj (hp'.symm.trans hp))).2

/-- altering any one path hash makes verification fail -/
theorem proof_altered_hash (hf : HashFn α H) (cf : CollisionFree hf) (xs : List α) (r : H)
    (hr : Spec.Mmr.root hf xs = some r) (i : Nat) (hi : i < xs.length) (path : List H)
    (hp : merkleProof hf (Spec.Mmr.hashes hf xs) (mmr i) = some (mmr xs.length, path))
    (m : Nat) (hm : m < path.length) (h' : H) (hne : h' ≠ path[m]) (e : α) :
    verify hf r (mmr xs.length) (path.set m h') e (mmr i) = false := by
  apply proof_other_path hf cf xs r hr i hi path _ hp _ e
  intro heq
  have := congrArg (fun l => l[m]?) heq
  simp [List.getElem?_set_self hm, List.getElem?_eq_getElem hm] at this
  exact hne this

/-- shortening the path (keeping any proper prefix, in particular dropping the last entry, or
dropping entries from the front) makes verification fail -/
theorem proof_shortened (hf : HashFn α H) (cf : CollisionFree hf) (xs : List α) (r : H)
    (hr : Spec.Mmr.root hf xs = some r) (i : Nat) (hi : i < xs.length) (path path' : List H)
    (hp : merkleProof hf (Spec.Mmr.hashes hf xs) (mmr i) = some (mmr xs.length, path))
    (hlen : path'.length < path.length) (e : α) :
    verify hf r (mmr xs.length) path' e (mmr i) = false :=
  proof_other_path hf cf xs r hr i hi path path' hp (fun h => by rw [h] at hlen; omega) e

/-- lengthening the path (appending, prepending or inserting anything) makes verification fail -/
theorem proof_lengthened (hf : HashFn α H) (cf : CollisionFree hf) (xs : List α) (r : H)
    (hr : Spec.Mmr.root hf xs = some r) (i : Nat) (hi : i < xs.length) (path path' : List H)
    (hp : merkleProof hf (Spec.Mmr.hashes hf xs) (mmr i) = some (mmr xs.length, path))
    (hlen : path.length < path'.length) (e : α) :
    verify hf r (mmr xs.length) path' e (mmr i) = false :=
  proof_other_path hf cf xs r hr i hi path path' hp (fun h => by rw [h] at hlen; omega) e

/-- presenting the proof of leaf `i` for another leaf position of the MMR makes verification
fail, whatever element is claimed there (even if the two leaves hold equal elements) -/
theorem proof_other_position (hf : HashFn α H) (cf : CollisionFree hf) (xs : List α) (r : H)
    (hr : Spec.Mmr.root hf xs = some r) (i j : Nat) (hi : i < xs.length) (hj : j < xs.length)
    (hij : i ≠ j) (path : List H)
    (hp : merkleProof hf (Spec.Mmr.hashes hf xs) (mmr i) = some (mmr xs.length, path)) (e : α) :
    verify hf r (mmr xs.length) path e (mmr j) = false := by
  apply Bool.eq_false_iff.2
  intro hv
  -- the proof verifies for leaf `i` (completeness), and a proof verifies at one position only
  obtain ⟨path0, r0, h1, h2, h3⟩ := proof_complete hf xs i hi
  obtain rfl := Option.some.inj (hr.symm.trans h2)
  obtain rfl := (Prod.mk.inj (Option.some.inj (h1.symm.trans hp))).2
  exact hij (mmr_inj (verify_unique cf r _ path0 (mmr_lt_mmr hi) (mmr_lt_mmr hj) h3 hv).1)

theorem root_pushed (hf : HashFn α H) (xs : List α) (hb : xs.length ≤ 2^65) (hs : List H)
    (hpush : pushAll hf [] xs = some hs) (r : H) :
    root hf hs = .ok r ↔ Spec.Mmr.root hf xs = some r := by
  obtain rfl := Option.some.inj (hpush.symm.trans (pushAll_hashes hf xs hb))
  rw [root_hashes]
  cases Spec.Mmr.root hf xs <;> simp

/-- completeness and soundness restated on the model state itself: `hs` is what `PMMR::push` built
from `xs`, `r` is what `root()` returns on it. -/
theorem proof_complete_pushed (hf : HashFn α H) (xs : List α) (hb : xs.length ≤ 2^65) (hs : List H)
    (hpush : pushAll hf [] xs = some hs) (i : Nat) (hi : i < xs.length) :
    ∃ path r, merkleProof hf hs (mmr i) = some (mmr xs.length, path) ∧ root hf hs = .ok r
      ∧ verify hf r (mmr xs.length) path xs[i] (mmr i) = true := by
  obtain ⟨path, r, h1, h2, h3⟩ := proof_complete hf xs i hi
  have hr := (root_pushed hf xs hb hs hpush r).2 h2
  obtain rfl := Option.some.inj (hpush.symm.trans (pushAll_hashes hf xs hb))
  exact ⟨path, r, h1, hr, h3⟩

theorem proof_sound_pushed (hf : HashFn α H) (cf : CollisionFree hf) (xs : List α)
    (hb : xs.length ≤ 2^65) (hs : List H) (hpush : pushAll hf [] xs = some hs) (r : H)
    (hr : root hf hs = .ok r) (path : List H) (e : α) (pos : Nat)
    (hv : verify hf r (mmr xs.length) path e pos = true) :
    ∃ (i : Nat) (hi : i < xs.length), pos = mmr i ∧ e = xs[i]
      ∧ merkleProof hf hs pos = some (mmr xs.length, path) := by
  have hr' := (root_pushed hf xs hb hs hpush r).1 hr
  obtain rfl := Option.some.inj (hpush.symm.trans (pushAll_hashes hf xs hb))
  exact proof_sound_any_position hf cf xs r hr' path e pos hv

/-- **The advisory `mmr_size` field is not bound.** Single-peak counter-example: in the one-leaf MMR
the (empty) proof of leaf 0 verifies against the root with *any* `mmr_size` whatsoever, not only with
the true size 1. (This is why the property excludes the size field.) -/
theorem size_not_bound_one_leaf (hf : HashFn α H) (a : α) (size' : Nat) :
    Spec.Mmr.root hf [a] = some (hf.leaf 0 a)
    ∧ verify hf (hf.leaf 0 a) size' [] a 0 = true := by
  refine ⟨rfl, ?_⟩
  simp only [verify]
  rw [verifyAux]
  by_cases hs : 0 ≥ size'
  · have : size' = 0 := by omega
    subst this; simp
  · rw [if_neg hs]; simp

/-- the same with a non-trivial path: in the two-leaf MMR (a single peak, true size 3) the proof
`[leaf 1]` of leaf 0 still verifies when the size field claims 4 (three leaves), 5 (not a valid
size at all), 7 (four leaves, again a single peak) or anything else `≥ 3` whose peak list does not
contain position 0. -/
theorem size_not_bound_two_leaves (hf : HashFn α H) (a b : α) (size' : Nat) (hs : 3 ≤ size')
    (hpk : 0 ∉ peaks size') :
    Spec.Mmr.root hf [a, b] = some (hf.node 2 (hf.leaf 0 a) (hf.leaf 1 b))
    ∧ verify hf (hf.node 2 (hf.leaf 0 a) (hf.leaf 1 b)) size' [hf.leaf 1 b] a 0 = true := by
  refine ⟨rfl, ?_⟩
  have hfam : family 0 = (2, 1) := by decide
  have hls : isLeftSibling 1 = false := by
    have := isLeftSibling_coord 1 0 (Nat.zero_le _)
    simpa [mmr, popcount, trailingOnes] using this
  have n0 : ¬ (0 ≥ size') := by omega
  have n2 : ¬ (2 ≥ size') := by omega
  simp only [verify]
  rw [verifyAux]
  simp only [hfam, findIdx_none _ _ hpk, hls, n0, n2, Bool.false_eq_true, if_false]
  rw [verifyAux]
  simp only [n2, if_false]
  simp

-- the side condition of `size_not_bound_two_leaves` holds e.g. for the claimed sizes 5 and 7
example (a b : Nat) :
    verify (termHF Nat) (.node 2 (.leaf 0 a) (.leaf 1 b)) 5 [.leaf 1 b] a 0 = true
    ∧ verify (termHF Nat) (.node 2 (.leaf 0 a) (.leaf 1 b)) 7 [.leaf 1 b] a 0 = true := by
  have p5 : peaks 5 = [] := by
    have := peaks_invalid_size 3 1 (by rw [trailingOnes_3]; decide) Nat.one_pos; rwa [mmr_3] at this
  have p7 : peaks 7 = [6] := by
    have := peaks_coord 4
    rw [mmr_4] at this; rw [this]; simp [forest, forestFrom, mmr_3]
  exact ⟨(size_not_bound_two_leaves (termHF Nat) a b 5 (by omega) (by simp [p5])).2,
    (size_not_bound_two_leaves (termHF Nat) a b 7 (by omega) (by simp [p7])).2⟩

end proofs

/-! ## Views at a size and pruned backends

`PMMR::at`, `ReadonlyPMMR::at` and `RewindablePMMR` (moved to any size, in either direction) read
the first `size` positions of the backend; the remove log hides pruned leaves from `get_hash`
only. A view at the size reached after `k` appends therefore *is* the MMR of the first `k`
elements: same root, same peaks, and the proof of every present leaf is the one proved complete
and sound above. Pruning leaves changes neither root nor peaks nor the proof of any other leaf. -/
section views
variable {α H : Type} [DecidableEq H]

omit [DecidableEq H] in
theorem hashes_take (hf : HashFn α H) (xs : List α) (k : Nat) (hk : k ≤ xs.length) :
    (Spec.Mmr.hashes hf xs).take (mmr k) = Spec.Mmr.hashes hf (xs.take k) :=
  Co.hashes_take hf xs k hk

/-- **view_root.** A view at the size reached after `k ≤ xs.length` appends, over a backend that
holds all of `xs` and any remove log `R`, has the root and the peaks of the defining construction
on the first `k` elements. -/
theorem view_root (hf : HashFn α H) (xs : List α) (hb : xs.length ≤ 2^65) (k : Nat)
    (hk : k ≤ xs.length) (R : List Nat) :
    vRoot hf ⟨Spec.Mmr.hashes hf xs, R⟩ (mmr k) = (match Spec.Mmr.root hf (xs.take k) with
        | none => .zero
        | some r => .ok r)
    ∧ vPeaks ⟨Spec.Mmr.hashes hf xs, R⟩ (mmr k) = Spec.Mmr.peakHashes hf (xs.take k) := by
  have hb' : (xs.take k).length ≤ 2^65 := Nat.le_trans (List.length_take_le' _ _) hb
  have h5 := peakHashes_hashes hf (xs.take k)
  have h6 := root_hashes hf (xs.take k)
  simp only [vRoot, vPeaks, vFile, hashes_take hf xs k hk]
  exact ⟨h6, h5⟩

/-- **view_proof_complete.** In such a view the proof of every leaf `i < k` that is not in the
remove log is produced, records the view's size and verifies against the view's root for exactly
`xs[i]` at its position - whatever else has been pruned. -/
theorem view_proof_complete (hf : HashFn α H) (xs : List α) (k : Nat) (hk : k ≤ xs.length)
    (R : List Nat) (i : Nat) (hi : i < k) (hpresent : mmr i ∉ R) :
    ∃ path r, vProof hf ⟨Spec.Mmr.hashes hf xs, R⟩ (mmr k) (mmr i) = some (mmr k, path)
      ∧ Spec.Mmr.root hf (xs.take k) = some r
      ∧ verify hf r (mmr k) path (xs[i]'(by omega)) (mmr i) = true := by
  have hlen : (xs.take k).length = k := List.length_take_of_le hk
  have hi' : i < (xs.take k).length := by rw [hlen]; exact hi
  obtain ⟨path, r, h1, h2, h3⟩ := proof_complete hf (xs.take k) i hi'
  rw [hlen] at h1 h3
  refine ⟨path, r, ?_, h2, ?_⟩
  · have hleaf : isLeaf (mmr i) = true := (isLeaf_iff (mmr i)).2 ⟨i, rfl⟩
    have hlt : mmr i < mmr k := mmr_lt_mmr hi
    have hsome := hash_at_leaf hf xs i (Nat.lt_of_lt_of_le hi hk)
    have hrem : R.contains (mmr i) = false := by
      simpa using hpresent
    simp only [vProof, vGetHash, hleaf, hrem, hsome, vFile, hashes_take hf xs k hk]
    simpa [Nat.not_le.mpr hlt] using h1
  · simpa using h3

/-- **view_proof_sound.** Against the root of such a view a verifying proof pins a leaf of the
first `k` elements, its element and the whole path (collision-free hashes). -/
theorem view_proof_sound (hf : HashFn α H) (cf : CollisionFree hf) (xs : List α) (k : Nat)
    (hk : k ≤ xs.length) (r : H) (hr : Spec.Mmr.root hf (xs.take k) = some r)
    (path : List H) (e : α) (pos : Nat) (hv : verify hf r (mmr k) path e pos = true) :
    ∃ (i : Nat) (hi : i < k), pos = mmr i ∧ e = xs[i]'(by omega) := by
  have hlen : (xs.take k).length = k := List.length_take_of_le hk
  have hv' : verify hf r (mmr (xs.take k).length) path e pos = true := by rw [hlen]; exact hv
  obtain ⟨i, hi, hp, he, _⟩ := proof_sound_any_position hf cf (xs.take k) r hr path e pos hv'
  refine ⟨i, hlen ▸ hi, hp, ?_⟩
  rw [he]; simp

omit [DecidableEq H] in
/-- a pruned leaf has no proof -/
theorem view_proof_pruned (hf : HashFn α H) (b : VBackend H) (size pos : Nat)
    (h : pos ∈ b.removed) : vProof hf b size pos = none := by
  unfold vProof vGetHash
  by_cases hl : isLeaf pos = true
  · simp [hl, h]
  · simp [hl]

/-- **prune_effect.** A successful `prune(pos)` changes neither the root nor the peaks of any view,
leaves the proof of every other position as it was, and removes the proof of `pos`; an
unsuccessful one (`false`) changes nothing. -/
theorem prune_effect (hf : HashFn α H) (b b' : VBackend H) (size pos : Nat) (ok : Bool)
    (h : vPrune b size pos = some (ok, b')) :
    (∀ s, vRoot hf b' s = vRoot hf b s) ∧ (∀ s, vPeaks b' s = vPeaks b s)
    ∧ (∀ s q, q ≠ pos → vProof hf b' s q = vProof hf b s q)
    ∧ (ok = true → ∀ s, vProof hf b' s pos = none)
    ∧ (ok = false → b' = b) := by
  unfold vPrune at h
  split at h
  · cases h
  · split at h
    · cases h
      exact ⟨fun _ => rfl, fun _ => rfl, fun _ _ _ => rfl, fun h => Bool.noConfusion h, fun _ => rfl⟩
    · cases h
      refine ⟨fun _ => rfl, fun _ => rfl, ?_, ?_, fun h => Bool.noConfusion h⟩
      · intro s q hq
        have hc : (pos :: b.removed).contains q = b.removed.contains q := by
          simp [hq]
        simp only [vProof, vGetHash, vFile, hc]
      · intro _ s
        exact view_proof_pruned hf _ s pos (by simp)

/-- `RewindablePMMR::rewind` positions the view at the rounded-up leaf boundary - in either
direction: the result does not depend on where the view was -/
theorem rewindView_valid_size (k : Nat) : rewindView (mmr k) = mmr k := by
  unfold rewindView
  have := roundUp_spec k 0 (Nat.zero_le _)
  simpa using this

end views

section example7

/-- hypotheses of `proof_complete` / `proof_sound` and of all corollaries are satisfiable together:
`termHF` is collision-free, the list has 7 elements, leaf 4 holds 14. -/
example :
    ∃ path r, Spec.Mmr.root (termHF Nat) [10, 11, 12, 13, 14, 15, 16] = some r
      ∧ merkleProof (termHF Nat) (Spec.Mmr.hashes (termHF Nat) [10, 11, 12, 13, 14, 15, 16]) 7
          = some (11, path)
      ∧ verify (termHF Nat) r 11 path 14 7 = true
      ∧ (∀ e, e ≠ 14 → verify (termHF Nat) r 11 path e 7 = false)
      ∧ (∀ path', path' ≠ path → verify (termHF Nat) r 11 path' 14 7 = false)
      ∧ verify (termHF Nat) r 11 path 14 8 = false := by
  obtain ⟨path, r, h1, h2, h3⟩ := proof_complete (termHF Nat) [10, 11, 12, 13, 14, 15, 16] 4 (by decide)
  have cf := termHF_collisionFree Nat
  refine ⟨path, r, h2, ?_, ?_, ?_, ?_, ?_⟩
  · simpa [mmr_4, mmr_7] using h1
  · simpa [mmr_4, mmr_7] using h3
  · intro e he
    have := proof_other_element (termHF Nat) cf _ r h2 4 (by decide) e (by simpa using he) path
    simpa [mmr_4, mmr_7] using this
  · intro path' hne
    have := proof_other_path (termHF Nat) cf _ r h2 4 (by decide) path path' h1 hne 14
    simpa [mmr_4, mmr_7] using this
  · have := proof_other_position (termHF Nat) cf _ r h2 4 5 (by decide) (by decide) (by decide) path h1 14
    simpa [mmr_5, mmr_7] using this

end example7

/-! ## One live handle: arbitrary histories, any opening size

`Model/PmmrHandle.lean`: a `PMMR` handle is its `size` field and its backend (hash vector, data
vector, remove log) - the struct has nothing else. `handle_run_rep`: after every legal history of
`push` / `rewind` the handle IS the MMR of the current element list, so (`handle_observations`)
every observation is the MMR definition over that list and (`handle_history_independent`) two
histories ending with the same list are indistinguishable. `push_refused_iff` /
`push_invalid_size_identity` / `invalid_size_reads`: a handle opened at a size that is not an MMR
size refuses `push`, changes nothing, and reports no peaks and no root; `handle_at_valid_size`: at a
valid size inside the backend it is the MMR of the prefix. -/
section handle
variable {α H : Type}

/-- **push on a handle opened at a size that is not an MMR size is refused** (`Err("bad mmr
size")`), whatever the backend holds, and only then is it refused for that reason. -/
theorem push_refused_iff (hf : HashFn α H) (h : Handle α H) (e : α) :
    h.push hf e = .badSize ↔ ¬ ∃ n, h.size = mmr n := by
  rw [← validSize_iff]
  unfold Handle.push
  by_cases hb : (peakMapHeight h.size).2 = 0
  · simp only [hb, ne_eq, not_true_eq_false, if_false]
    constructor
    · intro hp
      split at hp <;> cases hp
    · intro hn; exact hn.elim
  · simp [hb]

/-- … and the refused push is the identity on the state (handle and backend). -/
theorem push_invalid_size_identity (hf : HashFn α H) (h : Handle α H) (e : α)
    (hinv : ¬ ∃ n, h.size = mmr n) :
    h.push hf e = .badSize ∧ Handle.step hf h (.push e) = h := by
  have hp := (push_refused_iff hf h e).2 hinv
  exact ⟨hp, by simp [Handle.step, hp]⟩

/-- a handle (or view) opened at a size that is not an MMR size describes no MMR: no peaks, and
`root()` is the error "no root, invalid tree" - whatever the backend holds -/
theorem invalid_size_reads (hf : HashFn α H) (h : Handle α H) (hinv : ¬ ∃ n, h.size = mmr n) :
    h.peaks = [] ∧ h.root hf = .err := by
  have hpk : Pmmr.peaks h.size = [] := (peaks_eq_nil_iff h.size).2 (Or.inr hinv)
  have hne : h.size ≠ 0 := fun h0 => hinv ⟨0, by rw [h0, mmr_zero]⟩
  have hp : h.peaks = [] := by simp [Handle.peaks, hpk]
  refine ⟨hp, ?_⟩
  simp [Handle.root, hne, hp, bag]

/-- `push_root` from any MMR, not only from the empty one -/
theorem pushAll_spec_hashes [DecidableEq H] (hf : HashFn α H) (xs ys : List α)
    (hb : (xs ++ ys).length ≤ 2^65) :
    pushAll hf (Spec.Mmr.hashes hf xs) ys = some (Spec.Mmr.hashes hf (xs ++ ys)) := by
  have hx : xs.length ≤ 2^65 := Nat.le_trans (by rw [List.length_append]; exact Nat.le_add_right _ _) hb
  have h2 := pushAll_hashes hf (xs ++ ys) hb
  rwa [pushAll_app, pushAll_hashes hf xs hx] at h2

theorem push_spec_hashes [DecidableEq H] (hf : HashFn α H) (xs : List α) (e : α) (hb : xs.length < 2^65) :
    Pmmr.push hf (Spec.Mmr.hashes hf xs) e = some (Spec.Mmr.hashes hf (xs ++ [e])) := by
  rw [← pushAll_singleton]
  exact pushAll_spec_hashes hf xs [e] (by rw [List.length_append]; exact hb)

/-- **push on a valid size is `push_root`'s statement**: a handle that is the MMR of `xs` accepts the
push and is afterwards the MMR of `xs ++ [e]` (hashes position by position, data, size). -/
theorem handle_push [DecidableEq H] (hf : HashFn α H) (h : Handle α H) (xs : List α) (e : α)
    (r : Handle.Rep hf h xs) (hb : xs.length < 2^65) :
    ∃ h', h.push hf e = .ok h' ∧ Handle.Rep hf h' (xs ++ [e]) := by
  have hlen := hashes_length hf xs
  have hlen' := hashes_length hf (xs ++ [e])
  have hsz : h.size = h.be.hashes.length := by rw [r.size, r.hashes, hlen]
  have hp := push_spec_hashes hf xs e hb
  rw [← r.hashes] at hp
  have := (Handle.push_at_end hf h hsz e).1 _ hp
  refine ⟨_, this, ?_, ?_, ?_, ?_⟩
  · rfl
  · simp [r.data]
  · exact r.removed
  · simp only [hlen']

theorem roundUp_le_of_le_leaf (p n : Nat) (hp : p ≤ mmr n) : roundUpToLeafPos p ≤ mmr n := by
  obtain ⟨m, h, hh, rfl⟩ := coord_surjective p
  rw [roundUp_spec m h hh]
  split
  · omega
  · exact mmr_le_mmr (show m < n from (coord_lt_iff (h := 0) (Nat.zero_le _)).1 (by omega))

/-- **rewind** to a position at or below the size: the handle is afterwards the MMR of the leaves
that lie wholly below the rounded-up position - hashes and data truncated together. -/
theorem handle_rewind (hf : HashFn α H) (h : Handle α H) (xs : List α) (p : Nat)
    (r : Handle.Rep hf h xs) (hp : p ≤ mmr xs.length) :
    Handle.Rep hf (h.rewind p) (Handle.absStep xs (.rewind p))
    ∧ ∃ k, k ≤ xs.length ∧ roundUpToLeafPos p = mmr k ∧ Handle.absStep xs (.rewind p) = xs.take k := by
  obtain ⟨k, hk⟩ := (isLeaf_iff _).1 (roundUp_ge p).2
  simp only [insertionToPmmrIndex] at hk
  have hle := roundUp_le_of_le_leaf p xs.length hp
  have hkl : k ≤ xs.length := Nat.le_of_not_lt fun hgt =>
    Nat.not_le.2 (mmr_lt_mmr hgt) (hk ▸ hle)
  have hnl : nLeaves (roundUpToLeafPos p) = k := by rw [hk]; exact nLeaves_at_leaf_boundary k
  have habs : Handle.absStep xs (.rewind p) = xs.take k := by simp [Handle.absStep, hnl]
  refine ⟨?_, k, hkl, hk, habs⟩
  rw [habs]
  refine ⟨?_, ?_, ?_, ?_⟩
  · simp only [Handle.rewind, VecBackend.rewind, hk, r.hashes]
    exact hashes_take hf xs k hkl
  · simp [Handle.rewind, VecBackend.rewind, hnl, r.data]
  · simp [Handle.rewind, VecBackend.rewind, r.removed]
  · simp only [Handle.rewind, hk, List.length_take, Nat.min_eq_left hkl]

/-- **The handle is its element list, after every history.** Starting from a handle that is the MMR
of `xs`, after any legal history (induction over the operation list) the handle is the MMR of the
list the history leaves: pushes append, rewinds truncate. -/
theorem handle_run_rep [DecidableEq H] (hf : HashFn α H) (ops : List (Handle.Op α)) :
    ∀ (h : Handle α H) (xs : List α), Handle.Rep hf h xs → Handle.Legal xs ops →
      Handle.Rep hf (Handle.run hf h ops) (Handle.absRun xs ops) := by
  induction ops with
  | nil => intro h xs r _; exact r
  | cons op ops ih =>
    intro h xs r hl
    cases op with
    | push e =>
      obtain ⟨hb, hl'⟩ := hl
      obtain ⟨h', hp, r'⟩ := handle_push hf h xs e r hb
      have hs : Handle.step hf h (.push e) = h' := by simp [Handle.step, hp]
      simp only [Handle.run, Handle.absRun, List.foldl_cons, hs]
      exact ih h' (xs ++ [e]) r' hl'
    | rewind p =>
      obtain ⟨hp, hl'⟩ := hl
      have r' := (handle_rewind hf h xs p r hp).1
      simp only [Handle.run, Handle.absRun, List.foldl_cons]
      exact ih _ _ r' hl'

/-- the freshly created handle (`PMMR::new` on `VecBackend::new()`) is the MMR of the empty list -/
theorem handle_new_rep (hf : HashFn α H) : Handle.Rep hf (Handle.new : Handle α H) [] :=
  ⟨rfl, rfl, rfl, by simp [Handle.new, mmr_zero]⟩

/-- **History independence.** Two legal histories of one live handle that end with the same element
list leave the handle in the same state - backend (hashes, data, remove log) and size - hence every
later observation (`root`, `peaks`, `merkle_proof`, `validate`, `get_hash`, `get_data`) and every
later operation gives the same result: nothing but the current list is remembered. -/
theorem handle_history_independent [DecidableEq H] (hf : HashFn α H) (ops₁ ops₂ : List (Handle.Op α))
    (l₁ : Handle.Legal ([] : List α) ops₁) (l₂ : Handle.Legal ([] : List α) ops₂)
    (hsame : Handle.absRun [] ops₁ = Handle.absRun [] ops₂) :
    Handle.run hf (Handle.new : Handle α H) ops₁ = Handle.run hf Handle.new ops₂ := by
  have r₁ := handle_run_rep hf ops₁ _ _ (handle_new_rep hf) l₁
  have r₂ := handle_run_rep hf ops₂ _ _ (handle_new_rep hf) l₂
  rw [hsame] at r₁
  exact r₁.unique r₂

/-- `n_leaves(1 + pos)` for the position of leaf `i` counts `i + 1` leaves (the index
`VecBackend::get_data_from_file` uses) -/
theorem nLeaves_succ_leaf (i : Nat) : nLeaves (1 + mmr i) = i + 1 := by
  rw [Nat.add_comm]; exact nLeaves_mmr_succ i

theorem reads_beyond_size (hf : HashFn α H) (h : Handle α H) (pos : Nat) (hp : h.size ≤ pos) :
    h.getHash pos = none ∧ h.getData pos = none ∧ h.merkleProof hf pos = none := by
  have hnone : h.getHash pos = none := by simp [Handle.getHash, hp]
  refine ⟨hnone, by simp [Handle.getData, hp], ?_⟩
  unfold Handle.merkleProof
  rw [hnone]
  by_cases hl : isLeaf pos = true <;> simp [hl]

theorem reads_at_leaf (h : Handle α H) (i : Nat) (hlt : mmr i < h.size)
    (hrem : mmr i ∉ h.be.removed) :
    h.getHash (mmr i) = h.be.hashes[mmr i]?
    ∧ ∀ xs, h.be.data = some xs → h.getData (mmr i) = xs[i]? := by
  have hleaf := isLeaf_mmr i
  have hng : ¬ (mmr i ≥ h.size) := Nat.not_le.2 hlt
  have hc : h.be.removed.contains (mmr i) = false := by simpa using hrem
  constructor
  · simp only [Handle.getHash, hng, if_false, hleaf, if_true, VecBackend.getHash, hc,
      VecBackend.getFromFile, Bool.false_eq_true]
  · intro xs hd
    simp only [Handle.getData, hng, if_false, hleaf, if_true, VecBackend.getData, hc,
      VecBackend.getDataFromFile, hd, nLeaves_succ_leaf, Bool.false_eq_true]
    rfl

/-- **Every observation on the handle is the MMR definition over the current list.** For a handle
that is the MMR of `xs` (by `handle_run_rep`: after every legal history): size, root, peaks are
those of the defining construction, `validate` accepts, `merkle_proof` is the proof function of the
construction's hash vector, every present leaf has a proof that verifies against the handle's own
root for exactly its element, `get_data` / `get_hash` at a leaf return the element pushed there and
its leaf hash, and nothing is served at or beyond the size. -/
theorem handle_observations [DecidableEq H] (hf : HashFn α H) (h : Handle α H) (xs : List α)
    (r : Handle.Rep hf h xs) (hb : xs.length ≤ 2^65) :
    h.size = mmr xs.length
    ∧ h.root hf = (match Spec.Mmr.root hf xs with
        | none => .zero
        | some r => .ok r)
    ∧ h.peaks = Spec.Mmr.peakHashes hf xs
    ∧ h.validate hf = true
    ∧ (∀ pos, h.merkleProof hf pos = Pmmr.merkleProof hf (Spec.Mmr.hashes hf xs) pos)
    ∧ (∀ i (hi : i < xs.length), ∃ path rt, h.merkleProof hf (mmr i) = some (mmr xs.length, path)
        ∧ h.root hf = .ok rt ∧ verify hf rt (mmr xs.length) path xs[i] (mmr i) = true)
    ∧ (∀ i (hi : i < xs.length), h.getData (mmr i) = some xs[i]
        ∧ h.getHash (mmr i) = some (hf.leaf (mmr i) xs[i]))
    ∧ (∀ pos, h.size ≤ pos → h.getHash pos = none ∧ h.getData pos = none
        ∧ h.merkleProof hf pos = none) := by
  have hlen := hashes_length hf xs
  have h5 := peakHashes_hashes hf xs
  have h6 := root_hashes hf xs
  have h7 := validate_hashes hf xs
  have hsz : h.size = h.be.hashes.length := by rw [r.size, r.hashes, hlen]
  have hle : h.size ≤ h.be.hashes.length := Nat.le_of_eq hsz
  have htake : h.be.hashes.take h.size = Spec.Mmr.hashes hf xs := by
    rw [hsz, List.take_length, r.hashes]
  have hroot : h.root hf = (match Spec.Mmr.root hf xs with
        | none => .zero
        | some r => .ok r) := by
    rw [Handle.root_eq_view hf h hle]
    show Pmmr.root hf (h.be.hashes.take h.size) = _
    rw [htake]; exact h6
  have hproof : ∀ pos, h.merkleProof hf pos = Pmmr.merkleProof hf (Spec.Mmr.hashes hf xs) pos := by
    intro pos
    rw [Handle.merkleProof_eq_view hf h hle]
    have := Handle.vProof_no_removed hf h.be.hashes pos
    simp only [Handle.toV, r.removed, hsz]
    rw [this, r.hashes]
  refine ⟨r.size, hroot, ?_, ?_, hproof, ?_, ?_, reads_beyond_size hf h⟩
  · rw [Handle.peaks_eq_view h hle]
    simp only [vPeaks, vFile, Handle.toV, htake, h5]
  · rw [Handle.validate_eq hf h hle, htake, h7]
  · intro i hi
    obtain ⟨path, rt, p1, p2, p3⟩ := proof_complete hf xs i hi
    refine ⟨path, rt, by rw [hproof, p1], ?_, p3⟩
    rw [hroot, p2]
  · intro i hi
    obtain ⟨g1, g2⟩ := reads_at_leaf h i (by rw [r.size]; exact mmr_lt_mmr hi)
      (by rw [r.removed]; exact List.not_mem_nil)
    exact ⟨by rw [g2 xs r.data, List.getElem?_eq_getElem hi],
      by rw [g1, r.hashes]; exact hash_at_leaf hf xs i hi⟩

/-- a proof that verifies against the root of a live handle after any legal history pins a leaf of
the CURRENT list, its element and the path the handle itself hands out (collision-free hashes) -/
theorem handle_proof_sound [DecidableEq H] (hf : HashFn α H) (cf : CollisionFree hf)
    (ops : List (Handle.Op α)) (l : Handle.Legal ([] : List α) ops)
    (hb : (Handle.absRun ([] : List α) ops).length ≤ 2^65) (rt : H)
    (hr : (Handle.run hf (Handle.new : Handle α H) ops).root hf = .ok rt)
    (path : List H) (e : α) (pos : Nat)
    (hv : verify hf rt (Handle.run hf (Handle.new : Handle α H) ops).size path e pos = true) :
    ∃ (i : Nat) (hi : i < (Handle.absRun ([] : List α) ops).length), pos = mmr i
      ∧ e = (Handle.absRun ([] : List α) ops)[i]
      ∧ (Handle.run hf (Handle.new : Handle α H) ops).merkleProof hf pos
          = some ((Handle.run hf (Handle.new : Handle α H) ops).size, path) := by
  have r := handle_run_rep hf ops _ _ (handle_new_rep hf) l
  obtain ⟨o1, o2, _, _, o5, _⟩ := handle_observations hf _ _ r hb
  rw [o2] at hr
  cases hs : Spec.Mmr.root hf (Handle.absRun ([] : List α) ops) with
  | none => rw [hs] at hr; cases hr
  | some r' =>
    rw [hs] at hr
    cases hr
    rw [o1] at hv ⊢
    obtain ⟨i, hi, h1, h2, h3⟩ := proof_sound_any_position hf cf _ _ hs path e pos hv
    exact ⟨i, hi, h1, h2, by rw [o5, h3]⟩

/-- **A live handle and a fresh view agree.** Whatever the backend holds and wherever the handle
stands inside it, `root`, `peaks`, `merkle_proof` and `get_hash` of the handle are those of a view
(`ReadonlyPMMR::at`, `RewindablePMMR::at`) opened at the same size on the same backend. -/
theorem handle_eq_fresh_view (hf : HashFn α H) (h : Handle α H) (hle : h.size ≤ h.be.hashes.length) :
    h.root hf = vRoot hf ⟨h.be.hashes, h.be.removed⟩ h.size
    ∧ h.peaks = vPeaks ⟨h.be.hashes, h.be.removed⟩ h.size
    ∧ (∀ pos, h.merkleProof hf pos = vProof hf ⟨h.be.hashes, h.be.removed⟩ h.size pos)
    ∧ (∀ pos, h.getHash pos = vGetHash ⟨h.be.hashes, h.be.removed⟩ h.size pos) :=
  ⟨Handle.root_eq_view hf h hle, Handle.peaks_eq_view h hle,
    Handle.merkleProof_eq_view hf h hle, Handle.getHash_eq_view h⟩

theorem openAt_inside (hf : HashFn α H) (xs : List α) (b : VecBackend α H)
    (hbe : b.hashes = Spec.Mmr.hashes hf xs) {k : Nat} (hk : k ≤ xs.length) :
    (⟨b, mmr k⟩ : Handle α H).size ≤ (⟨b, mmr k⟩ : Handle α H).be.hashes.length := by
  simp only [hbe, hashes_length]; exact mmr_le_mmr hk

/-- **A handle opened at a valid size inside a backend** that holds the MMR of `xs` (any data
vector, any remove log): it is the MMR of the first `k` elements - root, peaks, and a verifying proof
for every leaf `i < k` that is not pruned. -/
theorem handle_at_valid_size [DecidableEq H] (hf : HashFn α H) (xs : List α) (hb : xs.length ≤ 2^65)
    (b : VecBackend α H) (hbe : b.hashes = Spec.Mmr.hashes hf xs) (k : Nat) (hk : k ≤ xs.length) :
    (Handle.openAt b (mmr k)).root hf = (match Spec.Mmr.root hf (xs.take k) with
        | none => .zero
        | some r => .ok r)
    ∧ (Handle.openAt b (mmr k)).peaks = Spec.Mmr.peakHashes hf (xs.take k)
    ∧ (∀ i (hi : i < k), mmr i ∉ b.removed → ∃ path rt,
        (Handle.openAt b (mmr k)).merkleProof hf (mmr i) = some (mmr k, path)
        ∧ (Handle.openAt b (mmr k)).root hf = .ok rt
        ∧ verify hf rt (mmr k) path (xs[i]'(by omega)) (mmr i) = true) := by
  simp only [Handle.openAt]
  have hle := openAt_inside hf xs b hbe hk
  obtain ⟨e1, e2, e3, _⟩ := handle_eq_fresh_view hf ⟨b, mmr k⟩ hle
  simp only [hbe] at e1 e2 e3
  obtain ⟨v1, v2⟩ := view_root hf xs hb k hk b.removed
  refine ⟨by rw [e1]; exact v1, by rw [e2, v2], ?_⟩
  intro i hi hpresent
  obtain ⟨path, rt, p1, p2, p3⟩ := view_proof_complete hf xs k hk b.removed i hi hpresent
  exact ⟨path, rt, by rw [e3, p1], by rw [e1, v1, p2], p3⟩

/-- … and it validates, serves for every unpruned leaf `i < k` the leaf hash of `xs[i]` and (when
the data vector is `xs`) the element `xs[i]`, and serves nothing at or beyond its size - although
the backend holds more. -/
theorem handle_at_valid_size_reads [DecidableEq H] (hf : HashFn α H) (xs : List α) (hb : xs.length ≤ 2^65)
    (b : VecBackend α H) (hbe : b.hashes = Spec.Mmr.hashes hf xs) (k : Nat) (hk : k ≤ xs.length) :
    (Handle.openAt b (mmr k)).validate hf = true
    ∧ (∀ i (hi : i < k), mmr i ∉ b.removed →
        (Handle.openAt b (mmr k)).getHash (mmr i) = some (hf.leaf (mmr i) (xs[i]'(by omega)))
        ∧ (b.data = some xs → (Handle.openAt b (mmr k)).getData (mmr i) = some (xs[i]'(by omega))))
    ∧ (∀ pos, mmr k ≤ pos → (Handle.openAt b (mmr k)).getHash pos = none
        ∧ (Handle.openAt b (mmr k)).getData pos = none
        ∧ (Handle.openAt b (mmr k)).merkleProof hf pos = none) := by
  simp only [Handle.openAt]
  have hle := openAt_inside hf xs b hbe hk
  refine ⟨?_, ?_, reads_beyond_size hf ⟨b, mmr k⟩⟩
  · rw [Handle.validate_eq hf _ hle]
    simp only [hbe, hashes_take hf xs k hk]
    exact validate_hashes hf (xs.take k)
  · intro i hi hpresent
    obtain ⟨g1, g2⟩ := reads_at_leaf ⟨b, mmr k⟩ i (mmr_lt_mmr hi) hpresent
    have hix : i < xs.length := Nat.lt_of_lt_of_le hi hk
    exact ⟨by rw [g1]; simp only [hbe]; exact hash_at_leaf hf xs i hix,
      fun hd => by rw [g2 xs hd, List.getElem?_eq_getElem hix]⟩

-- non-vacuity of `handle_history_independent` / `handle_run_rep`: the rewind - re-push history.
-- One handle pushes 10, 11, 12 (size 4), is rewound to position 1 (one leaf left) and gets 21, 22
-- pushed: it is at size 4 again with other contents. Both histories are legal, end with the list
-- [10, 21, 22], so the handle is in the state of the direct history - and NOT in the state it had at
-- size 4 before: same size, different root.
example :
    let ops₁ : List (Handle.Op Nat) := [.push 10, .push 11, .push 12, .rewind 1, .push 21, .push 22]
    let ops₂ : List (Handle.Op Nat) := [.push 10, .push 21, .push 22]
    let before : List (Handle.Op Nat) := [.push 10, .push 11, .push 12]
    Handle.Legal [] ops₁ ∧ Handle.Legal [] ops₂
    ∧ Handle.absRun [] ops₁ = [10, 21, 22] ∧ Handle.absRun [] ops₂ = [10, 21, 22]
    ∧ Handle.run (termHF Nat) Handle.new ops₁ = Handle.run (termHF Nat) Handle.new ops₂
    ∧ (Handle.run (termHF Nat) Handle.new ops₁).size = (Handle.run (termHF Nat) Handle.new before).size
    ∧ (Handle.run (termHF Nat) Handle.new ops₁).root (termHF Nat)
        ≠ (Handle.run (termHF Nat) Handle.new before).root (termHF Nat) := by
  intro ops₁ ops₂ before
  have r1 : roundUpToLeafPos 1 = 1 := by
    have := roundUp_spec 1 0 (Nat.zero_le _); simpa [mmr_one] using this
  have n1 : nLeaves 1 = 1 := by have := nLeaves_at_leaf_boundary 1; rwa [mmr_one] at this
  have a1 : Handle.absRun [] ops₁ = [10, 21, 22] := by
    simp [ops₁, Handle.absRun, Handle.absStep, r1, n1]
  have a2 : Handle.absRun [] ops₂ = [10, 21, 22] := by
    simp [ops₂, Handle.absRun, Handle.absStep]
  have ab : Handle.absRun [] before = [10, 11, 12] := by
    simp [before, Handle.absRun, Handle.absStep]
  have l1 : Handle.Legal [] ops₁ := by
    simp [ops₁, Handle.Legal, Handle.absStep, r1, n1, mmr_3]
  have l2 : Handle.Legal [] ops₂ := by simp [ops₂, Handle.Legal]
  have lb : Handle.Legal [] before := by simp [before, Handle.Legal]
  have e12 := handle_history_independent (termHF Nat) ops₁ ops₂ l1 l2 (by rw [a1, a2])
  have rep1 := handle_run_rep (termHF Nat) ops₁ _ _ (handle_new_rep _) l1
  have repb := handle_run_rep (termHF Nat) before _ _ (handle_new_rep _) lb
  rw [a1] at rep1
  rw [ab] at repb
  obtain ⟨s1, o1, _⟩ := handle_observations (termHF Nat) _ _ rep1 (by decide)
  obtain ⟨sb, ob, _⟩ := handle_observations (termHF Nat) _ _ repb (by decide)
  refine ⟨l1, l2, a1, a2, e12, by rw [s1, sb]; rfl, ?_⟩
  rw [o1, ob]
  decide

-- non-vacuity of `push_invalid_size_identity` / `invalid_size_reads`: 5 is not the size of any MMR
-- (4 = three leaves, 7 = four); a handle opened at 5 over the 7 hashes of a four-leaf MMR refuses
-- the push, has no peaks and no root, while the same backend opened at 4 is the MMR of [10, 11, 12]
example :
    let b : VecBackend Nat (HTerm Nat) :=
      { data := some [10, 11, 12, 13], hashes := Spec.Mmr.hashes (termHF Nat) [10, 11, 12, 13] }
    (¬ ∃ n, 5 = mmr n)
    ∧ Handle.step (termHF Nat) (Handle.openAt b 5) (.push 99) = Handle.openAt b 5
    ∧ (Handle.openAt b 5).peaks = [] ∧ (Handle.openAt b 5).root (termHF Nat) = .err
    ∧ (Handle.openAt b 4).root (termHF Nat)
        = .ok (.node 4 (.node 2 (.leaf 0 10) (.leaf 1 11)) (.leaf 3 12)) := by
  intro b
  have hinv : ¬ ∃ n, 5 = mmr n := by
    rw [← validSize_iff]
    have := peakMapHeight_coord 3 1 (by rw [trailingOnes_3]; decide)
    rw [mmr_3] at this
    simp [this]
  have hinv' : ¬ ∃ n, (Handle.openAt b 5).size = mmr n := hinv
  have hr := invalid_size_reads (termHF Nat) (Handle.openAt b 5) hinv'
  refine ⟨hinv, (push_invalid_size_identity (termHF Nat) (Handle.openAt b 5) 99 hinv').2, hr.1, hr.2, ?_⟩
  have := (handle_at_valid_size (termHF Nat) [10, 11, 12, 13] (by decide) b rfl 3 (by decide)).1
  rw [mmr_3] at this
  rw [this]
  decide

end handle

section validate
variable {α H : Type}

/-- **`validate` accepts a hash file exactly when every inner node holds the hash of its two
children under its own position** -/
theorem validate_accepts_iff_node_law [DecidableEq H] (hf : HashFn α H) (hashes : List H) :
    validate hf hashes = true ↔ ∀ n, n < hashes.length → NodeLawAt hf hashes n :=
  validate_iff hf hashes

/-- **a validated hash file is determined by its leaf hashes**: if it has the length of the MMR of
`xs` and holds at every leaf position the leaf hash of the corresponding element, it IS the hash
file of the defining construction (hence same peaks, same root, same proofs) -/
theorem validate_pins_the_mmr [DecidableEq H] (hf : HashFn α H) (xs : List α) (hb : xs.length ≤ 2^65)
    (hs : List H) (hlen : hs.length = mmr xs.length) (hv : validate hf hs = true)
    (hleaf : ∀ n, height n = 0 → hs[n]? = (Spec.Mmr.hashes hf xs)[n]?) :
    hs = Spec.Mmr.hashes hf xs := by
  exact validate_unique hf hs _ (by rw [hlen, hashes_length]) hv (validate_hashes hf xs) hleaf

/-- **`validate` reports every replaced inner node**: in a hash file that validates, putting any
other hash at an inner position makes `validate` fail -/
theorem validate_detects_replaced_inner_node [DecidableEq H] (hf : HashFn α H) (hs : List H)
    (hv : validate hf hs = true) (n : Nat) (hn : n < hs.length) (hpos : 0 < height n)
    (h' : H) (hne : hs[n]? ≠ some h') : validate hf (hs.set n h') = false := by
  cases hc : validate hf (hs.set n h') with
  | false => rfl
  | true =>
    exfalso
    obtain ⟨hl, hr⟩ := children_lt hpos
    obtain ⟨l, r, l', r', el, er, e0, el', er', e0'⟩ := entries_of_set hv hc hn hpos
    rw [List.getElem?_set_ne (Nat.ne_of_gt hl), el] at el'
    rw [List.getElem?_set_ne (Nat.ne_of_gt hr), er] at er'
    rw [List.getElem?_set_self hn, ← Option.some.inj el', ← Option.some.inj er', ← e0] at e0'
    exact hne e0'.symm

/-- non-vacuity: the 3-node MMR over two elements in the free hash algebra validates; with another
hash at its root it does not -/
example : validate (termHF Nat) (Spec.Mmr.hashes (termHF Nat) [10, 11]) = true ∧
    validate (termHF Nat) ((Spec.Mmr.hashes (termHF Nat) [10, 11]).set 2 (HTerm.leaf 0 0)) = false := by
  decide +kernel

/-- **`validate` reports every replaced child** (collision-free hash function: a parent hash
determines both children): in a hash file that validates, putting any other hash at the position of
the LEFT or RIGHT child of an inner node that is present makes `validate` fail.  Together with
`validate_detects_replaced_inner_node`: the only single replacements `validate` cannot see are
nodes without a parent inside the file — the peaks. -/
theorem validate_detects_replaced_child [DecidableEq H] (hf : HashFn α H)
    (hinj : ∀ i l r l' r', hf.node i l r = hf.node i l' r' → l = l' ∧ r = r')
    (hs : List H) (hv : validate hf hs = true) (q : Nat) (hq : q < hs.length) (hpos : 0 < height q)
    (hq2 : 2 ^ height q ≤ q) (c : Nat) (hc : c = q - 2 ^ height q ∨ c = q - 1)
    (h' : H) (hne : hs[c]? ≠ some h') : validate hf (hs.set c h') = false := by
  cases hcv : validate hf (hs.set c h') with
  | false => rfl
  | true =>
    exfalso
    obtain ⟨hl, hr⟩ := children_lt hpos
    obtain ⟨l, r, l', r', el, er, e0, el', er', e0'⟩ := entries_of_set hv hcv hq hpos
    -- the parent `q` is untouched, so both files have the same children hashes under it
    have hcq : c ≠ q := by rcases hc with rfl | rfl <;> exact Nat.ne_of_lt ‹_›
    rw [List.getElem?_set_ne hcq, e0] at e0'
    obtain ⟨hll, hrr⟩ := hinj q _ _ _ _ (Option.some.inj e0')
    rcases hc with rfl | rfl
    · rw [List.getElem?_set_self (Nat.lt_trans hl hq)] at el'
      exact hne (by rw [el, hll, el'])
    · rw [List.getElem?_set_self (Nat.lt_trans hr hq)] at er'
      exact hne (by rw [er, hrr, er'])

/-- the hypotheses are satisfiable: the free term algebra is collision free, and in the 3-node MMR
position 2 is an inner node of height 1 with children 0 and 1 -/
example : (∀ i l r l' r', (termHF Nat).node i l r = (termHF Nat).node i l' r' → l = l' ∧ r = r') ∧
    height 2 = 1 ∧
    validate (termHF Nat) ((Spec.Mmr.hashes (termHF Nat) [10, 11]).set 0 (HTerm.leaf 0 99)) = false ∧
    validate (termHF Nat) ((Spec.Mmr.hashes (termHF Nat) [10, 11]).set 1 (HTerm.leaf 1 99)) = false := by
  refine ⟨?_, by decide +kernel, by decide +kernel, by decide +kernel⟩
  intro i l r l' r' h
  injection h with _ h1 h2
  exact ⟨h1, h2⟩

end validate

section viewdata
variable {α H : Type}

/-- a `ReadonlyPMMR` / rewound `RewindablePMMR` serves no element at or beyond its size and none at
an inner node … -/
theorem view_get_data_none (b : DBackend α H) (size pos : Nat) (h : pos ≥ size ∨ isLeaf pos = false) :
    vGetData b size pos = none := vGetData_none b size pos h

/-- … and below its size exactly what the backend holds: two views over one backend (a longer one,
and a `RewindablePMMR` rewound to a smaller size) agree wherever both reach -/
theorem view_get_data_agree (b : DBackend α H) (s1 s2 pos : Nat) (h : pos < s1) (h12 : s1 ≤ s2) :
    vGetData b s1 pos = vGetData b s2 pos := vGetData_mono b s1 s2 pos h h12

/-- every element `elements_from_pmmr_index` returns is one the view serves through `get_data` at a
position from the start index on (so: none from beyond the view's size, whatever `max_pmmr_pos1`) -/
theorem elements_from_only_served (b : DBackend α H) (viewSize idx1 maxCount : Nat) (maxPos : Option Nat) :
    ∀ x ∈ (vElementsFrom b viewSize idx1 maxCount maxPos).2,
      ∃ p, satSub idx1 1 ≤ p ∧ p < viewSize ∧ vGetData b viewSize p = some x := by
  intro x hx
  unfold vElementsFrom at hx
  obtain ⟨t, ht, hserved⟩ := elemsLoop_prefix b viewSize maxCount (elemsBound viewSize maxPos)
    (elemsBound viewSize maxPos + 1) (satSub idx1 1) []
  simp only at hx
  rw [ht, List.nil_append] at hx
  obtain ⟨p, hp, hq⟩ := hserved x hx
  refine ⟨p, hp, ?_, hq⟩
  cases Nat.lt_or_ge p viewSize with
  | inl h => exact h
  | inr h => rw [vGetData_none b viewSize p (Or.inl h)] at hq; cases hq

/-- **`elements_from_pmmr_index` never walks beyond the MMR** (repair 565fae636): whatever upper
bound the caller passes, the returned "last index" is at most the view's size when the start index
is — before the repair a bound beyond the size made the loop walk to it -/
theorem elements_from_stops_at_size (b : DBackend α H) (viewSize idx1 maxCount : Nat) (maxPos : Option Nat)
    (h : satSub idx1 1 ≤ elemsBound viewSize maxPos) :
    (vElementsFrom b viewSize idx1 maxCount maxPos).1 ≤ viewSize := by
  unfold vElementsFrom
  exact Nat.le_trans (elemsLoop_idx_le b viewSize maxCount (elemsBound viewSize maxPos)
    (elemsBound viewSize maxPos + 1) (satSub idx1 1) [] h) (elemsBound_le viewSize maxPos)

end viewdata

end GV.Props.C07
