import GrinVerif.Lemmas.StoreImportSeq
import GrinVerif.Lemmas.StoreHistory
/-! C08, stores that were not built leaf by leaf (state sync fills a backend through
`push_pruned_subtree` / `push` / `remove_from_leaf_set`, `Model/StoreExt.lean`), the leaf-set
views, and two frame facts about the non-prunable backend (its histories are in `Props/C08Np.lean`).

* `history_from_synced_state`: the history theorem of `Props/C08.lean` does not need the empty
  store as its start.  From ANY synced backend that satisfies the reference invariant for some
  leaf history – the pruned leaves being the ghost set `G`, the lowest rewind target the current
  size – every protocol-respecting history keeps size, root, unspent set, hash / data of every
  unspent leaf, Merkle paths, peaks and whole Merkle proofs equal to the unpruned reference.
  The state an import leaves behind is such a state (`import_establishes_reference`,
  `import_meets_history_hypotheses` below; run `store imported` samples the same on the implementation).
* frame facts about the import functions (what they cannot touch), the invariant under
  `remove_from_leaf_set`, the specifications of `n_unpruned_leaves_to_index` / `leaf_idx_iter`,
  frame facts about the non-prunable backend.
* the import itself against the reference: one `push_pruned_subtree` step, whole import sequences,
  and the leaf-set snapshot path. -/
namespace GV.Props.C08Import
open GV GV.Pmmr GV.Pmmr.Co GV.Store

/-- the reference-side state right after an import of the leaf history `v.es` whose compacted
leaves are `G`: synced, nothing below the import boundary can be rewound to -/
def importedRef (v : RefView) (G : List Nat) : RefSt :=
  { cur := v, saved := v, dirty := false, G := G, C := v.es.length }

/-- **history_from_synced_state.**  Start: any backend `b` that is synced and satisfies the
reference invariant for the leaf history `v.es` (hash file / data file = reference values in
prune-list layout), whose leaf set is the unspent set `v.U` and whose prune list prunes exactly
the leaves `G`.  Then after every operation list obeying the usage protocol (rewinds not below
the import boundary) all observables equal those of the unpruned reference holding the same leaf
history, Merkle proofs included. -/
theorem history_from_synced_state {H : Type} (el : Bytes → Option Nat) (hf : HashFn Bytes H)
    (b : Backend H) (v : RefView) (G : List Nat) (df : AOF Bytes)
    (hs : Synced b v.es.length (refHash hf (leafFn v.es)) (refData (leafFn v.es)) df)
    (hu : ∀ q, (q + 1) ∈ b.leafSet.bitmap ↔ q ∈ v.U)
    (hp : ∀ l, height l = 0 → (PrunedBy b.pruneList.bitmap l ↔ l ∈ G))
    (ops : List HOp) (hproto : RefSt.Proto (importedRef v G) ops) :
    let p := ops.foldl (bstep el hf) ({ b := b, size := mmr v.es.length } : PM H)
    let r := ops.foldl RefSt.step (importedRef v G)
    let N := r.cur.es.length
    p.size = mmr N ∧
    (r.dirty = false → p.b.unprunedSize = mmr N) ∧
    PM.root hf p = Pmmr.root hf (allHashes hf (leafFn r.cur.es) N) ∧
    (∀ q, (q + 1) ∈ p.b.leafSet.bitmap ↔ q ∈ r.cur.U) ∧
    (∀ q, q ∈ r.cur.U → ∃ i, i < N ∧ q = mmr i ∧
      PM.getHash p q = some (refHash hf (leafFn r.cur.es) q) ∧
      PM.getData el p q = some (r.cur.es.getD i [])) ∧
    (∀ q, q ∈ r.cur.U → ∀ a, Store.Sub (family a).1 q → a < mmr N →
      p.b.getFromFile a = some (refHash hf (leafFn r.cur.es) a)) ∧
    (∀ pk ∈ peaks (mmr N), p.b.getPeakFromFile pk = some (refHash hf (leafFn r.cur.es) pk)) ∧
    (∀ q, q ∈ r.cur.U → PM.merkleProof hf p q =
      Pmmr.merkleProof hf (allHashes hf (leafFn r.cur.es) N) q) := by
  intro p r N
  have h0 : HInv hf ({ b := b, size := mmr v.es.length } : PM H) (importedRef v G) :=
    hinv_of_synced (r := importedRef v G) hs ⟨hs.live, rfl, hu, hp, hs.roots, Nat.le_refl _⟩ rfl
  have hrun := hinv_run el hf ops _ _ h0 hproto
  have o := hinv_obs el hf hrun
  refine ⟨o.size, o.usize, o.root, o.unspent, ?_, o.path, o.peak,
    fun q hq => hinv_merkleProof hf hrun q hq⟩
  intro q hq
  obtain ⟨i, hi, e, g1, _, g3⟩ := o.leaf q hq
  exact ⟨i, hi, e, g1, g3⟩

/-- `append_pruned_subtree` appends exactly one hash and one prune-list entry; the data file, the
leaf set and the prune-list FILE are untouched (the prune list reaches the disk with `sync`) -/
theorem append_pruned_subtree_frame {H : Type} (b : Backend H) (hash : H) (pos0 : Nat) :
    let b' := b.appendPrunedSubtree hash pos0
    b'.hashFile.buffer = b.hashFile.buffer ++ [hash] ∧ b'.hashFile.disk = b.hashFile.disk ∧
    b'.dataFile = b.dataFile ∧ b'.leafSet = b.leafSet ∧ b'.pruneFile = b.pruneFile ∧
    b'.pruneList = b.pruneList.append pos0 := by
  simp [Backend.appendPrunedSubtree, AOF.append]

/-- the loop of `push_pruned_subtree` only appends hashes to the un-synced buffer of the hash
file: data file, leaf set, prune list and everything on disk stay as they are -/
theorem push_pruned_loop_frame {H : Type} (hf : HashFn Bytes H) (pm : Nat) :
    ∀ (fuel j : Nat) (b : Backend H) (pos : Nat) (cur : H),
      let r := PM.pushPrunedLoop hf pm fuel j b pos cur
      r.1.dataFile = b.dataFile ∧ r.1.leafSet = b.leafSet ∧ r.1.pruneList = b.pruneList ∧
      r.1.pruneFile = b.pruneFile ∧ r.1.hashFile.disk = b.hashFile.disk ∧
      r.1.hashFile.bsp = b.hashFile.bsp ∧ r.1.hashFile.bak = b.hashFile.bak ∧
      ∃ more, r.1.hashFile.buffer = b.hashFile.buffer ++ more := by
  intro fuel
  induction fuel with
  | zero => intro j b pos cur; simp [PM.pushPrunedLoop]
  | succ n ih =>
    intro j b pos cur
    simp only [PM.pushPrunedLoop]
    split
    · split
      · exact ih _ _ _ _
      · split
        · simp
        · rename_i l hl
          obtain ⟨a1, a2, a3, a4, a5, a6, a7, more, a8⟩ :=
            ih (j + 1) (b.appendHash (hf.node (family pos).1 l cur)) (family pos).1
              (hf.node (family pos).1 l cur)
          refine ⟨a1, a2, a3, a4, a5, a6, a7, [hf.node (family pos).1 l cur] ++ more, ?_⟩
          rw [a8]
          simp [Backend.appendHash, AOF.append]
    · simp

/-- **`push_pruned_subtree` writes nothing to disk and never touches data file or leaf set**
(whatever hash and position it is given, also when it is refused): together with
`unit_disk_untouched` an import can be discarded like any other unit of work. -/
theorem push_pruned_subtree_frame {H : Type} (hf : HashFn Bytes H) (p : PM H) (hash : H) (pos0 : Nat) :
    let p' := (PM.pushPrunedSubtree hf p hash pos0).1
    p'.b.dataFile = p.b.dataFile ∧ p'.b.leafSet = p.b.leafSet ∧ p'.b.pruneFile = p.b.pruneFile ∧
    p'.b.hashFile.disk = p.b.hashFile.disk ∧ p'.b.pruneList = p.b.pruneList.append pos0 ∧
    ∃ more, p'.b.hashFile.buffer = p.b.hashFile.buffer ++ hash :: more := by
  have hl := push_pruned_loop_frame hf (peakMapHeight pos0).1 65 0
    (p.b.appendPrunedSubtree hash pos0) pos0 hash
  simp only at hl
  obtain ⟨a1, a2, a3, a4, a5, _, _, more, a8⟩ := hl
  have hb : (p.b.appendPrunedSubtree hash pos0).hashFile.buffer = p.b.hashFile.buffer ++ [hash] := by
    simp [Backend.appendPrunedSubtree, AOF.append]
  simp only [PM.pushPrunedSubtree]
  split <;> rename_i heq <;> rw [heq] at a1 a2 a3 a4 a5 a8 <;>
    exact ⟨a1, a2, a4, a5, a3, more, by rw [a8, hb]; simp⟩

/-- a leaf that arrives with its data but is spent (`remove_from_leaf_set`) keeps the in-unit
reference invariant, and is gone from the leaf set -/
theorem remove_from_leaf_set_live {H : Type} {b : Backend H} {N : Nat} {ref : Nat → H}
    {dref : Nat → Bytes} {df : AOF Bytes} (h : Live b N ref dref df) (p : Nat) :
    Live (b.removeFromLeafSet p) N ref dref df ∧
    ∀ q, (q + 1) ∈ (b.removeFromLeafSet p).leafSet.bitmap ↔ (q + 1) ∈ b.leafSet.bitmap ∧ q ≠ p := by
  refine ⟨h.remove p, ?_⟩
  intro q
  show (q + 1) ∈ Bm.remove b.leafSet.bitmap (1 + p) ↔ _
  rw [mem_remove]
  exact and_congr_right fun _ => by omega

/-- `n_unpruned_leaves_to_index(i)` is the number of unspent leaves whose 1-based position is
below `i` (leaf-set entries are 1-based positions, so none is 0) -/
theorem n_unpruned_leaves_to_index_spec {H : Type} (b : Backend H) (i : Nat)
    (hpos : ∀ x ∈ b.leafSet.bitmap, 1 ≤ x) :
    b.nUnprunedLeavesToIndex i = (b.leafPosIter.filter (· + 1 < i)).length := by
  unfold Backend.nUnprunedLeavesToIndex Backend.leafPosIter
  rw [List.filter_map, List.length_map]
  congr 1
  apply List.filter_congr
  intro x hx
  have := hpos x hx
  simp only [Function.comp, decide_eq_decide]
  omega

/-- `leaf_idx_iter(from)` lists, in order, `n_leaves(pos1) - 1` for exactly the unspent leaves from
insertion index `from` on (the leaf set iterates in ascending order) -/
theorem leaf_idx_iter_spec {H : Type} (b : Backend H) (hs : b.leafSet.bitmap.Pairwise (· < ·)) (i : Nat) :
    b.leafIdxIter i =
      (b.leafSet.bitmap.filter (fun x => decide (1 + insertionToPmmrIndex i ≤ x))).map
        (fun x => nLeaves x - 1) := by
  unfold Backend.leafIdxIter
  simp only
  rw [dropWhile_lt_sorted _ _ hs]

/-! ### the non-prunable backend: nothing ever reaches the leaf set or the prune list -/

theorem np_frame {H : Type} (b : Backend H) :
    (∀ data hashes b', b.npAppend data hashes = some b' →
      b'.leafSet = b.leafSet ∧ b'.pruneList = b.pruneList ∧ b'.pruneFile = b.pruneFile) ∧
    (∀ pos, (b.npRewind pos).leafSet = b.leafSet ∧ (b.npRewind pos).pruneList = b.pruneList) ∧
    b.npSync.leafSet = b.leafSet ∧ b.npSync.pruneList = b.pruneList := by
  refine ⟨?_, fun pos => ⟨rfl, rfl⟩, rfl, rfl⟩
  intro data hashes b' h
  unfold Backend.npAppend at h
  split at h
  · exact absurd h (by simp)
  · simp only [Option.some.injEq] at h
    subst h
    exact ⟨rfl, rfl, rfl⟩

/-- with an empty prune list the non-prunable getters read the files at the plain positions -/
theorem np_get_hash_plain {H : Type} (b : Backend H) (hpl : b.pruneList = {}) (hls : b.leafSet.bitmap = [])
    (pos0 : Nat) : b.npGetHash pos0 = b.hashFile.read1 (1 + pos0) := by
  unfold Backend.npGetHash Backend.getFromFile Backend.isCompacted Backend.isPrunedRoot Backend.isPruned
  simp [hpl, hls, LeafSet.includes, Bm.contains, PruneList.isPrunedRoot, PruneList.isPruned,
    PruneList.getShift, PruneList.cacheAt, Bm.rank, Bm.select]

/-- the empty store is a synced state with `G = []`: `history_from_synced_state` contains
`history_preserves_reference` -/
example {H : Type} (hf : HashFn Bytes H) :
    Synced ({} : Backend H) ({} : RefView).es.length (refHash hf (leafFn ({} : RefView).es))
      (refData (leafFn ({} : RefView).es)) {} := synced_empty _ _

/-- a protocol-respecting history from an imported state of 4 leaves whose first pair is compacted:
append, spend, commit, rewind to the import boundary, commit, compact there, reopen -/
example : RefSt.Proto (importedRef { es := [[1], [2], [3], [4]], U := [3, 4] } [0, 1])
    [.push [5], .prune 3, .sync, .rewind 4 [], .sync, .compact 4 [], .reopen] := by
  decide +kernel

/-- **`PruneList::append` of a new rightmost root.**  Every root of the list lies at or below the
first position `mmr N` of the new root's subtree and the new root's sibling is not pruned: the
bitmap grows by exactly that root (no roll-up, nothing cleaned up) and the invariant (hence both
shift caches, `shift_spec` / `leaf_shift_spec`) holds again. -/
theorem prune_list_append_rightmost (pl : PruneList) (h : pl.Inv) (N pos0 : Nat)
    (hroots : ∀ x ∈ pl.bitmap, x ≤ mmr N) (hl : bintreeLeftmost pos0 = mmr N)
    (hsib : pl.isPruned (family pos0).2 = false) :
    (pl.append pos0).bitmap = pl.bitmap ++ [pos0 + 1] ∧ (pl.append pos0).Inv :=
  PruneList.append_rightmost h (fun y hy => hl ▸ hroots y hy) hsib

/-- **The file layouts after that append**: the hash file has to hold the old layout followed by
the root and every later position (the `2^(h+1) - 2` positions inside the subtree never get an
entry); the data file layout is unchanged provided no position from the root on is a leaf (root of
height `>= 1`). -/
theorem import_layout_step (bm : Bitmap) (N pos0 M' : Nat) (hroots : ∀ x ∈ bm, x ≤ mmr N)
    (hl : bintreeLeftmost pos0 = mmr N) (hlt : pos0 < M')
    (hnl : ∀ q, pos0 ≤ q → q < M' → isLeaf q = false) :
    layout (bm ++ [pos0 + 1]) M' = layout bm (mmr N) ++ List.range' pos0 (M' - pos0) ∧
    dataLayout (bm ++ [pos0 + 1]) M' = dataLayout bm (mmr N) :=
  ⟨layout_snoc hroots hl hlt, dataLayout_snoc hl hlt hnl⟩

/-- **import_step_preserves_reference.**  One `push_pruned_subtree` step against the reference:
`b` satisfies the in-unit reference invariant for `N` leaves (prune-list file brought up to date,
`fixPF`), the new root's subtree starts at `mmr N`, its sibling is not pruned, the MMR with its
leaves has size `mmr N' = pos0 + 1 + k` and no position from `pos0` on is a leaf.  If the backend
`b2` after the step differs from `b` by `PruneList.append pos0` and by a hash buffer extended with
the reference hashes of `pos0 … mmr N' − 1` (frame: `push_pruned_subtree_frame`), it satisfies the
invariant for `N'` leaves with the same data file - so `sync` yields a `Synced` backend
(`Live.sync`) and `history_from_synced_state` applies. -/
theorem import_step_preserves_reference {H : Type} (hf : HashFn Bytes H) (f : Nat → Bytes)
    (b b2 : Backend H) (N N' pos0 k : Nat) (df : AOF Bytes)
    (h : Live b.fixPF N (refHash hf f) (refData f) df)
    (hl : bintreeLeftmost pos0 = mmr N) (hsz : mmr N' = pos0 + 1 + k)
    (hsib : b.pruneList.isPruned (family pos0).2 = false)
    (hnl : ∀ q, pos0 ≤ q → q < mmr N' → isLeaf q = false)
    (hbd : mmr N' + 64 < 2 ^ 64)
    (hdf : b2.dataFile = b.dataFile) (hls : b2.leafSet = b.leafSet)
    (hpl : b2.pruneList = b.pruneList.append pos0)
    (hdisk : b2.hashFile.disk = b.hashFile.disk) (hbsp : b2.hashFile.bsp = b.hashFile.bsp)
    (hbak : b2.hashFile.bak = b.hashFile.bak)
    (hbuf : b2.hashFile.buffer = b.hashFile.buffer ++ (List.range' pos0 (k + 1)).map (refHash hf f)) :
    Live b2.fixPF N' (refHash hf f) (refData f) df ∧
    ∃ df', Synced b2.fixPF.sync N' (refHash hf f) (refData f) df' :=
  have hl' := Live.import_step h hl hsz hsib hnl hbd hdf hls hpl hdisk hbsp hbak hbuf
  ⟨hl', ⟨_, hl'.sync⟩⟩

/-- the geometric hypotheses are satisfiable: the pair of leaves 0, 1 as the first pruned subtree
(root position 2 of height 1, `N = 0`, `N' = 2`, no merged parent: `k = 0`) -/
example : bintreeLeftmost 2 = mmr 0 ∧ mmr 2 = 2 + 1 + 0 ∧ (∀ q, 2 ≤ q → q < mmr 2 → isLeaf q = false) ∧
    (({} : PruneList).isPruned (family 2).2 = false) := by
  refine ⟨by decide +kernel, by decide +kernel, ?_, by decide +kernel⟩
  intro q a b
  have m2 : mmr 2 = 3 := by decide +kernel
  have : q = 2 := by omega
  subst this
  decide +kernel

/-- **import_step_establishes_reference.**  `PMMR::push_pruned_subtree(hash, pos0)` as a whole
against the reference.  The backend satisfies the in-unit reference invariant for `N` leaves; the
subtree root sits at coordinates `(n, h)` (`pos0 = mmr n + h`, height `1 ≤ h ≤ trailingOnes n`), its
`2^h` leaves are the next leaves of the history (`N + 2^h = n + 1`), its sibling is not pruned (no
roll-up in the prune list), the hash handed in is the reference hash of `pos0`.  Then the call
succeeds, the loop appends exactly the parents that merge the subtree with the peaks to its left
(every left sibling is read from the hash file and is the reference hash), the handle's size is
`mmr (n + 1)` – the size of the MMR with all leaves up to `n` – and the backend satisfies the
invariant for `n + 1` leaves with the same data file; `sync` then yields a `Synced` backend, the
start of `history_from_synced_state`. -/
theorem import_step_establishes_reference {H : Type} (hf : HashFn Bytes H) (f : Nat → Bytes)
    (p : PM H) (N n h : Nat) (df : AOF Bytes)
    (hlive : Live p.b.fixPF N (refHash hf f) (refData f) df)
    (hh : h ≤ trailingOnes n) (h1 : 1 ≤ h) (hN : N + 2 ^ h = n + 1)
    (hsib : p.b.pruneList.isPruned (family (mmr n + h)).2 = false)
    (hbd : mmr (n + 1) + 64 < 2 ^ 64) :
    ∃ p', PM.pushPrunedSubtree hf p (refHash hf f (mmr n + h)) (mmr n + h) = (p', true) ∧
      p'.size = mmr (n + 1) ∧
      Live p'.b.fixPF (n + 1) (refHash hf f) (refData f) df ∧
      (∃ df', Synced p'.b.fixPF.sync (n + 1) (refHash hf f) (refData f) df') ∧
      p'.b.dataFile = p.b.dataFile ∧ p'.b.leafSet = p.b.leafSet := by
  obtain ⟨p', hres, hsz, hl', hdf, hls⟩ := pushPrunedSubtree_live hf f hlive hh h1 hN hsib hbd
  exact ⟨p', hres, hsz, hl', ⟨_, hl'.sync⟩, hdf, hls⟩

/-- non-vacuity of the step: on the empty store, the first pair of leaves as one pruned subtree
(`n = 1`, `h = 1`, `N = 0`) – the call succeeds and leaves size 3 -/
example {H : Type} (hf : HashFn Bytes H) (f : Nat → Bytes) :
    ∃ p', PM.pushPrunedSubtree hf ({} : PM H) (refHash hf f (mmr 1 + 1)) (mmr 1 + 1) = (p', true) ∧
      p'.size = mmr 2 := by
  have hs : Synced ({} : Backend H) 0 (refHash hf f) (refData f) {} := synced_empty _ _
  have hl : Live ({} : Backend H).fixPF 0 (refHash hf f) (refData f) {} := hs.live
  have ht : trailingOnes 1 = 1 := by simp [trailingOnes]
  obtain ⟨p', a, b, _⟩ := import_step_establishes_reference hf f ({} : PM H) 0 1 1 {} hl
    (by omega) (by omega) (by omega)
    (by simp [PruneList.isPruned, PruneList.isPrunedRoot, Bm.contains, Bm.select, Bm.rank])
    (by show mmr 2 + 64 < 2 ^ 64; have := Pmmr.Co.mmr_le_two_mul 2; omega)
  exact ⟨p', a, b⟩

/-- **import_preserves_reference.**  From ANY state that satisfies the in-unit invariant (an import
continues where an earlier batch of segments stopped) -/
theorem import_preserves_reference {H : Type} (hf : HashFn Bytes H) (f : Nat → Bytes)
    (p : PM H) (N : Nat) (df : AOF Bytes)
    (hl : Live p.b.fixPF N (refHash hf f) (refData f) df) (hsz : p.size = mmr N)
    (ops : List IOp) (hv : IValid hf f (p, N) ops) :
    let s := ops.foldl (istep hf f) (p, N)
    s.1.size = mmr s.2 ∧ ∃ df', Synced s.1.b.sync s.2 (refHash hf f) (refData f) df' := by
  intro s
  obtain ⟨df', hl', hsz'⟩ := import_run_live hf f ops (p, N) df hl hsz hv
  exact ⟨hsz', ⟨_, Backend.fixPF_sync _ ▸ hl'.sync⟩⟩

/-- **import_establishes_reference.**  For every leaf history `f` and every import sequence fed to an EMPTY
backend in position order – `push_pruned_subtree(reference hash, root)` for pruned subtree roots
of height `>= 1` whose sibling is not pruned (neither siblings nor nested: the sender's prune list
is rolled up), `push` for every other leaf, `remove_from_leaf_set` for spent ones (`IValid`) – the
handle ends at the size of the MMR over all leaves so far and `sync` leaves a backend that
satisfies the reference invariant `Synced` for that many leaves: hash file and data file hold the
reference values in prune-list layout, the prune list satisfies the roll-up invariant, the leaf set
holds only unpruned leaves.  This is the hypothesis of `history_from_synced_state`. -/
theorem import_establishes_reference {H : Type} (hf : HashFn Bytes H) (f : Nat → Bytes)
    (ops : List IOp) (hv : IValid hf f (({} : PM H), 0) ops) :
    let s := ops.foldl (istep hf f) (({} : PM H), 0)
    s.1.size = mmr s.2 ∧
    ∃ df, Synced s.1.b.sync s.2 (refHash hf f) (refData f) df := by
  exact import_preserves_reference hf f {} 0 {} (synced_empty _ _).live (by rw [mmr_zero]) ops hv

/-- **The state an import leaves behind meets the hypotheses of `history_from_synced_state`**: with
the leaf history `v.es = [f 0, …, f (N−1)]`, the unspent list `v.U` read off the leaf set and the
ghost list `G` of the leaves below the pruned roots.  So import followed by ANY protocol-respecting
history (appends, spends, rewinds not below the import boundary, commits, discards, compactions,
reopen) keeps every observable equal to the never-pruned reference. -/
theorem import_meets_history_hypotheses {H : Type} (hf : HashFn Bytes H) (f : Nat → Bytes)
    (ops : List IOp) (hv : IValid hf f (({} : PM H), 0) ops) :
    let s := ops.foldl (istep hf f) (({} : PM H), 0)
    ∃ (v : RefView) (G : List Nat) (df : AOF Bytes),
      v.es = (List.range s.2).map f ∧ s.1.size = mmr v.es.length ∧
      Synced s.1.b.sync v.es.length (refHash hf (leafFn v.es)) (refData (leafFn v.es)) df ∧
      (∀ q, (q + 1) ∈ s.1.b.sync.leafSet.bitmap ↔ q ∈ v.U) ∧
      (∀ l, height l = 0 → (PrunedBy s.1.b.sync.pruneList.bitmap l ↔ l ∈ G)) := by
  intro s
  obtain ⟨df, hl, hsz⟩ := import_run_live hf f ops (({} : PM H), 0) {} (synced_empty _ _).live
    (by rw [mmr_zero]) hv
  have hlen : ((List.range s.2).map f).length = s.2 := by simp
  have hfg : ∀ i, i < s.2 → f i = leafFn ((List.range s.2).map f) i := by
    intro i hi
    unfold leafFn
    simp [List.getD, hi]
  have hl' := hl.congr hfg
  refine ⟨{ es := (List.range s.2).map f, U := s.1.b.leafSet.bitmap.map (· - 1) },
    (List.range (mmr s.2)).filter (fun l => s.1.b.pruneList.bitmap.any fun x => decide (Store.Sub (x - 1) l)),
    _, rfl, by rw [hlen]; exact hsz, by rw [hlen, ← Backend.fixPF_sync]; exact hl'.sync, ?_, ?_⟩
  · intro q
    show (q + 1) ∈ s.1.b.leafSet.bitmap ↔ q ∈ s.1.b.leafSet.bitmap.map (· - 1)
    have hp1 : ∀ y ∈ s.1.b.leafSet.bitmap, 1 ≤ y := fun y hy => (hl.lsLeaf y hy).1
    exact (mem_pred hp1 q).symm
  · intro l _
    show PrunedBy s.1.b.pruneList.bitmap l ↔ _
    rw [List.mem_filter, List.any_eq_true]
    constructor
    · rintro ⟨x, hx, hsub⟩
      refine ⟨?_, x, hx, by simpa using hsub⟩
      rw [List.mem_range]
      have h1 : x ≤ mmr s.2 := hl.roots x hx
      have h2 : 1 ≤ x := hl.inv.pos x hx
      have := hsub.2
      omega
    · rintro ⟨_, x, hx, hsub⟩
      exact ⟨x, hx, by simpa using hsub⟩

/-! ### the leaf-set snapshot path (`LeafSet::snapshot`, `copy_snapshot` through
`PMMRBackend::new(.., Some(header))`: `Chain::txhashset_read` / `txhashset_write`) -/

/-- **snapshot_path_is_reopen_then_rewind.**  The sender, inside a unit of work on a synced backend
`b`, rewinds to `cutoff` with `rewind_rm_pos = rm` (all `<= cutoff`), writes the leaf-set snapshot
and discards; the files travel as they are.  The receiver opens them with the snapshot put in
place of the leaf set, rewinds to the same `cutoff` with an EMPTY `rewind_rm_pos` and commits.  The
committed backend is exactly what `reopen; rewind cutoff rm; sync` gives – a history covered by
`history_preserves_reference` / `history_from_synced_state`. -/
theorem snapshot_path_is_reopen_then_rewind {H : Type} (el : Bytes → Option Nat) (b : Backend H)
    (hclean : b.leafSet.Clean) (hs : Sorted b.leafSet.bitmap) (cutoff : Nat) (rm : Bitmap)
    (hrm : ∀ x ∈ rm, x ≤ cutoff) :
    ((b.reopenWithSnapshot el (b.rewind cutoff rm).snapshot).rewind cutoff []).sync =
      ((b.reopen el).rewind cutoff rm).sync := by
  -- the snapshot holds nothing above the cutoff, so rewinding it again changes nothing
  have hsnap : ∀ x ∈ (b.leafSet.rewind cutoff rm).bitmap, x ≤ cutoff := by
    intro x hx
    rcases (LeafSet.mem_rewind b.leafSet cutoff rm hs x).1 hx with ⟨_, h2⟩ | h
    · exact h2
    · exact hrm x h
  have hfix : (LeafSet.rewind { bitmap := (b.leafSet.rewind cutoff rm).bitmap, bak := (b.leafSet.rewind cutoff rm).bitmap } cutoff []).bitmap = (b.leafSet.rewind cutoff rm).bitmap := by
    show Bm.or (Bm.removeRange _ _ _) [] = _
    show Bm.removeRange _ _ _ = _
    unfold Bm.removeRange
    rw [List.filter_eq_self]
    intro x hx
    have := hsnap x hx
    simp; omega
  have hre : (b.leafSet.reopen).rewind cutoff rm = { (b.leafSet.rewind cutoff rm) with bak := b.leafSet.bak } := by
    unfold LeafSet.reopen LeafSet.rewind
    have hc : b.leafSet.bitmap = b.leafSet.bak := hclean
    simp only [← hc]
  obtain ⟨hF, dF, lS, pL, pF⟩ := b
  simp only [Backend.reopenWithSnapshot, Backend.snapshot, Backend.rewind, Backend.reopen, Backend.sync,
    LeafSet.flush] at hfix hre ⊢
  rw [hfix, hre]

/-- `push_pruned_subtree` touches neither the data file nor the leaf set, and what `sync` writes to
the prune-list file is the rolled-up list with the new root (for ANY
arguments – also the ones outside the importer's discipline) -/
theorem push_pruned_subtree_sync_frame {H : Type} (hf : HashFn Bytes H) (p : PM H) (hash : H)
    (pos0 : Nat) :
    let p' := (PM.pushPrunedSubtree hf p hash pos0).1
    p'.b.sync.dataFile = p.b.sync.dataFile ∧ p'.b.sync.leafSet = p.b.sync.leafSet ∧
    p'.b.sync.pruneFile = (p.b.pruneList.append pos0).bitmap := by
  obtain ⟨a1, a2, _, _, a5, _⟩ := push_pruned_subtree_frame hf p hash pos0
  simp only [Backend.sync]
  exact ⟨by rw [a1], by rw [a2], by rw [a5]⟩

/-- non-vacuity: a valid import of 7 leaves into the empty store – the first four leaves as one
pruned subtree (root at coordinates `(3, 2)`, position 6), leaf 4 pushed and spent, leaves 5 and 6
pushed -/
example {H : Type} (hf : HashFn Bytes H) (f : Nat → Bytes) :
    IValid hf f (({} : PM H), 0) [.subtree 3 2, .leaf, .spend 7, .leaf, .leaf] := by
  have hb : ∀ n, n ≤ 10 → mmr n + 64 < 2 ^ 64 := fun n hn => by
    have := Pmmr.Co.mmr_le_two_mul n; omega
  have ht : trailingOnes 3 = 2 := by simp [trailingOnes]
  refine ⟨⟨by omega, by omega, by rfl, ?_, hb _ (by omega)⟩, ?_⟩
  · simp [PruneList.isPruned, PruneList.isPrunedRoot, Bm.contains, Bm.select, Bm.rank]
  · simp only [istep, IValid, IOp.ok, and_true, true_and]
    exact ⟨hb _ (by omega), hb _ (by omega), hb _ (by omega)⟩

end GV.Props.C08Import
