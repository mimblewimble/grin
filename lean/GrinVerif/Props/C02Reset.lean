import GrinVerif.Model.ChainReset
import GrinVerif.Lemmas.ChainBasic
/-! C02 / C06 for `Chain::reset_chain_head` (`Model/ChainReset.lean`): a reset that succeeds leaves
the node reporting exactly the replay of the NEW head's own path, changes nothing else but the two
heads, and a reset that fails changes nothing. -/

namespace GV.Props.C02Reset
open GV GV.Chain

theorem resetChainHead_ok {p : Params} {n n' : Node} {t : Nat} {rh : Bool}
    (h : resetChainHead p n t rh = .ok n') :
    t ∈ n.headers ∧ (∃ s, n.stateAt p t = .ok s) ∧
      n' = { n with head := t, hhead := if rh then t else n.hhead } := by
  unfold resetChainHead at h
  split at h
  · cases h
  · rename_i ht
    split at h
    · split at h
      · cases h
      · split at h
        · cases h
        · rename_i s hs
          exact ⟨by simpa using ht, ⟨s, hs⟩, (Except.ok.inj h).symm⟩
    · cases h

/-- what a successful reset changes: the body head, and the header head iff asked to -/
theorem reset_frame (p : Params) (n n' : Node) (t : Nat) (rh : Bool)
    (h : resetChainHead p n t rh = .ok n') :
    n'.head = t ∧ n'.hhead = (if rh then t else n.hhead) ∧ n'.stored = n.stored ∧
    n'.headers = n.headers ∧ n'.blks = n.blks ∧ n'.outs = n.outs ∧ n'.orphans = n.orphans := by
  rw [(resetChainHead_ok h).2.2]
  exact ⟨rfl, rfl, rfl, rfl, rfl, rfl, rfl⟩

/-- a successful reset targets a block whose own path replays without a fault -/
theorem reset_target_replays (p : Params) (n n' : Node) (t : Nat) (rh : Bool)
    (h : resetChainHead p n t rh = .ok n') : ∃ s, n.stateAt p t = .ok s :=
  (resetChainHead_ok h).2.1

/-- after a successful reset the node reports the replay of the new head's own path (the state a
node that only ever saw that path reports) -/
theorem reset_reports_replay_of_target (p : Params) (n n' : Node) (t : Nat) (rh : Bool)
    (h : resetChainHead p n t rh = .ok n') :
    ∃ s, n.stateAt p t = .ok s ∧ n'.reportedUtxo p = s.utxo.map (·.1) := by
  obtain ⟨s, hs⟩ := reset_target_replays p n n' t rh h
  obtain ⟨hh, _, _, _, hb, ho, _⟩ := reset_frame p n n' t rh h
  refine ⟨s, hs, ?_⟩
  exact reportedUtxo_of_state (by rw [hh, stateAt_congr hb]; exact hs)

/-- non-vacuity: a three-block chain reset to its middle block -/
private def g0 : Blk := { id := 0, parent := none, h := 0, work := 1, ver := 1, ts := 0, ins := [], outs := [(0, true)], kers := [.cb], tags := [] }
private def mk (id par h work : Nat) : Blk :=
  { id, parent := some par, h, work, ver := 1, ts := h, ins := [], outs := [(id, true)], kers := [.cb], tags := [] }
private def n3 : Node :=
  { blks := [g0, mk 1 0 1 2, mk 2 1 2 3], headers := [0, 1, 2], stored := [0, 1, 2], head := 2, hhead := 2,
    outs := [⟨0, true, GV.Gen.REWARD⟩, ⟨1, true, GV.Gen.REWARD⟩, ⟨2, true, GV.Gen.REWARD⟩] }

example : (match resetChainHead {} n3 1 true with
    | .ok n' => n'.head == 1 && n'.hhead == 1 && n'.reportedUtxo {} == [0, 1]
    | .error _ => false) = true := by decide +kernel

end GV.Props.C02Reset
