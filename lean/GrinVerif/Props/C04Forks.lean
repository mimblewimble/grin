import GrinVerif.Props.C04
import GrinVerif.Lemmas.ConsFork
/-! # C04 on side branches: a header is validated against ITS OWN ancestors

Theorems about the node model of `Model/Cons.lean` (`chain/src/store.rs::DifficultyIter`,
`chain/src/pipe.rs::{validate_header, process_block_header, process_block_headers,
rewind_and_apply_header_fork}`, `txhashset::HeaderExtension::{rewind, apply_header,
is_on_current_chain}`) for header trees, not just chains:

* the difficulty window of a header, and so the verdict of `validate_header`, is a function of the
  headers on the walk back from its parent — other branches, later headers and the position of
  `header_head` do not enter (`window_own_ancestors`, `validate_header_own_ancestors`,
  `validate_header_ignores_other_branches`);
* whatever the header MMR held, `rewind_and_apply_header_fork(h)` leaves it holding exactly the chain
  of ancestors of `h` (`fork_mmr_is_the_ancestor_chain`, unique by `ancestor_chain_unique`), so
  `validate_root` compares `prev_root` with the MMR of the header's own ancestors;
* over every history of deliveries (single headers, batches, blocks; accepted or refused; forks and
  header reorgs of any depth) the header MMR holds the chain of ancestors of `header_head`
  (`hmmr_is_ancestor_chain`).

Definitions (`walk`, `IsChain`, `NodeInv`, `Admissible`, …) are in `Lemmas/ConsFork.lean`.
The run `cons forks` compares all of this with a real `Chain` on header trees. -/
namespace GV.Props.C04Forks
open GV GV.Gen GV.Cons

/-- **The difficulty window is that of the header's own ancestors.**  Two stores that agree on the
`DMA_WINDOW + 2` keys looked up on the walk back from `start` yield the same `DifficultyIter`
prefix — whatever else they hold. -/
theorem window_own_ancestors (s s' : List FHdr) (start : Nat)
    (h : ∀ k ∈ walk s (DMA_WINDOW + 2) start, getHdr s' k = getHdr s k) :
    windowFrom s' (DMA_WINDOW + 1) start = windowFrom s (DMA_WINDOW + 1) start :=
  windowFrom_congr s s' _ _ h

/-- **`validate_header` depends on the header's own ancestors only.**  (Chain model:
`Chain.validateHeader_congr`.) -/
theorem validate_header_own_ancestors (ct : ChainType) (skip : Bool) (s s' : List FHdr) (f : FHdr)
    (h : ∀ k ∈ walk s (DMA_WINDOW + 2) f.prevHash, getHdr s' k = getHdr s k) :
    validateHeader (ctxFor ct skip s' f) f.h = validateHeader (ctxFor ct skip s f) f.h := by
  have hp : getHdr s' f.prevHash = getHdr s f.prevHash := h _ (walk_head s _ _)
  have hw := window_own_ancestors s s' f.prevHash h
  simp only [ctxFor, hp, hw]

/-- headers of other branches (any headers whose hashes are not on the walk back from the parent),
stored before or after, do not change the verdict on `f` -/
theorem validate_header_ignores_other_branches (ct : ChainType) (skip : Bool) (s xs : List FHdr)
    (f : FHdr) (hx : ∀ x ∈ xs, x.hash ∉ walk s (DMA_WINDOW + 2) f.prevHash) :
    validateHeader (ctxFor ct skip (xs ++ s) f) f.h = validateHeader (ctxFor ct skip s f) f.h := by
  apply validate_header_own_ancestors
  intro k hk
  apply getHdr_append_ne
  intro x hxm e
  exact hx x hxm (e ▸ hk)

/-- genesis `1`, two children `2` and `3` with different timestamps and a child `4` of `3` -/
def exTree : List FHdr :=
  [ ⟨4, 3, ⟨2, 1300, 1, 12, 0, 10, 0, 4, 4⟩, 0, true, true⟩,
    ⟨3, 1, ⟨1, 1200, 1, 7, 0, 10, 0, 3, 3⟩, 0, true, true⟩,
    ⟨2, 1, ⟨1, 1030, 1, 6, 0, 29, 0, 3, 3⟩, 0, true, true⟩,
    ⟨1, 0, ⟨0, 1000, 1, 3, 0, 10, 0, 1, 1⟩, 0, true, true⟩ ]

-- the windows of the two branches differ, and each is what it is without the other branch
example : windowFrom exTree 61 2 = [⟨1030, 3, 0, true⟩, ⟨1000, 3, 0, false⟩] ∧
    windowFrom exTree 61 4 = [⟨1300, 5, 0, false⟩, ⟨1200, 4, 0, false⟩, ⟨1000, 3, 0, false⟩] ∧
    windowFrom (exTree.drop 2) 61 2 = windowFrom exTree 61 2 := by decide +kernel
example : ∀ x ∈ exTree.take 2, x.hash ∉ walk (exTree.drop 2) (DMA_WINDOW + 2) 2 := by decide +kernel

/-- a chain is determined by its last header -/
theorem ancestor_chain_unique (s : List FHdr) (l l' : List Nat) (h : IsChain s l)
    (h' : IsChain s l') (hne : l ≠ []) (hlast : l.getLast? = l'.getLast?) : l = l' :=
  isChain_unique l l' h h' hne hlast

/-- **`rewind_and_apply_header_fork(f)` puts the header MMR on the ancestors of `f`**: if the
extension held a chain of stored headers before (any chain: the current `header_head`'s), then
afterwards it holds the chain of stored headers that ends in `f` (the only one, by
`ancestor_chain_unique`), and its head is `f`. -/
theorem fork_mmr_is_the_ancestor_chain (s : List FHdr) (e e' : HExt) (g : Nat) (f : FHdr)
    (hi : ExtInv s e) (hs : StoreInv s g) (hf : getHdr s f.hash = some f)
    (h : rewindAndApplyHeaderFork s e f = .ok e') :
    IsChain s e'.mmr ∧ e'.mmr.length = f.h.height + 1 ∧ e'.mmr.getLast? = some f.hash ∧
    e'.head.hash = f.hash := by
  obtain ⟨hi', hh, hht⟩ := rewindAndApplyHeaderFork_chain f hi hs hf h
  exact ⟨hi'.chain, by rw [hi'.len, hht], by rw [hi'.getLast, hh], hh⟩

theorem genesis_inv (ct : ChainType) (g : FHdr) (h0 : g.h.height = 0) :
    NodeInv (HNode.genesis ct g) g.hash := by
  have hget : ∀ k x, getHdr [g] k = some x → x = g ∧ k = g.hash := fun k x hx =>
    (getHdr_cons_some hx).resolve_right (by simp [getHdr])
  refine ⟨⟨?_, ?_, ?_⟩, ⟨?_, ?_, ?_⟩, ⟨g, getHdr_cons_self g [], rfl⟩⟩
  · intro k x hx hx0
    obtain ⟨rfl, _⟩ := hget k x hx
    exact absurd h0 hx0
  · intro k x hx _
    exact (hget k x hx).2
  · intro k x hx
    obtain ⟨rfl, _⟩ := hget k x hx
    omega
  · intro i k hk
    simp only [HNode.genesis] at hk
    have hi : i = 0 := by
      have := (List.getElem?_eq_some_iff.mp hk).1
      simp at this
      exact this
    subst hi
    simp at hk
    subst hk
    exact ⟨g, getHdr_cons_self g [], h0, by intro j hj; omega⟩
  · simp [HNode.genesis, Tip.ofHdr, h0]
  · simp [HNode.genesis, Tip.ofHdr, h0]

theorem pbhApply_inv (n n' : HNode) (g : Nat) (opts : Opts) (f prev : FHdr) (hinv : NodeInv n g)
    (hprev : getHdr n.hdrs f.prevHash = some prev) (hc : Compat n.hdrs f) (hnz : f.h.height ≠ 0)
    (h : pbhApply n opts f prev = .ok n') : NodeInv n' g := by
  obtain ⟨hv, e0, e1, e2, he0, hfk, hva, rfl⟩ := pbhApply_ok h
  obtain ⟨p, hp, hheight, _⟩ := headerRules_parent hv
  rw [hprev] at hp
  cases hp
  obtain ⟨hi1, hh1, hht1⟩ := hinv.fork (StoreLe.refl _) hinv.store he0 (getHdr_self hprev) hfk
  have hfh := succ_of_addW_ne_zero (hinv.store.bound _ _ hprev) hheight hnz
  have hle := storeLe_cons hc
  have hi2 : ExtInv (f :: n.hdrs) e2 := by
    rw [(validateApply_ok hva).2]
    exact extInv_apply (extInv_mono hle hi1) (getHdr_cons_self f _) (by rw [hh1, getHdr_hash hprev])
      (by rw [hfh, hht1])
  have he2 : e2.head = Tip.ofHdr f := by rw [(validateApply_ok hva).2]
  exact hinv.commit hle (storeInv_cons hinv.store hc hprev hheight hnz) hi2 (getHdr_cons_self f _)
    (by rw [he2]; rfl) (by rw [he2]; rfl)

theorem node_process_block_header_inv (n n' : HNode) (g : Nat) (opts : Opts) (f : FHdr)
    (hinv : NodeInv n g) (hc : Compat n.hdrs f) (hnz : f.h.height ≠ 0)
    (h : nodeProcessBlockHeader n opts f = .ok n') : NodeInv n' g := by
  rcases nodeProcessBlockHeader_ok h with rfl | ⟨prev, hprev, happ⟩
  · exact hinv
  · exact pbhApply_inv n n' g opts f prev hinv hprev hc hnz happ

theorem batch_store_inv (ct : ChainType) (skip : Bool) (g : Nat) :
    ∀ (b s : List FHdr), StoreInv s g → BatchRules ct skip s b → BatchFresh s b →
      StoreInv (b.reverse ++ s) g ∧ StoreLe s (b.reverse ++ s) := by
  intro b
  induction b with
  | nil => intro s hs _ _; exact ⟨hs, StoreLe.refl s⟩
  | cons a t ih =>
    intro s hs hok hfr
    obtain ⟨hr, hok'⟩ := hok
    obtain ⟨hc, hnz, hfr'⟩ := hfr
    obtain ⟨p, hp, hheight, _⟩ := headerRules_parent hr
    have hst := storeInv_cons hs hc hp hheight hnz
    obtain ⟨a1, a2⟩ := ih (a :: s) hst hok' hfr'
    have e : (a :: t).reverse ++ s = t.reverse ++ a :: s := by simp
    rw [e]
    exact ⟨a1, StoreLe.trans (storeLe_cons hc) a2⟩

theorem sync_inv (n : HNode) (g : Nat) (opts : Opts) (sh : Tip) (b : List FHdr)
    (hinv : NodeInv n g) (hfr : BatchFresh n.hdrs b) : NodeInv (syncStep n opts sh b) g := by
  unfold syncStep
  split
  · rename_i n' r hp
    rcases processBlockHeaders_ok hp with ⟨_, rfl⟩ | ⟨last, e0, e1, hlast, hok, he0, hfk, rfl⟩
    · exact hinv
    obtain ⟨hst, hle⟩ := batch_store_inv n.ct opts.skipPow g b n.hdrs hinv.store hok hfr
    have hself := getHdr_last hlast n.hdrs
    obtain ⟨hi1, hh1, hht1⟩ := hinv.fork hle hst he0 hself hfk
    exact hinv.commit hle hst hi1 hself hh1 hht1
  · exact hinv

/-- only the header stages of `process_block` touch the header store and the header MMR -/
theorem node_process_block_inv (n : HNode) (g : Nat) (opts : Opts) (f : FHdr) (bodyOk : Bool)
    (hinv : NodeInv n g) (hc : Compat n.hdrs f) (hnz : f.h.height ≠ 0) :
    NodeInv (nodeProcessBlock n opts f bodyOk).1 g := by
  refine nodeProcessBlock_elim (P := fun r => NodeInv r.1 g) n opts f bodyOk (fun _ => hinv)
    (fun n1 _ h1 => node_process_block_header_inv n n1 g opts f hinv hc hnz h1) (fun n1 n2 h1 h2 _ => ?_)
  have hinv1 := node_process_block_header_inv n n1 g opts f hinv hc hnz h1
  -- the second pass: the header is stored now (or the first pass short-cut and nothing changed)
  have hc1 : Compat n1.hdrs f := by
    rcases C04.node_process_block_header_sound n opts f n1 h1 with rfl | ⟨_, _, hh, _⟩
    · exact hc
    · right; rw [hh]; exact getHdr_cons_self f _
  have hinv2 := node_process_block_header_inv n1 n2 g opts f hinv1 hc1 hnz h2
  -- the resulting node differs from `n2` in `blocks` / `head` only, which `NodeInv` does not read
  exact ⟨hinv2.store, hinv2.ext, hinv2.head⟩

theorem deliver_inv (n : HNode) (g : Nat) (d : Delivery) (hinv : NodeInv n g)
    (ha : Admissible n d) : NodeInv (deliver n d) g := by
  cases d with
  | header o f =>
    simp only [deliver]
    split
    · rename_i n' h
      exact node_process_block_header_inv n n' g o f hinv ha.1 ha.2 h
    · exact hinv
  | batch o sh b => exact sync_inv n g o sh b hinv ha
  | block o f bodyOk => exact node_process_block_inv n g o f bodyOk hinv ha.1 ha.2

/-- **The header MMR holds the ancestors of `header_head`, over every history.**  From a node that
knows its genesis, after any sequence of deliveries — single headers, sync batches, full blocks;
accepted or refused, under any options; extending the head, forking off anywhere, overtaking
(header reorgs of any depth) or not — in which every delivered header has a new hash or is a
re-delivery of the stored header and does not claim height 0:
the header MMR lists, genesis first, a chain of stored headers in which the entry at index `i`
has height `i` and links to the entry before it, and whose last entry is `header_head`. -/
theorem hmmr_is_ancestor_chain (g : Nat) : ∀ (ds : List Delivery) (n : HNode), NodeInv n g →
    AdmissibleRun n ds → NodeInv (ds.foldl deliver n) g := by
  intro ds
  induction ds with
  | nil => intro n h _; exact h
  | cons d t ih =>
    intro n h ha
    exact ih (deliver n d) (deliver_inv n g d h ha.1) ha.2

/-- the statement spelled out for a node started from its genesis; it is what justifies the chain
model's reading of the header MMR as the path to the header head (`Node.headerAtHeight` in
Model/ChainReport, `forkHeaders` in Model/ChainKnown, `n.path n.hhead` in Model/ChainPool) -/
theorem header_mmr_is_ancestors_of_header_head (ct : ChainType) (gen : FHdr) (h0 : gen.h.height = 0)
    (ds : List Delivery) (ha : AdmissibleRun (HNode.genesis ct gen) ds) :
    let n := ds.foldl deliver (HNode.genesis ct gen)
    IsChain n.hdrs n.hmmr ∧ n.hmmr.getLast? = some n.headerHead.hash ∧
    n.hmmr.length = n.headerHead.height + 1 ∧
    (∀ l, IsChain n.hdrs l → l.getLast? = some n.headerHead.hash → l = n.hmmr) := by
  intro n
  have hinv : NodeInv n gen.hash :=
    hmmr_is_ancestor_chain gen.hash ds _ (genesis_inv ct gen h0) ha
  exact ⟨hinv.ext.chain, hinv.ext.getLast, hinv.ext.len, fun l hl hll => hinv.ext.unique hl hll⟩

/-- **`prev_root` is compared with the MMR of the header's own ancestors.**  When
`process_block_header` validates a header `f` behind its short-cuts, the extension on which
`validate_root(f)` runs holds exactly the chain of stored headers ending in `f`'s parent —
wherever `header_head` is. -/
theorem root_checked_against_own_ancestors (n : HNode) (g : Nat) (f prev : FHdr) (e0 e1 : HExt)
    (hinv : NodeInv n g) (hprev : getHdr n.hdrs f.prevHash = some prev)
    (he0 : extInit n.hdrs n.hmmr = some e0)
    (hfk : rewindAndApplyHeaderFork n.hdrs e0 prev = .ok e1) :
    IsChain n.hdrs e1.mmr ∧ e1.mmr.getLast? = some f.prevHash ∧
    (∀ l, IsChain n.hdrs l → l.getLast? = some f.prevHash → l = e1.mmr) := by
  obtain ⟨hi1, hh1, _⟩ := hinv.fork (StoreLe.refl _) hinv.store he0 (getHdr_self hprev) hfk
  rw [getHdr_hash hprev] at hh1
  exact ⟨hi1.chain, by rw [hi1.getLast, hh1], fun l hlc hll => hi1.unique hlc (by rw [hll, hh1])⟩

/-! ### a concrete header reorg (non-vacuity) -/

/-- genesis `1`; `2` on it (work 6); then the sibling branch `3`, `4` (work 7, 12) overtakes -/
def exG : FHdr := ⟨1, 0, ⟨0, 1000, 1, 3, 0, 10, 0, 1, 1⟩, 0, true, true⟩
def exA : FHdr := ⟨2, 1, ⟨1, 1030, 1, 6, 0, 10, 0, 3, 3⟩, 0, true, true⟩
def exB : FHdr := ⟨3, 1, ⟨1, 1200, 1, 7, 0, 10, 0, 3, 3⟩, 0, true, true⟩
def exC : FHdr := ⟨4, 3, ⟨2, 1300, 1, 12, 0, 10, 0, 4, 4⟩, 0, true, true⟩

def exRun : List Delivery :=
  [.header Opts.SKIP_POW exA, .batch Opts.SKIP_POW (Tip.ofHdr exA) [exB, exC], .header Opts.SKIP_POW exA]

example : AdmissibleRun (HNode.genesis .automatedTesting exG) exRun := by decide +kernel
example : (exRun.foldl deliver (HNode.genesis .automatedTesting exG)).hmmr = [1, 3, 4] ∧
    ((exRun.take 1).foldl deliver (HNode.genesis .automatedTesting exG)).hmmr = [1, 2] ∧
    (exRun.foldl deliver (HNode.genesis .automatedTesting exG)).headerHead = Tip.ofHdr exC := by
  decide +kernel

end GV.Props.C04Forks
