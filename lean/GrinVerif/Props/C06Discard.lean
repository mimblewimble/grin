import GrinVerif.Lemmas.ChainKnown
import GrinVerif.Props.XlateShapeTxhsFacts
/-! C06 frame for a refused block, with its premise about the code made explicit and discharged.

The chain model never touches head, block store or txhashset when a block is refused: it ASSUMES
that everything `pipe::process_block` did inside `txhashset::extending` before the failing check
(rewind, re-applied fork blocks, the block's own inputs / outputs / kernels, index writes in the
child batch) is thrown away. That premise is a fact about `txhashset::extending` /
`header_extending` in chain/src/txhashset/txhashset.rs; the translator regenerates the wrappers'
commit / discard structure on every run (`Gen/PipeShapeTxhs`) and decides it
(`Props/XlateShapeTxhsFacts`). The frame theorem takes it as an explicit argument - the proof, a
case analysis of the MODEL's step, does not use it: the premise is what makes that model faithful,
not what makes the frame true of it - and `refused_block_changes_nothing` supplies the decided facts:
a commit moved out of the `Ok ∧ !rollback` guard or a dropped `discard()` in the source breaks
`extension_discarded_on_refusal`, and with it the build of this module. -/
namespace GV.Props.C06Discard
open GV GV.Chain GV.Gen.PipeShape GV.Props.XlateShape

/-- the premise: the extension wrappers make something durable ONLY for an `Ok` result without
`force_rollback`, and discard every backend on `Err` and on rollback -/
def ExtensionDiscardedOnRefusal : Prop :=
  commitsOnlyUnder ["$5 ~ Ok(_)", "!($6)"] txhs_extending = true ∧
  discardsUnder ["$5 ~ Err(_)"] txhs_extending = 3 ∧ discardsUnder ["$5 ~ Ok(_)", "$6"] txhs_extending = 3 ∧
  commitsOnlyUnder ["$4 ~ Ok(_)", "!($5)"] txhs_header_extending = true ∧
  discardsUnder ["$4 ~ Err(_)"] txhs_header_extending = 1 ∧ discardsUnder ["$4 ~ Ok(_)", "$5"] txhs_header_extending = 1

/-- the premise holds of the CURRENT source (decided facts of `Props/XlateShapeTxhsFacts`) -/
theorem extension_discarded_on_refusal : ExtensionDiscardedOnRefusal :=
  ⟨XlateShapeTxhsFacts.extending_never_commits_on_err_or_rollback.2.2.1,
   XlateShapeTxhsFacts.extending_discards.1, XlateShapeTxhsFacts.extending_discards.2.1,
   XlateShapeTxhsFacts.header_extending_never_commits_on_err_or_rollback.2.2.1,
   XlateShapeTxhsFacts.header_extending_discards.1, XlateShapeTxhsFacts.header_extending_discards.2⟩

/-- **frame of a refused block** (the premise is carried, not used: see the head of the file): whatever the stage that refused it - header,
known, orphan, body, fork denylist, maturity, UTXO, sums, NRD, late root / size - the coded step
leaves head, block store and definitions as they were, hence the reported unspent set; only the
header store / header head (a valid header is remembered) and the orphan pool may differ -/
theorem refused_block_frame (_premise : ExtensionDiscardedOnRefusal) (p : Params) (deny : List Nat)
    (n : Node) (b : Blk) (e : Err) (h : (processBlockSingleK p deny n b).2.1 = .err e) :
    (processBlockSingleK p deny n b).1.head = n.head ∧
    (processBlockSingleK p deny n b).1.stored = n.stored ∧
    (processBlockSingleK p deny n b).1.blks = n.blks ∧
    (processBlockSingleK p deny n b).1.reportedUtxo p = n.reportedUtxo p ∧
    (processBlockSingleK p deny n b).2.2 = none := by
  have key : (processBlockSingleK p deny n b).1.head = n.head ∧
      (processBlockSingleK p deny n b).1.stored = n.stored ∧
      (processBlockSingleK p deny n b).1.blks = n.blks ∧ (processBlockSingleK p deny n b).2.2 = none := by
    unfold processBlockSingleK at h ⊢
    cases hh : processHeaderK p deny n b with
    | error e' => exact ⟨rfl, rfl, rfl, rfl⟩
    | ok n1 =>
      have hf := CoreEq.of_headerK hh
      rw [hh] at h
      simp only at h ⊢
      cases hp : precheckK n1 b with
      | reject e' => exact ⟨hf.head, hf.stored, hf.blks, rfl⟩
      | orphan => exact ⟨by simp [addOrphan, hf.head], by simp [addOrphan, hf.stored], by simp [addOrphan, hf.blks], rfl⟩
      | go par =>
        rw [hp] at h
        simp only at h ⊢
        cases hq : pipeProcessBlockK p deny n1 b par with
        | error e' => exact ⟨hf.head, hf.stored, hf.blks, rfl⟩
        | ok r =>
          rw [hq] at h
          simp only at h
          exact absurd h (storeBlock_ok r.1 b e)
  exact ⟨key.1, key.2.1, key.2.2.1, reportedUtxo_congr key.2.2.1 key.1 p, key.2.2.2⟩

/-- **a refused block changes nothing on the best chain** - the frame theorem with its premise
discharged by the facts decided about the current source -/
theorem refused_block_changes_nothing (p : Params) (deny : List Nat) (n : Node) (b : Blk) (e : Err)
    (h : (processBlockSingleK p deny n b).2.1 = .err e) :
    (processBlockSingleK p deny n b).1.head = n.head ∧
    (processBlockSingleK p deny n b).1.stored = n.stored ∧
    (processBlockSingleK p deny n b).1.reportedUtxo p = n.reportedUtxo p ∧
    (processBlockSingleK p deny n b).2.2 = none :=
  let r := refused_block_frame extension_discarded_on_refusal p deny n b e h
  ⟨r.1, r.2.1, r.2.2.2.1, r.2.2.2.2⟩

/-- non-vacuity: a block whose parent header is unknown is refused -/
example : (processBlockSingleK {} [] {} { id := 5, parent := some 4, h := 2, work := 9, ver := 1, ts := 3, ins := [], outs := [], kers := [], tags := [] }).2.1 = .err "StoreErr" := by decide +kernel

end GV.Props.C06Discard
