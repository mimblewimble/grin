import GrinVerif.Model.Cons
import GrinVerif.Model.PowDiff
import GrinVerif.Model.Keys
import GrinVerif.Model.SerTx
import GrinVerif.Gen.FnsCons
import GrinVerif.Lemmas.BasicWrap
/-! # Translated `core/src/consensus.rs` + `core/src/global.rs` = hand-written models

`GV.Gen.Fns.*` (file `Gen/FnsCons.lean`) is regenerated on every check run from the CURRENT Rust
source by `tools/rs2lean.py`.  `global::get_chain_type()` is the extra leading parameter
`chain_type : Fns.ChainTypes` (the enum is generated from `enum ChainTypes` of global.rs); `ofCons` /
`ofPow` map the hand models' chain-type enumerations to it.  `…_ok` is the generated condition
"the Rust function returns normally" (here: no division by zero); the hand model's `none` (panic)
outcome is tied to it. -/

namespace GV.Props.XlateCons
open GV GV.Gen

/-- `Model/Cons.lean`'s chain type as the generated `ChainTypes` -/
def ofCons : GV.Cons.ChainType → Fns.ChainTypes
  | .mainnet => .Mainnet
  | .testnet => .Testnet
  | .automatedTesting => .AutomatedTesting
  | .userTesting => .UserTesting

/-- `Model/PowSelect.lean`'s chain type as the generated `ChainTypes` -/
def ofPow : GV.Pow.ChainType → Fns.ChainTypes
  | .mainnet => .Mainnet
  | .testnet => .Testnet
  | .automated => .AutomatedTesting
  | .user => .UserTesting

/-- every `ChainTypes` value is the image of a model chain type (the mappings lose nothing) -/
theorem ofCons_surj (c : Fns.ChainTypes) : ∃ ct, ofCons ct = c := by
  cases c
  · exact ⟨.automatedTesting, rfl⟩
  · exact ⟨.userTesting, rfl⟩
  · exact ⟨.testnet, rfl⟩
  · exact ⟨.mainnet, rfl⟩

theorem reward_eq (fee : Nat) : Fns.reward fee = GV.Keys.rewardOf REWARD fee := by
  simp [Fns.reward, Fns.satAddN, GV.Keys.rewardOf]

example : Fns.reward 7 = 60000000007 := by decide

theorem secondary_pow_ratio_eq (height : Nat) :
    Fns.secondary_pow_ratio height = GV.Cons.secondaryPowRatio height := by
  have : mulW 2 YEAR_HEIGHT = 2 * YEAR_HEIGHT := by decide
  simp [Fns.secondary_pow_ratio, GV.Cons.secondaryPowRatio, this]

theorem secondary_pow_ratio_ok (height : Nat) : Fns.secondary_pow_ratio_ok height = true := by
  unfold Fns.secondary_pow_ratio_ok; decide

example : Fns.secondary_pow_ratio 1000000 = 5 := by decide

theorem cast16_add (x : Nat) : Fns.castN 16 (addW 1 x) = (1 + x) % 2^16 := by
  unfold Fns.castN addW; omega

/-- `header_version(height)` for every height and chain type (the `as u16` truncation included) -/
theorem header_version_eq (ct : GV.Cons.ChainType) (height : Nat) :
    Fns.header_version (ofCons ct) height = GV.Cons.headerVersion ct height := by
  cases ct <;> simp [Fns.header_version, ofCons, GV.Cons.headerVersion, GV.Cons.hfVersion, cast16_add]

theorem header_version_ok (c : Fns.ChainTypes) (height : Nat) : Fns.header_version_ok c height = true := by
  have h1 : (HARD_FORK_INTERVAL != 0) = true := by decide
  have h2 : (TESTING_HARD_FORK_INTERVAL != 0) = true := by decide
  cases c <;> simp [Fns.header_version_ok, h1, h2]

theorem valid_header_version_eq (ct : GV.Cons.ChainType) (height version : Nat) :
    Fns.valid_header_version (ofCons ct) height version = GV.Cons.validHeaderVersion ct height version := by
  simp [Fns.valid_header_version, GV.Cons.validHeaderVersion, header_version_eq]

theorem valid_header_version_ok (c : Fns.ChainTypes) (height version : Nat) :
    Fns.valid_header_version_ok c height version = true := by
  simp [Fns.valid_header_version_ok, header_version_ok]

example : Fns.header_version .Mainnet 600000 = 3 ∧ Fns.header_version .AutomatedTesting 7 = 3
    ∧ Fns.header_version .Testnet 600000 = 4 ∧ Fns.valid_header_version .Mainnet 600000 3 = true := by
  decide

theorem min_edge_bits_eq (ct : GV.Cons.ChainType) : Fns.min_edge_bits (ofCons ct) = GV.Cons.minEdgeBits ct := by
  cases ct <;> rfl

theorem base_edge_bits_eq (ct : GV.Cons.ChainType) : Fns.base_edge_bits (ofCons ct) = GV.Cons.baseEdgeBits ct := by
  cases ct <;> rfl

theorem base_edge_bits_eq_pow (c : GV.Pow.ChainType) : Fns.base_edge_bits (ofPow c) = GV.Pow.baseEdgeBits c := by
  cases c <;> rfl

theorem max_block_weight_eq (ct : GV.Cons.ChainType) :
    Fns.max_block_weight (ofCons ct) = GV.Cons.maxBlockWeight ct := by
  cases ct <;> rfl

theorem coinbase_maturity_eq (ct : GV.Cons.ChainType) :
    Fns.coinbase_maturity (ofCons ct) = GV.Cons.coinbaseMaturity ct := by
  cases ct <;> rfl

/-- `max_tx_weight()` = the model's `maxTxWeight` of `max_block_weight()` -/
theorem max_tx_weight_eq (ct : GV.Cons.ChainType) :
    Fns.max_tx_weight (ofCons ct) = GV.Ser.maxTxWeight (GV.Cons.maxBlockWeight ct) := by
  have : addW OUTPUT_WEIGHT KERNEL_WEIGHT = OUTPUT_WEIGHT + KERNEL_WEIGHT := by decide
  simp [Fns.max_tx_weight, GV.Ser.maxTxWeight, max_block_weight_eq, this, satSub]

example : Fns.max_tx_weight .Mainnet = 39976 ∧ Fns.base_edge_bits .AutomatedTesting = 10 := by decide

theorem base_edge_bits_lt (c : Fns.ChainTypes) : Fns.base_edge_bits c < 256 := by
  cases c <;> decide

/-- the expiring edge-bits factor of `graph_weight` (`1 + (height - YEAR_HEIGHT) / WEEK_HEIGHT` cannot wrap) -/
theorem graph_weight_xpr (c : Fns.ChainTypes) (height eb : Nat) (hh : height < 2^64) :
    Fns.graph_weight c height eb
      = mulW (shlW 2 (Fns.subN 8 eb (Fns.base_edge_bits c))) (GV.Pow.xprEdgeBits height eb) := by
  unfold Fns.graph_weight GV.Pow.xprEdgeBits
  by_cases hc : eb = 31 ∧ height ≥ YEAR_HEIGHT
  · have hs : subW height YEAR_HEIGHT = height - YEAR_HEIGHT := subW_eq hh hc.2
    have hy0 : 0 < YEAR_HEIGHT := by decide
    have hd : (height - YEAR_HEIGHT) / WEEK_HEIGHT < 2^64 - 1 :=
      Nat.lt_of_le_of_lt (Nat.div_le_self _ _) (by have := hc.2; omega)
    have ha : addW 1 ((height - YEAR_HEIGHT) / WEEK_HEIGHT) = 1 + (height - YEAR_HEIGHT) / WEEK_HEIGHT :=
      addW_eq (by omega)
    simp [hc, hs, ha]
  · have : ¬ ((eb == 31) && decide (height ≥ YEAR_HEIGHT)) = true := by
      simp only [Bool.and_eq_true, beq_iff_eq, decide_eq_true_eq]; exact hc
    simp only [this, hc, if_false]
    rfl

/-- `graph_weight(height, edge_bits)` for every u64 height and u8 edge_bits (the u8 subtraction
`edge_bits - base_edge_bits()` wraps, the shift amount is masked, the product wraps — exactly as
the hand model says) -/
theorem graph_weight_eq (ct : GV.Cons.ChainType) (height eb : Nat) (hh : height < 2^64) :
    Fns.graph_weight (ofCons ct) height eb = GV.Cons.graphWeight ct height eb := by
  rw [graph_weight_xpr _ _ _ hh, GV.Cons.graphWeight, ← base_edge_bits_eq ct]
  unfold Fns.subN
  rw [Nat.mod_eq_of_lt (base_edge_bits_lt (ofCons ct))]
  rfl

/-- the same against the second hand model of `graph_weight` (`Model/PowDiff.lean`, property C05) -/
theorem graph_weight_eq_pow (c : GV.Pow.ChainType) (height eb : Nat) (hh : height < 2^64) (he : eb < 256) :
    Fns.graph_weight (ofPow c) height eb = GV.Pow.graphWeight c height eb := by
  rw [graph_weight_xpr _ _ _ hh, GV.Pow.graphWeight, ← base_edge_bits_eq_pow c]
  unfold Fns.subN
  rw [Nat.mod_eq_of_lt (base_edge_bits_lt (ofPow c)), Nat.mod_eq_of_lt he]

theorem graph_weight_ok (c : Fns.ChainTypes) (height eb : Nat) : Fns.graph_weight_ok c height eb = true := by
  have : (WEEK_HEIGHT != 0) = true := by decide
  unfold Fns.graph_weight_ok
  simp only [this]
  split <;> rfl

example : Fns.graph_weight .Mainnet 0 32 = 16384 ∧ Fns.graph_weight .Mainnet 600000 31 = 5888 := by
  decide

theorem initial_graph_weight_eq (ct : GV.Cons.ChainType) :
    Fns.initial_graph_weight (ofCons ct) = GV.Cons.initialGraphWeight ct := by
  cases ct <;>
    simp [Fns.initial_graph_weight, ofCons, GV.Cons.initialGraphWeight, Fns.castN,
      ← graph_weight_eq _ 0 _ (by decide : 0 < 2^64)]

theorem min_wtema_graph_weight_eq (ct : GV.Cons.ChainType) :
    Fns.min_wtema_graph_weight (ofCons ct) = GV.Cons.minWtemaGraphWeight ct := by
  cases ct <;>
    simp [Fns.min_wtema_graph_weight, ofCons, GV.Cons.minWtemaGraphWeight,
      ← graph_weight_eq _ 0 _ (by decide : 0 < 2^64)]

theorem initial_graph_weight_ok (c : Fns.ChainTypes) : Fns.initial_graph_weight_ok c = true := by
  cases c <;> simp [Fns.initial_graph_weight_ok, graph_weight_ok]

theorem min_wtema_graph_weight_ok (c : Fns.ChainTypes) : Fns.min_wtema_graph_weight_ok c = true := by
  cases c <;> simp [Fns.min_wtema_graph_weight_ok, graph_weight_ok]

/-! ## `damp`, `clamp`: the hand model's `none` is exactly the generated panic condition -/

/-- `damp(actual, goal, damp_factor)` for all inputs: the model's `none` (division by zero) is
`damp_ok = false`, and otherwise the values agree (wrapping `+ - *` on both sides) -/
theorem damp_eq (actual goal f : Nat) :
    GV.Cons.damp actual goal f = if Fns.damp_ok actual goal f then some (Fns.damp actual goal f) else none := by
  unfold GV.Cons.damp Fns.damp_ok Fns.damp
  by_cases h : f = 0 <;> simp [h]

theorem clamp_eq (actual goal f : Nat) :
    GV.Cons.clamp actual goal f = if Fns.clamp_ok actual goal f then some (Fns.clamp actual goal f) else none := by
  unfold GV.Cons.clamp Fns.clamp_ok Fns.clamp
  by_cases h : f = 0 <;> simp [h]

example : Fns.damp 100 3600 3 = 2433 ∧ Fns.damp_ok 100 3600 3 = true ∧ Fns.damp_ok 1 1 0 = false
    ∧ Fns.clamp 100 3600 2 = 1800 := by decide

end GV.Props.XlateCons
