import GrinVerif.Model.ChainStatus
import GrinVerif.Lemmas.ChainRun
/-! C03, observation point `ChainAdapter::block_accepted(status)`: theorems about
`Model/ChainStatus.lean` (`Chain::determine_status`, `Chain::is_on_current_chain`, the fork point of
`pipe::rewind_and_apply_fork`).

* forgetting the notifications, the instrumented functions ARE the functions every other theorem of
  C03 / C06 is about (`processBlockSingleEv_proj`, `checkOrphansEv_fst`, `deliverBlockEv_fst`,
  `deliverBlockEv_res`);
* the adapter is told about a block exactly when the block is accepted, as "head moved" (Next /
  Reorg) exactly when it became the head, and a refused delivery tells it nothing
  (`notified_iff_accepted`, `head_status_iff_head`, `fork_status_iff_fork`, `refused_tells_nothing`);
* the fields: the parent named is the block's parent, the head named by Fork / Reorg is the head
  before the block (`status_names_parent_and_old_head`);
* Next-versus-Reorg is decided against the HEADER chain: exact characterisation
  (`next_iff_header_slot`), agreement with "the block extends the old head" whenever the header
  chain holds the old head at its height (`extension_is_next_of_header_slot`), and two
  kernel-checked witnesses that it is NOT that in general: a plain extension of the head announced
  as a reorganisation while the header head sits on another fork (`extension_announced_as_reorg`),
  and a reorganisation announced as Next (`reorg_announced_as_next`). -/

namespace GV.Props.C03Status
open GV GV.Chain

theorem processBlockSingleEv_proj (p : Params) (n : Node) (b : Blk) :
    ((processBlockSingleEv p n b).1, (processBlockSingleEv p n b).2.1) = processBlockSingle p n b := by
  unfold processBlockSingleEv processBlockSingle
  cases processHeader p n b with
  | error e => rfl
  | ok n1 =>
    simp only
    cases precheck n1 b with
    | reject e => rfl
    | orphan => rfl
    | go par =>
      simp only
      cases checkBlock p n1 b par with
      | error e => rfl
      | ok _ => rfl

theorem processBlockSingleEv_fst (p : Params) (n : Node) (b : Blk) :
    (processBlockSingleEv p n b).1 = (processBlockSingle p n b).1 := by
  rw [← processBlockSingleEv_proj]

theorem processBlockSingleEv_res (p : Params) (n : Node) (b : Blk) :
    (processBlockSingleEv p n b).2.1 = (processBlockSingle p n b).2 := by
  rw [← processBlockSingleEv_proj]

theorem processBlockSingleEv_cases (p : Params) (n : Node) (b : Blk) :
    (∃ e, (processBlockSingle p n b).2 = .err e ∧ (processBlockSingleEv p n b).2.2 = none) ∨
    (∃ par f, b.parent = some par ∧
      (((processBlockSingle p n b).2 = .okFork ∧
          (processBlockSingleEv p n b).2.2 = some (.fork par n.head f)) ∨
       ((processBlockSingle p n b).2 = .okHead ∧
          ((processBlockSingleEv p n b).2.2 = some (.next par) ∨
           (processBlockSingleEv p n b).2.2 = some (.reorg par n.head f))))) := by
  unfold processBlockSingleEv processBlockSingle
  cases hh : processHeader p n b with
  | error e => exact .inl ⟨e, rfl, rfl⟩
  | ok n1 =>
    simp only
    cases hp : precheck n1 b with
    | reject e => exact .inl ⟨e, rfl, rfl⟩
    | orphan => exact .inl ⟨_, rfl, rfl⟩
    | go par =>
      simp only
      cases checkBlock p n1 b par with
      | error e => exact .inl ⟨e, rfl, rfl⟩
      | ok _ =>
        refine .inr ⟨par, forkPoint n1 par, ((precheck_go_iff n1 b par).mp hp).1, ?_⟩
        rw [← (CoreEq.of_header hh).head]
        simp only [determineStatus]
        rcases storeBlock_head n1 b with ⟨_, _, hr⟩ | ⟨_, _, hr⟩ <;> rw [hr]
        · exact .inl ⟨rfl, rfl⟩
        · refine .inr ⟨rfl, ?_⟩
          simp only [beq_self_eq_true, if_true]
          split
          · exact .inl rfl
          · exact .inr rfl

/-- the adapter is told about a block iff the block is accepted -/
theorem notified_iff_accepted (p : Params) (n : Node) (b : Blk) :
    (processBlockSingleEv p n b).2.2.isSome ↔ ∀ e, (processBlockSingle p n b).2 ≠ .err e := by
  rcases processBlockSingleEv_cases p n b with ⟨e, h1, h2⟩ | ⟨_, _, _, ⟨h1, h2⟩ | ⟨h1, h2 | h2⟩⟩ <;>
    rw [h1, h2]
  · exact ⟨nofun, fun h => absurd rfl (h e)⟩
  all_goals exact ⟨fun _ => nofun, fun _ => rfl⟩

/-- a refused delivery tells the adapter nothing -/
theorem refused_tells_nothing (p : Params) (n : Node) (b : Blk) (e : Err)
    (h : (processBlockSingle p n b).2 = .err e) : (processBlockSingleEv p n b).2.2 = none := by
  rcases processBlockSingleEv_cases p n b with ⟨_, _, h2⟩ | ⟨_, _, _, ⟨h1, _⟩ | ⟨h1, _⟩⟩
  · exact h2
  all_goals rw [h1] at h; cases h

/-- the status says "head moved" (Next or Reorg) iff the block became the head -/
theorem head_status_iff_head (p : Params) (n : Node) (b : Blk) :
    (∃ s, (processBlockSingleEv p n b).2.2 = some s ∧ ∀ a h f, s ≠ .fork a h f) ↔
      (processBlockSingle p n b).2 = .okHead := by
  rcases processBlockSingleEv_cases p n b with ⟨e, h1, h2⟩ | ⟨_, _, _, ⟨h1, h2⟩ | ⟨h1, h2 | h2⟩⟩ <;>
    rw [h1, h2]
  · exact ⟨fun ⟨_, h, _⟩ => (nomatch h), nofun⟩
  · exact ⟨fun ⟨_, h, hf⟩ => absurd (Option.some.inj h).symm (hf _ _ _), nofun⟩
  all_goals exact ⟨fun _ => rfl, fun _ => ⟨_, rfl, nofun⟩⟩

/-- the status is Fork iff the block was stored without becoming the head -/
theorem fork_status_iff_fork (p : Params) (n : Node) (b : Blk) :
    (∃ a h f, (processBlockSingleEv p n b).2.2 = some (.fork a h f)) ↔
      (processBlockSingle p n b).2 = .okFork := by
  rcases processBlockSingleEv_cases p n b with ⟨e, h1, h2⟩ | ⟨_, _, _, ⟨h1, h2⟩ | ⟨h1, h2 | h2⟩⟩ <;>
    rw [h1, h2]
  · exact ⟨fun ⟨_, _, _, h⟩ => (nomatch h), nofun⟩
  · exact ⟨fun _ => rfl, fun _ => ⟨_, _, _, rfl⟩⟩
  all_goals exact ⟨fun ⟨_, _, _, h⟩ => (nomatch h), nofun⟩

/-- the parent named is the block's own parent, and the head named by Fork / Reorg is the head
the node had before the block (header processing never moves the body head) -/
theorem status_names_parent_and_old_head (p : Params) (n : Node) (b : Blk) (s : BStatus)
    (h : (processBlockSingleEv p n b).2.2 = some s) :
    (∀ a, s = .next a → b.parent = some a) ∧
    (∀ a hd f, s = .fork a hd f → b.parent = some a ∧ hd = n.head) ∧
    (∀ a hd f, s = .reorg a hd f → b.parent = some a ∧ hd = n.head) := by
  rcases processBlockSingleEv_cases p n b with ⟨_, _, h2⟩ | ⟨par, f, hp, ⟨_, h2⟩ | ⟨_, h2 | h2⟩⟩ <;>
    rw [h2] at h
  · cases h
  all_goals
    cases h
    exact ⟨fun _ e => (by cases e <;> exact hp), fun _ _ _ e => (by cases e <;> exact ⟨hp, rfl⟩),
      fun _ _ _ e => (by cases e <;> exact ⟨hp, rfl⟩)⟩

/-- Next-versus-Reorg, exactly: a block that became head is announced as Next iff the old head is
not above it and the HEADER chain (the path to the header head) holds the old head at the old
head's height -/
theorem next_iff_header_slot (n1 n2 : Node) (b : Blk) (par : Nat) :
    (∃ a, determineStatus n1 n2 b par true = .next a) ↔
      (n2.heightOf n1.head ≤ b.h ∧
        (n2.headerAtHeight (n2.heightOf n1.head)).map (·.id) = some n1.head) := by
  unfold determineStatus isOnCurrentChain
  simp only [if_true]
  split
  · rename_i h
    simp only [Bool.and_eq_true, decide_eq_true_eq, beq_iff_eq] at h
    simp [h.1, h.2]
  · rename_i h
    simp only [Bool.and_eq_true, decide_eq_true_eq, beq_iff_eq] at h
    constructor
    · rintro ⟨a, ha⟩; simp at ha
    · intro hh; exact absurd hh h

/-- where the header chain holds the old head at its height (in particular whenever the header
head is the new block or a descendant of it on a consistent tree), a block that extends the old
head and became head is announced as Next with that head as parent -/
theorem extension_is_next_of_header_slot (n1 n2 : Node) (b : Blk)
    (hh : n2.heightOf n1.head ≤ b.h)
    (hs : (n2.headerAtHeight (n2.heightOf n1.head)).map (·.id) = some n1.head) :
    determineStatus n1 n2 b n1.head true = .next n1.head := by
  unfold determineStatus isOnCurrentChain
  simp [hh, hs]

/-! ### Witnesses: the announcement is decided against the header chain, not the body chain -/

private def g0 : Blk := { id := 0, parent := none, h := 0, work := 1, ver := 1, ts := 0, ins := [], outs := [(0, true)], kers := [.cb], tags := [] }
private def mk (id par h work : Nat) : Blk :=
  { id, parent := some par, h, work, ver := 1, ts := h, ins := [], outs := [(id, true)], kers := [.cb], tags := [] }

/-- body chain 0-1, header head on the sibling 2 of block 1 (heavier header, body never seen) -/
private def nA : Node :=
  { outs := [], blks := [g0, mk 1 0 1 2, mk 2 0 1 5, mk 3 1 2 3],
    headers := [0, 1, 2, 3], stored := [0, 1], head := 1, hhead := 2, orphans := [] }

/-- a plain extension of the head (block 3 on head 1) is announced as a REORGANISATION when the
header head sits on another fork -/
theorem extension_announced_as_reorg :
    determineStatus nA { nA with stored := [0, 1, 3], head := 3 } (mk 3 1 2 3) 1 true = .reorg 1 1 1 := by
  decide +kernel

/-- body head 1 with header chain 0-1-4 known by headers only; fork 0-2-3 has more work than 1 but
less than the header head 4 -/
private def nB : Node :=
  { outs := [], blks := [g0, mk 1 0 1 2, mk 4 1 2 9, mk 2 0 1 1, mk 3 2 2 3],
    headers := [0, 1, 4, 2, 3], stored := [0, 1, 2], head := 1, hhead := 4, orphans := [] }

/-- a REORGANISATION (head 1 → block 3 whose parent 2 is not the old head; fork point: the genesis)
is announced as Next, because the header chain 0-1-4 still holds the old head at height 1 -/
theorem reorg_announced_as_next :
    determineStatus nB { nB with stored := [0, 1, 2, 3], head := 3 } (mk 3 2 2 3) 2 true = .next 2 ∧
    forkPoint nB 2 = 0 := by
  decide +kernel

/-! ### `check_orphans` and `process_block` with their notifications -/

theorem checkOrphans_fold (p : Params) (fuel : Nat) (n : Node) (height : Nat) :
    checkOrphans p (fuel+1) n height =
      (let pr := n.orphans.partition (fun o => n.heightOf o == height)
       if pr.1.isEmpty then n else
       let step := pr.1.foldl (orphanStep p) ({ n with orphans := pr.2 }, none)
       match step.2 with
       | some hAcc => checkOrphans p fuel step.1 (hAcc + 1)
       | none => step.1) := rfl

theorem checkOrphansEv_succ (p : Params) (fuel : Nat) (n : Node) (height : Nat) :
    checkOrphansEv p (fuel+1) n height =
      (let pr := n.orphans.partition (fun o => n.heightOf o == height)
       if pr.1.isEmpty then (n, []) else
       let step := pr.1.foldl (orphanStepEv p) (({ n with orphans := pr.2 }, none), [])
       match step.1.2 with
       | some hAcc =>
         let r := checkOrphansEv p fuel step.1.1 (hAcc + 1)
         (r.1, step.2 ++ r.2)
       | none => (step.1.1, step.2)) := rfl

theorem orphanStepEv_fst (p : Params) (acc : (Node × Option Nat) × List Ev) (o : Nat) :
    (orphanStepEv p acc o).1 = orphanStep p acc.1 o := by
  unfold orphanStepEv orphanStep
  cases acc.1.1.blk o with
  | none => rfl
  | some b =>
    simp only
    rw [← processBlockSingleEv_proj]
    cases (processBlockSingleEv p acc.1.1 b).2.1 <;> rfl

/-- forgetting the notifications gives `checkOrphans` -/
theorem checkOrphansEv_fst (p : Params) (fuel : Nat) (n : Node) (h : Nat) :
    (checkOrphansEv p fuel n h).1 = checkOrphans p fuel n h := by
  induction fuel generalizing n h with
  | zero => rfl
  | succ k ih =>
    rw [checkOrphansEv_succ, checkOrphans_fold]
    simp only
    split
    · rfl
    · rw [foldl_proj (orphanStepEv p) Prod.fst (orphanStep p) (orphanStepEv_fst p)]
      simp only
      split
      · rw [ih]
      · rfl

/-- forgetting the notifications gives `deliverBlock`: the node -/
theorem deliverBlockEv_fst (p : Params) (n : Node) (b : Blk) :
    (deliverBlockEv p n b).1 = (deliverBlock p n b).1 := by
  unfold deliverBlockEv deliverBlock
  simp only
  rw [← processBlockSingleEv_proj]
  simp only
  cases (processBlockSingleEv p n b).2.1 <;> simp [checkOrphansEv_fst]

/-- forgetting the notifications gives `deliverBlock`: the result -/
theorem deliverBlockEv_res (p : Params) (n : Node) (b : Blk) :
    (deliverBlockEv p n b).2.1 = (deliverBlock p n b).2 := by
  unfold deliverBlockEv deliverBlock
  simp only
  rw [← processBlockSingleEv_proj]
  simp only
  cases (processBlockSingleEv p n b).2.1 <;> rfl

/-- a refused `process_block` tells the adapter nothing at all (no orphan is looked at either) -/
theorem refused_delivery_tells_nothing (p : Params) (n : Node) (b : Blk) (e : Err)
    (h : (deliverBlock p n b).2 = .err e) : (deliverBlockEv p n b).2.2 = [] := by
  have hr := deliverBlock_err_inv p n b e h
  have hn := refused_tells_nothing p n b e hr
  have hres := processBlockSingleEv_res p n b
  unfold deliverBlockEv
  simp only [hn]
  rw [hres, hr]

/-- non-vacuity: a delivery that notifies (the genesis-only node accepts block 1 as Next) -/
private def nC : Node :=
  { blks := [g0, mk 1 0 1 2], outs := [⟨0, true, GV.Gen.REWARD⟩, ⟨1, true, GV.Gen.REWARD⟩] }

example : (deliverBlockEv {} nC (mk 1 0 1 2)).2.2 = [(1, .next 0)] := by
  decide +kernel

end GV.Props.C03Status
