import GrinVerif.Model.PowPack
import GrinVerif.Gen.FnsPow
import GrinVerif.Lemmas.BasicWrap
/-! # Translated read side of the proof-nonce packing (`core/src/pow/types.rs`) = `Model/PowPack.lean`

`GV.Gen.Fns.{extract_bits, read_number, Proof_pack_len}` and `GV.Gen.Fns.proofsize`
(files `Gen/FnsPow.lean`, `Gen/FnsCons.lean`) are regenerated on every check run from the CURRENT Rust
source by `tools/rs2lean.py`.  Slices are lists, `usize` is 64 bits; `…_ok` is the generated condition
"the Rust function returns normally" (here: the slice `bits[read_from..read_from + 8]` is in range and
`copy_from_slice` gets 8 bytes).

The write side (`pack_bits`) is tied in `Props/XlatePackW.lean`, `CuckooParams::sipnode` in `Props/XlateSipnode.lean`. -/

namespace GV.Props.XlatePack
open GV GV.Gen

/-- `bits[read_from..read_from + 8]` as the model writes it -/
theorem slice_eq (bits : List Nat) (r : Nat) :
    List.drop r (List.take (r + 8) bits) = (bits.drop r).take 8 := by
  rw [List.drop_take]; congr 1; omega

/-- `extract_bits(bits, bit_start, bit_count, read_from)` = `Pow.extractBits` whenever the slice is in
range, the bit offset inside the 8-byte window is `< 64` and at most 64 bits are asked for (all callers:
`read_number` with `bit_count ≤ 63 + …`, see `read_number_eq`). -/
theorem extract_bits_eq (bits : List Nat) (bitStart bitCount readFrom : Nat)
    (hlen : readFrom + 8 ≤ bits.length) (hl : bits.length < 2^60)
    (hlo : readFrom * 8 ≤ bitStart) (hhi : bitStart < readFrom * 8 + 64) (hc : bitCount ≤ 64) :
    Fns.extract_bits bits bitStart bitCount readFrom = GV.Pow.extractBits bits bitStart bitCount readFrom := by
  have h1 : addW readFrom 8 = readFrom + 8 := addW_eq (by omega)
  have h2 : mulW readFrom 8 = readFrom * 8 := mulW_eq (by omega)
  have h3 : subW bitStart (readFrom * 8) = bitStart - readFrom * 8 := subW_eq (by omega) hlo
  unfold Fns.extract_bits GV.Pow.extractBits
  simp only [h1, h2, h3, slice_eq]
  by_cases h64 : bitCount = 64
  · simp [h64]
  · have hc' : bitCount < 64 := by omega
    have h4 : shlW 1 bitCount = 2^bitCount := shlW_one_left hc'
    have h5 : subW (2^bitCount) 1 = 2^bitCount - 1 :=
      subW_eq (Nat.lt_of_lt_of_le (Nat.pow_lt_pow_right (by omega) hc') (Nat.le_refl _)) (Nat.pow_pos (by omega))
    have h6 : shrW (ofLE ((bits.drop readFrom).take 8)) (bitStart - readFrom * 8)
        = ofLE ((bits.drop readFrom).take 8) >>> (bitStart - readFrom * 8) := shrW_eq_shiftRight (by omega)
    simp [h64, h4, h5, h6]

/-- the slice and the `copy_from_slice` of `extract_bits` do not panic iff `read_from + 8 ≤ bits.len()` -/
theorem extract_bits_ok_iff (bits : List Nat) (bitStart bitCount readFrom : Nat) (hr : readFrom + 8 < 2^64) :
    Fns.extract_bits_ok bits bitStart bitCount readFrom = decide (readFrom + 8 ≤ bits.length) := by
  have h1 : addW readFrom 8 = readFrom + 8 := addW_eq hr
  unfold Fns.extract_bits_ok
  simp only [h1, slice_eq]
  by_cases h : readFrom + 8 ≤ bits.length
  · have : ((bits.drop readFrom).take 8).length = 8 := by simp; omega
    simp [h, this]
  · simp [h]

example : Fns.extract_bits [0x34, 0x12, 0, 0, 0, 0, 0, 0, 0xff] 4 8 0 = 0x23 := by decide
example : Fns.extract_bits_ok [1, 2, 3] 0 8 0 = false := by decide

theorem extractBits_lt (bits : List Nat) (s c r : Nat) (hc : c ≠ 64) :
    GV.Pow.extractBits bits s c r < 2^c := by
  unfold GV.Pow.extractBits
  rw [if_neg hc]
  exact Nat.lt_of_le_of_lt Nat.and_le_right (Nat.sub_one_lt (Nat.ne_of_gt (Nat.pow_pos (by omega))))

/-- `(high << 8) + low` with at most 55 high bits does not wrap -/
theorem shl8_add {hi lo c : Nat} (hc : c ≤ 55) (hh : hi < 2^c) (hl : lo < 2^8) :
    addW (shlW hi 8) lo = (hi <<< 8) + lo := by
  have hp : 2^c ≤ 2^55 := Nat.pow_le_pow_right (by omega) hc
  rw [shlW_eq (by omega) (by omega), addW_eq (by omega), Nat.shiftLeft_eq]

/-- the part of `read_number` after the read window `r` has been chosen -/
theorem rn_inner (bits : List Nat) (bitStart bitCount r : Nat)
    (hr : r + 8 ≤ bits.length) (hl : bits.length < 2^60) (hlo : r * 8 ≤ bitStart)
    (hhi : bitStart < r * 8 + 64) (hc : bitCount ≤ 63)
    (hs : bitStart + bitCount ≤ bits.length * 8)
    (hw : bitStart < r * 8 + 8 ∨ bitStart + bitCount ≤ (r + 8) * 8) :
    (if decide (addW bitStart bitCount ≤ mulW (addW r 8) 8) = true then Fns.extract_bits bits bitStart bitCount r
     else addW (shlW (Fns.extract_bits bits (addW bitStart 8) (subW bitCount 8) (addW r 1)) 8)
            (Fns.extract_bits bits bitStart 8 r))
    = (if bitStart + bitCount ≤ (r + 8) * 8 then GV.Pow.extractBits bits bitStart bitCount r
       else (GV.Pow.extractBits bits (bitStart + 8) (bitCount - 8) (r + 1) <<< 8)
            + GV.Pow.extractBits bits bitStart 8 r) := by
  rw [addW_eq (by omega : r + 8 < 2^64), addW_eq (by omega : bitStart + bitCount < 2^64),
    mulW_eq (by omega : (r + 8) * 8 < 2^64)]
  by_cases hfit : bitStart + bitCount ≤ (r + 8) * 8
  · rw [if_pos (by simpa using hfit), if_pos hfit]
    exact extract_bits_eq bits bitStart bitCount r hr hl hlo hhi (by omega)
  · rw [if_neg (by simpa using hfit), if_neg hfit, addW_eq (by omega : bitStart + 8 < 2^64),
      subW_eq (by omega) (by omega : 8 ≤ bitCount), addW_eq (by omega : r + 1 < 2^64),
      extract_bits_eq bits bitStart 8 r hr hl hlo hhi (by omega),
      extract_bits_eq bits (bitStart + 8) (bitCount - 8) (r + 1) (by omega) hl (by omega) (by omega) (by omega)]
    exact shl8_add (by omega) (extractBits_lt _ _ _ _ (by omega)) (extractBits_lt _ _ _ _ (by omega))

/-- the 8-byte read window of `read_number`: the translation picks the model's, it lies inside the buffer and
starts at or before `bit_start`, at most 7 bytes before unless it is the last window -/
theorem window (bits : List Nat) (bitStart bitCount : Nat)
    (h8 : 8 ≤ bits.length) (hl : bits.length < 2^60) (hs : bitStart + bitCount ≤ bits.length * 8) :
    ∃ r, (if decide (addW (bitStart / 8) 8 > bits.length) = true then subW bits.length 8 else bitStart / 8) = r ∧
      (if bitStart / 8 + 8 > bits.length then bits.length - 8 else bitStart / 8) = r ∧
      r + 8 ≤ bits.length ∧ r * 8 ≤ bitStart ∧
      (bitStart < r * 8 + 8 ∨ bitStart + bitCount ≤ (r + 8) * 8) := by
  rw [addW_eq (by omega), subW_eq (by omega) h8]
  by_cases hb : bitStart / 8 + 8 > bits.length
  · exact ⟨bits.length - 8, if_pos (decide_eq_true hb), if_pos hb, by omega, by omega, by omega⟩
  · exact ⟨bitStart / 8, if_neg (by simpa using hb), if_neg hb, by omega, by omega, by omega⟩

/-- `read_number(bits, bit_start, bit_count)` = `Pow.readNumber` for every buffer of at least 8 bytes (the
caller `Proof::read` refuses `bytes_len < 8`), every request inside the buffer and at most 63 bits
(`edge_bits ≤ 63`; the padding check asks for `< 8` bits). -/
theorem read_number_eq (bits : List Nat) (bitStart bitCount : Nat)
    (h8 : 8 ≤ bits.length) (hl : bits.length < 2^60)
    (hs : bitStart + bitCount ≤ bits.length * 8) (hc : bitCount ≤ 63) :
    Fns.read_number bits bitStart bitCount = GV.Pow.readNumber bits bitStart bitCount := by
  unfold Fns.read_number GV.Pow.readNumber
  by_cases h0 : bitCount = 0
  · simp [h0]
  · obtain ⟨r, w1, w2, hr, hlo, hw⟩ := window bits bitStart bitCount h8 hl hs
    have hb0 : (bitCount == 0) = false := by simpa using h0
    simp only [hb0, h0, w1, w2, if_false, Bool.false_eq_true]
    exact rn_inner bits bitStart bitCount r hr hl hlo (by omega) hc hs hw

/-- `read_number` does not panic on a buffer of at least 8 bytes when the requested bits lie inside it -/
theorem read_number_ok (bits : List Nat) (bitStart bitCount : Nat)
    (h8 : 8 ≤ bits.length) (hl : bits.length < 2^60)
    (hs : bitStart + bitCount ≤ bits.length * 8) :
    Fns.read_number_ok bits bitStart bitCount = true := by
  unfold Fns.read_number_ok
  by_cases h0 : bitCount = 0
  · simp [h0]
  · obtain ⟨r, w1, _, hr, hlo, _⟩ := window bits bitStart bitCount h8 hl hs
    have hb0 : (bitCount == 0) = false := by simpa using h0
    simp only [hb0, w1, if_false, Bool.false_eq_true]
    rw [addW_eq (by omega : r + 8 < 2^64), addW_eq (by omega : r + 1 < 2^64), mulW_eq (by omega)]
    by_cases hfit : addW bitStart bitCount ≤ (r + 8) * 8
    · rw [if_pos (by simpa using hfit), extract_bits_ok_iff _ _ _ _ (by omega)]; simpa using hr
    · rw [if_neg (by simpa using hfit), extract_bits_ok_iff _ _ _ _ (by omega),
          extract_bits_ok_iff _ _ _ _ (by omega)]
      rw [addW_eq (by omega)] at hfit
      simp; omega

example : Fns.read_number [0xef, 0xcd, 0xab, 0x89, 0x67, 0x45, 0x23, 0x01, 0xff, 0x7f] 60 19 = 0x7fff0 := by
  decide
example : Fns.read_number_ok [1, 2, 3, 4, 5, 6, 7] 0 8 = false := by decide

/-- `global::proofsize()` per chain type, in terms of the regenerated constants -/
theorem proofsize_eq (c : Fns.ChainTypes) :
    Fns.proofsize c = match c with
      | .AutomatedTesting => AUTOMATED_TESTING_PROOF_SIZE
      | .UserTesting => USER_TESTING_PROOF_SIZE
      | _ => PROOFSIZE := by
  cases c <;> rfl

/-- `Proof::pack_len(bit_width) = (bit_width * proofsize + 7) / 8` = `Pow.packLen` (the product of a `u8`
and the proof size cannot wrap a `usize`) -/
theorem pack_len_eq (c : Fns.ChainTypes) (w : Nat) (hw : w < 256) :
    Fns.Proof_pack_len c w = GV.Pow.packLen w (Fns.proofsize c) := by
  have hp : Fns.proofsize c ≤ 42 := by cases c <;> decide
  unfold Fns.Proof_pack_len GV.Pow.packLen
  have hm : w * Fns.proofsize c ≤ 255 * 42 := Nat.mul_le_mul (by omega) hp
  rw [mulW_eq (by omega), addW_eq (by omega)]

example : Fns.Proof_pack_len .Mainnet 29 = 153 := by decide

end GV.Props.XlatePack
