import GrinVerif.Model.PowEntry
import GrinVerif.Model.TxBlock
import GrinVerif.Model.Pool
import GrinVerif.Gen.FnsCtx
import GrinVerif.Lemmas.BasicWrap
/-! # PoW context constructors, block kernel checks, `is_acceptable`, `Graph::new`, translated from the current source

`Gen/FnsCtx.lean` (tools/rs2lean.py): `CuckooParams::new` (core/src/pow/common.rs), `new_cuckaroo_ctx` /
`new_cuckarood_ctx` / `new_cuckaroom_ctx` / `new_cuckarooz_ctx` (the `Box<dyn PoWContext>` they return is the
one-field context struct, i.e. its `params`), `Block::verify_kernel_lock_heights` (`self.kernels()` and
`self.header.height` as parameters), `Block::verify_nrd_kernels_for_header_version`, `TransactionPool::is_acceptable`,
`Graph::new`.  Tied to `Model/PowEntry.lean` (`numEdges`, `edgeMaskRel`, `nodeBitsOf`, `graphTooBig`), `Model/TxBlock.lean`
(`verifyKernelLockHeights`, `verifyNrdForHeaderVersion`) and `Model/Pool.lean` (`TxPool.isAcceptable`). -/
namespace GV.Props.XlateCtx
open GV GV.Gen GV.Pow

/-! ## `CuckooParams::new`: a `u64` shifted by a `u8` uses the low six bits of the amount -/

theorem sub_one_pow (b : Nat) : subW (2^(b % 64)) 1 = 2^(b % 64) - 1 :=
  subW_one (Nat.pow_pos (by omega)) (Nat.pow_lt_pow_right (by omega) (Nat.mod_lt _ (by omega)))

/-- `CuckooParams::new(edge_bits, node_bits, proof_size)` never fails; `num_edges` / `edge_mask` are the model's
`numEdges` / `edgeMaskRel` for EVERY `edge_bits` (also ≥ 64: the shift amount is masked), `node_mask = 2^(node_bits % 64) - 1`,
the siphash keys start as four zeros -/
theorem CuckooParams_new_eq (eb nb ps : Nat) :
    Fns.CuckooParams_new eb nb ps =
      some { proof_size := ps, num_edges := numEdges eb, siphash_keys := [0, 0, 0, 0],
             edge_mask := edgeMaskRel eb, node_mask := 2^(nb % 64) - 1 } := by
  unfold Fns.CuckooParams_new numEdges edgeMaskRel
  simp only [GV.shlW_one_mod, sub_one_pow]
  rfl

/-- the model's `numEdges` / `edgeMaskRel` at ordinary sizes -/
example : Fns.CuckooParams_new 29 29 42 = some ⟨42, 2^29, [0, 0, 0, 0], 2^29 - 1, 2^29 - 1⟩ := by
  rw [CuckooParams_new_eq]; rfl
/-- … and at 64: `1u64 << 64` is `1` in a release build -/
example : Fns.CuckooParams_new 64 64 42 = some ⟨42, 1, [0, 0, 0, 0], 0, 0⟩ := by
  rw [CuckooParams_new_eq]; rfl

/-! ## `new_*_ctx`: which `node_bits` each variant hands to `CuckooParams::new` (`u8` arithmetic) -/

theorem new_cuckaroo_ctx_eq (eb ps : Nat) :
    Fns.new_cuckaroo_ctx eb ps = Fns.CuckooParams_new eb (nodeBitsOf .cuckaroo eb) ps := by
  unfold Fns.new_cuckaroo_ctx nodeBitsOf
  rw [CuckooParams_new_eq]

theorem new_cuckaroom_ctx_eq (eb ps : Nat) :
    Fns.new_cuckaroom_ctx eb ps = Fns.CuckooParams_new eb (nodeBitsOf .cuckaroom eb) ps := by
  unfold Fns.new_cuckaroom_ctx nodeBitsOf
  rw [CuckooParams_new_eq]

/-- `edge_bits - 1` on a `u8`: wraps to 255 at 0 -/
theorem new_cuckarood_ctx_eq (eb ps : Nat) :
    Fns.new_cuckarood_ctx eb ps = Fns.CuckooParams_new eb (nodeBitsOf .cuckarood eb) ps := by
  unfold Fns.new_cuckarood_ctx nodeBitsOf
  have e : Fns.subN 8 eb 1 = (eb + 255) % 256 := by unfold Fns.subN; omega
  rw [e, CuckooParams_new_eq]

/-- `edge_bits + 1` on a `u8`: wraps to 0 at 255 -/
theorem new_cuckarooz_ctx_eq (eb ps : Nat) :
    Fns.new_cuckarooz_ctx eb ps = Fns.CuckooParams_new eb (nodeBitsOf .cuckarooz eb) ps := by
  unfold Fns.new_cuckarooz_ctx nodeBitsOf
  have e : Fns.addN 8 eb 1 = (eb + 1) % 256 := by unfold Fns.addN; omega
  rw [e, CuckooParams_new_eq]

theorem new_ctx_ok (eb ps : Nat) :
    Fns.new_cuckaroo_ctx_ok eb ps = true ∧ Fns.new_cuckarood_ctx_ok eb ps = true ∧
    Fns.new_cuckaroom_ctx_ok eb ps = true ∧ Fns.new_cuckarooz_ctx_ok eb ps = true := by
  unfold Fns.new_cuckaroo_ctx_ok Fns.new_cuckarood_ctx_ok Fns.new_cuckaroom_ctx_ok Fns.new_cuckarooz_ctx_ok
  simp only [CuckooParams_new_eq, and_self]

example : (Fns.new_cuckarood_ctx 0 42).map (·.node_mask) = some (2^63 - 1) := by
  rw [new_cuckarood_ctx_eq 0 42, CuckooParams_new_eq]; rfl
example : (Fns.new_cuckarooz_ctx 255 42).map (·.node_mask) = some 0 := by
  rw [new_cuckarooz_ctx_eq, CuckooParams_new_eq]; rfl

/-- the generated kernel of the model's kernel `k` (features tag 2 = `HeightLocked`) -/
def toK (M : Tx.KMeta) (k : Nat) : Fns.TxKernel :=
  ⟨if M.feat k == 2 then .HeightLocked (M.fee k) (M.lock k)
   else if M.feat k == 1 then .Coinbase
   else if M.feat k == 3 then .NoRecentDuplicate (M.fee k) (M.lock k)
   else .Plain (M.fee k)⟩

theorem toK_cases (M : Tx.KMeta) (k : Nat) :
    (M.feat k = 2 ∧ toK M k = ⟨.HeightLocked (M.fee k) (M.lock k)⟩) ∨
    (M.feat k = 1 ∧ toK M k = ⟨.Coinbase⟩) ∨
    (M.feat k = 3 ∧ toK M k = ⟨.NoRecentDuplicate (M.fee k) (M.lock k)⟩) ∨
    (M.feat k ≠ 2 ∧ M.feat k ≠ 3 ∧ toK M k = ⟨.Plain (M.fee k)⟩) := by
  unfold toK
  by_cases h2 : M.feat k = 2
  · simp [h2]
  · by_cases h1 : M.feat k = 1
    · simp [h1]
    · by_cases h3 : M.feat k = 3 <;> simp [h1, h2, h3]

theorem lock_loop_eq (M : Tx.KMeta) (h : Nat) (ks : List Nat) :
    Fns.Block_verify_kernel_lock_heights_loop1 h (ks.map (toK M)) =
      (match Tx.verifyKernelLockHeights M h ks with | none => .go () | some _ => .ret none) := by
  induction ks with
  | nil => rfl
  | cons k t ih =>
    rw [List.map_cons]
    conv => lhs; unfold Fns.Block_verify_kernel_lock_heights_loop1
    unfold Tx.verifyKernelLockHeights
    rcases toK_cases M k with ⟨hf, e⟩ | ⟨hf, e⟩ | ⟨hf, e⟩ | ⟨hf, _, e⟩
    · by_cases hl : M.lock k > h <;> simp [e, hf, hl, ih]
    all_goals simp [e, hf, ih]

/-- **`verify_kernel_lock_heights` = the model**: accepted iff the model finds no height-locked kernel above the header height -/
theorem verify_kernel_lock_heights_eq (M : Tx.KMeta) (h : Nat) (ks : List Nat) :
    Fns.Block_verify_kernel_lock_heights (ks.map (toK M)) h =
      (match Tx.verifyKernelLockHeights M h ks with | none => some () | some _ => none) := by
  unfold Fns.Block_verify_kernel_lock_heights
  rw [lock_loop_eq]
  cases Tx.verifyKernelLockHeights M h ks <;> rfl

example : Fns.Block_verify_kernel_lock_heights [⟨.Plain 1⟩, ⟨.HeightLocked 2 11⟩] 10 = none := by decide
example : Fns.Block_verify_kernel_lock_heights [⟨.Plain 1⟩, ⟨.HeightLocked 2 10⟩] 10 = some () := by decide


/-! ## `Block::verify_nrd_kernels_for_header_version` (`global::is_nrd_enabled()` = the parameter `nrd_enabled`) -/

theorem is_nrd_toK (M : Tx.KMeta) (k : Nat) : Fns.TxKernel_is_nrd (toK M k).features = (M.feat k == 3) := by
  unfold Fns.TxKernel_is_nrd Fns.KernelFeatures_is_nrd
  rcases toK_cases M k with ⟨hf, e⟩ | ⟨hf, e⟩ | ⟨hf, e⟩ | ⟨_, hf, e⟩ <;> simp [e, hf]

/-- **`verify_nrd_kernels_for_header_version` = the model** (accepted iff the model answers no error) -/
theorem verify_nrd_kernels_for_header_version_eq (M : Tx.KMeta) (en : Bool) (version : Nat) (ks : List Nat) :
    Fns.Block_verify_nrd_kernels_for_header_version en (ks.map (toK M)) version =
      (match Tx.verifyNrdForHeaderVersion M en version ks with | none => some () | some _ => none) := by
  unfold Fns.Block_verify_nrd_kernels_for_header_version Tx.verifyNrdForHeaderVersion
  have hany : List.any (ks.map (toK M)) (fun k => Fns.TxKernel_is_nrd k.features) = ks.any (fun k => M.feat k == 3) := by
    rw [List.any_map]; congr 1; funext k; exact is_nrd_toK M k
  rw [hany]
  cases ks.any (fun k => M.feat k == 3) <;> cases en <;> by_cases hv : version < 4 <;> simp [hv]

example : Fns.Block_verify_nrd_kernels_for_header_version true [⟨.NoRecentDuplicate 1 5⟩] 3 = none := by decide
example : Fns.Block_verify_nrd_kernels_for_header_version true [⟨.NoRecentDuplicate 1 5⟩] 4 = some () := by decide


/-! ## `TransactionPool::is_acceptable` (fees, pool sizes and limits as parameters) -/

/-- **`is_acceptable` = the model's decision**: accepted iff `TxPool.isAcceptable` answers no error (which error —
`LowFeeTransaction` before `OverCapacity` — is pinned by the shape tables; the translation drops error identities) -/
theorem is_acceptable_eq (c : Pool.Ctx) (s : Pool.TxPool) (t : Pool.Tx) (stem : Bool) (tx : Fns.Transaction) :
    Fns.TransactionPool_is_acceptable tx stem t.shiftedFee (t.acceptFee c.cfg) s.txpool.length c.cfg.maxPool
        s.stempool.length c.cfg.maxStem =
      (match s.isAcceptable c t stem with | none => some () | some _ => none) := by
  unfold Fns.TransactionPool_is_acceptable Pool.TxPool.isAcceptable
  by_cases h1 : t.shiftedFee < t.acceptFee c.cfg
  · simp [h1]
  · by_cases h2 : s.txpool.length > c.cfg.maxPool
    · simp [h1, h2]
    · cases stem <;> by_cases h3 : s.stempool.length > c.cfg.maxStem <;> simp [h1, h2, h3]

example (tx : Fns.Transaction) : Fns.TransactionPool_is_acceptable tx true 10 5 3 50 60 50 = none := by
  simp [Fns.TransactionPool_is_acceptable]
example (tx : Fns.Transaction) : Fns.TransactionPool_is_acceptable tx false 10 5 3 50 60 50 = some () := by
  simp [Fns.TransactionPool_is_acceptable]


/-! ## `Graph::new`: the size bound reached from `CuckatooContext::new_impl` before anything is verified -/

/-- `Graph::new(max_edges, ..)` fails ("graph is to big to build") exactly when `max_edges >= u64::MAX / 2` -/
theorem Graph_new_isNone (me ms ps : Nat) :
    (Fns.Graph_new me ms ps).isNone = decide (me ≥ U64MAX / 2) := by
  unfold Fns.Graph_new
  by_cases h : me ≥ 18446744073709551615 / 2
  · have : me ≥ U64MAX / 2 := h
    simp [h, this]
  · have : ¬ me ≥ U64MAX / 2 := h
    simp [h, this]

/-- … so for `max_edges = num_edges` of `CuckooParams::new(edge_bits, ..)` it is the model's `graphTooBig edge_bits` -/
theorem Graph_new_tooBig (eb ms ps : Nat) :
    (Fns.Graph_new (numEdges eb) ms ps).isNone = graphTooBig eb := by
  rw [Graph_new_isNone]; rfl

example : (Fns.Graph_new (numEdges 63) 4 42).isNone = true := by rw [Graph_new_tooBig]; decide
example : (Fns.Graph_new (numEdges 31) 4 42).isNone = false := by rw [Graph_new_tooBig]; decide

end GV.Props.XlateCtx
