import GrinVerif.Gen.Locks
import GrinVerif.Gen.LocksNode
import GrinVerif.Lemmas.ConcGraph
import GrinVerif.Props.C17
/-! # C17 at node level — deadlock freedom from an ACYCLIC REGENERATED ORDER GRAPH

`Props/C17.lean` proves deadlock freedom for ops of chain.rs from a rank function written by hand
(`Lock.rank`) and lists as an assumption that nobody locks around the chain from outside.  A running
node does: the transaction pool lock (`servers` `ServerTxPool`), held by the pool-facing adapters WHILE
they call into the chain and taken by the callback `Chain::process_block` makes; the Dandelion epoch lock;
the pool's reorg cache; the `SyncState` locks, taken UNDER the chain's write locks through the status
object handed into `txhashset_write` / the desegmenter.

`Gen/LocksNode.lean` is regenerated on every run by `tools/gen_locks_node.py` from the servers, pool, p2p and api
crates (the entry names carry the type: `NetToChainAdapter::…`, `Peers::…`, `Stratum::…`, `api::…`) and the
chain-level table:
`nodeTable` (321 entry points with every call into the chain inlined, the chain's callback replaced by
`ChainToPoolAndNetAdapter::block_accepted`, the status calls by `SyncState::update`) and `chainTableN` (every
chain-level entry as it runs inside a node).  NO rank is written by hand: the obligation on the table is that its
ORDER GRAPH (edge `(h, l)` iff some entry acquires `l` holding `h`, over ALL paths the translator emits) is
acyclic, decided through an executable certificate (`acyclicB`: longest-path ranks computed from the graph).

NOT covered: the channels of a peer connection; text-level translation as in `Props/C17.lean`. -/
namespace GV.Props.C17Node
open GV GV.Conc GV.Gen

/-- everything a node thread can run: the node-level entry points and the chain-level ops called directly -/
def fullNodeTable : List (String × List NodeEv) := nodeTable ++ chainTableN

/-- **The order graph of the node, exactly** - 41 edges: the chain-level order (`deseg < hp < ts < batch < deny`,
`orph < hidx`), the pool lock OUTSIDE everything it nests with (`pool → hp, ts, batch, deny, reorg, dand, secp`:
the adapters call `validate_tx` & co. holding `tx_pool`; `pool → p2pPeers`: the broadcast of an
accepted transaction under the pool write lock takes p2p's `Peers.peers`), and `SyncState.current` INSIDE the
chain locks (`deseg, hp, ts, batch → syncCur`: the status callbacks of `txhashset_write` and of the desegmenter). -/
def nodeGraph : List (NLock × NLock) :=
  [(.chain .deseg, .chain .hp), (.chain .deseg, .chain .ts), (.chain .deseg, .chain .batch),
   (.chain .hp, .chain .ts), (.chain .hp, .chain .batch), (.chain .ts, .chain .batch),
   (.chain .hp, .chain .deny), (.chain .ts, .chain .deny), (.chain .batch, .chain .deny),
   (.chain .orph, .chain .hidx),
   (.chain .deseg, .syncCur), (.chain .hp, .syncCur), (.chain .ts, .syncCur), (.chain .batch, .syncCur),
   (.pool, .chain .hp), (.pool, .chain .ts), (.pool, .chain .batch), (.pool, .chain .deny),
   (.pool, .reorg), (.pool, .dand), (.pool, .secp), (.pool, .p2pPeers),
   -- the Mutexes of one Peer (send under the pool / Dandelion lock, stop under Peers.peers)
   (.pool, .peerSend), (.pool, .peerStop), (.dand, .peerSend), (.p2pPeers, .peerStop),
   -- the stratum server holds `current_state` ACROSS Chain::process_block (handle_submit) and
   -- across mine_block::get_block (run): it is outside the pool lock and every chain lock
   (.stratumState, .pool), (.stratumState, .chain .hp), (.stratumState, .chain .ts), (.stratumState, .chain .batch),
   (.stratumState, .chain .deny), (.stratumState, .chain .orph), (.stratumState, .chain .hidx),
   (.stratumState, .reorg), (.stratumState, .secp), (.stratumState, .p2pPeers), (.stratumState, .peerSend),
   (.stratumState, .peerStop), (.stratumState, .stratumStats), (.stratumState, .stratumWorkers),
   (.stratumStats, .stratumWorkers)]

end GV.Props.C17Node
namespace GV.Conc

/-- a numbering of the node-level locks (bit positions for `scanFrom`) -/
def NLock.idx : NLock → Nat
  | .chain .orph => 0 | .chain .hidx => 1 | .chain .segm => 2 | .chain .deseg => 3
  | .chain .hp => 4 | .chain .ts => 5 | .chain .batch => 6 | .chain .deny => 7
  | .pool => 8 | .reorg => 9 | .dand => 10 | .secp => 11 | .syncCur => 12 | .syncErr => 13 | .syncSegs => 14
  | .p2pPeers => 15 | .p2pBlocked => 16 | .p2pPeerData => 17
  | .stratumState => 18 | .stratumWorkers => 19 | .stratumStats => 20 | .peerState => 21 | .peerSend => 22
  | .peerStop => 23 | .peerTrack => 24

def NLock.ofIdx : Nat → NLock
  | 0 => .chain .orph | 1 => .chain .hidx | 2 => .chain .segm | 3 => .chain .deseg
  | 4 => .chain .hp | 5 => .chain .ts | 6 => .chain .batch | 7 => .chain .deny
  | 8 => .pool | 9 => .reorg | 10 => .dand | 11 => .secp | 12 => .syncCur | 13 => .syncErr | 14 => .syncSegs
  | 15 => .p2pPeers | 16 => .p2pBlocked | 17 => .p2pPeerData
  | 18 => .stratumState | 19 => .stratumWorkers | 20 => .stratumStats | 21 => .peerState | 22 => .peerSend
  | 23 => .peerStop | _ => .peerTrack

theorem NLock.ofIdx_idx (a : NLock) : NLock.ofIdx a.idx = a := by
  cases a with
  | chain l => cases l <;> rfl
  | _ => rfl

theorem NLock.idx_inj (a b : NLock) (h : a.idx = b.idx) : a = b := by
  rw [← NLock.ofIdx_idx a, ← NLock.ofIdx_idx b, h]

theorem NLock.idx_lt (a : NLock) : a.idx < 32 := by
  cases a with
  | chain l => cases l <;> decide
  | _ => decide

end GV.Conc
namespace GV.Props.C17Node
open GV GV.Conc GV.Gen

/-- The whole table in one pass (`scanFrom`): every entry well bracketed, and the edges it contributes are, all
together, those of `nodeGraph`. -/
theorem node_table_scan : tableMask NLock.idx fullNodeTable = some (graphMask NLock.idx nodeGraph) := by
  decide +kernel

/-- every entry releases only what it holds and ends holding nothing -/
theorem node_table_bracketed : ∀ e ∈ fullNodeTable, bracketedFrom [] e.2 = true :=
  (tableMask_sound NLock.idx_inj NLock.idx_lt _ _ node_table_scan).1

/-- **The order graph regenerated from /repo is exactly `nodeGraph`.**  A change in /repo that adds a
nesting (or removes one) breaks this theorem even when the graph stays acyclic. -/
theorem node_order_graph_is (e : NLock × NLock) : e ∈ orderGraph fullNodeTable ↔ e ∈ nodeGraph :=
  (tableMask_sound NLock.idx_inj NLock.idx_lt _ _ node_table_scan).2 e

/-- **The order graph of the node is acyclic**: the certificate (longest-path ranks COMPUTED from the graph,
no hand-written rank) accepts it; hence there is no directed cycle of any length through the entries of the
table - no re-acquisition (self-loop), no inversion (2-cycle), no longer cycle. -/
theorem node_order_graph_acyclic :
    acyclicB nodeGraph = true ∧ ∀ a, ¬ Path (orderGraph fullNodeTable) a a := by
  -- the longest chain of nestings has five edges (`stratumState → pool → hp → ts → batch → deny`): the
  -- computed ranks are stable after five relaxation rounds
  have hc : acyclicB nodeGraph = true := acyclicB_of_stable nodeGraph 5 (by decide +kernel)
  exact ⟨hc, fun a hp => acyclicB_no_cycle nodeGraph hc a (hp.mono fun e => (node_order_graph_is e).1)⟩

/-- The pool lock is outermost but for the stratum server: it is acquired holding nothing, or holding the
stratum `current_state` only (handle_submit keeps it across `Chain::process_block`, whose callback locks the
pool; run keeps it across `mine_block::get_block`) — in particular `Chain::process_block` reaches
`block_accepted` holding no chain lock and no pool-facing adapter calls `process_block` under the pool
lock.  Nothing is acquired under the `SyncState` locks, `secp`, `reorg`, p2p's `blocked` / per-peer data locks,
the Mutexes of a `Peer`, the tracking caches, the stratum worker list: leaves. -/
theorem pool_outermost_sync_leaves :
    (∀ e ∈ orderGraph fullNodeTable, e.2 = NLock.pool → e.1 = .stratumState) ∧
    (∀ e ∈ orderGraph fullNodeTable, e.2 ≠ NLock.stratumState) ∧
    (∀ e ∈ orderGraph fullNodeTable,
      e.1 ≠ .syncCur ∧ e.1 ≠ .syncErr ∧ e.1 ≠ .syncSegs ∧ e.1 ≠ .secp ∧ e.1 ≠ .reorg ∧
      e.1 ≠ .p2pBlocked ∧ e.1 ≠ .p2pPeerData ∧ e.1 ≠ .peerState ∧ e.1 ≠ .peerSend ∧ e.1 ≠ .peerStop ∧
      e.1 ≠ .peerTrack ∧ e.1 ≠ .stratumWorkers) := by
  simp only [node_order_graph_is]
  decide

/-- The callback of the chain, resolved: inside a node `Chain::process_block` is the only chain-level
entry that takes the pool lock (through `ChainToPoolAndNetAdapter::block_accepted`). -/
theorem only_process_block_takes_pool :
    (chainTableN.filter (fun e => e.2.any (fun ev => match ev with | .acq .pool _ => true | _ => false))).map (·.1)
      = ["Chain::process_block"] := by
  decide +kernel

/-- **p2p's own locks** (`impl Peers` of p2p/src/peers.rs is translated, `self.peers().op(..)` /
`self.peers.op(..)` inline `Peers::op`): `Peers.peers`, `Peers.blocked` and the per-peer data locks are acquired
holding nothing, the pool write lock or the stratum `current_state` lock only - never under a chain lock or a
`SyncState` lock; the send / stop Mutexes of a `Peer` also under `dand` or `Peers.peers`.  (`blocked` and the per-peer
data locks are leaves: `pool_outermost_sync_leaves`.)  No unresolved call into `Peers` is left in the
table; what remains outside is a call on a single `Peer` (`send_*`: its
`send_handle` Mutex and the connection's channel), which the translator does not mark. -/
theorem p2p_locks_under_at_most_pool :
    (∀ e ∈ orderGraph fullNodeTable,
      (e.2 = .p2pPeers ∨ e.2 = .p2pBlocked ∨ e.2 = .p2pPeerData) → (e.1 = NLock.pool ∨ e.1 = .stratumState)) ∧
    (∀ e ∈ orderGraph fullNodeTable, (e.2 = .peerSend ∨ e.2 = .peerStop) →
      (e.1 = NLock.pool ∨ e.1 = .stratumState ∨ e.1 = .dand ∨ e.1 = .p2pPeers)) ∧
    (∀ e ∈ fullNodeTable, marksUnder .callback (fun _ => false) [] e.2 = true) := by
  simp only [node_order_graph_is]
  decide +kernel

/-- The sync runners and the p2p-facing entry points are in the table, and the ones that
move the chain do take its write locks. -/
theorem sync_and_p2p_entries_present :
    (∀ n ∈ ["SyncRunner::sync_loop", "HeaderSync::check_run", "BodySync::check_run", "StateSync::check_run",
            "StateSync::continue_pibd", "Peers::block_received", "Peers::transaction_received",
            "Peers::headers_received", "Peers::header_received", "Peers::broadcast_transaction",
            "Peers::broadcast_header", "Peers::ban_peer", "Peers::check_all", "Peers::clean_peers",
            "Stratum::handle_submit", "Stratum::run", "Miner::run_loop", "api::PoolHandler::push_transaction",
            "api::PoolPushHandler::post", "api::ChainCompactHandler::post", "api::OutputHandler::outputs_by_ids",
            "api::TxHashSetHandler::get_merkle_proof_for_output", "TrackingAdapter::block_received", "Peer::send_header",
            "Peer::stop"],
      (fullNodeTable.lookup n).isSome = true) ∧
    (∀ n ∈ ["Peers::block_received", "Peers::headers_received", "StateSync::check_run", "SyncRunner::sync_loop"],
      (fullNodeTable.lookup n).map (fun p => p.any (fun ev => match ev with | .acq (.chain .ts) .W => true | _ => false)) = some true) := by
  decide +kernel

def projEv : NodeEv → Option LockEv
  | .acq (.chain l) m => some (.acq l m)
  | .rel (.chain l) => some (.rel l)
  | .mark k => some (.mark k)
  | _ => none

def unresolved : LockEv → Bool
  | .mark .callback => false
  | .mark .status => false
  | _ => true

/-- The two generated tables agree: erasing the node-level events from `chainTableN` gives back the
chain-level table of `Gen/Locks.lean` (without its `!callback` / `!status` marks, which `chainTableN`
resolves), entry by entry, in order — for every entry but `process_block`, whose callback is replaced by
the whole of `block_accepted` (chain-level events included: `only_process_block_takes_pool`). -/
theorem chainTableN_projects_to_lockTable :
    (chainTableN.filter (fun e => e.1 != "Chain::process_block")).map (fun e => (e.1, (e.2.filterMap projEv).filter unresolved)) =
      (lockTable.filter (fun e => e.1 != "process_block")).map (fun e => ("Chain::" ++ e.1, e.2.filter unresolved)) ∧
    chainTableN.map (·.1) = lockTable.map (fun e => "Chain::" ++ e.1) := by
  decide +kernel

/-- every chain op the node-level code calls is an entry of the chain-level table -/
theorem chain_ops_reached_present : ∀ n ∈ chainOpsReached, (lockTable.lookup n).isSome = true := by
  decide +kernel

/-- The entry points the harness run `node` drives are in the table,
and the pool-facing ones do take the pool lock. -/
theorem node_harness_ops_present :
    (∀ n ∈ ["NetToChainAdapter::transaction_received", "NetToChainAdapter::block_received",
            "NetToChainAdapter::header_received", "NetToChainAdapter::headers_received",
            "NetToChainAdapter::locate_headers", "NetToChainAdapter::get_transaction",
            "NetToChainAdapter::tx_kernel_received", "NetToChainAdapter::txhashset_write",
            "NetToChainAdapter::receive_bitmap_segment", "ChainToPoolAndNetAdapter::block_accepted",
            "mine_block::build_block", "dandelion_monitor::process_fluff_phase",
            "dandelion_monitor::process_expired_entries", "SyncState::update", "SyncState::status",
            "SyncState::is_syncing", "Chain::process_block", "Chain::validate_tx", "Chain::compact"],
      (fullNodeTable.lookup n).isSome = true) ∧
    (∀ n ∈ ["NetToChainAdapter::transaction_received", "ChainToPoolAndNetAdapter::block_accepted",
            "NetToChainAdapter::block_received", "mine_block::build_block",
            "dandelion_monitor::process_fluff_phase", "dandelion_monitor::process_expired_entries",
            "Chain::process_block"],
      (fullNodeTable.lookup n).map (fun p => p.any (fun ev => match ev with | .acq .pool _ => true | _ => false)) = some true) := by
  decide +kernel

/-- **An api call is not one view.**  For every entry point of the node's public api objects
(`api/src/{foreign,owner}.rs`, with the handlers, `api/src/types.rs` printable constructors and the chain ops
they call inlined): the number of separate holds of `header_pmmr` / `txhashset` it takes = the number of views of
the chain state it combines (an upper bound: alternatives are emitted one after the other).  In particular
`get_unspent_outputs` = the listing under ONE hold + one look-up per listed output under a hold of its own
(`OutputPrintable::from_output` -> `Chain::get_unspent`; + the Merkle-proof extension when asked for): the position
it prints for an output may belong to a later committed state than the listing - why the paging oracle of the runs
`torn` / `node` judges a page call against committed states per ITEM, and accepts a repeated (commitment, position)
in a page sequence when the head moved.  The single-hold and lock-free
entries (`get_tip`, the pool sizes, `validate_chain`, `reset_chain_head` …) are one view.  A change that makes an
entry combine more (or fewer) views breaks the theorem. -/
theorem api_entry_views :
    ∀ nk ∈ [("api::Foreign::get_header", 7),
       ("api::Foreign::get_block", 9),
       ("api::Foreign::get_blocks", 9),
       ("api::Foreign::get_version", 0),
       ("api::Foreign::get_tip", 0),
       ("api::Foreign::get_kernel", 4),
       ("api::Foreign::get_outputs", 8),
       ("api::Foreign::get_unspent_outputs", 3),
       ("api::Foreign::get_pmmr_indices", 2),
       ("api::Foreign::get_pool_size", 0),
       ("api::Foreign::get_stempool_size", 0),
       ("api::Foreign::get_unconfirmed_transactions", 0),
       ("api::Foreign::push_transaction", 10),
       ("api::Owner::get_status", 0),
       ("api::Owner::validate_chain", 1),
       ("api::Owner::compact_chain", 2),
       ("api::Owner::reset_chain_head", 1),
       ("api::Owner::invalidate_header", 0),
       ("api::Owner::get_peers", 0),
       ("api::Owner::get_connected_peers", 0),
       ("api::Owner::ban_peer", 0),
       ("api::Owner::unban_peer", 0)],
      (fullNodeTable.lookup nk.1).map nodeHolds = some nk.2 := by
  decide +kernel

/-- the hold counter sees what it should -/
example : nodeHolds [.acq (.chain .ts) .R, .rel (.chain .ts), .acq .pool .R, .acq (.chain .hp) .R, .acq (.chain .ts) .R,
    .rel (.chain .ts), .rel (.chain .hp), .rel .pool] = 2 := by decide

/-- the table is not trivial: more than 100 acquisitions of node-level locks -/
example : ((fullNodeTable.flatMap (·.2)).filter (fun ev => match ev with
    | .acq (.chain _) _ => false | .acq _ _ => true | _ => false)).length ≥ 100 := by decide +kernel

/-! ## the certificate rejects what it should -/

example : acyclicB [(Lock.hp, Lock.ts), (Lock.ts, Lock.hp)] = false := by decide
example : acyclicB [(Lock.ts, Lock.ts)] = false := by decide
example : acyclicB [(Lock.hp, Lock.ts), (Lock.ts, Lock.batch), (Lock.batch, Lock.hp)] = false := by decide
example : acyclicB [(Lock.hp, Lock.ts), (Lock.ts, Lock.batch), (Lock.hp, Lock.batch)] = true := by decide
/-- a pool-facing op calling into the chain while the chain's callback takes the pool lock UNDER a chain
lock (what `table_callbacks_unlocked` + `pool_outermost_sync_leaves` exclude) would be a cycle -/
example : acyclicB (orderGraph [("tx", [Ev.acq NLock.pool .W, .acq (.chain .ts) .R, .rel (.chain .ts), .rel .pool]),
                                ("blk", [.acq (.chain .ts) .W, .acq .pool .W, .rel .pool, .rel (.chain .ts)])]) = false := by
  decide
/-- edges of a program: held × acquired, a re-acquisition is a self-loop -/
example : edgesFrom [] [Ev.acq Lock.hp .W, .acq .ts .W, .rel .ts, .acq .batch .W, .rel .batch, .rel .hp]
    = [(.hp, .ts), (.hp, .batch)] := by decide
example : edgesFrom [] [Ev.acq Lock.ts .R, .acq .ts .R] = [(.ts, .ts)] := by decide

section
variable {L : Type} [DecidableEq L]

/-- **No reachable deadlock when the order graph is acyclic.**  Any lock alphabet, any number of threads,
any admissible writer-preference policy: if every program is well bracketed and every edge it
contributes to the order graph (over all its acquisitions) lies in a graph `G` that passes the
acyclicity certificate, then no reachable state is deadlocked.  (No rank function is assumed: it is
computed from `G`.) -/
theorem deadlock_free_of_acyclic_order_graph (P : Policy L) (hP : PolicyOK P) (G : List (L × L))
    (hG : acyclicB G = true) (progs : List (List (Ev L)))
    (hb : ∀ p ∈ progs, bracketedFrom [] p = true) (hsub : ∀ p ∈ progs, ∀ e ∈ edgesFrom [] p, e ∈ G)
    (s : State L) (hr : Reach P (init progs) s) : ¬ Deadlocked P s :=
  GV.Props.C17.deadlock_free (rankOf (computeRank G)) P hP progs
    (fun p hp => checkFrom_of_graph G hG p (hb p hp) (hsub p hp)) s hr

/-- what the certificate means: a certified graph has no directed cycle of any length -/
theorem certified_graph_has_no_cycle (G : List (L × L)) (hG : acyclicB G = true) (a : L) : ¬ Path G a a :=
  acyclicB_no_cycle G hG a

/-- the rank discipline of `Props/C17` and the order-graph formulation are the same thing -/
theorem discipline_iff_graph (rank : L → Nat) (p : List (Ev L)) :
    checkFrom rank [] p = true ↔ (bracketedFrom [] p = true ∧ ∀ e ∈ edgesFrom [] p, rank e.1 < rank e.2) :=
  checkFrom_iff_edges rank p []

end

/-- non-vacuity: three well-bracketed programs whose joint order graph is certified -/
example : (∀ p ∈ [[Ev.acq NLock.pool .W, .acq (.chain .hp) .R, .acq (.chain .ts) .R, .rel (.chain .ts), .rel (.chain .hp), .rel .pool],
                  [.acq (.chain .hp) .W, .acq (.chain .ts) .W, .acq .syncCur .W, .rel .syncCur, .rel (.chain .ts), .rel (.chain .hp)],
                  [.acq .pool .R, .rel .pool]], bracketedFrom [] p = true) ∧
    acyclicB [(NLock.pool, NLock.chain .hp), (.pool, .chain .ts), (.chain .hp, .chain .ts), (.chain .hp, .syncCur), (.chain .ts, .syncCur)] = true := by
  decide

/-- **Node-level deadlock freedom**: any number of threads, each running any sequence of entry points of
the regenerated node table (peers delivering blocks / headers / transactions / segments through
`NetToChainAdapter`, the chain's callback into the pool, the miner's `build_block`, the Dandelion
monitor, `SyncState` users, and every chain-level op called directly), under strict writer preference:
no reachable state is deadlocked. -/
theorem node_ops_deadlock_free (threads : List (List String))
    (hknown : ∀ th ∈ threads, ∀ n ∈ th, (fullNodeTable.lookup n).isSome = true) (s : State NLock)
    (hr : Reach strictWP (init (threads.map (fun th => (th.map (fun n => (fullNodeTable.lookup n).getD [])).flatten))) s) :
    ¬ Deadlocked strictWP s :=
  GV.Props.C17.deadlock_free (rankOf (computeRank nodeGraph)) strictWP (fun _ _ _ h => h) _
    (checkFrom_threads _ fullNodeTable
      (fun t ht => checkFrom_of_graph nodeGraph node_order_graph_acyclic.1 t.2 (node_table_bracketed t ht)
        fun e he => (node_order_graph_is e).1 (edge_mem_orderGraph _ t.1 t.2 ht e he))
      threads) s hr

/-- non-vacuity of `node_ops_deadlock_free`: a four-thread instance whose ops are all in the table -/
example : ∀ th ∈ [["NetToChainAdapter::block_received", "NetToChainAdapter::transaction_received"],
                  ["NetToChainAdapter::transaction_received", "mine_block::build_block"],
                  ["dandelion_monitor::process_fluff_phase", "Chain::compact"],
                  ["NetToChainAdapter::txhashset_write", "SyncState::status"]],
    ∀ n ∈ th, (fullNodeTable.lookup n).isSome = true := by
  -- the eight names are among those of `node_harness_ops_present`
  intro th hth n hn
  refine node_harness_ops_present.1 n ?_
  revert th n
  decide +kernel

/-- `enabledG`'s test for "`u` waits to write-lock `l`" (the `match` in its body) is the `head?` equation of `strictWP` -/
theorem wantsW_iff {L : Type} [DecidableEq L] (u : Thread L) (l : L) :
    (match u.prog with | .acq l' .W :: _ => decide (l' = l) | _ => false) = true ↔
      u.prog.head? = some (.acq l .W) := by
  obtain ⟨uprog, uheld⟩ := u
  cases uprog with
  | nil => simp
  | cons e r =>
    cases e with
    | acq l' m' =>
      cases m' with
      | R => simp
      | W => simp
    | rel _ => simp
    | mark _ => simp

/-- The executable enabledness test of the driver's node-level replay (`conc nodesim`) decides the
`Enabled` relation of the transition system under strict writer preference, for any alphabet. -/
theorem driver_node_scheduler_is_model {L : Type} [DecidableEq L] (s : State L) (i : Nat) :
    enabledG s i = true ↔ Enabled strictWP s i := by
  unfold enabledG
  cases hsi : s[i]? with
  | none => simp [Enabled, hsi]
  | some t =>
    cases hp : t.prog with
    | nil => simp [Enabled, hsi, hp]
    | cons e rest =>
      rw [enabled_iff hsi hp]
      cases e with
      | acq l m =>
        cases m with
        | W => simp [EvEnabled, hp]
        | R =>
          simp only [hp, EvEnabled, Bool.and_eq_true, List.all_eq_true, Bool.not_eq_true', decide_eq_false_iff_not,
            List.any_eq_false, strictWP, not_exists, not_and]
          constructor
          · rintro ⟨h1, h2⟩
            exact ⟨fun u hu hm => h1 u hu _ hm rfl, fun u hu hh => h2 u hu ((wantsW_iff u l).2 hh)⟩
          · rintro ⟨h1, h2⟩
            exact ⟨fun u hu h hh heq => h1 u hu (heq ▸ hh), fun u hu hh => h2 u hu ((wantsW_iff u l).1 hh)⟩
      | rel l => simp [EvEnabled, hp]
      | mark k => simp [EvEnabled, hp]

end GV.Props.C17Node
