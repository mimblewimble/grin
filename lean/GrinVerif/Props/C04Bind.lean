import GrinVerif.Props.C04
import GrinVerif.Props.C05Entry
/-! # C04 — a known hash cannot move the head: what the binding hypothesis consists of

`Props/C04.lean known_hash_cannot_move_head_partial` takes the binding property of the cycle
verifier as ONE hypothesis (`hbind`: the stored header `k` and the re-sent copy `k'` of the same
hash cannot both pass the verifier unless they are the same header).  Here that hypothesis is
derived from what a header is made of (`core/src/core/block.rs`: `BlockHeader::pre_pow()`,
`impl Hashed for BlockHeader` = hash of the packed proof nonces; `pow::verify_size`), with the
cryptographic parts stated explicitly and separately FOR THE TWO HEADERS AT HAND:

* `hash_cf` — collision-freedom of the header hash (blake2b over the packed nonces, whose byte
  length fixes the bit width for the widths `Proof::read` lets through): equal hashes ⇒ equal edge bits,
  equal nonces, equal 64-bit hash prefix;
* `keys_cf` — collision-freedom of the graph seed (blake2b over `pre_pow`): equal siphash keys ⇒
  equal pre-PoW bytes;
* `graph` — one proof does not close a cycle in two differently seeded graphs: if the SAME nonces
  at the SAME edge bits pass `pow::verify_size` (the C05 model over the whole `u8` range,
  `Model/PowEntry.lean`) under both pre-PoW contents, the two contents have the same siphash keys
  (this is not a hash collision: it is the proof-of-work assumption itself — finding a second seed
  for a given cycle is as hard as mining);
* `content` — `pre_pow` serialises every field the rules read except edge bits, nonces and the
  values derived from them (a fact about `write_pre_pow`, run `cons known` compares the bytes).

With these, `known_hash_cannot_move_head_bound` is the statement of the property's clause for real
proof of work with nothing left abstract about the verifier; under `Options::SKIP_POW` the
statement is false (`Props.C04.known_hash_moves_head_under_skip_pow`). -/
namespace GV.Props.C04Bind
open GV GV.Gen GV.Cons GV.Props.C04

/-- what a delivered header consists of beyond the fields the rules read: the bytes the graph is
seeded with and the proof nonces -/
structure Wire where
  prePow : Bytes
  nonces : List Nat

/-- `pow::verify_size` on a delivery (`FHdr.powOk` computed) -/
def powOkOf (ct : ChainType) (f : FHdr) (w : Wire) : Bool :=
  decide (Pow.verifySizeEntry (powCt ct) f.h.height f.h.edgeBits w.prePow w.nonces = .ok ())

/-- the binding hypotheses for one pair of deliveries -/
structure Binding (ct : ChainType) (a b : FHdr) (wa wb : Wire) : Prop where
  pow_a : a.powOk = powOkOf ct a wa
  pow_b : b.powOk = powOkOf ct b wb
  hash_cf : a.hash = b.hash →
    a.h.edgeBits = b.h.edgeBits ∧ wa.nonces = wb.nonces ∧ a.h.hash64 = b.h.hash64
  keys_cf : Pow.keysOfHeader wa.prePow none = Pow.keysOfHeader wb.prePow none → wa.prePow = wb.prePow
  graph : ∀ ns eb,
    Pow.verifySizeEntry (powCt ct) a.h.height eb wa.prePow ns = .ok () →
    Pow.verifySizeEntry (powCt ct) b.h.height eb wb.prePow ns = .ok () →
    Pow.keysOfHeader wa.prePow none = Pow.keysOfHeader wb.prePow none
  content : wa.prePow = wb.prePow → a.h.edgeBits = b.h.edgeBits → a.h.hash64 = b.h.hash64 →
    SameContent a b

/-- **The verifier binds a hash to one header content**: two deliveries of the same hash that both
pass `pow::verify_size` are the same header. -/
theorem binding_same_content (ct : ChainType) (a b : FHdr) (wa wb : Wire)
    (B : Binding ct a b wa wb) (hh : a.hash = b.hash)
    (ha : a.powOk = true) (hb : b.powOk = true) : SameContent a b := by
  obtain ⟨heb, hns, h64⟩ := B.hash_cf hh
  have va : Pow.verifySizeEntry (powCt ct) a.h.height a.h.edgeBits wa.prePow wa.nonces = .ok () := by
    have := B.pow_a; rw [ha] at this; exact of_decide_eq_true this.symm
  have vb : Pow.verifySizeEntry (powCt ct) b.h.height b.h.edgeBits wb.prePow wb.nonces = .ok () := by
    have := B.pow_b; rw [hb] at this; exact of_decide_eq_true this.symm
  rw [← heb, ← hns] at vb
  exact B.content (B.keys_cf (B.graph _ _ va vb)) heb h64

/-- **`known_hash_cannot_move_head` for real proof of work.**  A batch — any prefix `pre`, honest or
not — whose last header `k'` has a hash that is already stored (as `k`) with different fields is
refused as a whole: `header_head`, `head`, the header MMR and the stored header for that hash are
exactly what they were.  Hypotheses: no `SKIP_POW`; the stored copy is one that passed the verifier;
`Binding` (collision-freedom of the two blake2b uses, one proof does not fit two graphs); `hkh` follows
from `hstored` (`getHdr_hash`). -/
theorem known_hash_cannot_move_head_bound (n : HNode) (opts : Opts) (hs : opts.skipPow = false)
    (sh : Tip) (pre : List FHdr) (k' k : FHdr) (w' w : Wire)
    (hstored : getHdr n.hdrs k'.hash = some k) (hkh : k.hash = k'.hash)
    (hdiff : ¬ SameContent k' k) (hk : k.powOk = true) (B : Binding n.ct k' k w' w) :
    (∃ e, processBlockHeaders n opts sh (pre ++ [k']) = .error e) ∧
    syncStep n opts sh (pre ++ [k']) = n ∧
    (syncStep n opts sh (pre ++ [k'])).headerHead.totalDiff = n.headerHead.totalDiff ∧
    getHdr (syncStep n opts sh (pre ++ [k'])).hdrs k'.hash = some k :=
  known_hash_cannot_move_head_partial n opts hs sh pre k' k hstored hdiff hk
    (fun hk1 hk2 => binding_same_content n.ct k' k w' w B hkh.symm hk2 hk1)

/-- the contrapositive the node relies on: a re-sent copy with any changed field does not pass the
verifier -/
theorem mutated_copy_fails_pow (ct : ChainType) (k' k : FHdr) (w' w : Wire)
    (B : Binding ct k' k w' w) (hh : k'.hash = k.hash) (hk : k.powOk = true)
    (hdiff : ¬ SameContent k' k) : k'.powOk = false := by
  cases hp : k'.powOk with
  | false => rfl
  | true => exact absurd (binding_same_content ct k' k w' w B hh hp hk) hdiff

/-! ### the C04 model of `pow::verify_size` is the C05 entry model on every size the wire can carry

`Model/ConsNet.lean verifySizeHdr` (what `UntrustedBlockHeader::read` and the pipeline's
`pow_verifier` are modelled with) accepts exactly what `Pow.verifySizeEntry` accepts, for every
`edge_bits` `Proof::read` lets through (1..=63); so `Props.C05Entry.verify_size_accepts_exactly_cycles`
speaks about the header rules' verifier. -/

theorem consGraphTooBig_eq (eb : Nat) (h : eb ≤ 63) : Cons.graphTooBig eb = Pow.graphTooBig eb := by
  unfold Cons.graphTooBig Pow.graphTooBig Pow.numEdges
  rw [Nat.mod_eq_of_lt (by omega)]

theorem consGraphTooBig_iff (eb : Nat) (h : eb ≤ 63) : Cons.graphTooBig eb = true ↔ eb = 63 := by
  rw [consGraphTooBig_eq eb h, GV.Props.C05Entry.graphTooBig_iff, Nat.mod_eq_of_lt (by omega)]

theorem verifySizeHdr_ok_iff_entry (ct : ChainType) (n : NetHdr)
    (h1 : 1 ≤ n.h.edgeBits) (h2 : n.h.edgeBits ≤ 63) :
    verifySizeHdr ct n = .ok () ↔
      Pow.verifySizeEntry (powCt ct) n.h.height n.h.edgeBits n.prePow n.nonces = .ok () := by
  by_cases h63 : n.h.edgeBits = 63
  · have hsel : Pow.selectVariant (powCt ct) n.h.height n.h.edgeBits = some .cuckatoo := by
      rw [h63]; cases ct <;> simp [powCt, Pow.selectVariant]
    have hl : verifySizeHdr ct n = .error .graphTooBig := by
      unfold verifySizeHdr
      rw [hsel]
      simp only
      rw [if_pos ((consGraphTooBig_iff _ h2).mpr h63)]
    have hr := GV.Props.C05Entry.entry_eb63_refused (powCt ct) n.h.height n.h.edgeBits n.prePow n.nonces
      (by rw [h63])
    rw [hl, hr]
    constructor <;> intro h <;> cases h
  · have hle : n.h.edgeBits ≤ 62 := by omega
    have hnb : Cons.graphTooBig n.h.edgeBits = false := by
      cases hb : Cons.graphTooBig n.h.edgeBits with
      | false => rfl
      | true => exact absurd ((consGraphTooBig_iff _ h2).mp hb) h63
    rw [GV.Props.C05Entry.entry_eq_verifySize (powCt ct) n.h.height n.h.edgeBits n.prePow n.nonces h1 hle]
    unfold verifySizeHdr
    rw [hnb]
    generalize Pow.verifySize (powCt ct) n.h.height n.h.edgeBits n.prePow n.nonces = r
    cases Pow.selectVariant (powCt ct) n.h.height n.h.edgeBits with
    | none => rcases r with (_ | e) | ⟨⟩ <;> simp
    | some v => cases v <;> rcases r with (_ | e) | ⟨⟩ <;> simp

/-! ### non-vacuity of the `pow_a` / `pow_b` clauses and of the side hypotheses

`exK` (stored) and `exK'` (same hash 101, total difficulty changed to 50).  Wire contents: the genuinely
mined AutomatedTesting header of `Props/C05Entry.lean` for `exK`; for the mutated copy the same
nonces over pre-PoW bytes that differ in one byte (the verifier refuses them: `decide`).  No term of
type `Binding` is built: its `graph` and `keys_cf` clauses are assumptions about blake2b / the cycle
search. -/

/-- a stored header that passed the verifier, and its wire content -/
def exK : FHdr := ⟨101, 100, ⟨0, 1060, 1, 4, 19, 10, 2^60, 3, 3⟩, 2, true, true⟩
def exW : Wire := ⟨GV.Props.C05Entry.exPre, GV.Props.C05Entry.exNonces⟩
/-- the copy: same hash, same nonces, total difficulty changed (one pre-PoW byte differs) -/
def exK' : FHdr := ⟨101, 100, { exK.h with totalDiff := 50 }, 2, false, true⟩
def exW' : Wire := ⟨GV.Props.C05Entry.exPre.set 3 7, GV.Props.C05Entry.exNonces⟩

theorem exK_pow : powOkOf .automatedTesting exK exW = true :=
  decide_eq_true GV.Props.C05Entry.ex_accepted
theorem exK'_pow : powOkOf .automatedTesting exK' exW' = false := by decide +kernel

/-- same hash, different content, and the `powOk` flags are what `pow::verify_size` answers -/
example : exK'.hash = exK.hash ∧ ¬ SameContent exK' exK ∧ exK.powOk = powOkOf .automatedTesting exK exW ∧
    exK'.powOk = powOkOf .automatedTesting exK' exW' := by
  refine ⟨rfl, ?_, ?_, ?_⟩
  · intro h; have := h.1; revert this; decide
  · rw [exK_pow]; rfl
  · rw [exK'_pow]; rfl

end GV.Props.C04Bind
