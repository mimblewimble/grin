import GrinVerif.Lemmas.TxBlock
import GrinVerif.Lemmas.TxDeagg
/-! # C12 — aggregation, cut-through and compact-block hydration are faithful

This file holds property theorems only (its helper lemmas live in `Lemmas/Tx*.lean`); the model is
`Model/Tx.lean`.  Multisets are lists up to permutation, stated through `List.count` and `~`.
Conventions: inputs are commitment ids, outputs / kernels are codes `2*id + coinbase-flag`,
`K : Keys` are the hash orders handed over by the harness.

Definitions used in the statements.  In `Lemmas/TxNormal.lean`: `KInj K` — the three hash orders
are injective (collision resistance, as a hypothesis on the data); `Normal K t` — `t` is a fixed
point of the general path of `aggregate`; `Plain t` — no coinbase output / kernel
(`verify_features`); `WF K t` — commit-only, sorted, duplicate-free, no self-spend, offset `< N`
(the conditions `validate_read` checks, written as propositions; `normal_of_wf`: they imply `Normal`).
In `Lemmas/TxAgg.lean`: `AllRel R groups ts` — `ts` are the group results;
`allIns/allOuts/allKers/allOffs` — concatenation over a list of transactions. -/
namespace GV.Props.C12
open GV GV.Tx GV.Tx.Ex List

/-! ## cut-through = truncated multiset difference -/

/-- **`cut_through` is the multiset spec** (arbitrary lists, duplicates allowed, no sortedness
assumed — the function sorts itself).  Per commitment `c`: the kept inputs carry `c` exactly
`#I(c) − #O(c)` times, the kept outputs `#O(c) − #I(c)` times, the cut slices `min` times. -/
theorem cutThrough_count {ca cb ka kb : Nat → Nat} {ins outs : List Nat} {r : Cut}
    (h : cutThrough ca cb ka kb ins outs = .ok r) (c : Nat) :
    (r.ins.map ca).count c = (ins.map ca).count c - (outs.map cb).count c ∧
    (r.outs.map cb).count c = (outs.map cb).count c - (ins.map ca).count c ∧
    (r.cutIns.map ca).count c = min ((ins.map ca).count c) ((outs.map cb).count c) ∧
    (r.cutOuts.map cb).count c = min ((ins.map ca).count c) ((outs.map cb).count c) := by
  rw [cutThrough_ok h]
  have m := merged_count ca cb ins outs c
  refine ⟨?_, ?_, ?_, ?_⟩
  · rw [((sortBy_perm ka _).map ca).count_eq]; exact m.1
  · rw [((sortBy_perm kb _).map cb).count_eq]; exact m.2.1
  · rw [((sortBy_perm ka _).map ca).count_eq]; exact m.2.2
  · rw [((sortBy_perm kb _).map cb).count_eq, ← merged_cut_keys]; exact m.2.2

/-- nothing is invented or lost: kept ++ cut is a permutation of what was handed in, on both
sides, and the two cut slices are the *matched pairs* (same commitments). -/
theorem cutThrough_partition {ca cb ka kb : Nat → Nat} {ins outs : List Nat} {r : Cut}
    (h : cutThrough ca cb ka kb ins outs = .ok r) :
    (r.ins ++ r.cutIns ~ ins) ∧ (r.outs ++ r.cutOuts ~ outs) ∧ (r.cutIns.map ca ~ r.cutOuts.map cb) := by
  rw [cutThrough_ok h]
  have p := merged_perm ca cb ins outs
  refine ⟨?_, ?_, ?_⟩
  · exact ((sortBy_perm ka _).append (sortBy_perm ka _)).trans p.1
  · exact ((sortBy_perm kb _).append (sortBy_perm kb _)).trans p.2
  · exact ((sortBy_perm ka _).map ca).trans (merged_cut_keys ca cb ins outs ▸ ((sortBy_perm kb _).map cb).symm)

/-- all four returned slices are in the element order (`sort_unstable()`). -/
theorem cutThrough_sorted {ca cb ka kb : Nat → Nat} {ins outs : List Nat} {r : Cut}
    (h : cutThrough ca cb ka kb ins outs = .ok r) :
    r.ins.Pairwise (KeyLe ka) ∧ r.outs.Pairwise (KeyLe kb) ∧
    r.cutIns.Pairwise (KeyLe ka) ∧ r.cutOuts.Pairwise (KeyLe kb) := by
  rw [cutThrough_ok h]
  exact ⟨sortBy_sorted _ _, sortBy_sorted _ _, sortBy_sorted _ _, sortBy_sorted _ _⟩

/-- **cut-through preserves the balance**: for every valuation of commitments (value, blinding
factor, the commitment itself in the group — anything additive; natural numbers here so that no
subtraction is needed), `Σ kept outputs + Σ inputs = Σ outputs + Σ kept inputs`. Hence the sum
equation `Σ out − Σ in = Σ excess + offset·G` of the operands carries over to the aggregate. -/
theorem cutThrough_balance {ca cb ka kb : Nat → Nat} {ins outs : List Nat} {r : Cut}
    (h : cutThrough ca cb ka kb ins outs = .ok r) (val : Nat → Nat) :
    ((r.outs.map cb).map val).sum + ((ins.map ca).map val).sum =
      ((outs.map cb).map val).sum + ((r.ins.map ca).map val).sum := by
  obtain ⟨p1, p2, p3⟩ := cutThrough_partition h
  have e1 := ((p1.map ca).map val).sum_nat
  have e2 := ((p2.map cb).map val).sum_nat
  have e3 := (p3.map val).sum_nat
  simp only [map_append, sum_append] at e1 e2
  omega

/-- **errors iff the spec result has a duplicate**: with injective hash orders, `cut_through`
fails (always with `CutThrough`) exactly when some input is left over twice or some output is
left over twice after removing the matched pairs. Stated for inputs that are their own
commitment (`ca = id`, the `CommitWrapper` case) and outputs that do not share commitments. -/
theorem cutThrough_error_iff {cb ka kb : Nat → Nat} {ins outs : List Nat}
    (ia : InjOn ka ins) (ib : InjOn kb outs) (ic : InjOn cb outs) :
    (∃ e, cutThrough id cb ka kb ins outs = .error e) ↔
      (∃ x, 2 ≤ ins.count x - (outs.map cb).count x) ∨ (∃ o, 2 ≤ outs.count o - ins.count (cb o)) := by
  have dI := adjDup_sortBy (ia.of_subset fun a (ha : a ∈ (merged id cb ins outs).ins) => mem_merged_ins ha)
  have dO := adjDup_sortBy (ib.of_subset fun a (ha : a ∈ (merged id cb ins outs).outs) => mem_merged_outs ha)
  rw [cutThrough_error_iff_dup, dI, dO, nodup_iff_count, nodup_iff_count, Classical.not_and_iff_not_or_not,
    Classical.not_forall, Classical.not_forall]
  simp only [merged_ins_count, merged_outs_count cb ins outs ic, Nat.not_le]
  -- `1 < n` is `2 ≤ n` by definition
  exact Iff.rfl

-- non-vacuity: the example of the Rust doc comment, inputs [A,B,C], outputs [C,D,E]
example : cutThrough id id id id [0, 1, 2] [2, 3, 4] = .ok ⟨[0, 1], [3, 4], [2], [2]⟩ := by
  tx_eval
-- a double spend of an output that is created once: one copy is cut, one is kept (no error)
example : cutThrough id id id id [5, 5] [5] = .ok ⟨[5], [], [5], [5]⟩ := by
  tx_eval
-- a plain double spend is an error
example : cutThrough id id id id [5, 5] [] = .error .cutThrough := by
  tx_eval

/-- the two shortcuts of `aggregate`: nothing ↦ the empty transaction, one transaction ↦ itself,
unchanged and unchecked -/
theorem aggregate_shortcuts (K : Keys) (t : Tx) :
    aggregate K [] = .ok Tx.empty ∧ aggregate K [t] = .ok t := ⟨rfl, rfl⟩

/-- **`aggregate` is the multiset spec** (two or more operands): commit-only inputs; kernels are
the union of the operands' kernels; inputs / outputs are the unions minus exactly the matched spend
pairs (truncated multiset difference per commitment; element-wise for outputs when no two
outputs share a commitment); everything in hash order; the offset is the sum of the operands'
offsets modulo the group order (`to_secrets` drops zero offsets and byte strings that are not
scalars) — also when that sum is zero. -/
theorem aggregate_spec {K : Keys} {txs : List Tx} {t : Tx} (h2 : 2 ≤ txs.length)
    (h : aggregate K txs = .ok t) :
    t.v2 = false ∧
    (t.kernels ~ allKers txs) ∧
    (∀ x, t.inputs.count x = (allIns K txs).count x - ((allOuts txs).map outCommit).count x) ∧
    (∀ c, (t.outputs.map outCommit).count c = ((allOuts txs).map outCommit).count c - (allIns K txs).count c) ∧
    (InjOn outCommit (allOuts txs) →
      ∀ o, t.outputs.count o = (allOuts txs).count o - (allIns K txs).count (outCommit o)) ∧
    t.inputs.Pairwise (KeyLe K.ik) ∧ t.outputs.Pairwise (KeyLe K.ok) ∧ t.kernels.Pairwise (KeyLe K.kk) ∧
    t.offset = (toSecrets (allOffs txs)).sum % N := by
  have a := aggregate_ok_of_two_le h2 h
  have hc := aggregateFull_counts (aggregate_of_two_le K h2 ▸ h)
  refine ⟨a.v2, ?_, ?_, ?_, ?_, ?_, ?_, ?_, a.offset⟩
  · rw [a.kernels]; exact sortBy_perm _ _
  · intro x; rw [← Tx.inputsCO_of_not_v2 K a.v2]; exact (hc x).1
  · intro c; exact (hc c).2
  · intro inj o
    rw [a.outputs, count_sortBy, cutOf_outs_count K inj]
  · rw [a.inputs]; exact sortBy_sorted _ _
  · rw [a.outputs]; exact sortBy_sorted _ _
  · rw [a.kernels]; exact sortBy_sorted _ _

/-- **offsets that cancel give the zero offset**: operands whose offsets are valid scalars summing
to zero modulo the group order (e.g. `x` and `n − x`) aggregate to a transaction with offset 0.
(Before the repair b04699b48 of `blind_sum_or_zero` the code refused them with
`Secp(InvalidSecretKey)`.) -/
theorem aggregate_offsets_cancel {K : Keys} {txs : List Tx} {t : Tx} (h2 : 2 ≤ txs.length)
    (h : aggregate K txs = .ok t) (hlt : ∀ x ∈ allOffs txs, x < N) (hz : (allOffs txs).sum % N = 0) :
    t.offset = 0 := by
  rw [(aggregate_ok_of_two_le h2 h).offset, toSecrets_sum_of_lt hlt, hz]

/-- **the only error of `aggregate` is `CutThrough`**: no operand list, whatever its offsets,
makes the offset sum fail. -/
theorem aggregate_error_cutThrough {K : Keys} {txs : List Tx} {e : Err} (h : aggregate K txs = .error e) :
    e = .cutThrough := by
  match txs, h with
  | [], h => cases h
  | [_], h => cases h
  | a :: b :: l, h =>
    rw [aggregate_of_two_le K (by simp), aggregateFull_error_iff] at h
    exact cutThrough_error h

/-- **when does `aggregate` fail** (two or more operands, injective hash orders, no two outputs
sharing a commitment): exactly when an input is left over twice after cut-through (double
spend) or an output is left over twice. The offsets play no role. -/
theorem aggregate_error_iff {K : Keys} {txs : List Tx} (h2 : 2 ≤ txs.length) (kinj : KInj K)
    (ic : InjOn outCommit (allOuts txs)) :
    (∃ e, aggregate K txs = .error e) ↔
      (∃ x, 2 ≤ (allIns K txs).count x - ((allOuts txs).map outCommit).count x) ∨
      (∃ o, 2 ≤ (allOuts txs).count o - (allIns K txs).count (outCommit o)) := by
  simp only [aggregate_of_two_le K h2, aggregateFull_error_iff]
  exact cutThrough_error_iff (kinj.ik _) (kinj.ok _) ic

/-- **aggregating conflict-free transactions always succeeds**: if after removing the matched spend
pairs no input and no output is left over twice, `aggregate` returns a transaction — for every
choice of offsets, including offsets that cancel. -/
theorem aggregate_succeeds {K : Keys} {txs : List Tx} (kinj : KInj K)
    (ic : InjOn outCommit (allOuts txs))
    (hI : ∀ x, (allIns K txs).count x - ((allOuts txs).map outCommit).count x ≤ 1)
    (hO : ∀ o, (allOuts txs).count o - (allIns K txs).count (outCommit o) ≤ 1) :
    ∃ t, aggregate K txs = .ok t := by
  match txs, ic, hI, hO with
  | [], _, _, _ => exact ⟨_, rfl⟩
  | [t], _, _, _ => exact ⟨_, rfl⟩
  | a :: b :: l, ic, hI, hO =>
    rcases h : aggregate K (a :: b :: l) with e | t
    · rcases (aggregate_error_iff (by simp) kinj ic).1 ⟨e, h⟩ with ⟨x, hx⟩ | ⟨o, ho⟩
      · exact absurd (Nat.le_trans hx (hI x)) (by decide)
      · exact absurd (Nat.le_trans ho (hO o)) (by decide)
    · exact ⟨t, rfl⟩

/-- **the aggregate of valid transactions is (structurally) valid**: whenever two or more
coinbase-free transactions with pairwise different kernels aggregate — i.e. whenever they are
conflict-free, `aggregate_succeeds`; the offsets play no role — the result passes
`Transaction::validate_read`: inputs, outputs and kernels in hash order and duplicate-free, no input
spending an output of the same transaction (`verify_cut_through`), no coinbase output or kernel.
(The cryptographic part of `validate()` — range proofs, signatures, kernel sums — is evaluated on
the real code by the harness; its arithmetic core is `cutThrough_balance`.) -/
theorem aggregate_valid {K : Keys} {txs : List Tx} {t : Tx} (h2 : 2 ≤ txs.length) (kinj : KInj K)
    (hp : ∀ t ∈ txs, Plain t) (ndK : (allKers txs).Nodup) (h : aggregate K txs = .ok t) :
    validateRead K t = none := by
  have a := aggregate_ok_of_two_le h2 h
  have hc := aggregateFull_counts (aggregate_of_two_le K h2 ▸ h)
  have ndMI := (adjDup_sortBy (kinj.ik (cutOf K txs).ins)).1 a.insOnce
  have ndMO := (adjDup_sortBy (kinj.ok (cutOf K txs).outs)).1 a.outsOnce
  have ndI : t.inputs.Nodup := by rw [a.inputs]; exact (sortBy_perm _ _).nodup_iff.2 ndMI
  have ndO : t.outputs.Nodup := by rw [a.outputs]; exact (sortBy_perm _ _).nodup_iff.2 ndMO
  have subO : ∀ o ∈ t.outputs, o ∈ allOuts txs := fun o ho => by
    rw [a.outputs, mem_sortBy] at ho; exact mem_cutOf_outs ho
  have plO : ∀ o ∈ t.outputs, isCoinbase o = false := fun o ho => plain_allOuts hp o (subO o ho)
  have plK : ∀ k ∈ t.kernels, isCoinbase k = false := fun k hk' => by
    rw [a.kernels, mem_sortBy] at hk'; exact plain_allKers hp k hk'
  have sI : sortedUnique K.ik t.inputs = none := by rw [a.inputs]; exact sortedUnique_none (sortBy_sorted _ _) a.insOnce
  have sO : sortedUnique K.ok t.outputs = none := by rw [a.outputs]; exact sortedUnique_none (sortBy_sorted _ _) a.outsOnce
  have sK : sortedUnique K.kk t.kernels = none := by
    rw [a.kernels]; exact sortedUnique_none (sortBy_sorted _ _) ((adjDup_sortBy (kinj.kk _)).2 ndK)
  have vC : verifyCutThrough t = none := by
    have nd : (t.inputs ++ t.outputs.map outCommit).Nodup := by
      rw [nodup_iff_count]
      intro c
      have h1 := (hc c).1
      have h2' := (hc c).2
      rw [Tx.inputsCO_of_not_v2 K a.v2] at h1
      have b1 := nodup_iff_count.1 ndI c
      have b2 := count_map_le_one (injOn_outCommit_of_plain plO) ndO c
      -- a commitment is not left over on both sides
      rw [count_append]
      rcases Nat.le_total ((allIns K txs).count c) (((allOuts txs).map outCommit).count c) with le | le
      · rw [h1, Nat.sub_eq_zero_of_le le, Nat.zero_add]; exact b2
      · rw [h2', Nat.sub_eq_zero_of_le le, Nat.add_zero]; exact b1
    simp only [verifyCutThrough, (adjDup_sortBy (injOn_id _)).2 nd, Bool.false_eq_true, if_false]
  have fO : t.outputs.any isCoinbase = false := by
    rw [any_eq_false]; intro o ho; simp [plO o ho]
  have fK : t.kernels.any isCoinbase = false := by
    rw [any_eq_false]; intro k hk'; simp [plK k hk']
  simp only [validateRead, sI, sO, sK, vC, fO, fK, Bool.false_eq_true, if_false]

/-- **order independence**: any permutation of the operands gives the same result (same
transaction or same error). -/
theorem aggregate_perm {K : Keys} {txs₁ txs₂ : List Tx} (p : txs₁ ~ txs₂) (kinj : KInj K)
    (ic : InjOn outCommit (allOuts txs₁)) : aggregate K txs₁ = aggregate K txs₂ := by
  match txs₁, p, ic with
  | [], p, _ => rw [p.symm.eq_nil]
  | [t], p, _ => rw [perm_singleton.1 p.symm]
  | a :: b :: l, p, ic =>
    have l1 : 2 ≤ (a :: b :: l).length := by simp
    have l2 : 2 ≤ txs₂.length := by rw [← p.length_eq]; exact l1
    rw [aggregate_of_two_le K l1, aggregate_of_two_le K l2, aggregateFull_eq, aggregateFull_eq]
    have eI : sortBy id (allIns K (a :: b :: l)) = sortBy id (allIns K txs₂) :=
      sortBy_congr (injOn_id _) (allIns_perm K p)
    have eO : sortBy outCommit (allOuts (a :: b :: l)) = sortBy outCommit (allOuts txs₂) :=
      sortBy_congr ic (allOuts_perm p)
    have eM : cutOf K (a :: b :: l) = cutOf K txs₂ := by
      simp only [cutOf, merged, eI, eO]
    have eK : sortBy K.kk (allKers (a :: b :: l)) = sortBy K.kk (allKers txs₂) :=
      sortBy_congr (kinj.kk _) (allKers_perm p)
    rw [eM, eK, (toSecrets_perm (allOffs_perm p)).sum_nat]

/-- **grouping independence**: for normal operands with injective hash orders and no two outputs
sharing a commitment, if every group aggregates then aggregating the group results is
aggregating everything at once — the same transaction or the same error. The hypothesis "every
group aggregates" cannot be dropped: see `grouping_needs_groups_ok`. -/
theorem aggregate_assoc {K : Keys} {groups : List (List Tx)} {ts : List Tx} (kinj : KInj K)
    (hn : ∀ g ∈ groups, ∀ t ∈ g, Normal K t)
    (ic : InjOn outCommit (allOuts groups.flatten))
    (h : AllRel (fun g t => aggregate K g = .ok t) groups ts) :
    aggregate K ts = aggregate K groups.flatten := by
  have hfull := groups_full kinj hn ic h
  have hflat : ∀ t ∈ groups.flatten, Normal K t := by
    intro t ht
    obtain ⟨g, hg, htg⟩ := mem_flatten.1 ht
    exact hn g hg t htg
  rw [aggregate_eq_full hfull.2, aggregate_eq_full hflat]
  exact aggregateFull_groups hfull.1 (kinj.ik _) (kinj.ok _) (kinj.kk _) ic

/-- the hydration does not look at the nonce or at the short ids (it is handed the transactions) -/
theorem hydrate_ignores_nonce (K : Keys) (cb : CompactBlock) (nonce : Nat) (ids : List Nat) (txs : List Tx) :
    hydrateFrom K { cb with nonce := nonce, kernIds := ids } txs = hydrateFrom K cb txs := rfl

/-- **hydrate round-trip**: a block built (`from_reward`) from normal, coinbase-free transactions
and a coinbase reward, converted to its compact form with *any* nonce and re-hydrated from the same
transactions in *any* grouping (any permutation, cut into any groups, each group pre-aggregated)
is the identical block. -/
theorem hydrate_roundtrip {K : Keys} {txs : List Tx} {groups : List (List Tx)} {ts : List Tx}
    {rout rkern prev nonce : Nat} {b : Block} (kinj : KInj K)
    (hn : ∀ t ∈ txs, Normal K t) (hp : ∀ t ∈ txs, Plain t)
    (hro : isCoinbase rout = true) (hrk : isCoinbase rkern = true)
    (hb : fromReward K prev txs rout rkern = .ok b)
    (hperm : groups.flatten ~ txs)
    (hg : AllRel (fun g t => aggregate K g = .ok t) groups ts) :
    hydrateFrom K (compact K nonce b) ts = .ok b := by
  obtain ⟨agg, ha, rfl⟩ := fromReward_ok hb
  have hnF : ∀ g ∈ groups, ∀ t ∈ g, Normal K t := fun g hg t ht =>
    hn t (hperm.mem_iff.1 (mem_flatten.2 ⟨g, hg, ht⟩))
  have hpF : ∀ t ∈ groups.flatten, Plain t := fun t ht => hp t (hperm.mem_iff.1 ht)
  have icF : InjOn outCommit (allOuts groups.flatten) := injOn_outCommit_of_plain (plain_allOuts hpF)
  have haF : aggregate K groups.flatten = .ok agg := (aggregate_perm hperm kinj icF).trans ha
  have hT : aggregate K ts = .ok agg := (aggregate_assoc kinj hnF icF hg).trans haF
  obtain ⟨hfull, hnT⟩ := groups_full kinj hnF icF hg
  rw [aggregate_eq_full hnT] at hT
  have a := aggregateFull_ok hT
  have pO : ∀ o ∈ agg.outputs, isCoinbase o = false := by
    intro o ho
    rw [a.outputs, mem_sortBy] at ho
    exact plain_allOuts hpF o (mem_group_outs hfull (mem_cutOf_outs ho))
  have pK : ∀ k ∈ agg.kernels, isCoinbase k = false := by
    intro k hk'
    rw [a.kernels, mem_sortBy] at hk'
    exact plain_allKers hpF k ((group_kernels hfull).mem_iff.1 hk')
  have nO : rout ∉ agg.outputs := fun hm => by have := pO rout hm; rw [hro] at this; cases this
  have nK : rkern ∉ agg.kernels := fun hm => by have := pK rkern hm; rw [hrk] at this; cases this
  have sO : agg.outputs.Pairwise (KeyLe K.ok) := by rw [a.outputs]; exact sortBy_sorted _ _
  have sK : agg.kernels.Pairwise (KeyLe K.kk) := by rw [a.kernels]; exact sortBy_sorted _ _
  have cO : ∀ off, (compact K nonce ⟨off, agg.v2, agg.inputs, insertSorted K.ok rout agg.outputs,
      insertSorted K.kk rkern agg.kernels⟩).outFull = [rout] := fun _ => by
    simp only [compact, filter_coinbase_insertSorted K.ok hro pO, sortBy_singleton]
  have cK : ∀ off, (compact K nonce ⟨off, agg.v2, agg.inputs, insertSorted K.ok rout agg.outputs,
      insertSorted K.kk rkern agg.kernels⟩).kernFull = [rkern] := fun _ => by
    simp only [compact, filter_coinbase_insertSorted K.kk hrk pK, sortBy_singleton]
  rw [hydrateFrom_eq, a.insOnce, a.outsOnce, cO, cK, insertSorted_eq_sortBy (kinj.ok _) nO sO,
    insertSorted_eq_sortBy (kinj.kk _) nK sK, a.v2, a.inputs, a.outputs, a.kernels,
    sortBy_congr (kinj.kk _) ((sortBy_perm K.kk (allKers ts)).symm.append_right [rkern])]
  rfl

/-- **building the block never fails on the offsets**: whenever the transactions aggregate,
`from_reward` returns a block (whatever the previous header's total offset is, also when it cancels
the aggregate's offset), and that block survives compact → hydrate in every grouping and with every
nonce. -/
theorem hydrate_roundtrip_total {K : Keys} {txs : List Tx} {groups : List (List Tx)} {ts : List Tx}
    {rout rkern prev nonce : Nat} {agg : Tx} (kinj : KInj K)
    (hn : ∀ t ∈ txs, Normal K t) (hp : ∀ t ∈ txs, Plain t)
    (hro : isCoinbase rout = true) (hrk : isCoinbase rkern = true)
    (ha : aggregate K txs = .ok agg)
    (hperm : groups.flatten ~ txs)
    (hg : AllRel (fun g t => aggregate K g = .ok t) groups ts) :
    ∃ b, fromReward K prev txs rout rkern = .ok b ∧ hydrateFrom K (compact K nonce b) ts = .ok b :=
  ⟨_, fromReward_of_aggregate ha,
    hydrate_roundtrip kinj hn hp hro hrk (fromReward_of_aggregate ha) hperm hg⟩

/-- **de-aggregation returns the remainder**: let `A` (the known subset) and `B` (the remainder)
be normal transactions that share nothing and do not spend each other's outputs, `mk` their
aggregate. Then `deaggregate mk A` is `aggregate B` — for all offsets, in particular also when the
remainder's offset is zero modulo the group order (`mk.offset = a.offset`), see
`deaggregate_zero_remainder`. -/
theorem deaggregate_inverse {K : Keys} {A B : List Tx} {mk a : Tx} (kinj : KInj K)
    (hn : ∀ t ∈ A ++ B, Normal K t)
    (ndI : (allIns K (A ++ B)).Nodup) (ndO : (allOuts (A ++ B)).Nodup) (ndK : (allKers (A ++ B)).Nodup)
    (hdis : ∀ x ∈ allIns K (A ++ B), x ∉ (allOuts (A ++ B)).map outCommit)
    (hmk : aggregate K (A ++ B) = .ok mk) (hA : aggregate K A = .ok a) :
    deaggregate K mk A = aggregate K B := by
  rw [deaggregate_linked kinj hn ndI ndO ndK (fun x hx => by rw [count_eq_zero.2 (hdis x hx)]; exact Nat.zero_le 1)
    hmk hA, (aggregate_disjoint_parts kinj hn ndI ndO hdis).2]
  -- without a spend link both filters keep everything
  rw [filter_eq_self.2 fun x hx => by simpa using hdis x (by rw [allIns_append]; exact mem_append_right _ hx),
    filter_eq_self.2 fun o ho => by
      simpa using fun hi => hdis _ hi (mem_map_of_mem (by rw [allOuts_append]; exact mem_append_right _ ho))]

/-- **a remainder with zero offset is returned like any other**: whenever the remainder's offsets sum to zero modulo the group order — so that the
aggregate and the known subset carry the *same* offset — `deaggregate` succeeds and returns the
remainder, whose offset is zero. (Before the repair the code failed here with
`Secp(InvalidSecretKey)`.) -/
theorem deaggregate_zero_remainder {K : Keys} {A B : List Tx} {mk a : Tx} (kinj : KInj K)
    (hn : ∀ t ∈ A ++ B, Normal K t)
    (ndI : (allIns K (A ++ B)).Nodup) (ndO : (allOuts (A ++ B)).Nodup) (ndK : (allKers (A ++ B)).Nodup)
    (hdis : ∀ x ∈ allIns K (A ++ B), x ∉ (allOuts (A ++ B)).map outCommit)
    (hmk : aggregate K (A ++ B) = .ok mk) (hA : aggregate K A = .ok a)
    (hzero : (toSecrets (allOffs B)).sum % N = 0) :
    mk.offset = a.offset ∧
    ∃ t, deaggregate K mk A = .ok t ∧ aggregate K B = .ok t ∧ t.offset = 0 := by
  have hinv := deaggregate_inverse kinj hn ndI ndO ndK hdis hmk hA
  obtain ⟨eA, eB⟩ := aggregate_disjoint_parts kinj hn ndI ndO hdis
  obtain rfl := Except.ok.inj (hmk.symm.trans (aggregate_disjoint kinj hn ndI ndO hdis))
  obtain rfl := Except.ok.inj (hA.symm.trans eA)
  refine ⟨?_, _, hinv.trans eB, eB, hzero⟩
  show (toSecrets (allOffs (A ++ B))).sum % N = (toSecrets (allOffs A)).sum % N
  rw [allOffs_append, toSecrets_append, sum_append, Nat.add_mod, hzero, Nat.add_zero, Nat.mod_mod]

/-- … in particular de-aggregating **everything** gives the empty transaction (offset zero). -/
theorem deaggregate_all {K : Keys} {A : List Tx} {mk : Tx} (kinj : KInj K)
    (hn : ∀ t ∈ A, Normal K t)
    (ndI : (allIns K A).Nodup) (ndO : (allOuts A).Nodup) (ndK : (allKers A).Nodup)
    (hdis : ∀ x ∈ allIns K A, x ∉ (allOuts A).map outCommit)
    (hmk : aggregate K A = .ok mk) :
    deaggregate K mk A = .ok Tx.empty := by
  have e := append_nil A
  exact deaggregate_inverse (B := []) kinj (e.symm ▸ hn) (e.symm ▸ ndI) (e.symm ▸ ndO) (e.symm ▸ ndK)
    (e.symm ▸ hdis) (e.symm ▸ hmk) hmk

/-- structurally valid transactions are normal: the hypotheses `Normal` of the grouping,
hydration and de-aggregation theorems hold for every transaction with the properties `WF` lists
(those `validate_read` checks, plus a valid offset). -/
theorem normal_of_wf {K : Keys} {t : Tx} (kinj : KInj K) (h : WF K t) : Normal K t := by
  unfold Normal
  have hi := allIns_singleton K h.v2
  have ho := allOuts_singleton t
  rw [aggregateFull_disjoint (kinj.ik _) (kinj.ok _) (by rw [hi]; exact h.insNodup) (by rw [ho]; exact h.outsNodup)
    (by rw [hi, ho]; exact h.noSelfSpend)]
  rw [hi, ho, allKers_singleton, show allOffs [t] = [t.offset] from rfl, sortBy_of_sorted h.insSorted,
    sortBy_of_sorted h.outsSorted, sortBy_of_sorted h.kersSorted, toSecrets_singleton_sum h.offset,
    Nat.mod_eq_of_lt h.offset, ← h.v2]

-- `WF` (hence `Normal`) is satisfiable
example : WF K0 t2 := by constructor <;> simp [t2, K0, KeyLe, N, outCommit]

/-- chained pair: output 5 of `t1` is spent by `t2` and disappears from both sides -/
example : aggregate K0 [t1, t2] = .ok ⟨3, false, [1], [12], [0, 2]⟩ := aggregate_t1_t2
/-- hypotheses of `aggregate_valid` are satisfiable (`[t1, t2]`: plain, kernels 0 and 2), and
the conclusion on the concrete aggregate -/
example : (∀ t ∈ [t1, t2], Plain t) ∧ (allKers [t1, t2]).Nodup := by
  refine ⟨?_, by simp [allKers, t1, t2]⟩
  intro t ht
  simp only [mem_cons, not_mem_nil, or_false] at ht
  rcases ht with rfl | rfl <;> simp [Plain, t1, t2, isCoinbase]
example : validateRead K0 ⟨3, false, [1], [12], [0, 2]⟩ = none := by
  simp only [validateRead, verifyCutThrough, sortBy_eq_foldr]
  decide +kernel

/-- **the hypothesis "every group aggregates" of `aggregate_assoc` is needed**: `t2` and `t3`
double-spend commitment 5. All at once, `t1` creates it, one spend is cut and the aggregate
succeeds (the double spend is masked: the result spends an outside copy of 5); grouped as
`[t1], [t2, t3]` the second group is refused. All three operands are normal and coinbase-free. -/
theorem grouping_needs_groups_ok :
    aggregate K0 [t1, t2, t3] = .ok ⟨6, false, [1, 5], [12, 14], [0, 2, 4]⟩ ∧
    aggregate K0 [t2, t3] = .error .cutThrough ∧
    (∀ t ∈ [t1, t2, t3], Normal K0 t ∧ Plain t) := by
  refine ⟨by tx_eval, by tx_eval, ?_⟩
  intro t ht
  simp only [mem_cons, not_mem_nil, or_false] at ht
  rcases ht with rfl | rfl | rfl
  · exact ⟨normal1, by simp [Plain, t1, isCoinbase]⟩
  · exact ⟨normal2, by simp [Plain, t2, isCoinbase]⟩
  · exact ⟨normal3, by simp [Plain, t3, isCoinbase]⟩

/-- hypotheses of `aggregate_assoc` are satisfiable (grouping `[t1, t2], [t4]`) -/
example : AllRel (fun g t => aggregate K0 g = .ok t) [[t1, t2], [t4]]
    [⟨3, false, [1], [12], [0, 2]⟩, t4] :=
  .cons aggregate_t1_t2 (.cons rfl .nil)

/-- hypotheses of `hydrate_roundtrip` are satisfiable: block from `[t1, t2]` with reward output
code 101 and reward kernel code 7, previous offset 9 -/
example : fromReward K0 9 [t1, t2] 101 7 = .ok ⟨12, false, [1], [12, 101], [0, 2, 7]⟩ := by tx_eval
example : hydrateFrom K0 (compact K0 77 ⟨12, false, [1], [12, 101], [0, 2, 7]⟩) [t2, t1] =
    .ok ⟨12, false, [1], [12, 101], [0, 2, 7]⟩ := by tx_eval
/-- the previous header's offset `N - 3` cancels the aggregate's offset 3: the block is built, with
total offset zero -/
example : fromReward K0 (N - 3) [t1, t2] 101 7 = .ok ⟨0, false, [1], [12, 101], [0, 2, 7]⟩ :=
  fromReward_t1_t2_cancel

/-- hypotheses of `deaggregate_inverse` are satisfiable: `deaggregate (aggregate [t1, t5]) [t1]`
is `t5` (remainder offset `N - 2 ≠ 0`) -/
example : aggregate K0 [t1, t5] = .ok ⟨N - 1, false, [1, 30], [10, 64], [0, 8]⟩ := by tx_eval
example : deaggregate K0 ⟨N - 1, false, [1, 30], [10, 64], [0, 8]⟩ [t1] = .ok t5 := by tx_eval

/-- hypotheses of `deaggregate_zero_remainder` are satisfiable: the remainder `t4` has offset zero,
aggregate and known subset both carry offset 1; the remainder comes back (this concrete call
failed with `Secp` before the repair) -/
example : aggregate K0 [t1, t4] = .ok ⟨1, false, [1, 20], [10, 44], [0, 6]⟩ := by tx_eval
example : deaggregate K0 ⟨1, false, [1, 20], [10, 44], [0, 6]⟩ [t1] = .ok t4 := by tx_eval
example : deaggregate K0 ⟨1, false, [1, 20], [10, 44], [0, 6]⟩ [t4] = .ok t1 := by tx_eval
/-- de-aggregating everything: the empty transaction -/
example : deaggregate K0 ⟨1, false, [1, 20], [10, 44], [0, 6]⟩ [t4, t1] = .ok Tx.empty := by tx_eval

/-- offsets that cancel modulo the group order: `2 + (N - 2) ≡ 0`, both transactions are fine on
their own, the aggregate is the union with offset zero (hypotheses of `aggregate_offsets_cancel`
are satisfiable; this concrete call failed with `Secp` before the repair), and it de-aggregates
again into its parts -/
theorem offsets_cancel_accepted :
    aggregate K0 [⟨2, false, [40], [84], [10]⟩, t5] = .ok ⟨0, false, [30, 40], [64, 84], [8, 10]⟩ ∧
    deaggregate K0 ⟨0, false, [30, 40], [64, 84], [8, 10]⟩ [t5] = .ok ⟨2, false, [40], [84], [10]⟩ ∧
    deaggregate K0 ⟨0, false, [30, 40], [64, 84], [8, 10]⟩ [⟨2, false, [40], [84], [10]⟩] = .ok t5 := by
  refine ⟨?_, ?_, ?_⟩
  · tx_eval
  · tx_eval
  · tx_eval

end GV.Props.C12
