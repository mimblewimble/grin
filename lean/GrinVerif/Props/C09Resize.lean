import GrinVerif.Model.CrashResize
/-! C09 — the LMDB map resize (`Model/CrashResize.lean`): the resize is not durable before a commit
that writes pages, a death before / after it is a death before the batch started, the restart takes
the same decision again, and the size it picks brings usage under 65 %. -/
namespace GV.Props.C09Resize
open GV GV.Crash

/-- the resize is lost with the process: after a restart the environment is what a restart without
the resize gives -/
theorem resize_not_durable (e : Env) (n : Nat) : restartE (applyE e (.resize n)) = restartE e := by
  simp [restartE, applyE]

/-- only a commit that wrote pages makes the map size durable -/
theorem clean_commit_keeps_meta (e : Env) (u : Nat) : applyE e (.commit false u) = e := by
  simp [applyE]

theorem dirty_commit_persists (e : Env) (n u : Nat) (h : e.metaMap ≤ n) :
    (restartE (applyE (applyE e (.resize n)) (.commit true u))).metaMap = n := by
  simp [restartE, applyE]; omega

/-- no step of the environment touches the chain's durable state, whatever the order: the durable
chain state after the first `k` steps is the state after the chain steps among them -/
theorem chain_state_ignores_resize (t : Target) (steps : List NStep) :
    ∀ (n : Durable × Env) (k : Nat),
      (crashAfterN t n steps k).1 = (chainPart steps k).foldl (applyStep t) n.1 := by
  induction steps with
  | nil => intro n k; simp [crashAfterN, chainPart]
  | cons s rest ih =>
    intro n k
    cases k with
    | zero => simp [crashAfterN, chainPart]
    | succ k =>
      have := ih (applyN t n s) k
      cases s with
      | chain c => simpa [crashAfterN, chainPart, applyN] using this
      | env c => simpa [crashAfterN, chainPart, applyN] using this

/-- **A death before or after the resize is a death before the batch started**: a batch that begins
with `maybe_resize`, killed at its crash point 0 (`lmdb:before-resize`) or 1 (`lmdb:after-resize`),
leaves the chain state AND the restarted environment of a node that never started the batch -/
theorem death_around_resize_is_death_before_batch (chunk : Nat) (t : Target) (d : Durable) (e : Env)
    (steps : List Step) (n : Nat) (hn : needsResize chunk e = some n) (k : Nat) (hk : k ≤ 1) :
    let s := crashAfterN t (d, e) (batchWithResize chunk e steps) k
    s.1 = d ∧ restartE s.2 = restartE e := by
  unfold batchWithResize
  rw [hn]
  have : k = 0 ∨ k = 1 := by omega
  rcases this with rfl | rfl <;> simp [crashAfterN, applyN, applyE, restartE]

/-- hence `Chain::init` on it opens exactly as on the node before the batch -/
theorem recover_after_death_around_resize (bcf : Nat → Bool) (tbl : List BlkInfo) (chunk : Nat)
    (t : Target) (d : Durable) (e : Env) (steps : List Step) (n : Nat)
    (hn : needsResize chunk e = some n) (k : Nat) (hk : k ≤ 1) :
    recover bcf tbl (crashAfterN t (d, e) (batchWithResize chunk e steps) k).1 = recover bcf tbl d := by
  rw [(death_around_resize_is_death_before_batch chunk t d e steps n hn k hk).1]

/-- the restart decides again, from durable facts only: if the committed state called for a resize and
the process died before a dirty commit, the restarted process resizes to the same size -/
theorem restart_resizes_again (chunk : Nat) (e : Env) (n : Nat) (hm : e.memMap = max e.metaMap e.used)
    (hn : needsResize chunk e = some n) :
    needsResize chunk (restartE (applyE e (.resize n))) = some n := by
  rw [resize_not_durable]
  have : restartE e = e := by simp [restartE, ← hm]
  rw [this, hn]

/-- the loop of `needs_resize` never shrinks the size -/
theorem growTo_ge (chunk used : Nat) : ∀ (fuel tot : Nat), tot ≤ growTo chunk used fuel tot := by
  intro fuel
  induction fuel with
  | zero => intro tot; simp [growTo]
  | succ f ih =>
    intro tot
    unfold growTo
    split
    · exact Nat.le_trans (Nat.le_add_right _ _) (ih _)
    · exact Nat.le_refl _

/-- … and ends with usage at most 65 % (given enough fuel: `used * 100 + 1` iterations of at least one
byte) -/
theorem growTo_ok (chunk used : Nat) (hc : 0 < chunk) :
    ∀ (fuel tot : Nat), used * 100 < tot * 65 + fuel * 65 →
      used * 100 ≤ growTo chunk used fuel tot * 65 := by
  intro fuel
  induction fuel with
  | zero => intro tot h; simp [growTo]; omega
  | succ f ih =>
    intro tot h
    unfold growTo
    split
    · apply ih; have : (tot + chunk) * 65 = tot * 65 + chunk * 65 := Nat.add_mul _ _ _
      have : 65 ≤ chunk * 65 := by omega
      omega
    · omega

/-- the size `needs_resize` picks: usage at most 65 % of it -/
theorem resize_target_ok (chunk : Nat) (hc : 0 < chunk) (e : Env) (n : Nat)
    (h : needsResize chunk e = some n) (hm : chunk ≤ e.memMap) : e.used * 100 ≤ n * 65 := by
  unfold needsResize at h
  split at h
  · have hlt : ¬ e.memMap < chunk := by omega
    simp only [hlt, if_false, Option.some.injEq] at h
    subst h
    apply growTo_ok chunk e.used hc
    omega
  · simp at h

example : needsResize 1048576 { metaMap := 1048576, memMap := 1048576, used := 950272 } = some 2097152 := by
  decide

example : needsResize 1048576 { metaMap := 1048576, memMap := 1048576, used := 940000 } = none := by
  decide

end GV.Props.C09Resize
