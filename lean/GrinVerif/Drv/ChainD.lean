import GrinVerif.Drv.Common
import GrinVerif.Model.Chain
import GrinVerif.Model.ChainImpl
import GrinVerif.Model.ChainFull
import GrinVerif.Model.ChainInputs
import GrinVerif.Model.ChainNrdDup
import GrinVerif.Model.ChainReport
import GrinVerif.Model.ChainStatus
import GrinVerif.Model.ChainOrphans
import GrinVerif.Model.ChainReset
import GrinVerif.Model.ChainKnown
import GrinVerif.Model.ChainSizes
import GrinVerif.Model.ChainBodyOrder
/-! Driver glue for the `chain` domain: block tree definitions shared by all subject chains,
one model `Node` per subject. -/
namespace GV.Drv.ChainD
open GV GV.Drv GV.Chain

structure St where
  outs : List OutDef := []
  blks : List Blk := []
  nodes : List (String × Node) := []
  /-- parallel run of the incremental txhashset model (`Model/ChainImpl.lean`), per subject:
  the block the txhashset is at, and the txhashset (`none` after a failed move) -/
  impls : List (String × Nat × Option TxHS) := []
  /-- per subject: what the model's adapter was told during the last `deliver` -/
  told : List (String × String) := []
  /-- per subject: the bounded orphan pool (`Model/ChainOrphans.lean`) -/
  pools : List (String × OPool) := []
  /-- leaf counts claimed by the header of every block described so far -/
  sizes : SizeClaims := []
  /-- per subject: `Chain::denylist` (in memory: a restart forgets it) -/
  deny : List (String × List Nat) := []
  /-- per subject: the options every parked orphan was last offered with (`Orphan.opts`) -/
  oopts : List (String × List (Nat × Nat)) := []
  /-- per subject: the notifications of the last `deliver` with the options the adapter saw -/
  toldO : List (String × String) := []

def stripPfx (s : String) (n : Nat) : String := (s.drop n).toString

/-- `o12` / `b3` → 12 / 3 -/
def idOf (s : String) : Option Nat := (stripPfx s 1).toNat?

def kv (args : List String) (k : String) : Option String :=
  (args.find? (·.startsWith (k ++ "="))).map (fun a => stripPfx a (k.length + 1))

def listItems (s : String) : List String :=
  let inner := (s.drop 1).dropEnd 1 |>.toString
  if inner.isEmpty then [] else inner.splitOn ","

def parseKer (s : String) : Option Ker :=
  match s.splitOn ":" with
  | ["cb"] => some .cb
  | ["p", f] => f.toNat?.map .plain
  | ["hl", f, l] => do let f ← f.toNat?; let l ← l.toNat?; pure (.hl f l)
  | ["nrd", f, r, e] => do let f ← f.toNat?; let r ← r.toNat?; pure (.nrd f r e)
  | _ => none

def parseOutRef (s : String) : Option (Nat × Bool) :=
  match s.splitOn ":" with
  | [o, "cb"] => (idOf o).map (·, true)
  | [o, "pl"] => (idOf o).map (·, false)
  | _ => none

def parseBlk (id : String) (args : List String) : Option Blk := do
  let bid ← idOf id
  let parS ← kv args "parent"
  let parent := if parS == "-" then none else idOf parS
  let h ← (← kv args "h").toNat?
  let work ← (← kv args "work").toNat?
  let ver ← (← kv args "ver").toNat?
  let ts ← (← kv args "ts").toNat?
  let ins ← (listItems (← kv args "ins")).mapM idOf
  let outs ← (listItems (← kv args "outs")).mapM parseOutRef
  let kers ← (listItems (← kv args "kers")).mapM parseKer
  let tags := listItems (← kv args "tags")
  pure { id := bid, parent, h, work, ver, ts, ins, outs, kers, tags }

/-- optional `inf=[o3:pl,o7:cb]`: the inputs come in features-and-commit form with these claims -/
def parseClaims (args : List String) : Option (List (Nat × Bool)) :=
  match kv args "inf" with
  | none => some []
  | some l => (listItems l).mapM parseOutRef

def getNode (st : St) (s : String) : Option Node :=
  (st.nodes.find? (·.1 == s)).map fun x => { x.2 with outs := st.outs, blks := st.blks }

def setNode (st : St) (s : String) (n : Node) : St :=
  { st with nodes := (s, { n with outs := [], blks := [] }) :: st.nodes.filter (·.1 != s) }

def sortNat (l : List Nat) : List Nat := (l.toArray.qsort (· < ·)).toList

def showObs (n : Node) (p : Params) : String :=
  let u := sortNat (n.reportedUtxo p)
  s!"head=b{n.head} hhead=b{n.hhead} utxo=[{",".intercalate (u.map fun o => s!"o{o}")}]"

/-- the incremental txhashset follows the model's head: rewind to the fork point, apply the other
branch (`switchTo` = `rewind_and_apply_fork`) -/
def implFollow (n : Node) (cur : Nat × Option TxHS) : Nat × Option TxHS :=
  if cur.1 == n.head then cur else
  match cur.2, n.path cur.1, n.path n.head with
  | some S, some po, some pn =>
    match switchTo S po pn with
    | .ok S' => (n.head, some S')
    | .error _ => (n.head, none)
  | _, _, _ => (n.head, none)

def setImpl (st : St) (s : String) (v : Nat × Option TxHS) : St :=
  { st with impls := (s, v) :: st.impls.filter (·.1 != s) }

/-- move the subject's txhashset model to the head of its node model -/
def followImpl (st : St) (s : String) (n : Node) : St :=
  match st.impls.find? (·.1 == s) with
  | some (_, cur) => setImpl st s (implFollow { n with outs := st.outs, blks := st.blks } cur)
  | none => st

/-- the unspent set the txhashset model reports, in the format of `showObs` -/
def showImplUtxo (S : TxHS) : String :=
  s!"utxo=[{",".intercalate ((sortNat S.reported).map fun o => s!"o{o}")}]"

/-- on an `obs` line: the implementation's unspent set against the txhashset model's -/
def cmpImplObs (st : St) (s : String) (impl : String) : Verdict :=
  match st.impls.find? (·.1 == s) with
  | some (_, _, some S) =>
    let m := showImplUtxo S
    if (impl.splitOn " ").contains m then .ok else .diff s!"txhashset-model {m}"
  | some (_, _, none) => .diff "txhashset-model failed to follow the head"
  | none => .ok

def showOuts (l : List Nat) : String := "[" ++ ",".intercalate (l.map fun o => s!"o{o}") ++ "]"

def implOf (st : St) (s : String) : Option TxHS :=
  match st.impls.find? (·.1 == s) with
  | some (_, _, some S) => some S
  | _ => none

/-- `-` or a number -/
def parseOptNat (s : String) : Option (Option Nat) :=
  if s == "-" then some none else s.toNat?.map some

/-- `chain enum …`: `Chain::unspent_outputs_by_pmmr_index` on the txhashset model -/
def showEnum (S : TxHS) (start count : Nat) (max : Option Nat) : String :=
  let r := S.unspentOutputsByPmmrIndex start count max
  s!"next={r.1} last={r.2.1} outs={showOuts r.2.2}"

/-- the part of an enumeration answer the property fixes when the whole set is asked for: which
outputs are reported -/
def outsField (s : String) : String :=
  match (s.splitOn " ").find? (·.startsWith "outs=") with
  | some f => f
  | none => ""

/-- `[b5:next:b4,b6:fork:b3:b5:b2]` → `[b5:head,b6:fork]`: which blocks were announced, and
whether as a new head or as a fork block -/
def statusSkeleton (s : String) : List String :=
  (listItems s).map fun it =>
    match it.splitOn ":" with
    | b :: k :: _ => if k == "fork" then b ++ ":fork" else b ++ ":head"
    | _ => it

/-- accept/reject is fixed by the property (spec); the error class is an internal observable -/
def cmpDeliver (model impl : String) : Verdict :=
  if model = impl then .ok
  else if model.startsWith "err:" ∧ impl.startsWith "err:" then .diff model
  else .fail model

/-- `chain fullval …`: the state described by its counts and the indices of its bad items, as the
full validation sees it (`Model/ChainFull.lean`); only the total of the openings matters to the
sums, so the first unspent output carries it -/
def parseFull (p : Params) (rest : List String) : Option (FullState × Bool × Bool) := do
  let n ← (← kv rest "n").toNat?
  let fast ← kv rest "fast"
  let k ← (← kv rest "K").toNat?
  let u ← (← kv rest "U").toNat?
  let gr ← kv rest "gr"
  let voff ← (← kv rest "voff").toInt?
  let blind ← kv rest "blind"
  let sigbad ← (listItems (← kv rest "sigbad")).mapM String.toNat?
  let proofbad ← (listItems (← kv rest "proofbad")).mapM String.toNat?
  let ks : List KItem := (List.range k).map fun i => { sigBad := sigbad.contains i }
  let s0 : FullState := { height := n, genesisHadReward := gr == "1" }
  let total := (Int.ofNat (s0.supply p) + voff).toNat
  let utxo : List OItem := (List.range u).map fun i =>
    { v := if i == 0 then total else 0, proofBad := proofbad.contains i }
  let s : FullState := { s0 with kernelMmr := kernelLayout ks, utxo,
                                  blindFault := if blind == "1" then some "Committed:KernelSumMismatch" else none }
  pure (s, fast == "1", !sigbad.isEmpty || !proofbad.isEmpty)

def denyOf (st : St) (s : String) : List Nat :=
  match st.deny.find? (·.1 == s) with
  | some (_, l) => l
  | none => []

def ooptsOf (st : St) (s : String) : List (Nat × Nat) :=
  match st.oopts.find? (·.1 == s) with
  | some (_, l) => l
  | none => []

def handle (st : St) (args : List String) (impl : String) : St × Verdict :=
  let p : Params := {}
  match args with
  | "reset" :: _ => ({}, .ok)
  | "out" :: o :: rest =>
    match idOf o, kv rest "cb", (kv rest "v").bind String.toNat? with
    | some id, some cb, some v => ({ st with outs := st.outs ++ [{ id, cb := cb == "1", v }] }, .ok)
    | _, _, _ => (st, .unknown)
  | "blk" :: b :: rest =>
    match parseBlk b rest, parseClaims rest with
    | some blk, some inf =>
      let blk1 := ((blk.withInputFeatures st.outs inf).withNrdDupCheck).withBodyOrder
      -- `osz=` / `ksz=`: the leaf counts the header claims (Model/ChainSizes.lean)
      match (kv rest "osz").bind String.toNat?, (kv rest "ksz").bind String.toNat? with
      | some co, some ck =>
        ({ st with blks := st.blks ++ [blk1.withSizeCheck st.blks st.sizes co ck],
                   sizes := (blk.id, co, ck) :: st.sizes }, .ok)
      | _, _ => ({ st with blks := st.blks ++ [blk1] }, .ok)
    | _, _ => (st, .unknown)
  | ["new", s] =>
    let S0 := match st.blks.find? (·.id == 0) with
      | some g => (match applyBlockImpl {} g with | .ok S => some S | .error _ => none)
      | none => none
    let st0 := { st with deny := st.deny.filter (·.1 != s), oopts := st.oopts.filter (·.1 != s) }
    (setImpl (setNode st0 s {}) s (0, S0), .ok)
  | "deliver" :: s :: b :: optArg =>
    match getNode st s, (idOf b).bind (fun i => st.blks.find? (·.id == i)) with
    | some n, some blk =>
      -- `deliverBlockK` (Model/ChainKnown.lean) is `Chain::process_block` with the code's
      -- work-conditional `check_known` and the denylist; on the states block processing alone
      -- reaches it is `deliverBlockEv` (Props/C03KnownRun.lean: `deliverBlockK_eq`), which is
      -- `deliverBlock` with the adapter notifications (Props/C03Status.lean)
      let opts := ((kv optArg "opts").bind String.toNat?).getD 1
      let (n', r, evs) := deliverBlockK p (denyOf st s) n blk
      let oo := ooptsOf st s
      let st1 := { st with told := (s, showEvs evs) :: st.told.filter (·.1 != s),
                           toldO := (s, showEvsO (annotateOpts oo blk.id opts evs)) :: st.toldO.filter (·.1 != s),
                           oopts := (s, parkOpts oo blk.id opts r) :: st.oopts.filter (·.1 != s) }
      (followImpl (setNode st1 s n') s n', cmpDeliver r.toString impl)
    | _, _ => (st, .unknown)
  | ["deny", s, b] =>
    -- `Chain::invalidate_header`
    match idOf b with
    | some id => ({ st with deny := (s, denyOf st s ++ [id]) :: st.deny.filter (·.1 != s) }, cmpSpec "ok" impl)
    | none => (st, .unknown)
  | ["statuso", s] =>
    -- as `status`, with the options the adapter saw with every notification
    match st.toldO.find? (·.1 == s) with
    | some (_, m) =>
      if statusSkeleton m = statusSkeleton impl then (st, cmpModel m impl) else (st, .fail m)
    | none => (st, .unknown)
  | ["orph", s] =>
    -- `Chain::is_orphan` over every block of the tree: the blocks waiting in the orphan pool
    match getNode st s with
    | some n => (st, cmpModel ("[" ++ ",".intercalate ((sortNat n.orphans).map fun o => s!"b{o}") ++ "]") impl)
    | none => (st, .unknown)
  | ["opool", s, "new"] => ({ st with pools := (s, {}) :: st.pools.filter (·.1 != s) }, .ok)
  | ["opool", s, "add", b, h] =>
    match st.pools.find? (·.1 == s), idOf b, (kv [h] "h").bind String.toNat? with
    | some (_, P), some id, some h =>
      let P' := P.add GV.Gen.MAX_ORPHAN_SIZE id h
      ({ st with pools := (s, P') :: st.pools.filter (·.1 != s) },
        cmpModel s!"len={P'.orphans.length} evicted={P'.evicted}" impl)
    | _, _, _ => (st, .unknown)
  | ["opool", s, "has", l] =>
    match st.pools.find? (·.1 == s), (listItems l).mapM idOf with
    | some (_, P), some ids =>
      (st, cmpModel ("[" ++ ",".intercalate (ids.map fun i => if P.contains i then "1" else "0") ++ "]") impl)
    | _, _ => (st, .unknown)
  | ["protect", s, hor] =>
    -- the bitmap compaction receives as "spent above the horizon": walk over the head's own path
    match implOf st s, getNode st s, (kv [hor] "hor").bind idOf with
    | some S, some n, some hb =>
      let l := (sortNat (inputPosToRewind n S (n.heightOf hb))).eraseDups
      (st, cmpModel ("[" ++ ",".intercalate (l.map toString) ++ "]") impl)
    | _, _, _ => (st, .diff "txhashset-model failed to follow the head")
  | ["resethead", s, b, hd] =>
    -- `Chain::reset_chain_head(b, rewind_headers)`
    match getNode st s, idOf b, kv [hd] "hdrs" with
    | some n, some t, some h =>
      match resetChainHeadK p (denyOf st s) n t (h == "1") with
      | .ok n' => (followImpl (setNode st s n') s n', cmpDeliver "ok" impl)
      | .error e => (st, cmpDeliver s!"err:{e}" impl)
    | _, _, _ => (st, .unknown)
  | ["tail", s] =>
    -- after a compaction: `remove_historical_blocks` deleted every block below the body tail (on
    -- every fork) with its spent-index record; the tail itself is taken from the implementation
    match st.impls.find? (·.1 == s), getNode st s, idOf impl with
    | some (_, cur, some S), some n, some t =>
      let th := n.heightOf t
      (setImpl st s (cur, some { S with spentIdx := S.spentIdx.filter (fun e => !(decide (n.heightOf e.1 < th))) }), .ok)
    | _, _, _ => (st, .unknown)
  | ["spentdrop", s, b] =>
    -- the harness deleted the spent-index record of a block behind the node's back
    match st.impls.find? (·.1 == s), idOf b with
    | some (_, cur, some S), some id =>
      (setImpl st s (cur, some { S with spentIdx := S.spentIdx.filter (fun e => !(e.1 == id)) }), cmpSpec "ok" impl)
    | _, _ => (st, .unknown)
  | ["status", s] =>
    -- which blocks are announced as accepted, and whether as head or as fork, is fixed by the
    -- property (C03 observation point); Next-vs-Reorg and the fork point follow the code
    match st.told.find? (·.1 == s) with
    | some (_, m) =>
      if statusSkeleton m = statusSkeleton impl then (st, cmpModel m impl) else (st, .fail m)
    | none => (st, .unknown)
  | ["upos", s] =>
    match implOf st s with
    | some S =>
      let l := (sortNat S.reported).filterMap fun c => (S.getUnspentPos c).map fun (pos, h) => s!"o{c}:{pos}:{h}"
      (st, cmpModel ("[" ++ ",".intercalate l ++ "]") impl)
    | none => (st, .diff "txhashset-model failed to follow the head")
  | ["enum", s, a, c, m] =>
    match implOf st s, (kv [a] "start").bind String.toNat?, (kv [c] "count").bind String.toNat?, (kv [m] "max").bind parseOptNat with
    | some S, some start, some count, some max =>
      let model := showEnum S start count max
      -- the whole set in one call: WHICH outputs are reported is the property itself
      if start ≤ 1 ∧ max.isNone ∧ count ≥ S.leaves.length then
        if outsField model = outsField impl then (st, cmpModel model impl) else (st, .fail model)
      else (st, cmpModel model impl)
    | none, _, _, _ => (st, .diff "txhashset-model failed to follow the head")
    | _, _, _, _ => (st, .unknown)
  | ["outat", s] =>
    match implOf st s with
    | some S =>
      let items := listItems impl
      let m := items.map fun it =>
        match it.splitOn ":" with
        | [p, _] => match p.toNat? with
          | some pos0 => (match S.getUnspentOutputAt pos0 with
            | .ok c => s!"{pos0}:o{c}"
            | .error _ => s!"{pos0}:-")
          | none => "?"
        | _ => "?"
      (st, cmpModel ("[" ++ ",".intercalate m ++ "]") impl)
    | none => (st, .diff "txhashset-model failed to follow the head")
  | ["hdrfor", s] =>
    match implOf st s, getNode st s with
    | some S, some n =>
      let l := (sortNat S.reported).map fun c =>
        match headerForOutput n S c with
        | .ok b => s!"o{c}:b{b}"
        | .error _ => s!"o{c}:err"
      (st, cmpModel ("[" ++ ",".intercalate l ++ "]") impl)
    | _, _ => (st, .diff "txhashset-model failed to follow the head")
  | ["hrange", s, a, b] =>
    match getNode st s, a.toNat?, parseOptNat b with
    | some n, some a, some b =>
      let m := match heightRangeToPmmr n a b (fun id => (st.sizes.find? (·.1 == id)).map (·.2.1)) with
        | .ok (x, y) => s!"{x},{y}"
        | .error e => s!"err:{e}"
      (st, cmpModel m impl)
    | _, _, _ => (st, .unknown)
  | ["hdrs", s, l] =>
    -- `Chain::sync_block_headers`: a chunk of headers, all or nothing (Model/ChainKnown.lean)
    match getNode st s, (listItems l).mapM (fun x => (idOf x).bind (fun i => st.blks.find? (·.id == i))) with
    | some n, some bs =>
      let (n', r) := deliverHeadersK p (denyOf st s) n bs
      (setNode st s n', cmpDeliver r impl)
    | _, _ => (st, .unknown)
  | ["hdr", s, b] =>
    match getNode st s, (idOf b).bind (fun i => st.blks.find? (·.id == i)) with
    | some n, some blk =>
      let (n', r) := deliverHeaderK p (denyOf st s) n blk
      (setNode st s n', cmpDeliver r impl)
    | _, _ => (st, .unknown)
  | "txmat" :: s :: rest | "txlock" :: s :: rest | "txval" :: s :: rest | "txins" :: s :: rest =>
    match getNode st s, kv rest "ins", kv rest "outs", kv rest "kers" with
    | some n, some i, some o, some k =>
      match (listItems i).mapM idOf, (listItems o).mapM idOf, (listItems k).mapM parseKer, n.stateAt p n.head with
      | some ins, some outs, some kers, .ok hs =>
        let t : TxA := { ins, outs, kers }
        let claims : List (Nat × Option Bool) := match kv rest "inf" with
          | none => ins.map (·, none)
          | some l => match (listItems l).mapM parseOutRef with
            | some c => c.map fun (i, f) => (i, some f)
            | none => ins.map (·, none)
        let r := match args.head? with
          | some "txmat" => txMaturity p hs t
          | some "txlock" => txLock hs t
          | some "txins" => validateInputsFC hs claims
          | _ => txValidateFC hs t claims
        -- admission decisions are fixed by the property: accept / refuse is spec, the class internal
        let m := match r with | some e => s!"err:{e}" | none => "ok"
        (st, cmpDeliver m impl)
      | _, _, _, _ => (st, .unknown)
    | _, _, _, _ => (st, .unknown)
  | ["obs", s] =>
    match getNode st s with
    | some n =>
      match cmpSpec (showObs n p) impl with
      | .ok => (st, cmpImplObs st s impl)
      | v => (st, v)
    | none => (st, .unknown)
  | ["reopen", s] =>
    -- a restart forgets the in-memory orphan pool and the denylist; everything else is durable
    match getNode st s with
    | some n =>
      let st1 := { st with deny := st.deny.filter (·.1 != s), oopts := st.oopts.filter (·.1 != s) }
      (setNode st1 s { n with orphans := [] }, cmpSpec "ok" impl)
    | none => (st, .unknown)
  | "fullval" :: rest =>
    match parseFull p rest with
    | some (s, fast, itemFault) =>
      let m := match validateFull p KERNEL_BATCH PROOF_BATCH s fast with
        | none => "ok"
        | some e => s!"err:{e}"
      -- refusal of a bad state by the full validation, refusal of unbalanced sums by both, and
      -- acceptance of honest states are fixed by the property; that the fast validation does not
      -- look at signatures and proofs is the code's choice (internal)
      (st, if fast && itemFault then cmpModel m impl else cmpDeliver m impl)
    | none => (st, .unknown)
  | ["untouched", _, _] =>
    -- after a losing-fork or refused block: head / unspent set / roots, every byte of the txhashset
    -- files, the database's view of the best chain, the data of best-chain outputs, full validation
    -- and the stored sums are what they were (fixed by the property)
    (st, cmpSpec "state=same,files=same,db=same,readback=same,validate=ok,sums=ok" impl)
  | ["compact", _] => (st, cmpSpec "ok" impl)
  | ["validate", _] => (st, cmpSpec "ok" impl)
  | _ => (st, .unknown)

end GV.Drv.ChainD
