import GrinVerif.Basic
import GrinVerif.Drv.BitmapD
import GrinVerif.Drv.ChainD
import GrinVerif.Drv.CodecD
import GrinVerif.Drv.Common
import GrinVerif.Drv.ConcD
import GrinVerif.Drv.ConsD
import GrinVerif.Drv.CrashD
import GrinVerif.Drv.DesegD
import GrinVerif.Drv.KeysD
import GrinVerif.Drv.KvD
import GrinVerif.Drv.NrdD
import GrinVerif.Drv.PmmrD
import GrinVerif.Drv.PoolD
import GrinVerif.Drv.PowD
import GrinVerif.Drv.SegD
import GrinVerif.Drv.SegZipD
import GrinVerif.Drv.SerD
import GrinVerif.Drv.StoreD
import GrinVerif.Drv.TxD
import GrinVerif.Gen.CodecConn
import GrinVerif.Gen.CodecDispatch
import GrinVerif.Gen.CodecPeers
import GrinVerif.Gen.CodecTimeouts
import GrinVerif.Gen.Consts
import GrinVerif.Gen.FnsBag
import GrinVerif.Gen.FnsBitmap
import GrinVerif.Gen.FnsCons
import GrinVerif.Gen.FnsCtx
import GrinVerif.Gen.FnsPack
import GrinVerif.Gen.FnsPmmr
import GrinVerif.Gen.FnsPow
import GrinVerif.Gen.FnsPrelude
import GrinVerif.Gen.FnsPrune
import GrinVerif.Gen.FnsSeg
import GrinVerif.Gen.FnsTx
import GrinVerif.Gen.FnsVerify
import GrinVerif.Gen.KvGate
import GrinVerif.Gen.Locks
import GrinVerif.Gen.LocksNode
import GrinVerif.Gen.Msg
import GrinVerif.Gen.Orphans
import GrinVerif.Gen.Params
import GrinVerif.Gen.PipeShapeChain
import GrinVerif.Gen.PipeShapeChainApi
import GrinVerif.Gen.PipeShapeCore
import GrinVerif.Gen.PipeShapePool
import GrinVerif.Gen.PipeShapeTxhs
import GrinVerif.Gen.PipeShapeTypes
import GrinVerif.Gen.SerImpls
import GrinVerif.Gen.SyncOrder
import GrinVerif.Gen.Wordlist
import GrinVerif.Lemmas.BasicWrap
import GrinVerif.Lemmas.BitmapBits
import GrinVerif.Lemmas.BitmapLoop
import GrinVerif.Lemmas.BitmapScratch
import GrinVerif.Lemmas.Bytes
import GrinVerif.Lemmas.ChainApply
import GrinVerif.Lemmas.ChainBasic
import GrinVerif.Lemmas.ChainExampleFacts
import GrinVerif.Lemmas.ChainExamples
import GrinVerif.Lemmas.ChainFull
import GrinVerif.Lemmas.ChainImplApply
import GrinVerif.Lemmas.ChainImplBasic
import GrinVerif.Lemmas.ChainImplFork
import GrinVerif.Lemmas.ChainImplRefine
import GrinVerif.Lemmas.ChainInv
import GrinVerif.Lemmas.ChainKnown
import GrinVerif.Lemmas.ChainOrder
import GrinVerif.Lemmas.ChainOrphan
import GrinVerif.Lemmas.ChainPath
import GrinVerif.Lemmas.ChainPoolExamples
import GrinVerif.Lemmas.ChainPoolPos
import GrinVerif.Lemmas.ChainPoolSpec
import GrinVerif.Lemmas.ChainRefuse
import GrinVerif.Lemmas.ChainRun
import GrinVerif.Lemmas.ChainSim
import GrinVerif.Lemmas.ChainStep
import GrinVerif.Lemmas.ChainValue
import GrinVerif.Lemmas.CodecConnLoop
import GrinVerif.Lemmas.CodecFaith
import GrinVerif.Lemmas.CodecReads
import GrinVerif.Lemmas.CodecRun
import GrinVerif.Lemmas.CodecSafe
import GrinVerif.Lemmas.CodecTimed
import GrinVerif.Lemmas.CodecWriter
import GrinVerif.Lemmas.ConcCommit
import GrinVerif.Lemmas.ConcDeadlock
import GrinVerif.Lemmas.ConcGraph
import GrinVerif.Lemmas.ConsArith
import GrinVerif.Lemmas.ConsFork
import GrinVerif.Lemmas.ConsHeader
import GrinVerif.Lemmas.ConsNode
import GrinVerif.Lemmas.ConsParams
import GrinVerif.Lemmas.CrashAofL
import GrinVerif.Lemmas.CrashBasic
import GrinVerif.Lemmas.CrashCompactL
import GrinVerif.Lemmas.CrashExt
import GrinVerif.Lemmas.CrashMultiL
import GrinVerif.Lemmas.CrashPath
import GrinVerif.Lemmas.CrashRecovL
import GrinVerif.Lemmas.CrashRecover
import GrinVerif.Lemmas.CrashReorg
import GrinVerif.Lemmas.CrashSteps
import GrinVerif.Lemmas.CrashUnspent
import GrinVerif.Lemmas.CrashWindow
import GrinVerif.Lemmas.CrashZipL
import GrinVerif.Lemmas.DecBound
import GrinVerif.Lemmas.DecDbBound
import GrinVerif.Lemmas.DecErases
import GrinVerif.Lemmas.DecMerkle
import GrinVerif.Lemmas.DecSer
import GrinVerif.Lemmas.DecSerAgree
import GrinVerif.Lemmas.DecSerBound
import GrinVerif.Lemmas.DecSerErase
import GrinVerif.Lemmas.DecSerEraseMsg
import GrinVerif.Lemmas.DecSerEraseSeg
import GrinVerif.Lemmas.DecVerify
import GrinVerif.Lemmas.DesegApply
import GrinVerif.Lemmas.DesegArith
import GrinVerif.Lemmas.DesegRequest
import GrinVerif.Lemmas.DesegServe
import GrinVerif.Lemmas.DesegState
import GrinVerif.Lemmas.KeysArith
import GrinVerif.Lemmas.KeysBuild
import GrinVerif.Lemmas.KeysMnemonic
import GrinVerif.Lemmas.KeysSeed
import GrinVerif.Lemmas.KeysView
import GrinVerif.Lemmas.Kv
import GrinVerif.Lemmas.KvChainStore
import GrinVerif.Lemmas.KvGate
import GrinVerif.Lemmas.KvMigrate
import GrinVerif.Lemmas.KvProg
import GrinVerif.Lemmas.KvResize
import GrinVerif.Lemmas.ModSub
import GrinVerif.Lemmas.MsgBound
import GrinVerif.Lemmas.MsgHeader
import GrinVerif.Lemmas.NrdChain
import GrinVerif.Lemmas.NrdRepr
import GrinVerif.Lemmas.NrdSim
import GrinVerif.Lemmas.NrdSpec
import GrinVerif.Lemmas.NrdWalk
import GrinVerif.Lemmas.PmmrArith
import GrinVerif.Lemmas.PmmrBranch
import GrinVerif.Lemmas.PmmrCoord
import GrinVerif.Lemmas.PmmrHandle
import GrinVerif.Lemmas.PmmrPeaks
import GrinVerif.Lemmas.PmmrShape
import GrinVerif.Lemmas.PmmrSound
import GrinVerif.Lemmas.PmmrSpec
import GrinVerif.Lemmas.PmmrTree
import GrinVerif.Lemmas.PmmrValidate
import GrinVerif.Lemmas.PoolAdmit
import GrinVerif.Lemmas.PoolAvail
import GrinVerif.Lemmas.PoolBucket
import GrinVerif.Lemmas.PoolInv
import GrinVerif.Lemmas.PoolMine
import GrinVerif.Lemmas.PoolOps
import GrinVerif.Lemmas.PoolTime
import GrinVerif.Lemmas.PowCirc
import GrinVerif.Lemmas.PowOracle
import GrinVerif.Lemmas.PowOracleExec
import GrinVerif.Lemmas.PowOracleRoom
import GrinVerif.Lemmas.PowPipe
import GrinVerif.Lemmas.PowRood
import GrinVerif.Lemmas.PowRoodComplete
import GrinVerif.Lemmas.PowRoodCycle
import GrinVerif.Lemmas.PowRoom
import GrinVerif.Lemmas.PowRoomComplete
import GrinVerif.Lemmas.PowScan
import GrinVerif.Lemmas.PowTotal
import GrinVerif.Lemmas.PowUBuild
import GrinVerif.Lemmas.PowUComplete
import GrinVerif.Lemmas.PowUWalk
import GrinVerif.Lemmas.PowWalk
import GrinVerif.Lemmas.PruneListCount
import GrinVerif.Lemmas.PruneListInv
import GrinVerif.Lemmas.PruneListSet
import GrinVerif.Lemmas.SegComplete
import GrinVerif.Lemmas.SegDsg
import GrinVerif.Lemmas.SegExtra
import GrinVerif.Lemmas.SegForest
import GrinVerif.Lemmas.SegFup
import GrinVerif.Lemmas.SegHashUp
import GrinVerif.Lemmas.SegHonest
import GrinVerif.Lemmas.SegInj
import GrinVerif.Lemmas.SegLive
import GrinVerif.Lemmas.SegProof
import GrinVerif.Lemmas.SegPruned
import GrinVerif.Lemmas.SegTree
import GrinVerif.Lemmas.SegVerdicts
import GrinVerif.Lemmas.SegViews
import GrinVerif.Lemmas.SegZip
import GrinVerif.Lemmas.SerBodyRt
import GrinVerif.Lemmas.SerDbRt
import GrinVerif.Lemmas.SerHeader
import GrinVerif.Lemmas.SerMsgRt
import GrinVerif.Lemmas.SerPrim
import GrinVerif.Lemmas.SerProofRt
import GrinVerif.Lemmas.SerSegRt
import GrinVerif.Lemmas.SerStoreRt
import GrinVerif.Lemmas.SerTxRt
import GrinVerif.Lemmas.StoreBackend
import GrinVerif.Lemmas.StoreBitmap
import GrinVerif.Lemmas.StoreBlocks
import GrinVerif.Lemmas.StoreCompact
import GrinVerif.Lemmas.StoreCompactSet
import GrinVerif.Lemmas.StoreFiles
import GrinVerif.Lemmas.StoreHistory
import GrinVerif.Lemmas.StoreImportLoop
import GrinVerif.Lemmas.StoreImportSeq
import GrinVerif.Lemmas.StoreNp
import GrinVerif.Lemmas.StoreOps
import GrinVerif.Lemmas.StoreSynced
import GrinVerif.Lemmas.StoreTree
import GrinVerif.Lemmas.StoreVar
import GrinVerif.Lemmas.TxAgg
import GrinVerif.Lemmas.TxBlock
import GrinVerif.Lemmas.TxBlockVal
import GrinVerif.Lemmas.TxCount
import GrinVerif.Lemmas.TxCut
import GrinVerif.Lemmas.TxDeagg
import GrinVerif.Lemmas.TxNormal
import GrinVerif.Lemmas.TxRetr
import GrinVerif.Lemmas.TxSort
import GrinVerif.Lemmas.UtilIte
import GrinVerif.Lemmas.UtilList
import GrinVerif.Lemmas.Wire
import GrinVerif.Lemmas.WireCodec
import GrinVerif.Lemmas.WireTx
import GrinVerif.Lemmas.XlateArith
import GrinVerif.Lemmas.XlatePmmr
import GrinVerif.Lemmas.XlatePow
import GrinVerif.Lemmas.XlateShape
import GrinVerif.Lemmas.XlateVerify
import GrinVerif.Lemmas.XlateVerifyD
import GrinVerif.Lemmas.XlateVerifyZ
import GrinVerif.Model.Basic
import GrinVerif.Model.Bitmap
import GrinVerif.Model.BitmapBlocks
import GrinVerif.Model.Blake2b
import GrinVerif.Model.Chain
import GrinVerif.Model.ChainBodyOrder
import GrinVerif.Model.ChainBodyTags
import GrinVerif.Model.ChainFull
import GrinVerif.Model.ChainImpl
import GrinVerif.Model.ChainInputs
import GrinVerif.Model.ChainKnown
import GrinVerif.Model.ChainNrdDup
import GrinVerif.Model.ChainOrphanAge
import GrinVerif.Model.ChainOrphans
import GrinVerif.Model.ChainPool
import GrinVerif.Model.ChainReport
import GrinVerif.Model.ChainReset
import GrinVerif.Model.ChainSizes
import GrinVerif.Model.ChainStatus
import GrinVerif.Model.ChainStore
import GrinVerif.Model.ChainTxVal
import GrinVerif.Model.Codec
import GrinVerif.Model.CodecConn
import GrinVerif.Model.CodecGlue
import GrinVerif.Model.CodecPeers
import GrinVerif.Model.CodecSend
import GrinVerif.Model.CodecSpec
import GrinVerif.Model.Conc
import GrinVerif.Model.ConcNode
import GrinVerif.Model.Cons
import GrinVerif.Model.ConsNet
import GrinVerif.Model.Crash
import GrinVerif.Model.CrashAof
import GrinVerif.Model.CrashCompact
import GrinVerif.Model.CrashGenesis
import GrinVerif.Model.CrashKernel
import GrinVerif.Model.CrashMulti
import GrinVerif.Model.CrashRecov
import GrinVerif.Model.CrashResize
import GrinVerif.Model.CrashZip
import GrinVerif.Model.Dec
import GrinVerif.Model.DecDb
import GrinVerif.Model.DecProg
import GrinVerif.Model.DecSer
import GrinVerif.Model.DecVerify
import GrinVerif.Model.Deseg
import GrinVerif.Model.Keys
import GrinVerif.Model.KeysBuild
import GrinVerif.Model.KeysMnemonic
import GrinVerif.Model.KeysNonce
import GrinVerif.Model.KeysSha256
import GrinVerif.Model.KeysSig
import GrinVerif.Model.Kv
import GrinVerif.Model.KvF32
import GrinVerif.Model.KvGate
import GrinVerif.Model.KvMigrate
import GrinVerif.Model.KvResize
import GrinVerif.Model.KvSpace
import GrinVerif.Model.KvSpec
import GrinVerif.Model.Msg
import GrinVerif.Model.NrdIndex
import GrinVerif.Model.Pmmr
import GrinVerif.Model.PmmrHandle
import GrinVerif.Model.PmmrU64
import GrinVerif.Model.PmmrViews
import GrinVerif.Model.Pool
import GrinVerif.Model.PoolConvert
import GrinVerif.Model.PoolMiner
import GrinVerif.Model.PoolNode
import GrinVerif.Model.PoolTime
import GrinVerif.Model.Pow
import GrinVerif.Model.PowCtx
import GrinVerif.Model.PowDiff
import GrinVerif.Model.PowEntry
import GrinVerif.Model.PowMine
import GrinVerif.Model.PowPack
import GrinVerif.Model.PowSelect
import GrinVerif.Model.PowSize
import GrinVerif.Model.PowSpec
import GrinVerif.Model.PruneList
import GrinVerif.Model.Seg
import GrinVerif.Model.SegCache
import GrinVerif.Model.SegZip
import GrinVerif.Model.Ser
import GrinVerif.Model.SerBlock
import GrinVerif.Model.SerDb
import GrinVerif.Model.SerIds
import GrinVerif.Model.SerImpls
import GrinVerif.Model.SerJson
import GrinVerif.Model.SerMsg
import GrinVerif.Model.SerReaders
import GrinVerif.Model.SerSeg
import GrinVerif.Model.SerSpec
import GrinVerif.Model.SerStore
import GrinVerif.Model.SerTx
import GrinVerif.Model.SerVersion
import GrinVerif.Model.Store
import GrinVerif.Model.StoreExt
import GrinVerif.Model.StoreProtect
import GrinVerif.Model.Tx
import GrinVerif.Model.TxBlock
import GrinVerif.Model.TxCount
import GrinVerif.Model.TxOverage
import GrinVerif.Props.C01
import GrinVerif.Props.C01TxVal
import GrinVerif.Props.C02
import GrinVerif.Props.C02Inputs
import GrinVerif.Props.C02Report
import GrinVerif.Props.C02Reset
import GrinVerif.Props.C03
import GrinVerif.Props.C03Known
import GrinVerif.Props.C03KnownRun
import GrinVerif.Props.C03OrphanAge
import GrinVerif.Props.C03Orphans
import GrinVerif.Props.C03Shape
import GrinVerif.Props.C03ShapeApi
import GrinVerif.Props.C03Status
import GrinVerif.Props.C04
import GrinVerif.Props.C04Bind
import GrinVerif.Props.C04Forks
import GrinVerif.Props.C04Params
import GrinVerif.Props.C04Shape
import GrinVerif.Props.C04Time
import GrinVerif.Props.C04Window
import GrinVerif.Props.C05
import GrinVerif.Props.C05Diff
import GrinVerif.Props.C05Entry
import GrinVerif.Props.C05Mine
import GrinVerif.Props.C05Oracle
import GrinVerif.Props.C05Source
import GrinVerif.Props.C06
import GrinVerif.Props.C06BodyOrder
import GrinVerif.Props.C06Chunk
import GrinVerif.Props.C06ChunkPath
import GrinVerif.Props.C06ChunkSingles
import GrinVerif.Props.C06Discard
import GrinVerif.Props.C06Opts
import GrinVerif.Props.C07
import GrinVerif.Props.C07U64
import GrinVerif.Props.C07Views
import GrinVerif.Props.C08
import GrinVerif.Props.C08Assert
import GrinVerif.Props.C08Cutoff
import GrinVerif.Props.C08Import
import GrinVerif.Props.C08Np
import GrinVerif.Props.C08Protect
import GrinVerif.Props.C08Var
import GrinVerif.Props.C09
import GrinVerif.Props.C09Aof
import GrinVerif.Props.C09AofFlush
import GrinVerif.Props.C09AofSim
import GrinVerif.Props.C09Discard
import GrinVerif.Props.C09Genesis
import GrinVerif.Props.C09Kernel
import GrinVerif.Props.C09Multi
import GrinVerif.Props.C09Recov
import GrinVerif.Props.C09Resize
import GrinVerif.Props.C09Second
import GrinVerif.Props.C09SyncOrder
import GrinVerif.Props.C09Zip
import GrinVerif.Props.C10
import GrinVerif.Props.C10Db
import GrinVerif.Props.C10Ids
import GrinVerif.Props.C10Impls
import GrinVerif.Props.C10Json
import GrinVerif.Props.C10Msg
import GrinVerif.Props.C10Store
import GrinVerif.Props.C10Version
import GrinVerif.Props.C10Wire
import GrinVerif.Props.C11
import GrinVerif.Props.C11Db
import GrinVerif.Props.C11Prog
import GrinVerif.Props.C11Ser
import GrinVerif.Props.C11Verify
import GrinVerif.Props.C12
import GrinVerif.Props.C12Block
import GrinVerif.Props.C12Collide
import GrinVerif.Props.C12Deagg
import GrinVerif.Props.C12DeaggAny
import GrinVerif.Props.C12HydrateAny
import GrinVerif.Props.C12Overage
import GrinVerif.Props.C12Retr
import GrinVerif.Props.C12Validate
import GrinVerif.Props.C13
import GrinVerif.Props.C13Nrd
import GrinVerif.Props.C13PoolFork
import GrinVerif.Props.C14
import GrinVerif.Props.C14Convert
import GrinVerif.Props.C14Evict
import GrinVerif.Props.C14Mine
import GrinVerif.Props.C14Miner
import GrinVerif.Props.C14Node
import GrinVerif.Props.C14Nrd
import GrinVerif.Props.C14Relay
import GrinVerif.Props.C14Shape
import GrinVerif.Props.C14Time
import GrinVerif.Props.C15
import GrinVerif.Props.C15Blocks
import GrinVerif.Props.C16
import GrinVerif.Props.C16Cache
import GrinVerif.Props.C16Deseg
import GrinVerif.Props.C16Zip
import GrinVerif.Props.C17
import GrinVerif.Props.C17Lookups
import GrinVerif.Props.C17Mono
import GrinVerif.Props.C17Node
import GrinVerif.Props.C17View
import GrinVerif.Props.C18
import GrinVerif.Props.C18Deferred
import GrinVerif.Props.C18F32
import GrinVerif.Props.C18Full
import GrinVerif.Props.C18Handles
import GrinVerif.Props.C18Migrate
import GrinVerif.Props.C19
import GrinVerif.Props.C19Conn
import GrinVerif.Props.C19Dispatch
import GrinVerif.Props.C19Glue
import GrinVerif.Props.C19Limits
import GrinVerif.Props.C19Peers
import GrinVerif.Props.C19Send
import GrinVerif.Props.C20
import GrinVerif.Props.C20Build
import GrinVerif.Props.C20Mnemonic
import GrinVerif.Props.C20Nonce
import GrinVerif.Props.C20Sig
import GrinVerif.Props.XlateBag
import GrinVerif.Props.XlateCons
import GrinVerif.Props.XlateCtx
import GrinVerif.Props.XlateDiff
import GrinVerif.Props.XlateMisc
import GrinVerif.Props.XlatePack
import GrinVerif.Props.XlatePackW
import GrinVerif.Props.XlatePmmr
import GrinVerif.Props.XlatePmmr2
import GrinVerif.Props.XlatePow
import GrinVerif.Props.XlatePrune
import GrinVerif.Props.XlateSeg
import GrinVerif.Props.XlateSelect
import GrinVerif.Props.XlateShapeChain
import GrinVerif.Props.XlateShapeChainApi
import GrinVerif.Props.XlateShapeChainApiPins
import GrinVerif.Props.XlateShapeChainPins
import GrinVerif.Props.XlateShapeCore
import GrinVerif.Props.XlateShapeCorePins
import GrinVerif.Props.XlateShapeLib
import GrinVerif.Props.XlateShapeModel
import GrinVerif.Props.XlateShapeModel2
import GrinVerif.Props.XlateShapePool
import GrinVerif.Props.XlateShapePoolPins
import GrinVerif.Props.XlateShapeTxhs
import GrinVerif.Props.XlateShapeTxhsFacts
import GrinVerif.Props.XlateShapeTxhsPins
import GrinVerif.Props.XlateSipnode
import GrinVerif.Props.XlateTx
import GrinVerif.Props.XlateTxFee
import GrinVerif.Props.XlateVerify
import GrinVerif.Props.XlateVerifyD
import GrinVerif.Props.XlateVerifyT
import GrinVerif.Props.XlateVerifyZ
import GrinVerif.Spec.Mmr
-- Root of the library: every module, so `lake build GrinVerif` checks everything.
